/-
Model of FluentParser.walk over the body returned by the external `fluent.syntax` parser.
The body (entry kinds and spans) is a parameter; its contract is `C01.BodyContract` (Proofs/C01FluentC).
-/
import CLModel.Parser.Base
namespace P
open Rx Gen.Pat

inductive FKind | message | term | junk | comment | other
  deriving Repr, DecidableEq, Inhabited

structure FEntry where
  kind : FKind
  s : Nat
  e : Nat
  ks : Int := -1
  ke : Int := -1
  vs : Int := -1
  ve : Int := -1
  deriving Repr, DecidableEq, Inhabited

/-- entries yielded for one body entry (without the leading gap whitespace) -/
def fluentEntry (s : Array Nat) (onlyLoc : Bool) (b : FEntry) : List Entry :=
  match b.kind with
  | .message | .term =>
    [{ kind := .entity, full := b.s, s := b.s, e := b.e, ks := b.ks, ke := b.ke, vs := b.vs, ve := b.ve }]
  | .junk =>
    let content := (slice s b.s b.e).toArray
    -- `if not entry.content.strip(" \t\r\n")`: white-space only junk is kept whole
    if (slice s b.s b.e).all (fun c => c == 32 || c == 9 || c == 13 || c == 10) then
      [({ kind := .junk, full := b.s, s := b.s, e := b.e } : Entry)]
    else
    let lead := match matchAt content parser_fluent_FluentParser_walk_0 0 with | some st => st.pos | none => 0
    let start := b.s + lead
    let trail := match search content parser_fluent_FluentParser_walk_1 0 with | some (q, st) => st.pos - q | none => 0
    let stop := b.e - trail
    (if !onlyLoc && b.s < start then [({ kind := .whitespace, full := b.s, s := b.s, e := start, ks := b.s, ke := start, vs := b.s, ve := start } : Entry)] else [])
    ++ [({ kind := .junk, full := start, s := start, e := stop } : Entry)]
    ++ (if !onlyLoc && stop < b.e then [({ kind := .whitespace, full := stop, s := stop, e := b.e, ks := stop, ke := b.e, vs := stop, ve := b.e } : Entry)] else [])
  | .comment => if onlyLoc then [] else [{ kind := .comment, full := b.s, s := b.s, e := b.e }]
  | .other => []

def fluentWalkFrom (s : Array Nat) (onlyLoc : Bool) : List FEntry → Nat → List Entry
  | [], last =>
    if !onlyLoc && s.size > last then [{ kind := .whitespace, full := last, s := last, e := s.size, ks := last, ke := s.size, vs := last, ve := s.size }] else []
  | b :: rest, last =>
    (if !onlyLoc && b.s > last then [({ kind := .whitespace, full := last, s := last, e := b.s, ks := last, ke := b.s, vs := last, ve := b.s } : Entry)] else [])
    ++ fluentEntry s onlyLoc b ++ fluentWalkFrom s onlyLoc rest b.e

def fluentWalk (s : Array Nat) (body : List FEntry) (onlyLoc : Bool) : List Entry :=
  fluentWalkFrom s onlyLoc body 0

end P
