/-
C09 — Android: crashing format arguments and bad quoting are errors.
The property theorems, with the values and documents of their witnesses (helper lemmas live in CLModel/Proofs/C09*.lean; the independent reference
notions `lex`, `uses`, `argMap`, `Conflict`, `silence`, `Quoted`, `DoubledQuote`, `SimpleData`, …
are defined in CLModel/Proofs/C09Spec.lean without any regular expression).

`Android.check ref l10n` is the transliteration of `AndroidChecker.check(refEnt, l10nEnt)`; its
result is `some results` (`none` would mean "outside the modelled behaviour": `check_total`).
-/
import CLModel.Checks.Android
import CLModel.Proofs.C09Spec
import CLModel.Proofs.C09Check
import CLModel.Proofs.C09Java
import CLModel.Proofs.C09Text
import CLModel.Proofs.C09WalkTop
import CLModel.Proofs.C09PosCheck
import CLModel.Proofs.C09Canon
namespace C09
open Android Android.Spec

/-- `AndroidChecker.check` never leaves the modelled behaviour: `int(order[0])` never raises and the
    `format` group always took part in the match, for every pair of entities. -/
theorem check_total (ref l10n : Entity) : (check ref l10n).isSome = true := by
  obtain ⟨rs, h, _⟩ := check_spec ref l10n
  simp [h]

/-- The printf regex of `get_params`, iterated by `re.finditer`, finds exactly what the hand-written
    left-to-right lexer `Spec.lex` finds: `%`, an optional `<1-9>$`, then `f`, `.<digits>f`, `d`, `s` or `S`;
    explicit position = the digit, format = the conversion text, for ALL strings. -/
theorem lex_model (v : List Nat) : lexParams v = some (lex v) :=
  lexParams_eq v

/-- `get_params([string])` = the independent numbering model (Java `Formatter` rules) on the lexed arguments:
    `n$` addresses argument n, an ordinary specifier takes the next sequential argument (counted
    independently of explicit ones); the dict maps each argument to the conversion of its FIRST use,
    `count` is the number of specifiers, `errors` lists every later use with a different conversion. -/
theorem params_model (v : List Nat) :
    ∃ st, getParams [.str v] = some st ∧
      (∀ p, dget st.params p = argMap v p) ∧
      st.count = (lex v).length ∧
      st.errors = conflictsOf (uses 1 (lex v)) ∧
      (st.params.map (·.1)).Nodup := by
  obtain ⟨st, h, inv, nd⟩ := getParams_str v
  exact ⟨st, h, inv.params, inv.count, inv.errors, nd⟩

/-- `check_apostrophes` on the list level: one error per non-overlapping `""` of the value with escapes
    `\x` blanked out (left to right), then — unless the silenced string starts and ends with `"` — one
    error per apostrophe that survives silencing of `\x` and `""`, at its own offset. -/
theorem apostrophes_model (v : List Nat) [Decidable (Quoted (silence v))] :
    checkApostrophes v =
      (dqPositions 0 (blankEsc v)).map (fun i => err i .doubleQuotes) ++
      (if Quoted (silence v) then [] else (indicesOf 39 0 (silence v)).map (fun i => err i .apostrophe)) :=
  checkApostrophes_eq v

/-- The two formulations of "a doubled straight quote" agree: scanning with an "escaped" flag, and
    looking for `""` after blanking out every escape `\x` (what the code does). -/
theorem doubled_quote_iff (v : List Nat) : unescapedDq false v = true ↔ DoubledQuote (blankEsc v) := by
  unfold blankEsc
  fun_induction blankPairs escCond v
  · simp [unescapedDq, DoubledQuote]
  · simp [unescapedDq, DoubledQuote]
  · rename_i a b rest hc ih
    obtain rfl : a = 92 := by simp [escCond] at hc; exact hc.1
    rw [dq_cons, dq_cons, ← ih]
    simp [unescapedDq]
  · rename_i a b rest hc ih
    rw [dq_cons, blankEsc_head, ← ih]
    by_cases ha : a = 92
    · subst ha
      obtain rfl : b = 10 := by simpa [escCond] using hc
      simp [unescapedDq]
    · have ha' : (a == 92) = false := by simp [ha]
      simp [unescapedDq, ha']

/-- Characterisation of "an error is reported" for two `<string>` entities: exactly when one of the strings
    is marked translatable="false", the localized text content starts with `@string/`, the localized node is
    not (empty | one text node | one CDATA among white-space text), the value with escapes blanked out has
    two adjacent straight quotes, an apostrophe survives escape silencing in a value that does not start and end with a quote,
    an argument is used with two conversions inside the localized value, or the localized value uses an
    argument the reference does not have or has with a different (first) conversion. -/
theorem android_error_iff (ref l10n : Entity)
    (hr : ref.node.name = Gen.Tables.android_string_tag) (hl : l10n.node.name = Gen.Tables.android_string_tag) :
    ∃ rs, check ref l10n = some rs ∧
      (hasError rs = true ↔
        TranslatableFalse ref.node ∨ TranslatableFalse l10n.node ∨ AtString l10n.node ∨
        ¬ SimpleData l10n.node ∨
        DoubledQuote (blankEsc l10n.val) ∨ (¬ Quoted (silence l10n.val) ∧ 39 ∈ silence l10n.val) ∨
        Conflict l10n.val ∨
        ∃ p f, argMap l10n.val p = some f ∧ argMap (textContent ref.node) p ≠ some f) := by
  obtain ⟨rs, h, herr, _⟩ := check_spec ref l10n
  refine ⟨rs, h, ?_⟩
  rw [herr]
  constructor
  · rintro (h | ⟨_, h⟩)
    · exact absurd (hr.trans hl.symm) h
    · exact h
  · intro h; exact Or.inr ⟨hr, h⟩

/-- The same for arbitrary node names: different names are an error ("Incompatible resource types"),
    equal names other than `string` only a warning. -/
theorem android_error_iff_any_tag (ref l10n : Entity) :
    ∃ rs, check ref l10n = some rs ∧
      (hasError rs = true ↔
        ref.node.name ≠ l10n.node.name ∨
        (ref.node.name = Gen.Tables.android_string_tag ∧
          (TranslatableFalse ref.node ∨ TranslatableFalse l10n.node ∨ AtString l10n.node ∨
           ¬ SimpleData l10n.node ∨
           DoubledQuote (blankEsc l10n.val) ∨ (¬ Quoted (silence l10n.val) ∧ 39 ∈ silence l10n.val) ∨
           Conflict l10n.val ∨
           ∃ p f, argMap l10n.val p = some f ∧ argMap (textContent ref.node) p ≠ some f))) := by
  obtain ⟨rs, h, herr, _⟩ := check_spec ref l10n
  exact ⟨rs, h, herr⟩

/-- A plain, properly escaped string using a subset of the reference's arguments with the same
    conversions is never an error: every result of the checker is a warning.
    "Properly escaped": no doubled straight quote once escapes are respected (`hdq`), and every apostrophe
    is escaped or the value is enclosed in straight quotes (`hapos`). -/
theorem android_subset_ok (ref l10n : Entity)
    (hr : ref.node.name = Gen.Tables.android_string_tag) (hl : l10n.node.name = Gen.Tables.android_string_tag)
    (htr : ¬ TranslatableFalse ref.node) (htl : ¬ TranslatableFalse l10n.node)
    (hat : ¬ AtString l10n.node) (hplain : SimpleData l10n.node)
    (hdq : unescapedDq false l10n.val = false)
    (hapos : 39 ∉ silence l10n.val ∨ Quoted (silence l10n.val))
    (hconf : ¬ Conflict l10n.val)
    (hsub : ∀ p f, argMap l10n.val p = some f → argMap (textContent ref.node) p = some f) :
    ∃ rs, check ref l10n = some rs ∧ hasError rs = false ∧ ∀ r ∈ rs, r.sev = .warning := by
  obtain ⟨rs, h, herr⟩ := android_error_iff ref l10n hr hl
  have hne : hasError rs = false := by
    cases hh : hasError rs with
    | false => rfl
    | true =>
      exfalso
      rcases herr.mp hh with h | h | h | h | h | ⟨h1, h2⟩ | h | ⟨p, f, h1, h2⟩
      · exact htr h
      · exact htl h
      · exact hat h
      · exact h hplain
      · rw [(doubled_quote_iff _).mpr h] at hdq; cases hdq
      · rcases hapos with h3 | h3
        · exact h3 h2
        · exact h1 h3
      · exact hconf h
      · exact h2 (hsub p f h1)
  exact ⟨rs, h, hne, all_warn_of_not_hasError hne⟩

/-- Omitted arguments are only warned about: under the hypotheses of `android_subset_ok`, an argument
    of the reference that the localized value does not use yields the warning
    "Formatter %p$f not found in translation", and no result is an error. -/
theorem android_omitted_warn (ref l10n : Entity)
    (hr : ref.node.name = Gen.Tables.android_string_tag) (hl : l10n.node.name = Gen.Tables.android_string_tag)
    (htr : ¬ TranslatableFalse ref.node) (htl : ¬ TranslatableFalse l10n.node)
    (hat : ¬ AtString l10n.node) (hplain : SimpleData l10n.node)
    (hdq : unescapedDq false l10n.val = false)
    (hapos : 39 ∉ silence l10n.val ∨ Quoted (silence l10n.val))
    (hconf : ¬ Conflict l10n.val)
    (hsub : ∀ p f, argMap l10n.val p = some f → argMap (textContent ref.node) p = some f)
    (p : Nat) (f : List Nat)
    (href : argMap (textContent ref.node) p = some f) (hom : argMap l10n.val p = none) :
    ∃ rs, check ref l10n = some rs ∧ warn 0 (.notInL10n p f) ∈ rs ∧ ∀ r ∈ rs, r.sev = .warning := by
  obtain ⟨rs, h, _, hall⟩ := android_subset_ok ref l10n hr hl htr htl hat hplain hdq hapos hconf hsub
  obtain ⟨rs', h', _, hwarn⟩ := check_spec ref l10n
  rw [h] at h'; cases h'
  exact ⟨rs, h, hwarn (hr.trans hl.symm) hr htr htl hat hplain p f href hom, hall⟩

/-- The warning for an omitted argument does not depend on the quoting/argument hypotheses: it is
    produced whenever `check_string` gets as far as comparing arguments. -/
theorem android_omitted_warn_general (ref l10n : Entity)
    (hr : ref.node.name = Gen.Tables.android_string_tag) (hl : l10n.node.name = Gen.Tables.android_string_tag)
    (htr : ¬ TranslatableFalse ref.node) (htl : ¬ TranslatableFalse l10n.node)
    (hat : ¬ AtString l10n.node) (hplain : SimpleData l10n.node)
    (p : Nat) (f : List Nat)
    (href : argMap (textContent ref.node) p = some f) (hom : argMap l10n.val p = none) :
    ∃ rs, check ref l10n = some rs ∧ warn 0 (.notInL10n p f) ∈ rs := by
  obtain ⟨rs, h, _, hwarn⟩ := check_spec ref l10n
  exact ⟨rs, h, hwarn (hr.trans hl.symm) hr htr htl hat hplain p f href hom⟩

/-- `<string name="foo">v</string>` with one text child, as the parser makes it -/
def textEnt (v : List Nat) : Entity :=
  mkEntity { name := Gen.Tables.android_string_tag, translatable := none, children := [.text v],
             xml := [60, 115, 62] ++ v } []

/-- `%1$s and %2$d` -/
def refV : List Nat := [37, 49, 36, 115, 32, 97, 110, 100, 32, 37, 50, 36, 100]
/-- `it\'s %2$d` -/
def okV : List Nat := [105, 116, 92, 39, 115, 32, 37, 50, 36, 100]
/-- `"say \"hi\""` -/
def f14V : List Nat := [34, 115, 97, 121, 32, 92, 34, 104, 105, 92, 34, 34]
/-- `it's %3$d %3$s` -/
def badV : List Nat := [105, 116, 39, 115, 32, 37, 51, 36, 100, 32, 37, 51, 36, 115]

/-- the model itself, evaluated without any theorem -/
example : check (textEnt refV) (textEnt okV) = some [warn 0 (.notInL10n 1 [115])] := by decide +kernel

example : check (textEnt refV) (textEnt badV) =
    some [err 2 .apostrophe, err 10 (.conflict 3 [115] [100]), err 0 (.notInRef 3 [100]),
          warn 0 (.notInL10n 1 [115]), warn 0 (.notInL10n 2 [100])] := by decide +kernel

/-- the reference lexer and numbering on a mixed string: `%s %2$d %.2f %s` -/
example : uses 1 (lex [37, 115, 32, 37, 50, 36, 100, 32, 37, 46, 50, 102, 32, 37, 115]) =
    [(1, ⟨0, none, [115]⟩), (2, ⟨3, some 2, [100]⟩), (2, ⟨8, none, [46, 50, 102]⟩), (3, ⟨13, none, [115]⟩)] := by
  decide +kernel

theorem okV_hyps :
    unescapedDq false okV = false ∧ 39 ∉ silence okV ∧ ¬ Conflict okV ∧
    (∀ p f, argMap okV p = some f → argMap refV p = some f) ∧
    argMap refV 1 = some [115] ∧ argMap okV 1 = none := by
  have hu : uses 1 (lex okV) = [(2, ⟨6, some 2, [100]⟩)] := by decide +kernel
  refine ⟨?_, ?_, ?_, ?_, by decide, by decide⟩
  · decide
  · simp [silence, blankPairs, silCond, okV]
  · rw [conflict_iff_conflictsOf, hu]; decide
  · intro p f h
    unfold argMap at h
    rw [hu] at h
    simp only [firstFmt, List.find?_cons, List.find?_nil] at h
    by_cases hp : p = 2
    · subst hp; simp at h; subst h; decide
    · have : ((2 : Nat) == p) = false := by simp; omega
      simp [this] at h

/-- the hypotheses of `android_subset_ok` / `android_omitted_warn` are satisfiable by a
    non-trivial pair (escaped apostrophe, explicit argument, one argument omitted) -/
example : ∃ rs, check (textEnt refV) (textEnt okV) = some rs ∧
    warn 0 (.notInL10n 1 [115]) ∈ rs ∧ ∀ r ∈ rs, r.sev = .warning :=
  android_omitted_warn (textEnt refV) (textEnt okV) rfl rfl
    (by intro h; cases h) (by intro h; cases h) (by unfold AtString; decide) (Or.inr (Or.inl ⟨okV, rfl⟩))
    okV_hyps.1 (Or.inl okV_hyps.2.1) okV_hyps.2.2.1 okV_hyps.2.2.2.1 1 [115]
    okV_hyps.2.2.2.2.1 okV_hyps.2.2.2.2.2

/-- `android_error_iff`, right to left, on a value with a bare apostrophe -/
example : ∃ rs, check (textEnt refV) (textEnt badV) = some rs ∧ hasError rs = true := by
  obtain ⟨rs, h, herr⟩ := android_error_iff (textEnt refV) (textEnt badV) rfl rfl
  refine ⟨rs, h, herr.mpr ?_⟩
  right; right; right; right; right; left
  constructor
  · intro hq; have := hq.1; simp [silence, blankPairs, silCond, badV, textEnt, mkEntity, textContent, firstCdata] at this
  · simp [silence, blankPairs, silCond, badV, textEnt, mkEntity, textContent, firstCdata]

/-- A positive example of `android_subset_ok`, the shape that /repo 308b966 ("an escaped quote followed by a quote is
    not a double quote") is about: `"say \"hi\""` is enclosed in quotes and both inner quotes are escaped; the raw
    value has two adjacent `"` at its end (`DoubledQuote f14V`) but none once escapes are respected, and the checker
    only warns about the omitted arguments. -/
theorem escaped_quote_then_quote_ok :
    check (textEnt refV) (textEnt f14V) =
      some [warn 0 (.notInL10n 1 [115]), warn 0 (.notInL10n 2 [100])] ∧
    unescapedDq false f14V = false ∧ DoubledQuote f14V ∧ ¬ DoubledQuote (blankEsc f14V) ∧
    Quoted (silence f14V) ∧ 39 ∉ silence f14V ∧ ¬ Conflict f14V ∧ (∀ p, argMap f14V p = none) := by
  have hl : lex f14V = [] := by decide +kernel
  refine ⟨by decide +kernel, by decide +kernel, ⟨10, by decide, by decide⟩, ?_, ?_, ?_, ?_, ?_⟩
  · intro h; have := (doubled_quote_iff f14V).mpr h; revert this; decide
  · simp [Quoted, silence, blankPairs, silCond, f14V]
  · simp [silence, blankPairs, silCond, f14V]
  · rw [conflict_iff_conflictsOf, hl]; decide
  · intro p; simp [argMap, hl, uses, firstFmt]

example : ∃ rs, check (textEnt refV) (textEnt f14V) = some rs ∧ hasError rs = false ∧ ∀ r ∈ rs, r.sev = .warning :=
  android_subset_ok (textEnt refV) (textEnt f14V) rfl rfl
    (by intro h; cases h) (by intro h; cases h) (by unfold AtString; decide) (Or.inr (Or.inl ⟨f14V, rfl⟩))
    escaped_quote_then_quote_ok.2.1 (Or.inr escaped_quote_then_quote_ok.2.2.2.2.1)
    escaped_quote_then_quote_ok.2.2.2.2.2.2.1
    (by intro p f h; rw [show (textEnt f14V).val = f14V from rfl, escaped_quote_then_quote_ok.2.2.2.2.2.2.2 p] at h; cases h)

/-- a genuinely doubled quote (escaped backslash, then `""`) is still an error: `\\""` -/
example : check (textEnt refV) (textEnt [92, 92, 34, 34]) =
    some [err 2 .doubleQuotes, warn 0 (.notInL10n 1 [115]), warn 0 (.notInL10n 2 [100])] := by decide +kernel

/-- different node names are an error whatever the content (why the theorems above assume `string`) -/
example : check { textEnt refV with node := { (textEnt refV).node with name := [112] } } (textEnt refV)
    = some [err 0 .incompatible] := by decide +kernel

/-- equal names other than `string`: only "Unsupported resource type", a warning -/
example : check { textEnt badV with node := { (textEnt badV).node with name := [112] } }
    { textEnt badV with node := { (textEnt badV).node with name := [112] } }
    = some [warn 0 .unsupported] := by decide +kernel

open C09P in
/-- `get_params` is sound and complete for the Java `Formatter` numbering, stated as a RELATION (`Numbered`:
    `k$` addresses argument k, an ordinary specifier takes the next sequential index, the two counters are
    independent): for EVERY numbering `us` of the lexed specifiers that the relation permits (there is exactly one,
    `numbered_exists_unique`), the dict maps p to f iff the first specifier addressing p has conversion f, `count` is the
    number of specifiers, and the error list consists exactly of the later uses whose conversion differs from the first. -/
theorem get_params_java (v : List Nat) :
    ∃ st, getParams [.str v] = some st ∧
      ∀ us, Numbered 1 (lex v) us →
        (∀ p f, dget st.params p = some f ↔ FirstUse us p f) ∧
        st.count = us.length ∧
        (∀ e, e ∈ st.errors ↔
          ∃ u f, u ∈ us ∧ FirstUse us u.1 f ∧ f ≠ u.2.fmt ∧ e = (Msg.conflict u.1 u.2.fmt f, u.2.pos)) := by
  obtain ⟨st, h, hp, hc, he, _⟩ := params_model v
  refine ⟨st, h, ?_⟩
  intro us hus
  have := numbered_unique hus
  subst this
  refine ⟨fun p f => ?_, by rw [hc, uses_length], fun e => ?_⟩
  · rw [hp, firstUse_iff]; rfl
  · rw [he]; exact mem_conflictsOf _ e

open C09P in
/-- the numbering relation is functional and total: exactly one numbering exists -/
theorem numbered_exists_unique (n : Nat) (ts : List Tok) : ∃ us, Numbered n ts us ∧ ∀ us', Numbered n ts us' → us' = us :=
  ⟨uses n ts, numbered_uses n ts, fun _ h => numbered_unique h⟩

/-- `get_params` reports a conflict iff some argument is addressed with two different conversions -/
theorem get_params_conflict_iff (v : List Nat) :
    ∃ st, getParams [.str v] = some st ∧ (st.errors ≠ [] ↔ Conflict v) := by
  obtain ⟨st, h, _, _, he, _⟩ := params_model v
  exact ⟨st, h, by rw [he]; exact (conflict_iff_conflictsOf v).symm⟩

/-- `check_apostrophes` yields something iff it yields an error iff: two adjacent straight quotes once every escape
    `\x` is blanked out, or an apostrophe survives silencing (`\x` and `""` blanked) in a value that does not both start
    and end with a straight quote.  For ALL strings. -/
theorem apostrophes_error_iff (v : List Nat) :
    (checkApostrophes v ≠ [] ↔ DoubledQuote (blankEsc v) ∨ (¬ Quoted (silence v) ∧ 39 ∈ silence v)) ∧
    (hasError (checkApostrophes v) = true ↔ checkApostrophes v ≠ []) :=
  ⟨checkApostrophes_ne_nil v, hasError_iff_ne_nil (checkApostrophes_all_errors v)⟩

/-- `non_simple_data(node)` is False exactly for: no children, a single text child, or exactly one CDATA section
    among text children that are all white-space (no element, comment or other sibling).  For ALL child lists. -/
theorem non_simple_data_iff (n : Node) : nonSimpleData n = false ↔ SimpleData n :=
  nonSimpleData_iff n

/-- `textContent` returns the data of the FIRST CDATA child wherever it stands among the children (not only when it is
    `firstChild`). -/
theorem textContent_cdata_anywhere (n : Node) (pre post : List Child) (d : List Nat)
    (hc : n.children = pre ++ .cdata d :: post) (h : ∀ c ∈ pre, c.isCdata = false) : textContent n = d :=
  C09P.textContent_cdata_anywhere n pre post d hc h

/-- without a CDATA child `textContent` is "" (no children), the data of the only child if that is a text node, and
    `node.toxml()` otherwise -/
theorem textContent_no_cdata (n : Node) (h : ∀ c ∈ n.children, c.isCdata = false) :
    textContent n = match n.children with
      | [] => []
      | [.text d] => d
      | _ => n.xml := by
  unfold textContent
  rw [C09P.firstCdata_none h]
  cases hc : n.children with
  | nil => simp
  | cons c cs =>
    cases cs with
    | nil => cases c <;> simp
    | cons c2 cs2 => simp

/-- on every node shape the checker accepts (`SimpleData`), `textContent` is: "" for no children, the data of the single
    text child, the data of THE CDATA section when there is exactly one among white-space-only text -/
theorem textContent_simple (n : Node) (h : SimpleData n) :
    (n.children = [] ∧ textContent n = []) ∨ (∃ d, n.children = [.text d] ∧ textContent n = d) ∨
    (∃ pre d post, n.children = pre ++ .cdata d :: post ∧ (∀ c ∈ pre ++ post, WhiteText c) ∧ textContent n = d) :=
  C09P.textContent_simple n h

/-- the seeded regression "look at firstChild only" differs from `textContent` on `"\n  " CDATA[x] "\n"` -/
example : textContent ⟨[], none, [.text [10, 32, 32], .cdata [120], .text [10]], []⟩ = [120] := by decide

open AndroidP C09P

/-- **Every `<string name=…>` child of `<resources>` yields exactly one AndroidEntity, in document order, with
    key = its `name` attribute and raw_val = `textContent(element)`**; more precisely the entities and junk entries
    of the walk, without their attached comment / white-space, are exactly what `handleElement` makes of the element
    children one by one (`elemEntry`): nothing is skipped, duplicated or reordered, whatever stands between the elements. -/
theorem walk_string_entities {contents : List Nat} {docChildren : List DNode} {name : List Nat}
    {attrs : List (List Nat × List Nat)} {children : List DNode} {ol : Bool} {es : List Entry}
    (hroot : documentElement? docChildren = some (.element name attrs children))
    (hname : name = Gen.TablesAndroid.resources_tag)
    (h : walk (some (contents, .doc docChildren)) ol = some es) :
    es.filterMap entityKV = (children.filter isStringElem).map (fun n => (nameOf n, rawOf n)) ∧
    (es.filter isLoc).map core = (children.filter DNode.isElement).map (elemEntry none none) := by
  rw [walk_resources ol hroot hname] at h
  cases hb : walkLoop ol (children.length + 1) children with
  | none => simp [hb] at h
  | some body =>
    simp [hb] at h
    have hel := walkLoop_elements (by omega) hb
    have hcore : (es.filter isLoc).map core = (children.filter DNode.isElement).map (elemEntry none none) := by
      rw [← h, ← hel]
      cases ol <;> simp [List.filter_append, filterLoc_wrappers, isLoc, Entry.isEntity, Entry.isJunk]
    refine ⟨?_, hcore⟩
    rw [filterMap_entityKV, hcore, filterMap_elems]

/-- `walk(only_localizable=True)` (= `Parser.__iter__`, `Parser.parse()`) yields exactly the AndroidEntity and XMLJunk
    entries of `walk()`, for every input (nothing loaded, parse error, any document) -/
theorem walk_only_localizable (ctx : Option (List Nat × Parsed)) :
    walk ctx true = (walk ctx false).map (List.filter isLoc) := by
  match ctx with
  | none => rfl
  | some (contents, .error) => rfl
  | some (contents, .doc docChildren) =>
    cases hd : documentElement? docChildren with
    | none => simp [walk, hd]
    | some root =>
      have hre := (documentElement?_mem hd).2
      cases root <;> simp [DNode.isElement] at hre
      rename_i name attrs children
      by_cases hname : name = Gen.TablesAndroid.resources_tag
      · rw [walk_resources true hd hname, walk_resources false hd hname, walkLoop_ol _ _ (by omega)]
        cases walkLoop false (children.length + 1) children with
        | none => rfl
        | some body =>
          simp [List.filter_append, filterLoc_wrappers, isLoc, Entry.isEntity, Entry.isJunk]
      · simp only [walk, hd]
        simp [hname]
        cases docToxml? docChildren <;> simp [isLoc, Entry.isJunk]

/-- `walk` does not raise on a tree that can be serialised (no `]]>` inside a CDATA node, no `--` inside a comment —
    true of every tree the XML parser builds) and has a document element -/
theorem walk_total {contents : List Nat} {docChildren : List DNode} (ol : Bool)
    (hroot : (documentElement? docChildren).isSome = true) (hp : printableList docChildren = true) :
    (walk (some (contents, .doc docChildren)) ol).isSome = true := by
  cases hd : documentElement? docChildren with
  | none => simp [hd] at hroot
  | some root =>
    obtain ⟨hmem, hre⟩ := documentElement?_mem hd
    have hpr := printable_of_mem hp hmem
    cases root <;> simp [DNode.isElement] at hre
    rename_i name attrs children
    by_cases hname : name = Gen.TablesAndroid.resources_tag
    · rw [walk_resources ol hd hname]
      obtain ⟨es, he⟩ := walkLoop_total ol (children.length + 1) children (by omega)
        (by simpa [DNode.printable] using hpr)
      simp [he]
    · simp only [walk, hd]
      simp [hname, docToxml?, toxmlList?, hp]

/-- where the hypothesis of `walk_total` bites: a hand-made CDATA node containing `]]>` makes `toxml()`, hence `walk`, raise -/
example : walk (some ([], .doc [.element Gen.TablesAndroid.resources_tag [] [.cdata [93, 93, 62]]])) false = none := by decide

/-- **What "lossless" means for this parser, unconditionally**: the concatenation of the `all` texts of `walk()` is the
    fixed head `<?xml version="1.0" encoding="utf-8"?>\n<resources`, the root attributes as ` name=` + `quoteattr(value)`,
    `>`, the `toxml()` serialisations of a SUB-SEQUENCE `ks` of the root's children in document order, and
    `</resources>\n`.  So every `all` text is a function of the node summary (not of the bytes: quoting style, entity
    references, the XML declaration, `<a></a>` vs `<a/>` are gone), nothing is invented, duplicated or reordered;
    nodes may be dropped (`walk_lossless` says when none is). -/
theorem walk_all_sublist {contents : List Nat} {docChildren : List DNode} {name : List Nat}
    {attrs : List (List Nat × List Nat)} {children : List DNode} {es : List Entry}
    (hroot : documentElement? docChildren = some (.element name attrs children))
    (hname : name = Gen.TablesAndroid.resources_tag)
    (h : walk (some (contents, .doc docChildren)) false = some es) :
    ∃ ks, ks.Sublist children ∧
      allText es = Gen.TablesAndroid.open_all ++ attrs.flatMap rawAttr ++ Gen.TablesAndroid.gt_all ++
        toxmlList ks ++ Gen.TablesAndroid.close_all := by
  rw [walk_resources false hroot hname] at h
  cases hb : walkLoop false (children.length + 1) children with
  | none => simp [hb] at h
  | some body =>
    simp [hb] at h
    obtain ⟨ks, hsub, hall⟩ := walkLoop_sublist (by omega) hb
    refine ⟨ks, hsub, ?_⟩
    rw [← h]
    have hc : ∀ (e : Entry) (l : List Entry), allText (e :: l) = e.all ++ allText l := fun _ _ => by simp [allText]
    have hn : allText [] = [] := rfl
    simp only [hc, hn, allText_append, allText_wrappers, hall, Entry.all]
    simp [List.append_assoc]

/-- **Nothing is lost** when the children of `<resources>` are `<string name=…>` elements, text and comments, no two
    text nodes are adjacent (the XML parser fuses them) and the list does not end with a comment followed by a text
    node with at most one newline: then the `all` texts concatenate to the serialisation of ALL children. -/
theorem walk_lossless {contents : List Nat} {docChildren : List DNode} {name : List Nat}
    {attrs : List (List Nat × List Nat)} {children : List DNode} {es : List Entry}
    (hroot : documentElement? docChildren = some (.element name attrs children))
    (hname : name = Gen.TablesAndroid.resources_tag)
    (h : walk (some (contents, .doc docChildren)) false = some es) (hcl : Clean children) :
    allText es = Gen.TablesAndroid.open_all ++ attrs.flatMap rawAttr ++ Gen.TablesAndroid.gt_all ++
        toxmlList children ++ Gen.TablesAndroid.close_all := by
  rw [walk_resources false hroot hname] at h
  cases hb : walkLoop false (children.length + 1) children with
  | none => simp [hb] at h
  | some body =>
    simp [hb] at h
    have hall := walkLoop_clean (by omega) hb hcl
    rw [← h]
    have hc : ∀ (e : Entry) (l : List Entry), allText (e :: l) = e.all ++ allText l := fun _ _ => by simp [allText]
    have hn : allText [] = [] := rfl
    simp only [hc, hn, allText_append, allText_wrappers, hall, Entry.all]
    simp [List.append_assoc]

/-- **Round trip on the canonical serialisation**: if moreover the root has at least one child and the values of its
    attributes contain none of `& < > " \n \r \t`, the `all` texts concatenate to
    `<?xml version="1.0" encoding="utf-8"?>\n` + `documentElement.toxml()` + `\n` — the document itself when it is written
    in that form. -/
theorem walk_roundtrip {contents : List Nat} {docChildren : List DNode}
    {attrs : List (List Nat × List Nat)} {c : DNode} {cs : List DNode} {es : List Entry}
    (hroot : documentElement? docChildren = some (.element Gen.TablesAndroid.resources_tag attrs (c :: cs)))
    (h : walk (some (contents, .doc docChildren)) false = some es) (hcl : Clean (c :: cs))
    (hattr : ∀ a ∈ attrs, a.2.all plainChar = true) :
    allText es = xmlDecl ++ (DNode.element Gen.TablesAndroid.resources_tag attrs (c :: cs)).toxml ++ [10] := by
  rw [walk_lossless hroot rfl h hcl, rawAttrs_plain attrs hattr, toxml_resources]
  obtain ⟨h1, h2, h3⟩ := frame_constants
  rw [h1, h2, h3]
  simp [List.append_assoc]

/-! the hypotheses of `walk_lossless` are needed: one witness per excluded shape (`decide` on the model; the
    harness sends the same documents through the real parser) -/

def kEl : DNode := .element Gen.TablesAndroid.string_tag [(Gen.TablesAndroid.name_attr, [107])] [.text [118]]
def resDoc (cs : List DNode) : Option (List Nat × Parsed) := some ([], .doc [.element Gen.TablesAndroid.resources_tag [] cs])
/-- the serialisations of the nodes that `walk()` keeps -/
def keptText (cs : List DNode) : Option (List Nat) :=
  (walk (resDoc cs) false).map (fun es => allText ((es.drop 2).dropLast))

/-- non-vacuity: a clean list (white-space, comment, white-space, string, white-space) keeps everything -/
example : keptText [.text [10], .comment [99], .text [10, 32], kEl, .text [10]] =
    some (toxmlList [.text [10], .comment [99], .text [10, 32], kEl, .text [10]]) := by decide +kernel
/-- a processing instruction is dropped -/
example : keptText [.pi [112] [100], kEl] = some (toxmlList [kEl]) := by decide +kernel
/-- a CDATA section after comment + short white-space is dropped -/
example : keptText [.comment [99], .text [10], .cdata [120], kEl] = some (toxmlList [.comment [99], .text [10], kEl]) := by decide +kernel
/-- a comment after comment + CDATA is dropped -/
example : keptText [.comment [99], .cdata [120], .comment [100], kEl] =
    some (toxmlList [.comment [99], .cdata [120], kEl]) := by decide +kernel
/-- the white-space after the last comment is dropped when it has at most one newline … -/
example : keptText [kEl, .text [10], .comment [99], .text [10]] = some (toxmlList [kEl, .text [10], .comment [99]]) := by decide +kernel
/-- … and kept when it has two -/
example : keptText [kEl, .text [10], .comment [99], .text [10, 10]] =
    some (toxmlList [kEl, .text [10], .comment [99], .text [10, 10]]) := by decide +kernel
/-- a comment (and the white-space after it) in front of an element that is not `<string name=…>` is dropped -/
example : keptText [.comment [99], .text [10], .element [112] [] []] = some (toxmlList [.element [112] [] []]) := by decide +kernel
/-- the text stored for a root attribute is ` name=` + `quoteattr(value)` (since /repo bf6a07b): `a="&amp;"` for the
    value `&`, as `toxml()` writes it; for a value with a double quote the two serialisations differ in the quoting
    style only (`'1"'` vs `"1&quot;"`) -/
example : (walk (some ([], .doc [.element Gen.TablesAndroid.resources_tag [([97], [38]), ([98], [49, 34])] []])) false).map
    (fun es => (es.map Entry.all).take 3 |>.drop 1) =
      some [[32, 97, 61, 34, 38, 97, 109, 112, 59, 34], [32, 98, 61, 39, 49, 34, 39]] ∧
    writeAttrs [([97], [38]), ([98], [49, 34])] =
      [32, 97, 61, 34, 38, 97, 109, 112, 59, 34] ++ [32, 98, 61, 34, 49, 38, 113, 117, 111, 116, 59, 34] := by decide +kernel

/-- `wrap` raises UnboundLocalError exactly for an element without child nodes (`<string name="a"/>`) -/
theorem wrap_unbound_iff (pre inner : Option Lit) (name : List Nat) (attrs : List (List Nat × List Nat))
    (children : List DNode) (a k r v raw : List Nat) :
    (Entry.entity pre inner (.element name attrs children) a k r v).wrap raw = .error .unbound ↔ children = [] := by
  rw [← wrapTarget_none_iff]
  cases h : wrapTarget children with
  | none => simp [Entry.wrap, h]
  | some i =>
    simp only [Entry.wrap, h]
    cases (DNode.element name attrs (List.mapIdx (fun j c => if (j == i) = true then setData raw c else c) children)).toxml? <;> simp

/-- one text child: the new value becomes the text of the element (escaped by `toxml`) -/
theorem wrap_single_text (pre inner : Option Lit) (name : List Nat) (attrs : List (List Nat × List Nat))
    (d a k r v raw : List Nat) :
    (Entry.entity pre inner (.element name attrs [.text d]) a k r v).wrap raw =
      .ok (k, raw, optAll pre ++ optAll inner ++ (DNode.element name attrs [.text raw]).toxml) := by
  simp [Entry.wrap, wrapTarget, setData, DNode.toxml?, DNode.printable, printableList]

/-- one element child (`<string name="a"><b>x</b></string>`): the new value is NOT written, the text stays as it was -/
theorem wrap_single_element_ignored (pre inner : Option Lit) (name : List Nat) (attrs : List (List Nat × List Nat))
    (n2 : List Nat) (as2 : List (List Nat × List Nat)) (cs2 : List DNode) (a k r v raw : List Nat)
    (hp : printableList cs2 = true) :
    (Entry.entity pre inner (.element name attrs [.element n2 as2 cs2]) a k r v).wrap raw =
      .ok (k, raw, optAll pre ++ optAll inner ++ (DNode.element name attrs [.element n2 as2 cs2]).toxml) := by
  simp [Entry.wrap, wrapTarget, setData, DNode.toxml?, DNode.printable, printableList, hp]

/-- `position(offset)` and `value_position(offset)` of every Android entry (AndroidEntity, XMLJunk, XMLWhitespace,
    XMLComment, DocumentWrapper) are the constant `(0, offset)`: Android entries have no spans, line 0 is
    not a line of the file, and a negative offset ("end of the entity") is passed through — `XMLJunk.error_message()`
    therefore says "from line 0 column 0 to line 0 column -1". -/
theorem entry_positions (e : Entry) (offset : Int) :
    e.position offset = (0, offset) ∧ e.valuePosition offset = (0, offset) := ⟨rfl, rfl⟩

/-- the `(line, column)` that `ContentComparer.compare` / `lint_value` report for a check result on an Android entity is
    `(0, pos)` with `pos` the natural number the checker yielded: a well-formed pair of integers, line 0, column ≥ 0 -/
theorem check_result_position (e : Entry) (r : Android.Result) :
    resolvePos e r = (0, (r.pos : Int)) ∧ (0 : Int) ≤ (resolvePos e r).2 := by
  unfold resolvePos
  split <;> simp [Entry.position, Entry.valuePosition]

/-- **Where the positions of check results point** (C05 / C17 contract: well-formed non-negative integers, and more):
    every result of `AndroidChecker.check` is either the encoding warning, whose position is the offset of a U+FFFD
    inside `l10nEnt.all`, or has position 0, or an offset inside the localized value (apostrophes, doubled quotes,
    conflicts within the translation), or an offset inside the REFERENCE text (the "Conflicting formatting" warnings about
    the reference, which `compare` nevertheless reports as a column of the localized value). -/
theorem check_positions_inside (ref l10n : Entity) :
    ∃ rs, check ref l10n = some rs ∧
      ∀ r ∈ rs, (r.msg = .mojibake ∧ l10n.all[r.pos]? = some 0xFFFD) ∨
        r.pos = 0 ∨ r.pos < l10n.val.length ∨ r.pos < (textContent ref.node).length := by
  obtain ⟨rs, h, _⟩ := check_spec ref l10n
  exact ⟨rs, h, C09P.check_pos h⟩

/-- the last alternative of `check_positions_inside` is needed: a conflict inside the reference `aaaa %1$s %1$d` is
    reported at offset 10 although the translation is empty -/
example : check (textEnt [97, 97, 97, 97, 32, 37, 49, 36, 115, 32, 37, 49, 36, 100]) (textEnt []) =
    some [warn 10 (.conflict 1 [100] [115]), warn 0 (.notInL10n 1 [115])] := by decide +kernel

/-- no history in the checker: the results for the entities of a document do not depend on which entities were checked
    before (one AndroidChecker object for the whole file = a fresh one per entity) -/
theorem docCheck_append (ref l1 l2 : List Entry) : docCheck ref (l1 ++ l2) = docCheck ref l1 ++ docCheck ref l2 := by
  simp [docCheck, List.filterMap_append]

/-- `walk` has no state apart from the process-wide junk counter: the counter values of the XMLJunk entries of a walk
    are `start+1, start+2, …` in yield order -/
theorem junkCounters_spec (start : Nat) (es : List Entry) :
    (junkCounters start es).filterMap id = (List.range (es.filter Entry.isJunk).length).map (· + start + 1) := by
  induction es generalizing start with
  | nil => rfl
  | cons e es ih =>
    unfold junkCounters
    by_cases hj : e.isJunk = true
    · simp only [hj, if_true, List.filterMap_cons, id, List.filter_cons, List.length_cons]
      rw [ih (start + 1), List.range_succ_eq_map]
      simp [Function.comp_def]; intro a _; omega
    · simp [hj, ih start]

end C09
