/-
C16 — Serializer writes exactly the requested translations, in reference order.

Vocabulary (CLModel/Proofs/C16Ser.lean, C16Cor.lean), for a reference entry list `ref`, an old
localization `old` and a new-data dict `nd` (association list, `none` = Python `None`):
  `refKeys ref`        keys of the non-junk reference entries keyed by `.key`, first occurrences in order
  `known ref s`        `s in ref_mapping` (some reference *Entity* has key `s`)
  `oldEntry old s`     the last non-junk old entry keyed by `s` (what `OrderedDict(pairs)[s]` holds)
  `removed nd s`       `s in new_data and new_data[s] is None`
  `given ref nd s`     `new_data[s]` is a value and `s in ref_mapping`
  `kept ref old nd s`  `oldEntry old s` is a real Entity, `s in ref_mapping`, not `removed`
  `newValue ref nd s`  `ref_mapping[s].wrap(new_data[s])` when `given`
  `chosen ref old nd s` = `newValue …` if defined, else `oldEntry old s` if `kept`
`Ent.isReal` = Entity that is not a PlaceholderEntity.

Vocabulary of the statements about the shape of the entry list (`serialized_shape`, `leading_blank_characterised`,
`no_adjacent_whitespace`, `sticky_kept`; CLModel/Proofs/C16Ser.lean, C16Merge.lean, C16RAlt.lean, C16RSer.lean, C16GHead.lean,
C16GNoAdj.lean):
  `d0Of ref`, `d1Of ref old nd`, `d2Of ref nd`   the three dicts `merge_resources` builds with `parse_resource`: from the template
                       (reference entities as placeholders), the sanitized old localization, the entities of the new values
  `dkeys d`            the keys of a dict, in order
  `olderPairs N O`     the pairs `(key, get_older_entity(N, O, key))` that are not `None`, along the key diff of `N` and `O`
  `pIsWs p`, `C16R.wsKey k`   the entry of the pair / the key is (that of) a Whitespace object
  `C16G.q2 D2 p`       the pair is no placeholder once the new value from `D2`, if any, has replaced its entry
  `C16R.hw w l`        `l` starts with an element satisfying `w` (a DEFINITION: "head is white space")
  `C16R.Alt w l`       every element of `l` not satisfying `w` is directly followed by one that does
  `C16G.NoAdj w l`     no two neighbours in `l` both satisfy `w`

Vocabulary of the re-parse theorem `serialize_reparses_properties_partial` (CLModel/Proofs/C02Roundtrip.lean, C16RProps.lean):
  `P.printProps rs`                the file `key=value⏎` per record (C02)
  `P.SafeRec (key, value)`         non-empty key without `# ! = :` / white-space; value without backslash / newline that neither
                                   starts nor ends in a blank (nor ends in CR) — the class of C02.roundtrip_properties_partial
  `C16R.expectedRec old nd r`      for the reference record `r`: `(r.key, v)` if `new_data[r.key] = v`; nothing if it is `None`;
                                   else the record of `old` with that key, if any
  `C16R.expectedRecs ref old nd`   `ref.filterMap (expectedRec old nd)`: reference order
-/
import CLModel.Serialize.Serializer
import CLModel.Proofs.C16Ser
import CLModel.Proofs.C16Cor
import CLModel.Proofs.C16Wrap
import CLModel.Proofs.C16RIni
import CLModel.Proofs.C16WrapX
import CLModel.Proofs.C16GInst
import CLModel.Proofs.C16GInc
import CLModel.Proofs.SafeRecDec
namespace C16
open AR Ser C16L

/-- Closed form of what `serialize` emits.  For ALL entry lists `ref`, `old` and every dict `nd`:
    the entities of the pruned entry list (whose texts are concatenated into the file) are exactly,
    for each reference key in reference order, the entity `chosen` for it: the reference entity
    wrapped around the new value if one was given, otherwise the old entity if it is still a
    reference key and not marked for removal, otherwise nothing. -/
theorem serialized_entities (ref old : List Ent) (nd : NewData) (hnd : (nd.map (·.1)).Nodup) :
    (serializeEnts ref old nd).filter Ent.isReal = (refKeys ref).filterMap (chosen ref old nd) :=
  C16L.serialized_entities ref old nd hnd

/-- "entities are exactly the reference keys having a new value or an old localized value not
    marked for removal, in reference order" -/
theorem serialized_keys (ref old : List Ent) (nd : NewData) (hnd : (nd.map (·.1)).Nodup) :
    ((serializeEnts ref old nd).filter Ent.isReal).map (·.key)
      = (refKeys ref).filter (fun s => given ref nd s || kept ref old nd s) :=
  C16L.serialized_keys ref old nd hnd

/-- "each carrying the new value if one was given and the old one otherwise": an emitted entity whose
    key has a new value has that raw value and the reference entity's text around it; any other
    emitted entity IS the old localization's entity for that key. -/
theorem serialized_values (ref old : List Ent) (nd : NewData) (hnd : (nd.map (·.1)).Nodup) :
    ∀ e ∈ (serializeEnts ref old nd).filter Ent.isReal,
      match dget nd e.key with
      | some (some v) => e.val = v ∧ ∃ r, dget (refMapping ref) e.key = some r ∧ e.all = r.pre ++ v ++ r.post
      | _ => oldEntry old e.key = some e :=
  C16L.serialized_values ref old nd hnd

/-- "No reference (English) value, obsolete key, removed key or junk from the old file appears":
    every entry of the output is not a placeholder, not junk, and is either a wrapped new value,
    or an entry of the old file that `sanitize_old` keeps (for an Entity: key known and not removed),
    or a reference entry that is not an Entity (comment, whitespace, section). -/
theorem nothing_foreign (ref old : List Ent) (nd : NewData) :
    ∀ e ∈ serializeEnts ref old nd,
      e.isPlaceholder = false ∧ e.isJunk = false ∧
      ((e ∈ newL10n (refMapping ref) nd) ∨
       (e ∈ old ∧ shouldPlaceholder ((refMapping ref).map (·.1)) nd e = false) ∨
       (e ∈ ref ∧ e.isEntity = false)) :=
  C16L.nothing_foreign ref old nd

/-- no PlaceholderEntity survives `prune_placeholders` -/
theorem no_placeholder (ref old : List Ent) (nd : NewData) :
    ∀ e ∈ serializeEnts ref old nd, e.isPlaceholder = false :=
  fun e he => (nothing_foreign ref old nd e he).1

/-- `Entity.wrap`: for an entity whose value span lies inside its span (`_span_start ≤ vs ≤ ve ≤ end`),
    the entity's text is prefix ++ value ++ suffix and the wrapped entity's text is
    prefix ++ new value ++ suffix, with the same key and the new raw value. -/
theorem wrap_spec (f : P.Fmt) (s : Array Nat) (e : P.Entry) (v : List Nat) (a b : Nat)
    (hk : e.kind = .entity) (hvs : e.vs = (a : Int)) (hve : e.ve = (b : Int))
    (h1 : e.full ≤ a) (h2 : a ≤ b) (h3 : b ≤ e.e) (h4 : e.e ≤ s.size) :
    (ofEntry f s e).all = P.slice s e.full a ++ P.slice s a b ++ P.slice s b e.e ∧
    (ofEntry f s e).val = P.slice s a b ∧
    (wrap (ofEntry f s e) v).all = P.slice s e.full a ++ v ++ P.slice s b e.e ∧
    (wrap (ofEntry f s e) v).val = v ∧
    (wrap (ofEntry f s e) v).key = (ofEntry f s e).key ∧
    (wrap (ofEntry f s e) v).isReal = true :=
  C16L.wrap_spec f s e v a b hk hvs hve h1 h2 h3 h4

/-- `ref.wrap(ref.unwrap())` reproduces the entity's text -/
theorem wrap_unwrap (f : P.Fmt) (s : Array Nat) (e : P.Entry) (a b : Nat)
    (hk : e.kind = .entity) (hvs : e.vs = (a : Int)) (hve : e.ve = (b : Int))
    (h1 : e.full ≤ a) (h2 : a ≤ b) (h3 : b ≤ e.e) (h4 : e.e ≤ s.size) :
    (wrap (ofEntry f s e) (ofEntry f s e).val).all = (ofEntry f s e).all := by
  obtain ⟨ha, hv, hwr, _⟩ := wrap_spec f s e (ofEntry f s e).val a b hk hvs hve h1 h2 h3 h4
  rw [hwr, ha, hv]

/-- "serializing the output again with no new data yields the same entities" (entry level: the old
    localization of the second run is the entry list of the first; that re-parsing the text gives
    these entries back is checked by correspondence and by the oracle; for printed files see
    `serialize_idempotent_text_*_partial`). -/
theorem idempotent_entities (ref old : List Ent) (nd : NewData) (hnd : (nd.map (·.1)).Nodup) :
    (serializeEnts ref (serializeEnts ref old nd) []).filter Ent.isReal
      = (serializeEnts ref old nd).filter Ent.isReal :=
  C16L.idempotent_entities ref old nd hnd

/-
"The produced text parses without junk" is a statement about the parser on the concatenated texts.  It is proved for
printed files of `.properties`, `.ini`, `.dtd` and `.inc` (`serialize_reparses_*_partial`); for every other layout and for
Fluent / Android it is checked by the oracle with the real parsers and by the end-to-end correspondence.  For `.inc` it is
FALSE whenever the pruned list starts with a whitespace entry (finding C16-inc-leading-blank): `leading_blank_partial`
and the entry-level example among the examples.
-/

/-- RE-PARSE, `.properties`, printed safe records.  Take ANY reference file and ANY old localization printed from safe
    records (`key=value⏎` per record, distinct keys per file; the old file may have obsolete keys, lack reference keys and be
    in any order) and ANY `new_data` dict whose values for reference keys are safe.  Then `serialize` — the model run end to
    end: both texts parsed by `PropertiesParser.walk`, `serialize`, `serialize_legacy_resource` — returns a text `t` that
    `PropertiesParser.walk` parses, WITHOUT JUNK, into exactly one entity per expected record, in reference order: the
    reference keys having a new value or an old value not marked for removal; key = the reference key, raw value = value =
    the new value if one was given, else the old one; no comment attached.
    Proof route: C02 round trip (the walk of a printed file is known) → the entry-level view of these entries, text before and
    after the value included (`C16G.ofEntry_rec`) → `serialized_entities`
    → every entry of the output that is not whitespace is directly followed by a white-space entry (`C16R.serializeEnts_alt`:
    this shape survives the closed form of `AddRemove` and the white-space reduce) and no two white-space entries are adjacent →
    the text is an optional newline followed by the printed expected records (`serialized_text_partial`) → C02 round trip of
    a printed file, after one leading newline if there is one (`C16G.serialize_reparses_printed`, the same for DTD and .inc).
    FULL statement (not proved): all six formats, comments, blank lines, junk and a missing final newline in the old file,
    all legal layouts.  The class excludes the inputs of the known findings (see the witnesses below). -/
theorem serialize_reparses_properties_partial (refRecs oldRecs : List P.PRec) (nd : NewData)
    (href : ∀ r ∈ refRecs, P.SafeRec r) (hold : ∀ r ∈ oldRecs, P.SafeRec r)
    (hrk : (refRecs.map (·.1)).Nodup) (hok : (oldRecs.map (·.1)).Nodup) (hnd : (nd.map (·.1)).Nodup)
    (hv : ∀ r ∈ refRecs, ∀ v, (r.1, some v) ∈ nd → P.SafeRec (r.1, v)) :
    ∃ t es, serializeText .properties (P.printProps refRecs).toArray (P.printProps oldRecs).toArray nd = some t ∧
      P.walk .properties t.toArray = .done es ∧
      P.entitiesOf .properties t.toArray es = (C16R.expectedRecs refRecs oldRecs nd).map P.expectedView ∧
      P.junkOf t.toArray es = [] :=
  C16G.serialize_reparses_printed .properties C16G.propsF P.SafeRec P.printProps P.expEntries _
    (fun rs _ => C16G.printF_props rs) (fun l _ => C16G.walk_props_lead l)
    (fun s rs off h _ => C16G.map_ofEntry_expEntries .properties s rs off h) P.entitiesOf_expEntries
    refRecs oldRecs nd href hold hrk hok hnd hv rfl

/-- RE-PARSE, `.ini`, printed safe records.  Reference `[sec]⏎` + `key=value⏎` per record and old localization of the same
    form with the SAME section name, which contains neither `]` nor a newline (`hsec`) (`C02X.printIni`; safe ini records:
    key non-empty, without `=` / newline, not starting with `[ ; #` or white-space; value without newline — blanks at either
    end, backslashes, `#` are fine), distinct keys per file, none equal to the section name; `new_data` a dict whose values for
    reference keys contain no newline.  Then the text
    `serialize` returns is parsed by `IniParser.walk`, WITHOUT JUNK, into the section entry and exactly one entity per
    expected record (`C16R.expectedRecs`, as for `.properties`), in reference order.
    Additional step of the proof: the output starts with the section entry (`C16R.serializeEnts_head`: the key diff starts
    with the first template key when the old dict starts with the same key) and contains no second one (dict keys are unique).
    FULL statement (not proved): no section / several sections / another section name in the old file, comments, blank lines. -/
theorem serialize_reparses_ini_partial (sec : List Nat) (refRecs oldRecs : List P.PRec) (nd : NewData)
    (hsec : ∀ c ∈ sec, c ≠ 93 ∧ c ≠ 10)
    (href : ∀ r ∈ refRecs, C02X.SafeIniRec r) (hold : ∀ r ∈ oldRecs, C02X.SafeIniRec r)
    (hrk : (sec :: refRecs.map (·.1)).Nodup) (hok : (sec :: oldRecs.map (·.1)).Nodup) (hnd : (nd.map (·.1)).Nodup)
    (hv : ∀ r ∈ refRecs, ∀ v, (r.1, some v) ∈ nd → ∀ c ∈ v, c ≠ 10) :
    ∃ t es, serializeText .ini (C02X.printIni sec refRecs).toArray (C02X.printIni sec oldRecs).toArray nd = some t ∧
      P.walk .ini t.toArray = .done es ∧
      P.entitiesOf .ini t.toArray es = (C16R.expectedRecs refRecs oldRecs nd).map P.expectedView ∧
      P.junkOf t.toArray es = [] := by
  open C16R in
  obtain ⟨es, h1, h2, h3⟩ := serialize_reparses_ini_core sec refRecs nd (iniEnts sec oldRecs) oldRecs hsec href hold hrk
    (oldOK_ini sec _ nd oldRecs hok) hnd hv
  refine ⟨serializeOut (iniEnts sec refRecs) (iniEnts sec oldRecs) nd, es, ?_, h1, h2, h3⟩
  unfold serializeText
  rw [walkEnts_printIni sec refRecs hsec href, walkEnts_printIni sec oldRecs hsec hold]

/-- the same for a NEW localization: the old file is empty (no section header there); the expected records are the
    reference keys that have a new value -/
theorem serialize_reparses_ini_new_partial (sec : List Nat) (refRecs : List P.PRec) (nd : NewData)
    (hsec : ∀ c ∈ sec, c ≠ 93 ∧ c ≠ 10) (href : ∀ r ∈ refRecs, C02X.SafeIniRec r)
    (hrk : (sec :: refRecs.map (·.1)).Nodup) (hnd : (nd.map (·.1)).Nodup)
    (hv : ∀ r ∈ refRecs, ∀ v, (r.1, some v) ∈ nd → ∀ c ∈ v, c ≠ 10) :
    ∃ t es, serializeText .ini (C02X.printIni sec refRecs).toArray #[] nd = some t ∧
      P.walk .ini t.toArray = .done es ∧
      P.entitiesOf .ini t.toArray es = (C16R.expectedRecs refRecs [] nd).map P.expectedView ∧
      P.junkOf t.toArray es = [] := by
  open C16R in
  obtain ⟨es, h1, h2, h3⟩ := serialize_reparses_ini_core sec refRecs nd [] [] hsec href (by simp) hrk
    (oldOK_nil sec _ nd) hnd hv
  refine ⟨serializeOut (iniEnts sec refRecs) [] nd, es, ?_, h1, h2, h3⟩
  unfold serializeText
  rw [walkEnts_printIni sec refRecs hsec href]
  rfl

/-- the shape behind it, for ALL entry lists: if in the template dict and in the dict of the sanitized old localization
    every key that is not a Whitespace object is directly followed by one (every entry is followed by white space), the
    same holds for the serialized entry list — no entity is glued to the entry before or after it. -/
theorem serialized_shape (ref old : List Ent) (nd : NewData)
    (h0 : C16R.Alt C16R.wsKey (dkeys (d0Of ref))) (h1 : C16R.Alt C16R.wsKey (dkeys (d1Of ref old nd))) :
    C16R.Alt Ent.isWs (serializeEnts ref old nd) :=
  C16R.serializeEnts_alt ref old nd h0 h1


/-- `Entity.wrap` writes the raw value VERBATIM between the reference entity's prefix and suffix: no escaping, no
    trimming, whatever the value contains (a newline, a leading blank, the quote of a DTD entity …).  What a re-parse makes
    of such a value is the parser's business: see the negation witnesses below (`.properties`: a trailing or LEADING blank
    is lost, a newline splits the entity; `.dtd`: the reference's quote character ends the value). -/
theorem wrap_verbatim (e : Ent) (raw : List Nat) :
    (wrap e raw).all = e.pre ++ raw ++ e.post ∧ (wrap e raw).val = raw ∧ (wrap e raw).key = e.key ∧
    (wrap e raw).isReal = true :=
  ⟨rfl, rfl, rfl, rfl⟩

/-- For ALL entry lists: the pruned entry list never has two adjacent white-space entries
    (`prune_whitespace` folds them into the longer one). -/
theorem no_adjacent_whitespace (ref old : List Ent) (nd : NewData) :
    C16G.NoAdj Ent.isWs (serializeEnts ref old nd) :=
  C16R.noAdj_serializeEnts ref old nd

/-- For ALL entry lists: THE OUTPUT STARTS WITH A WHITE-SPACE ENTRY (a blank line: Junk for `.inc`) iff, in the key diff of
    template and sanitized old localization, the first pair that is not (still) a placeholder once the new values are
    filled in is white space.  Neither of the two `merge_two` reduces nor `prune_placeholders` changes that. -/
theorem leading_blank_characterised (ref old : List Ent) (nd : NewData) :
    C16R.hw Ent.isWs (serializeEnts ref old nd)
      = C16R.hw pIsWs ((olderPairs (d0Of ref) (d1Of ref old nd)).filter (C16G.q2 (d2Of ref nd))) :=
  C16G.hw_out ref old nd

/-- WHAT `serialize` RETURNS, AS TEXT, for a reference and an old file printed record by record in ANY record syntax
    `pre(key) ++ value ++ post ++ ⏎` (`C16G.RFmt`; instances: `key=value`, `<!ENTITY key "value">`, `#define key value`),
    distinct keys per file, `new_data` a dict: an optional newline followed by EXACTLY the printed expected records. -/
theorem serialized_text_partial (F : C16G.RFmt) (Sf : P.PRec → Prop) (refRecs oldRecs : List P.PRec) (nd : NewData)
    (hold : ∀ r ∈ oldRecs, Sf r)
    (hrk : (refRecs.map (·.1)).Nodup) (hok : (oldRecs.map (·.1)).Nodup) (hnd : (nd.map (·.1)).Nodup)
    (hv : ∀ r ∈ refRecs, ∀ v, (r.1, some v) ∈ nd → Sf (r.1, v)) :
    serializeOut (C16G.entsF F refRecs) (C16G.entsF F oldRecs) nd
      = (if C16R.hw Ent.isWs (serializeEnts (C16G.entsF F refRecs) (C16G.entsF F oldRecs) nd) then [10] else [])
        ++ C16G.printF F (C16R.expectedRecs refRecs oldRecs nd) ∧
    ∀ r ∈ C16R.expectedRecs refRecs oldRecs nd, Sf r :=
  C16G.out_text F Sf refRecs oldRecs nd hold hrk hok hnd hv

/-- RE-PARSE, `.dtd`.  Reference and old localization printed as `<!ENTITY key "value">⏎` per record (`C02X.printDtd`; safe
    records: key = ASCII letter then letters / digits / `.` / `-`; value without `"` and `&`), distinct keys per file, the old
    file in any order, with obsolete keys, lacking keys or empty; `new_data` a dict whose values for reference keys contain
    neither `"` nor `&`.  Then the text `serialize` returns is parsed by `DTDParser.walk`, WITHOUT JUNK, into exactly one
    entity per expected record, in reference order — also when the output starts with a blank line (the first reference
    entity is not emitted).
    FULL statement (not proved): `'`-quoted reference entities (then a new value may contain `"` but not `'`), values with
    `&…;` references, comments, blank lines, parameter entities.  A new value containing the reference's quote character is
    the known finding C16-dtd-quote-conflict (witness below). -/
theorem serialize_reparses_dtd_partial (refRecs oldRecs : List P.PRec) (nd : NewData)
    (href : ∀ r ∈ refRecs, C02X.SafeDtdRec r) (hold : ∀ r ∈ oldRecs, C02X.SafeDtdRec r)
    (hrk : (refRecs.map (·.1)).Nodup) (hok : (oldRecs.map (·.1)).Nodup) (hnd : (nd.map (·.1)).Nodup)
    (hv : ∀ r ∈ refRecs, ∀ v, (r.1, some v) ∈ nd → C02X.SafeDtdRec (r.1, v)) :
    ∃ t es, serializeText .dtd (C02X.printDtd refRecs).toArray (C02X.printDtd oldRecs).toArray nd = some t ∧
      P.walk .dtd t.toArray = .done es ∧
      P.entitiesOf .dtd t.toArray es = (C16R.expectedRecs refRecs oldRecs nd).map P.expectedView ∧
      P.junkOf t.toArray es = [] :=
  C16G.serialize_reparses_printed .dtd C16G.dtdF C02X.SafeDtdRec C02X.printDtd C02X.dtdExpEntries _
    (fun rs _ => C16G.printF_dtd rs) (fun l _ => C16G.walk_dtd_lead l)
    (fun s rs off h _ => C16G.map_ofEntry_dtdExpEntries s rs off h) C02X.entitiesOf_dtdExpEntries
    refRecs oldRecs nd href hold hrk hok hnd hv rfl

/-- RE-PARSE, `.inc`.  Reference `#define key value⏎` per record with NON-EMPTY values (`C16G.SafeIncV`: key of word
    characters, value non-empty without newline), old localization of the same form, distinct keys per file; new values for
    reference keys non-empty without newline; and — because a leading blank line is Junk for `DefinesParser` — the FIRST
    reference record is emitted (it has a new value, or an old value that is not removed) and the old file is empty or
    starts with a record whose key is a reference key.  Then `DefinesParser.walk` parses the output, WITHOUT JUNK, into
    exactly the expected records in reference order.
    The three extra hypotheses are exactly the known findings: empty reference value = C16-inc-reference-without-value,
    first record not emitted / old file starting with an obsolete key = C16-inc-leading-blank (witnesses below);
    blank lines and `#filter emptyLines` (C16-inc-blank-lines) are outside the printed class. -/
theorem serialize_reparses_inc_partial (r0 : P.PRec) (rs oldRecs : List P.PRec) (nd : NewData)
    (href : ∀ r ∈ r0 :: rs, C16G.SafeIncV r) (hold : ∀ r ∈ oldRecs, C16G.SafeIncV r)
    (hrk : ((r0 :: rs).map (·.1)).Nodup) (hok : (oldRecs.map (·.1)).Nodup) (hnd : (nd.map (·.1)).Nodup)
    (hv : ∀ r ∈ r0 :: rs, ∀ v, (r.1, some v) ∈ nd → C16G.SafeIncV (r.1, v))
    (hfirst : (C16R.expectedRec oldRecs nd r0).isSome = true)
    (hohead : ∀ o, oldRecs.head? = some o → o.1 ∈ (r0 :: rs).map (·.1)) :
    ∃ t es, serializeText .inc (C02X.printInc (r0 :: rs)).toArray (C02X.printInc oldRecs).toArray nd = some t ∧
      P.walk .inc t.toArray = .done es ∧
      P.entitiesOf .inc t.toArray es = (C16R.expectedRecs (r0 :: rs) oldRecs nd).map P.expectedView ∧
      P.junkOf t.toArray es = [] :=
  C16G.serialize_reparses_printed .inc C16G.incF C16G.SafeIncV C02X.printInc C02X.incExpEntries false
    (fun rs hs => C16G.printF_inc rs (fun r hr => (hs r hr).2)) C16G.walk_inc_lead C16G.map_ofEntry_incExpEntries
    (fun s rs off h hs => C02X.entitiesOf_incExpEntries s rs off h fun r hr => (hs r hr).1)
    (r0 :: rs) oldRecs nd href hold hrk hok hnd hv (C16G.no_lead_printed C16G.incF r0 rs nd oldRecs hrk hok hnd hfirst hohead)

/-- when the output of two printed files starts with a blank line: never if the first reference record is emitted and the
    old file is empty or starts with a reference key … -/
theorem no_leading_blank_partial (F : C16G.RFmt) (r0 : P.PRec) (rs : List P.PRec) (nd : NewData) (oldRecs : List P.PRec)
    (hrk : ((r0 :: rs).map (·.1)).Nodup) (hok : (oldRecs.map (·.1)).Nodup) (hnd : (nd.map (·.1)).Nodup)
    (hfirst : (C16R.expectedRec oldRecs nd r0).isSome = true)
    (hohead : ∀ o, oldRecs.head? = some o → o.1 ∈ (r0 :: rs).map (·.1)) :
    C16R.hw Ent.isWs (serializeEnts (C16G.entsF F (r0 :: rs)) (C16G.entsF F oldRecs) nd) = false :=
  C16G.no_lead_printed F r0 rs nd oldRecs hrk hok hnd hfirst hohead

/-- … always if the first reference record is NOT emitted (this is finding C16-inc-leading-blank as a theorem) -/
theorem leading_blank_partial (F : C16G.RFmt) (r0 : P.PRec) (rs : List P.PRec) (nd : NewData) (oldRecs : List P.PRec)
    (hrk : ((r0 :: rs).map (·.1)).Nodup) (hok : (oldRecs.map (·.1)).Nodup) (hnd : (nd.map (·.1)).Nodup)
    (hfirst : C16R.expectedRec oldRecs nd r0 = none) :
    C16R.hw Ent.isWs (serializeEnts (C16G.entsF F (r0 :: rs)) (C16G.entsF F oldRecs) nd) = true :=
  C16G.lead_printed F r0 rs nd _ oldRecs (C16G.oldOK_entsF F _ nd oldRecs hok) hrk hnd hfirst

/-- TEXT-LEVEL IDEMPOTENCE, `.properties` (printed safe records, the class of `serialize_reparses_properties_partial`):
    serialize; parse the returned text with `PropertiesParser.walk`; serialize again with that as the old localization and
    NO new data: the SAME TEXT is returned — `serialize(ref, parse(serialize(ref, old, new)), {}) == serialize(ref, old, new)`.
    Route: the output text is an optional newline + the printed expected records (`serialized_text_partial`); its parse is
    the same entry list after one white-space entry; the expected records of the second run are the same records
    (`C16R.expectedRecs_again`); and the leading newline is reproduced (`leading_blank_characterised` evaluated on both runs). -/
theorem serialize_idempotent_text_properties_partial (refRecs oldRecs : List P.PRec) (nd : NewData)
    (href : ∀ r ∈ refRecs, P.SafeRec r) (hold : ∀ r ∈ oldRecs, P.SafeRec r)
    (hrk : (refRecs.map (·.1)).Nodup) (hok : (oldRecs.map (·.1)).Nodup) (hnd : (nd.map (·.1)).Nodup)
    (hv : ∀ r ∈ refRecs, ∀ v, (r.1, some v) ∈ nd → P.SafeRec (r.1, v)) :
    ∃ t, serializeText .properties (P.printProps refRecs).toArray (P.printProps oldRecs).toArray nd = some t ∧
      serializeText .properties (P.printProps refRecs).toArray t.toArray [] = some t :=
  C16G.idempotent_text_printed .properties C16G.propsF P.SafeRec P.printProps P.expEntries _
    (fun rs _ => C16G.printF_props rs) (fun l _ => C16G.walk_props_lead l)
    (fun s rs off h _ => C16G.map_ofEntry_expEntries .properties s rs off h)
    refRecs oldRecs nd href hold hrk hok hnd hv rfl

/-- TEXT-LEVEL IDEMPOTENCE, `.dtd` (the class of `serialize_reparses_dtd_partial`) -/
theorem serialize_idempotent_text_dtd_partial (refRecs oldRecs : List P.PRec) (nd : NewData)
    (href : ∀ r ∈ refRecs, C02X.SafeDtdRec r) (hold : ∀ r ∈ oldRecs, C02X.SafeDtdRec r)
    (hrk : (refRecs.map (·.1)).Nodup) (hok : (oldRecs.map (·.1)).Nodup) (hnd : (nd.map (·.1)).Nodup)
    (hv : ∀ r ∈ refRecs, ∀ v, (r.1, some v) ∈ nd → C02X.SafeDtdRec (r.1, v)) :
    ∃ t, serializeText .dtd (C02X.printDtd refRecs).toArray (C02X.printDtd oldRecs).toArray nd = some t ∧
      serializeText .dtd (C02X.printDtd refRecs).toArray t.toArray [] = some t :=
  C16G.idempotent_text_printed .dtd C16G.dtdF C02X.SafeDtdRec C02X.printDtd C02X.dtdExpEntries _
    (fun rs _ => C16G.printF_dtd rs) (fun l _ => C16G.walk_dtd_lead l)
    (fun s rs off h _ => C16G.map_ofEntry_dtdExpEntries s rs off h)
    refRecs oldRecs nd href hold hrk hok hnd hv rfl

/-- TEXT-LEVEL IDEMPOTENCE, `.inc` (the class and the no-leading-blank hypotheses of `serialize_reparses_inc_partial`) -/
theorem serialize_idempotent_text_inc_partial (r0 : P.PRec) (rs oldRecs : List P.PRec) (nd : NewData)
    (href : ∀ r ∈ r0 :: rs, C16G.SafeIncV r) (hold : ∀ r ∈ oldRecs, C16G.SafeIncV r)
    (hrk : ((r0 :: rs).map (·.1)).Nodup) (hok : (oldRecs.map (·.1)).Nodup) (hnd : (nd.map (·.1)).Nodup)
    (hv : ∀ r ∈ r0 :: rs, ∀ v, (r.1, some v) ∈ nd → C16G.SafeIncV (r.1, v))
    (hfirst : (C16R.expectedRec oldRecs nd r0).isSome = true)
    (hohead : ∀ o, oldRecs.head? = some o → o.1 ∈ (r0 :: rs).map (·.1)) :
    ∃ t, serializeText .inc (C02X.printInc (r0 :: rs)).toArray (C02X.printInc oldRecs).toArray nd = some t ∧
      serializeText .inc (C02X.printInc (r0 :: rs)).toArray t.toArray [] = some t :=
  C16G.idempotent_text_printed .inc C16G.incF C16G.SafeIncV C02X.printInc C02X.incExpEntries false
    (fun rs hs => C16G.printF_inc rs (fun r hr => (hs r hr).2)) C16G.walk_inc_lead C16G.map_ofEntry_incExpEntries
    (r0 :: rs) oldRecs nd href hold hrk hok hnd hv (C16G.no_lead_printed C16G.incF r0 rs nd oldRecs hrk hok hnd hfirst hohead)

/-- "ALWAYS KEEP THE ONE FROM THE REFERENCE DOCUMENT", part 1 — for ALL entry lists: every sticky entry of the output is an
    entry of the REFERENCE.  A sticky entry of the old localization (its `<?xml?><resources`, its root attributes, its
    `</resources>`) never reaches the output: `get_older_entity` replaces it by the reference's entry under the same key,
    or by `None` when the reference has none (an attribute only the old root element has is dropped). -/
theorem sticky_from_reference (ref old : List Ent) (nd : NewData) :
    ∀ e ∈ serializeEnts ref old nd, e.isSticky = true → e ∈ ref := by
  open C16S in
  intro e he hs
  obtain ⟨_, p, hp, rfl⟩ := mem_out he
  -- a sticky entry is no new value, so the override left the pair alone; `get_older_entity` took it from the template
  have hpk : pickPair (d2Of ref nd) p = p.2 := by
    unfold pickPair pick at hs ⊢
    cases hg : dget (d2Of ref nd) p.1 with
    | none => rfl
    | some l =>
      rw [hg] at hs
      simp only at hs ⊢
      split
      · rfl
      · rename_i hl
        rw [if_neg hl, isReal_not_sticky (d2_some hg).1] at hs
        cases hs
  rw [hpk] at hs ⊢
  have hm := parseResource_mem (getOlder_sticky (mem_olderPairs hp) hs)
  simp only [plOf, List.mem_map, List.mem_filter] at hm
  obtain ⟨r, ⟨hr, _⟩, hre⟩ := hm
  have : placeholder r = r := placeholder_sticky (by rw [hre]; exact hs)
  rw [this] at hre
  rw [← hre]
  exact hr

/-- part 2: if the template holds the sticky entry `r` under key `s`, every non-junk old entry keyed `s` is sticky too, and no
    reference Entity is keyed `s`, then `r` IS in the output — whatever the old document's entry under `s` looks like
    (other attribute value, other XML declaration).  Both side conditions are needed: witnesses below. -/
theorem sticky_kept (ref old : List Ent) (nd : NewData) (s : List Nat) (r : Ent)
    (h0 : dget (d0Of ref) (MKey.str s) = some r) (hr : r.isSticky = true)
    (hold : ∀ e ∈ old, e.isJunk = false → strKeyed e = true → e.key = s → e.isSticky = true)
    (hkn : known ref s = false) :
    r ∈ serializeEnts ref old nd := by
  open C16S in
  have hget : getOlder (d0Of ref) (d1Of ref old nd) (MKey.str s) = some r := by
    unfold getOlder
    cases ho : dget (d1Of ref old nd) (MKey.str s) with
    | none => exact h0
    | some e' =>
      simp only
      rw [if_pos (d1_str_sticky ref old nd s hold e' ho)]
      exact h0
  have hd2 : dget (d2Of ref nd) (MKey.str s) = none := by
    cases hg : dget (d2Of ref nd) (MKey.str s) with
    | none => rfl
    | some l =>
      obtain ⟨_, hkk, hkl⟩ := d2_some hg
      simp only [MKey.str.injEq] at hkk
      rw [← hkk, hkn] at hkl
      exact absurd hkl (by simp)
  have hp : (MKey.str s, r) ∈ olderPairs (d0Of ref) (d1Of ref old nd) := by
    unfold olderPairs
    rw [List.mem_filterMap]
    refine ⟨MKey.str s, ?_, by rw [hget]; rfl⟩
    rw [(addRemove_keys_perm _ _ (d0_nodup ref) (d1_nodup ref old nd)).mem_iff]
    exact List.mem_append_left _ (by rw [← dget_isSome_iff, h0]; rfl)
  have : r ∈ (serializeEnts ref old nd).filter (fun e => !e.isWs) := by
    rw [out_nonws, flatOut, List.mem_filter, List.mem_filter]
    refine ⟨⟨List.mem_map.2 ⟨_, hp, ?_⟩, by simp [isSticky_not_ph hr]⟩, by simp [isSticky_not_ws hr]⟩
    simp only [pickPair, pick, hd2]
  exact (List.mem_filter.1 this).1

/-- `FluentEntity.wrap(raw)`: the text of the created entity is the REFERENCE entity's comment, re-created by
    `serialize_comment`, followed by the raw value verbatim (nothing is added when the reference has no comment); same key.
    The comment of the OLD localization or a comment inside `raw` plays no role here (a `raw` that itself starts with a
    comment therefore yields two comment blocks: the oracle compares Fluent values without comments). -/
theorem fluent_wrap_spec (s : Array Nat) (b : FBody) (e : P.Entry) (raw : List Nat) (hk : e.kind = .entity) :
    (wrap (fluentToEnt s b e) raw).all = (match b.comment with | some c => serializeComment c | none => []) ++ raw ∧
    (wrap (fluentToEnt s b e) raw).key = pySlice s e.ks e.ke ∧
    (wrap (fluentToEnt s b e) raw).val = raw ∧
    (wrap (fluentToEnt s b e) raw).isReal = true := by
  unfold fluentToEnt wrap
  cases b.comment <;> simp [hk, Ent.isReal]

/-- for EVERY comment content: what `serialize_comment` prints reads back (drop the final line break, split into lines,
    drop `#` / `# `) to exactly that content … -/
theorem fluent_comment_roundtrip (c : List Nat) : C16W.commentContent (serializeComment c) = c := by
  open C16W in
  unfold serializeComment commentContent
  cases hc : c.isEmpty with
  | true =>
    have : c = [] := by simpa using hc
    subst this
    simp [splitNl, unprefix, joinNl]
  | false =>
    simp only [Bool.false_eq_true, if_false]
    rw [List.dropLast_concat]
    have hfun : (fun line : List Nat => if line.isEmpty then [35] else 35 :: 32 :: line) = prefixLine := rfl
    rw [hfun, splitNl_joinNl _ (by simpa using splitNl_ne_nil c)
      (by
        intro l hl
        rw [List.mem_map] at hl
        obtain ⟨l0, h0, rfl⟩ := hl
        exact prefixLine_no_nl (splitNl_no_nl c l0 h0)),
      List.map_map]
    have : (unprefix ∘ prefixLine) = id := by funext l; exact unprefix_prefixLine l
    rw [this, List.map_id, joinNl_splitNl]

/-- … and every printed line starts with `#` -/
theorem fluent_comment_lines (c : List Nat) :
    ∀ l ∈ splitNl (serializeComment c).dropLast, l.head? = some 35 := by
  open C16W in
  unfold serializeComment
  cases hc : c.isEmpty with
  | true => intro l hl; simp [splitNl] at hl; subst hl; rfl
  | false =>
    simp only [Bool.false_eq_true, if_false]
    rw [List.dropLast_concat]
    have hfun : (fun line : List Nat => if line.isEmpty then [35] else 35 :: 32 :: line) = prefixLine := rfl
    rw [hfun, splitNl_joinNl _ (by simpa using splitNl_ne_nil c)
      (by
        intro l hl
        rw [List.mem_map] at hl
        obtain ⟨l0, h0, rfl⟩ := hl
        exact prefixLine_no_nl (splitNl_no_nl c l0 h0))]
    intro l hl
    rw [List.mem_map] at hl
    obtain ⟨l0, _, rfl⟩ := hl
    unfold prefixLine
    split <;> rfl

/-- the entry-level Fluent walk used by the serializer model yields, entry by entry, the texts of the C01 model of
    `FluentParser.walk` (which is tied to the real walk by the `fluentwalk` stream) -/
theorem fluent_walk_texts (s : Array Nat) (body : List FBody) :
    (fluentWalkEnts s body).map (·.all) = (P.fluentWalk s (body.map (·.entry)) false).map (fun e => e.all s) :=
  C16W.fluentWalkEntsFrom_alls s body 0

/-- reference `<string …>TEXT</string>`: the new value replaces the whole text, with `& < " >` escaped -/
theorem android_wrap_text (key pre : List Nat) (el : XElem) (d x raw : List Nat)
    (h : el.children = [{ kind := .text, data := d, xml := x }]) :
    androidWrap key pre el raw =
      .ok { kind := .entity, key := key, val := raw,
            all := pre ++ (el.open_ ++ [62] ++ xmlEscape raw ++ [60, 47] ++ el.tag ++ [62]) } := by
  unfold androidWrap wrapTarget
  simp [h, setData, XElem.toxml, childrenXml, XNode.toxml, bind, Except.bind, pure, Except.pure]

/-- reference `<string …><![CDATA[…]]></string>`: the new value replaces the character data verbatim; a value containing
    `]]>` cannot be written (minidom raises `ValueError`) -/
theorem android_wrap_cdata (key pre : List Nat) (el : XElem) (d x raw : List Nat)
    (h : el.children = [{ kind := .cdata, data := d, xml := x }]) :
    androidWrap key pre el raw =
      if P.isInfix cdataClose raw then .error .cdataEnd
      else .ok { kind := .entity, key := key, val := raw,
                 all := pre ++ (el.open_ ++ [62] ++ (cdataOpen ++ raw ++ cdataClose) ++ [60, 47] ++ el.tag ++ [62]) } := by
  unfold androidWrap wrapTarget
  by_cases hi : P.isInfix cdataClose raw = true
  · simp [h, setData, XElem.toxml, childrenXml, XNode.toxml, bind, Except.bind, pure, Except.pure, hi]
  · simp [h, setData, XElem.toxml, childrenXml, XNode.toxml, bind, Except.bind, pure, Except.pure, hi]

/-- reference `<string name="a"/>` / `<string name="a"></string>`: `wrap` raises (finding C16-android-empty-reference-string) -/
theorem android_wrap_empty_raises (key pre : List Nat) (el : XElem) (raw : List Nat) (h : el.children = []) :
    androidWrap key pre el raw = .error .unboundChild := by
  unfold androidWrap wrapTarget
  simp [h, bind, Except.bind]

/-- escaping is reversible for ALL raw values (re-parsing the written text node gives the raw value back) and the escaped
    text contains none of `<`, `>`, `"` -/
theorem android_escape_roundtrip (t : List Nat) : C16W.xmlUnescape (xmlEscape t) = t := by
  open C16W in
  induction t with
  | nil => rfl
  | cons c cs ih =>
    rw [xmlEscape_cons]
    by_cases h1 : c = 38
    · subst h1; simp [xmlUnescape, ih]
    · by_cases h2 : c = 60
      · subst h2; simp [xmlUnescape, ih]
      · by_cases h3 : c = 34
        · subst h3; simp [xmlUnescape, ih]
        · by_cases h4 : c = 62
          · subst h4; simp [xmlUnescape, ih]
          · simp only [beq_iff_eq, h1, h2, h3, h4, if_false, List.cons_append, List.nil_append]
            rw [xmlUnescape]
            · rw [ih]
            all_goals (intros; simp_all)

theorem android_escape_safe (t : List Nat) : ∀ c ∈ xmlEscape t, c ≠ 60 ∧ c ≠ 62 ∧ c ≠ 34 := by
  open C16W in
  induction t with
  | nil => intro c hc; simp [xmlEscape] at hc
  | cons a as ih =>
    intro c hc
    rw [xmlEscape_cons, List.mem_append] at hc
    rcases hc with hc | hc
    · by_cases h1 : a = 38
      · subst h1; simp at hc; rcases hc with rfl | rfl | rfl | rfl | rfl <;> decide
      · by_cases h2 : a = 60
        · subst h2; simp at hc; rcases hc with rfl | rfl | rfl | rfl <;> decide
        · by_cases h3 : a = 34
          · subst h3; simp at hc; rcases hc with rfl | rfl | rfl | rfl | rfl | rfl <;> decide
          · by_cases h4 : a = 62
            · subst h4; simp at hc; rcases hc with rfl | rfl | rfl | rfl <;> decide
            · simp only [beq_iff_eq, h1, h2, h3, h4, if_false, List.mem_singleton] at hc
              subst hc
              exact ⟨h2, h4, h3⟩
    · exact ih c hc

section Examples

def eK (k v : Nat) : Ent := { kind := .entity, key := [k], val := [v], all := [k, 61, v], pre := [k, 61], post := [] }
def wS (n : Nat) : Ent := { kind := .whitespace, key := [], val := List.replicate n 10, all := List.replicate n 10 }
def cM (t : Nat) : Ent := { kind := .comment, key := [t], val := [], all := [35, t] }
def jK : Ent := { kind := .junk, key := [], val := [63], all := [63] }

/-- reference `a=E ⏎ b=F ⏎ c=G ⏎`, old file `c=z ⏎ # ⏎ x=o ⏎ ? a=y` (reordered, with an obsolete
    key, a comment and junk), new data `{b: N, c: None, u: U}`:
    evaluation gives `a=y ⏎ b=N ⏎ #` ….  Here and in the other examples about `serializeEntsS`: that is the model with
    `AddRemove` replaced by its closed form, which the kernel can evaluate (`List.mergeSort` does not reduce in the kernel); it
    equals `serializeEnts` by `C16L.serializeEnts_eq_spec`. -/
example :
    serializeEntsS [eK 97 69, wS 1, eK 98 70, wS 1, eK 99 71, wS 1]
      [eK 99 122, wS 1, cM 33, wS 2, eK 120 111, wS 1, jK, eK 97 121]
      [([98], some [78]), ([99], none), ([117], some [85])]
    = [eK 97 121, wS 1, { kind := .entity, key := [98], val := [78], all := [98, 61, 78] }, wS 1, cM 33, wS 2] := by
  decide +kernel

/-- … and the closed form on the same input: entities `a` (old value) and `b` (new value), in reference order -/
example :
    (serializeEnts [eK 97 69, wS 1, eK 98 70, wS 1, eK 99 71, wS 1]
      [eK 99 122, wS 1, cM 33, wS 2, eK 120 111, wS 1, jK, eK 97 121]
      [([98], some [78]), ([99], none), ([117], some [85])]).filter Ent.isReal
    = [eK 97 121, { kind := .entity, key := [98], val := [78], all := [98, 61, 78] }] := by
  rw [serialized_entities _ _ _ (by decide)]
  decide

/-- finding C16-inc-leading-blank at the entry level: the first reference entry is not emitted, so the output starts with
    the reference's whitespace entry — a blank line, which `DefinesParser` reports as Junk -/
example : (serializeEntsS [eK 97 69, wS 1, eK 98 70, wS 1] [] [([98], some [78])]).map (·.kind)
    = [.whitespace, .entity, .whitespace] ∧
    serializeLegacy (serializeEntsS [eK 97 69, wS 1, eK 98 70, wS 1] [] [([98], some [78])]) = [10, 98, 61, 78, 10] := by
  decide +kernel

/-- `hnd` is needed: a "dict" with a repeated key is not a dict.  With `[(b, None), (b, N)]` the loop
    building `new_l10n` creates the entity while `should_placeholder`/`chosen` see the first item. -/
example :
    (serializeEntsS [eK 98 70] [] [([98], none), ([98], some [78])]).filter Ent.isReal
      = [{ kind := .entity, key := [98], val := [78], all := [98, 61, 78] }] ∧
    (refKeys [eK 98 70]).filterMap (chosen [eK 98 70] [] [([98], none), ([98], some [78])]) = [] := by
  decide +kernel

/-- the span hypotheses of `wrap_spec` are needed: `.inc` stores `(-1, -1)` for a missing value
    (`#define k` + newline + `#define j x`): wrap keeps everything up to the last character of the FILE
    (finding C16-inc-reference-without-value) -/
example :
    let s : Array Nat := #[35, 100, 101, 102, 105, 110, 101, 32, 107, 10, 35, 100, 101, 102, 105, 110, 101, 32, 106, 32, 120]
    let e : P.Entry := { kind := .entity, full := 0, s := 0, e := 9, ks := 8, ke := 9, vs := -1, ve := -1 }
    (wrap (ofEntry .inc s e) [118]).all
      = [35, 100, 101, 102, 105, 110, 101, 32, 107, 10, 35, 100, 101, 102, 105, 110, 101, 32, 106, 32, 118] := by
  decide +kernel

/-- the hypotheses of `serialize_reparses_properties_partial` hold for: reference `a=E ⏎ b=F ⏎ c=G ⏎`, old file
    `c=z ⏎ x=o ⏎ a=y ⏎` (reordered, obsolete key `x`, `b` missing), new data `{b: N w, c: None, u: U}` (value with an inner
    blank, a removal, an unknown key); the expected records are `a=y`, `b=N w` -/
example :
    ∃ t es, serializeText .properties (P.printProps [([97], [69]), ([98], [70]), ([99], [71])]).toArray
        (P.printProps [([99], [122]), ([120], [111]), ([97], [121])]).toArray
        [([98], some [78, 32, 119]), ([99], none), ([117], some [85])] = some t ∧
      P.walk .properties t.toArray = .done es ∧
      P.entitiesOf .properties t.toArray es = [P.expectedView ([97], [121]), P.expectedView ([98], [78, 32, 119])] ∧
      P.junkOf t.toArray es = [] := by
  have h := serialize_reparses_properties_partial [([97], [69]), ([98], [70]), ([99], [71])]
    [([99], [122]), ([120], [111]), ([97], [121])] [([98], some [78, 32, 119]), ([99], none), ([117], some [85])]
    (by decide) (by decide) (by decide) (by decide) (by decide) (C16R.values_ok (by decide))
  have e : C16R.expectedRecs [([97], [69]), ([98], [70]), ([99], [71])] [([99], [122]), ([120], [111]), ([97], [121])]
      [([98], some [78, 32, 119]), ([99], none), ([117], some [85])] = [([97], [121]), ([98], [78, 32, 119])] := by decide
  rw [e] at h
  exact h

/-- NEGATION WITNESS for "the old file is printed from records" — known finding C16-old-eof-comment-glued: reference
    `a=E ⏎`, old file `#!` (a comment, no final newline: `PropertiesParser.walk` yields the one Comment entry), new data
    `{a: N}`.  The comment is not followed by white space (`serialized_shape` does not apply), the output text is
    `#!a=N ⏎`, and re-parsing it gives ONE comment and no entity: the new translation is swallowed. -/
example :
    P.walk .properties #[35, 33] = .done [{ kind := .comment, full := 0, s := 0, e := 2 }] ∧
    serializeLegacy (serializeEntsS [eK 97 69, wS 1] [cM 33] [([97], some [78])]) = [35, 33, 97, 61, 78, 10] ∧
    ¬ C16R.Alt Ent.isWs (serializeEntsS [eK 97 69, wS 1] [cM 33] [([97], some [78])]) ∧
    P.walk .properties #[35, 33, 97, 61, 78, 10] =
      .done [{ kind := .comment, full := 0, s := 0, e := 5 },
             { kind := .whitespace, full := 5, s := 5, e := 6, ks := 5, ke := 6, vs := 5, ve := 6 }] := by
  refine ⟨by decide, by decide, ?_, by decide⟩
  have e : serializeEntsS [eK 97 69, wS 1] [cM 33] [([97], some [78])]
      = [cM 33, { kind := .entity, key := [97], val := [78], all := [97, 61, 78] }, wS 1] := by decide
  rw [e]
  exact fun h => absurd (C16R.hw_of_alt h rfl) (by decide)

/-- NEGATION WITNESS for "distinct keys in the old file" (`hok`): with `a=y ⏎ a=z ⏎` the dict of the old file keeps the
    LAST value (`a=z`, at the first position) while `expectedRec` looks the key up from the front -/
example :
    (serializeEntsS [eK 97 69, wS 1] [eK 97 121, wS 1, eK 97 122, wS 1] []).filter Ent.isReal = [eK 97 122] ∧
    C16R.expectedRecs [([97], [69])] [([97], [121]), ([97], [122])] [] = [([97], [121])] := by
  decide +kernel

/-- NEGATION WITNESS for "distinct keys in the reference" (`hrk`): `a=E ⏎ a=F ⏎` has ONE template entry for `a`; the
    output has one entity where `expectedRecs` lists one per reference record -/
example :
    (serializeEntsS [eK 97 69, wS 1, eK 97 70, wS 1] [] [([97], some [78])]).filter Ent.isReal
      = [{ kind := .entity, key := [97], val := [78], all := [97, 61, 78] }] ∧
    C16R.expectedRecs [([97], [69]), ([97], [70])] [] [([97], some [78])] = [([97], [78]), ([97], [78])] := by
  decide +kernel

/-- NEGATION WITNESSES for "new values are safe" (`hv`): `wrap` copies the raw value verbatim.  A value ending in a blank
    (`N␣`): the text `a=N␣⏎` re-parses with the value span 2..3, the blank is lost.  A value containing a newline
    (`N⏎x`): the text `a=N⏎x⏎` re-parses into the entity `a=N` followed by junk. -/
example : (wrap (eK 97 69) [78, 32]).all = [97, 61, 78, 32] ∧ (P.propsGetNext #[97, 61, 78, 32, 10] 0).ve = 3 := by decide +kernel
example : (wrap (eK 97 69) [78, 10, 120]).all = [97, 61, 78, 10, 120] ∧
    (P.propsGetNext #[97, 61, 78, 10, 120, 10] 0).e = 3 ∧ (P.propsGetNext #[97, 61, 78, 10, 120, 10] 4).kind = .junk := by decide +kernel

/-- `serialize_reparses_ini_partial`, non-vacuity: `[S]⏎ a=E ⏎ b=F ⏎`, old `[S]⏎ b= z ⏎ x=o ⏎` (value with a leading
    blank, obsolete key), new data `{a: N\ }` (trailing backslash and blank: fine in ini) -/
example :
    ∃ t es, serializeText .ini (C02X.printIni [83] [([97], [69]), ([98], [70])]).toArray
        (C02X.printIni [83] [([98], [32, 122]), ([120], [111])]).toArray [([97], some [78, 92, 32])] = some t ∧
      P.walk .ini t.toArray = .done es ∧
      P.entitiesOf .ini t.toArray es = [P.expectedView ([97], [78, 92, 32]), P.expectedView ([98], [32, 122])] ∧
      P.junkOf t.toArray es = [] := by
  have h := serialize_reparses_ini_partial [83] [([97], [69]), ([98], [70])] [([98], [32, 122]), ([120], [111])]
    [([97], some [78, 92, 32])] (by decide)
    (by decide) (by decide) (by decide) (by decide) (by decide)
    (C16R.values_ok (S := fun p => ∀ c ∈ p.2, c ≠ 10) (by decide))
  have e : C16R.expectedRecs [([97], [69]), ([98], [70])] [([98], [32, 122]), ([120], [111])] [([97], some [78, 92, 32])]
      = [([97], [78, 92, 32]), ([98], [32, 122])] := by decide
  rw [e] at h
  exact h

/-- NEGATION WITNESS for "no key equals the section name" (`hrk`): `IniSection.key` is the section name and shares the dict
    of `parse_resource` with the entity keys.  Reference `[a]⏎ a=E ⏎`, new data `{a: N}`: the template has ONE entry for `a`
    (the entity's placeholder, at the position of the section), the output is `a=N ⏎` — the section header is LOST.
    The real code does the same (`serialize("x.ini", "[a]\na=E\n", …, {"a": "N"}) == b"a=N\n"`), see docs/notes/NOTES-C16.md. -/
example :
    serializeLegacy (serializeEntsS [{ kind := .other, key := [97], val := [97], all := [91, 97, 93] }, wS 1, eK 97 69, wS 1] []
      [([97], some [78])]) = [97, 61, 78, 10] := by
  decide +kernel

/-- NEGATION WITNESS for "same section name in the old file": the old file's section is an older-only key that follows no
    shared key, so it goes first; the output `[O]⏎[S]⏎a=y⏎` has two headers and the entities sit under the reference's one -/
example :
    serializeLegacy (serializeEntsS [{ kind := .other, key := [83], val := [83], all := [91, 83, 93] }, wS 1, eK 97 69, wS 1]
      [{ kind := .other, key := [79], val := [79], all := [91, 79, 93] }, wS 1, eK 97 121, wS 1] [])
      = [91, 79, 93, 10, 91, 83, 93, 10, 97, 61, 121, 10] := by
  decide +kernel


def sT (k a : Nat) : Ent := { kind := .sticky, key := [k], val := [a], all := [60, k, a, 62] }

/-- `sticky_from_reference` / `sticky_kept`, non-vacuity: reference `<?r> <a r> ⏎ k=E ⏎`, old document `<?o> <a o> <b o> ⏎ k=y ⏎`
    (other declaration, other value of attribute `a`, an attribute `b` the reference does not have): the output has the
    REFERENCE's `<?r>` and `<a r>`, not `<b o>`, and the old value of `k` -/
example :
    serializeEntsS [sT 63 114, sT 97 114, wS 1, eK 107 69, wS 1] [sT 63 111, sT 97 111, sT 98 111, wS 1, eK 107 121, wS 1] []
      = [sT 63 114, sT 97 114, wS 1, eK 107 121, wS 1] := by
  decide +kernel

/-- NEGATION WITNESS for `hold` of `sticky_kept` (every old entry under the key is sticky): the old file has an obsolete
    ENTITY whose key is the key of a sticky reference entry (Android: `<string name="xmlns:a">` against the root attribute
    `xmlns:a`): the entity's placeholder wins the merge and is pruned — the reference's sticky entry is LOST.
    The real code does the same (probe `android.sticky_key_clash`). -/
example :
    serializeEntsS [sT 63 114, sT 97 114, wS 1, eK 107 69, wS 1] [sT 63 111, wS 1, eK 97 121, wS 1] []
      = [sT 63 114, wS 1] := by
  decide +kernel

/-- NEGATION WITNESS for `hkn` of `sticky_kept` (no reference Entity under the key): a reference entity `a=E` shares the key of
    the sticky entry and a new value is given for it: the new entity replaces the sticky entry -/
example :
    (serializeEntsS [eK 97 69, wS 1, sT 97 114, wS 1] [] [([97], some [78])]).map (·.kind) = [.entity, .whitespace] := by
  decide +kernel

/-- Fluent: reference comment `a⏎⏎b` is re-created as `# a⏎#⏎# b⏎` in front of the raw value -/
example : serializeComment [97, 10, 10, 98] = [35, 32, 97, 10, 35, 10, 35, 32, 98, 10] ∧
    C16W.commentContent [35, 32, 97, 10, 35, 10, 35, 32, 98, 10] = [97, 10, 10, 98] := by decide +kernel

/-- Android, finding C16-android-reference-markup: reference `<string name="k">Hello <b>E</b></string>` (a Text node and an
    Element, no CDATA): `wrap` assigns `.data` of the LAST child, an Element — nothing changes, the English text is emitted;
    with a Text node last (`Hello <b>E</b> tail`) only that node is replaced and `Hello <b>E</b>` stays -/
example :
    androidWrap [107] [] { open_ := [60, 115], tag := [115], children := [{ kind := .text, data := [72] }, { kind := .other, xml := [60, 98, 62] }] } [78]
      = .ok { kind := .entity, key := [107], val := [78], all := [60, 115, 62, 72, 60, 98, 62, 60, 47, 115, 62] } ∧
    androidWrap [107] [] { open_ := [60, 115], tag := [115], children := [{ kind := .text, data := [72] }, { kind := .other, xml := [60, 98, 62] }, { kind := .text, data := [116] }] } [78]
      = .ok { kind := .entity, key := [107], val := [78], all := [60, 115, 62, 72, 60, 98, 62, 78, 60, 47, 115, 62] } :=
  ⟨rfl, rfl⟩

/-- Android: a value that needs escaping, `a&"<` → `a&amp;&quot;&lt;` -/
example : xmlEscape [97, 38, 34, 60] = [97, 38, 97, 109, 112, 59, 38, 113, 117, 111, 116, 59, 38, 108, 116, 59] := by decide +kernel

/-- `serialize_reparses_dtd_partial`, non-vacuity: reference `a b c`, old file `c x a` (reordered, obsolete `x`, `b` missing),
    new data `{b: N w, c: None, u: U}`: expected records `a=y`, `b=N w` -/
example :
    ∃ t es, serializeText .dtd (C02X.printDtd [([97], [69]), ([98], [70]), ([99], [71])]).toArray
        (C02X.printDtd [([99], [122]), ([120], [111]), ([97], [121])]).toArray
        [([98], some [78, 32, 119]), ([99], none), ([117], some [85])] = some t ∧
      P.walk .dtd t.toArray = .done es ∧
      P.entitiesOf .dtd t.toArray es = [P.expectedView ([97], [121]), P.expectedView ([98], [78, 32, 119])] ∧
      P.junkOf t.toArray es = [] := by
  have h := serialize_reparses_dtd_partial [([97], [69]), ([98], [70]), ([99], [71])]
    [([99], [122]), ([120], [111]), ([97], [121])] [([98], some [78, 32, 119]), ([99], none), ([117], some [85])]
    (by decide) (by decide) (by decide) (by decide) (by decide) (C16R.values_ok (by decide))
  have e : C16R.expectedRecs [([97], [69]), ([98], [70]), ([99], [71])] [([99], [122]), ([120], [111]), ([97], [121])]
      [([98], some [78, 32, 119]), ([99], none), ([117], some [85])] = [([97], [121]), ([98], [78, 32, 119])] := by decide
  rw [e] at h
  exact h

/-- NEGATION WITNESS for "new values contain no `"`" — known finding C16-dtd-quote-conflict: `wrap` copies the value verbatim
    between the reference's quotes; `<!ENTITY a "x"y">` no longer matches the entity pattern -/
example :
    (wrap (C16G.entF C16G.dtdF ([97], [69])) [120, 34, 121]).all
      = [60, 33, 69, 78, 84, 73, 84, 89, 32, 97, 32, 34, 120, 34, 121, 34, 62] := by decide +kernel

/-- `serialize_reparses_inc_partial`: the hypotheses about the head are needed (finding C16-inc-leading-blank) — the old file
    starts with an OBSOLETE key: its placeholder is pruned, its newline stays in front of the first entity -/
example :
    (serializeEntsS [eK 97 69, wS 1] [eK 120 111, wS 1, eK 97 121, wS 1] []).map (·.kind) = [.whitespace, .entity, .whitespace] := by
  decide +kernel

/-- NEGATION WITNESS for "a LEADING blank of a new `.properties` value survives": `a=` + ` N` re-parses with the value span
    starting after the blank -/
example : (wrap (eK 97 69) [32, 78]).all = [97, 61, 32, 78] ∧ (P.propsGetNext #[97, 61, 32, 78, 10] 0).vs = 3 := by decide +kernel

end Examples

end C16
