/-
C19 — Lint flags every duplicate, every unparsed region and every changed ID.

Reading guide.  `f : FileIn` is one parsed source file: `f.cur` is what `parser.parse()` returned
(entities and junk, in file order, duplicates included), `f.ref` the parsed reference file
(`none` when no reference path was given or the path is not a file), `e.checks` the tuples
`checker.check(e, e)` yields for the entity `e` (a parameter: the checkers are modelled elsewhere),
`e.eq` the class of the value under `equals`.  `lintFile f` is `L10nLinter.lint_file` (results
without `path`), `f.entityResults e` what `EntityLinter.lint_entity(e)` yields, `lint files` is
`L10nLinter.lint`.  `Except.error` = the Python code raises.  The other words of the statements (`lastWithKey`,
`changed`, `f.reference`, `f.lines`, `junkResult`, `ne10`, `All2`, `fits`) are defined at the head of `Proofs/C19.lean`.
-/
import CLModel.Lint.Linter
import CLModel.Lint.Run
import CLModel.Lint.Util
import CLModel.Lint.Cli
import CLModel.Lint.Keyed
import CLModel.Proofs.C19
import CLModel.Proofs.C19Run
import CLModel.Proofs.C19Util
import CLModel.Proofs.C11Sub
import CLModel.Proofs.AddRemove
import CLModel.Proofs.C17Lint
namespace C19
open Lint Gen.Tables

/-- "error", "warning" and the message texts, as the property words them -/
def sError : Text := [101, 114, 114, 111, 114]
def sWarning : Text := [119, 97, 114, 110, 105, 110, 103]
/-- "Duplicate string with ID: " -/
def sDuplicate : Text := [68, 117, 112, 108, 105, 99, 97, 116, 101, 32, 115, 116, 114, 105, 110, 103, 32, 119, 105, 116, 104, 32, 73, 68, 58, 32]
/-- "Changes to string require a new ID: " -/
def sChanged : Text := [67, 104, 97, 110, 103, 101, 115, 32, 116, 111, 32, 115, 116, 114, 105, 110, 103, 32, 114, 101, 113, 117, 105, 114, 101, 32, 97, 32, 110, 101, 119, 32, 73, 68, 58, 32]

/-! The literals of the three results the linter builds itself are regenerated from lint/linter.py on every run; these
equalities fail to check when they change. -/

/-- The duplicate result is an *error* located at the entity (`position()`), message
    "Duplicate string with ID: <key>". -/
theorem dup_result_shape (lines : List Nat) (e : Ent) :
    dupResult lines e =
      { lineno := (position lines e 0).1, column := (position lines e 0).2, level := sError, message := sDuplicate ++ e.key } := by
  rfl

/-- The changed-ID result is a *warning* located at the entity, message "Changes to string require a new ID: <key>". -/
theorem changed_result_shape (lines : List Nat) (e : Ent) :
    changedResult lines e =
      { lineno := (position lines e 0).1, column := (position lines e 0).2, level := sWarning, message := sChanged ++ e.key } := by
  simp [changedResult, sWarning, sChanged, lintChangedLevel, lintChangedPrefix, lintChangedSuffix]

/-- The junk result is an *error* located at the start of the unparsed region; its message is
    `Junk.error_message()` (content, start and end position). -/
theorem junk_result_shape (contents : Array Nat) (lines : List Nat) (e : Ent) :
    junkResult contents lines e =
      { lineno := (position lines e 0).1, column := (position lines e 0).2, level := sError,
        message := errorMessage contents lines e } := by
  rfl

/-- `Context.linecol` is the 1-based line and column: for an offset inside the text the line is one more than the
    number of newlines before the offset, the column one more than the number of characters since the last newline. -/
theorem linecol_spec (t : List Nat) (pos : Nat) (h : pos ≤ t.length) :
    linecol (lineEnds t) (pos : Int) =
      (((1 + (t.take pos).count 10 : Nat) : Int), ((1 + ((t.take pos).reverse.takeWhile ne10).length : Nat) : Int)) := by
  open C17P Pos in
  have hk := (List.takeWhile_sublist Lint.ne10 (l := (t.take pos).reverse)).length_le
  have hl : (t.take pos).length = pos := by simp [h]
  rw [List.length_reverse, hl] at hk
  -- the linter's bisecting `linecol` is `Pos.linecol` (`lint_linecol_eq`), whose closed form is `cursor_formula`
  have e := (lint_linecol_eq t.toArray pos).trans (linecol_nat t.toArray pos)
  rw [cursor_formula t.toArray pos (by simpa using h)] at e
  rw [Option.some.inj e]
  simp only [castLC, nlEndBefore, hl]
  refine Prod.ext rfl (congrArg (fun n : Nat => ((1 + n : Nat) : Int)) ?_)
  show pos - (pos - ((t.take pos).reverse.takeWhile Lint.ne10).length) = _
  omega

/-- "at the position of the entity": for every class with spans (everything but Android) the duplicate, changed-ID and
    junk results sit at the line/column of the first character of the entity's / unparsed region's span. -/
theorem position_spec (f : FileIn) (e : Ent) (hm : e.mode ≠ .node) (hs : e.s ≤ f.contents.size) :
    position f.lines e 0 =
      (((1 + (f.contents.toList.take e.s).count 10 : Nat) : Int),
       ((1 + ((f.contents.toList.take e.s).reverse.takeWhile ne10).length : Nat) : Int)) := by
  have h := linecol_spec f.contents.toList e.s (by simpa using hs)
  unfold position FileIn.lines
  cases hmode : e.mode <;> simp_all

/-- Android objects have no spans: their position is `(0, offset)`. -/
theorem position_node (lines : List Nat) (e : Ent) (hm : e.mode = .node) (off : Int) : position lines e off = (0, off) := by
  simp [position, hm]

/-- `lint_file` returns exactly the concatenation, in file order, of what `lint_entity` yields for each
    element of the parsed file; it raises iff `lint_entity` raises for some element. -/
theorem lint_file_concat (f : FileIn) (rs : List Result) :
    lintFile f = .ok rs ↔
      ∃ rss, All2 (fun e r => f.entityResults e = .ok r) f.cur rss ∧ rs = rss.flatten :=
  lintFile_spec f rs

/-- Closed form per occurrence of an entity: the duplicate error (iff the key is counted more than once in the
    whole file), then the changed-ID warning (iff the key is in the reference and the value differs from the LAST
    reference entity with that key), then the resolved results of the format checks — nothing else. -/
theorem lint_entity_spec (f : FileIn) (e : Ent) (he : e.kind = .entity) (r : List Result) :
    f.entityResults e = .ok r ↔
      ∃ cs, lintValue f.lines e = .ok cs ∧
        r = (if keyCount f.cur e.key > 1 then [dupResult f.lines e] else []) ++
            (if changed f.reference e then [changedResult f.lines e] else []) ++ cs :=
  lintEntity_entity _ _ _ _ e he r

/-- `lint_full_entity` never raises, and its result contains the duplicate error for this occurrence
    iff the occurrence's key occurs more than once in the file. -/
theorem lint_duplicates (f : FileIn) (e : Ent) :
    ∃ r, lintFullEntity f.lines f.cur f.reference e = .ok r ∧
      (dupResult f.lines e ∈ r ↔ keyCount f.cur e.key > 1) := by
  refine ⟨_, lintFullEntity_eq _ _ _ _, ?_⟩
  have hne := changedResult_ne_dupResult f.lines e
  by_cases hc : keyCount f.cur e.key > 1 <;> by_cases hd : changed f.reference e = true <;>
    simp [hc, hd, Ne.symm hne]

/-- File level: every occurrence of a key that occurs more than once gets its duplicate error. -/
theorem lint_duplicates_reported (f : FileIn) (rs : List Result) (h : lintFile f = .ok rs)
    (e : Ent) (hm : e ∈ f.cur) (he : e.kind = .entity) (hc : keyCount f.cur e.key > 1) :
    dupResult f.lines e ∈ rs := by
  obtain ⟨r, hres, hsub⟩ := lintFile_mem h hm
  obtain ⟨cs, _, rfl⟩ := (lint_entity_spec f e he r).1 hres
  exact hsub _ (by simp [hc])

/-- Each junk element yields exactly one result — the error carrying `error_message()` at the start of
    the unparsed region — and nothing else (no duplicate, changed-ID or check results). -/
theorem lint_junk (f : FileIn) (e : Ent) (he : e.kind = .junk) :
    f.entityResults e = .ok [junkResult f.contents f.lines e] :=
  lintEntity_junk _ _ _ _ e he

/-- File level: the junk error of every junk element is among the results. -/
theorem lint_junk_reported (f : FileIn) (rs : List Result) (h : lintFile f = .ok rs)
    (e : Ent) (hm : e ∈ f.cur) (he : e.kind = .junk) : junkResult f.contents f.lines e ∈ rs := by
  obtain ⟨r, hres, hsub⟩ := lintFile_mem h hm
  rw [lint_junk f e he] at hres
  cases hres
  exact hsub _ List.mem_cons_self

/-- The results for an entity end with one result per tuple of `checker.check(e, e)`, in order, with the
    tuple's level and message and the position resolved by the entity (`checkResult`). -/
theorem lint_checks (f : FileIn) (e : Ent) (he : e.kind = .entity) (r : List Result)
    (hr : f.entityResults e = .ok r) :
    ∃ pre cs, r = pre ++ cs ∧
      All2 (fun c x => checkResult f.lines e c = .ok x ∧ x.level = c.level ∧ x.message = c.msg) e.checks cs := by
  obtain ⟨cs, hcs, rfl⟩ := (lint_entity_spec f e he r).1 hr
  refine ⟨_, cs, rfl, ?_⟩
  exact ((lintValueGo_spec f.lines e e.checks cs).1 hcs).imp (fun hx => ⟨hx, checkResult_level_msg hx⟩)

/-- File level: every check tuple of every entity shows up among the results with its level and message. -/
theorem lint_checks_reported (f : FileIn) (rs : List Result) (h : lintFile f = .ok rs)
    (e : Ent) (hm : e ∈ f.cur) (he : e.kind = .entity) (c : Check) (hc : c ∈ e.checks) :
    ∃ x ∈ rs, checkResult f.lines e c = .ok x ∧ x.level = c.level ∧ x.message = c.msg := by
  obtain ⟨r, hres, hsub⟩ := lintFile_mem h hm
  obtain ⟨pre, cs, rfl, hcs⟩ := lint_checks f e he r hres
  obtain ⟨x, hx, hR⟩ := hcs.mem_left hc
  exact ⟨x, hsub x (List.mem_append_right _ hx), hR⟩

/-- "last entity of the reference with the key": it has the key, and no later reference entity has it. -/
theorem last_with_key_spec (ref : List RefEnt) (k : Text) (x : RefEnt) :
    lastWithKey ref k = some x ↔
      ∃ pre post, ref = pre ++ x :: post ∧ x.key = k ∧ ∀ y ∈ post, y.key ≠ k :=
  Txt.reverse_find?_key_eq_some_iff RefEnt.key ref k x

/-- no reference entity has the key ⇔ there is no last one -/
theorem last_with_key_none (ref : List RefEnt) (k : Text) :
    lastWithKey ref k = none ↔ ∀ y ∈ ref, y.key ≠ k :=
  Txt.reverse_find?_key_eq_none_iff RefEnt.key ref k

/-- `lint_full_entity` never raises, and its result contains the changed-ID warning for this occurrence iff
    the key is present in the reference too and the value differs from the last reference entity with that key
    (same key is automatic: that is how the reference entity is found). -/
theorem lint_changed (f : FileIn) (e : Ent) :
    ∃ r, lintFullEntity f.lines f.cur f.reference e = .ok r ∧
      (changedResult f.lines e ∈ r ↔ ∃ x, lastWithKey f.reference e.key = some x ∧ x.eq ≠ e.eq) := by
  refine ⟨_, lintFullEntity_eq _ _ _ _, ?_⟩
  have hne := changedResult_ne_dupResult f.lines e
  have hch : changed f.reference e = true ↔ ∃ x, lastWithKey f.reference e.key = some x ∧ x.eq ≠ e.eq := by
    unfold changed
    cases lastWithKey f.reference e.key with
    | none => simp
    | some x => simp
  rw [← hch]
  by_cases hc : keyCount f.cur e.key > 1 <;> by_cases hd : changed f.reference e = true <;>
    simp [hc, hd, hne]

/-- Without a reference file (no path given, or the path is not a file) there is no changed-ID warning. -/
theorem lint_changed_no_reference (f : FileIn) (e : Ent) (h : f.ref = none) : changed f.reference e = false := by
  simp [changed, FileIn.reference, h, lastWithKey]

/-- File level: the warning of every changed occurrence is among the results. -/
theorem lint_changed_reported (f : FileIn) (rs : List Result) (h : lintFile f = .ok rs)
    (e : Ent) (hm : e ∈ f.cur) (he : e.kind = .entity) (x : RefEnt)
    (hx : lastWithKey f.reference e.key = some x) (hd : x.eq ≠ e.eq) :
    changedResult f.lines e ∈ rs := by
  obtain ⟨r, hres, hsub⟩ := lintFile_mem h hm
  obtain ⟨cs, _, rfl⟩ := (lint_entity_spec f e he r).1 hres
  have : changed f.reference e = true := by simp [changed, hx, hd]
  exact hsub _ (by simp [this])

/-- A file of entities only (no junk) with pairwise distinct keys, no check results, whose every key that
    is also in the reference has the value of the (last) reference entity: no results at all. -/
theorem lint_clean (f : FileIn) (hent : ∀ e ∈ f.cur, e.kind = .entity ∧ e.checks = [])
    (hn : (f.cur.map (·.key)).Nodup)
    (hsame : ∀ e ∈ f.cur, ∀ x, lastWithKey f.reference e.key = some x → x.eq = e.eq) :
    lintFile f = .ok [] := by
  rw [lint_file_concat]
  refine ⟨f.cur.map (fun _ => []), ?_, by simp⟩
  have key : ∀ l : List Ent, (∀ e ∈ l, e ∈ f.cur) →
      All2 (fun e r => f.entityResults e = .ok r) l (l.map (fun _ => [])) := by
    intro l
    induction l with
    | nil => intro _; trivial
    | cons e l ih =>
      intro hl
      refine ⟨?_, ih (fun x hx => hl x (List.mem_cons_of_mem _ hx))⟩
      have hm := hl e List.mem_cons_self
      obtain ⟨he, hc⟩ := hent e hm
      show f.entityResults e = .ok []
      rw [lint_entity_spec f e he]
      refine ⟨[], by simp [lintValue, hc, lintValueGo], ?_⟩
      have hk : keyCount f.cur e.key = 1 := by
        rw [keyCount, List.Nodup.count hn]
        simp only [List.mem_map, ite_eq_left_iff, not_exists, not_and]
        intro h
        exact (h e hm rfl).elim
      have hch : changed f.reference e = false := by
        unfold changed
        cases hx : lastWithKey f.reference e.key with
        | none => rfl
        | some x => simp [hsame e hm x hx]
      simp [hk, hch]
  exact key f.cur (fun _ h => h)

/-- the reference view of a current entity -/
def toRef (e : Ent) : RefEnt := { key := e.key, eq := e.eq }

/-- In particular: unique, well-formed (no junk, no check results) and identical to its reference ⇒ `[]`;
    the same without a reference. -/
theorem lint_clean_identical (f : FileIn) (hent : ∀ e ∈ f.cur, e.kind = .entity ∧ e.checks = [])
    (hn : (f.cur.map (·.key)).Nodup) (href : f.ref = some (f.cur.map toRef) ∨ f.ref = none) :
    lintFile f = .ok [] := by
  apply lint_clean f hent hn
  intro e hm x hx
  rcases href with href | href
  · have hx' : lastWithKey (f.cur.map toRef) e.key = some x := by simpa [FileIn.reference, href] using hx
    obtain ⟨hk, hmem⟩ := lastWithKey_key hx'
    obtain ⟨e', he', rfl⟩ := List.mem_map.1 hmem
    have : e' = e := by
      have hk' : e'.key = e.key := hk
      exact Txt.eq_of_nodup_map hn he' hm hk'
    subst this
    rfl
  · simp [FileIn.reference, href, lastWithKey] at hx

/-- Linting a file does not raise when every check position suits its entity (ints for every class, tuples for DTD
    entities only, a value span where the base `value_position` asserts one): the only `raise` paths of the model are
    `value_position`'s assertion and a tuple handed to a non-DTD entity; the reference lookup never fails. -/
theorem lint_total (f : FileIn) (h : ∀ e ∈ f.cur, e.kind = .entity → ∀ c ∈ e.checks, fits e c) :
    ∃ rs, lintFile f = .ok rs :=
  Lint.lintFile_total f h

/-- A path for which `getParser` finds no parser contributes nothing: the file is skipped wherever it stands
    in the list (it is not even read: the model does not look at its contents). -/
theorem lint_skips_unknown (pre post : List FileIn) (f : FileIn) (h : hasParser f.path = false) :
    lint (pre ++ f :: post) = lint (pre ++ post) := by
  induction pre with
  | nil => simp [lint, h]
  | cons g pre ih =>
    simp only [List.cons_append, lint]
    rw [ih]

/-- "a.txt", "a.properties.bak", "strings" have no parser; "x/a.properties", "strings-de.xml", "a.pot" have one -/
example : hasParser [97, 46, 116, 120, 116] = false := by decide +kernel
example : hasParser [97, 46, 112, 114, 111, 112, 101, 114, 116, 105, 101, 115, 46, 98, 97, 107] = false := by decide +kernel
example : hasParser [120, 47, 97, 46, 112, 114, 111, 112, 101, 114, 116, 105, 101, 115] = true := by decide +kernel
example : getParserName [97, 46, 112, 111, 116] = some [80, 111, 80, 97, 114, 115, 101, 114] := by decide +kernel

/-- contents "k = a\nbad\nk = b\nj = c\n": k twice (lines 1 and 3), junk on line 2, reference [k ↦ class 7, k ↦ class 2, j ↦ class 3];
    occurrences of k have classes 1 and 2: the first is changed (last reference k has class 2), the second is not. -/
def demo : FileIn :=
  { path := [97, 46, 105, 110, 105]
    contents := #[107, 32, 61, 32, 97, 10, 98, 97, 100, 10, 107, 32, 61, 32, 98, 10, 106, 32, 61, 32, 99, 10]
    cur := [ { kind := .entity, key := [107], eq := 1, mode := .ctx, s := 0, e := 5, vs := some (4, 5),
               checks := [{ level := sWarning, pos := .value 1, msg := [120] }] },
             { kind := .junk, key := [95], eq := 0, mode := .ctx, s := 6, e := 10 },
             { kind := .entity, key := [107], eq := 2, mode := .ctx, s := 10, e := 15, vs := some (14, 15) },
             { kind := .entity, key := [106], eq := 3, mode := .ctx, s := 16, e := 21, vs := some (20, 21) } ]
    ref := some [⟨[107], 7⟩, ⟨[107], 2⟩, ⟨[106], 3⟩] }

example : (lintFile demo).toOption.map (fun rs => rs.map (fun r => (r.lineno, r.column, r.level == sError))) =
    some [(1, 1, true), (1, 1, false), (1, 6, false), (2, 1, true), (3, 1, true)] := by decide +kernel

/-- "a\nb": offset 2 is line 2 column 1, offset 1 (the newline itself) is still line 1 column 2 -/
example : linecol (lineEnds [97, 10, 98]) 2 = (2, 1) ∧ linecol (lineEnds [97, 10, 98]) 1 = (1, 2) := by decide +kernel

/-- the hypotheses of `lint_clean_identical` are satisfiable by a non-trivial file -/
def cleanDemo : FileIn :=
  { path := []
    contents := #[]
    cur := [ { kind := .entity, key := [1], eq := 1, mode := .ctx, s := 0, e := 0 },
             { kind := .entity, key := [2], eq := 2, mode := .ctx, s := 0, e := 0 } ]
    ref := some [⟨[1], 1⟩, ⟨[2], 2⟩] }

example : (∀ e ∈ cleanDemo.cur, e.kind = .entity ∧ e.checks = []) ∧ (cleanDemo.cur.map (·.key)).Nodup ∧
    cleanDemo.ref = some (cleanDemo.cur.map toRef) ∧ lintFile cleanDemo = .ok [] := by
  refine ⟨?_, by decide, by decide, rfl⟩
  intro e he
  simp only [cleanDemo, List.mem_cons, List.not_mem_nil, or_false] at he
  rcases he with rfl | rfl <;> exact ⟨rfl, rfl⟩

/-- `lint_clean` needs distinct keys: the same entity twice is reported twice -/
def dupDemo : FileIn :=
  { path := []
    contents := #[]
    cur := [ { kind := .entity, key := [1], eq := 1, mode := .ctx, s := 0, e := 0 },
             { kind := .entity, key := [1], eq := 1, mode := .ctx, s := 0, e := 0 } ]
    ref := none }

example : (lintFile dupDemo).toOption.map List.length = some 2 := by decide

/-- `lint_total` needs `fits`: a (line, col) tuple handed to a non-DTD entity raises (TypeError in Python),
    an int value position on a base entity without a value span trips the assertion -/
def tupleDemo : FileIn :=
  { path := []
    contents := #[]
    cur := [ { kind := .entity, key := [1], eq := 1, mode := .ctx, s := 0, e := 0, vs := some (0, 0)
               checks := [{ level := sError, pos := .lineCol 0 0, msg := [] }] } ]
    ref := none }

def noSpanDemo : FileIn :=
  { path := []
    contents := #[]
    cur := [ { kind := .entity, key := [1], eq := 1, mode := .ctx, s := 0, e := 0, vs := none
               checks := [{ level := sError, pos := .value 0, msg := [] }] } ]
    ref := none }

example : lintFile tupleDemo = .error "TypeError" := rfl
example : lintFile noSpanDemo = .error "AssertionError" := rfl


/-! ### one run over several files (`L10nLinter.lint(files, get_reference_and_tests)`)

`fileResults f` is what ONE file contributes (nothing without a parser, else `lint_file`'s results with the path);
`lintRun` is the loop with its state (`RunState`: the `results` list and the paths the callable was asked). -/

/-- `lint` over a file list = the concatenation, in list order, of what every file yields on its own;
    it raises iff linting one of the files raises. -/
theorem lint_concat (files : List FileIn) (rs : List PResult) :
    lint files = .ok rs ↔
      ∃ rss, All2 (fun f r => fileResults f = .ok r) files rss ∧ rs = rss.flatten :=
  C19Run.lint_spec files rs

/-- every result of `lint` belongs to a listed file that has a parser, and is a result of linting that file -/
theorem lint_results_from_parsed_files (files : List FileIn) (rs : List (Text × Result)) (h : lint files = .ok rs) :
    ∀ p ∈ rs, ∃ f ∈ files, f.path = p.1 ∧ hasParser f.path = true ∧ ∃ frs, lintFile f = .ok frs ∧ p.2 ∈ frs := by
  obtain ⟨rss, hall, rfl⟩ := (lint_concat files rs).1 h
  intro p hp
  obtain ⟨a, ha, hpa⟩ := List.mem_flatten.1 hp
  obtain ⟨f, hf, hfa⟩ := hall.mem_right ha
  refine ⟨f, hf, ?_⟩
  unfold fileResults at hfa
  split at hfa
  · cases hfa; cases hpa
  · rename_i hpar
    split at hfa
    · cases hfa
    · rename_i frs hfrs
      cases hfa
      obtain ⟨r, hr, rfl⟩ := List.mem_map.1 hpa
      exact ⟨rfl, by simpa using hpar, frs, hfrs, hr⟩

/-- splitting the file list splits the results (the first failing file decides about the exception) -/
theorem lint_append (a b : List FileIn) :
    lint (a ++ b) =
      (match lint a with
       | .error x => .error x
       | .ok ra =>
         match lint b with
         | .error x => .error x
         | .ok rb => .ok (ra ++ rb)) := by
  open C19Run in
  induction a with
  | nil =>
    simp only [List.nil_append, lint]
    cases lint b <;> simp
  | cons f a ih =>
    rw [List.cons_append, lint_cons, lint_cons, ih]
    cases fileResults f with
    | error x => rfl
    | ok x =>
      cases lint a with
      | error y => rfl
      | ok y =>
        cases lint b with
        | error z => rfl
        | ok z => simp

/-- The state of a run is exactly: the results of `lint`, and one question to `get_reference_and_tests` per file
    that has a parser, in list order.  Nothing else is carried from one file to the next. -/
theorem lint_run_state (files : List FileIn) :
    lintRun files =
      (match lint files with
       | .error x => .error x
       | .ok rs => .ok { results := rs, asked := (files.filter (fun f => hasParser f.path)).map (·.path) }) := by
  unfold lintRun
  rw [C19Run.lintLoop_spec]
  cases lint files <;> simp [RunState.init]

/-- Independence: what a run reports for a path is what the file with that path yields on its own — whatever
    the other files of the run are and wherever the file stands (paths pairwise distinct). -/
theorem lint_file_independent (files : List FileIn) (rs : List PResult) (h : lint files = .ok rs)
    (hn : (files.map (·.path)).Nodup) (f : FileIn) (hf : f ∈ files) :
    fileResults f = .ok (rs.filter (fun p => p.1 == f.path)) := by
  open C19Run in
  induction files generalizing rs with
  | nil => cases hf
  | cons g files ih =>
    rw [lint_cons] at h
    cases hg : fileResults g with
    | error x => rw [hg] at h; cases h
    | ok a =>
      rw [hg] at h
      cases hr : lint files with
      | error x => rw [hr] at h; cases h
      | ok b =>
        rw [hr] at h
        cases h
        rw [List.map_cons, List.nodup_cons] at hn
        rw [List.filter_append]
        rcases List.mem_cons.1 hf with rfl | hf'
        · have h1 : a.filter (fun p => p.1 == f.path) = a :=
            List.filter_eq_self.2 (fun p hp => by simp [fileResults_path hg p hp])
          have h2 : b.filter (fun p => p.1 == f.path) = [] :=
            List.filter_eq_nil_iff.2 (fun p hp => by
              have hm := lint_paths hr p hp
              have : p.1 ≠ f.path := fun e => hn.1 (e ▸ hm)
              simpa using this)
          rw [h1, h2, List.append_nil, hg]
        · have hne : g.path ≠ f.path := fun e => hn.1 (e ▸ List.mem_map_of_mem hf')
          have h1 : a.filter (fun p => p.1 == f.path) = [] :=
            List.filter_eq_nil_iff.2 (fun p hp => by
              have := fileResults_path hg p hp
              rw [this]
              simpa using hne)
          rw [h1, List.nil_append]
          exact ih _ hr hn.2 hf'

/-- … in particular two runs that both contain the file report the same for it -/
theorem lint_file_same_in_every_run (l₁ l₂ : List FileIn) (r₁ r₂ : List PResult)
    (h₁ : lint l₁ = .ok r₁) (h₂ : lint l₂ = .ok r₂)
    (n₁ : (l₁.map (·.path)).Nodup) (n₂ : (l₂.map (·.path)).Nodup) (f : FileIn) (m₁ : f ∈ l₁) (m₂ : f ∈ l₂) :
    r₁.filter (fun p => p.1 == f.path) = r₂.filter (fun p => p.1 == f.path) := by
  have a := lint_file_independent l₁ r₁ h₁ n₁ f m₁
  have b := lint_file_independent l₂ r₂ h₂ n₂ f m₂
  exact Except.ok.inj (a.symm.trans b)

/-- reordering the files only reorders the results -/
theorem lint_order (l₁ l₂ : List FileIn) (hp : l₁.Perm l₂) (rs : List PResult) (h : lint l₁ = .ok rs) :
    ∃ rs', lint l₂ = .ok rs' ∧ rs.Perm rs' :=
  C19Run.lint_perm hp rs h

/-- Per-occurrence independence: what `lint_entity` yields for an element depends on the contents (positions), on the
    multiset of keys of the file and on the reference — not on the VALUES of the other elements, in particular not on
    whether other occurrences of the same key are changed. -/
theorem lint_occurrence_independent (f g : FileIn) (e : Ent) (hc : f.contents = g.contents)
    (hk : f.cur.map (·.key) = g.cur.map (·.key)) (hr : f.ref = g.ref) :
    f.entityResults e = g.entityResults e := by
  unfold FileIn.entityResults FileIn.lines FileIn.reference lintEntity lintFullEntity keyCount
  rw [hc, hk, hr]

/-- three occurrences of `k` on lines 1, 2, 3 with value classes 1, 2, 1 against a reference whose last `k` has class 1:
    three duplicate errors, each on ITS line, and the changed-ID warning for the second occurrence only;
    with the reference class 2 it is the first and the third that are changed -/
def occDemo (refEq : Nat) : FileIn :=
  { path := [97, 46, 105, 110, 105]
    contents := #[107, 61, 97, 10, 107, 61, 98, 10, 107, 61, 97, 10]
    cur := [ { kind := .entity, key := [107], eq := 1, mode := .ctx, s := 0, e := 3, vs := some (2, 3) },
             { kind := .entity, key := [107], eq := 2, mode := .ctx, s := 4, e := 7, vs := some (6, 7) },
             { kind := .entity, key := [107], eq := 1, mode := .ctx, s := 8, e := 11, vs := some (10, 11) } ]
    ref := some [⟨[107], 9⟩, ⟨[107], refEq⟩] }

example : (lintFile (occDemo 1)).toOption.map (fun rs => rs.map (fun r => (r.lineno, r.column, r.level == sError))) =
    some [(1, 1, true), (2, 1, true), (2, 1, false), (3, 1, true)] := by decide +kernel

example : (lintFile (occDemo 2)).toOption.map (fun rs => rs.map (fun r => (r.lineno, r.column, r.level == sError))) =
    some [(1, 1, true), (1, 1, false), (2, 1, true), (3, 1, true), (3, 1, false)] := by decide +kernel

open LintUtil in
/-- `default_reference_and_tests`: no reference, no tests, for every path -/
theorem default_reference (path : Text) : defaultGet path = (none, none) := rfl

open LintUtil in
/-- `mirror_reference_and_tests`: an entry WITHOUT a reference is skipped without shifting the others — removing it
    from the configuration (wherever it stands) changes no answer. -/
theorem mirror_skips_entries_without_reference (locale : Option Text) (exclude : Option Files)
    (pre post : List Rule) (r : Rule) (h : r.reference = none) (root path : Text) :
    mirrorGet (.mk locale (pre ++ r :: post) exclude) root path = mirrorGet (.mk locale (pre ++ post) exclude) root path :=
  C19Util.mirrorGo_insert root path pre post r h

open LintUtil in
/-- … so the answers are those of the configuration restricted to its entries that have a reference -/
theorem mirror_only_reference_entries (files : Files) (root path : Text) :
    mirrorGet files root path =
      mirrorGet (.mk files.locale (files.matchers.filter (fun r => r.reference.isSome)) files.exclude) root path :=
  C19Util.mirrorGo_filter root path files.matchers

open LintUtil in
/-- Every path covered by an entry with a reference gets exactly THAT entry's reference matcher re-rooted at the
    reference project, and that entry's tests: the first entry (in `ProjectFiles.matchers` order) whose reference
    matcher matches decides; entries before it that have no reference or do not match are passed over. -/
theorem mirror_first_covering_entry (files : Files) (root path : Text) (pre post : List Rule) (r : Rule)
    (m : PM.Matcher) (d : PM.GroupDict) (hm : files.matchers = pre ++ r :: post)
    (hpre : ∀ x ∈ pre, C19Util.Skipped path x) (hr : r.reference = some m) (hmatch : m.match path = .ok (some d)) :
    mirrorGet files root path =
      (match m.sub (reroot m root) path with
       | .error e => .error e
       | .ok ref => .ok (ref, r.test)) := by
  unfold mirrorGet
  rw [hm, C19Util.mirrorGo_skip_prefix root path pre _ hpre]
  exact C19Util.mirrorGo_hit root path r post m d hr hmatch

open LintUtil in
/-- a path that no entry with a reference covers has no reference and no tests -/
theorem mirror_no_covering_entry (files : Files) (root path : Text)
    (h : ∀ x ∈ files.matchers, C19Util.Skipped path x) : mirrorGet files root path = .ok (none, none) :=
  C19Util.mirrorGo_none root path files.matchers h

open LintUtil PM in
/-- "re-rooted": the reference path is the expansion of the entry's reference pattern with the groups captured from
    the linted path — the SAME body under the root of the reference project instead of the project's own root
    (`ref = root ++ body`; the root is dropped only when the pattern's first segment is an absolute path). -/
theorem mirror_reference_rerooted (m : Matcher) (root path ref : List Nat)
    (h : m.sub (reroot m root) path = .ok (some ref)) :
    ∃ d body, m.match path = .ok (some d) ∧
      expandTop { m.pattern with root := none } (subEnv d m.env) = .ok body ∧ (ref = root ++ body ∨ ref = body) := by
  rw [PM.sub_eq] at h
  cases hm : m.match path with
  | error e => rw [hm] at h; cases h
  | ok od =>
    rw [hm] at h
    cases od with
    | none => cases h
    | some d =>
      simp only at h
      cases he : expandTop (reroot m root).pattern (subEnv d (reroot m root).env) with
      | error e => rw [he] at h; cases h
      | ok t =>
        rw [he] at h
        cases h
        obtain ⟨body, hb, hor⟩ := C19Util.expandTop_rooted m.pattern root (subEnv d m.env) ref he
        exact ⟨d, body, rfl, hb, hor⟩

open LintUtil in
/-- `l10n_base_reference_and_tests`: `(None, None)` iff `ProjectFiles.match` finds nothing, else the l10n path (the
    first member of the tuple) and the tests of the matching entry -/
theorem l10n_base_reference (files : Files) (path : Text) :
    l10nBaseGet files path =
      (match files.matchPath path with
       | .error e => .error e
       | .ok none => .ok (none, none)
       | .ok (some r) => .ok (some r.l10n, r.tests)) := rfl

open LintUtil in
/-- `ProjectFiles.match` (the l10n-base callable): an entry without a reference whose l10n matcher does not apply to the
    path (validation mode, or it does not match) is skipped without shifting the others — removing it changes no answer. -/
theorem l10n_base_skips_entries_without_reference (b : Bool) (excl : List Nat → Except PM.PyErr Bool) (path : List Nat)
    (pre post : List Rule) (r : Rule) (h : r.reference = none) (hl : b = false ∨ r.l10n.match path = .ok none) :
    matchRules b excl path (pre ++ r :: post) = matchRules b excl path (pre ++ post) := by
  induction pre with
  | nil =>
    simp only [List.nil_append, matchRules]
    rcases hl with hb | hm
    · simp [hb, h]
    · cases b <;> simp [hm, h]
  | cons x pre ih =>
    simp only [List.cons_append, matchRules]
    rw [ih]

namespace UtilDemo
open LintUtil PM

/-- `a/*`, `b/*`, `l/*` rooted at `/p/` -/
def mA : Matcher := { pattern := { nodes := [.lit [97, 47], .star 1, .lit []], root := some [47, 112, 47], prefixLen := 1 }, env := [] }
def mB : Matcher := { pattern := { nodes := [.lit [98, 47], .star 1, .lit []], root := some [47, 112, 47], prefixLen := 1 }, env := [] }
def mL : Matcher := { pattern := { nodes := [.lit [108, 47], .star 1, .lit []], root := some [47, 112, 47], prefixLen := 1 }, env := [] }

/-- three entries: `b/*` with test "t", an l10n-only entry, `a/*` without tests -/
def files : Files :=
  .mk none [ { l10n := mL, reference := some mB, test := some [[116]] }, { l10n := mL }, { l10n := mL, reference := some mA, test := some [] } ] none

/-- `/p/a/x` → `/q/a/x` (third entry, the l10n-only entry in between shifts nothing), `/p/b/x` → `/q/b/x` with the
    first entry's tests, `/p/l/x` is covered by no reference -/
example : (mirrorGet files [47, 113, 47] [47, 112, 47, 97, 47, 120]).toOption = some (some [47, 113, 47, 97, 47, 120], some []) := by
  decide +kernel
example : (mirrorGet files [47, 113, 47] [47, 112, 47, 98, 47, 120]).toOption = some (some [47, 113, 47, 98, 47, 120], some [[116]]) := by
  decide +kernel
example : (mirrorGet files [47, 113, 47] [47, 112, 47, 108, 47, 120]).toOption = some (none, none) := by decide +kernel

end UtilDemo

/-- `a.dtd` and `a.ftl.dtd` get a DTDChecker (DTD is tried before Fluent), `a.ini` the base Checker -/
example : getCheckerCls [97, 46, 100, 116, 100] = .dtd ∧ getCheckerCls [97, 46, 102, 116, 108, 46, 100, 116, 100] = .dtd ∧
    getCheckerCls [97, 46, 105, 110, 105] = .base := by decide +kernel

/-- the generated table names all five classes, and only `DTDChecker` needs `set_reference(current)` -/
theorem checker_needs_reference (c : CheckerCls) :
    c.name.isSome = true ∧ (c.needsReference = some true ↔ c = .dtd) ∧ (c.needsReference = some false ↔ c ≠ .dtd) := by
  cases c <;> decide

open LintCli in
/-- exit status 0 ⇔ there are no results, or `-W` is not given and every result is a warning -/
theorem exit_status_zero_iff (rs : List PResult) (w : Bool) :
    exitCode rs w = 0 ↔ rs = [] ∨ (w = false ∧ ∀ r ∈ rs, r.2.level = sWarning) :=
  C19Util.exitCode_zero_iff rs w

open LintCli in
/-- exit status 1 ⇔ there is a result and (`-W` is given or some result is not a warning); there is no other status -/
theorem exit_status_one_iff (rs : List PResult) (w : Bool) :
    exitCode rs w = 1 ↔ rs ≠ [] ∧ (w = true ∨ ∃ r ∈ rs, r.2.level ≠ sWarning) :=
  C19Util.exitCode_one_iff rs w

open LintCli in
theorem exit_status_le_one (rs : List PResult) (w : Bool) : exitCode rs w ≤ 1 := C19Util.exitCode_le_one rs w

open LintCli in
/-- errors present ⇒ exit status 1, with or without `-W` -/
theorem exit_status_error (rs : List PResult) (w : Bool) (h : ∃ r ∈ rs, r.2.level = sError) : exitCode rs w = 1 := by
  obtain ⟨r, hr, hl⟩ := h
  rw [exit_status_one_iff]
  refine ⟨fun e => (by rw [e] at hr; cases hr), Or.inr ⟨r, hr, ?_⟩⟩
  rw [hl]
  decide

open LintCli in
/-- one line per result, in the order of the results; a line is `<path> (<line>:<column>): <message>` -/
theorem printed_lines (rel : Text → Text) (rs : List PResult) :
    (printed rel rs).length = rs.length ∧
      ∀ i (h : i < rs.length), (printed rel rs)[i]? =
        some (rel rs[i].1 ++ [32, 40] ++ showInt rs[i].2.lineno ++ [58] ++ showInt rs[i].2.column ++ [41, 58, 32] ++ rs[i].2.message) := by
  refine ⟨by simp [printed], ?_⟩
  intro i h
  simp [printed, h, printLine, interleave, lintCliFormatParts]

open LintCli in
/-- `main` ends in the usage error (exit status 2) exactly when `--l10n-reference` is given and does not name an
    existing directory -/
theorem main_usage_iff (inp : MainIn) :
    (∃ _h : True, main inp = .usage) ↔ truthy inp.l10nReference = true ∧ (inp.splitLocale = [] ∨ inp.isdir = false) := by
  unfold main
  constructor
  · rintro ⟨_, h⟩
    by_cases hc : (truthy inp.l10nReference && (inp.splitLocale.isEmpty || !inp.isdir)) = true
    · simp only [Bool.and_eq_true, Bool.or_eq_true, List.isEmpty_iff, Bool.not_eq_eq_eq_not, Bool.not_true] at hc
      exact hc
    · simp only [hc, Bool.false_eq_true, if_false] at h
      split at h <;> cases h
  · rintro ⟨h1, h2⟩
    refine ⟨trivial, ?_⟩
    have : (truthy inp.l10nReference && (inp.splitLocale.isEmpty || !inp.isdir)) = true := by
      simp only [Bool.and_eq_true, Bool.or_eq_true, List.isEmpty_iff, Bool.not_eq_eq_eq_not, Bool.not_true]
      exact ⟨h1, h2⟩
    simp [this]

open LintCli in
/-- The command composed: when `main` ends normally, its results are those of ONE linter run over the reference files
    that have a parser, each against the reference its `get_reference_and_tests` resolved, and the return value is
    the exit status of these results. -/
theorem main_results (inp : MainIn) (rv : Nat) (tr : List (Text × LintUtil.RefTests)) (rs : List PResult)
    (h : main inp = .done rv tr rs) :
    rv = exitCode rs inp.w ∧ ∃ fis, resolve inp inp.linted = .ok (fis, tr) ∧ lint fis = .ok rs := by
  unfold main at h
  split at h
  · cases h
  · split at h
    · cases h
    · rename_i results tr' hrun
      cases h
      exact ⟨rfl, C19Util.runFiles_eq_lint inp inp.linted _ _ hrun⟩

open LintCli in
/-- the results of the command contain, for every linted file that has a parser, the results of `lint_file` on it (the file
    as `get_reference_and_tests` resolved it: same entities) -/
theorem main_has_file_results (inp : MainIn) (rv : Nat) (tr : List (Text × LintUtil.RefTests)) (rs : List PResult)
    (h : main inp = .done rv tr rs) (f : Linted) (hf : f ∈ inp.linted) (hp : hasParser f.path = true) :
    rv = exitCode rs inp.w ∧ ∃ fi frs, fi.cur = f.cur ∧ lintFile fi = .ok frs ∧ ∀ r ∈ frs, (fi.path, r) ∈ rs := by
  obtain ⟨hrv, fis, hres, hlint⟩ := main_results inp rv tr rs h
  obtain ⟨fi, hfi, hpath, _, hcur⟩ := C19Util.exists_resolved inp inp.linted fis tr hres f hf hp
  obtain ⟨rss, hall, rfl⟩ := (lint_concat fis rs).1 hlint
  obtain ⟨a, ha, hfa⟩ := hall.mem_left hfi
  unfold fileResults at hfa
  simp only [hpath, hp, Bool.not_true, Bool.false_eq_true, if_false] at hfa
  cases hl : lintFile fi with
  | error x => rw [hl] at hfa; cases hfa
  | ok frs =>
    rw [hl] at hfa
    cases hfa
    exact ⟨hrv, fi, frs, hcur, hl, fun r hr => List.mem_flatten.2 ⟨_, ha, List.mem_map.2 ⟨_, hr, by rw [hpath]⟩⟩⟩

open LintCli in
/-- End to end: a duplicated ID in any linted file makes the command exit with status 1 (with or without `-W`,
    whatever the references are). -/
theorem main_duplicate_exits_one (inp : MainIn) (rv : Nat) (tr : List (Text × LintUtil.RefTests)) (rs : List PResult)
    (h : main inp = .done rv tr rs) (f : Linted) (hf : f ∈ inp.linted) (hp : hasParser f.path = true)
    (e : Ent) (he : e ∈ f.cur) (hk : e.kind = .entity) (hc : keyCount f.cur e.key > 1) : rv = 1 := by
  obtain ⟨hrv, fi, frs, hcur, hl, hrs⟩ := main_has_file_results inp rv tr rs h f hf hp
  rw [hrv]
  exact exit_status_error _ _ ⟨_, hrs _ (lint_duplicates_reported fi frs hl e (hcur ▸ he) hk (hcur ▸ hc)), rfl⟩

open LintCli in
/-- End to end: an unparsed region in any linted file makes the command exit with status 1. -/
theorem main_junk_exits_one (inp : MainIn) (rv : Nat) (tr : List (Text × LintUtil.RefTests)) (rs : List PResult)
    (h : main inp = .done rv tr rs) (f : Linted) (hf : f ∈ inp.linted) (hp : hasParser f.path = true)
    (e : Ent) (he : e ∈ f.cur) (hk : e.kind = .junk) : rv = 1 := by
  obtain ⟨hrv, fi, frs, hcur, hl, hrs⟩ := main_has_file_results inp rv tr rs h f hf hp
  rw [hrv]
  exact exit_status_error _ _ ⟨_, hrs _ (lint_junk_reported fi frs hl e (hcur ▸ he) hk), rfl⟩

open LintCli in
/-- warnings only: the exit status is 1 exactly with `-W` -/
theorem exit_status_warnings_only (rs : List PResult) (w : Bool) (hne : rs ≠ [])
    (hall : ∀ r ∈ rs, r.2.level = sWarning) : exitCode rs w = if w then 1 else 0 := by
  cases w with
  | false => simp only [Bool.false_eq_true, if_false]; exact (exit_status_zero_iff rs false).2 (Or.inr ⟨rfl, hall⟩)
  | true => simp only [if_true]; exact (exit_status_one_iff rs true).2 ⟨hne, Or.inl rfl⟩

open LintKeyed in
/-- `key in kt` for a key-like value: some item has that key -/
theorem keyed_contains_key (items : Items) (k : Nat) :
    contains items (.key k) = true ↔ ∃ it ∈ items, it.1 = k := by
  have key : (items.map (·.1)).contains k = true ↔ ∃ it ∈ items, it.1 = k := by
    simp only [List.contains_eq_mem, List.mem_map, decide_eq_true_eq]
  rw [← key]
  simp only [contains, AR.keyedContains_eq]
  cases (items.map (·.1)).contains k <;> simp

open LintKeyed in
/-- the fall-back to `tuple.__contains__`: an entity OBJECT is found among the items; an unhashable value never is -/
theorem keyed_contains_fallback (items : Items) (i : Nat) :
    (contains items (.item i) = true ↔ ∃ it ∈ items, it.2 = i) ∧ contains items .unhashable = false := by
  refine ⟨?_, rfl⟩
  simp [contains]

open LintKeyed in
/-- `kt[key]` is the LAST item with the key; for a key no item has the swallowed `KeyError` ends in `TypeError` -/
theorem keyed_getitem_key (items : Items) (k : Nat) :
    getItem items (.key k) =
      (match items.reverse.find? (fun it => it.1 == k) with
       | some x => .ok x
       | none => .error "TypeError") := by
  rw [← AR.keyed_getElem? (fun it : Nat × Nat => it.1)]
  simp only [getItem]
  cases hi : AR.keyedIndex (items.map (·.1)) k with
  | none => rfl
  | some i =>
    have hlt : i < items.length := by simpa using AR.keyedIndex_lt hi
    have h1 : ¬ ((i : Int) < 0) := by omega
    have h3 : ¬ ((i : Int) ≥ (items.length : Int)) := by omega
    simp only [Option.bind_some, tupleIndex, h1, if_false, false_or, h3, Int.toNat_natCast]
    rw [List.getElem?_eq_getElem hlt]

/-- two files in one run (the demo file under two names) and a file without a parser in between: the results are the
    concatenation, and `get_reference_and_tests` is asked about the two parsed files only -/
example :
    (lintRun [demo, { demo with path := [97, 46, 116, 120, 116] }, { demo with path := [98, 46, 105, 110, 105] }]).toOption.map
      (fun st => (st.results.map (fun r => (r.1, r.2.lineno)), st.asked)) =
    some ([([97, 46, 105, 110, 105], 1), ([97, 46, 105, 110, 105], 1), ([97, 46, 105, 110, 105], 1), ([97, 46, 105, 110, 105], 2),
           ([97, 46, 105, 110, 105], 3), ([98, 46, 105, 110, 105], 1), ([98, 46, 105, 110, 105], 1), ([98, 46, 105, 110, 105], 1),
           ([98, 46, 105, 110, 105], 2), ([98, 46, 105, 110, 105], 3)],
          [[97, 46, 105, 110, 105], [98, 46, 105, 110, 105]]) := by decide +kernel

/-- exit statuses: no result 0; a warning 0 without -W and 1 with it; an error 1 -/
example : LintCli.exitCode [] true = 0 ∧
    LintCli.exitCode [([], { lineno := 1, column := 1, level := sWarning, message := [] })] false = 0 ∧
    LintCli.exitCode [([], { lineno := 1, column := 1, level := sWarning, message := [] })] true = 1 ∧
    LintCli.exitCode [([], { lineno := 1, column := 1, level := sWarning, message := [] }),
                      ([], { lineno := 1, column := 1, level := sError, message := [] })] false = 1 := by decide +kernel

/-- "a (3:1): m" -/
example : LintCli.printLine [97] { lineno := 3, column := 1, level := sError, message := [109] } =
    [97, 32, 40, 51, 58, 49, 41, 58, 32, 109] := by decide +kernel

end C19
