/-
C05 — Comparison and linting always produce a report, whatever the content.
The UTF-8 decoder and the regex parsers are modelled, so the theorems are on bytes and on texts.  What external libraries
compute is a parameter or an input: expat's verdict and `html.unescape` (`Pipe.Ext`, every theorem holds for all of them), the
body `fluent.syntax` returns and the objects of the walk over the minidom tree (Fluent and Android are covered from there on).
-/
import CLModel.Checks.Base
import CLModel.Compare.Merge
import CLModel.Proofs.RxSearch
import CLModel.Proofs.C05Pipe
import CLModel.Proofs.C05Report
import CLModel.Proofs.C05Lint
import CLModel.Proofs.C05Props
import CLModel.Proofs.C05DtdPipe
import CLModel.Proofs.C05Clash
import CLModel.Proofs.C05Decode
import CLModel.Proofs.C05Ext
import CLModel.Proofs.C05Sess
namespace C05
open P Rx

/-- no regex parser can hang: for every format and every text the walk ends with a finite entry list -/
theorem parse_never_stuck (f : Fmt) (s : Array Nat) : ∃ es, walk f s = .done es :=
  let ⟨es, h, _⟩ := walk_lossless_fmt f s
  ⟨es, h⟩

/-- regex search is complete: it finds a match whenever one exists at or after the start (`Rx.search_complete`, under the name
    the harness registers for C05) -/
theorem search_complete {s : Array Nat} {r : Re} {pos q : Nat} {st : St}
    (hm : matchAt s r q = some st) (hle : pos ≤ q) (hq : q ≤ s.size) :
    ∃ q' st', search s r pos = some (q', st') ∧ q' ≤ q := Rx.search_complete hm hle hq

/-- `Checks.mochibake_match` (Proofs/BaseCheck.lean) under the name the harness registers for C05 -/
theorem mochibake_match (all : Array Nat) (i : Nat) :
    (matchAt all Gen.Pat.checks_base_mochibake i).isSome ↔ all[i]? = some 0xFFFD :=
  Checks.mochibake_match all i

/-- every entity text containing U+FFFD gets at least one "encodings" warning -/
theorem ufffd_warned (all : Array Nat) (h : 0xFFFD ∈ all.toList) :
    ∃ r ∈ Checks.baseCheck all, r.severity = .warning ∧ r.category = "encodings" :=
  Checks.baseCheck_warns all h

/-- the base check only yields warnings, each positioned at a U+FFFD inside the text -/
theorem encoding_results_wellformed (all : Array Nat) :
    ∀ r ∈ Checks.baseCheck all, r.severity = .warning ∧ r.category = "encodings" ∧ all[r.pos]? = some 0xFFFD :=
  Checks.baseCheck_results all

/-- `ContentComparer.merge` raises (TypeError while sorting) only if some skip has no span … -/
theorem merge_no_type_error (mf : Bool) (caps : Nat) (contents : List Nat) (skips : List Merge.Skip)
    (ms : List (List Nat)) (h : ∀ s ∈ skips, s.span.isSome) :
    Merge.merge mf caps contents skips ms ≠ .typeError :=
  C04M.merge_ne_typeError h

/-- … and exactly then: two or more skips, one of them span-less (Android entities; finding F5) -/
theorem merge_type_error_iff (contents : List Nat) (skips : List Merge.Skip) (ms : List (List Nat)) :
    Merge.merge true Gen.Tables.CAN_SKIP contents skips ms = .typeError ↔
      (2 ≤ skips.length ∧ ∃ s ∈ skips, s.span = none) := by
  rw [C04M.merge_typeError_iff, C04M.sortSkips_none_iff]
  exact and_iff_right ⟨rfl, by decide, rfl, rfl⟩

example : ∃ r ∈ Checks.baseCheck #[97, 0xFFFD, 98], r.pos = 1 := by decide

/-! ## The composed pipeline (CLModel/Compare/Pipeline.lean)

`Pipe.compareTexts ext fmt refText l10nText mergeOn : Except PyErr Report` is `ContentComparer.compare` (one unfiltered
`Observer`, file `a.<ext>`, locale "de", fresh process) followed by `observers.toJSON()`; `Pipe.compareFiles` is the same
for any `File` and any list of fresh observers with filters; `Pipe.lintText` is `L10nLinter.lint_file`.  They compose
the component models: `P.walk` (C01), `Hist.assign` (C18), `P.entView` (C02), `AR.addRemove`/`keyedIndex` (C20), the
loop of C03 extended by the checker call, `Checks.baseCheck` (C05) / `PropCk.check` (C06) / `Dtd.check` (C07),
`Pos.resolveCheckPos` (C17), `ObsM`/`TreeM` (C10), `Merge.merge` (C04), `Lint.lintFile` (C19).

Covered from the TEXT on: ini, inc, po (base `Checker`), properties (`PropertiesChecker`) and dtd (`DTDChecker`).
`ext : Pipe.Ext` holds the external library functions as PARAMETERS: expat's verdict per synthetic document and
`html.unescape`; every theorem below holds for EVERY `ext` — no contract on expat's line / column / message is needed:
the position arithmetic of the checker (`Dtd.errorPos`, with upstream fix f80b06f) and `DTDEntity.value_position` are
total on all integers.  Fluent and Android are covered from the external parser's output on (section below).

FULL STATEMENT (C05): `∀ ext fmt refText l10nText mergeOn, ∃ r, compareTexts ext fmt refText l10nText mergeOn = .ok r`.
It is FALSE for the code as it is: when the key of a localized entity equals the key `_junk_<n>_<a>-<b>` of a `Junk`
of the reference, `refent.equals(l10nent)` raises AttributeError (`Junk` has no `equals`) — `junk_key_clash_raises`
below is the model's witness, the harness shows it on the real code (finding F8-junk-key-clash-raise).  The theorems
on the comparison therefore carry the hypothesis `Pipe.NoJunkClashT` and are named `_partial`.  For dtd the texts must
hold Unicode scalar values (`TextOK`): `str.encode("utf-8")` raises on a lone surrogate (`surrogate_raises`); texts read
by `Parser.readFile` always satisfy this (`C05.decode_scalar`). -/

/-- what the theorems need of a text: nothing, except for `.dtd` where the checker encodes pieces of it as UTF-8 -/
def TextOK (fmt : P.Fmt) (t : Array Nat) : Prop := fmt = .dtd → C05Dtd.ScalarText t.toList

theorem stdFile_modelled (fmt : P.Fmt) : ObsM.Modelled (Pipe.stdFile fmt) := by
  intro m hmod; simp [Pipe.stdFile] at hmod

/-- `equals` and the checker of every format answer for every pair of Entities the comparison hands to them -/
theorem pairs_fmt (ext : Pipe.Ext) (fmt : P.Fmt) (file : ObsM.File) (mergeOn : Bool) (refText l10nText : Array Nat)
    (hs1 : TextOK fmt refText) (hs2 : TextOK fmt l10nText) (ref : List Pipe.PEnt) (n1 : Nat) (l10n : List Pipe.PEnt) (n2 : Nat)
    (hp1 : Pipe.parseFile ext fmt refText 0 = .ok (ref, n1)) (hp2 : Pipe.parseFile ext fmt l10nText n1 = .ok (l10n, n2))
    (hw1 : ∀ e ∈ ref, Pipe.PWf fmt e) (hw2 : ∀ e ∈ l10n, Pipe.PWf fmt e) :
    Pipe.PairsAnswered (Pipe.envOf ext fmt file mergeOn ref l10nText) ref l10n := by
  refine Pipe.pairs_text fmt _ rfl rfl ref l10n hw1 hw2 ?_
  rintro rfl
  have hsr := C05Dtd.parseFile_scalar ext refText (hs1 rfl) 0 ref n1 hp1
  exact ⟨C05Dtd.refVals_scalar ref hsr, hsr, C05Dtd.parseFile_scalar ext l10nText (hs2 rfl) n1 l10n n2 hp2⟩

/-- the checker of every format answers for every pair of Entities the comparison hands to it -/
theorem checkerOK_fmt (ext : Pipe.Ext) (fmt : P.Fmt) (file : ObsM.File) (mergeOn : Bool) (refText l10nText : Array Nat)
    (hs1 : TextOK fmt refText) (hs2 : TextOK fmt l10nText) :
    ∀ ref n1 l10n n2, Pipe.parseFile ext fmt refText 0 = .ok (ref, n1) → Pipe.parseFile ext fmt l10nText n1 = .ok (l10n, n2) →
      (∀ e ∈ ref, Pipe.PWf fmt e) → (∀ e ∈ l10n, Pipe.PWf fmt e) →
      Pipe.CheckerOK (Pipe.envOf ext fmt file mergeOn ref l10nText) ref l10n :=
  fun ref n1 l10n n2 hp1 hp2 hw1 hw2 =>
    (pairs_fmt ext fmt file mergeOn refText l10nText hs1 hs2 ref n1 l10n n2 hp1 hp2 hw1 hw2).checkerOK

/-- **compare never raises** (all texts, no bound; any file the observers can address, any list of fresh observers
    with arbitrary filters and quiet level; with or without merge staging; for dtd: EVERY expat verdict function and
    every `html.unescape`). -/
theorem compare_never_raises_partial (ext : Pipe.Ext) (fmt : P.Fmt) (file : ObsM.File) (hm : ObsM.Modelled file)
    (q : Nat) (flts : List (Option ObsM.Filter)) (refText l10nText : Array Nat) (mergeOn : Bool)
    (hs1 : TextOK fmt refText) (hs2 : TextOK fmt l10nText)
    (hnc : Pipe.NoJunkClashT ext fmt refText l10nText) :
    ∃ r, Pipe.compareFiles ext fmt file (ObsM.ObsList.init q (flts.map (ObsM.Obs.init q))) refText l10nText mergeOn = .ok r := by
  obtain ⟨ref, n1, l10n, n2, hp1, hp2, hw1, hw2, hcf⟩ :=
    Pipe.compareFiles_parsed ext fmt file refText l10nText mergeOn
  obtain ⟨obs', o, _, _, hcmp, _⟩ := Pipe.compareParsed_spec (Pipe.envOf ext fmt file mergeOn ref l10nText)
    (ObsM.ObsList.init_inv q flts) hm ref l10n (checkerOK_fmt ext fmt file mergeOn refText l10nText hs1 hs2 ref n1 l10n n2 hp1 hp2 hw1 hw2)
    (hnc ref n1 l10n n2 hp1 hp2) (fun _ => Pipe.clsOf_ne_node fmt)
  exact ⟨_, hcf _ _ _ hcmp⟩

/-- the same for the harness configuration `compareTexts` -/
theorem compareTexts_never_raises_partial (ext : Pipe.Ext) (fmt : P.Fmt) (refText l10nText : Array Nat) (mergeOn : Bool)
    (hs1 : TextOK fmt refText) (hs2 : TextOK fmt l10nText)
    (hnc : Pipe.NoJunkClashT ext fmt refText l10nText) :
    ∃ r, Pipe.compareTexts ext fmt refText l10nText mergeOn = .ok r :=
  compare_never_raises_partial ext fmt _ (stdFile_modelled fmt) 0 [none] refText l10nText mergeOn hs1 hs2 hnc

/-- a well-formed item of `toJSON()["details"]`: an error or a warning whose value is a `str` of one of the four
    message shapes (all positions are `%d`-formatted integers), or a missing/obsolete entity whose value is the key -/
def DetailWF (d : ObsM.Detail) : Prop :=
  ((d.1 = .error ∨ d.1 = .warning) ∧ ∃ t, d.2 = .data (.str t) ∧ Pipe.MsgShape t) ∨
  ((d.1 = .missingEntity ∨ d.1 = .obsoleteEntity) ∧ ∃ k, d.2 = .data (Pipe.keyData k))

/-- the item `toJSON()` shows for a well-formed notification is well formed -/
theorem detailWF_of_evWF {cat : ObsM.Cat} {f : ObsM.File} {data : ObsM.Data} (h : Pipe.EvWF (.notify cat f data))
    (rv : ObsM.Ret) : DetailWF (ObsM.detailOf cat rv data) := by
  rcases h with ⟨hc, t, rfl, hs⟩ | ⟨hc, k, rfl⟩
  · have hnf : cat.isFile = false := by rcases hc with rfl | rfl <;> rfl
    exact Or.inl ⟨by simpa [ObsM.detailOf, hnf] using hc, t, by simp [ObsM.detailOf, hnf], hs⟩
  · have hnf : cat.isFile = false := by rcases hc with rfl | rfl <;> rfl
    exact Or.inr ⟨by simpa [ObsM.detailOf, hnf] using hc, k, by simp [ObsM.detailOf, hnf]⟩

/-- the comparison core never raises and reports well-formed details, for ANY checker environment whose checker
    answers (`CheckerOK`), without a junk-key clash, and with spans to cut when merging -/
theorem parsed_never_raises (env : Pipe.Env) (hm : ObsM.Modelled env.file) (q : Nat) (flts : List (Option ObsM.Filter))
    (ref l10n : List Pipe.PEnt) (hck : Pipe.CheckerOK env ref l10n) (hnc : Pipe.NoJunkClash env.ck.kind ref l10n)
    (hsp : env.mergeOn = true → env.cls ≠ .node) :
    ∃ obs' outcome, Pipe.compareParsed env ref l10n (ObsM.ObsList.init q (flts.map (ObsM.Obs.init q))) = .ok (obs', outcome) ∧
      ∀ leaf ∈ (Pipe.reportOf obs' outcome).details, ∀ d ∈ leaf.2, DetailWF d := by
  obtain ⟨obs', outcome, evs, stats, hcmp, hreach, hwf, _⟩ :=
    Pipe.compareParsed_spec env (ObsM.ObsList.init_inv q flts) hm ref l10n hck hnc hsp
  refine ⟨obs', outcome, hcmp, ?_⟩
  intro leaf hleaf d hd
  obtain ⟨cat, f, data, rv, hev, rfl⟩ := Pipe.report_details_from_history q flts env.file hm _ obs' hreach outcome leaf hleaf d hd
  simp only [List.mem_append, List.mem_singleton] at hev
  rcases hev with hev | hev
  · exact detailWF_of_evWF (hwf _ hev) rv
  · cases hev

/-- the comparison core warns about every U+FFFD of a shared entity, for any environment whose checker yields the
    results of the base check (one unfiltered observer) -/
theorem parsed_ufffd_warned (env : Pipe.Env) (hm : ObsM.Modelled env.file) (ref l10n : List Pipe.PEnt)
    (hck : Pipe.CheckerOK env ref l10n) (hnc : Pipe.NoJunkClash env.ck.kind ref l10n)
    (hsp : env.mergeOn = true → env.cls ≠ .node)
    (hbase : ∀ r ∈ ref, ∀ l ∈ l10n, r.junk = false → (env.ck.kind ≠ .base → l.junk = false) →
      ∀ rs, Pipe.runChecker env.ck r l = .ok rs → ∀ b ∈ Pipe.runBase l, b ∈ rs) :
    ∃ obs' outcome, Pipe.compareParsed env ref l10n Pipe.stdObs = .ok (obs', outcome) ∧
      ∀ k refent l10nent, Pipe.lookup ref k = .ok refent → Pipe.lookup l10n k = .ok l10nent → 0xFFFD ∈ l10nent.all →
        ∃ leaf ∈ (Pipe.reportOf obs' outcome).details, ∃ line col : Int,
          (ObsM.Cat.warning, ObsM.DVal.data (.str (Pipe.checkMsg (Pipe.encPrefix ++ Pipe.keyText l10nent.key) line col refent.key)))
            ∈ leaf.2 := by
  obtain ⟨obs', outcome, evs, stats, hcmp, hreach, _, hall⟩ :=
    Pipe.compareParsed_spec env (ObsM.ObsList.init_inv 0 [none]) hm ref l10n hck hnc hsp
  refine ⟨obs', outcome, hcmp, ?_⟩
  intro k refent l10nent hlr hll hff
  obtain ⟨line, col, hev⟩ := C05Sess.job_ufffd_event env ref l10n evs hnc hbase hall k refent l10nent hlr hll hff
  obtain ⟨leaf, hleaf, hd⟩ := Pipe.report_has_detail env.file hm _ obs' hreach outcome .warning _
    (List.mem_append_left _ hev) (Or.inr (Or.inl rfl))
  exact ⟨leaf, hleaf, line, col, hd⟩

/-- **the report is well formed**: whatever the filters and the quiet level, every detail item is an error or a
    warning with a text message — `"<key> occurs <n> times"`, `"Parser error in en-US"`, `Junk.error_message()` with
    four integers, or `"<msg> at line <int>, column <int> for <key>"` — or a missing/obsolete key.
    (That the summary values are natural numbers holds by the type of `Report.summary`.) -/
theorem report_wellformed_partial (ext : Pipe.Ext) (fmt : P.Fmt) (file : ObsM.File) (hm : ObsM.Modelled file)
    (q : Nat) (flts : List (Option ObsM.Filter)) (refText l10nText : Array Nat) (mergeOn : Bool)
    (hs1 : TextOK fmt refText) (hs2 : TextOK fmt l10nText)
    (hnc : Pipe.NoJunkClashT ext fmt refText l10nText) (r : Pipe.Report)
    (hr : Pipe.compareFiles ext fmt file (ObsM.ObsList.init q (flts.map (ObsM.Obs.init q))) refText l10nText mergeOn = .ok r) :
    ∀ leaf ∈ r.details, ∀ d ∈ leaf.2, DetailWF d := by
  obtain ⟨ref, n1, l10n, n2, hp1, hp2, hw1, hw2, hcf⟩ :=
    Pipe.compareFiles_parsed ext fmt file refText l10nText mergeOn
  obtain ⟨obs', o, hcmp, hwf⟩ := parsed_never_raises (Pipe.envOf ext fmt file mergeOn ref l10nText) hm q flts ref l10n
    (checkerOK_fmt ext fmt file mergeOn refText l10nText hs1 hs2 ref n1 l10n n2 hp1 hp2 hw1 hw2)
    (hnc ref n1 l10n n2 hp1 hp2) (fun _ => Pipe.clsOf_ne_node fmt)
  rw [hcf _ _ _ hcmp] at hr
  cases hr
  exact hwf

/-- whatever the checker of a format yields for two Entities contains the results of the base check -/
theorem base_in_results_fmt (ext : Pipe.Ext) (fmt : P.Fmt) (file : ObsM.File) (mergeOn : Bool) (refText l10nText : Array Nat)
    (hs1 : TextOK fmt refText) (hs2 : TextOK fmt l10nText)
    (ref : List Pipe.PEnt) (n1 : Nat) (l10n : List Pipe.PEnt) (n2 : Nat)
    (hp1 : Pipe.parseFile ext fmt refText 0 = .ok (ref, n1)) (hp2 : Pipe.parseFile ext fmt l10nText n1 = .ok (l10n, n2))
    (hw1 : ∀ e ∈ ref, Pipe.PWf fmt e) (hw2 : ∀ e ∈ l10n, Pipe.PWf fmt e)
    (r l : Pipe.PEnt) (hr : r ∈ ref) (hl : l ∈ l10n) (hrj : r.junk = false) (hlj : Pipe.checkerOf fmt ≠ .base → l.junk = false)
    (rs : List Pipe.CheckRes) (h : Pipe.runChecker (Pipe.envOf ext fmt file mergeOn ref l10nText).ck r l = .ok rs) :
    ∀ b ∈ Pipe.runBase l, b ∈ rs :=
  (pairs_fmt ext fmt file mergeOn refText l10nText hs1 hs2 ref n1 l10n n2 hp1 hp2 hw1 hw2).baseIn r hr l hl hrj hlj rs h

/-- **U+FFFD is always warned, end to end**: for every key shared by the two files whose LAST localized entry's text
    (`.all`) contains U+FFFD, `toJSON()["details"]` of the finished comparison has the warning
    `"� in: <key> at line <l>, column <c> for <key>"` — the "encodings" result of the base check, which
    `PropertiesChecker.check` and `DTDChecker.check` yield first.  Uses `ufffd_warned`. -/
theorem ufffd_warned_end_to_end_partial (ext : Pipe.Ext) (fmt : P.Fmt) (refText l10nText : Array Nat) (mergeOn : Bool)
    (hs1 : TextOK fmt refText) (hs2 : TextOK fmt l10nText)
    (hnc : Pipe.NoJunkClashT ext fmt refText l10nText) :
    ∃ r ref n1 l10n n2, Pipe.compareTexts ext fmt refText l10nText mergeOn = .ok r ∧
      Pipe.parseFile ext fmt refText 0 = .ok (ref, n1) ∧ Pipe.parseFile ext fmt l10nText n1 = .ok (l10n, n2) ∧
      ∀ k refent l10nent, Pipe.lookup ref k = .ok refent → Pipe.lookup l10n k = .ok l10nent → 0xFFFD ∈ l10nent.all →
        ∃ leaf ∈ r.details, ∃ line col : Int,
          (ObsM.Cat.warning, ObsM.DVal.data (.str (Pipe.checkMsg (Pipe.encPrefix ++ Pipe.keyText l10nent.key) line col refent.key)))
            ∈ leaf.2 := by
  obtain ⟨ref, n1, l10n, n2, hp1, hp2, hw1, hw2, hcf⟩ :=
    Pipe.compareFiles_parsed ext fmt (Pipe.stdFile fmt) refText l10nText mergeOn
  have hpairs := pairs_fmt ext fmt (Pipe.stdFile fmt) mergeOn refText l10nText hs1 hs2 ref n1 l10n n2 hp1 hp2 hw1 hw2
  obtain ⟨obs', o, hcmp, hall⟩ := parsed_ufffd_warned (Pipe.envOf ext fmt (Pipe.stdFile fmt) mergeOn ref l10nText)
    (stdFile_modelled fmt) ref l10n hpairs.checkerOK (hnc ref n1 l10n n2 hp1 hp2) (fun _ => Pipe.clsOf_ne_node fmt) hpairs.baseIn
  exact ⟨_, ref, n1, l10n, n2, hcf _ _ _ hcmp, hp1, hp2, hall⟩

/-- **lint never raises** (all texts, with or without a reference file, for dtd every expat verdict function): no
    hypothesis on junk keys is needed, the linter compares an Entity with whatever the reference has under its key
    (`Entity.equals` only reads `key` and `val`, which a `Junk` has too). -/
theorem lint_never_raises (ext : Pipe.Ext) (fmt : P.Fmt) (refText : Option (Array Nat)) (curText : Array Nat)
    (hs : TextOK fmt curText) :
    ∃ rs, Pipe.lintText ext fmt refText curText = .ok rs :=
  C05Sess.ok_of_lintJob (C05Sess.lintText_eq_job ext fmt refText curText)
    (C05Sess.lintJob_ok ext (.text fmt refText curText) hs {})

/-- `getParser("a.<ext>")` is the parser class of the format (first match in the generated constructor table) -/
theorem fileName_parser :
    Lint.getParserName (Pipe.fileName .ini) = some [73, 110, 105, 80, 97, 114, 115, 101, 114] ∧
    Lint.getParserName (Pipe.fileName .inc) = some [68, 101, 102, 105, 110, 101, 115, 80, 97, 114, 115, 101, 114] ∧
    Lint.getParserName (Pipe.fileName .po) = some [80, 111, 80, 97, 114, 115, 101, 114] ∧
    Lint.getParserName (Pipe.fileName .properties) =
      some [80, 114, 111, 112, 101, 114, 116, 105, 101, 115, 80, 97, 114, 115, 101, 114] ∧
    Lint.getParserName (Pipe.fileName .dtd) = some [68, 84, 68, 80, 97, 114, 115, 101, 114] := by
  refine ⟨?_, ?_, ?_, ?_, ?_⟩ <;> decide +kernel

/-- `getChecker`: `PropertiesChecker.pattern` matches `a.properties`, `DTDChecker.pattern` matches `a.dtd` (and the
    properties pattern, tried first, does not); none of the four special checkers' patterns matches `a.ini`, `a.inc`,
    `a.po` (so `getChecker` falls through to the base `Checker`) -/
theorem fileName_checker :
    (Rx.matchAt (Pipe.fileName .properties).toArray Gen.Pat.PropertiesChecker_pattern 0).isSome = true ∧
    (Rx.matchAt (Pipe.fileName .dtd).toArray Gen.Pat.PropertiesChecker_pattern 0).isSome = false ∧
    (Rx.matchAt (Pipe.fileName .dtd).toArray Gen.Pat.DTDChecker_pattern 0).isSome = true ∧
    ∀ f, f = P.Fmt.ini ∨ f = P.Fmt.inc ∨ f = P.Fmt.po →
      (Rx.matchAt (Pipe.fileName f).toArray Gen.Pat.PropertiesChecker_pattern 0).isSome = false ∧
      (Rx.matchAt (Pipe.fileName f).toArray Gen.Pat.DTDChecker_pattern 0).isSome = false ∧
      (Rx.matchAt (Pipe.fileName f).toArray Gen.Pat.FluentChecker_pattern 0).isSome = false ∧
      (Rx.matchAt (Pipe.fileName f).toArray Gen.Pat.AndroidChecker_pattern 0).isSome = false := by
  refine ⟨by decide +kernel, by decide +kernel, by decide +kernel, ?_⟩
  intro f hf
  rcases hf with rfl | rfl | rfl <;> (refine ⟨?_, ?_, ?_, ?_⟩ <;> decide +kernel)

/-! ### non-vacuity and negation witnesses

`List.mergeSort` (inside `AR.addRemove`) is defined by well-founded recursion, which `decide` cannot unfold for more
than one key; examples with several keys are therefore obtained by INSTANTIATING the theorems on a concrete pair of
texts whose hypothesis `noClashTB` is decided, and the single-key examples are evaluated outright. -/

/-- "a=1\nb=2\n" -/
def exRef : Array Nat := #[97, 61, 49, 10, 98, 61, 50, 10]
/-- "a=�\n??\nc=3\n": `a` shared and containing U+FFFD, junk `??\n`, `c` obsolete, `b` missing -/
def exL10n : Array Nat := #[97, 61, 65533, 10, 63, 63, 10, 99, 61, 51, 10]

/-- the hypothesis holds on a text pair with junk + missing + obsolete + U+FFFD … -/
theorem ex_noClash : Pipe.NoJunkClashT default .ini exRef exL10n :=
  Pipe.noClashTB_sound _ _ _ _ (by decide +kernel)

theorem textOK_of_ne {fmt : P.Fmt} (h : fmt ≠ .dtd) (t : Array Nat) : TextOK fmt t := fun e => absurd e h

/-- … so the comparison of that pair returns a report, with and without merge staging, -/
example : ∀ m, ∃ r, Pipe.compareTexts default .ini exRef exL10n m = .ok r :=
  fun m => compareTexts_never_raises_partial default .ini _ _ m (textOK_of_ne (by simp) _) (textOK_of_ne (by simp) _) ex_noClash

def okWith {α : Type} (p : α → Bool) : Except Pipe.PyErr α → Bool
  | .ok a => p a
  | .error _ => false

/-- … the localized file parses to the entity `a` (with U+FFFD), one Junk and the entity `c`, and `a` is the last
    entry of its key (the premise of `ufffd_warned_end_to_end_partial` is satisfiable) -/
example : okWith (fun p => p.1.map (fun e => (e.junk, e.all.contains 0xFFFD)) == [(false, true), (true, false), (false, false)]
    && (match Pipe.lookup p.1 (.str [97]) with | .ok e => e.all.contains 0xFFFD | .error _ => false))
    (Pipe.parseFile default .ini exL10n 0) = true := by decide +kernel

/-- single shared key, evaluated outright: "a=1\n" against "a=�\n" gives exactly one detail, the encoding warning
    `"� in: a at line 1, column 3 for a"`, and the counters errors 0, warnings 1, changed 1 (1 word) -/
example : okWith (fun r => r.details.map (·.2) == [[(.warning, .data (.str
      [65533, 32, 105, 110, 58, 32, 97, 32, 97, 116, 32, 108, 105, 110, 101, 32, 49, 44, 32, 99, 111, 108, 117, 109, 110, 32, 51, 32, 102, 111, 114, 32, 97]))]]
    && r.summary.map (fun p => p.2.map (·.2)) == [[0, 1, 0, 0, 0, 0, 1, 1, 0, 0, 0]] && r.merge == .copyL10n)
    (Pipe.compareTexts default .ini #[97, 61, 49, 10] #[97, 61, 65533, 10] true) = true := by decide +kernel

/-- properties, evaluated outright: "a=%S\n" against "a=%d\n" with merge staging: one printf error, the entity is skipped
    and the reference entity appended (written file "\n\na=%S\n" after cutting "a=%d") -/
example : okWith (fun r => r.details.map (fun l => l.2.map (·.1)) == [[.error]]
    && (match r.merge with | .written _ => true | _ => false))
    (Pipe.compareTexts default .properties #[97, 61, 37, 83, 10] #[97, 61, 37, 100, 10] true) = true := by decide +kernel

/-- lint of the junk/obsolete/U+FFFD text against the reference: three results (changed `a`… ) never an exception -/
example : okWith (fun rs => rs.length == 3) (Pipe.lintText default .ini (some exRef) exL10n) = true := by decide +kernel

deriving instance DecidableEq for Except

/-- **negation witness for `NoJunkClashT`**: reference "abc" (one Junk, key `_junk_1_0-3`) against the localization
    "_junk_1_0-3=x": the model raises AttributeError (`Junk` has no `equals`), as the real code does. -/
theorem junk_key_clash_raises :
    Pipe.compareTexts default .ini #[97, 98, 99] #[95, 106, 117, 110, 107, 95, 49, 95, 48, 45, 51, 61, 120] false
      = .error .attributeError := by decide +kernel

/-- … and the decidable condition rejects that pair -/
example : Pipe.noClashTB default .ini #[97, 98, 99] #[95, 106, 117, 110, 107, 95, 49, 95, 48, 45, 51, 61, 120] = false := by
  decide +kernel

/-- the linter does not raise on that pair -/
example : okWith (fun _ => true)
    (Pipe.lintText default .ini (some #[97, 98, 99]) #[95, 106, 117, 110, 107, 95, 49, 95, 48, 45, 51, 61, 120]) = true := by
  decide +kernel

/-- `<!ENTITY a "x">` -/
def dtdRef : Array Nat := #[60, 33, 69, 78, 84, 73, 84, 89, 32, 97, 32, 34, 120, 34, 62]
/-- `<!ENTITY a "\ud800">`: a lone surrogate in the value (no file read by `Parser.readFile` has one) -/
def dtdSur : Array Nat := #[60, 33, 69, 78, 84, 73, 84, 89, 32, 97, 32, 34, 0xD800, 34, 62]
/-- `<!-- c -->\n<!ENTITY a "">`: an EMPTY value under a comment line -/
def dtdEmpty : Array Nat :=
  #[60, 33, 45, 45, 32, 99, 32, 45, 45, 62, 10, 60, 33, 69, 78, 84, 73, 84, 89, 32, 97, 32, 34, 34, 62]

/-- **negation witness for `TextOK`**: a lone surrogate in a shared DTD value makes `value.encode("utf-8")` raise
    inside `DTDChecker.check`, which ends the comparison -/
theorem surrogate_raises : Pipe.compareTexts default .dtd dtdRef dtdSur false = .error .unicodeEncodeError := by
  decide +kernel

example : ¬ TextOK .dtd dtdSur := by
  intro h
  have := h rfl 0xD800 (by decide)
  revert this; decide

/-- an expat that rejects EVERY document at line 3, column 7 -/
def rejectAll : Pipe.Ext := { xml := fun _ => ⟨some (3, 7, [120]), []⟩, unescape := fun t => t }

/-- the raise site of the historic IndexError (`lines[lnr - 1]` with `lines == []`: empty value, error reported beyond
    its lines; fixed by f80b06f): the position arithmetic answers `(0, 0)` … -/
example : Dtd.errorPos [] 3 7 = some (0, 0) := by decide

/-- … and the whole comparison returns a report with the xmlparse error positioned at the start of the (empty) value:
    `"x at line 2, column 14 for a"`, after the warning "can't parse en-US value" -/
example : okWith (fun r => r.details.map (fun l => l.2.map (·.1)) == [[.warning, .error]])
    (Pipe.compareTexts rejectAll .dtd dtdRef dtdEmpty false) = true := by decide +kernel

/-! ## When can a Junk key equal the key of an entry of the other file?  (`Pipe.NoJunkClashT` made concrete)

`Junk.key = "_junk_%d_%d-%d" % (junkid, start, end)`; the counter runs on from the reference to the localization, the
format is injective (C18), so two Junks of the two files never share a key: a clash needs an ENTITY whose key text is
exactly such a key.  Proofs in Proofs/C05Clash.lean. -/

/-- **two Junk objects of the two files never have the same key** (the harness relies on this to tell the known finding
    F8 from any other AttributeError on a Junk) -/
theorem junk_keys_differ (ext : Pipe.Ext) (fmt : P.Fmt) (refText l10nText : Array Nat) (ref l10n : List Pipe.PEnt) (n1 n2 : Nat)
    (hp1 : Pipe.parseFile ext fmt refText 0 = .ok (ref, n1)) (hp2 : Pipe.parseFile ext fmt l10nText n1 = .ok (l10n, n2))
    (r l : Pipe.PEnt) (hr : r ∈ ref) (hl : l ∈ l10n) (hrj : r.junk = true) (hlj : l.junk = true) : r.key ≠ l.key :=
  C05Clash.junk_keys_differ (C05Clash.parseFile_ids ext fmt refText 0 n1 ref hp1) (C05Clash.parseFile_ids ext fmt l10nText n1 n2 l10n hp2)
    r l hr hl hrj hlj

/-- **the hypothesis is decidable on the two texts, exactly**: `clashFree` parses both and looks at the shared keys -/
theorem clashFree_iff (ext : Pipe.Ext) (fmt : P.Fmt) (refText l10nText : Array Nat) :
    C05Clash.clashFree ext fmt refText l10nText = true ↔ Pipe.NoJunkClashT ext fmt refText l10nText :=
  C05Clash.clashFree_iff ext fmt refText l10nText

/-- **a syntactic sufficient condition, on each text alone, independent of the external functions**: no string id
    begins with `_junk_` (`entityKeysOK`; gettext ids are tuples: nothing to check) -/
theorem noClash_of_keys (ext : Pipe.Ext) (fmt : P.Fmt) (refText l10nText : Array Nat)
    (h1 : C05Clash.entityKeysOK fmt refText = true) (h2 : C05Clash.entityKeysOK fmt l10nText = true) :
    Pipe.NoJunkClashT ext fmt refText l10nText :=
  C05Clash.noJunkClashT_of_keys ext fmt refText l10nText h1 h2

/-- **compare never raises**, with the decidable hypothesis in place of the abstract one: all texts whose string ids
    do not begin with `_junk_` (for dtd: scalar texts), any file, any observers, with or without merge, every `ext` -/
theorem compare_never_raises (ext : Pipe.Ext) (fmt : P.Fmt) (file : ObsM.File) (hm : ObsM.Modelled file)
    (q : Nat) (flts : List (Option ObsM.Filter)) (refText l10nText : Array Nat) (mergeOn : Bool)
    (hs1 : TextOK fmt refText) (hs2 : TextOK fmt l10nText)
    (hk1 : C05Clash.entityKeysOK fmt refText = true) (hk2 : C05Clash.entityKeysOK fmt l10nText = true) :
    ∃ r, Pipe.compareFiles ext fmt file (ObsM.ObsList.init q (flts.map (ObsM.Obs.init q))) refText l10nText mergeOn = .ok r :=
  compare_never_raises_partial ext fmt file hm q flts refText l10nText mergeOn hs1 hs2 (noClash_of_keys ext fmt _ _ hk1 hk2)

/-- **gettext: compare never raises, no hypothesis at all** (keys are tuples, a Junk key is a `str`) -/
theorem compare_never_raises_po (ext : Pipe.Ext) (file : ObsM.File) (hm : ObsM.Modelled file)
    (q : Nat) (flts : List (Option ObsM.Filter)) (refText l10nText : Array Nat) (mergeOn : Bool) :
    ∃ r, Pipe.compareFiles ext .po file (ObsM.ObsList.init q (flts.map (ObsM.Obs.init q))) refText l10nText mergeOn = .ok r :=
  compare_never_raises ext .po file hm q flts refText l10nText mergeOn (textOK_of_ne (by simp) _) (textOK_of_ne (by simp) _) rfl rfl

/-- the DTD pair with the empty value: the theorems apply for EVERY expat and every `html.unescape` -/
example (ext : Pipe.Ext) (m : Bool) : ∃ r, Pipe.compareTexts ext .dtd dtdRef dtdEmpty m = .ok r :=
  compare_never_raises ext .dtd _ (stdFile_modelled .dtd) 0 [none] dtdRef dtdEmpty m
    (fun _ c hc => by revert c hc; decide) (fun _ c hc => by revert c hc; decide) (by decide +kernel) (by decide +kernel)

/-- the syntactic condition rejects the clash pair, as it must -/
example : C05Clash.entityKeysOK .ini #[95, 106, 117, 110, 107, 95, 49, 95, 48, 45, 51, 61, 120] = false := by decide +kernel

/-! ## From the BYTES of the files (`Pipe.decode` = `Parser.readFile`, Compare/Decode.lean)

`readFile` opens with encoding "utf-8", errors="replace", newline=None.  Proofs in Proofs/C05Decode.lean. -/

/-- **universal newlines**: the decoded text has no carriage return at all ("\r\n" and every lone "\r" became "\n") -/
theorem decode_no_cr (bytes : List Nat) : 13 ∉ Pipe.decode bytes := C05Dec.decode_no_cr bytes

/-- **the decoded text holds Unicode scalar values only** (no surrogate, nothing above U+10FFFF): what the DTD checker
    needs to encode pieces of it again -/
theorem decode_scalar (bytes : List Nat) : C05Dtd.ScalarText (Pipe.decode bytes) := C05Dec.decode_scalar bytes

/-- **every ill-formed byte sequence leaves a U+FFFD**: if the UTF-8 decoding of the bytes has no U+FFFD, the bytes are
    the UTF-8 encoding of that text (nothing was replaced or dropped silently) … -/
theorem no_ufffd_wellformed (bytes : List Nat) (h : 0xFFFD ∉ Pipe.utf8Decode bytes) :
    Dtd.utf8 (Pipe.utf8Decode bytes) = some bytes := C05Dec.wellformed_of_no_ufffd bytes h

/-- … and at its place: after a well-formed prefix, a rest that does not begin with the encoding of a scalar value is
    decoded to U+FFFD for its first 1 to 3 bytes (the maximal ill-formed subsequence as CPython delimits it), then the
    decoding of what follows them -/
theorem invalid_yields_ufffd (t e r : List Nat) (h : Dtd.utf8 t = some e) (hr : r ≠ [])
    (hbad : ¬ ∃ c ec tail, Dtd.utf8Char c = some ec ∧ r = ec ++ tail) :
    ∃ k, 1 ≤ k ∧ k ≤ 3 ∧ k ≤ r.length ∧ Pipe.utf8Decode (e ++ r) = t ++ 0xFFFD :: Pipe.utf8Decode (r.drop k) := by
  open C05Dec in
  rw [decode_valid_prefix t e r h]
  cases r with
  | nil => exact absurd rfl hr
  | cons b rest =>
    cases step_cases b rest with
    | @valid c ec tail hs hrr _ => exact absurd ⟨c, ec, tail, hs.utf8Char, hrr⟩ hbad
    | error k h1 h3 hk hd => exact ⟨k, h1, h3, hk, by rw [hd]⟩

/-- **decoding inverts encoding**: well-formed bytes are decoded to the text they encode -/
theorem decode_encode (t e : List Nat) (h : Dtd.utf8 t = some e) : Pipe.utf8Decode e = t := C05Dec.decode_encode t e h

theorem textOK_decode (fmt : P.Fmt) (bytes : List Nat) : TextOK fmt (Pipe.decode bytes).toArray :=
  fun _ => by simpa using decode_scalar bytes

/-- **compare never raises, from the bytes of the two files** — any byte strings (invalid UTF-8 included), every
    format with a regex parser, every expat / `html.unescape`; the hypothesis on junk keys is the only one left -/
theorem compare_never_raises_bytes_partial (ext : Pipe.Ext) (fmt : P.Fmt) (file : ObsM.File) (hm : ObsM.Modelled file)
    (q : Nat) (flts : List (Option ObsM.Filter)) (refBytes l10nBytes : List Nat) (mergeOn : Bool)
    (hnc : Pipe.NoJunkClashT ext fmt (Pipe.decode refBytes).toArray (Pipe.decode l10nBytes).toArray) :
    ∃ r, Pipe.compareBytes ext fmt file (ObsM.ObsList.init q (flts.map (ObsM.Obs.init q))) refBytes l10nBytes mergeOn = .ok r :=
  compare_never_raises_partial ext fmt file hm q flts _ _ mergeOn (textOK_decode fmt refBytes) (textOK_decode fmt l10nBytes) hnc

/-- **lint never raises, from the bytes**: no hypothesis at all -/
theorem lint_never_raises_bytes (ext : Pipe.Ext) (fmt : P.Fmt) (refBytes : Option (List Nat)) (curBytes : List Nat) :
    ∃ rs, Pipe.lintBytes ext fmt refBytes curBytes = .ok rs :=
  lint_never_raises ext fmt _ _ (textOK_decode fmt curBytes)

/-- **U+FFFD is warned, end to end from the bytes**: the report of `compareBytes` has the "� in: <key>" warning for
    every shared key whose last localized entry's text contains U+FFFD — and by `no_ufffd_wellformed` /
    `invalid_yields_ufffd` every ill-formed byte sequence inside an entry puts one there -/
theorem ufffd_warned_from_bytes_partial (ext : Pipe.Ext) (fmt : P.Fmt) (refBytes l10nBytes : List Nat) (mergeOn : Bool)
    (hnc : Pipe.NoJunkClashT ext fmt (Pipe.decode refBytes).toArray (Pipe.decode l10nBytes).toArray) :
    ∃ r ref n1 l10n n2,
      Pipe.compareBytes ext fmt (Pipe.stdFile fmt) Pipe.stdObs refBytes l10nBytes mergeOn = .ok r ∧
      Pipe.parseFile ext fmt (Pipe.decode refBytes).toArray 0 = .ok (ref, n1) ∧
      Pipe.parseFile ext fmt (Pipe.decode l10nBytes).toArray n1 = .ok (l10n, n2) ∧
      ∀ k refent l10nent, Pipe.lookup ref k = .ok refent → Pipe.lookup l10n k = .ok l10nent → 0xFFFD ∈ l10nent.all →
        ∃ leaf ∈ r.details, ∃ line col : Int,
          (ObsM.Cat.warning, ObsM.DVal.data (.str (Pipe.checkMsg (Pipe.encPrefix ++ Pipe.keyText l10nent.key) line col refent.key)))
            ∈ leaf.2 :=
  ufffd_warned_end_to_end_partial ext fmt _ _ mergeOn (textOK_decode fmt refBytes) (textOK_decode fmt l10nBytes) hnc

/-- bytes `61 3D C3 28 0D 0A` ("a=", a lead byte without continuation, "(", CR LF) decode to "a=�(\n" -/
example : Pipe.decode [0x61, 0x3D, 0xC3, 0x28, 0x0D, 0x0A] = [0x61, 0x3D, 0xFFFD, 0x28, 0x0A] := by decide +kernel

/-- a byte order mark is kept as U+FEFF (the encoding is "utf-8", not "utf-8-sig") -/
example : Pipe.decode [0xEF, 0xBB, 0xBF, 0x61] = [0xFEFF, 0x61] := by decide

/-- an encoded surrogate (ED A0 80) is three errors, never a surrogate -/
example : Pipe.decode [0xED, 0xA0, 0x80] = [0xFFFD, 0xFFFD, 0xFFFD] := by decide

/-! ## Fluent and Android: from the external parser's output on

`Pipe.compareFtl` / `Pipe.compareAndroid` take what `fluent.syntax` / `xml.dom.minidom` returned (entry kinds with spans
and the AST summary of C08's model; the objects of the walk over the DOM with the node summary of C09's model) and do
the rest: entries, junk ids, keys, `FluentChecker.check` / `AndroidChecker.check`, the comparison core, the report.
Input contract: a Message / Term of the body carries its AST (`FtlBodyOK`).  Proofs in Proofs/C05Ext.lean. -/

/-- **Fluent: compare never raises and the report is well formed**, for every text, every body `fluent.syntax` can
    return under the contract, every locale (C08.check_total), any file / observers / filters, with or without merge —
    unless a key is shared with a Junk of the other file -/
theorem compare_ftl_never_raises_partial (file : ObsM.File) (hm : ObsM.Modelled file) (q : Nat) (flts : List (Option ObsM.Filter))
    (refText l10nText : Array Nat) (refBody l10nBody : List Pipe.FtlItem) (mergeOn : Bool)
    (hb1 : C05Ext.FtlBodyOK refBody) (hb2 : C05Ext.FtlBodyOK l10nBody)
    (hnc : Pipe.NoJunkClash .fluent (Pipe.parseFtl refText refBody 0).1
      (Pipe.parseFtl l10nText l10nBody (Pipe.parseFtl refText refBody 0).2).1) :
    ∃ r, Pipe.compareFtl file (ObsM.ObsList.init q (flts.map (ObsM.Obs.init q))) l10nText refText refBody l10nBody mergeOn = .ok r ∧
      ∀ leaf ∈ r.details, ∀ d ∈ leaf.2, DetailWF d := by
  obtain ⟨_, hw1, _⟩ := C05Ext.parseFtl_spec refText refBody 0 hb1
  obtain ⟨_, hw2, _⟩ := C05Ext.parseFtl_spec l10nText l10nBody (Pipe.parseFtl refText refBody 0).2 hb2
  obtain ⟨obs', outcome, h, hwf⟩ := parsed_never_raises (Pipe.ftlEnv file mergeOn l10nText) hm q flts _ _
    (C05Ext.pairs_fluent _ rfl rfl _ _ hw1 hw2).checkerOK hnc (fun _ => by simp [Pipe.ftlEnv])
  exact ⟨_, by simp only [Pipe.compareFtl, Pipe.compareFtlP, h], hwf⟩

/-- the junk-key hypothesis follows from a contract on the ids: no Message / Term key begins with `_junk_` (Fluent
    identifiers begin with a letter, Term keys with `-`) -/
theorem ftl_noClash_of_keys (refText l10nText : Array Nat) (refBody l10nBody : List Pipe.FtlItem)
    (hb1 : C05Ext.FtlBodyOK refBody) (hb2 : C05Ext.FtlBodyOK l10nBody)
    (hk1 : C05Clash.NoJunkLike (Pipe.parseFtl refText refBody 0).1)
    (hk2 : C05Clash.NoJunkLike (Pipe.parseFtl l10nText l10nBody (Pipe.parseFtl refText refBody 0).2).1) :
    Pipe.NoJunkClash .fluent (Pipe.parseFtl refText refBody 0).1
      (Pipe.parseFtl l10nText l10nBody (Pipe.parseFtl refText refBody 0).2).1 := by
  obtain ⟨_, _, hi1⟩ := C05Ext.parseFtl_spec refText refBody 0 hb1
  obtain ⟨_, _, hi2⟩ := C05Ext.parseFtl_spec l10nText l10nBody (Pipe.parseFtl refText refBody 0).2 hb2
  exact C05Clash.noJunkClash_of_keys hi1 hi2 hk1 hk2 _

/-- **Fluent: U+FFFD is warned, end to end** -/
theorem ufffd_warned_ftl_partial (refText l10nText : Array Nat) (refBody l10nBody : List Pipe.FtlItem) (mergeOn : Bool)
    (hb1 : C05Ext.FtlBodyOK refBody) (hb2 : C05Ext.FtlBodyOK l10nBody)
    (hnc : Pipe.NoJunkClash .fluent (Pipe.parseFtl refText refBody 0).1
      (Pipe.parseFtl l10nText l10nBody (Pipe.parseFtl refText refBody 0).2).1) :
    ∃ r, Pipe.compareFtl (Pipe.fileNamed Pipe.ftlFileName) Pipe.stdObs l10nText refText refBody l10nBody mergeOn = .ok r ∧
      ∀ k refent l10nent, Pipe.lookup (Pipe.parseFtl refText refBody 0).1 k = .ok refent →
        Pipe.lookup (Pipe.parseFtl l10nText l10nBody (Pipe.parseFtl refText refBody 0).2).1 k = .ok l10nent →
        0xFFFD ∈ l10nent.all →
        ∃ leaf ∈ r.details, ∃ line col : Int,
          (ObsM.Cat.warning, ObsM.DVal.data (.str (Pipe.checkMsg (Pipe.encPrefix ++ Pipe.keyText l10nent.key) line col refent.key)))
            ∈ leaf.2 := by
  have hm : ObsM.Modelled (Pipe.fileNamed Pipe.ftlFileName) := by intro m hmod; simp [Pipe.fileNamed] at hmod
  obtain ⟨_, hw1, _⟩ := C05Ext.parseFtl_spec refText refBody 0 hb1
  obtain ⟨_, hw2, _⟩ := C05Ext.parseFtl_spec l10nText l10nBody (Pipe.parseFtl refText refBody 0).2 hb2
  have hpairs := C05Ext.pairs_fluent (Pipe.ftlEnv (Pipe.fileNamed Pipe.ftlFileName) mergeOn l10nText) rfl rfl _ _ hw1 hw2
  obtain ⟨obs', outcome, h, hall⟩ := parsed_ufffd_warned _ hm _ _ hpairs.checkerOK hnc (fun _ => by simp [Pipe.ftlEnv]) hpairs.baseIn
  exact ⟨_, by simp only [Pipe.compareFtl, Pipe.compareFtlP, h], hall⟩

/-- **Android: compare never raises and the report is well formed WITHOUT merge staging**, for every list of objects
    the walk over the DOM can yield, any file / observers / filters — unless a key is shared with an XMLJunk of the
    other file.  With merge staging the statement is false: known finding F5-android-no-spans-raise
    (`android_merge_raises`). -/
theorem compare_android_never_raises_partial (file : ObsM.File) (hm : ObsM.Modelled file) (q : Nat)
    (flts : List (Option ObsM.Filter)) (l10nText : Array Nat) (refItems l10nItems : List Pipe.AItem)
    (hnc : Pipe.NoJunkClash .android (Pipe.parseAndroid refItems 0).1
      (Pipe.parseAndroid l10nItems (Pipe.parseAndroid refItems 0).2).1) :
    ∃ r, Pipe.compareAndroid file (ObsM.ObsList.init q (flts.map (ObsM.Obs.init q))) l10nText refItems l10nItems false = .ok r ∧
      ∀ leaf ∈ r.details, ∀ d ∈ leaf.2, DetailWF d := by
  obtain ⟨_, hw1, _⟩ := C05Ext.parseAndroid_spec refItems 0
  obtain ⟨_, hw2, _⟩ := C05Ext.parseAndroid_spec l10nItems (Pipe.parseAndroid refItems 0).2
  obtain ⟨obs', outcome, h, hwf⟩ := parsed_never_raises (Pipe.androidEnv file false l10nText) hm q flts _ _
    (C05Ext.pairs_android _ rfl rfl _ _ hw1 hw2).checkerOK hnc (fun h => by simp [Pipe.androidEnv] at h)
  exact ⟨_, by simp only [Pipe.compareAndroid, h], hwf⟩

/-- **Android: U+FFFD is warned, end to end** (without merge staging) -/
theorem ufffd_warned_android_partial (l10nText : Array Nat) (refItems l10nItems : List Pipe.AItem)
    (hnc : Pipe.NoJunkClash .android (Pipe.parseAndroid refItems 0).1
      (Pipe.parseAndroid l10nItems (Pipe.parseAndroid refItems 0).2).1) :
    ∃ r, Pipe.compareAndroid (Pipe.fileNamed Pipe.androidFileName) Pipe.stdObs l10nText refItems l10nItems false = .ok r ∧
      ∀ k refent l10nent, Pipe.lookup (Pipe.parseAndroid refItems 0).1 k = .ok refent →
        Pipe.lookup (Pipe.parseAndroid l10nItems (Pipe.parseAndroid refItems 0).2).1 k = .ok l10nent →
        0xFFFD ∈ l10nent.all →
        ∃ leaf ∈ r.details, ∃ line col : Int,
          (ObsM.Cat.warning, ObsM.DVal.data (.str (Pipe.checkMsg (Pipe.encPrefix ++ Pipe.keyText l10nent.key) line col refent.key)))
            ∈ leaf.2 := by
  have hm : ObsM.Modelled (Pipe.fileNamed Pipe.androidFileName) := by intro m hmod; simp [Pipe.fileNamed] at hmod
  obtain ⟨_, hw1, _⟩ := C05Ext.parseAndroid_spec refItems 0
  obtain ⟨_, hw2, _⟩ := C05Ext.parseAndroid_spec l10nItems (Pipe.parseAndroid refItems 0).2
  have hpairs := C05Ext.pairs_android (Pipe.androidEnv (Pipe.fileNamed Pipe.androidFileName) false l10nText) rfl rfl _ _ hw1 hw2
  obtain ⟨obs', outcome, h, hall⟩ := parsed_ufffd_warned _ hm _ _ hpairs.checkerOK hnc (fun h => by simp [Pipe.androidEnv] at h)
    hpairs.baseIn
  exact ⟨_, by simp only [Pipe.compareAndroid, h], hall⟩

/-- the junk-key hypothesis for Android from the `name` attributes: none begins with `_junk_` -/
theorem android_noClash_of_keys (refItems l10nItems : List Pipe.AItem)
    (hk1 : C05Clash.NoJunkLike (Pipe.parseAndroid refItems 0).1)
    (hk2 : C05Clash.NoJunkLike (Pipe.parseAndroid l10nItems (Pipe.parseAndroid refItems 0).2).1) :
    Pipe.NoJunkClash .android (Pipe.parseAndroid refItems 0).1
      (Pipe.parseAndroid l10nItems (Pipe.parseAndroid refItems 0).2).1 := by
  obtain ⟨_, _, hi1⟩ := C05Ext.parseAndroid_spec refItems 0
  obtain ⟨_, _, hi2⟩ := C05Ext.parseAndroid_spec l10nItems (Pipe.parseAndroid refItems 0).2
  exact C05Clash.noJunkClash_of_keys hi1 hi2 hk1 hk2 _

/-- **negation witness (known finding F5-android-no-spans-raise)**: with merge staging, two localized AndroidEntities
    collected in `skips` (each has a check error; their `span` is `(None, None)`) make
    `skips.sort(key=lambda s: s.span[0])` compare `None` with `None`: the merge call of the model raises TypeError,
    whatever the file contents and the reference.  (A whole-comparison instance needs two keys, which `decide` cannot
    evaluate — see above; the harness shows it on the real code.) -/
theorem android_merge_raises (file : ObsM.File) (l10nText : Array Nat) (ref : List Pipe.PEnt) (a b : Pipe.PEnt)
    (ha : a.junk = false) (hb : b.junk = false) (hka : a.key ∈ ref.map (·.key)) (hkb : b.key ∈ ref.map (·.key)) :
    Pipe.doMerge (Pipe.androidEnv file true l10nText) ref [] [a, b] = .error .typeError := by
  obtain ⟨ta, hta⟩ := Pipe.refAllOf_ok ref a.key hka
  obtain ⟨tb, htb⟩ := Pipe.refAllOf_ok ref b.key hkb
  simp [Pipe.doMerge, Pipe.androidEnv, Pipe.mapE, Pipe.mkSkip, Pipe.spanOf, ha, hb, hta, htb, Merge.merge, Merge.sortSkips,
    Merge.hasCap, Gen.Tables.cap_android, Gen.Tables.CAN_NONE, Gen.Tables.CAN_COPY, Gen.Tables.CAN_SKIP]

/-- **Android: lint never raises**, no hypothesis: for every list of objects the walk can yield, with or without a
    reference (AndroidEntity / XMLJunk positions are `(0, offset)`, `Entity.equals` reads key and val only) -/
theorem lint_android_never_raises (refItems : Option (List Pipe.AItem)) (curText : Array Nat) (curItems : List Pipe.AItem) :
    ∃ rs, Pipe.lintAndroid refItems curText curItems = .ok rs :=
  C05Sess.ok_of_lintJob (C05Sess.lintAndroid_eq_job refItems curText curItems)
    (C05Sess.lintJob_ok default (.android refItems curText curItems) trivial {})

/-- **Fluent: lint never raises** under the input contract, unless a FluentEntity shares its key with a Junk of the
    reference (`lintJunkClash`, decidable: `current_entity.equals(reference_entity)` reads `other.entry`) -/
theorem lint_ftl_never_raises_partial (refT : Option (Array Nat × List Pipe.FtlItem)) (curText : Array Nat)
    (curBody : List Pipe.FtlItem) (hb : C05Ext.FtlBodyOK curBody)
    (hclash : ∀ t body, refT = some (t, body) →
      Pipe.lintJunkClash .fluent (Pipe.parseFtl t body 0).1 (Pipe.parseFtl curText curBody (Pipe.parseFtl t body 0).2).1 = false) :
    ∃ rs, Pipe.lintFtl refT curText curBody = .ok rs :=
  C05Sess.ok_of_lintJob (C05Sess.lintFtl_eq_job refT curText curBody)
    (C05Sess.lintJob_ok_at default (.ftl refT curText curBody) {} ⟨hb, hclash⟩)

theorem notify_total (file : ObsM.File) (hm : ObsM.Modelled file) (q : Nat) (flts : List (Option ObsM.Filter))
    (cat : ObsM.Cat) (d : ObsM.Data) :
    ∃ p, (ObsM.ObsList.init q (flts.map (ObsM.Obs.init q))).notify cat file d = .ok p := by
  obtain ⟨l', h⟩ := ObsM.Plan.exec_total (emb := id)
    (p := ObsM.Plan.tell (ObsM.ObsList.init q (flts.map (ObsM.Obs.init q))).filters cat file d)
    (ObsM.ObsList.init_inv q flts) (fun ev hev => by cases List.mem_singleton.1 hev; exact hm) rfl
  rw [ObsM.Plan.exec_tell] at h
  cases hn : (ObsM.ObsList.init q (flts.map (ObsM.Obs.init q))).notify cat file d with
  | error e => rw [hn] at h; cases h
  | ok p => exact ⟨p, rfl⟩

/-- **`ContentComparer.remove` never raises** (any file the observers can address, any filters) -/
theorem remove_never_raises (file : ObsM.File) (hm : ObsM.Modelled file) (q : Nat) (flts : List (Option ObsM.Filter)) (mergeOn : Bool) :
    ∃ r, Pipe.removeFile file (ObsM.ObsList.init q (flts.map (ObsM.Obs.init q))) mergeOn = .ok r := by
  obtain ⟨p, hp⟩ := notify_total file hm q flts .obsoleteFile .none
  unfold Pipe.removeFile
  simp only [hp]
  exact ⟨_, rfl⟩

/-- **`ContentComparer.add` never raises** for every text of a format with a regex parser, any file, any filters,
    every `ext`: the `try … except Exception` around `readFile` / `parse` is never needed -/
theorem add_never_raises (ext : Pipe.Ext) (fmt : P.Fmt) (file : ObsM.File) (hm : ObsM.Modelled file) (q : Nat)
    (flts : List (Option ObsM.Filter)) (refText : Array Nat) (mergeOn : Bool) :
    ∃ r, Pipe.addFile ext fmt file (ObsM.ObsList.init q (flts.map (ObsM.Obs.init q))) refText mergeOn = .ok r := by
  obtain ⟨p, hp⟩ := notify_total file hm q flts .missingFile .none
  obtain ⟨ents, n, hpf, _⟩ := Pipe.parseFile_ok ext fmt refText 0
  unfold Pipe.addFile
  simp only [hp, hpf]
  split <;> exact ⟨_, rfl⟩

/-- **Fluent, when the external parser RAISES** (e.g. RecursionError on ~200 nested placeables): `lint_file` reports
    the one error entry (line 1, column 1, level "error", `str(e)`), whichever file made the parser raise … -/
theorem lint_ftl_parser_raises (t : Array Nat) (name : String) (msg : Pipe.Text) (curText : Array Nat) (cur : Pipe.FtlParse) :
    Pipe.lintFtlP (some (t, .raises name msg)) curText cur = .ok [Pipe.lintParseError msg] ∧
    Pipe.lintFtlP none curText (.raises name msg) = .ok [Pipe.lintParseError msg] ∧
    ∀ rb, Pipe.lintFtlP (some (t, .body rb)) curText (.raises name msg) = .ok [Pipe.lintParseError msg] :=
  ⟨rfl, rfl, fun _ => rfl⟩

/-- … and `compare` reports it as an "error" detail — for the reference on `ref_file` (upstream fix d91dd73 put `parse()` of
    the reference inside the `try`), for the localization on `l10n` — and then neither merges nor counts -/
theorem compare_ftl_parser_raises (refFile file : ObsM.File) (hmr : ObsM.Modelled refFile) (hm : ObsM.Modelled file) (q : Nat)
    (flts : List (Option ObsM.Filter)) (refText l10nText : Array Nat) (name : String) (msg : Pipe.Text) (mergeOn : Bool) :
    (∀ l10n, ∃ r, Pipe.compareFtlP refFile file (ObsM.ObsList.init q (flts.map (ObsM.Obs.init q))) l10nText refText
      (.raises name msg) l10n mergeOn = .ok r ∧ r.merge = .nothing) ∧
    (∀ refBody, ∃ r, Pipe.compareFtlP refFile file (ObsM.ObsList.init q (flts.map (ObsM.Obs.init q))) l10nText refText
      (.body refBody) (.raises name msg) mergeOn = .ok r ∧ r.merge = .nothing) := by
  obtain ⟨p1, hp1⟩ := notify_total refFile hmr q flts .error (.str msg)
  obtain ⟨p2, hp2⟩ := notify_total file hm q flts .error (.str msg)
  constructor
  · intro l10n
    refine ⟨Pipe.reportOf p1.1 .nothing, ?_, rfl⟩
    simp only [Pipe.compareFtlP, hp1]
  · intro refBody
    refine ⟨Pipe.reportOf p2.1 .nothing, ?_, rfl⟩
    simp only [Pipe.compareFtlP, hp2]

/-! ## Sessions: ONE `ContentComparer` / ONE `L10nLinter` over a SEQUENCE of files (CLModel/Compare/PipeSession.lean)

`compareProjects` creates one `ContentComparer` and calls `compare` for every file of every locale; `L10nLinter.lint`
calls `lint_file` for every path.  `Pipe.compareSession ext jobs st` is that loop: the state `st` threaded through the jobs
holds the comparer's observers and the junk counters (`Junk.junkid`, `XMLJunk.junkid`) — and nothing else.  The checker is
a per-FILE value: `Pipe.Job.checker ext j ref = fileChecker ext (class by file name) j.file ref` is `getChecker(l10n)` +
`set_reference(ref_entities)` evaluated inside the call for job `j`; it is no component of the state.

The theorems below say that what C05 promises for a file holds for EVERY job of EVERY session, wherever the job stands:
no raise, well-formed details, and the encoding warning for every shared string with U+FFFD — in the details of THAT file.
A change of the code that lets a checker (or data a checker derived from one file: scan offsets, a memo of entities)
survive into the next `compare` call is outside this model: the correspondence `c05.session` / `c05.lintsession` breaks,
and the execution oracle of the session stream shows the file whose warning is lost.

Hypotheses, all on the single job (`C05Sess.JobOK`, independent of the position in the session and of the counters): the
ones of the one-comparison theorems — dtd texts hold scalar values, a Fluent body carries its ASTs, no string id begins
with `_junk_` (F8), no merge staging for Android (F5).  For the statements about `toJSON()`: the paths of the files are
not prefixes of each other (`C05Sess.PrefixFree`; C10's hypothesis, witness `C10.prefix_case_witness`). -/

theorem walk_total : ∀ (fmt : P.Fmt) (s : Array Nat), ∃ es, P.walk fmt s = .done es := fun fmt s => parse_never_stuck fmt s

/-- **a session never raises**: every `compare` call of one comparer returns, for every list of covered jobs (text of the
    five regex formats, Fluent / Android from the parser's output), any fresh observers with any filters and quiet level,
    and ANY value of the junk counters at the start (whatever the process did before) -/
theorem session_never_raises_partial (ext : Pipe.Ext) (jobs : List Pipe.Job) (hok : ∀ j ∈ jobs, C05Sess.JobOK j)
    (q : Nat) (flts : List (Option ObsM.Filter)) (ids : Pipe.JunkIds) :
    ∃ st os, Pipe.compareSession ext jobs { obs := ObsM.ObsList.init q (flts.map (ObsM.Obs.init q)), ids := ids } = .ok (st, os) := by
  obtain ⟨st, os, _, h, _⟩ := C05Sess.session_spec ext jobs
    { obs := ObsM.ObsList.init q (flts.map (ObsM.Obs.init q)), ids := ids } (ObsM.ObsList.init_inv q flts) hok
  exact ⟨st, os, h⟩

theorem sess_files_mem {jobs : List Pipe.Job} {H : List ObsM.Ev} (h : ∀ ev ∈ H, ∃ j ∈ jobs, ev.file = j.file) :
    ∀ ev ∈ H, ev.file ∈ jobs.map (·.file) := by
  intro ev hev
  obtain ⟨j, hj, hf⟩ := h ev hev
  exact List.mem_map.2 ⟨j, hj, hf.symm⟩

theorem sess_files_modelled {jobs : List Pipe.Job} (hok : ∀ j ∈ jobs, C05Sess.JobOK j) :
    ∀ f ∈ jobs.map (·.file), ObsM.Modelled f := by
  intro f hf
  obtain ⟨j, hj, rfl⟩ := List.mem_map.1 hf
  exact (hok j hj).modelled

/-- **U+FFFD is warned in EVERY job of EVERY session**: one comparer (`ContentComparer()` + one `Observer()`, fresh
    process) compares the jobs in order.  For every job `j`, wherever it stands (`jobs = pre ++ j :: post`), with `ref` /
    `l10n` the entity lists it parses at the counters the jobs before it left: every key shared by its two files whose
    last localized entry's text contains U+FFFD has the warning `"� in: <key> at line l, column c for <key>"` in
    `toJSON()["details"]` after the session, in the leaf whose path is the path of `j.file` — whatever the other files
    contain, before or after, same format or not, same keys or not. -/
theorem ufffd_warned_in_every_job (ext : Pipe.Ext) (jobs : List Pipe.Job) (hok : ∀ j ∈ jobs, C05Sess.JobOK j)
    (hpf : C05Sess.PrefixFree (jobs.map (·.file))) :
    ∃ st os, Pipe.compareSession ext jobs Pipe.SessSt.fresh = .ok (st, os) ∧
      ∀ pre j post, jobs = pre ++ j :: post → ∃ ref l10n, C05Sess.JobParsed ext Pipe.SessSt.fresh pre j ref l10n ∧
        ∀ k refent l10nent, Pipe.lookup ref k = .ok refent → Pipe.lookup l10n k = .ok l10nent → 0xFFFD ∈ l10nent.all →
          ∃ parts, ObsM.partsOf j.file = .ok parts ∧
            ∃ leaf ∈ (Pipe.sessReport st os).report.details, TreeM.joinSlash leaf.1 = TreeM.joinSlash parts ∧
              ∃ line col : Int,
                (ObsM.Cat.warning, ObsM.DVal.data (.str (Pipe.checkMsg (Pipe.encPrefix ++ Pipe.keyText l10nent.key) line col refent.key)))
                  ∈ leaf.2 := by
  obtain ⟨st, os, H, hs, hrun, hfiles, _, hjobs⟩ := C05Sess.session_spec ext jobs
    Pipe.SessSt.fresh C05Sess.fresh_stdObs hok
  refine ⟨st, os, hs, ?_⟩
  intro pre j post hsplit
  obtain ⟨ref, l10n, hparsed, hevs⟩ := hjobs pre j post hsplit
  refine ⟨ref, l10n, hparsed, ?_⟩
  intro k refent l10nent hlr hll hu
  obtain ⟨line, col, hev⟩ := hevs k refent l10nent hlr hll hu
  obtain ⟨parts, hparts, leaf, hleaf, hpath, hd⟩ := C05Sess.report_has_detail (jobs.map (·.file)) hpf (sess_files_modelled hok)
    H st.obs hrun (sess_files_mem hfiles) .nothing j.file .warning _ hev (Or.inr (Or.inl rfl))
  exact ⟨parts, hparts, leaf, hleaf, hpath, line, col, hd⟩

/-- **the report of a session is well formed**: every item of `toJSON()["details"]` after the session is an error or a
    warning with a text of one of the four message shapes, or a missing / obsolete key -/
theorem session_report_wellformed_partial (ext : Pipe.Ext) (jobs : List Pipe.Job) (hok : ∀ j ∈ jobs, C05Sess.JobOK j)
    (hpf : C05Sess.PrefixFree (jobs.map (·.file))) (st : Pipe.SessSt) (os : List Merge.Outcome)
    (hs : Pipe.compareSession ext jobs Pipe.SessSt.fresh = .ok (st, os)) :
    ∀ leaf ∈ (Pipe.sessReport st os).report.details, ∀ d ∈ leaf.2, DetailWF d := by
  obtain ⟨st', os', H, hs', hrun, hfiles, hwf, _⟩ := C05Sess.session_spec ext jobs
    Pipe.SessSt.fresh C05Sess.fresh_stdObs hok
  rw [hs] at hs'
  cases hs'
  intro leaf hleaf d hd
  obtain ⟨cat, f, data, rv, hev, rfl⟩ := C05Sess.report_details_from_history (jobs.map (·.file)) hpf (sess_files_modelled hok)
    H st.obs hrun (sess_files_mem hfiles) .nothing leaf hleaf d hd
  exact detailWF_of_evWF (hwf _ hev) rv

/-- **what a checker may be shared on**: the checker built for a file is a function of its class (the file name), the
    file's locale and — for a class with `needs_reference` — the parsed reference; of nothing else.  Two files that agree
    on these get EQUAL checkers, so a cache keyed by exactly these is invisible in the model; anything else a checker
    object would carry from one file into the next (scan offsets of one file's contents, a memo of its entities) has no
    counterpart in `CkCtx` and cannot be keyed. -/
theorem job_checker_key (ext : Pipe.Ext) (k : Pipe.CheckerKind) (f f' : ObsM.File) (r r' : List Pipe.PEnt)
    (hl : f.locale = f'.locale) (hr : Pipe.needsReference k = true → r.map (·.raw) = r'.map (·.raw)) :
    Pipe.fileChecker ext k f r = Pipe.fileChecker ext k f' r' := by
  unfold Pipe.fileChecker Pipe.getChecker Pipe.setReference
  cases k <;> simp_all [Pipe.needsReference]

/-- **a lint session never raises**: one `L10nLinter.lint` over any list of covered files, with or without references,
    from any value of the junk counters, returns one result list per file -/
theorem lint_session_never_raises_partial (ext : Pipe.Ext) (srcs : List Pipe.LintSrc) (hok : ∀ s ∈ srcs, C05Sess.LintSrcOK s)
    (ids : Pipe.JunkIds) : ∃ rss, Pipe.lintSession ext srcs ids = .ok rss ∧ rss.length = srcs.length := by
  induction srcs generalizing ids with
  | nil => exact ⟨[], rfl, rfl⟩
  | cons s rest ih =>
    obtain ⟨rs, c1, h1⟩ := C05Sess.lintJob_ok ext s (hok s (by simp)) ids
    obtain ⟨rss, h2, hl⟩ := ih (fun x hx => hok x (by simp [hx])) c1
    exact ⟨rs :: rss, by simp only [Pipe.lintSession, h1, h2], by simp [hl]⟩

/-- "a = 1\nb = 2\n" / "a = �\nb = 2\n" as `.properties` -/
def exPropRef : Array Nat := #[97, 32, 61, 32, 49, 10, 98, 32, 61, 32, 50, 10]
def exPropL10n : Array Nat := #[97, 32, 61, 32, 65533, 10, 98, 32, 61, 32, 50, 10]

/-- f0/a.ini (clean), f1/a.ini (U+FFFD in `a`), f2/a.properties (U+FFFD in `a`) -/
def exSession : List Pipe.Job :=
  [{ src := .text .ini exRef exRef, file := Pipe.l10nFile [102, 48, 47, 97, 46, 105, 110, 105], mergeOn := false },
   { src := .text .ini exRef exL10n, file := Pipe.l10nFile [102, 49, 47, 97, 46, 105, 110, 105], mergeOn := true },
   { src := .text .properties exPropRef exPropL10n,
     file := Pipe.l10nFile [102, 50, 47, 97, 46, 112, 114, 111, 112, 101, 114, 116, 105, 101, 115], mergeOn := false }]

/-- a text job of a format other than dtd is covered as soon as no string id of its files begins with `_junk_` -/
theorem jobOK_text (fmt : P.Fmt) (hd : fmt ≠ .dtd) (r l : Array Nat) (rel : Pipe.Text) (m : Bool)
    (h1 : C05Clash.entityKeysOK fmt r = true) (h2 : C05Clash.entityKeysOK fmt l = true) :
    C05Sess.JobOK { src := .text fmt r l, file := Pipe.l10nFile rel, mergeOn := m } := by
  refine ⟨?_, ?_, ?_⟩
  · intro mod hmod; simp [Pipe.l10nFile, Pipe.fileNamed] at hmod
  · exact ⟨fun h => absurd h hd, h1, h2⟩
  · intro h
    cases fmt <;> simp [Pipe.JobSrc.cls, Pipe.clsOf] at h

theorem exSession_ok : ∀ j ∈ exSession, C05Sess.JobOK j := by
  intro j hj
  simp only [exSession, List.mem_cons, List.not_mem_nil, or_false] at hj
  rcases hj with rfl | rfl | rfl
  · exact jobOK_text .ini (by decide) _ _ _ _ (by decide +kernel) (by decide +kernel)
  · exact jobOK_text .ini (by decide) _ _ _ _ (by decide +kernel) (by decide +kernel)
  · exact jobOK_text .properties (by decide) _ _ _ _ (by decide +kernel) (by decide +kernel)

theorem exSession_prefixFree : C05Sess.PrefixFree (exSession.map (·.file)) := by
  have p0 : ObsM.partsOf (Pipe.l10nFile [102, 48, 47, 97, 46, 105, 110, 105]) = .ok [[102, 48], [97, 46, 105, 110, 105]] := by decide +kernel
  have p1 : ObsM.partsOf (Pipe.l10nFile [102, 49, 47, 97, 46, 105, 110, 105]) = .ok [[102, 49], [97, 46, 105, 110, 105]] := by decide +kernel
  have p2 : ObsM.partsOf (Pipe.l10nFile [102, 50, 47, 97, 46, 112, 114, 111, 112, 101, 114, 116, 105, 101, 115])
      = .ok [[102, 50], [97, 46, 112, 114, 111, 112, 101, 114, 116, 105, 101, 115]] := by decide +kernel
  intro f1 h1 f2 h2 q1 q2 hq1 hq2 hpre
  simp only [exSession, List.map_cons, List.map_nil, List.mem_cons, List.not_mem_nil, or_false] at h1 h2
  rcases h1 with rfl | rfl | rfl <;> rcases h2 with rfl | rfl | rfl <;>
    (first
      | (rw [p0] at hq1; cases hq1)
      | (rw [p1] at hq1; cases hq1)
      | (rw [p2] at hq1; cases hq1)) <;>
    (first
      | (rw [p0] at hq2; cases hq2)
      | (rw [p1] at hq2; cases hq2)
      | (rw [p2] at hq2; cases hq2)) <;>
    first
      | rfl
      | exact absurd hpre (by decide)

/-- … so the session theorems apply to it: it never raises and all three files are judged, the second and the third — after
    a clean file of the same format, resp. after two files of another format — included -/
example : ∃ st os, Pipe.compareSession default exSession Pipe.SessSt.fresh = .ok (st, os) :=
  let ⟨st, os, h, _⟩ := ufffd_warned_in_every_job default exSession exSession_ok exSession_prefixFree
  ⟨st, os, h⟩

end C05
