/- C11 — Reference and l10n path patterns map files back and forth losslessly (property theorems). -/
import CLModel.Paths.Matcher
import CLModel.Proofs.C11Sub
import CLModel.Proofs.C11Witness
import CLModel.Proofs.C11Sound
import CLModel.Proofs.C11RNest
import CLModel.Proofs.C12RSep
import CLModel.Proofs.C12RExample
import CLModel.Proofs.C11Eq
import CLModel.Proofs.C12BExample
import CLModel.Proofs.C11Cache
import CLModel.Proofs.C11SoundX
import CLModel.Proofs.C11Obj
import CLModel.Proofs.C12Eval
namespace C11
open PM

/-- A path is mapped by `a.sub(b, path)` exactly when `a` matches it: `sub` returns `None` iff `match`
    does, so a file is looked up on the other side iff its own pattern covers it. -/
theorem sub_none_iff (a b : Matcher) (path : Text) : a.sub b path = .ok none ↔ a.match path = .ok none := by
  unfold Matcher.sub
  simp only [bind, Except.bind]
  cases h : a.match path with
  | error e => simp
  | ok od =>
    cases od with
    | none => simp [pure, Except.pure]
    | some d =>
      simp only
      cases expandTop b.pattern (subEnv d b.env) <;> simp [pure, Except.pure]

/-- `a.sub(b, path)` is the expansion of `b`'s pattern in the environment "captured groups of `a`, then
    `b`'s own environment on top". -/
theorem sub_of_match {a b : Matcher} {path : Text} {d : GroupDict} (h : a.match path = .ok (some d)) :
    a.sub b path = (expandTop b.pattern (subEnv d b.env)).map some :=
  PM.sub_of_match h

/-- Variables bound by the environment are substituted consistently: in the environment used for the
    expansion on the other side, whatever the other matcher's environment binds wins over the captured
    text of the same name; every other captured group is passed through unchanged. -/
theorem env_consistent (d : GroupDict) (env : Env) (k : Text) :
    (subEnv d env).lookup k = match env.reverse.lookup k with
      | some v => some v
      | none => (subEnv d []).lookup k := by
  unfold subEnv
  rw [lookup_dupdate]
  cases env.reverse.lookup k <;> simp [dupdate]

/-- match_sound: mapping a matched path onto the *same* matcher gives the path back, i.e. the reported
    groups put back into the pattern (together with the environment) re-assemble exactly the path that was
    matched.
    For every path and every "simple" matcher: top-level literals, `*`, `**`, and variables (first
    occurrences; unbound ones are captured), an environment of plain texts with distinct keys (a dict),
    none of which is named like a wildcard group (`s1`, `s2`, ...).  Any root.
    Nested variable values and repeated variables: `match_sound_general_partial`; a second matcher with the same
    wildcards: `sub_roundtrip_star_partial`.  Not proved: `{android_locale}`. -/
theorem match_sound_partial {m : Matcher} {path : Text} {d : GroupDict} (henv : FlatEnv m.env)
    (hkeys : KeysOnce m.env) (hs : ∀ n ∈ m.pattern.nodes, SimpleNode n)
    (hw : ∀ k, m.env.lookup (sname k) = none) (h : m.match path = .ok (some d)) :
    m.sub m path = .ok (some path) := by
  rw [PM.sub_of_match h, sub_self_pieces henv hkeys hs hw h]; rfl

/-- non-vacuity of `match_sound_partial`: `Matcher("l/{locale}/*.ftl", {"locale": "de"})` satisfies the
    hypotheses and matches "l/de/a.ftl" -/
example : FlatEnv exampleMatcher.env ∧ KeysOnce exampleMatcher.env ∧
    (∀ n ∈ exampleMatcher.pattern.nodes, SimpleNode n) ∧ (∀ k, exampleMatcher.env.lookup (sname k) = none) ∧
    exampleMatcher.match (T "l/de/a.ftl") = .ok (some [(localeName, some (T "de")), (T "s1", some (T "a"))]) := by
  refine ⟨?_, ?_, ?_, ?_, matchIs_spec (by decide +kernel)⟩
  · intro k v hm
    simp only [exampleMatcher, List.mem_singleton, Prod.mk.injEq] at hm
    obtain ⟨_, rfl⟩ := hm
    exact ⟨_, rfl, rfl, fun n hn => by simp at hn; exact ⟨_, hn⟩⟩
  · intro k
    simp only [exampleMatcher, List.map_cons, List.map_nil, List.count_cons, List.count_nil]
    split <;> omega
  · intro n hn
    simp only [exampleMatcher, List.mem_cons, List.not_mem_nil, or_false] at hn
    rcases hn with rfl | rfl | rfl | rfl | rfl <;> simp [SimpleNode]
  · intro k
    simp [exampleMatcher, List.lookup, sname, localeName]

/-- non-vacuity: a typical reference / l10n pair maps back and forth -/
example : subOutcome "browser/locales/en-US/**/*.ftl" []
      "{l10n_base}/{locale}/browser/**/*.ftl" [("l10n_base", "/l10n"), ("locale", "de")]
      (T "browser/locales/en-US/a/b/c.ftl") = .text (T "/l10n/de/browser/a/b/c.ftl") := by
  rw [subOutcome_of C11R.refMatcher_is l10nMatcher_is]
  conv => rhs; rw [T_ofList]
  decide +kernel
example : subOutcome "{l10n_base}/{locale}/browser/**/*.ftl" [("l10n_base", "/l10n"), ("locale", "de")]
      "browser/locales/en-US/**/*.ftl" []
      (T "/l10n/de/browser/a/b/c.ftl") = .text (T "browser/locales/en-US/a/b/c.ftl") := by
  rw [subOutcome_of l10nMatcher_is C11R.refMatcher_is]
  conv => rhs; rw [T_ofList]
  decide +kernel

/-- a path with a trailing newline is not mapped at all (`\Z`): `sub` returns `None`, nothing is dropped -/
theorem sub_rejects_trailing_newline :
    subOutcome "foo/*.ftl" [] "bar/*.ftl" [] (T "foo/a.ftl\n") = .none ∧
    subOutcome "foo/*.ftl" [] "bar/*.ftl" [] (T "foo/a.ftl") = .text (T "bar/a.ftl") := by decide +kernel

/-- The hypothesis `hsame` of `sub_roundtrip_star_partial` (the same wildcard numbers on both sides) is forced: if the other
    pattern has a wildcard the first one lacks, `sub` raises KeyError. -/
theorem same_wildcards_witness :
    subOutcome "foo/*.ftl" [] "bar/*/*.ftl" [] (T "foo/a.ftl") = .raised .keyError := by decide +kernel

/-- The part of `C11R.WellSepN` (`Fillable.sep`) that allows no second `**` after a `**/` is forced: with two double stars the
    captures of the way back differ, "a/y/x/y/q.f" -> "b/y/y/y/q.f" -> "a/y/y/x/q.f". -/
theorem two_starstar_witness :
    subOutcome "a/**/x/**/*.f" [] "b/**/y/**/*.f" [] (T "a/y/x/y/q.f") = .text (T "b/y/y/y/q.f") ∧
    subOutcome "b/**/y/**/*.f" [] "a/**/x/**/*.f" [] (T "b/y/y/y/q.f") = .text (T "a/y/y/x/q.f") := by decide +kernel

/-- **sub_roundtrip with repeated variables.**  As `sub_roundtrip_star_partial`, for the larger class `C12B.InClassB` on both
    sides: a fully bound variable may occur several times (`{l}a/{l}b/*.ftl` <-> `ref/a/b/*.ftl`,
    `l10n/{locale}/x/{locale}.ftl`).  The later occurrences are back-references in the regular expression; the engine
    treats them like the literal text of the group (`C12B.sim`).  (`C12B.fillableB_of_fillable`: the class of
    `sub_roundtrip_star_partial` is included.)  Excluded: `{android_locale}`, variables unbound on one side, a repetition
    inside an environment value. -/
theorem sub_roundtrip_backref_partial {a b : Matcher} {vs : Nat → Text} {namesa namesb : List Text} {rta rtb : Text}
    (ha : C12B.FillableB vs a namesa rta) (hb : C12B.FillableB vs b namesb rtb)
    (hea : C11R.Expandable a) (heb : C11R.Expandable b)
    (hsame : ∀ k, k ∈ a.pattern.nodes.filterMap C11R.wildNum ↔ k ∈ b.pattern.nodes.filterMap C11R.wildNum) :
    a.sub b (rta ++ C11R.fillN vs a.env a.pattern.nodes) = .ok (some (rtb ++ C11R.fillN vs b.env b.pattern.nodes)) ∧
    b.sub a (rtb ++ C11R.fillN vs b.env b.pattern.nodes) = .ok (some (rta ++ C11R.fillN vs a.env a.pattern.nodes)) ∧
    (∃ da, a.match (rta ++ C11R.fillN vs a.env a.pattern.nodes) = .ok (some da)) ∧
    (∃ db, b.match (rtb ++ C11R.fillN vs b.env b.pattern.nodes) = .ok (some db)) := by
  obtain ⟨_, hma, _⟩ := C12B.match_fillB ha
  obtain ⟨_, hmb, _⟩ := C12B.match_fillB hb
  exact ⟨C12B.sub_fillB ha hb heb fun k h => (hsame k).mpr h, C12B.sub_fillB hb ha hea fun k h => (hsame k).mp h,
    ⟨_, hma⟩, ⟨_, hmb⟩⟩

/-- **sub_roundtrip.**  Two matchers `a`, `b` of the restricted class `C11R.InClassN` (top-level literals, `*`, `**/`
    or a final `**`, first occurrences of fully bound variables whose values may use further variables —
    `{l}` = "{l10n_base}/{locale}/"; any roots) with the same wildcards (the same wildcard numbers occur on both
    sides; the literals and the variables may differ).  Let `pa` be `a`'s pattern filled with the wildcard values
    `vs` (variables expanded in `a`'s environment), `pb` the same for `b` (`C11R.fillN`), both fillings well
    separated (`C11R.WellSepN`, see `C12.expand_match_star_partial` for what that asks).  Then
      * `a.sub(b, pa) = pb` and `b.sub(a, pb) = pa`: mapping there and back returns the original path, every
        variable being substituted with the value of the side it is expanded on;
      * `a` matches `pa` and `b` matches `pb` (with exactly the values `vs` in the wildcard groups, see
        `C12.expand_match_star_partial`): a file present on both sides is found on both sides.
    Hypotheses (bundles `C11R.Fillable`, `C11R.Expandable`, each field documented there): environments of the
    `Matcher` shape (`EnvOK`) that are dicts (distinct keys), without a key named like a wildcard group (`s<n>`)
    and without `{android_locale}`; `re.compile` accepts both patterns (F12), neither uses `{android_locale}`, both
    root decisions succeed (F11).
    Forced: same wildcards (`same_wildcards_witness`), separation on BOTH sides (`roundtrip_separator_witness`),
    at most one `**` with directories (`two_starstar_witness`).
    Repeated variables: `sub_roundtrip_backref_partial`.  Not proved (hence `_partial`): `{android_locale}`, variables
    left unbound on one side (captured from the path). -/
theorem sub_roundtrip_star_partial {a b : Matcher} {vs : Nat → Text} {namesa namesb : List Text} {rta rtb : Text}
    (ha : C11R.Fillable vs a namesa rta) (hb : C11R.Fillable vs b namesb rtb)
    (hea : C11R.Expandable a) (heb : C11R.Expandable b)
    (hsame : ∀ k, k ∈ a.pattern.nodes.filterMap C11R.wildNum ↔ k ∈ b.pattern.nodes.filterMap C11R.wildNum) :
    a.sub b (rta ++ C11R.fillN vs a.env a.pattern.nodes) = .ok (some (rtb ++ C11R.fillN vs b.env b.pattern.nodes)) ∧
    b.sub a (rtb ++ C11R.fillN vs b.env b.pattern.nodes) = .ok (some (rta ++ C11R.fillN vs a.env a.pattern.nodes)) ∧
    (∃ da, a.match (rta ++ C11R.fillN vs a.env a.pattern.nodes) = .ok (some da)) ∧
    (∃ db, b.match (rtb ++ C11R.fillN vs b.env b.pattern.nodes) = .ok (some db)) :=
  sub_roundtrip_backref_partial (C12B.fillableB_of_fillable ha) (C12B.fillableB_of_fillable hb) hea heb hsame

/-- the theorem applied to the reference pattern "browser/locales/en-US/**/*.ftl" (`C11R.refMatcher`) and the l10n pattern
    "{l}browser/**/*.ftl" with `l` = "{l10n_base}/{locale}/", `l10n_base` = "/l10n", `locale` = "de" (`C11R.wildMatcher`),
    values `**/` = "a/b/", `*` = "c.d": all hypotheses hold (`C11R.refMatcher_ok`, `C11R.wildMatcher_ok`, `C11R.wild_same`) -/
theorem ref_wild_roundtrip : C11R.refMatcher.sub C11R.wildMatcher (T "browser/locales/en-US/a/b/c.d.ftl") =
      .ok (some (T "/l10n/de/browser/a/b/c.d.ftl")) ∧
    C11R.wildMatcher.sub C11R.refMatcher (T "/l10n/de/browser/a/b/c.d.ftl") =
      .ok (some (T "browser/locales/en-US/a/b/c.d.ftl")) := by
  obtain ⟨⟨na, a1⟩, a2⟩ := C11R.refMatcher_ok
  obtain ⟨⟨nb, b1⟩, b2⟩ := C11R.wildMatcher_ok
  have h := sub_roundtrip_star_partial a1 b1 a2 b2 C11R.wild_same
  rw [C11R.ref_fill, C11R.wild_fill] at h
  exact ⟨h.1, h.2.1⟩

/-- non-vacuity of `sub_roundtrip_star_partial`: the two matchers of `ref_wild_roundtrip` are what `Matcher(...)` builds
    from the pattern texts, the two filled paths are "browser/locales/en-US/a/b/c.d.ftl" and
    "/l10n/de/browser/a/b/c.d.ftl", and `sub` on the pattern texts is `sub` on the written-out matchers. -/
example : matcherOf "browser/locales/en-US/**/*.ftl" [] none = .ok C11R.refMatcher ∧
    matcherOf "{l}browser/**/*.ftl" [("l", "{l10n_base}/{locale}/"), ("l10n_base", "/l10n"), ("locale", "de")] none =
      .ok C11R.wildMatcher ∧
    [] ++ C11R.fillN C11R.wildVals C11R.refMatcher.env C11R.refMatcher.pattern.nodes =
      T "browser/locales/en-US/a/b/c.d.ftl" ∧
    [] ++ C11R.fillN C11R.wildVals C11R.wildMatcher.env C11R.wildMatcher.pattern.nodes =
      T "/l10n/de/browser/a/b/c.d.ftl" ∧
    subOutcome "browser/locales/en-US/**/*.ftl" []
      "{l}browser/**/*.ftl" [("l", "{l10n_base}/{locale}/"), ("l10n_base", "/l10n"), ("locale", "de")]
      (T "browser/locales/en-US/a/b/c.d.ftl") = .text (T "/l10n/de/browser/a/b/c.d.ftl") ∧
    subOutcome "{l}browser/**/*.ftl" [("l", "{l10n_base}/{locale}/"), ("l10n_base", "/l10n"), ("locale", "de")]
      "browser/locales/en-US/**/*.ftl" []
      (T "/l10n/de/browser/a/b/c.d.ftl") = .text (T "browser/locales/en-US/a/b/c.d.ftl") := by
  refine ⟨C11R.refMatcher_is, C11R.wildMatcher_is, C11R.ref_fill, C11R.wild_fill, ?_, ?_⟩
  · rw [subOutcome_of C11R.refMatcher_is C11R.wildMatcher_is, ref_wild_roundtrip.1]
  · rw [subOutcome_of C11R.wildMatcher_is C11R.refMatcher_is, ref_wild_roundtrip.2]

/-- and the theorem applied to that pair -/
example : C11R.refMatcher.sub C11R.wildMatcher (T "browser/locales/en-US/a/b/c.d.ftl") =
      .ok (some (T "/l10n/de/browser/a/b/c.d.ftl")) ∧
    C11R.wildMatcher.sub C11R.refMatcher (T "/l10n/de/browser/a/b/c.d.ftl") =
      .ok (some (T "browser/locales/en-US/a/b/c.d.ftl")) := ref_wild_roundtrip

/-- the most common real shape, a final `**` on both sides (evaluation of the model) -/
example : subOutcome "browser/locales/en-US/**" []
      "{l}browser/**" [("l", "{l10n_base}/{locale}/"), ("l10n_base", "/l10n"), ("locale", "de")]
      (T "browser/locales/en-US/a/b.ftl") = .text (T "/l10n/de/browser/a/b.ftl") ∧
    subOutcome "{l}browser/**" [("l", "{l10n_base}/{locale}/"), ("l10n_base", "/l10n"), ("locale", "de")]
      "browser/locales/en-US/**" []
      (T "/l10n/de/browser/a/b.ftl") = .text (T "browser/locales/en-US/a/b.ftl") := by decide +kernel

/-- Separation is needed on BOTH sides: "a/b.c" is "*/*" filled with ("a", "b.c"), well separated there, but in
    "*.*" the literal "." occurs again inside the second value; the way back gives another path. -/
theorem roundtrip_separator_witness :
    subOutcome "*/*" [] "*.*" [] (T "a/b.c") = .text (T "a.b.c") ∧
    subOutcome "*.*" [] "*/*" [] (T "a.b.c") = .text (T "a.b/c") := by decide +kernel

/-- **match_sound, general form**: `m.sub(m, path) = path` for EVERY path the matcher matches, i.e. the reported groups, put
    back into the pattern together with the environment, re-assemble exactly the matched path.  Compared with
    `match_sound_partial` the environment values may be NESTED patterns (`{l}` = "{l10n_base}/{locale}/": shape `EnvOK`,
    no `{android_locale}` inside values), a variable may be REPEATED (`C11X.RepN []`: every repetition comes after its first
    occurrence — what the parser always produces, `constructed_matcher_repN`), and a bound top-level variable only has to be
    fully bound (`C11X.BoundOK`: the expansion of its value exists); unbound variables are captured from the path.
    Remaining hypotheses: no `{android_locale}` at top level (FORCED when `locale` is unbound: `match_sound_android_witness`;
    not proved when it is bound), environment keys distinct and not named like a wildcard group (forced: `s1` as a key makes
    `Star.expand` return a Pattern), no variable repeated inside one environment value. -/
theorem match_sound_general_partial {m : Matcher} {path : Text} {d : GroupDict} (henv : EnvOK m.env)
    (hgood : ∀ k p, (k, Val.pat p) ∈ m.env → NoAndroid p) (hkeys : KeysOnce m.env)
    (hs : ∀ n ∈ m.pattern.nodes, C11X.NoAndroidNode n) (hrep : C11X.RepN [] m.pattern.nodes) (hb : C11X.BoundOK m)
    (hw : ∀ k, m.env.lookup (sname k) = none) (h : m.match path = .ok (some d)) :
    m.sub m path = .ok (some path) := by
  rw [PM.sub_of_match h, C11X.sub_selfX henv ⟨hgood, hkeys, hw⟩ hs hrep hb h]; rfl

/-- the order hypothesis of `match_sound_general_partial` holds for every matcher `Matcher(pattern, env, root)` builds -/
theorem constructed_matcher_repN {pat : Text} {env : List (Text × Text)} {root : Option Text} {m : Matcher}
    (h : mkMatcher pat env root = .ok m) : C11X.RepN [] m.pattern.nodes :=
  let ⟨p, hp, _, hm⟩ := mkMatcher_inv h
  by rw [hm]; exact (C11X.parsePattern_repN hp : C11X.RepN [] p.nodes)

/-- `{android_locale}` with an UNBOUND locale is forced out of match_sound: the captured text is converted to a locale
    code and back to the Android form when the pattern is expanded again, so a path whose directory is not in Android
    form does not come back: "en-US/x" is matched by "{android_locale}/x" and mapped to "en-rUS/x".  (In Android form it
    does come back: "en-rUS/x".) -/
theorem match_sound_android_witness :
    subOutcome "{android_locale}/x" [] "{android_locale}/x" [] (T "en-US/x") = .text (T "en-rUS/x") ∧
    subOutcome "{android_locale}/x" [] "{android_locale}/x" [] (T "en-rUS/x") = .text (T "en-rUS/x") := by decide +kernel

/-- non-vacuity of `match_sound_general_partial`: a repeated variable (`C12B.repMatcher` = "{l}a/{l}b/*.ftl", l = "l10n/") and a
    nested value (`C11R.wildMatcher` = "{l}browser/**/*.ftl", l = "{l10n_base}/{locale}/") satisfy the hypotheses -/
example : (EnvOK C12B.repMatcher.env ∧ KeysOnce C12B.repMatcher.env ∧ C11X.RepN [] C12B.repMatcher.pattern.nodes ∧
      C11X.BoundOK C12B.repMatcher ∧ (∀ n ∈ C12B.repMatcher.pattern.nodes, C11X.NoAndroidNode n)) ∧
    C12B.repMatcher.sub C12B.repMatcher (T "l10n/a/l10n/b/x.y.ftl") = .ok (some (T "l10n/a/l10n/b/x.y.ftl")) := by
  obtain ⟨⟨na, a1⟩, a2⟩ := C12B.repMatcher_ok
  have hrep : C11X.RepN [] C12B.repMatcher.pattern.nodes := constructed_matcher_repN C12B.repMatcher_is
  have hb : C11X.BoundOK C12B.repMatcher := by
    intro name rep v hn hl
    simp only [C12B.repMatcher, List.mem_cons, List.not_mem_nil, or_false] at hn
    rcases hn with hn | hn | hn | hn | hn | hn <;> try (cases hn)
    all_goals
      have hv : v = Val.pat { nodes := [.lit (T "l10n/")], root := none, prefixLen := 1 } := by
        simp [C12B.repMatcher, List.lookup] at hl; exact hl.symm
      subst hv
      exact ⟨T "l10n/", okEq_spec (by decide +kernel)⟩
  have hs : ∀ n ∈ C12B.repMatcher.pattern.nodes, C11X.NoAndroidNode n := by
    intro n hn
    simp only [C12B.repMatcher, List.mem_cons, List.not_mem_nil, or_false] at hn
    rcases hn with rfl | rfl | rfl | rfl | rfl | rfl <;> trivial
  refine ⟨⟨a1.env, a2.keys, hrep, hb, hs⟩, ?_⟩
  have hm : C12B.repMatcher.match (T "l10n/a/l10n/b/x.y.ftl") =
      .ok (some [(T "l", some (T "l10n/")), (T "s1", some (T "x.y"))]) := matchIs_spec (by decide +kernel)
  exact match_sound_general_partial a1.env a2.noAndroid a2.keys hs hrep hb a2.noWildKey hm

/-- non-vacuity: the pair "{l}a/{l}b/*.ftl" (l = "l10n/") and "l10n/{locale}/x/{locale}.ftl"-style patterns are in the
    class (`C12B.repMatcher_ok`, `C12B.locMatcher_ok`); mapped onto the reference pattern "ref/a/b/*.ftl" and back, by
    evaluation of the model -/
example : subOutcome "{l}a/{l}b/*.ftl" [("l", "l10n/")] "ref/a/b/*.ftl" [] (T "l10n/a/l10n/b/c.d.ftl") = .text (T "ref/a/b/c.d.ftl") ∧
    subOutcome "ref/a/b/*.ftl" [] "{l}a/{l}b/*.ftl" [("l", "l10n/")] (T "ref/a/b/c.d.ftl") = .text (T "l10n/a/l10n/b/c.d.ftl") ∧
    subOutcome "{l}a/{l}b/*.ftl" [("l", "l10n/")] "ref/a/b/*.ftl" [] (T "l10n/a/other/b/c.d.ftl") = .none := by
  decide +kernel

/-- and the theorem applied: `repMatcher` mapped onto itself -/
example : C12B.repMatcher.sub C12B.repMatcher (T "l10n/a/l10n/b/c.d.ftl") = .ok (some (T "l10n/a/l10n/b/c.d.ftl")) := by
  obtain ⟨⟨na, a1⟩, a2⟩ := C12B.repMatcher_ok
  have h := sub_roundtrip_backref_partial a1 a1 a2 a2 (fun _ => Iff.rfl)
  rw [C12B.rep_fill] at h
  exact h.1

/-- `Pattern.__eq__` (with the node `__eq__`s: `Variable`, `AndroidLocale`, `Star`, `Starstar`, `Literal`) is structural
    equality: same nodes, same root, same prefix length.  In particular it is an equivalence relation (this is the test
    `ProjectFiles` folds duplicate rules with). -/
theorem pattern_eq_iff (a b : Pattern) : Pattern.eq a b = true ↔ a = b := C11E.pattern_eq_iff a b

/-- `Matcher.__eq__` is reflexive and symmetric (environments are dicts: distinct keys), `!=` is its negation ... -/
theorem matcher_eq_refl_symm (a b : Matcher) (ha : KeysOnce a.env) (hb : KeysOnce b.env) :
    Matcher.eq a a = true ∧ (Matcher.eq a b = true → Matcher.eq b a = true) ∧ Matcher.ne a b = !Matcher.eq a b :=
  ⟨C11E.eq_refl a ha, C11E.eq_symm hb, rfl⟩

/-- ... but NOT transitive ("additional environment settings in self or other are OK"): a matcher that does not bind
    `locale` is equal to one that binds it to "de" and to one that binds it to "fr", which are not equal -/
theorem matcher_eq_not_transitive_witness :
    C11E.eqOutcome "l/{locale}/*.ftl" [("locale", "de")] "l/{locale}/*.ftl" [] = some true ∧
    C11E.eqOutcome "l/{locale}/*.ftl" [] "l/{locale}/*.ftl" [("locale", "fr")] = some true ∧
    C11E.eqOutcome "l/{locale}/*.ftl" [("locale", "de")] "l/{locale}/*.ftl" [("locale", "fr")] = some false := by
  decide +kernel

/-- **Equal matchers that bind the same variable names match the same paths with the same captures**: if `a == b` and the
    two environments have the same keys (in any order), then `match` (result and captures), `prefix`, `str`, the compiled
    regex and `sub` onto any matcher agree. -/
theorem matcher_eq_same_behaviour {a b : Matcher} (h : Matcher.eq a b = true)
    (hk : (a.env.map (·.1)).Perm (b.env.map (·.1))) :
    a.regexOf = b.regexOf ∧ (∀ path, a.match path = b.match path) ∧ a.prefix = b.prefix ∧ a.str = b.str ∧
    (∀ (o : Matcher) path, a.sub o path = b.sub o path) :=
  let ⟨hp, he⟩ := C11E.envEq_of_eq h hk
  C11E.behave_congr hp he

/-- What `==` does NOT imply (the "same keys" hypothesis is forced): `Matcher("{locale}/x", {"locale": "de"}) ==
    Matcher("{locale}/x")`, but the first does not match "fr/x" and the second does.  And what `!=` does not imply: two
    matchers that differ only in a variable the pattern never uses are unequal and match alike. -/
theorem matcher_eq_limits_witness :
    C11E.eqOutcome "{locale}/x" [("locale", "de")] "{locale}/x" [] = some true ∧
    matchOutcome "{locale}/x" [("locale", "de")] none "fr/x" = .noMatch ∧
    matchOutcome "{locale}/x" [] none "fr/x" = .groups [(T "locale", some (T "fr"))] ∧
    C11E.eqOutcome "x/*" [("u", "1")] "x/*" [("u", "2")] = some false ∧
    matchOutcome "x/*" [("u", "1")] none "x/a" = matchOutcome "x/*" [("u", "2")] none "x/a" := by decide +kernel

/-- **`concat` behaves as if the resulting paths were joined** (its docstring): if the pattern of `a` is fully bound in the
    merged environment (`a`'s environment updated with the other's; its expansion with `raise_missing=True`, root included, is
    `sa`), then `str(a.concat(other))` is `sa` followed by the expansion of the other (unrooted) pattern in that environment;
    and if `a` has no wildcard, the prefix of the concatenation is `sa` followed by the other's prefix. -/
theorem concat_joins_paths {a r : Matcher} {o : ConcatArg} (h : a.concat o = .ok r) (hne : a.pattern.nodes ≠ []) {sa : Text}
    (hfull : expandPat (expandVal (fuelFor r.env)) a.pattern r.env true = .ok sa) :
    ∃ om : Matcher, o.toMatcher = .ok om ∧ r.env = dupdate a.env om.env ∧
      r.str = (expandTop om.pattern r.env).map (fun sb => sa ++ sb) ∧
      (a.pattern.prefixLen = a.pattern.nodes.length →
        r.prefix = ((⟨om.pattern, r.env⟩ : Matcher).prefix).map (fun sb => sa ++ sb)) := by
  obtain ⟨om, hom, _, _, _, henv, _⟩ := C11E.concat_inv h
  obtain ⟨om1, h1, hs⟩ := C11E.concat_str h hne hfull
  have e1 : om1 = om := by rw [hom] at h1; cases h1; rfl
  subst e1
  refine ⟨om1, hom, henv, hs, fun hnw => ?_⟩
  obtain ⟨om2, h2, hp⟩ := C11E.concat_prefix h hne hnw hfull
  have e2 : om2 = om1 := by rw [hom] at h2; cases h2; rfl
  subst e2
  exact hp

/-- non-vacuity of `concat_joins_paths`, and its limit: `Matcher("l/{locale}/").concat("browser/*.ftl")` expands and
    matches like the joined pattern; when both parts define the same group (two `*`, both numbered s1) the concatenation
    cannot be compiled: `concat` does not renumber (re.error, the root cause of F12) -/
theorem concat_witness :
    C11E.concatOutcome "l/{locale}/" [("locale", "de")] "browser/*.ftl" "l/de/browser/a.ftl" =
      (.text (T "l/de/browser/"), .groups [(T "locale", some (T "de")), (T "s1", some (T "a"))]) ∧
    C11E.concatOutcome "l/*/" [] "browser/*.ftl" "l/x/browser/a.ftl" = (.text (T "l/"), .raised .reError) := by
  decide +kernel

/-- **The regex cache never goes stale** (`_cached_re` as explicit state, `PM.CMatcher`): a freshly constructed matcher has
    an empty cache; `match` and `sub` on the object report exactly what the stateless model reports and leave the object
    consistent (the cache, when filled, is the regex of the CURRENT pattern, environment and root); `with_env`,
    `Matcher(m, env, root)` and `concat` return objects with an EMPTY cache, whatever the source had cached, so a derived
    matcher behaves like one built afresh from its own pattern, environment and root. -/
theorem cache_never_stale (c : CMatcher) (hc : C11C.CacheOK c) (other : CMatcher) (path : Text) :
    ((c.match path).1 = c.m.match path ∧ (c.match path).2.m = c.m ∧ C11C.CacheOK (c.match path).2) ∧
    ((c.sub other path).1 = c.m.sub other.m path ∧ (c.sub other path).2.m = c.m ∧ C11C.CacheOK (c.sub other path).2) ∧
    (∀ d env root, c.rebuild env root = .ok d → d.cache = none ∧ c.m.rebuild env root = .ok d.m ∧ C11C.CacheOK d) ∧
    (∀ d o, c.concat o = .ok d → d.cache = none ∧ c.m.concat o = .ok d.m ∧ C11C.CacheOK d) :=
  ⟨C11C.match_refines hc path, C11C.sub_refines hc other path,
   fun _ env root h => ⟨(C11C.derived_cache_empty.1 env root h).1, (C11C.derived_cache_empty.1 env root h).2,
      C11C.derived_cacheOK.1 env root h⟩,
   fun _ o h => ⟨(C11C.derived_cache_empty.2 o h).1, (C11C.derived_cache_empty.2 o h).2, C11C.derived_cacheOK.2 o h⟩⟩

/-- a new matcher object is consistent (nothing cached) -/
theorem cache_initially_empty (m : Matcher) : C11C.CacheOK (CMatcher.mk' m) := by
  intro rn h; cases h

/-- **`match` and `sub` change nothing but the cache of the matcher they are called on.**  Their answer is that of
    `CMatcher.match` / `CMatcher.sub` on the views (with a valid cache: the stateless `Matcher.match` / `sub`,
    `cache_never_stale`); afterwards every dict that existed is unchanged, every object is what it was except that the
    `_cached_re` of `o` is the one `CMatcher.match` leaves - whatever the call answers (groups, None, an exception). -/
theorem match_sub_preserve_env (s : Store) (o other : Nat) (c oc : CMatcher) (hv : s.view o = some c)
    (hvo : s.view other = some oc) (path : Text) :
    (∃ s', Store.match o path s = some (liftX (c.match path).1, s') ∧ C11O.OnlyCaches s s' o (c.match path).2.cache) ∧
    (∃ s', Store.sub o other path s = some (liftX (c.sub oc path).1, s') ∧
      C11O.OnlyCaches s s' o (c.sub oc path).2.cache) ∧
    (∀ s' cache, C11O.OnlyCaches s s' o cache →
      s'.view o = some { c with cache := cache } ∧ ∀ o' c', o' ≠ o → s.view o' = some c' → s'.view o' = some c') :=
  ⟨C11O.match_spec hv path, C11O.sub_spec hv hvo path,
   fun _ _ h => ⟨C11O.view_onlyCaches_self h hv, fun _ _ hne hv' => C11O.view_onlyCaches_other h hne hv'⟩⟩

/-- **`with_env` / `Matcher(m, env, root)` / `concat` copy the environment.**  The derived object is NEW (index = number
    of objects so far), its env dict is NEW (address = size of the heap so far, so it is no existing object's dict), it
    holds the source's entries updated with the given ones, nothing is cached, every existing object and dict is
    untouched (`Derives`); the derived matcher is `CMatcher.rebuild` / `CMatcher.concat` of the source's VIEW, i.e. the
    matcher a fresh construction from the same pattern, variables and root gives - whatever was called on the source before. -/
theorem with_env_copies_env (s : Store) (o : Nat) (c : CMatcher) (hv : s.view o = some c) :
    (∀ env root d, c.rebuild env root = .ok d →
      ∃ s' nb, Store.rebuild o env root s = some (.ok s.objs.length, s') ∧ C11O.Derives s s' nb d.m.env ∧
        nb.pattern = d.m.pattern ∧ nb.cache = none ∧ d.cache = none) ∧
    (∀ other arg d, s.argOf other = some arg → c.concat arg = .ok d →
      ∃ s' nb, Store.concat o other s = some (.ok s.objs.length, s') ∧ C11O.Derives s s' nb d.m.env ∧
        nb.pattern = d.m.pattern ∧ nb.cache = none ∧ d.cache = none) ∧
    (∀ s' nb nenv, C11O.Derives s s' nb nenv →
      s'.view s.objs.length = some { m := { pattern := nb.pattern, env := nenv }, cache := nb.cache } ∧
      ∀ o' c', s.view o' = some c' → s'.view o' = some c') :=
  ⟨fun env root d h => (C11O.rebuild_spec hv env root).2 d h,
   fun other _ d ha h => (C11O.concat_spec hv other ha).2 d h,
   fun _ _ _ h => ⟨C11O.view_derives_new h, fun _ _ hv' => C11O.view_derives_old h hv'⟩⟩

/-- **No aliasing**: in a store whose objects do not share env dicts (`NoAlias`; kept by every call, `history_keeps_objects`)
    a write to one matcher's environment - `m.env[k] = parse(v)`, what `concat` does to its own result - is invisible through
    every OTHER matcher: a derived matcher cannot change its source, nor the source a matcher derived from it. -/
theorem env_write_is_local (s : Store) (hn : C11O.NoAlias s) (o : Nat) (k v : Text) (r : Except XErr Unit) (s' : Store)
    (h : Store.envSet o k v s = some (r, s')) (o' : Nat) (hne : o' ≠ o) (c : CMatcher) (hv : s.view o' = some c) :
    s'.view o' = some c := by
  unfold Store.envSet at h
  cases hp : parsePattern v with
  | error e => simp only [hp, Option.some.injEq, Prod.mk.injEq] at h; rw [← h.2]; exact hv
  | ok p =>
    simp only [hp] at h
    cases ho : s.objs[o]? with
    | none => simp [ho] at h
    | some ob =>
      simp only [ho] at h
      cases he : s.heap[ob.env]? with
      | none => simp [he] at h
      | some env =>
        simp only [he, Option.some.injEq, Prod.mk.injEq] at h
        rw [← h.2]
        exact C11O.view_frame hv rfl (fun ob' _ ho' he' => by
          show (s.heap.set ob.env _)[ob'.env]? = _
          rw [List.getElem?_set_ne (Ne.symm (C11O.pairwise_ne hn ho' ho hne))]; exact he')

/-- **Histories.**  Start from any well formed, alias free store with valid caches (the empty store is one) and run ANY
    sequence of calls that do not write to an environment - constructions, `prefix`, `str()`, `expand` with missing variables,
    `repr()`, `==`, `match`, `sub`, `with_env` / re-rooted copies, `concat`, in any order, on any objects, raising or not:
    the store stays well formed and alias free, every object that existed keeps its pattern, root and environment, and
    every cache is the regex of its object's CURRENT pattern / environment / root.  Hence every later answer is the
    stateless function of the arguments: the history cannot be observed. -/
theorem history_keeps_objects (s : Store) (hw : C11O.WF s) (hn : C11O.NoAlias s)
    (hc : ∀ o c, s.view o = some c → C11C.CacheOK c) (ops : List Op) (hq : ∀ op ∈ ops, C11O.Quiet op)
    (outs : List (Except XErr Out)) (s' : Store) (h : s.run ops = some (outs, s')) :
    C11O.WF s' ∧ C11O.NoAlias s' ∧ (∀ o c, s.view o = some c → ∃ c', s'.view o = some c' ∧ c'.m = c.m) ∧
      (∀ o c, s'.view o = some c → C11C.CacheOK c) := by
  induction ops generalizing s outs s' with
  | nil =>
    simp only [Store.run, Option.some.injEq, Prod.mk.injEq] at h
    rw [← h.2]
    exact ⟨hw, hn, fun o c hv => ⟨c, hv, rfl⟩, hc⟩
  | cons op ops ih =>
    unfold Store.run at h
    cases hs : s.step op with
    | none => simp [hs] at h
    | some p =>
      obtain ⟨r, s1⟩ := p
      simp only [hs] at h
      cases hr : Store.run s1 ops with
      | none => simp [hr] at h
      | some q =>
        obtain ⟨rs, s2⟩ := q
        simp only [hr, Option.some.injEq, Prod.mk.injEq] at h
        rw [← h.2]
        obtain ⟨hw1, hn1, hv1, hc1⟩ :=
          C11O.effect_keeps hw hn (C11O.step_effect hw (hq op (List.mem_cons_self ..)) hs)
        obtain ⟨hw2, hn2, hv2, hc2⟩ :=
          ih s1 hw1 hn1 (hc1 hc) (fun op' h' => hq op' (List.mem_cons_of_mem _ h')) rs s2 hr
        refine ⟨hw2, hn2, ?_, hc2⟩
        intro o c hv
        obtain ⟨c1, hvc1, hm1, _⟩ := hv1 o c hv
        obtain ⟨c2, hvc2, hm2⟩ := hv2 o c1 hvc1
        exact ⟨c2, hvc2, by rw [hm2, hm1]⟩

/-- the empty store satisfies the hypotheses of `history_keeps_objects` -/
theorem history_start : C11O.WF Store.empty ∧ C11O.NoAlias Store.empty ∧
    (∀ o c, Store.empty.view o = some c → C11C.CacheOK c) := by
  refine ⟨?_, ?_, ?_⟩
  · intro ob h; cases h
  · exact List.Pairwise.nil
  · intro o c h; simp [Store.view, Store.empty] at h

/-- a derived matcher after ANY quiet history = the one derived at once: `with_env` on the object after the history gives
    the view `CMatcher.rebuild` computes from the source's ORIGINAL pattern and environment -/
theorem derived_after_history_is_fresh (s : Store) (hw : C11O.WF s) (hn : C11O.NoAlias s)
    (hc : ∀ o c, s.view o = some c → C11C.CacheOK c) (ops : List Op) (hq : ∀ op ∈ ops, C11O.Quiet op)
    (outs : List (Except XErr Out)) (s1 : Store) (h : s.run ops = some (outs, s1))
    (o : Nat) (c : CMatcher) (hv : s.view o = some c) (env : List (Text × Text)) (root : Option Text) (m : Matcher)
    (hm : c.m.rebuild env root = .ok m) :
    ∃ (s2 : Store) (nb : MObj), Store.rebuild o env root s1 = some (.ok s1.objs.length, s2) ∧
      s2.view s1.objs.length = some { m := m, cache := none } ∧ s2.objs = s1.objs ++ [nb] ∧ nb.env = s1.heap.length := by
  obtain ⟨_, _, hv1, _⟩ := history_keeps_objects s hw hn hc ops hq outs s1 h
  obtain ⟨c1, hvc1, hm1⟩ := hv1 o c hv
  have hd : c1.rebuild env root = .ok (CMatcher.mk' m) := by
    unfold CMatcher.rebuild
    rw [hm1, hm]; rfl
  obtain ⟨s2, nb, h1, h2, h3, h4, _⟩ := (C11O.rebuild_spec hvc1 env root).2 _ hd
  refine ⟨s2, nb, h1, ?_, h2.1, h2.2.1⟩
  rw [C11O.view_derives_new h2, h3, h4]
  rfl

end C11
