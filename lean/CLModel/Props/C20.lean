/-
C20 — Key-level diff and keyed lookup respect both files' orders: `AddRemove.__iter__` as a function of two key sequences
and as an object with a history, `KeyedTuple` queried by sequences, and the two together on a heap with aliasing.
-/
import CLModel.Compare.AddRemove
import CLModel.Compare.AddRemoveObj
import CLModel.Compare.KeyedTuple
import CLModel.Proofs.AddRemove
import CLModel.Proofs.C20Obj
import CLModel.Proofs.C20Keyed
import CLModel.Proofs.C18Natural
import CLModel.Compare.C20Heap
import CLModel.Proofs.C20Heap
namespace C20
open AR

variable {α : Type} [BEq α] [LawfulBEq α]

/-- The diff of two duplicate-free key sequences is the closed form `spec`:
    left order kept, each right-only key right after the last key that precedes
    it in `right` and is also in `left`. -/
theorem addRemove_eq_spec (l r : List α) (hl : l.Nodup) (hr : r.Nodup) :
    addRemove l r = spec l r :=
  AR.addRemove_eq_spec l r hl hr

/-- The placement rule stated on the keys alone: the output key sequence is the right-only keys
    with no preceding left key, then every left key `k` (in left order) followed by the
    right-only keys (in right order) whose last preceding left member in `right` is `k`. -/
theorem ar_anchor (l r : List α) (hl : l.Nodup) (hr : r.Nodup) :
    (addRemove l r).map (·.2) =
      ((anchors l r none).filter (fun p => p.1 == none)).map (·.2) ++
        l.flatMap (fun k => k :: ((anchors l r none).filter (fun p => p.1 == some k)).map (·.2)) := by
  rw [AR.addRemove_eq_spec l r hl hr]
  exact AR.spec_keys l r

/-- every key of either side exactly once -/
theorem ar_keys_perm (l r : List α) (hl : l.Nodup) (hr : r.Nodup) :
    ((addRemove l r).map (·.2)).Perm (l ++ r.filter (fun x => !l.contains x)) :=
  AR.addRemove_keys_perm l r hl hr

/-- no key is yielded twice — for ALL inputs (no `Nodup` hypotheses) -/
theorem ar_keys_nodup (l r : List α) : ((addRemove l r).map (·.2)).Nodup :=
  AR.addRemove_keys_nodup_gen l r

/-- the yielded keys are exactly the keys of either side — for ALL inputs -/
theorem ar_keys_mem (l r : List α) (k : α) : k ∈ (addRemove l r).map (·.2) ↔ k ∈ l ∨ k ∈ r :=
  AR.addRemove_keys_mem_gen l r k

/-- labels are decided by membership alone — for ALL inputs (no `Nodup` hypotheses) -/
theorem ar_labels (l r : List α) :
    ∀ p ∈ addRemove l r,
      p.1 = (if l.contains p.2 then (if r.contains p.2 then Label.equal else Label.delete) else Label.add) :=
  AR.addRemove_labels_gen l r

/-- the first sequence's order is kept (`right` may contain duplicates) -/
theorem ar_left_order (l r : List α) (hl : l.Nodup) :
    ((addRemove l r).filter (fun p => p.1 != Label.add)).map (·.2) = l := by
  rw [C20P.addRemove_eq_specD, C20P.specD_left_order, C20P.dedupLast_of_nodup l hl]

/-- the keyed lookup finds the index of the LAST occurrence of the key -/
theorem keyed_last {κ : Type} [BEq κ] [LawfulBEq κ] (keys : List κ) (k : κ) :
    keyedIndex keys k = (if keys.contains k then some (keys.length - 1 - (keys.reverse.idxOf k)) else none) :=
  AR.keyedIndex_eq keys k

theorem keyed_contains {κ : Type} [BEq κ] [LawfulBEq κ] (keys : List κ) (k : κ) :
    keyedContains keys k = keys.contains k :=
  AR.keyedContains_eq keys k

/-! `List.mergeSort` is defined by well-founded recursion, so plain `decide` cannot evaluate
`addRemove`; the model is evaluated by `simp` or through `C20P.addRemove_eq_specD`, the closed forms and the
hypotheses by `decide`. -/

/-- the model itself, evaluated without any of the theorems above -/
example : addRemove [1, 2, 3] [2, 4, 3, 5]
    = [(.delete, 1), (.equal, 2), (.add, 4), (.equal, 3), (.add, 5)] := by
  simp [addRemove, leftMap, rightStep, dset, dget, List.zipIdx, leKey, List.mergeSort,
    List.MergeSort.Internal.splitInTwo]

/-- the closed form on the same input, by `decide` -/
example : [1, 2, 3].Nodup ∧ [2, 4, 3, 5].Nodup ∧
    spec [1, 2, 3] [2, 4, 3, 5] = [(.delete, 1), (.equal, 2), (.add, 4), (.equal, 3), (.add, 5)] := by
  decide +kernel

/-- the theorem applied to an input with reordered common keys and a leading right-only key -/
example : addRemove [1, 2, 3] [7, 3, 8, 1, 9]
    = [(.add, 7), (.equal, 1), (.add, 9), (.delete, 2), (.equal, 3), (.add, 8)] := by
  rw [addRemove_eq_spec _ _ (by decide) (by decide)]
  decide

/-! negation witnesses: both `Nodup` hypotheses of `addRemove_eq_spec` are needed
    (a dict keeps one entry per key, the closed form one per occurrence) -/

example : addRemove [1, 1] ([] : List Nat) = [(.delete, 1)] ∧
    spec [1, 1] ([] : List Nat) = [(.delete, 1), (.delete, 1)] := by
  constructor
  · rw [C20P.addRemove_eq_specD]; decide
  · decide

example : addRemove ([] : List Nat) [4, 4] = [(.add, 4)] ∧
    spec ([] : List Nat) [4, 4] = [(.add, 4), (.add, 4)] := by
  constructor
  · rw [C20P.addRemove_eq_specD]; decide
  · decide

example : keyedIndex [5, 6, 5, 7] 5 = some 2 ∧ keyedIndex [5, 6, 5, 7] 8 = none ∧
    keyedContains [5, 6, 5, 7] 7 = true ∧ keyedContains [5, 6, 5, 7] 8 = false := by decide +kernel

open C20M

/-- **The diff of ANY two key sequences is the closed form `specD`**: the left keys once each in the
    order of their LAST occurrences (`dedupLast`), labelled by membership; the right-only keys once
    each, after the anchor they had at their FIRST occurrence, in first-occurrence order (`anchorsD`). -/
theorem ar_eq_specD (l r : List α) : addRemove l r = specD l r :=
  C20P.addRemove_eq_specD l r

/-- `spec` is the duplicate-free case of `specD` -/
theorem specD_nodup (l r : List α) (hl : l.Nodup) (hr : r.Nodup) : specD l r = spec l r :=
  C20P.specD_eq_spec l r hl hr

/-- with duplicates on the left: each left key once, in the order of the last occurrences -/
theorem ar_left_order_dup (l r : List α) :
    ((addRemove l r).filter (fun p => p.1 != Label.add)).map (·.2) = dedupLast l := by
  rw [C20P.addRemove_eq_specD, C20P.specD_left_order]

/-- the placement rule on the keys alone, for ALL inputs -/
theorem ar_anchor_dup (l r : List α) :
    (addRemove l r).map (·.2) =
      ((anchorsD l r none []).filter (fun p => p.1 == none)).map (·.2) ++
        (dedupLast l).flatMap
          (fun k => k :: ((anchorsD l r none []).filter (fun p => p.1 == some k)).map (·.2)) := by
  rw [C20P.addRemove_eq_specD]
  exact AR.shape_keys (anchorsD l r none []) (dedupLast l) r

/-- Duplicates on the left and repeated COMMON keys on the right are harmless: as long as no
    right-only key is repeated, the diff is the duplicate-free closed form against the left side
    reduced to its last occurrences. -/
theorem ar_dup_left_only (l r : List α) (hr : (r.filter (fun x => !l.contains x)).Nodup) :
    addRemove l r = spec (dedupLast l) r := by
  rw [C20P.addRemove_eq_specD, C20P.specD_eq_spec_dedup l r hr]

omit [LawfulBEq α] in
/-- `__iter__` does not change the object -/
theorem obj_iterate_pure (o : Obj α) : (o.step .iterate).1 = o := rfl

omit [LawfulBEq α] in
/-- the state after any history is the pair of the last arguments of the two setters -/
theorem obj_state (ops : List (Op α)) :
    Obj.final Obj.init ops = { left := curLeft ops, right := curRight ops } := by
  rw [C20P.final_eq]
  simp only [Obj.init, Option.or_none]

/-- **History independence.**  On ONE instance, for every sequence of operations, the n-th
    operation, if it is an iteration, observes the closed form of the CURRENT sides (the arguments of
    the last `set_left` / `set_right` before it) — whatever was iterated or set before. -/
theorem obj_trace_spec (ops : List (Op α)) (n : Nat) (h : ops[n]? = some .iterate) :
    (Obj.trace Obj.init ops)[n]?
      = some (some (specOut (curLeft (ops.take n)) (curRight (ops.take n)))) := by
  rw [C20P.trace_getElem?, h, Option.map_some, obj_state]
  simp only [Obj.step, C20P.iterate_eq_specOut]

omit [LawfulBEq α] in
/-- the setters return nothing -/
theorem obj_trace_setter (ops : List (Op α)) (n : Nat) (op : Op α) (h : ops[n]? = some op)
    (hop : op ≠ .iterate) : (Obj.trace Obj.init ops)[n]? = some none := by
  rw [C20P.trace_getElem?, h, Option.map_some]
  cases op with
  | setLeft l => rfl
  | setRight r => rfl
  | iterate => exact absurd rfl hop

omit [LawfulBEq α] in
/-- iterating twice in a row observes the same thing twice -/
theorem obj_iterate_repeat (pre post : List (Op α)) :
    (Obj.trace Obj.init (pre ++ .iterate :: .iterate :: post))[pre.length + 1]?
      = (Obj.trace Obj.init (pre ++ .iterate :: .iterate :: post))[pre.length]? := by
  rw [C20P.trace_getElem?, C20P.trace_getElem?]
  have h1 : (pre ++ Op.iterate :: Op.iterate :: post)[pre.length + 1]? = some .iterate := by
    rw [List.getElem?_append_right (by omega)]
    simp
  have h2 : (pre ++ Op.iterate :: Op.iterate :: post)[pre.length]? = some .iterate := by
    rw [List.getElem?_append_right (by omega)]
    simp
  have h3 : (pre ++ Op.iterate :: Op.iterate :: post).take (pre.length + 1) = pre ++ [.iterate] := by
    rw [List.take_append]
    simp [List.take_of_length_le]
  have h4 : (pre ++ Op.iterate :: Op.iterate :: post).take pre.length = pre := by
    rw [List.take_append]
    simp
  rw [h1, h2, h3, h4]
  simp only [Option.map_some, Obj.final, List.foldl_append, List.foldl_cons, List.foldl_nil, Obj.step]

/-! ### hash independence

Why the model cannot depend on hashing: `addRemove`, `specD` and the `KeyedTuple` model are
polymorphic in the key type and use NOTHING of it but `==` (`[BEq α] [LawfulBEq α]`); a Python dict
is modelled as an insertion-ordered association list, a Python set as a duplicate-free list, `sorted`
as a stable merge sort on the integer order pairs.  There is no hash, no order on keys and no
address in scope, so by parametricity the result can only depend on which keys are equal to which.
`ar_hash_independent` states this consequence explicitly: replacing every key by ANY injective image
(its hash-table slot, its `id()`, its value under another `PYTHONHASHSEED`, a str key by a tuple key)
replaces the keys of the result and changes neither labels nor order.  The IMPLEMENTATION is tied to
this by running it under several `PYTHONHASHSEED` values on str and tuple keys (stream `hashseed`). -/

theorem ar_hash_independent {γ : Type} [BEq γ] [LawfulBEq γ] (f : α → γ) (hf : Function.Injective f)
    (l r : List α) :
    addRemove (l.map f) (r.map f) = (addRemove l r).map (fun p => (p.1, f p.2)) :=
  Hist.addRemove_inj hf l r

open C20K
variable {κ : Type} [DecidableEq κ]

/-- no query changes the object -/
theorem kt_immutable (t : KT κ) (q : Q κ) : (t.step q).1 = t := C20P.step_state t q

/-- **every answer in every sequence of queries on one instance is the closed form over the entity
    list** (no `__map`, no history) -/
theorem kt_answers (es : List (Ent κ)) (qs : List (Q κ)) :
    (KT.new es).run qs = qs.map (specAsk es) := by
  rw [C20P.run_eq_map]
  apply List.map_congr_left
  intro q _
  exact C20P.step_eq_spec es q

/-- `keys()`, `values()` and plain iteration preserve file order, duplicates included -/
theorem kt_order (es : List (Ent κ)) :
    (KT.new es).keys = es.map (·.key) ∧ (KT.new es).values = es ∧
    ((KT.new es).step .iter).2 = .tuple es ∧ (KT.new es).keys.length = es.length := by
  simp [KT.keys, KT.values, KT.new, KT.step]

/-- **`items()` is `zip(keys(), values())` positionally, duplicates included** -/
theorem kt_items_zip (es : List (Ent κ)) :
    (KT.new es).itemPairs = List.zip (KT.new es).keys (KT.new es).values := by
  simp only [KT.itemPairs, KT.keys, KT.values, KT.new]
  induction es with
  | nil => rfl
  | cons e es ih => simp [ih]

/-- the i-th item is the i-th entity under its own key — in particular NOT the last entity with that
    key (this is what rules out `items()` built from keyed lookup) -/
theorem kt_items_getElem (es : List (Ent κ)) (i : Nat) :
    (KT.new es).itemPairs[i]? = (es[i]?).map (fun e => (e.key, e)) := by
  simp [KT.itemPairs, KT.new]

/-- **keyed lookup returns the LAST entity with the key**: `kt[k]` is `e` iff `e` has key `k`, occurs
    in the file, and no later entity has key `k` -/
theorem kt_lookup_last (es : List (Ent κ)) (k : κ) (e : Ent κ) :
    (KT.new es).getitem (.key k) = .ent e ↔
      e.key = k ∧ ∃ pre post, es = pre ++ e :: post ∧ ∀ e' ∈ post, e'.key ≠ k := by
  rw [C20P.getitem_key, ← C20P.lastWithKey_eq_some_iff]
  cases lastWithKey es k with
  | none => simp
  | some e' => simp

/-- a key that does not occur: `tuple.__getitem__(str)` raises `TypeError` -/
theorem kt_lookup_missing (es : List (Ent κ)) (k : κ) (h : ∀ e ∈ es, e.key ≠ k) :
    (KT.new es).getitem (.key k) = .err "TypeError" := by
  rw [C20P.getitem_key, C20P.lastWithKey_none es k h]

/-- **membership ⇔ the key occurs** -/
theorem kt_contains_iff (es : List (Ent κ)) (k : κ) :
    (KT.new es).contains (.key k) = true ↔ ∃ e ∈ es, e.key = k := by
  rw [C20P.contains_key, List.any_eq_true]
  simp

/-- membership of things that are not keys: an unhashable object (`compare_locales/keyedtuple.py` lines 34-35: the
    `TypeError` of the dict is swallowed), an int and a slice are never members; an entity object is a member iff it
    is an element (the `tuple.__contains__` fallback) -/
theorem kt_contains_other (es : List (Ent κ)) :
    (KT.new es).contains .unhashable = false ∧
    (∀ i, (KT.new es).contains (.int i) = false) ∧
    (∀ lo hi, (KT.new es).contains (.slice lo hi) = false) ∧
    (∀ e, (KT.new es).contains (.ent e) = es.contains e) := by
  simp [KT.contains, KT.mapContains, tupleContains, KT.new]

/-- integer indexing and slicing bypass the map; a slice (and a sum) is a PLAIN tuple -/
theorem kt_index_slice (es : List (Ent κ)) :
    (∀ i : Nat, (KT.new es).getitem (.int i) = match es[i]? with
      | some e => .ent e
      | none => .err "IndexError") ∧
    (∀ lo hi, (KT.new es).getitem (.slice lo hi) = .tuple (pySlice es lo hi)) ∧
    (∀ o, ((KT.new es).step (.concat o)).2 = .tuple (es ++ o)) := by
  refine ⟨?_, ?_, ?_⟩
  · intro i
    simp only [KT.getitem, KT.mapGet, tupleGetitem, C20P.tupleIndex_nat, KT.new]
    cases es[i]? <;> rfl
  · intro lo hi
    simp only [KT.getitem, KT.mapGet, tupleGetitem, KT.new]
  · intro o
    rfl

/-- duplicates on both sides, by `decide` on the closed form -/
example : specD [1, 2, 1, 3] [4, 2, 4, 5, 3, 3] =
    [(.add, 4), (.add, 5), (.equal, 2), (.delete, 1), (.equal, 3)] := by decide +kernel

/-- the hypothesis of `ar_dup_left_only` is needed: a REPEATED right-only key (5) re-activates the
    anchor of its first occurrence (none), so the later right-only key 6 is placed before 0 although
    it follows 0 in `right` -/
example : specD [0, 1] [5, 0, 5, 6] = [(.add, 5), (.add, 6), (.equal, 0), (.delete, 1)] ∧
    spec (dedupLast [0, 1]) [5, 0, 5, 6] = [(.add, 5), (.equal, 0), (.add, 5), (.add, 6), (.delete, 1)] ∧
    ¬ ([5, 0, 5, 6].filter (fun x => !([0, 1] : List Nat).contains x)).Nodup := by decide +kernel

/-- `ar_dup_left_only` is not vacuous: duplicates on the left, a repeated common key on the right -/
example : (([2, 7, 2, 1].filter (fun x => !([1, 2, 1] : List Nat).contains x)).Nodup) ∧
    spec (dedupLast [1, 2, 1]) [2, 7, 2, 1] = [(.equal, 2), (.add, 7), (.equal, 1)] ∧
    dedupLast [1, 2, 1] = [2, 1] := by decide +kernel

/-- `ar_left_order` needs `l.Nodup`: with a repeated left key the order is that of the LAST occurrences -/
example : dedupLast [1, 2, 1] ≠ [1, 2, 1] ∧ specD [1, 2, 1] ([] : List Nat) = [(.delete, 2), (.delete, 1)] := by
  decide +kernel

/-- a history: iterate before anything is set, set, iterate twice, replace the right side, iterate -/
example : (Obj.trace Obj.init [.iterate, .setLeft [1, 2], .iterate, .setRight [3, 2], .iterate, .iterate,
      .setRight [], .iterate] : List (Out Nat)).length = 8 ∧
    curLeft ([.iterate, .setLeft [1, 2], .iterate, .setRight [3, 2], .iterate] : List (Op Nat)) = some [1, 2] ∧
    curRight ([.iterate, .setLeft [1, 2], .iterate, .setRight [3, 2], .iterate] : List (Op Nat)) = some [3, 2] ∧
    specD [1, 2] [3, 2] = [(.add, 3), (.delete, 1), (.equal, 2)] := by
  refine ⟨rfl, by decide, by decide, by decide⟩

example : specOut (some [1, 2]) (some [3, 2]) = .ok (specD [1, 2] [3, 2]) ∧
    specOut (some [1, 2]) (none : Option (List Nat)) = .error "TypeError" := ⟨rfl, rfl⟩

/-- `items()` of a file with a duplicate key: positional, NOT the last entity for both occurrences -/
example : (KT.new [⟨5, 0⟩, ⟨6, 1⟩, ⟨5, 2⟩] : KT Nat).itemPairs = [(5, ⟨5, 0⟩), (6, ⟨6, 1⟩), (5, ⟨5, 2⟩)] ∧
    (KT.new [⟨5, 0⟩, ⟨6, 1⟩, ⟨5, 2⟩] : KT Nat).getitem (.key 5) = .ent ⟨5, 2⟩ ∧
    (KT.new [⟨5, 0⟩, ⟨6, 1⟩, ⟨5, 2⟩] : KT Nat).getitem (.key 7) = .err "TypeError" ∧
    (KT.new [⟨5, 0⟩, ⟨6, 1⟩, ⟨5, 2⟩] : KT Nat).getitem (.slice (some 1) none) = .tuple [⟨6, 1⟩, ⟨5, 2⟩] ∧
    (KT.new [⟨5, 0⟩, ⟨6, 1⟩, ⟨5, 2⟩] : KT Nat).getitem (.int (-1)) = .ent ⟨5, 2⟩ ∧
    (KT.new [⟨5, 0⟩, ⟨6, 1⟩, ⟨5, 2⟩] : KT Nat).contains .unhashable = false := by decide +kernel

/-! ## INTERACTION histories: a heap of `KeyedTuple`s, `AddRemove`s and caller-owned lists
with explicit aliasing (`Compare/C20Heap.lean`)

The statements above concern ONE object each.  Here several objects live in one history and results
of one are handed to another BY REFERENCE, as `compare/content.py` and `merge.py` do
(`ar.set_left(kt.keys())`).  A list is a cell `Ref` of the heap; an `AddRemove` attribute holds a
`Ref`; a `KeyedTuple` holds values only.  The two facts that make the hand-over safe are theorems:
`keys_fresh` (what `keys()` hands out is a new list nobody else refers to) and `addremove_readonly`
(no `AddRemove` operation changes the contents of any list).  A change of the code that breaks either
of them breaks the correspondence `c20.heap`; the two together break `heap_kt_forever`, which the
oracle checks on the implementation (every `KeyedTuple` answer, at any point of any history, is the
closed form over the elements the object was built from). -/

section Heap
open C20H

/-- **`keys()` returns a fresh list each call**: the list made of `kt.keys()` is a NEW cell (its
    address is the old size of the heap, so it differs from every existing list and from the list of
    every other call), it holds the keys in file order, NO `AddRemove` refers to it, and the call
    leaves every `KeyedTuple` (and every other component) as it was. -/
theorem keys_fresh (h : Heap κ) (hw : h.WF) (t : Nat) (k : KT κ) (hk : h.kts[t]? = some k) :
    (h.step (.keysToList t)).2 = .keys (k.items.map (·.key)) ∧
    (h.step (.keysToList t)).1.lists = h.lists ++ [k.items.map (·.key)] ∧
    (h.step (.keysToList t)).1.Unshared h.lists.length ∧
    (h.step (.keysToList t)).1.kts = h.kts ∧ (h.step (.keysToList t)).1.ars = h.ars ∧
    (h.step (.keysToList t)).1.elists = h.elists := by
  refine ⟨by simp [Heap.step, hk, KT.keys], by simp [Heap.step, hk, KT.keys], ?_, by simp [Heap.step, hk],
    by simp [Heap.step, hk], by simp [Heap.step, hk]⟩
  simp only [Heap.step, hk]
  intro o ho
  have := hw o ho
  refine ⟨fun e => ?_, fun e => ?_⟩
  · exact Nat.lt_irrefl _ (this.1 _ e)
  · exact Nat.lt_irrefl _ (this.2 _ e)

/-- two calls of `keys()` give two different lists with the same contents -/
theorem keys_fresh_each_call (h : Heap κ) (t : Nat) (k : KT κ) (hk : h.kts[t]? = some k) :
    (Heap.final h [.keysToList t, .keysToList t]).lists = h.lists ++ [k.keys, k.keys] ∧
    Heap.trace h [.keysToList t, .keysToList t] = [.keys k.keys, .keys k.keys] := by
  simp [Heap.final, Heap.trace, Heap.step, hk]

/-- the list `set_left(kt.keys())` stores is a NEW one as well: only that attribute refers to it -/
theorem set_left_keys_fresh (h : Heap κ) (hw : h.WF) (a t : Nat) (o : ARObj) (k : KT κ)
    (ho : h.ars[a]? = some o) (hk : h.kts[t]? = some k) :
    (h.step (.setLeft a (.keysOf t))).1 =
      { h with lists := h.lists ++ [k.keys], ars := h.ars.set a { o with left := some h.lists.length } } ∧
    ∀ o' ∈ h.ars, o'.left ≠ some h.lists.length ∧ o'.right ≠ some h.lists.length := by
  refine ⟨by simp [Heap.step, Heap.storeSrc, ho, hk], fun o' ho' => ?_⟩
  have := hw o' ho'
  exact ⟨fun e => Nat.lt_irrefl _ (this.1 _ e), fun e => Nat.lt_irrefl _ (this.2 _ e)⟩

/-- **`set_left(list)` / `set_right(list)` ALIAS the caller's list**: the attribute refers to the
    very cell that was handed over; nothing is copied (recorded behaviour of the unchanged code) -/
theorem set_aliases (h : Heap κ) (a : Nat) (r : Ref) (o : ARObj) (ho : h.ars[a]? = some o)
    (hr : r < h.lists.length) :
    (h.step (.setLeft a (.ref r))).1 = { h with ars := h.ars.set a { o with left := some r } } ∧
    (h.step (.setRight a (.ref r))).1 = { h with ars := h.ars.set a { o with right := some r } } := by
  simp [Heap.step, Heap.storeSrc, ho, hr]

/-- **`AddRemove` never mutates a list it was given** (nor any other): creating an instance, either
    setter with any argument, and iterating leave the contents of every existing list, every entity
    list and every `KeyedTuple` unchanged. -/
theorem addremove_readonly (h : Heap κ) (op : C20H.Op κ)
    (hop : op = .newAR ∨ (∃ a s, op = .setLeft a s) ∨ (∃ a s, op = .setRight a s) ∨ ∃ a, op = .iterate a)
    (r : Ref) (hr : r < h.lists.length) :
    (h.step op).1.lists[r]? = h.lists[r]? ∧ (h.step op).1.elists = h.elists ∧
    (h.step op).1.kts = h.kts := by
  refine ⟨C20HP.step_lists_frame h op r hr ?_, ?_⟩
  · intro m e
    rcases hop with rfl | ⟨a, s, rfl⟩ | ⟨a, s, rfl⟩ | ⟨a, rfl⟩ <;> cases e
  · rcases hop with rfl | ⟨a, s, rfl⟩ | ⟨a, s, rfl⟩ | ⟨a, rfl⟩
    · exact ⟨rfl, rfl⟩
    · exact (C20HP.step_set h a s).1
    · exact (C20HP.step_set h a s).2
    · simp only [Heap.step]
      split <;> exact ⟨rfl, rfl⟩

/-- **the contents of a list change only by the caller's own mutations of that list**: after ANY
    history (setters, iterations, `keys()`, new objects, mutations of other lists, …) the list `r`
    holds its old contents with exactly the caller's mutations of `r` applied, in order. -/
theorem heap_cell_spec (h : Heap κ) (ops : List (C20H.Op κ)) (r : Ref) (c : List κ) (hc : h.lists[r]? = some c) :
    (Heap.final h ops).lists[r]? = some (applyMuts c (mutsOf r ops)) := by
  open C20HP in
  induction ops generalizing h c with
  | nil => simpa [Heap.final, mutsOf, applyMuts] using hc
  | cons op ops ih =>
    rw [final_cons]
    have hr : r < h.lists.length := (List.getElem?_eq_some_iff.1 hc).1
    by_cases hop : ∃ m, op = .mutList r m
    · obtain ⟨m, rfl⟩ := hop
      rw [ih _ _ (step_mutList h r m c hc)]
      simp [mutsOf, applyMuts]
    · have hop' : ∀ m, op ≠ .mutList r m := fun m e => hop ⟨m, e⟩
      have hfr := step_lists_frame h op r hr hop'
      rw [ih _ c (by rw [hfr]; exact hc)]
      congr 2
      cases op with
      | mutList r' m =>
        have hne : r' ≠ r := fun e => hop' m (e ▸ rfl)
        simp [mutsOf, hne]
      | _ => rfl

/-- **iterating yields the closed form of the CURRENT contents of the two lists** the attributes
    refer to (so a caller who mutates a list it handed over by reference changes the next diff — the
    unchanged code does exactly that), `TypeError` while a side is `None`; the heap is unchanged. -/
theorem heap_iterate_spec (h : Heap κ) (hw : h.WF) (a : Nat) (o : ARObj) (ho : h.ars[a]? = some o) :
    h.step (.iterate a) = (h, .diff (specOut (h.deref o.left) (h.deref o.right))) := by
  have hom : o ∈ h.ars := List.mem_of_getElem? ho
  obtain ⟨hl, hr⟩ := hw o hom
  simp only [Heap.step, ho, Heap.iterate, Heap.deref]
  cases hL : o.left with
  | none => rfl
  | some l =>
    cases hR : o.right with
    | none =>
      obtain ⟨lc, hlc⟩ : ∃ lc, h.lists[l]? = some lc := ⟨_, List.getElem?_eq_getElem (hl l hL)⟩
      simp [hlc, specOut]
    | some r =>
      obtain ⟨lc, hlc⟩ : ∃ lc, h.lists[l]? = some lc := ⟨_, List.getElem?_eq_getElem (hl l hL)⟩
      obtain ⟨rc, hrc⟩ : ∃ rc, h.lists[r]? = some rc := ⟨_, List.getElem?_eq_getElem (hr r hR)⟩
      simp only [Option.bind_some, hlc, hrc, specOut, C20P.addRemove_eq_specD]

/-- the same at any point of any history from the empty heap: the n-th operation, if an iteration of
    `A a`, observes the closed form of what the two lists it refers to hold AT THAT MOMENT (by
    `heap_cell_spec`: their contents at creation changed by their owner's mutations only). -/
theorem heap_iterate_history (ops : List (C20H.Op κ)) (n a : Nat) (o : ARObj)
    (hq : ops[n]? = some (.iterate a)) (ho : (Heap.final Heap.init (ops.take n)).ars[a]? = some o) :
    (Heap.trace Heap.init ops)[n]? =
      some (.diff (specOut ((Heap.final Heap.init (ops.take n)).deref o.left)
        ((Heap.final Heap.init (ops.take n)).deref o.right))) := by
  rw [C20HP.trace_getElem?, hq, Option.map_some,
    heap_iterate_spec _ (C20HP.final_wf _ _ C20HP.init_wf) a o ho]

/-- the invariants hold in every heap reachable from the empty one -/
theorem heap_reachable_wf (ops : List (C20H.Op κ)) :
    (Heap.final Heap.init ops).WF ∧ (Heap.final Heap.init ops).KTInv :=
  ⟨C20HP.final_wf _ ops C20HP.init_wf, C20HP.final_ktinv _ ops C20HP.init_ktinv⟩

/-- `KeyedTuple(...)` COPIES: the new object is `KeyedTuple` of the elements the argument has NOW
    (new entities / the caller's list / another object's values, items, sum), at a new address. -/
theorem heap_newkt_spec (h : Heap κ) (s : KSrc κ) (es : List (Ent κ)) (n : Nat) (hs : h.ksrcEnts s = some (es, n)) :
    (h.step (.newKT s)).1.kts = h.kts ++ [KT.new es] ∧ (h.step (.newKT s)).1.lists = h.lists ∧
    (h.step (.newKT s)).1.elists = h.elists ∧ (h.step (.newKT s)).1.ars = h.ars := by
  simp [Heap.step, hs]

/-- … and what the caller does to its list AFTERWARDS (or anything else that happens) does not reach
    the object: after any history it is still the `KeyedTuple` of the contents at construction. -/
theorem heap_newkt_copies (h : Heap κ) (r : Ref) (es : List (Ent κ)) (hes : h.elists[r]? = some es)
    (ops : List (C20H.Op κ)) :
    (Heap.final (h.step (.newKT (.elist r))).1 ops).kts[h.kts.length]? = some (KT.new es) := by
  apply C20HP.final_kts_getElem?
  simp [Heap.step, Heap.ksrcEnts, hes]

/-- **Immutability across the whole interaction.**  In every history over the heap, if the
    `KeyedTuple` number `t` exists after the first `m` operations with elements `es`, then EVERY later
    query on it — whatever was handed to whichever `AddRemove`, whichever list was mutated, whatever
    was iterated or built in between — answers the closed form over `es` (file order with duplicates
    for `keys/values/items`, the last entity for `kt[key]`, …). -/
theorem heap_kt_forever (ops : List (C20H.Op κ)) (m n t : Nat) (hmn : m ≤ n) (k : KT κ) (q : Q κ)
    (hk : (Heap.final Heap.init (ops.take m)).kts[t]? = some k) (hq : ops[n]? = some (.ask t q)) :
    (Heap.trace Heap.init ops)[n]? = some (.res (specAsk k.items q)) := by
  rw [C20HP.trace_getElem?, hq, Option.map_some]
  have hk' := C20HP.final_kts_take ops hmn _ t k hk
  have hinv : k = KT.new k.items :=
    (heap_reachable_wf (ops.take n)).2 k (List.mem_of_getElem? hk')
  simp only [Heap.step, hk', C20HP.ktinv_step k hinv q]

/-- the same for the lists made of `keys()` / `values()` / `items()` at any later point -/
theorem heap_kt_lists_forever (ops : List (C20H.Op κ)) (m n t : Nat) (hmn : m ≤ n) (k : KT κ)
    (hk : (Heap.final Heap.init (ops.take m)).kts[t]? = some k) :
    (ops[n]? = some (.keysToList t) → (Heap.trace Heap.init ops)[n]? = some (.keys (k.items.map (·.key)))) ∧
    (ops[n]? = some (.valuesToList t) → (Heap.trace Heap.init ops)[n]? = some (.ents k.items)) ∧
    (ops[n]? = some (.itemsToList t) →
      (Heap.trace Heap.init ops)[n]? = some (.res (.items (k.items.map (fun v => (v.key, v)))))) := by
  have hk' := C20HP.final_kts_take ops hmn _ t k hk
  refine ⟨fun hq => ?_, fun hq => ?_, fun hq => ?_⟩ <;>
    (rw [C20HP.trace_getElem?, hq, Option.map_some]; simp [Heap.step, hk', KT.keys, KT.values, KT.itemPairs])

/-- the flow of `ContentComparer.compare`: `ar.set_left(ref.keys()); ar.set_right(l10n.keys());
    list(ar)` and then any query on either file: the diff is the closed form of the two key
    sequences in file order, and the query is answered as if nothing had happened. -/
theorem heap_content_flow (h : Heap κ) (hi : h.KTInv) (a t u : Nat) (kt ku : KT κ)
    (q : Q κ) (ha : a < h.ars.length) (ht : h.kts[t]? = some kt) (hu : h.kts[u]? = some ku) :
    Heap.trace h [.setLeft a (.keysOf t), .setRight a (.keysOf u), .iterate a, .ask t q, .ask u q] =
      [.nothing, .nothing, .diff (.ok (specD (kt.items.map (·.key)) (ku.items.map (·.key)))),
        .res (specAsk kt.items q), .res (specAsk ku.items q)] := by
  have hkt := C20HP.ktinv_step kt (hi kt (List.mem_of_getElem? ht)) q
  have hku := C20HP.ktinv_step ku (hi ku (List.mem_of_getElem? hu)) q
  simp [Heap.trace, Heap.step, Heap.storeSrc, Heap.iterate, ht, hu, ha, hkt, hku, KT.keys,
    C20P.addRemove_eq_specD]

/-- a caller who mutates a list it handed over BY REFERENCE changes the next diff (aliasing), while the
    list made of `keys()` and the `KeyedTuple` are out of its reach -/
example :
    Heap.trace (Heap.init : Heap Nat)
      [.newList [1, 2], .newKT (.lit [2, 3, 2]), .newAR, .setLeft 0 (.ref 0), .setRight 0 (.keysOf 0),
        .iterate 0, .mutList 0 (.append 3), .readList 1, .ask 0 .keys] =
      [.nothing, .nothing, .nothing, .nothing, .nothing,
        .diff (.ok (addRemove [1, 2] [2, 3, 2])), .nothing, .keys [2, 3, 2], .res (.keys [2, 3, 2])] := by
  rfl

example : (Heap.final (Heap.init : Heap Nat)
      [.newList [1, 2], .newKT (.lit [2, 3, 2]), .newAR, .setLeft 0 (.ref 0), .setRight 0 (.keysOf 0),
        .mutList 0 (.append 3)]).lists = [[1, 2, 3], [2, 3, 2]] ∧
    (Heap.final (Heap.init : Heap Nat)
      [.newList [1, 2], .newKT (.lit [2, 3, 2]), .newAR, .setLeft 0 (.ref 0), .setRight 0 (.keysOf 0),
        .mutList 0 (.append 3)]).ars = [{ left := some 0, right := some 1 }] := ⟨rfl, rfl⟩

/-- `heap_iterate_spec` needs `WF`: an attribute that refers to no list is outside the model -/
example : ¬ ({ lists := [], elists := [], kts := [], ars := [{ left := some 0, right := some 0 }], nextId := 0 } :
    Heap Nat).WF := by
  intro hw
  exact Nat.lt_irrefl 0 ((hw _ (List.mem_singleton.mpr rfl)).1 0 rfl)

end Heap

end C20
