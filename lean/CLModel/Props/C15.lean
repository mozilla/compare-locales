/-
C15 — Cross-channel merge keeps every string once, newest wins, order stable.

Vocabulary (defined in CLModel/Merge/Channels.lean):
  `versionDict i es`   the ordered dict `parse_resource` builds for version number `i` (0 = newest)
  `versionDicts rs`    these dicts for all versions, newest first
  `nwKeys d`           keys of the dict entries that are not Whitespace objects, in dict order
                       (entity keys, `(comment text, occurrence)` keys, section / instruction keys)
  `AR.specKeys l r`    key sequence of the C20 closed form of `AddRemove` (C20.addRemove_eq_spec / C20.ar_anchor)
Defined in the proof files and used in statements below:
  `C15C.copies v es`      how many stand-alone comments of a version have the text `v` (Proofs/C15Single)
  `C15D.firstOcc [] ks`   the first occurrences of the keys `ks`, in order; `C15D.lastVal ps k`, `C15D.lastEnt ek es`: the value of
                          the last pair with key `k`, the last entry with `entity.key = ek` (Proofs/C15Dup)
  `C15S.Strict d`         the dict alternates strictly: entry, Whitespace object, entry, … (Proofs/C15RStrict)
All theorems hold for every list of versions and every entry list: no bound on sizes.

Vocabulary of the re-parse theorem `merge_reparses_properties_partial` (CLModel/Proofs/C02Roundtrip.lean):
  `P.printProps rs`        the file `key=value⏎` per record (C02)
  `P.SafeRec (key, value)` non-empty key without `# ! = :` / white-space; value without backslash / newline that neither starts
                           nor ends in a blank (nor ends in CR) — the class of C02.roundtrip_properties_partial
-/
import CLModel.Proofs.C15Text
import CLModel.Proofs.C15Newest
import CLModel.Proofs.C15RProps
import CLModel.Proofs.C15RIni
import CLModel.Proofs.C15Total
import CLModel.Proofs.C15Dup
import CLModel.Proofs.AddRemove
import CLModel.Proofs.C15RDtd
import CLModel.Proofs.C15Single
import CLModel.Proofs.C15Hist
import CLModel.Proofs.SafeRecDec
import CLModel.Props.C18
namespace C15
open Merge AR

/-- Every key of every version exactly once: the dict `merge_resources` returns has no key twice, and a key
    that is not a Whitespace object is in it iff it is a (non-Whitespace) key of the dict of some version.
    For the Python code: after `merge_channels` every entity / comment / section of every channel is
    serialised exactly once (Whitespace objects are folded by `prune` and excluded here). -/
theorem merged_keys (rs : List (List Ent)) (d : Dict) (h : mergeResources rs = some d) :
    (keysOf d).Nodup ∧
    ∀ k, k ∈ nwKeys d ↔ ∃ i es, rs[i]? = some es ∧ k ∈ nwKeys (versionDict i es) :=
  Merge.merged_keys rs d h

/-- The same for the strings themselves: an `entity.key` is a key of the merged dict iff some entry of
    some version (that is neither Comment nor Whitespace) has it — and then exactly once (`merged_keys`). -/
theorem merged_entity_keys (rs : List (List Ent)) (d : Dict) (h : mergeResources rs = some d) (ek : EKey) :
    Key.ent ek ∈ keysOf d ↔ ∃ es ∈ rs, ∃ e ∈ es, e.keyed = true ∧ e.ekey = ek :=
  Merge.merged_entity_keys rs d h ek

/-- Newest wins: under a key that is not a Whitespace object the merged dict holds the entry of the FIRST
    version (newest first) whose dict has the key.  For the Python code: the text serialised for a string is
    `entity.all` (attached comment included) of the newest channel that has the string. -/
theorem newest_wins (rs : List (List Ent)) (d : Dict) (h : mergeResources rs = some d) (k : Key)
    (hk : k.isObj = false) :
    dget d k = (versionDicts rs).findSome? (fun dv => dget dv k) :=
  merged_dget h k hk

/-- Newest wins, at the level of the serialised text: if version `i` (without a repeated key) has an entry `e`
    with key `ek`, and no entry of a newer version has that key, then the merged dict holds, under that key,
    an entry with exactly `e`'s text (`entity.all`, attached comment included). -/
theorem newest_text (rs : List (List Ent)) (d : Dict) (h : mergeResources rs = some d)
    (i : Nat) (es : List Ent) (hi : rs[i]? = some es) (hk : NodupKeys es)
    (e : Ent) (he : e ∈ es) (hkeyed : e.keyed = true)
    (hfirst : ∀ j < i, ∀ es', rs[j]? = some es' → ∀ e' ∈ es', e'.keyed = true → e'.ekey ≠ e.ekey) :
    (dget d (Key.ent e.ekey)).map (·.all) = some e.all :=
  Merge.newest_text rs d h i es hi hk e he hkeyed hfirst

/-- The merged text is the concatenation of the texts of the merged dict's entries, in dict order
    (`serialize_legacy_resource`); with `merged_keys`, `newest_text` and `order_spec` this says which texts
    and in which order. -/
theorem merged_text (f : P.Fmt) (texts : List (Array Nat)) (t : List Nat) (h : mergeTexts f texts = .ok t) :
    ∃ vs d, walkAll f texts.zipIdx = .ok vs ∧ mergeResources vs = some d ∧ t = (d.map (·.2.all)).flatten := by
  unfold mergeTexts at h
  split at h
  · simp at h
  · rename_i vs hvs
    split at h
    · simp at h
    · rename_i d hd
      simp only [Except.ok.injEq] at h
      exact ⟨vs, d, hvs, hd, h.symm⟩

/-- Order: the key order of the merge (Whitespace objects aside) is the C20 closed form folded over the
    versions: start with the newest version's keys; for every older version, each key only it has goes right
    after the last key preceding it there that the merge so far has too (`AR.specKeys`, see `C20.ar_anchor`). -/
theorem order_spec (rs : List (List Ent)) (d : Dict) (h : mergeResources rs = some d) :
    ∃ d0 ds, versionDicts rs = d0 :: ds ∧
      nwKeys d = ds.foldl (fun l dv => specKeys l (nwKeys dv)) (nwKeys d0) :=
  merged_nwKeys h

/-- The placement rule of one merge step, spelled out (from C20): keys only the older sequence `r` has and
    that follow no key of `l` come first, then every key `k` of `l` in `l`'s order, followed by the keys only
    `r` has whose last preceding `l`-key in `r` is `k`, in `r`'s order. -/
theorem order_step (l r : List Key) :
    specKeys l r =
      ((anchors l r none).filter (fun p => p.1 == none)).map (·.2) ++
        l.flatMap (fun k => k :: ((anchors l r none).filter (fun p => p.1 == some k)).map (·.2)) :=
  spec_keys l r

/-- The newest version's keys keep their relative order in the merge. -/
theorem newest_order_kept (rs : List (List Ent)) (d : Dict) (h : mergeResources rs = some d) :
    ∃ d0 ds, versionDicts rs = d0 :: ds ∧ (nwKeys d).filter (fun k => (nwKeys d0).contains k) = nwKeys d0 := by
  obtain ⟨d0, ds, hvd, hord⟩ := order_spec rs d h
  refine ⟨d0, ds, hvd, ?_⟩
  rw [hord, foldl_map_nwKeys]
  exact foldSpec_left _ _

/-- Merging a single version returns its text.  `hl` is the losslessness of the parse (C01), `hk` excludes a
    key occurring twice in the file (an ordered dict keeps one entry per key: see the witness below). -/
theorem merge_single (f : P.Fmt) (s : Array Nat) (es : List P.Entry) (ents : List Ent)
    (hw : P.walk f s = .done es) (he : toEnts f s 0 es.zipIdx = .ok ents) (hk : NodupKeys ents)
    (hl : (es.map (P.Entry.all s)).flatten = s.toList) :
    mergeTexts f [s] = .ok s.toList := by
  have h1 : walkAll f [s].zipIdx = .ok [ents] := by
    simp [walkAll, walkEnts, hw, he]
  rw [mergeTexts, h1]
  simp only [mergeResources_single, serialize_versionDict 0 ents hk, toEnts_all f s 0 _ ents he]
  rw [← hl]
  congr 2
  have : (fun p : P.Entry × Nat => P.Entry.all s p.1) = (P.Entry.all s) ∘ Prod.fst := rfl
  rw [this, ← List.map_map, List.zipIdx_map_fst]

/-- Merging n+1 identical versions returns the text.  Besides the hypotheses of `merge_single`: the version is
    junk-free (`hj`, as the property states: every Junk object has its own key, so junk is repeated).
    `NoAdjWs ents`, which the entry-level `merge_identical_entries` asks for, holds for the parser models
    (`walk_no_adjacent_whitespace`). -/
theorem merge_identical (f : P.Fmt) (s : Array Nat) (es : List P.Entry) (ents : List Ent) (n : Nat)
    (hw : P.walk f s = .done es) (he : toEnts f s 0 es.zipIdx = .ok ents)
    (hj : ∀ e ∈ es, e.kind ≠ .junk) (hk : NodupKeys ents)
    (hl : (es.map (P.Entry.all s)).flatten = s.toList) :
    mergeTexts f (List.replicate (n + 1) s) = .ok s.toList := by
  have ha : NoAdjWs ents := C15W.walk_noAdjWs f s es ents 0 hw he
  obtain ⟨vs, hvs, hall⟩ := walkAll_replicate f s es ents hw he hj (n + 1) 0
  obtain ⟨d, hd, hser⟩ := mergeResources_identical ents n hk ha
  rw [mergeTexts, hvs]
  simp only [mergeResources_congr _ _ hall, hd, hser, toEnts_all f s 0 _ ents he]
  rw [← hl]
  congr 2
  have : (fun p : P.Entry × Nat => P.Entry.all s p.1) = (P.Entry.all s) ∘ Prod.fst := rfl
  rw [this, ← List.map_map, List.zipIdx_map_fst]

/-- The entry-level core of `merge_identical`, for any format (Fluent and Android included, whose entries
    come from external parsers). -/
theorem merge_identical_entries (es : List Ent) (n : Nat) (hk : NodupKeys es) (ha : NoAdjWs es) :
    ∃ d, mergeResources (List.replicate (n + 1) es) = some d ∧ serialize d = (es.map (·.all)).flatten :=
  mergeResources_identical es n hk ha

/-- RE-PARSE, `.properties`, printed safe records.  Take ANY non-empty list of versions (newest first), each printed
    from safe records with distinct keys (`key=value⏎` per record; the versions may have different keys, values, orders).
    Then `merge_channels` — the model run end to end: every text parsed by `PropertiesParser.walk`, `merge_resources`,
    `serialize_legacy_resource` — succeeds, and `PropertiesParser.walk` parses the merged text, WITHOUT JUNK, into exactly
    one entity per record of a list `recs` (key = the record's key, raw value = value = the record's value, no comment) with:
    every key at most once; a key occurs iff some version has it; and for every record `r` of version `i` such that no
    newer version has its key, `r` itself is in `recs` (so, keys being unique, every key carries the value of the newest
    version having it).
    Proof route: C02 round trip (the walk of a printed file is known) → each version's dict alternates strictly entity /
    one-newline Whitespace object; this shape survives the closed form of `AddRemove`, `prune` and the fold over the versions
    (`C15S.merged_strict`) → the merged text is itself the printed file of the records of the merged dict
    (`C15S.merged_printed`, the same for DTD, .inc and .ini) → C02 round trip again; which records: `merged_entity_keys`, `newest_text`.
    FULL statement (not proved): the other formats, comments, blank lines, all legal layouts; entity ORDER of the re-parse
    (it is the dict order of `order_spec`). -/
theorem merge_reparses_properties_partial (vers : List (List P.PRec)) (hne : vers ≠ [])
    (hsafe : ∀ rs ∈ vers, ∀ r ∈ rs, P.SafeRec r) (hnd : ∀ rs ∈ vers, (rs.map (·.1)).Nodup) :
    ∃ (t : List Nat) (es : List P.Entry) (recs : List P.PRec), mergeTexts .properties (vers.map (fun rs => (P.printProps rs).toArray)) = .ok t ∧
      P.walk .properties t.toArray = .done es ∧
      P.entitiesOf .properties t.toArray es = recs.map P.expectedView ∧
      P.junkOf t.toArray es = [] ∧
      (recs.map (·.1)).Nodup ∧
      (∀ k, k ∈ recs.map (·.1) ↔ ∃ rs ∈ vers, k ∈ rs.map (·.1)) ∧
      (∀ (i : Nat) (rs : List P.PRec) (r : P.PRec), vers[i]? = some rs → r ∈ rs →
        (∀ j < i, ∀ rs' : List P.PRec, vers[j]? = some rs' → r.1 ∉ rs'.map (·.1)) → r ∈ recs) := by
  obtain ⟨t, es, recs, h1, -, h⟩ := C15S.merge_reparses_printed C15R.propsL .properties P.printProps C15R.printL_props
    C15R.propsL_val P.SafeRec vers hne (fun ver rs h => C15R.walkEnts_printed ver rs (hsafe rs h))
    (fun recs hsr => ⟨_, P.walk_props_printed recs hsr, P.entitiesOf_expEntries _ recs 0 (by simp) hsr⟩) hsafe hnd
  exact ⟨t, es, recs, h1, h⟩

/-- RE-PARSE, `.ini`, printed safe records.  Every version `[sec]⏎` + `key=value⏎` per record with the SAME section name
    (`C02X.printIni`; safe ini records, see `C02.roundtrip_ini_partial`), distinct keys per version, none equal to the section
    name.  Then `merge_channels` succeeds and `IniParser.walk` parses the merged text, WITHOUT JUNK, into the section entry and
    exactly one entity per record of a list `recs` with: every key at most once; a key occurs iff some version has it; the
    record of the newest version having a key is in `recs`.
    Additional step: the merged dict starts with the newest version's section entry (`C15R.merged_head`) and holds no other
    (dict keys are unique).  FULL statement (not proved): versions without / with several / with different sections, comments,
    blank lines. -/
theorem merge_reparses_ini_partial (sec : List Nat) (vers : List (List P.PRec)) (hne : vers ≠ [])
    (hsec : ∀ c ∈ sec, c ≠ 93 ∧ c ≠ 10)
    (hsafe : ∀ rs ∈ vers, ∀ r ∈ rs, C02X.SafeIniRec r) (hnd : ∀ rs ∈ vers, (sec :: rs.map (·.1)).Nodup) :
    ∃ (t : List Nat) (es : List P.Entry) (recs : List P.PRec),
      mergeTexts .ini (vers.map (fun rs => (C02X.printIni sec rs).toArray)) = .ok t ∧
      P.walk .ini t.toArray = .done es ∧
      P.entitiesOf .ini t.toArray es = recs.map P.expectedView ∧
      P.junkOf t.toArray es = [] ∧
      (recs.map (·.1)).Nodup ∧
      (∀ k, k ∈ recs.map (·.1) ↔ ∃ rs ∈ vers, k ∈ rs.map (·.1)) ∧
      (∀ (i : Nat) (rs : List P.PRec) (r : P.PRec), vers[i]? = some rs → r ∈ rs →
        (∀ j < i, ∀ rs' : List P.PRec, vers[j]? = some rs' → r.1 ∉ rs'.map (·.1)) → r ∈ recs) := by
  cases vers with
  | nil => exact absurd rfl hne
  | cons v vs =>
    exact C15R.merge_reparses_ini sec hsec v vs hsafe hnd



/-- RE-PARSE, DTD, printed safe records.  Every version `<!ENTITY key "value">⏎` per record
    (`C02X.printDtd`, the class of `C02.roundtrip_dtd_partial`), distinct keys per version.  Then `merge_channels` succeeds,
    the merged text is ITSELF a printed file `printDtd recs` (the merged dict alternates strictly entity / one-newline
    white-space: `C15S.merged_strict` — `Alt` + "prune never leaves two neighbouring white-space entries" + "the merge
    starts with an entity when every version does"), hence `DTDParser.walk` parses it WITHOUT JUNK into exactly one entity
    per record of `recs`; `recs` has every key once, a key iff some version has it, and the record of the newest version
    having the key.  FULL statement (not proved): comments, blank lines, other layouts, `&`/`"` in values; the ORDER of
    `recs` (it is the dict order of `order_spec`). -/
theorem merge_reparses_dtd_partial (vers : List (List P.PRec)) (hne : vers ≠ [])
    (hsafe : ∀ rs ∈ vers, ∀ r ∈ rs, C02X.SafeDtdRec r) (hnd : ∀ rs ∈ vers, (rs.map (·.1)).Nodup) :
    ∃ (t : List Nat) (es : List P.Entry) (recs : List P.PRec),
      mergeTexts .dtd (vers.map (fun rs => (C02X.printDtd rs).toArray)) = .ok t ∧
      t = C02X.printDtd recs ∧
      P.walk .dtd t.toArray = .done es ∧
      P.entitiesOf .dtd t.toArray es = recs.map P.expectedView ∧
      P.junkOf t.toArray es = [] ∧
      (recs.map (·.1)).Nodup ∧
      (∀ k, k ∈ recs.map (·.1) ↔ ∃ rs ∈ vers, k ∈ rs.map (·.1)) ∧
      (∀ (i : Nat) (rs : List P.PRec) (r : P.PRec), vers[i]? = some rs → r ∈ rs →
        (∀ j < i, ∀ rs' : List P.PRec, vers[j]? = some rs' → r.1 ∉ rs'.map (·.1)) → r ∈ recs) := by
  exact C15S.merge_reparses_printed C15S.dtdL .dtd C02X.printDtd C15S.printL_dtd C15S.dtdL_val C02X.SafeDtdRec vers hne
    (fun ver rs h => C15S.walkEnts_dtd_printed ver rs (hsafe rs h))
    (fun recs hsr => ⟨_, C02X.walk_dtd_printed recs hsr, C02X.entitiesOf_dtdExpEntries _ recs 0 (by simp) hsr⟩) hsafe hnd

/-- RE-PARSE, .inc, printed safe records.  Every version `#define key value⏎` (`#define key⏎` for an empty
    value) per record (`C02X.printInc`, the class of `C02.roundtrip_inc_partial`), distinct keys per version.  Same
    conclusion as for DTD: the merged text is the printed file of `recs` and `DefinesParser.walk` parses it without junk.
    The strict alternation matters here: outside `#filter emptyLines` a blank line (two neighbouring newlines) or a leading
    newline IS Junk for `DefinesParser` (witnesses below), and `prune` / the head lemma exclude both.
    FULL statement (not proved): comments, `#filter emptyLines` blocks, other instructions. -/
theorem merge_reparses_inc_partial (vers : List (List P.PRec)) (hne : vers ≠ [])
    (hsafe : ∀ rs ∈ vers, ∀ r ∈ rs, C02X.SafeIncRec r) (hnd : ∀ rs ∈ vers, (rs.map (·.1)).Nodup) :
    ∃ (t : List Nat) (es : List P.Entry) (recs : List P.PRec),
      mergeTexts .inc (vers.map (fun rs => (C02X.printInc rs).toArray)) = .ok t ∧
      t = C02X.printInc recs ∧
      P.walk .inc t.toArray = .done es ∧
      P.entitiesOf .inc t.toArray es = recs.map P.expectedView ∧
      P.junkOf t.toArray es = [] ∧
      (recs.map (·.1)).Nodup ∧
      (∀ k, k ∈ recs.map (·.1) ↔ ∃ rs ∈ vers, k ∈ rs.map (·.1)) ∧
      (∀ (i : Nat) (rs : List P.PRec) (r : P.PRec), vers[i]? = some rs → r ∈ rs →
        (∀ j < i, ∀ rs' : List P.PRec, vers[j]? = some rs' → r.1 ∉ rs'.map (·.1)) → r ∈ recs) := by
  exact C15S.merge_reparses_printed C15S.incL .inc C02X.printInc C15S.printL_inc C15S.incL_val C02X.SafeIncRec vers hne
    (fun ver rs h => C15S.walkEnts_inc_printed ver rs (hsafe rs h))
    (fun recs hsr => ⟨_, C02X.walk_inc_printed recs hsr, C02X.entitiesOf_incExpEntries _ recs 0 (by simp) hsr⟩) hsafe hnd

/-- the entry-level core of the four re-parse theorems (any parser): when every version's dict alternates strictly "entry, white-space, …",
    so does the merged dict -/
theorem merged_strict_shape (rs : List (List Ent)) (d : Dict) (h : mergeResources rs = some d)
    (hall : ∀ dv ∈ versionDicts rs, C15S.Strict dv) : C15S.Strict d :=
  C15S.merged_strict rs d h hall

/-- The parser models (all five regex formats, every text) never yield two neighbouring Whitespace entries:
    `[ \t\r\n]+` / `\n+` are greedy repeats of a one-character step, so the expression cannot match again where a match
    ended (`C15W.plus_stop`), and a Whitespace entry is only yielded where it matches (`C15W.nextOf_ws`). -/
theorem walk_no_adjacent_whitespace (f : P.Fmt) (s : Array Nat) (es : List P.Entry) (ents : List Ent) (v : Nat)
    (hw : P.walk f s = .done es) (he : toEnts f s v es.zipIdx = .ok ents) : NoAdjWs ents :=
  C15W.walk_noAdjWs f s es ents v hw he

/-- `merge_single` without ANY hypothesis about the walk: for every text `s` of every regex format (a DTD must not start
    with a byte-order mark: the DTD walk drops it) the walk terminates with entries the merge accepts (C01 totality and
    losslessness; PO: `PoEntity.key` re-evaluates a `createEntity` that succeeded), and if no `entity.key` occurs twice
    among them, `merge_channels(name, [s]) == s`. -/
theorem merge_single_total (f : P.Fmt) (s : Array Nat) (hb : f = .dtd → s[0]? ≠ some 0xFEFF) :
    ∃ es ents, P.walk f s = .done es ∧ toEnts f s 0 es.zipIdx = .ok ents ∧
      (NodupKeys ents → mergeTexts f [s] = .ok s.toList) := by
  obtain ⟨es, ents, hw, he, hl⟩ := C15W.walk_total f s 0
  exact ⟨es, ents, hw, he, fun hk => merge_single f s es ents hw he hk (hl hb)⟩

/-- `merge_identical` without any hypothesis about the walk: … and if moreover no entry is Junk,
    `merge_channels(name, [s] * (n+1)) == s`. -/
theorem merge_identical_total (f : P.Fmt) (s : Array Nat) (n : Nat) (hb : f = .dtd → s[0]? ≠ some 0xFEFF) :
    ∃ es ents, P.walk f s = .done es ∧ toEnts f s 0 es.zipIdx = .ok ents ∧
      ((∀ e ∈ es, e.kind ≠ .junk) → NodupKeys ents → mergeTexts f (List.replicate (n + 1) s) = .ok s.toList) := by
  obtain ⟨es, ents, hw, he, hl⟩ := C15W.walk_total f s 0
  exact ⟨es, ents, hw, he, fun hj hk => merge_identical f s es ents n hw he hj hk (hl hb)⟩

/-- ENTRIES WITH EQUAL KEYS COLLAPSE TO THE NEWEST.  The entry-level model takes the parser's entries WITH THEIR KEYS as
    input (for Android: the sticky `DocumentWrapper` entries are keyed `<?xml?><resources>`, the ATTRIBUTE NAME of each root
    attribute, `>`, `</resources>` — the harness checks this input contract on every generated version).  Whatever the
    entries are: if an entry `e` of version `i` (no key twice in that version) and an entry `e'` of any other version carry
    the same `entity.key`, and no version newer than `i` has that key, then the merged dict has that key exactly once
    (`Nodup` + membership) and the single entry stored under it carries `e`'s text — `e'`'s text is not serialised.
    For the Android wrappers: a root attribute present with different values in several channels appears ONCE, with the
    newest value. -/
theorem equal_keys_collapse (rs : List (List Ent)) (d : Dict) (h : mergeResources rs = some d)
    (i j : Nat) (es es' : List Ent) (hi : rs[i]? = some es) (_hj : rs[j]? = some es') (hk : NodupKeys es)
    (e e' : Ent) (he : e ∈ es) (_he' : e' ∈ es') (hkeyed : e.keyed = true) (_hkeyed' : e'.keyed = true)
    (heq : e'.ekey = e.ekey)
    (hfirst : ∀ j' < i, ∀ es'', rs[j']? = some es'' → ∀ x ∈ es'', x.keyed = true → x.ekey ≠ e.ekey) :
    (keysOf d).Nodup ∧ Key.ent e.ekey ∈ keysOf d ∧ (dget d (Key.ent e'.ekey)).map (·.all) = some e.all := by
  refine ⟨(merged_keys rs d h).1, ?_, ?_⟩
  · exact (merged_entity_keys rs d h e.ekey).2 ⟨es, List.mem_of_getElem? hi, e, he, hkeyed, rfl⟩
  · rw [heq]
    exact newest_text rs d h i es hi hk e he hkeyed hfirst


/-- STAND-ALONE COMMENTS (the duplicate-comment counter of `get_key_value`): the merge holds an `n`-th copy of the
    stand-alone comment text `v` iff SOME version has at least `n` stand-alone comments with that text — so the number of
    copies in the merge is the MAXIMUM over the versions (identical comments "at the same index" are de-duplicated, a version
    with more copies contributes the surplus).  A comment ATTACHED to a string is part of `entity.all` and travels with the
    string: with `newest_text`, the newest version's attached comment wins together with its value. -/
theorem comment_copies (rs : List (List Ent)) (d : Dict) (h : mergeResources rs = some d) (v : List Nat) (n : Nat) :
    Key.comment v n ∈ keysOf d ↔ ∃ es ∈ rs, 1 ≤ n ∧ n ≤ C15C.copies v es := by
  have hmk := (merged_keys rs d h).2 (Key.comment v n)
  have hwf : WF d := merged_wf h
  have hnw : ∀ d' : Dict, WF d' → (Key.comment v n ∈ nwKeys d' ↔ Key.comment v n ∈ keysOf d') := by
    intro d' hd'
    rw [nwKeys_eq_filter d' hd', List.mem_filter]
    simp [Key.isObj]
  rw [← hnw d hwf, hmk]
  constructor
  · rintro ⟨i, es, hi, hk⟩
    rw [hnw _ (versionDict_wf i es), C15C.versionDict_comment] at hk
    exact ⟨es, List.mem_of_getElem? hi, hk⟩
  · rintro ⟨es, hes, hk⟩
    obtain ⟨i, hi, hget⟩ := List.mem_iff_getElem.1 hes
    refine ⟨i, es, by rw [List.getElem?_eq_getElem hi, hget], ?_⟩
    rw [hnw _ (versionDict_wf i es), C15C.versionDict_comment]
    exact hk

/-- A SINGLE VERSION WITH REPEATED KEYS (no `NodupKeys` hypothesis): `merge_channels(name, [s])` is the serialisation of
    the dict `OrderedDict(pairs)`, whose keys are the FIRST occurrences of the `get_key_value` keys in file order and whose
    value under an `entity.key` is the LAST entry of the file with that key: a repeated string is kept once, at the place
    of its first occurrence, with the text of its last occurrence (`a=1 ⏎ a=2 ⏎` ⇒ `a=2 ⏎ ⏎`).  "Every string once" holds,
    "a single version is returned unchanged" cannot (the input has the string twice): the two clauses of the property
    contradict each other on such a file, which is why it is outside the property's domain and not a finding. -/
theorem merge_single_dup (f : P.Fmt) (s : Array Nat) :
    ∃ es ents, P.walk f s = .done es ∧ toEnts f s 0 es.zipIdx = .ok ents ∧
      mergeTexts f [s] = .ok (serialize (versionDict 0 ents)) ∧
      keysOf (versionDict 0 ents) = C15D.firstOcc [] ((pairs (stamp 0 ents) []).map (·.1)) ∧
      (∀ ek, dget (versionDict 0 ents) (Key.ent ek) = C15D.lastEnt ek (stamp 0 ents)) := by
  obtain ⟨es, ents, hw, he, _⟩ := C15W.walk_total f s 0
  obtain ⟨h1, _, h3⟩ := C15D.versionDict_closed 0 ents
  refine ⟨es, ents, hw, he, ?_, h1, h3⟩
  have hwa : walkAll f [s].zipIdx = .ok [ents] := by simp [walkAll, walkEnts, hw, he]
  rw [mergeTexts, hwa]
  rfl

/-- the same closed form at entry level, for any parser and any version number -/
theorem version_dict_closed_form (v : Nat) (es : List Ent) :
    keysOf (versionDict v es) = C15D.firstOcc [] ((pairs (stamp v es) []).map (·.1)) ∧
    (∀ k, dget (versionDict v es) k = C15D.lastVal (pairs (stamp v es) []) k) ∧
    (∀ ek, dget (versionDict v es) (Key.ent ek) = C15D.lastEnt ek (stamp v es)) :=
  C15D.versionDict_closed v es

/-- NO MISPLACEMENT THROUGH REPEATED KEYS.  `AddRemove` misplaces later keys when the right sequence repeats a right-only
    key (C20: `left=[0,1]`, `right=[5,0,5,6]` yields 5, 6, 0, 1).  Inside `merge_channels` this cannot happen: at EVERY step
    of `reduce(merge_two, …)` both key lists handed to `AddRemove` — the keys of the merge so far and the keys of the next
    older version's dict — are duplicate-free, because `OrderedDict(pairs)` collapsed a repeated key when the version was
    parsed; the diff therefore IS the duplicate-free closed form (`order_spec` needs no hypothesis on the versions). -/
theorem diff_never_sees_duplicates (rs : List (List Ent)) (d0 : Dict) (ds : List Dict) (h : versionDicts rs = d0 :: ds)
    (n : Nat) (dv : Dict) (hn : ds[n]? = some dv) :
    (keysOf ((ds.take n).foldl mergeTwo d0)).Nodup ∧ (keysOf dv).Nodup ∧
    addRemove (keysOf ((ds.take n).foldl mergeTwo d0)) (keysOf dv)
      = spec (keysOf ((ds.take n).foldl mergeTwo d0)) (keysOf dv) := by
  have hst := stamped_versionDicts rs
  rw [h] at hst
  have h1 : WF ((ds.take n).foldl mergeTwo d0) :=
    fold_induct (P := fun _ d => WF d) (fun _ h => h) (fun _ _ acc dv ha hd _ _ => mergeTwo_wf acc dv ha hd) d0 _
      ⟨hst.1, hst.2.1, stamped_take ds 1 n hst.2.2⟩
  have h2 : WF dv := by
    obtain ⟨i, es, _, rfl⟩ := (mem_versionDicts rs dv).1 (by rw [h]; exact List.mem_cons_of_mem _ (List.mem_of_getElem? hn))
    exact versionDict_wf i es
  exact ⟨h1.nodup, h2.nodup, addRemove_eq_spec _ _ h1.nodup h2.nodup⟩

/-- Unsupported file types are refused explicitly: when no pattern of `parser.__constructors` matches the
    file name, `merge_channels` raises MergeNotSupportedError whatever the resources are. -/
theorem unsupported_refused (name : List Nat) (texts : List (Array Nat)) (h : getParserClass name = none) :
    mergeChannels name texts = .error .mergeNotSupported := by
  simp [mergeChannels, h]

/-- … and only then: a file name some pattern matches is never answered with MergeNotSupportedError. -/
theorem refused_iff_unsupported (name : List Nat) (texts : List (Array Nat)) :
    mergeChannels name texts = .error .mergeNotSupported ↔ getParserClass name = none := by
  constructor
  · intro h
    cases hc : getParserClass name with
    | none => rfl
    | some cls =>
      exfalso
      simp only [mergeChannels, hc] at h
      split at h
      · exact mergeTexts_not_refused _ _ h
      · simp at h
  · exact unsupported_refused name texts

def e (k : Nat) (txt : List Nat) : Ent := { kind := .entity, ekey := .str [k], val := [], all := txt, oid := (0, 0) }
def w (txt : List Nat) : Ent := { kind := .whitespace, ekey := .str [], val := [], all := txt, oid := (0, 0) }
def c (txt : List Nat) : Ent := { kind := .comment, ekey := .str [], val := txt, all := txt, oid := (0, 0) }

/-- the hypotheses of the entry-level theorems hold for a version with a comment, entities and whitespace -/
example : NodupKeys [c [35], w [10, 10], e 1 [97], w [10], e 2 [98], w [10]] ∧
    NoAdjWs [c [35], w [10, 10], e 1 [97], w [10], e 2 [98], w [10]] := by
  constructor
  · unfold NodupKeys; decide
  · simp [NoAdjWs, Ent.isWs, w, e, c]

/-- a merge of two versions, evaluated through the closed form of `merge_two`: newest `a b`, older `a x b`
    with another value for `a`: the older-only `x` lands after `a`, `a` keeps the newest text -/
example : (mergeTwo (versionDict 0 [e 1 [97], w [10], e 2 [98], w [10]])
      (versionDict 1 [e 1 [65], w [10], e 3 [120], w [10], e 2 [98], w [10]])).map (·.2.all)
    = [[97], [10], [120], [10], [98], [10]] := by
  rw [mergeTwo_versionDict]
  decide

/-- `# c\n\na=1\n` -/
def sampleText : Array Nat := #[35, 32, 99, 10, 10, 97, 61, 49, 10]
def sampleEntries : List P.Entry :=
  [{ kind := .comment, full := 0, s := 0, e := 3 },
   { kind := .whitespace, full := 3, s := 3, e := 5, ks := 3, ke := 5, vs := 3, ve := 5 },
   { kind := .entity, full := 5, s := 5, e := 8, ks := 5, ke := 6, vs := 7, ve := 8 },
   { kind := .whitespace, full := 8, s := 8, e := 9, ks := 8, ke := 9, vs := 8, ve := 9 }]
def sampleEnts : List Ent :=
  [{ kind := .comment, ekey := .str [], val := [32, 99], all := [35, 32, 99], oid := (0, 0) },
   { kind := .whitespace, ekey := .str [10, 10], val := [], all := [10, 10], oid := (0, 1) },
   { kind := .entity, ekey := .str [97], val := [], all := [97, 61, 49], oid := (0, 2) },
   { kind := .whitespace, ekey := .str [10], val := [], all := [10], oid := (0, 3) }]

/-- the text-level theorems applied to a concrete properties file: all hypotheses are discharged by evaluation, three
    identical versions merge to the text itself -/
example : mergeTexts .properties [sampleText, sampleText, sampleText] = .ok sampleText.toList :=
  merge_identical .properties sampleText sampleEntries sampleEnts 2 (by decide) (by rfl) (by decide)
    (by unfold NodupKeys; decide) (by decide)

example : mergeTexts .properties [sampleText] = .ok sampleText.toList :=
  merge_single .properties sampleText sampleEntries sampleEnts (by decide) (by rfl)
    (by unfold NodupKeys; decide) (by decide)

/-- the file-name patterns: `foo.unknown` is refused, `a.properties` is not -/
example : getParserClass [102, 111, 111, 46, 117, 110, 107, 110, 111, 119, 110] = none := by decide +kernel
example : getParserClass [97, 46, 112, 114, 111, 112, 101, 114, 116, 105, 101, 115] ≠ none := by decide +kernel

/-- `NodupKeys` is needed in `merge_single`: with a key twice, the dict keeps the LAST entry at the FIRST
    position (`a=1 a=2` is serialised as `a=2`, the first line is lost) -/
example : ¬ NodupKeys [e 1 [97, 61, 49], w [10], e 1 [97, 61, 50], w [10]] ∧
    serialize (versionDict 0 [e 1 [97, 61, 49], w [10], e 1 [97, 61, 50], w [10]]) = [97, 61, 50, 10, 10] := by
  constructor
  · unfold NodupKeys; decide
  · decide

/-- `NoAdjWs` is needed in `merge_identical`: two neighbouring Whitespace entries are folded into one -/
example : ¬ NoAdjWs [w [10], w [32]] ∧
    (mergeTwo (versionDict 0 [w [10], w [32]]) (versionDict 1 [w [10], w [32]])).map (·.2.all) = [[10]] := by
  constructor
  · simp [NoAdjWs, Ent.isWs, w]
  · rw [mergeTwo_versionDict]
    decide

/-- junk-freeness is needed in `merge_identical`: every Junk object has its own key, identical junk is repeated -/
example : (mergeTwo
      (versionDict 0 [{ kind := .junk, ekey := .junk 0 0, val := [], all := [63], oid := (0, 0) }])
      (versionDict 1 [{ kind := .junk, ekey := .junk 1 0, val := [], all := [63], oid := (0, 0) }])).map (·.2.all)
    = [[63], [63]] := by
  rw [mergeTwo_versionDict]
  decide


/-- a keyed entry as the entry-level model sees a sticky DocumentWrapper: (key, text) -/
def sw (k txt : List Nat) : Ent := { kind := .entity, ekey := .str k, val := [], all := txt, oid := (0, 0) }

/-- `equal_keys_collapse`, non-vacuity: wrappers `R`, attribute `a` (key = the attribute NAME `[2]`), `>`; the newest version
    has the text `[50]` for the attribute, the older one `[51]` and one more attribute `[4]`: the merge keeps `[50]` once
    and adds the older-only attribute after it -/
example : (mergeTwo (versionDict 0 [sw [1] [1], sw [2] [50], sw [3] [3]])
      (versionDict 1 [sw [1] [1], sw [2] [51], sw [4] [52], sw [3] [3]])).map (·.2.all) = [[1], [50], [52], [3]] := by
  rw [mergeTwo_versionDict]
  decide

/-- NEGATION WITNESS for `heq` (equal keys) — the input contract "an attribute wrapper is keyed by the attribute name":
    keyed by their literal TEXT (` a="1"` vs ` a="2"`, here `[50]` vs `[51]`) the two wrappers are different strings for
    the merge and BOTH are serialised — the attribute twice, i.e. XML that is not well-formed -/
example : (mergeTwo (versionDict 0 [sw [1] [1], sw [50] [50], sw [3] [3]])
      (versionDict 1 [sw [1] [1], sw [51] [51], sw [3] [3]])).map (·.2.all) = [[1], [51], [50], [3]] := by
  rw [mergeTwo_versionDict]
  decide

/-- `merge_single_total` / `merge_identical_total` applied (no hypothesis about the walk left; `NodupKeys` and junk-freeness
    of the concrete entries are discharged by evaluation after identifying the entries with the walk) -/
example : ∃ es ents, P.walk .properties sampleText = .done es ∧ toEnts .properties sampleText 0 es.zipIdx = .ok ents ∧
    (NodupKeys ents → mergeTexts .properties [sampleText] = .ok sampleText.toList) :=
  merge_single_total .properties sampleText (by intro h; cases h)

/-- NEGATION WITNESS for the byte-order-mark hypothesis of `merge_single_total`: the DTD walk drops a leading U+FEFF,
    so the single version `U+FEFF <!ENTITY a "1">` is returned without it -/
example : (mergeTexts .dtd [#[0xFEFF, 60, 33, 69, 78, 84, 73, 84, 89, 32, 97, 32, 34, 49, 34, 62]]).toOption
    = some [60, 33, 69, 78, 84, 73, 84, 89, 32, 97, 32, 34, 49, 34, 62] := by decide +kernel


/-- `comment_copies` on an example: newest `# x ⏎⏎ a`, older `# x ⏎⏎ # x ⏎⏎ a`: the merge has the comment twice (the maximum),
    not three times -/
example : ((mergeTwo (versionDict 0 [c [35, 120], w [10, 10], e 1 [97]])
      (versionDict 1 [c [35, 120], w [10, 10], c [35, 120], w [10, 10], e 1 [97]])).filter (fun p => p.2.kind == .comment)).length = 2 := by
  rw [mergeTwo_versionDict]
  decide

/-- the `AddRemove` misplacement needs a REPEATED right-only key: `left=[0,1]`, `right=[5,0,5,6]` puts 6 before 0 … -/
example : (addRemove [0, 1] [5, 0, 5, 6]).map (·.2) = [5, 6, 0, 1] := by
  rw [C20P.addRemove_eq_specD]; decide

/-- … but an older version with the repeated key `5` (entries 5 0 5 6) reaches `AddRemove` as the dict keys 5 0 6, and 6 is
    placed after 0, the neighbour it followed (`diff_never_sees_duplicates`; newest version: 0 1) -/
example : (mergeTwo (versionDict 0 [e 0 [48], e 1 [49]])
      (versionDict 1 [e 5 [53], e 0 [79], e 5 [54], e 6 [55]])).map (·.2.all) = [[54], [48], [55], [49]] := by
  rw [mergeTwo_versionDict]
  decide

/-- `merge_single_dup` / `version_dict_closed_form` on `a=1 ⏎ a=2 ⏎`: one key `a` at the first position, the LAST entry
    under it -/
example : keysOf (versionDict 0 [e 1 [97, 61, 49], w [10], e 1 [97, 61, 50], w [10]])
      = [Key.ent (.str [1]), Key.obj 0 1, Key.obj 0 3] ∧
    (dget (versionDict 0 [e 1 [97, 61, 49], w [10], e 1 [97, 61, 50], w [10]]) (Key.ent (.str [1]))).map (·.all)
      = some [97, 61, 50] := by
  constructor <;> decide

/-- the hypotheses of `merge_reparses_properties_partial` hold for three versions, newest first: `a=1 ⏎ b=2 ⏎`,
    `b=9 ⏎ x=o p ⏎ a=1 ⏎` (reordered, another value for `b`, a key only it has) and `c=3 ⏎` -/
example :
    ∃ (t : List Nat) (es : List P.Entry) (recs : List P.PRec), mergeTexts .properties ([[([97], [49]), ([98], [50])], [([98], [57]), ([120], [111, 32, 112]), ([97], [49])],
        [([99], [51])]].map (fun rs => (P.printProps rs).toArray)) = .ok t ∧
      P.walk .properties t.toArray = .done es ∧
      P.entitiesOf .properties t.toArray es = recs.map P.expectedView ∧
      P.junkOf t.toArray es = [] ∧ (recs.map (·.1)).Nodup ∧
      [99] ∈ recs.map (·.1) ∧ [100] ∉ recs.map (·.1) ∧
      ([98], [50]) ∈ recs ∧ ([120], [111, 32, 112]) ∈ recs := by
  obtain ⟨t, es, recs, h1, h2, h3, h4, h5, h6, h7⟩ := merge_reparses_properties_partial
    [[([97], [49]), ([98], [50])], [([98], [57]), ([120], [111, 32, 112]), ([97], [49])], [([99], [51])]] (by simp)
    (by decide) (by decide)
  refine ⟨t, es, recs, h1, h2, h3, h4, h5, ?_, ?_, ?_, ?_⟩
  · rw [h6]; decide
  · rw [h6]; decide
  · exact h7 0 _ _ rfl (by simp) (by decide)
  · exact h7 1 _ _ rfl (by simp) (by decide)


/-- `merge_reparses_dtd_partial`, non-vacuity: newest `<!ENTITY a "1">⏎`, older `<!ENTITY b.c "x y">⏎ <!ENTITY a "0">⏎` -/
example :
    ∃ (t : List Nat) (es : List P.Entry) (recs : List P.PRec),
      mergeTexts .dtd ([[([97], [49])], [([98, 46, 99], [120, 32, 121]), ([97], [48])]].map (fun rs => (C02X.printDtd rs).toArray)) = .ok t ∧
      t = C02X.printDtd recs ∧ P.walk .dtd t.toArray = .done es ∧
      P.junkOf t.toArray es = [] ∧ (recs.map (·.1)).Nodup ∧ ([97], [49]) ∈ recs ∧ ([98, 46, 99], [120, 32, 121]) ∈ recs := by
  obtain ⟨t, es, recs, h1, h2, h3, _, h5, h6, _, h8⟩ := merge_reparses_dtd_partial
    [[([97], [49])], [([98, 46, 99], [120, 32, 121]), ([97], [48])]] (by simp)
    (by decide) (by decide)
  refine ⟨t, es, recs, h1, h2, h3, h5, h6, ?_, ?_⟩
  · exact h8 0 _ _ rfl (by simp) (by decide)
  · exact h8 1 _ _ rfl (by simp) (by decide)

/-- `merge_reparses_inc_partial`, non-vacuity: newest `#define a 1⏎`, older `#define b⏎ #define a 0⏎` (`b` without value) -/
example :
    ∃ (t : List Nat) (es : List P.Entry) (recs : List P.PRec),
      mergeTexts .inc ([[([97], [49])], [([98], []), ([97], [48])]].map (fun rs => (C02X.printInc rs).toArray)) = .ok t ∧
      t = C02X.printInc recs ∧ P.walk .inc t.toArray = .done es ∧
      P.junkOf t.toArray es = [] ∧ (recs.map (·.1)).Nodup ∧ ([97], [49]) ∈ recs ∧ ([98], []) ∈ recs := by
  obtain ⟨t, es, recs, h1, h2, h3, _, h5, h6, _, h8⟩ := merge_reparses_inc_partial
    [[([97], [49])], [([98], []), ([97], [48])]] (by simp)
    (by decide) (by decide)
  refine ⟨t, es, recs, h1, h2, h3, h5, h6, ?_, ?_⟩
  · exact h8 0 _ _ rfl (by simp) (by decide)
  · exact h8 1 _ _ rfl (by simp) (by decide)

/-- why the STRICT shape is needed for .inc (and why `C16R.Alt` alone is not enough): a leading newline and a blank line
    between two defines are Junk for `DefinesParser` outside `#filter emptyLines` -/
example : (P.definesGetNext #[10, 35, 100, 101, 102, 105, 110, 101, 32, 97, 10] false 0).1.kind = .junk := by decide +kernel

/-- NEGATION WITNESS for `vers ≠ []`: `reduce` of an empty sequence -/
example : mergeTexts .properties [] = .error .emptySequence := rfl

/-- NEGATION WITNESS for "distinct keys per version" (`hnd`): `a=1 ⏎ a=2 ⏎` as the only version is serialised as
    `a=2 ⏎ ⏎` (the `NodupKeys` witness above): the record `a=1` of version 0, which no newer version overrides, is not in
    the merge.  For the hypotheses on keys and values (`hsafe`) see the witnesses of `C02.roundtrip_properties_partial`
    (a value ending in a blank is stripped, a value ending in a backslash swallows the next line, …) and, for a version
    ending in a comment without final newline, the witness of `C16.serialize_reparses_properties_partial`. -/
example : ¬ ((([([97], [49]), ([97], [50])] : List P.PRec).map (·.1)).Nodup) := by decide

/-- `merge_reparses_ini_partial`, non-vacuity: two versions under `[S]`, newest `a=1 ⏎`, older `b= 2 ⏎ a=0 ⏎` -/
example :
    ∃ (t : List Nat) (es : List P.Entry) (recs : List P.PRec),
      mergeTexts .ini ([[([97], [49])], [([98], [32, 50]), ([97], [48])]].map (fun rs => (C02X.printIni [83] rs).toArray)) = .ok t ∧
      P.walk .ini t.toArray = .done es ∧
      P.entitiesOf .ini t.toArray es = recs.map P.expectedView ∧
      P.junkOf t.toArray es = [] ∧ (recs.map (·.1)).Nodup ∧ ([97], [49]) ∈ recs ∧ ([98], [32, 50]) ∈ recs := by
  obtain ⟨t, es, recs, h1, h2, h3, h4, h5, _, h7⟩ := merge_reparses_ini_partial [83]
    [[([97], [49])], [([98], [32, 50]), ([97], [48])]] (by simp) (by decide)
    (by decide) (by decide)
  refine ⟨t, es, recs, h1, h2, h3, h4, h5, ?_, ?_⟩
  · exact h7 0 _ _ rfl (by simp) (by decide)
  · exact h7 1 _ _ rfl (by simp) (by decide)

/-- NEGATION WITNESS for "no key equals the section name": `IniSection.key` shares the dict with the entity keys; for the
    single version `[a]⏎ a=1 ⏎` the dict keeps the entity at the position of the section — the header is lost
    (`merge_channels("x.ini", [b"[a]\na=1\n", …])` of the real code drops it too, see docs/notes/NOTES-C15.md) -/
example :
    serialize (versionDict 0 [{ kind := .section, ekey := .str [97], val := [], all := [91, 97, 93], oid := (0, 0) },
      w [10], e 97 [97, 61, 49], w [10]]) = [97, 61, 49, 10, 10] := by
  decide +kernel

/-! `merge_channels` inside a process HISTORY: `MergeH` (CLModel/Merge/History.lean) puts the merge, which uses the shared
parser instances of `parser.__constructors`, into the state machine of C18.  The theorems say that no earlier operation of
the process can show in a merge. -/

section history
open HistM MergeH

/-- The merge output of every reachable state is `Merge.mergeTexts` of the arguments of THAT call.  Reachability is not
    used: see `merge_result_state_free`. -/
theorem merge_result_history_free (ep : EpEnv) (s : S) (h : Reachable ep s) (f : P.Fmt) (texts : List (Array Nat)) :
    (HistM.step s (.mergeChannels f texts)).2 = .chan (mergeTexts f texts) :=
  C15H.chan_out ep s h f texts

/-- … and it holds in EVERY state of the machine, reachable or not: the merge reads no component of the state
    (it REPLACES the parser's Context for every version, `HistM.parseAll`). -/
theorem merge_result_state_free (s s' : S) (f : P.Fmt) (texts : List (Array Nat)) :
    (HistM.step s (.mergeChannels f texts)).2 = (HistM.step s' (.mergeChannels f texts)).2 ∧
    (HistM.step s (.mergeChannels f texts)).2 = .chan (mergeTexts f texts) :=
  ⟨rfl, rfl⟩

/-- `merge_channels(name, resources)` — parser lookup, refusal and merge — returns `Merge.mergeChannels name
    resources` in every state of a process without third-party parser plugins. -/
theorem merge_named_history_free (s : S) (hep : NoPlugins s.ep) (name : List Nat) (texts : List (Array Nat)) :
    (mergeNamed s name texts).2 = mergeChannels name texts :=
  C15H.mergeNamed_out s hep name texts

/-- Whole histories: run ANY sequence of operations that interleaves merges with the other operations of the tools
    (`getParser` on any name, `readUnicode`, `walk`, `compare`, `lint_file`, `serialize`, matcher / configuration /
    checker operations), from ANY state: the result of every merge step is the function `promised` of that step's own
    arguments — `Merge.mergeChannels name texts`, to which every other theorem of this file applies. -/
theorem merge_history_free (ops : List MergeH.Op) (s : S) (hep : NoPlugins s.ep) :
    (ops.zip (MergeH.run s ops).2).map (fun p => observed p.1 p.2) = ops.map promised := by
  induction ops generalizing s with
  | nil => rfl
  | cons op ops ih =>
    simp only [MergeH.run, List.zip_cons_cons, List.map_cons]
    rw [C15H.step_promised s hep op, ih (MergeH.step s op).1 (by rw [C15H.mstep_ep]; exact hep)]

/-- Refusal does not depend on the history either: in every state the merge raises MergeNotSupportedError exactly
    when no pattern of `parser.__constructors` matches THIS name — whatever names were looked up (and refused, or
    accepted) before. -/
theorem refusal_history_free (s : S) (hep : NoPlugins s.ep) (name : List Nat) (texts : List (Array Nat)) :
    (mergeNamed s name texts).2 = .error .mergeNotSupported ↔ getParserClass name = none := by
  rw [merge_named_history_free s hep name texts]
  exact refused_iff_unsupported name texts

/-- A lookup leaves no trace: `getParser(path)` (found or not) and a refused `merge_channels` return the process
    state they were called in — there is no memo of names or extensions a later lookup could read. -/
theorem lookup_leaves_no_trace (s : S) (path : List Nat) (texts : List (Array Nat)) :
    (HistM.step s (.getParser path)).1 = s ∧
    (HistM.getParser s.ep path = none → (mergeNamed s path texts).1 = s) := by
  refine ⟨rfl, fun h => ?_⟩
  rw [C15H.refused_state s path texts h]

/-- "Merging a single version returns the input" in the middle of any history: for a name whose parser is the one of
    regex format `f`, in every state, under the hypotheses of `merge_single_total` only. -/
theorem merge_single_in_any_history (s : S) (hep : NoPlugins s.ep) (name : List Nat) (f : P.Fmt)
    (hn : (getParserClass name).bind parserOfClass = some (.regex f)) (t : Array Nat)
    (hb : f = .dtd → t[0]? ≠ some 0xFEFF) :
    ∃ es ents, P.walk f t = .done es ∧ toEnts f t 0 es.zipIdx = .ok ents ∧
      (NodupKeys ents → (mergeNamed s name [t]).2 = .ok t.toList) := by
  obtain ⟨es, ents, h1, h2, h3⟩ := merge_single_total f t hb
  refine ⟨es, ents, h1, h2, fun hk => ?_⟩
  rw [merge_named_history_free s hep name [t], ← h3 hk]
  unfold mergeChannels
  cases hc : getParserClass name with
  | none => simp [hc] at hn
  | some cls =>
    simp only [hc, Option.bind_some] at hn
    simp only [hn]

/-- … and "merging identical versions returns the input", likewise. -/
theorem merge_identical_in_any_history (s : S) (hep : NoPlugins s.ep) (name : List Nat) (f : P.Fmt)
    (hn : (getParserClass name).bind parserOfClass = some (.regex f)) (t : Array Nat) (n : Nat)
    (hb : f = .dtd → t[0]? ≠ some 0xFEFF) :
    ∃ es ents, P.walk f t = .done es ∧ toEnts f t 0 es.zipIdx = .ok ents ∧
      ((∀ e ∈ es, e.kind ≠ .junk) → NodupKeys ents → (mergeNamed s name (List.replicate (n + 1) t)).2 = .ok t.toList) := by
  obtain ⟨es, ents, h1, h2, h3⟩ := merge_identical_total f t n hb
  refine ⟨es, ents, h1, h2, fun hj hk => ?_⟩
  rw [merge_named_history_free s hep name _, ← h3 hj hk]
  unfold mergeChannels
  cases hc : getParserClass name with
  | none => simp [hc] at hn
  | some cls =>
    simp only [hc, Option.bind_some] at hn
    simp only [hn]

/-- the states the theorems are used in: everything a fresh interpreter reaches by merges and other operations -/
theorem history_reachable (ep : EpEnv) (ops : List MergeH.Op) (s : S) (h : Reachable ep s) (hp : ∀ op ∈ ops, op.plain) :
    Reachable ep (MergeH.run s ops).1 ∧ (MergeH.run s ops).1.ep = ep :=
  ⟨C15H.run_reachable ep ops s h hp, C15H.reachable_ep ep _ (C15H.run_reachable ep ops s h hp)⟩

/-- `a=1⏎`, `z=9⏎` -/
def hX : Array Nat := #[97, 61, 49, 10]
def hY : Array Nat := #[122, 61, 57, 10]
/-- `a.ini`, `m.xml` (a look-alike: no parser), `strings.xml` -/
def hIni : List Nat := [97, 46, 105, 110, 105]
def hXml : List Nat := [109, 46, 120, 109, 108]
def hStr : List Nat := [115, 116, 114, 105, 110, 103, 115, 46, 120, 109, 108]

/-- a history: a merge whose last parsed resource is X; a refused look-alike `*.xml` name is
    looked up; ANOTHER file is loaded into the same parser and walked; the merge of X again; a refused merge; the
    Android name of the same extension; a parse; a merge of the other file -/
def hist : List MergeH.Op :=
  [.merge hIni [hX], .other (.getParser hXml), .other (.read .ini hY), .other (.rewalk .ini),
   .merge hIni [hX], .merge hXml [hX], .merge hStr [hX], .other (.base (.parse .ini hY)), .merge hIni [hY]]

/-- what the arguments promise (evaluated): X, X again (not the file loaded in between), refusal for `m.xml`, the
    external Android parser for `strings.xml` (NOT a refusal although `m.xml` was refused before), Y -/
example : hist.map promised
   = [some (.ok hX.toList), none, none, none, some (.ok hX.toList), some (.error .mergeNotSupported),
      some (.error .external), none, some (.ok hY.toList)] := by
  decide +kernel

/-- … and the run from a fresh interpreter returns exactly that -/
example : (hist.zip (MergeH.run S.init hist).2).map (fun p => observed p.1 p.2) = hist.map promised :=
  merge_history_free hist S.init rfl

example : Reachable (.plugins []) (MergeH.run S.init hist).1 :=
  (history_reachable (.plugins []) hist S.init Reachable.init (by intro op h; simp [hist] at h; rcases h with rfl | rfl | rfl | rfl | rfl | rfl | rfl | rfl | rfl <;> simp [MergeH.Op.plain, HistM.Op.mutatesConfig])).1

/-- NEGATION WITNESS for `NoPlugins`: with a third-party parser registered whose `use(path)` accepts `m.xml`, the
    process does not refuse that name while `Merge.mergeChannels` (no plugins) does -/
def plugS : S := { S.init with ep := .plugins [(.lit 109, [80])] }
example : (mergeNamed plugS hXml [hX]).2 = .error .external ∧ mergeChannels hXml [hX] = .error .mergeNotSupported := by
  decide +kernel

end history

end C15
