/-
C06 — properties: printf and plural verdicts match the argument model.
The property theorems, with their witnesses (helper lemmas live in CLModel/Proofs/C06*.lean).

Objects: `PropCk.check` is the transliteration of `PropertiesChecker.check` (with `Checker.check`,
`check_plural`, `checkPrintf`, `getPrintfSpecs`, `plurals.get_plural`); `Difflib.opcodes` is the
port of `difflib.SequenceMatcher().set_seqs(a, b); get_opcodes()`.  `none` stands for "the Python
code raises"; the theorems show that it does not.
-/
import CLModel.Checks.Properties
import CLModel.Proofs.C06Printf
import CLModel.Proofs.C06SpecsCor
import CLModel.Proofs.C06Plural
import CLModel.Proofs.C06Render
import CLModel.Proofs.C06RCor
import CLModel.Proofs.C06RPluralLex
import CLModel.Proofs.C06Unesc
import CLModel.Proofs.C06Grammar
import CLModel.Proofs.C06PluralExact
import CLModel.Proofs.C06Verdict
import CLModel.Proofs.C06Pos
import CLModel.Proofs.C06Gate
import CLModel.Proofs.C06Disjoint
namespace C06
open PropCk Difflib
open C06R (WfRender WfTok WfFmt Separated LoneOk IsSpec IsDig WShape PShape MixedR GapR rargs tokA sig kindOf
  PTok renderP varsOf WfRenderP WfPTok SeparatedP rePlural)

/-- `get_opcodes()` never raises and returns a valid edit script: contiguous ranges from (0,0) to
    (|a|,|b|), `equal` ranges really equal, `delete`/`insert`/`replace` ranges non-empty on the
    sides they touch.  For sequences of ANY length (autojunk heuristic included). -/
theorem difflib_valid {α : Type} [DecidableEq α] (a b : List α) :
    ∃ ops, opcodes a b = some ops ∧ ValidOpcodes a b ops :=
  opcodes_valid a b

/-- If `b` is a proper prefix of `a`, `get_opcodes()` is one `equal` block followed by one trailing
    `delete` — no length bound: the "popular element" heuristic for `len(b) >= 200` cannot break it. -/
theorem difflib_prefix {α : Type} [DecidableEq α] (b t : List α) (ht : t ≠ []) :
    opcodes (b ++ t) b = some
      ((if b.length ≠ 0 then [(⟨.equal, 0, b.length, 0, b.length⟩ : Opcode)] else []) ++
        [⟨.delete, b.length, (b ++ t).length, b.length, b.length⟩]) :=
  opcodes_prefix b t ht

/-- Every value has a token list (each regex match is a lone `%`, a `%%`, or an argument with a
    one-character type and, if ordered, a number ≥ 1), and `getPrintfSpecs` is the closed form
    `specsSpec` of it: first lone `%` / first change of style is the error; otherwise unordered
    arguments give the list of their types and ordered arguments give, at position `i`, the type
    of the last token numbered `i+1` (an unused position is the "gap" error). -/
theorem specs_of_tokens (val : Text) :
    ∃ ts, atoks val = some ts ∧ WFToks ts ∧ getPrintfSpecs val = specsSpec ts := by
  obtain ⟨ts, h⟩ := atoks_total val
  exact ⟨ts, h, atoks_wf val ts h, getPrintfSpecs_eq_spec val ts h⟩

/-- `getPrintfSpecs` raises `PrintfException` exactly in the three malformed cases (lone `%`, mixed
    ordered and unordered arguments, a gap in the ordered arguments) and never anything else. -/
theorem specs_error_iff (val : Text) (ts : List (Nat × ATok)) (h : atoks val = some ts) :
    ((∃ e, getPrintfSpecs val = .error e) ↔ HasLone ts ∨ Mixed ts ∨ Gap ts) ∧
    getPrintfSpecs val ≠ .error .other := by
  rw [getPrintfSpecs_eq_spec val ts h]
  refine ⟨specsSpec_error_iff ts (atoks_wf val ts h), ?_⟩
  rw [← getPrintfSpecs_eq_spec val ts h]
  exact getPrintfSpecs_not_other val

/-- `%%` tokens (and text, which is no token at all) do not influence the specifier list. -/
theorem specs_ignore_pct (ts : List (Nat × ATok)) : specsSpec (ts.filter notPct) = specsSpec ts :=
  specsSpec_ignores_pct ts

/-- Reordering ordered arguments (same multiset of tokens, the same number always with the same
    type) does not change the specifier list. -/
theorem specs_reorder (ts ts' : List (Nat × ATok)) (hwf : WFToks ts)
    (hperm : (ts.map (·.2)).Perm (ts'.map (·.2)))
    (hord : ∀ t ∈ ts, t.2 = ATok.pct ∨ ∃ n sp, t.2 = ATok.arg (some n) sp)
    (hcons : Consistent (argsOf ts)) : specsSpec ts = specsSpec ts' :=
  specsSpec_reorder ts ts' hwf hperm hord hcons

/-- Every well-formed token list of the bounded family (≤ 2 tokens over
    {"a ", "é", %%, %, %S, %d, %1$S, %2$d, %3$S, %5.2f, %12$*x}, ≤ 3 tokens over
    {"a ", %%, %, %S, %1$S, %2$d, %5.2f}) lexes to exactly its tokens, hence `getPrintfSpecs` of the
    assembled value is the closed form of the intended tokens: the family satisfies `WfRender`
    (`C06R.boundedFamily_wf`), so this is an instance of `atoks_render` and `specs_of_rendered` below. -/
theorem specs_of_rendered_partial (ts : List RTok) (hmem : ts ∈ boundedFamily) :
    atoks (render ts) = some (expectedFrom 0 ts) ∧
    getPrintfSpecs (render ts) = specsSpec (expectedFrom 0 ts) := by
  have h := C06R.boundedFamily_wf hmem
  exact ⟨C06R.atoks_render ts h, C06R.specs_of_rendered ts h⟩

/-! `RTok` is the generator's alphabet: text, `%%`, a lone `%`, `%[n$][width][.prec]c`.
`WfRender ts` = every token is well formed (`WfTok`: text contains no `%`; `n ≥ 1`, written by
`"%d" % n`; the format part is `(\*|[0-9]+)?(\.(\*|[0-9]+)?)?`; `c` is one of `duxXosScpfg`) and the
sequence is `Separated`: what follows a lone `%` (the rest of the rendered value) is empty or starts
with a character that is not `%`, not a digit, not `*`, not `.` and not a conversion character.
Nothing is required after `%%` or after an argument (their last character closes the match), and
text may be empty. -/

/-- **A value assembled from well-formed, separated tokens lexes back to exactly those tokens**, with
    their offsets — for token lists of any length.  (Such a token list is a tokenisation by the grammar `C06G.Lex`,
    `rendered_lex` below, and the lexer finds every tokenisation of the grammar, `atoks_iff_lex`.) -/
theorem atoks_render (ts : List RTok) (h : WfRender ts) : atoks (render ts) = some (expectedFrom 0 ts) :=
  C06R.atoks_render ts h

/-- `getPrintfSpecs` of an assembled value is the closed form on the intended tokens. -/
theorem specs_of_rendered (ts : List RTok) (h : WfRender ts) :
    getPrintfSpecs (render ts) = specsSpec (expectedFrom 0 ts) :=
  C06R.specs_of_rendered ts h

/-- **Error classification in terms of the tokens**: `getPrintfSpecs` of the assembled value raises iff
    the token list contains a lone `%`, or both ordered and unordered arguments, or only ordered
    arguments whose numbers have a gap — and what it raises is always `PrintfException`. -/
theorem specs_rendered_error_iff (ts : List RTok) (h : WfRender ts) :
    ((∃ e, getPrintfSpecs (render ts) = .error e) ↔ RTok.lone ∈ ts ∨ MixedR ts ∨ GapR ts) ∧
    (∀ e, getPrintfSpecs (render ts) = .error e → ∃ msg pos, e = .printf msg pos) :=
  C06R.specs_rendered_error_iff ts h

/-- Unordered arguments (with any text and `%%` around them): the list of their types, in order. -/
theorem specs_rendered_unordered (ts : List RTok) (h : WfRender ts)
    (hun : ∀ tok ∈ ts, (∃ t, tok = .text t) ∨ tok = .pct ∨ ∃ fmt c, tok = .arg none fmt c) :
    getPrintfSpecs (render ts) = .ok ((rargs ts).map (fun a => some a.2)) := by
  open C06R in
  have hl : ¬ HasLone (expectedFrom 0 ts) := by
    rw [hasLone_exp]; intro hm
    rcases hun _ hm with ⟨t, ht⟩ | ht | ⟨_, _, ht⟩ <;> cases ht
  have hb := rargs_style (ts := ts) (b := false) fun num fmt c hm => by
    rcases hun _ hm with ⟨t, ht⟩ | ht | ⟨_, _, ht⟩ <;> cases ht
    rfl
  rw [specs_of_rendered ts h, specsSpec_unordered hl hb,
    argsOf_exp]

/-- Ordered arguments without a gap: position `i` holds the type of the last token numbered `i + 1`. -/
theorem specs_rendered_ordered (ts : List RTok) (h : WfRender ts)
    (hord : ∀ tok ∈ ts, (∃ t, tok = .text t) ∨ tok = .pct ∨ ∃ n fmt c, tok = .arg (some n) fmt c)
    (hgap : ¬ GapR ts) :
    getPrintfSpecs (render ts) = .ok (positional (rargs ts)) := by
  open C06R in
  have hl : ¬ RTok.lone ∈ ts := by
    intro hm
    rcases hord _ hm with ⟨t, ht⟩ | ht | ⟨_, _, _, ht⟩ <;> cases ht
  have hb := rargs_style (ts := ts) (b := true) fun num fmt c hm => by
    rcases hord _ hm with ⟨t, ht⟩ | ht | ⟨_, _, _, ht⟩ <;> cases ht
    rfl
  have hne : ¬ ∃ e, getPrintfSpecs (render ts) = .error e := by
    rw [(C06R.specs_rendered_error_iff ts h).1]
    rintro (h1 | ⟨_, ⟨fmt, c, hm⟩⟩ | h1)
    · exact hl h1
    · simpa using hb (none, [c]) (by rw [argsOf_exp]; exact mem_rargs.mpr ⟨fmt, c, hm, rfl⟩)
    · exact hgap h1
  rw [specs_of_rendered ts h,
    specsSpec_ordered (by rwa [hasLone_exp]) hb, argsOf_exp] at hne ⊢
  split
  · rfl
  · rename_i hnall
    exact absurd ⟨_, if_neg hnall⟩ hne

/-- **Reordering invariance**: any permutation of a token list made of text, `%%` and ordered
    arguments (the same number always with the same type) gives the same result.  No hypothesis on
    the permuted list: without lone `%` every order is separated. -/
theorem specs_rendered_reorder (ts ts' : List RTok) (hwf : ∀ t ∈ ts, WfTok t) (hperm : ts.Perm ts')
    (hord : ∀ tok ∈ ts, (∃ t, tok = .text t) ∨ tok = .pct ∨ ∃ n fmt c, tok = .arg (some n) fmt c)
    (hcons : Consistent (rargs ts)) :
    getPrintfSpecs (render ts) = getPrintfSpecs (render ts') := by
  open C06R in
  have hl : RTok.lone ∉ ts := by
    intro hm
    rcases hord _ hm with ⟨t, ht⟩ | ht | ⟨_, _, _, ht⟩ <;> cases ht
  have hl' : RTok.lone ∉ ts' := fun hm => hl (hperm.symm.subset hm)
  exact specs_reorder_rendered ts ts' ⟨hwf, separated_of_no_lone hl⟩
    ⟨fun t ht => hwf t (hperm.symm.subset ht), separated_of_no_lone hl'⟩ (hperm.filterMap _) hord hcons

/-- … also when the text between the arguments changes (only the non-text tokens are permuted). -/
theorem specs_rendered_reorder_text (ts ts' : List RTok) (h : WfRender ts) (h' : WfRender ts')
    (hperm : (ts.filterMap tokA).Perm (ts'.filterMap tokA))
    (hord : ∀ tok ∈ ts, (∃ t, tok = .text t) ∨ tok = .pct ∨ ∃ n fmt c, tok = .arg (some n) fmt c)
    (hcons : Consistent (rargs ts)) :
    getPrintfSpecs (render ts) = getPrintfSpecs (render ts') :=
  C06R.specs_reorder_rendered ts ts' h h' hperm hord hcons

/-- **`%%` and text are irrelevant**: two assembled values with the same sequence `sig` of lone-`%` and
    argument tokens have the same specifier list or the same kind of error (`kindOf` forgets the
    offset of the error, the only thing text can move). -/
theorem specs_rendered_ignore_text_pct (ts ts' : List RTok) (h : WfRender ts) (h' : WfRender ts')
    (hsig : sig ts = sig ts') :
    kindOf (getPrintfSpecs (render ts)) = kindOf (getPrintfSpecs (render ts')) := by
  open C06R in
  rw [specs_of_rendered ts h, specs_of_rendered ts' h', ← specsSpec_ignores_pct (expectedFrom 0 ts),
    ← specsSpec_ignores_pct (expectedFrom 0 ts')]
  apply specsSpec_kind_congr
  rw [filter_notPct_map, filter_notPct_map, exp_map, exp_map]
  exact hsig

/-- **printf verdict.**  For every reference specifier list `R` and localized value: `checkPrintf`
    does not raise, and it reports an error iff the localized value is malformed or its
    specifier list is not a prefix of `R`. -/
theorem printf_error_iff (R : List (Option Text)) (l10nValue : Text) :
    ∃ fs, checkPrintf R l10nValue = some fs ∧
      (hasError fs ↔ (∃ msg pos, getPrintfSpecs l10nValue = .error (.printf msg pos)) ∨
        (∃ L, getPrintfSpecs l10nValue = .ok L ∧ ¬ L <+: R)) :=
  checkPrintf_error_iff R l10nValue

/-- Dropping only trailing arguments is exactly one warning (which names the dropped arguments). -/
theorem printf_trailing_warn (L t : List (Option Text)) (l10nValue : Text)
    (h : getPrintfSpecs l10nValue = .ok L) (ht : t ≠ []) :
    checkPrintf (L ++ t) l10nValue = some [⟨.warning, .val 0, trailingMsg (L ++ t) L.length, .printf⟩] :=
  (checkPrintf_ok _ L l10nValue h).trans (specsVerdict_trailing L t ht)

/-- Equal specifier lists: nothing is reported. -/
theorem printf_equal_silent (R : List (Option Text)) (l10nValue : Text)
    (h : getPrintfSpecs l10nValue = .ok R) : checkPrintf R l10nValue = some [] := by
  simp [checkPrintf, h]

/-- A malformed localized value is one error at the offending offset. -/
theorem printf_malformed_error (R : List (Option Text)) (l10nValue msg : Text) (pos : Nat)
    (h : getPrintfSpecs l10nValue = .error (.printf msg pos)) :
    checkPrintf R l10nValue = some [⟨.error, .val pos, msg, .printf⟩] :=
  checkPrintf_malformed R l10nValue msg pos h

/-- **printf verdict for an assembled localized value**, stated on its tokens: `checkPrintf` never
    raises, and it reports an error iff the tokens contain a lone `%`, mix the two styles, leave a gap
    in the ordered numbers, or the closed-form specifier list of the tokens is not a prefix of `R`. -/
theorem printf_rendered_error_iff (R : List (Option Text)) (ts : List RTok) (h : WfRender ts) :
    ∃ fs, checkPrintf R (render ts) = some fs ∧
      (hasError fs ↔ (RTok.lone ∈ ts ∨ MixedR ts ∨ GapR ts) ∨
        (∃ L, specsSpec (expectedFrom 0 ts) = .ok L ∧ ¬ L <+: R)) := by
  obtain ⟨fs, hfs, hiff⟩ := printf_error_iff R (render ts)
  obtain ⟨herr, hkind⟩ := specs_rendered_error_iff ts h
  refine ⟨fs, hfs, ?_⟩
  rw [hiff, ← herr, ← specs_of_rendered ts h]
  constructor
  · rintro (⟨msg, pos, he⟩ | hL)
    · exact Or.inl ⟨_, he⟩
    · exact Or.inr hL
  · rintro (⟨e, he⟩ | hL)
    · obtain ⟨msg, pos, rfl⟩ := hkind e he
      exact Or.inl ⟨msg, pos, he⟩
    · exact Or.inr hL

/-- **printf branch of `check`.**  When the string is not a plural string and the reference value
    has a non-empty, well-formed specifier list `R`, the result of `check` is: encoding warnings,
    escape warnings, then the `checkPrintf` verdict; and an error is reported iff the localized
    value is malformed or its specifier list is not a prefix of `R`. -/
theorem check_printf (e : Ents) (refValue l10nValue : Text) (R : List (Option Text))
    (hr : unescape e.refRaw = some refValue) (hl : unescape e.l10nRaw = some l10nValue)
    (hg : pluralGate e.refComment e.refKey refValue = false)
    (hR : getPrintfSpecs refValue = .ok R) (hne : R ≠ []) :
    ∃ pf, checkPrintf R l10nValue = some pf ∧
      check e = some (baseCheck e ++ escapeWarnings e.l10nRaw ++ pf) ∧
      (hasError (baseCheck e ++ escapeWarnings e.l10nRaw ++ pf) ↔
        (∃ msg pos, getPrintfSpecs l10nValue = .error (.printf msg pos)) ∨
        (∃ L, getPrintfSpecs l10nValue = .ok L ∧ ¬ L <+: R)) := by
  obtain ⟨pf, hpf, hiff⟩ := printf_error_iff R l10nValue
  refine ⟨pf, hpf, ?_, ?_⟩
  · have hemp : R.isEmpty = false := by cases R with
      | nil => exact absurd rfl hne
      | cons _ _ => rfl
    simp [check, hr, hl, hg, hR, hemp, hpf]
  · rw [← hiff]
    constructor
    · rintro ⟨f, hf, hs⟩
      rcases List.mem_append.mp hf with hf | hf
      · have := (base_esc_warnings e f hf).1
        rw [this] at hs; cases hs
      · exact ⟨f, hf, hs⟩
    · rintro ⟨f, hf, hs⟩
      exact ⟨f, List.mem_append_right _ hf, hs⟩

/-- A reference without (well-formed) printf arguments: no printf finding at all. -/
theorem check_no_reference_args (e : Ents) (refValue l10nValue : Text)
    (hr : unescape e.refRaw = some refValue) (hl : unescape e.l10nRaw = some l10nValue)
    (hg : pluralGate e.refComment e.refKey refValue = false)
    (hR : getPrintfSpecs refValue = .ok [] ∨ ∃ err, getPrintfSpecs refValue = .error err) :
    check e = some (baseCheck e ++ escapeWarnings e.l10nRaw) := by
  rcases hR with hR | ⟨err, hR⟩
  · simp [check, hr, hl, hg, hR]
  · cases err with
    | other => exact absurd hR (getPrintfSpecs_not_other refValue)
    | printf msg pos => simp [check, hr, hl, hg, hR]

open C06P (TableWf) in
/-- **the shipped tables are well formed**: distinct locale keys, every rule index inside `CATEGORIES_BY_INDEX`,
    every rule with at least one category (kernel evaluation over the regenerated data; the locale table is
    generated sorted by key, which is how the keys are seen to be distinct) -/
theorem plural_table_wf : TableWf Gen.Tables.categoriesByLocale Gen.Tables.categoriesByIndex :=
  ⟨C06P.nodup_of_increasing _ (by decide +kernel), by decide +kernel, by decide +kernel⟩

/-- `get_plural` never raises (every index of the locale table is inside the category table) -/
theorem plural_lookup_total (locale : Option Text) : ∃ known, getPlural locale = some known := by
  obtain ⟨known, hk, _⟩ := C06P.pluralOf_wf plural_table_wf locale
  exact ⟨known, (C06P.getPlural_eq locale).trans hk⟩

/-- every locale of the generated table has a non-empty category list -/
theorem plural_table_total :
    ∀ e ∈ Gen.Tables.categoriesByLocale, ∃ c cs, getPlural (some e.1) = some (some (c :: cs)) := by
  intro e he
  obtain ⟨known, hk, _, hnone, hne⟩ := C06P.pluralOf_wf plural_table_wf (some e.1)
  rw [← C06P.getPlural_eq] at hk
  -- `e.1` is a key, so the rule is found and `known` is a category list
  have hrule := C06P.rule_full _ (C06P.mem_lookup _ plural_table_wf.1 e.1 e.2 he)
  cases known with
  | none => rw [hnone.mp rfl] at hrule; cases hrule
  | some cats =>
    obtain ⟨c, cs, rfl⟩ := List.exists_cons_of_ne_nil (hne cats rfl)
    exact ⟨c, cs, hk⟩

/-- **plural branch is taken iff** the comment contains `Localization_and_Plurals`, the key is not
    `pluralRule` and the reference value is not a number. -/
theorem plural_gate (refComment : Option Text) (refKey refValue : Text) :
    pluralGate refComment refKey refValue = true ↔
      (∃ c, refComment = some c ∧ sLocPlurals <:+: c) ∧ refKey ≠ sPluralRule ∧
      Rx.matchAt refValue.toArray Gen.Pat.checks_properties_PropertiesChecker_check_0 0 = none := by
  unfold pluralGate
  simp only [Bool.and_eq_true, bne_iff_ne, ne_eq, Option.isNone_iff_eq_none]
  constructor
  · rintro ⟨⟨h1, h2⟩, h3⟩
    refine ⟨?_, h2, h3⟩
    cases refComment with
    | none => simp at h1
    | some c => exact ⟨c, rfl, (contains_iff _ _).mp h1⟩
  · rintro ⟨⟨c, rfl, hc⟩, h2, h3⟩
    exact ⟨⟨(contains_iff _ _).mpr hc, h2⟩, h3⟩

/-- **plural verdict.**  For a plural string `check` never raises and its result is the encoding
    warnings followed by `formsVerdict` (one warning iff the locale has known plural categories and
    their number differs from the number of `;`-separated forms) and `varsVerdict` (a function of
    the two sets of `#n` variables). -/
theorem plural_verdict (e : Ents) (refValue l10nValue : Text)
    (hr : unescape e.refRaw = some refValue) (hl : unescape e.l10nRaw = some l10nValue)
    (hg : pluralGate e.refComment e.refKey refValue = true) :
    ∃ known pats lpats, getPlural e.locale = some known ∧
      pluralVars Gen.Pat.checks_properties_PropertiesChecker_check_plural_0 refValue = some pats ∧
      pluralVars Gen.Pat.checks_properties_PropertiesChecker_check_plural_1 l10nValue = some lpats ∧
      check e = some (baseCheck e ++ (formsVerdict known (l10nValue.count 59) ++ varsVerdict pats lpats)) := by
  obtain ⟨known, hk⟩ := plural_lookup_total e.locale
  obtain ⟨pats, hp⟩ := pluralVars_total refValue
  obtain ⟨lpats, hlp⟩ := pluralVars_total l10nValue
  refine ⟨known, pats, lpats, hk, hp, hlp, ?_⟩
  simp [check, hr, hl, hg, checkPlural_eq e.locale refValue l10nValue known pats lpats hk hp hlp]

/-- the variable verdict: nothing without reference variables; a reference variable unused →
    warning; otherwise an extra variable → error -/
theorem plural_vars_verdict (pats lpats : List Nat) :
    varsVerdict pats lpats =
      if pats = [] then []
      else if ∃ x ∈ pats, x ∉ lpats then [⟨.warning, .val 0, sNotAllVars, .plural⟩]
      else if ∃ x ∈ lpats, x ∉ pats then [⟨.error, .val 0, sUnreplaced, .plural⟩]
      else [] :=
  varsVerdict_spec pats lpats

/-- … and it depends on the two sets of variables only (order and repetitions are irrelevant) -/
theorem plural_vars_sets (pats pats' lpats lpats' : List Nat)
    (h1 : ∀ x, x ∈ pats ↔ x ∈ pats') (h2 : ∀ x, x ∈ lpats ↔ x ∈ lpats') :
    varsVerdict pats lpats = varsVerdict pats' lpats' := by
  have e0 : pats = [] ↔ pats' = [] := by simp only [List.eq_nil_iff_forall_not_mem, h1]
  simp only [varsVerdict_spec, h1, h2, e0]

/-! `PTok` = text | `#n`.  `WfRenderP ts`: text tokens contain no `#`, and a `#n` token is followed by the
end of the value or by a character that is not a digit (it would extend `n`). -/

/-- **The variables of an assembled plural value are exactly its `#n` tokens** (in order, any number
    of tokens); both regex occurrences of `check_plural` are the regex `rePlural`. -/
theorem plural_vars_rendered (ts : List PTok) (h : WfRenderP ts) :
    pluralVars Gen.Pat.checks_properties_PropertiesChecker_check_plural_0 (renderP ts) = some (varsOf ts) ∧
    pluralVars Gen.Pat.checks_properties_PropertiesChecker_check_plural_1 (renderP ts) = some (varsOf ts) :=
  ⟨C06R.pluralVars_render ts h, C06R.pluralVars_render ts h⟩

/-- **plural verdict on assembled values**: the variable verdict is `varsVerdict` of the `#n` tokens
    of the reference and of the localized value. -/
theorem plural_rendered_verdict (e : Ents) (rts lts : List PTok) (hr : WfRenderP rts) (hl : WfRenderP lts)
    (hur : unescape e.refRaw = some (renderP rts)) (hul : unescape e.l10nRaw = some (renderP lts))
    (hg : pluralGate e.refComment e.refKey (renderP rts) = true) :
    ∃ known, getPlural e.locale = some known ∧
      check e = some (baseCheck e ++
        (formsVerdict known ((renderP lts).count 59) ++ varsVerdict (varsOf rts) (varsOf lts))) := by
  obtain ⟨known, pats, lpats, hk, hp, hlp, hc⟩ := plural_verdict e _ _ hur hul hg
  rw [(plural_vars_rendered rts hr).1] at hp
  rw [(plural_vars_rendered lts hl).2] at hlp
  cases hp; cases hlp
  exact ⟨known, hk, hc⟩

-- "%2$d %1$S": ordered arguments, reordered
example : (match getPrintfSpecs [37,50,36,100,32,37,49,36,83] with
    | .ok l => l == [some [83], some [100]]
    | _ => false) = true := by decide +kernel

-- reference [S, d]; "%2$d %1$S" is silent, "%S" is the trailing warning, "%d" is an error
example : checkPrintf [some [83], some [100]] [37,50,36,100,32,37,49,36,83] = some [] := by decide +kernel
example : (checkPrintf [some [83], some [100]] [37,83]).map (·.map (·.sev)) = some [.warning] := by decide +kernel
example : ∃ msg rest, checkPrintf [some [83], some [100]] [37,100] = some (⟨.error, .val 0, msg, .printf⟩ :: rest) :=
  checkPrintf_nonprefix _ [some [100]] _ (by rfl) (by decide)

-- "% d" (lone %), "%1$S %d" (mixed), "%1$S %3$S" (gap): errors at the offending offset
example : (match getPrintfSpecs [37,32,100] with | .error (.printf _ 0) => true | _ => false) = true := by
  decide +kernel
example : (match getPrintfSpecs [37,49,36,83,32,37,100] with | .error (.printf _ 5) => true | _ => false) = true := by
  decide +kernel
example : (match getPrintfSpecs [37,49,36,83,32,37,51,36,83] with | .error (.printf _ 0) => true | _ => false) = true := by
  decide +kernel

-- difflib: the hypotheses of `difflib_prefix` are satisfiable, and a non-prefix pair is a replace
example : opcodes [1, 2, 3] [1, 2] = some [⟨.equal, 0, 2, 0, 2⟩, ⟨.delete, 2, 3, 2, 2⟩] := by
  simpa using difflib_prefix [1, 2] [3] (by simp)
example : opcodes [1, 2, 3] [1, 4, 3] =
    some [⟨.equal, 0, 1, 0, 1⟩, ⟨.replace, 1, 2, 1, 2⟩, ⟨.equal, 2, 3, 2, 3⟩] := by
  simp [opcodes, matchingBlocks, chainB, b2jBuild, b2jAdd, mbLoop, findLongestMatch, outerLoop, innerLoop,
    b2jGet, j2lenGet, extendBack, extendFwd, collapse, opcodesGo, Block.le, List.mergeSort,
    List.MergeSort.Internal.splitInTwo]

-- the bounded family is not trivial: it contains a value with reordered ordered arguments, and the
-- lone-% side condition of the full statement is needed ("%" followed by "%%" lexes as "%%", "%")
example : [RTok.arg (some 2) [] 100, RTok.text [97, 32], RTok.arg (some 1) [] 83] ∈ boundedFamily := by
  decide +kernel
example : atoks (render [RTok.lone, RTok.pct]) = some [(0, ATok.pct), (2, ATok.lone)] ∧
    expectedFrom 0 [RTok.lone, RTok.pct] = [(0, ATok.lone), (1, ATok.pct)] := by decide +kernel

-- plural: "#1 of #2" vs "#1": a reference variable is unused
example : varsVerdict [1, 2] [1] = [⟨.warning, .val 0, sNotAllVars, .plural⟩] := by decide
example : varsVerdict [1] [2, 1, 1] = [⟨.error, .val 0, sUnreplaced, .plural⟩] := by decide

/-! negation witness for `Consistent` in `specs_reorder`: the last token numbered `i` decides, so
    "%1$S %1$d" and "%1$d %1$S" (same multiset of tokens) have different specifier lists -/
example : (match getPrintfSpecs [37,49,36,83,32,37,49,36,100], getPrintfSpecs [37,49,36,100,32,37,49,36,83] with
    | .ok l, .ok l' => l == [some [100]] && l' == [some [83]]
    | _, _ => false) = true := by decide +kernel

/-! negation witness: without the prefix relation `ValidOpcodes` alone does not give the
    warning-only verdict — a valid script for `[S,S]` → `[S]` may delete the first element.
    This is why `difflib_prefix` is proved about the port and not assumed as a contract. -/
example : ValidOpcodes [1, 1] [1] [⟨.delete, 0, 1, 0, 0⟩, ⟨.equal, 1, 2, 0, 1⟩] := by
  simp [ValidOpcodes, ValidFrom]

-- "%2$d a %1$5.2f%%": a well-formed, separated token list with ordered arguments, width and precision
example : WfRender [.arg (some 2) [] 100, .text [32, 97, 32], .arg (some 1) [53, 46, 50] 102, .pct] := by
  refine ⟨?_, by simp [Separated]⟩
  intro t ht
  simp only [List.mem_cons, List.mem_nil_iff, or_false] at ht
  rcases ht with rfl | rfl | rfl | rfl
  · exact ⟨fun n hn => (by cases hn; decide), ⟨[], [], rfl, Or.inl rfl, Or.inl rfl⟩, by decide⟩
  · show 37 ∉ [32, 97, 32]; decide
  · exact ⟨fun n hn => (by cases hn; decide),
      ⟨[53], [46, 50], rfl, Or.inr (Or.inr ⟨by decide, by decide⟩),
        Or.inr (Or.inr (Or.inr ⟨[50], by decide, by decide, rfl⟩))⟩, by decide⟩
  · trivial

-- the family is unbounded: `%S` repeated k times (and `% ` repeated k times) for every k
example (k : Nat) : WfRender (List.replicate k (RTok.arg none [] 83)) := by
  refine ⟨?_, C06R.separated_of_no_lone (by simp [List.mem_replicate])⟩
  intro t ht
  obtain ⟨_, rfl⟩ := List.mem_replicate.mp ht
  exact ⟨fun n hn => (by cases hn), ⟨[], [], rfl, Or.inl rfl, Or.inl rfl⟩, by decide⟩

-- a lone `%` followed by a blank is separated; the classification then reports the error
example : WfRender [.lone, .text [32, 100]] ∧ ∃ e, getPrintfSpecs (render [.lone, .text [32, 100]]) = .error e := by
  have h : WfRender [.lone, .text [32, 100]] := by
    refine ⟨?_, ?_⟩
    · intro t ht
      simp only [List.mem_cons, List.mem_nil_iff, or_false] at ht
      rcases ht with rfl | rfl
      · trivial
      · show 37 ∉ [32, 100]; decide
    · refine ⟨?_, trivial⟩
      intro c hc
      have : c = 32 := by simpa [render, renderTok] using hc.symm
      subst this
      exact ⟨by decide, by decide, by decide, by decide, by decide⟩
  exact ⟨h, (specs_rendered_error_iff _ h).1.mpr (Or.inl (by simp))⟩

/-! negation witnesses for `Separated` / `WfTok` (the value lexes to OTHER tokens than intended):
    * a lone `%` followed by the text `1$S` is the argument `%1$S`;
    * a text token containing `%` (`%S` as text) is an argument;
    * the number `0` (`%0$S`) is not an argument number: the `%` is lone. -/
example : atoks (render [.lone, .text [49, 36, 83]]) = some [(0, ATok.arg (some 1) [83])] ∧
    expectedFrom 0 [.lone, .text [49, 36, 83]] = [(0, ATok.lone)] ∧
    ¬ Separated [.lone, .text [49, 36, 83]] := by
  refine ⟨by decide +kernel, by decide +kernel, ?_⟩
  rintro ⟨h, _⟩
  exact (h 49 (by simp [render, renderTok])).2.1 (by decide)
example : atoks (render [.text [37, 83]]) = some [(0, ATok.arg none [83])] ∧
    expectedFrom 0 [.text [37, 83]] = [] := by decide +kernel
example : atoks (render [.arg (some 0) [] 83]) = some [(0, ATok.lone)] ∧
    expectedFrom 0 [.arg (some 0) [] 83] = [(0, ATok.arg (some 0) [83])] := by decide +kernel

-- plural: "#1 of #22;" is well formed; "#1" followed by the text "2" is the variable 12
example : WfRenderP [.var 1, .text [32, 111, 102, 32], .var 22, .text [59]] := by
  refine ⟨?_, ?_⟩
  · intro t ht
    simp only [List.mem_cons, List.mem_nil_iff, or_false] at ht
    rcases ht with rfl | rfl | rfl | rfl
    · trivial
    · show 35 ∉ [32, 111, 102, 32]; decide
    · trivial
    · show 35 ∉ [59]; decide
  · refine ⟨?_, ?_, trivial⟩
    · intro c hc
      have : c = 32 := by
        have : (renderP [PTok.text [32, 111, 102, 32], PTok.var 22, PTok.text [59]]).head? = some 32 := by
          decide +kernel
        rw [this] at hc; cases hc; rfl
      subst this; decide
    · intro c hc
      have : c = 59 := by
        have : (renderP [PTok.text [59]]).head? = some 59 := by decide +kernel
        rw [this] at hc; cases hc; rfl
      subst this; decide
example : pluralVars rePlural (renderP [.var 1, .text [50]]) = some [12] ∧ varsOf [.var 1, .text [50]] = [1] := by
  decide +kernel

/-! `C06G.Lex p v ts` (Proofs/C06Grammar.lean) is an inductive grammar that mentions neither the regular expression
nor the model: `v` is a sequence of non-`%` characters, tokens `Tokn` (`%%`, `%[n$][width][.prec]c` with
`n = [1-9][0-9]*`, width `\*|[0-9]+`, precision `\.(\*|[0-9]+)?`, `c ∈ duxXosScpfg`) and lone `%`s, the latter
only where no token starts.  `atoks v` is what `printf.finditer(v)` finds. -/

open C06G (Lex Tokn NumPart HasTok) in
/-- **soundness and completeness of the lexer against the grammar, for EVERY value**: the matches of
    `printf.finditer(v)` are the tokens `ts` iff the grammar tokenises `v` as `ts`. -/
theorem atoks_iff_lex (v : Text) (ts : List (Nat × ATok)) : atoks v = some ts ↔ Lex 0 v ts :=
  ⟨C06G.lex_of_atoks, C06G.atoks_of_lex⟩

open C06G (Lex) in
/-- every value has exactly one tokenisation -/
theorem lex_exists_unique (v : Text) : ∃ ts, Lex 0 v ts ∧ ∀ ts', Lex 0 v ts' → ts' = ts := by
  obtain ⟨ts, h⟩ := C06G.lex_total v 0
  exact ⟨ts, h, fun ts' h' => C06G.lex_unique h' h⟩

open C06G (Lex) in
/-- **`getPrintfSpecs v` is the closed form on the tokens of the grammar**, for every value (`specs_of_rendered`
    without `WfRender`: "assembled values" replaced by "every value") -/
theorem specs_of_lex (v : Text) (ts : List (Nat × ATok)) (h : Lex 0 v ts) :
    WFToks ts ∧ getPrintfSpecs v = specsSpec ts := by
  have ha := C06G.atoks_of_lex h
  exact ⟨atoks_wf v ts ha, getPrintfSpecs_eq_spec v ts ha⟩

open C06G (Lex) in
/-- error classification on the grammar's tokens: `getPrintfSpecs` raises iff the tokenisation has a lone `%`,
    mixes the styles, or leaves a gap; and only `PrintfException` -/
theorem specs_error_iff_lex (v : Text) (ts : List (Nat × ATok)) (h : Lex 0 v ts) :
    ((∃ e, getPrintfSpecs v = .error e) ↔ HasLone ts ∨ Mixed ts ∨ Gap ts) ∧
    getPrintfSpecs v ≠ .error .other :=
  specs_error_iff v ts (C06G.atoks_of_lex h)

open C06G (Lex) in
/-- a `WfRender` token list IS a tokenisation by the grammar of the value it renders to (which is how
    `atoks_render` is proved) -/
theorem rendered_lex (ts : List RTok) (h : WfRender ts) : Lex 0 (render ts) (expectedFrom 0 ts) :=
  C06G.lex_render ts 0 h.1 h.2

open C06G (Lex) in
/-- `%%` and text never matter — for ALL values: two values whose tokenisations have the same sequence of lone-`%` /
    argument tokens (`%%` dropped) have the same specifier list or the same kind of error -/
theorem specs_lex_ignore_text_pct (v v' : Text) (ts ts' : List (Nat × ATok)) (h : Lex 0 v ts) (h' : Lex 0 v' ts')
    (hsig : (ts.filter notPct).map (·.2) = (ts'.filter notPct).map (·.2)) :
    kindOf (getPrintfSpecs v) = kindOf (getPrintfSpecs v') := by
  rw [(specs_of_lex v ts h).2, (specs_of_lex v' ts' h').2, ← specsSpec_ignores_pct ts, ← specsSpec_ignores_pct ts']
  exact C06R.specsSpec_kind_congr _ _ hsig

open C06G (Lex) in
/-- reordering ordered arguments never matters — for ALL values: if the tokens of `v'` are a permutation of those
    of `v`, all of them `%%` or ordered arguments, the same number always with the same type, the results agree -/
theorem specs_lex_reorder (v v' : Text) (ts ts' : List (Nat × ATok)) (h : Lex 0 v ts) (h' : Lex 0 v' ts')
    (hperm : (ts.map (·.2)).Perm (ts'.map (·.2)))
    (hord : ∀ t ∈ ts, t.2 = ATok.pct ∨ ∃ n sp, t.2 = ATok.arg (some n) sp)
    (hcons : Consistent (argsOf ts)) : getPrintfSpecs v = getPrintfSpecs v' := by
  rw [(specs_of_lex v ts h).2, (specs_of_lex v' ts' h').2]
  exact specs_reorder ts ts' (specs_of_lex v ts h).1 hperm hord hcons

/-! `uval raw` is the documented unescaping of a raw `.properties` value (`P.propsUnescapeSpec`, the C02
specification: `\uXXXX`, line continuation, `\n \r \t \\`, any other `\c` is `c`); the unescape model inside
`check` is total and equal to it (`C06U.unescape_eq_spec`, via C02's `propsVal_eq_spec`), so the hypotheses
`unescape raw = some value` of `check_printf` / `plural_verdict` disappear. -/

/-- `PropertiesEntity.val` of a raw value, by the documented rules -/
abbrev uval (raw : Text) : Text := P.propsUnescapeSpec raw

/-- the unescape model never raises and is the documented unescaping -/
theorem unescape_total (raw : Text) : unescape raw = some (uval raw) := C06U.unescape_eq_spec raw

/-- `check_printf` from raw values -/
theorem check_printf_raw (e : Ents) (R : List (Option Text))
    (hg : pluralGate e.refComment e.refKey (uval e.refRaw) = false)
    (hR : getPrintfSpecs (uval e.refRaw) = .ok R) (hne : R ≠ []) :
    ∃ pf, checkPrintf R (uval e.l10nRaw) = some pf ∧
      check e = some (baseCheck e ++ escapeWarnings e.l10nRaw ++ pf) ∧
      (hasError (baseCheck e ++ escapeWarnings e.l10nRaw ++ pf) ↔
        (∃ msg pos, getPrintfSpecs (uval e.l10nRaw) = .error (.printf msg pos)) ∨
        (∃ L, getPrintfSpecs (uval e.l10nRaw) = .ok L ∧ ¬ L <+: R)) :=
  check_printf e _ _ R (unescape_total _) (unescape_total _) hg hR hne

/-- `check_no_reference_args` from raw values -/
theorem check_no_reference_args_raw (e : Ents)
    (hg : pluralGate e.refComment e.refKey (uval e.refRaw) = false)
    (hR : getPrintfSpecs (uval e.refRaw) = .ok [] ∨ ∃ err, getPrintfSpecs (uval e.refRaw) = .error err) :
    check e = some (baseCheck e ++ escapeWarnings e.l10nRaw) :=
  check_no_reference_args e _ _ (unescape_total _) (unescape_total _) hg hR

/-- `plural_verdict` from raw values -/
theorem plural_verdict_raw (e : Ents) (hg : pluralGate e.refComment e.refKey (uval e.refRaw) = true) :
    ∃ known pats lpats, getPlural e.locale = some known ∧
      pluralVars Gen.Pat.checks_properties_PropertiesChecker_check_plural_0 (uval e.refRaw) = some pats ∧
      pluralVars Gen.Pat.checks_properties_PropertiesChecker_check_plural_1 (uval e.l10nRaw) = some lpats ∧
      check e = some (baseCheck e ++ (formsVerdict known ((uval e.l10nRaw).count 59) ++ varsVerdict pats lpats)) :=
  plural_verdict e _ _ (unescape_total _) (unescape_total _) hg

/-- **`check` never raises, and it is exactly one of three things** (decided by the raw reference):
    the plural verdict; encoding + escape warnings only (reference without well-formed arguments); or
    encoding + escape warnings + the `checkPrintf` verdict. -/
theorem check_trichotomy (e : Ents) :
    (pluralGate e.refComment e.refKey (uval e.refRaw) = true ∧
      ∃ pl, checkPlural e.locale (uval e.refRaw) (uval e.l10nRaw) = some pl ∧ check e = some (baseCheck e ++ pl)) ∨
    (pluralGate e.refComment e.refKey (uval e.refRaw) = false ∧
      (getPrintfSpecs (uval e.refRaw) = .ok [] ∨ ∃ err, getPrintfSpecs (uval e.refRaw) = .error err) ∧
      check e = some (baseCheck e ++ escapeWarnings e.l10nRaw)) ∨
    (pluralGate e.refComment e.refKey (uval e.refRaw) = false ∧
      ∃ R pf, R ≠ [] ∧ getPrintfSpecs (uval e.refRaw) = .ok R ∧ checkPrintf R (uval e.l10nRaw) = some pf ∧
        check e = some (baseCheck e ++ escapeWarnings e.l10nRaw ++ pf)) := by
  cases hg : pluralGate e.refComment e.refKey (uval e.refRaw) with
  | true =>
    left
    obtain ⟨known, pats, lpats, hk, hp, hlp, hc⟩ := plural_verdict_raw e hg
    exact ⟨rfl, _, checkPlural_eq e.locale _ _ known pats lpats hk hp hlp, hc⟩
  | false =>
    right
    cases hR : getPrintfSpecs (uval e.refRaw) with
    | error err => exact Or.inl ⟨rfl, Or.inr ⟨err, rfl⟩, check_no_reference_args_raw e hg (Or.inr ⟨err, hR⟩)⟩
    | ok R =>
      cases R with
      | nil => exact Or.inl ⟨rfl, Or.inl rfl, check_no_reference_args_raw e hg (Or.inl hR)⟩
      | cons x xs =>
        obtain ⟨pf, hpf, hc, _⟩ := check_printf_raw e (x :: xs) hg hR (by simp)
        exact Or.inr ⟨rfl, x :: xs, pf, by simp, rfl, hpf, hc⟩

theorem check_never_raises (e : Ents) : ∃ fs, check e = some fs := by
  rcases check_trichotomy e with ⟨_, pl, _, h⟩ | ⟨_, _, h⟩ | ⟨_, R, pf, _, _, _, h⟩ <;> exact ⟨_, h⟩

/-! `specsVerdict R L` is `checkPrintf` after `l10nSpecs` is known (`checkPrintf_ok`).
`isBad R op`  : `op` is a replace, an insert, or a delete that does not end at `len(refSpecs)`;
`isWarn R op` : `op` is a delete that ends at `len(refSpecs)`.                                          -/

/-- For reference / localized specifier lists of ANY lengths `checkPrintf` never raises;
    the severities it reports are `sevsOf R L ops` — `[error]?` then `[warning]?` — everything at offset 0, where
    `ops` are the opcodes of the ported `SequenceMatcher` (a valid edit script):
      error   ⇔ the lists differ and some opcode is a replace / an insert / a non-trailing delete,
      warning ⇔ the lists differ and some opcode is a delete ending at `len(refSpecs)`,
      nothing otherwise;
    in closed form: error ⇔ `L` is not a prefix of `R`; `L = R` → nothing; `L` a proper prefix of `R` (trailing
    reference arguments dropped) → exactly one warning; `R` a proper prefix of `L` (the localization extends the
    reference's arguments) → exactly one error listing the additional arguments as obsolete. -/
theorem check_verdict_iff (R L : List (Option Text)) :
    ∃ ops fs, opcodes R L = some ops ∧ ValidOpcodes R L ops ∧ specsVerdict R L = some fs ∧
      fs.map (·.sev) = sevsOf R L ops ∧ (∀ f ∈ fs, f.pos = .val 0 ∧ f.cat = .printf) ∧
      (hasError fs ↔ R ≠ L ∧ ∃ op ∈ ops, isBad R op = true) ∧
      (hasWarning fs ↔ R ≠ L ∧ ∃ op ∈ ops, isWarn R op = true) ∧
      (hasError fs ↔ ¬ L <+: R) ∧
      (L = R → fs = []) ∧
      (∀ t, t ≠ [] → R = L ++ t → fs = [⟨.warning, .val 0, trailingMsg R L.length, .printf⟩]) ∧
      (∀ t, t ≠ [] → L = R ++ t → fs = [⟨.error, .val 0, obsoleteListMsg L R.length, .printf⟩]) := by
  obtain ⟨ops, fs, ⟨ho, hv, hs, hsev, hpos, hE, hW⟩⟩ := specsVerdict_opcodes R L
  obtain ⟨fs', hs', hE'⟩ := specsVerdict_error_iff R L
  rw [hs] at hs'
  cases hs'
  refine ⟨ops, fs, ho, hv, hs, hsev, hpos, hE, hW, hE', ?_, ?_, ?_⟩
  · rintro rfl
    have := specsVerdict_equal L
    rw [hs] at this
    exact Option.some.inj this
  · rintro t ht rfl
    have := specsVerdict_trailing L t ht
    rw [hs] at this
    exact Option.some.inj this
  · rintro t ht rfl
    have := specsVerdict_obsolete R t ht
    rw [hs] at this
    exact Option.some.inj this

/-- `checkPrintf` on a VALUE: the malformed-value error (at the offending offset), or the verdict of the two lists -/
theorem printf_verdict_value (R : List (Option Text)) (v : Text) :
    (∃ msg pos, getPrintfSpecs v = .error (.printf msg pos) ∧
        checkPrintf R v = some [⟨.error, .val pos, msg, .printf⟩]) ∨
    (∃ L, getPrintfSpecs v = .ok L ∧ checkPrintf R v = specsVerdict R L) := by
  cases h : getPrintfSpecs v with
  | error e =>
    cases e with
    | other => exact absurd h (getPrintfSpecs_not_other v)
    | printf msg pos => exact Or.inl ⟨msg, pos, rfl, printf_malformed_error R v msg pos h⟩
  | ok L => exact Or.inr ⟨L, rfl, checkPrintf_ok R L v h⟩

/-- corollary (the fast-path regression `all(r == l for r, l in zip(refSpecs, l10nSpecs))` is excluded): a
    localization whose arguments EXTEND the reference's is an error, never silent -/
theorem verdict_extension_is_error (R t : List (Option Text)) (ht : t ≠ []) :
    ∃ fs, specsVerdict R (R ++ t) = some fs ∧ hasError fs ∧ ¬ hasWarning fs := by
  refine ⟨_, specsVerdict_obsolete R t ht, ⟨_, List.mem_singleton.mpr rfl, rfl⟩, ?_⟩
  rintro ⟨f, hf, hs⟩
  simp only [List.mem_singleton] at hf
  subst hf
  cases hs

/-- corollary: dropping only trailing reference arguments is a warning and nothing else -/
theorem verdict_trailing_is_warning (L t : List (Option Text)) (ht : t ≠ []) :
    ∃ fs, specsVerdict (L ++ t) L = some fs ∧ hasWarning fs ∧ ¬ hasError fs := by
  refine ⟨_, specsVerdict_trailing L t ht, ⟨_, List.mem_singleton.mpr rfl, rfl⟩, ?_⟩
  rintro ⟨f, hf, hs⟩
  simp only [List.mem_singleton] at hf
  subst hf
  cases hs

open C06G (Lex) in
/-- corollary (reordering with explicit positions is fine): a localized value whose tokens are a permutation of
    the reference value's — `%%` and ordered arguments, the same number always with the same type — is silent,
    whatever the text between the tokens -/
theorem verdict_reorder_silent (refValue l10nValue : Text) (ts ts' : List (Nat × ATok)) (R : List (Option Text))
    (h : Lex 0 refValue ts) (h' : Lex 0 l10nValue ts')
    (hperm : (ts.map (·.2)).Perm (ts'.map (·.2)))
    (hord : ∀ t ∈ ts, t.2 = ATok.pct ∨ ∃ n sp, t.2 = ATok.arg (some n) sp)
    (hcons : Consistent (argsOf ts)) (hR : getPrintfSpecs refValue = .ok R) :
    checkPrintf R l10nValue = some [] := by
  have := specs_lex_reorder refValue l10nValue ts ts' h h' hperm hord hcons
  exact printf_equal_silent R l10nValue (by rw [← this]; exact hR)

/-- closed form (every argument retyped): reference and localization without a specifier in common, whatever their
    lengths — exactly one error with one "should be" message per position of the shorter list, and NO warning even if
    the localization has fewer arguments -/
theorem verdict_all_retyped (R L : List (Option Text)) (hR : R ≠ []) (hL : L ≠ []) (hd : ∀ x ∈ R, x ∉ L) :
    opcodes R L = some [⟨.replace, 0, R.length, 0, L.length⟩] ∧
    specsVerdict R L = some [⟨.error, .val 0, replaceListMsg R L, .printf⟩] :=
  ⟨Difflib.opcodes_disjoint R L hR hL hd, specsVerdict_disjoint R L hR hL hd⟩

/-- the whole `check` from raw values on the printf branch, with the decision theorem plugged in -/
theorem check_verdict_raw (e : Ents) (R L : List (Option Text))
    (hg : pluralGate e.refComment e.refKey (uval e.refRaw) = false)
    (hR : getPrintfSpecs (uval e.refRaw) = .ok R) (hne : R ≠ [])
    (hL : getPrintfSpecs (uval e.l10nRaw) = .ok L) :
    ∃ ops fs, opcodes R L = some ops ∧ specsVerdict R L = some fs ∧
      check e = some (baseCheck e ++ escapeWarnings e.l10nRaw ++ fs) ∧
      fs.map (·.sev) = sevsOf R L ops ∧ (hasError fs ↔ ¬ L <+: R) := by
  obtain ⟨ops, fs, ho, _, hs, hsev, _, _, _, hE, _⟩ := check_verdict_iff R L
  obtain ⟨pf, hpf, hc, _⟩ := check_printf_raw e R hg hR hne
  rw [checkPrintf_ok R L _ hL, hs] at hpf
  cases hpf
  exact ⟨ops, fs, ho, hs, hc, hsev, hE⟩

open C06Gate (NumericValue UDig) in
/-- **the plural branch is taken iff** the comment contains `Localization_and_Plurals`, the key is not `pluralRule`,
    and the reference value is NOT of the form: one or more Unicode decimal digits (`\d` = category Nd, regenerated
    table) optionally followed by one final newline — `re.match(r"\d+$", refValue)` evaluated exactly, for every value
    (`plural_gate` without the regular expression). -/
theorem plural_gate_closed (refComment : Option Text) (refKey refValue : Text) :
    pluralGate refComment refKey refValue = true ↔
      (∃ c, refComment = some c ∧ sLocPlurals <:+: c) ∧ refKey ≠ sPluralRule ∧ ¬ NumericValue refValue := by
  rw [plural_gate, C06Gate.gate_re_eq, ← C06Gate.numeric_iff]
  cases Rx.matchAt refValue.toArray C06Gate.reNumeric 0 <;> simp

/-! `C06P.ruleOf tbl` is `get_plural_rule` over ANY table (the shipped one is `Gen.Tables.categoriesByLocale`,
regenerated from plurals.py on every run); `C06P.TableWf` is the well-formedness predicate. -/

open C06P (ruleOf langOf sourceKey TableWf pluralOf formCountOf formsVerdictN LexP joinForms) in
/-- the model's lookup is the generic one on the shipped table -/
theorem plural_rule_lookup (locale : Option Text) :
    getPluralRule locale = ruleOf Gen.Tables.categoriesByLocale locale := by
  cases locale <;> rfl

open C06P (ruleOf langOf) in
/-- **prefix lookup law, for EVERY locale string** `l`: the rule is `i` iff `l` itself is a key with value `i`, or
    `l` is no key and its language subtag (the text before the first `-`) is a key with value `i` -/
theorem plural_rule_iff (l : Text) (i : Nat) :
    getPluralRule (some l) = some i ↔
      (l, i) ∈ Gen.Tables.categoriesByLocale ∨
      ((∀ j, (l, j) ∉ Gen.Tables.categoriesByLocale) ∧ (langOf l, i) ∈ Gen.Tables.categoriesByLocale) := by
  rw [plural_rule_lookup]
  exact C06P.rule_iff _ plural_table_wf.1 l i

open C06P (ruleOf langOf) in
/-- the same law over ANY table with distinct keys -/
theorem plural_rule_iff_generic (tbl : List (Text × Nat)) (hnd : (tbl.map (·.1)).Nodup) (l : Text) (i : Nat) :
    ruleOf tbl (some l) = some i ↔ (l, i) ∈ tbl ∨ ((∀ j, (l, j) ∉ tbl) ∧ (langOf l, i) ∈ tbl) :=
  C06P.rule_iff tbl hnd l i

open C06P (ruleOf) in
/-- region subtags are irrelevant (any table): `lang-REST` that is not itself a key has the rule of `lang` -/
theorem plural_rule_region (tbl : List (Text × Nat)) (lang rest : Text) (h : 45 ∉ lang)
    (hk : tbl.lookup (lang ++ 45 :: rest) = none) :
    ruleOf tbl (some (lang ++ 45 :: rest)) = ruleOf tbl (some lang) := by
  rw [C06P.rule_lang tbl hk, C06P.langOf_region lang rest h, C06P.rule_plain tbl h]

open C06P (sourceKey) in
/-- keys that contain `-` (`zh-CN`, `zh-TW`) are reached by the identical tag only (any table); in the shipped
    table these are the only two such keys -/
theorem plural_hyphen_keys :
    (∀ (tbl : List (Text × Nat)) (l k : Text), sourceKey tbl l = some k → 45 ∈ k → l = k) ∧
    (Gen.Tables.categoriesByLocale.filter (fun e => e.1.contains 45)).map (·.1) =
      [[122, 104, 45, 67, 78], [122, 104, 45, 84, 87]] :=
  ⟨fun tbl _ _ h hk => C06P.hyphen_key_exact tbl h hk, by decide +kernel⟩

open C06P (TableWf pluralOf formCountOf ruleOf) in
/-- over ANY well-formed table `get_plural` never raises, is `None` exactly for tags without a rule, and a known
    rule has at least one form (`plural_lookup_total` / `plural_table_total` generically) -/
theorem plural_lookup_wf (tbl : List (Text × Nat)) (idx : List (List Text)) (hwf : TableWf tbl idx)
    (locale : Option Text) :
    ∃ known, pluralOf tbl idx locale = some known ∧ known.map List.length = formCountOf tbl idx locale ∧
      (known = none ↔ ruleOf tbl locale = none) ∧ (∀ cats, known = some cats → cats ≠ []) :=
  C06P.pluralOf_wf hwf locale

open C06P (LexP) in
/-- **the `#n` variables of EVERY text**: both `re.finditer("#([0-9]+)", …)` calls of `check_plural` find exactly
    the variable list of the grammar `LexP` (longest digit run after each `#`; no hypothesis on the text) -/
theorem plural_vars_exact (v : Text) (ns : List Nat) :
    (pluralVars Gen.Pat.checks_properties_PropertiesChecker_check_plural_0 v = some ns ↔ LexP v ns) ∧
    (pluralVars Gen.Pat.checks_properties_PropertiesChecker_check_plural_1 v = some ns ↔ LexP v ns) :=
  ⟨⟨C06P.lexP_of_pluralVars, C06P.pluralVars_of_lexP⟩, ⟨C06P.lexP_of_pluralVars, C06P.pluralVars_of_lexP⟩⟩

open C06P (LexP) in
theorem plural_vars_exist_unique (v : Text) : ∃ ns, LexP v ns ∧ ∀ ns', LexP v ns' → ns' = ns := by
  obtain ⟨ns, h⟩ := C06P.lexP_total v
  exact ⟨ns, h, fun ns' h' => C06P.lexP_unique h' h⟩

open C06P (LexP joinForms) in
/-- **variables per form**: the variables of `";".join(forms)` are the concatenation of the variables of the forms -/
theorem plural_vars_per_form (forms : List (Text × List Nat)) (h : ∀ f ∈ forms, LexP f.1 f.2) :
    LexP (joinForms (forms.map (·.1))) (forms.flatMap (·.2)) := by
  induction forms with
  | nil => exact LexP.nil
  | cons f rest ih =>
    have hf := h f (by simp)
    have hrest := ih (fun g hg => h g (by simp [hg]))
    cases rest with
    | nil => simpa [joinForms] using hf
    | cons g rest' =>
      simp only [List.map_cons, joinForms, List.flatMap_cons] at hrest ⊢
      exact C06P.lexP_semicolon hf hrest

open C06P (LexP formCountOf formsVerdictN) in
/-- **the plural verdict as a function**, from raw values: for a plural string `check` returns the encoding warnings
    followed by `formsVerdictN n s` — `n` the form count of the rule that applies to the locale (`none`: no rule),
    `s` the number of `;` of the localized value: one warning iff `n = some k`, `k ≠ s + 1` — and
    `varsVerdict pats lpats` of the `#n` variables (grammar `LexP`) of the two values. -/
theorem plural_verdict_fn (e : Ents) (hg : pluralGate e.refComment e.refKey (uval e.refRaw) = true) :
    ∃ pats lpats, LexP (uval e.refRaw) pats ∧ LexP (uval e.l10nRaw) lpats ∧
      check e = some (baseCheck e ++
        (formsVerdictN (formCountOf Gen.Tables.categoriesByLocale Gen.Tables.categoriesByIndex e.locale)
            ((uval e.l10nRaw).count 59) ++ varsVerdict pats lpats)) := by
  obtain ⟨known, pats, lpats, hk, hp, hlp, hc⟩ := plural_verdict_raw e hg
  obtain ⟨known', hk', hcount, _, _⟩ := C06P.pluralOf_wf plural_table_wf e.locale
  rw [C06P.getPlural_eq, hk'] at hk
  cases hk
  refine ⟨pats, lpats, C06P.lexP_of_pluralVars hp, C06P.lexP_of_pluralVars hlp, ?_⟩
  rw [hc, C06P.formsVerdict_eq, hcount]

/-- Every finding of `PropertiesChecker.check`, of whatever category: a plain-int offset `n` lies inside the raw localized
    value, `n ≤ len(raw_val)`, and an `EntityPos(n)` lies inside `l10nEnt.all`. -/
theorem printf_pos_in_value (e : Ents) (fs : List Finding) (h : check e = some fs) :
    ∀ f ∈ fs, (∀ n, f.pos = .val n → n ≤ e.l10nRaw.length) ∧ (∀ n, f.pos = .ent n → n < e.l10nAll.length) := by
  have hlen : (uval e.l10nRaw).length ≤ e.l10nRaw.length := C06U.unescape_length_le _ _ (unescape_total _)
  have hbase : ∀ f ∈ baseCheck e, (∀ n, f.pos = .val n → n ≤ e.l10nRaw.length) ∧
      (∀ n, f.pos = .ent n → n < e.l10nAll.length) := by
    intro f hf
    obtain ⟨n, hn, hc⟩ := C06Pos.base_pos e f hf
    refine ⟨fun m hm => (by rw [hn] at hm; cases hm), fun m hm => ?_⟩
    rw [hn] at hm
    cases hm
    exact (List.getElem?_eq_some_iff.mp hc).1
  have hesc : ∀ f ∈ escapeWarnings e.l10nRaw, (∀ n, f.pos = .val n → n ≤ e.l10nRaw.length) ∧
      (∀ n, f.pos = .ent n → n < e.l10nAll.length) := by
    intro f hf
    obtain ⟨_, n, hn, hc⟩ := C06Pos.esc_pos e.l10nRaw f hf
    refine ⟨fun m hm => ?_, fun m hm => (by rw [hn] at hm; cases hm)⟩
    rw [hn] at hm
    cases hm
    exact Nat.le_of_lt (List.getElem?_eq_some_iff.mp hc).1
  rcases check_trichotomy e with ⟨_, pl, hpl, hc⟩ | ⟨_, _, hc⟩ | ⟨_, R, pf, _, _, hpf, hc⟩
  · rw [hc] at h
    cases h
    intro f hf
    rcases List.mem_append.mp hf with hf | hf
    · exact hbase f hf
    · obtain ⟨known, hk⟩ := plural_lookup_total e.locale
      obtain ⟨pats, hp⟩ := pluralVars_total (uval e.refRaw)
      obtain ⟨lpats, hlp⟩ := pluralVars_total (uval e.l10nRaw)
      rw [checkPlural_eq e.locale _ _ known pats lpats hk hp hlp] at hpl
      cases hpl
      obtain ⟨h0, _⟩ := C06Pos.plural_pos known _ pats lpats f hf
      refine ⟨fun m hm => ?_, fun m hm => ?_⟩
      · rw [h0] at hm; cases hm; omega
      · rw [h0] at hm; cases hm
  · rw [hc] at h
    cases h
    intro f hf
    rcases List.mem_append.mp hf with hf | hf
    · exact hbase f hf
    · exact hesc f hf
  · rw [hc] at h
    cases h
    intro f hf
    rcases List.mem_append.mp hf with hf | hf
    · rcases List.mem_append.mp hf with hf | hf
      · exact hbase f hf
      · exact hesc f hf
    · obtain ⟨_, n, hn, hcase⟩ := C06Pos.checkPrintf_pos R _ pf hpf f hf
      refine ⟨fun m hm => ?_, fun m hm => (by rw [hn] at hm; cases hm)⟩
      rw [hn] at hm
      cases hm
      rcases hcase with rfl | ⟨h1, _⟩
      · omega
      · omega

/-- **the printf findings point at the offending `%`**: every finding of `checkPrintf` is at offset 0 (verdict of
    the two lists, "Ordered argument missing") or at an offset `n < len(value)` with `value[n] = '%'` (the lone `%`,
    the first argument of the other style) -/
theorem printf_pos_points_at_pct (R : List (Option Text)) (v : Text) (fs : List Finding) (h : checkPrintf R v = some fs) :
    ∀ f ∈ fs, f.cat = .printf ∧ ∃ n, f.pos = .val n ∧ (n = 0 ∨ (n < v.length ∧ v[n]? = some 37)) :=
  C06Pos.checkPrintf_pos R v fs h

/-- the offset of a `PrintfException`: a `%` of the value for "Found single %" / "Mixed ordered and non-ordered
    args", 0 for "Ordered argument missing" -/
theorem printf_exception_pos (v msg : Text) (pos : Nat) (h : getPrintfSpecs v = .error (.printf msg pos)) :
    (pos < v.length ∧ v[pos]? = some 37 ∧ (msg = sFoundSingle ∨ msg = sMixed)) ∨
    (pos = 0 ∧ msg = sOrderedMissing) := C06Pos.specs_error_pos v msg pos h

/-- escape warnings point at the backslash in the RAW value; encoding warnings at the U+FFFD in `all` -/
theorem escape_and_encoding_pos (e : Ents) :
    (∀ f ∈ escapeWarnings e.l10nRaw, ∃ n, f.pos = .val n ∧ e.l10nRaw[n]? = some 92) ∧
    (∀ f ∈ baseCheck e, ∃ n, f.pos = .ent n ∧ e.l10nAll[n]? = some 65533) :=
  ⟨fun f hf => (C06Pos.esc_pos e.l10nRaw f hf).2, C06Pos.base_pos e⟩

/-! `PropertiesChecker` keeps `extra_tests`, `locale` and `reference`, none of which `check` writes; the model of a
session is therefore the map of `check` over the entities.  The content of the statement is on the Python side:
the harness runs sequences through ONE instance (also in reverse order, also with `extra_tests`/`set_reference`
variants) and through fresh instances and compares with this model. -/

/-- a session of one checker instance with locale `locale` over a sequence of entity pairs -/
def checkSession (locale : Option Text) (es : List Ents) : List (Option (List Finding)) :=
  es.map (fun e => check { e with locale := locale })

/-- **history independence**: the result for the `i`-th pair of a session does not depend on the other pairs (nor
    on their order): it is `check` of that pair alone; the session over a concatenation is the concatenation of the
    sessions, the session over the reversed sequence the reversed session. -/
theorem session_history_independent (locale : Option Text) (es es' : List Ents) :
    (∀ i (h : i < es.length), (checkSession locale es)[i]? = some (check { es[i] with locale := locale })) ∧
    checkSession locale (es ++ es') = checkSession locale es ++ checkSession locale es' ∧
    checkSession locale es.reverse = (checkSession locale es).reverse := by
  refine ⟨fun i h => by simp [checkSession, h], by simp [checkSession], by simp [checkSession]⟩

-- "%1$S %% %2$d" tokenises as arg 1 / %% / arg 2 at offsets 0, 5, 8
example : C06G.Lex 0 [37,49,36,83,32,37,37,32,37,50,36,100]
    [(0, .arg (some 1) [83]), (5, .pct), (8, .arg (some 2) [100])] :=
  C06G.lex_of_atoks (by decide +kernel)

-- "%1 x": not `Separated`, but the grammar (and the lexer) say: a lone `%` at 0 — the case `WfRender` excluded
example : C06G.Lex 0 [37,49,32,120] [(0, .lone)] := C06G.lex_of_atoks (by decide +kernel)

-- `%%` after an ordered argument is neither an argument nor a style switch: "%1$S %%" against "%1$S" is silent
example : checkPrintf [some [83]] [37,49,36,83,32,37,37] = some [] := by decide +kernel
-- … and "%%%1$S" as well
example : checkPrintf [some [83]] [37,37,37,49,36,83] = some [] := by decide +kernel

-- the fast-path regression: reference [S], localization [S, d] is an error ("argument 2 `d` obsolete")
example : ∃ msg, specsVerdict [some [83]] [some [83], some [100]] = some [⟨.error, .val 0, msg, .printf⟩] :=
  ⟨_, specsVerdict_obsolete [some [83]] [some [100]] (by simp)⟩

-- error and warning together: reference [S, d, x], localization [d]: "argument 1 missing" + trailing warning
example : (specsVerdict [some [83], some [100], some [120]] [some [100]]).map (·.map (·.sev)) =
    some [.error, .warning] := by decide +kernel

-- the gate: "12" and "12\n" are numbers (no plural check), "12a", "", "1\n\n" and "٣x" are not; "٣" (Arabic-Indic) is
example : C06Gate.NumericValue [49, 50] ∧ C06Gate.NumericValue [49, 50, 10] ∧ C06Gate.NumericValue [1635] :=
  ⟨⟨[49, 50], by simp, by decide, Or.inl rfl⟩, ⟨[49, 50], by simp, by decide, Or.inr rfl⟩,
   ⟨[1635], by simp, by decide, Or.inl rfl⟩⟩
example : ¬ C06Gate.NumericValue [49, 50, 97] ∧ ¬ C06Gate.NumericValue [] ∧ ¬ C06Gate.NumericValue [49, 10, 10] := by
  refine ⟨?_, ?_, ?_⟩ <;> rw [← C06Gate.numeric_iff] <;> decide +kernel

-- every argument retyped and one dropped: reference [S, S, S], localization [d, d] → one error, no warning
example : (specsVerdict [some [83], some [83], some [83]] [some [100], some [100]]).map (·.map (·.sev)) = some [.error] := by
  rw [(verdict_all_retyped _ _ (by simp) (by simp) (by decide)).2]; rfl

-- lookup: "zh-CN" → rule 0 by its own key; "zh", "zh-HK" → no rule; "en-GB" → rule of "en"; "pt-BR" → "pt"
example : getPluralRule (some [122,104,45,67,78]) = some 0 ∧ getPluralRule (some [122,104]) = none ∧
    getPluralRule (some [122,104,45,72,75]) = none ∧
    getPluralRule (some [101,110,45,71,66]) = getPluralRule (some [101,110]) ∧
    getPluralRule (some [101,110]) = some 1 := by decide +kernel

-- negation witness for `Nodup` in `plural_rule_iff_generic`: with a repeated key the first entry wins
example : C06P.ruleOf [([97], 1), ([97], 2)] (some [97]) = some 1 ∧ ([97], 2) ∈ [(([97] : Text), 1), ([97], 2)] := by
  decide +kernel

-- "#1 of #22;#3": variables 1, 22, 3 — per form [1, 22] and [3]
example : C06P.LexP [35,49,32,111,102,32,35,50,50,59,35,51] [1, 22, 3] :=
  C06P.lexP_of_pluralVars (by decide +kernel)

-- a `#` that is not followed by a digit is no variable (the case `WfRenderP` excluded): "# #1"
example : C06P.LexP [35,32,35,49] [1] := C06P.lexP_of_pluralVars (by decide +kernel)

-- positions: "a %" has its lone % at offset 2
example : (match getPrintfSpecs [97,32,37] with | .error (.printf _ 2) => true | _ => false) = true := by
  decide +kernel

end C06
