/-
C07 — DTD: malformed XML values are errors, well-formed ones never are.

`Dtd.check xmlParse i` is the model of `DTDChecker.check(refEnt, l10nEnt)`; `xmlParse` stands for
expat (external): for a document it gives the error (line, column, message), if any.  The theorems hold for ALL
`xmlParse`, all reference sets and all entities; those that say what expat accepts assume the monitored contracts
`ExpatContract` (first document) and `ExpatContract2` (second document) and say so.
-/
import CLModel.Checks.Dtd
import CLModel.Checks.DtdNamed
import CLModel.Checks.XmlGrammar
import CLModel.Proofs.C07Model
import CLModel.Proofs.C07Xml
import CLModel.Proofs.C07Num
import CLModel.Proofs.C07ERx
import CLModel.Proofs.C07EGrammar
import CLModel.Proofs.C08CReject
import CLModel.Proofs.C07State
import CLModel.Proofs.C07Lit
import CLModel.Proofs.C07Android
import CLModel.Proofs.C07CssComplete
namespace C07
open Dtd

/-- The characters of a string literal, by rewriting (`rw` unifies the literal with `String.ofList _`) before any
    evaluation: evaluating `"…".toList` would decode the literal's UTF-8 bytes in the kernel, character by character. -/
theorem toNats_ofList (l : List Char) : (String.ofList l).toList.map Char.toNat = l.map Char.toNat := by
  rw [String.toList_ofList]

/-- Every entity reference the checker's `eref` scan finds in the localized value is one of the five
    XML built-ins or is declared in the internal subset of the documents built for that value:
    the template can never be the cause of an "undefined entity" error. -/
theorem all_refs_declared (i : Inp) :
    ∀ name ∈ erefNames i.l10n.val, name ∈ Gen.Tables.xmllist ∨ name ∈ declaredNames i := by
  intro name hn
  by_cases hx : name ∈ Gen.Tables.xmllist
  · exact Or.inl hx
  · right
    by_cases hk : name ∈ knownEntities i
    · exact List.mem_append_left _ hk
    · exact List.mem_append_right _ (mem_missingOf.mpr ⟨hn, hx, hk⟩)

/-- The declared names are literally what stands between `<!DOCTYPE elem [` and `]>` of the first
    document parsed for the localized value: one `<!ENTITY name "">` per declared name, then the
    value inside `<elem>…</elem>`. -/
theorem declared_in_document (i : Inp) (d : Bytes) (h : docValue (l10nDecls i) i.l10n.val = some d) :
    ∃ e v, utf8 (entityDecls (declaredNames i)) = some e ∧ utf8 i.l10n.val = some v ∧
      d = Gen.Tables.dtdTmplPre ++ e ++ Gen.Tables.dtdTmplMid ++ v ++ Gen.Tables.dtdTmplPost := by
  rw [l10nDecls_eq] at h
  unfold docValue at h
  split at h
  · rename_i e v he hv
    exact ⟨e, v, he, hv, by simpa [tmpl] using h.symm⟩
  · simp at h

/-- the "Referencing unknown entity" warnings -/
def isUnknownWarning (r : Result) : Bool :=
  r.level == .warning && r.cat == .xmlparse && msgRefUnknown.isPrefixOf r.msg

/-- A name is warned about iff the localized value references it, it is not an XML built-in and
    no reference value (of the whole reference file if one is set, else of the reference entity)
    references it. -/
theorem missing_iff (i : Inp) (name : Text) :
    name ∈ missingOf i ↔
      name ∈ erefNames i.l10n.val ∧ name ∉ Gen.Tables.xmllist ∧
        ¬ ∃ v ∈ refValsOf i, name ∈ erefNames v ∧ name ∉ Gen.Tables.xmllist := by
  rw [mem_missingOf, mem_knownEntities]

/-- Unless the check raises, its "Referencing unknown entity" warnings are exactly one per missing
    name (each name once), in the order of `missingOf`, each naming its entity. -/
theorem unknown_ref_warned (xmlParse : Bytes → ParseRes) (i : Inp) (h : (check xmlParse i).exc = none) :
    (check xmlParse i).results.filter isUnknownWarning
        = (missingOf i).map (unknownWarning (reflistOf i) (inContextOf i)) ∧
      (missingOf i).Nodup ∧
      ∀ key, (unknownWarning (reflistOf i) (inContextOf i) key).msg
        = msgRefUnknown ++ key ++ [96] ++ warnSuffix (reflistOf i) (inContextOf i) := by
  refine ⟨?_, nodup_missingOf i, fun _ => rfl⟩
  -- such a warning is of category xmlparse: only those four sections matter
  have hx : (check xmlParse i).results.filter isUnknownWarning
      = ((check xmlParse i).results.filter (fun r => r.cat == .xmlparse)).filter isUnknownWarning := by
    rw [List.filter_filter]
    exact List.filter_congr fun r _ => by simp only [isUnknownWarning]; cases r.cat == .xmlparse <;> simp
  rw [hx, check_results_cat xmlParse i h]
  simp only [List.filter_append]
  have z2 : (refSection xmlParse i).results.filter isUnknownWarning = [] :=
    List.filter_eq_nil_iff.mpr (fun r hr => by
      rw [refSection_results xmlParse i r hr]; decide)
  have z3 : (l10nSection xmlParse i).1.results.filter isUnknownWarning = [] :=
    List.filter_eq_nil_iff.mpr (fun r hr => by
      have := cat_l10nSection xmlParse i h r hr
      simp only [isXmlError, Bool.and_eq_true, beq_iff_eq] at this
      simp [isUnknownWarning, this.1])
  have z4 : (unknownSection i).filter isUnknownWarning = unknownSection i :=
    List.filter_eq_self.mpr (fun r hr => by
      simp only [unknownSection, List.mem_map] at hr
      obtain ⟨k, _, rfl⟩ := hr
      simp only [isUnknownWarning, unknownWarning, beq_self_eq_true, Bool.true_and, List.append_assoc]
      exact List.isPrefixOf_iff_prefix.mpr (List.prefix_append _ _))
  have z5 : (mismatchSection i).filter isUnknownWarning = [] :=
    List.filter_eq_nil_iff.mpr (fun r hr => by
      obtain ⟨_, _, t, ht⟩ := level_mismatchSection i r hr
      simp [isUnknownWarning, ht, msgRefUnknown, List.isPrefixOf])
  rw [z2, z3, z4, z5]
  simp [unknownSection]

/-- References to the five XML built-ins are never reported as unknown (whatever the reference says). -/
theorem builtins_never_warned (i : Inp) : ∀ n ∈ XmlContent.predefined, n ∉ missingOf i := by
  intro n hn hm
  have := (mem_missingOf.mp hm).2.1
  apply this
  simp only [XmlContent.predefined, List.mem_cons, List.not_mem_nil, or_false] at hn
  rcases hn with rfl | rfl | rfl | rfl | rfl <;> decide

/-- The error position arithmetic is total (after the upstream fix: an empty value has no lines):
    a SAXParseException can always be turned into a result. -/
theorem error_position_total (l10nVal : Text) (line col : Nat) : (errorPos l10nVal line col).isSome = true :=
  errorPos_isSome l10nVal line col

/-- Unless the check raises (UnicodeEncodeError on lone surrogates), expat's verdict on the two
    documents of the localized value decides the xmlparse errors: a parse error of either document
    (first in program order) yields exactly one result ("error", (line, col), message, "xmlparse")
    with the post-processed position; no parse error, no such result — whatever else is reported. -/
theorem xml_error_is_error (xmlParse : Bytes → ParseRes) (i : Inp) (h : (check xmlParse i).exc = none) :
    (check xmlParse i).results.filter isXmlError = verdictResults i.l10n.val (l10nVerdict xmlParse i) := by
  have h3 := l10nSection_ok h
  have hx : (check xmlParse i).results.filter isXmlError
      = ((check xmlParse i).results.filter (fun r => r.cat == .xmlparse)).filter (fun r => r.level == .error) := by
    rw [List.filter_filter]; rfl
  rw [hx, check_results_cat xmlParse i h]
  simp only [List.filter_append]
  have z2 : (refSection xmlParse i).results.filter (fun r => r.level == .error) = [] :=
    List.filter_eq_nil_iff.mpr (fun r hr => by rw [refSection_results xmlParse i r hr]; decide)
  have z3 : (l10nSection xmlParse i).1.results.filter (fun r => r.level == .error) = (l10nSection xmlParse i).1.results :=
    List.filter_eq_self.mpr (fun r hr => by
      have := cat_l10nSection xmlParse i h r hr
      simp only [isXmlError, Bool.and_eq_true] at this
      exact this.1)
  have z4 : (unknownSection i).filter (fun r => r.level == .error) = [] :=
    List.filter_eq_nil_iff.mpr (fun r hr => by simp [(level_unknownSection i r hr).1])
  have z5 : (mismatchSection i).filter (fun r => r.level == .error) = [] :=
    List.filter_eq_nil_iff.mpr (fun r hr => by simp [(level_mismatchSection i r hr).1])
  rw [z2, z3, z4, z5, l10nSection_results xmlParse i h3]
  simp

/-- … and that one result has level error, category xmlparse, expat's message, and the position
    computed by `errorPos` (last line's end when expat points past the value, otherwise expat's
    column minus the template prefix on lines 0 and 1). -/
theorem xml_error_result_shape (l10nVal : Text) (e : Nat × Nat × Text) :
    ∃ p, errorPos l10nVal e.1 e.2.1 = some p ∧
      xmlErrorResult l10nVal e = [⟨.error, .lc p.1 p.2, e.2.2, .xmlparse⟩] := by
  have h := errorPos_isSome l10nVal e.1 e.2.1
  cases hp : errorPos l10nVal e.1 e.2.1 with
  | none => simp [hp] at h
  | some p => exact ⟨p, rfl, by simp [xmlErrorResult, hp]⟩

/-- Unless the check raises: the results of category "number" are one warning if the reference
    value matches `num` and the localized value does not, none otherwise; the results of category
    "css" are the length error (reference matches `length`, localization does not) followed by the
    CSS spec results. -/
theorem number_length_rules (xmlParse : Bytes → ParseRes) (i : Inp) (h : (check xmlParse i).exc = none) :
    (check xmlParse i).results.filter (fun r => r.cat == .number)
        = (if isNum i.ref.val && !isNum i.l10n.val then [⟨.warning, .num 0, msgNumber, .number⟩] else []) ∧
    (check xmlParse i).results.filter (fun r => r.cat == .css)
        = (if isLength i.ref.val && !isLength i.l10n.val then [⟨.error, .num 0, msgLength, .css⟩] else []) ++
          maybeStyle i.ref.val i.l10n.val := by
  rw [check_results_cat xmlParse i h, check_results_cat xmlParse i h]
  exact ⟨by simp [numberSection], by simp [lengthSection]⟩

/-- What "is a number" means, without the regex engine: `DTDChecker.num.match(v)` succeeds iff `v` is
    one or more digits, or optional digits, a dot and one or more digits — up to the end of the text
    or a single final newline (`$` without MULTILINE).  Proved about the generated regex
    `Gen.Pat.DTDChecker_num` run by the regex-engine model. -/
theorem num_shape (v : Text) :
    isNum v = ((decide (digitsLen v ≥ 1) && atEnd v (digitsLen v)) ||
      (v[digitsLen v]? == some 46 && decide (digitsLen (v.drop (digitsLen v + 1)) ≥ 1) &&
        atEnd v (digitsLen v + 1 + digitsLen (v.drop (digitsLen v + 1))))) :=
  isNum_eq_numShape v

/-- What "is a CSS length" means: such a number immediately followed by em, px, ch, cm or in, then the
    end of the text or a single final newline. -/
theorem length_shape (v : Text) :
    isLength v = numThen v (fun j => unitAt v j && atEnd v (j + 2)) :=
  isLength_eq_lengthShape v

/-- If the reference value contains a CSS size spec (`parse_css_spec` gives a non-empty property map):
    a localized value without any spec, or with junk / a missing semicolon between specs, yields
    exactly the error "reference is a CSS spec"; a parseable one yields exactly one warning listing
    the differences, or nothing if there are none. -/
theorem css_rules (refVal l10nVal : Text) (refMap : List (Text × Text)) (hne : refMap ≠ [])
    (href : (parseCssSpec refVal).1 = some refMap) :
    maybeStyle refVal l10nVal =
      match (parseCssSpec l10nVal).1, (parseCssSpec l10nVal).2 with
      | none, _ => [specError]
      | some [], _ => [specError]
      | some (_ :: _), some (_ :: _) => [specError]
      | some lm, _ =>
        if styleMsgs refMap lm = [] then []
        else [⟨.warning, .num 0, join commaSp (styleMsgs refMap lm), .css⟩] := by
  unfold maybeStyle
  rw [href]
  cases refMap with
  | nil => exact absurd rfl hne
  | cons a as =>
    simp only
    unfold checkStyle
    cases (parseCssSpec l10nVal).1 with
    | none => rfl
    | some lm =>
      cases lm with
      | nil => rfl
      | cons b bs =>
        cases (parseCssSpec l10nVal).2 with
        | none => simp only; split <;> simp_all
        | some er =>
          cases er with
          | nil => simp only; split <;> simp_all
          | cons e es => rfl

/-- The CSS comparison is silent iff the two property maps agree: every localized property has the
    unit the reference gives it, and every reference property occurs in the localization.
    (`parse_css_spec` maps are dicts: their keys are pairwise distinct, `parseCssSpec_nodup`.) -/
theorem css_silent_iff (l10nVal : Text) (refMap lm : List (Text × Text))
    (hl : (parseCssSpec l10nVal).1 = some lm) :
    styleMsgs refMap lm = [] ↔
      (∀ pu ∈ lm, dget refMap pu.1 = some pu.2) ∧ (∀ q ∈ refMap, q.1 ∈ lm.map Prod.fst) :=
  styleMsgs_nil_iff refMap lm (parseCssSpec_nodup l10nVal lm hl)

open XmlContent in
/-- every value generated by `ValueGrammar declared` (text, references to declared or
    predefined entities, character references to legal characters, balanced elements with
    attributes, comments, CDATA sections, processing instructions) is well-formed content. -/
theorem grammar_accepts (declared : List XmlContent.Text) (v : XmlContent.Text)
    (h : ValueGrammar declared v) : wf declared v = true :=
  grammar_wf declared h

open XmlContent in
/-- Every item boundary of a grammar value, at any nesting depth, is a content position of the
    recogniser, the open elements being exactly the enclosing ones. -/
theorem grammar_positions_are_content (declared : List XmlContent.Text) (p : XmlContent.Text)
    (stk : List XmlContent.Text) (h : ContentPrefix declared p stk) :
    run declared init p = some ⟨.content 0, stk⟩ :=
  contentPrefix_run declared h

open XmlContent in
/-- at EVERY content position — reached by any prefix `p` whatsoever, in
    particular every item boundary of a grammar value — inserting a bare `&`, a bare `<`, an
    unterminated entity or character reference, an end tag that does not match the innermost open
    element, or a mis-nested pair makes the value ill-formed, whatever follows (`s` arbitrary).

    Restricted to content positions because the same edits are harmless inside comments, CDATA sections,
    processing instructions and attribute values (witnesses below).  An unclosed start
    tag is no `BreakingEdit` (the suffix may close it): see `unclosed_at_end` and
    `unclosed_insert_rejected` (insertion into a well-formed value). -/
theorem edits_reject_partial (declared : List XmlContent.Text) (p e s : XmlContent.Text) (br : Nat)
    (stk : List XmlContent.Text) (hp : run declared init p = some ⟨.content br, stk⟩)
    (he : BreakingEdit stk e) : wf declared (p ++ e ++ s) = false :=
  edit_not_wf declared p e s br stk hp he

open XmlContent in
/-- the same at the item boundaries of grammar values (top level and nested) -/
theorem edits_reject_at_boundaries (declared : List XmlContent.Text) (p e s : XmlContent.Text)
    (stk : List XmlContent.Text) (hp : ContentPrefix declared p stk) (he : BreakingEdit stk e) :
    wf declared (p ++ e ++ s) = false :=
  edit_not_wf declared p e s 0 stk (contentPrefix_run declared hp) he

open XmlContent in
/-- a value that ends with a start tag `<n>` at a content position — one element still open — is ill-formed
    (the general fact, any end state that is not accepting, is `XmlContent.ends_inside_not_wf`) -/
theorem unclosed_at_end (declared : List XmlContent.Text) (p n : XmlContent.Text) (br : Nat)
    (stk : List XmlContent.Text) (hp : run declared init p = some ⟨.content br, stk⟩) (hn : isName n = true) :
    wf declared (p ++ (60 :: n ++ [62])) = false := by
  unfold wf; rw [run_append_of hp, run_open_bare declared stk br n hn]; rfl

open XmlContent in
/-- Inserting an unclosed start tag at a content position (no pending `]`; e.g. any grammar item
    boundary) of a WELL-FORMED value makes it ill-formed — two runs over the same text from stacks of different
    height, if both succeed, keep the difference: with one extra open element the automaton dies or ends with
    one element still open. -/
theorem unclosed_insert_rejected (declared : List XmlContent.Text) (p s n : XmlContent.Text)
    (stk : List XmlContent.Text) (hp : run declared init p = some ⟨.content 0, stk⟩)
    (hwf : wf declared (p ++ s) = true) (hn : isName n = true) :
    wf declared (p ++ (60 :: n ++ [62]) ++ s) = false := by
  have hopen : run declared init (p ++ (60 :: n ++ [62])) = some ⟨.content 0, n :: stk⟩ := by
    rw [run_append_of hp]; exact run_open_bare declared stk 0 n hn
  unfold wf at hwf ⊢
  rw [run_append_of hp] at hwf
  rw [run_append_of hopen]
  cases hr : run declared ⟨.content 0, stk⟩ s with
  | none => simp [hr] at hwf
  | some f =>
    cases hr2 : run declared ⟨.content 0, n :: stk⟩ s with
    | none => rfl
    | some f₂ =>
      -- the extra element is still open at the end
      obtain ⟨-, hl⟩ := run_height declared s _ _ _ hr hr2
      simp only [hr] at hwf
      have hstk : f.stack = [] := by
        unfold accepting at hwf
        split at hwf
        · assumption
        · cases hwf
      obtain ⟨m₂, τ₂⟩ := f₂
      cases τ₂ with
      | nil => rw [hstk] at hl; simp at hl
      | cons a as => unfold accepting; cases m₂ <;> rfl

/-- the monitored contract: expat accepts the first template document iff the value is well-formed
    content relative to the declared names -/
def ExpatContract (xmlParse : Bytes → ParseRes) : Prop :=
  ∀ (names : List Text) (v : Text) (d : Bytes), docValue (entityDecls names) v = some d →
    ((xmlParse d).err = none ↔ XmlContent.wf names v = true)

theorem xmllist_predefined (n : Text) (h : n ∈ Gen.Tables.xmllist) : XmlContent.predefined.contains n = true := by
  simp only [Gen.Tables.xmllist, List.mem_cons, List.not_mem_nil, or_false] at h
  rcases h with rfl | rfl | rfl | rfl | rfl <;> decide

/-- under the expat contract, a localized value generated by the
    grammar from the entity names the checker finds in it (and the built-ins) passes the first
    document — the checker declares all it needs.  That the `eref` scan finds every reference of a grammar value
    (hypothesis `hg` states the grammar over `erefNames`) is supplied by `wellformed_never_error` below. -/
theorem wellformed_never_error_partial (xmlParse : Bytes → ParseRes) (i : Inp) (hc : ExpatContract xmlParse)
    (hg : XmlContent.ValueGrammar (erefNames i.l10n.val) i.l10n.val)
    (d3 : Bytes) (h3 : docValue (l10nDecls i) i.l10n.val = some d3) :
    (xmlParse d3).err = none := by
  rw [l10nDecls_eq] at h3
  rw [hc (declaredNames i) i.l10n.val d3 h3]
  obtain ⟨ns, hn⟩ := C07E.ValueN.ofGrammar hg
  -- the names the checker finds are declared in the document or predefined
  refine XmlContent.grammar_wf _ (hn.overNames _ fun n _ hd => ?_)
  rcases (Bool.or_eq_true _ _).mp hd with h | h
  · rcases all_refs_declared i n (by simpa using h) with h | h
    · rw [xmllist_predefined n h, Bool.or_true]
    · rw [List.contains_iff_mem.mpr h, Bool.true_or]
  · rw [h, Bool.or_true]

section examples
open XmlContent

/-- "a&foo;<b x='1'>t</b>" is in the grammar over [foo] … -/
example : ValueGrammar [[102, 111, 111]]
    ([97] ++ ([38, 102, 111, 111, 59] ++ (60 :: [98] ++ [32, 120, 61, 39, 49, 39] ++ [] ++ [62] ++ [116] ++ [60, 47] ++ [98] ++ [] ++ [62] ++ []))) :=
  .text 97 _ (by decide) <| .ref [38, 102, 111, 111, 59] _ (.ent [102, 111, 111] (by decide) (by decide)) <|
    .elem [98] [32, 120, 61, 39, 49, 39] [] [] [116] [] [[120]] (by decide)
      (.cons [] [120] 32 [] [] [] 39 [49] [] [[120]] (by decide) (by decide) (by decide) (by decide) (by decide) (by decide)
        (Or.inr rfl) (.char 49 [] (by decide) (by decide) (by decide) (by decide) .nil) (.nil _))
      (by decide) (by decide) (.text 116 [] (by decide) .nil) .nil

/-- … and the recogniser, evaluated directly, accepts it and rejects the edits -/
example : wf [[102, 111, 111]] [97, 38, 102, 111, 111, 59, 60, 98, 32, 120, 61, 39, 49, 39, 62, 116, 60, 47, 98, 62] = true := by decide +kernel
example : wf [[102, 111, 111]] [97, 38, 32, 102, 111, 111, 59] = false := by decide                 -- "a& foo;"
example : wf [[102, 111, 111]] [97, 38, 102, 111, 111, 32] = false := by decide                      -- "a&foo "
example : wf [] [60, 98, 62, 60, 105, 62, 60, 47, 98, 62, 60, 47, 105, 62] = false := by decide      -- "<b><i></b></i>"
example : wf [] [60, 98, 62] = false := by decide                                                    -- "<b>"
example : wf [] [97, 60, 122, 62, 60, 98, 62, 60, 47, 98, 62] = false := by decide                   -- "a<z><b></b>" : unclosed <z> inserted into "a<b></b>"
example : wf [] [38, 98, 97, 114, 59] = false := by decide                                           -- "&bar;" undeclared
example : wf [[98, 97, 114]] [38, 98, 97, 114, 59] = true := by decide                               -- "&bar;" declared

/-- negation witnesses for "every position": the same insertions INSIDE a comment, a CDATA section or
    an attribute value leave the value well-formed content -/
example : wf [] [60, 33, 45, 45, 38, 32, 45, 45, 62] = true := by decide                             -- "<!--& -->"
example : wf [] [60, 33, 91, 67, 68, 65, 84, 65, 91, 60, 32, 93, 93, 62] = true := by decide         -- "<![CDATA[< ]]>"
example : wf [] [60, 98, 32, 120, 61, 39, 60, 47, 122, 62, 39, 47, 62] = false := by decide          -- "<b x='</z>'/>" : `<` in an attribute value IS rejected
example : wf [] [60, 63, 112, 32, 38, 32, 63, 62] = true := by decide                                -- "<?p & ?>"

/-- … but the second template document (the value as an entity literal) rejects `&` there: `wfValue` -/
example : wfValue [] [107] [60, 33, 45, 45, 38, 32, 45, 45, 62] = false := by decide +kernel
example : wfValue [] [107] [49, 48, 48, 37] = false := by decide                                     -- "100%"
example : wfValue [] [107] [38, 35, 51, 56, 59] = false := by decide                                 -- "&#38;" expands to a bare &
example : wfValue [] [107] [38, 35, 48, 51, 55, 59] = true := by decide                              -- "&#037;"

/-- a breaking edit instance: "& " -/
example : BreakingEdit [] [38, 32] := .bareAmp 32 (by decide) (by decide)
example : BreakingEdit [[98]] ([60, 47] ++ [122] ++ [] ++ [62]) := .strayClose [122] [] (by decide) (by decide) (by decide)

/-- the error position arithmetic on the unit tests' cases: "This is </bad> stuff" line 2 col 16 → (1, 10) -/
example : errorPos [84, 104, 105, 115] 2 16 = some (1, 10) := by decide
/-- error reported on the fake closing element after a two-line value: end of the last line -/
example : errorPos [97, 10, 98, 99] 4 3 = some (2, 2) := by decide +kernel
/-- empty value, error on a later line (the former IndexError): (0, 0) -/
example : errorPos [] 3 7 = some (0, 0) := by decide

/-- CSS comparison on concrete maps: missing property and different unit -/
example : styleMsgs [([119], [101, 109]), ([104], [112, 120])] [([119], [99, 104])]
    = [[104] ++ msgOnlyRef, msgUnitsFor ++ [119] ++ msgDontMatch ++ [99, 104] ++ msgNe ++ [101, 109] ++ [41]] := by decide +kernel
example : styleMsgs [([119], [101, 109])] [([119], [101, 109])] = [] := by decide

/-- the shapes, evaluated without any regex -/
example : numShape [49, 50] = true ∧ numShape [46, 53] = true ∧ numShape [49, 46] = false ∧ numShape [49, 50, 10] = true ∧
    numShape [49, 50, 10, 10] = false ∧ numShape [] = false := by decide +kernel
example : lengthShape [49, 46, 53, 112, 120] = true ∧ lengthShape [49, 48, 101, 120] = false ∧
    lengthShape [46, 53, 99, 104, 10] = true ∧ lengthShape [112, 120] = false := by decide +kernel

/-! regression pins: the generated regexes evaluated on the shapes the property names (a changed
    regex or table in /repo changes `Gen.*` and breaks these) -/
/-- `num` / `length` on the shapes the property names -/
example : isNum [49, 50] = true ∧ isNum [46, 53] = true ∧ isNum [49, 46] = false ∧ isNum [] = false ∧ isNum [49, 101, 109] = false := by decide  -- "12" ".5" "1." "" "1em"
example : isLength [49, 48, 101, 109] = true ∧ isLength [49, 46, 53, 112, 120] = true ∧ isLength [46, 53, 99, 104] = true ∧ isLength [51, 99, 109] = true ∧ isLength [50, 105, 110] = true ∧ isLength [49, 48, 101, 120] = false ∧ isLength [49, 48] = false := by decide  -- em px ch cm in / ex, bare number
/-- CSS specs: units of the spec regex, separator rules -/
example : maybeStyle [119, 105, 100, 116, 104, 58, 49, 101, 109] [119, 105, 100, 116, 104, 58, 49, 101, 109, 59, 59] = [specError] := by decide +kernel  -- "width:1em" vs "width:1em;;" : stray semicolon is bad content
example : maybeStyle [119, 105, 100, 116, 104, 58, 49, 101, 109] [119, 105, 100, 116, 104, 58, 50, 101, 109] = [] := by decide +kernel  -- same unit, other length: silent
example : maybeStyle [119, 105, 100, 116, 104, 58, 49, 101, 109, 59, 104, 101, 105, 103, 104, 116, 58, 50, 112, 120] [119, 105, 100, 116, 104, 58, 49, 101, 109, 32, 104, 101, 105, 103, 104, 116, 58, 50, 112, 120] = [specError] := by decide +kernel  -- missing semicolon
example : maybeStyle [119, 105, 100, 116, 104, 58, 49, 101, 109] [32, 119, 105, 100, 116, 104, 32, 58, 32, 49, 101, 109, 32, 59, 32] = [] := by decide +kernel  -- white space around tokens and a trailing semicolon are fine
example : maybeStyle [119, 105, 100, 116, 104, 58, 49, 101, 109] [106, 117, 110, 107] = [specError] := by decide +kernel  -- no spec at all
example : maybeStyle [119, 105, 100, 116, 104, 58, 49, 112, 116] [119, 105, 100, 116, 104, 58, 49, 112, 99] = [⟨.warning, .num 0, msgUnitsFor ++ [119, 105, 100, 116, 104] ++ msgDontMatch ++ [112, 99] ++ msgNe ++ [112, 116] ++ [41], .css⟩] := by decide +kernel  -- pt vs pc
example : maybeStyle [119, 105, 100, 116, 104, 58, 49, 114, 101, 109, 59, 109, 105, 110, 45, 104, 101, 105, 103, 104, 116, 58, 50, 109, 109] [109, 105, 110, 45, 104, 101, 105, 103, 104, 116, 58, 50, 109, 109, 59, 119, 105, 100, 116, 104, 58, 49, 114, 101, 109] = [] := by decide +kernel  -- order does not matter; rem and mm are units
example : maybeStyle [49, 48, 101, 109] [120] = [] := by decide +kernel  -- a plain length is not a CSS spec

example : maybeStyle [119, 105, 100, 116, 104, 58, 49, 101, 109, 59, 104, 101, 105, 103, 104, 116, 58, 50, 112, 120] [119, 105, 100, 116, 104, 58, 49, 101, 109, 104, 101, 105, 103, 104, 116, 58, 50, 112, 120] = [specError] := by decide +kernel  -- touching declarations "width:1emheight:2px" (upstream fix 6de2763)
example : maybeStyle [119, 105, 100, 116, 104, 58, 49, 101, 109] [119, 105, 100, 116, 104, 58, 49, 101, 109, 32] = [] := by decide +kernel  -- "width:1em " : trailing white space after the last declaration is fine (upstream fix 7c75698)
example : maybeStyle [119, 105, 100, 116, 104, 58, 49, 101, 109, 59, 104, 101, 105, 103, 104, 116, 58, 50, 112, 120] [119, 105, 100, 116, 104, 58, 49, 101, 109, 59, 104, 101, 105, 103, 104, 116, 58, 50, 112, 120, 9, 10] = [] := by decide +kernel  -- "width:1em;height:2px\t\n"
example : maybeStyle [119, 105, 100, 116, 104, 58, 49, 101, 109] [119, 105, 100, 116, 104, 58, 49, 101, 109, 32, 120] = [specError] := by decide +kernel  -- "width:1em x" : trailing junk is still bad content

/-- `all_refs_declared` is not vacuous: the model finds the reference of "a&foo;b" -/
example : erefNames [97, 38, 102, 111, 111, 59, 98] = [[102, 111, 111]] := by decide +kernel

end examples

/-! ## the `eref` regex scan and the grammar

The link that `wellformed_never_error_partial` assumes — "the `eref` scan (`finditer` of the generated
`&(Name);`) finds every entity reference of a grammar value" — is proved here about the regex-engine model
run on the generated regex. -/

/-- The generated `eref` regex is `&(NameStartChar NameChar*);` and its two character classes, evaluated item by
    item (`ClsItem.has`), are the XML 1.0 (5th edition) classes of the specification restricted to the Basic
    Multilingual Plane: `DTDParser.NameStartChar` leaves out U+10000–U+EFFFF. -/
theorem eref_name_classes :
    Gen.Pat.DTDChecker_eref = .seq (.lit 38) (.seq (.group 1 (.seq (.cls false C07E.nsCls)
      (.rep 0 none true (.cls false C07E.ncCls)))) (.lit 59)) ∧
    (∀ c, Rx.inC false C07E.nsCls c = (XmlContent.isNameStart c && decide (c < 65536))) ∧
    (∀ c, Rx.inC false C07E.ncCls c = (XmlContent.isNameChar c && decide (c < 65536))) :=
  ⟨C07E.eref_shape, C07E.inC_ns, C07E.inC_nc⟩

/-- What `{m.group(1) for m in eref.finditer(v)}` is, for EVERY text `v`, without the regex engine: the output of a
    one-pass scanner (`C07E.plainRefs`: after `&`, a name start and name characters, emitted at `;`), in order. -/
theorem erefNames_regex_free (v : Text) : erefNames v = C07E.plainRefs v :=
  C07E.erefNames_eq_plainRefs v

/-- … and as a set, without any scanning: the checker finds the name `n` in `v` iff `n` is an XML Name whose
    characters are in the BMP and the text `&n;` stands somewhere in `v`. -/
theorem erefNames_iff_occurs (v n : Text) :
    n ∈ erefNames v ↔
      (XmlContent.isName n = true ∧ ∀ c ∈ n, c < 65536) ∧ ∃ a b, v = a ++ (38 :: n ++ [59]) ++ b := by
  rw [C07E.mem_erefNames_iff, C07E.isBmpName_iff]

/-- `C07E.ValueN d v ns` is `ValueGrammar d v` together with the list `ns` of the names of the `&name;` items of
    the derivation (element content and attribute values, in order; comment / CDATA / PI bodies contribute the
    `&name;` texts they contain): every grammar value has such a list, and forgetting it gives the grammar back. -/
theorem grammar_names (d : List XmlContent.Text) (v : XmlContent.Text) :
    XmlContent.ValueGrammar d v ↔ ∃ ns, C07E.ValueN d v ns :=
  ⟨C07E.ValueN.ofGrammar, fun ⟨_, h⟩ => h.toGrammar⟩

/-- on a value of the grammar, the checker's `eref` scan returns exactly the names of the
    reference items of the value, in order — provided these names are in the BMP (forced: see the witness below). -/
theorem erefNames_of_grammar (d : List XmlContent.Text) (v : XmlContent.Text) (ns : List XmlContent.Text)
    (h : C07E.ValueN d v ns) (hb : ∀ n ∈ ns, ∀ c ∈ n, c < 65536) : erefNames v = ns :=
  C07E.erefNames_of_valueN h hb

/-- under the expat contract, EVERY value of the grammar — over whatever declared names `d` — whose characters are in
    the BMP passes the FIRST template document: the checker's regex finds all its references and declares them.
    The second document (entity literal rules, stray `%`) is the section "the second template document" below
    (`second_document_iff`, `no_xml_error_iff_wfValue`).  expat stays a hypothesis (`ExpatContract`): it is external. -/
theorem wellformed_never_error (xmlParse : Bytes → ParseRes) (i : Inp) (hc : ExpatContract xmlParse)
    (d : List XmlContent.Text) (hg : XmlContent.ValueGrammar d i.l10n.val) (hb : ∀ c ∈ i.l10n.val, c < 65536)
    (d3 : Bytes) (h3 : docValue (l10nDecls i) i.l10n.val = some d3) :
    (xmlParse d3).err = none :=
  wellformed_never_error_partial xmlParse i hc (C07E.grammar_over_erefNames hg hb) d3 h3

/-- if the localized value contains `&n;` (n a Name in the BMP, not one of the five
    built-ins) and no reference string contains `&n;`, then — unless the check raises — the warning
    "Referencing unknown entity `n`" is among the results. -/
theorem unknown_ref_complete (xmlParse : Bytes → ParseRes) (i : Inp) (h : (check xmlParse i).exc = none)
    (n a b : Text) (hn : XmlContent.isName n = true) (hb : ∀ c ∈ n, c < 65536)
    (hocc : i.l10n.val = a ++ (38 :: n ++ [59]) ++ b) (hp : n ∉ XmlContent.predefined)
    (hr : ∀ rv ∈ refValsOf i, ¬ ∃ a' b', rv = a' ++ (38 :: n ++ [59]) ++ b') :
    unknownWarning (reflistOf i) (inContextOf i) n ∈ (check xmlParse i).results ∧
      (unknownWarning (reflistOf i) (inContextOf i) n).msg
        = msgRefUnknown ++ n ++ [96] ++ warnSuffix (reflistOf i) (inContextOf i) := by
  have hx : n ∉ Gen.Tables.xmllist := fun hm => hp (by simpa using xmllist_predefined n hm)
  have hm : n ∈ missingOf i := by
    rw [missing_iff]
    refine ⟨C07E.mem_erefNames_of_occurs _ a b n hn hb hocc, hx, ?_⟩
    rintro ⟨rv, hrv, hin, _⟩
    exact hr rv hrv ((C07E.mem_erefNames_iff rv n).mp hin).2
  obtain ⟨hw, _, hmsg⟩ := unknown_ref_warned xmlParse i h
  refine ⟨?_, hmsg n⟩
  have : unknownWarning (reflistOf i) (inContextOf i) n ∈ (check xmlParse i).results.filter isUnknownWarning := by
    rw [hw]; exact List.mem_map_of_mem hm
  exact (List.mem_filter.mp this).1

/-- the same for the reference items of a grammar value: every `&n;` item of a value of the grammar (BMP) whose
    name is not built in and is used by no reference string is warned about -/
theorem unknown_ref_complete_grammar (xmlParse : Bytes → ParseRes) (i : Inp) (h : (check xmlParse i).exc = none)
    (d ns : List XmlContent.Text) (hg : C07E.ValueN d i.l10n.val ns) (hb : ∀ c ∈ i.l10n.val, c < 65536)
    (n : Text) (hn : n ∈ ns) (hp : n ∉ XmlContent.predefined)
    (hr : ∀ rv ∈ refValsOf i, n ∉ erefNames rv) :
    unknownWarning (reflistOf i) (inContextOf i) n ∈ (check xmlParse i).results := by
  have hx : n ∉ Gen.Tables.xmllist := fun hm => hp (by simpa using xmllist_predefined n hm)
  have hm : n ∈ missingOf i := by
    rw [missing_iff]
    refine ⟨?_, hx, ?_⟩
    · rw [C07E.erefNames_of_valueN hg (hg.chars (fun c => c < 65536) hb)]; exact hn
    · rintro ⟨rv, hrv, hin, _⟩; exact hr rv hrv hin
  obtain ⟨hw, _, _⟩ := unknown_ref_warned xmlParse i h
  have : unknownWarning (reflistOf i) (inContextOf i) n ∈ (check xmlParse i).results.filter isUnknownWarning := by
    rw [hw]; exact List.mem_map_of_mem hm
  exact (List.mem_filter.mp this).1

section examplesE
open XmlContent

/-- non-vacuity: "a&foo;<b x='&bar;'>&#38;</b>" with its names [foo, bar] … -/
example : C07E.ValueN [[102, 111, 111], [98, 97, 114]]
    (97 :: ((38 :: [102, 111, 111] ++ [59]) ++ (60 :: [98] ++ (32 :: [] ++ [120] ++ [] ++ [61] ++ [] ++ [39] ++ ((38 :: [98, 97, 114] ++ [59]) ++ []) ++ [39] ++ []) ++ [] ++ [62] ++ ((38 :: 35 :: 51 :: [56] ++ [59]) ++ []) ++ [60, 47] ++ [98] ++ [] ++ [62] ++ [])))
    ([[102, 111, 111]] ++ (([[98, 97, 114]] ++ []) ++ [] ++ ([] ++ []) ++ [])) :=
  .text 97 _ _ (by decide) <|
    .ref (38 :: [102, 111, 111] ++ [59]) _ [[102, 111, 111]] _
      (@C07E.RefN.ent [[102, 111, 111], [98, 97, 114]] [102, 111, 111] (by decide) (by decide)) <|
    .elem [98] (32 :: [] ++ [120] ++ [] ++ [61] ++ [] ++ [39] ++ ((38 :: [98, 97, 114] ++ [59]) ++ []) ++ [39] ++ [])
      [] [] ((38 :: 35 :: 51 :: [56] ++ [59]) ++ []) [] [[120]] ([[98, 97, 114]] ++ []) ([] ++ []) [] (by decide)
      (.cons [] [120] 32 [] [] [] 39 ((38 :: [98, 97, 114] ++ [59]) ++ []) [] [[120]] ([[98, 97, 114]] ++ []) []
        (by decide) (by decide) (by decide) (by decide) (by decide) (by decide) (Or.inr rfl)
        (.ref (38 :: [98, 97, 114] ++ [59]) [] [[98, 97, 114]] []
          (@C07E.RefN.ent [[102, 111, 111], [98, 97, 114]] [98, 97, 114] (by decide) (by decide)) .nil) (.nil _))
      (by decide) (by decide)
      (.ref (38 :: 35 :: 51 :: [56] ++ [59]) [] [] [] (.dec 51 [56] (by decide) (by decide) (by decide)) .nil) .nil

/-- … and the regex-engine model, evaluated directly, finds exactly these -/
example : erefNames [97, 38, 102, 111, 111, 59, 60, 98, 32, 120, 61, 39, 38, 98, 97, 114, 59, 39, 62, 38, 35, 51, 56, 59, 60, 47, 98, 62]
    = [[102, 111, 111], [98, 97, 114]] := by decide +kernel

/-- why comment / CDATA / PI bodies contribute to the list: the regex cannot tell `<!--&x;-->` from a reference -/
example : erefNames [60, 33, 45, 45, 38, 120, 59, 45, 45, 62] = [[120]] := by decide +kernel
example : C07E.plainRefs [38, 120, 59] = [[120]] := by decide

/-- negation witness for the BMP hypothesis: `&\U00010000;` is a reference of the grammar (5th edition Name),
    the regex does not find it, so the value is NOT in the grammar over the names the checker finds: the checker
    would not declare the entity.  (Such a key cannot be written in a DTD file compare-locales parses either:
    `DTDParser` uses the same Name class; expat implements the 4th edition.) -/
example : ValueGrammar [[65536]] ((38 :: [65536] ++ [59]) ++ []) :=
  .ref _ [] (.ent [65536] (by decide) (by decide)) .nil
example : erefNames [38, 65536, 59] = [] := by decide +kernel
example : ¬ ValueGrammar (erefNames [38, 65536, 59]) [38, 65536, 59] := by
  intro h
  have := grammar_wf _ h
  revert this
  decide

/-- `unknown_ref_complete` is not vacuous: reference "x", localization "&foo;" -/
example : unknownWarning [] [] [102, 111, 111] ∈
    (check (fun _ => ⟨none, []⟩) ⟨false, none, ⟨[107], [], [120]⟩, ⟨[107], [], [38, 102, 111, 111, 59]⟩⟩).results := by
  decide +kernel

end examplesE

/-! ## `parse_css_spec` and an independent grammar of CSS size specs

`css_rules` speaks about `parseCssSpec` = the generated regexes run by the engine model.  Here its verdicts are related
to the grammar `C08C.CssSpec` (see Props/C08.lean for its description; the same theorems hold for the Fluent-side
model by `C08.css_models_agree`). -/

/-- every grammatical spec is parsed without errors into exactly the map of its declarations
    (`ref_map[prop] = unit` in their order, Python dict semantics). -/
theorem css_grammar_accepts (ds : List C08C.Decl) (v : Text) (h : C08C.CssSpec ds v) :
    (parseCssSpec v).2 = none ∧ (parseCssSpec v).1 = some (C08C.declMap ds) := by
  rw [C08C.css_grammar_accepts_dtd ds v h]
  exact ⟨rfl, rfl⟩

/-- … so, against a reference with a CSS spec, a grammatical localized value never yields the error
    "reference is a CSS spec": the outcome is one warning listing the differences of the two maps, or nothing. -/
theorem css_grammar_never_error (refVal l10nVal : Text) (refMap : List (Text × Text)) (hne : refMap ≠ [])
    (href : (parseCssSpec refVal).1 = some refMap) (ds : List C08C.Decl) (h : C08C.CssSpec ds l10nVal) :
    maybeStyle refVal l10nVal =
      if styleMsgs refMap (C08C.declMap ds) = [] then []
      else [⟨.warning, .num 0, join commaSp (styleMsgs refMap (C08C.declMap ds)), .css⟩] := by
  rw [css_rules refVal l10nVal refMap hne href, C08C.css_grammar_accepts_dtd ds l10nVal h]
  have hnn := C08C.declMap_ne_nil (C08C.cssSpec_ne_nil h)
  cases hm : C08C.declMap ds with
  | nil => exact absurd hm hnn
  | cons x xs => rfl

/-- two grammatical specs: silent iff every localized declaration has the unit the reference gives its property and
    every reference property occurs in the localization (for the final value per property: dict semantics) -/
theorem css_grammar_silent_iff (refVal l10nVal : Text) (dr dl : List C08C.Decl) (hr : C08C.CssSpec dr refVal)
    (hl : C08C.CssSpec dl l10nVal) :
    maybeStyle refVal l10nVal = [] ↔
      (∀ pu ∈ C08C.declMap dl, dget (C08C.declMap dr) pu.1 = some pu.2) ∧
      (∀ q ∈ C08C.declMap dr, q.1 ∈ (C08C.declMap dl).map Prod.fst) := by
  have hne := C08C.declMap_ne_nil (C08C.cssSpec_ne_nil hr)
  rw [css_grammar_never_error refVal l10nVal _ hne (css_grammar_accepts dr refVal hr).2 dl hl,
    ← css_silent_iff l10nVal _ _ (css_grammar_accepts dl l10nVal hl).2]
  split <;> simp_all

/-- on a spec with defects (`C08C.SpecE`) the map of all declarations and exactly one error per
    defective gap, in order -/
theorem css_spec_errors (ds : List C08C.Decl) (v : Text) (errs : List CssErr) (h : C08C.SpecE true 0 ds v errs) :
    parseCssSpec v = (some (C08C.declMap ds), C08C.optOf errs) :=
  C08C.css_spec_errors ds v errs h

/-- … so a defective localized spec (missing semicolon between declarations, declarations that touch, junk before,
    between or after) yields exactly the error "reference is a CSS spec" -/
theorem css_defect_is_error (refVal l10nVal : Text) (refMap : List (Text × Text)) (hne : refMap ≠ [])
    (href : (parseCssSpec refVal).1 = some refMap) (ds : List C08C.Decl) (errs : List CssErr)
    (h : C08C.SpecE true 0 ds l10nVal errs) (he : errs ≠ []) :
    maybeStyle refVal l10nVal = [specError] := by
  rw [css_rules refVal l10nVal refMap hne href, C08C.css_spec_errors ds l10nVal errs h]
  have hds : ds ≠ [] := by cases h <;> simp
  have hnn := C08C.declMap_ne_nil hds
  cases hm : C08C.declMap ds with
  | nil => exact absurd hm hnn
  | cons x xs =>
    cases errs with
    | nil => exact absurd rfl he
    | cons e es => rfl

/-- the three breaking edits of the harness, as instances -/
theorem css_missing_semicolon (ds1 ds2 : List C08C.Decl) (lead t1 ws t2 trail : Text) (hl : C08C.IsEdge lead)
    (h1 : C08C.DeclsText ds1 t1) (hws : ws.all C08C.isWs = true) (h2 : C08C.DeclsText ds2 t2) (htr : C08C.IsEdge trail) :
    parseCssSpec (lead ++ (t1 ++ (ws ++ (t2 ++ trail)))) =
      (some (C08C.declMap (ds1 ++ ds2)), some [⟨lead.length + t1.length, .missingSemicolon⟩]) :=
  C08C.css_missing_semicolon ds1 ds2 lead t1 ws t2 trail hl h1 hws h2 htr

theorem css_junk_after (ds : List C08C.Decl) (lead t junk : Text) (hl : C08C.IsEdge lead) (h : C08C.DeclsText ds t)
    (hj : C08C.IsJunk junk) :
    parseCssSpec (lead ++ (t ++ junk)) = (some (C08C.declMap ds), some [⟨lead.length + t.length, .badContent⟩]) :=
  C08C.css_junk_after ds lead t junk hl h hj

theorem css_junk_before (ds : List C08C.Decl) (junk t trail : Text) (hj : C08C.IsJunk junk) (h : C08C.DeclsText ds t)
    (htr : C08C.IsEdge trail) :
    parseCssSpec (junk ++ (t ++ trail)) = (some (C08C.declMap ds), some [⟨0, .badContent⟩]) :=
  C08C.css_junk_before ds junk t trail hj h htr

section examplesC
open C08C

private def tx (s : String) : List Nat := s.toList.map Char.toNat
private def d1 : Decl := ⟨tx "width", [], [], tx "1", tx "em"⟩
private theorem d1ok : d1.Ok := ⟨by decide, by decide, by decide, .int (tx "1") (by decide) (by decide), by decide⟩

/-- non-vacuity: "width:1em \n" is in the grammar; the regex code, evaluated, agrees -/
example : CssSpec [d1] ([] ++ (d1.text ++ tx " \n")) := .mk [] _ (tx " \n") _ (Or.inl (by decide)) (.one d1 d1ok) (Or.inl (by decide))
example : parseCssSpec (tx "width:1em \n") = (some [(tx "width", tx "em")], none) := by
  simp only [tx]; rw [toNats_ofList, toNats_ofList, toNats_ofList]; decide +kernel
/-- a defect instance: "width:1em x" is `d1` followed by the junk " x" -/
example : IsJunk (tx " x") := ⟨by decide, ⟨120, by decide, by decide, by decide⟩⟩
example : parseCssSpec (tx "width:1em x") = (some [(tx "width", tx "em")], some [⟨9, CssCode.badContent⟩]) := by
  simp only [tx]; rw [toNats_ofList, toNats_ofList, toNats_ofList]; decide +kernel

end examplesC
/-! ## the checker INSTANCE (one `DTDChecker` per file, `check` per entity)

`DtdState.step` is `DTDChecker.check` with the state of the object threaded through (`self.reference`, the memo
`self.__known_entities`, `self.processContent`, the shared `texthandler.textcontent`, the lazily compiled CSS
regexes).  `C07S.Inv` is what `__init__` + at most one `set_reference` before the first `check` establish. -/

section instance_
open DtdState

/-- the state in which `ContentComparer.compare` / `L10nLinter.lint_file` start checking: `getChecker`, then
    `set_reference` iff the checker `needs_reference`; `t0` = whatever the shared text handler holds -/
def startState (android : Bool) (t0 : Text) : Option (List Text) → State
  | some vals => setReference (init android t0) vals
  | none => init android t0

theorem startState_inv (android : Bool) (t0 : Text) (reference : Option (List Text)) :
    C07S.Inv (startState android t0 reference) := by
  cases reference with
  | none => exact C07S.inv_init android t0
  | some vals => exact C07S.inv_setReference _ vals (C07S.inv_init android t0) rfl

/-- in every state reachable by the real callers the verdict of `check` is the stateless
    `Dtd.check` of (extra tests, reference, the two entities) — the state only memoises — and the state stays reachable. -/
theorem checker_step_is_stateless (xmlParse : Bytes → ParseRes) (st : State) (ref l10n : Ent) (h : C07S.Inv st) :
    (step xmlParse st ref l10n).2 = check xmlParse (inpOf st ref l10n) ∧ C07S.Inv (step xmlParse st ref l10n).1 ∧
      (step xmlParse st ref l10n).1.extraAndroid = st.extraAndroid ∧
      (step xmlParse st ref l10n).1.reference = st.reference :=
  ⟨C07S.step_verdict xmlParse st ref l10n h, C07S.inv_step xmlParse st ref l10n h, C07S.step_frame xmlParse st ref l10n⟩

/-- ONE checker over any list of (reference entity, localized entity) pairs — repeated
    keys, textually equal reference values, the same pair again — yields for every pair exactly the verdict a fresh
    checker gives for that pair alone; whatever the shared text buffer held before. -/
theorem checker_sequence_is_pointwise (xmlParse : Bytes → ParseRes) (android : Bool) (t0 : Text)
    (reference : Option (List Text)) (pairs : List (Ent × Ent)) :
    (runSeq xmlParse (startState android t0 reference) pairs).map (·.2)
      = pairs.map (fun p => check xmlParse ⟨android, reference, p.1, p.2⟩) := by
  rw [C07S.runSeq_snd xmlParse pairs _ (startState_inv android t0 reference)]
  apply List.map_congr_left
  intro p _
  cases reference <;> rfl

/-- the verdict for a pair does not depend on what the same checker checked before -/
theorem checker_history_independent (xmlParse : Bytes → ParseRes) (android : Bool) (t0 t0' : Text)
    (reference : Option (List Text)) (before before' : List (Ent × Ent)) (p : Ent × Ent) :
    ((runSeq xmlParse (startState android t0 reference) (before ++ [p])).map (·.2)).getLast?
      = ((runSeq xmlParse (startState android t0' reference) (before' ++ [p])).map (·.2)).getLast? := by
  rw [checker_sequence_is_pointwise, checker_sequence_is_pointwise]
  simp

/-- the memo is real state: after the first `check` with a reference set, `__known_entities` holds the union of
    the names the reference values use, and later calls read it -/
theorem checker_memo_filled (xmlParse : Bytes → ParseRes) (android : Bool) (t0 : Text) (vals : List Text)
    (ref l10n : Ent) :
    (step xmlParse (startState android t0 (some vals)) ref l10n).1.known = some (C07S.knownOf vals) :=
  C07S.step_fills_memo xmlParse _ ref l10n vals rfl rfl

section examplesS
private def okParse : Bytes → ParseRes := fun _ => ⟨none, []⟩
private def tx' (s : String) : List Nat := s.toList.map Char.toNat
private def ent (k v : String) : Ent := ⟨tx' k, tx' ("<!ENTITY " ++ k ++ " \"" ++ v ++ "\">"), tx' v⟩

/-- non-vacuity: two entities with the SAME reference CSS spec through one checker; the second (junk) is an error
    exactly as for a fresh checker -/
example : ((runSeq okParse (startState false [] (some [tx' "width: 4em; height: 3em;", tx' "width: 4em; height: 3em;"]))
      [(ent "a" "width: 4em; height: 3em;", ent "a" "width: 5em; height: 2em;"),
       (ent "b" "width: 4em; height: 3em;", ent "b" "junk")]).map (fun so => so.2.results))
    = [[], [specError]] := by
  simp only [ent, tx', String.toList_append, List.map_append]; repeat rw [toNats_ofList]
  decide +kernel

/-- negation witness for `Inv.memo` (forced): `set_reference` AGAIN after a check leaves the memo of the OLD
    reference in place — the object then answers from stale state and differs from the stateless verdict.
    (The real callers never do this; the harness probes nothing there.) -/
example :
    let st1 := (step okParse (startState false [] (some [tx' "&foo;"])) (ent "k" "x") (ent "k" "y")).1
    let st2 := setReference st1 [tx' "no refs"]
    (step okParse st2 (ent "k" "x") (ent "k" "&foo;")).2.results = [] ∧
    (check okParse (inpOf st2 (ent "k" "x") (ent "k" "&foo;"))).results
      = [unknownWarning [] [] (tx' "foo")] := by
  simp only [ent, tx', String.toList_append, List.map_append]; repeat rw [toNats_ofList]
  decide +kernel

/-- negation witness for `Inv.pc` (forced): an object whose `processContent` disagrees with its extra tests reads a
    stale text buffer in the android section -/
example :
    let st : State := ⟨true, false, none, none, [39], false⟩
    (step okParse st (ent "k" "x") (ent "k" "y")).2.results ≠ (check okParse (inpOf st (ent "k" "x") (ent "k" "y"))).results := by
  simp only [ent, tx', String.toList_append, List.map_append]; repeat rw [toNats_ofList]
  decide +kernel

end examplesS
end instance_

/-! ## the second template document (`<!ENTITY key q value q>` + `&key;`)

`XmlContent.wfValue declared key v` = `wf declared v` and the value is an entity LITERAL whose replacement text is
well-formed content.  `C07L.Lit v rt` is the grammar of entity literals (XML 1.0 `EntityValue` inside the internal
subset: no `%`, every `&` begins a complete reference, character references are expanded, entity references are
bypassed) with the replacement text `rt`. -/

section second_document
open XmlContent

/-- the scanner `litExpand` (with the fuel `wfValue` gives it) decides the grammar `Lit` and computes
    the replacement text -/
theorem literal_grammar (v rt : XmlContent.Text) : litExpand (v.length + 1) v = some rt ↔ C07L.Lit v rt :=
  C07L.litExpand_iff v rt

/-- what the two documents of a value demand together -/
theorem second_document_iff (declared : List XmlContent.Text) (key v : XmlContent.Text) :
    wfValue declared key v = true ↔
      wf declared v = true ∧ ∃ rt, C07L.Lit v rt ∧ wf (declared.filter (fun d => !(d == key))) rt = true :=
  C07L.wfValue_iff declared key v

/-- a `%` ANYWHERE in the value — in text, inside a comment, a CDATA section, a processing
    instruction, an attribute value, as `%foo;` — makes the value unacceptable for the second document
    (`&#037;` is the only way to write it) -/
theorem percent_rejected (declared : List XmlContent.Text) (key a b : XmlContent.Text) :
    wfValue declared key (a ++ 37 :: b) = false :=
  C07L.wfValue_false_of_not_lit declared key _ (fun ⟨_, hl⟩ => C07L.lit_no_percent hl (by simp))

/-- an `&` ANYWHERE in the value that is not the beginning of a complete reference
    (`&name;`, `&#digits;`, `&#xhex;` with a legal character number) is rejected by the second document — also where
    the first document does not mind it (comment, CDATA section, processing instruction: witnesses below) -/
theorem amp_must_begin_reference (declared : List XmlContent.Text) (key a b : XmlContent.Text) (h : ¬ C07L.RefStart b) :
    wfValue declared key (a ++ 38 :: b) = false :=
  C07L.wfValue_false_of_not_lit declared key _ (fun ⟨_, hl⟩ => h (C07L.lit_amp_is_reference hl a b rfl))

/-- … in particular `&` at the end, or followed by anything but `#` or a name start character -/
theorem bare_amp_rejected_anywhere (declared : List XmlContent.Text) (key a b : XmlContent.Text)
    (h : b = [] ∨ ∃ c t, b = c :: t ∧ c ≠ 35 ∧ isNameStart c = false) :
    wfValue declared key (a ++ 38 :: b) = false := by
  apply amp_must_begin_reference
  rcases h with rfl | ⟨c, t, rfl, h1, h2⟩
  · exact C07L.not_refStart_nil
  · exact C07L.not_refStart_head c t h1 h2

/-- the second document is `tmpl % (all + entities, "&key;")` byte for byte -/
theorem second_document_bytes (entities : Dtd.Text) (e : Ent) (d : Bytes) (h : docDecl entities e = some d) :
    ∃ a dcl k, utf8 e.all = some a ∧ utf8 entities = some dcl ∧ utf8 e.key = some k ∧
      d = Gen.Tables.dtdTmplPre ++ (a ++ dcl) ++ Gen.Tables.dtdTmplMid ++ (38 :: k ++ [59]) ++ Gen.Tables.dtdTmplPost :=
  C07L.docDecl_bytes entities e d h

/-- if the entity's source text (`l10nEnt.all`) is `<!ENTITY` S key S q value q S? `>`
    — q the quotation mark OR the apostrophe — then the declaration standing in the second document is that text
    with the SAME delimiter q around the UTF-8 bytes of the value: the checker never re-quotes the value. -/
theorem second_document_keeps_delimiter (entities : Dtd.Text) (e : Ent) (ws1 ws2 ws3 : Dtd.Text) (q : Nat)
    (hq : q = 34 ∨ q = 39) (h1 : ∀ c ∈ ws1, c < 128) (h2 : ∀ c ∈ ws2, c < 128) (h3 : ∀ c ∈ ws3, c < 128)
    (hall : e.all = C07L.declText ws1 e.key ws2 q e.val ws3) (d : Bytes) (h : docDecl entities e = some d) :
    ∃ k v dcl, utf8 e.key = some k ∧ utf8 e.val = some v ∧ utf8 entities = some dcl ∧
      d = Gen.Tables.dtdTmplPre ++ (C07L.declText ws1 k ws2 q v ws3 ++ dcl) ++ Gen.Tables.dtdTmplMid ++
        (38 :: k ++ [59]) ++ Gen.Tables.dtdTmplPost := by
  open C07L in
  obtain ⟨a, dcl, k, ha, hd, hk, rfl⟩ := docDecl_bytes entities e d h
  have hq' : q < 128 := by rcases hq with rfl | rfl <;> decide
  rw [hall] at ha
  unfold declText at ha
  have hkw : utf8 kwEntity = some kwEntity := utf8_ascii _ (by decide)
  cases hv : utf8 e.val with
  | none =>
    exfalso
    simp only [utf8_append, hkw, utf8_ascii _ h1, hk, utf8_ascii _ h2] at ha
    have : utf8 (q :: (e.val ++ q :: (ws3 ++ [62]))) = none := by
      simp only [utf8, utf8_append, hv]
      cases utf8Char q <;> rfl
    rw [this] at ha
    cases ha
  | some v =>
    refine ⟨k, v, dcl, hk, rfl, hd, ?_⟩
    have h62 : utf8 (ws3 ++ [62]) = some (ws3 ++ [62]) :=
      utf8_ascii _ (by intro c hc; simp at hc; rcases hc with hc | rfl; exact h3 c hc; decide)
    have hqv : utf8 (q :: (e.val ++ q :: (ws3 ++ [62]))) = some (q :: (v ++ q :: (ws3 ++ [62]))) := by
      have e1 : utf8 (q :: (ws3 ++ [62])) = some (q :: (ws3 ++ [62])) := by
        simp only [utf8, utf8Char, hq', if_true, h62]; rfl
      have e2 := utf8_append_some hv e1
      simp only [utf8, utf8Char, hq', if_true, e2]; rfl
    have := utf8_append_some hkw (utf8_append_some (utf8_ascii _ h1) (utf8_append_some hk (utf8_append_some (utf8_ascii _ h2) hqv)))
    rw [this] at ha
    simp only [Option.some.injEq] at ha
    rw [← ha]
    rfl

/-- the monitored contract for the second document (expat is external): given that the first document of the
    localized value was accepted, expat accepts the second one iff the value is an acceptable entity literal -/
def ExpatContract2 (xmlParse : Bytes → ParseRes) (i : Inp) : Prop :=
  ∀ d4, docDecl (l10nDecls i) i.l10n = some d4 → wf (declaredNames i) i.l10n.val = true →
    ((xmlParse d4).err = none ↔ wfValue (declaredNames i) i.l10n.key i.l10n.val = true)

/-- under the two monitored expat contracts and unless the check raises, the check reports
    NO xmlparse error iff the value passes `wfValue` relative to the names the template declares — the first sentence
    of the property with both documents, expat being the only hypothesis. -/
theorem no_xml_error_iff_wfValue (xmlParse : Bytes → ParseRes) (i : Inp) (h : (check xmlParse i).exc = none)
    (hc : ExpatContract xmlParse) (hc2 : ExpatContract2 xmlParse i) :
    (check xmlParse i).results.filter isXmlError = [] ↔
      wfValue (declaredNames i) i.l10n.key i.l10n.val = true := by
  rw [xml_error_is_error xmlParse i h]
  have h3 := l10nSection_ok h
  have hnil : ∀ o, verdictResults i.l10n.val o = [] ↔ o = none := by
    intro o
    cases o with
    | none => simp [verdictResults]
    | some e =>
      simp only [verdictResults, reduceCtorEq, iff_false]
      intro hn
      have := (xmlError_eq i.l10n.val e).2
      rw [hn] at this
      cases this
  rw [hnil]
  have hwf1 : wfValue (declaredNames i) i.l10n.key i.l10n.val = true → wf (declaredNames i) i.l10n.val = true := by
    intro hw; unfold wfValue at hw; simp only [Bool.and_eq_true] at hw; exact hw.1
  unfold l10nSection at h3
  unfold l10nVerdict
  cases hd3 : docValue (l10nDecls i) i.l10n.val with
  | none => simp [hd3] at h3
  | some d3 =>
    simp only [hd3] at h3 ⊢
    have hc3 := hc (declaredNames i) i.l10n.val d3 (by rw [← l10nDecls_eq]; exact hd3)
    cases he3 : (xmlParse d3).err with
    | some e =>
      simp only [reduceCtorEq, false_iff]
      intro hw
      have := hc3.mpr (hwf1 hw)
      rw [he3] at this; cases this
    | none =>
      simp only [he3] at h3 ⊢
      have hwf := hc3.mp he3
      cases hd4 : docDecl (l10nDecls i) i.l10n with
      | none => simp [hd4] at h3
      | some d4 => exact hc2 d4 hd4 hwf

/-- under the contracts, a localized value containing `%` is reported as an xmlparse error
    (exactly one result, by `xml_error_is_error`) — "a stray percent reference in its declaration is always reported" -/
theorem percent_is_error (xmlParse : Bytes → ParseRes) (i : Inp) (h : (check xmlParse i).exc = none)
    (hc : ExpatContract xmlParse) (hc2 : ExpatContract2 xmlParse i) (a b : Dtd.Text) (hv : i.l10n.val = a ++ 37 :: b) :
    (check xmlParse i).results.filter isXmlError ≠ [] := by
  intro hn
  have := (no_xml_error_iff_wfValue xmlParse i h hc hc2).mp hn
  rw [hv, percent_rejected] at this
  cases this

/-- the same for an `&` that does not begin a reference, wherever it stands -/
theorem bare_amp_is_error (xmlParse : Bytes → ParseRes) (i : Inp) (h : (check xmlParse i).exc = none)
    (hc : ExpatContract xmlParse) (hc2 : ExpatContract2 xmlParse i) (a b : Dtd.Text) (hv : i.l10n.val = a ++ 38 :: b)
    (hb : ¬ C07L.RefStart b) :
    (check xmlParse i).results.filter isXmlError ≠ [] := by
  intro hn
  have := (no_xml_error_iff_wfValue xmlParse i h hc hc2).mp hn
  rw [hv, amp_must_begin_reference _ _ _ _ hb] at this
  cases this

section examplesL
private def ty (s : String) : List Nat := s.toList.map Char.toNat

/-- non-vacuity of `Lit`: "a&#65;&foo;" has the replacement text "aA&foo;" -/
example : C07L.Lit ([97] ++ ((38 :: 35 :: ([54, 53] ++ [59])) ++ ((38 :: 102 :: ([111, 111] ++ [59])) ++ [])))
    ([97] ++ ([C07L.decVal [54, 53]] ++ ((38 :: 102 :: ([111, 111] ++ [59])) ++ []))) :=
  .cons _ _ _ _ (.char 97 (by decide) (by decide) (by decide)) <|
  .cons _ _ _ _ (.dec [54, 53] (by decide) (by decide) (by decide)) <|
  .cons _ _ _ _ (.ent 102 [111, 111] (by decide) (by decide)) .nil
example : litExpand 12 (ty "a&#65;&foo;") = some (ty "aA&foo;") := by
  simp only [ty]; rw [toNats_ofList, toNats_ofList]; decide +kernel
/-- `<!--& -->`, `<![CDATA[50%]]>`, `<?p & ?>` are well-formed CONTENT, and rejected as literals -/
example : wf [] (ty "<!--& -->") = true ∧ wfValue [] [107] (ty "<!--& -->") = false := by
  simp only [ty]; rw [toNats_ofList]; decide +kernel
example : wf [] (ty "<![CDATA[50%]]>") = true ∧ wfValue [] [107] (ty "<![CDATA[50%]]>") = false := by
  simp only [ty]; rw [toNats_ofList]; decide +kernel
/-- the premise of `bare_amp_rejected_anywhere` on "& " -/
example : ¬ C07L.RefStart (ty " -->") := C07L.not_refStart_head 32 _ (by decide) (by decide)
/-- both delimiters: the declarations `<!ENTITY k "it's">` and `<!ENTITY k 'say "hi"'>` are `declText` instances -/
example : ty "<!ENTITY k \"it's\">" = C07L.declText [32] [107] [32] 34 (ty "it's") [] := by
  simp only [ty]; rw [toNats_ofList, toNats_ofList]; decide +kernel
example : ty "<!ENTITY k 'say \"hi\"'>" = C07L.declText [32] [107] [32] 39 (ty "say \"hi\"") [] := by
  simp only [ty]; rw [toNats_ofList, toNats_ofList]; decide +kernel
/-- why the delimiter must be kept: re-quoting `'say "hi"'` with `"` gives another document,
    whose literal ends at the first inner quote -/
example : docDecl [] ⟨[107], ty "<!ENTITY k 'say \"hi\"'>", ty "say \"hi\""⟩
    ≠ docDecl [] ⟨[107], ty "<!ENTITY k \"say \"hi\"\">", ty "say \"hi\""⟩ := by
  simp only [ty]; rw [toNats_ofList, toNats_ofList, toNats_ofList]; decide +kernel
end examplesL
end second_document

/-! ## `processAndroidContent` (extra test `android-dtd`)

The property mentions the android checks only as part of the mechanism; these theorems say what the method guarantees
for the text content `val` the XML parser delivered for the localized value.  `androidSection val` is the model of
`processAndroidContent(val)`: first the result of `unicode_escape` (at most one error), then one error per unescaped
quote/apostrophe. -/

section android
open C07A

/-- the second half of `processAndroidContent` without any regex.  `qkind val` says whether
    the whole string is quoted (`quoted.match`): if not, `val` is scanned for `"` and `'` and positions are shifted by
    -1; if it is quoted with `q`, `val[1:-1]` is scanned for `q` only.  `strayList` skips the maximal run of
    backslashes, looks at the next character, reports it (position after it) iff it is of the class and the run is even. -/
theorem android_quotes_regex_free (val : Text) :
    androidSection val = (escOut val).andThen fun _ =>
      .ok ((strayList (qkind val).1.cls ((qkind val).2.length + 1) 0 (qkind val).2).map (mkRes (qkind val).1.offset)) := by
  rw [androidSection_unfold, scanOf_eq]
  congr 1
  funext _
  congr 1
  cases (qkind val).1 with
  | any => exact model_stray _ _ minLen_any stray_local_any _ _
  | dq => exact model_stray _ _ minLen_dq stray_local_dq _ _
  | sq => exact model_stray _ _ minLen_sq stray_local_sq _ _

/-- android_quote_rule (the apostrophe rule in plain words): the scan reports a quote character at index `j` — as
    position `j + 1` — iff the number of consecutive backslashes immediately before it is EVEN: `'`, `\\'` are
    reported, `\'`, `\\\'` are not.  (`isQ` = the class scanned for; a backslash is never in it.) -/
theorem android_quote_rule (isQ : Nat → Bool) (hq : isQ 92 = false) (l : Text) (e c : Nat) :
    (e, c) ∈ strayList isQ (l.length + 1) 0 l ↔
      ∃ j, e = j + 1 ∧ l[j]? = some c ∧ isQ c = true ∧ bsBefore l j % 2 = 0 := by
  have := mem_strayList isQ hq (l.length + 1) l 0 (by omega) e c
  simpa using this

/-- a value that does not begin with `"` or `'` is scanned as a whole for both characters -/
theorem android_unquoted_kind (val : Text) (h : val.head? ≠ some 34 ∧ val.head? ≠ some 39) :
    qkind val = (.any, val) := by
  open Rx in
  unfold qkind
  simp only []
  have : matchAt val.toArray Gen.Pat.DTDChecker_quoted 0 = none := by
    simp only [Gen.Pat.DTDChecker_quoted, matchAt, m_seq_def, m_group_def, m_cls_apply]
    cases val with
    | nil => simp
    | cons c t =>
      have h1 : c ≠ 34 := by intro hc; subst hc; simp at h
      have h2 : c ≠ 39 := by intro hc; subst hc; simp at h
      simp [inC, ClsItem.has, h1, h2]
  rw [this]

/-- text without backslashes never has an escape error — non-ASCII characters are protected
    by `encode("ascii", "backslashreplace")`, whose `\xhh`, `\uhhhh`, `\Uhhhhhhhh` decode again -/
theorem android_plain_text_fine (val : Text) (h92 : 92 ∉ val) (hlt : ∀ c ∈ val, c < 0x110000) :
    unicodeEscape val = some .fine := by
  have := unicodeEscape_skip val [] h92 hlt
  simp only [List.append_nil] at this
  rw [this]
  simp [backslashReplace, ueScan]

/-- characters before the first backslash count ONE each, whatever they are: the scan of
    `pre ++ rest` is the scan of `rest` with the character counter started at `pre.length` — so an error in the first
    escape is reported at the index of its backslash in the ORIGINAL string (the point of `unicode_escape`'s
    re-computation of `args[2]`).  After a valid escape the counter is the number of DECODED characters (witness below). -/
theorem android_escape_position (pre rest : Text) (h92 : 92 ∉ pre) (hlt : ∀ c ∈ pre, c < 0x110000) :
    unicodeEscape (pre ++ rest) = (backslashReplace rest).map (fun b => ueScan (b.length + 1) pre.length b) :=
  unicodeEscape_skip pre rest h92 hlt

/-- `\\`, `\'`, `\"`, `\b`, `\f`, `\t`, `\n`, `\r`, `\v`, `\a` are one decoded character … -/
theorem android_escapes_decoded (f n e : Nat) (tail : Bytes)
    (he : e = 92 ∨ e = 39 ∨ e = 34 ∨ e = 98 ∨ e = 102 ∨ e = 116 ∨ e = 110 ∨ e = 114 ∨ e = 118 ∨ e = 97) :
    ueScan (f + 1) n (92 :: e :: tail) = ueScan f (n + 1) tail := by
  rw [ueScan.eq_def]
  rcases he with rfl | rfl | rfl | rfl | rfl | rfl | rfl | rfl | rfl | rfl <;> rfl

/-- … `\uXXXX` with four hex digits is one decoded character … -/
theorem android_u4_decoded (f n : Nat) (ds tail : Bytes) (hl : ds.length = 4) (hh : ∀ d ∈ ds, (hexVal d).isSome = true) :
    ueScan (f + 1) n (92 :: 117 :: (ds ++ tail)) = ueScan f (n + 1) tail := by
  have hlt := hexFold_lt ds hh
  rw [hl] at hlt
  exact scan_hex_ok f n 117 4 ds tail (by simp) hl hh (by omega)

/-- … and `\u` followed by fewer than four hex digits (then the end, or a character that is no hex digit) is THE
    error "truncated \uXXXX escape" at the counter of its backslash -/
theorem android_u4_truncated (f n : Nat) (hs rest : Bytes) (hl : hs.length < 4)
    (hr : rest = [] ∨ ∃ c t, rest = c :: t ∧ hexVal c = none) :
    ueScan (f + 1) n (92 :: 117 :: (hs ++ rest)) = .error n msgTruncU4 :=
  scan_u4_trunc f n _ (ueHex4_none hs rest hl hr)

/-- what the MODEL does with `\N{name}` (non-empty name, closing brace): it gives up
    (`unsupported`, the harness skips the comparison) — the real decoder asks the Unicode name database: a known name
    is one decoded character, an unknown one is the error "unknown Unicode character name".  `\N` not followed by
    `{` is the error "malformed \N character escape" in model and code. -/
theorem android_named_escape (f n : Nat) (name tail : Bytes) (hne : name ≠ []) (h125 : 125 ∉ name) :
    ueScan (f + 1) n (92 :: 78 :: 123 :: (name ++ 125 :: tail)) = .unsupported ∧
    (∀ bytes, (∀ t, bytes ≠ 123 :: t) → ueScan (f + 1) n (92 :: 78 :: bytes) = .error n msgMalformedN) :=
  ⟨scan_named f n name tail hne h125, fun bytes h => scan_named_malformed f n bytes h⟩

/-- `DtdNamed.ueScanN known` is the scan with the Unicode name database as a parameter (a
    known name is one decoded character, an unknown one is the error "unknown Unicode character name"; tied to the
    real `unicode_escape` by the `c07.uescape` correspondence).  Wherever the database-free model answers at all, both
    agree: the database matters only at well-formed `\\N{name}` escapes. -/
theorem android_named_with_database (known : Bytes → Bool) (f n : Nat) (b : Bytes) (h : ueScan f n b ≠ .unsupported) :
    DtdNamed.ueScanN known f n b = ueScan f n b := by
  open DtdNamed in
  revert h
  fun_induction ueScan f n b
  case case1 => intro; rfl
  case case2 f n _ => intro; cases f <;> rfl
  all_goals
    intro hu
    rw [ueScanN.eq_def]
    simp only [*, if_true, if_false, Bool.false_eq_true]
  case case17 => exact absurd rfl hu
  case case18 name h => exact if_neg h
  all_goals exact (by assumption : _ → _) hu

/-- no backslash, no quote, no apostrophe (characters being code points): nothing is reported -/
theorem android_silent (val : Text) (h92 : 92 ∉ val) (h34 : 34 ∉ val) (h39 : 39 ∉ val) (hlt : ∀ c ∈ val, c < 0x110000) :
    androidSection val = .ok [] := by
  rw [android_quotes_regex_free]
  have hk : qkind val = (.any, val) := by
    apply android_unquoted_kind
    constructor
    · intro h; exact h34 (List.mem_of_mem_head? h)
    · intro h; exact h39 (List.mem_of_mem_head? h)
  have he : escOut val = .ok [] := by
    unfold escOut
    rw [android_plain_text_fine val h92 hlt]
  rw [hk, he]
  simp only [QKind.cls, QKind.offset]
  rw [strayList_nil_of_no_quote _ (by decide) val]
  · rfl
  · intro c hc
    have h1 : c ≠ 34 := fun h => h34 (h ▸ hc)
    have h2 : c ≠ 39 := fun h => h39 (h ▸ hc)
    simp [h1, h2]

section examplesA
private def tz (s : String) : List Nat := s.toList.map Char.toNat

/-- the rule, evaluated: in `it's \'ok\' \\'` the first and the last apostrophe are reported (positions 3 and 15 = index + 1) -/
example : strayList (fun c => c == 34 || c == 39) 30 0 (tz "it's \\'ok\\' \\\\'") = [(3, 39), (15, 39)] := by
  simp only [tz]; rw [toNats_ofList]; decide +kernel
example : (androidSection (tz "it's")).results = [⟨.error, .num 2, msgApos, .android⟩] := by
  simp only [tz]; rw [toNats_ofList]; decide +kernel
example : (androidSection (tz "it\\'s")).results = [] := by
  simp only [tz]; rw [toNats_ofList]; decide +kernel
/-- non-ASCII text is fine, a truncated escape after it is reported at the index of its backslash in the original text -/
example : unicodeEscape (tz "日本\\u00") = some (.error 2 msgTruncU4) := by
  simp only [tz]; rw [toNats_ofList]; decide +kernel
/-- … but after a VALID escape the counter is in decoded characters: `\\u0041\\u00` reports 1, the backslash stands at 6
    (observation; positions are outside the property) -/
example : unicodeEscape (tz "\\u0041\\u00") = some (.error 1 msgTruncU4) := by
  simp only [tz]; rw [toNats_ofList]; decide +kernel
/-- a quoted string ending in a newline: `val[1:-1]` strips the newline, not the closing quote, which is then reported
    (observation; `$` in `quoted` accepts the final newline) -/
example : (androidSection (tz "\"ab\"\n")).results = [⟨.error, .num 3, msgQuotes, .android⟩] := by
  simp only [tz]; rw [toNats_ofList]; decide +kernel
end examplesA
end android

/-! ## `parse_css_spec` on ALL texts — completeness of the grammar, Unicode white space

`css_grammar_accepts` is the direction grammar ⇒ no errors.  Here: for EVERY text what `parse_css_spec` returns, the
converse direction, and hence: the error "reference is a CSS spec" is reported iff the localized value is NOT a text of
the grammar `C08C.CssSpec` (white space = exactly SPACE, TAB, CR, LF; digits = exactly 0-9). -/

section css_complete

/-- for every text, either no declaration `prop ws* : ws* number unit` stands anywhere in it and
    `parse_css_spec` returns `(None, None)`, or the text is the chain `C07G.SpecT` of its leftmost declarations and
    `parse_css_spec` returns exactly their dict and one error per gap that is not a correct separator (first gap and
    trail: `ws* ;? ws*`; between declarations: `ws* ; ws*`, white space alone = css-missing-semicolon, anything else =
    css-bad-content).  No hypothesis on the text. -/
theorem css_parse_total (v : Text) :
    (C07G.NoDeclIn v.length v ∧ parseCssSpec v = (none, none)) ∨
    ∃ ds errs, C07G.SpecT true 0 ds v errs ∧ parseCssSpec v = (some (C08C.declMap ds), C08C.optOf errs) :=
  C07G.parse_total v

/-- whatever text `parse_css_spec` turns into a map without errors is a text of the grammar, and the
    map is the dict of its declarations -/
theorem css_complete (v : Text) (mp : List (Text × Text)) (h : parseCssSpec v = (some mp, none)) :
    ∃ ds, C08C.CssSpec ds v ∧ mp = C08C.declMap ds := by
  open C07G C08C in
  rcases parse_total v with ⟨_, hn⟩ | ⟨ds, errs, hs, hp⟩
  · rw [hn] at h; cases h
  · rw [hp] at h
    simp only [Prod.mk.injEq, Option.some.injEq] at h
    obtain ⟨hm, he⟩ := h
    obtain ⟨gap, body, trail, rfl, hg, hb, ht⟩ := specT_clean hs (optOf_none he)
    exact ⟨ds, CssSpec.mk gap body trail ds ((gapCode_none hg).1 rfl) hb ht, hm.symm⟩

/-- `parse_css_spec v` has a map and no errors ⟺ `v` is in the grammar language — for ALL texts -/
theorem css_language_iff (v : Text) : (∃ mp, parseCssSpec v = (some mp, none)) ↔ ∃ ds, C08C.CssSpec ds v := by
  constructor
  · rintro ⟨mp, h⟩
    obtain ⟨ds, hc, _⟩ := css_complete v mp h
    exact ⟨ds, hc⟩
  · rintro ⟨ds, hc⟩
    exact ⟨C08C.declMap ds, C08C.css_grammar_accepts_dtd ds v hc⟩

/-- wherever the generated `_css_spec` matches non-emptily, a grammatical declaration
    stands (soundness of the regex against the grammar, by inversion of the engine on the generated regex) -/
theorem css_match_is_declaration (s : Array Nat) (q : Nat) (st : Rx.St) (hq : q < s.size)
    (h : Rx.matchAt s Gen.Pat.CSSCheckMixin__css_spec q = some st) :
    ∃ (d : C08C.Decl) (rest : Text), d.Ok ∧ s.toList.drop q = d.text ++ rest ∧ st = C08C.declSt q d := by
  obtain ⟨d, rest, hd, hdr⟩ := C07G.spec_match_inv s q st hq h
  refine ⟨d, rest, hd, hdr, ?_⟩
  have := C08C.decl_match s q d hd rest hdr
  rw [h] at this
  exact Option.some.inj this

/-- whenever `_css_sep` matches a gap, the gap is `ws* ;? ws*` -/
theorem css_sep_match_is_edge (s : Array Nat) (e : Nat) (sp : Rx.St) (he : e ≤ s.size)
    (h : Rx.matchAt s Gen.Pat.CSSCheckMixin__css_sep e = some sp) : C08C.IsEdge (s.toList.drop e) :=
  C07G.sep_match_edge s e sp he h

/-- against a reference with a CSS spec, the error "reference is a CSS spec" is reported
    iff the localized value is not a text of the grammar — both directions, every localized text -/
theorem css_error_iff_not_grammar (refVal l10nVal : Text) (refMap : List (Text × Text)) (hne : refMap ≠ [])
    (href : (parseCssSpec refVal).1 = some refMap) :
    maybeStyle refVal l10nVal = [specError] ↔ ¬ ∃ ds, C08C.CssSpec ds l10nVal := by
  constructor
  · rintro h ⟨ds, hg⟩
    rw [css_grammar_never_error refVal l10nVal refMap hne href ds hg] at h
    split at h
    · cases h
    · have := congrArg (fun l => l.map (·.level)) h
      simp [specError] at this
  · intro hng
    rw [css_rules refVal l10nVal refMap hne href]
    cases h1 : (parseCssSpec l10nVal).1 with
    | none => rfl
    | some lm =>
      cases lm with
      | nil => rfl
      | cons x xs =>
        cases h2 : (parseCssSpec l10nVal).2 with
        | none =>
          exfalso
          apply hng
          obtain ⟨ds, hc, _⟩ := css_complete l10nVal (x :: xs) (by rw [← h1, ← h2])
          exact ⟨ds, hc⟩
        | some er =>
          cases er with
          | nil => exact absurd h2 (C07G.parse_errors_ne_nil l10nVal)
          | cons e es => rfl

/-- every character of a text that is parsed without errors is SPACE, TAB, CR, LF, `;`, `:`, `.`, a digit
    0-9 or a letter of a property name / unit … -/
theorem css_alphabet (v : Text) (mp : List (Text × Text)) (h : parseCssSpec v = (some mp, none)) :
    ∀ c ∈ v, C07G.cssChar c = true := by
  obtain ⟨ds, hc, _⟩ := css_complete v mp h
  exact C07G.cssSpec_chars hc

/-- … so a character outside that alphabet ANYWHERE in the localized value makes it an
    error against a reference with a CSS spec; in particular (second part) NBSP, IDEOGRAPHIC SPACE, EM SPACE, LINE
    SEPARATOR, NEL, VT, FF, US, an ARABIC-INDIC and a FULLWIDTH digit — what `\\s` / `\\d` would add to the explicit
    classes `[ \\t\\r\\n]` / `[0-9]` of the code -/
theorem unicode_space_is_no_separator :
    (∀ (refVal l10nVal : Text) (refMap : List (Text × Text)), refMap ≠ [] → (parseCssSpec refVal).1 = some refMap →
      ∀ c ∈ l10nVal, C07G.cssChar c = false → maybeStyle refVal l10nVal = [specError]) ∧
    (C07G.cssChar 160 = false ∧ C07G.cssChar 0x3000 = false ∧ C07G.cssChar 0x2003 = false ∧ C07G.cssChar 0x2028 = false ∧
     C07G.cssChar 0x85 = false ∧ C07G.cssChar 11 = false ∧ C07G.cssChar 12 = false ∧ C07G.cssChar 0x1f = false ∧
     C07G.cssChar 0x663 = false ∧ C07G.cssChar 0xFF13 = false) := by
  refine ⟨?_, C07G.foreign_chars⟩
  intro refVal l10nVal refMap hne href c hc hfalse
  rw [css_error_iff_not_grammar refVal l10nVal refMap hne href]
  rintro ⟨ds, hg⟩
  have := C07G.cssSpec_chars hg c hc
  rw [hfalse] at this
  cases this

section examplesG
private def tw (s : String) : List Nat := s.toList.map Char.toNat
/-- regression pins on the generated regexes: NBSP after the colon, IDEOGRAPHIC SPACE after the semicolon, a
    FULLWIDTH digit — all errors; the same with SPACE / a digit — silent -/
example : maybeStyle (tw "width:1em") (tw "width:\u00a01em") = [specError] := by
  simp only [tw]; rw [toNats_ofList, toNats_ofList]; decide +kernel
example : maybeStyle (tw "width:1em;height:2px") (tw "width:1em;\u3000height:2px") = [specError] := by
  simp only [tw]; rw [toNats_ofList, toNats_ofList]; decide +kernel
example : maybeStyle (tw "width:1em") (tw "width:\uff11em") = [specError] := by
  simp only [tw]; rw [toNats_ofList, toNats_ofList]; decide +kernel
example : maybeStyle (tw "width:1em;height:2px") (tw "width:1em; height:2px") = [] := by
  simp only [tw]; rw [toNats_ofList, toNats_ofList]; decide +kernel
/-- a text with a declaration and junk: the chain and the verdict, evaluated -/
example : parseCssSpec (tw "xwidth:1em") = (some [(tw "width", tw "em")], some [⟨0, .badContent⟩]) := by
  simp only [tw]; rw [toNats_ofList, toNats_ofList, toNats_ofList]; decide +kernel
/-- no declaration anywhere -/
example : parseCssSpec (tw "width: 1 em") = (none, none) := by
  simp only [tw]; rw [toNats_ofList]; decide +kernel
end examplesG
end css_complete

end C07
