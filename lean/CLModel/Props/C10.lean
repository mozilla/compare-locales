/-
C10 — Summaries count every event once; quiet hides only details; exit = errors.
Models: `TreeM` = compare_locales.compare.utils.Tree, `ObsM` = compare.observer.Observer/ObserverList
and the exit status of commands.CompareLocales.handle.
-/
import CLModel.Compare.Tree
import CLModel.Compare.Observer
import CLModel.Proofs.C10Tree
import CLModel.Proofs.C10Obs
import CLModel.Proofs.C10Flag
import CLModel.Proofs.C10TOrder
import CLModel.Proofs.C10TContent
import CLModel.Proofs.C10TText
import CLModel.Proofs.C10TSummary
import CLModel.Compare.Projects
import CLModel.Proofs.C10Proj
import CLModel.Compare.ProjectsPipe
import CLModel.Proofs.C10ProjPipe
import CLModel.Proofs.C10ProjQuiet
namespace C10
open TreeM ObsM

/-- `Tree.__get` keeps the radix-tree invariant — sibling keys are non-empty and start with pairwise
    different segments — and never raises on a non-empty segment list (what `Tree.__getitem__` always
    passes: `str.split` never returns `[]`).  `f` is what the caller does with the returned list. -/
theorem tree_invariant {V : Type} :
    TreeM.Inv (Tree.empty : Tree V) ∧
      ∀ (t : Tree V) (parts : List Part) (f : List V → List V), TreeM.Inv t → parts ≠ [] →
        ∃ t', getMod t parts f = .ok t' ∧ TreeM.Inv t' := by
  refine ⟨by simp [Tree.empty, TreeM.Inv, InvBr], ?_⟩
  intro t parts f hinv hp
  obtain ⟨t', e, h, _⟩ := getMod_spec f t parts hinv hp
  exact ⟨t', e, h⟩

/-- `tree[path].append(x)` refines a map from paths to lists: the list of `path` gets `x` appended
    (it is created when missing), the list of every other path is untouched — whatever the order of
    insertion and however the paths nest (no prefix-freeness needed). -/
theorem tree_refines_map {V : Type} (t t' : Tree V) (parts : List Part) (f : List V → List V)
    (hinv : TreeM.Inv t) (hp : parts ≠ []) (h : getMod t parts f = .ok t') :
    ∀ p, find t' p = if p = parts then some (f ((find t parts).getD [])) else find t p := by
  obtain ⟨t'', e, _, _, hf⟩ := getMod_spec f t parts hinv hp
  rw [e] at h; injection h with h; subst h
  exact hf

/-- every path is stored at exactly one node: walking the tree (`flatten`: concatenating the keys from the
    root) lists each path once, with exactly the list the lookup finds. -/
theorem tree_flatten_once {V : Type} (t : Tree V) (hinv : TreeM.Inv t) :
    ((flatten t).map (·.1)).Nodup ∧ ∀ p l, (p, l) ∈ flatten t ↔ find t p = some l :=
  ⟨flatten_nodup t hinv, mem_flatten_iff_find t hinv⟩

/-- for prefix-free path sets `Tree.toJSON` shows every stored list exactly once, and the dict keys on
    the way to it, joined with "/", are the "/"-joined path of the file. -/
theorem tojson_paths {V : Type} (t : Tree V) (hinv : TreeM.Inv t) (hns : NoSlash t)
    (hpf : PrefixFree ((flatten t).map (·.1))) :
    (toJSON t).leaves.map (fun kv => (joinSlash kv.1, kv.2))
      = (flatten t).map (fun pv => (joinSlash pv.1, pv.2)) :=
  toJSON_paths t hinv hns hpf

/-- why `tojson_paths` needs prefix-free paths: a value at an interior node hides its subtree.
    After `tree["a"]`, `tree["a/b"]` the tree stores two lists, `toJSON` shows one. -/
theorem prefix_case_witness :
    ((getMod (Tree.empty : Tree Nat) [[97]] (· ++ [0]) >>= (getMod · [[97], [98]] (· ++ [1]))).toOption.map flatten
      = some [([[97]], [0]), ([[97], [98]], [1])]) ∧
    ((getMod (Tree.empty : Tree Nat) [[97]] (· ++ [0]) >>= (getMod · [[97], [98]] (· ++ [1]))).toOption.map
      (fun t => (toJSON t).leaves) = some [([[97]], [0])]) := by
  constructor <;> decide +kernel

/-- a fresh `Observer(quiet, filter)` never raises on a history over modelled files, and its details
    tree keeps the invariant. -/
theorem run_total (q : Nat) (flt : Option Filter) (h : List Ev) (hm : ∀ ev ∈ h, Modelled ev.file) :
    ∃ o', (Obs.init q flt).run h = .ok o' ∧ TreeM.Inv o'.details :=
  init_run_total q flt h hm

/-- after any history the list stored for a path is exactly: the notifications raised for files with
    that path, not ignored by the filter and not hidden by the quiet level, in the order raised
    (`{category: filter result}` for file categories, `{category: data}` otherwise); a path without
    such a notification is not in the tree. -/
theorem details_spec (q : Nat) (flt : Option Filter) (h : List Ev) (o' : Obs)
    (hr : (Obs.init q flt).run h = .ok o') (p : List Part) :
    (find o'.details p).getD [] = detailsSpec q flt h p ∧
      (find o'.details p = none ↔ detailsSpec q flt h p = []) := by
  rw [init_details hr p]
  cases hd : detailsSpec q flt h p <;> simp

/-- after any history `toJSON` of the details shows every stored list exactly once under the "/"-joined path
    of its file, provided the files' paths are prefix-free (no file path is a directory of another). -/
theorem tojson_history (q : Nat) (flt : Option Filter) (h : List Ev) (o' : Obs)
    (hr : (Obs.init q flt).run h = .ok o') (hm : ∀ ev ∈ h, Modelled ev.file)
    (hpf : ∀ e1 ∈ h, ∀ e2 ∈ h, ∀ p1 p2, partsOf e1.file = .ok p1 → partsOf e2.file = .ok p2 → p1 <+: p2 → p1 = p2) :
    (toJSON o'.details).leaves.map (fun kv => (joinSlash kv.1, kv.2))
      = (flatten o'.details).map (fun pv => (joinSlash pv.1, pv.2)) :=
  init_tojson q flt h o' hr hm hpf

/-- after any history every summary number is the number of non-ignored `error` (`warning`) notifications
    for files of that locale, plus the values of the non-ignored `updateStats` calls for that key —
    for all histories, filters and quiet levels. -/
theorem summary_counts (q : Nat) (flt : Option Filter) (h : List Ev) (o' : Obs)
    (hr : (Obs.init q flt).run h = .ok o') (loc : Option Text) (key : StatKey) :
    getCount o'.summary loc key = countSpec (ignObs flt) loc key h :=
  init_summary_counts q flt h o' hr loc key

/-- the value `notify` returns is the filter's answer ("error" without a filter); it does not depend on quiet. -/
theorem notify_ret (o o' : Obs) (cat : Cat) (f : File) (d : Data) (rv : Ret)
    (h : o.notify cat f d = .ok (o', rv)) : rv = rvOf o.filter cat f d := (notify_ok h).1

/-- the quiet level never changes a summary number or the error flag. -/
theorem quiet_summary_inv (q q' : Nat) (flt : Option Filter) (h : List Ev) (o1 o2 : Obs)
    (h1 : (Obs.init q flt).run h = .ok o1) (h2 : (Obs.init q' flt).run h = .ok o2) :
    o1.summary = o2.summary ∧ o1.error = o2.error := by
  obtain ⟨c1, _, _⟩ := Obs.run_core h _ o1 h1
  obtain ⟨c2, _, _⟩ := Obs.run_core h _ o2 h2
  have : o1.core = o2.core := by rw [c1, c2]; rfl
  simp only [Obs.core, Prod.mk.injEq] at this
  exact this

/-- raising the quiet level only removes details: per path, the list shown at the higher level is a
    sublist of the one at the lower level (so a file shown at the higher level is shown at the lower one). -/
theorem quiet_monotone (q q' : Nat) (hq : q ≤ q') (flt : Option Filter) (h : List Ev) (o1 o2 : Obs)
    (h1 : (Obs.init q flt).run h = .ok o1) (h2 : (Obs.init q' flt).run h = .ok o2) (p : List Part) :
    ((find o2.details p).getD []).Sublist ((find o1.details p).getD []) := by
  rw [(details_spec q flt h o1 h1 p).1, (details_spec q' flt h o2 h2 p).1]
  exact detailsSpec_mono hq flt h p

/-- `ObserverList.notify`: every project observer is notified; the list returns "ignore" iff all of them
    do — always, when there is no project observer — and then does not count the event itself; otherwise it
    notifies itself (without filter) and returns "error" if any project observer does, else "warning".
    In particular `assert len(rvs) == 1` cannot fail (the equation holds whenever the call returns, and
    `list_run_total` shows it returns). -/
theorem list_fanout (l l' : ObsList) (cat : Cat) (f : File) (d : Data) (rv : Ret)
    (h : l.notify cat f d = .ok (l', rv)) :
    (rv = .ignore ↔ ∀ o ∈ l.observers, rvOf o.filter cat f d = .ignore) ∧
      (rv = .error ↔ ∃ o ∈ l.observers, rvOf o.filter cat f d = .error) ∧
      All₂ (fun o o' => o.notify cat f d = .ok (o', rvOf o.filter cat f d)) l.observers l'.observers ∧
      (if rv = .ignore then l'.own = l.own else ∃ r, l.own.notify cat f d = .ok (l'.own, r)) := by
  obtain ⟨h1, h2, h3⟩ := list_notify_spec h
  refine ⟨?_, ?_, h2, h3⟩
  · rw [h1, listRet_eq_ignore]; simp
  · rw [h1, listRet_eq_error]; simp [eq_comm]

/-- the list's own state is that of an unfiltered `Observer` fed exactly the events that are not ignored
    by all project observers (stats are never filtered by the list), and every project observer ends
    as if it had been fed the history alone. -/
theorem list_own_as_observer (q : Nat) (obs : List Obs) (h : List Ev) (l' : ObsList)
    (hr : (ObsList.init q obs).run h = .ok l') :
    (Obs.init q none).run (h.filter (fun ev => !ignList (obs.map (·.filter)) ev)) = .ok l'.own ∧
      All₂ (fun o o' => o.run h = .ok o') obs l'.observers :=
  own_as_observer q obs h l' hr

/-- the list's own summary counts the `error`/`warning` notifications not ignored by all project observers,
    and all stats. -/
theorem list_summary_counts (q : Nat) (obs : List Obs) (h : List Ev) (l' : ObsList)
    (hr : (ObsList.init q obs).run h = .ok l') (loc : Option Text) (key : StatKey) :
    getCount l'.own.summary loc key = countSpec (ignList (obs.map (·.filter))) loc key h := by
  rw [list_run_counts hr rfl]
  simp [ObsList.init, Obs.init, getCount, ObsList.filters]

/-- no notification sequence over modelled files makes an `ObserverList` of fresh observers raise. -/
theorem list_run_total (q : Nat) (flts : List (Option Filter)) (h : List Ev) (hm : ∀ ev ∈ h, Modelled ev.file) :
    ∃ l', (ObsList.init q (flts.map (Obs.init q))).run h = .ok l' := by
  apply list_run_ok h _ inv_empty _ hm
  intro o ho
  simp only [ObsList.init, List.mem_map] at ho
  obtain ⟨flt, _, rfl⟩ := ho
  exact inv_empty

/-- `CompareLocales.handle` returns 1 iff `return_zero` is off and the list has counted at least one error
    (the total of `errors` over all locales of its own summary) — for every history whose stats dicts
    give `errors`, if at all, a positive value. -/
theorem exit_iff_errors (q : Nat) (obs : List Obs) (h : List Ev) (l' : ObsList) (rz : Bool)
    (hr : (ObsList.init q obs).run h = .ok l') (hp : ErrStatsPos h) :
    exitStatus rz l' = 1 ↔ rz = false ∧ 0 < totalErrors l'.own.summary := by
  have hf : l'.own.error = true ↔ _ := C10F.run_flag _ _ _ (list_run_spec h _ l' hr rfl).1
    (fun ev hev => hp ev (List.mem_filter.1 hev).1) (C10F.flagIffCounted_init q none)
  simp only [exitStatus]
  cases rz <;> cases he : l'.own.error <;> simp [he] at hf ⊢ <;> omega

/-- why `exit_iff_errors` needs positive `errors` stats: `updateStats(file, {"errors": 0})` raises the
    flag without counting an error, and the command would exit 1 with zero errors. -/
theorem exit_witness :
    ∃ l', (ObsList.init 0 [Obs.init 0 none]).run [.stats ⟨[97], none, some [100, 101]⟩ [(.errors, 0)]] = .ok l' ∧
      exitStatus false l' = 1 ∧ totalErrors l'.own.summary = 0 :=
  ⟨_, rfl, by decide, by decide⟩

/-- the list has counted an error iff some project observer has: the JSON output (project observers only)
    and the exit status (the list's flag) agree.  Needs that stats carry no `errors` entry: the list
    never filters stats, the project observers do. -/
theorem list_errors_iff_observers (q : Nat) (flts : List (Option Filter)) (h : List Ev) (l' : ObsList)
    (hr : (ObsList.init q (flts.map (Obs.init q))).run h = .ok l') (hn : NoErrStats h) :
    0 < totalErrors l'.own.summary ↔ ∃ o ∈ l'.observers, 0 < totalErrors o.summary := by
  -- every flag says that its observer counted an error, and is raised by an `error` notification that is not ignored
  obtain ⟨fown, fobs⟩ := C10F.list_run_flags h _ l' hr hn.pos (C10F.flagIffCounted_init q none) (fun o ho => by
    obtain ⟨flt, _, rfl⟩ := List.mem_map.1 ho
    exact C10F.flagIffCounted_init q flt)
  obtain ⟨_, hall, _⟩ := list_run_spec h _ l' hr rfl
  have hobs : ∀ flt o', (Obs.init q flt).run h = .ok o' → (0 < totalErrors o'.summary ↔
      ∃ cat f d, Ev.notify cat f d ∈ h ∧ cat.isError = true ∧ ignObs flt (.notify cat f d) = false) := by
    intro flt o' hro
    have hf : o'.error = true ↔ _ := C10F.run_flag h _ o' hro hn.pos (C10F.flagIffCounted_init q flt)
    rw [← hf, Obs.run_error hro, ← any_err_notify hn]
    rfl
  have fown : l'.own.error = true ↔ _ := fown
  rw [← fown, list_run_error hr rfl, ObsList.init_filters]
  simp only [ObsList.init, Obs.init, Bool.false_or]
  rw [any_err_notify hn]
  constructor
  · rintro ⟨cat, f, d, hev, he, hi⟩
    simp only [ignList, List.all_eq_false] at hi
    obtain ⟨flt, hflt, hne⟩ := hi
    obtain ⟨o', ho', hro⟩ := All₂.mem_left hall (Obs.init q flt) (List.mem_map.2 ⟨flt, hflt, rfl⟩)
    exact ⟨o', ho', (hobs flt o' hro).2 ⟨cat, f, d, hev, he, by simpa [ignObs] using hne⟩⟩
  · rintro ⟨o', ho', hpos⟩
    obtain ⟨o, ho, hro⟩ := All₂.mem_right hall o' ho'
    obtain ⟨flt, hflt, rfl⟩ := List.mem_map.1 ho
    obtain ⟨cat, f, d, hev, he, hi⟩ := (hobs flt o' hro).1 hpos
    refine ⟨cat, f, d, hev, he, ?_⟩
    simp only [ignList, List.all_eq_false]
    exact ⟨flt, hflt, by simpa [ignObs] using hi⟩

/- The error flag of every observer.  `C10F.FlagIffCounted o` = `o.error = true ↔ 0 < totalErrors o.summary`.  The flag of the
list and of every project observer is tied to what that observer counted, for arbitrary filters — also for filters that
answer "warning" or "ignore" for a notification of category `error` (the message text is the entity they are asked about). -/

/-- ONE OPERATION keeps `flag ↔ counted`, whatever the state before, the filter and its verdict: `notify` always,
    `updateStats` when an `errors` entry (which no caller passes) is positive.  And what a `notify` does exactly: flag
    and error counter move together, iff the category is `error` and the verdict is not "ignore" — a finding the
    filter DOWNGRADES to "warning" is still counted as an error and still raises the flag; an ignored one does neither. -/
theorem flag_step_invariant (o : Obs) :
    (∀ cat f d o' rv, o.notify cat f d = .ok (o', rv) →
      (C10F.FlagIffCounted o → C10F.FlagIffCounted o') ∧
      o'.error = (o.error || (cat.isError && rv != .ignore)) ∧
      totalErrors o'.summary = totalErrors o.summary + (if cat.isError && rv != .ignore then 1 else 0)) ∧
    (∀ f st, C10F.EvErrPos (.stats f st) → C10F.FlagIffCounted o → C10F.FlagIffCounted (o.updateStats f st)) := by
  refine ⟨fun cat f d o' rv h => ⟨fun hf => ?_, C10F.notify_flag_exact h⟩, fun f st hp hf => ?_⟩
  · exact C10F.step_flag (notify_ok h).2 (C10F.evErrPos_notify cat f d) hf
  · exact C10F.step_flag (o := o) (ev := .stats f st) rfl hp hf

/-- after any history a fresh `Observer(quiet, filter)` — ANY filter — has its flag up iff it counted an error. -/
theorem flag_iff_counted (q : Nat) (flt : Option Filter) (h : List Ev) (o' : Obs)
    (hr : (Obs.init q flt).run h = .ok o') (hp : ErrStatsPos h) :
    o'.error = true ↔ 0 < totalErrors o'.summary :=
  C10F.run_flag h _ o' hr hp (C10F.flagIffCounted_init q flt)

/-- after any history through an `ObserverList` the flag of the list itself AND the flag of every project observer
    say exactly that this observer counted an error (any observers that start with the invariant, e.g. fresh ones). -/
theorem list_flags_iff_counted (q : Nat) (obs : List Obs) (h : List Ev) (l' : ObsList)
    (hr : (ObsList.init q obs).run h = .ok l') (hp : ErrStatsPos h) (hobs : ∀ o ∈ obs, C10F.FlagIffCounted o) :
    (l'.own.error = true ↔ 0 < totalErrors l'.own.summary) ∧
      ∀ o' ∈ l'.observers, (o'.error = true ↔ 0 < totalErrors o'.summary) :=
  C10F.list_run_flags h _ l' hr hp (C10F.flagIffCounted_init q none) hobs

/-- EXIT = ERRORS COUNTED, WHICHEVER FLAG `handle` READS: `observers.error` (`C10F.readOwn`, what the code does; `exitStatus`
    is `exitVia readOwn`) or `any(observer.error for observer in observers)` (`C10F.readAny`) — both give 1 iff
    `return_zero` is off and the union observer counted an error, for every history without `errors` stats. -/
theorem exit_reader_independent (q : Nat) (flts : List (Option Filter)) (h : List Ev) (l' : ObsList) (rz : Bool)
    (hr : (ObsList.init q (flts.map (Obs.init q))).run h = .ok l') (hn : NoErrStats h) :
    (∀ rz l, exitStatus rz l = C10F.exitVia C10F.readOwn rz l) ∧
    C10F.readOwn l' = C10F.readAny l' ∧
    (C10F.exitVia C10F.readOwn rz l' = 1 ↔ rz = false ∧ 0 < totalErrors l'.own.summary) ∧
    (C10F.exitVia C10F.readAny rz l' = 1 ↔ rz = false ∧ 0 < totalErrors l'.own.summary) := by
  have hinit : ∀ o ∈ flts.map (Obs.init q), C10F.FlagIffCounted o := by
    intro o ho
    obtain ⟨flt, _, rfl⟩ := List.mem_map.1 ho
    exact C10F.flagIffCounted_init q flt
  obtain ⟨hown, hobs⟩ := list_flags_iff_counted q _ h l' hr hn.pos hinit
  have hany := C10F.readAny_iff (l := l') hobs
  have hlist := list_errors_iff_observers q flts h l' hr hn
  have hsame : C10F.readOwn l' = C10F.readAny l' := by
    have : C10F.readOwn l' = true ↔ C10F.readAny l' = true := by
      rw [hany, ← hlist]; exact hown
    cases h1 : C10F.readOwn l' <;> cases h2 : C10F.readAny l' <;> simp [h1, h2] at this ⊢
  refine ⟨fun _ _ => rfl, hsame, ?_, ?_⟩
  · rw [C10F.exitVia_eq_one]
    exact and_congr Iff.rfl hown
  · rw [C10F.exitVia_eq_one, ← hsame]
    exact and_congr Iff.rfl hown

/-- the semantics of a downgraded / ignored error, computed by the model: one project observer whose filter answers
    "warning" for the error message counts the error, shows it and has its flag up (exit 1); with "ignore" nothing is
    counted anywhere and the exit status is 0. -/
theorem downgraded_error_witness :
    (((ObsList.init 0 [Obs.init 0 (some (fun _ _ => .warning))]).run
        [.notify .error ⟨[97], none, some [100, 101]⟩ (.str [109])]).toOption.map (fun l' =>
      (l'.observers.map (fun o => (o.error, totalErrors o.summary)), l'.own.error, totalErrors l'.own.summary,
        exitStatus false l', C10F.exitVia C10F.readAny false l')) = some ([(true, 1)], true, 1, 1, 1)) ∧
    (((ObsList.init 0 [Obs.init 0 (some (fun _ _ => .ignore))]).run
        [.notify .error ⟨[97], none, some [100, 101]⟩ (.str [109])]).toOption.map (fun l' =>
      (l'.observers.map (fun o => (o.error, totalErrors o.summary)), l'.own.error, totalErrors l'.own.summary,
        exitStatus false l', C10F.exitVia C10F.readAny false l')) = some ([(false, 0)], false, 0, 0, 0)) := by
  constructor <;> decide +kernel

/-- negation witness: reading only the FIRST project observer's flag is not the exit rule — with two projects of which
    the first ignores the file, the union counted an error (exit 1) but `observers[0].error` is down. -/
theorem first_reader_witness :
    ((ObsList.init 0 [Obs.init 0 (some (fun _ _ => .ignore)), Obs.init 0 none]).run
        [.notify .error ⟨[97], none, some [100, 101]⟩ (.str [109])]).toOption.map (fun l' =>
      (totalErrors l'.own.summary, exitStatus false l', C10F.exitVia C10F.readAny false l',
        C10F.exitVia C10F.readFirst false l')) = some (1, 1, 1, 0) := by
  decide +kernel

/- The text renderings (what the command prints by default).  `C10T.outline` reads the tuples `Tree.getContent()` yields
the way a person reads the printed outline: a ("key", k) row at depth `d` replaces the chain of keys from level `d` on, a
("value", v) row at depth `d` stands under the first `d` keys of the chain.  `C10T.pathLt` is Python's `<` on tuples of `str`.
`C10T.lineOf` gives the text lines of one row, `C10T.detailText` the text of one details item. -/

/-- `Tree.getContent(depth)` yields the value of the node first — also at an interior node, before its
    children — and then, for the branches in the order of `sorted(self.branches.keys())`, the key at this
    depth followed by the content of the sub-tree at `depth + 1`. -/
theorem getcontent_rec {V : Type} (br : List (Key × Tree V)) (val : Option (List V)) (d : Nat) :
    ∃ sb : List (Key × Tree V), sb.Perm br ∧ sb.Pairwise (fun a b => keyLe a.1 b.1 = true) ∧
      getContent (.node br val) d =
        (match val with | some v => [Content.value d v] | none => []) ++
          sb.flatMap (fun kv => Content.key d kv.1 :: getContent kv.2 (d + 1)) :=
  ⟨sortByKey br, C10T.sortByKey_perm br, C10T.sortByKey_sorted br, C10T.getContent_node br val d⟩

/-- for a tree satisfying the invariant, reading `getContent()` as an outline gives for every stored path
    exactly one ("value", list) row — the list the lookup finds — under a chain of ("key", k) rows whose
    keys concatenate to that path (so their "/"-joined texts, joined with "/", are the "/"-joined path);
    nothing else is shown; the rows come in the order of `sorted` over the paths as tuples, however the tree
    compressed them.  No prefix-freeness is needed: a list stored at an interior node (a path that is a
    directory of another) is shown as well, before the rows of the paths below it (`getcontent_rec`,
    `interior_shown_witness`) — `toJSON` hides that subtree (`prefix_case_witness`). -/
theorem getcontent_spec {V : Type} (t : Tree V) (hinv : TreeM.Inv t) :
    (∀ p l, (∃ ks, (ks, l) ∈ C10T.outline (getContent t 0) ∧ ks.flatten = p) ↔ find t p = some l) ∧
      ((C10T.outline (getContent t 0)).map (fun r => r.1.flatten)).Nodup ∧
      ((C10T.outline (getContent t 0)).map (fun r => (r.1.flatten, r.2))).Perm (flatten t) ∧
      ((C10T.outline (getContent t 0)).map (fun r => r.1.flatten)).Pairwise C10T.pathLt ∧
      (∀ r ∈ C10T.outline (getContent t 0),
        (∀ k ∈ r.1, k ≠ []) ∧ joinSlash (r.1.map joinSlash) = joinSlash r.1.flatten) := by
  rw [C10T.outline_getContent]
  have hperm := C10T.rows_perm t
  refine ⟨?_, ?_, hperm, C10T.rows_sorted t hinv, ?_⟩
  · intro p l
    rw [← mem_flatten_iff_find t hinv p l, ← hperm.mem_iff]
    simp only [List.mem_map, Prod.mk.injEq]
    constructor
    · rintro ⟨ks, hks, rfl⟩; exact ⟨(ks, l), hks, rfl, rfl⟩
    · rintro ⟨r, hr, h1, h2⟩
      obtain ⟨ks, l'⟩ := r
      simp only at h1 h2
      subst h2
      exact ⟨ks, hr, h1⟩
  · have := (hperm.map (·.1)).nodup_iff.2 (flatten_nodup t hinv)
    rwa [List.map_map] at this
  · intro r hr
    have hk := C10T.rows_keys_ne_nil t hinv r hr
    exact ⟨hk, joinSlash_isJoin.map_join r.1 hk⟩

/-- the interior-node case as it is: after `tree["a"]`, `tree["a/b"]` the outline of `getContent()` shows both
    lists, the one of `a` first, the one of `a/b` under the keys `a`, `b`; `toJSON` shows only the first. -/
theorem interior_shown_witness :
    ((getMod (Tree.empty : Tree Nat) [[97]] (· ++ [0]) >>= (getMod · [[97], [98]] (· ++ [1]))).toOption.map
        (fun t => C10T.outline (getContent t 0)) = some [([[[97]]], [0]), ([[[97]], [[98]]], [1])]) ∧
    ((getMod (Tree.empty : Tree Nat) [[97]] (· ++ [0]) >>= (getMod · [[97], [98]] (· ++ [1]))).toOption.map
        (fun t => (toJSON t).leaves) = some [([[97]], [0])]) := by
  constructor <;> decide +kernel

/-- `ObserverList.serializeDetails()` after any history whose `data` is textual (`C10T.TextData`: a `str` for
    "error"/"warning", a `str` or a tuple — a PO key — for "missingEntity"/"obsoleteEntity"; what the callers
    pass): it returns, and the text is the "\n"-join of the lines of the rows of `getContent()`: per ("key", k)
    row two spaces per level and the "/"-joined key, per ("value", items) row one line per details item, indented
    one level deeper than the value, `ERROR: `/`WARNING: ` + message, `+`/`-` + entity (tuple keys joined with
    " | ", `None` parts skipped), `// add and localize this file`, `// remove this file`.
    Read as an outline, the rows are: for every path with at least one non-ignored, non-hidden notification
    exactly one value row, holding exactly these notifications in the order raised (`details_spec`), under
    keys that concatenate to the path of the file they were raised for; the files come in sorted order.
    (For the `ObserverList` itself take `flt = none` and the history `list_own_as_observer` gives:
    `list_serialize_details_spec`.) -/
theorem serialize_details_spec (q : Nat) (flt : Option Filter) (h : List Ev) (o' : Obs)
    (hr : (Obs.init q flt).run h = .ok o') (htd : C10T.TextData h) :
    serializeDetails o' = .ok (joinNl ((getContent o'.details 0).flatMap C10T.lineOf)) ∧
      (∀ p l, (∃ ks, (ks, l) ∈ C10T.outline (getContent o'.details 0) ∧ ks.flatten = p) ↔
        (l = detailsSpec q flt h p ∧ l ≠ [])) ∧
      ((C10T.outline (getContent o'.details 0)).map (fun r => r.1.flatten)).Pairwise C10T.pathLt ∧
      (∀ r ∈ C10T.outline (getContent o'.details 0), joinSlash (r.1.map joinSlash) = joinSlash r.1.flatten) := by
  obtain ⟨hinv, _, _⟩ := Obs.run_details h (Obs.init q flt) o' inv_empty hr
  obtain ⟨_, _, _, hs, hk⟩ := getcontent_spec o'.details hinv
  exact ⟨C10T.serializeDetails_lines o' (C10T.history_good hr (htd.shown q flt)), C10T.history_rows hr, hs,
    fun r hr => (hk r hr).2⟩

/-- the exact condition under which `serializeDetails()` returns after a history over modelled files: the data of
    every notification that is displayed — not ignored by the filter, not hidden by the quiet level — is textual;
    otherwise it raises `TypeError` (`str + tuple`, `str + None`). -/
theorem serialize_details_total_iff (q : Nat) (flt : Option Filter) (h : List Ev) (o' : Obs)
    (hr : (Obs.init q flt).run h = .ok o') (hm : ∀ ev ∈ h, Modelled ev.file) :
    ((∃ t, serializeDetails o' = .ok t) ↔ C10T.ShownText q flt h) ∧
      (¬ C10T.ShownText q flt h → serializeDetails o' = .error .typeError) := by
  refine ⟨⟨?_, ?_⟩, C10T.history_bad hr hm⟩
  · rintro ⟨t, ht⟩
    apply Classical.byContradiction
    intro hbad
    rw [C10T.history_bad hr hm hbad] at ht
    cases ht
  · intro hst
    exact ⟨_, C10T.serializeDetails_lines o' (C10T.history_good hr hst)⟩

/-- the lines of one row, spelled out (this is the definition of `C10T.lineOf`/`C10T.detailText`) -/
theorem line_of_row :
    (∀ d k, C10T.lineOf (.key d k) = [spaces (2 * d) ++ joinSlash k]) ∧
    (∀ d items, C10T.lineOf (.value d items) = items.map (fun it => spaces (2 * (d + 1)) ++ C10T.detailText it)) ∧
    (∀ t, C10T.detailText (.error, .data (.str t)) = ofString "ERROR: " ++ t) ∧
    (∀ t, C10T.detailText (.warning, .data (.str t)) = ofString "WARNING: " ++ t) ∧
    (∀ t, C10T.detailText (.missingEntity, .data (.str t)) = ofString "+" ++ t) ∧
    (∀ t, C10T.detailText (.obsoleteEntity, .data (.str t)) = ofString "-" ++ t) ∧
    (∀ ps, C10T.detailText (.missingEntity, .data (.tuple ps)) = ofString "+" ++ joinBar (ps.filterMap id)) ∧
    (∀ ps, C10T.detailText (.obsoleteEntity, .data (.tuple ps)) = ofString "-" ++ joinBar (ps.filterMap id)) ∧
    (∀ v, C10T.detailText (.missingFile, v) = ofString "// add and localize this file") ∧
    (∀ v, C10T.detailText (.obsoleteFile, v) = ofString "// remove this file") :=
  ⟨fun _ _ => rfl, fun _ _ => rfl, fun _ => rfl, fun _ => rfl, fun _ => rfl, fun _ => rfl, fun _ => rfl,
    fun _ => rfl, fun _ => rfl, fun _ => rfl⟩

/-- `serialize_details_spec` for what the command prints, `observers.serializeDetails()` of the `ObserverList`:
    its details are those of an unfiltered observer fed the events not ignored by all project observers. -/
theorem list_serialize_details_spec (q : Nat) (obs : List Obs) (h : List Ev) (l' : ObsList)
    (hr : (ObsList.init q obs).run h = .ok l') (htd : C10T.TextData h) :
    serializeDetails l'.own = .ok (joinNl ((getContent l'.own.details 0).flatMap C10T.lineOf)) ∧
      (∀ p l, (∃ ks, (ks, l) ∈ C10T.outline (getContent l'.own.details 0) ∧ ks.flatten = p) ↔
        (l = detailsSpec q none (h.filter (fun ev => !ignList (obs.map (·.filter)) ev)) p ∧ l ≠ [])) := by
  have hown := (list_own_as_observer q obs h l' hr).1
  obtain ⟨a, b, _⟩ := serialize_details_spec q none _ l'.own hown (htd.filter _)
  exact ⟨a, b⟩

/-- why `serialize_details_spec` needs textual data: an "error" whose data is a tuple makes
    `"ERROR: " + item["error"]` raise `TypeError` (no caller passes one). -/
theorem serialize_details_witness :
    (match (Obs.init 0 none).run [.notify .error ⟨[97], none, none⟩ (.tuple [some [109], none])] >>= serializeDetails with
      | .error e => some e | .ok _ => none) = some .typeError := by
  decide +kernel

/-- raising the quiet level only removes `(file, detail line)` pairs from what `serializeDetails` displays and
    keeps their order (`C10T.displayed`: every details line without its indentation, paired with the "/"-joined
    path of the chain of keys it stands under), and the files displayed at the higher level are a sublist of
    those at the lower level.
    The lines themselves at quiet q' ≥ q are NOT a sublist of the lines at q: the path compression depends on which files
    are present, so key lines and indentation change (`quiet_text_lines_witness`). -/
theorem quiet_text_monotone (q q' : Nat) (hq : q ≤ q') (flt : Option Filter) (h : List Ev) (o1 o2 : Obs)
    (h1 : (Obs.init q flt).run h = .ok o1) (h2 : (Obs.init q' flt).run h = .ok o2) :
    (C10T.displayed o2).Sublist (C10T.displayed o1) ∧
      ((C10T.outline (getContent o2.details 0)).map (fun r => r.1.flatten)).Sublist
        ((C10T.outline (getContent o1.details 0)).map (fun r => r.1.flatten)) := by
  obtain ⟨a, b⟩ := C10T.displayed_mono hq h1 h2
  refine ⟨a, ?_⟩
  simp only [C10T.shownRows, List.map_map] at b
  exact b

/-- `quiet_text_monotone` for the `ObserverList` (what the command prints) at two quiet levels, the project
    observers having the same filters -/
theorem list_quiet_text_monotone (q q' : Nat) (hq : q ≤ q') (obs1 obs2 : List Obs)
    (hf : obs1.map (·.filter) = obs2.map (·.filter)) (h : List Ev) (l1 l2 : ObsList)
    (h1 : (ObsList.init q obs1).run h = .ok l1) (h2 : (ObsList.init q' obs2).run h = .ok l2) :
    (C10T.displayed l2.own).Sublist (C10T.displayed l1.own) := by
  have a := (list_own_as_observer q obs1 h l1 h1).1
  have b := (list_own_as_observer q' obs2 h l2 h2).1
  rw [hf] at a
  exact (quiet_text_monotone q q' hq none _ l1.own l2.own a b).1

/-- the lines themselves are not monotone: with an obsolete entity in `a/b/c` and an error in `a/b/d`,
    quiet 0 prints `a/b`, `  c`, `      -k`, `  d`, `      ERROR: m`, quiet 1 prints `a/b/d`, `    ERROR: m`. -/
theorem quiet_text_lines_witness :
    let h : List Ev := [.notify .obsoleteEntity ⟨[97, 47, 98, 47, 99], none, some [100, 101]⟩ (.str [107]),
                        .notify .error ⟨[97, 47, 98, 47, 100], none, some [100, 101]⟩ (.str [109])]
    let lines (q : Nat) := ((Obs.init q none).run h).toOption.map (fun o => (getContent o.details 0).flatMap C10T.lineOf)
    lines 0 = some [ofString "a/b", ofString "  c", ofString "      -k", ofString "  d", ofString "      ERROR: m"] ∧
    lines 1 = some [ofString "a/b/d", ofString "    ERROR: m"] ∧
    ¬ [ofString "a/b/d", ofString "    ERROR: m"].Sublist
        [ofString "a/b", ofString "  c", ofString "      -k", ofString "  d", ofString "      ERROR: m"] := by
  repeat rw [ofString_ofList]
  decide +kernel

/-- `serializeSummaries()` returns exactly when the list's own summary does not mix a `None` locale with `str`
    locales (`sorted` would raise `TypeError`) and, if it has a locale at all, there is at least one project
    observer (`summaries[-1]` on an empty list would raise `IndexError`); the other cases raise exactly these. -/
theorem summaries_total_iff (l : ObsList) :
    ((∃ t, serializeSummaries l = .ok t) ↔ C10T.SummariesOK l) ∧
      ((∃ p ∈ l.own.summary, p.1 = none) → (∃ p ∈ l.own.summary, p.1 ≠ none) →
        serializeSummaries l = .error .typeError) ∧
      (((∀ p ∈ l.own.summary, p.1 = none) ∨ (∀ p ∈ l.own.summary, p.1 ≠ none)) → l.own.summary ≠ [] →
        l.observers = [] → serializeSummaries l = .error .indexError) :=
  ⟨C10T.serializeSummaries_total_iff l, C10T.serializeSummaries_typeError l,
    fun hloc hne ho => C10T.serializeSummaries_indexError l ho hne hloc⟩

/-- the shape of `serializeSummaries()` where it returns: the "\n"-join of one block per locale of the list's own
    summary, the locales sorted; a block (`C10T.block`, spelled out in `summary_block`) has one column per project
    observer plus, with more than one project, one for the list itself (`C10T.columns`). -/
theorem serialize_summaries_spec (l : ObsList) (hobs : l.observers ≠ [])
    (hloc : (∀ p ∈ l.own.summary, p.1 = none) ∨ (∀ p ∈ l.own.summary, p.1 ≠ none)) :
    ∃ order : List (Option Text × Counters),
      order.Perm l.own.summary ∧ order.Pairwise (fun a b => C10T.locLe a.1 b.1) ∧
      serializeSummaries l = .ok (joinNl (order.flatMap (fun p => C10T.block p.1 (C10T.columns l p.1 p.2)))) :=
  C10T.serializeSummaries_ok l hobs hloc

/-- one block: `locale:` for a non-empty `str` locale; then, in the fixed order errors, warnings, missing, missing_w,
    obsolete, changed, changed_w, unchanged, unchanged_w, keys (no `report`), for every key with a non-zero counter
    in some column the key left-aligned in 12 characters and one `" {:6}"` cell per column (blank for zero or for a
    project that does not know the locale, else the decimal number right-aligned in 7 characters below 10^6);
    then `N% of entries changed` with N = changed*100 / (changed+unchanged+report+missing), rounded down, at most 100,
    0 when nothing was counted, computed from the last column: the list's own counters with more than one
    project, those of the only project otherwise. -/
theorem summary_block (loc : Option Text) (cols : List (Option Counters)) :
    C10T.block loc cols =
        (match loc with | some t => if t ≠ [] then [t ++ [58]] else [] | none => []) ++
        (summaryRows.filter (fun k => cols.any (fun c => C10T.counterOf c k != 0))).map
          (fun k => lead k ++ (cols.map (fun c => cell (c.map (· k)))).flatten) ++
        [natText (C10T.rateOf (cols.getLast?.bind id)) ++ ofString "% of entries changed"] ∧
      summaryRows.map StatKey.name = ["errors", "warnings", "missing", "missing_w", "obsolete", "changed", "changed_w",
        "unchanged", "unchanged_w", "keys"] ∧
      (∀ c, C10T.rateOf c = C10T.counterOf c .changed * 100 /
        (C10T.counterOf c .changed + C10T.counterOf c .unchanged + C10T.counterOf c .report + C10T.counterOf c .missing) ∧
        C10T.rateOf c ≤ 100) ∧
      (∀ (l : ObsList) (loc : Option Text) (own : Counters),
        C10T.columns l loc own = l.observers.map (fun o => (o.summary.find? (·.1 == loc)).map (·.2)) ++
          (if l.observers.length > 1 then [some own] else []) ∧
        (C10T.columns l loc own).getLast?.bind id = (if l.observers.length > 1 then some own
          else l.observers.getLast?.bind (fun o => (o.summary.find? (·.1 == loc)).map (·.2)))) ∧
      (∀ n : Nat, 0 < n → n < 10 ^ 6 → cell (some n) = spaces (7 - (natText n).length) ++ natText n ∧
        (cell (some n)).length = 7 ∧ Nat.ofDigitChars 10 (toString n).toList 0 = n) ∧
      cell (some 0) = spaces 7 ∧ cell none = spaces 7 := by
  refine ⟨rfl, rfl, fun c => ⟨rfl, C10T.rateOf_le c⟩, fun l loc own => ⟨rfl, C10T.columns_last l loc own⟩, ?_, rfl, rfl⟩
  intro n h0 h6
  have hs := C10T.cell_shape (some n)
  simp only [show n ≠ 0 by omega, ↓reduceIte] at hs
  have hl := (C10T.natText_length_le n 6 (by decide)).2 h6
  rcases hs with hs | ⟨hge, _⟩
  · refine ⟨hs, ?_, C10T.ofDigitChars_toString n⟩
    rw [hs]
    simp [spaces]
    omega
  · omega

/-- after any history through a fresh `ObserverList` with at least one project observer, over files whose
    locales are all `str` or all `None`, `serializeSummaries()` returns. -/
theorem summaries_never_raise (q : Nat) (obs : List Obs) (h : List Ev) (l' : ObsList)
    (hr : (ObsList.init q obs).run h = .ok l') (hobs : obs ≠ [])
    (hloc : (∀ ev ∈ h, ev.file.locale = none) ∨ (∀ ev ∈ h, ev.file.locale ≠ none)) :
    ∃ t, serializeSummaries l' = .ok t := by
  obtain ⟨hl, ho⟩ := C10T.list_run_locales hr
  apply (C10T.serializeSummaries_total_iff l').2
  refine ⟨?_, Or.inr (fun e => hobs (ho.1 e))⟩
  rcases hloc with hn | hs
  · left
    intro p hp
    obtain ⟨ev, hev, e⟩ := hl p hp
    rw [← e]; exact hn ev hev
  · right
    intro p hp
    obtain ⟨ev, hev, e⟩ := hl p hp
    rw [← e]; exact hs ev hev

/-- the excluded points of `summaries_never_raise`: without project observers every notification is ignored but
    `updateStats` still counts, and `serializeSummaries` raises `IndexError`; an error for a file without
    locale (a reference file) next to one for a localized file makes it raise `TypeError`. -/
theorem summaries_witness :
    (match (ObsList.init 0 []).run [.stats ⟨[97], none, some [100, 101]⟩ [(.missing, 1)]] >>= serializeSummaries with
      | .error e => some e | .ok _ => none) = some .indexError ∧
    (match (ObsList.init 0 [Obs.init 0 none]).run [.notify .error ⟨[97], none, none⟩ (.str [109]),
        .notify .error ⟨[98], none, some [100, 101]⟩ (.str [109])] >>= serializeSummaries with
      | .error e => some e | .ok _ => none) = some .typeError := by
  constructor <;> decide +kernel

/-- de/a/x (no module), y in module `a` of locale de, fr/z: three files, two sharing the prefix de/a -/
def exFiles : List File :=
  [⟨[100, 101, 47, 97, 47, 120], none, some [100, 101]⟩, ⟨[121], some [97], some [100, 101]⟩,
   ⟨[102, 114, 47, 122], none, some [102, 114]⟩]

/-- a filter that ignores French files and downgrades the key `k` to a warning -/
def exFilter : Filter := fun f d =>
  if f.locale == some [102, 114] then .ignore else if d == .str [107] then .warning else .error

def exHistory : List Ev :=
  match exFiles with
  | [f0, f1, f2] =>
    [.notify .error f0 (.str [109]), .notify .missingEntity f1 (.str [107]), .notify .obsoleteEntity f0 (.str [111]),
     .notify .error f2 (.str [109]), .notify .warning f1 (.str [119]), .stats f0 [(.missing, 2)],
     .notify .missingFile f2 .none, .notify .error f1 (.str [110])]
  | _ => []

/-- the hypotheses of the history theorems hold for a non-trivial history, and the model computes:
    two errors for `de` in the project observer and in the list, none for `fr` (ignored by the only
    project observer, hence by the list), exit status 1 -/
example : (∀ ev ∈ exHistory, Modelled ev.file) ∧ NoErrStats exHistory ∧
    ((ObsList.init 1 [Obs.init 1 (some exFilter)]).run exHistory).toOption.map
      (fun l => (getCount l.own.summary (some [100, 101]) .errors, getCount l.own.summary (some [102, 114]) .errors,
        l.observers.map (fun o => getCount o.summary (some [100, 101]) .errors), exitStatus false l, exitStatus true l))
      = some (2, 0, [2], 1, 0) := by
  refine ⟨?_, ?_, by decide +kernel⟩
  · intro ev hev
    simp only [exHistory, exFiles, List.mem_cons, List.not_mem_nil, or_false] at hev
    rcases hev with rfl | rfl | rfl | rfl | rfl | rfl | rfl | rfl <;> intro m hm hne <;>
      first
      | (simp only [Ev.file] at hm; cases hm; done)
      | exact ⟨[100, 101], rfl, by decide⟩
  · intro ev hev
    simp only [exHistory, exFiles, List.mem_cons, List.not_mem_nil, or_false] at hev
    rcases hev with rfl | rfl | rfl | rfl | rfl | rfl | rfl | rfl <;> simp

/-- the same history: at quiet 1 the obsolete entity is hidden, everything else sits under de/a -/
example : ((Obs.init 1 (some exFilter)).run exHistory).toOption.map (fun o => flatten o.details)
    = some [([[100, 101], [97], [120]], [(.error, .data (.str [109]))]),
            ([[100, 101], [97], [121]], [(.missingEntity, .data (.str [107])), (.warning, .data (.str [119])),
              (.error, .data (.str [110]))])] := by
  decide +kernel

/-- `tree_invariant` needs a non-empty segment list: `Tree.__get([])` on a tree with a branch reads the
    unbound local `i` (UnboundLocalError); `str.split` never produces that input -/
example : (match getMod (.node [([[97]], .node [] none)] none : Tree Nat) [] id with
    | .error e => some e | .ok _ => none) = some .unboundLocal := by decide +kernel

/-- `tojson_paths` needs segments without "/": the keys ("a/b",) and ("a", "b") collide in the JSON dict
    (only reachable through the private `__get`, `split("/")` never produces such segments) -/
example : ((getMod (Tree.empty : Tree Nat) [[97, 47, 98]] (· ++ [0]) >>= (getMod · [[97], [98]] (· ++ [1]))).toOption.map
      (fun t => ((flatten t).length, (toJSON t).leaves.length)) = some (2, 1)) := by decide +kernel

/-- `Modelled`: a `File` with a module but `locale=None` would put `None` into the path -/
example : (match partsOf ⟨[120], some [109], none⟩ with | .error e => some e | .ok _ => none) = some .unmodelled := by
  decide

/-- `list_errors_iff_observers` needs stats without `errors`: the list never filters `updateStats`,
    the project observers do -/
example : ((ObsList.init 0 [Obs.init 0 (some exFilter)]).run
      [.stats ⟨[102, 114, 47, 122], none, some [102, 114]⟩ [(.errors, 1)]]).toOption.map
      (fun l => (totalErrors l.own.summary, l.observers.map (fun o => totalErrors o.summary))) = some (1, [0]) := by
  decide +kernel

/-- the text renderings on the history above (quiet 0, one project observer ignoring `fr`, and a second one without
    filter plus stats for `fr`): the hypotheses of `serialize_details_spec`, `summaries_never_raise` hold and the model
    prints the two files under their shared directory, sorted, and per locale the counted rows and the percentage -/
example : C10T.TextData exHistory ∧ (∀ ev ∈ exHistory, ev.file.locale ≠ none) ∧
    ((ObsList.init 0 [Obs.init 0 (some exFilter)]).run exHistory >>= (fun l => serializeDetails l.own)).toOption
      = some (ofString "de/a\n  x\n      ERROR: m\n      -o\n  y\n      +k\n      WARNING: w\n      ERROR: n") ∧
    ((ObsList.init 0 [Obs.init 0 (some exFilter), Obs.init 0 none]).run
        (exHistory ++ [.stats ⟨[102, 114, 47, 122], none, some [102, 114]⟩ [(.changed, 1), (.unchanged, 2)]])
        >>= serializeSummaries).toOption
      = some (ofString ("de:\nerrors            2      2      2\nwarnings          1      1      1\n" ++
          "missing           2      2      2\n0% of entries changed\nfr:\nerrors                   1      1\n" ++
          "changed                  1      1\nunchanged                2      2\n33% of entries changed")) := by
  refine ⟨?_, ?_, by rw [ofString_ofList]; decide +kernel,
    by rw [ofString_append, ofString_append, ofString_ofList, ofString_ofList, ofString_ofList]; decide +kernel⟩
  · intro cat f d hev
    simp only [exHistory, exFiles, List.mem_cons, List.not_mem_nil, or_false] at hev
    rcases hev with h | h | h | h | h | h | h | h <;> cases h <;> rfl
  · intro ev hev
    simp only [exHistory, exFiles, List.mem_cons, List.not_mem_nil, or_false] at hev
    rcases hev with rfl | rfl | rfl | rfl | rfl | rfl | rfl | rfl <;> simp [Ev.file]

/-- tuple keys (PO): `msgid | msgctxt`, a `None` context is skipped -/
example : ((Obs.init 0 none).run [.notify .missingEntity ⟨[97, 46, 112, 111], none, some [100, 101]⟩ (.tuple [some [105, 100], some [99]]),
      .notify .obsoleteEntity ⟨[97, 46, 112, 111], none, some [100, 101]⟩ (.tuple [some [105, 100], none])] >>= serializeDetails).toOption
    = some (ofString "a.po\n    +id | c\n    -id") := by
  rw [ofString_ofList]
  decide +kernel

/-- `getcontent_spec` on a tree filled in the order b/x, a/y, a (its invariant holds by `tree_invariant`): the walk
    in dict order lists b/x first, `getContent()` shows the interior list of `a` first, then a/y, then b/x -/
example : ((getMod (Tree.empty : Tree Nat) [[98], [120]] (· ++ [0]) >>= (getMod · [[97], [121]] (· ++ [1]))
      >>= (getMod · [[97]] (· ++ [2]))).toOption.map (fun t => ((flatten t).map (·.1), C10T.outline (getContent t 0)))
    = some ([[[98], [120]], [[97]], [[97], [121]]],
            [([[[97]]], [2]), ([[[97]], [[121]]], [1]), ([[[98], [120]]], [0])])) := by
  decide +kernel

/- The orchestration layer: `compareProjects`, `CompareLocales.handle`, `extract_positionals`; model `ProjM`
(CLModel/Compare/Projects.lean).  `World` collects what `compareProjects` reads from outside — the `ProjectFiles` enumeration
per locale, `os.path.exists`, the parsers — as inputs; every theorem below holds for all worlds (all project trees, all file
contents), all project lists, all arguments.  The only contract asked of an input is `C10P.CompareRuns w`: whatever
`ContentComparer.compare` does to the observers behind its `getParser` gate is a sequence of notifications / `updateStats`
calls about the two files it was called for, none of them a `missingFile`/`obsoleteFile`, the stats without an `errors`
entry. -/

open ProjM in
/-- the three-way decision of the loop body is a function of the two `os.path.exists` answers: `add` iff the localized
    file does not exist, otherwise `remove` iff the reference does not exist, otherwise `compare`; with the localized
    file present and no reference path (`None`) `os.path.exists(None)` raises `TypeError`. -/
theorem three_way_decision (w : World) (it : Item) :
    (decide3 w it = some .add ↔ w.pathExists it.l10n = false) ∧
      (decide3 w it = some .remove ↔ w.pathExists it.l10n = true ∧ ∃ r, it.ref = some r ∧ w.pathExists r = false) ∧
      (decide3 w it = some .compare ↔ w.pathExists it.l10n = true ∧ ∃ r, it.ref = some r ∧ w.pathExists r = true) ∧
      (decide3 w it = none ↔ w.pathExists it.l10n = true ∧ it.ref = none) := by
  unfold decide3
  cases hl : w.pathExists it.l10n <;> cases hr : it.ref with
  | none => simp
  | some r => cases hx : w.pathExists r <;> simp [hx]

open ProjM in
/-- EVERY ENUMERATED FILE CAUSES EXACTLY ONE OF add / remove / compare.  When `compareProjects` returns, the
    `ContentComparer` methods it called are, in order, one per tuple of `list(ProjectFiles(locale, …))` for the locales
    in `sorted(all_locales)` — called with the paths, merge path and tests of that tuple — and which method it is
    follows from the two `os.path.exists` answers (`three_way_decision`).  The reference `File` has no locale, both
    `File`s have the same module, and the localized `File` carries the locale of the outer loop — or
    `REFERENCE_LOCALE` when that is `None`. -/
theorem projects_one_call_per_file (w : World) (projects : List Project) (a : Args) (junk : Nat) (st : St)
    (h : compareProjects w projects a junk = .ok st) :
    ∃ locales, sortedLocales (allLocales projects a) = .ok locales ∧
      st.calls.map C10P.Call.item = locales.flatMap (C10P.itemsOf w) ∧
      ∀ c ∈ st.calls, decide3 w (C10P.Call.item c) = some c.kind ∧ c.ref.locale = none ∧ c.ref.module = c.l10n.module ∧
        ∃ loc ∈ locales, c.l10n.locale = some (localeAfter loc) := by
  obtain ⟨locales, hs, c2, c3, _⟩ := C10P.compareProjects_ok h
  refine ⟨locales, hs, c2, fun c hc => ?_⟩
  obtain ⟨loc, hl, ⟨k, l, r, m⟩, _⟩ := c3 c hc
  exact ⟨k, r, m, loc, hl, l⟩

open ProjM in
/-- PER-FILE INDEPENDENCE OF THE CALLS.  Every call of a run is `mkCall` of ITS OWN tuple: the two `File` objects —
    `module`, the path `fpath` relative to the l10n base or to the prefix of the first matcher that matches THIS
    localized path —, the merge path, the tests and the method are a function of that tuple, of the matchers of the
    `ProjectFiles` object of its locale, of the locale and of the two `os.path.exists` answers; nothing carries over
    from the files handled before it (`module = None` is reset at the top of the loop body; the one variable that
    does carry over, `locale`, changes once, from `None` to `REFERENCE_LOCALE`). -/
theorem projects_calls_per_file (w : World) (projects : List Project) (a : Args) (junk : Nat) (st : St)
    (h : compareProjects w projects a junk = .ok st) :
    ∀ c ∈ st.calls, ∃ loc files, w.projectFiles loc = .ok files ∧
      mkCall w a.l10nBaseDir files (localeAfter loc) (C10P.Call.item c) = .ok c := by
  obtain ⟨_, _, _, c3, _⟩ := C10P.compareProjects_ok h
  intro c hc
  obtain ⟨loc, _, _, files, hf, hm⟩ := c3 c hc
  exact ⟨loc, files, hf, hm⟩

open ProjM in
/-- `compareProjects` REFINES A HISTORY.  Everything it does to the observers is `ObserverList.run` of one sequence of
    events on the list `ObserverList(quiet)` + one `Observer(quiet, filter)` per project: the concatenation, call by
    call, of
    * `remove`: the one notification `obsoleteFile` for the localized `File`;
    * `add`: `missingFile` for the localized `File`, then — unless every project filter ignores it or there is no
      parser — `updateStats(l10n, {"missing": n})`, `updateStats(l10n, {"missing_w": w})` for the reference's n
      entities / w words, or one `error` for the reference `File` if reading it failed (`C10P.addEvents`);
    * `compare`: events about its two files (`C10P.CompareRuns`).
    Hence every project observer ends as if it alone had been fed that whole history (`list_own_as_observer`), and
    every theorem above about histories applies to a run of `compareProjects`. -/
theorem projects_refine_history (w : World) (hw : C10P.CompareRuns w) (projects : List Project) (a : Args) (junk : Nat)
    (st : St) (h : compareProjects w projects a junk = .ok st) :
    ∃ tr : C10P.Trace, st.calls = tr.map (·.1) ∧
      (ObsList.init a.quiet (mkObservers projects a)).run (tr.flatMap (·.2)) = .ok st.obs ∧
      (∀ p ∈ tr, C10P.CallSpec w ((mkObservers projects a).map (·.filter)) p.1 p.2) ∧
      (∀ p ∈ tr, ∀ ev ∈ p.2, ev.file = p.1.l10n ∨ ev.file = p.1.ref) ∧
      All₂ (fun o o' => o.run (tr.flatMap (·.2)) = .ok o') (mkObservers projects a) st.obs.observers := by
  obtain ⟨_, _, _, _, hr⟩ := C10P.compareProjects_ok h
  obtain ⟨tr, e, t2, t3⟩ := C10P.runCalls_run hw hr
  exact ⟨tr, e.symm, t2, t3, fun p hp => C10P.callSpec_files (t3 p hp),
    (list_own_as_observer a.quiet (mkObservers projects a) _ st.obs t2).2⟩

/-- EACH MISSING FILE / OBSOLETE FILE EVENT EXACTLY ONCE.  In the history of a run the `missingFile` / `obsoleteFile`
    notifications are exactly: one `missingFile` for the localized `File` of every `add` call, one `obsoleteFile` for that
    of every `remove` call, in call order, none from `compare` — so by `projects_one_call_per_file` one per enumerated
    tuple whose localized file (resp. reference file) does not exist, and by `projects_refine_history` /
    `list_fanout` each of them is handed to every project observer exactly once (and counted by the list iff not all
    ignore it). -/
theorem projects_file_events_once (w : ProjM.World) (flts : List (Option Filter)) (tr : C10P.Trace)
    (h : ∀ p ∈ tr, C10P.CallSpec w flts p.1 p.2) :
    (tr.flatMap (·.2)).filter C10P.isFileEv = tr.filterMap (fun p => C10P.fileEvOf p.1) ∧
      (∀ c, C10P.fileEvOf c = match c.kind with
        | .add => some (.notify .missingFile c.l10n .none)
        | .remove => some (.notify .obsoleteFile c.l10n .none)
        | .compare => none) :=
  ⟨C10P.trace_fileEvents tr h, fun _ => rfl⟩

open ProjM in
/-- THE SUMMARIES OF A RUN.  After `compareProjects` every number of the union observer's summary (the `ObserverList`
    itself) is the count, over the history of the run, of the `error`/`warning` notifications not ignored by all project
    filters plus ALL stats for that locale and key; every number of a project observer is the same count with its own
    filter — the filter of its project, or none in validation mode (`C10P.filtersOf`).  (`summary_counts`,
    `list_summary_counts` instantiated with the history of `projects_refine_history`.) -/
theorem projects_summary_counts (w : World) (hw : C10P.CompareRuns w) (projects : List Project) (a : Args) (junk : Nat)
    (st : St) (h : compareProjects w projects a junk = .ok st) :
    ∃ hist : List Ev, (ObsList.init a.quiet (mkObservers projects a)).run hist = .ok st.obs ∧
      (∀ loc key, getCount st.obs.own.summary loc key = countSpec (ignList (C10P.filtersOf projects a)) loc key hist) ∧
      All₂ (fun flt o' => ∀ loc key, getCount o'.summary loc key = countSpec (ignObs flt) loc key hist)
        (C10P.filtersOf projects a) st.obs.observers := by
  obtain ⟨tr, _, t2, _, _, t5⟩ := projects_refine_history w hw projects a junk st h
  refine ⟨_, t2, fun loc key => ?_, ?_⟩
  · rw [list_summary_counts a.quiet _ _ st.obs t2 loc key, C10P.mkObservers_filters]
  · rw [C10P.mkObservers_eq] at t5
    exact All₂.imp (fun flt o' hr loc key => summary_counts a.quiet flt _ o' hr loc key) (All₂.of_map_left _ t5)

open ProjM in
/-- EXIT STATUS END TO END.  Whenever `CompareLocales.handle` returns (no `SystemExit`, no exception), the value it
    returns is 1 iff `return_zero` is off and the union observer has counted at least one error during the run of
    `compareProjects` — equivalently at least one project observer has, so the JSON output (project observers) and the
    exit status agree — and it is 0 otherwise.  For every world whose `compare` keeps the contract `C10P.CompareRuns`
    (in particular: no `errors` entry in its stats, the excluded point of `exit_iff_errors`). -/
theorem handle_exit_iff (hw : HWorld) (h : HArgs)
    (hcr : ∀ cfgs env full locs projects w, hw.loadConfigs cfgs env full locs = .ok (projects, w) → C10P.CompareRuns w)
    (rv : Nat) (hret : (handle hw h).outcome = .returned rv) :
    ∃ st, (handle hw h).final = some st ∧
      (rv = 1 ↔ h.returnZero = false ∧ 0 < totalErrors st.obs.own.summary) ∧
      (0 < totalErrors st.obs.own.summary ↔ ∃ o ∈ st.obs.observers, 0 < totalErrors o.summary) ∧
      (rv = 0 ∨ rv = 1) ∧
      (st.obs.own.error = true ↔ 0 < totalErrors st.obs.own.summary) ∧
      (∀ o ∈ st.obs.observers, (o.error = true ↔ 0 < totalErrors o.summary)) ∧
      rv = C10F.exitVia C10F.readOwn h.returnZero st.obs ∧ rv = C10F.exitVia C10F.readAny h.returnZero st.obs := by
  obtain ⟨cfgs, base, locales, projects, w, st, _, hload, hcp, heq⟩ := C10P.handle_returned hret
  rw [heq] at hret ⊢
  obtain ⟨r1, r2, _, _⟩ := C10P.report_returned hret
  have hw' := hcr _ _ _ _ _ _ hload
  obtain ⟨tr, _, t2, t3, _, _⟩ := projects_refine_history w hw' projects _ hw.junk st hcp
  have hn : NoErrStats (tr.flatMap (·.2)) := C10P.trace_noErrStats tr t3
  have t2' := t2
  rw [C10P.mkObservers_eq] at t2'
  obtain ⟨_, e2, _, _⟩ := exit_reader_independent _ _ _ st.obs h.returnZero t2' hn
  have hinit : ∀ o ∈ mkObservers projects
      { locales := locales, l10nBaseDir := base, mergeStage := h.merge, clobberMerge := h.clobber, quiet := h.quiet },
      C10F.FlagIffCounted o := by
    intro o ho
    rw [C10P.mkObservers_eq] at ho
    obtain ⟨flt, _, rfl⟩ := List.mem_map.1 ho
    exact C10F.flagIffCounted_init _ flt
  obtain ⟨f1, f2⟩ := list_flags_iff_counted _ _ _ st.obs t2 hn.pos hinit
  refine ⟨st, r2, ?_, ?_, ?_, f1, f2, ?_, ?_⟩
  · rw [r1]
    exact exit_iff_errors _ _ _ st.obs h.returnZero t2 hn.pos
  · exact list_errors_iff_observers _ _ _ st.obs t2' hn
  · rw [r1]
    simp only [exitStatus]
    split <;> simp
  · rw [r1]; rfl
  · rw [r1]
    simp only [C10F.exitVia, ← e2]
    rfl

open ProjM in
/-- WHAT `handle` PRINTS AND DUMPS.  Whenever `handle` returns: with `--json -` nothing is printed after the lines
    `compareProjects` printed (merge / clobber messages); otherwise, after those lines, `print(details)` iff the details
    text is not empty, then IFF THERE IS MORE THAN ONE CONFIG a blank line (only after details), `Summaries for`, one
    line `  <config path>` per config file in command line order and the line about the union, then
    `print(observers.serializeSummaries())` (`ProjM.headBlocks`, spelled out in the last clause).  With `--json` the data
    is one `toJSON()` — summary and details — per PROJECT observer, in project order, to stdout iff the value is `-`. -/
theorem handle_report_blocks (hw : HWorld) (h : HArgs) (rv : Nat) (hret : (handle hw h).outcome = .returned rv) :
    ∃ cfgs base locales projects w st,
      extractPositionals hw.fs hw.cwd h.validate h.configPaths h.l10nBaseDir h.locales = .ok (cfgs, base, locales) ∧
      hw.loadConfigs cfgs (configEnv base h.defines) h.full locales = .ok (projects, w) ∧
      (handle hw h).final = some st ∧
      (handle hw h).json = (match h.json with
        | some j => some (j == Gen.Cmd.jsonStdout,
            st.obs.observers.map (fun o => ({ summary := o.summary, details := toJSON o.details } : ObsJson)))
        | none => none) ∧
      ((h.json = some Gen.Cmd.jsonStdout ∧ (handle hw h).stdout = st.out) ∨
       (h.json ≠ some Gen.Cmd.jsonStdout ∧ ∃ details summaries, serializeDetails st.obs.own = .ok details ∧
          serializeSummaries st.obs = .ok summaries ∧
          (handle hw h).stdout = st.out ++ headBlocks cfgs projects.length details ++ [summaries])) ∧
      (∀ (cfgs : List Text) (n : Nat) (details : Text), headBlocks cfgs n details =
        (if details ≠ [] then [details] else []) ++
        (if n > 1 then (if details ≠ [] then [Gen.Cmd.blankLine] else []) ++ [Gen.Cmd.summariesFor] ++
            cfgs.map (Gen.Cmd.configIndent ++ ·) ++ [Gen.Cmd.unionLine] else [])) := by
  obtain ⟨cfgs, base, locales, projects, w, st, hpos, hload, _, heq⟩ := C10P.handle_returned hret
  rw [heq] at hret ⊢
  obtain ⟨_, r2, r3, r4⟩ := C10P.report_returned hret
  refine ⟨cfgs, base, locales, projects, w, st, hpos, hload, r2, r3, r4, ?_⟩
  intro cfgs n details
  unfold headBlocks
  cases details <;> simp

open ProjM in
/-- VALIDATION MODE.  If `None in locales` (what `--validate` passes: `[None]`) and `compareProjects` returns, then
    `locales` holds nothing but `None` (a `str` next to it makes `sorted` raise `TypeError`), the filter of EVERY project
    observer is disabled, and the locale every localized `File` displays — in details paths of files with a module, in
    the summaries — is `REFERENCE_LOCALE` (the loop variable `locale` is re-assigned inside the inner loop, once, and
    stays).  Otherwise every project observer filters with its project's `filter` and every localized `File` carries
    one of the locales of `all_locales`. -/
theorem projects_validation (w : World) (projects : List Project) (a : Args) (junk : Nat) (st : St)
    (h : compareProjects w projects a junk = .ok st) :
    (none ∈ a.locales →
      (∀ x ∈ a.locales, x = none) ∧ (mkObservers projects a).map (·.filter) = projects.map (fun _ => none) ∧
      ∀ c ∈ st.calls, c.l10n.locale = some Gen.Cmd.referenceLocale) ∧
    (none ∉ a.locales →
      (mkObservers projects a).map (·.filter) = projects.map (fun p => some p.filter) ∧
      ∀ c ∈ st.calls, ∃ l, some l ∈ allLocales projects a ∧ c.l10n.locale = some l) := by
  obtain ⟨locales, hs, _, hc⟩ := projects_one_call_per_file w projects a junk st h
  rw [C10P.mkObservers_filters]
  constructor
  · intro hv
    have hcont : a.locales.contains none = true := by simpa using hv
    rcases C10P.sortedLocales_ok hs with ⟨hn, _⟩ | ⟨_, hall, hsorted⟩
    · exact absurd (by simp [allLocales, hv]) hn
    · refine ⟨fun x hx => hall x (by simp [allLocales, hx]), by simp [C10P.filtersOf, hv], ?_⟩
      intro c hc'
      obtain ⟨_, _, _, loc, hl, e⟩ := hc c hc'
      rw [hsorted] at hl
      simp only [List.mem_singleton] at hl
      subst hl
      exact e
  · intro hv
    have hcont : a.locales.contains none = false := by simpa using hv
    refine ⟨by simp [C10P.filtersOf, hv], ?_⟩
    intro c hc'
    obtain ⟨_, _, _, loc, hl, e⟩ := hc c hc'
    rcases C10P.sortedLocales_ok hs with ⟨_, hsorted⟩ | ⟨hn, hall, _⟩
    · rw [hsorted] at hl
      obtain ⟨t, ht, rfl⟩ := List.mem_map.1 hl
      have := (C10P.mem_sortedSet _ t).1 ht
      simp only [List.mem_filterMap, id] at this
      obtain ⟨x, hx, rfl⟩ := this
      exact ⟨t, hx, e⟩
    · exfalso
      apply hv
      have : none ∈ allLocales projects a := hn
      simp only [allLocales, List.mem_append] at this
      rcases this with h1 | h2
      · exact h1
      · split at h2
        · simp at h2
        · cases h2

open ProjM in
/-- INDEPENDENT OF THE ORDER OF THE `locales` ARGUMENT.  Two argument lists with the same members — any order, any
    repetitions — give the same result: observers, printed lines, calls, junk counter, or the same exception
    (`all_locales` is a set, iterated in `sorted` order; `None in locales` and `not locales` only ask for membership). -/
theorem projects_locale_order (w : World) (projects : List Project) (a a' : Args) (junk : Nat)
    (hm : ∀ x, x ∈ a.locales ↔ x ∈ a'.locales)
    (hrest : a.l10nBaseDir = a'.l10nBaseDir ∧ a.mergeStage = a'.mergeStage ∧ a.clobberMerge = a'.clobberMerge ∧
      a.quiet = a'.quiet) :
    compareProjects w projects a junk = compareProjects w projects a' junk := by
  obtain ⟨a_loc, a_base, a_merge, a_cl, a_q⟩ := a
  obtain ⟨b_loc, b_base, b_merge, b_cl, b_q⟩ := a'
  simp only at hm hrest
  obtain ⟨rfl, rfl, rfl, rfl⟩ := hrest
  have hcont : a_loc.contains none = b_loc.contains none := by
    rw [Bool.eq_iff_iff]; simp [hm none]
  have hemp : a_loc.isEmpty = b_loc.isEmpty := C10P.isEmpty_congr hm
  have hobs : mkObservers projects ⟨a_loc, a_base, a_merge, a_cl, a_q⟩ = mkObservers projects ⟨b_loc, a_base, a_merge, a_cl, a_q⟩ := by
    simp only [mkObservers, hcont]
  have hsort : sortedLocales (allLocales projects ⟨a_loc, a_base, a_merge, a_cl, a_q⟩)
      = sortedLocales (allLocales projects ⟨b_loc, a_base, a_merge, a_cl, a_q⟩) := by
    apply C10P.sortedLocales_congr
    intro x
    simp only [allLocales, List.mem_append, hemp, hm x]
  have hloop : ∀ ls st, localeLoop w ⟨a_loc, a_base, a_merge, a_cl, a_q⟩ ls st = localeLoop w ⟨b_loc, a_base, a_merge, a_cl, a_q⟩ ls st := by
    intro ls
    induction ls with
    | nil => intro st; rfl
    | cons l rest ih =>
      intro st
      simp only [localeLoop]
      cases w.projectFiles l with
      | error e => rfl
      | ok files =>
        simp only
        have hc : clobber ⟨a_loc, a_base, a_merge, a_cl, a_q⟩ files st = clobber ⟨b_loc, a_base, a_merge, a_cl, a_q⟩ files st := rfl
        rw [hc]
        cases clobber ⟨b_loc, a_base, a_merge, a_cl, a_q⟩ files st with
        | error e => rfl
        | ok st1 =>
          simp only
          cases itemLoop w a_base files files.items (l, st1) with
          | error e => rfl
          | ok p => exact ih _
  unfold compareProjects
  simp only [hobs, hsort]
  split
  · rfl
  · exact hloop _ _

open ProjM in
/-- `extract_positionals` SPLITS AT THE FIRST DIRECTORY.  If it returns `(config_paths, l10n_base_dir, locales)`, the
    arguments `config_paths + [l10n_base_dir] + locales` as argparse delivered them are `configs ++ [dir] ++ rest` where no
    element of `configs` is a directory, every one is an existing file, `dir` is a directory — the FIRST one —,
    `configs` is not empty, the base is `abspath(dir)`, and the locales are `rest`, or `[None]` with `--validate`
    (whatever `rest` is).  Otherwise it ends in `parser.error`: "no configuration file given" iff the first argument
    is a directory, else "config file … not found" for the first non-file before the first directory, else
    "l10n-base-dir not found" iff no argument is a directory. -/
theorem extract_positionals_spec (fs : ArgFs) (cwd : Path) (validate : Bool) (configPaths : List Text)
    (l10nBaseDir : Text) (locales : List Text) :
    (∀ cfgs base locs, extractPositionals fs cwd validate configPaths l10nBaseDir locales = .ok (cfgs, base, locs) →
      ∃ dir rest, configPaths ++ [l10nBaseDir] ++ locales = cfgs ++ dir :: rest ∧ cfgs ≠ [] ∧
        (∀ c ∈ cfgs, fs.isdir c = false ∧ fs.isfile c = true) ∧
        fs.isdir dir = true ∧ base = abspath cwd dir ∧ locs = (if validate then [none] else rest.map some)) ∧
    (∀ msg, extractPositionals fs cwd validate configPaths l10nBaseDir locales = .error msg →
      (msg = fill Gen.Cmd.errNoConfig [] ∧ ∃ x xs, configPaths ++ [l10nBaseDir] ++ locales = x :: xs ∧ fs.isdir x = true) ∨
      (∃ cf ∈ (configPaths ++ [l10nBaseDir] ++ locales).takeWhile (fun x => !fs.isdir x),
        fs.isfile cf = false ∧ msg = fill Gen.Cmd.errConfigNotFound cf) ∨
      (msg = fill Gen.Cmd.errNoBase [] ∧ ∀ x ∈ configPaths ++ [l10nBaseDir] ++ locales, fs.isdir x = false)) :=
  ⟨fun _ _ _ h => C10P.extract_ok h, fun _ h => C10P.extract_err h⟩

/- The composed model: orchestration + the pipeline model of `ContentComparer.compare` (C05).  `ProjPipe.worldOf`
(CLModel/Compare/ProjectsPipe.lean) is the world the driver operation `c10.handle` runs and the correspondence diffs against
the real `CompareLocales.handle`: `compare` behind its `getParser` gate is `Pipe.compareParsed` on the parsed contents of the
two files.  For it the contract `CompareRuns` is a theorem, so the theorems above hold for it without any assumption on
`compare`.  The external functions of the pipeline model (`Pipe.Ext`) are a parameter of the world; every theorem here holds
for all `ext`. -/

/-- the composed pipeline model of `ContentComparer.compare` keeps the contract: its effect on the observers is a run of
    `error`/`warning`/`missingEntity`/`obsoleteEntity` notifications for the localized file and one `updateStats` without an
    `errors` entry (or the single `error` of a failed `readFile`, for that file) — for ALL file contents -/
theorem composed_world_contract (ext : Pipe.Ext) (cwd : ProjM.Path)
    (enums : List (Option Text × Except ProjM.PyErr ProjM.Files))
    (existing : List ProjM.Path) (md : List (ProjM.Path × Text)) (cs : List (ProjM.Path × ProjPipe.Content)) :
    C10P.CompareRuns (ProjPipe.worldOf ext cwd enums existing md cs) :=
  fun c junk l r h => C10P.compareBodyOf_runs ext cs md c junk l r h

open ProjM in
/-- EXIT STATUS END TO END for the composed model (no assumption on `compare`): from the command line and the file
    contents to the value `handle` returns — 1 iff `return_zero` is off and an error was counted by the union observer,
    iff by some project observer. -/
theorem composed_exit_iff (hw : HWorld) (h : HArgs)
    (hcomp : ∀ cfgs env full locs projects w, hw.loadConfigs cfgs env full locs = .ok (projects, w) →
      ∃ ext cwd enums existing md cs, w = ProjPipe.worldOf ext cwd enums existing md cs)
    (rv : Nat) (hret : (handle hw h).outcome = .returned rv) :
    ∃ st, (handle hw h).final = some st ∧
      (rv = 1 ↔ h.returnZero = false ∧ 0 < totalErrors st.obs.own.summary) ∧
      (0 < totalErrors st.obs.own.summary ↔ ∃ o ∈ st.obs.observers, 0 < totalErrors o.summary) ∧
      (rv = 0 ∨ rv = 1) ∧
      (st.obs.own.error = true ↔ 0 < totalErrors st.obs.own.summary) ∧
      (∀ o ∈ st.obs.observers, (o.error = true ↔ 0 < totalErrors o.summary)) ∧
      rv = C10F.exitVia C10F.readOwn h.returnZero st.obs ∧ rv = C10F.exitVia C10F.readAny h.returnZero st.obs := by
  apply handle_exit_iff hw h _ rv hret
  intro cfgs env full locs projects w hl
  obtain ⟨ext, cwd, enums, existing, md, cs, rfl⟩ := hcomp cfgs env full locs projects w hl
  exact composed_world_contract ext cwd enums existing md cs

open ProjM in
/-- the run of the composed model refines a history (`projects_refine_history` without its hypothesis) -/
theorem composed_refine_history (ext : Pipe.Ext) (cwd : Path) (enums : List (Option Text × Except ProjM.PyErr Files))
    (existing : List Path) (md : List (Path × Text)) (cs : List (Path × ProjPipe.Content))
    (projects : List Project) (a : Args) (junk : Nat) (st : St)
    (h : compareProjects (ProjPipe.worldOf ext cwd enums existing md cs) projects a junk = .ok st) :
    ∃ tr : C10P.Trace, st.calls = tr.map (·.1) ∧
      (ObsList.init a.quiet (mkObservers projects a)).run (tr.flatMap (·.2)) = .ok st.obs ∧
      (tr.flatMap (·.2)).filter C10P.isFileEv = tr.filterMap (fun p => C10P.fileEvOf p.1) ∧
      NoErrStats (tr.flatMap (·.2)) := by
  obtain ⟨tr, t1, t2, t3, _, _⟩ :=
    projects_refine_history _ (composed_world_contract ext cwd enums existing md cs) projects a junk st h
  exact ⟨tr, t1, t2, C10P.trace_fileEvents tr t3, C10P.trace_noErrStats tr t3⟩

open ProjM in
/-- QUIET HIDES ONLY DETAILS, END TO END.  Two runs of `compareProjects` that differ in the quiet level only (`q ≤ q'`)
    make the same `ContentComparer` calls, print the same lines and spend the same junk ids; every summary number and
    the error flag of the union observer and of every project observer coincide — hence the exit status —, and per
    path the details at the higher level are a sublist of those at the lower level.  The control flow of the whole run
    (which entity is "missing" and which merely "reported", whether a missing file is counted) only ever looks at
    return values of `notify`, and these are functions of the project filters.
    For every world whose `compare` has that property (`C10P.CompareSync`: started on two observer lists with the same
    filters it raises the same events); `composed_world_quiet_blind` proves it for the composed pipeline model. -/
theorem projects_quiet_hides_only_details (w : World) (hw : C10P.CompareSync w) (projects : List Project) (a : Args)
    (q q' : Nat) (hq : q ≤ q') (junk : Nat) (st1 st2 : St)
    (h1 : compareProjects w projects { a with quiet := q } junk = .ok st1)
    (h2 : compareProjects w projects { a with quiet := q' } junk = .ok st2) :
    st1.calls = st2.calls ∧ st1.out = st2.out ∧ st1.junk = st2.junk ∧
      st1.obs.own.summary = st2.obs.own.summary ∧ st1.obs.own.error = st2.obs.own.error ∧
      (∀ rz, exitStatus rz st1.obs = exitStatus rz st2.obs) ∧
      (∀ p, ((find st2.obs.own.details p).getD []).Sublist ((find st1.obs.own.details p).getD [])) ∧
      All₂ (fun o1 o2 => o1.summary = o2.summary ∧ o1.error = o2.error ∧
          ∀ p, ((find o2.details p).getD []).Sublist ((find o1.details p).getD []))
        st1.obs.observers st2.obs.observers := by
  obtain ⟨hsim, evs, r1, r2⟩ := C10P.compareProjects_sync hw projects a q q' junk st1 st2 h1 h2
  obtain ⟨o1, a1⟩ := list_own_as_observer q _ evs st1.obs r1
  obtain ⟨o2, a2⟩ := list_own_as_observer q' _ evs st2.obs r2
  have hfl : ((C10P.filtersOf projects a).map (Obs.init q)).map (·.filter)
      = ((C10P.filtersOf projects a).map (Obs.init q')).map (·.filter) := by
    simp only [List.map_map]
    apply List.map_congr_left
    intro x _
    rfl
  rw [hfl] at o1
  obtain ⟨s1, s2⟩ := quiet_summary_inv q q' none _ _ _ o1 o2
  refine ⟨hsim.calls, hsim.out, hsim.junk, s1, s2, ?_, ?_, ?_⟩
  · intro rz
    simp only [exitStatus, s2]
  · intro p
    exact quiet_monotone q q' hq none _ _ _ o1 o2 p
  · have b1 := All₂.of_map_left _ a1
    have b2 := All₂.of_map_left _ a2
    apply All₂.imp _ (All₂.join b1 b2)
    rintro x y ⟨flt, hx, hy⟩
    obtain ⟨t1, t2⟩ := quiet_summary_inv q q' flt _ _ _ hx hy
    exact ⟨t1, t2, fun p => quiet_monotone q q' hq flt _ _ _ hx hy p⟩

/-- the composed pipeline model of `ContentComparer.compare` is blind to the quiet level: on two observer lists with the
    same project filters it raises the same events, prints the same lines, spends the same junk ids — for ALL file
    contents.  So `projects_quiet_hides_only_details` holds for the composed model without assumption. -/
theorem composed_world_quiet_blind (ext : Pipe.Ext) (cwd : ProjM.Path)
    (enums : List (Option Text × Except ProjM.PyErr ProjM.Files))
    (existing : List ProjM.Path) (md : List (ProjM.Path × Text)) (cs : List (ProjM.Path × ProjPipe.Content)) :
    C10P.CompareSync (ProjPipe.worldOf ext cwd enums existing md cs) :=
  fun c junk l1 l2 r1 r2 hs h1 h2 => C10P.compareBodyOf_sync ext cs md c junk l1 l2 r1 r2 hs h1 h2

section ProjectsExamples
open ProjM

/-- `/l/de/a` + `/r/a` (both exist: compare), `/l/de/gone` (no reference: remove), `/r/new` (not localized: add);
    nothing for `fr` -/
def exEnum : Option Text → Except ProjM.PyErr Files
  | some [100, 101] => .ok {
      matchers := [{ l10nMatch := fun _ => true, l10nPrefix := ofString "/l/de/", module := none, hasMerge := false }],
      items := [{ l10n := ofString "/l/de/a", ref := some (ofString "/r/a"), merge := none, tests := [] },
                { l10n := ofString "/l/de/gone", ref := some (ofString "/r/gone"), merge := none, tests := [] },
                { l10n := ofString "/l/de/new", ref := some (ofString "/r/new"), merge := none, tests := [] }] }
  | _ => .ok { matchers := [], items := [] }

/-- a world whose `compare` reports two changed strings per file and whose reference files have 3 entities / 5 words -/
def exWorld : World where
  cwd := [47]
  projectFiles := exEnum
  pathExists := fun p => [ofString "/l/de/a", ofString "/r/a", ofString "/l/de/gone", ofString "/r/new"].contains p
  parserCaps := fun _ => some 6
  parseRef := fun _ _ j => (.ok (3, 5), j)
  compareBody := fun c j l => .ok (l.updateStats c.l10n [(.changed, 2)], [], j)
  makeMergeDir := fun _ => none

/-- a project that knows `de` and `fr` and ignores the file `de/new` -/
def exProject : Project where
  filter := fun f _ => if f.file == ofString "de/new" then .ignore else .error
  allLocales := [[102, 114], [100, 101]]

/-- the contract `CompareRuns` is satisfiable (and holds for `exWorld`) -/
example : C10P.CompareRuns exWorld := by
  intro c junk l r h
  simp only [exWorld, Except.ok.injEq] at h
  subst h
  refine ⟨[.stats c.l10n [(.changed, 2)]], ObsList.stats_run _ _ _, ?_, ?_⟩
  · intro ev hev
    simp only [List.mem_singleton] at hev
    subst hev
    exact ⟨Or.inl rfl, rfl⟩
  · intro ev hev
    simp only [List.mem_singleton] at hev
    subst hev
    intro kv hkv
    simp only [List.mem_singleton] at hkv
    subst hkv
    decide

/-- the model computes on it: locales sorted (`de` before `fr`), one call per enumerated file with the method the two
    `exists` answers dictate, paths relative to the l10n base, and — with one unfiltered and one filtering project —
    `missing` counted by the union and the first observer only (the second ignores `de/new`), `changed` by all -/
example :
    let r := compareProjects exWorld [{ exProject with filter := fun _ _ => .error }, exProject]
      { locales := [], l10nBaseDir := ofString "/l" }
    r.toOption.map (fun st => st.calls.map (fun c => (c.kind, c.l10n.file, c.l10n.locale)))
      = some [(.compare, ofString "de/a", some [100, 101]), (.remove, ofString "de/gone", some [100, 101]),
              (.add, ofString "de/new", some [100, 101])] ∧
    r.toOption.map (fun st => [getCount st.obs.own.summary (some [100, 101]) .missing,
        getCount st.obs.own.summary (some [100, 101]) .changed]) = some [3, 2] ∧
    r.toOption.map (fun st => st.obs.observers.map (fun o => [getCount o.summary (some [100, 101]) .missing,
        getCount o.summary (some [100, 101]) .changed])) = some [[3, 2], [0, 2]] := by
  decide +kernel

/-- validation mode on the same world: the enumeration of `None`, the displayed locale is `REFERENCE_LOCALE` -/
example :
    let r := compareProjects { exWorld with projectFiles := fun
        | none => .ok { matchers := [], items := [{ l10n := ofString "/r/a", ref := some (ofString "/r/a"), merge := none, tests := [] },
                                                  { l10n := ofString "/r/new", ref := some (ofString "/r/new"), merge := none, tests := [] }] }
        | some _ => .error (.external "unexpected") } [exProject]
      { locales := [none], l10nBaseDir := ofString "/l" }
    r.toOption.map (fun st => st.calls.map (fun c => (c.kind, c.l10n.file, c.l10n.locale)))
      = some [(.compare, ofString "../r/a", some Gen.Cmd.referenceLocale), (.compare, ofString "../r/new", some Gen.Cmd.referenceLocale)] ∧
    r.toOption.map (fun st => st.obs.observers.map (·.filter.isSome)) = some [false] := by
  decide +kernel

/-- a path rule with a `module` (legacy l10n.ini) before a plain one: the module file is keyed by its path below the
    matcher prefix and carries the module, the plain file after it carries NO module and its path below the l10n base -/
example :
    let r := compareProjects { exWorld with
        projectFiles := fun _ => .ok {
          matchers := [{ l10nMatch := fun p => (ofString "/l/de/app/").isPrefixOf p, l10nPrefix := ofString "/l/de/app/",
                         module := some (ofString "app"), hasMerge := false },
                       { l10nMatch := fun p => (ofString "/l/de/zother/").isPrefixOf p, l10nPrefix := ofString "/l/de/zother/",
                         module := none, hasMerge := false }],
          items := [{ l10n := ofString "/l/de/app/a", ref := some (ofString "/r/a"), merge := none, tests := [] },
                    { l10n := ofString "/l/de/zother/b", ref := some (ofString "/r/a"), merge := none, tests := [] }] }
        pathExists := fun _ => true } [exProject] { locales := [some [100, 101]], l10nBaseDir := ofString "/l" }
    r.toOption.map (fun st => st.calls.map (fun c => (c.l10n.module, c.l10n.file)))
      = some [(some (ofString "app"), ofString "a"), (none, ofString "de/zother/b")] := by
  repeat rw [ofString_ofList]
  decide +kernel

/-- `None` next to a `str` in `locales`: `sorted` raises `TypeError` (the excluded case of `projects_validation`) -/
example : (match compareProjects exWorld [exProject] { locales := [none, some [100, 101]], l10nBaseDir := ofString "/l" } with
    | .error (e, _) => some e | .ok _ => none) = some .typeError := by decide +kernel

/-- a localized file without reference path (a path rule without `reference`): `os.path.exists(None)` raises -/
example : (match compareProjects { exWorld with projectFiles := fun _ => .ok { matchers := [], items :=
        [{ l10n := ofString "/l/de/a", ref := none, merge := none, tests := [] }] } } [exProject]
      { locales := [some [100, 101]], l10nBaseDir := ofString "/l" } with
    | .error (e, _) => some e | .ok _ => none) = some .typeError := by decide +kernel

/-- `--clobber-merge` with a merge stage: `{_m.get("merge") for _m in files.matchers}` hashes a `Matcher` — `TypeError`
    before anything is compared -/
example : (match compareProjects { exWorld with projectFiles := fun _ => .ok { matchers :=
        [{ l10nMatch := fun _ => true, l10nPrefix := ofString "/l/de/", module := none, hasMerge := true }], items := [] } }
      [exProject] { locales := [some [100, 101]], l10nBaseDir := ofString "/l", mergeStage := some (ofString "/m"),
                    clobberMerge := true } with
    | .error (e, _) => some e | .ok _ => none) = some .typeError := by decide +kernel

/-- why `projects_file_events_once` / `projects_refine_history` ask for `CompareRuns`: a `compare` that itself raised a
    `missingFile` notification would put a second kind of file event into the history — here the only call is a
    `compare`, yet the details show a missing file -/
example : (compareProjects { exWorld with
        projectFiles := fun _ => .ok { matchers := [], items :=
          [{ l10n := ofString "/l/de/a", ref := some (ofString "/r/a"), merge := none, tests := [] }] }
        compareBody := fun c j l => match l.notify .missingFile c.l10n .none with
          | .ok (l', _) => .ok (l', [], j)
          | .error e => .error (.observer e) }
      [{ exProject with filter := fun _ _ => .error }] { locales := [some [100, 101]], l10nBaseDir := ofString "/l" }).toOption.map
      (fun st => (st.calls.map (·.kind), (toJSON st.obs.own.details).leaves.map (fun kv => kv.2.map (·.1))))
    = some ([.compare], [[.missingFile]]) := by decide +kernel

/-- why `projects_quiet_hides_only_details` asks for `CompareSync`: a `compare` that peeked at the details tree (which
    the quiet level does change) could count differently at two quiet levels — here it counts a changed string only
    while no details are stored, and the obsolete file handled before it is stored at quiet 0 but not at quiet 2 -/
example :
    let w : World := { exWorld with
      projectFiles := fun _ => .ok { matchers := [], items :=
        [{ l10n := ofString "/l/de/gone", ref := some (ofString "/r/gone"), merge := none, tests := [] },
         { l10n := ofString "/l/de/a", ref := some (ofString "/r/a"), merge := none, tests := [] }] }
      compareBody := fun c j l =>
        if (toJSON l.own.details).leaves.isEmpty then .ok (l.updateStats c.l10n [(.changed, 1)], [], j) else .ok (l, [], j) }
    let run (q : Nat) := (compareProjects w [{ exProject with filter := fun _ _ => .error }]
      { locales := [some [100, 101]], l10nBaseDir := ofString "/l", quiet := q }).toOption.map
        (fun st => getCount st.obs.own.summary (some [100, 101]) .changed)
    run 0 = some 0 ∧ run 2 = some 1 := by
  decide +kernel

/-- the world of `handle` for the examples: `/l` is the only directory, `/a.toml` and `/b.toml` the only files -/
def exHWorld (body : Call → Nat → ObsList → Except ProjM.PyErr (ObsList × List Text × Nat)) : HWorld where
  fs := { isdir := fun x => x == ofString "/l", isfile := fun x => x == ofString "/a.toml" || x == ofString "/b.toml" }
  cwd := [47]
  loadConfigs := fun _ _ _ _ => .ok ([{ exProject with filter := fun _ _ => .error }, exProject],
                                      { exWorld with compareBody := body })

def exHArgs : HArgs := { configPaths := [ofString "/a.toml", ofString "/b.toml"], l10nBaseDir := ofString "/l" }

/-- `handle` end to end on `exWorld`: two config files, so the header is printed (details, blank line, `Summaries for`,
    two config lines, the union line, the summaries); exit status 0 (no error was counted) — and 1 as soon as `compare`
    counts an error; a config argument that is not a file ends in `parser.error` -/
example : (handle (exHWorld exWorld.compareBody) exHArgs).outcome = .returned 0 ∧
    (handle (exHWorld exWorld.compareBody) exHArgs).stdout.drop 1 =
      [[], ofString "Summaries for", ofString "  /a.toml", ofString "  /b.toml",
       ofString "    and the union of these, counting each string once",
       ofString "de:\nmissing           3             3\nmissing_w         5             5\nchanged           2      2      2\n40% of entries changed"] ∧
    (handle (exHWorld (fun c j l => match l.notify .error c.l10n (.str [109]) with
        | .ok (l', _) => .ok (l', [], j)
        | .error e => .error (.observer e))) exHArgs).outcome = .returned 1 ∧
    (handle (exHWorld exWorld.compareBody) { exHArgs with configPaths := [ofString "/a.toml", ofString "/nope.toml"] }).outcome
      = .usage (ofString "config file /nope.toml not found") := by
  repeat rw [ofString_ofList]
  decide +kernel

/-- `mozpath.relpath` / `abspath` on the shapes `compareProjects` meets: below the base, beside it (validation mode),
    the base itself, a prefix that ends inside a file name, `..` and doubled slashes in the arguments -/
example : (relpath [47] (ofString "/l/de/browser/a.ftl") (ofString "/l")).toOption = some (ofString "de/browser/a.ftl") ∧
    (relpath [47] (ofString "/r/en/a.ftl") (ofString "/l")).toOption = some (ofString "../r/en/a.ftl") ∧
    (relpath [47] (ofString "/l") (ofString "/l/")).toOption = some [] ∧
    (relpath [47] (ofString "/l/de/bar.ftl") (ofString "/l/de/ba")).toOption = some (ofString "../bar.ftl") ∧
    (relpath (ofString "/cwd") (ofString "x/../y//z") (ofString ".")).toOption = some (ofString "y/z") ∧
    abspath (ofString "/cwd") (ofString "l10n/") = ofString "/cwd/l10n" ∧
    abspath (ofString "/cwd") (ofString "//x/./y/..") = ofString "//x" := by
  repeat rw [ofString_ofList]
  decide +kernel

end ProjectsExamples

end C10
