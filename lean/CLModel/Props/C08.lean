/-
C08 — Fluent: structural mismatches are errors, text differences never are.

`Ftl.check locale key all ref l10n` is the model of
`list(FluentChecker(locale=…).check(refEnt, l10nEnt))` (checks/fluent.py + Checker.check of checks/base.py):
`ref`/`l10n` are the fluent.syntax ASTs of the two entities, `key`/`all` the l10n entity's key and source text.
All theorems quantify over ALL ASTs of the inductive type (a superset of what fluent.syntax produces).
-/
import CLModel.Checks.Fluent
import CLModel.Proofs.C08
import CLModel.Proofs.C08Plural
import CLModel.Proofs.C08Refs
import CLModel.Proofs.C08CGrammar
import CLModel.Proofs.C08CAgree
import CLModel.Proofs.C08CReject
import CLModel.Proofs.C08Text
import CLModel.Proofs.C08Warn
import CLModel.Proofs.C08Inst
import CLModel.Proofs.C08Self
import CLModel.Proofs.C08Span
namespace C08
open Ftl Gen.Tables

/-- the yielded list contains an `error` -/
def hasError (outs : List Out) : Prop := ∃ o ∈ outs, o.sev = sevError

def attrNames (attrs : List Attribute) : List Str := attrs.map (·.name)

/-- `check` never raises: the plural lookup is total on the generated tables, so the result is
    `checkWith kp` for the locale's plural categories `kp`. -/
theorem check_total (locale : Option Str) (key all : Str) (ref l10n : Entry) :
    ∃ kp, getPlural locale = .ok kp ∧ check locale key all ref l10n = .ok (checkWith kp key all ref l10n) :=
  check_ok locale key all ref l10n

/-- **Errors are exactly the structural mismatches.**  For every locale and every pair of messages,
    `check` yields an error iff value presence differs, or some attribute name occurs on one side
    only, or the localization has a `style` attribute whose value is a single text element that
    parse_css_spec/check_style do not accept (`badStyle`).  Nothing else — no text, placeable,
    reference, variant or plural difference — can produce an error. -/
theorem ftl_error_iff (locale : Option Str) (key all : Str) (ref l10n : Message) :
    ∃ outs, check locale key all (.message ref) (.message l10n) = .ok outs ∧
      (hasError outs ↔
        (ref.value.isSome ≠ l10n.value.isSome
          ∨ (∃ n ∈ attrNames ref.attributes, n ∉ attrNames l10n.attributes)
          ∨ (∃ n ∈ attrNames l10n.attributes, n ∉ attrNames ref.attributes)
          ∨ ∃ a ∈ l10n.attributes, badStyle a = true)) := by
  obtain ⟨kp, _, h⟩ := check_ok locale key all (.message ref) (.message l10n)
  refine ⟨_, h, ?_⟩
  unfold hasError
  rw [checkWith_hasError_iff]
  exact checkMessage_hasErr_iff kp _ _ _ (refVisitEntry_message_hasValue ref) (refVisitEntry_message_attrPos ref) l10n

/-- A *term* as the reference of a message (not reachable through compare-locales, where entities are
    paired by key and a term's key starts with `-`): the reference visitor has no `visit_Term`, so the
    reference counts as having no value. -/
theorem ftl_error_iff_term_reference (kp : Option (List Str)) (t : Term) (l10n : Message) :
    (∃ m ∈ checkMessage kp (.term t) l10n, m.sev = sevError) ↔
      (l10n.value.isSome = true
        ∨ (∃ n ∈ attrNames t.attributes, n ∉ attrNames l10n.attributes)
        ∨ (∃ n ∈ attrNames l10n.attributes, n ∉ attrNames t.attributes)
        ∨ ∃ a ∈ l10n.attributes, badStyle a = true) := by
  rw [checkMessage_hasErr_iff kp (.term t) false t.attributes (refVisitEntry_term_hasValue t)
    (refVisitEntry_term_attrPos t) l10n]
  have : false ≠ l10n.value.isSome ↔ l10n.value.isSome = true := by cases l10n.value.isSome <;> simp
  rw [this]
  rfl

/-- **One error per mismatch.**  The errors of check_message (before the sort by position) are, in
    this order: one `reference is a CSS spec` per bad `style` attribute occurrence, `Obsolete value`
    (at the value) or `Missing value` when value presence differs, one `Missing attribute: n` per
    name `n` of the reference missing in the localization (each name once), one
    `Obsolete attribute: n` per name only in the localization (each name once, at the start of the
    LAST attribute with that name). -/
theorem ftl_error_count (kp : Option (List Str)) (ref l10n : Message) :
    ∃ (missing : List Str) (obsolete : List (Str × Nat)),
      missing.Nodup ∧ (∀ n, n ∈ missing ↔ n ∈ attrNames ref.attributes ∧ n ∉ attrNames l10n.attributes) ∧
      (obsolete.map (·.1)).Nodup ∧
      (∀ n p, (n, p) ∈ obsolete ↔ n ∉ attrNames ref.attributes ∧ lastStart l10n.attributes n = some p) ∧
      errsOf (checkMessage kp (.message ref) l10n) =
        (l10n.attributes.filter badStyle).map (fun _ => cssError)
        ++ valueErrs ref.value.isSome l10n.value
        ++ missing.map (fun n => ⟨sevError, 0, fmt fluentMsg_missing_attribute [n]⟩)
        ++ obsolete.map (fun p => ⟨sevError, p.2, fmt fluentMsg_obsolete_attribute [p.1]⟩) := by
  refine ⟨(dictKeys (attrsPos [] ref.attributes)).filter (fun n => !(dictKeys (attrsPos [] l10n.attributes)).contains n),
    (attrsPos [] l10n.attributes).filter (fun p => !(dictKeys (attrsPos [] ref.attributes)).contains p.1), ?_, ?_, ?_, ?_, ?_⟩
  · exact (nodup_keys_attrsPos_nil _).filter _
  · exact mem_missingAttrs ref.attributes l10n.attributes
  · have := (nodup_keys_attrsPos_nil l10n.attributes)
    unfold dictKeys at this
    exact (List.Nodup.sublist (List.Sublist.map _ List.filter_sublist) this)
  · intro n p
    simp only [List.mem_filter, attrNames]
    rw [mem_dict_iff _ (nodup_keys_attrsPos_nil _), dictGet?_attrsPos]
    have hnil : dictGet? ([] : List (Str × Nat)) n = none := rfl
    constructor
    · rintro ⟨h1, h2⟩
      refine ⟨fun hm => ?_, ?_⟩
      · have := (mem_keys_attrsPos_nil ref.attributes n).mpr hm
        simp [this] at h2
      · cases hl : lastStart l10n.attributes n with
        | none => rw [hl] at h1; simp [hnil] at h1
        | some s => rw [hl] at h1; simpa using h1
    · rintro ⟨h1, h2⟩
      refine ⟨by rw [h2], ?_⟩
      have : n ∉ dictKeys (attrsPos [] ref.attributes) := fun h => h1 ((mem_keys_attrsPos_nil _ _).mp h)
      simp [this]
  · rw [checkMessage_errs, refVisitEntry_message_hasValue, refVisitEntry_message_attrPos]
    rfl

/-- **Text differences are never errors.**  A localization with the same value presence and the same
    set of attribute names as the reference, and no bad `style` value, yields no error — whatever its
    patterns, placeables, references, select expressions and variants are (they are universally
    quantified: nothing about `l10n`'s patterns is assumed). -/
theorem ftl_text_irrelevant (locale : Option Str) (key all : Str) (ref l10n : Message)
    (hval : ref.value.isSome = l10n.value.isSome)
    (hattrs : ∀ n, n ∈ attrNames ref.attributes ↔ n ∈ attrNames l10n.attributes)
    (hstyle : ∀ a ∈ l10n.attributes, badStyle a = false) :
    ∃ outs, check locale key all (.message ref) (.message l10n) = .ok outs ∧ ¬ hasError outs := by
  obtain ⟨outs, h, hiff⟩ := ftl_error_iff locale key all ref l10n
  refine ⟨outs, h, fun he => ?_⟩
  rcases hiff.mp he with h1 | ⟨n, hn, hn'⟩ | ⟨n, hn, hn'⟩ | ⟨a, ha, hb⟩
  · exact h1 hval
  · exact hn' ((hattrs n).mp hn)
  · exact hn' ((hattrs n).mpr hn)
  · rw [hstyle a ha] at hb; cases hb

/-- **Terms are checked on their own and never yield errors.**  Whatever the reference entry is
    (it is not even looked at) and whatever the term contains, every result of `check` on a
    localized term is a warning. -/
theorem term_never_error (locale : Option Str) (key all : Str) (ref : Entry) (t : Term) :
    ∃ outs, check locale key all ref (.term t) = .ok outs ∧ ∀ o ∈ outs, o.sev = sevWarning := by
  obtain ⟨kp, _, h⟩ := check_ok locale key all ref (.term t)
  refine ⟨_, h, ?_⟩
  intro o ho
  rw [checkWith_eq] at ho
  rcases List.mem_append.mp ho with h1 | h1
  · exact checkEncoding_warn key all o h1
  · obtain ⟨m, hm, rfl⟩ := List.mem_map.mp ((finish_perm _ _).mem_iff.mp h1)
    exact checkTerm_warn kp t m hm

theorem term_ignores_reference (locale : Option Str) (key all : Str) (ref ref' : Entry) (t : Term) :
    check locale key all ref (.term t) = check locale key all ref' (.term t) := rfl

/-- **Order of the results**: `check` = the U+FFFD warnings followed by the visitor messages in a
    stable sort by position — a permutation of the visitor messages (mapped to entry-relative
    positions), sorted by position, and messages at the same position keep the order in which the
    visitors appended them. -/
theorem check_sorted_stable (kp : Option (List Str)) (key all : Str) (ref l10n : Entry) :
    ∃ sorted : List Msg,
      checkWith kp key all ref l10n = checkEncoding key all ++ sorted.map (toOut l10n.start) ∧
      sorted.Perm (entryMsgs kp ref l10n) ∧
      sorted.Pairwise (fun a b => a.pos ≤ b.pos) ∧
      ∀ p, sorted.filter (fun m => m.pos == p) = (entryMsgs kp ref l10n).filter (fun m => m.pos == p) := by
  refine ⟨sortBy (fun a b => decide (a.pos ≤ b.pos)) (entryMsgs kp ref l10n), ?_, sortBy_perm _ _, ?_, ?_⟩
  · rw [checkWith_eq, finish_eq]
  · exact (sortBy_pairwise C08I.posLe C08I.posLe_total C08I.posLe_trans (entryMsgs kp ref l10n)).imp
      (by intro a b h; simpa [C08I.posLe] using h)
  · intro p
    apply sortBy_filter C08I.posLe C08I.posLe_total C08I.posLe_trans
    intro a b ha hb
    have ha' : a.pos = p := by simpa using ha
    have hb' : b.pos = p := by simpa using hb
    simp [C08I.posLe, ha', hb']

/-- **Structure of check_message**: the visitor messages of a message pair are, in this order,
    the duplicate-attribute warnings, the per-node messages of the value (`evMsgs`, see
    `node_messages`), per attribute its per-node messages followed by the CSS messages of a `style`
    attribute (`attrsMsgs`), the value / attribute errors of `ftl_error_count`, and the
    `Missing … reference` warnings (`ftl_missing_ref_warnings`).  `rrOf … slot` are the reference
    names recorded by the reference visitor for the slot (`ref_slot_names`). -/
theorem check_message_structure (kp : Option (List Str)) (ref l10n : Message) :
    checkMessage kp (.message ref) l10n =
      checkDuplicateAttributes l10n.attributes
      ++ valueMsgs kp (rrOf (refVisitEntry (.message ref)).entryRefs) l10n.value
      ++ attrsMsgs kp (rrOf (refVisitEntry (.message ref)).entryRefs) (refVisitEntry (.message ref)).css l10n.attributes
      ++ valueErrs ref.value.isSome l10n.value
      ++ missingAttrErrs (dictKeys (attrsPos [] ref.attributes)) (dictKeys (attrsPos [] l10n.attributes))
      ++ obsoleteAttrErrs (dictKeys (attrsPos [] ref.attributes)) (attrsPos [] l10n.attributes)
      ++ missingRefs (refVisitEntry (.message ref)).entryRefs
          (l10nVisitMessage kp (refVisitEntry (.message ref)) l10n).entryRefs :=
  checkMessage_structure kp ref l10n

/-- **Structure of check_term**: duplicate-attribute warnings, then `check_variants` of every
    select expression anywhere in the value and the attributes (deep traversal: selectors and call
    arguments included), in post-order. -/
theorem check_term_structure (kp : Option (List Str)) (t : Term) :
    checkTerm kp t = checkDuplicateAttributes t.attributes
      ++ ((t.value :: t.attributes.map (·.value)).flatMap (evPattern true)).flatMap (termMsgs kp) :=
  checkTerm_structure kp t

/-- the reference names recorded for a slot (value or attribute name) are exactly the message /
    term references met in the patterns of that slot; selectors of select expressions and
    arguments of term references are not visited, references to term attributes are not recorded. -/
theorem ref_slot_names (ref : Message) (slot : Slot) (r : Str) :
    r ∈ rrOf (refVisitEntry (.message ref)).entryRefs slot ↔ r ∈ slotRefNames ref.value ref.attributes slot :=
  mem_rrOf_ref ref slot r

/-- **Obsolete references**: a message reference (resp. a term reference without attribute) in a slot
    of the localization yields one `Obsolete message (term) reference` warning at its own position iff
    the reference recorded no reference of that name in the same slot; a select expression yields
    `check_variants` of its variants; nothing else yields anything. -/
theorem node_messages (kp : Option (List Str)) (rr : List Str) :
    (∀ s i, evMsgs kp rr (.msgRef s i none) =
        if i ∈ rr then [] else [⟨sevWarning, s, fmt fluentMsg_obsolete_msg_ref [i]⟩]) ∧
    (∀ s i a, evMsgs kp rr (.msgRef s i (some a)) =
        if i ++ 46 :: a ∈ rr then [] else [⟨sevWarning, s, fmt fluentMsg_obsolete_msg_ref [i ++ 46 :: a]⟩]) ∧
    (∀ s i, evMsgs kp rr (.termRef s i none) =
        if 45 :: i ∈ rr then [] else [⟨sevWarning, s, fmt fluentMsg_obsolete_term_ref [45 :: i]⟩]) ∧
    (∀ s i a, evMsgs kp rr (.termRef s i (some a)) = []) ∧
    (∀ keys, evMsgs kp rr (.select keys) = checkVariants kp keys) := by
  refine ⟨?_, ?_, ?_, ?_, ?_⟩ <;> intros <;> simp [evMsgs, Ev.refKey]

/-- **Missing references**: the `Missing message (term) reference: r` warnings (all at position 0) are
    exactly: one per slot of the reference and per distinct reference name `r` recorded there
    (`refSlotDict`, a dict with distinct keys) that the localization does not reference in the SAME slot. -/
theorem ftl_missing_ref_warnings (kp : Option (List Str)) (ref l10n : Message) :
    let M := missingRefs (refVisitEntry (.message ref)).entryRefs
              (l10nVisitMessage kp (refVisitEntry (.message ref)) l10n).entryRefs
    -- one warning per (slot, recorded name) that is missing:
    (M = (refVisitEntry (.message ref)).entryRefs.flatMap (fun sr =>
          (sr.2.filter (fun q => !(l10nSlotSet kp (refVisitEntry (.message ref)) l10n sr.1).contains q.1)).map
            (fun q => missingRefMsg q.1 q.2))) ∧
    (dictKeys (refVisitEntry (.message ref)).entryRefs).Nodup ∧
    (∀ slot, (dictKeys (refSlotDict ref slot)).Nodup) ∧
    -- and as a set:
    (∀ m, m ∈ M ↔ ∃ slot r t, (r, t) ∈ refSlotDict ref slot ∧ r ∉ slotRefNames l10n.value l10n.attributes slot
            ∧ m = missingRefMsg r t) ∧
    (∀ slot r, r ∈ dictKeys (refSlotDict ref slot) ↔ r ∈ slotRefNames ref.value ref.attributes slot) ∧
    (∀ slot q, q ∈ refSlotDict ref slot → q ∈ slotRefs ref.value ref.attributes slot) := by
  refine ⟨?_, nodup_keys_refVisitEntry ref, nodup_keys_refSlotDict ref, ?_, ?_, mem_refSlotDict ref⟩
  · simp only [missingRefs, missingRefMsg, l10nSlotSet]
    rfl
  · intro m
    rw [mem_missingRefs]
    constructor
    · rintro ⟨slot, refs, r, t, h1, h2, h3, rfl⟩
      have hne : refs ≠ [] := by intro h; rw [h] at h2; cases h2
      have := (mem_entryRefs_iff ref slot refs hne).mp h1
      subst this
      refine ⟨slot, r, t, h2, ?_, rfl⟩
      intro h
      exact h3 ((mem_l10nSlotSet kp _ l10n slot r).mpr h)
    · rintro ⟨slot, r, t, h2, h3, rfl⟩
      have hne : refSlotDict ref slot ≠ [] := by intro h; rw [h] at h2; cases h2
      refine ⟨slot, refSlotDict ref slot, r, t, (mem_entryRefs_iff ref slot _ hne).mpr rfl, h2, ?_, rfl⟩
      intro h
      exact h3 ((mem_l10nSlotSet kp _ l10n slot r).mp h)
  · intro slot r
    exact mem_rrOf_ref ref slot r

/-- **Duplicate attributes**: one `Attribute "n" is duplicated` warning per attribute occurrence whose
    name occurs at least twice, at the attribute's position (as a multiset; the sort by position
    fixes the final order).  Holds for messages and terms alike. -/
theorem ftl_dup_attribute_warnings (attrs : List Attribute) :
    (checkDuplicateAttributes attrs).Perm
      ((attrs.filter (fun a => decide (2 ≤ (attrs.map (·.name)).count a.name))).map
        (fun a => ⟨sevWarning, a.start, fmt fluentMsg_duplicate_attribute [a.name]⟩)) :=
  (dupLoop_nil_perm (fun a : Attribute => a.name) attrs).map _

/-- **Duplicate variant keys**: `check_variants` yields one `Variant key "k" is duplicated` warning per
    variant whose key (same node type and same text) occurs at least twice, at the key's position,
    followed by the plural warning of `ftl_plural_warning`. -/
theorem ftl_dup_variant_warnings (kp : Option (List Str)) (keys : List VKey) :
    ∃ dups, checkVariants kp keys = dups ++ checkPlurals kp keys ∧
      dups.Perm ((keys.filter (fun k => decide (2 ≤ (keys.map VKey.tag).count k.tag))).map
        (fun k => ⟨sevWarning, k.start, fmt fluentMsg_duplicate_variant [k.str]⟩)) := by
  refine ⟨_, rfl, ?_⟩
  rw [VKey.equals_eq]
  exact (dupLoop_nil_perm VKey.tag keys).map _

/-- **Incomplete plural-category sets**: for a locale with plural categories `cats`, `check_variants`
    yields the warning `Plural categories missing: …` iff some variant key names a category of the
    locale other than `other` and some category of the locale is named by no key; then exactly one
    warning, at the first variant key, listing the missing categories (each once) in `str` order.
    For a locale without plural data there is no such warning. -/
theorem ftl_plural_warning (cats : List Str) (keys : List VKey) :
    checkPlurals none keys = [] ∧
    ((usesCategory cats keys ∧ ∃ c ∈ cats, c ∉ keys.map VKey.str) →
      ∃ k0 rest, keys = k0 :: rest ∧
        checkPlurals (some cats) keys =
          [⟨sevWarning, k0.start, fmt fluentMsg_missing_plural [join [44, 32] (missingCats cats keys)]⟩]) ∧
    (¬ (usesCategory cats keys ∧ ∃ c ∈ cats, c ∉ keys.map VKey.str) → checkPlurals (some cats) keys = []) ∧
    (∀ c, c ∈ missingCats cats keys ↔ c ∈ cats ∧ c ∉ keys.map VKey.str) ∧
    (missingCats cats keys).Pairwise (fun a b => strLe a b = true ∧ a ≠ b) := by
  have hmiss : (missingCats cats keys).isEmpty = false ↔ ∃ c ∈ cats, c ∉ keys.map VKey.str := by
    rw [← Bool.not_eq_true, List.isEmpty_iff, ← Ne, Txt.ne_nil_iff_exists]
    exact exists_congr (mem_missingCats cats keys)
  by_cases hc : cats = []
  · -- a locale with an empty category tuple (`if known_plurals:` is false): never a warning
    subst hc
    refine ⟨rfl, ?_, fun _ => rfl, mem_missingCats [] keys, missingCats_sorted [] keys⟩
    rintro ⟨⟨k, _, hk, _⟩, _⟩
    cases hk
  refine ⟨rfl, ?_, ?_, mem_missingCats cats keys, missingCats_sorted cats keys⟩
  · rintro ⟨hu, hm⟩
    obtain ⟨k, hk, _⟩ := hu
    cases keys with
    | nil => cases hk
    | cons k0 rest =>
      refine ⟨k0, rest, rfl, ?_⟩
      rw [checkPlurals_some cats hc]
      have h1 := (any_check_iff cats (k0 :: rest)).mpr ⟨k, hk, ‹_›⟩
      have h2 := hmiss.mpr hm
      simp only [h1, h2, Bool.not_false, Bool.and_self, if_true]
  · intro hn
    rw [checkPlurals_some cats hc]
    cases keys with
    | nil => rfl
    | cons k0 rest =>
      simp only
      split
      · rename_i hcond
        exfalso
        apply hn
        have hcond' := Bool.and_eq_true_iff.mp hcond
        refine ⟨(any_check_iff cats (k0 :: rest)).mp hcond'.1, hmiss.mp ?_⟩
        simpa using hcond'.2
      · rfl

/-- the plural categories used by `check` are the table entry of the locale: the locale itself or,
    failing that, its part before the first `-`; `None` and unknown locales have no plural data -/
theorem plural_lookup (locale : Option Str) :
    getPluralRule locale = match locale with
      | none => none
      | some l => match dictGet? categoriesByLocale l with
        | some i => some i
        | none => dictGet? categoriesByLocale (l.takeWhile (fun c => c != 45)) := rfl

section examples

private def t (s : String) : Str := s.toList.map Char.toNat
private def pat (s : String) : Pattern := .mk 0 [.text (t s)]
/-- The text of a string literal, by rewriting (`rw` unifies the literal with `String.ofList _`) before any evaluation:
    evaluating `"…".toList` would decode the literal's UTF-8 bytes in the kernel, character by character. -/
private theorem t_ofList (l : List Char) : t (String.ofList l) = l.map Char.toNat := by rw [t, String.toList_ofList]
private theorem pat_ofList (l : List Char) : pat (String.ofList l) = .mk 0 [.text (l.map Char.toNat)] := by rw [pat, t_ofList]

/-- reference `m = v` + `.label`; localization without value, with `.label` twice, `.extra`, bad `.style` -/
private def exRef : Message := ⟨0, t "m", some (pat "v"), [⟨10, t "label", pat "x"⟩]⟩
private def exL10n : Message :=
  ⟨0, t "m", none, [⟨6, t "label", pat "a"⟩, ⟨20, t "extra", pat "b"⟩, ⟨30, t "label", pat "c"⟩, ⟨40, t "style", pat "wide"⟩]⟩

example : (checkWith (some [t "one", t "other"]) (t "m") (t "m =") (.message exRef) (.message exL10n)).map
      (fun o => (o.sev, o.pos)) =
    [(sevError, 0), (sevError, 0), (sevWarning, 6), (sevError, 20), (sevWarning, 30), (sevError, 40)] := by decide +kernel

example : badStyle ⟨40, t "style", pat "wide"⟩ = true := by decide +kernel
example : badStyle ⟨40, t "style", pat "width: 12em; min-height:3px;"⟩ = false := by
  repeat rw [pat_ofList]
  repeat rw [t_ofList]
  decide +kernel
example : badStyle ⟨40, t "style", pat "width: 12em height: 3px"⟩ = true := by
  repeat rw [pat_ofList]
  repeat rw [t_ofList]
  decide +kernel
/-- the hypotheses of `ftl_text_irrelevant` are satisfiable with different texts, placeables and attribute counts -/
example : ∃ ref l10n : Message, ref.value.isSome = l10n.value.isSome ∧
    (∀ n, n ∈ attrNames ref.attributes ↔ n ∈ attrNames l10n.attributes) ∧
    (∀ a ∈ l10n.attributes, badStyle a = false) ∧ ref.attributes.length ≠ l10n.attributes.length :=
  ⟨exRef, ⟨0, t "m", some (.mk 4 [.text (t "x "), .placeable (.msgRef 6 (t "foo") none)]),
      [⟨10, t "label", pat "y"⟩, ⟨20, t "label", pat "z"⟩]⟩, rfl,
    by intro n; simp [attrNames, exRef], by decide +kernel, by decide⟩
/-- declarations that touch without a separator are refused:
    parse_css_spec reports css-missing-semicolon at the end of the first declaration, so the style is bad -/
example : cssBad (t "width: 1emheight: 2px") = true := by decide +kernel
example : (parseCssSpec (t "width: 1emheight: 2px")).2 = some [CssErr.missingSemicolon 10] := by decide +kernel
example : badStyle ⟨40, t "style", pat "width: 1emheight: 2px"⟩ = true := by
  repeat rw [pat_ofList]
  repeat rw [t_ofList]
  decide +kernel
example : (checkMessage none (.message ⟨0, t "m", some (pat "v"), [⟨8, t "style", pat "width: 20em"⟩]⟩)
      ⟨0, t "m", some (pat "v"), [⟨8, t "style", pat "height: 1emwidth: 2em"⟩]⟩).map (fun m => (m.sev, m.pos)) =
    [(sevError, 0)] := by
  repeat rw [pat_ofList]
  repeat rw [t_ofList]
  decide +kernel
/-- trailing white space after the last declaration is not a missing semicolon (/repo 7c75698);
    white space between two declarations without a semicolon still is -/
example : cssBad [119, 105, 100, 116, 104, 58, 49, 101, 109, 32] = false ∧           -- "width:1em "
    cssBad [119, 105, 100, 116, 104, 58, 49, 101, 109, 10] = false ∧                 -- "width:1em\n"
    cssBad (t "width:1em;height:2px" ++ [9]) = false ∧
    (parseCssSpec (t "width: 1em height: 2px")).2 = some [CssErr.missingSemicolon 10] := by
  repeat rw [t_ofList]
  decide +kernel
/-- the last declaration needs no semicolon, with or without one the spec is fine -/
example : cssBad (t "width: 1em") = false ∧ cssBad (t "width: 1em;") = false ∧ cssBad (t "width: 1em; height: 2px") = false := by
  repeat rw [t_ofList]
  decide +kernel

private def k (s : String) (p : Nat) : VKey := .ident p (t s)
/-- Polish (one, few, many): keys one/other/one -> two duplicate warnings and a plural warning -/
example : (checkVariants (some [t "one", t "few", t "many"]) [k "one" 5, k "other" 15, k "one" 25]).map (fun m => (m.pos, m.text)) =
    [(5, t "Variant key \"one\" is duplicated"), (25, t "Variant key \"one\" is duplicated"),
     (5, t "Plural categories missing: few, many")] := by
  repeat rw [t_ofList]
  decide +kernel
example : usesCategory [t "one", t "few", t "many"] [k "one" 5, k "other" 15] := ⟨k "one" 5, by decide, by decide, by decide⟩
/-- only `other` and non-category keys: no plural warning even though categories are missing -/
example : checkPlurals (some [t "one", t "other"]) [k "other" 5, k "masculine" 9] = [] := by decide +kernel
/-- an identifier and a number literal with the same text are different keys -/
example : checkVariants none [.ident 1 (t "1"), .num 5 (t "1")] = [] := by decide +kernel
/-- a reference inside an attribute is compared with the same attribute of the reference only -/
example : (checkMessage none
      (.message ⟨0, t "m", some (.mk 4 [.placeable (.msgRef 6 (t "foo") none)]), [⟨20, t "a", pat "x"⟩]⟩)
      ⟨0, t "m", some (pat "v"), [⟨20, t "a", .mk 25 [.placeable (.msgRef 27 (t "foo") none)]⟩]⟩).map (fun m => (m.sev, m.pos, m.text)) =
    [(sevWarning, 27, t "Obsolete message reference: foo"), (sevWarning, 0, t "Missing message reference: foo")] := by
  repeat rw [pat_ofList]
  repeat rw [t_ofList]
  decide +kernel
/-- a select expression inside a selector is checked for terms, not for messages -/
private def nestedSel : Pattern :=
  .mk 0 [.placeable (.select (.funRef (t "F") (.mk [.select (.varRef (t "n")) [.mk (k "a" 7) (pat "x") false, .mk (k "a" 9) (pat "y") true]] []))
    [.mk (k "b" 20) (pat "z") true])]
example : (checkTerm none ⟨0, t "t", nestedSel, []⟩).length = 2 := by decide +kernel
example : (checkMessage none (.message ⟨0, t "m", some (pat "v"), []⟩) ⟨0, t "m", some nestedSel, []⟩).length = 0 := by decide +kernel

end examples

/-! ### `badStyle` / `parse_css_spec` and an independent grammar of CSS size specs

`badStyle` in `ftl_error_iff` is the verdict of the regex code.  Here it is related to a grammar that knows
nothing about regexes: `C08C.CssSpec ds v` — optional leading `ws* (; ws*)?`, the declarations `ds`, each
`prop ws* : ws* number unit` (`number` = digits, or optional digits `.` digits), separated by `ws* ; ws*`,
optional trailing `ws* (; ws*)?`.  The property names (`C08C.cssProps`) and units (`C08C.cssUnits`) are read off
the generated `_css_spec` regex, so a unit added upstream is in the grammar at once. -/

/-- checks/fluent.py and checks/dtd.py use the same `CSSCheckMixin.parse_css_spec`; its two models
    (`Ftl.parseCssSpec`, `Dtd.parseCssSpec`) return the same map and the same errors on EVERY text (they differ in
    representation only), so theorems about one hold for the other. -/
theorem css_models_agree (v : Str) :
    parseCssSpec v =
      ((Dtd.parseCssSpec v).1.map C08C.toFtlMap, (Dtd.parseCssSpec v).2.map (·.map C08C.toFtlErr)) :=
  C08C.css_models_agree v

/-- css_grammar_accepts (soundness of the grammar w.r.t. the code): every grammatical spec is parsed without errors,
    and the map is exactly that of its declarations — `ref_map[prop] = unit` in their order (Python dict). -/
theorem css_grammar_accepts (ds : List C08C.Decl) (v : Str) (h : C08C.CssSpec ds v) :
    (parseCssSpec v).2 = none ∧
    (parseCssSpec v).1 = some ((C08C.declMap ds).map (fun p => (p.1, some p.2))) := by
  rw [C08C.css_grammar_accepts_ftl ds v h]
  exact ⟨rfl, rfl⟩

/-- … with pairwise distinct property names that map is the list of (property, unit) pairs as written -/
theorem css_grammar_map_distinct (ds : List C08C.Decl) (h : (ds.map (·.prop)).Nodup) :
    C08C.declMap ds = ds.map (fun d => (d.prop, d.unit)) := by
  have := AR.foldl_dset_of_nodup (ds.map (fun d => (d.prop, d.unit))) [] (by simpa [Function.comp_def] using h)
  rw [List.foldl_map] at this
  exact this

/-- the verdict on a text whose parse is the map of a non-empty list of declarations: bad iff the parse has errors -/
theorem cssBad_of_parse {ds : List C08C.Decl} {v : Str} {e : Option (List CssErr)} (hds : ds ≠ [])
    (h : parseCssSpec v = (some (C08C.toFtlMap (C08C.declMap ds)), e)) : cssBad v = !(e.getD []).isEmpty := by
  unfold cssBad
  rw [h]
  cases hm : C08C.declMap ds with
  | nil => exact absurd hm (C08C.declMap_ne_nil hds)
  | cons x xs => rcases e with _ | _ | _ <;> rfl

/-- A grammatical spec is never "bad": a `style` attribute whose value is one text element in the grammar never
    contributes an error to `ftl_error_iff` / `ftl_error_count`. -/
theorem css_grammar_not_bad (ds : List C08C.Decl) (v : Str) (h : C08C.CssSpec ds v) : cssBad v = false :=
  cssBad_of_parse (C08C.cssSpec_ne_nil h) (C08C.css_grammar_accepts_ftl ds v h)

theorem style_grammar_not_bad (pos start : Nat) (ds : List C08C.Decl) (v : Str) (h : C08C.CssSpec ds v) :
    badStyle ⟨pos, sStyle, .mk start [.text v]⟩ = false := by
  simp [badStyle, patternVariants, Pattern.elements, css_grammar_not_bad ds v h]

/-- on a spec with defects (`C08C.SpecE`: every gap before a declaration is a correct separator,
    white space without the semicolon, or junk; the trailing text is correct or junk) `parse_css_spec` returns the map
    of all declarations and exactly one error per defective gap, in order: `css-missing-semicolon` /
    `css-bad-content` at the end of the preceding declaration (0 before the first). -/
theorem css_spec_errors (ds : List C08C.Decl) (v : Str) (errs : List Dtd.CssErr) (h : C08C.SpecE true 0 ds v errs) :
    parseCssSpec v = (some (C08C.toFtlMap (C08C.declMap ds)), (C08C.optOf errs).map (·.map C08C.toFtlErr)) :=
  C08C.ftl_of_dtd (C08C.css_spec_errors ds v errs h)

/-- … so any defect makes the style bad (the check yields the error "reference is a CSS spec") -/
theorem css_defect_bad (ds : List C08C.Decl) (v : Str) (errs : List Dtd.CssErr) (h : C08C.SpecE true 0 ds v errs)
    (he : errs ≠ []) : cssBad v = true := by
  rw [cssBad_of_parse (by cases h <;> simp) (css_spec_errors ds v errs h)]
  cases errs with
  | nil => exact absurd rfl he
  | cons e es => rfl

/-- the breaking edits of the harness: two correct blocks with only white space (or nothing: touching declarations)
    between them → exactly `css-missing-semicolon` at the end of the first block … -/
theorem css_missing_semicolon (ds1 ds2 : List C08C.Decl) (lead t1 ws t2 trail : Str) (hl : C08C.IsEdge lead)
    (h1 : C08C.DeclsText ds1 t1) (hws : ws.all C08C.isWs = true) (h2 : C08C.DeclsText ds2 t2) (htr : C08C.IsEdge trail) :
    (parseCssSpec (lead ++ (t1 ++ (ws ++ (t2 ++ trail))))).2 = some [CssErr.missingSemicolon (lead.length + t1.length)] ∧
    cssBad (lead ++ (t1 ++ (ws ++ (t2 ++ trail)))) = true := by
  have hp : parseCssSpec (lead ++ (t1 ++ (ws ++ (t2 ++ trail)))) =
      (some (C08C.toFtlMap (C08C.declMap (ds1 ++ ds2))), some [CssErr.missingSemicolon (lead.length + t1.length)]) :=
    C08C.ftl_of_dtd (C08C.css_missing_semicolon ds1 ds2 lead t1 ws t2 trail hl h1 hws h2 htr)
  exact ⟨by rw [hp], cssBad_of_parse (by simp [C08C.declsText_ne_nil h1]) hp⟩

/-- … junk after a correct spec → exactly `css-bad-content` at the end of the last declaration … -/
theorem css_junk_after (ds : List C08C.Decl) (lead t junk : Str) (hl : C08C.IsEdge lead) (h : C08C.DeclsText ds t)
    (hj : C08C.IsJunk junk) :
    (parseCssSpec (lead ++ (t ++ junk))).2 = some [CssErr.badContent (lead.length + t.length)] ∧
    cssBad (lead ++ (t ++ junk)) = true := by
  have hp : parseCssSpec (lead ++ (t ++ junk)) =
      (some (C08C.toFtlMap (C08C.declMap ds)), some [CssErr.badContent (lead.length + t.length)]) :=
    C08C.ftl_of_dtd (C08C.css_junk_after ds lead t junk hl h hj)
  exact ⟨by rw [hp], cssBad_of_parse (C08C.declsText_ne_nil h) hp⟩

/-- … junk before a correct spec → exactly `css-bad-content` at position 0 -/
theorem css_junk_before (ds : List C08C.Decl) (junk t trail : Str) (hj : C08C.IsJunk junk) (h : C08C.DeclsText ds t)
    (htr : C08C.IsEdge trail) :
    (parseCssSpec (junk ++ (t ++ trail))).2 = some [CssErr.badContent 0] ∧ cssBad (junk ++ (t ++ trail)) = true := by
  have hp : parseCssSpec (junk ++ (t ++ trail)) =
      (some (C08C.toFtlMap (C08C.declMap ds)), some [CssErr.badContent 0]) :=
    C08C.ftl_of_dtd (C08C.css_junk_before ds junk t trail hj h htr)
  exact ⟨by rw [hp], cssBad_of_parse (C08C.declsText_ne_nil h) hp⟩

section examplesC
open C08C

private def tx (s : String) : Str := s.toList.map Char.toNat
private theorem tx_ofList (l : List Char) : tx (String.ofList l) = l.map Char.toNat := by rw [tx, String.toList_ofList]

/-- what the grammar reads off the generated regex (they document the lists; the theorems do not depend on them) -/
example : cssProps = [tx "min-width", tx "min-height", tx "max-width", tx "max-height", tx "width", tx "height"] := by
  repeat rw [tx_ofList]
  decide +kernel
example : cssUnits = [tx "ch", tx "em", tx "ex", tx "rem", tx "px", tx "cm", tx "mm", tx "in", tx "pc", tx "pt"] := by decide +kernel

private def d1 : Decl := ⟨tx "width", [], tx " ", tx "12", tx "em"⟩
private def d2 : Decl := ⟨tx "min-height", tx " ", [], tx ".5", tx "px"⟩
private theorem d1ok : d1.Ok := ⟨by decide, by decide, by decide, .int (tx "12") (by decide) (by decide), by decide⟩
private theorem d2ok : d2.Ok := ⟨by decide, by decide, by decide, .frac [] (tx "5") (by decide) (by decide) (by decide), by decide⟩

/-- non-vacuity: " width: 12em ;min-height :.5px; " is in the grammar … -/
example : CssSpec [d1, d2] (tx " " ++ ((d1.text ++ (tx " ;" ++ d2.text)) ++ tx "; ")) :=
  .mk (tx " ") _ (tx "; ") _ (Or.inl (by decide))
    (.cons d1 (tx " ;") [d2] d2.text d1ok ⟨tx " ", [], by decide, by decide, by decide⟩ (.one d2 d2ok))
    (Or.inr ⟨[], tx " ", by decide, by decide, by decide⟩)
/-- … and the regex code, evaluated, agrees with the theorem -/
example : parseCssSpec (tx " width: 12em ;min-height :.5px; ") =
    (some [(tx "width", some (tx "em")), (tx "min-height", some (tx "px"))], none) := by
  repeat rw [tx_ofList]
  decide +kernel
example : declMap [d1, d2] = [(tx "width", tx "em"), (tx "min-height", tx "px")] := by decide +kernel

/-- the junk of the harness's edits is junk in the sense of the theorems: "x", "x ", "; foo", ", " -/
example : IsJunk (tx "x") := ⟨by decide, ⟨120, by decide, by decide, by decide⟩⟩
example : IsJunk (tx "x ") := ⟨by decide, ⟨120, by decide, by decide, by decide⟩⟩
example : IsJunk (tx "; foo") := ⟨by decide, ⟨102, by decide, by decide, by decide⟩⟩
example : IsJunk (tx ", ") := ⟨by decide, ⟨44, by decide, by decide, by decide⟩⟩
/-- … evaluated: "width: 12emx", "x width: 12em", "width: 12em min-height :.5px", "width: 12emmin-height :.5px" -/
example : (parseCssSpec (tx "width: 12emx")).2 = some [CssErr.badContent 11] ∧
    (parseCssSpec (tx "x width: 12em")).2 = some [CssErr.badContent 0] ∧
    (parseCssSpec (tx "width: 12em min-height :.5px")).2 = some [CssErr.missingSemicolon 11] ∧
    (parseCssSpec (tx "width: 12emmin-height :.5px")).2 = some [CssErr.missingSemicolon 11] := by
  repeat rw [tx_ofList]
  decide +kernel

/-- outside the grammar and outside the defect classes (no theorem; the code's verdicts, evaluated):
    two semicolons are bad content, a leading semicolon is accepted (it is in the grammar: `IsEdge`) -/
example : cssBad (tx "width:1em;;height:2px") = true ∧ cssBad (tx ";width:1em") = false := by
  repeat rw [tx_ofList]
  decide +kernel

end examplesC

/-! ### text-blindness of the WHOLE checker (also for the untranslated copy)

`C08T.mapMsg f g` replaces the value of every TextElement by `f` of it and the value of every StringLiteral (also of
named arguments) by `g` of it, everywhere in the message — value, attributes, variants, selectors, call arguments — except
in a `style` attribute that consists of one single TextElement (that text is the CSS spec under test).  `f`, `g` are
arbitrary functions.  Spans are inputs of the model and stay (see `check_text_blind` for what that means for the code). -/

/-- **check_message is text-blind, on both sides**: re-texting the localization (and, independently, the reference)
    changes nothing in the message list of `FluentChecker.check_message` — not one error, warning, position or text. -/
theorem check_message_text_blind (kp : Option (List Str)) (f g f' g' : Str → Str) (ref : Entry) (l10n : Message) :
    checkMessage kp (C08T.mapRefEntry f' g' ref) (C08T.mapMsg f g l10n) = checkMessage kp ref l10n :=
  C08T.checkMessage_map kp f g f' g' ref l10n

/-- **check_term is text-blind** (terms have no CSS exception: every text of the term may change) -/
theorem check_term_text_blind (kp : Option (List Str)) (f g : Str → Str) (t : Term) :
    checkTerm kp (C08T.mapTerm f g t) = checkTerm kp t :=
  C08T.checkTerm_map kp f g t

/-- **FluentChecker.check is text-blind**: for every locale, the results for a re-texted pair are the results for the
    original pair, except for the U+FFFD warnings of `Checker.check` (category `encodings`), which scan the source text
    `all` of the localized entity.  (In the code a re-texted entity has other spans; they only move the positions.) -/
theorem check_text_blind (locale : Option Str) (key all all' : Str) (f g f' g' : Str → Str) (ref l10n : Entry) :
    ∃ kp rest, getPlural locale = .ok kp ∧
      check locale key all ref l10n = .ok (checkEncoding key all ++ rest) ∧
      check locale key all' (C08T.mapRefEntry f' g' ref) (C08T.mapL10nEntry f g l10n) = .ok (checkEncoding key all' ++ rest) := by
  obtain ⟨kp, hkp, h⟩ := check_ok locale key all ref l10n
  obtain ⟨kp', hkp', h'⟩ := check_ok locale key all' (C08T.mapRefEntry f' g' ref) (C08T.mapL10nEntry f g l10n)
  have : kp' = kp := by rw [hkp] at hkp'; cases hkp'; rfl
  subst this
  refine ⟨kp', finish l10n.start (entryMsgs kp' ref l10n), hkp, ?_, ?_⟩
  · rw [h, checkWith_eq]
  · rw [h', checkWith_eq, C08T.entryMsgs_map, C08T.mapL10nEntry_start]

/-- **The untranslated copy is not special.**  Checking a message against ITSELF (what the linter does, and what compare
    does for a localization that copied the reference) gives exactly the messages that any re-texted copy gets.  So a
    shortcut "identical to the reference ⇒ nothing to report" changes verdicts whenever a re-texted copy has one. -/
theorem untranslated_copy_same_verdicts (kp : Option (List Str)) (f g : Str → Str) (m : Message) :
    checkMessage kp (.message m) (C08T.mapMsg f g m) = checkMessage kp (.message m) m :=
  C08T.checkMessage_map_l10n kp f g (.message m) m

/-- relation form: two localizations that differ in their texts only (`C08T.mapMsg` to the empty text gives the same
    skeleton) get the same messages against any reference -/
theorem same_skeleton_same_verdicts (kp : Option (List Str)) (ref : Entry) (l l' : Message)
    (h : C08T.mapMsg (fun _ => []) (fun _ => []) l = C08T.mapMsg (fun _ => []) (fun _ => []) l') :
    checkMessage kp ref l = checkMessage kp ref l' := by
  have h1 := C08T.checkMessage_map_l10n kp (fun _ => []) (fun _ => []) ref l
  have h2 := C08T.checkMessage_map_l10n kp (fun _ => []) (fun _ => []) ref l'
  rw [← h1, ← h2, h]

/-- **Self-check (`checker.check(entity, entity)`: the linter; compare for a verbatim copy).**  Checking a message against
    itself never gives a value / attribute error or a reference warning; it gives exactly: the duplicate-attribute warnings,
    `check_variants` (duplicate keys, plural categories of the locale) of every select expression the message visitors
    reach, and per `style` attribute the CSS verdict against the (popped) map of the message's own last style — i.e. the
    findings that are a function of the SHAPE and the locale.  It is not the empty list in general (see the examples). -/
theorem self_check_structure (kp : Option (List Str)) (m : Message) :
    checkMessage kp (.message m) m =
      checkDuplicateAttributes m.attributes
      ++ (match m.value with | some p => (evPattern false p).flatMap (termMsgs kp) | none => [])
      ++ C08S.attrsSel kp (refVisitEntry (.message m)).css m.attributes := by
  open C08S in
  rw [checkMessage_structure, missingRefs_self, valueErrs_self, missingAttrErrs_self, obsoleteAttrErrs_self]
  simp only [List.append_nil]
  congr 1
  · congr 1
    cases hv : m.value with
    | none => rfl
    | some p =>
      simp only [valueMsgs]
      apply flatMap_evMsgs_known
      intro e he q hq
      exact (mem_rrOf_ref m none q.1).mpr (mem_slotRefNames_value m p hv e he q hq)
  · apply attrsMsgs_known
    intro a ha e he q hq
    exact (mem_rrOf_ref m (some a.name) q.1).mpr (mem_slotRefNames_attr m a ha e he q hq)

/-- **Equal entities, equal verdicts.**  If `FluentEntity.equals` holds between two localized messages (same AST up to spans
    and comments: e.g. another indentation, other blanks inside placeables, another comment), `check_message` gives them, against
    any reference MESSAGE, the same messages up to positions: same severities and texts in the same order (before the sort). -/
theorem equal_entities_same_verdicts (kp : Option (List Str)) (ref l l' : Message)
    (h : entityEquals (.message l) (.message l') = true) :
    (checkMessage kp (.message ref) l).map C08E.pf = (checkMessage kp (.message ref) l').map C08E.pf := by
  simp only [entityEquals, Entry.id, Entry.value, Entry.attributes, Bool.and_eq_true] at h
  exact C08E.checkMessage_eqv kp ref l l' h.1.2 h.2

/-- … and so does `check`: as multisets of (severity, text) — the sort by position may order them differently -/
theorem equal_entities_same_results (kp : Option (List Str)) (ref l l' : Message)
    (h : entityEquals (.message l) (.message l') = true) :
    ((finish l.start (checkMessage kp (.message ref) l)).map C08E.opf).Perm
      ((finish l'.start (checkMessage kp (.message ref) l')).map C08E.opf) := by
  have h1 := C08E.finish_opf_perm l.start (checkMessage kp (.message ref) l)
  have h2 := C08E.finish_opf_perm l'.start (checkMessage kp (.message ref) l')
  rw [equal_entities_same_verdicts kp ref l l' h] at h1
  exact h1.trans h2.symm

/-- **The verbatim copy of the reference** (`refEntity.equals(l10nEntity)`: compare's "unchanged") gets, up to positions,
    the self-check of the reference (`self_check_structure`) — which is `[]` only if the reference's own shape is clean for
    the locale.  This is the exact condition under which the shortcut "equal to the reference ⇒ report nothing" is right. -/
theorem verbatim_copy_verdicts (kp : Option (List Str)) (ref l : Message)
    (h : entityEquals (.message ref) (.message l) = true) :
    (checkMessage kp (.message ref) l).map C08E.pf =
      (checkDuplicateAttributes ref.attributes
        ++ (match ref.value with | some p => (evPattern false p).flatMap (termMsgs kp) | none => [])
        ++ C08S.attrsSel kp (refVisitEntry (.message ref)).css ref.attributes).map C08E.pf := by
  rw [← self_check_structure, equal_entities_same_verdicts kp ref ref l h]

/-- terms: same value and same attributes up to spans ⇒ same warnings up to positions.  (`FluentTerm.equals` IGNORES the
    attributes, so for terms `equals` alone does not give this: see the example below.) -/
theorem equal_terms_same_verdicts (kp : Option (List Str)) (t t' : Term) (hv : t.value.eqv t'.value = true)
    (ha : attrsEqv t.attributes t'.attributes = true) : (checkTerm kp t).map C08E.pf = (checkTerm kp t').map C08E.pf := by
  open C08E in
  rw [checkTerm_structure, checkTerm_structure]
  simp only [List.map_append, List.flatMap_cons]
  rw [checkDuplicateAttributes_pf _ _ (names_eqv _ _ ha)]
  congr 1
  apply flatMap_pf_np _ (termMsgs_np kp)
  simp only [List.map_append]
  rw [ev_eqv_P true _ _ hv, attrValues_ev_eqv _ _ ha]

/-- `L10nMessageVisitor.visit_Term` / `TermVisitor.visit_Message` raise exactly when check_message is handed a Term /
    check_term a Message as the localized entry … -/
theorem raw_methods_raise (kp : Option (List Str)) (ref : Entry) (m : Message) (t : Term) :
    checkMessageRaw kp ref (.term t) = .error .runtime ∧ checkTermRaw kp (.message m) = .error .runtime ∧
    checkMessageRaw kp ref (.message m) = .ok (checkMessage kp ref m) ∧ checkTermRaw kp (.term t) = .ok (checkTerm kp t) :=
  ⟨rfl, rfl, rfl, rfl⟩

/-- … and `FluentChecker.check`, which dispatches on the type of the localized entry, never does that: written with the
    raw methods it is the `checkWith` of all other theorems, for every pair of entries. -/
theorem check_dispatch_total (kp : Option (List Str)) (key all : Str) (ref l10n : Entry) :
    checkDispatch kp key all ref l10n = .ok (checkWith kp key all ref l10n) := by
  cases l10n <;> rfl

/-- **History does not matter.**  `Ftl.Checker` carries everything a FluentChecker object stores (`locale`, `extra_tests`,
    `reference`).  Whatever sequence of `set_reference` and `check` calls one instance has served, every `check` returns what
    a FRESH checker for the same locale returns for that pair; the instance itself only changes by `set_reference`. -/
theorem checker_history_irrelevant (c : Checker) (acts : List Action) :
    (c.run acts).1 = acts.filterMap (C08I.freshResult c.locale) ∧
    (c.run acts).2 = { c with reference := C08I.lastRef acts c.reference } := by
  open C08I in
  induction acts generalizing c with
  | nil => exact ⟨rfl, rfl⟩
  | cons a rest ih =>
    cases a with
    | setRef keys =>
      have := ih { c with reference := some keys }
      simp only [Checker.run, Checker.step, List.filterMap_cons, freshResult, Checker.new, lastRef]
      exact ⟨this.1, this.2⟩
    | case key all ref l10n =>
      have := ih c
      simp only [Checker.run, Checker.step, List.filterMap_cons, freshResult, Checker.new, lastRef]
      exact ⟨by rw [this.1], this.2⟩

/-- in particular the verdict for a pair does not depend on what was checked before or on `set_reference` -/
theorem checker_verdict_independent (c : Checker) (before : List Action) (key all : Str) (ref l10n : Entry) :
    ((c.run before).2.step (.case key all ref l10n)).1 = some (check c.locale key all ref l10n) := by
  rw [(checker_history_irrelevant c before).2]
  rfl

/-- **Set-iteration order is invisible outside the run.**  `for missing_attr in ref_attrs - l10n_attrs` appends its errors in
    hash order.  The message list of check_message is `pre ++ run ++ post` with `run` = the Missing-attribute errors
    (`ftl_error_count`: one per name, each once — a multiset); for ANY other order `run'` of that run, the sorted list that
    `check` yields is a permutation of the modelled one, and every sub-selection that leaves the run out — e.g. all other
    messages — is literally the same list.  (All elements of the run sit at position 0 and differ in their text only.) -/
theorem missing_attr_order_irrelevant (kp : Option (List Str)) (ref l10n : Message) :
    ∃ pre post, checkMessage kp (.message ref) l10n =
        pre ++ missingAttrErrs (dictKeys (attrsPos [] ref.attributes)) (dictKeys (attrsPos [] l10n.attributes)) ++ post ∧
      ∀ run', run'.Perm (missingAttrErrs (dictKeys (attrsPos [] ref.attributes)) (dictKeys (attrsPos [] l10n.attributes))) →
        (sortBy C08I.posLe (pre ++ run' ++ post)).Perm (sortBy C08I.posLe (checkMessage kp (.message ref) l10n)) ∧
        ∀ p : Msg → Bool, (∀ m ∈ run', p m = false) →
          (sortBy C08I.posLe (pre ++ run' ++ post)).filter p = (sortBy C08I.posLe (checkMessage kp (.message ref) l10n)).filter p := by
  refine ⟨checkDuplicateAttributes l10n.attributes
      ++ valueMsgs kp (rrOf (refVisitEntry (.message ref)).entryRefs) l10n.value
      ++ attrsMsgs kp (rrOf (refVisitEntry (.message ref)).entryRefs) (refVisitEntry (.message ref)).css l10n.attributes
      ++ valueErrs ref.value.isSome l10n.value,
    obsoleteAttrErrs (dictKeys (attrsPos [] ref.attributes)) (attrsPos [] l10n.attributes)
      ++ missingRefs (refVisitEntry (.message ref)).entryRefs (l10nVisitMessage kp (refVisitEntry (.message ref)) l10n).entryRefs,
    ?_, ?_⟩
  · rw [check_message_structure]; simp only [List.append_assoc]
  · intro run' hperm
    have h := C08I.run_order_irrelevant
      (checkDuplicateAttributes l10n.attributes
        ++ valueMsgs kp (rrOf (refVisitEntry (.message ref)).entryRefs) l10n.value
        ++ attrsMsgs kp (rrOf (refVisitEntry (.message ref)).entryRefs) (refVisitEntry (.message ref)).css l10n.attributes
        ++ valueErrs ref.value.isSome l10n.value) run' _
      (obsoleteAttrErrs (dictKeys (attrsPos [] ref.attributes)) (attrsPos [] l10n.attributes)
        ++ missingRefs (refVisitEntry (.message ref)).entryRefs (l10nVisitMessage kp (refVisitEntry (.message ref)) l10n).entryRefs) hperm
    have hs : checkMessage kp (.message ref) l10n = _ := check_message_structure kp ref l10n
    simp only [List.append_assoc] at h hs ⊢
    rw [hs]
    exact h

/-- `finish` (what `check` does with the message list) is that sort followed by the shift to entry-relative positions -/
theorem finish_is_sort (start : Nat) (msgs : List Msg) : finish start msgs = (sortBy C08I.posLe msgs).map (toOut start) := rfl

/-- **Text of the CSS warning.**  For dicts `ref_map`, `l10n_map` (distinct keys — `css_maps_are_dicts`), a non-empty
    `l10n_map` and no syntax errors, `check_style` yields nothing when the maps agree, else ONE warning at position 0 whose
    text is the `", "`-join of: `"<p> only in reference"` for the reference's properties the localization lacks, in REVERSE
    reference order; `"<p> only in l10n"` for the localization's properties the reference lacks, in REVERSE localization
    order; `"units for <p> don't match (<l10n unit> != <ref unit>)"` for common properties with different units, in
    localization order.  Afterwards `ref_map` holds only the properties the localization did not name (`pop`). -/
theorem css_warning_text (rm lm : CssMap) (ce : Option (List CssErr)) (hne : lm ≠ [])
    (hce : (match ce with | some (_ :: _) => true | _ => false) = false)
    (hl : (dictKeys lm).Nodup) (hr : (dictKeys rm).Nodup) :
    checkStyle rm (some lm) ce =
      (if (C08W.styleMsgs rm lm).isEmpty then []
        else [⟨sevWarning, 0, join [44, 32] (C08W.styleMsgs rm lm)⟩], C08W.popped rm lm) ∧
    C08W.styleMsgs rm lm =
      ((C08W.onlyRef rm lm).map C08W.onlyRefMsg).reverse ++ ((C08W.onlyL10n rm lm).map C08W.onlyL10nMsg).reverse
        ++ C08W.mismatches rm lm := by
  rw [C08W.checkStyle_ok rm lm ce hne hce hl hr]
  exact ⟨rfl, rfl⟩

/-- the parts of that text, as a set -/
theorem css_warning_members (rm lm : CssMap) (m : Str) :
    m ∈ C08W.styleMsgs rm lm ↔
      (∃ q ∈ rm, q.1 ∉ dictKeys lm ∧ m = C08W.onlyRefMsg q.1) ∨
      (∃ p ∈ lm, p.1 ∉ dictKeys rm ∧ m = C08W.onlyL10nMsg p.1) ∨
      (∃ p ∈ lm, ∃ ru, dictGet? rm p.1 = some ru ∧ p.2 ≠ ru ∧ m = C08W.unitsMsg p.1 p.2 ru) := by
  open C08W in
  simp only [styleMsgs, List.mem_append, List.mem_reverse, List.mem_map, onlyRef, onlyL10n, mismatches,
    List.mem_filter, List.mem_filterMap]
  constructor
  · rintro ((⟨k, ⟨q, ⟨hq, hc⟩, rfl⟩, rfl⟩ | ⟨k, ⟨p, ⟨hp, hc⟩, rfl⟩, rfl⟩) | ⟨p, hp, hm⟩)
    · exact Or.inl ⟨q, hq, by simpa using hc, rfl⟩
    · refine Or.inr (Or.inl ⟨p, hp, ?_, rfl⟩)
      rw [← dictGet?_none_iff]
      simpa using hc
    · refine Or.inr (Or.inr ⟨p, hp, ?_⟩)
      cases hg : dictGet? rm p.1 with
      | none => simp [hg] at hm
      | some ru =>
        simp only [hg] at hm
        split at hm
        · rename_i hne
          cases hm
          exact ⟨ru, rfl, by simpa using hne, rfl⟩
        · cases hm
  · rintro (⟨q, hq, hc, rfl⟩ | ⟨p, hp, hc, rfl⟩ | ⟨p, hp, ru, hg, hne, rfl⟩)
    · exact Or.inl (Or.inl ⟨q.1, ⟨q, ⟨hq, by simpa using hc⟩, rfl⟩, rfl⟩)
    · refine Or.inl (Or.inr ⟨p.1, ⟨p, ⟨hp, ?_⟩, rfl⟩, rfl⟩)
      have := (dictGet?_none_iff rm p.1).mpr hc
      simp [this]
    · refine Or.inr ⟨p, hp, ?_⟩
      simp [hg, hne]

/-- the maps the hypotheses of `css_warning_text` talk about are what the code has: every map `parse_css_spec` returns, and
    the reference visitor's `css_styles`, is non-empty with distinct keys -/
theorem css_maps_are_dicts :
    (∀ v m, (parseCssSpec v).1 = some m → m ≠ [] ∧ (dictKeys m).Nodup) ∧
    (∀ ref rm, (refVisitEntry ref).css = .map rm → (dictKeys rm).Nodup) :=
  ⟨fun v m h => ⟨C08W.parseCssSpec_ne_nil v m h, C08W.parseCssSpec_nodup v m h⟩, C08W.refVisitEntry_css_nodup⟩

/-- **Several `style` attributes in one message: `reference.css_styles` is popped in place.**  With the reference's map
    `rm`, the per-attribute messages of the l10n visitor are `C08W.attrsSpec`: attribute by attribute the node messages, then
    the style verdict against the map AS IT IS AT THAT MOMENT (`C08W.styleVerdict`: the warning of `css_warning_text` for an
    accepted style, the error for a bad one, nothing otherwise), then the map loses every property an accepted style named
    (`C08W.popOne`).  So a property is reported "only in reference" by every accepted style that lacks it until one names
    it, and a second style naming an already popped property reports it as "only in l10n".  Without a reference map (no
    `style` in the reference, or a complex one) every style is compared with a fresh empty map. -/
theorem css_pop_across_styles (kp : Option (List Str)) (rr : Slot → List Str) (attrs : List Attribute) :
    (∀ rm, (dictKeys rm).Nodup → attrsMsgs kp rr (.map rm) attrs = C08W.attrsSpec kp rr rm attrs) ∧
    (∀ rc, (∀ rm, rc ≠ .map rm) → attrsMsgs kp rr rc attrs = C08W.attrsSpecNoMap kp rr attrs) ∧
    (∀ rm q, q ∈ attrs.foldl C08W.popOne rm ↔
      q ∈ rm ∧ ∀ a ∈ attrs, ∀ lm, C08W.goodMap a = some lm → q.1 ∉ dictKeys lm) := by
  refine ⟨fun rm hr => C08W.attrsMsgs_map kp rr rm hr attrs, fun rc hrc => C08W.attrsMsgs_nomap kp rr rc hrc attrs, ?_⟩
  exact fun rm q => C08W.mem_foldl_popOne rm attrs q

/-- **maybe_style** (the entry of the other checkers into the same code): nothing when the reference value holds no
    declaration at all; otherwise exactly what `check_style` yields for the reference's map (syntax errors of the REFERENCE
    are dropped) and the parsed localization, every tuple in category `css`. -/
theorem maybe_style_spec (r l : Str) :
    ((parseCssSpec r).1 = none → maybeStyle r l = []) ∧
    (∀ rm, (parseCssSpec r).1 = some rm →
      (maybeStyle r l).map C08W.dropCat = (checkStyle rm (parseCssSpec l).1 (parseCssSpec l).2).1 ∧
      (∀ o ∈ maybeStyle r l, o.cat = fmt checkStyleStr_2 []) ∧
      ((∃ o ∈ maybeStyle r l, o.sev = sevError) ↔ cssBad l = true)) := by
  refine ⟨C08W.maybeStyle_none r l, ?_⟩
  intro rm h
  rw [C08W.maybeStyle_some r l rm h]
  obtain ⟨h1, _, h3⟩ := C08W.checkStyle4_eq rm (parseCssSpec l).1 (parseCssSpec l).2
  refine ⟨h1, h3, ?_⟩
  have herr := checkStyle_errs rm (parseCssSpec l).1 (parseCssSpec l).2
  rw [← h1] at herr
  have heta : ((parseCssSpec l).fst, (parseCssSpec l).snd) = parseCssSpec l := rfl
  rw [heta] at herr
  constructor
  · rintro ⟨o, ho, hs⟩
    by_cases hb : cssBad l = true
    · exact hb
    · have hb' : cssBadP (parseCssSpec l) = false := by simpa [cssBad] using hb
      rw [hb'] at herr
      have : C08W.dropCat o ∈ errsOf ((checkStyle4 rm (parseCssSpec l).1 (parseCssSpec l).2).1.map C08W.dropCat) := by
        refine List.mem_filter.mpr ⟨List.mem_map.mpr ⟨o, ho, rfl⟩, ?_⟩
        simp [C08W.dropCat, hs]
      rw [herr] at this
      cases this
  · intro hb
    have hb' : cssBadP (parseCssSpec l) = true := hb
    rw [hb'] at herr
    have hmem : cssError ∈ errsOf ((checkStyle4 rm (parseCssSpec l).1 (parseCssSpec l).2).1.map C08W.dropCat) := by
      rw [herr]; exact List.mem_cons_self
    obtain ⟨hm, hsev⟩ := List.mem_filter.mp hmem
    obtain ⟨o, ho, hoe⟩ := List.mem_map.mp hm
    refine ⟨o, ho, ?_⟩
    have : (C08W.dropCat o).sev = sevError := by rw [hoe]; rfl
    exact this

/-- `FluentEntity.equals` is reflexive (an entity equals itself, whatever it contains) -/
theorem entity_equals_refl (e : Entry) : entityEquals e e = true := by
  open C08I in
  cases e with
  | message m => cases hv : m.value <;> simp [entityEquals, Entry.id, Entry.value, Entry.attributes, optPatternEqv, hv, pattern_eqv_refl, attrsEqv_refl]
  | term t => simp [entityEquals, Entry.id, Entry.value, optPatternEqv, pattern_eqv_refl]

section examples4

private def t4 (s : String) : Str := s.toList.map Char.toNat
private theorem t4_ofList (l : List Char) : t4 (String.ofList l) = l.map Char.toNat := by rw [t4, String.toList_ofList]
private def pat4 (s : String) : Pattern := .mk 0 [.text (t4 s)]
private theorem pat4_ofList (l : List Char) : pat4 (String.ofList l) = .mk 0 [.text (l.map Char.toNat)] := by rw [pat4, t4_ofList]
private def k4 (s : String) (p : Nat) : VKey := .ident p (t4 s)

/-- the English message `{ $n -> [one] … *[other] … }`, copied verbatim into Russian (one, few, many) -/
private def enPlural : Message :=
  ⟨0, t4 "m", some (.mk 4 [.text (t4 "You have "), .placeable (.select (.varRef (t4 "n"))
    [.mk (k4 "one" 20) (pat4 "one item") false, .mk (k4 "other" 40) (pat4 "many items") true])]), []⟩

/-- `identical to the reference ⇒ []` does NOT hold: the verbatim copy gets the plural warning … -/
example : (checkMessage (some [t4 "one", t4 "few", t4 "many"]) (.message enPlural) enPlural).map (fun m => (m.sev, m.pos, m.text)) =
    [(sevWarning, 20, t4 "Plural categories missing: few, many")] := by
  repeat rw [t4_ofList]
  decide +kernel
/-- … the same one a re-texted copy gets (instance of `untranslated_copy_same_verdicts`, evaluated) … -/
example : checkMessage (some [t4 "one", t4 "few", t4 "many"]) (.message enPlural)
      (C08T.mapMsg (fun v => v ++ t4 " (ru)") id enPlural) =
    checkMessage (some [t4 "one", t4 "few", t4 "many"]) (.message enPlural) enPlural := by
  repeat rw [t4_ofList]
  decide +kernel
/-- … and `mapMsg` really changes the texts (the theorem is not about the identity) -/
example : (C08T.mapMsg (fun v => v ++ t4 "!") id ⟨0, t4 "m", some (pat4 "v"), [⟨8, t4 "a", pat4 "w"⟩]⟩).value.map patternVariants = some [t4 "v!"] ∧
    (C08T.mapMsg (fun v => v ++ t4 "!") id ⟨0, t4 "m", some (pat4 "v"), [⟨8, t4 "a", pat4 "w"⟩]⟩).attributes.map (fun a => patternVariants a.value) =
      [[t4 "w!"]] := by decide +kernel
/-- a copied bad `style` stays an error; duplicated attributes stay warnings -/
example : (checkMessage none (.message ⟨0, t4 "m", some (pat4 "v"), [⟨8, t4 "style", pat4 "wide"⟩, ⟨20, t4 "a", pat4 "x"⟩, ⟨30, t4 "a", pat4 "y"⟩]⟩)
      ⟨0, t4 "m", some (pat4 "v"), [⟨8, t4 "style", pat4 "wide"⟩, ⟨20, t4 "a", pat4 "x"⟩, ⟨30, t4 "a", pat4 "y"⟩]⟩).map (fun m => (m.sev, m.pos)) =
    [(sevWarning, 20), (sevWarning, 30), (sevError, 0)] := by
  repeat rw [pat4_ofList]
  repeat rw [t4_ofList]
  decide +kernel
/-- the CSS text of a `style` attribute is NOT free: `mapMsg` leaves it alone (a changed spec changes the verdict) -/
example : (C08T.mapMsg (fun _ => t4 "x") id ⟨0, t4 "m", none, [⟨8, t4 "style", pat4 "width: 1em"⟩, ⟨30, t4 "label", pat4 "width: 1em"⟩]⟩).attributes.map
      (fun a => patternVariants a.value) = [[t4 "width: 1em"], [t4 "x"]] := by
  repeat rw [pat4_ofList]
  repeat rw [t4_ofList]
  decide +kernel
example : checkMessage none (.message ⟨0, t4 "m", none, [⟨8, t4 "style", pat4 "width: 1em"⟩]⟩) ⟨0, t4 "m", none, [⟨8, t4 "style", pat4 "x"⟩]⟩ ≠
    checkMessage none (.message ⟨0, t4 "m", none, [⟨8, t4 "style", pat4 "width: 1em"⟩]⟩) ⟨0, t4 "m", none, [⟨8, t4 "style", pat4 "width: 1em"⟩]⟩ := by
  repeat rw [pat4_ofList]
  repeat rw [t4_ofList]
  decide +kernel

/-- CSS warning text, evaluated: reference `width: 1em; height: 2px; min-width: 3ch`, localization `max-width: 1in; height: 2em` -/
example : (checkStyle [(t4 "width", some (t4 "em")), (t4 "height", some (t4 "px")), (t4 "min-width", some (t4 "ch"))]
      (some [(t4 "max-width", some (t4 "in")), (t4 "height", some (t4 "em"))]) none) =
    ([⟨sevWarning, 0, t4 "min-width only in reference, width only in reference, max-width only in l10n, units for height don't match (em != px)"⟩],
     [(t4 "width", some (t4 "em")), (t4 "min-width", some (t4 "ch"))]) := by
  repeat rw [t4_ofList]
  decide +kernel
/-- two `style` attributes against the reference `width: 1em; height: 2px`: the first (`width: 1em`) pops `width`, so the second
    (`width: 1em; height: 2px`) is told that `width` is only in l10n -/
example : ((C08W.attrsSpec none (fun _ => []) [(t4 "width", some (t4 "em")), (t4 "height", some (t4 "px"))]
      [⟨8, t4 "style", pat4 "width: 1em"⟩, ⟨30, t4 "style", pat4 "width: 1em; height: 2px"⟩]).map (·.text)) =
    [t4 "height only in reference", t4 "width only in l10n"] := by
  repeat rw [pat4_ofList]
  repeat rw [t4_ofList]
  decide +kernel
/-- the hypotheses of `css_warning_text` are needed: with a duplicate key in `ref_map` (not a dict) `pop` removes one pair only -/
example : (checkStyle [(t4 "width", some (t4 "em")), (t4 "width", some (t4 "px"))] (some [(t4 "width", some (t4 "em"))]) none).2 ≠
    C08W.popped [(t4 "width", some (t4 "em")), (t4 "width", some (t4 "px"))] [(t4 "width", some (t4 "em"))] := by
  repeat rw [t4_ofList]
  decide +kernel

/-- reference without any declaration → silent; bad localization → the error; other unit → the warning -/
example : maybeStyle (t4 "wide") (t4 "x") = [] ∧
    (maybeStyle (t4 "width: 1em") (t4 "x")).map (fun o => (o.sev, o.text, o.cat)) = [(sevError, t4 "reference is a CSS spec", t4 "css")] ∧
    (maybeStyle (t4 "width: 1em") (t4 "width: 1px")).map (fun o => (o.sev, o.text)) =
      [(sevWarning, t4 "units for width don't match (px != em)")] := by
  repeat rw [t4_ofList]
  decide +kernel

/-- a run in another order: same multiset after the sort, same list once the run is left out -/
example : sortBy C08I.posLe ([⟨sevWarning, 5, t4 "w"⟩] ++ [⟨sevError, 0, t4 "b"⟩, ⟨sevError, 0, t4 "a"⟩] ++ [⟨sevError, 3, t4 "o"⟩]) ≠
    sortBy C08I.posLe ([⟨sevWarning, 5, t4 "w"⟩] ++ [⟨sevError, 0, t4 "a"⟩, ⟨sevError, 0, t4 "b"⟩] ++ [⟨sevError, 3, t4 "o"⟩]) := by decide +kernel

/-- one instance: set_reference and earlier pairs do not touch a later verdict -/
example : ((Checker.new (some (t4 "ru"))).run [.case (t4 "m") (t4 "m = x") (.message enPlural) (.message enPlural),
      .setRef [t4 "a"], .case (t4 "m") (t4 "m = x") (.message enPlural) (.message enPlural)]).1.length = 2 := by decide +kernel

/-- FluentEntity.equals ignores spans, not texts; a term ignores its attributes -/
example : entityEquals (.message ⟨0, t4 "m", some (pat4 "a"), []⟩) (.message ⟨7, t4 "m", some (.mk 11 [.text (t4 "a")]), []⟩) = true ∧
    entityEquals (.message ⟨0, t4 "m", some (pat4 "a"), []⟩) (.message ⟨0, t4 "m", some (pat4 "b"), []⟩) = false ∧
    entityEquals (.term ⟨0, t4 "t", pat4 "a", [⟨5, t4 "x", pat4 "1"⟩]⟩) (.term ⟨0, t4 "t", pat4 "a", []⟩) = true ∧
    entityEquals (.message ⟨0, t4 "t", some (pat4 "a"), [⟨5, t4 "x", pat4 "1"⟩]⟩) (.message ⟨0, t4 "t", some (pat4 "a"), []⟩) = false := by
  decide +kernel

/-- equal up to spans: the same verdicts at other positions (`equal_entities_same_verdicts`, evaluated) -/
example : (checkMessage (some [t4 "one", t4 "few", t4 "many"]) (.message enPlural)
      ⟨7, t4 "m", some (.mk 13 [.text (t4 "You have "), .placeable (.select (.varRef (t4 "n"))
        [.mk (k4 "one" 33) (.mk 39 [.text (t4 "one item")]) false, .mk (k4 "other" 60) (.mk 68 [.text (t4 "many items")]) true])]), []⟩).map
      (fun m => (m.sev, m.pos, m.text)) = [(sevWarning, 33, t4 "Plural categories missing: few, many")] := by
  repeat rw [t4_ofList]
  decide +kernel
/-- `FluentTerm.equals` ignores attributes, check_term does not: two "equal" terms with different verdicts -/
example : entityEquals (.term ⟨0, t4 "t", pat4 "a", []⟩) (.term ⟨0, t4 "t", pat4 "a", [⟨5, t4 "x", pat4 "1"⟩, ⟨9, t4 "x", pat4 "2"⟩]⟩) = true ∧
    (checkTerm none ⟨0, t4 "t", pat4 "a", []⟩).length = 0 ∧
    (checkTerm none ⟨0, t4 "t", pat4 "a", [⟨5, t4 "x", pat4 "1"⟩, ⟨9, t4 "x", pat4 "2"⟩]⟩).length = 2 := by decide +kernel

end examples4

end C08
