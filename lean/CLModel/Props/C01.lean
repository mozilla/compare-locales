/-
C01 — Parsing is total, terminating and lossless for every text format.
All statements quantify over every text `s` (array of code points), no length bound.
-/
import CLModel.Parser.Formats
import CLModel.Parser.Fluent
import CLModel.Proofs.Walk
import CLModel.Proofs.ParserProgress
import CLModel.Proofs.FluentWalk
import CLModel.Parser.C01Sess
import CLModel.Proofs.C01Sess
import CLModel.Proofs.C01Dead
import CLModel.Proofs.C01FluentC
import CLModel.Proofs.C01Engine
import CLModel.Parser.C01Gen
import CLModel.Proofs.C01Gen
import CLModel.Proofs.WalkFmt
namespace C01
open P Rx

/-- 1 iff the text starts with a byte-order mark (only the DTD parser skips it) -/
def bomSkip (s : Array Nat) : Nat := if s[0]? = some 0xFEFF then 1 else 0

/-- properties: the walk terminates (never `stuck`), its entries tile the text and the
    concatenation of their source texts is the input. -/
theorem walk_lossless_properties (s : Array Nat) :
    ∃ es, walk .properties s = .done es ∧ Tiles s.size 0 0 es ∧
      (es.map (Entry.all s)).flatten = s.toList := by
  simpa [bom] using walk_lossless_fmt .properties s

/-- DTD: same, except that a leading byte-order mark is dropped. -/
theorem walk_lossless_dtd (s : Array Nat) :
    ∃ es, walk .dtd s = .done es ∧ Tiles s.size (bomSkip s) 0 es ∧
      (es.map (Entry.all s)).flatten = s.toList.drop (bomSkip s) :=
  walk_lossless_fmt .dtd s

theorem walk_lossless_ini (s : Array Nat) :
    ∃ es, walk .ini s = .done es ∧ Tiles s.size 0 0 es ∧
      (es.map (Entry.all s)).flatten = s.toList := by
  simpa [bom] using walk_lossless_fmt .ini s

theorem walk_lossless_inc (s : Array Nat) :
    ∃ es, walk .inc s = .done es ∧ Tiles s.size 0 0 es ∧
      (es.map (Entry.all s)).flatten = s.toList := by
  simpa [bom] using walk_lossless_fmt .inc s

theorem walk_lossless_po (s : Array Nat) :
    ∃ es, walk .po s = .done es ∧ Tiles s.size 0 0 es ∧
      (es.map (Entry.all s)).flatten = s.toList := by
  simpa [bom] using walk_lossless_fmt .po s

/-- the localizable-only view is exactly the entity and junk entries of the full view -/
theorem localizable_is_filter (f : Fmt) (s : Array Nat) (es : List Entry) (h : walk f s = .done es) :
    walkLoc f s = .done (es.filter Entry.localizable) := by
  cases f <;> simp only [walk, walkLoc] at h ⊢ <;> rw [walkFromLoc_eq, h] <;> rfl

/-- Fluent: under the body contract the walk is lossless, whatever the body kinds.
    (`other` entries — none exist in fluent.syntax 0.19 besides Message/Term/Junk/comments — must be empty.) -/
theorem fluent_lossless (s : Array Nat) (body : List FEntry) (hc : BodyContract s body 0)
    (hk : ∀ b ∈ body, b.kind = .other → b.s = b.e) :
    ((fluentWalk s body false).map (Entry.all s)).flatten = s.toList :=
  ((C01P.fluentWalkFrom_chain s body 0 hc (Nat.zero_le _) hk).all s (Nat.le_refl _)).2.trans (slice_full s)

/-- non-vacuity: a body with a junk (leading and trailing blanks), a gap and a message satisfies the contract -/
example : BodyContract #[32, 120, 10, 10, 97, 61, 98]
    [{ kind := .junk, s := 0, e := 3 }, { kind := .message, s := 4, e := 7 }] 0 :=
  ⟨by decide, by decide, by decide, by decide, by decide, by decide, trivial⟩

/-- negation witness for `hk`: a non-empty `other` entry is dropped by the walk, so its text is lost -/
example : ((fluentWalk #[120] [{ kind := .other, s := 0, e := 1 }] false).map (Entry.all #[120])).flatten
    ≠ #[120].toList := by decide

theorem fluent_localizable_is_filter (s : Array Nat) (body : List FEntry) :
    fluentWalk s body true = (fluentWalk s body false).filter Entry.localizable := by
  exact fluentWalkFrom_filter s body 0

/-- every entity's key span lies inside its own span (regex formats) -/
theorem key_inside (f : Fmt) (s : Array Nat) (es : List Entry) (h : walk f s = .done es) :
    ∀ e ∈ es, e.kind = .entity → (e.s : Int) ≤ e.ks ∧ e.ks ≤ e.ke ∧ e.ke ≤ (e.e : Int) :=
  walk_keyIn f s es h

/-- the value span lies inside the entity span -/
def ValNormal (e : Entry) : Prop := (e.s : Int) ≤ e.vs ∧ e.vs ≤ e.ve ∧ e.ve ≤ (e.e : Int)

/-- defines (.inc): the optional `val` group took no part in the match (`#define a`), Python's `m.span('val')` is (-1, -1) -/
def ValAbsent (e : Entry) : Prop := e.vs = -1 ∧ e.ve = -1

/-- DTD: the value is a lone apostrophe (`'[^']*'?` with the closing apostrophe missing, `<!ENTITY a '>`);
    trimming the quotes gives the inverted span (p+1, p), still inside the entity -/
def ValLoneQuote (e : Entry) : Prop := e.ve + 1 = e.vs ∧ (e.s : Int) ≤ e.ve ∧ e.vs ≤ (e.e : Int)

/-- per format: only defines can produce `ValAbsent`, only DTD can produce `ValLoneQuote` -/
def ValInsideFor (f : Fmt) (e : Entry) : Prop :=
  match f with
  | .inc => ValNormal e ∨ ValAbsent e
  | .dtd => ValNormal e ∨ ValLoneQuote e
  | _ => ValNormal e

def ValInside (e : Entry) : Prop := ValNormal e ∨ ValAbsent e ∨ ValLoneQuote e

/-- every entity's value span lies inside its own span, up to the degenerate encoding of its format -/
theorem val_inside_fmt (f : Fmt) (s : Array Nat) (es : List Entry) (h : walk f s = .done es) :
    ∀ e ∈ es, e.kind = .entity → ValInsideFor f e := by
  have := walk_valIn f s es h
  cases f <;> exact this

/-- every entity's value span lies inside its own span, or is one of the two degenerate encodings (regex formats) -/
theorem val_inside (f : Fmt) (s : Array Nat) (es : List Entry) (h : walk f s = .done es) :
    ∀ e ∈ es, e.kind = .entity → ValInside e := by
  intro e he hk
  have := val_inside_fmt f s es h e he hk
  cases f <;> simp only [ValInsideFor] at this
  · exact Or.inl this
  · exact this.elim Or.inl (fun h => Or.inr (Or.inr h))
  · exact Or.inl this
  · exact this.elim Or.inl (fun h => Or.inr (Or.inl h))
  · exact Or.inl this

/-- non-vacuity, defines: `#define a` is an entity without value group, encoded (-1, -1) -/
example : walk .inc #[35, 100, 101, 102, 105, 110, 101, 32, 97] =
    .done [{ kind := .entity, full := 0, s := 0, e := 9, ks := 8, ke := 9, vs := -1, ve := -1 }] := by decide +kernel

/-- non-vacuity, DTD: `<!ENTITY a '>` is an entity whose trimmed value span is inverted, (12, 11) -/
example : walk .dtd #[60, 33, 69, 78, 84, 73, 84, 89, 32, 97, 32, 39, 62] =
    .done [{ kind := .entity, full := 0, s := 0, e := 13, ks := 9, ke := 10, vs := 12, ve := 11 }] := by decide +kernel

open C01M C01P

/-- for every text and each of the five regex formats: both views exist (both walks terminate) and the
    localizable-only view (`list(parser)`) is exactly the Entity/Junk entries of the full view
    (`list(parser.walk())`), each taken on a FRESH context (`readUnicode`) -/
theorem localizable_view_eq_filter (f : Fmt) (s : Array Nat) :
    ∃ es, walk f s = .done es ∧ walkLoc f s = .done (es.filter Entry.localizable) := by
  obtain ⟨es, h, _⟩ := walk_lossless_fmt f s
  exact ⟨es, h, localizable_is_filter f s es h⟩

/-- the same for a context in ANY state (`fel` = `ctx.filter_empty_lines` when the walk starts): the two
    views of a context in the same state agree, and both leave the context in the same state -/
theorem ctx_localizable_is_filter (f : Fmt) (s : Array Nat) (fel : Bool) :
    (walkSt f s true fel).1 = (walkSt f s false fel).1.filterLoc ∧
    (walkSt f s true fel).2 = (walkSt f s false fel).2 :=
  walkSt_filter f s fel

/-- `readUnicode(t); list(p.walk()); list(p)` on ONE parser object, all five formats, all texts: the
    localizable view of the same context is exactly the Entity/Junk entries of the full view.
    (properties, DTD, ini, PO walks are stateless; `DefinesParser.walk` resets `filter_empty_lines` when a walk
    starts.  Without the reset the second walk starts from the flag the first one left and the clause fails on
    `#a b\n\n#filter emptyLines`, see below.) -/
theorem sess_walk_then_iter (f : Fmt) (t : Array Nat) :
    C01M.run f none [.read t, .walk false, .walk true] = [walk f t, (walk f t).filterLoc] :=
  sess_walks_fresh f t [false, true] false

/-- the other order: the full view after the localizable one, on the same context -/
theorem sess_iter_then_walk (f : Fmt) (t : Array Nat) :
    C01M.run f none [.read t, .walk true, .walk false] = [(walk f t).filterLoc, walk f t] :=
  sess_walks_fresh f t [true, false] false

/-- positive example, `#a b\n\n#filter emptyLines`: the blank lines are
    Junk in the full view and in the localizable view of the same context -/
example :
    C01M.run .inc none [.read #[35, 97, 32, 98, 10, 10, 35, 102, 105, 108, 116, 101, 114, 32, 101, 109, 112, 116, 121, 76, 105, 110, 101, 115],
      .walk false, .walk true] =
    [.done [{ kind := .instruction, full := 0, s := 0, e := 4, ks := 1, ke := 4, vs := 1, ve := 4 },
            { kind := .junk, full := 4, s := 4, e := 6 },
            { kind := .instruction, full := 6, s := 6, e := 24, ks := 7, ke := 24, vs := 7, ve := 24 }],
     .done [{ kind := .junk, full := 4, s := 4, e := 6 }]] := by decide +kernel

/-- why the reset matters: WITHOUT it (a walk started with the flag the previous one left, `walkSt … true`)
    the localizable view of that text has no Junk -/
example :
    (walkSt .inc #[35, 97, 32, 98, 10, 10, 35, 102, 105, 108, 116, 101, 114, 32, 101, 109, 112, 116, 121, 76, 105, 110, 101, 115]
      false false).2 = true ∧
    (walkSt .inc #[35, 97, 32, 98, 10, 10, 35, 102, 105, 108, 116, 101, 114, 32, 101, 109, 112, 116, 121, 76, 105, 110, 101, 115]
      true true).1 = .done [] := by decide +kernel

/-- `readUnicode` always starts from a fresh context -/
theorem sess_read_resets (f : Fmt) (ctx : PCtx) (t : Array Nat) (cs : List Cmd) :
    C01M.run f ctx (.read t :: cs) = C01M.run f (some (t, false)) cs := rfl

/-- a parser without a loaded context yields nothing (`if not self.ctx: return`), in both views -/
theorem sess_noctx (f : Fmt) (l : Bool) : C01M.run f none [.walk l] = [.done []] := rfl

/-- base.py:417, the late `return white_space`, is dead: replacing its value by ANY entry does not change
    `Parser.getNext` -/
theorem dead_base_late_whitespace (d : Entry) (c : BaseCfg) (s : Array Nat) (off : Nat) :
    getNextD d c s off = getNext c s off := by
  simp only [getNextD, getNext]
  rcases matchAt s c.reComment off with _ | cst
  · rcases matchAt s c.reWhitespace off with _ | w
    · rfl
    · rfl
  · rfl
/-- properties.py:107 -/
theorem dead_props_late_whitespace (d : Entry) (s : Array Nat) (off : Nat) :
    propsGetNextD d s off = propsGetNext s off := by
  simp only [propsGetNextD, propsGetNext]
  rcases matchAt s Gen.Pat.PropertiesParser_reComment off with _ | cst
  · rcases matchAt s Gen.Pat.Parser_reWhitespace off with _ | w
    · rfl
    · rfl
  · rfl
/-- defines.py:91 -/
theorem dead_defines_late_whitespace (d : Entry) (s : Array Nat) (fel : Bool) (off : Nat) :
    definesGetNextD d s fel off = definesGetNext s fel off := by
  simp only [definesGetNextD, definesGetNext]
  rcases matchAt s Gen.Pat.DefinesParser_reComment off with _ | cst
  · rcases matchAt s Gen.Pat.DefinesParser_reWhitespace off with _ | w
    · rfl
    · cases h : (off == 0 || !(w.pos - off == 1 || fel))
      · simp only [h]; rfl
      · simp only [h]; rfl
  · rfl

/-- Fluent, with the contract of fluent.syntax as a decidable predicate: the entries are a chain over `[0, len)` — each
    entry starts where the previous one ended, none is inverted (no character duplicated or reordered) -/
theorem fluentC_chain (s : Array Nat) (body : List FBody) (hc : contractB s body 0 = true) :
    Chain 0 (fluentWalkC (some s) body false) s.size := by
  have hch := fluentWalkFrom_chain s (body.map (·.b)) 0 (contractB_bodyContract s body 0 hc) (Nat.zero_le _)
    (contractB_other s body 0 hc)
  rwa [← fluentWalkFromC_eq s false body 0 hc] at hch

/-- hence, for every text and every body that satisfies `contractB`, the walk that reads `entry.content` is
    lossless.  No hypothesis on entry kinds is left: an unknown entry class must be empty by the contract. -/
theorem fluentC_lossless (s : Array Nat) (body : List FBody) (hc : contractB s body 0 = true) :
    ((fluentWalkC (some s) body false).map (Entry.all s)).flatten = s.toList :=
  ((fluentC_chain s body hc).all s (Nat.le_refl _)).2.trans (slice_full s)

/-- every Fluent entity's key lies inside its own text and so does its value (or it has none) -/
theorem fluentC_inside (s : Array Nat) (body : List FBody) (l : Bool) (hc : contractB s body 0 = true) :
    ∀ e ∈ fluentWalkC (some s) body l, EntIn e := by
  simp only [fluentWalkC, fluentWalkFromC_eq s l body 0 hc]
  refine fluentWalkFrom_entIn s l (body.map (·.b)) 0 ?_
  intro b hb hk
  obtain ⟨x, hx, rfl⟩ := List.mem_map.mp hb
  exact entryOKB_ent (contractB_mem s body 0 hc x hx).1 hk

/-- the localizable-only view is the Entity/Junk entries of the full view -/
theorem fluentC_localizable_is_filter (s : Array Nat) (body : List FBody) (hc : contractB s body 0 = true) :
    fluentWalkC (some s) body true = (fluentWalkC (some s) body false).filter Entry.localizable := by
  simp only [fluentWalkC, fluentWalkFromC_eq s _ body 0 hc]
  exact fluentWalkFrom_filter s _ 0

theorem fluentC_noctx (body : List FBody) (l : Bool) : fluentWalkC none body l = [] := rfl

/-- non-vacuity / the seeded regression class: a junk line that is Unicode white-space but not
    ` \t\r\n` (form feed, newline): it is NOT "white-space only" for the walk, the form feed stays Junk,
    only the newline is trimmed -/
example : contractB #[12, 10] [{ b := { kind := .junk, s := 0, e := 2 }, content := [12, 10] }] 0 = true ∧
    fluentWalkC (some #[12, 10]) [{ b := { kind := .junk, s := 0, e := 2 }, content := [12, 10] }] false =
      [{ kind := .junk, full := 0, s := 0, e := 1 },
       { kind := .whitespace, full := 1, s := 1, e := 2, ks := 1, ke := 2, vs := 1, ve := 2 }] := by decide +kernel

/-- no-break space around junk: stays inside the Junk entry -/
example : fluentWalkC (some #[160, 120, 160, 10]) [{ b := { kind := .junk, s := 0, e := 4 }, content := [160, 120, 160, 10] }] false =
      [{ kind := .junk, full := 0, s := 0, e := 3 },
       { kind := .whitespace, full := 3, s := 3, e := 4, ks := 3, ke := 4, vs := 3, ve := 4 }] := by decide +kernel

/-- the contract is sufficient, not necessary: a junk whose `content` is not the text of its span (here `[32]` for `xy`)
    violates `contractB`, yet nothing is lost on this input — the content is white-space only, so the junk is kept whole -/
example : contractB #[120, 121] [{ b := { kind := .junk, s := 0, e := 2 }, content := [32] }] 0 = false ∧
    ((fluentWalkC (some #[120, 121]) [{ b := { kind := .junk, s := 0, e := 2 }, content := [32] }] false).map
      (Entry.all #[120, 121])).flatten = #[120, 121].toList := by decide +kernel

/-- the regexes the five regex parsers (and the Fluent junk trimming) match with, all but one: `DTDParser.rePE`, which
    `dtdGetNext` matches with when the base `getNext` reports junk, is not `Safe` (see the example below) and is left out -/
def parserRegexes : List (String × Re) := [
  ("Parser.reWhitespace", Gen.Pat.Parser_reWhitespace),
  ("PropertiesParser.reKey", Gen.Pat.PropertiesParser_reKey),
  ("PropertiesParser.reComment", Gen.Pat.PropertiesParser_reComment),
  ("PropertiesParser._escapedEnd", Gen.Pat.PropertiesParser__escapedEnd),
  ("PropertiesParser._trailingWS", Gen.Pat.PropertiesParser__trailingWS),
  ("DTDParser.reKey", Gen.Pat.DTDParser_reKey),
  ("DTDParser.reComment", Gen.Pat.DTDParser_reComment),
  ("DTDParser.reHeader", Gen.Pat.DTDParser_reHeader),
  ("IniParser.reComment", Gen.Pat.IniParser_reComment),
  ("IniParser.reSection", Gen.Pat.IniParser_reSection),
  ("IniParser.reKey", Gen.Pat.IniParser_reKey),
  ("DefinesParser.reWhitespace", Gen.Pat.DefinesParser_reWhitespace),
  ("DefinesParser.reComment", Gen.Pat.DefinesParser_reComment),
  ("DefinesParser.reKey", Gen.Pat.DefinesParser_reKey),
  ("DefinesParser.rePI", Gen.Pat.DefinesParser_rePI),
  ("PoParser.reKey", Gen.Pat.PoParser_reKey),
  ("PoParser.reComment", Gen.Pat.PoParser_reComment),
  ("PoParser.reListItem", Gen.Pat.PoParser_reListItem),
  ("po.reEscape", Gen.Pat.parser_po_reEscape),
  ("FluentParser.walk[0]", Gen.Pat.parser_fluent_FluentParser_walk_0),
  ("FluentParser.walk[1]", Gen.Pat.parser_fluent_FluentParser_walk_1)]

/-- every repeat of every regex of `parserRegexes` has a body with at most one outcome per state (`Safe`); decided on
    the regenerated regexes.  A regex edit that introduces an ambiguous nested quantifier
    (`(a|b+)*`, `(x*)*`, `(a|a)*` …) makes this `decide` fail. -/
theorem parser_regexes_safe : ∀ p ∈ parserRegexes, Safe p.2 = true := by decide +kernel

/-- for every text: one match attempt of a parser regex at any position explores a search tree of
    at most `cC r * (len+2)^(dC r)` nodes; constant and degree depend on the regex only -/
theorem parser_regex_steps_poly (p : String × Re) (hp : p ∈ parserRegexes) (s : Array Nat) (st : St) :
    steps s p.2 st ≤ cC p.2 * (s.size + 2) ^ dC p.2 :=
  steps_poly s p.2 (parser_regexes_safe p hp) st

/-- the same for the engine itself: the instrumented copy `matchAtT` of `matchAt` (same result,
    `matchAtT_result`) makes at most `cC r * (len+2)^(dC r)` calls -/
theorem parser_regex_match_poly (p : String × Re) (hp : p ∈ parserRegexes) (s : Array Nat) (pos : Nat) :
    (matchAtT s p.2 pos).2 = matchAt s p.2 pos ∧ (matchAtT s p.2 pos).1 ≤ cC p.2 * (s.size + 2) ^ dC p.2 :=
  ⟨matchAtT_result s p.2 pos, matchAtT_poly s p.2 (parser_regexes_safe p hp) pos⟩

/-- the degrees are small: the PO string-list item is quadratic (today `18 * (len+2)^2`), the worst one of
    the table is `DTDParser.reKey` (five repeats in sequence, today `73 * (len+2)^5`) -/
example : dC Gen.Pat.PoParser_reListItem ≤ 2 ∧ ∀ p ∈ parserRegexes, dC p.2 ≤ 5 := by decide +kernel

/-- the seeded regression class: `[ \t\r\n]*"((?:\\[\\trn"]|[^"\n\\]+)*)"` (a `+` inside the starred
    alternation of `PoParser.reListItem`) is rejected by the criterion -/
example : Safe (.seq (.rep 0 none true (.cls false [.ch 32, .ch 9, .ch 13, .ch 10])) (.seq (.lit 34) (.seq (.group 1
    (.rep 0 none true (.alt (.seq (.lit 92) (.cls false [.ch 92, .ch 116, .ch 114, .ch 110, .ch 34]))
      (.rep 1 none true (.cls true [.ch 34, .ch 10, .ch 92]))))) (.lit 34)))) = false := by decide +kernel

/-- and it really is exponential for the engine: on `"` + k × `a` + `!` (no closing quote) the search tree
    of that regex doubles with every `a`, while the real regex grows linearly -/
example :
    let bad : Re := .seq (.lit 34) (.seq (.rep 0 none true (.alt (.seq (.lit 92) (.cls false [.ch 92]))
      (.rep 1 none true (.cls true [.ch 34, .ch 10, .ch 92])))) (.lit 34))
    let good : Re := .seq (.lit 34) (.seq (.rep 0 none true (.alt (.seq (.lit 92) (.cls false [.ch 92]))
      (.cls true [.ch 34, .ch 10, .ch 92]))) (.lit 34))
    (steps #[34, 97, 97, 97, 97, 33] bad ⟨0, []⟩, steps #[34, 97, 97, 97, 97, 97, 33] bad ⟨0, []⟩,
     steps #[34, 97, 97, 97, 97, 97, 97, 33] bad ⟨0, []⟩) = (289, 577, 1153) ∧
    (steps #[34, 97, 97, 97, 97, 33] good ⟨0, []⟩, steps #[34, 97, 97, 97, 97, 97, 33] good ⟨0, []⟩,
     steps #[34, 97, 97, 97, 97, 97, 97, 33] good ⟨0, []⟩) = (39, 45, 51) := by decide +kernel

/-- NOT covered by the criterion: `DTDParser.rePE` ends with `(?:[ \t]*(?:<!--…-->[ \t\r\n]*)*\n?)?`, a
    repeat whose body ends with an undelimited `[ \t\r\n]*` (and contains the comment's lazy repeat, which is
    delimited by the two characters `--`, not one).  Only its nesting depth is bounded, below. -/
example : Safe Gen.Pat.DTDParser_rePE = false := by decide

/-- nesting depth of unbounded repeats -/
def repDepth : Re → Nat
  | .seq a b | .alt a b => max (repDepth a) (repDepth b)
  | .group _ r | .look _ _ r => repDepth r
  | .rep _ mx _ r => (if mx = none then 1 else 0) + repDepth r
  | _ => 0

example : repDepth Gen.Pat.DTDParser_rePE = 2 ∧ ∀ p ∈ parserRegexes, repDepth p.2 ≤ 2 := by decide +kernel

/- `walk()` / `__iter__` as generator objects of ONE parser object (`C01M.stepG`, Parser/C01Gen): partial consumption,
abandoned passes, interleaving.  `view f t loc` is what a fresh parser shows for text `t` (`loc` = localizable-only view).
The regression these statements exclude: yielded entries memoised on the Context (or on the parser) while a pass is running,
so that an abandoned first pass leaves a truncated list which later passes replay; it contradicts
`partial_walk_leaves_context` (a pass writes nothing but `filter_empty_lines`) and `walk_after_partial_is_fresh`. -/

/-- No operation on generator objects — creating one, `k` × `next`, `list(g)`, closing or abandoning it — changes
    which Context the parser holds or the contents of any Context; for the four formats whose walk keeps no state
    outside its frame the Context objects are not written at all.  (`.inc`: only `filter_empty_lines` is written.) -/
theorem partial_walk_leaves_context (f : Fmt) (σ : Obj) (op : Op) (h : ∀ t, op ≠ .read t) :
    (stepG f σ op).1.cur = σ.cur ∧
    (stepG f σ op).1.heap.map CtxO.s = σ.heap.map CtxO.s ∧
    (f ≠ .inc → (stepG f σ op).1.heap = σ.heap) :=
  let h := stepG_frame f σ op h
  ⟨h.cur, h.contents, h.heap⟩

/-- the same for any history without `readUnicode` (any number of partial, complete, interleaved, abandoned passes) -/
theorem passes_leave_context (f : Fmt) (σ : Obj) (ops : List Op) (h : ∀ op ∈ ops, ∀ t, op ≠ .read t) :
    (execG f σ ops).cur = σ.cur ∧
    (execG f σ ops).heap.map CtxO.s = σ.heap.map CtxO.s ∧
    (f ≠ .inc → (execG f σ ops).heap = σ.heap) :=
  let h := execG_frame f ops σ h
  ⟨h.cur, h.contents, h.heap⟩

/-- A COMPLETE pass (`list(p.walk())`, `list(p)`, `p.parse()`) on a parser object in ANY state — whatever
    generators exist, wherever they are suspended, whatever `filter_empty_lines` an abandoned `.inc` pass left on any
    Context — shows exactly what a fresh parser shows for the contents of the current Context.  All five formats,
    all texts. -/
theorem walk_after_partial_is_fresh (f : Fmt) (σ : Obj) (cid : Nat) (c : CtxO) (loc : Bool)
    (hcur : σ.cur = some cid) (hc : σ.heap[cid]? = some c) :
    runG f σ [.mk loc, .drain σ.gens.length] = [.full (view f c.s loc)] := by
  simp only [fresh_pass, curText, hcur, hc, Option.map_some]

/-- … and a parser that holds no Context shows nothing, in any state -/
theorem gen_noctx (f : Fmt) (σ : Obj) (loc : Bool) (hcur : σ.cur = none) :
    runG f σ [.mk loc, .drain σ.gens.length] = [.full (.done [])] := by
  simp only [fresh_pass, curText, hcur]

/-- History form: after ANY history `h` on a new parser object (reads, generators created, partially consumed,
    interleaved, drained, closed, abandoned — in any order), a complete pass shows the fresh parse of the text of the
    LAST `readUnicode` of `h` (nothing if there was none). -/
theorem complete_pass_after_any_history (f : Fmt) (h : List Op) (loc : Bool) :
    runG f (execG f {} h) [.mk loc, .drain (countMk h)] =
      [.full (match lastRead h none with | some t => view f t loc | none => .done [])] :=
  complete_pass f h loc

/-- A pass abandoned after `k` entries shows a PREFIX of the complete pass (exactly `k` entries when there are that
    many, otherwise all of them), and resuming the same generator shows exactly the remaining suffix: nothing is
    lost, duplicated or reordered by suspending a pass.  Any object state, all five formats. -/
theorem partial_pass_is_prefix (f : Fmt) (σ : Obj) (loc : Bool) (k : Nat) :
    ∃ es o, runG f σ [.mk loc, .drain σ.gens.length] = [.full (.done es)] ∧
      runG f σ [.mk loc, .next σ.gens.length k, .drain σ.gens.length] =
        [o, .full (.done (es.drop o.entries.length))] ∧
      o.entries = es.take o.entries.length ∧
      ((o = .part (es.take k) ∧ k ≤ es.length) ∨ o = .full (.done es)) := by
  simp only [runG, stepG]
  generalize hσ1 : ({ σ with gens := σ.gens ++ [{ loc := loc, st := .fresh }] } : Obj) = σ1
  obtain ⟨d1, _⟩ := drainG_spec f σ1 σ.gens.length
  obtain ⟨es, he, _⟩ := remaining_done f σ1 σ.gens.length
  have kk := nextK_shows f k σ1 σ.gens.length
  generalize hk : nextK f k σ1 σ.gens.length = kr at kk
  obtain ⟨σ2, o⟩ := kr
  obtain ⟨d2, _⟩ := drainG_spec f σ2 σ.gens.length
  obtain ⟨es2, he2, _⟩ := remaining_done f σ2 σ.gens.length
  generalize hd1 : drainG f σ1 σ.gens.length = dr1 at d1
  obtain ⟨σ1', o1⟩ := dr1
  generalize hd2 : drainG f σ2 σ.gens.length = dr2 at d2
  obtain ⟨σ3, o2⟩ := dr2
  simp only at d1 d2 kk ⊢
  refine ⟨es, o, by rw [d1, he], ?_⟩
  cases o with
  | part es1 =>
    obtain ⟨l, h⟩ := kk
    rw [he, he2, prepend_done] at h
    simp only [WalkResult.done.injEq] at h
    subst h
    subst l
    refine ⟨?_, ?_, ?_⟩
    · simp [Out.entries, d2, he2]
    · simp [Out.entries]
    · left; simp
  | full r =>
    obtain ⟨h1, h2⟩ := kk
    rw [he] at h1
    subst h1
    refine ⟨?_, ?_, ?_⟩
    · simp [Out.entries, d2, h2]
    · simp [Out.entries]
    · right; rfl

/-- what `next`/`list` show of a generator is always the front of what remained of it, and what remains afterwards
    is the rest (`remaining` = the walk from the generator's own `next_offset` on its own captured Context) -/
theorem next_shows_front_of_remaining (f : Fmt) (k : Nat) (σ : Obj) (g : Nat) :
    (∀ es, (nextK f k σ g).2 = .part es →
      es.length = k ∧ remaining f σ g = prepend es (remaining f (nextK f k σ g).1 g)) ∧
    (∀ r, (nextK f k σ g).2 = .full r → r = remaining f σ g ∧ remaining f (nextK f k σ g).1 g = .done []) := by
  have h := nextK_shows f k σ g
  exact ⟨fun es he => by rwa [he] at h, fun r he => by rwa [he] at h⟩

theorem list_shows_remaining (f : Fmt) (σ : Obj) (g : Nat) :
    (drainG f σ g).2 = .full (remaining f σ g) ∧ remaining f (drainG f σ g).1 g = .done [] :=
  drainG_spec f σ g

/-- INTERLEAVED passes, properties / DTD / ini / PO: what remains of generator `g` is unchanged by every operation
    on other generators (created, consumed, drained, closed), so — with `next_shows_front_of_remaining` — the
    concatenation of everything `g` shows, under any interleaving, is what remained when it was created. -/
theorem interleaved_walks_independent (f : Fmt) (hf : f ≠ .inc) (σ : Obj) (g : Nat) (op : Op) (hg : g < σ.gens.length)
    (hnr : ∀ t, op ≠ .read t) (ht : target op ≠ some g) :
    remaining f (stepG f σ op).1 g = remaining f σ g := by
  have hfr := stepG_frame f σ op hnr
  refine remaining_congr f σ _ g ?_ hfr.cur (hfr.heap hf)
  cases op with
  | read t => exact absurd rfl (hnr t)
  | mk loc => simp [stepG, List.getElem?_append_left hg]
  | next g' k => exact (nextK_touch f g' k σ).others g (fun h => ht (by simp [target, h]))
  | drain g' => exact (drainG_touch f σ g').others g (fun h => ht (by simp [target, h]))
  | close g' => exact (closeG_touch f σ g').others g (fun h => ht (by simp [target, h]))

/-- non-vacuity, on the shape of the regression described above: `a=b⏎c=d⏎`; a full pass abandoned after ONE entry, a
    localizable pass abandoned after ZERO entries, then `list(p)` and `list(p.walk())`: both complete and fresh -/
example :
    runG .properties {} [.read #[97, 61, 98, 10, 99, 61, 100, 10],
      .mk false, .next 0 1, .close 0, .mk true, .next 1 0, .mk true, .drain 2, .mk false, .drain 3] =
    [.part [{ kind := .entity, full := 0, s := 0, e := 3, ks := 0, ke := 1, vs := 2, ve := 3 }],
     .part [],
     .full (.done [{ kind := .entity, full := 0, s := 0, e := 3, ks := 0, ke := 1, vs := 2, ve := 3 },
                   { kind := .entity, full := 4, s := 4, e := 7, ks := 4, ke := 5, vs := 6, ve := 7 }]),
     .full (.done [{ kind := .entity, full := 0, s := 0, e := 3, ks := 0, ke := 1, vs := 2, ve := 3 },
                   { kind := .whitespace, full := 3, s := 3, e := 4, ks := 3, ke := 4, vs := 3, ve := 4 },
                   { kind := .entity, full := 4, s := 4, e := 7, ks := 4, ke := 5, vs := 6, ve := 7 },
                   { kind := .whitespace, full := 7, s := 7, e := 8, ks := 7, ke := 8, vs := 7, ve := 8 }])] := by
  decide +kernel

/-- negation witness for `hf` in `interleaved_walks_independent`: `.inc` passes share `ctx.filter_empty_lines`.
    `#define x⏎#filter emptyLines⏎⏎`: pass 0 has gone past `#filter emptyLines`; starting pass 1 resets the flag
    (`DefinesParser.walk`); pass 0 then reports the blank line as Junk, where a fresh parse has white-space.
    (The real code does the same: candidate finding C01-inc-interleaved-walks-share-filter-flag, see
    docs/notes/NOTES-C01.md.) -/
example :
    runG .inc {} [.read #[35, 100, 101, 102, 105, 110, 101, 32, 120, 10, 35, 102, 105, 108, 116, 101, 114, 32, 101, 109, 112, 116, 121, 76, 105, 110, 101, 115, 10, 10],
      .mk false, .next 0 3, .mk true, .next 1 1, .drain 0] =
    [.part [{ kind := .entity, full := 0, s := 0, e := 9, ks := 8, ke := 9 },
            { kind := .whitespace, full := 9, s := 9, e := 10, ks := 9, ke := 10, vs := 9, ve := 10 },
            { kind := .instruction, full := 10, s := 10, e := 28, ks := 11, ke := 28, vs := 11, ve := 28 }],
     .part [{ kind := .entity, full := 0, s := 0, e := 9, ks := 8, ke := 9 }],
     .full (.done [{ kind := .junk, full := 28, s := 28, e := 30 }])] ∧
    walk .inc #[35, 100, 101, 102, 105, 110, 101, 32, 120, 10, 35, 102, 105, 108, 116, 101, 114, 32, 101, 109, 112, 116, 121, 76, 105, 110, 101, 115, 10, 10] =
      .done [{ kind := .entity, full := 0, s := 0, e := 9, ks := 8, ke := 9 },
             { kind := .whitespace, full := 9, s := 9, e := 10, ks := 9, ke := 10, vs := 9, ve := 10 },
             { kind := .instruction, full := 10, s := 10, e := 28, ks := 11, ke := 28, vs := 11, ve := 28 },
             { kind := .whitespace, full := 28, s := 28, e := 30, ks := 28, ke := 30, vs := 28, ve := 30 }] := by
  decide +kernel

end C01
