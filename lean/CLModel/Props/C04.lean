/-
C04 — l10n-merge output is complete, clean and otherwise untouched.
Theorems about the model `Merge.merge` of `ContentComparer.merge`, for ALL texts, skip lists
and missing lists.  The re-parse claims of the property are false in general (findings F4, F5, F14 —
the witnesses below are kernel-checked); sections `Reparse`, `Multi`, `OneCut` and `Inc` prove them for the
printed record classes of C02 — `.properties` (append, any number of cuts in any order), `.ini` (append),
`.dtd` (append and whole-entity cuts), `.inc` (copy) —, everything else is decided on the real code (oracle).
-/
import CLModel.Compare.Merge
import CLModel.Proofs.C04Splice
import CLModel.Proofs.C04Ini
import CLModel.Proofs.C04Bytes
import CLModel.Proofs.C04Quiet
import CLModel.Proofs.C04MultiProps
import CLModel.Proofs.C04Dtd
import CLModel.Proofs.C04Session
import CLModel.Proofs.C02XInc
import CLModel.Proofs.SafeRecDec
namespace C04
open Merge Gen.Tables

/-- spans sorted by start and pairwise disjoint, all present, starting at or after `off` -/
def SortedDisjoint : List Skip → Nat → Prop
  | [], _ => True
  | sk :: rest, off => ∃ a b, sk.span = some (a, b) ∧ off ≤ a ∧ a ≤ b ∧ SortedDisjoint rest b

/-- the l10n text with the spans cut out (specification) -/
def removeSpans (contents : List Nat) : List Skip → Nat → List Nat
  | [], off => contents.drop off
  | sk :: rest, off =>
    match sk.span with
    | some (a, b) => (contents.drop off).take (a - off) ++ removeSpans contents rest b
    | none => contents.drop off

theorem chunks_eq_removeSpans (contents : List Nat) :
    ∀ (skips : List Skip) (off : Nat), SortedDisjoint skips off →
      chunks contents skips (some off) = removeSpans contents skips off := by
  intro skips
  induction skips with
  | nil => intro off _; simp [chunks, removeSpans]
  | cons sk rest ih =>
    intro off h
    obtain ⟨a, b, hs, _, _, hr⟩ := h
    simp [chunks, removeSpans, hs, ih b hr]

/-- cutting sorted, disjoint spans out of a text yields a subsequence of it -/
theorem chunks_sublist (contents : List Nat) :
    ∀ (skips : List Skip) (off : Nat), SortedDisjoint skips off →
      (chunks contents skips (some off)).Sublist (contents.drop off) := by
  intro skips
  induction skips with
  | nil => intro off _; simp [chunks]
  | cons sk rest ih =>
    intro off h
    obtain ⟨a, b, hs, h1, h2, hr⟩ := h
    simp only [chunks, hs]
    have h3 : (chunks contents rest (some b)).Sublist ((contents.drop off).drop (a - off)) := by
      refine (ih b hr).trans ?_
      have : contents.drop b = ((contents.drop off).drop (a - off)).drop (b - a) := by
        rw [List.drop_drop, List.drop_drop]; congr 1; omega
      rw [this]; exact List.drop_sublist _ _
    have := List.Sublist.append (List.Sublist.refl ((contents.drop off).take (a - off))) h3
    rwa [List.take_append_drop] at this

/-- the trailing block: a newline, the missing reference entries, then the reference entries of
    the non-junk skips, each newline-terminated -/
theorem trailing_spec (missingAlls : List (List Nat)) (skips : List Skip) :
    trailing missingAlls skips =
      [10] ++ (missingAlls.map ensureNewline).flatten
        ++ (((skips.filter (fun s => !s.junk)).map (·.refAll)).map ensureNewline).flatten := by
  simp [trailing, ensureNewline]

theorem ensureNewline_ends (s : List Nat) : (ensureNewline s).getLast? = some 10 := by
  unfold ensureNewline; split <;> simp_all

/-- skip+merge formats: the staged text is the l10n text with the skip spans cut out followed by the trailing block -/
theorem merge_text_spec (contents : List Nat) (sk : Skip) (skips : List Skip) (missingAlls : List (List Nat))
    (sorted : List Skip) (hs : sortSkips (sk :: skips) = some sorted) :
    merge true (CAN_SKIP + CAN_MERGE) contents (sk :: skips) missingAlls =
      .written (chunks contents sorted none ++ trailing missingAlls sorted) :=
  C04M.merge_skips_merge contents sk skips missingAlls sorted hs

/-- skip-only formats (Fluent, PO, Android): only the cut l10n text is written -/
theorem skip_only_text (contents : List Nat) (sk : Skip) (skips : List Skip) (missingAlls : List (List Nat))
    (sorted : List Skip) (hs : sortSkips (sk :: skips) = some sorted) :
    merge true CAN_SKIP contents (sk :: skips) missingAlls = .written (chunks contents sorted none) :=
  C04M.merge_skips_only contents sk skips missingAlls sorted hs

/-- … and with sorted, disjoint spans that text is a subsequence of the localized text: no reference text enters -/
theorem skip_only_no_english (contents : List Nat) (sk : Skip) (skips : List Skip) (missingAlls : List (List Nat))
    (sorted : List Skip) (hs : sortSkips (sk :: skips) = some sorted) (hd : SortedDisjoint sorted 0) :
    ∃ t, merge true CAN_SKIP contents (sk :: skips) missingAlls = .written t ∧ t.Sublist contents := by
  refine ⟨_, skip_only_text contents sk skips missingAlls sorted hs, ?_⟩
  have h := chunks_sublist contents sorted 0 hd
  cases sorted with
  | nil => simp [chunks]
  | cons s0 rest =>
    obtain ⟨a, b, hsp, _, _, _⟩ := hd
    simp only [chunks, hsp] at h ⊢
    simpa using h

/-- a complete, clean localization is staged as a verbatim copy (byte-identical), whatever the strategy -/
theorem clean_is_identical (caps : Nat) (contents : List Nat)
    (hc : hasCap caps CAN_COPY = true ∨ hasCap caps CAN_SKIP = true) (hn : caps ≠ CAN_NONE) :
    merge true caps contents [] [] = .copyL10n := by
  unfold merge
  have : (caps == CAN_NONE) = false := by simpa using hn
  rcases hc with h | h
  · simp [this, h]
  · by_cases hcopy : hasCap caps CAN_COPY = true
    · simp [this, hcopy]
    · by_cases hm : hasCap caps CAN_MERGE = true <;> simp [this, hcopy, h, hm]

/-- copy-only formats (.inc) and unknown file types: copy the l10n file iff it is clean, else the reference -/
theorem copy_only (contents : List Nat) (skips : List Skip) (missingAlls : List (List Nat)) :
    merge true CAN_COPY contents skips missingAlls =
      (if skips.isEmpty && missingAlls.isEmpty then .copyL10n else .copyRef) := by
  cases skips <;> cases missingAlls <;> simp [merge, hasCap, CAN_COPY, CAN_NONE]

/-- without a merge path, or with CAN_NONE, nothing is written -/
theorem no_merge_file_no_effect (caps : Nat) (contents : List Nat) (skips : List Skip) (ms : List (List Nat)) :
    merge false caps contents skips ms = .nothing ∧ merge true CAN_NONE contents skips ms = .nothing := by
  simp [merge, CAN_NONE]

/-- the strategies are those of the source: capability bits and per-format capabilities are generated from /repo -/
theorem strategy_table :
    CAN_NONE = 0 ∧ CAN_COPY = 1 ∧ CAN_SKIP = 2 ∧ CAN_MERGE = 4 ∧
    cap_dtd = CAN_SKIP + CAN_MERGE ∧ cap_properties = CAN_SKIP + CAN_MERGE ∧ cap_ini = CAN_SKIP + CAN_MERGE ∧
    cap_ftl = CAN_SKIP ∧ cap_po = CAN_SKIP ∧ cap_android = CAN_SKIP ∧ cap_inc = CAN_COPY := by
  decide +kernel

/-- F5 (known finding): one skip with span (None, None) duplicates the text and removes nothing;
    two such skips raise TypeError in `skips.sort` -/
theorem android_duplicates_witness :
    merge true CAN_SKIP [97, 98] [{ span := none, junk := false, refAll := [] }] [] = .written [97, 98, 97, 98] ∧
    merge true CAN_SKIP [97, 98] [{ span := none, junk := false, refAll := [] }, { span := none, junk := false, refAll := [] }] []
      = .typeError := by
  decide +kernel

/-- F13 (fixed in /repo by not listing an entity twice): a duplicated skip appends its reference entity twice -/
theorem dup_skip_appends_twice_witness :
    merge true (CAN_SKIP + CAN_MERGE) [107, 61, 120, 10]
      [{ span := some (0, 3), junk := false, refAll := [107, 61, 65, 10] }, { span := some (0, 3), junk := false, refAll := [107, 61, 65, 10] }] []
      = .written [10, 10, 107, 61, 65, 10, 107, 61, 65, 10] := by
  decide +kernel

/-- non-vacuity: a sorted, disjoint skip list and what the splice does with it -/
example : SortedDisjoint [{ span := some (2, 4), junk := true, refAll := [] }, { span := some (5, 6), junk := false, refAll := [] }] 0 :=
  ⟨2, 4, rfl, by omega, by omega, 5, 6, rfl, by omega, by omega, trivial⟩
example : merge true CAN_SKIP [0, 1, 2, 3, 4, 5, 6]
    [{ span := some (5, 6), junk := false, refAll := [] }, { span := some (2, 4), junk := true, refAll := [] }] []
      = .written [0, 1, 4, 6] := by decide +kernel

/-! ### the re-parse claim for `.properties`, under explicit stability hypotheses

FULL STATEMENT (DESIGN.md "### C04"): for a clean reference and a localization without duplicate keys,
`reparse (merge …) = expected entities ∧ no junk ∧ nothing missing`, under `SpliceStable`.
Proved here for the printed class of C02 (`printProps`: safe records `key=value⏎`, see `C02.roundtrip_properties_partial`),
for which `SpliceStable` holds (`printed_splices_stable`); the findings F4 and F14 are kernel-checked inputs on which
`SpliceStable` is false AND the re-parse claim fails (`f4_unstable_witness`, `f14_unstable_witness`).
NOT proved: arbitrary localized texts satisfying `SpliceStable` (comments, escapes, continuation lines,
other layouts); those stay with the end-to-end oracle. -/
section Reparse
open P C04R

/-- (clean append) The localization is a printed list of safe records — with or without the newline after its last
    record —, nothing is cut, the missing reference entries `ms` are safe records `key=value⏎`: the staged text is the copy
    of the l10n file followed by a newline and the reference entries, and it parses to exactly the localized records followed
    by the reference records — nothing missing, localized keys and values untouched, no unparsed content.
    (The parser does not need the keys of `ms` to differ from those of `rs`; the comparison does.) -/
theorem append_reparses_properties_partial (rs ms : List PRec) (finalNl : Bool)
    (hrs : ∀ r ∈ rs, SafeRec r) (hms : ∀ r ∈ ms, SafeRec r) (hne : ms ≠ []) :
    ∃ t es, staged (l10nText rs finalNl) (merge true cap_properties (l10nText rs finalNl) [] (ms.map printRec)) = some t ∧
      t = l10nText rs finalNl ++ 10 :: printProps ms ∧
      walk .properties t.toArray = .done es ∧
      entitiesOf .properties t.toArray es = (rs ++ ms).map expectedView ∧
      junkOf t.toArray es = [] := by
  obtain ⟨m, ms', rfl⟩ : ∃ m ms', ms = m :: ms' := by
    cases ms with
    | nil => exact absurd rfl hne
    | cons m ms' => exact ⟨m, ms', rfl⟩
  have hst : staged (l10nText rs finalNl) (merge true cap_properties (l10nText rs finalNl) [] ((m :: ms').map printRec)) =
      some (l10nText rs finalNl ++ 10 :: printProps (m :: ms')) := by
    rw [List.map_cons, staged_append, ← List.map_cons, trailing_printed]
  obtain ⟨toks, ht, hr⟩ := l10nText_append_toks rs (m :: ms') finalNl
  obtain ⟨es, h1, h2, h3⟩ := reparse_toks _ toks (rs ++ m :: ms') ht hr
    (fun r hr => by rcases List.mem_append.mp hr with h | h; exact hrs r h; exact hms r h)
  exact ⟨_, es, hst, rfl, h1, h2, h3⟩

/-- the append above and the two one-cut splices (section OneCut below) satisfy the decidable stability predicate `SpliceStable` (every cut starts at a line start
    or keeps its line end; the kept text does not end in an odd run of backslashes when entries are appended) -/
theorem printed_splices_stable (rs1 rs2 ms : List PRec) (rb : PRec) (G : List Nat) (finalNl : Bool)
    (h1 : ∀ r ∈ rs1, SafeRec r) :
    SpliceStable (l10nText rs1 finalNl) [] (ms.map printRec) = true ∧
    SpliceStable (withGarbage rs1 G rs2)
      [{ span := some ((printProps rs1).length, (printProps rs1).length + G.length + 1), junk := true, refAll := [] }]
      (ms.map printRec) = true ∧
    SpliceStable (printProps (rs1 ++ rb :: rs2))
      [{ span := some ((propsEntity_c02 (printProps rs1).length rb.1.length rb.2.length).s,
                       (propsEntity_c02 (printProps rs1).length rb.1.length rb.2.length).e),
         junk := false, refAll := printRec rb }] (ms.map printRec) = true :=
  ⟨append_stable rs1 ms finalNl h1, cut_stable rs1 rs2 G _ _ _, skip_entity_stable rs1 rs2 rb _ _ _⟩

/-- F4 (known finding) is the negation of the backslash hypothesis: for the localization `a=X\` (no final newline) and the
    missing reference entry `b=B⏎`, `SpliceStable` is false, the staged text is `a=X\⏎b=B⏎`, and its walk has ONE entity
    (key span 0–1, value span 2–8): the appended entry is swallowed as a continuation line, `b` stays missing. -/
theorem f4_unstable_witness :
    SpliceStable [97, 61, 88, 92] [] [[98, 61, 66, 10]] = false ∧
    staged [97, 61, 88, 92] (merge true cap_properties [97, 61, 88, 92] [] [[98, 61, 66, 10]])
      = some [97, 61, 88, 92, 10, 98, 61, 66, 10] ∧
    walk .properties #[97, 61, 88, 92, 10, 98, 61, 66, 10] =
      .done [{ kind := .entity, full := 0, s := 0, e := 8, ks := 0, ke := 1, vs := 2, ve := 8 },
             { kind := .whitespace, full := 8, s := 8, e := 9, ks := 8, ke := 9, vs := 8, ve := 9 }] := by
  decide +kernel

/-- … and with an EVEN run of backslashes (`a=X\\`) the predicate holds and the appended entry is parsed (entity at 6–9) -/
theorem f4_even_run_witness :
    SpliceStable [97, 61, 88, 92, 92] [] [[98, 61, 66, 10]] = true ∧
    walk .properties #[97, 61, 88, 92, 92, 10, 98, 61, 66, 10] =
      .done [{ kind := .entity, full := 0, s := 0, e := 5, ks := 0, ke := 1, vs := 2, ve := 5 },
             { kind := .whitespace, full := 5, s := 5, e := 6, ks := 5, ke := 6, vs := 5, ve := 6 },
             { kind := .entity, full := 6, s := 6, e := 9, ks := 6, ke := 7, vs := 8, ve := 9 },
             { kind := .whitespace, full := 9, s := 9, e := 10, ks := 9, ke := 10, vs := 9, ve := 10 }] := by
  decide +kernel

/-- F14 (known finding) is the negation of the line-start hypothesis: in the ini text `[Strings]\⏎; c⏎k=v` the walk
    reports the junk `\⏎` with span (9, 11) — it starts in the middle of a line and ends with the line end —, `SpliceStable`
    is false for that cut, the staged text is `[Strings]; c⏎k=v⏎`, and its walk contains a NEW junk entry (9, 13): the
    comment line was fused onto the section line. -/
theorem f14_unstable_witness :
    walk .ini #[91, 83, 116, 114, 105, 110, 103, 115, 93, 92, 10, 59, 32, 99, 10, 107, 61, 118] =
      .done [{ kind := .section, full := 0, s := 0, e := 9, ks := 1, ke := 8, vs := 1, ve := 8 },
             { kind := .junk, full := 9, s := 9, e := 11 },
             { kind := .entity, full := 11, s := 15, e := 18, ks := 15, ke := 16, vs := 17, ve := 18, pc := some (11, 14) }] ∧
    SpliceStable [91, 83, 116, 114, 105, 110, 103, 115, 93, 92, 10, 59, 32, 99, 10, 107, 61, 118]
      [{ span := some (9, 11), junk := true, refAll := [] }] [] = false ∧
    staged [91, 83, 116, 114, 105, 110, 103, 115, 93, 92, 10, 59, 32, 99, 10, 107, 61, 118]
      (merge true cap_ini [91, 83, 116, 114, 105, 110, 103, 115, 93, 92, 10, 59, 32, 99, 10, 107, 61, 118]
        [{ span := some (9, 11), junk := true, refAll := [] }] [])
      = some [91, 83, 116, 114, 105, 110, 103, 115, 93, 59, 32, 99, 10, 107, 61, 118, 10] ∧
    walk .ini #[91, 83, 116, 114, 105, 110, 103, 115, 93, 59, 32, 99, 10, 107, 61, 118, 10] =
      .done [{ kind := .section, full := 0, s := 0, e := 9, ks := 1, ke := 8, vs := 1, ve := 8 },
             { kind := .junk, full := 9, s := 9, e := 13 },
             { kind := .entity, full := 13, s := 13, e := 16, ks := 13, ke := 14, vs := 15, ve := 16 },
             { kind := .whitespace, full := 16, s := 16, e := 17, ks := 16, ke := 17, vs := 16, ve := 17 }] := by
  decide +kernel

-- non-vacuity: the hypotheses are satisfiable by non-trivial values ("a.b=x y", "k=" and the garbage line "no separator")
example : SafeRec ([97, 46, 98], [120, 32, 121]) ∧ SafeRec ([107], []) := by decide
example : GarbageLine [110, 111, 32, 115, 101, 112, 97, 114, 97, 116, 111, 114] := by decide
example : withGarbage [([97], [120])] [103] [([98], [])] = [97, 61, 120, 10, 103, 10, 98, 61, 10] := by decide +kernel
example : l10nText [([97], [120])] false = [97, 61, 120] := by decide
-- NEGATION WITNESSES for `GarbageLine` (what the code does at the excluded points):
-- a `#` inside the line ends the junk there ("g#x⏎" -> junk 0..1, then a comment)
example : (propsGetNext #[103, 35, 120, 10] 0).e = 1 := by decide +kernel
-- a `=` makes the line an entity
example : (propsGetNext #[103, 61, 120, 10] 0).kind = .entity := by decide +kernel

/-- (ini analogue of the clean append) The localization is `[name]⏎` followed by a printed list of ini records
    (`IniSafeRec`: the value may contain anything but a newline — also backslashes and blanks at either end), with or
    without the newline after the last record; nothing is cut; the missing reference entries are such records: the
    staged text parses to the section, exactly the localized records followed by the reference records, no unparsed
    content.  No backslash hypothesis is needed for ini (a trailing backslash is not a line continuation there). -/
theorem append_reparses_ini_partial (name : List Nat) (rs ms : List PRec) (finalNl : Bool)
    (hn : ∀ c ∈ name, c ≠ 93 ∧ c ≠ 10)
    (hrs : ∀ r ∈ rs, IniSafeRec r) (hms : ∀ r ∈ ms, IniSafeRec r) (hne : ms ≠ []) :
    ∃ t es, staged (iniSection name ++ 10 :: l10nText rs finalNl)
        (merge true cap_ini (iniSection name ++ 10 :: l10nText rs finalNl) [] (ms.map printRec)) = some t ∧
      t = (iniSection name ++ 10 :: l10nText rs finalNl) ++ 10 :: printProps ms ∧
      walk .ini t.toArray = .done es ∧
      entitiesOf .ini t.toArray es = (rs ++ ms).map expectedView ∧
      junkOf t.toArray es = [] := by
  obtain ⟨m, ms', rfl⟩ : ∃ m ms', ms = m :: ms' := by
    cases ms with
    | nil => exact absurd rfl hne
    | cons m ms' => exact ⟨m, ms', rfl⟩
  have hcap : cap_ini = cap_properties := rfl
  have hst : staged (iniSection name ++ 10 :: l10nText rs finalNl)
      (merge true cap_ini (iniSection name ++ 10 :: l10nText rs finalNl) [] ((m :: ms').map printRec)) =
      some ((iniSection name ++ 10 :: l10nText rs finalNl) ++ 10 :: printProps (m :: ms')) := by
    rw [hcap, List.map_cons, staged_append, ← List.map_cons, trailing_printed]
  obtain ⟨toks, ht, hr⟩ := l10nText_append_toks rs (m :: ms') finalNl
  have ht' : (iniSection name ++ 10 :: l10nText rs finalNl) ++ 10 :: printProps (m :: ms') =
      iniSection name ++ printToks (.nl :: toks) := by
    simp only [printToks, ← ht]
    simp
  obtain ⟨es, a1, a2, a3⟩ := ini_walk_section_toks name (.nl :: toks) hn
    (by
      intro r hr'
      have : r ∈ rs ++ m :: ms' := by rw [← hr]; simpa [recsOf] using hr'
      rcases List.mem_append.mp this with h | h
      · exact hrs r h
      · exact hms r h)
  refine ⟨_, es, hst, rfl, ?_, ?_, ?_⟩
  · rw [ht']; exact a1
  · rw [ht', a2]; simp [recsOf, hr]
  · rw [ht']; exact a3

-- non-vacuity (ini): "[Strings]" and the records "k = v \" (blanks, trailing backslash) and "a.b="
example : IniSafeRec ([107, 32], [32, 118, 32, 92]) ∧ IniSafeRec ([97, 46, 98], []) := by decide
example : iniSection [83] ++ 10 :: l10nText [([107, 32], [32, 118, 32, 92])] true = [91, 83, 93, 10, 107, 32, 61, 32, 118, 32, 92, 10] := by
  decide +kernel
-- NEGATION WITNESS for "key does not start with [": "[a]=b" is a section, not an entity (C02)
example : (iniGetNext #[91, 97, 93, 61, 98] 0).kind = .section := by decide

end Reparse

/-! ### bytes: decode → splice → encode

`Parser.readFile` decodes the file (UTF-8, `errors="replace"`, universal newlines) into `ctx.contents`; `merge` writes text
through a strict UTF-8 encoder; only `shutil.copyfile` moves bytes.  `MergeB.mergeBytes` is the text model with these
steps around it. -/
section Bytes
open MergeB C04B

/-- no skips and nothing missing: the staged file is the l10n file BYTE FOR BYTE — whatever the bytes are (CRLF, lone CR,
    BOM, ill-formed UTF-8, NUL …), for every capability set that stages at all.  No decoding is involved. -/
theorem clean_bytes_identical (caps : Nat) (l10n ref : List Nat)
    (hc : hasCap caps CAN_COPY = true ∨ hasCap caps CAN_SKIP = true) (hn : caps ≠ CAN_NONE) :
    mergeBytes true caps l10n ref [] [] = .bytes l10n := by
  simp [mergeBytes, clean_is_identical caps (readFile l10n) hc hn]

/-- copy-only formats (`.inc`, unknown types, missing / obsolete files): the l10n BYTES if clean, else the reference BYTES -/
theorem copy_only_bytes (l10n ref : List Nat) (skips : List Skip) (ms : List (List Nat)) :
    mergeBytes true CAN_COPY l10n ref skips ms =
      (if skips.isEmpty && ms.isEmpty then .bytes l10n else .bytes ref) := by
  simp only [mergeBytes, copy_only]
  by_cases h : (skips.isEmpty && ms.isEmpty) = true <;> simp [h]

/-- nothing cut, entries appended (mergeable formats): the original BYTES are a prefix of the staged file (copy, then
    append the encoded block) — the localized part is not re-encoded -/
theorem append_bytes_prefix (l10n ref : List Nat) (m : List Nat) (ms : List (List Nat)) :
    mergeBytes true (CAN_SKIP + CAN_MERGE) l10n ref [] (m :: ms) = encodeOut l10n (trailing (m :: ms) []) := by
  simp [mergeBytes, merge, hasCap, CAN_SKIP, CAN_MERGE, CAN_COPY, CAN_NONE]

/-- … and that block encodes when the reference entries are decoded text (scalar values) -/
theorem append_bytes_prefix_total (l10n ref : List Nat) (m : List Nat) (ms : List (List Nat))
    (hs : ∀ t ∈ m :: ms, ∀ c ∈ t, Scalar c) :
    ∃ e, encodeUtf8 (trailing (m :: ms) []) = some e ∧
      mergeBytes true (CAN_SKIP + CAN_MERGE) l10n ref [] (m :: ms) = .bytes (l10n ++ e) := by
  have hsc : ∀ c ∈ trailing (m :: ms) [], Scalar c := by
    intro c hc
    simp only [trailing, List.filter_nil, List.map_nil, List.append_nil, List.mem_flatten, List.mem_map] at hc
    obtain ⟨l, ⟨t, ht, rfl⟩, hcl⟩ := hc
    have h10 : Scalar 10 := by unfold Scalar; omega
    have hin : ∀ c ∈ t, Scalar c := by
      rcases List.mem_cons.mp ht with e | e
      · subst e; intro c hc; simp at hc; subst hc; exact h10
      · exact hs t e
    unfold ensureNewline at hcl
    split at hcl
    · exact hin c hcl
    · rcases List.mem_append.mp hcl with h | h
      · exact hin c h
      · simp at h; subst h; exact h10
  obtain ⟨e, he⟩ := encodeUtf8_total _ hsc
  exact ⟨e, he, by rw [append_bytes_prefix]; simp [encodeOut, he]⟩

/-- something cut: the staged bytes are `encode(splice(decode(l10n bytes)))` (+ the encoded block for mergeable formats) -/
theorem skip_bytes_spec (l10n ref : List Nat) (sk : Skip) (skips : List Skip) (ms : List (List Nat))
    (sorted : List Skip) (hs : sortSkips (sk :: skips) = some sorted) :
    mergeBytes true (CAN_SKIP + CAN_MERGE) l10n ref (sk :: skips) ms =
        encodeOut [] (chunks (readFile l10n) sorted none ++ trailing ms sorted) ∧
      mergeBytes true CAN_SKIP l10n ref (sk :: skips) ms = encodeOut [] (chunks (readFile l10n) sorted none) := by
  constructor
  · rw [mergeBytes, merge_text_spec _ sk skips ms sorted hs]
  · rw [mergeBytes, skip_only_text _ sk skips ms sorted hs]

/-- the decoder only produces scalar values, so the strict encoder never raises on (any part of) decoded text -/
theorem encode_readFile_total (b : List Nat) : ∃ e, encodeUtf8 (readFile b) = some e :=
  encodeUtf8_total _ (readFile_scalar b)

/-- skip-only formats, sorted disjoint skips: the staged file is the encoding of a SUBSEQUENCE of the decoded l10n text;
    it always encodes (no UnicodeEncodeError), no reference text enters -/
theorem skip_only_bytes (l10n ref : List Nat) (sk : Skip) (skips : List Skip) (ms : List (List Nat))
    (sorted : List Skip) (hs : sortSkips (sk :: skips) = some sorted) (hd : SortedDisjoint sorted 0) :
    ∃ t e, t.Sublist (readFile l10n) ∧ encodeUtf8 t = some e ∧
      mergeBytes true CAN_SKIP l10n ref (sk :: skips) ms = .bytes e := by
  obtain ⟨t, ht, hsub⟩ := skip_only_no_english (readFile l10n) sk skips ms sorted hs hd
  obtain ⟨e, he⟩ := encodeUtf8_sublist_total hsub (readFile_scalar l10n)
  exact ⟨t, e, hsub, he, by simp [mergeBytes, ht, encodeOut, he]⟩

/-- WHEN is a rewrite the identity on bytes?  `encode(decode(b)) = b` exactly for well-formed UTF-8 without CR:
    `b` is the encoding of a CR-free text (encodable = scalar values only). -/
theorem encode_readFile_id_iff (b : List Nat) :
    encodeUtf8 (readFile b) = some b ↔ ∃ t, 13 ∉ t ∧ encodeUtf8 t = some b := by
  constructor
  · intro h
    exact ⟨readFile b, readFile_no13 b, h⟩
  · rintro ⟨t, h13, he⟩
    have hd := decode_encode t b he
    have : readFile b = t := by
      unfold readFile univNewlines
      rw [hd, univFrom_id t h13]
    rw [this, he]

/-- decode ∘ encode is the identity on CR-free encodable text -/
theorem readFile_encode (t b : List Nat) (h13 : 13 ∉ t) (he : encodeUtf8 t = some b) : readFile b = t := by
  unfold readFile univNewlines
  rw [decode_encode t b he, univFrom_id t h13]

/-- NEGATION WITNESSES for the two hypotheses (what a rewrite does outside them): `a⏎` with CRLF comes back with LF;
    the ill-formed byte FF comes back as U+FFFD (EF BF BD); a lone CR comes back as LF; a truncated sequence (E2 82) at
    the end of the file is one U+FFFD; BOM and NUL survive. -/
theorem rewrite_not_identity_witness :
    encodeUtf8 (readFile [97, 13, 10]) = some [97, 10] ∧
    encodeUtf8 (readFile [255]) = some [239, 191, 189] ∧
    encodeUtf8 (readFile [97, 13, 98]) = some [97, 10, 98] ∧
    encodeUtf8 (readFile [97, 226, 130]) = some [97, 239, 191, 189] ∧
    encodeUtf8 (readFile [239, 187, 191, 0, 97]) = some [239, 187, 191, 0, 97] := by
  refine ⟨by decide, by decide, by decide, by decide, by decide⟩

/-- … which is why the copy path matters: the same CRLF file `a⏎b` is staged untouched when clean, and LF-normalised as
    soon as ONE span (here the `b`) is cut, although the cut does not touch the line end -/
theorem crlf_rewrite_witness :
    mergeBytes true CAN_SKIP [97, 13, 10, 98] [] [] [] = .bytes [97, 13, 10, 98] ∧
    mergeBytes true CAN_SKIP [97, 13, 10, 98] [] [{ span := some (2, 3), junk := true, refAll := [] }] [] = .bytes [97, 10] := by
  refine ⟨by decide, by decide⟩

end Bytes

section Quiet
open MergeB ObsM C04Q

/-- `compare` + `merge` for ANY quiet level: the staged bytes (and the `missing`/`report` counts) are those of the entries
    selected by the filters' verdicts alone — only `error` verdicts are merged, `warning` ones are counted as `report`,
    `ignore` ones dropped — whatever the quiet level of the observers. -/
theorem compareMerge_verdicts_only (q : Nat) (filters : List (Option Filter)) (file : File)
    (ents : List (Data × List Nat)) (caps : Nat) (l10n ref : List Nat) (skips : List Skip) (out : FileOut × Nat × Nat)
    (h : compareMerge q filters file ents caps l10n ref skips = .ok out) :
    out = (mergeBytes true caps l10n ref skips (missSpec filters file ents).1,
           (missSpec filters file ents).2.1, (missSpec filters file ents).2.2) :=
  compareMerge_spec h

/-- the merged bytes do not depend on the quiet level -/
theorem merged_bytes_quiet_independent (q1 q2 : Nat) (filters : List (Option Filter)) (file : File)
    (ents : List (Data × List Nat)) (caps : Nat) (l10n ref : List Nat) (skips : List Skip) (a b : FileOut × Nat × Nat)
    (h1 : compareMerge q1 filters file ents caps l10n ref skips = .ok a)
    (h2 : compareMerge q2 filters file ents caps l10n ref skips = .ok b) : a = b := by
  rw [compareMerge_spec h1, compareMerge_spec h2]

/-- … and both runs do return (no exception from the observers) for every file without a legacy module -/
theorem compareMerge_returns (q : Nat) (filters : List (Option Filter)) (file : File)
    (ents : List (Data × List Nat)) (caps : Nat) (l10n ref : List Nat) (skips : List Skip) (hm : file.module = none) :
    ∃ out, compareMerge q filters file ents caps l10n ref skips = .ok out :=
  compareMerge_total q filters file ents caps l10n ref skips (by intro m hmm; rw [hm] at hmm; cases hmm)

/-- with `Observer(filter=None)` every missing entity is merged, at every quiet level -/
theorem no_filter_merges_all (file : File) : ∀ (ents : List (Data × List Nat)),
    missSpec [none] file ents = (ents.map (·.2), ents.length, 0)
  | [] => rfl
  | (k, t) :: rest => by
    have ih := no_filter_merges_all file rest
    have hv : verdict [none] file k = .error := rfl
    simp only [missSpec, hv, ih, List.map_cons, List.length_cons]

-- non-vacuity / the regression itself: at EVERY quiet level `a=1⏎` with `b=2⏎` missing is staged as `a=1⏎⏎b=2⏎`
example (q : Nat) :
    compareMerge q [none] { file := [97], module := none, locale := some [120] } [(.str [98], [98, 61, 50, 10])]
      cap_properties [97, 61, 49, 10] [] [] = .ok (.bytes [97, 61, 49, 10, 10, 98, 61, 50, 10], 1, 0) := by
  obtain ⟨out, h⟩ := compareMerge_returns q [none] { file := [97], module := none, locale := some [120] }
    [(.str [98], [98, 61, 50, 10])] cap_properties [97, 61, 49, 10] [] [] rfl
  rw [h, compareMerge_verdicts_only _ _ _ _ _ _ _ _ _ h, no_filter_merges_all]
  exact congrArg Except.ok (by decide)

end Quiet

section Multi
open C04M

/-- GENERAL (all formats): the l10n text is any sequence of kept and (non-empty) cut pieces; `skips` is ANY permutation
    of the cut spans.  `skips.sort` restores file order and the chunk loop writes exactly the kept pieces — followed, for
    mergeable formats, by the block of missing entries and the reference entries of the non-junk cuts in FILE order. -/
theorem merge_cuts_any_order (pcs : List Pc) (perm : List Skip) (ms : List (List Nat))
    (hc : CutsNonempty pcs) (hp : perm.Perm (pcSkips 0 pcs)) (hne : perm ≠ []) :
    merge true (CAN_SKIP + CAN_MERGE) (pcText pcs) perm ms = .written (pcKept pcs ++ trailing ms (pcSkips 0 pcs)) ∧
    merge true CAN_SKIP (pcText pcs) perm ms = .written (pcKept pcs) :=
  merge_cuts pcs perm ms hc hp hne

/-- the order in which `compare` lists the skips is irrelevant -/
theorem merge_skip_order_irrelevant (pcs : List Pc) (p1 p2 : List Skip) (ms : List (List Nat)) (caps : Nat)
    (hc : CutsNonempty pcs) (h1 : p1.Perm (pcSkips 0 pcs)) (h2 : p2.Perm (pcSkips 0 pcs)) :
    merge true caps (pcText pcs) p1 ms = merge true caps (pcText pcs) p2 ms := by
  have s1 := sortSkips_pieces pcs p1 hc h1
  have s2 := sortSkips_pieces pcs p2 hc h2
  have he : p1.isEmpty = p2.isEmpty := by
    have := (h1.trans h2.symm).length_eq
    cases p1 <;> cases p2 <;> simp_all
  unfold merge
  simp only [s1, s2, he]

/-- (several cuts, `.properties`) The localization is a list of lines: safe records, safe records with an error-level check
    result (to be replaced by their reference record), garbage lines — a garbage line is followed by a record or the end of
    the file.  (1) The walk reports one entity per record and ONE junk entry per garbage line spanning exactly the line
    (garbage locality for any number of lines); every skip is the span of such an entry.  (2) Whatever the order of the
    skips, the staged text is the kept records (a blank line where a record was cut), a newline, the missing entries and the
    reference records of the cut ones in file order; it parses to exactly these records, no unparsed content. -/
theorem multi_cut_reparses_properties_partial (ls : List Line) (ms : List P.PRec) (perm : List Skip)
    (hok : LinesOK ls) (hms : ∀ r ∈ ms, P.SafeRec r) (hp : perm.Perm (pcSkips 0 (linesPcs ls))) (hne : perm ≠ []) :
    P.walk .properties (linesText ls).toArray = .done (lentries 0 ls) ∧
    P.entitiesOf .properties (linesText ls).toArray (lentries 0 ls) = (lrecs ls).map P.expectedView ∧
    P.junkOf (linesText ls).toArray (lentries 0 ls) = lgarb ls ∧
    (∀ sk ∈ perm, ∃ e ∈ lentries 0 ls, sk.span = some (e.s, e.e) ∧ sk.junk = (e.kind == .junk)) ∧
    ∃ t es', C04R.staged (linesText ls) (merge true cap_properties (linesText ls) perm (ms.map P.printRec)) = some t ∧
      t = C04R.printToks (ltoks ls) ++ 10 :: P.printProps (ms ++ lrefs ls) ∧
      P.walk .properties t.toArray = .done es' ∧
      P.entitiesOf .properties t.toArray es' = (C04R.recsOf (ltoks ls) ++ (ms ++ lrefs ls)).map P.expectedView ∧
      P.junkOf t.toArray es' = [] := by
  obtain ⟨w, v1, v2⟩ := walk_views_from (linesText ls).toArray ls 0 (C02P.at_zero _) hok
  refine ⟨w.done_walk (by simp), v1, v2, fun sk hsk => skips_are_entries ls 0 sk (hp.subset hsk), ?_⟩
  obtain ⟨hrefs, hkept⟩ := staged_recs_safe hok
  have htok : C04R.printToks (ltoks ls) ++ 10 :: P.printProps (ms ++ lrefs ls) =
      C04R.printToks (ltoks ls ++ .nl :: (ms ++ lrefs ls).map .record) := by
    rw [C04R.printToks_append, ← C04R.printToks_recs]; rfl
  have hrec := C04R.recsOf_then_recs (ltoks ls) (ms ++ lrefs ls)
  obtain ⟨es', a1, a2, a3⟩ := C04R.reparse_toks _ _ _ htok hrec (by
    intro r hr
    rcases List.mem_append.mp hr with h | h
    · exact hkept r h
    · rcases List.mem_append.mp h with h | h
      · exact hms r h
      · exact hrefs r h)
  exact ⟨_, es', merge_lines ls ms perm hp hne, rfl, a1, a2, a3⟩

/-- (DTD: append and whole-entity cuts) The localization is a printed list of safe DTD entities `<!ENTITY k "v">⏎`, some
    of them with an error-level check result (to be replaced by their reference entity).  Every skip is the span of an entity
    the walk reports (the text `<!ENTITY k "v">` without its newline).  Whatever the order of the skips — and also with no
    skip at all and only missing entities appended — the staged text is the kept entities (a blank line where one was
    cut), a newline, the missing and the replaced reference entities; it parses to exactly these, no unparsed content. -/
theorem multi_cut_reparses_dtd_partial (ls : List C04D.DLine) (ms : List C02X.DRec) (perm : List Skip)
    (hls : ∀ l ∈ ls, C02X.SafeDtdRec l.1 ∧ ∀ rref, l.2 = some rref → C02X.SafeDtdRec rref)
    (hms : ∀ r ∈ ms, C02X.SafeDtdRec r) (hp : perm.Perm (pcSkips 0 (C04D.dlinesPcs ls))) (hne : perm ≠ [] ∨ ms ≠ []) :
    P.walk .dtd (C02X.printDtd (ls.map (·.1))).toArray = .done (C02X.dtdExpEntries 0 (ls.map (·.1))) ∧
    (∀ sk ∈ perm, ∃ e ∈ C02X.dtdExpEntries 0 (ls.map (·.1)), e.kind = .entity ∧ sk.span = some (e.s, e.e) ∧ sk.junk = false) ∧
    ∃ t es', C04R.staged (C02X.printDtd (ls.map (·.1)))
        (merge true cap_dtd (C02X.printDtd (ls.map (·.1))) perm (ms.map C02X.printDtdRec)) = some t ∧
      t = C04D.printToksD (C04D.dtoks ls) ++ 10 :: C02X.printDtd (ms ++ C04D.drefs ls) ∧
      P.walk .dtd t.toArray = .done es' ∧
      P.entitiesOf .dtd t.toArray es' = (C04R.recsOf (C04D.dtoks ls) ++ (ms ++ C04D.drefs ls)).map P.expectedView ∧
      P.junkOf t.toArray es' = [] := by
  refine ⟨C02X.walk_dtd_printed _ (by
      intro r hr
      obtain ⟨l, hl, rfl⟩ := List.mem_map.mp hr
      exact (hls l hl).1),
    fun sk hsk => C04D.dskips_are_entries ls 0 sk (hp.subset hsk), ?_⟩
  obtain ⟨hrefs, hkept⟩ := C04D.dstaged_recs_safe hls
  have htok : C04D.printToksD (C04D.dtoks ls) ++ 10 :: C02X.printDtd (ms ++ C04D.drefs ls) =
      C04D.printToksD (C04D.dtoks ls ++ .nl :: (ms ++ C04D.drefs ls).map .record) := by
    rw [C04D.printToksD_append, ← C04D.printToksD_recs]; rfl
  have hrec := C04R.recsOf_then_recs (C04D.dtoks ls) (ms ++ C04D.drefs ls)
  obtain ⟨es', a1, a2, a3⟩ := C04D.walk_toksD (C04D.dtoks ls ++ .nl :: (ms ++ C04D.drefs ls).map .record) (by
    rw [hrec]
    intro r hr
    rcases List.mem_append.mp hr with h | h
    · exact hkept r h
    · rcases List.mem_append.mp h with h | h
      · exact hms r h
      · exact hrefs r h)
  refine ⟨_, es', C04D.merge_dlines ls ms perm hp hne, rfl, ?_, ?_, ?_⟩
  · rw [htok]; exact a1
  · rw [htok, a2, hrec]
  · rw [htok]; exact a3

-- non-vacuity: a two-line file with one garbage line and one record to replace; the skips arrive in REVERSE file order
example : LinesOK [.garb [103], .rcd ([97], [120]) (some ([97], [65]))] := by decide
example : pcSkips 0 (linesPcs [.garb [103], .rcd ([97], [120]) (some ([97], [65]))]) =
    [{ span := some (0, 2), junk := true, refAll := [] }, { span := some (2, 5), junk := false, refAll := [97, 61, 65, 10] }] := by
  decide +kernel
example : merge true cap_properties [103, 10, 97, 61, 120, 10]
    [{ span := some (2, 5), junk := false, refAll := [97, 61, 65, 10] }, { span := some (0, 2), junk := true, refAll := [] }] [] =
    .written [10, 10, 97, 61, 65, 10] := by decide +kernel
-- NEGATION WITNESS for `CutsNonempty` / distinct starts: an EMPTY cut that shares its start with a real one is sorted
-- after it only if it was listed after it; listed first it makes the loop write the cut text (`contents[3:0]` is empty,
-- then `offset` falls back to 0)
example : merge true CAN_SKIP [97, 98, 99, 100]
    [{ span := some (0, 3), junk := true, refAll := [] }, { span := some (0, 0), junk := true, refAll := [] }] [] =
    .written [97, 98, 99, 100] := by decide +kernel

/-- F17 (known finding) — the DTD analogue of F4: the localization `<!ENTITY b 'L` (a value opened with an apostrophe, never
    closed, no final newline) and the missing reference entity `<!ENTITY a "A">⏎`: the staged text is the concatenation the
    theorems above specify, but its walk has ONE entity (0‥29): the appended entity is swallowed by the open value. -/
theorem f17_unstable_witness :
    C04R.staged [60, 33, 69, 78, 84, 73, 84, 89, 32, 98, 32, 39, 76]
      (merge true cap_dtd [60, 33, 69, 78, 84, 73, 84, 89, 32, 98, 32, 39, 76] []
        [[60, 33, 69, 78, 84, 73, 84, 89, 32, 97, 32, 34, 65, 34, 62, 10]]) =
      some [60, 33, 69, 78, 84, 73, 84, 89, 32, 98, 32, 39, 76, 10, 60, 33, 69, 78, 84, 73, 84, 89, 32, 97, 32, 34, 65, 34, 62, 10] ∧
    P.walk .dtd #[60, 33, 69, 78, 84, 73, 84, 89, 32, 98, 32, 39, 76, 10, 60, 33, 69, 78, 84, 73, 84, 89, 32, 97, 32, 34, 65, 34, 62, 10] =
      .done [{ kind := .entity, full := 0, s := 0, e := 29, ks := 9, ke := 10, vs := 12, ve := 27 },
             { kind := .whitespace, full := 29, s := 29, e := 30, ks := 29, ke := 30, vs := 29, ve := 30 }] := by
  refine ⟨by decide, by decide⟩

end Multi

section OneCut
open P C04R

/-- (cut of a whole-line junk) The localization is `records, garbage line G⏎, records`.  (1) Garbage locality: its walk
    has exactly ONE junk entry `j`, spanning exactly the garbage line with its newline, and the entities are exactly
    the records.  (2) With `j`'s span as the only skip (and any safe missing entries `ms`), the staged text is the printed
    records without the garbage line, a newline, the reference entries; it parses to the records followed by the
    reference records, with no unparsed content. -/
theorem cut_reparses_properties_partial (rs1 rs2 ms : List PRec) (G : List Nat)
    (h1 : ∀ r ∈ rs1, SafeRec r) (h2 : ∀ r ∈ rs2, SafeRec r) (hms : ∀ r ∈ ms, SafeRec r) (hG : GarbageLine G) :
    ∃ es j, walk .properties (withGarbage rs1 G rs2).toArray = .done es ∧
      es.filter (fun e => e.kind == .junk) = [j] ∧
      j.s = (printProps rs1).length ∧ j.e = (printProps rs1).length + G.length + 1 ∧
      entitiesOf .properties (withGarbage rs1 G rs2).toArray es = (rs1 ++ rs2).map expectedView ∧
      junkOf (withGarbage rs1 G rs2).toArray es = [G ++ [10]] ∧
      ∃ t es', staged (withGarbage rs1 G rs2) (merge true cap_properties (withGarbage rs1 G rs2)
            [{ span := some (j.s, j.e), junk := true, refAll := [] }] (ms.map printRec)) = some t ∧
        t = printProps (rs1 ++ rs2) ++ 10 :: printProps ms ∧
        walk .properties t.toArray = .done es' ∧
        entitiesOf .properties t.toArray es' = (rs1 ++ rs2 ++ ms).map expectedView ∧
        junkOf t.toArray es' = [] := by
  -- the theorem about line lists, at `rs1`, the garbage line, `rs2`
  obtain ⟨a1, b1, c1, g1, k1⟩ := C04M.plain_append_lines rs1 (.garb G :: C04M.plain rs2)
  obtain ⟨a2, b2, c2, g2, k2⟩ := C04M.plain_only_lines rs2
  obtain ⟨d1, e1, f1⟩ := C04M.plain_append rs1 (.garb G :: C04M.plain rs2)
  obtain ⟨d2, e2, f2⟩ := C04M.plain_only rs2
  have hok : C04M.LinesOK (C04M.plain rs1 ++ .garb G :: C04M.plain rs2) :=
    k1 h1 ⟨⟨hG.ne, fun c hc => have h := hG.chars c hc; ⟨h.1, h.2.1, h.2.2.2.1, h.2.2.2.2, h.2.2.1⟩, hG.head⟩,
      by cases rs2 <;> exact trivial, k2 h2⟩
  have hsk : C04M.pcSkips 0 (C04M.linesPcs (C04M.plain rs1 ++ .garb G :: C04M.plain rs2)) =
      [{ span := some ((printProps rs1).length, (printProps rs1).length + G.length + 1), junk := true, refAll := [] }] := by
    rw [f1 0]
    simp only [C04M.linesPcs, C04M.linePcs, List.cons_append, List.nil_append, C04M.pcSkips, f2, Nat.zero_add,
      List.length_append, List.length_cons, List.length_nil, Nat.add_assoc]
  obtain ⟨w, v1, v2, _, t, es', m1, m2, m3, m4, m5⟩ :=
    multi_cut_reparses_properties_partial (C04M.plain rs1 ++ .garb G :: C04M.plain rs2) ms
      [{ span := some ((printProps rs1).length, (printProps rs1).length + G.length + 1), junk := true, refAll := [] }]
      hok hms (by rw [hsk]) (by simp)
  have htext : C04M.linesText (C04M.plain rs1 ++ .garb G :: C04M.plain rs2) = withGarbage rs1 G rs2 := by
    rw [a1]; simp [C04M.linesText, C04M.lineText, a2, withGarbage]
  rw [htext] at w v1 v2 m1
  rw [b1, C04M.lrecs, b2] at v1
  rw [c1, C04M.lgarb, c2] at v2
  rw [d1, C04M.ltoks, d2, e1, C04M.lrefs, e2, List.append_nil, ← List.map_append, printToks_recs] at m2
  rw [d1, C04M.ltoks, d2, e1, C04M.lrefs, e2, List.append_nil, ← List.map_append, recsOf_recs] at m4
  refine ⟨_, C02X.junkEntry (printProps rs1).length ((printProps rs1).length + G.length + 1), w, ?_, rfl, rfl, v1, v2,
    t, es', m1, m2, m3, m4, m5⟩
  rw [g1 0]
  simp [C04M.lentries, g2, C04M.expEntries_junk, C02X.junkEntry]

/-- (cut of an entity with a check error) The localization is a printed list of safe records; the entity of the record
    `rb` is skipped — its span is the one the walk reports, `key=value` without the newline — and replaced by the reference
    entry `rref` (appended after the missing entries `ms`): the staged text keeps the other records (a blank line
    remains where `rb` was), and parses to the kept records, the missing records and `rref`, with no unparsed content. -/
theorem skip_entity_reparses_properties_partial (rs1 rs2 ms : List PRec) (rb rref : PRec)
    (h1 : ∀ r ∈ rs1, SafeRec r) (hb : SafeRec rb) (h2 : ∀ r ∈ rs2, SafeRec r) (hms : ∀ r ∈ ms, SafeRec r)
    (href : SafeRec rref) :
    ∃ es e, walk .properties (printProps (rs1 ++ rb :: rs2)).toArray = .done es ∧ e ∈ es ∧
      e = propsEntity_c02 (printProps rs1).length rb.1.length rb.2.length ∧
      ∃ t es', staged (printProps (rs1 ++ rb :: rs2)) (merge true cap_properties (printProps (rs1 ++ rb :: rs2))
            [{ span := some (e.s, e.e), junk := false, refAll := printRec rref }] (ms.map printRec)) = some t ∧
        t = printProps rs1 ++ 10 :: (printProps rs2 ++ 10 :: printProps (ms ++ [rref])) ∧
        walk .properties t.toArray = .done es' ∧
        entitiesOf .properties t.toArray es' = (rs1 ++ rs2 ++ (ms ++ [rref])).map expectedView ∧
        junkOf t.toArray es' = [] := by
  -- the theorem about line lists, at `rs1`, the record to replace, `rs2`
  obtain ⟨a1, _, _, g1, k1⟩ := C04M.plain_append_lines rs1 (.rcd rb (some rref) :: C04M.plain rs2)
  obtain ⟨a2, _, _, g2, k2⟩ := C04M.plain_only_lines rs2
  obtain ⟨d1, e1, f1⟩ := C04M.plain_append rs1 (.rcd rb (some rref) :: C04M.plain rs2)
  obtain ⟨d2, e2, f2⟩ := C04M.plain_only rs2
  have hok : C04M.LinesOK (C04M.plain rs1 ++ .rcd rb (some rref) :: C04M.plain rs2) :=
    k1 h1 ⟨hb, fun _ h => Option.some.inj h ▸ href, k2 h2⟩
  have hsk : C04M.pcSkips 0 (C04M.linesPcs (C04M.plain rs1 ++ .rcd rb (some rref) :: C04M.plain rs2)) =
      [{ span := some ((printProps rs1).length, (printProps rs1).length + rb.1.length + 1 + rb.2.length), junk := false,
         refAll := printRec rref }] := by
    rw [f1 0]
    simp only [C04M.linesPcs, C04M.linePcs, List.cons_append, List.nil_append, C04M.pcSkips, f2, Nat.zero_add,
      List.length_append, List.length_cons, Nat.add_assoc, Nat.add_comm 1]
  obtain ⟨w, _, _, _, t, es', m1, m2, m3, m4, m5⟩ :=
    multi_cut_reparses_properties_partial (C04M.plain rs1 ++ .rcd rb (some rref) :: C04M.plain rs2) ms
      [{ span := some ((printProps rs1).length, (printProps rs1).length + rb.1.length + 1 + rb.2.length), junk := false,
         refAll := printRec rref }]
      hok hms (by rw [hsk]) (by simp)
  have htext : C04M.linesText (C04M.plain rs1 ++ .rcd rb (some rref) :: C04M.plain rs2) = printProps (rs1 ++ rb :: rs2) := by
    rw [a1]; simp [C04M.linesText, C04M.lineText, a2, printProps]
  rw [htext] at w m1
  rw [d1, C04M.ltoks, d2, e1, C04M.lrefs, e2, printToks_append, printToks_recs, printToks, printToks_recs,
    List.append_assoc, List.cons_append] at m2
  rw [d1, C04M.ltoks, d2, e1, C04M.lrefs, e2, recsOf_append, recsOf_recs, recsOf, recsOf_recs] at m4
  refine ⟨_, _, w, ?_, rfl, t, es', m1, m2, m3, m4, m5⟩
  rw [g1 0]
  simp [C04M.lentries]

end OneCut

section Inc
open MergeB

/-- `.inc` files are never spliced: a clean localization is staged as its own bytes, one with ANY skip or missing entry as
    the reference's bytes.  If the reference is the (CR-free) printed list of `#define` records `rs`, the staged file
    decodes to that text and parses to exactly `rs` — complete, no junk — whatever the localization was. -/
theorem inc_staging_reparses_partial (l10n ref : List Nat) (skips : List Skip) (ms : List (List Nat))
    (rs : List C02X.IRec) (hrs : ∀ r ∈ rs, C02X.SafeIncRec r) (h13 : 13 ∉ C02X.printInc rs)
    (href : encodeUtf8 (C02X.printInc rs) = some ref) (hdirty : skips ≠ [] ∨ ms ≠ []) :
    mergeBytes true cap_inc l10n ref skips ms = .bytes ref ∧
    readFile ref = C02X.printInc rs ∧
    P.walk .inc (readFile ref).toArray = .done (C02X.incExpEntries 0 rs) ∧
    P.entitiesOf .inc (readFile ref).toArray (C02X.incExpEntries 0 rs) = rs.map P.expectedView ∧
    P.junkOf (readFile ref).toArray (C02X.incExpEntries 0 rs) = [] := by
  have hr := readFile_encode _ _ h13 href
  have hm : mergeBytes true cap_inc l10n ref skips ms = .bytes ref := by
    rw [show cap_inc = CAN_COPY from rfl, copy_only_bytes]
    have : (skips.isEmpty && ms.isEmpty) = false := by
      rcases hdirty with h | h
      · cases skips <;> simp_all
      · cases ms <;> simp_all
    simp [this]
  obtain ⟨v1, v2⟩ := (C02X.incEmbeds.doc C02P.incSpec_laws rs hrs fun _ _ => trivial).2
  rw [hr]
  exact ⟨hm, rfl, C02X.walk_inc_printed rs hrs, v1, v2⟩

end Inc

section Android
open C04M

/-- ANDROID, complete characterisation.  `AndroidParser` is CAN_SKIP; its entities have span `(None, None)`, its junk (an
    unparseable document or element) span `(0, 0)`.  So, for a localized `strings.xml` with decoded text `contents`:
    (a) nothing to skip → byte copy of the l10n file (missing strings are NOT added: no English enters);
    (b) only junk skips, any number → the WHOLE text is written back (nothing removed: the junk stays);
    (c) exactly one skip, an entity → the text is written TWICE (`contents[0:None] + contents[None:]`), nothing removed;
    (d) two or more skips, at least one of them an entity → `skips.sort` compares `None` and raises TypeError. -/
theorem android_merge_spec (contents : List Nat) (ms : List (List Nat)) :
    merge true cap_android contents [] ms = .copyL10n ∧
    (∀ sk rest, (∀ s ∈ sk :: rest, s.span = some (0, 0)) → merge true cap_android contents (sk :: rest) ms = .written contents) ∧
    (∀ sk, sk.span = none → merge true cap_android contents [sk] ms = .written (contents ++ contents)) ∧
    (∀ s1 s2 rest, (∃ s ∈ s1 :: s2 :: rest, s.span = none) → merge true cap_android contents (s1 :: s2 :: rest) ms = .typeError) := by
  refine ⟨by simp [merge, hasCap, cap_android, CAN_SKIP, CAN_MERGE, CAN_COPY, CAN_NONE], ?_, ?_, ?_⟩
  · intro sk rest hall
    -- the stable sort returns some permutation, all of whose spans are (0, 0)
    have hsome : (sk :: rest).all (fun s => s.span.isSome) = true := by
      rw [List.all_eq_true]; intro s hs; rw [hall s hs]; rfl
    obtain ⟨sorted, hsorted, hperm⟩ : ∃ sorted, sortSkips (sk :: rest) = some sorted ∧ sorted.Perm (sk :: rest) :=
      ⟨_, sortSkips_eq _ hsome, (Sorting.perm_sort _ _).trans (List.reverse_perm _)⟩
    rw [show cap_android = CAN_SKIP from rfl, skip_only_text contents sk rest ms sorted hsorted, chunks_none_eq,
      chunks_zero_spans contents sorted (fun s hs => hall s (hperm.subset hs))]
  · intro sk hsk
    simp [merge, hasCap, cap_android, CAN_SKIP, CAN_MERGE, CAN_COPY, CAN_NONE, sortSkips, chunks, hsk]
  · exact fun s1 s2 rest h =>
      (merge_typeError_iff ..).2 ⟨⟨rfl, by decide, rfl, rfl⟩, (sortSkips_none_iff _).2 ⟨by simp, h⟩⟩

/-- … on bytes: case (b) re-encodes the decoded text (CRLF and ill-formed bytes are NOT preserved although nothing is
    removed), case (c) doubles it -/
theorem android_bytes_spec (l10n ref : List Nat) (ms : List (List Nat)) (sk : Skip) :
    (sk.span = some (0, 0) → MergeB.mergeBytes true cap_android l10n ref [sk] ms = MergeB.encodeOut [] (MergeB.readFile l10n)) ∧
    (sk.span = none → MergeB.mergeBytes true cap_android l10n ref [sk] ms =
      MergeB.encodeOut [] (MergeB.readFile l10n ++ MergeB.readFile l10n)) := by
  constructor
  · intro h
    rw [MergeB.mergeBytes, (android_merge_spec _ ms).2.1 sk [] (by intro s hs; simp at hs; subst hs; exact h)]
  · intro h
    rw [MergeB.mergeBytes, (android_merge_spec _ ms).2.2.1 sk h]

end Android

/-! ## SESSIONS: one `ContentComparer` with a merge stage, a sequence of `compare` / `add` / `remove` jobs

`MergeS.step : St → Job → Except _ (St × FileOut)` (Compare/MergeSession.lean) is the comparer as a state machine; its
state lists everything a job can reach (`obs` = `self.observers`, `files` / `dirs` = the merge stage).  The theorems say
that NOTHING a job stages depends on that state — hence on the jobs that ran before: the class of regressions "the comparer
remembers something per extension / per comparer / between files" contradicts them, and the harness replays them on the real
code (`c04.session`, sessions against fresh comparers).  The parser is chosen per NAME by the generated `__constructors`
table (`MergeS.capsOfName` over `Lint.getParserName`). -/

section Session
open MergeS MergeB ObsM C04S

/-- ONE STEP: whatever state the comparer is in (observers that have seen any history, any stage), what a job stages is
    `jobOut` of the job and the project filters -/
theorem session_step_stateless (s s' : St) (j : Job) (out : FileOut) (h : MergeS.step s j = .ok (s', out)) :
    out = jobOut (filtersOf s) j := (stepWith_spec h).1

/-- SESSION = POINTWISE: the outcomes of a session on one comparer are the per-job outcomes; no state is carried -/
theorem session_merge_is_pointwise (s s' : St) (jobs : List Job) (outs : List FileOut) (h : run s jobs = .ok (s', outs)) :
    outs = jobs.map (jobOut (filtersOf s)) := (run_spec jobs s s' outs h).1

/-- … and the project filters are the same afterwards -/
theorem session_filters_fixed (s s' : St) (jobs : List Job) (outs : List FileOut) (h : run s jobs = .ok (s', outs)) :
    filtersOf s' = filtersOf s := (run_spec jobs s s' outs h).2.1

/-- THE STAGE IS THE FOLD: after the session the stage is the initial stage with every `bytes` outcome written at its
    job's merge path, in job order; nothing else is created, changed or removed -/
theorem session_stage_is_fold (s s' : St) (jobs : List Job) (outs : List FileOut) (h : run s jobs = .ok (s', outs)) :
    s'.files = stageOf s.files (jobs.map (fun j => (j.mergePath, jobOut (filtersOf s) j))) := (run_spec jobs s s' outs h).2.2

/-- a session over files without a legacy module always returns (the observers never raise), from a fresh comparer -/
theorem session_returns (quiet : Nat) (filters : List (Option Filter)) (jobs : List Job) :
    ∃ s' outs, run (St.init quiet filters) jobs = .ok (s', outs) := run_total jobs _ (ObsList.init_inv quiet filters)

/-- SESSION = FRESH COMPARER PER JOB: job `i` of a session stages exactly what the same job stages on a comparer of its
    own (any quiet level) -/
theorem session_equals_fresh (quiet quiet' : Nat) (filters : List (Option Filter)) (jobs : List Job) (s' : St)
    (outs : List FileOut) (h : run (St.init quiet filters) jobs = .ok (s', outs)) (i : Nat) (j : Job) (hj : jobs[i]? = some j) :
    ∃ sf o, run (St.init quiet' filters) [j] = .ok (sf, [o]) ∧ outs[i]? = some o := by
  obtain ⟨sf, os, hf⟩ := session_returns quiet' filters [j]
  have h1 := session_merge_is_pointwise _ _ _ _ hf
  have h2 := session_merge_is_pointwise _ _ _ _ h
  rw [init_filters] at h1 h2
  refine ⟨sf, jobOut filters j, by rw [hf, h1]; rfl, ?_⟩
  rw [h2, List.getElem?_map, hj]; rfl

/-- HISTORY IRRELEVANT: the same job after two different histories, on two comparers with the same filters, stages the same -/
theorem session_job_independent_of_history (sa sb sa' sb' : St) (preA preB postA postB : List Job) (j : Job)
    (outsA outsB : List FileOut) (hf : filtersOf sa = filtersOf sb)
    (ha : run sa (preA ++ j :: postA) = .ok (sa', outsA)) (hb : run sb (preB ++ j :: postB) = .ok (sb', outsB)) :
    outsA[preA.length]? = outsB[preB.length]? := by
  rw [session_merge_is_pointwise _ _ _ _ ha, session_merge_is_pointwise _ _ _ _ hb, hf]
  simp

/-- OTHERWISE UNTOUCHED: with pairwise distinct merge paths, what a job staged is at its path at the end of the session,
    byte for byte, whatever ran before or after it -/
theorem session_job_file_kept (s s' : St) (jobs : List Job) (outs : List FileOut) (h : run s jobs = .ok (s', outs))
    (hd : (jobs.filterMap (·.mergePath)).Nodup) (j : Job) (hj : j ∈ jobs) (p : List Nat) (hp : j.mergePath = some p) :
    getFile s'.files p = match jobOut (filtersOf s) j with | .bytes b => some b | _ => getFile s.files p := by
  have hd' : ((jobs.map (fun j => (j.mergePath, jobOut (filtersOf s) j))).filterMap (·.1)).Nodup := by
    rw [List.filterMap_map]; exact hd
  have hm : (some p, jobOut (filtersOf s) j) ∈ jobs.map (fun j => (j.mergePath, jobOut (filtersOf s) j)) :=
    List.mem_map.mpr ⟨j, hj, by rw [hp]⟩
  rw [session_stage_is_fold s s' jobs outs h, getFile_stageOf_mem hd' hm]
  cases jobOut (filtersOf s) j <;> rfl

/-- ORDER IRRELEVANT: two sessions running the same jobs (pairwise distinct merge paths) in different orders, from the same
    stage on comparers with the same filters, leave the same file at every path — "unknown `notes.xml` first, then Android"
    and "Android first, then `notes.xml`" cannot differ -/
theorem session_order_irrelevant (s1 s2 s1' s2' : St) (jobs1 jobs2 : List Job) (outs1 outs2 : List FileOut)
    (hperm : jobs1.Perm jobs2) (hd : (jobs1.filterMap (·.mergePath)).Nodup)
    (hf : filtersOf s1 = filtersOf s2) (hfiles : s1.files = s2.files)
    (h1 : run s1 jobs1 = .ok (s1', outs1)) (h2 : run s2 jobs2 = .ok (s2', outs2)) (p : List Nat) :
    getFile s1'.files p = getFile s2'.files p := by
  rw [session_stage_is_fold _ _ _ _ h1, session_stage_is_fold _ _ _ _ h2, hf, hfiles]
  apply getFile_stageOf_perm (hperm.map _)
  rw [List.filterMap_map]; exact hd

/-- look-alike names and what the generated `__constructors` table says about them -/
theorem parser_by_name_witness :
    capsOfName (ofString "strings.xml") = some cap_android ∧
    capsOfName (ofString "strings-more.xml") = some cap_android ∧
    capsOfName (ofString "res/values/strings.xml") = some cap_android ∧
    capsOfName (ofString "notes.xml") = none ∧
    capsOfName (ofString "values.xml") = none ∧
    capsOfName (ofString "extra.xml") = none ∧
    capsOfName (ofString "strings.xml.orig") = none ∧
    capsOfName (ofString "foo.properties.orig") = none ∧
    capsOfName (ofString "foo.properties") = some cap_properties ∧
    capsOfName (ofString "a.inc") = some cap_inc ∧
    capsOfName (ofString "a.ini") = some cap_ini ∧
    capsOfName (ofString "a.pot") = some cap_po ∧
    capsOfName (ofString "unknown.txt") = none ∧
    capsOfName (ofString "README") = none := by decide +kernel

/-- what a comparer that remembers parser lookups under a key of the name stages: the stateless per-job function, fed with
    what the memory answers -/
theorem cached_session_spec {K : Type} [BEq K] (key : List Nat → K) (cs cs' : CSt K) (jobs : List Job) (outs : List FileOut)
    (h : crun key cs jobs = .ok (cs', outs)) : outs = cachedOuts key (filtersOf cs.st) cs.cache jobs :=
  crun_spec jobs cs cs' outs h

/-- THE CACHE IS SOUND IF IT IS KEYED BY EVERYTHING THE RESULT DEPENDS ON: if `key a = key b` implies that `getParser`
    answers the same for `a` and `b`, a session on the remembering comparer is a session on the real one -/
theorem cached_session_eq_of_sufficient_key {K : Type} [BEq K] [LawfulBEq K] (key : List Nat → K) (hk : KeySufficient key)
    (s : St) (cs' : CSt K) (jobs : List Job) (outs : List FileOut)
    (h : crun key { st := s } jobs = .ok (cs', outs)) : run s jobs = .ok (cs'.st, outs) :=
  crun_eq_run hk jobs { st := s } cs' outs (by intro e he; cases he) h

/-- the whole name is a sufficient key -/
theorem name_key_sufficient : KeySufficient (fun n : List Nat => n) := by
  intro a b h; rw [show a = b from h]

/-- THE EXTENSION IS NOT: `notes.xml` and `strings-more.xml` share `.xml` and differ in `getParser` -/
theorem ext_key_insufficient_witness :
    extOf (ofString "notes.xml") = extOf (ofString "strings-more.xml") ∧
    capsOfName (ofString "notes.xml") ≠ capsOfName (ofString "strings-more.xml") ∧ ¬ KeySufficient extOf := by
  refine ⟨by decide, by decide, fun h => ?_⟩
  exact absurd (h (ofString "notes.xml") (ofString "strings-more.xml") (by decide)) (by decide)

/-- unknown `notes.xml` compared (CRLF bytes `n⏎`), then a MISSING Android `strings-more.xml` -/
def witnessUnknownFirst : List Job :=
  [{ kind := .compare, name := ofString "notes.xml", mergePath := some (ofString "notes.xml"), l10n := [110, 13, 10], ref := [114, 10],
     skips := [{ span := some (0, 0), junk := true, refAll := [] }] },
   { kind := .add, name := ofString "strings-more.xml", mergePath := some (ofString "strings-more.xml"), ref := [60, 114, 47, 62, 10], nref := 1 }]

/-- Android `strings.xml` compared (clean), then unknown `notes.xml` (CRLF bytes; the skip is the junk an Android parse of it
    would report), then a MISSING unknown `extra.xml` -/
def witnessAndroidFirst : List Job :=
  [{ kind := .compare, name := ofString "strings.xml", mergePath := some (ofString "strings.xml"), l10n := [60, 114, 47, 62, 10], ref := [60, 114, 47, 62, 10] },
   { kind := .compare, name := ofString "notes.xml", mergePath := some (ofString "notes.xml"), l10n := [110, 13, 10], ref := [114, 10],
     skips := [{ span := some (0, 0), junk := true, refAll := [] }] },
   { kind := .add, name := ofString "extra.xml", mergePath := some (ofString "extra.xml"), ref := [101, 10] }]

/-- a regression of that class, in the model: keyed by extension the memory makes the session stage ENGLISH for the missing
    Android file (first history), re-encode the unknown file CRLF → LF and stage nothing for the missing unknown file
    (second history); the real comparer (`jobOut`, by `session_merge_is_pointwise`) copies verbatim / stages nothing /
    stages the reference -/
theorem ext_cache_breaks_session_witness :
    witnessUnknownFirst.map (jobOut [none]) = [.bytes [110, 13, 10], .noFile] ∧
    cachedOuts extOf [none] [] witnessUnknownFirst = [.bytes [110, 13, 10], .bytes [60, 114, 47, 62, 10]] ∧
    witnessAndroidFirst.map (jobOut [none]) = [.bytes [60, 114, 47, 62, 10], .bytes [110, 13, 10], .bytes [101, 10]] ∧
    cachedOuts extOf [none] [] witnessAndroidFirst = [.bytes [60, 114, 47, 62, 10], .bytes [110, 10], .noFile] := by decide +kernel

/-- non-vacuity: the two witness sessions run on a fresh comparer, and their outcomes are the stateless ones -/
example : ∃ s' outs, run (St.init 0 [none]) witnessAndroidFirst = .ok (s', outs) ∧
    outs = [.bytes [60, 114, 47, 62, 10], .bytes [110, 13, 10], .bytes [101, 10]] := by
  obtain ⟨s', outs, h⟩ := session_returns 0 [none] witnessAndroidFirst
  refine ⟨s', outs, h, ?_⟩
  rw [session_merge_is_pointwise _ _ _ _ h, init_filters]
  exact ext_cache_breaks_session_witness.2.2.1

end Session

end C04
