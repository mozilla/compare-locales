/- C12 — Pattern expansion, matching and prefix are mutually consistent (property theorems). -/
import CLModel.Paths.Matcher
import CLModel.Proofs.C12Star
import CLModel.Proofs.C12Prefix
import CLModel.Proofs.C12PrefixFull
import CLModel.Proofs.C12Android
import CLModel.Proofs.C12Bound
import CLModel.Proofs.C12Term
import CLModel.Proofs.C11Witness
import CLModel.Proofs.C12RSep
import CLModel.Proofs.C12RExample
import CLModel.Proofs.C12MozNorm
import CLModel.Proofs.C12BExample
import CLModel.Proofs.C12AndroidGen
import CLModel.Proofs.C12AClass
import CLModel.Proofs.C12MozLaws
import CLModel.Proofs.C12Heap
import CLModel.Proofs.C11Obj
import CLModel.Proofs.C12Eval
namespace C12
open Rx PM

/-- A single star never matches across a directory separator: whenever `Matcher.match(path)` returns a
    dictionary, the value reported for the group `s<n>` of a top-level `*` contains no '/'.
    (For every pattern, environment and path; uses that `re.compile` accepted the pattern, i.e. that
    group names are distinct, which `match` returning a dictionary implies.) -/
theorem star_no_slash {m : Matcher} {path : Text} {d : GroupDict} {n : Nat} {v : Text}
    (h : m.match path = .ok (some d)) (hn : Node.star n ∈ m.pattern.nodes)
    (hl : d.lookup (sname n) = some (some v)) : 47 ∉ v := by
  obtain ⟨re, names, st, hre, hst, hd⟩ := match_inv h
  have hv := dict_lookup_sname hd hl
  obtain ⟨a, b, hc, rfl⟩ := groupText_some hv.symm
  obtain ⟨x, y, hxy, rfl, rfl⟩ := cap_of_group hre hst (star_group_mem hre hn) hc
  obtain ⟨mn, mx, g, hfrag⟩ : ∃ mn mx g, Gen.Pat.matcher_frag_star = Re.rep mn mx g (Re.notLit 47) :=
    ⟨_, _, _, rfl⟩
  intro hmem
  obtain ⟨j, hj1, hj2, hj3⟩ := mem_slice hmem
  have := sem_rep_all (s := path.toArray) (P := fun j => ∃ d, path.toArray[j]? = some d ∧ d ≠ 47)
    (body := Re.notLit 47) (by
      intro x y hxy j h1 h2
      obtain ⟨hp, d, hd, hne⟩ := sem_notLit hxy
      have : j = x.pos := by omega
      subst this; exact ⟨d, hd, hne⟩) hxy hfrag j hj1 hj2
  obtain ⟨d', hd', hne⟩ := this
  rw [hj3] at hd'
  simp at hd'
  exact hne hd'.symm

/-- A double star followed by '/' matches zero or more *whole* directories: the value reported for its
    group is either `None` (no directory) or a non-empty text that ends with '/'. -/
theorem starstar_whole_dirs {m : Matcher} {path : Text} {d : GroupDict} {n : Nat} {ov : Option Text}
    (h : m.match path = .ok (some d)) (hn : Node.starstar n [47] ∈ m.pattern.nodes)
    (hl : d.lookup (sname n) = some ov) :
    ov = none ∨ ∃ v, ov = some v ∧ v ≠ [] ∧ v.getLast? = some 47 := by
  cases ov with
  | none => exact Or.inl rfl
  | some v =>
    right
    refine ⟨v, rfl, ?_⟩
    obtain ⟨re, names, st, hre, hst, hd⟩ := match_inv h
    have hv := dict_lookup_sname hd hl
    obtain ⟨a, b, hc, rfl⟩ := groupText_some hv.symm
    obtain ⟨x, y, hxy, rfl, rfl⟩ := cap_of_group hre hst (starstar_group_mem hre hn) hc
    simp only [List.map_cons, List.map_nil, seqOf] at hxy
    cases hxy with
    | seq h1 h2 =>
      rename_i mid
      cases h2 with
      | lit hc47 =>
        have : slice path.toArray x.pos (mid.pos + 1) = slice path.toArray x.pos mid.pos ++ [47] :=
          Txt.extract_snoc hc47 h1.pos_le
        rw [this]
        exact ⟨by simp, by simp⟩

/-- Nothing but complete paths match: after a successful `match` the regular expression has consumed the
    whole path (`_cache_regex` anchors with `\Z`; a path with a trailing newline is not matched, see
    `trailing_newline_rejected`). -/
theorem only_complete_paths {m : Matcher} {path : Text} {d : GroupDict}
    (h : m.match path = .ok (some d)) :
    ∃ re names st, m.regexOf = .ok (re, names) ∧ matchAt path.toArray re 0 = some st ∧
      st.pos = path.length := by
  obtain ⟨re, names, st, hre, hst, _⟩ := match_inv h
  refine ⟨re, names, st, hre, hst, ?_⟩
  obtain ⟨items, _, rfl, _⟩ := regexOf_inv hre
  obtain ⟨mid, _, h2⟩ := (sem_seqOf _ (matchAt_sem hst)).append
  cases h2 with
  | cons ha hn =>
    cases hn
    have hanchor : Gen.Pat.matcher_frag_anchor = Re.eos := rfl
    rw [hanchor] at ha
    cases ha with
    | eos hc => simpa using hc

/-- **Every path a matcher matches starts with the matcher's prefix**, for every matcher obtained by
    `Matcher(pattern, env, root)` (any pattern text, any environment: nested, self-referential, Android
    locale, repeated variables; any root) and every path: whenever `match(path)` returns a dictionary and
    `prefix` returns a text, that text is a prefix of the path.  (Both are partial: see the witnesses for
    F11, F12 and the locale/android_locale cycle; the statement is about the cases where they return.) -/
theorem match_has_prefix {pat : Text} {env : List (Text × Text)} {root : Option Text} {m : Matcher}
    {path : Text} {d : GroupDict} {pre : Text} (hm : mkMatcher pat env root = .ok m)
    (h : m.match path = .ok (some d)) (hp : m.prefix = .ok pre) : pre <+: path :=
  prefix_of_match (mkMatcher_shape hm).1 (mkMatcher_shape hm).2 h hp

/-- the same after `with_env` (how `ProjectFiles` derives the per-locale matchers) -/
theorem match_has_prefix_with_env {pat : Text} {env env' : List (Text × Text)} {root : Option Text}
    {m m' : Matcher} {path : Text} {d : GroupDict} {pre : Text} (hm : mkMatcher pat env root = .ok m)
    (hw : m.withEnv env' = .ok m') (h : m'.match path = .ok (some d)) (hp : m'.prefix = .ok pre) :
    pre <+: path :=
  prefix_of_match (withEnv_shape (mkMatcher_shape hm) hw).1 (withEnv_shape (mkMatcher_shape hm) hw).2 h hp

/-- and for any `Matcher` value of the right shape (environment of parsed unrooted patterns; every repeated
    occurrence of a variable has a first occurrence among its siblings) -/
theorem match_has_prefix_of_shape {m : Matcher} {path : Text} {d : GroupDict} {pre : Text}
    (henv : EnvOK' m.env) (hrep : RepOK m.pattern.nodes)
    (h : m.match path = .ok (some d)) (hp : m.prefix = .ok pre) : pre <+: path :=
  prefix_of_match henv hrep h hp

/-- non-vacuity: a repeated variable, "{l}/x-{l}.ftl" with l = "de" -/
example : matchOutcome "{l}/x-{l}.ftl" [("l", "de")] none "de/x-de.ftl" = .groups [(T "l", some (T "de"))] ∧
    prefixOutcome "{l}/x-{l}.ftl" [("l", "de")] none = .text (T "de/x-de.ftl") := by decide +kernel

/-- `Matcher("l/{locale}/*.ftl", {"locale": "de"})` (`exampleMatcher_is`) has the environment shape `EnvOK` that
    `match_returns_bound_values` and `matches_own_expansion_partial` ask for, its prefix nodes repeat no variable (`NoRep`), it
    matches "l/de/a.ftl" and has the prefix "l/de/".  (Not an instance of `matches_own_expansion_partial` as a whole: with
    the `*` the expansion under `raise_missing` raises.) -/
example : EnvOK exampleMatcher.env ∧
    NoRep (exampleMatcher.pattern.nodes.take exampleMatcher.pattern.prefixLen) ∧
    exampleMatcher.match (T "l/de/a.ftl") = .ok (some [(localeName, some (T "de")), (T "s1", some (T "a"))]) ∧
    exampleMatcher.prefix = .ok (T "l/de/") := by
  refine ⟨?_, ?_, matchIs_spec (by decide +kernel), okEq_spec (by decide +kernel)⟩
  · intro k v hm
    simp only [exampleMatcher, List.mem_singleton, Prod.mk.injEq] at hm
    obtain ⟨_, rfl⟩ := hm
    refine ⟨rfl, fun n hn => ?_⟩
    simp only [List.mem_singleton] at hn
    subst hn; trivial
  · intro n hn
    simp only [exampleMatcher, List.take] at hn
    simp only [List.mem_cons, List.not_mem_nil, or_false] at hn
    rcases hn with rfl | rfl | rfl <;> simp [NodeNoRep]

/-- The shape hypothesis `EnvOK` of `matches_own_expansion_partial` and `match_returns_bound_values`, for a matcher built by `Matcher(pattern, env, root)`:
    its environment values are parsed, unrooted patterns (always), so `EnvOK` only asks that no
    environment value repeats a variable. -/
theorem constructed_matcher_envOK {pat : Text} {env : List (Text × Text)} {root : Option Text} {m : Matcher}
    (h : mkMatcher pat env root = .ok m) (hnr : ∀ k p, (k, Val.pat p) ∈ m.env → NoRep p.nodes) : EnvOK m.env := by
  intro k v hm
  obtain ⟨p, rfl, hr⟩ := mkMatcher_env h k v hm
  exact ⟨hr, hnr k p hm⟩

/-- A fully bound pattern expands to a path that the same matcher matches: if every variable is bound
    (the expansion with `raise_missing=True` succeeds and gives `path`; no wildcards, since they cannot be
    expanded) and `re.compile` accepts the pattern (`regexOf` succeeds: no duplicate group name, F12),
    then `match(path)` is not `None` (the regex matches; the statement does not say that `match` returns, an exception of
    the locale conversion would satisfy it too).  Proved by running the engine through the literal-like regex.
    Restriction (not forced, hence `_partial`): no variable occurs a second time (`NoRep`). -/
theorem matches_own_expansion_partial {m : Matcher} {path : Text} {re : Re} {names : List Text}
    (henv : EnvOK m.env) (hnr : NoRep m.pattern.nodes)
    (hexp : expandPat (expandVal (fuelFor m.env)) m.pattern m.env true = .ok path)
    (hre : m.regexOf = .ok (re, names)) : m.match path ≠ .ok none :=
  matches_expansion henv hnr hexp hre

/-- ... returning the bound variable values: after a successful `match`, the entry of a (first occurrence
    of a) top-level variable that is bound in the environment is the expansion of its value — for every
    pattern (wildcards included) and path, and every environment of the `Matcher` shape (`EnvOK`); the variable's own value must be wildcard-free and
    fully bound (its expansion `t` exists). -/
theorem match_returns_bound_values {m : Matcher} {path : Text} {d : GroupDict} {name : Text} {v : Val} {t : Text}
    (henv : EnvOK m.env) (h : m.match path = .ok (some d)) (hn : Node.var name false ∈ m.pattern.nodes)
    (hl : m.env.lookup name = some v)
    (ht : expandVal (fuelFor m.env) v (derase m.env name) true = .ok t) :
    d.lookup name = some (some t) := by
  obtain ⟨re, names, st, hre, hst, hd⟩ := match_inv h
  obtain ⟨items, hrx, _, _⟩ := regexOf_inv hre
  obtain ⟨_, _, _, hch, _⟩ := rxPat_inv hrx
  obtain ⟨a, na, hnode, _, hnames⟩ := rxChildren_mem hch hn
  have hname : name ∈ names := by
    apply hnames
    simp only [rxNode, hl, Bool.false_eq_true, if_false, bind, Except.bind] at hnode
    split at hnode
    · cases hnode
    · simp only [pure, Except.pure, Except.ok.injEq, Prod.mk.injEq] at hnode
      rw [← hnode.2]; simp
  have hlk : (groupDict path.toArray st names).lookup name = some (some t) := by
    unfold groupDict
    rw [lookup_map_mem (fun nm => groupText path.toArray st (encName nm)) name names hname,
      bound_capture henv hre hst hn hl ht]
  rcases hd with rfl | ⟨l, rfl⟩
  · exact hlk
  · exact lookup_append_left _ _ _ hlk

/-- `Variable._no_cycle`: expanding any value in any environment (self references, mutual references,
    chains of any depth) never nests deeper than `2 * len(env) + 3`, i.e. terminates, provided the value
    of "locale" does not itself contain `{android_locale}` (that excluded point recurses forever: finding C12-android-locale-cycle-recursion,
    `android_cycle_witness`). -/
theorem no_cycle_terminates (env : Env) (hs : AndroidSafe env) (v : Val) (rm : Bool) :
    expandVal (fuelFor env) v env rm ≠ .error .recursion :=
  (expandVal_norec (fuelFor env)).1 v env rm hs (by simp [fuelFor])

/-- hence `str(matcher)`, `matcher.prefix` and the construction of the regular expression terminate -/
theorem matcher_terminates (m : Matcher) (hs : AndroidSafe m.env) :
    m.str ≠ .error .recursion ∧ m.prefix ≠ .error .recursion ∧
    rxVal (fuelFor m.env) (.pat m.pattern) m.env ≠ .error .recursion :=
  ⟨expandTop_norec _ _ hs, expandTop_norec _ _ hs, rxVal_norec _ _ _ hs (by simp [fuelFor]; omega)⟩

/-- negation witness for `AndroidSafe` (finding C12-android-locale-cycle-recursion): with `locale = "{android_locale}"` the expansion of
    `{android_locale}` does not terminate (Python: RecursionError). -/
theorem android_cycle_witness :
    strOutcome "{android_locale}" [("locale", "{android_locale}")] none = .raised .recursion := by decide +kernel

/-- self and mutual references do terminate: `v = "{v}y"` and `v = "{w}", w = "{v}"` -/
example : strOutcome "a/{v}/b" [("v", "{v}y")] none = .text (T "a/") := by decide +kernel
example : strOutcome "a/{v}/b" [("v", "{w}"), ("w", "{v}")] none = .text (T "a/") := by decide +kernel

/-- a path with a trailing newline is not matched (`\Z`, not `$`): `Matcher('foo/*.ftl').match('foo/a.ftl\n')`
    is `None`, while the same path without the newline gives `{'s1': 'a'}` -/
theorem trailing_newline_rejected :
    matchOutcome "foo/*.ftl" [] none "foo/a.ftl\n" = .noMatch ∧
    matchOutcome "foo/*.ftl" [] none "foo/a.ftl" = .groups [(T "s1", some (T "a"))] := by decide +kernel

/-- F11: a rooted pattern that starts with a wildcard cannot be matched at all: KeyError -/
theorem rooted_wildcard_first_witness :
    matchOutcome "*/x" [] (some "/r/") "/r/a/x" = .raised .keyError ∧
    prefixOutcome "*/x" [] (some "/r/") = .raised .indexError := by decide +kernel

/-- F12: a variable reachable twice (directly and through an environment value) is a duplicate group
    name, `re.error` -/
theorem duplicate_group_witness :
    matchOutcome "{v}/{locale}" [("v", "{locale}x")] none "dex/de" = .raised .reError := by decide +kernel

/-- non-vacuity: star, double star, prefix on a typical l10n pattern -/
example : matchOutcome "{l10n_base}/{locale}/browser/**/*.ftl" [("l10n_base", "/l10n"), ("locale", "de")] none
      "/l10n/de/browser/a/b/c.ftl" =
    .groups [(T "l10n_base", some (T "/l10n")), (T "locale", some (T "de")), (T "s1", some (T "a/b/")),
             (T "s2", some (T "c"))] := by
  rw [matchOutcome_of l10nMatcher_is]
  decide +kernel
example : prefixOutcome "{l10n_base}/{locale}/browser/**/*.ftl" [("l10n_base", "/l10n"), ("locale", "de")] none =
    .text (T "/l10n/de/browser/") := by
  rw [prefixOutcome_of l10nMatcher_is]
  decide +kernel
example : matchOutcome "foo/*.ftl" [] none "foo/a/b.ftl" = .noMatch := by decide +kernel

/-- For every locale compare-locales ships plural rules for (143 codes: languages, language-REGION) the
    Android form computed by `AndroidLocale._get_android_locale` is mapped back to the same locale by the
    conversion in `Matcher.match`: every code passes the test `C12A.localeOKb` of the hypothesis of
    `android_roundtrip_general` (evaluated on the regenerated table). -/
theorem android_roundtrip_shipped :
    ∀ l ∈ shippedLocales, ∃ a, toAndroid l = .ok a ∧ toStandard a = .ok l :=
  C12A.roundtrip_of_all (by decide +kernel)

/-- The same for a curated list covering language, language-REGION, script (+region), numeric region,
    variant and the legacy codes he/id/yi without region, with region, and in the `b+` form. -/
theorem android_roundtrip_curated :
    ∀ l ∈ curatedLocales, ∃ a, toAndroid l = .ok a ∧ toStandard a = .ok l :=
  C12A.roundtrip_of_all (by decide +kernel)

/-- the three resource-qualifier forms: "he-IL" -> "iw-rIL", "sr-Latn" -> "b+sr+Latn", "id" -> "in" -/
theorem android_forms :
    toAndroid [104, 101, 45, 73, 76] = .ok [105, 119, 45, 114, 73, 76] ∧
    toAndroid [115, 114, 45, 76, 97, 116, 110] = .ok [98, 43, 115, 114, 43, 76, 97, 116, 110] ∧
    toAndroid [105, 100] = .ok [105, 110] :=
  ⟨okEq_spec (by decide +kernel), okEq_spec (by decide +kernel), okEq_spec (by decide +kernel)⟩

/-- a legacy language code in the `b+` form comes back: "he-Hebr-IL" -> "b+iw+Hebr+IL" -> "he-Hebr-IL"
    (`match` normalises `b+`/`+` before it maps the legacy code) -/
theorem android_legacy_bplus_roundtrip :
    toAndroid [104, 101, 45, 72, 101, 98, 114, 45, 73, 76] = .ok [98, 43, 105, 119, 43, 72, 101, 98, 114, 43, 73, 76] ∧
    toStandard [98, 43, 105, 119, 43, 72, 101, 98, 114, 43, 73, 76] = .ok [104, 101, 45, 72, 101, 98, 114, 45, 73, 76] :=
  ⟨okEq_spec (by decide +kernel), okEq_spec (by decide +kernel)⟩

/-- Limits outside the property's locale list: the legacy substitution is not anchored on the left
    ("cin" -> "cin" -> "cid"), and the region test is a prefix match ("en-US-x-foo" -> "en-rUS" -> "en-US"). -/
theorem android_limits_witness :
    androidRoundTrip [99, 105, 110] = false ∧
    androidRoundTrip [101, 110, 45, 85, 83, 45, 120, 45, 102, 111, 111] = false := by decide +kernel

/-- **General Android round trip** (locale -> Android resource qualifier -> locale), for EVERY locale made of subtags
    joined by "-" that satisfies `C12A.AndroidOK`: no subtag contains "-" or "+", none ends with a legacy code `iw`/`in`/`ji`
    (`C12A.NoLegacyEnd`), none after the first looks like a region qualifier `rXX` (`C12A.NotRegionQualifier`), and a text that
    the code takes for language-REGION (it starts like `ll-XX` / `lll-XX`: `C12A.regionShape`) has exactly two subtags.  That
    covers every `language[-Script][-REGION][-variant…]` tag outside the limit families below, in particular all locales of
    `android_roundtrip_shipped` / `_curated`.  The Android form `AndroidLocale._get_android_locale` computes is mapped back
    to the same locale by the conversion in `Matcher.match`.
    Proof: `re.sub` with a callback is a left-to-right rewriting by a local rule (`C12A.subWithE_rewrite`, on top of
    `Rx.sub_eq`); each of the three regexes is analysed at an arbitrary position (`keyRe_hit`, `r_hit`,
    `region_hit`); the legacy substitutions act on the last two characters of every subtag (`rewrite_join`). -/
theorem android_roundtrip_general (ts : List Text) (h : C12A.AndroidOK ts) :
    ∃ a, toAndroid (C12A.joinWith 45 ts) = .ok a ∧ toStandard a = .ok (C12A.joinWith 45 ts) :=
  C12A.android_roundtrip_general ts h

/-- The fields `noLegacy`, `noRQual`, `region` and the "+" half of `chars` of `C12A.AndroidOK` are forced: a subtag ending in a legacy code ("cin", "zh-Latn-pinyin"), a
    later subtag of the form rXX ("xx-Latn-rDE"), more than two subtags behind a language-REGION start ("en-US-x-foo"), a "+"
    inside a subtag ("a+b-c") do not come back. -/
theorem android_general_witness :
    androidRoundTrip (T "cin") = false ∧ androidRoundTrip (T "zh-Latn-pinyin") = false ∧
    androidRoundTrip (T "xx-Latn-rDE") = false ∧ androidRoundTrip (T "en-US-x-foo") = false ∧
    androidRoundTrip (T "a+b-c") = false := by decide +kernel

/-- non-vacuity: "zh-Hant-TW" (the `b+` form), "he-IL" (legacy code and region) and "ast" satisfy `C12A.AndroidOK` -/
example : C12A.AndroidOK [T "zh", T "Hant", T "TW"] ∧ C12A.AndroidOK [T "he", T "IL"] ∧ C12A.AndroidOK [T "ast"] ∧
    C12A.joinWith 45 [T "zh", T "Hant", T "TW"] = T "zh-Hant-TW" :=
  ⟨C12A.androidOK_of_test (by decide +kernel), C12A.androidOK_of_test (by decide +kernel),
    C12A.androidOK_of_test (by decide +kernel), by decide⟩

/-- `Matcher("values-{android_locale}/*.xml", {"locale": "sr-Latn"})` written out -/
def androidMatcher : Matcher :=
  { pattern := { nodes := [.lit (T "values-"), .android false, .lit (T "/"), .star 1, .lit (T ".xml")],
                 root := none, prefixLen := 3 },
    env := [(localeName, .pat { nodes := [.lit (T "sr-Latn")], root := none, prefixLen := 1 })] }

/-- **A matcher with `{android_locale}` reports the locale it was bound to** (composition of the matching theorems with the
    general Android round trip).  Matcher of the class `C12AC.InClassA` (literals, `*`, `**/`, final `**`, fully bound variables
    and their repetitions, `{android_locale}` and its repetitions) with an environment of the `Matcher` shape (`EnvOK`), a pattern that
    `re.compile` accepts and a root decision that succeeds (as in `C11R.Fillable`), whose environment binds `locale` to a value that expands
    to a locale `C12A.joinWith 45 ts` satisfying `C12A.AndroidOK`, and whose pattern has no `{locale}` group of its own.  Then
    the path obtained by filling the wildcards, expanding the variables and putting the Android form in place of
    `{android_locale}` (`C12AC.fillA`, well separated) is matched, the group `android_locale` is that Android form and the
    entry `locale` that `match` adds is exactly the bound locale. -/
theorem android_match_reports_locale_partial {m : Matcher} {vs : Nat → Text} {re : Re} {names : List Text} {rt : Text}
    {v : Val} {ts : List Text}
    (henv : EnvOK m.env) (hcls : C12AC.InClassA m.env [] m.pattern.nodes) (hre : m.regexOf = .ok (re, names))
    (hroot : rootOf (expandVal (fuelFor m.env)) m.pattern m.env = .ok rt)
    (hsep : C12AC.WellSepA vs m.env m.pattern.nodes)
    (hand : Node.android false ∈ m.pattern.nodes) (hloc : localeName ∉ names)
    (hlv : m.env.lookup localeName = some v)
    (hexp : expandVal (fuelFor m.env) v (derase m.env androidName) false = .ok (C12A.joinWith 45 ts))
    (hok : C12A.AndroidOK ts) :
    ∃ d al, toAndroid (C12A.joinWith 45 ts) = .ok al ∧
      m.match (rt ++ C12AC.fillA vs m.env m.pattern.nodes) = .ok (some d) ∧
      d.lookup androidName = some (some al) ∧ d.lookup localeName = some (some (C12A.joinWith 45 ts)) := by
  obtain ⟨al, hto, hback⟩ := C12A.android_roundtrip_general ts hok
  have hget : getAndroidLocale (expandVal (fuelFor m.env)) m.env = .ok (some al) := by
    simp only [getAndroidLocale, hlv, hexp, hto, bind, Except.bind, pure, Except.pure]
  have hat : C12AC.androidText m.env = al := by simp [C12AC.androidText, hget]
  obtain ⟨g, hm, hga, hg⟩ := C12AC.match_fillA (l := C12A.joinWith 45 ts) henv hcls hre hroot hsep hand hloc (by rw [hat]; exact hback)
  obtain ⟨hamem, _⟩ := hg _ hand androidName (by simp [C12AC.nameOfA])
  refine ⟨_, al, hto, hm, ?_, ?_⟩
  · apply lookup_append_left
    rw [lookup_map_mem (fun nm => g nm) androidName names hamem, hga, hat]
  · rw [C12AC.lookup_append_of_none _ _ _ (C12AC.lookup_map_none (fun nm => g nm) localeName names hloc)]
    simp [List.lookup]

/-- non-vacuity of `android_match_reports_locale_partial`: `androidMatcher` (= `Matcher("values-{android_locale}/*.xml",
    {"locale": "sr-Latn"})`) with `*` = "strings" satisfies the hypotheses; the filled path is "values-b+sr+Latn/strings.xml" and
    the model evaluates to the dictionary the theorem describes -/
example : matcherOf "values-{android_locale}/*.xml" [("locale", "sr-Latn")] none = .ok androidMatcher ∧
    (∃ d al, toAndroid (T "sr-Latn") = .ok al ∧
      androidMatcher.match (T "values-b+sr+Latn/strings.xml") = .ok (some d) ∧
      d.lookup androidName = some (some al) ∧ d.lookup localeName = some (some (T "sr-Latn"))) ∧
    matchOutcome "values-{android_locale}/*.xml" [("locale", "sr-Latn")] none "values-b+sr+Latn/strings.xml" =
      .groups [(androidName, some (T "b+sr+Latn")), (T "s1", some (T "strings")), (localeName, some (T "sr-Latn"))] := by
  have his : matcherOf "values-{android_locale}/*.xml" [("locale", "sr-Latn")] none = .ok androidMatcher :=
    C11R.matcherOf_is (by decide +kernel)
  refine ⟨his, ?_, by rw [matchOutcome_of his]; decide +kernel⟩
  let vs : Nat → Text := fun k => if k = 1 then T "strings" else []
  obtain ⟨re, names, hre, hloc⟩ := C12AC.regexOf_noLocale_of (m := androidMatcher) (by decide +kernel)
  have hget : getAndroidLocale (expandVal (fuelFor androidMatcher.env)) androidMatcher.env = .ok (some (T "b+sr+Latn")) :=
    C12AC.getAndroid_ok_of (by decide +kernel)
  have hat : C12AC.androidText androidMatcher.env = T "b+sr+Latn" := by simp [C12AC.androidText, hget]
  have henv : EnvOK androidMatcher.env := by
    intro k v hm
    simp only [androidMatcher, List.mem_singleton, Prod.mk.injEq] at hm
    obtain ⟨_, rfl⟩ := hm
    exact ⟨rfl, fun n hn => by simp only [List.mem_singleton] at hn; subst hn; trivial⟩
  have hcls : C12AC.InClassA androidMatcher.env [] androidMatcher.pattern.nodes := ⟨⟨_, hget⟩, trivial⟩
  have hsep : C12AC.WellSepA vs androidMatcher.env androidMatcher.pattern.nodes := by
    show C11R.PSep _
    simp only [androidMatcher, List.map_cons, List.map_nil, C12AC.pieceOfA, C12B.pieceOfB, C11R.pieceOf]
    refine ⟨?_, ?_, trivial⟩
    · decide
    · exact C11R.noLaterHit_of_first (by decide) (by decide)
  have hok : C12A.AndroidOK [T "sr", T "Latn"] := C12A.androidOK_of_test (by decide +kernel)
  have hfill : [] ++ C12AC.fillA vs androidMatcher.env androidMatcher.pattern.nodes = T "values-b+sr+Latn/strings.xml" := by
    simp only [C12AC.fillA, androidMatcher, List.map_cons, List.map_nil, C12AC.pieceOfA, C12B.pieceOfB, C11R.pieceOf, hat]
    decide +kernel
  have h := android_match_reports_locale_partial (vs := vs) (ts := [T "sr", T "Latn"]) henv hcls hre rfl hsep (by simp [androidMatcher])
    hloc (v := .pat { nodes := [.lit (T "sr-Latn")], root := none, prefixLen := 1 }) (by simp [androidMatcher, List.lookup])
    (okEq_spec (by decide +kernel)) hok
  rw [hfill] at h
  exact h

/-- **expand -> match with wildcards and REPEATED variables.**  As `expand_match_star_partial`, for the larger class
    `C12B.InClassB`: a fully bound variable may occur again (`{l}a/{l}b/*.ftl`, `l10n/{locale}/x/{locale}.ftl`); the parser
    turns the later occurrences into back-references `(?P=name)`, which the engine treats exactly like the literal text of
    the group as long as that group has been captured (`C12B.sim`, `C12B.m_backref`).  In the separation hypothesis a
    repeated variable counts as the literal text of its expansion (`C12B.WellSepB`).  The dictionary reports the filled
    value for every wildcard and the expansion for every variable, whichever occurrence is asked for.
    (`C12B.fillableB_of_fillable`: the class of `expand_match_star_partial` is included.)
    Excluded (hence `_partial`): `{android_locale}` (with a bound locale: `android_match_reports_locale_partial`), variables
    left unbound, a variable repeated INSIDE an environment value (`EnvOK`), two double stars (forced). -/
theorem expand_match_backref_partial {m : Matcher} {vs : Nat → Text} {names : List Text} {rt : Text}
    (h : C12B.FillableB vs m names rt) :
    ∃ d, m.match (rt ++ C11R.fillN vs m.env m.pattern.nodes) = .ok (some d) ∧ d.map (·.1) = names ∧
      (∀ n, Node.star n ∈ m.pattern.nodes → d.lookup (sname n) = some (some (vs n))) ∧
      (∀ n sfx, Node.starstar n sfx ∈ m.pattern.nodes →
        d.lookup (sname n) = some (if vs n = [] then none else some (vs n))) ∧
      (∀ name rep t, Node.var name rep ∈ m.pattern.nodes →
        expandNode (expandVal (fuelFor m.env)) (.var name rep) m.env true = .ok t →
        d.lookup name = some (some t)) := by
  obtain ⟨g, hm, hg⟩ := C12B.match_fillB h
  refine ⟨_, hm, by simp [List.map_map, Function.comp_def], ?_, ?_, ?_⟩
  · intro n hn
    obtain ⟨h1, h2⟩ := hg _ hn (sname n) (by simp [C11R.nameOfN])
    rw [lookup_map_mem (fun nm => g nm) (sname n) names h1, h2]; rfl
  · intro n sfx hn
    obtain ⟨h1, h2⟩ := hg _ hn (sname n) (by simp [C11R.nameOfN])
    rw [lookup_map_mem (fun nm => g nm) (sname n) names h1, h2]; rfl
  · intro name rep t hn ht
    obtain ⟨h1, h2⟩ := hg _ hn name (by simp [C11R.nameOfN])
    rw [lookup_map_mem (fun nm => g nm) name names h1, h2]
    simp only [C11R.valOf, C11R.varText, ht]

/-- ... and the filled path is the expansion of the pattern once wildcards and variables are bound (as
    `filled_path_is_expansion_partial`, with repeated variables) -/
theorem filled_path_is_expansion_backref_partial {m : Matcher} {vs : Nat → Text} {names : List Text} {rt : Text}
    {d : GroupDict} (h : C12B.FillableB vs m names rt) (he : C11R.Expandable m)
    (hd : m.match (rt ++ C11R.fillN vs m.env m.pattern.nodes) = .ok (some d)) :
    expandTop m.pattern (subEnv d m.env) = .ok (rt ++ C11R.fillN vs m.env m.pattern.nodes) := by
  have hs := C12B.sub_fillB h h he fun _ h => h
  rw [PM.sub_of_match hd] at hs
  cases hx : expandTop m.pattern (subEnv d m.env) with
  | error e => simp [hx, Except.map] at hs
  | ok t => simpa [hx, Except.map] using hs

/-- **expand -> match with wildcards** (completeness *and* uniqueness of the backtracking matcher).
    Take a matcher of the restricted class `C11R.InClassN`: its top-level nodes are literals, `*`, `**/` (or `**`
    at the very end) and first occurrences of variables that are fully bound, i.e. `Variable.expand(env,
    raise_missing=True)` returns a text — the value may itself use other variables, as `{l}` =
    "{l10n_base}/{locale}/" does (environment of the `Matcher` shape `EnvOK`: parsed unrooted patterns, no variable
    twice inside one value); any root.  Fill the wildcard numbered `n` with `vs n` (`C11R.fillN`: literals stay, a
    variable contributes its expansion) and assume the filling is well separated (`C11R.WellSepN` = `C11R.PSep` of
    the filled items):
      * the value of a `*` contains no `/`, and the literal (or variable expansion) that follows the star does not
        occur again at a later position of the `/`-free run after the value (`C11R.NoLaterHit`; sufficient: its
        first character does not occur again before the next `/` — `C11R.noLaterHit_of_first`, e.g. it starts
        with `/` — `C11R.noLaterHit_slash`; nothing is asked of a star that ends the pattern — `C11R.noLaterHit_nil`);
      * the value of a `**/` is empty (no directory, reported as `None`) or a non-empty newline-free text followed
        by `/`, and no further double star comes after it (any literals, stars and variables may: the rest of the
        pattern matches only texts with its own number of `/`, `C11R.run_toks_slash_fail`);
      * the value of a final `**` is any newline-free text (empty = `None`).
    If moreover `re.compile` accepts the pattern (distinct group names, F12; `names` = its group names), the pattern
    does not use `{android_locale}`, and the root decision succeeds (F11) — all of this is the bundle
    `C11R.Fillable vs m names rt` — then `match` on `root + filled path` returns a
    dictionary whose keys are the group names and which maps `s<n>` to `vs n` for every `*`, to `vs n` (`None` if
    empty) for every `**`, and every top-level variable to its expansion.
    The greedy `[^/]*` first takes the longest run, every longer candidate is refuted by the literal that follows,
    the intended one succeeds (`C11R.run_toks`); a variable's nested groups run like a literal text
    (`C11R.litlike_glok`).
    Repeated variables (back-references): `expand_match_backref_partial`; `{android_locale}` with a bound locale:
    `android_match_reports_locale_partial`.  Not proved (hence `_partial`): variables left unbound (captured from the
    path).  The separator hypotheses for `*`,
    the value shapes and "only one double star with directories" are forced (`star_separator_witness`,
    `wildcard_value_witness`, `two_starstar_match_witness`). -/
theorem expand_match_star_partial {m : Matcher} {vs : Nat → Text} {names : List Text} {rt : Text}
    (h : C11R.Fillable vs m names rt) :
    ∃ d, m.match (rt ++ C11R.fillN vs m.env m.pattern.nodes) = .ok (some d) ∧ d.map (·.1) = names ∧
      (∀ n, Node.star n ∈ m.pattern.nodes → d.lookup (sname n) = some (some (vs n))) ∧
      (∀ n sfx, Node.starstar n sfx ∈ m.pattern.nodes →
        d.lookup (sname n) = some (if vs n = [] then none else some (vs n))) ∧
      (∀ name t, Node.var name false ∈ m.pattern.nodes →
        expandNode (expandVal (fuelFor m.env)) (.var name false) m.env true = .ok t →
        d.lookup name = some (some t)) :=
  let ⟨d, hm, hk, hstar, hss, hvar⟩ := expand_match_backref_partial (C12B.fillableB_of_fillable h)
  ⟨d, hm, hk, hstar, hss, fun name => hvar name false⟩

/-- The filled path *is* the expansion of the pattern once the wildcards are bound: whatever dictionary `match`
    returned for it, `Pattern.expand` in the environment "those groups, then the matcher's own environment" gives
    back `root + filled path`.  So `expand_match_star_partial` reads: a pattern whose variables and wildcards are
    all bound expands to a path that the same matcher matches, returning the bound values.
    (`C11R.Expandable`: the environment is a dict — distinct keys — none named like a wildcard group, values
    without `{android_locale}`.) -/
theorem filled_path_is_expansion_partial {m : Matcher} {vs : Nat → Text} {names : List Text} {rt : Text}
    {d : GroupDict} (h : C11R.Fillable vs m names rt) (he : C11R.Expandable m)
    (hd : m.match (rt ++ C11R.fillN vs m.env m.pattern.nodes) = .ok (some d)) :
    expandTop m.pattern (subEnv d m.env) = .ok (rt ++ C11R.fillN vs m.env m.pattern.nodes) :=
  filled_path_is_expansion_backref_partial (C12B.fillableB_of_fillable h) he hd

/-- non-vacuity of `expand_match_star_partial` and `filled_path_is_expansion_partial`: `C11R.wildMatcher` is what
    `Matcher("{l}browser/**/*.ftl", {"l": "{l10n_base}/{locale}/", "l10n_base": "/l10n", "locale": "de"})` builds
    (`C11R.wildMatcher_is`); with the values `**/` = "a/b/", `*` = "c.d" (a dot inside the star value: the engine has
    to backtrack) all hypotheses hold (`C11R.wildMatcher_ok`), the filled path is "/l10n/de/browser/a/b/c.d.ftl"
    (`C11R.wild_fill`), and evaluating the model gives the dictionary the theorem describes. -/
example : matcherOf "{l}browser/**/*.ftl" [("l", "{l10n_base}/{locale}/"), ("l10n_base", "/l10n"), ("locale", "de")]
      none = .ok C11R.wildMatcher ∧
    ((∃ names, C11R.Fillable C11R.wildVals C11R.wildMatcher names []) ∧ C11R.Expandable C11R.wildMatcher) ∧
    [] ++ C11R.fillN C11R.wildVals C11R.wildMatcher.env C11R.wildMatcher.pattern.nodes =
      T "/l10n/de/browser/a/b/c.d.ftl" ∧
    C11R.wildMatcher.match (T "/l10n/de/browser/a/b/c.d.ftl") =
      .ok (some [(T "l", some (T "/l10n/de/")), (T "l10n_base", some (T "/l10n")), (localeName, some (T "de")),
                 (T "s1", some (T "a/b/")), (T "s2", some (T "c.d"))]) :=
  ⟨C11R.wildMatcher_is, C11R.wildMatcher_ok, C11R.wild_fill, matchIs_spec (by decide +kernel)⟩

/-- The separator hypothesis for `*` is forced: "a.b.c" is the pattern "*.*" filled with ("a", "b.c"), where the
    literal "." occurs again later in the run; `match` returns the other decomposition. -/
theorem star_separator_witness :
    matchOutcome "*.*" [] none "a.b.c" = .groups [(T "s1", some (T "a.b")), (T "s2", some (T "c"))] := by
  decide +kernel

/-- Forced value shapes: a `/` in a star value, a `**/` value that is not whole directories ("" before the
    `/`, no trailing `/`) or contains a newline, and a newline in a final `**` are not matched at all. -/
theorem wildcard_value_witness :
    matchOutcome "*.x" [] none "a/b.x" = .noMatch ∧
    matchOutcome "a/**/x" [] none "a//x" = .noMatch ∧
    matchOutcome "a/**/x" [] none "a/bx" = .noMatch ∧
    matchOutcome "a/**/x" [] none "a/b\nc/x" = .noMatch ∧
    matchOutcome "a/**" [] none "a/b\nc" = .noMatch := by decide +kernel

/-- "One double star" is forced: "a/x/x/x/q.f" is "a/**/x/**/*.f" filled with (nothing, "x/", "q") and also with
    ("x/", nothing, "q") ...; `match` reports the greedy decomposition ("x/x/", nothing, "q"). -/
theorem two_starstar_match_witness :
    matchOutcome "a/**/x/**/*.f" [] none "a/x/x/x/q.f" =
      .groups [(T "s1", some (T "x/x/")), (T "s2", none), (T "s3", some (T "q"))] := by decide +kernel

/-- a `**/` followed by a further directory: "a/**/x/*.f" filled with ("y/x/", "q") -/
example : matchOutcome "a/**/x/*.f" [] none "a/y/x/x/q.f" =
    .groups [(T "s1", some (T "y/x/")), (T "s2", some (T "q"))] := by decide +kernel

/-- a final `**` takes any rest, or nothing -/
example : matchOutcome "a/**" [] none "a/b/c" = .groups [(T "s1", some (T "b/c"))] ∧
    matchOutcome "a/**" [] none "a/" = .groups [(T "s1", none)] := by decide +kernel

/-- **A fully bound pattern (no wildcards, variables may repeat) expands to a path that the same matcher matches**:
    `matches_own_expansion_partial` without its `NoRep` restriction, for patterns without `{android_locale}`:
    `str(matcher)` is the filled path and `match` of it returns a dictionary. -/
theorem matches_own_expansion_backref_partial {m : Matcher} {vs : Nat → Text} {names : List Text} {rt : Text}
    (henv : EnvOK m.env) (hcls : C12B.InClassB m.env [] m.pattern.nodes)
    (hnw : ∀ n ∈ m.pattern.nodes, (∀ k, n ≠ .star k) ∧ (∀ k sfx, n ≠ .starstar k sfx))
    (hre : ∃ re, m.regexOf = .ok (re, names)) (hna : androidName ∉ names)
    (hroot : rootOf (expandVal (fuelFor m.env)) m.pattern m.env = .ok rt) :
    m.str = .ok (rt ++ C11R.fillN vs m.env m.pattern.nodes) ∧
    ∃ d, m.match (rt ++ C11R.fillN vs m.env m.pattern.nodes) = .ok (some d) := by
  have hF : C12B.FillableB vs m names rt := ⟨henv, hcls, hre, hna, hroot, C12B.wellSepB_nowild hnw⟩
  obtain ⟨d, hd, _⟩ := expand_match_backref_partial hF
  refine ⟨?_, d, hd⟩
  have hexp := C12B.inClassB_expOK hcls
  have hnode : ∀ n ∈ m.pattern.nodes, expandNode (expandVal (fuelFor m.env)) n m.env true =
      .ok ((C11R.pieceOf vs m.env n).text) := by
    intro n hn
    have hc := hexp n hn
    cases n with
    | lit t => rfl
    | star k => exact absurd rfl ((hnw _ hn).1 k)
    | starstar k sfx => exact absurd rfl ((hnw _ hn).2 k sfx)
    | var name rep =>
      obtain ⟨t, ht⟩ := hc
      rw [ht]
      simp only [C11R.pieceOf, C11R.Piece.text, C11R.varText, ht]
    | android r => exact absurd hc (by simp [C12B.ExpOK])
  simp only [Matcher.str, expandTop, expandPat, hroot, bind, Except.bind,
    PM.expandChildren_of_nodes (pc := fun n => (C11R.pieceOf vs m.env n).text) m.pattern.nodes hnode,
    pure, Except.pure, C11R.fillN_eq]

/-- non-vacuity: `C12B.repMatcher` is what `Matcher("{l}a/{l}b/*.ftl", {"l": "l10n/"})` builds and `C12B.locMatcher` what
    `Matcher("l10n/{locale}/x/{locale}.ftl", {"locale": "de"})` builds; both satisfy the hypotheses; the filled paths are
    "l10n/a/l10n/b/c.d.ftl" (`*` = "c.d") and "l10n/de/x/de.ftl", and evaluation of the model agrees with the theorem -/
example : matcherOf "{l}a/{l}b/*.ftl" [("l", "l10n/")] none = .ok C12B.repMatcher ∧
    matcherOf "l10n/{locale}/x/{locale}.ftl" [("locale", "de")] none = .ok C12B.locMatcher ∧
    ((∃ names, C12B.FillableB C12B.repVals C12B.repMatcher names []) ∧ C11R.Expandable C12B.repMatcher) ∧
    ((∃ names, C12B.FillableB C12B.repVals C12B.locMatcher names []) ∧ C11R.Expandable C12B.locMatcher) ∧
    [] ++ C11R.fillN C12B.repVals C12B.repMatcher.env C12B.repMatcher.pattern.nodes = T "l10n/a/l10n/b/c.d.ftl" ∧
    [] ++ C11R.fillN C12B.repVals C12B.locMatcher.env C12B.locMatcher.pattern.nodes = T "l10n/de/x/de.ftl" ∧
    matchOutcome "{l}a/{l}b/*.ftl" [("l", "l10n/")] none "l10n/a/l10n/b/c.d.ftl" =
      .groups [(T "l", some (T "l10n/")), (T "s1", some (T "c.d"))] ∧
    matchOutcome "l10n/{locale}/x/{locale}.ftl" [("locale", "de")] none "l10n/de/x/de.ftl" =
      .groups [(localeName, some (T "de"))] ∧
    matchOutcome "l10n/{locale}/x/{locale}.ftl" [] none "l10n/de/x/fr.ftl" = .noMatch :=
  ⟨C12B.repMatcher_is, C12B.locMatcher_is, C12B.repMatcher_ok, C12B.locMatcher_ok, C12B.rep_fill, C12B.loc_fill,
    by rw [matchOutcome_of C12B.repMatcher_is]; decide +kernel,
    by rw [matchOutcome_of C12B.locMatcher_is]; decide +kernel,
    by rw [matchOutcome_of (matcherOf_noEnv C12B.locMatcher_is)]; decide +kernel⟩

/-- **What `mozpath.match` compiles.**  For EVERY pattern text, the regular expression `mozpath.match` caches is the
    translation of the token list computed by the plain lexer `C12M.mozLex` (literal characters, `*`, `**/` after "/" or at
    the start = `dirs`, a final `/**` = `below`, the pattern `**` alone = `all`), followed by the tail `(?:/.*)?$`.
    (`finditer` of the tokenising regex is analysed position by position: `C12M.moz_hit`, `C12S.finditer_scan`.) -/
theorem mozpath_regex_is_lexer (pat : Text) :
    mozRegex pat = .ok (seqOf (C12M.mozItems (C12M.mozLex pat) ++ [Gen.Pat.mozpath_frag_tail])) :=
  C12M.mozRegex_lex pat

/-- **`mozpath.match` is sound and complete for the glob relation `C12M.TokM`** (an inductive relation that does not
    mention regular expressions: a `*` is a run without "/", `dirs` is nothing or a non-empty text followed by "/", ...),
    for patterns of any length and every newline-free path: it never raises, and it returns `True` exactly when the pattern
    is empty or its token list matches the path or one of its ancestor directories (`path = pre` or `path = pre/rest`). -/
theorem mozpath_match_sound_complete (path pat : Text) (hnl : 10 ∉ path) :
    ∃ b, mozMatch path pat = .ok b ∧
      (b = true ↔ pat = [] ∨ ∃ pre, C12M.TokM (C12M.mozLex pat) pre ∧ (path = pre ∨ ∃ rest, path = pre ++ 47 :: rest)) :=
  C12M.mozMatch_iff path pat hnl

theorem mozpath_empty_pattern (path : Text) : mozMatch path [] = .ok true := rfl

/-- **a pattern without wildcards matches exactly itself and everything below it** (`foo` matches `foo` and `foo/bar`,
    nothing else), for every newline-free path -/
theorem mozpath_literal (path lit : Text) (hnl : 10 ∉ path) (hstar : 42 ∉ lit) (hne : lit ≠ []) :
    mozMatch path lit = .ok (decide (path = lit ∨ (lit ++ [47]) <+: path)) := by
  open C12M in
  have key : mozMatch path lit = .ok true ↔ (path = lit ∨ (lit ++ [47]) <+: path) := by
    rw [mozMatch_true_iff hnl hne, mozLex_plain hstar]
    constructor
    · rintro ⟨pre, hm, hp⟩
      obtain rfl := (tokM_chars_end lit pre).mp hm
      rcases hp with rfl | ⟨rest, rfl⟩
      · left; rfl
      · right; exact ⟨rest, by simp⟩
    · intro h
      refine ⟨lit, (tokM_chars_end lit lit).mpr rfl, ?_⟩
      rcases h with rfl | ⟨rest, hr⟩
      · left; rfl
      · right; exact ⟨rest, by rw [← hr]; simp⟩
  obtain ⟨b, hb, _⟩ := mozMatch_iff path lit hnl
  rw [hb] at key ⊢
  cases b with
  | true => simpa using key.mp rfl
  | false =>
    have : ¬ (path = lit ∨ (lit ++ [47]) <+: path) := fun h => by simpa using key.mpr h
    simpa using this

/-- **`*` matches inside one path component only**: `A*B` (no further `*`) matches exactly the paths `A w B` where `w`
    contains no "/" (and everything below such a path), for every newline-free path -/
theorem mozpath_star_one_component (path A B : Text) (hnl : 10 ∉ path) (hA : 42 ∉ A) (hB : 42 ∉ B) :
    mozMatch path (A ++ 42 :: B) = .ok true ↔
      ∃ w, 47 ∉ w ∧ (path = A ++ w ++ B ∨ ∃ rest, path = A ++ w ++ B ++ 47 :: rest) := by
  open C12M in
  rw [mozMatch_true_iff hnl (by simp), mozLex_star hA hB]
  constructor
  · rintro ⟨pre, hm, hp⟩
    obtain ⟨v, rfl, hv⟩ := (tokM_chars A pre _).mp hm
    cases hv with
    | star w hw hv' =>
      rw [tokM_chars_end] at hv'; subst hv'
      exact ⟨w, hw, by simpa [List.append_assoc] using hp⟩
  · rintro ⟨w, hw, hp⟩
    refine ⟨A ++ (w ++ B), (tokM_chars A _ _).mpr ⟨w ++ B, rfl, TokM.star w hw ((tokM_chars_end B B).mpr rfl)⟩, ?_⟩
    simpa [List.append_assoc] using hp

/-- **`**` matches any number of path components, including none**: `A/**/B` matches exactly `A/B` and `A/w/B` for every
    non-empty `w` (several directories when `w` contains "/"), and everything below such a path, for every newline-free path -/
theorem mozpath_dstar_any_dirs (path A B : Text) (hnl : 10 ∉ path) (hA : 42 ∉ A) (hB : 42 ∉ B) :
    mozMatch path (A ++ 47 :: 42 :: 42 :: 47 :: B) = .ok true ↔
      ∃ d, (d = [] ∨ ∃ w, w ≠ [] ∧ d = w ++ [47]) ∧
        (path = A ++ 47 :: d ++ B ∨ ∃ rest, path = A ++ 47 :: d ++ B ++ 47 :: rest) := by
  open C12M in
  rw [mozMatch_true_iff hnl (by simp), mozLex_dirs hA hB]
  constructor
  · rintro ⟨pre, hm, hp⟩
    obtain ⟨v, rfl, hv⟩ := (tokM_chars A pre _).mp hm
    cases hv with
    | chr hv' =>
      rename_i v1
      cases hv' with
      | dirs0 h0 =>
        rw [tokM_chars_end] at h0; subst h0
        exact ⟨[], Or.inl rfl, by simpa using hp⟩
      | dirsN w hw _ h2 =>
        rw [tokM_chars_end] at h2; subst h2
        exact ⟨w ++ [47], Or.inr ⟨w, hw, rfl⟩, by simpa [List.append_assoc] using hp⟩
  · rintro ⟨d, hd, hp⟩
    rcases hd with rfl | ⟨w, hw, rfl⟩
    · refine ⟨A ++ 47 :: B, (tokM_chars A _ _).mpr ⟨47 :: B, rfl, TokM.chr (TokM.dirs0 ((tokM_chars_end B B).mpr rfl))⟩, ?_⟩
      simpa using hp
    · have hwnl : 10 ∉ w := by
        intro hm
        apply hnl
        rcases hp with rfl | ⟨rest, rfl⟩ <;> simp [hm]
      refine ⟨A ++ 47 :: (w ++ 47 :: B), (tokM_chars A _ _).mpr ⟨_, rfl, TokM.chr (TokM.dirsN w hw hwnl
        ((tokM_chars_end B B).mpr rfl))⟩, ?_⟩
      simpa [List.append_assoc] using hp

/-- non-vacuity / the lexer on a typical pattern: "foo/**/b*r/**" -/
example : C12M.mozLex (T "foo/**/b*r/**") =
    [.chr 102, .chr 111, .chr 111, .chr 47, .dirs, .chr 98, .star, .chr 114, .below] := by decide +kernel

/-- Trailing slash and normalisation, as the code has it: the pattern "foo/" does not match "foo" but matches "foo/" and
    "foo//x"; the path "foo/" matches the pattern "foo"; a star does reach below its component through the ancestor rule
    ("foo/*" matches "foo/a/b") but not inside the pattern ("foo/*.ftl" does not match "foo/a/b.ftl"). -/
theorem mozpath_slash_witness :
    C12M.mozOutcome "foo" "foo/" = some false ∧ C12M.mozOutcome "foo/" "foo/" = some true ∧
    C12M.mozOutcome "foo//x" "foo/" = some true ∧ C12M.mozOutcome "foo/" "foo" = some true ∧
    C12M.mozOutcome "foo/a/b" "foo/*" = some true ∧ C12M.mozOutcome "foo/a/b.ftl" "foo/*.ftl" = some false := by
  decide +kernel

/-- The hypothesis "newline-free path" is forced: `mozpath.match` anchors with `$`, which also matches before a final
    newline: "foo\n" matches the pattern "foo". -/
theorem mozpath_newline_witness : C12M.mozOutcome "foo\n" "foo" = some true := by decide +kernel

/-- Two adjacent `**` are not two directory wildcards: the second is lexed as two single stars, so "**/**/b" needs at
    least one directory ("b" alone does not match, "x/b" does; "**/b" matches "b"). -/
theorem mozpath_adjacent_dstar_witness :
    C12M.mozLex (T "**/**/b") = [.dirs, .star, .star, .chr 47, .chr 98] ∧
    C12M.mozOutcome "b" "**/**/b" = some false ∧ C12M.mozOutcome "x/b" "**/**/b" = some true ∧
    C12M.mozOutcome "b" "**/b" = some true := by decide +kernel

/-- One step of `mozpath.join` (`MP.join2`, what `join` folds over its arguments) is associative: three parts can be
    bracketed either way (a later absolute part restarts the path) -/
theorem mozpath_join_assoc (a b c : Text) : MP.join2 (MP.join2 a b) c = MP.join2 a (MP.join2 b c) :=
  C12MP.join2_assoc a b c

/-- `split` and `"/".join` are inverse: a path is its components joined again, and a non-empty list of separator-free
    components is what its joined text splits into -/
theorem mozpath_split_join (p : Text) (cs : List Text) :
    MP.joinSlash (MP.split p) = p ∧ (cs ≠ [] → (∀ c ∈ cs, 47 ∉ c) → MP.split (MP.joinSlash cs) = cs) ∧
    ∀ c ∈ MP.split p, 47 ∉ c :=
  ⟨C12MP.joinSlash_split p, C12MP.split_joinSlash cs, C12MP.split_no_slash p⟩

/-- **`relpath(join(base, q), base) = normpath(q)`** ("" when that is "."): for a relative `q` that never climbs above its
    start (`C12MP.depthOK 0`: every ".." has a component to cancel), a base that is absolute or relative to the absolute
    working directory, and a non-empty joined path -/
theorem mozpath_relpath_join (cwd base q : Text) (hcwd : MP.startsSlash cwd = true) (hq : MP.startsSlash q = false)
    (hne : MP.join2 base q ≠ []) (hclimb : C12MP.depthOK 0 (MP.split q) = true) :
    MP.relpath cwd (MP.join2 base q) base = .ok (if MP.normpath q = MP.dot then [] else MP.normpath q) :=
  C12MP.relpath_join cwd base q hcwd hq hne hclimb

/-- the hypotheses `hne` and `hclimb` of `mozpath_relpath_join` are forced: an empty joined path raises ValueError; a `q` that climbs out
    of its base comes back as its normal form only as long as the working directory is deep enough ("../x" under "/w" does,
    "../../x" under "/" comes back as "../x": `abspath` cannot climb above the root) -/
theorem mozpath_relpath_witness :
    C12MP.res (MP.relpath (T "/w") [] []) = .inl .valueError ∧
    C12MP.res (MP.relpath (T "/w") (MP.join2 (T "a") (T "../x")) (T "a")) = .inr (T "../x") ∧
    MP.normpath (T "../x") = T "../x" ∧
    C12MP.res (MP.relpath (T "/") (MP.join2 (T "a") (T "../../x")) (T "a")) = .inr (T "../x") ∧
    MP.normpath (T "../../x") = T "../../x" := by decide +kernel

/-- **`basedir` returns one of the bases, a path-prefix of the path** (or the path itself), `None` only when no base
    contains the path, and among several containing bases the deepest (longest) one, unless the path itself is a base -/
theorem mozpath_basedir {path : Text} {bases : List Text} :
    (∀ b, MP.basedir path bases = some b → b ∈ bases ∧ (b = path ∨ C12MP.Contains b path)) ∧
    (MP.basedir path bases = none → path ∉ bases ∧ ∀ b ∈ bases, ¬ C12MP.Contains b path) ∧
    (∀ b, MP.basedir path bases = some b → path ∉ bases → ∀ b' ∈ bases, C12MP.Contains b' path → b'.length ≤ b.length) :=
  ⟨fun _ h => C12MP.basedir_sound h, C12MP.basedir_none, fun _ h hn => C12MP.basedir_deepest h hn⟩

/-- the docstring example: `basedir('foo/bar/baz', ['foo', 'baz', 'foo/bar']) = 'foo/bar'`; a look-alike prefix
    ("foo/ba") is not a base of "foo/bar" -/
example : MP.basedir (T "foo/bar/baz") [T "foo", T "baz", T "foo/bar"] = some (T "foo/bar") ∧
    MP.basedir (T "foo/bar") [T "foo/ba"] = none := by decide +kernel

/-- **`commonprefix` is the longest common prefix** (computed through `min` and `max` only): a prefix of every path, and
    every common prefix of all paths is a prefix of it -/
theorem mozpath_commonprefix (ps : List Text) :
    (∀ p ∈ ps, MP.commonprefix ps <+: p) ∧ (ps ≠ [] → ∀ q, (∀ p ∈ ps, q <+: p) → q <+: MP.commonprefix ps) :=
  ⟨C12MP.commonprefix_prefix ps, fun hne q h => C12MP.commonprefix_greatest ps q hne h⟩

/-- `dirname` / `basename` / `splitext` take a path apart without losing anything: head ++ basename = path and the base name has no "/" (that a non-empty head ends with "/" is
    `C12MP.head_ends_slash`, not part of this statement); `dirname` is a prefix of the path; root ++ ext = path and the
    extension is empty or a "." followed by neither "." nor "/" -/
theorem mozpath_parts (p : Text) :
    p.take (MP.afterLast 47 p) ++ MP.basename p = p ∧ 47 ∉ MP.basename p ∧ MP.dirname p <+: p ∧
    (MP.splitext p).1 ++ (MP.splitext p).2 = p ∧
    ((MP.splitext p).2 = [] ∨ ∃ e, (MP.splitext p).2 = 46 :: e ∧ 46 ∉ e ∧ 47 ∉ e) :=
  ⟨C12MP.head_basename p, C12MP.basename_no_slash p, C12MP.dirname_prefix p, C12MP.splitext_concat p, C12MP.splitext_ext p⟩

/-- leading dots of a file name are not an extension: splitext("a/.b") = ("a/.b", ""), splitext("a/..b.c") = ("a/..b", ".c") -/
example : MP.splitext (T "a/.b") = (T "a/.b", []) ∧ MP.splitext (T "a/..b.c") = (T "a/..b", T ".c") ∧
    MP.normpath (T "a//./b/../c/") = T "a/c" ∧ MP.normpath (T "//x/..") = T "//" ∧ MP.normpath [] = T "." := by decide +kernel

/-! ### the environment dict of a matcher OBJECT is state (`Paths/MatcherObj.lean`)

`Variable.expand` expands the value of a variable against `_no_cycle(env)`, a COPY of the environment without the
variable's own name.  In the heap model a dict is an address; the theorems say that the copy is what makes every
call that only looks at a matcher leave it as it was - also when the nested expansion raises `MissingEnvironment`. -/

/-- **Nested expansion never touches the dict it is given.**  For every pattern, `raise_missing`, heap and address `a`
    holding the dict `env`: `pattern.expand(env, raise_missing)` answers what the stateless model answers for the CONTENTS
    `env` - a text or an exception, `MissingEnvironment` out of any nesting depth included - and the heap afterwards is
    the heap before plus newly allocated dicts: every dict that existed (the one at `a` in particular) is unchanged. -/
theorem expand_leaves_env_untouched (p : Pattern) (rm : Bool) (h : Heap) (a : Addr) (env : Env) (hr : h[a]? = some env) :
    ∃ ex, expandTopH p a rm h = some (expandPat (expandVal (fuelFor env)) p env rm, h ++ ex) :=
  C12H.expandTopH_spec p rm hr

/-- the same for `regex_pattern` (`_cache_regex`): the regex of the stateless model, nothing but allocations -/
theorem regex_leaves_env_untouched (p : Pattern) (h : Heap) (a : Addr) (env : Env) (hr : h[a]? = some env) :
    ∃ ex, regexOfH p a h = some (Matcher.regexOf { pattern := p, env := env }, h ++ ex) :=
  C12H.regexOfH_spec p hr

/-- `_no_cycle(env)` returns a dict holding `env` without the name and leaves `env` itself alone (it is `env` itself
    only when the name is not in it) -/
theorem no_cycle_copies (name : Text) (h : Heap) (a : Addr) (env : Env) (hr : h[a]? = some env) :
    ∃ ex a1, noCycleH name a h = some (a1, h ++ ex) ∧ (h ++ ex)[a1]? = some (derase env name) ∧
      (h ++ ex)[a]? = some env :=
  let ⟨ex, a1, h1, h2⟩ := C12H.noCycleH_spec name hr
  ⟨ex, a1, h1, h2, C12H.read_ext ex hr⟩

/-- **readonly_ops_preserve_state.**  On a store of matcher objects, for an object `o` that looks like `c` from outside:
    `prefix`, `str()`, `pattern.expand(env, raise_missing=True)`, `repr()` and `==` answer the stateless function of the
    view(s) - a value OR an exception - and the store afterwards has the SAME objects (pattern, root, env address, cache)
    and the same dicts at all existing addresses (`OnlyAllocates`); so every object looks as it did (last clause, for
    every call of the class `Looks` and whatever it answers). -/
theorem readonly_ops_preserve_state (s : Store) (o : Nat) (c : CMatcher) (hv : s.view o = some c) :
    (∃ s', Store.prefix o s = some (liftX c.m.prefix, s') ∧ C11O.OnlyAllocates s s') ∧
    (∃ s', Store.str o s = some (liftX c.m.str, s') ∧ C11O.OnlyAllocates s s') ∧
    (∃ s', Store.expandRaise o s =
        some (liftX (expandPat (expandVal (fuelFor c.m.env)) c.m.pattern c.m.env true), s') ∧ C11O.OnlyAllocates s s') ∧
    Store.repr o s = some (.ok (), s) ∧
    (∀ o2 c2, s.view o2 = some c2 → Store.eq o o2 s = some (.ok (Matcher.eq c.m c2.m, Matcher.ne c.m c2.m), s)) ∧
    (∀ op, C11O.Looks op → ∀ r s', s.step op = some (r, s') →
      s'.objs = s.objs ∧ (∃ ex, s'.heap = s.heap ++ ex) ∧ ∀ o' c', s.view o' = some c' → s'.view o' = some c') := by
  refine ⟨C11O.prefix_spec hv, C11O.str_spec hv, C11O.expandRaise_spec hv, by simp [Store.repr, hv], ?_, ?_⟩
  · intro o2 c2 hv2; simp [Store.eq, hv, hv2]
  · intro op hq r s' h
    have := C11O.looks_onlyAllocates hq h
    exact ⟨this.1, this.2, fun o' c' hv' => C11O.view_onlyAllocates this hv'⟩

/-- The calls of the read-only-environment regression, on the model: `Matcher("{l}browser/**", {"l10n_base": "/l10n",
    "l": "{l10n_base}/{locale}/"})`; `prefix`, `str()` (both "" - the nested expansion stops at the unbound `{locale}`),
    `expand(raise_missing=True)` (MissingEnvironment); then `with_env({"locale": "de"})`: the derived matcher matches its
    own file with `l = "/l10n/de/"`, not another locale's file, its prefix is "/l10n/de/browser/", and the source still
    has both of its variables. -/
def triggerHistory : List Op :=
  [.new [] (T "{l}browser/**") [(T "l10n_base", T "/l10n"), (T "l", T "{l10n_base}/{locale}/")] none,
   .prefix 0, .str 0, .expandRaise 0,
   .rebuild 0 [(T "locale", T "de")] none,
   .matchP 1 (T "/l10n/de/browser/x"), .matchP 1 (T "/l10n/fr/browser/x"), .prefix 1]

def triggerCheck : Bool :=
  match Store.empty.run triggerHistory with
  | some ([.ok (.obj 0), .ok (.text []), .ok (.text []), .error (.py .missingEnv), .ok (.obj 1),
           .ok (.groups (some d)), .ok (.groups none), .ok (.text pre)], s') =>
    d.lookup (T "l") == some (some (T "/l10n/de/")) && d.lookup (T "s1") == some (some (T "x")) &&
    pre == T "/l10n/de/browser/" &&
    (match s'.view 0 with
     | some c => c.m.env.map (·.1) == [T "l10n_base", T "l"]
     | none => false)
  | _ => false

theorem readonly_trigger_example : triggerCheck = true := by decide +kernel

end C12
