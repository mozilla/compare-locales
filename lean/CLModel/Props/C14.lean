/-
C14 — Filter verdicts follow last-rule-wins and most-severe-wins.
Model: CLModel/Paths/Filter.lean (`ProjectConfig._compile_rule`, `all_locales`, `cache`, `_filter`,
`filter`) and CLModel/Compare/MissingFilter.lean (the missing-entity branch of
`ContentComparer.compare` under `Observer`s with filters).  Reference semantics:
CLModel/Paths/FilterSpec.lean.  Path matching (`Matcher`) is an abstract predicate, key regexes are
user data run by the `Rx` engine.
-/
import CLModel.Paths.Filter
import CLModel.Paths.FilterSpec
import CLModel.Compare.MissingFilter
import CLModel.Proofs.C14Filter
import CLModel.Proofs.C14Rules
import CLModel.Proofs.C14Compare
import CLModel.Paths.FilterM
import CLModel.Proofs.C14MCompose
import CLModel.Proofs.C14MParse
import CLModel.Proofs.C14MMatch
import CLModel.Proofs.C14MTexts
import CLModel.Proofs.C14MCor
import CLModel.Props.C12
import CLModel.Compare.FilterObserver
import CLModel.Proofs.C14QObs
import CLModel.Proofs.ObsProg
import CLModel.Props.C10
import CLModel.Proofs.C14LLazy
import CLModel.Paths.FilterPy
import CLModel.Proofs.C14PPy
import CLModel.Proofs.C14RKeys
namespace C14
open Filt Filt.Spec

/-- `config.filter(file, entity)` (transliteration of the Python, with its loop, `break`, action sets,
    early returns and cache) equals the reference interpreter `Spec.verdict`:
    ignore when no configuration of the project names the file's locale; ignore when an excluded
    configuration reports the *file* as error; otherwise the most severe of the configuration's own
    verdict and the included configurations' verdicts (ignore when nobody covers the path); the own
    verdict being the action of the last applicable rule, error when the path is covered and no
    rule applies.  Holds for EVERY configuration tree, file, entity, path predicate and key regex. -/
theorem filter_spec (cfg : Config) (file : File) (entity : Option Text) :
    filter cfg file entity = verdict cfg file entity :=
  filter_eq_verdict cfg file entity

/-- `l10n_file.locale not in self.all_locales` is the reference notion "some configuration of the
    project (the configuration itself or an included one, NOT an excluded one) or one of their
    `paths` entries lists the locale". -/
theorem all_locales_spec (cfg : Config) (l : Text) : (allLocales cfg).contains l = hasLocale cfg l :=
  allLocales_contains cfg l

/-- a locale the project does not name is ignored, whatever the rules say -/
theorem locale_not_covered (cfg : Config) (file : File) (entity : Option Text)
    (h : hasLocale cfg file.locale = false) : filter cfg file entity = .ignore := by
  rw [filter_spec, verdict, h]; rfl

/-- a path no configuration covers is ignored: own verdict `none`, all children `none` -/
theorem path_not_covered (locales : Option (List Text)) (paths : List PathEntry) (rules : List Rule)
    (children excludes : List Config) (file : File) (entity : Option Text)
    (hown : covered paths file = false) (hch : ∀ c ∈ children, inner c file entity = none) :
    filter (.mk locales paths rules children excludes) file entity = .ignore := by
  rw [filter_spec, verdict]
  have hall : ∀ cs : List Config, (∀ c ∈ cs, inner c file entity = none) →
      mostSevere (innerAll cs file entity) = none := by
    intro cs
    induction cs with
    | nil => intro _; rfl
    | cons c cs ih =>
      intro h
      have h1 := h c (by simp)
      have h2 := ih (fun c hc => h c (by simp [hc]))
      show worse (inner c file entity) (mostSevere (innerAll cs file entity)) = none
      rw [h1, h2]; rfl
  have : inner (.mk locales paths rules children excludes) file entity = none := by
    rw [inner]
    split
    · rfl
    · show worse (own paths rules file entity) (mostSevere (innerAll children file entity)) = none
      rw [hall children hch, own, hown]; rfl
  rw [this]
  split <;> rfl

/-- exclude short-circuit: as soon as one excluded configuration answers `error` for the FILE
    query (`exclude.filter(l10n_file)`, no entity), the parent answers ignore for the file and
    for every entity in it, whatever its own rules and its included configurations say. -/
theorem exclude_short_circuit (locales : Option (List Text)) (paths : List PathEntry) (rules : List Rule)
    (children excludes : List Config) (file : File) (entity : Option Text)
    (ex : Config) (hex : ex ∈ excludes) (herr : filter ex file none = .error) :
    filter (.mk locales paths rules children excludes) file entity = .ignore := by
  have h : anyExcludeError excludes file = true := by
    rw [anyExcludeError_eq_any, List.any_eq_true]
    exact ⟨ex, hex, by simp [herr]⟩
  unfold filter
  rw [filterInner, h]
  split <;> rfl

/-- the excluded configuration is consulted with the public `filter` on the file (no entity):
    the test inside `_filter` is `any(exclude.filter(file) == "error")` -/
theorem exclude_test (excludes : List Config) (file : File) :
    excluded excludes file = excludes.any (fun ex => filter ex file none == Action.error) := by
  rw [← anyExcludeError_eq, anyExcludeError_eq_any]

/-- most severe wins: when no exclude fires, `_filter` returns the most severe (error > warning >
    ignore > None) of the own verdict and the included configurations' `_filter` results -/
theorem most_severe_wins (locales : Option (List Text)) (paths : List PathEntry) (rules : List Rule)
    (children excludes : List Config) (file : File) (entity : Option Text)
    (hex : excluded excludes file = false) :
    filterInner (.mk locales paths rules children excludes) file entity =
      mostSevere (own paths rules file entity :: children.map (fun c => filterInner c file entity)) := by
  rw [filterInner_eq, inner, hex]
  have : innerAll children file entity = children.map (fun c => filterInner c file entity) := by
    induction children with
    | nil => rfl
    | cons c cs ih => rw [innerAll, ih, List.map_cons, filterInner_eq]
  rw [this]; rfl

/-- `mostSevere` really is the maximum for error > warning > ignore > None: it is at least as
    severe as every element, and it is one of the elements (or None for nothing at all) -/
theorem severity_lattice (l : List (Option Action)) :
    (∀ a ∈ l, sev a ≤ sev (mostSevere l)) ∧ (mostSevere l = none ∨ mostSevere l ∈ l) ∧
    sev (some Action.error) > sev (some Action.warning) ∧ sev (some Action.warning) > sev (some Action.ignore) ∧
    sev (some Action.ignore) > sev none :=
  ⟨fun _ h => sev_le_mostSevere h, mostSevere_mem l, by decide, by decide, by decide⟩

/-- an error of an included configuration cannot be downgraded by the parent's rules (for a file no exclude answers
    "error" for: `hex`; otherwise `exclude_short_circuit`) -/
theorem child_error_wins (locales : Option (List Text)) (paths : List PathEntry) (rules : List Rule)
    (children excludes : List Config) (file : File) (entity : Option Text)
    (hex : excluded excludes file = false) (c : Config) (hc : c ∈ children)
    (herr : filterInner c file entity = some .error) :
    filterInner (.mk locales paths rules children excludes) file entity = some .error := by
  rw [most_severe_wins _ _ _ _ _ _ _ hex]
  have hmem : some Action.error ∈
      own paths rules file entity :: children.map (fun c => filterInner c file entity) :=
    List.mem_cons_of_mem _ (List.mem_map.mpr ⟨c, hc, herr⟩)
  have h1 := sev_le_mostSevere hmem
  apply sev_injective
  have : ∀ a : Option Action, sev a ≤ 3 := by
    intro a; rcases a with _ | _ | _ | _ <;> simp [sev]
  have h2 := this (mostSevere (own paths rules file entity :: children.map (fun c => filterInner c file entity)))
  have h3 : sev (some Action.error) = 3 := rfl
  omega

/-- last rule wins: in a covered file, if rule `r` applies and no later rule does, the own verdict
    is `r.action` — whatever the earlier rules are -/
theorem last_rule_wins (paths : List PathEntry) (pre post : List Rule) (r : Rule) (file : File)
    (entity : Option Text) (hcov : covered paths file = true) (hr : applies r file entity = true)
    (hpost : ∀ q ∈ post, applies q file entity = false) :
    own paths (pre ++ r :: post) file entity = some r.action := by
  rw [own, if_pos hcov, filter_getLast_of_last _ pre post r hr hpost]

/-- covered and no applicable rule: error by default -/
theorem default_error (paths : List PathEntry) (rules : List Rule) (file : File) (entity : Option Text)
    (hcov : covered paths file = true) (hno : ∀ q ∈ rules, applies q file entity = false) :
    own paths rules file entity = some .error := by
  have : rules.filter (fun r => applies r file entity) = [] := by
    rw [List.filter_eq_nil_iff]; intro q hq; simp [hno q hq]
  rw [own, if_pos hcov, this]; rfl

/-- not covered by the configuration's own paths (for this locale): no own verdict, rules are not consulted -/
theorem not_covered_none (paths : List PathEntry) (rules : List Rule) (file : File) (entity : Option Text)
    (hcov : covered paths file = false) : own paths rules file entity = none := by
  rw [own, hcov]; rfl

/-- key/file distinction: a rule with a key never applies to a file query, a rule without key never
    applies to an entity query; so file verdicts depend on the key-less rules only and entity
    verdicts on the keyed rules only. -/
theorem key_file_distinction (paths : List PathEntry) (rules : List Rule) (file : File) :
    (∀ r : Rule, applies r file none = true → r.key = none) ∧
    (∀ (r : Rule) (e : Text), applies r file (some e) = true → ∃ k, r.key = some k ∧ k.matches e = true) ∧
    own paths rules file none = own paths (rules.filter (fun r => r.key.isNone)) file none ∧
    (∀ e : Text, own paths rules file (some e) = own paths (rules.filter (fun r => r.key.isSome)) file (some e)) := by
  have h1 : ∀ r : Rule, applies r file none = true → r.key = none := by
    intro r h
    unfold applies at h
    cases hk : r.key with
    | none => rfl
    | some k => rw [hk] at h; simp at h
  have h2 : ∀ (r : Rule) (e : Text), applies r file (some e) = true → ∃ k, r.key = some k ∧ k.matches e = true := by
    intro r e h
    unfold applies at h
    cases hk : r.key with
    | none => rw [hk] at h; simp at h
    | some k => rw [hk] at h; simp at h; exact ⟨k, rfl, h.2⟩
  refine ⟨h1, h2, ?_, ?_⟩
  · unfold own
    rw [List.filter_filter]
    congr 3
    apply List.filter_congr
    intro r _
    cases ha : applies r file none with
    | false => simp
    | true => simp [h1 r ha]
  · intro e
    unfold own
    rw [List.filter_filter]
    congr 3
    apply List.filter_congr
    intro r _
    cases ha : applies r file (some e) with
    | false => simp
    | true => obtain ⟨k, hk, _⟩ := h2 r e ha; simp [hk]

/-- `add_rules` appends the compiled rules in order -/
theorem add_rules_spec (rules : List Rule) (raws : List RawRule) :
    addRules rules raws = rules ++ raws.flatMap compileRule := by
  unfold addRules
  induction raws generalizing rules with
  | nil => simp
  | cons r rest ih => simp [ih]

/-- `_compile_rule` expands path lists and key lists into single rules that all carry the
    dictionary's action, and some expanded rule applies exactly when some listed path matches and
    (for entities) some listed key matches. -/
theorem compile_rule_spec (raw : RawRule) (file : File) (entity : Option Text) :
    (∀ r ∈ compileRule raw, r.action = raw.action) ∧
    (compileRule raw).any (fun r => applies r file entity) = rawApplies raw file entity :=
  ⟨compileRule_action raw, compileRule_any raw file entity⟩

/-- hence last-rule-wins can be read on the rule dictionaries as written in the configuration -/
theorem own_on_rule_dicts (paths : List PathEntry) (raws : List RawRule) (file : File) (entity : Option Text) :
    own paths (addRules [] raws) file entity = ownRaw paths raws file entity := by
  rw [add_rules_spec, List.nil_append, own_compiled]

/-- a literal key (no `re:` prefix) is compiled to `re.escape(key) + "$"` and used with
    `Pattern.match`: it accepts exactly the entity equal to the key — and the key followed by one
    newline (the `$` caveat; entity keys of the supported formats contain no newline). -/
theorem literal_key (k : RawKey) (entity : Text)
    (h : Gen.Tables.ruleKeyRePrefix.isPrefixOf k.text = false) :
    (compileKey k).matches entity = (entity == k.text || entity == k.text ++ [10]) := by
  unfold compileKey
  rw [h]
  exact literal_matches k.text entity

/-- a `re:` key is the user's regular expression matched at the START of the entity key
    (`Pattern.match`: not anchored at the end) -/
theorem regex_key (k : RawKey) (entity : Text)
    (h : Gen.Tables.ruleKeyRePrefix.isPrefixOf k.text = true) :
    (compileKey k).matches entity = (Rx.matchAt entity.toArray k.compiled 0).isSome := by
  unfold compileKey
  rw [h]; rfl

/-- `ProjectConfig.cache(locale)` returns what a fresh computation for `locale` returns, provided the
    memo (if any) was itself built from the current paths and rules — for whichever locale. -/
theorem cache_memo_sound (paths : List PathEntry) (rules : List Rule) (memo : Option FilterCache) (locale : Text)
    (h : ∀ c, memo = some c → c = buildCache paths rules c.locale) :
    cacheStep memo paths rules locale = buildCache paths rules locale := by
  unfold cacheStep
  cases memo with
  | none => rfl
  | some c =>
    have hc := h c rfl
    by_cases hl : (c.locale == locale) = true
    · simp only [hl, if_true]
      have : c.locale = locale := by simpa using hl
      rw [← this]; exact hc
    · simp [hl]

/-- One observer with filter verdicts `v` (= `fun key => filter cfg l10nFile (some key)`), missing
    keys `keys` (reference order): the loop in `ContentComparer.compare` ends with
    `missing` = number of error keys, `report` = number of warning keys, `missings` (what `merge`
    copies from the reference) = the error keys, and the recorded `missingEntity` details = the
    non-ignored keys; the counts reach the summary unless `v ""` is ignore. -/
theorem compare_respects_filter (v : Text → Action) (keys : List Text) :
    compareMissing [some v] keys = .ok
      ⟨⟨(keys.filter (fun k => v k == .error)).length,
        (keys.filter (fun k => v k == .warning)).length,
        keys.filter (fun k => v k == .error),
        keys.filter (fun k => v k != .ignore)⟩,
       [if v [] == .ignore then none
        else some ((keys.filter (fun k => v k == .error)).length, (keys.filter (fun k => v k == .warning)).length)]⟩ := by
  rw [compareMissing_eq]
  have hc : combined [some v] = v := funext (combined_single v)
  simp [hc, missingSpec, MissAcc.zero, observerUpdateStats]

/-- ignored missing strings are neither counted, shown nor merged; warning ones are not merged and
    not counted as missing (they are the `report` count) -/
theorem ignored_and_warning_keys (v : Text → Action) (keys : List Text) (out : CompareOut)
    (h : compareMissing [some v] keys = .ok out) :
    (∀ k, v k = .ignore → k ∉ out.acc.missings ∧ k ∉ out.acc.shown) ∧
    (∀ k, v k = .warning → k ∉ out.acc.missings) ∧
    out.acc.missing = out.acc.missings.length ∧
    out.acc.missing + out.acc.report = (keys.filter (fun k => v k != .ignore)).length := by
  rw [compare_respects_filter] at h
  cases h
  refine ⟨?_, ?_, rfl, ?_⟩
  · intro k hk; simp [List.mem_filter, hk]
  · intro k hk; simp [List.mem_filter, hk]
  · simp only
    induction keys with
    | nil => rfl
    | cons k ks ih =>
      simp only [List.filter_cons]
      cases hv : v k <;> simp <;> omega

/-- several observers (multi-project runs): the comparer acts on the most severe answer; a key is
    skipped only when every observer ignores it -/
theorem compare_many_observers (observers : List Obs) (keys : List Text) :
    compareMissing observers keys = .ok
      ⟨missingSpec (combined observers) keys MissAcc.zero,
       observers.map (fun o => observerUpdateStats o (missingSpec (combined observers) keys MissAcc.zero))⟩ :=
  compareMissing_eq observers keys


section Composed
open FiltM PM C14M
-- from here on texts are written `List Nat`: with `Filt` and `PM` both open, `Text` is ambiguous

/-- **The composed verdict is the abstract verdict of the instantiated configuration.**
    `filterM cfg file entity` builds `Matcher(text, env=self.environ, root=self.root)` for every `l10n` path and
    rule path of the configuration tree, and runs the transliteration of `filter`/`_filter`/`cache` with the raise
    sites kept and the evaluation order of the Python (lazy `any`, reverse rule scan with `break`, early `error`
    of an included configuration before the own matchers are bound).  `instantiate cfg file.locale file.fullpath`
    makes ALL those constructions, all `with_env({"locale": file.locale})` and all `match(file.fullpath)` calls
    eagerly and returns the abstract configuration of `Paths/Filter.lean` whose path predicates are the answers
    (`instantiate_spec`).  Whenever that returns, the composed verdict is `Filt.filter` of it — so EVERY theorem
    above (`filter_spec`, `most_severe_wins`, `exclude_short_circuit`, `last_rule_wins`, `key_file_distinction`,
    `compare_respects_filter`, …) holds for real pattern texts.
    The hypothesis is forced in this direction only: the lazy code may return although some matcher that it
    does not reach would raise (`ExamplesM.lazy_witness`). -/
theorem filterm_eq_filter (cfg : ConfigM) (file : File) (entity : Option (List Nat)) (c : Config)
    (h : instantiate cfg file.locale file.fullpath = .ok c) :
    filterM cfg file entity = .ok (filter c file entity) :=
  filterM_eq entity h

/-- raise sites: `filter` raises only if some `Matcher(...)` construction, `with_env` or `match(fullpath)` of the
    configuration tree raises for this file (the converse fails: laziness, `ExamplesM.lazy_witness`) -/
theorem filterm_raise_sites (cfg : ConfigM) (file : File) (entity : Option (List Nat)) (e : PM.PyErr)
    (h : filterM cfg file entity = .error e) : ∃ e', instantiate cfg file.locale file.fullpath = .error e' := by
  cases hi : instantiate cfg file.locale file.fullpath with
  | error e' => exact ⟨e', rfl⟩
  | ok c => rw [filterm_eq_filter cfg file entity c hi] at h; cases h

/-- what `instantiate` returns: the same `locales`; one abstract path entry / rule per pattern text, in order,
    with the same `locales` / key / action, whose path predicate is
    `Matcher(text, env=environ, root=root).with_env({"locale": loc}).match(fp) is not None` (`patMatches`);
    the instantiated included and excluded configurations. -/
theorem instantiate_spec {locales : Option (List (List Nat))} {environ : Environ} {root : Option (List Nat)}
    {paths : List PathEntryM} {rules : List RuleM} {children excludes : List ConfigM} {loc fp : List Nat} {c : Config}
    (h : instantiate (.mk locales environ root paths rules children excludes) loc fp = .ok c) :
    ∃ (lp : List (PathEntryM × PathEntry)) (lr : List (RuleM × Rule)) (lc le : List (ConfigM × Config)),
      c = .mk locales (lp.map (·.2)) (lr.map (·.2)) (lc.map (·.2)) (le.map (·.2)) ∧
      paths = lp.map (·.1) ∧ rules = lr.map (·.1) ∧ children = lc.map (·.1) ∧ excludes = le.map (·.1) ∧
      (∀ p ∈ lp, patMatches environ root p.1.l10n loc fp = .ok (p.2.l10n.matchWith loc fp) ∧ p.1.locales = p.2.locales) ∧
      (∀ p ∈ lr, patMatches environ root p.1.path loc fp = .ok (p.2.path.matchWith loc fp) ∧
        p.1.key = p.2.key ∧ p.1.action = p.2.action) ∧
      (∀ p ∈ lc, instantiate p.1 loc fp = .ok p.2) ∧ (∀ p ∈ le, instantiate p.1 loc fp = .ok p.2) :=
  instantiate_inv h

/-- **A rule (or `l10n` path) whose pattern is a literal text applies to exactly that file path.**
    `t` contains neither `*` nor `{` (`Plain`); any environment, any root, any locale.  The bound matcher matches
    `path` iff `path` is `t` — prefixed with the root when the configuration is rooted and `t` is relative
    (`effRoot`) — and the dictionary it returns is EMPTY.  An empty dict is falsy in Python, so `_filter` has to test
    `is not None` (the C14 entry under "fixed" in known_findings.json); that test is what `patMatches` is. -/
theorem literal_rule_applies {environ : Environ} {root : Option (List Nat)} {t L : List Nat} {b : Matcher}
    (ht : Plain t) (hb : boundMatcher environ root t L = .ok b) (path : List Nat) :
    b.match path = .ok (if path = effRoot root t ++ t then some [] else none) ∧
    patMatches environ root t L path = .ok (decide (path = effRoot root t ++ t)) := by
  have h := literal_bound_match ht hb path
  refine ⟨h, ?_⟩
  rw [patMatches_of_bound hb h]
  by_cases hp : path = effRoot root t ++ t <;> simp [hp]

/-- **A rule `dir/*.ext` applies to `dir/x.ext` iff `x` contains no `/`**, and then the star group is `x`.
    Pattern text `pre ++ "*" ++ post` with `pre`, `post` free of `*` and `{` and `pre` non-empty (a rooted pattern
    must not begin with a wildcard: finding F11, it raises); any environment, root, locale, any `x`.
    (The general fact behind the "only if" for every pattern with a top-level `*` is `C12.star_no_slash`; the
    "if" is the instance of `C12.expand_match_star_partial` in which the star is followed by the final literal, where
    its separation hypothesis holds automatically.  Here both directions are computed on the engine.) -/
theorem star_rule_scope {environ : Environ} {root : Option (List Nat)} {pre post L : List Nat} {b : Matcher}
    (hpre : Plain pre) (hne : pre ≠ []) (hpost : Plain post)
    (hb : boundMatcher environ root (pre ++ 42 :: post) L = .ok b) (x : List Nat) :
    b.match (effRoot root pre ++ pre ++ x ++ post) = .ok (if 47 ∈ x then none else some [(sname 1, some x)]) ∧
    patMatches environ root (pre ++ 42 :: post) L (effRoot root pre ++ pre ++ x ++ post) = .ok (decide (47 ∉ x)) := by
  have h := star_bound_match hpre hne hpost hb x
  refine ⟨h, ?_⟩
  rw [patMatches_of_bound hb h]
  by_cases hx : 47 ∈ x <;> simp [hx]

/-- for EVERY rule path with a top-level `*` (any pattern text, environment, root): whenever the rule's matcher
    returns a dictionary for the file, the text the star stands for contains no `/` (`C12.star_no_slash` on the
    bound matcher), and the whole path was consumed (`C12.only_complete_paths`) -/
theorem star_rule_general {environ : Environ} {root : Option (List Nat)} {pat L path : List Nat} {b : Matcher}
    {d : GroupDict} (_hb : boundMatcher environ root pat L = .ok b) (hm : b.match path = .ok (some d)) :
    (∀ n v, Node.star n ∈ b.pattern.nodes → d.lookup (sname n) = some (some v) → 47 ∉ v) ∧
    (∃ re names st, b.regexOf = .ok (re, names) ∧ Rx.matchAt path.toArray re 0 = some st ∧ st.pos = path.length) :=
  ⟨fun _ _ hn hl => C12.star_no_slash hm hn hl, C12.only_complete_paths hm⟩

/-- **`{locale}` is the queried file's locale.**  The matcher consulted for ANY pattern text of the configuration
    and a file of locale `L` is `Matcher(pat, env=environ, root=root).with_env({"locale": L})` (`instantiate_spec`:
    every path predicate is `patMatches … L …`).  In it
      * "locale" is bound to the parsed text `L`, whatever `environ` says, and every other variable is bound as in
        `environ` (`e` = the parsed `environ`);
      * so, for a locale text without `*` / `{` and an environment of the shape the C12 theorems ask for (`EnvOK`: no
        value repeats a variable — in particular every environment of plain texts, `C14M.bound_env_plain`): whenever
        the matcher returns a dictionary for a path and `{locale}` occurs at top level in the pattern, the dictionary
        says `locale = L` — the path has the file's own locale at the variable's position
        (`C12.match_returns_bound_values`), for every pattern, wildcards included.
    `Plain L` is forced (`ExamplesM`: the locale text is parsed as a pattern). -/
theorem locale_binding {environ : Environ} {root : Option (List Nat)} {pat L : List Nat} {b : Matcher}
    (hb : boundMatcher environ root pat L = .ok b) :
    (∃ e pl, realEnv environ = .ok e ∧ parsePattern L = .ok pl ∧ b.env.lookup localeName = some (.pat pl) ∧
      ∀ k, k ≠ localeName → b.env.lookup k = e.lookup k) ∧
    (EnvOK b.env → Plain L → ∀ path d, b.match path = .ok (some d) →
      Node.var localeName false ∈ b.pattern.nodes → d.lookup localeName = some (some L)) := by
  constructor
  · obtain ⟨e, p, pl, he, _, hpl, rfl⟩ := boundMatcher_inv hb
    refine ⟨e, pl, he, hpl, ?_, ?_⟩
    · simp only [lookup_dupdate, List.reverse_cons, List.reverse_nil, List.nil_append, List.lookup_cons,
        beq_self_eq_true]
    · intro k hk
      have : (k == localeName) = false := by simpa using hk
      simp only [lookup_dupdate, List.reverse_cons, List.reverse_nil, List.nil_append, List.lookup_cons, this,
        List.lookup_nil]
  · intro hok hL path d hm hn
    obtain ⟨pl, hpl, hlk⟩ := bound_locale_lookup hb
    rw [parsePattern_plain hL] at hpl
    cases hpl
    apply C12.match_returns_bound_values hok hm hn hlk
    obtain ⟨g, hg⟩ := fuelFor_pos b.env
    rw [hg, expandVal]
    have := expandPat_flat (rec := expandVal g) (env := derase b.env localeName) (rm := true)
      (p := ⟨[.lit L], none, 1⟩) ⟨rfl, fun n hn => ⟨L, by simpa using hn⟩⟩
    simpa [textOf, litText] using this

/-- the shape hypothesis of `locale_binding` holds for every environment of texts without `*` / `{` -/
theorem locale_binding_plain_env {environ : Environ} {root : Option (List Nat)} {pat L : List Nat} {b : Matcher}
    (henv : ∀ kv ∈ environ, Plain kv.2) (hL : Plain L) (hb : boundMatcher environ root pat L = .ok b) :
    EnvOK b.env :=
  (bound_env_plain henv hL hb).1

/-- what `environ` binds "locale" to never reaches a verdict: the matcher consulted is the same with and without
    an `environ` entry for "locale" (`cache()` rebinds it for the queried file) -/
theorem environ_locale_overridden {environ : Environ} {root : Option (List Nat)} {pat L v : List Nat} {pv : Pattern}
    (hno : environ.any (fun p => p.1 == localeName) = false) (hv : parsePattern v = .ok pv) :
    boundMatcher (environ ++ [(localeName, v)]) root pat L = boundMatcher environ root pat L ∧
    ∀ path, patMatches (environ ++ [(localeName, v)]) root pat L path = patMatches environ root pat L path := by
  have h := bound_ignores_environ_locale (root := root) (pat := pat) (L := L) hno hv
  exact ⟨h, fun path => by unfold patMatches; rw [h]⟩

/- Last-rule-wins, error by default, not covered ⇒ ignore, over pattern texts: first for the own verdict of any node of a
configuration tree (`own_…_texts`; combine with `filterm_eq_filter`, `most_severe_wins`, `exclude_short_circuit` for trees),
then end-to-end for a configuration without included / excluded configurations.  `C14M.RuleApplies environ root r file entity`:
the rule's bound matcher returns a dictionary for `file.fullpath` and the key part fits; `C14M.Covered`: some `l10n` pattern
text enabled for the locale matches; `C14M.namesLocale`: the configuration names the locale.  The hypothesis `hc` says that
every matcher of the configuration returns for this file (see `filterm_eq_filter`).
Which statement to build on.  The three facts exist on four levels: `last_rule_wins`/`default_error`/`not_covered_none` (the
abstract `Spec.own`), `own_…_texts` (a node of a tree, on texts, under `hc`), `…_texts` (a leaf end to end, under `hc`) and
`…_lazy` in the section `Lazy` (a leaf end to end, asking only of the matchers the code consults).  On texts the `_lazy`
statements are the strongest; the `_texts` ones have their own proofs through `C14M.leaf_filterM`, not through the lazy ones.
`C14M.Covered` does not give `C14L.CoveredLazy` by itself (an enabled text before the matching one may raise); it does under `hc`. -/

/-- last rule wins for the OWN verdict of any configuration node (whatever it includes / excludes): the rule text
    `r` applies, no later rule text does — the own verdict (`Spec.own` of the instantiated node, the quantity
    `most_severe_wins` combines with the included configurations' verdicts) is `r.action` -/
theorem own_last_rule_wins_texts {locales : Option (List (List Nat))} {environ : Environ} {root : Option (List Nat)}
    {paths : List PathEntryM} {pre post : List RuleM} {r : RuleM} {children excludes : List ConfigM} {file : File}
    {entity : Option (List Nat)} {c : Config}
    (hc : instantiate (.mk locales environ root paths (pre ++ r :: post) children excludes) file.locale file.fullpath
      = .ok c)
    (hcov : Covered environ root paths file) (hr : RuleApplies environ root r file entity)
    (hpost : ∀ q ∈ post, ¬ RuleApplies environ root q file entity) :
    own c.paths c.rules file entity = some r.action := by
  obtain ⟨lp, lr, lc, le, rfl, h1, h2, _, _, h5, h6, _, _⟩ := instantiate_inv hc
  have hcov' : covered (lp.map (·.2)) file = true := (covered_iff h5).mpr (h1 ▸ hcov)
  obtain ⟨l1, l2, rfl, hl1, hl2⟩ := List.map_eq_append_iff.mp h2.symm
  obtain ⟨a, l3, rfl, ha, hl3⟩ := List.map_eq_cons_iff.mp hl2
  have hra := h6 a (by simp)
  have happ : applies a.2 file entity = true := (applies_iff hra).mpr (ha ▸ hr)
  have hnot : ∀ q ∈ l3.map (·.2), applies q file entity = false := by
    intro q hq
    obtain ⟨p, hp, rfl⟩ := List.mem_map.mp hq
    have hrp := h6 p (by simp [hp])
    cases hq' : applies p.2 file entity with
    | false => rfl
    | true =>
      exfalso
      exact hpost p.1 (hl3 ▸ List.mem_map.mpr ⟨p, hp, rfl⟩) ((applies_iff hrp).mp hq')
  simp only [Config.paths, Config.rules]
  rw [List.map_append, List.map_cons, own, if_pos hcov',
    filter_getLast_of_last (fun r => applies r file entity) _ _ _ happ hnot]
  simp only
  rw [← hra.2.2, ha]

/-- own verdict, covered and no rule text applies: error -/
theorem own_default_error_texts {locales : Option (List (List Nat))} {environ : Environ} {root : Option (List Nat)}
    {paths : List PathEntryM} {rules : List RuleM} {children excludes : List ConfigM} {file : File}
    {entity : Option (List Nat)} {c : Config}
    (hc : instantiate (.mk locales environ root paths rules children excludes) file.locale file.fullpath = .ok c)
    (hcov : Covered environ root paths file) (hno : ∀ q ∈ rules, ¬ RuleApplies environ root q file entity) :
    own c.paths c.rules file entity = some .error := by
  obtain ⟨lp, lr, lc, le, rfl, h1, h2, _, _, h5, h6, _, _⟩ := instantiate_inv hc
  have hcov' : covered (lp.map (·.2)) file = true := (covered_iff h5).mpr (h1 ▸ hcov)
  have : (lr.map (·.2)).filter (fun r => applies r file entity) = [] := by
    rw [List.filter_eq_nil_iff]
    intro q hq
    obtain ⟨p, hp, rfl⟩ := List.mem_map.mp hq
    intro happ
    exact hno p.1 (h2 ▸ List.mem_map.mpr ⟨p, hp, rfl⟩) ((applies_iff (h6 p hp)).mp happ)
  simp only [Config.paths, Config.rules]
  rw [own, if_pos hcov', this]
  rfl

/-- own verdict, no `l10n` pattern text enabled for the locale matches: none (the rules are not consulted) -/
theorem own_not_covered_texts {locales : Option (List (List Nat))} {environ : Environ} {root : Option (List Nat)}
    {paths : List PathEntryM} {rules : List RuleM} {children excludes : List ConfigM} {file : File}
    {entity : Option (List Nat)} {c : Config}
    (hc : instantiate (.mk locales environ root paths rules children excludes) file.locale file.fullpath = .ok c)
    (hcov : ¬ Covered environ root paths file) :
    own c.paths c.rules file entity = none := by
  obtain ⟨lp, lr, lc, le, rfl, h1, h2, _, _, h5, h6, _, _⟩ := instantiate_inv hc
  have hcov' : covered (lp.map (·.2)) file = false := by
    cases hcv : covered (lp.map (·.2)) file with
    | false => rfl
    | true => exact absurd (h1 ▸ (covered_iff h5).mp hcv) hcov
  simp only [Config.paths, Config.rules]
  rw [own, hcov']
  rfl

/-- last rule wins: the rule `r` applies and no later rule does — the verdict is `r.action`, whatever the earlier rule
    texts say.  `hc` asks that the matcher of EVERY rule and path text, the earlier ones included, is built and returns on the
    query; `last_rule_wins_lazy` asks that of the rules from `r` on only. -/
theorem last_rule_wins_texts {locales : Option (List (List Nat))} {environ : Environ} {root : Option (List Nat)}
    {paths : List PathEntryM} {pre post : List RuleM} {r : RuleM} {file : File} {entity : Option (List Nat)} {c : Config}
    (hc : instantiate (.mk locales environ root paths (pre ++ r :: post) [] []) file.locale file.fullpath = .ok c)
    (hloc : namesLocale locales paths file.locale = true) (hcov : Covered environ root paths file)
    (hr : RuleApplies environ root r file entity)
    (hpost : ∀ q ∈ post, ¬ RuleApplies environ root q file entity) :
    filterM (.mk locales environ root paths (pre ++ r :: post) [] []) file entity = .ok r.action := by
  rw [leaf_filterM entity hc, hloc, if_pos rfl, own_last_rule_wins_texts hc hcov hr hpost]

/-- covered and no rule text applies: error -/
theorem default_error_texts {locales : Option (List (List Nat))} {environ : Environ} {root : Option (List Nat)}
    {paths : List PathEntryM} {rules : List RuleM} {file : File} {entity : Option (List Nat)} {c : Config}
    (hc : instantiate (.mk locales environ root paths rules [] []) file.locale file.fullpath = .ok c)
    (hloc : namesLocale locales paths file.locale = true) (hcov : Covered environ root paths file)
    (hno : ∀ q ∈ rules, ¬ RuleApplies environ root q file entity) :
    filterM (.mk locales environ root paths rules [] []) file entity = .ok .error := by
  rw [leaf_filterM entity hc, hloc, if_pos rfl, own_default_error_texts hc hcov hno]

/-- no `l10n` pattern text (enabled for the locale) matches the file: ignore, the rules are not consulted -/
theorem not_covered_ignore_texts {locales : Option (List (List Nat))} {environ : Environ} {root : Option (List Nat)}
    {paths : List PathEntryM} {rules : List RuleM} {file : File} {entity : Option (List Nat)} {c : Config}
    (hc : instantiate (.mk locales environ root paths rules [] []) file.locale file.fullpath = .ok c)
    (hcov : ¬ Covered environ root paths file) :
    filterM (.mk locales environ root paths rules [] []) file entity = .ok .ignore := by
  rw [leaf_filterM entity hc, own_not_covered_texts hc hcov]
  split <;> rfl

/-- a literal rule at the end of the rule list decides the verdict of exactly its own file -/
theorem literal_rule_last_wins {locales : Option (List (List Nat))} {environ : Environ} {root : Option (List Nat)}
    {paths : List PathEntryM} {pre : List RuleM} {t L : List Nat} {a : Action} {c : Config} (ht : Plain t)
    (hc : instantiate (.mk locales environ root paths (pre ++ [⟨t, none, a⟩]) [] []) L (effRoot root t ++ t) = .ok c)
    (hloc : namesLocale locales paths L = true) (hcov : Covered environ root paths ⟨effRoot root t ++ t, L⟩) :
    filterM (.mk locales environ root paths (pre ++ [⟨t, none, a⟩]) [] []) ⟨effRoot root t ++ t, L⟩ none = .ok a := by
  obtain ⟨x, hx⟩ := instantiate_rule_returns hc ⟨t, none, a⟩ (by simp)
  obtain ⟨b, _, hb, _, _⟩ := patMatches_ok_inv hx
  have hr : RuleApplies environ root ⟨t, none, a⟩ ⟨effRoot root t ++ t, L⟩ none :=
    ⟨by rw [(literal_rule_applies ht hb _).2]; simp, rfl⟩
  exact last_rule_wins_texts (file := ⟨effRoot root t ++ t, L⟩) (post := []) hc hloc hcov hr (fun q hq => by cases hq)

/-- a rule `dir/*.ext` at the end of the rule list decides the verdict of `dir/x.ext` for every `/`-free `x` -/
theorem star_rule_last_wins {locales : Option (List (List Nat))} {environ : Environ} {root : Option (List Nat)}
    {paths : List PathEntryM} {pre : List RuleM} {dir ext L x : List Nat} {a : Action} {c : Config}
    (hdir : Plain dir) (hne : dir ≠ []) (hext : Plain ext) (hx : 47 ∉ x)
    (hc : instantiate (.mk locales environ root paths (pre ++ [⟨dir ++ 42 :: ext, none, a⟩]) [] []) L
      (effRoot root dir ++ dir ++ x ++ ext) = .ok c)
    (hloc : namesLocale locales paths L = true)
    (hcov : Covered environ root paths ⟨effRoot root dir ++ dir ++ x ++ ext, L⟩) :
    filterM (.mk locales environ root paths (pre ++ [⟨dir ++ 42 :: ext, none, a⟩]) [] [])
      ⟨effRoot root dir ++ dir ++ x ++ ext, L⟩ none = .ok a := by
  obtain ⟨y, hy⟩ := instantiate_rule_returns hc ⟨dir ++ 42 :: ext, none, a⟩ (by simp)
  obtain ⟨b, _, hb, _, _⟩ := patMatches_ok_inv hy
  have hr : RuleApplies environ root ⟨dir ++ 42 :: ext, none, a⟩ ⟨effRoot root dir ++ dir ++ x ++ ext, L⟩ none :=
    ⟨by rw [(star_rule_scope hdir hne hext hb x).2]; simp [hx], rfl⟩
  exact last_rule_wins_texts (file := ⟨effRoot root dir ++ dir ++ x ++ ext, L⟩) (post := []) hc hloc hcov hr
    (fun q hq => by cases hq)

/-- … and does not reach into sub-directories: with `dir/*.ext` as the only rule, a covered `dir/x.ext` whose
    `x` contains a `/` gets the default verdict error -/
theorem star_rule_stops_at_slash {locales : Option (List (List Nat))} {environ : Environ} {root : Option (List Nat)}
    {paths : List PathEntryM} {dir ext L x : List Nat} {a : Action} {c : Config}
    (hdir : Plain dir) (hne : dir ≠ []) (hext : Plain ext) (hx : 47 ∈ x)
    (hc : instantiate (.mk locales environ root paths [⟨dir ++ 42 :: ext, none, a⟩] [] []) L
      (effRoot root dir ++ dir ++ x ++ ext) = .ok c)
    (hloc : namesLocale locales paths L = true)
    (hcov : Covered environ root paths ⟨effRoot root dir ++ dir ++ x ++ ext, L⟩) :
    filterM (.mk locales environ root paths [⟨dir ++ 42 :: ext, none, a⟩] [] [])
      ⟨effRoot root dir ++ dir ++ x ++ ext, L⟩ none = .ok .error := by
  obtain ⟨y, hy⟩ := instantiate_rule_returns hc ⟨dir ++ 42 :: ext, none, a⟩ (by simp)
  obtain ⟨b, _, hb, _, _⟩ := patMatches_ok_inv hy
  apply default_error_texts (file := ⟨effRoot root dir ++ dir ++ x ++ ext, L⟩) hc hloc hcov
  intro q hq
  simp only [List.mem_singleton] at hq
  subst hq
  rintro ⟨h1, _⟩
  rw [(star_rule_scope hdir hne hext hb x).2] at h1
  simp [hx] at h1

end Composed


/- filter ∘ Observer ∘ ContentComparer at every quiet level (`Compare/FilterObserver.lean`).  `Observer.notify` consults the
filter before it looks at the quiet level, for every category: the quiet level (`-q`, `-qq`, …) decides only which details
are listed.  The C10 theorems (`C10.notify_ret`, `C10.quiet_summary_inv`, `C10.quiet_monotone`) say this for an abstract
filter and an abstract history; here the filter is `ProjectConfig.filter` and the history is the one
`ContentComparer.compare` produces, whose length and content depend on the returned verdicts (counts, `missings` for the
merge). -/
section Quiet
open ObsM FiltObs C14Q

/-- **`Observer.notify` returns the filter's verdict whatever the quiet level, for every category**, and the
    summary / error-flag increments do not depend on quiet either: two observers with the same filter, summary and
    error flag — but any two quiet levels and any details — answer the same and stay in step. -/
theorem notify_verdict_quiet_free (o1 o2 o1' o2' : ObsM.Obs) (cat : Cat) (file : ObsM.File) (data : Data) (rv1 rv2 : Ret)
    (hf : o1.filter = o2.filter) (hs : o1.summary = o2.summary) (he : o1.error = o2.error)
    (h1 : o1.notify cat file data = .ok (o1', rv1)) (h2 : o2.notify cat file data = .ok (o2', rv2)) :
    rv1 = rv2 ∧ rv1 = rvOf o1.filter cat file data ∧ o1'.summary = o2'.summary ∧ o1'.error = o2'.error := by
  obtain ⟨a1, s1⟩ := notify_ok h1
  obtain ⟨a2, s2⟩ := notify_ok h2
  have b1 := (Obs.step_core s1).1
  have b2 := (Obs.step_core s2).1
  have hc : o1.core = o2.core := by simp [Obs.core, hs, he]
  have : o1'.core = o2'.core := by rw [b1, b2, hf, hc]
  simp only [Obs.core, Prod.mk.injEq] at this
  exact ⟨by rw [a1, a2, hf], a1, this.1, this.2⟩

/-- the verdict `Observer(quiet, filter=config.filter).notify(category, file, key)` returns is
    `config.filter(file)` for the file categories and `config.filter(file, key)` for all others — hence
    (`filter_spec`) the reference verdict: last applicable rule, error by default, most severe of own and included —
    at every quiet level. -/
theorem notify_project_verdict (o o' : ObsM.Obs) (cfg : Config) (fp : ObsM.File → Text) (cat : Cat) (file : ObsM.File)
    (loc k : Text) (rv : Ret) (ho : o.filter = some (projectFilter cfg fp)) (hl : file.locale = some loc)
    (h : o.notify cat file (.str k) = .ok (o', rv)) :
    rv = toRet (verdict cfg ⟨fp file, loc⟩ (if cat.isFile then none else some k)) := by
  rw [(notify_ok h).1, ho, ← filter_spec]
  cases hc : cat.isFile <;> simp [rvOf, hc, projectFilter, hl]

/-- `ObserverList.notify` (what `ContentComparer` acts on): two lists whose project observers have the same
    filters return the same verdict — the most severe of the filters' answers — whatever their quiet levels. -/
theorem list_notify_quiet_free (l1 l2 l1' l2' : ObsList) (cat : Cat) (file : ObsM.File) (data : Data) (rv1 rv2 : Ret)
    (hf : l1.filters = l2.filters)
    (h1 : l1.notify cat file data = .ok (l1', rv1)) (h2 : l2.notify cat file data = .ok (l2', rv2)) :
    rv1 = rv2 ∧ rv1 = listRet (l1.filters.map (fun flt => rvOf flt cat file data)) :=
  ⟨by rw [ObsList.notify_rv h1, ObsList.notify_rv h2, hf], ObsList.notify_rv h1⟩

/-- **The comparison does not depend on the quiet level.**  `ContentComparer(q)` with `Observer(q, filter)` for
    every filter in `flts`, against the same with `q'`, over the same keys (`evs`: missing / obsolete keys, Junk,
    checker messages, in `AddRemove` order): the counters `missing`, `missing_w`, `report`, `obsolete`, the keys
    handed to the merge (`missings`) and every verdict returned by `observers.notify` are EQUAL — they are the
    closed form `accSpec` of the filters' answers —, and so are the summary and the error flag of the list and of
    every project observer.  (Only the details differ: `compareq_details_monotone`.) -/
theorem compareq_quiet_free (q q' : Nat) (flts : List (Option Filter)) (file : ObsM.File) (evs : List KeyEv)
    (b : BothCounts) (l1 l2 : ObsList) (a1 a2 : CmpAcc)
    (h1 : compareQ (fresh q flts) file evs b = .ok (l1, a1))
    (h2 : compareQ (fresh q' flts) file evs b = .ok (l2, a2)) :
    a1 = a2 ∧ a1 = accSpec flts file evs CmpAcc.zero ∧
    l1.own.summary = l2.own.summary ∧ l1.own.error = l2.own.error ∧
    l1.observers.map (fun o => (o.summary, o.error)) = l2.observers.map (fun o => (o.summary, o.error)) := by
  obtain ⟨e1, r1⟩ := compareQ_spec h1
  obtain ⟨e2, r2⟩ := compareQ_spec h2
  rw [fresh_filters] at e1 e2 r1 r2
  have hown : l1.own.core = l2.own.core := by rw [fresh_own_core_run r1, fresh_own_core_run r2]
  simp only [Obs.core, Prod.mk.injEq] at hown
  have hobs := (fresh_observers_core r1).trans (fresh_observers_core r2).symm
  exact ⟨by rw [e1, e2], e1, hown.1, hown.2, hobs⟩

/-- raising the quiet level only removes listed details: for the list's own observer and for every project
    observer, per path, the details at the higher level are a sublist of those at the lower level. -/
theorem compareq_details_monotone (q q' : Nat) (hq : q ≤ q') (flts : List (Option Filter)) (file : ObsM.File)
    (evs : List KeyEv) (b : BothCounts) (l1 l2 : ObsList) (a1 a2 : CmpAcc)
    (h1 : compareQ (fresh q flts) file evs b = .ok (l1, a1))
    (h2 : compareQ (fresh q' flts) file evs b = .ok (l2, a2)) (p : List TreeM.Part) :
    ((TreeM.find l2.own.details p).getD []).Sublist ((TreeM.find l1.own.details p).getD []) ∧
    ∀ (i : Nat) (o1 o2 : ObsM.Obs), l1.observers[i]? = some o1 → l2.observers[i]? = some o2 →
      ((TreeM.find o2.details p).getD []).Sublist ((TreeM.find o1.details p).getD []) := by
  obtain ⟨_, r1⟩ := compareQ_spec h1
  obtain ⟨_, r2⟩ := compareQ_spec h2
  rw [fresh_filters] at r1 r2
  refine ⟨C10.quiet_monotone q q' hq none _ _ _ (fresh_own_run r1) (fresh_own_run r2) p, ?_⟩
  intro i o1 o2 hi1 hi2
  obtain ⟨f1, hf1, hr1⟩ := fresh_observer_run r1 i o1 hi1
  obtain ⟨f2, hf2, hr2⟩ := fresh_observer_run r2 i o2 hi2
  rw [hf1] at hf2
  cases hf2
  exact C10.quiet_monotone q q' hq f1 _ _ _ hr1 hr2 p

/-- the comparison never raises on a modelled file (in particular `assert len(rvs) == 1` cannot fail), and its
    result is the closed form -/
theorem compareq_total (q : Nat) (flts : List (Option Filter)) (file : ObsM.File) (evs : List KeyEv) (b : BothCounts)
    (hm : Modelled file) :
    ∃ l', compareQ (fresh q flts) file evs b = .ok (l', accSpec flts file evs CmpAcc.zero) := by
  have hev : ∀ ev ∈ historyOf flts file evs b, Modelled ev.file := by
    intro ev hev
    simp only [historyOf, List.mem_append, List.mem_map, List.mem_singleton] at hev
    rcases hev with ⟨e, _, rfl⟩ | rfl <;> exact hm
  obtain ⟨l', hr⟩ := C10.list_run_total q flts (historyOf flts file evs b) hev
  have := compareQ_of_run (l := fresh q flts) (file := file) (evs := evs) (b := b) (l' := l')
    (by rw [fresh_filters]; exact hr)
  rw [fresh_filters] at this
  exact ⟨l', this⟩

/-- **One project configuration, every quiet level**: with `v key = config.filter(l10n_file, key)`,
    `missing` = number of missing keys with verdict error, `report` = those with verdict warning, the merge gets
    exactly the error keys (in order), `missing_w` their word counts, `obsolete` = number of obsolete keys whose
    verdict is not ignore.  (The model `compareMissing` of `compare_respects_filter` — quiet 0, missing keys only — is tied to
    this one by `compareq_refines_missing`.) -/
theorem compareq_counts (q : Nat) (cfg : Config) (fp : ObsM.File → Text) (file : ObsM.File) (loc : Text)
    (hl : file.locale = some loc) (evs : List KeyEv) (b : BothCounts) (l' : ObsList) (acc : CmpAcc)
    (h : compareQ (fresh q [some (projectFilter cfg fp)]) file evs b = .ok (l', acc)) :
    let v := fun k => filter cfg ⟨fp file, loc⟩ (some k)
    acc.missing = ((missKeys evs).filter (fun kw => v kw.1 == .error)).length ∧
    acc.report = ((missKeys evs).filter (fun kw => v kw.1 == .warning)).length ∧
    acc.missings = ((missKeys evs).filter (fun kw => v kw.1 == .error)).map (·.1) ∧
    acc.missingW = (((missKeys evs).filter (fun kw => v kw.1 == .error)).map (·.2)).sum ∧
    acc.obsolete = ((obsKeys evs).filter (fun k => v k != .ignore)).length := by
  intro v
  obtain ⟨e, _⟩ := compareQ_spec h
  rw [fresh_filters] at e
  have c := accSpec_counts [some (projectFilter cfg fp)] file evs CmpAcc.zero
  rw [← e] at c
  have hm : ∀ k, missRv [some (projectFilter cfg fp)] file k = toRet (v k) := missRv_project cfg fp file loc hl
  have ho : ∀ k, obsRv [some (projectFilter cfg fp)] file k = toRet (v k) := obsRv_project cfg fp file loc hl
  refine ⟨?_, ?_, ?_, ?_, ?_⟩
  · rw [c.missing]; simp [CmpAcc.zero, hm]
  · rw [c.report]; simp [CmpAcc.zero, hm]
  · rw [c.missings]; simp [CmpAcc.zero, hm]
  · rw [c.missingW]; simp [CmpAcc.zero, hm]
  · rw [c.obsolete]; simp [CmpAcc.zero, ho]

/-- ignored keys at every quiet level: only keys with verdict error are merged (so neither an ignored nor a warning-level
    missing key is), `missing` counts exactly the merged keys, and `missing + report` resp. `obsolete` are bounded by the
    number of missing resp. obsolete keys (which keys they count is `compareq_counts`) -/
theorem compareq_ignored_keys (q : Nat) (cfg : Config) (fp : ObsM.File → Text) (file : ObsM.File) (loc : Text)
    (hl : file.locale = some loc) (evs : List KeyEv) (b : BothCounts) (l' : ObsList) (acc : CmpAcc)
    (h : compareQ (fresh q [some (projectFilter cfg fp)]) file evs b = .ok (l', acc)) :
    (∀ k, filter cfg ⟨fp file, loc⟩ (some k) ≠ .error → k ∉ acc.missings) ∧
    acc.missing = acc.missings.length ∧
    acc.missing + acc.report ≤ (missKeys evs).length ∧ acc.obsolete ≤ (obsKeys evs).length := by
  obtain ⟨c1, c2, c3, _, c5⟩ := compareq_counts q cfg fp file loc hl evs b l' acc h
  simp only at c1 c2 c3 c5
  refine ⟨?_, ?_, ?_, ?_⟩
  · intro k hk hmem
    rw [c3] at hmem
    simp only [List.mem_map, List.mem_filter, beq_iff_eq] at hmem
    obtain ⟨kw, ⟨_, hv⟩, rfl⟩ := hmem
    exact hk hv
  · rw [c1, c3, List.length_map]
  · rw [c1, c2]
    generalize missKeys evs = ks
    induction ks with
    | nil => simp
    | cons kw ks ih =>
      simp only [List.filter_cons, List.length_cons]
      cases hv : filter cfg ⟨fp file, loc⟩ (some kw.1) <;> simp <;> omega
  · rw [c5]; exact List.length_filter_le _ _

/-- the model `compareMissing` (`Compare/MissingFilter.lean`: quiet 0, missing keys only) is the
    restriction of the full model: same `missing`, `report` and merged keys, at EVERY quiet level -/
theorem compareq_refines_missing (q : Nat) (observers : List Filt.Obs) (file : ObsM.File) (keys : List Text)
    (b : BothCounts) (l' : ObsList) (acc : CmpAcc)
    (h : compareQ (fresh q (observers.map (liftObs file))) file (keys.map (fun k => KeyEv.missing k 0)) b = .ok (l', acc)) :
    ∃ out, compareMissing observers keys = .ok out ∧
      out.acc.missing = acc.missing ∧ out.acc.report = acc.report ∧ out.acc.missings = acc.missings := by
  refine ⟨_, compareMissing_eq observers keys, ?_⟩
  obtain ⟨e, _⟩ := compareQ_spec h
  rw [fresh_filters] at e
  have c := accSpec_counts (observers.map (liftObs file)) file (keys.map (fun k => KeyEv.missing k 0)) CmpAcc.zero
  rw [← e] at c
  have hk := missKeys_map keys
  have hv : ∀ k, missRv (observers.map (liftObs file)) file k = toRet (combined observers k) := by
    intro k
    simp only [missRv, List.map_map, Function.comp_def, rvOf_liftObs]
    have := listRet_map_toRet (observers.map (fun o => obsVerdict o k))
    rw [List.map_map] at this
    simp only [Function.comp_def] at this
    rw [this, worst_map]
  refine ⟨?_, ?_, ?_⟩
  · rw [c.missing, hk]; simp [missingSpec, MissAcc.zero, CmpAcc.zero, hv, List.filter_map, Function.comp_def]
  · rw [c.report, hk]; simp [missingSpec, MissAcc.zero, CmpAcc.zero, hv, List.filter_map, Function.comp_def]
  · rw [c.missings, hk]; simp [missingSpec, MissAcc.zero, CmpAcc.zero, hv, List.filter_map, Function.comp_def]

/-- **whole files, every quiet level**: `ContentComparer.add` (missing file) and `remove` (obsolete file) get the most
    severe of the observers' FILE verdicts (`fileRv`: every filter `flts` asked without entity — for a project observer
    `filter(file)`, key-less rules) whatever the quiet level; a missing file that is ignored is not counted; the `missing` /
    `missing_w` counts that reach the summaries do not depend on quiet. -/
theorem files_quiet_free (q q' : Nat) (flts : List (Option Filter)) (file : ObsM.File) (n w : Nat)
    (l1 l2 m1 m2 : ObsList) (rv1 rv2 rv3 rv4 : Ret)
    (h1 : addFileQ (fresh q flts) file n w = .ok (l1, rv1)) (h2 : addFileQ (fresh q' flts) file n w = .ok (l2, rv2))
    (h3 : removeFileQ (fresh q flts) file = .ok (m1, rv3)) (h4 : removeFileQ (fresh q' flts) file = .ok (m2, rv4)) :
    rv1 = rv2 ∧ rv1 = fileRv flts .missingFile file ∧ rv3 = rv4 ∧ rv3 = fileRv flts .obsoleteFile file ∧
    l1.own.summary = l2.own.summary ∧
    l1.observers.map (fun o => (o.summary, o.error)) = l2.observers.map (fun o => (o.summary, o.error)) ∧
    (rv1 = .ignore → ∀ loc key, getCount l1.own.summary loc key = 0) := by
  obtain ⟨a1, r1⟩ := addFileQ_spec h1
  obtain ⟨a2, r2⟩ := addFileQ_spec h2
  obtain ⟨a3, _⟩ := removeFileQ_spec h3
  obtain ⟨a4, _⟩ := removeFileQ_spec h4
  rw [fresh_filters] at a1 a2 a3 a4 r1 r2
  have hown : l1.own.core = l2.own.core := by rw [fresh_own_core_run r1, fresh_own_core_run r2]
  simp only [Obs.core, Prod.mk.injEq] at hown
  refine ⟨by rw [a1, a2], a1, by rw [a3, a4], a3, hown.1, (fresh_observers_core r1).trans (fresh_observers_core r2).symm, ?_⟩
  intro hi loc key
  have hc := fresh_own_core_run r1
  have hrv : (fileRv flts .missingFile file == Ret.ignore) = true := by rw [← a1, hi]; rfl
  have hign : ignList flts (.notify .missingFile file .none) = true := by
    simpa [ignList, fileRv] using listRet_eq_ignore.1 (a1.symm.trans hi)
  have hs : l1.own.summary = [] := by
    have := congrArg Prod.fst hc
    simp only [Obs.core, addFileHistory, hrv, ↓reduceIte, coreRun, List.foldl_cons, List.foldl_nil, coreEv, coreNotify,
      hign] at this
    exact this
  rw [hs]; rfl

end Quiet

/- Laziness, exactly.  `filterm_eq_filter` is one-directional: the eager instantiation may raise where the code returns.  What
the code does is characterised here by equations and equivalences over the model with the raise sites (`FiltM`): which
matchers are consulted, in which order, and which are not.  `firstD l` is the first element of a list of answers that is not
`ok false` (a `true` or an exception), `ok false` if there is none. -/
section Lazy
open FiltM C14M C14L

/-- `firstD` is "the first decisive answer": a decisive `x` (a `true`, an exception) comes out iff it occurs after a
    prefix of `ok false` answers — whatever follows it, raising answers included; `ok false` comes out iff every
    answer is `ok false`. -/
theorem first_decisive_spec {ε : Type} (l : List (Except ε Bool)) :
    (firstD l = match l.find? decisive with | some x => x | none => .ok false) ∧
    (∀ x, decisive x = true → (firstD l = x ↔ ∃ pre post, l = pre ++ x :: post ∧ ∀ y ∈ pre, y = .ok false)) ∧
    (firstD l = .ok false ↔ ∀ x ∈ l, x = .ok false) :=
  ⟨firstD_eq_find l, fun x hx => firstD_eq_iff l x hx, firstD_ok_false_iff l⟩

/-- the covered test `any(p.match(fullpath) is not None for p in cached.l10n_paths)` is lazy: the first decisive
    answer of the `l10n` matchers in order; a matcher behind a matching one is not consulted -/
theorem covered_test_lazy (fp : List Nat) (ps : List PM.Matcher) :
    anyMatchS fp ps = firstD (ps.map (matchesS · fp)) :=
  anyMatchS_eq fp ps

/-- **the reverse rule scan, as an equivalence.**  `rs` is the cached rule list REVERSED (scan order).  The scan
    returns `a` iff some rule tests `ok true` (its path matches and the key part fits), every rule scanned before it
    — i.e. every LATER rule of the configuration — tests `ok false`, and `a` is its action; or all rules test
    `ok false` and `a` is `error`.  It raises `e` iff some rule's test raises `e` after `ok false` tests only.
    Rules behind the decisive one (EARLIER in the configuration) are never consulted: nothing is assumed of them.
    The test of a rule consults the path first: a raising path matcher raises even if the key part would not fit. -/
theorem rule_scan_lazy (fp : List Nat) (entity : Option (List Nat)) (rs : List CachedRuleS) :
    (∀ a, scanRulesS fp entity rs = .ok a ↔
      (∃ pre r post, rs = pre ++ r :: post ∧ (∀ q ∈ pre, ruleTestS fp entity q = .ok false) ∧
        ruleTestS fp entity r = .ok true ∧ a = r.action) ∨
      ((∀ q ∈ rs, ruleTestS fp entity q = .ok false) ∧ a = .error)) ∧
    (∀ e, scanRulesS fp entity rs = .error e ↔
      ∃ pre r post, rs = pre ++ r :: post ∧ (∀ q ∈ pre, ruleTestS fp entity q = .ok false) ∧
        ruleTestS fp entity r = .error e) :=
  ⟨scan_ok_iff fp entity rs, scan_error_iff fp entity rs⟩

/-- `cache(locale)` is EAGER: `with_env({"locale": locale})` is called for every enabled `l10n` matcher in order, then
    for every rule in order, before any `match`: the first one that raises decides -/
theorem cache_is_eager (loc : List Nat) (ps : List PathEntryS) (rs : List RuleS) :
    cachePaths loc ps = (ps.filter (fun p => enabledFor p.locales loc)).mapM (fun p => p.l10n.withEnv (localeEnv loc)) ∧
    cacheRules loc rs = rs.mapM (fun r => do
      let m ← r.path.withEnv (localeEnv loc)
      pure (⟨m, r.key, r.action⟩ : CachedRuleS)) :=
  ⟨cachePaths_eq loc ps, cacheRules_eq loc rs⟩

/-- the excluded configurations are consulted lazily and through their public `filter` on the FILE: the first decisive
    answer of `exclude.filter(file) == "error"` in order; the included configurations are ALL evaluated, in order
    (a set comprehension) -/
theorem excludes_lazy_includes_eager (file : File) (entity : Option (List Nat)) (exs cs : List ConfigS) :
    anyExcludeErrorS exs file = firstD (exs.map (excludeHitS file)) ∧
    childActionsS cs file entity = cs.mapM (fun c => filterInnerS c file entity) :=
  ⟨anyExcludeErrorS_eq_firstD file exs, childActionsS_eq_mapM file entity cs⟩

/-- **`_filter` with its evaluation order spelled out** (an equation, for every node of every configuration tree):
    excludes lazily, included configurations eagerly, early `error`, the two eager loops of `cache`, the covered
    test lazily, the rule scan lazily from the end. -/
theorem filter_inner_lazy (locales : Option (List (List Nat))) (paths : List PathEntryS) (rules : List RuleS)
    (children excludes : List ConfigS) (file : File) (entity : Option (List Nat)) :
    filterInnerS (.mk locales paths rules children excludes) file entity =
      (do
        if (← firstD (excludes.map (excludeHitS file))) then pure none else
        let actions ← children.mapM (fun c => filterInnerS c file entity)
        if actions.contains (some .error) then pure (some .error) else
        let ps ← (paths.filter (fun p => enabledFor p.locales file.locale)).mapM
          (fun p => p.l10n.withEnv (localeEnv file.locale))
        let rs ← rules.mapM (fun r => do
          let m ← r.path.withEnv (localeEnv file.locale)
          pure (⟨m, r.key, r.action⟩ : CachedRuleS))
        if (← firstD (ps.map (matchesS · file.fullpath))) then do
          let a ← scanRulesS file.fullpath entity rs.reverse
          pure (pick (actions ++ [some a]))
        else pure (pick actions)) := by
  rw [filterInnerS, C14L.anyExcludeErrorS_eq_firstD, childActionsS_eq_mapM]
  simp only [ownStepS, cacheS, cachePaths_eq, cacheRules_eq, anyMatchS_eq, bind_assoc, pure_bind]

/-- **Last rule wins, at lazy strength, on the texts** (replaces the hypothesis `instantiate … = ok` of
    `last_rule_wins_texts` — "every matcher of the configuration returns" — by what the code really needs).
    A configuration without included / excluded ones.  Needed: every `Matcher(...)` constructor returns (`build`: the
    constructors run when the configuration is built), every `with_env` of `cache` returns (enabled paths, all
    rules), the file is covered lazily (`CoveredLazy`: a matching enabled `l10n` text, the enabled ones BEFORE it
    answering "no match"), the rule text `r` applies, every LATER rule text is skipped (returns, and does not apply).
    NOT needed: anything about `match` of the rules before `r` or of the `l10n` texts after the covering one —
    they may raise (`ExamplesM.lazy_witness`). -/
theorem last_rule_wins_lazy {locales : Option (List (List Nat))} {environ : Environ} {root : Option (List Nat)}
    {paths : List PathEntryM} {pre post : List RuleM} {r : RuleM} {s : ConfigS} {file : File}
    {entity : Option (List Nat)}
    (hb : build (.mk locales environ root paths (pre ++ r :: post) [] []) = .ok s)
    (hloc : namesLocale locales paths file.locale = true)
    (hbindp : ∀ p ∈ paths, enabledFor p.locales file.locale = true →
      ∃ b, boundMatcher environ root p.l10n file.locale = .ok b)
    (hbindr : ∀ q ∈ pre ++ r :: post, ∃ b, boundMatcher environ root q.path file.locale = .ok b)
    (hcov : CoveredLazy environ root paths file) (hr : RuleApplies environ root r file entity)
    (hpost : ∀ q ∈ post, RuleSkipped environ root q file entity) :
    filterM (.mk locales environ root paths (pre ++ r :: post) [] []) file entity = .ok r.action := by
  obtain ⟨lp, lr, hlp, hlr, hrel, hf⟩ := leaf_eval entity hb hloc hbindp hbindr
  rw [hf, firstD_covered hlp hcov]
  obtain ⟨c, _, hc, _, _, hs⟩ := scan_split hlr hrel hpost
  simp only
  rw [hs, ruleTest_text hc, hr.1]
  simp only [Bool.true_and, hr.2]
  rw [hc.2.1]

/-- … and the converse direction for exceptions: if the path matcher of `r` RAISES `e` (later rules skipped, file
    covered lazily), `filter` raises `e` — whatever the earlier rules are -/
theorem rule_raise_lazy {locales : Option (List (List Nat))} {environ : Environ} {root : Option (List Nat)}
    {paths : List PathEntryM} {pre post : List RuleM} {r : RuleM} {s : ConfigS} {file : File}
    {entity : Option (List Nat)} {e : PM.PyErr}
    (hb : build (.mk locales environ root paths (pre ++ r :: post) [] []) = .ok s)
    (hloc : namesLocale locales paths file.locale = true)
    (hbindp : ∀ p ∈ paths, enabledFor p.locales file.locale = true →
      ∃ b, boundMatcher environ root p.l10n file.locale = .ok b)
    (hbindr : ∀ q ∈ pre ++ r :: post, ∃ b, boundMatcher environ root q.path file.locale = .ok b)
    (hcov : CoveredLazy environ root paths file)
    (hr : patMatches environ root r.path file.locale file.fullpath = .error e)
    (hpost : ∀ q ∈ post, RuleSkipped environ root q file entity) :
    filterM (.mk locales environ root paths (pre ++ r :: post) [] []) file entity = .error e := by
  obtain ⟨lp, lr, hlp, hlr, hrel, hf⟩ := leaf_eval entity hb hloc hbindp hbindr
  rw [hf, firstD_covered hlp hcov]
  obtain ⟨c, _, hc, _, _, hs⟩ := scan_split hlr hrel hpost
  simp only
  rw [hs, ruleTest_text hc, hr]

/-- error by default at lazy strength: covered lazily and every rule text is skipped -/
theorem default_error_lazy {locales : Option (List (List Nat))} {environ : Environ} {root : Option (List Nat)}
    {paths : List PathEntryM} {rules : List RuleM} {s : ConfigS} {file : File} {entity : Option (List Nat)}
    (hb : build (.mk locales environ root paths rules [] []) = .ok s)
    (hloc : namesLocale locales paths file.locale = true)
    (hbindp : ∀ p ∈ paths, enabledFor p.locales file.locale = true →
      ∃ b, boundMatcher environ root p.l10n file.locale = .ok b)
    (hbindr : ∀ q ∈ rules, ∃ b, boundMatcher environ root q.path file.locale = .ok b)
    (hcov : CoveredLazy environ root paths file)
    (hall : ∀ q ∈ rules, RuleSkipped environ root q file entity) :
    filterM (.mk locales environ root paths rules [] []) file entity = .ok .error := by
  obtain ⟨lp, lr, hlp, hlr, hrel, hf⟩ := leaf_eval entity hb hloc hbindp hbindr
  rw [hf, firstD_covered hlp hcov]
  simp only
  rw [scan_ok_iff]
  refine Or.inr ⟨?_, rfl⟩
  intro c hc
  rw [List.mem_reverse] at hc
  obtain ⟨p, hp, rfl⟩ := List.mem_map.mp hc
  obtain ⟨bb, h1, h2⟩ := hall p.1 (hlr ▸ List.mem_map.mpr ⟨p, hp, rfl⟩)
  rw [ruleTest_text (hrel p hp), h1]
  simp only [h2]

end Lazy

section KeysAndToml
open FiltM C14R

/-- **a `re:` key compiles exactly the text after the marker**, whatever that text starts with: `key[3:]` removes the
    three characters of the marker `re:` once — `re:re:x` compiles `re:x`, `re:external` compiles `external`
    (a `lstrip("re:")`-style removal would eat the `e`).  The marker and the slice length are regenerated from the
    source (`ruleKeyRePrefix`, `ruleKeyReSlice`): if they stop fitting each other this proof breaks. -/
theorem re_key_text (e : Text) : compiledKeyText (Gen.Tables.ruleKeyRePrefix ++ e) = e := by
  have hp : Gen.Tables.ruleKeyRePrefix.isPrefixOf (Gen.Tables.ruleKeyRePrefix ++ e) = true := by
    rw [List.isPrefixOf_iff_prefix]; exact List.prefix_append _ _
  rw [compiledKeyText, if_pos hp]
  show (Gen.Tables.ruleKeyRePrefix ++ e).drop Gen.Tables.ruleKeyReSlice = e
  have : Gen.Tables.ruleKeyReSlice = Gen.Tables.ruleKeyRePrefix.length := by decide
  rw [this, List.drop_left]

/-- **a literal key compiles `re.escape(key) + "$"`**: every character of the key as itself — with a backslash in
    front of the characters `re.escape` escapes, so that un-escaping gives the key back — followed by `$` -/
theorem literal_key_text (k : Text) (h : Gen.Tables.ruleKeyRePrefix.isPrefixOf k = false) :
    compiledKeyText k = reEscape k ++ [36] ∧ unEscape (reEscape k) = k := by
  refine ⟨?_, unEscape_reEscape k⟩
  rw [compiledKeyText, h]
  rfl

/-- the abstract literal branch IS the translation of the compiled text: the recogniser the `c14.keytext`
    correspondence applies to the translation `r` of the real `rule["key"].pattern` accepts exactly
    `escapedDollar key`; so for a literal key, running the translated real pattern and `compileKey` agree on every
    entity — and `literal_key` says what they accept: the key (or the key plus one newline), as a WHOLE (`match` at
    position 0 and `$`), not as a prefix and not anywhere inside (`search`). -/
theorem literal_branch_is_translation (k : RawKey) (h : Gen.Tables.ruleKeyRePrefix.isPrefixOf k.text = false) :
    (litDollarText k.compiled = some k.text ↔ k.compiled = escapedDollar k.text) ∧
    (litDollarText k.compiled = some k.text →
      ∀ e, (KeyPred.regex k.compiled).matches e = (compileKey k).matches e) := by
  refine ⟨⟨litDollarText_sound _ _, fun hk => by rw [hk]; exact litDollarText_complete _⟩, ?_⟩
  intro hk e
  have := litDollarText_sound _ _ hk
  unfold compileKey
  rw [h]
  simp only [KeyPred.matches, KeyPred.toRe, this, Bool.false_eq_true, ↓reduceIte]

/-- `TOMLParser.processFilters` on the `[[filters]]` tables of a file = `add_rules` of the tables as written: a path
    given as a string and the one-element list compile to the same rules, keys and actions are passed through -/
theorem toml_filters_spec (tables : List RawRuleM) :
    processFiltersM tables = addRulesM [] tables ∧
    (∀ (p : List Nat) (k : Option (OneOrMany RawKey)) (a : Action),
      compileRuleM ⟨.many [p], k, a⟩ = compileRuleM ⟨.one p, k, a⟩) :=
  ⟨processFiltersM_eq tables, compileRuleM_single⟩

end KeysAndToml

section FilterPy
open FiltP C14P

/-- **what `filter_` makes of the legacy callable's result**: raising (any `BaseException`) → error; `True` → error,
    `False` → ignore, `"report"` → warning; `"error"` / `"ignore"` / `"warning"` pass; `None` passes as `None`;
    every other string and every other hashable object → `AssertionError`; an unhashable object → `TypeError`
    (raised by the `dict.get`, outside the `try`). -/
theorem filter_py_normalisation (f : PyFilter) (m : Option Text) (p : Text) (e : Option Text) :
    (f m p e = .raised → filterPyCall f m p e = .ok (some .error)) ∧
    (f m p e = .bool true → filterPyCall f m p e = .ok (some .error)) ∧
    (f m p e = .bool false → filterPyCall f m p e = .ok (some .ignore)) ∧
    (f m p e = .none → filterPyCall f m p e = .ok none) ∧
    (f m p e = .unhashable → filterPyCall f m p e = .error .typeError) ∧
    (f m p e = .other → filterPyCall f m p e = .error .assertion) ∧
    (∀ a : Action, f m p e = .str (Action.name a) → filterPyCall f m p e = .ok (some a)) ∧
    (f m p e = .str [114, 101, 112, 111, 114, 116] → filterPyCall f m p e = .ok (some .warning)) ∧
    (∀ s, f m p e = .str s → s ≠ [114, 101, 112, 111, 114, 116] → (∀ a : Action, s ≠ Action.name a) →
      filterPyCall f m p e = .error .assertion) := by
  refine ⟨?_, ?_, ?_, ?_, ?_, ?_, ?_, ?_, ?_⟩
  · intro h; rw [filterPyCall, h]; decide
  · intro h; rw [filterPyCall, h]; decide
  · intro h; rw [filterPyCall, h]; decide
  · intro h; rw [filterPyCall, h]; decide
  · intro h; rw [filterPyCall, h]
  · intro h; rw [filterPyCall, h]
  · intro a h; rw [filterPyCall, h]; cases a <;> decide
  · intro h; rw [filterPyCall, h]; decide
  · intro s h hr ha
    rw [filterPyCall, h]
    have h1 : normStr s = s := by
      simp only [normStr, Gen.Tables.filterPyStrMap, List.lookup_cons, List.lookup_nil]
      have : (s == [114, 101, 112, 111, 114, 116]) = false := by simpa using hr
      rw [this]
    have h2 : Gen.Tables.filterPyAllowed.contains s = false := by
      have e1 := ha .error
      have e2 := ha .ignore
      have e3 := ha .warning
      simp only [Action.name] at e1 e2 e3
      simp [Gen.Tables.filterPyAllowed, e1, e2, e3]
    simp only [h1, h2, Bool.false_eq_true, ↓reduceIte]

/-- **the legacy callable wins over everything below it**: a configuration with `filter_py` answers — after the
    locale test — with the normalised result of the callable on `(file.module, file.file, entity)`; its rules (there
    are none: `py_rules_exclusive`), its included AND its excluded configurations are never consulted. -/
theorem filter_py_wins (f : PyFilter) (locales : Option (List Text)) (paths : List PathEntry) (rules : List Rule)
    (children excludes : List ConfigP) (file : FileP) (entity : Option Text) :
    filterP (.mk (some f) locales paths rules children excludes) file entity =
      if (allLocalesP (.mk (some f) locales paths rules children excludes)).contains file.locale
      then filterPyCall f file.module file.file entity else .ok (some .ignore) := by
  rw [filterP]
  cases (allLocalesP (.mk (some f) locales paths rules children excludes)).contains file.locale <;> rfl

/-- **the callable of an INCLUDED configuration is dead**: the parent calls `child._filter`, which never looks at
    `filter_py`; clearing the callables of all included configurations (at any depth, `clr`) changes no answer.
    An included legacy configuration therefore contributes `error` for every file its paths cover (it cannot have
    rules). -/
theorem included_py_dead (c : ConfigP) (file : FileP) (entity : Option Text) :
    filterP (clr false c) file entity = filterP c file entity ∧
    (∀ b, filterInnerP (clr b c) file entity = filterInnerP c file entity) :=
  ⟨filterP_clr c file entity, fun b => filterInnerP_clr b c file entity⟩

/-- **the callable of an EXCLUDED configuration is consulted** (through its public `filter`, on the file): the
    exclude fires iff the locale is named and the normalised answer is error; `None` / warning / ignore do not fire;
    an `AssertionError` / `TypeError` of the normalisation propagates. -/
theorem excluded_py_consulted (f : PyFilter) (locales : Option (List Text)) (paths : List PathEntry) (rules : List Rule)
    (children excludes rest : List ConfigP) (file : FileP) :
    anyExcludeErrorP (.mk (some f) locales paths rules children excludes :: rest) file =
      (if !(allLocalesP (.mk (some f) locales paths rules children excludes)).contains file.locale
        then anyExcludeErrorP rest file
       else match filterPyCall f file.module file.file none with
        | .ok rv => if rv == some Action.error then .ok true else anyExcludeErrorP rest file
        | .error e => .error e) := by
  rw [anyExcludeErrorP]
  simp only [ConfigP.filterPy]
  by_cases hl : (allLocalesP (.mk (some f) locales paths rules children excludes)).contains file.locale = true
  · simp only [hl, Bool.not_true, Bool.false_eq_true, ↓reduceIte, bind, Except.bind, pure, Except.pure]
    cases filterPyCall f file.module file.file none with
    | error e => rfl
    | ok rv => cases hrv : (rv == some Action.error) <;> simp [hrv]
  · have hl' : file.locale ∉ allLocalesP (.mk (some f) locales paths rules children excludes) := by
      simpa using hl
    simp [hl', bind, Except.bind, pure, Except.pure]

/-- without any legacy callable the model is `Paths/Filter.lean`: every theorem above applies -/
theorem filterp_no_py (c : ConfigP) (file : FileP) (entity : Option Text) (h : noPy c = true) :
    filterP c file entity = .ok (some (filter (erase c) file.toFile entity)) := by
  have hpy : c.filterPy = none := by
    cases c with
    | mk f l p r ch ex =>
      simp only [noPy, Bool.and_eq_true, Option.isNone_iff_eq_none] at h
      exact h.1.1
  rw [filterP, filter, allLocalesP_erase, hpy]
  simp only [filterInnerP_noPy c file entity h, bind, Except.bind, pure, Except.pure, FileP.toFile]
  by_cases hl : (allLocales (erase c)).contains file.locale = true
  · simp only [hl, Bool.not_true, Bool.false_eq_true, ↓reduceIte]
    cases filterInner (erase c) ⟨file.fullpath, file.locale⟩ entity <;> rfl
  · have hl' : file.locale ∉ allLocales (erase c) := by simpa using hl
    simp [hl']

/-- **rules and a legacy callable never meet on one configuration**: `set_filter_py` asserts that there are no
    rules, `add_rules` (even of zero rules) asserts that there is no callable; after either succeeds the
    configuration has a callable or rules, not both. -/
theorem py_rules_exclusive (c : ConfigP) (f : PyFilter) (raws : List RawRule) :
    (setFilterPy c f = .error .assertion ↔ c.rules ≠ []) ∧
    (addRulesP c raws = .error .assertion ↔ c.filterPy.isSome = true) ∧
    (∀ c', setFilterPy c f = .ok c' → c'.filterPy.isSome = true ∧ c'.rules = []) ∧
    (∀ c', addRulesP c raws = .ok c' → c'.filterPy = none ∧ c'.rules = addRules c.rules raws) := by
  cases c with
  | mk g l p r ch ex =>
    refine ⟨?_, ?_, ?_, ?_⟩
    · simp only [setFilterPy, ConfigP.rules]
      cases r <;> simp
    · simp only [addRulesP, ConfigP.filterPy]
      cases g <;> simp
    · intro c' h
      simp only [setFilterPy] at h
      cases r with
      | nil => simp at h; subst h; simp [ConfigP.filterPy, ConfigP.rules]
      | cons a b => simp at h
    · intro c' h
      simp only [addRulesP] at h
      cases g with
      | none => simp at h; subst h; simp [ConfigP.filterPy, ConfigP.rules]
      | some _ => simp at h

/-- `add_child` refuses a configuration that declares excludes, `exclude` refuses one that — itself or through an
    included configuration — declares excludes (`ExcludeError`); otherwise they append -/
theorem add_child_exclude_guards (c child : ConfigP) :
    (addChild c child = .error .excludeError ↔ child.excludes ≠ []) ∧
    (excludeP c child = .error .excludeError ↔ anyExcludes child = true) ∧
    (∀ c', addChild c child = .ok c' → c'.children = c.children ++ [child] ∧ c'.excludes = c.excludes) ∧
    (∀ c', excludeP c child = .ok c' → c'.excludes = c.excludes ++ [child] ∧ c'.children = c.children) := by
  cases c with
  | mk g l p r ch ex =>
    refine ⟨?_, ?_, ?_, ?_⟩
    · simp only [addChild]
      cases child.excludes <;> simp
    · simp only [excludeP]
      cases anyExcludes child <;> simp
    · intro c' h
      simp only [addChild] at h
      cases hce : child.excludes with
      | nil => rw [hce] at h; simp at h; subst h; simp [ConfigP.children, ConfigP.excludes]
      | cons a b => rw [hce] at h; simp at h
    · intro c' h
      simp only [excludeP] at h
      cases hae : anyExcludes child with
      | false => rw [hae] at h; simp at h; subst h; simp [ConfigP.children, ConfigP.excludes]
      | true => rw [hae] at h; simp at h

/-- **`set_locales(locales, deep=True)`** reaches the configuration and every included one (not the excluded ones):
    afterwards the project names a locale iff it is in `locales` or in a `locales` list of some `paths` entry; and the
    locales only gate the public entry — `_filter` (own verdict, included and excluded configurations) is unchanged. -/
theorem set_locales_deep_spec (c : ConfigP) (ls : Option (List Text)) (l : Text) (file : FileP) (entity : Option Text) :
    (l ∈ allLocalesP (setLocalesDeep c ls) ↔ l ∈ optLocales ls ∨ l ∈ pathLocales c) ∧
    filterInnerP (setLocalesDeep c ls) file entity = filterInnerP c file entity :=
  ⟨mem_allLocalesP_deep c ls l, filterInnerP_setLocalesDeep c ls file entity⟩

end FilterPy

/- Non-vacuity: the model evaluated on concrete configurations (no theorem used).  Texts are code point lists:
`one` = [111,110,101], `two` = [116,119,111].  The path predicate `everywhere` matches any path, `inBrowser` only the
path `[1]`. -/
namespace Examples

def everywhere : PathM := ⟨fun _ _ => true⟩
def inBrowser : PathM := ⟨fun _ p => p == [1]⟩
def de : Text := [100, 101]
def fr : Text := [102, 114]
def one : Text := [111, 110, 101]
def two : Text := [116, 119, 111]
def fileB : File := ⟨[1], de⟩      -- a file in browser/
def fileT : File := ⟨[2], de⟩      -- a file elsewhere
def rx (t : Text) (r : Rx.Re) : RawKey := ⟨t, r⟩

/-- rules as written: [browser files: ignore] [key "one": warning] [key re:t.*: ignore] [key "one" in browser: error] -/
def raws : List RawRule :=
  [ ⟨.one inBrowser, none, .ignore⟩,
    ⟨.one everywhere, some (.one (rx one .eps)), .warning⟩,
    ⟨.one everywhere, some (.one (rx ([114, 101, 58] ++ [116]) (.lit 116))), .ignore⟩,
    ⟨.many [inBrowser], some (.many [rx two .eps, rx one .eps]), .error⟩ ]

def leaf : Config := .mk (some [de]) [⟨everywhere, none⟩] (addRules [] raws) [] []
/-- a child that warns for every entity of browser files -/
def warnChild : Config :=
  .mk none [⟨inBrowser, none⟩] (addRules [] [⟨.one everywhere, some (.one (rx [114, 101, 58] .eps)), .warning⟩]) [] []
/-- an excluded project covering browser files (file verdict: error) -/
def excl : Config := .mk (some [de]) [⟨inBrowser, none⟩] [] [] []
def parent : Config := .mk (some [de]) [⟨everywhere, none⟩]
  (addRules [] [⟨.one everywhere, some (.one (rx one .eps)), .ignore⟩]) [warnChild] []
def parentEx : Config := .mk (some [de]) [⟨everywhere, none⟩] [] [warnChild] [excl]

-- file rules vs key rules, last rule wins, default error
example : filter leaf fileB none = .ignore := by decide
example : filter leaf fileT none = .error := by decide
example : filter leaf fileT (some one) = .warning := by decide
example : filter leaf fileB (some one) = .error := by decide          -- the later list rule wins
example : filter leaf fileT (some two) = .ignore := by decide         -- re:t matches at the start
example : filter leaf fileT (some [120]) = .error := by decide        -- no rule applies
example : filter leaf ⟨[1], fr⟩ none = .ignore := by decide           -- locale not named
-- most severe of own and child; exclude short-circuit
example : filter parent fileB (some one) = .warning := by decide      -- own ignore, child warning
example : filter parent fileT (some one) = .ignore := by decide       -- child does not cover
example : filter parent fileB (some two) = .error := by decide        -- own default error
example : filter parentEx fileB (some one) = .ignore ∧ filter parentEx fileT (some one) = .error := by decide
-- the reference interpreter on the same inputs
example : verdict parent fileB (some one) = .warning ∧ verdict parentEx fileB none = .ignore := by decide
-- the comparer link
example : compareMissing [some (fun k => filter leaf fileT (some k))] [one, two, [120]] =
    .ok ⟨⟨1, 1, [[120]], [one, [120]]⟩, [some (1, 1)]⟩ := by rfl

/-- `literal_key`: the `$` — a literal key also accepts the key followed by ONE newline (not two) -/
example : (compileKey (rx one .eps)).matches (one ++ [10]) = true ∧
    (compileKey (rx one .eps)).matches (one ++ [10, 10]) = false ∧
    (compileKey (rx one .eps)).matches (one ++ [120]) = false := by decide +kernel

/-- `last_rule_wins` needs "no later rule applies": with a later applicable rule the answer changes -/
example : own [⟨everywhere, none⟩] [⟨everywhere, none, .ignore⟩, ⟨everywhere, none, .warning⟩] fileB none
    = some .warning := by decide

/-- `exclude_short_circuit` needs the exclude's FILE verdict to be error: a warning-level exclude does not suppress -/
example : filter (.mk (some [de]) [⟨everywhere, none⟩] [] []
      [.mk (some [de]) [⟨inBrowser, none⟩] [⟨everywhere, none, .warning⟩] [] []]) fileB none = .error := by decide +kernel

/-- `cache_memo_sound` needs a memo built from the current rules: a memo of the same locale built
    before a rule was added answers differently (stale cache) -/
example : (cacheStep (some (buildCache [] [] de)) [] [⟨everywhere, none, .ignore⟩] de).rules.length = 0 ∧
    (buildCache [] [⟨everywhere, none, .ignore⟩] de).rules.length = 1 := by decide

/-- `most_severe_wins` needs "no exclude fires" -/
example : filterInner parentEx fileB (some one) = none ∧
    mostSevere (own [⟨everywhere, none⟩] [] fileB (some one) :: [filterInner warnChild fileB (some one)]) = some .error := by
  decide +kernel

end Examples

namespace ExamplesM
open FiltM PM C14M

def de : List Nat := T "de"
def fr : List Nat := T "fr"
def cover : PathEntryM := ⟨T "/src/{locale}/**", none⟩
def litRule : RuleM := ⟨T "/src/de/browser/a.ftl", none, .ignore⟩
def locStarRule : RuleM := ⟨T "/src/{locale}/browser/*.ftl", none, .warning⟩
def starRule : RuleM := ⟨T "/src/de/browser/" ++ 42 :: T ".ftl", none, .warning⟩

/-- two locales, one `l10n` path, two rules as `add_rules` compiles them: a literal one, then `{locale}`/`*` -/
def cfg : ConfigM := .mk (some [de, fr]) [] none [cover]
  (addRulesM [] [⟨.one (T "/src/de/browser/a.ftl"), none, .ignore⟩,
                 ⟨.one (T "/src/{locale}/browser/*.ftl"), none, .warning⟩]) [] []
/-- the same two rules in the other order -/
def cfgSwapped : ConfigM := .mk (some [de, fr]) [] none [cover] ([locStarRule] ++ [litRule]) [] []
/-- a literal rule, then `/src/de/browser/*.ftl` -/
def cfgStar : ConfigM := .mk (some [de, fr]) [] none [cover] ([litRule] ++ [starRule]) [] []

def aDe : File := ⟨T "/src/de/browser/a.ftl", de⟩
def aFr : File := ⟨T "/src/fr/browser/a.ftl", fr⟩
def subDe : File := ⟨T "/src/de/browser/sub/c.ftl", de⟩

def dupEnv : Environ := [(T "dup", T "{locale}x")]
/-- a rule whose matcher raises `re.error` when it is used (group `locale` defined twice: finding F12) -/
def boom : RuleM := ⟨T "/src/{dup}/{locale}/**", none, .ignore⟩

/-- Everything the examples and witnesses of this section evaluate, checked in one go (they build the same few matchers over
    and over: `cover`, the two rules, `boom`); each example below is a conjunct, or is assembled from conjuncts
    (`decide … = true` keeps the instance problem of each conjunct apart). -/
theorem evaluated :
    decide (filterM cfg aDe none = .ok .warning ∧ filterM cfgSwapped aDe none = .ok .ignore ∧
      filterM cfgSwapped aFr none = .ok .warning ∧ filterM cfg subDe none = .ok .error ∧
      filterM cfg ⟨T "/src/de/browser/a.ftl", fr⟩ none = .ok .ignore ∧
      filterM cfg ⟨T "/src/ja/browser/a.ftl", T "ja"⟩ none = .ok .ignore ∧
      filterM cfg aDe (some (T "key")) = .ok .error) = true ∧
    decide (isOk (instantiate cfg de aDe.fullpath) = true ∧ isOk (instantiate cfgSwapped fr aFr.fullpath) = true ∧
      isOk (instantiate cfgStar de subDe.fullpath) = true) = true ∧
    decide ((boundMatcher [] none locStarRule.path de >>= fun b => b.match aDe.fullpath) =
      .ok (some [(localeName, some de), (sname 1, some (T "a"))])) = true ∧
    decide (
      filterM (.mk (some [de]) dupEnv none [cover] [boom, locStarRule] [] []) aDe none = .ok .warning ∧
      errIs (instantiate (.mk (some [de]) dupEnv none [cover] [boom, locStarRule] [] []) de aDe.fullpath) .reError = true ∧
      filterM (.mk (some [de]) dupEnv none [cover] [locStarRule, boom] [] []) aDe none = .error .reError) = true ∧
    decide (
      filterM (.mk (some [de]) dupEnv none [cover, ⟨boom.path, none⟩] [] [] []) aDe none = .ok .error ∧
      filterM (.mk (some [de]) dupEnv none [⟨boom.path, none⟩, cover] [] [] []) aDe none = .error .reError ∧
      filterM (.mk (some [de]) dupEnv none [⟨boom.path, none⟩] [] [.mk none [] none [cover] [] [] []] []) aDe none
        = .ok .error) = true ∧
    decide (filterM (.mk (some [de, fr]) [(localeName, T "zz")] none [cover] [litRule, locStarRule] [] []) aFr none
      = .ok .warning) = true ∧
    -- the hypotheses of `literal_rule_last_wins` / `star_rule_last_wins` on `cfgSwapped` / `cfgStar`
    (isOk (instantiate cfgSwapped de aDe.fullpath) = true ∧ isOk (instantiate cfgStar de aDe.fullpath) = true ∧
      decide (patMatches [] none cover.l10n de (effRoot none litRule.path ++ litRule.path) = .ok true) = true ∧
      decide (patMatches [] none cover.l10n de
        (effRoot none (T "/src/de/browser/") ++ T "/src/de/browser/" ++ T "a" ++ T ".ftl") = .ok true) = true) ∧
    -- the hypotheses of `last_rule_wins_lazy` / `rule_raise_lazy` on the configurations of `lazy_witness`
    (isOk (build (.mk (some [de]) dupEnv none [cover] ([boom] ++ locStarRule :: []) [] [])) = true ∧
      isOk (build (.mk (some [de]) dupEnv none [cover] ([locStarRule] ++ boom :: []) [] [])) = true ∧
      isOk (boundMatcher dupEnv none cover.l10n aDe.locale) = true ∧
      isOk (boundMatcher dupEnv none boom.path aDe.locale) = true ∧
      isOk (boundMatcher dupEnv none locStarRule.path aDe.locale) = true ∧
      decide (patMatches dupEnv none cover.l10n aDe.locale aDe.fullpath = .ok true) = true ∧
      decide (patMatches dupEnv none locStarRule.path aDe.locale aDe.fullpath = .ok true) = true ∧
      decide (patMatches dupEnv none boom.path aDe.locale aDe.fullpath = .error .reError) = true) := by decide +kernel

/-- the composed model evaluated: last rule wins (either order), the literal rule applies to its own file only,
    `*` stays inside `browser/`, `{locale}` is the file's locale (a `de` path queried as locale `fr` is not
    covered), an unnamed locale is ignored -/
example : filterM cfg aDe none = .ok .warning ∧ filterM cfgSwapped aDe none = .ok .ignore ∧
    filterM cfgSwapped aFr none = .ok .warning ∧ filterM cfg subDe none = .ok .error ∧
    filterM cfg ⟨T "/src/de/browser/a.ftl", fr⟩ none = .ok .ignore ∧
    filterM cfg ⟨T "/src/ja/browser/a.ftl", T "ja"⟩ none = .ok .ignore ∧
    filterM cfg aDe (some (T "key")) = .ok .error := of_decide_eq_true evaluated.1

/-- non-vacuity of `filterm_eq_filter`: `instantiate` returns on these queries -/
example : isOk (instantiate cfg de aDe.fullpath) = true ∧ isOk (instantiate cfgSwapped fr aFr.fullpath) = true ∧
    isOk (instantiate cfgStar de subDe.fullpath) = true := of_decide_eq_true evaluated.2.1

/-- what the matcher of the `{locale}`/`*` rule returns for a `de` file: `locale = de`, `s1 = a` -/
example : (boundMatcher [] none locStarRule.path de >>= fun b => b.match aDe.fullpath) =
    .ok (some [(localeName, some de), (sname 1, some (T "a"))]) := of_decide_eq_true evaluated.2.2.1

/-- `literal_rule_last_wins` applied: its hypotheses hold for `cfgSwapped` and the file of the literal rule -/
example : filterM cfgSwapped aDe none = .ok .ignore := by
  obtain ⟨hc, _, hp, _⟩ := evaluated.2.2.2.2.2.2.1
  cases hi : instantiate cfgSwapped de aDe.fullpath with
  | error e => rw [hi] at hc; cases hc
  | ok c =>
    have hcov : Covered [] none [cover] ⟨effRoot none litRule.path ++ litRule.path, de⟩ :=
      ⟨cover, by simp, rfl, of_decide_eq_true hp⟩
    exact literal_rule_last_wins (t := litRule.path) (a := .ignore) (by decide) hi (by decide) hcov

/-- `star_rule_last_wins` / `star_rule_stops_at_slash` applied to `cfgStar`-like configurations -/
example : filterM cfgStar aDe none = .ok .warning := by
  obtain ⟨_, hc, _, hp⟩ := evaluated.2.2.2.2.2.2.1
  -- the path split into directory, name and extension: by evaluation (left to `exact`, the unifier computes the strings)
  have e : aDe.fullpath = effRoot none (T "/src/de/browser/") ++ T "/src/de/browser/" ++ T "a" ++ T ".ftl" := by
    decide +kernel
  cases hi : instantiate cfgStar de aDe.fullpath with
  | error e => rw [hi] at hc; cases hc
  | ok c =>
    have hcov : Covered [] none [cover] ⟨effRoot none (T "/src/de/browser/") ++ T "/src/de/browser/" ++ T "a" ++ T ".ftl", de⟩ :=
      ⟨cover, by simp, rfl, of_decide_eq_true hp⟩
    show filterM cfgStar ⟨aDe.fullpath, de⟩ none = _
    rw [e] at hi ⊢
    exact star_rule_last_wins (dir := T "/src/de/browser/") (ext := T ".ftl") (x := T "a") (a := .warning)
      (by decide) (by decide) (by decide) (by decide) hi (by decide) hcov

/-- `filterm_eq_filter` needs `instantiate` to return, and only in this direction: with the raising rule BEFORE
    the applicable one the reverse scan never consults it — the code returns although `instantiate` raises; with
    the raising rule AFTER it the code raises. -/
theorem lazy_witness :
    filterM (.mk (some [de]) dupEnv none [cover] [boom, locStarRule] [] []) aDe none = .ok .warning ∧
    errIs (instantiate (.mk (some [de]) dupEnv none [cover] [boom, locStarRule] [] []) de aDe.fullpath) .reError = true ∧
    filterM (.mk (some [de]) dupEnv none [cover] [locStarRule, boom] [] []) aDe none = .error .reError :=
  of_decide_eq_true evaluated.2.2.2.1

/-- likewise a raising `l10n` path after a matching one is not consulted, and an included configuration that
    answers error returns before the own (raising) matchers are -/
example :
    filterM (.mk (some [de]) dupEnv none [cover, ⟨boom.path, none⟩] [] [] []) aDe none = .ok .error ∧
    filterM (.mk (some [de]) dupEnv none [⟨boom.path, none⟩, cover] [] [] []) aDe none = .error .reError ∧
    filterM (.mk (some [de]) dupEnv none [⟨boom.path, none⟩] [] [.mk none [] none [cover] [] [] []] []) aDe none
      = .ok .error := of_decide_eq_true evaluated.2.2.2.2.1

/-- `literal_rule_applies` needs a text without `*` / `{`: "/src/*" matches "/src/x", not itself only -/
example : patMatches [] none (T "/src/*") de (T "/src/x") = .ok true ∧
    patMatches [] none (T "/src/{locale}") de (T "/src/de") = .ok true := by decide +kernel

/-- `star_rule_scope` needs a non-empty directory part when the configuration is rooted: a rooted pattern that
    begins with a wildcard raises KeyError (finding F11) — and `filter` with it -/
example : patMatches [] (some (T "/r/")) (T "*.ftl") de (T "/r/a.ftl") = .error .keyError ∧
    filterM (.mk (some [de]) [] (some (T "/r/")) [⟨T "*.ftl", none⟩] [] [] []) ⟨T "/r/a.ftl", de⟩ none
      = .error .keyError := by decide +kernel

/-- a rooted configuration: relative patterns are relative to the root, absolute ones are not -/
example : patMatches [] (some (T "/r/")) (T "de/a.ftl") de (T "/r/de/a.ftl") = .ok true ∧
    patMatches [] (some (T "/r/")) (T "de/a.ftl") de (T "de/a.ftl") = .ok false ∧
    patMatches [] (some (T "/r/")) (T "/src/de/a.ftl") de (T "/src/de/a.ftl") = .ok true := by decide +kernel

/-- `locale_binding` (captured value) needs a locale text without specials: the locale text is parsed as a
    pattern, "d*" makes `{locale}` a wildcard -/
example : (boundMatcher [] none (T "/{locale}/a") (T "d*") >>= fun b => b.match (T "/de/a")) =
    .ok (some [(localeName, some (T "de")), (sname 1, some (T "e"))]) := by decide +kernel

/-- `environ_locale_overridden` evaluated: an `environ` entry "locale" = "zz" changes nothing -/
example : filterM (.mk (some [de, fr]) [(localeName, T "zz")] none [cover] [litRule, locStarRule] [] []) aFr none
    = .ok .warning := of_decide_eq_true evaluated.2.2.2.2.2.1


theorem exists_of_isOk {ε α : Type} {x : Except ε α} (h : isOk x = true) : ∃ b, x = .ok b := by
  cases x with
  | ok b => exact ⟨b, rfl⟩
  | error e => cases h

/-- non-vacuity of `last_rule_wins_lazy` exactly where `last_rule_wins_texts` does not apply: the configuration of
    `lazy_witness` — the rule BEFORE the winning one raises on `match` (so `instantiate` raises), its `with_env`
    returns; every hypothesis of the lazy theorem holds -/
example : filterM (.mk (some [de]) dupEnv none [cover] ([boom] ++ locStarRule :: []) [] []) aDe none = .ok .warning := by
  obtain ⟨hb, _, bc, bb, bl, pc, pl, _⟩ := evaluated.2.2.2.2.2.2.2
  obtain ⟨s, hbs⟩ := exists_of_isOk hb
  refine C14.last_rule_wins_lazy (r := locStarRule) hbs (by decide) ?_ ?_ ?_ ?_ ?_
  · intro p hp _
    simp only [List.mem_singleton] at hp
    subst hp
    exact exists_of_isOk bc
  · intro q hq
    simp only [List.cons_append, List.nil_append, List.mem_cons, List.not_mem_nil, or_false] at hq
    rcases hq with rfl | rfl
    · exact exists_of_isOk bb
    · exact exists_of_isOk bl
  · exact ⟨[], cover, [], rfl, (fun _ h => by cases h), of_decide_eq_true pc⟩
  · exact ⟨of_decide_eq_true pl, rfl⟩
  · intro q hq; cases hq

/-- … and `rule_raise_lazy` with the raising rule AFTER the applicable one -/
example : filterM (.mk (some [de]) dupEnv none [cover] ([locStarRule] ++ boom :: []) [] []) aDe none = .error .reError := by
  obtain ⟨_, hb, bc, bb, bl, pc, _, pb⟩ := evaluated.2.2.2.2.2.2.2
  obtain ⟨s, hbs⟩ := exists_of_isOk hb
  refine C14.rule_raise_lazy (r := boom) hbs (by decide) ?_ ?_ ?_ ?_ ?_
  · intro p hp _
    simp only [List.mem_singleton] at hp
    subst hp
    exact exists_of_isOk bc
  · intro q hq
    simp only [List.cons_append, List.nil_append, List.mem_cons, List.not_mem_nil, or_false] at hq
    rcases hq with rfl | rfl
    · exact exists_of_isOk bl
    · exact exists_of_isOk bb
  · exact ⟨[], cover, [], rfl, (fun _ h => by cases h), of_decide_eq_true pc⟩
  · exact of_decide_eq_true pb
  · intro q hq; cases hq

end ExamplesM



namespace ExamplesR4
open ObsM FiltObs FiltP PM

def one : List Nat := [111, 110, 101]
def two : List Nat := [116, 119, 111]
def obs1 : List Nat := [111, 98, 115]
def de : List Nat := [100, 101]
def everywhere : PathM := ⟨fun _ _ => true⟩
/-- rules: key "one" ignore, key "two" warning, key "obs" ignore; everything else error by default -/
def cfg : Config := .mk (some [de]) [⟨everywhere, none⟩]
  [⟨everywhere, some (.literal one), .ignore⟩, ⟨everywhere, some (.literal two), .warning⟩,
   ⟨everywhere, some (.literal obs1), .ignore⟩] [] []
def l10n : ObsM.File := ⟨[97], none, some de⟩
def flts : List (Option Filter) := [some (projectFilter cfg (fun _ => [1]))]
/-- missing: one (ignored), two (warning), x (error); obsolete: obs (ignored), y (counted) -/
def evs : List KeyEv := [.missing one 2, .missing two 3, .obsolete obs1, .missing [120] 5, .obsolete [121]]

def summaryOf (r : Except TreeM.PyErr (ObsList × CmpAcc)) : Option (CmpAcc × List (Nat × Nat × Nat)) :=
  match r with
  | .ok (l, a) => some (a, l.observers.map (fun o =>
      (getCount o.summary (some de) .missing, getCount o.summary (some de) .report, getCount o.summary (some de) .obsolete)))
  | .error _ => none

def detailCount (r : Except TreeM.PyErr (ObsList × CmpAcc)) : Option Nat :=
  match r with
  | .ok (l, _) => some ((TreeM.flatten l.own.details).flatMap (·.2)).length
  | .error _ => none

/-- the comparison evaluated at quiet 0, 1, 2 and 4: counters, merged keys, returned verdicts and summaries are the
    same (`compareq_quiet_free`), missing = 1 (x), report = 1 (two), obsolete = 1 (y), merged = [x], missing_w = 5;
    only the number of listed details shrinks: 3, 2, 0, 0 -/
example : summaryOf (compareQ (fresh 0 flts) l10n evs ⟨0, 0, 0, 0, 0⟩)
    = some (⟨1, 5, 1, 1, [[120]], [.ignore, .warning, .ignore, .error, .error]⟩, [(1, 1, 1)]) := by decide +kernel
example : summaryOf (compareQ (fresh 1 flts) l10n evs ⟨0, 0, 0, 0, 0⟩)
    = summaryOf (compareQ (fresh 0 flts) l10n evs ⟨0, 0, 0, 0, 0⟩) := by decide +kernel
example : summaryOf (compareQ (fresh 2 flts) l10n evs ⟨0, 0, 0, 0, 0⟩)
    = summaryOf (compareQ (fresh 0 flts) l10n evs ⟨0, 0, 0, 0, 0⟩) := by decide +kernel
example : summaryOf (compareQ (fresh 4 flts) l10n evs ⟨0, 0, 0, 0, 0⟩)
    = summaryOf (compareQ (fresh 0 flts) l10n evs ⟨0, 0, 0, 0, 0⟩) := by decide +kernel
example : detailCount (compareQ (fresh 0 flts) l10n evs ⟨0, 0, 0, 0, 0⟩) = some 3 ∧
    detailCount (compareQ (fresh 1 flts) l10n evs ⟨0, 0, 0, 0, 0⟩) = some 2 ∧
    detailCount (compareQ (fresh 2 flts) l10n evs ⟨0, 0, 0, 0, 0⟩) = some 0 := by decide +kernel

/-- `compareq_counts` needs `file.locale = some loc`: a file without locale is ignored altogether -/
example : summaryOf (compareQ (fresh 0 flts) ⟨[97], none, none⟩ evs ⟨0, 0, 0, 0, 0⟩)
    = some (⟨0, 0, 0, 0, [], [.ignore, .ignore, .ignore, .ignore, .ignore]⟩, [(0, 0, 0)]) := by decide +kernel

/-- `compareq_total` needs a modelled file (a `File` with a module has a locale) -/
example : (compareQ (fresh 0 [none]) ⟨[97], some [98], none⟩ [.missing [120] 1] ⟨0, 0, 0, 0, 0⟩).toOption.isNone = true := by
  decide +kernel

/-- the marker is removed once, whatever follows: `re:re:x` compiles `re:x`, `re:external` compiles `external`,
    `re::` compiles `:`; a literal key is escaped and gets the `$`: `a+b` compiles `a\+b$` -/
example : compiledKeyText (T "re:re:x") = T "re:x" ∧ compiledKeyText (T "re:external") = T "external" ∧
    compiledKeyText (T "re::") = T ":" ∧ compiledKeyText (T "re:") = [] ∧
    compiledKeyText (T "a+b") = T "a\\+b$" ∧ compiledKeyText (T "re") = T "re$" ∧ compiledKeyText (T "r:e:x") = T "r:e:x$" := by
  decide +kernel

/-- `match`, not `search`: the `re:` key `ne` does not accept the entity `one`; it accepts `next` (start only, no `$`) -/
example : (compileKey ⟨T "re:ne", .seq (.lit 110) (.lit 101)⟩).matches (T "one") = false ∧
    (compileKey ⟨T "re:ne", .seq (.lit 110) (.lit 101)⟩).matches (T "next") = true := by decide +kernel

/-- `literal_branch_is_translation` needs the translation to have the literal shape: `one.*` has not -/
example : litDollarText (.seq (.lit 111) (.rep 0 none true (.any false))) = none ∧
    litDollarText (escapedDollar one) = some one := by decide

/-- a callable: entity `one` → `"report"`, entity `two` → `None`, files → `False`, everything else raises -/
def py : PyFilter := fun _ _ e =>
  if e == some one then .str [114, 101, 112, 111, 114, 116] else if e == some two then .none
  else if e == none then .bool false else .raised
def fileP : FileP := ⟨[1], de, none, [97]⟩
def leafP (f : Option PyFilter) : ConfigP := .mk f (some [de]) [⟨everywhere, none⟩] [] [] []

/-- the callable wins at the root (report → warning, None stays None, False → ignore, raising → error); as an
    INCLUDED configuration its callable is dead (the paths cover, no rules: error); as an EXCLUDED one it is consulted
    (file verdict ignore: the exclude does not fire; with `True` it fires) -/
example :
    filterP (leafP (some py)) fileP (some one) = .ok (some .warning) ∧ filterP (leafP (some py)) fileP (some two) = .ok none ∧
    filterP (leafP (some py)) fileP none = .ok (some .ignore) ∧ filterP (leafP (some py)) fileP (some [120]) = .ok (some .error) ∧
    filterP (.mk none (some [de]) [] [] [leafP (some py)] []) fileP none = .ok (some .error) ∧
    filterP (.mk none (some [de]) [⟨everywhere, none⟩] [] [] [leafP (some py)]) fileP none = .ok (some .error) ∧
    filterP (.mk none (some [de]) [⟨everywhere, none⟩] [] [] [leafP (some (fun _ _ _ => .bool true))]) fileP none
      = .ok (some .ignore) := by decide +kernel

/-- `filterp_no_py` needs `noPy`: with the callable the answer differs from the rule semantics of the erased tree -/
example : filterP (leafP (some py)) fileP none = .ok (some .ignore) ∧
    filter (erase (leafP (some py))) fileP.toFile none = .error := by decide

/-- the guards: rules then callable / callable then rules → AssertionError; an included configuration with excludes,
    an excluded configuration whose included one has excludes → ExcludeError -/
example :
    ((addRulesP ConfigP.empty [⟨.one everywhere, none, .ignore⟩]).bind (fun c => setFilterPy c py)).toOption.isNone = true ∧
    ((setFilterPy ConfigP.empty py).bind (fun c => addRulesP c [])).toOption.isNone = true ∧
    ((addRulesP ConfigP.empty []).bind (fun c => setFilterPy c py)).toOption.isSome = true ∧
    (addChild ConfigP.empty (.mk none none [] [] [] [ConfigP.empty])).toOption.isNone = true ∧
    (excludeP ConfigP.empty (.mk none none [] [] [.mk none none [] [] [] [ConfigP.empty]] [])).toOption.isNone = true ∧
    (excludeP ConfigP.empty (.mk none none [] [] [ConfigP.empty] [])).toOption.isSome = true := by decide +kernel

/-- `set_locales(["fr"], deep=True)` on a parent without locales whose included configuration names `de` only:
    afterwards `fr` is named and `de` is not; the excluded configuration keeps its own locales -/
example :
    (allLocalesP (setLocalesDeep (.mk none none [] [] [leafP none] [leafP none]) (some [[102, 114]]))) = [[102, 114], [102, 114]] ∧
    (setLocalesDeep (.mk none none [] [] [] [leafP none]) (some [[102, 114]])).excludes.map (·.locales) = [some [de]] := by
  decide +kernel

end ExamplesR4

end C14
