/-
C03 — Comparison reports exactly the missing, obsolete and changed strings.
The specification vocabulary `lastEnt`, `classOf`, `isCls`, `wordsOf`, `noFilter`, `distinct`, `Report.missingKeys`,
`Report.obsoleteKeys` is defined in CLModel/Proofs/C03.lean.

Reading guide.  `ref`, `l10n` are the entity lists `p.parse()` returns for the two files (junk
included), `R = ref.map key`, `L = l10n.map key`.  `lastEnt es k` is the last entity with key `k`
(what `KeyedTuple.__getitem__` returns, C20).  `classOf ref l10n k` classifies a key:
  in R only: `refJunk` if that entity is junk, else `missing`;  in L only: `l10nJunk` / `obsolete`;
  in both:   `binding` if `isinstance(k, str) and keyRE.search(k)`, else `unchanged` if
             `refent.equals(l10nent)`, else `changed`.
`compareEntities ref l10n noFilter = .ok r`: the loop of `ContentComparer.compare` ran with one
observer that filters nothing; `r.updates` are the `updateStats` calls, `r.notes` the details.
"Distinct keys" are given as any duplicate-free list with the same members (`distinct R` is one).
-/
import CLModel.Compare.Content
import CLModel.Compare.Session
import CLModel.Compare.FluentEnt
import CLModel.Proofs.C03
import CLModel.Proofs.C03Sess
import CLModel.Proofs.C03SessCmp
import CLModel.Proofs.C03Ftl
import CLModel.Proofs.C03Val
import CLModel.Proofs.C03Hist
namespace C03
open Cmp

/-- Every `ref_entities[entity_id]` / `l10n_entities[entity_id]` the loop of `ContentComparer.compare` evaluates succeeds,
    whatever the two entity lists and the filter are.  `compareEntities` has no `equals` that can fail: for a reference `Junk`
    whose key also occurs in the localization the code raises (`Junk` has no `equals`; `Sess.stepEnt` models it as
    `attributeError`, finding F8 of C05), the loop here counts the key by its class numbers. -/
theorem compare_total (ref l10n : List Ent) (v : Key → Verdict) :
    ∃ r, compareEntities ref l10n v = .ok r :=
  ⟨_, compare_eq ref l10n v⟩

/-- `observers.updateStats(l10n, stats)` is called exactly once per comparison. -/
theorem stats_once (ref l10n : List Ent) (v : Key → Verdict) (r : Report)
    (h : compareEntities ref l10n v = .ok r) : r.updates.length = 1 := by
  rw [compare_eq] at h
  cases h
  rfl

/-- What the classes mean, in terms of the two files. -/
theorem class_rules (ref l10n : List Ent) (k : Key) :
    (classOf ref l10n k = .missing ↔ ∃ a, lastEnt ref k = some a ∧ a.junk = false ∧ lastEnt l10n k = none) ∧
    (classOf ref l10n k = .obsolete ↔ ∃ b, lastEnt l10n k = some b ∧ b.junk = false ∧ lastEnt ref k = none) ∧
    (∀ a b, lastEnt ref k = some a → lastEnt l10n k = some b →
      classOf ref l10n k = (if keyMatch k then .binding else if a.cls == b.cls then .unchanged else .changed)) ∧
    (lastEnt ref k = none ↔ k ∉ ref.map (·.key)) ∧ (lastEnt l10n k = none ↔ k ∉ l10n.map (·.key)) :=
  ⟨classOf_missing ref l10n k, classOf_obsolete ref l10n k, fun a b ha hb => classOf_shared ref l10n k a b ha hb,
    lastEnt_none ref k, lastEnt_none l10n k⟩

/-- All files (duplicate keys allowed), nothing filtered: the `missingEntity` notifications list every
    distinct reference key of class `missing` exactly once and nothing else; `missing` is their number,
    `missing_w` the sum of the reference word counts over them. -/
theorem missing_set (ref l10n : List Ent) (DR : List Key) (hn : DR.Nodup)
    (hm : ∀ k, k ∈ DR ↔ k ∈ ref.map (·.key)) (r : Report)
    (h : compareEntities ref l10n noFilter = .ok r) :
    ∃ s : Stats, r.updates = [s.toDict] ∧ r.missingKeys.Nodup ∧
      r.missingKeys.Perm (DR.filter (isCls ref l10n .missing)) ∧
      s.missing = r.missingKeys.length ∧ s.missing_w = (r.missingKeys.map (wordsOf ref)).sum := by
  obtain ⟨s, c⟩ := compare_noFilter h
  rw [c.missingKeys]
  exact ⟨s, c.updates, (diffKeys_nodup ref l10n).filter _, diff_filter_ref ref l10n .missing rfl DR hn hm,
    c.missing, c.missing_w⟩

/-- Duplicate-free files, nothing filtered: the missing strings are reported exactly as the non-junk
    reference entities whose key is absent from the localization, in the order of the reference file. -/
theorem missing_exact (ref l10n : List Ent) (hr : (ref.map (·.key)).Nodup) (hl : (l10n.map (·.key)).Nodup)
    (r : Report) (h : compareEntities ref l10n noFilter = .ok r) :
    r.missingKeys = (ref.filter (fun e => !e.junk && !(l10n.map (·.key)).contains e.key)).map (·.key) := by
  obtain ⟨s, c⟩ := compare_noFilter h
  rw [c.missingKeys]
  have h2 : (diffKeys ref l10n).filter (isCls ref l10n .missing)
      = ((diffKeys ref l10n).filter (fun k => (ref.map (·.key)).contains k)).filter (isCls ref l10n .missing) := by
    rw [List.filter_filter]
    apply List.filter_congr
    intro k _
    cases hk : isCls ref l10n .missing k
    · rfl
    · have := mem_ref_of_class ref l10n k .missing rfl (by simpa [isCls] using hk)
      simp [this]
  rw [h2, diffKeys_filter_ref ref l10n hr hl, List.filter_map]
  congr 1
  apply List.filter_congr
  intro e he
  exact isCls_missing_of_nodup ref l10n hr e he

/-- All files, nothing filtered: the `obsoleteEntity` notifications list every distinct localization key
    of class `obsolete` exactly once and nothing else; `obsolete` is their number. -/
theorem obsolete_set (ref l10n : List Ent) (DL : List Key) (hn : DL.Nodup)
    (hm : ∀ k, k ∈ DL ↔ k ∈ l10n.map (·.key)) (r : Report)
    (h : compareEntities ref l10n noFilter = .ok r) :
    ∃ s : Stats, r.updates = [s.toDict] ∧ r.obsoleteKeys.Nodup ∧
      r.obsoleteKeys.Perm (DL.filter (isCls ref l10n .obsolete)) ∧ s.obsolete = r.obsoleteKeys.length := by
  obtain ⟨s, c⟩ := compare_noFilter h
  rw [c.obsoleteKeys]
  exact ⟨s, c.updates, (diffKeys_nodup ref l10n).filter _, diff_filter_l10n ref l10n .obsolete rfl DL hn hm,
    c.obsolete⟩

/-- Duplicate-free localization, nothing filtered: the obsolete strings are exactly (as a set, each once)
    the non-junk localized entities whose key is absent from the reference. -/
theorem obsolete_exact (ref l10n : List Ent) (hl : (l10n.map (·.key)).Nodup)
    (r : Report) (h : compareEntities ref l10n noFilter = .ok r) :
    r.obsoleteKeys.Perm ((l10n.filter (fun e => !e.junk && !(ref.map (·.key)).contains e.key)).map (·.key)) := by
  obtain ⟨s, _, _, hp, _⟩ := obsolete_set ref l10n (l10n.map (·.key)) hl (fun _ => Iff.rfl) r h
  refine hp.trans ?_
  rw [List.filter_map]
  apply List.Perm.of_eq
  congr 1
  apply List.filter_congr
  intro e he
  exact isCls_obsolete_of_nodup ref l10n hl e he

/-- Nothing filtered: every shared key (DS: the distinct keys present in both files) is counted in exactly
    one of `keys` / `unchanged` / `changed`, namely the one `classOf` names (key binding by name, else by
    `equals` of the last entities); the word counters are the reference word sums over the same sets. -/
theorem shared_once (ref l10n : List Ent) (DS : List Key) (hn : DS.Nodup)
    (hm : ∀ k, k ∈ DS ↔ (k ∈ ref.map (·.key) ∧ k ∈ l10n.map (·.key))) (r : Report)
    (h : compareEntities ref l10n noFilter = .ok r) :
    ∃ s : Stats, r.updates = [s.toDict] ∧
      s.keys = (DS.filter (isCls ref l10n .binding)).length ∧
      s.unchanged = (DS.filter (isCls ref l10n .unchanged)).length ∧
      s.changed = (DS.filter (isCls ref l10n .changed)).length ∧
      s.unchanged_w = ((DS.filter (isCls ref l10n .unchanged)).map (wordsOf ref)).sum ∧
      s.changed_w = ((DS.filter (isCls ref l10n .changed)).map (wordsOf ref)).sum ∧
      s.keys + s.unchanged + s.changed = DS.length ∧
      (∀ k ∈ DS, classOf ref l10n k = .binding ∨ classOf ref l10n k = .unchanged ∨ classOf ref l10n k = .changed) := by
  obtain ⟨s, c⟩ := compare_noFilter h
  exact ⟨s, c.updates, c.shared DS hn hm⟩

/-- Nothing filtered: `missing + changed + unchanged + keys` is the number of distinct reference keys
    except those of class `refJunk` (unshared reference junk); nothing is merely reported. -/
theorem counts_partition (ref l10n : List Ent) (DR : List Key) (hn : DR.Nodup)
    (hm : ∀ k, k ∈ DR ↔ k ∈ ref.map (·.key)) (r : Report)
    (h : compareEntities ref l10n noFilter = .ok r) :
    ∃ s : Stats, r.updates = [s.toDict] ∧
      s.missing + s.changed + s.unchanged + s.keys = (DR.filter (fun k => !isCls ref l10n .refJunk k)).length ∧
      s.report = 0 := by
  obtain ⟨s, c⟩ := compare_noFilter h
  refine ⟨s, c.updates, ?_, c.report⟩
  have e0 := (diff_filter_ref ref l10n .missing rfl DR hn hm).length_eq
  have e1 := (diff_filter_ref ref l10n .changed rfl DR hn hm).length_eq
  have e2 := (diff_filter_ref ref l10n .unchanged rfl DR hn hm).length_eq
  have e3 := (diff_filter_ref ref l10n .binding rfl DR hn hm).length_eq
  have p4 := part4 DR (classOf ref l10n) (fun k hk => (ofRef_classOf ref l10n k).trans (List.contains_iff_mem.2 ((hm k).1 hk)))
  rw [c.missing, c.changed, c.unchanged, c.keys, e0, e1, e2, e3]
  exact p4

/-- Duplicate-free reference whose junk is not shared with the localization, nothing filtered:
    `missing + changed + unchanged + keys` = number of (non-junk) reference strings. -/
theorem counts_partition_nodup (ref l10n : List Ent) (hr : (ref.map (·.key)).Nodup)
    (hj : ∀ e ∈ ref, e.junk = true → e.key ∉ l10n.map (·.key)) (r : Report)
    (h : compareEntities ref l10n noFilter = .ok r) :
    ∃ s : Stats, r.updates = [s.toDict] ∧
      s.missing + s.changed + s.unchanged + s.keys = (ref.filter (fun e => !e.junk)).length := by
  obtain ⟨s, hs, hsum, _⟩ := counts_partition ref l10n (ref.map (·.key)) hr (fun _ => Iff.rfl) r h
  refine ⟨s, hs, ?_⟩
  rw [hsum, List.filter_map, List.length_map]
  congr 1
  apply List.filter_congr
  intro e he
  simp only [Function.comp, isCls_refJunk_of_nodup ref l10n hr e he]
  cases hje : e.junk
  · rfl
  · have := hj e he hje
    have hc : (l10n.map (·.key)).contains e.key = false := by
      rw [← Bool.not_eq_true, List.contains_iff_mem]; exact this
    rw [hc]; rfl

/-- Nothing filtered: `missing_w + changed_w + unchanged_w` is the sum of the reference word counts over the
    distinct reference keys that are missing, changed or unchanged (i.e. all but key bindings and unshared junk). -/
theorem words_partition (ref l10n : List Ent) (DR : List Key) (hn : DR.Nodup)
    (hm : ∀ k, k ∈ DR ↔ k ∈ ref.map (·.key)) (r : Report)
    (h : compareEntities ref l10n noFilter = .ok r) :
    ∃ s : Stats, r.updates = [s.toDict] ∧
      s.missing_w + s.changed_w + s.unchanged_w =
        ((DR.filter (fun k => isCls ref l10n .missing k || isCls ref l10n .changed k || isCls ref l10n .unchanged k)).map
          (wordsOf ref)).sum := by
  obtain ⟨s, c⟩ := compare_noFilter h
  refine ⟨s, c.updates, ?_⟩
  have e0 := ((diff_filter_ref ref l10n .missing rfl DR hn hm).map (wordsOf ref)).sum_nat
  have e1 := ((diff_filter_ref ref l10n .changed rfl DR hn hm).map (wordsOf ref)).sum_nat
  have e2 := ((diff_filter_ref ref l10n .unchanged rfl DR hn hm).map (wordsOf ref)).sum_nat
  rw [c.missing_w, c.changed_w, c.unchanged_w, e0, e1, e2]
  exact part3w DR (classOf ref l10n) (wordsOf ref)

/-- `ContentComparer.add` (missing file, not filtered out): one `missingFile` notification, then `missing` =
    number of non-junk reference entities (duplicates counted) and `missing_w` = the sum of their word counts,
    pushed in two `updateStats` calls; a file the filter ignores pushes nothing. -/
theorem missing_file (ref : List Ent) :
    addMissing ref .error =
      { updates := [[("missing", (ref.filter (fun e => !e.junk)).length)],
                    [("missing_w", ((ref.filter (fun e => !e.junk)).map (·.words)).sum)]],
        notes := [.missingFile .error] } ∧
    addMissing ref .ignore = { updates := [], notes := [] } := by
  constructor
  · simp [addMissing, foldl_words]
  · rfl

/-- gettext keys are `(msgid, msgctxt)` tuples: they are never key bindings, a shared gettext string is
    always classified by `equals`. -/
theorem po_keys_never_bindings (ref l10n : List Ent) (msgid : List Nat) (ctxt : Option (List Nat)) :
    keyMatch (.tup msgid ctxt) = false ∧ classOf ref l10n (.tup msgid ctxt) ≠ .binding := by
  refine ⟨rfl, ?_⟩
  unfold classOf
  cases lastEnt ref (.tup msgid ctxt) <;> cases lastEnt l10n (.tup msgid ctxt) <;> simp [keyMatch] <;>
    (repeat' split) <;> simp

/-- `distinct` provides the duplicate-free key lists the theorems above quantify over -/
theorem distinct_ok (ks : List Key) : (distinct ks).Nodup ∧ (∀ k, k ∈ distinct ks ↔ k ∈ ks) ∧
    (ks.Nodup → distinct ks = ks) :=
  ⟨distinct_nodup ks, mem_distinct ks, distinct_of_nodup ks⟩

/-- the reference of the example: "a", "bkey", "c", "d" and one junk; `exL10n` has "e", "c", "a", "bkey" and another junk -/
def exRef : List Ent :=
  [⟨.str [97], false, 1, 1, 0⟩, ⟨.str [98, 107, 101, 121], false, 2, 2, 0⟩, ⟨.str [99], false, 3, 3, 0⟩,
   ⟨.str [100], false, 4, 4, 0⟩, ⟨.str [95, 49], true, 0, 0, 7⟩]

def exL10n : List Ent :=
  [⟨.str [101], false, 1, 6, 0⟩, ⟨.str [99], false, 1, 5, 0⟩, ⟨.str [97], false, 1, 1, 0⟩,
   ⟨.str [98, 107, 101, 121], false, 1, 9, 0⟩, ⟨.str [95, 50], true, 0, 0, 8⟩]

/-- the model on a reordered localization with one string of every class: "d" missing (4 words), "e" obsolete,
    "a" unchanged, "c" changed (3 words), "bkey" a key binding, junk on both sides -/
example : ∃ (s : Stats) (notes : List Note), compareEntities exRef exL10n noFilter = .ok { updates := [s.toDict], notes := notes } ∧
    s = { missing := 1, missing_w := 4, report := 0, obsolete := 1, changed := 1, changed_w := 3,
          unchanged := 1, unchanged_w := 1, keys := 1 } ∧
    notes = [.obsoleteEntity (.str [101]), .error (.junk 8), .missingEntity (.str [100]), .warning .refJunk] := by
  refine ⟨_, _, compare_eq _ _ _, ?_, ?_⟩
  · simp only [diffKeys]
    rw [AR.addRemove_eq_spec _ _ (by decide) (by decide)]
    decide
  · simp only [diffKeys]
    rw [AR.addRemove_eq_spec _ _ (by decide) (by decide)]
    decide

/-- the hypotheses of the duplicate-free theorems hold for this pair, and `missing_exact` yields ["d"] -/
example : ∀ r, compareEntities exRef exL10n noFilter = .ok r → r.missingKeys = [.str [100]] := by
  intro r h
  rw [missing_exact exRef exL10n (by decide) (by decide) r h]
  decide

example : (exRef.map (·.key)).Nodup ∧ (exL10n.map (·.key)).Nodup ∧
    (∀ e ∈ exRef, e.junk = true → e.key ∉ exL10n.map (·.key)) ∧ (exRef.filter (fun e => !e.junk)).length = 4 := by
  decide +kernel

/-- a gettext pair: the shared tuple key is classified by `equals`, never as a key binding -/
example : classOf [⟨.tup [107, 101, 121] none, false, 1, 1, 0⟩] [⟨.tup [107, 101, 121] none, false, 1, 2, 0⟩]
    (.tup [107, 101, 121] none) = .changed ∧ keyMatch (.str [107, 101, 121]) = true := by decide +kernel

/-! ### negation witnesses: what the duplicate-free hypotheses exclude

With a duplicated reference key the loop still reports the key once (`missing_set`), so the list of
`missingEntity` notifications cannot be the entity-by-entity list of `missing_exact`; the same for
`obsolete_exact`.  `counts_partition_nodup` needs "reference junk is not shared": `compareEntities` counts a junk key that also
occurs in the localization as a changed string (the code raises there, see `compare_total`). -/

example : ∀ r, compareEntities [⟨.str [97], false, 1, 1, 0⟩, ⟨.str [98], false, 1, 2, 0⟩, ⟨.str [97], false, 1, 3, 0⟩] []
      noFilter = .ok r →
    r.missingKeys ≠ [.str [97], .str [98], .str [97]] := by
  intro r h e
  obtain ⟨_, _, hn, _⟩ := missing_set _ _ _ (distinct_nodup _) (mem_distinct _) r h
  rw [e] at hn
  revert hn
  decide

example : ∀ r, compareEntities [] [⟨.str [97], false, 1, 1, 0⟩, ⟨.str [97], false, 1, 3, 0⟩] noFilter = .ok r →
    r.obsoleteKeys ≠ [.str [97], .str [97]] := by
  intro r h e
  obtain ⟨_, _, hn, _⟩ := obsolete_set _ _ _ (distinct_nodup _) (mem_distinct _) r h
  rw [e] at hn
  revert hn
  decide

example : ∃ (s : Stats) (notes : List Note), compareEntities [⟨.str [120], true, 0, 0, 1⟩] [⟨.str [120], false, 1, 1, 0⟩] noFilter
      = .ok { updates := [s.toDict], notes := notes } ∧
    s.missing + s.changed + s.unchanged + s.keys = 1 ∧
    ([⟨.str [120], true, 0, 0, 1⟩] : List Ent).filter (fun e => !e.junk) = [] := by
  refine ⟨_, _, compare_eq _ _ _, ?_, by decide⟩
  simp only [diffKeys]
  rw [AR.addRemove_eq_spec _ _ (by decide) (by decide)]
  decide

/-! ### ONE comparer, a sequence of jobs — `compareProjects` drives one `ContentComparer` through the files of all locales

`Sess.run ext l0 jobs` (CLModel/Compare/Session.lean; `ext` = the external library functions of the pipeline model of C05,
`Pipe.Ext`, which only `text` jobs on DTD texts consult — every theorem holds FOR ALL `ext`): the jobs (`compare` / `add` / `remove` of a reference `File` and a localized
`File`) run one after the other on the same `ObserverList` `l0` (the list's own `Observer` state plus the project observers).
`getCount s L key` is `s.get(L, {}).get(key, 0)` of a summary.  `C03S.Tr l l' evs`: the `notify` / `updateStats` calls `evs`
lead from `l` to `l'`.  `C03S.touches L j`: one of the files the job reports about (`C03S.jobFiles`: both files of a `compare` or
`add`, the localized file alone of a `remove`) has locale `L`. -/

open ObsM in
/-- A job none of whose files has locale `L` leaves `summary[L]` alone — in the list's own summary and in the summary of
    every project observer, for all eleven counters.  (With the per-locale dicts of `Observer.__init__` shared between the
    locales this is false: every job would move the counters of every locale.) -/
theorem job_leaves_other_locales_alone (ext : Pipe.Ext) (l l' : ObsList) (j : Sess.Job) (o : Merge.Outcome)
    (hown : l.own.filter = none)
    (h : Sess.runJob ext l j = .ok (l', o)) (L : Option Sess.Text) (hL : C03S.touches L j = false) :
    (∀ key, getCount l'.own.summary L key = getCount l.own.summary L key) ∧
      All₂ (fun ob ob' => ∀ key, getCount ob'.summary L key = getCount ob.summary L key) l.observers l'.observers := by
  obtain ⟨evs, t, on⟩ := C03S.runJob_tr ext l l' j o h
  have hz := C03S.on_not_touching on hL
  refine ⟨?_, ?_⟩
  · intro key
    rw [list_run_counts t hown L key, C03S.countSpec_other_locale _ L key evs hz]; rfl
  · refine All₂.imp ?_ (C03S.tr_observers t hown)
    intro ob ob' hob key
    rw [hob L key, C03S.countSpec_other_locale _ L key evs hz]; rfl

open ObsM in
/-- After ANY sequence of jobs on one comparer, `summary[L][key]` — of the list and of every project observer — is what it was
    before plus the sum, over the jobs that touch locale `L` ONLY, of what that job's own notifications and stats count for
    (`countSpec`: one per non-ignored error / warning notification of the locale, plus the non-ignored stats values); the jobs
    are blocks `trs` of one history, each block about its job's own two files. -/
theorem session_summary_is_locale_sum (ext : Pipe.Ext) (l0 l' : ObsList) (jobs : List Sess.Job) (os : List Merge.Outcome)
    (hown : l0.own.filter = none) (h : Sess.run ext l0 jobs = .ok (l', os)) :
    ∃ trs : List (List Ev), All₂ (fun j evs => C03S.On (C03S.jobFiles j) evs) jobs trs ∧ C03S.Tr l0 l' trs.flatten ∧
      (∀ L key, getCount l'.own.summary L key = getCount l0.own.summary L key +
        (((jobs.zip trs).filter (fun p => C03S.touches L p.1)).map (fun p => countSpec (ignList l0.filters) L key p.2)).sum) ∧
      All₂ (fun ob ob' => ∀ L key, getCount ob'.summary L key = getCount ob.summary L key +
        (((jobs.zip trs).filter (fun p => C03S.touches L p.1)).map (fun p => countSpec (ignObs ob.filter) L key p.2)).sum)
        l0.observers l'.observers := by
  obtain ⟨trs, hall, t⟩ := C03S.run_tr ext jobs l0 l' os h
  refine ⟨trs, hall, t, ?_, ?_⟩
  · intro L key
    rw [list_run_counts t hown L key, C03S.sum_flatten, C03S.sum_touching _ L key jobs trs hall]
  · refine All₂.imp ?_ (C03S.tr_observers t hown)
    intro ob ob' hob L key
    rw [hob L key, C03S.sum_flatten, C03S.sum_touching _ L key jobs trs hall]

open ObsM in
/-- What ONE comparison adds to the list's own summary, whatever the observers have accumulated before: the stats are those of
    `compareEntities` (every theorem above applies to them) under the verdicts `ObserverList.notify` returns for the project
    observers' filters; and the nine string counters of `summary[locale of the localized file]` grow by exactly these stats,
    those of every other locale by nothing. -/
theorem compare_job_adds_its_counts (file : File) (j : Sess.EntJob) (l l' : ObsList) (hown : l.own.filter = none)
    (h : Sess.compareEnts file j l = .ok l') :
    ∃ (s : Stats) (notes : List Note),
      compareEntities j.ref j.l10n (C03S.verdictOf l.filters file) = .ok { updates := [s.toDict], notes := notes } ∧
      ∀ L key, key ≠ .errors → key ≠ .warnings →
        getCount l'.own.summary L key = getCount l.own.summary L key + (if file.locale = L then C03S.statOf s key else 0) := by
  obtain ⟨evs, s, notes, t, hn, hc⟩ := C03S.compareEnts_refines file j l l' h
  refine ⟨s, notes, hc, ?_⟩
  intro L key hk1 hk2
  rw [list_run_counts t hown L key, C03S.block_count l.filters file evs hn s L key hk1 hk2]

/-- With project observers that filter nothing (at least one), the verdict is "error" for every key: the job's stats are
    those of `compareEntities … noFilter`, the object of `missing_set`, `obsolete_set`, `shared_once`, `counts_partition`. -/
theorem unfiltered_job_is_plain_comparison (F : List (Option ObsM.Filter)) (file : ObsM.File) (hne : F ≠ [])
    (hall : ∀ x ∈ F, x = none) : C03S.verdictOf F file = noFilter := by
  open ObsM C03S in
  funext k
  unfold verdictOf Cmp.noFilter
  have hmap : F.map (fun flt => rvOf flt .missingEntity file (Pipe.keyData k)) = F.map (fun _ => Ret.error) := by
    apply List.map_congr_left
    intro x hx
    rw [hall x hx]; rfl
  rw [hmap]
  cases F with
  | nil => exact absurd rfl hne
  | cons a rest => simp +decide [listRet, toV]

/-- non-vacuity: two locales through one comparer with one unfiltered project observer — a missing file of `de` (3 strings,
    5 words), then one of `fr` (1 string, 2 words): the run returns, and each locale's summary — of the list and of the
    project observer — holds its own numbers only.  (Entity-level jobs: no external function is consulted; `default` is the
    `Pipe.Ext` of the driver operations that send no table.) -/
example : (match Sess.run default (ObsM.ObsList.init 0 [ObsM.Obs.init 0 none])
      [.add ⟨[97], none, none⟩ ⟨[100, 101, 47, 97], none, some [100, 101]⟩ false
          (.ents 6 [⟨.str [97], false, 2, 1, 0⟩, ⟨.str [98], false, 2, 2, 0⟩, ⟨.str [99], false, 1, 3, 0⟩]),
       .add ⟨[97], none, none⟩ ⟨[102, 114, 47, 97], none, some [102, 114]⟩ false (.ents 6 [⟨.str [97], false, 2, 1, 0⟩])] with
    | .ok (l', _) =>
      (l'.own :: l'.observers).all (fun o =>
        ObsM.getCount o.summary (some [100, 101]) .missing == 3 && ObsM.getCount o.summary (some [102, 114]) .missing == 1 &&
        ObsM.getCount o.summary (some [100, 101]) .missing_w == 5 && ObsM.getCount o.summary (some [102, 114]) .missing_w == 2)
    | .error _ => false) = true := by decide +kernel

/-! ### Fluent: `FluentEntity.equals`, `FluentAttribute.equals`, `count_words` on the fluent.syntax AST

`FtlC.equals self other` = `self.entry.equals(other.entry, ignored_fields)`, `FtlC.countWords` = `count_words()`
(CLModel/Compare/FluentEnt.lean).  `C03F.erase…` rewrite every span start of an AST to 0; `C03F.sameEq a b` is `equals`
between two messages or two terms (what the loop evaluates: the two entities have the same key). -/

/-- `equals` compares the id, the span-erased value and — unless `self` is a term — the span-erased attributes in order;
    nothing else (no span, no comment, not even the class of `other`). -/
theorem fluent_equals_is_erased_equality (self other : Ftl.Entry) : FtlC.equals self other = true ↔
    FtlC.entId self = FtlC.entId other ∧
      (FtlC.entValue self).map C03F.erasePattern = (FtlC.entValue other).map C03F.erasePattern ∧
      (FtlC.isTerm self = true ∨ C03F.eraseAttrs (FtlC.entAttrs self) = C03F.eraseAttrs (FtlC.entAttrs other)) :=
  C03F.equals_iff self other

/-- `FluentAttribute.equals`: same name and span-erased pattern. -/
theorem fluent_attribute_equals (a b : Ftl.Attribute) : FtlC.eqAttr a b = true ↔ C03F.eraseAttr a = C03F.eraseAttr b :=
  C03F.eqAttr_iff a b

/-- Between entries of the same class (two messages, two terms: `C03F.sameEq`) `equals` is an equivalence relation; across the
    classes it is not even symmetric (witness below). -/
theorem fluent_equals_equivalence :
    (∀ a, C03F.sameEq a a = true) ∧ (∀ a b, C03F.sameEq a b = C03F.sameEq b a) ∧
      (∀ a b c, C03F.sameEq a b = true → C03F.sameEq b c = true → C03F.sameEq a c = true) :=
  ⟨C03F.sameEq_refl, C03F.sameEq_symm, C03F.sameEq_trans⟩

/-- Spans, comments (and with them indentation and blank lines, which only move spans) are invisible: an entry `equals` its
    span-erased form, has the same word count, `equals a b` can be computed on the span-erased forms, and the entity lists
    of a file do not depend on the comments. -/
theorem fluent_equals_ignores_spans_and_comments :
    (∀ e, C03F.sameEq e (C03F.eraseEntry e) = true) ∧
    (∀ a b, C03F.sameEq a b = C03F.sameEq (C03F.eraseEntry a) (C03F.eraseEntry b)) ∧
    (∀ e, FtlC.countWords (C03F.eraseEntry e) = FtlC.countWords e) ∧
    (∀ items reps, FtlC.toEnts (items.map C03F.dropComment) reps = FtlC.toEnts items reps) := by
  refine ⟨C03F.sameEq_erase, ?_, C03F.countWords_erase, C03F.toEnts_comments⟩
  intro a b
  rw [Bool.eq_iff_iff, C03F.sameEq_key, C03F.sameEq_key, C03F.sameKey_erase, C03F.sameKey_erase]

/-- Word counts as the code defines them: a select expression counts the text of ALL its variants and nothing of its
    selector; a pattern is the sum of its elements, a text element its white-space separated words, literals and references
    nothing; a message counts value and attributes, a term its value only. -/
theorem fluent_word_counts :
    (∀ sel vs, FtlC.wExpr (.select sel vs) = (vs.map (fun v => FtlC.wPattern (C03F.variantValue v))).sum) ∧
    (∀ st els, FtlC.wPattern (.mk st els) = (els.map FtlC.wElem).sum) ∧
    (∀ v, FtlC.wElem (.text v) = splitCount v) ∧
    (∀ v, FtlC.wExpr (.strLit v) = 0) ∧ (∀ v, FtlC.wExpr (.numLit v) = 0) ∧ (∀ v, FtlC.wExpr (.varRef v) = 0) ∧
    (∀ s i a, FtlC.wExpr (.msgRef s i a) = 0) ∧
    (∀ m : Ftl.Message, FtlC.countWords (.message m) =
      (match m.value with | some p => FtlC.wPattern p | none => 0) + (m.attributes.map (fun a => FtlC.wPattern a.value)).sum) ∧
    (∀ t : Ftl.Term, FtlC.countWords (.term t) = FtlC.wPattern t.value) := by
  refine ⟨?_, ?_, ?_, ?_, ?_, ?_, ?_, ?_, ?_⟩
  · intro sel vs; simp [FtlC.wExpr, C03F.wVariants_sum]
  · intro st els; simp [FtlC.wPattern, C03F.wElems_sum]
  · intro v; simp [FtlC.wElem]
  · intro v; simp [FtlC.wExpr]
  · intro v; simp [FtlC.wExpr]
  · intro v; simp [FtlC.wExpr]
  · intro s i a; simp [FtlC.wExpr]
  · intro m
    obtain ⟨st, id, v, as⟩ := m
    cases v <;> simp [FtlC.countWords, C03F.wAttrs_sum]
  · intro t; simp [FtlC.countWords]

/-- changed ⇔ ¬equals: in the entity lists the loop gets for two Fluent files, a reference entity and a localized entity carry
    the same class number iff `equals` holds between them (and the word count is `count_words` of the AST) — so `class_rules`
    reads: a shared key that is no key binding is `unchanged` iff the localized entry `equals` the reference entry. -/
theorem fluent_classes_are_equals (ref l10n : List FtlC.Item) (i j : Nat) (k1 k2 : Key) (c1 c2 : Option Ftl.Str)
    (e1 e2 : Ftl.Entry) (h1 : ref[i]? = some (.ent k1 c1 e1)) (h2 : l10n[j]? = some (.ent k2 c2 e2)) :
    ∃ a b, (FtlC.toEnts ref []).1[i]? = some a ∧ (FtlC.toEnts l10n (FtlC.toEnts ref []).2).1[j]? = some b ∧
      a.key = k1 ∧ b.key = k2 ∧ a.junk = false ∧ b.junk = false ∧ a.words = FtlC.countWords e1 ∧
      b.words = FtlC.countWords e2 ∧ ((a.cls == b.cls) = C03F.sameEq e1 e2) := by
  open FtlC C03F in
  obtain ⟨r1, _, r3, r4⟩ := toEnts_eq ref [] (by simp [Indep])
  obtain ⟨l1, l2, l3, l4⟩ := toEnts_eq l10n (toEnts ref []).2 r1
  obtain ⟨ia, ha⟩ := r4 k1 c1 e1 (List.mem_of_getElem? h1)
  obtain ⟨ib, hb⟩ := l4 k2 c2 e2 (List.mem_of_getElem? h2)
  refine ⟨_, _, by rw [r3, List.getElem?_map, h1]; rfl, by rw [l3, List.getElem?_map, h2]; rfl, rfl, rfl, rfl, rfl, rfl, rfl, ?_⟩
  have := indep_idx l1 (findIdx_prefix l2 ha) hb
  rw [entOf, entOf, ha, hb, Bool.eq_iff_iff, ← this]
  simp

/-- unchanged + changed + missing word sums add up for Fluent files as for any other (instance of `words_partition`). -/
theorem fluent_words_partition (ref l10n : List FtlC.Item) (DR : List Key) (hn : DR.Nodup)
    (hm : ∀ k, k ∈ DR ↔ k ∈ (FtlC.toEnts ref []).1.map (·.key)) (r : Report)
    (h : FtlC.compareFluent ref l10n noFilter = .ok r) :
    ∃ s : Stats, r.updates = [s.toDict] ∧
      s.missing_w + s.changed_w + s.unchanged_w =
        ((DR.filter (fun k => isCls (FtlC.toEnts ref []).1 (FtlC.toEnts l10n (FtlC.toEnts ref []).2).1 .missing k ||
            isCls (FtlC.toEnts ref []).1 (FtlC.toEnts l10n (FtlC.toEnts ref []).2).1 .changed k ||
            isCls (FtlC.toEnts ref []).1 (FtlC.toEnts l10n (FtlC.toEnts ref []).2).1 .unchanged k)).map
          (wordsOf (FtlC.toEnts ref []).1)).sum :=
  words_partition _ _ DR hn hm r h

/-- `key = { $n -> [one] One thing *[other] { $n } things here }`: four words (all variants, no selector), whatever the spans -/
example : FtlC.countWords (.message (Ftl.Message.mk 7 [107]
      (some (.mk 4 [.placeable (.select (.varRef [110])
        [.mk (.ident 9 [111, 110, 101]) (.mk 15 [.text [79, 110, 101, 32, 116, 104, 105, 110, 103]]) false,
         .mk (.ident 30 [111, 116, 104, 101, 114]) (.mk 38 [.placeable (.varRef [110]), .text [32, 116, 104, 105, 110, 103, 115, 32, 104, 101, 114, 101]]) true])]))
      [])) = 4 := by decide +kernel

/-- negation witness for "same class": across classes `equals` is not symmetric — a term ignores the attributes of the other
    entry, a message does not (never evaluated by the comparer: a term's key starts with "-"). -/
example : FtlC.equals (.term (Ftl.Term.mk 0 [97] (.mk 0 [.text [120]]) []))
      (.message (Ftl.Message.mk 0 [97] (some (.mk 0 [.text [120]])) [⟨0, [116], .mk 0 [.text [121]]⟩])) = true ∧
    FtlC.equals (.message (Ftl.Message.mk 0 [97] (some (.mk 0 [.text [120]])) [⟨0, [116], .mk 0 [.text [121]]⟩]))
      (.term (Ftl.Term.mk 0 [97] (.mk 0 [.text [120]]) [])) = false := by
  simp [FtlC.equals, FtlC.entId, FtlC.entValue, FtlC.entAttrs, FtlC.isTerm, FtlC.eqOptPattern, FtlC.eqPattern, FtlC.eqElems,
    FtlC.eqElem, FtlC.eqAttrs]

/-! ### `Entry.equals` compares `val` (the unescaped value), never `raw_val` -/

/-- The `equal` branch of the composed comparison (Compare/Pipeline.lean, parser + value semantics of C02), for every
    entity class whose `equals` is `Entry.equals` (`env.cls ≠ .fluent`: ini, inc, po, properties, DTD, Android —
    `FluentEntity.equals` compares the ASTs instead, `fluent_equals_is_erased_equality`; negation witness below): a shared
    key that is no key binding is counted `unchanged` iff key and VALUE of the two entities agree, else `changed`; the raw
    texts are not looked at, and the words are `count_words()` of the reference — which, for every entity the regex parsers
    build (`Pipe.mkEnt`, any format, any external functions `ext`), are the words of its VALUE. -/
theorem unchanged_by_value_not_raw (env : Pipe.Env) (hcls : env.cls ≠ .fluent) (ref l10n : List Pipe.PEnt)
    (st st' : Pipe.LoopSt) (k : Key)
    (refent l10nent : Pipe.PEnt) (hr : Pipe.lookup ref k = .ok refent) (hl : Pipe.lookup l10n k = .ok l10nent)
    (hk : keyMatch k = false) (h : Pipe.step env ref l10n st (.equal, k) = .ok st') :
    st'.stats = (if refent.key == l10nent.key && refent.val == l10nent.val then
        { st.stats with unchanged := st.stats.unchanged + 1, unchanged_w := st.stats.unchanged_w + refent.words }
      else { st.stats with changed := st.stats.changed + 1, changed_w := st.stats.changed_w + refent.words }) ∧
    (∀ (ext : Pipe.Ext) (fmt : P.Fmt) (s : Array Nat) (he : Hist.Ent), Pipe.mkEnt ext fmt s he = .ok refent →
      refent.junk = false → refent.words = countWords refent.val) :=
  ⟨C03V.equal_step_by_val env hcls ref l10n st st' k refent l10nent hr hl hk h,
   fun ext fmt s he hm hj => (PipeBridge.mkEnt_words ext fmt s he refent hm).1 hj⟩

/-- non-vacuity of the second conjunct: the entity the parser model builds for `k = two words` counts 2 words -/
example : (match Pipe.parseFile default .properties #[107, 32, 61, 32, 116, 119, 111, 32, 119, 111, 114, 100, 115] 0 with
    | .ok (es, _) => es.map (fun e => (e.junk, e.words, countWords e.val))
    | .error _ => []) = [(false, 2, 2)] := by decide +kernel

/-- NEGATION WITNESS for `env.cls ≠ .fluent`: two Fluent entities `a = x⏎ .t = y` and `a = x⏎ .t = z` have the same key and
    the same `val` ("x") but their ASTs differ in an attribute (`equals` classes 0 and 1): the loop counts `changed` -/
example :
    let ast (c : Nat) : Ftl.Entry := .message (Ftl.Message.mk 0 [97] (some (.mk 4 [.text [120]])) [⟨8, [116], .mk 13 [.text [c]]⟩])
    let ent (c eqc : Nat) : Pipe.PEnt :=
      { entry := Pipe.noSpan .entity, junk := false, key := .str [97], val := [120], raw := [120],
        all := [97, 32, 61, 32, 120, 10, 32, 32, 46, 116, 32, 61, 32, c], comment := none, words := 2, ftl := some (ast c, eqc) }
    (match Pipe.step (Pipe.ftlEnv (Pipe.fileNamed Pipe.ftlFileName) false #[]) [ent 121 0] [ent 122 1] { obs := Pipe.stdObs }
        (.equal, .str [97]) with
     | .ok st' => (ent 121 0).key == (ent 122 1).key && (ent 121 0).val == (ent 122 1).val &&
         st'.stats.changed == 1 && st'.stats.unchanged == 0 && st'.stats.changed_w == 2
     | .error _ => false) = true := by decide +kernel

/-- `.properties`: the value is the documented unescape of the raw text (`C02.props_unescape_is_spec`), so two entities whose
    raw texts differ but unescape to the same text have the same `val` — and are `unchanged` by the theorem above.
    (`ext`: the external functions of the pipeline model, which `.properties` never consults — for all of them.) -/
theorem properties_same_unescape_same_value (ext : Pipe.Ext) (s1 s2 : Array Nat) (h1 h2 : Hist.Ent) (a b : Pipe.PEnt)
    (ha : Pipe.mkEnt ext P.Fmt.properties s1 h1 = .ok a) (hb : Pipe.mkEnt ext P.Fmt.properties s2 h2 = .ok b)
    (ja : a.junk = false)
    (jb : b.junk = false) (hv : P.propsUnescapeSpec a.raw = P.propsUnescapeSpec b.raw) :
    a.val = b.val ∧ a.val = P.propsUnescapeSpec a.raw :=
  ⟨by rw [C03V.mkEnt_props_val ext s1 h1 a ha ja, C03V.mkEnt_props_val ext s2 h2 b hb jb, hv],
    C03V.mkEnt_props_val ext s1 h1 a ha ja⟩

/-- `café` and `café`; `two \⏎   words` (line continuation) and `two words`: different raw texts, one value -/
example : P.propsUnescapeSpec [99, 97, 102, 92, 117, 48, 48, 101, 57] = P.propsUnescapeSpec [99, 97, 102, 233] ∧
    P.propsUnescapeSpec [116, 119, 111, 32, 92, 10, 32, 32, 32, 119, 111, 114, 100, 115]
      = P.propsUnescapeSpec [116, 119, 111, 32, 119, 111, 114, 100, 115] := by
  constructor <;>
    exact Option.some.inj (((P.propsVal_eq_spec _).symm.trans (by decide +kernel)).trans (P.propsVal_eq_spec _))

/-! ### duplicated keys -/

/-- A reference with duplicated keys and a localization with the IDENTICAL key sequence (a verbatim copy, or any re-valuing
    of it): nothing is missing or obsolete, and `changed + unchanged + keys` is the number of DISTINCT reference keys —
    a key that occurs twice is one string. -/
theorem duplicates_same_key_sequence (ref l10n : List Ent) (hk : ref.map (·.key) = l10n.map (·.key)) (r : Report)
    (h : compareEntities ref l10n noFilter = .ok r) :
    ∃ s : Stats, r.updates = [s.toDict] ∧ r.missingKeys = [] ∧ r.obsoleteKeys = [] ∧ s.missing = 0 ∧ s.obsolete = 0 ∧
      s.missing + s.changed + s.unchanged + s.keys = (distinct (ref.map (·.key))).length := by
  obtain ⟨s, c⟩ := compare_noFilter h
  obtain ⟨_, _, _, _, _, hsum, _⟩ := c.shared (distinct (ref.map (·.key))) (distinct_nodup _)
    (fun k => by rw [mem_distinct, ← hk]; simp)
  -- a key of either file is a key of both, so its class is neither `missing` nor `obsolete`
  have hm0 : (diffKeys ref l10n).filter (isCls ref l10n .missing) = [] := by
    rw [List.filter_eq_nil_iff]
    intro k hkm hc
    obtain ⟨a, _, _, hn⟩ := (classOf_missing ref l10n k).1 (by simpa [isCls] using hc)
    have : k ∈ l10n.map (·.key) := ((mem_diffKeys ref l10n k).1 hkm).elim (hk ▸ ·) id
    exact (lastEnt_none l10n k).1 hn this
  have ho0 : (diffKeys ref l10n).filter (isCls ref l10n .obsolete) = [] := by
    rw [List.filter_eq_nil_iff]
    intro k hkm hc
    obtain ⟨a, _, _, hn⟩ := (classOf_obsolete ref l10n k).1 (by simpa [isCls] using hc)
    have : k ∈ ref.map (·.key) := ((mem_diffKeys ref l10n k).1 hkm).elim id (hk ▸ ·)
    exact (lastEnt_none ref k).1 hn this
  have hm : s.missing = 0 := by rw [c.missing, hm0]; rfl
  refine ⟨s, c.updates, c.missingKeys.trans hm0, c.obsoleteKeys.trans ho0, hm, by rw [c.obsolete, ho0]; rfl, ?_⟩
  omega

/-- `[a, b, a]` against a copy with the same key sequence: two strings, not three -/
example : ∀ r, compareEntities [⟨.str [97], false, 1, 1, 0⟩, ⟨.str [98], false, 1, 2, 0⟩, ⟨.str [97], false, 1, 3, 0⟩]
      [⟨.str [97], false, 1, 1, 0⟩, ⟨.str [98], false, 1, 2, 0⟩, ⟨.str [97], false, 1, 3, 0⟩] noFilter = .ok r →
    ∃ s : Stats, r.updates = [s.toDict] ∧ s.missing + s.changed + s.unchanged + s.keys = 2 := by
  intro r h
  obtain ⟨s, hs, _, _, _, _, hsum⟩ := duplicates_same_key_sequence _ _ (by decide) r h
  exact ⟨s, hs, by rw [hsum]; decide⟩

/-! ### ONE PROCESS — a job's report is independent of every earlier job, of any format, on any comparer

`Sess.Proc` = the interpreter: the live `ContentComparer`s (each one its `ObserverList`) and the process-wide memo — a state
component WITHOUT content, because in /repo no class attribute, module global or cache is read or written by
`compare` / `add` / `remove` (`Entry.count_words`, `val`, `equals` are recomputed from the entity, `AddRemove` is created per
comparison).  `Sess.Proc.step ext p c j` = the call `j` on comparer `c`; `Sess.Proc.run` = a history of such calls.
`C03S.Same a b` = the two observer lists were configured alike (same filters), whatever they have accumulated. -/

open ObsM in
/-- HISTORY FREEDOM.  Let `q` be the process after ANY history of calls (of files of any formats, on any comparers) from `p`.
    The same call `j` on comparer `c` in `p` and in `q`, when both return:
    * decides the same about the merge file,
    * is the SAME block `evs` of notifications (category, file, data — i.e. the same missing / obsolete strings, warnings and
      errors, in the same order) and `updateStats` pushes (the same nine counters and word sums) towards the observers,
    * so what it adds to every counter of every locale — of the list and of each project observer — is the same
      (`new₁ + old₀ = new₀ + old₁`), and
    * the process-wide memo is what it was (there is nothing in it to consult).
    False for a code base in which `count_words` / `val` / `equals` / the diff consult a table filled by earlier calls. -/
theorem job_result_history_free (ext : Pipe.Ext) (p q : Sess.Proc) (hist : List (Nat × Sess.Job)) (outs : List Merge.Outcome)
    (hrun : Sess.Proc.run ext p hist = .ok (q, outs)) (c : Nat) (j : Sess.Job) (p' q' : Sess.Proc) (o o' : Merge.Outcome)
    (h0 : Sess.Proc.step ext p c j = .ok (p', o)) (h1 : Sess.Proc.step ext q c j = .ok (q', o')) :
    o' = o ∧ q.memo = p.memo ∧ q'.memo = p'.memo ∧
    ∃ (l0 l0' l1 l1' : ObsList) (evs : List Ev),
      p.comparers[c]? = some l0 ∧ p'.comparers[c]? = some l0' ∧ q.comparers[c]? = some l1 ∧ q'.comparers[c]? = some l1' ∧
      C03S.Tr l0 l0' evs ∧ C03S.Tr l1 l1' evs ∧
      (l0.own.filter = none →
        (∀ L key, getCount l1'.own.summary L key + getCount l0.own.summary L key =
                  getCount l0'.own.summary L key + getCount l1.own.summary L key) ∧
        (∀ (i : Nat) (x0 x0' x1 x1' : Obs), l0.observers[i]? = some x0 → l0'.observers[i]? = some x0' → l1.observers[i]? = some x1 →
          l1'.observers[i]? = some x1' → ∀ L key,
            getCount x1'.summary L key + getCount x0.summary L key = getCount x0'.summary L key + getCount x1.summary L key)) := by
  obtain ⟨hm, hf⟩ := C03H.run_frame ext hist hrun
  obtain ⟨ho, l0, l0', l1, l1', e1, e2, e3, e4, j0, j1, hs⟩ := C03H.step_sim ext (hf c) h0 h1
  have hab := (hf c).same e1 e3
  have m0 := (C03H.step_frame ext h0).1
  have m1 := (C03H.step_frame ext h1).1
  have ⟨evs, _, t0, t1⟩ := hs
  refine ⟨ho, hm, by rw [m1, m0, hm], l0, l0', l1, l1', evs, e1, e2, e3, e4, t0, t1, ?_⟩
  intro hown
  refine ⟨?_, ?_⟩
  · intro L key
    have := C03H.sim_counts hab hs hown L key
    omega
  · intro i x0 x0' x1 x1' a1 a2 a3 a4 L key
    have := C03H.sim_observer_counts hab hs hown i x0 x0' x1 x1' a1 a2 a3 a4 L key
    omega

open ObsM in
/-- The form the harness tests (cross-format histories against a fresh worker process): in a process that started FRESH
    (`cfgs` = quiet level and project filters of each comparer), after any history, a call adds to every counter of the list
    exactly what the same call reports as the FIRST call of a fresh process with the same comparers. -/
theorem job_counts_as_in_fresh_process (ext : Pipe.Ext) (cfgs : List (Nat × List (Option Filter))) (q : Sess.Proc)
    (hist : List (Nat × Sess.Job)) (outs : List Merge.Outcome) (hrun : Sess.Proc.run ext (Sess.Proc.fresh cfgs) hist = .ok (q, outs))
    (c : Nat) (j : Sess.Job) (p' q' : Sess.Proc) (o o' : Merge.Outcome)
    (h0 : Sess.Proc.step ext (Sess.Proc.fresh cfgs) c j = .ok (p', o)) (h1 : Sess.Proc.step ext q c j = .ok (q', o')) :
    o' = o ∧ ∃ (lf l1 l1' : ObsList), p'.comparers[c]? = some lf ∧ q.comparers[c]? = some l1 ∧ q'.comparers[c]? = some l1' ∧
      ∀ L key, getCount l1'.own.summary L key = getCount l1.own.summary L key + getCount lf.own.summary L key := by
  obtain ⟨ho, _, _, l0, l0', l1, l1', evs, e1, e2, e3, e4, _, _, hc⟩ := job_result_history_free ext _ q hist outs hrun c j p' q' o o' h0 h1
  refine ⟨ho, l0', l1, l1', e2, e3, e4, ?_⟩
  simp only [Sess.Proc.fresh, List.getElem?_map] at e1
  cases hcfg : cfgs[c]? with
  | none => rw [hcfg] at e1; cases e1
  | some cfg =>
    rw [hcfg] at e1
    simp only [Option.map_some, Option.some.injEq] at e1
    subst e1
    intro L key
    have := (hc rfl).1 L key
    have hz : getCount (ObsList.init cfg.1 (cfg.2.map (Obs.init cfg.1))).own.summary L key = 0 := rfl
    rw [hz] at this
    omega

/-- non-vacuity: a process with two comparers; a `.properties`-like missing file on comparer 0, a DTD-like one on comparer 1,
    then the first job again on comparer 0: the third call adds what the first added (3 strings, 5 words), the memo is `empty`. -/
example : (match Sess.Proc.run default (Sess.Proc.fresh [(0, [none]), (0, [none])])
      [(0, .add ⟨[97], none, none⟩ ⟨[100, 101, 47, 97], none, some [100, 101]⟩ false
          (.ents 6 [⟨.str [97], false, 2, 1, 0⟩, ⟨.str [98], false, 2, 2, 0⟩, ⟨.str [99], false, 1, 3, 0⟩])),
       (1, .add ⟨[98], none, none⟩ ⟨[100, 101, 47, 98], none, some [100, 101]⟩ false (.ents 6 [⟨.str [97], false, 3, 1, 0⟩])),
       (0, .add ⟨[97], none, none⟩ ⟨[100, 101, 47, 97], none, some [100, 101]⟩ false
          (.ents 6 [⟨.str [97], false, 2, 1, 0⟩, ⟨.str [98], false, 2, 2, 0⟩, ⟨.str [99], false, 1, 3, 0⟩]))] with
    | .ok (p, _) =>
      p.memo == .empty &&
      (p.comparers.map (fun l => (ObsM.getCount l.own.summary (some [100, 101]) .missing,
                                   ObsM.getCount l.own.summary (some [100, 101]) .missing_w))) == [(6, 10), (1, 3)]
    | .error _ => false) = true := by decide +kernel

/-- why "both calls return" (`h0`, `h1`) are hypotheses: whether `Tree.__getitem__` raises depends on the details tree.  From a
    degenerate tree (a branch with an empty key — not reachable from `Proc.fresh`, C10's `Obs.run_ok`) the call raises
    `UnboundLocalError`, from the fresh state with the same configuration it returns. -/
example :
    let f : ObsM.File := ⟨[100, 101, 47, 97], none, some [100, 101]⟩
    let l0 := ObsM.ObsList.init 0 [ObsM.Obs.init 0 none]
    let l1 : ObsM.ObsList := { l0 with own := { l0.own with details := .node [([], TreeM.Tree.empty)] none } }
    (l0.filters = l1.filters ∧ l0.own.filter = l1.own.filter) ∧
    (match Sess.runJob default l0 (.remove f f false), Sess.runJob default l1 (.remove f f false) with
      | .ok _, .error _ => true
      | _, _ => false) = true := by
  refine ⟨⟨rfl, rfl⟩, ?_⟩
  decide +kernel

/-! ### `KeyedTuple.__contains__` / `__getitem__` for every kind of argument -/

/-- `x in entities` is true exactly for a key of some entity and for the tuple's own entity objects (ints, foreign objects and
    unhashable values are not `in` it); `entities[key]` returns the LAST entity with that key, and a key that is not there is a
    `TypeError` (it falls through to `tuple.__getitem__`). -/
theorem keyed_probe_spec (es : List Ent) :
    (∀ k, Sess.keyedContainsProbe es (.key k) = true ↔ k ∈ es.map (·.key)) ∧
    (∀ i, Sess.keyedContainsProbe es (.item i) = true ↔ i < es.length) ∧
    (∀ i, Sess.keyedContainsProbe es (.index i) = false) ∧ Sess.keyedContainsProbe es .unhashable = false ∧
    (∀ k, k ∈ es.map (·.key) → ∃ i e, Sess.keyedGetProbe es (.key k) = .item i ∧ es[i]? = some e ∧ lastEnt es k = some e) ∧
    (∀ k, k ∉ es.map (·.key) → Sess.keyedGetProbe es (.key k) = .typeError) := by
  refine ⟨?_, ?_, fun _ => rfl, rfl, ?_, ?_⟩
  · intro k
    simp [Sess.keyedContainsProbe, AR.keyedContains_eq]
  · intro i; simp [Sess.keyedContainsProbe]
  · intro k hk
    have hl := lookup_eq es k
    unfold lookup at hl
    unfold Sess.keyedGetProbe
    cases hi : AR.keyedIndex (es.map (·.key)) k with
    | none =>
      rw [hi] at hl
      cases hle : lastEnt es k with
      | none => exact absurd hk ((lastEnt_none es k).1 hle)
      | some e => rw [hle] at hl; cases hl
    | some i =>
      rw [hi] at hl
      simp only at hl
      cases he : es[i]? with
      | none =>
        rw [he] at hl
        cases hle : lastEnt es k <;> rw [hle] at hl <;> cases hl
      | some e =>
        rw [he] at hl
        have hlt : i < es.length := by
          rcases List.getElem?_eq_some_iff.1 he with ⟨h, _⟩; exact h
        cases hle : lastEnt es k with
        | none => rw [hle] at hl; cases hl
        | some e' =>
          rw [hle] at hl
          simp only [Except.ok.injEq] at hl
          subst hl
          exact ⟨i, e, by simp [hi, hlt], he, rfl⟩
  · intro k hk
    have : (es.map (·.key)).contains k = false := by simpa using hk
    simp only [Sess.keyedGetProbe, AR.keyedIndex_eq, this]
    rfl

end C03
