/-
C13 — Project enumeration finds every covered file once, correctly paired.

Reading guide.  `env : MEnv` is the relation of the real `Matcher` objects (prefix, match, sub), `fs` the list of
regular files, `pf` a `ProjectFiles` object, `build env fuel locale projects mergebase` its constructor
(`fuel` only bounds the nesting of exclude lists), `pf.iter` = `list(pf)`, `pf.matchPath` = `pf.match`.
The theorems carry no hypothesis about a prefix ending inside a name, an exclude that covers only the l10n partner of a
reference file, or a prefix that is itself a regular file: the code handles the three (examples `w7Env`, `w15Cfg`, `w16Env`
below; findings F7, F15, F16 of the harness).  What they do assume:
* `PrefixOK env m` — nothing about the tree: (a) matched paths start with `m.prefix`, (b) the prefix is rooted, (c) a
  wildcard-free pattern matches its prefix only; on the `Matcher` model (a) and, for bound patterns, (c) are proved in the
  section C13M below, (b) is assumed there too;
* `SubMatches` — `Matcher.sub` round trip (C11; on the model: inside a pattern class, C13M);
* duplicates are duplicates — matchers that the duplicate scan identifies (same pattern object, same prefix) cover the
  same paths; FALSE for the Python code when they differ in an `[env]` variable used after the first wildcard: known
  finding F14, negation witness `dup_env_witness`, the harness hits the real code there in every run.
Proof-side notions in the statements: `enabledProject` (C13Build), `keyOf` / `mergedTests` / `dedupSpec` (C13Dedup: key,
merged tests and closed form of the duplicate scan).
-/
import CLModel.Paths.ProjectFiles
import CLModel.Proofs.C13Iter
import CLModel.Proofs.C13Build
import CLModel.Proofs.C13Wins
import CLModel.Proofs.C13Env
import CLModel.Proofs.C13Fuel
import CLModel.Proofs.C13MContracts
import CLModel.Proofs.C13MExample
import CLModel.Paths.TomlConfig
import CLModel.Proofs.C13Toml
import CLModel.Proofs.C13TomlCompose
import CLModel.Proofs.C13TomlExample
import CLModel.Proofs.C13Ini
import CLModel.Paths.TomlSession
import CLModel.Proofs.C13Session
namespace C13
open PF

/-- Enumeration yields strictly increasing paths: every path at most once, in Python's string order
    (both for a locale and in reference self-validation mode; no hypotheses). -/
theorem iter_nodup_sorted (env : MEnv) (fs : FS) (pf : PF) :
    ((pf.iter env fs).map (·.path)).Pairwise (fun a b => a < b) := by
  cases h : truthy pf.locale
  · rw [iter_of_no_locale h, iterReference_eq]; exact sorted_items_strict
  · rw [iter_of_locale h, iterLocale_eq]; exact sorted_items_strict

/-- Soundness.  Whatever `ProjectFiles(locale, projects, mergebase)` yields for a locale is claimed by a path rule
    `pr` of a config `pc` of a project that has the locale enabled, both locale gates passed
    (`locale in project.all_locales`, `pc.locales`, `pr["locales"]`), and either the yielded path is an existing file
    matched by the rule's l10n matcher (bound to THIS locale) and not matched by the excludes, or it is the `sub`
    image of an existing, non-excluded file matched by the rule's reference matcher and is itself not matched by the
    excludes; reference and merge path are the rule's, the rule's tests are among the yielded tests.  So nothing of
    another or disabled locale and nothing of an excluded configuration is yielded. -/
theorem iter_sound {env : MEnv} {fs : FS} {fuel : Nat} {locale : Option Loc} {projects : List Config} {mb : Bool}
    {pf : PF} (hb : build env fuel locale projects mb = .ok pf) (hloc : truthy locale = true)
    {it : Item} (hit : it ∈ pf.iter env fs) :
    ∃ project ∈ projects, enabledProject locale project ∧ ∃ pc ∈ project.configs, localeOk locale pc.locales = true ∧
      ∃ pr ∈ pc.paths, localeOk locale pr.locales = true ∧ (∀ t, pr.test = some t → ∀ x ∈ t, x ∈ it.test) ∧
        ((∃ g, it.path ∈ fs.files ∧ env.mtch pr.l10n it.path = some g ∧ excludedBy env pf.exclude it.path = false ∧
            it.reference = pr.reference.map (env.expand · g) ∧
            it.merge = (if mb then some (env.expand pr.merge g) else none)) ∨
         (∃ rm q g, pr.reference = some rm ∧ q ∈ fs.files ∧ env.mtch rm q = some g ∧
            excludedBy env pf.exclude q = false ∧ excludedBy env pf.exclude it.path = false ∧
            it.path = env.expand pr.l10n g ∧ it.reference = some q ∧
            it.merge = (if mb then some (env.expand pr.merge g) else none))) := by
  obtain ⟨rs, _, _, hl⟩ := build_ok hb
  rw [iter_of_locale (hl.symm ▸ hloc)] at hit
  obtain ⟨r, hr, hcl⟩ := iterLocale_sound hit
  obtain ⟨project, hproj, hen, pc, hpc, hok, pr, hpr, hok2, h1, h2, h3, h4⟩ := build_matcher_origin hb hr
  refine ⟨project, hproj, hen, pc, hpc, hok, pr, hpr, hok2, ?_, ?_⟩
  · intro t ht x hx
    rcases hcl with ⟨g, _, e⟩ | ⟨rm, q, g, _, _, _, e⟩
    · rw [e]; exact h4 t ht x hx
    · rw [e]; exact h4 t ht x hx
  · rcases hcl with ⟨g, hf, e⟩ | ⟨rm, q, g, hrr, hf, hexl, e⟩
    · left
      obtain ⟨m1, m2, m3⟩ := mem_files hf
      refine ⟨g, m1, h1 ▸ m3, m2, ?_, ?_⟩
      · rw [e]; simp [toItem, entryL, h2]
      · rw [e]; cases mb <;> simp [toItem, entryL, h3]
    · right
      obtain ⟨m1, m2, m3⟩ := mem_files hf
      refine ⟨rm, q, g, h2 ▸ hrr, m1, m3, m2, ?_, ?_, ?_, ?_⟩
      · rw [e]; exact hexl
      · rw [e]; simp [toItem, h1]
      · rw [e]; simp [toItem, entryR]
      · rw [e]; cases mb <;> simp [toItem, entryR, h3]

/-- Nothing an exclude config matches is yielded (full statement; `hloc`: locale mode): every enumerated l10n path, whether
    found on the l10n side or through its reference file, is not matched by `self.exclude`. -/
theorem iter_excluded_sound {env : MEnv} {fs : FS} {pf : PF} (hloc : truthy pf.locale = true)
    {it : Item} (hit : it ∈ pf.iter env fs) : excludedBy env pf.exclude it.path = false := by
  rw [iter_of_locale hloc] at hit
  exact iterLocale_not_excluded hit

/-- The matcher list is the closed form of the duplicate scan applied to the reversed list of gated rules:
    first matcher of every (pattern, realpath(prefix)) key in reversed config order, with the tests of all its
    duplicates merged; without duplicate keys it is exactly the reversed rule list ("we always iterate last first"). -/
theorem matchers_closed_form {env : MEnv} {fuel : Nat} {locale : Option Loc} {projects : List Config} {mb : Bool}
    {pf : PF} (hb : build env fuel locale projects mb = .ok pf) :
    ∃ rs, mkRules locale mb (gated locale (collect locale projects).1) = .ok rs ∧
      pf.matchers = dedupSpec env rs.reverse ∧
      (((rs.map (keyOf env)).Nodup) → pf.matchers = rs.reverse) := by
  obtain ⟨rs, hrs, hm, _⟩ := build_ok hb
  refine ⟨rs, hrs, hm, fun hn => ?_⟩
  rw [hm, dedupSpec_id]
  rw [List.map_reverse]
  exact (List.reverse_perm _).nodup_iff.2 hn

/-- Last rule wins.  Let `before ++ r :: after` be the gated rules in config order and `r` the LAST one whose l10n
    matcher covers the existing, non-excluded localized file `p`.  Then the enumeration yields `p` paired with `r`'s
    reference and merge path, and with `r`'s tests plus those of its duplicates among the earlier rules.
    PARTIAL: `hdup` and `hlast` together say that no later rule has `r`'s key (same pattern object, same prefix) — the
    duplicate scan would keep that later rule and drop `r`, although it does not cover `p` (F14, `dup_env_witness`).
    Full statement = the same without `hdup`, false for the Python code.  The second conjunct holds of any `r`. -/
theorem last_rule_wins_partial {env : MEnv} {fs : FS} {fuel : Nat} {locale : Option Loc} {projects : List Config}
    {mb : Bool} {pf : PF} (hb : build env fuel locale projects mb = .ok pf) (hloc : truthy locale = true)
    {before after : List Rule} {r : Rule} {p : Path} {g : GId}
    (hrs : mkRules locale mb (gated locale (collect locale projects).1) = .ok (before ++ r :: after))
    (hlast : ∀ x ∈ after, env.mtch x.l10n p = none) (hm : env.mtch r.l10n p = some g)
    (hp : p ∈ fs.files) (hex : excludedBy env pf.exclude p = false)
    (hdir : PrefixOK env r.l10n) (hrt : ∀ x ∈ after, SubMatches env x)
    (hdup : ∀ x ∈ after, sameKey env x r = true → (env.mtch x.l10n p).isSome = true) :
    ({ path := p, reference := r.reference.map (env.expand · g), merge := r.merge.map (env.expand · g),
       test := mergedTests env r before.reverse } : Item) ∈ pf.iter env fs ∧
    ∀ x ∈ r.test, x ∈ mergedTests env r before.reverse :=
  ⟨last_rule_wins_on hb hloc hrs hlast hm hp hex hdir (fun x hx => (hrt x hx).on) (no_later_dup hlast hdup),
    fun _ => test_sub_mergedTests⟩

/-- Enumeration = lookup for an existing localized file `p`: the enumeration yields an item for `p` exactly when
    `match(p)` returns it — also when `p` belongs to an excluded config (both sides then give nothing).
    Hypotheses: `p` exists; `PrefixOK` for the l10n matchers; `sub` round trip; `p` is not matched by a reference
    matcher (it is a localized file, not a reference file). -/
theorem iter_eq_match {env : MEnv} {fs : FS} {pf : PF} {p : Path} {it : Item}
    (hloc : truthy pf.locale = true) (hp : p ∈ fs.files)
    (hdir : ∀ r ∈ pf.matchers, PrefixOK env r.l10n) (hrt : ∀ r ∈ pf.matchers, SubMatches env r)
    (hnr : ∀ r ∈ pf.matchers, ∀ rm, r.reference = some rm → env.mtch rm p = none) :
    (it ∈ pf.iter env fs ∧ it.path = p) ↔ pf.matchPath env p = some it :=
  iter_eq_match_on hloc hp hdir (fun r hr => (hrt r hr).on) hnr

/-- Enumeration = lookup by reference path for a reference-only file — PARTIAL.  `q` is an existing, non-excluded
    reference file matched by the reference matcher of `r`, its l10n partner `lp` does not exist and is not excluded
    either; coverage does not
    overlap: no earlier matcher (in list order) matches `q` on either side or maps a reference file to `lp`, `r`'s l10n
    matcher does not match `q`, and `q` is the only reference file `r` maps to `lp`.  Then `match(q)` and the
    enumeration give the same tuple.  Missing for the full statement: the case where the localized file exists
    (needs the exact `sub` round trip of C11) and lookups by a reference path that several rules cover. -/
theorem iter_eq_match_ref_partial {env : MEnv} {fs : FS} {pf : PF} {pre post : List Rule} {r : Rule} {rm : MId}
    {q : Path} {g : GId}
    (hloc : truthy pf.locale = true) (hms : pf.matchers = pre ++ r :: post)
    (hrr : r.reference = some rm) (hq : q ∈ fs.files) (hm : env.mtch rm q = some g)
    (hexq : excludedBy env pf.exclude q = false) (hexl : excludedBy env pf.exclude (env.expand r.l10n g) = false)
    (hdir : PrefixOK env rm)
    (hnol : env.expand r.l10n g ∉ fs.files)
    (hpre1 : ∀ x ∈ pre, env.mtch x.l10n q = none ∧ ∀ xm, x.reference = some xm → env.mtch xm q = none)
    (hpre2 : ∀ x ∈ pre, ∀ xm q' g', x.reference = some xm → env.mtch xm q' = some g' →
      env.expand x.l10n g' ≠ env.expand r.l10n g)
    (hself : env.mtch r.l10n q = none)
    (hinj : ∀ q' g', env.mtch rm q' = some g' → env.expand r.l10n g' = env.expand r.l10n g → q' = q) :
    let it : Item := { path := env.expand r.l10n g, reference := some q, merge := r.merge.map (env.expand · g), test := r.test }
    pf.matchPath env q = some it ∧ it ∈ pf.iter env fs := by
  intro it
  rw [iter_of_locale hloc]
  -- lookup: `matchRules` walks `pre` without a hit (`hpre1`) and answers at `r` through its reference matcher;
  -- enumeration: no matcher of `pre` claims the l10n path (`hpre2`, `hnol`), and among `r`'s claims the first with that
  -- path is the one made for `q` (`hnol` rules out the l10n side, `hinj` every other reference file)
  obtain ⟨locale, ms, exclude⟩ := pf
  simp only [PF.matchers, PF.exclude, PF.locale] at hms hexq hexl hloc
  subst hms
  constructor
  · rw [matchPath_eq, hexq, isSome_of_truthy hloc]
    simp only [Bool.and_false, Bool.false_eq_true, if_false]
    clear hpre2
    induction pre with
    | nil =>
      simp only [List.nil_append]
      unfold matchRules
      simp only [if_true, hself, hrr, hm, hexl, Bool.and_false, Bool.false_eq_true, if_false]
      rfl
    | cons x xs ih =>
      have hx := hpre1 x List.mem_cons_self
      simp only [List.cons_append]
      unfold matchRules
      simp only [if_true, hx.1]
      cases hxr : x.reference with
      | none => exact ih (fun y hy => hpre1 y (List.mem_cons_of_mem _ hy))
      | some xm =>
        simp only [hx.2 xm hxr]
        exact ih (fun y hy => hpre1 y (List.mem_cons_of_mem _ hy))
  · rw [iterLocale_eq, mem_sorted_items]
    simp only [PF.matchers, PF.exclude]
    refine ⟨entryR env r q g, ?_, rfl⟩
    have hprenone : (pre.flatMap (claims env fs (excludedBy env exclude))).find? (·.1 == env.expand r.l10n g) = none := by
      rw [List.find?_flatMap, List.findSome?_eq_none_iff]
      exact fun x hx => claims_find_none (fun g' hg' => hnol (mem_files hg').1)
        (fun xm q' g' h1 h2 _ => hpre2 x hx xm q' g' h1 (mem_files h2).2.2)
    rw [List.flatMap_append, List.find?_append, hprenone, List.flatMap_cons, List.find?_append]
    simp only [Option.none_or]
    have hfq : (q, g) ∈ files env fs (excludedBy env exclude) rm := mem_files_of hdir hq hexq hm
    have hr : (claims env fs (excludedBy env exclude) r).find? (·.1 == env.expand r.l10n g)
        = some (env.expand r.l10n g, entryR env r q g) := by
      unfold claims
      rw [List.find?_append, claimsL_find_none (fun g' hg' => hnol (mem_files hg').1)]
      simp only [Option.none_or]
      refine find?_of_unique (mem_claimsR.2 ⟨rm, q, g, hrr, hfq, hexl, rfl⟩) (beq_self_eq_true _) fun y hy h1 => ?_
      obtain ⟨rm', q', g', hrr', hq', _, rfl⟩ := mem_claimsR.1 hy
      rw [hrr] at hrr'
      cases hrr'
      have hm' := (mem_files hq').2.2
      obtain rfl := hinj q' g' hm' (eq_of_beq h1)
      rw [hm] at hm'
      cases hm'
      rfl
    rw [hr]
    rfl

/-- Completeness, l10n side — PARTIAL.  An existing, non-excluded file `p` that the l10n matcher of a gated rule `pr`
    covers is enumerated, provided every matcher the duplicate scan identifies with `pr`'s also covers `p` (F14;
    `PrefixOK` is a `Matcher` contract).  Full statement = without `hdup` (false for the Python code). -/
theorem iter_complete_partial {env : MEnv} {fs : FS} {fuel : Nat} {locale : Option Loc} {projects : List Config}
    {mb : Bool} {pf : PF} (hb : build env fuel locale projects mb = .ok pf) (hloc : truthy locale = true)
    {pr : PathRule} {p : Path} {g : GId}
    (hpr : pr ∈ gated locale (collect locale projects).1) (hm : env.mtch pr.l10n p = some g)
    (hp : p ∈ fs.files) (hex : excludedBy env pf.exclude p = false)
    (hdir : ∀ r ∈ pf.matchers, PrefixOK env r.l10n)
    (hdup : ∀ r ∈ pf.matchers, (env.realpfx r.l10n, env.pat r.l10n) = (env.realpfx pr.l10n, env.pat pr.l10n) →
      (env.mtch r.l10n p).isSome = (env.mtch pr.l10n p).isSome) :
    ∃ it ∈ pf.iter env fs, it.path = p := by
  obtain ⟨hl, r', hr'', hk⟩ := build_kept hb hpr
  have hcov := hdup r' hr'' hk
  rw [hm] at hcov
  cases hm' : env.mtch r'.l10n p with
  | none => rw [hm'] at hcov; simp at hcov
  | some g' =>
    have hf := mem_files_of (hdir r' hr'') hp hex hm' 
    rw [iter_of_locale (hl.symm ▸ hloc)]
    exact iterLocale_complete_l10n hr'' hf

/-- Completeness, reference side — PARTIAL.  An existing, non-excluded reference file `q` covered by the reference
    matcher of a gated rule makes the enumeration yield its l10n partner (if that is not excluded), under the same
    restriction (here: the matcher kept by the duplicate scan has a reference matcher with `PrefixOK` that covers `q`
    whenever `pr`'s does, and maps it to the same l10n path). -/
theorem iter_complete_ref_partial {env : MEnv} {fs : FS} {fuel : Nat} {locale : Option Loc} {projects : List Config}
    {mb : Bool} {pf : PF} (hb : build env fuel locale projects mb = .ok pf) (hloc : truthy locale = true)
    {pr : PathRule} {rm : MId} {q : Path} {g : GId}
    (hpr : pr ∈ gated locale (collect locale projects).1) (hrr : pr.reference = some rm) (hm : env.mtch rm q = some g)
    (hq : q ∈ fs.files) (hex : excludedBy env pf.exclude q = false)
    (hexl : excludedBy env pf.exclude (env.expand pr.l10n g) = false)
    (hdup : ∀ r ∈ pf.matchers, (env.realpfx r.l10n, env.pat r.l10n) = (env.realpfx pr.l10n, env.pat pr.l10n) →
      ∃ rm', r.reference = some rm' ∧ PrefixOK env rm' ∧
        (pr.reference = some rm → env.mtch rm q = some g →
          ∃ g', env.mtch rm' q = some g' ∧ env.expand r.l10n g' = env.expand pr.l10n g)) :
    ∃ it ∈ pf.iter env fs, it.path = env.expand pr.l10n g := by
  obtain ⟨hl, r', hr'', hk⟩ := build_kept hb hpr
  obtain ⟨rm', h1, h3, h5⟩ := hdup r' hr'' hk
  obtain ⟨g', h2, h4⟩ := h5 hrr hm
  have hf := mem_files_of h3 hq hex h2
  rw [iter_of_locale (hl.symm ▸ hloc), ← h4]
  exact iterLocale_complete_ref hr'' h1 hf (h4 ▸ hexl)

/-- Reference self-validation mode (`ProjectFiles(None, …)`): every yielded item comes from an existing reference file `q`
    matched by a matcher's reference pattern `rm`: its path is `expand rm` of that match (`q` itself when `expand` inverts
    `match`; not stated), its reference is `q`, there is no merge path; the excludes play no role. -/
theorem validation_sound {env : MEnv} {fs : FS} {pf : PF} (hloc : truthy pf.locale = false) {it : Item}
    (hit : it ∈ pf.iter env fs) :
    ∃ r ∈ pf.matchers, ∃ rm q g, r.reference = some rm ∧ q ∈ fs.files ∧ env.mtch rm q = some g ∧
      it = { path := env.expand rm g, reference := some q, merge := none, test := r.test } := by
  rw [iter_of_no_locale hloc] at hit
  exact iterReference_sound hit

/-- … and every existing reference file covered by a matcher's reference pattern is yielded (full statement at the
    level of the matcher list; `PrefixOK` is a `Matcher` contract). -/
theorem validation_complete {env : MEnv} {fs : FS} {pf : PF} (hloc : truthy pf.locale = false)
    {r : Rule} {rm : MId} {q : Path} {g : GId} (hr : r ∈ pf.matchers) (hrr : r.reference = some rm)
    (hq : q ∈ fs.files) (hm : env.mtch rm q = some g) (hd : PrefixOK env rm) :
    ∃ it ∈ pf.iter env fs, it.path = env.expand rm g := by
  rw [iter_of_no_locale hloc]
  exact iterReference_complete hr hrr hq hm hd

/-- The recursion bound the model needs for the nested `ProjectFiles(locale, excludes)` is never hit: the model's
    own `.depth` error cannot come out of `PF.new` (so every model error corresponds to a Python exception). -/
theorem new_never_depth (env : MEnv) (locale : Option Loc) (projects : List Config) (mb : Bool) :
    PF.new env locale projects mb ≠ .error .depth :=
  build_no_depth _ locale projects mb (Nat.lt_succ_self _)

/-- `PrefixOK` holds for every rooted matcher with a wildcard whose matches start with its prefix — whatever the
    prefix looks like: ending inside a name (`…/ba*.ftl`, finding F7) or naming an existing file (finding F16) — … -/
theorem prefixOK_of_wildcard {env : MEnv} {m : MId}
    (hpre : ∀ p g, env.mtch m p = some g → env.pfx m <+: p) (hroot : 47 ∈ env.pfx m)
    (hw : env.literal m = false) : PrefixOK env m :=
  ⟨hpre, hroot, fun h => by rw [hw] at h; exact absurd h (by decide)⟩

/-- … and for every rooted matcher that matches its prefix only (what a wildcard-free pattern does). -/
theorem prefixOK_of_literal {env : MEnv} {m : MId}
    (hlit : ∀ p g, env.mtch m p = some g → p = env.pfx m) (hroot : 47 ∈ env.pfx m) : PrefixOK env m :=
  ⟨fun p g h => by rw [hlit p g h]; exact List.prefix_refl _, hroot, fun _ p g h => hlit p g h⟩

/-- Configuration variables given to the parser (`-D`, `l10n_base`) override those of the file's `[env]` table;
    variables only the file defines keep their value (`reverse`: within one table the last binding of a key counts). -/
theorem env_override (fileEnv parserEnv : List (Nat × Nat)) (k : Nat) :
    dictGet (processEnv fileEnv parserEnv) k =
      (dictGet parserEnv.reverse k).or (dictGet fileEnv.reverse k) := by
  unfold processEnv
  rw [dictGet_update, dictGet_update]
  simp [dictGet]

/-! ### non-vacuity: a project where everything applies

Two rules `{l}b/**` (matcher 0, reference 2, test 7) and `{l}b/*.ftl`-like (matcher 1, reference 3) in one config;
paths are short code-point lists: `/`=47; `[47,1,47,5]` ≙ `/l/x` … -/

def exEnv : MEnv where
  pfx m := if m == 0 ∨ m == 1 then [47, 1, 47] else [47, 2, 47]
  realpfx m := if m == 0 ∨ m == 1 then [47, 1, 47] else [47, 2, 47]
  pat m := m
  literal _ := false
  mtch m p :=
    match m, p with
    | 0, [47, 1, 47, x] => some x
    | 1, [47, 1, 47, 5] => some 5
    | 2, [47, 2, 47, x] => some x
    | 3, [47, 2, 47, 5] => some 5
    | _, _ => none
  expand m g := if m == 0 ∨ m == 1 then [47, 1, 47, g] else [47, 2, 47, g]

def exFS : FS := { files := [[47, 1, 47, 6], [47, 2, 47, 8], [47, 1, 47, 5], [47, 2, 47, 5]] }

def exCfg : Config := .mk 0 (some [[100]]) [
  { l10n := 0, reference := some 2, merge := 0, test := some [7], locales := none },
  { l10n := 1, reference := some 3, merge := 1, test := none, locales := some [[100]] }] [] []

def onOk (r : Except Err PF) (f : PF → α) : Option α :=
  match r with
  | .ok pf => some (f pf)
  | .error _ => none

/-- the model evaluated: sorted, the later rule claims `/1/5`, the first one `/1/6`, the reference-only file `/2/8`
    gives `/1/8`; the lookup agrees on the existing localized files -/
example : onOk (PF.new exEnv (some [100]) [exCfg] false) (fun pf =>
      (pf.matchers, pf.iter exEnv exFS, pf.matchPath exEnv [47, 1, 47, 5], pf.matchPath exEnv [47, 1, 47, 6])) = some (
    [⟨1, some 3, none, []⟩, ⟨0, some 2, none, [7]⟩],
    [{ path := [47, 1, 47, 5], reference := some [47, 2, 47, 5], merge := none, test := [] },
     { path := [47, 1, 47, 6], reference := some [47, 2, 47, 6], merge := none, test := [7] },
     { path := [47, 1, 47, 8], reference := some [47, 2, 47, 8], merge := none, test := [7] }],
    some { path := [47, 1, 47, 5], reference := some [47, 2, 47, 5], merge := none, test := [] },
    some { path := [47, 1, 47, 6], reference := some [47, 2, 47, 6], merge := none, test := [7] }) := by decide +kernel

/-- the `Matcher` contracts `PrefixOK` and `SubMatches` hold on it -/
example : (∀ m, PrefixOK exEnv m) ∧
    (∀ r ∈ [(⟨1, some 3, none, []⟩ : Rule), ⟨0, some 2, none, [7]⟩], SubMatches exEnv r) := by
  refine ⟨?_, ?_⟩
  · intro m
    refine prefixOK_of_wildcard ?_ ?_ rfl
    · intro p g hm
      simp only [exEnv] at hm ⊢
      split at hm
      · exact ⟨[_], rfl⟩
      · exact ⟨[_], rfl⟩
      · exact ⟨[_], rfl⟩
      · exact ⟨[_], rfl⟩
      · cases hm
    · simp only [exEnv]; split <;> decide
  · intro r hr rm q g hrr hm
    simp only [List.mem_cons, List.not_mem_nil, or_false] at hr
    -- in both rules the reference matcher matches `/2/x` (resp. `/2/5`) only, with `g = x`, and `/1/g` is matched back
    rcases hr with rfl | rfl
    · cases hrr
      simp only [exEnv] at hm ⊢
      split at hm
      · contradiction
      · contradiction
      · contradiction
      · cases hm; decide
      · cases hm
    · cases hrr
      simp only [exEnv] at hm ⊢
      split at hm
      · contradiction
      · contradiction
      · cases hm; rfl
      · contradiction
      · cases hm
/-- (finding F7) matcher 0 is `/1/2*` — prefix `/1/2`, ending inside a name — and matches the file `/1/23`.
    `_files` walks `dirname("/1/2") = "/1"`: the file is enumerated, and the lookup agrees. -/
def w7Env : MEnv where
  pfx _ := [47, 1, 47, 2]
  realpfx _ := [47, 1, 47, 2]
  pat _ := 0
  literal _ := false
  mtch m p := if m == 0 ∧ p == [47, 1, 47, 2, 3] then some 0 else none
  expand _ _ := []

def w7PF : PF := .mk (some [100]) [⟨0, none, none, []⟩] none

example :
    w7PF.iter w7Env { files := [[47, 1, 47, 2, 3]] } = [{ path := [47, 1, 47, 2, 3], reference := none, merge := none, test := [] }] ∧
    w7PF.matchPath w7Env [47, 1, 47, 2, 3] = some { path := [47, 1, 47, 2, 3], reference := none, merge := none, test := [] } := by
  decide +kernel

/-- (finding F15) the main config pairs `/1/**` (matcher 0) with the reference `/2/**` (matcher 1); the excluded
    config covers the localized file `/1/5` (matcher 2, no reference).  The reference file `/2/5` is not excluded, but
    its l10n partner is: nothing is enumerated, and both lookups return `None`. -/
def w15Env : MEnv where
  pfx m := if m == 1 then [47, 2, 47] else [47, 1, 47]
  realpfx m := if m == 1 then [47, 2, 47] else [47, 1, 47]
  pat m := m
  literal _ := false
  mtch m p := if (m == 0 ∨ m == 2) ∧ p == [47, 1, 47, 5] then some 5 else if m == 1 ∧ p == [47, 2, 47, 5] then some 5 else none
  expand m g := if m == 1 then [47, 2, 47, g] else [47, 1, 47, g]

def w15Cfg : Config :=
  .mk 0 (some [[100]]) [{ l10n := 0, reference := some 1, merge := 0, test := none, locales := none }] []
    [.mk 1 (some [[100]]) [{ l10n := 2, reference := none, merge := 2, test := none, locales := none }] [] []]

example :
    onOk (PF.new w15Env (some [100]) [w15Cfg] false) (fun pf =>
      ((pf.iter w15Env { files := [[47, 1, 47, 5], [47, 2, 47, 5]] }).map (·.path),
       pf.matchPath w15Env [47, 1, 47, 5], pf.matchPath w15Env [47, 2, 47, 5],
       excludedBy w15Env pf.exclude [47, 1, 47, 5], excludedBy w15Env pf.exclude [47, 2, 47, 5]))
      = some ([], none, none, true, false) := by decide +kernel

/-- (finding F16) matcher 0 is `/1/2*` and matches both existing files `/1/2` and `/1/23`; its prefix `/1/2` is itself
    a regular file.  The pattern has a wildcard, so `_files` does not stop at the prefix file: both are enumerated. -/
def w16Env : MEnv where
  pfx _ := [47, 1, 47, 2]
  realpfx _ := [47, 1, 47, 2]
  pat _ := 0
  literal _ := false
  mtch m p := if m == 0 ∧ (p == [47, 1, 47, 2] ∨ p == [47, 1, 47, 2, 3]) then some 0 else none
  expand _ _ := []

example : (w7PF.iter w16Env { files := [[47, 1, 47, 2], [47, 1, 47, 2, 3]] }).map (·.path) = [[47, 1, 47, 2], [47, 1, 47, 2, 3]] := by
  decide +kernel

/-- the `Matcher` contract in `PrefixOK` matters: a matcher that claims to be wildcard-free (`literal`) but matches more
    than its prefix is cut short by the `isfile(prefix)` shortcut — only `/1/2` is enumerated, the lookup finds `/1/23`. -/
theorem literal_contract_witness :
    (w7PF.iter { w16Env with literal := fun _ => true } { files := [[47, 1, 47, 2], [47, 1, 47, 2, 3]] }).map (·.path) = [[47, 1, 47, 2]] ∧
    (w7PF.matchPath { w16Env with literal := fun _ => true } [47, 1, 47, 2, 3]).isSome = true ∧
    ¬ PrefixOK { w16Env with literal := fun _ => true } 0 := by
  refine ⟨by decide, by decide, ?_⟩
  intro h
  have := h.literal_only rfl (p := [47, 1, 47, 2, 3]) (g := 0) (by decide)
  revert this
  decide

/-- F14: two configs with the textually same rule `…/*/{v}` and different `v`: same prefix, same pattern object,
    different files matched (`/1/5` vs `/1/6`).  The duplicate scan drops the earlier one: `/1/5` is covered by a gated
    rule but is not enumerated (hypothesis `hdup` of the completeness theorems fails). -/
def w14Env : MEnv where
  pfx _ := [47, 1, 47]
  realpfx _ := [47, 1, 47]
  pat _ := 0
  literal _ := false
  mtch m p := if m == 0 ∧ p == [47, 1, 47, 5] then some 0 else if m == 1 ∧ p == [47, 1, 47, 6] then some 0 else none
  expand _ _ := []

def w14Cfg : Config :=
  .mk 0 none [{ l10n := 0, reference := none, merge := 0, test := none, locales := none }]
    [.mk 1 none [{ l10n := 1, reference := none, merge := 1, test := none, locales := some [[100]] }] [] []] []

theorem dup_env_witness :
    onOk (PF.new w14Env (some [100]) [w14Cfg] false) (fun pf => (pf.iter w14Env { files := [[47, 1, 47, 5], [47, 1, 47, 6]] }).map (·.path))
      = some [[47, 1, 47, 6]] ∧
    (w14Env.mtch 0 [47, 1, 47, 5]).isSome = true ∧ PrefixOK w14Env 0 := by
  refine ⟨by decide, by decide, prefixOK_of_wildcard ?_ (by decide) rfl⟩
  intro p g hm
  simp only [w14Env] at hm ⊢
  split at hm
  · rename_i h; rw [beq_iff_eq.1 h.2]; exact ⟨[5], rfl⟩
  · split at hm
    · rename_i h; simp at h
    · simp at hm

end C13

/-!
## C13M — `ProjectFiles` on the `Matcher` MODEL: which `Matcher` contracts are proved, which are left

Everything above keeps a `Matcher` abstract (`env : MEnv` is a table the harness fills from the real objects) and carries
the `Matcher` contracts `PrefixOK` / `SubMatches` as hypotheses.  Below, `env` is COMPUTED: `PFM.menv ms` (Paths/ProjectFilesM.lean)
evaluates the executable model of `Matcher` (Paths/Matcher.lean, C11/C12) on a table `ms` of matchers built from
configuration TEXTS (`PFM.buildAll specs`: `Matcher(pattern, env, root)` then `with_env`), and `PFM.newM` is
`ProjectFiles(locale, projects, mergebase)` on such a table (`ProjectFilesM`).  `PFM.Built specs ms` = the table was built
from texts and every matcher is in the supported class (`prefix` returns, `re.compile` accepts the pattern, no
`{android_locale}` group) — what `newM` checks of the table (it also checks that the configs use ids of the table).

Proved: part (a) of `PrefixOK` (`prefix_contract`); part (c) for fully bound patterns (`literal_contract`); the `sub` round
trip inside a pattern class (`sub_contract_partial`).  The restated theorems therefore still carry:
* `PFM.Rooted ms m` — the prefix contains a `/` (decidable per matcher; `ProjectConfig` roots every pattern);
* `PFM.LiteralBound ms m` — IF the pattern is wildcard-free THEN all its variables are bound (forced: `literal_unbound_witness`);
* `PFM.SubClassOn ms fs r` — every reference file of the tree that `r`'s reference matcher matches is that pattern filled
  with wildcard values for which both matchers of `r` are `C11R.Fillable` (the class of `C11.sub_roundtrip_star_partial`,
  with the l10n wildcards among the reference wildcards; forced: `sub_class_witness`; hence `_partial`);
* `hdup` — duplicates are duplicates (known finding F14, `C13.dup_env_witness`), unchanged.
-/
namespace C13M
open PF PFM

/-- **Prefix contract** (part (a) of `PrefixOK`), discharged by C12 `match_has_prefix`: for a table built from texts, whatever
    a matcher matches starts with that matcher's `prefix`. -/
theorem prefix_contract {specs : List MSpec} {ms : List PM.Matcher} (hb : Built specs ms) (m : MId) :
    ∀ p g, (menv ms).mtch m p = some g → (menv ms).pfx m <+: p :=
  prefix_holds hb m

/-- **Literal contract** (part (c) of `PrefixOK`): a wildcard-free (`prefix_length == len(pattern)`), fully bound pattern
    matches nothing but its own expansion, and that expansion is its `prefix` — what the `isfile(prefix)` shortcut of `_files`
    relies on.  (From the anchoring `\Z` and the literal-like regex of a bound pattern: `PM.bound_matches_only_expansion`,
    proved for nested values, repeated variables and `{android_locale}`.) -/
theorem literal_contract {specs : List MSpec} {ms : List PM.Matcher} (hb : Built specs ms) {m : MId} {a : PM.Matcher}
    (ha : ms[m]? = some a) (hlit : (menv ms).literal m = true) (hfull : FullyBound a) :
    ∃ t, PM.expandPat (PM.expandVal (PM.fuelFor a.env)) a.pattern a.env true = .ok t ∧ a.prefix = .ok t ∧
      (menv ms).pfx m = t ∧ ∀ p g, (menv ms).mtch m p = some g → p = t :=
  literal_expansion hb ha hlit hfull

/-- … and it does match that expansion — PARTIAL: no variable occurs a second time (`NoRep`, the restriction of C12
    `matches_own_expansion_partial`; the environment values likewise: `EnvOK`). -/
theorem literal_matches_expansion_partial {specs : List MSpec} {ms : List PM.Matcher} (hb : Built specs ms) {m : MId}
    {a : PM.Matcher} {t : PM.Text} (ha : ms[m]? = some a) (henv : PM.EnvOK a.env) (hnr : PM.NoRep a.pattern.nodes)
    (ht : PM.expandPat (PM.expandVal (PM.fuelFor a.env)) a.pattern a.env true = .ok t) :
    ((menv ms).mtch m t).isSome = true := by
  have hu := hb.usable ha
  have hre : ∃ re names, a.regexOf = .ok (re, names) := by
    unfold PFM.usable Prep.usable prep at hu
    simp only [Bool.and_eq_true] at hu
    cases h : a.regexOf with
    | error e => simp [h] at hu
    | ok x => exact ⟨x.1, x.2, rfl⟩
  obtain ⟨re, names, hre⟩ := hre
  have hne := PM.matches_expansion henv hnr ht hre
  rcases usable_match_ok hu t with h | ⟨d, h⟩
  · exact absurd h hne
  · rw [mtch_of_match ha h]; rfl

/-- The `FullyBound` hypothesis of the literal contract is forced: `Matcher("/l/x{v}")` without a value for `v` is
    wildcard-free, has the prefix "/l/x" and matches "/l/xy".  With the files `/l/x` and `/l/xy` the `isfile(prefix)` shortcut
    of `_files` stops at the prefix file (which the pattern does not match): nothing is enumerated although `match("/l/xy")`
    finds the file.  (The harness runs the real code on exactly this project: probe `literal-unbound`.) -/
theorem literal_unbound_witness :
    (match buildAll [{ pattern := PM.T "/l/x{v}", env := [], root := none, withEnv := none }] with
     | .ok ms => ms.all usable && (menv ms).literal 0 && (menv ms).pfx 0 == PM.T "/l/x" &&
         ((menv ms).mtch 0 (PM.T "/l/xy")).isSome &&
         ((PF.mk (some de) [⟨0, none, none, []⟩] none).iter (menv ms) { files := [PM.T "/l/x", PM.T "/l/xy"] }).isEmpty &&
         ((PF.mk (some de) [⟨0, none, none, []⟩] none).matchPath (menv ms) (PM.T "/l/xy")).isSome
     | .error _ => false) = true := by decide +kernel

/-- **`sub` contract — PARTIAL** (the pattern class of `C11.sub_roundtrip_star_partial`).  Let matcher `r` (a reference
    pattern) and matcher `l` (an l10n pattern) be in that class for the wildcard values `vs` — top-level literals, `*`, `**/`,
    final `**`, first occurrences of fully bound variables, the same wildcards, well-separated fillings, `Expandable`
    environments (`C11R.Fillable`, `C11R.Expandable`).  Then on the path `pa` = `r`'s pattern filled with `vs`:
    `r` matches `pa`; `expand l` of that match — `r.sub(l, pa)` — is `pb` = `l`'s pattern filled with `vs`; `l` matches `pb`
    (this is `SubMatches`); and `l.sub(r, pb)` is `pa` again.
    Full statement (not proved): the same for every matched path of any two matchers with the same wildcards — false in
    general (`C11.roundtrip_separator_witness`, `C11.two_starstar_witness`, `sub_class_witness` below). -/
theorem sub_contract_partial {ms : List PM.Matcher} {l r : MId} {a b : PM.Matcher} (hr : ms[r]? = some a)
    (hl : ms[l]? = some b) {vs : Nat → PM.Text} {namesa namesb : List PM.Text} {rta rtb : PM.Text}
    (ha : C11R.Fillable vs a namesa rta) (hb : C11R.Fillable vs b namesb rtb)
    (hea : C11R.Expandable a) (heb : C11R.Expandable b)
    (hsame : ∀ k, k ∈ a.pattern.nodes.filterMap C11R.wildNum ↔ k ∈ b.pattern.nodes.filterMap C11R.wildNum) :
    ∃ g g', (menv ms).mtch r (rta ++ C11R.fillN vs a.env a.pattern.nodes) = some g ∧
      (menv ms).expand l g = rtb ++ C11R.fillN vs b.env b.pattern.nodes ∧
      (menv ms).mtch l ((menv ms).expand l g) = some g' ∧
      (menv ms).expand r g' = rta ++ C11R.fillN vs a.env a.pattern.nodes := by
  obtain ⟨g, h1, h2, _⟩ := sub_holds hr hl ha hb heb (fun k => (hsame k).2)
  obtain ⟨g', h3, h4, _⟩ := sub_holds hl hr hb ha hea (fun k => (hsame k).1)
  exact ⟨g, g', h1, h2, h2.symm ▸ h3, h4⟩

/-- `sub_contract_partial` with the two filled patterns named: what an application to concrete paths needs. -/
theorem sub_contract_at {ms : List PM.Matcher} {l r : MId} {a b : PM.Matcher} (hr : ms[r]? = some a)
    (hl : ms[l]? = some b) {vs : Nat → PM.Text} {namesa namesb : List PM.Text} {rta rtb pa pb : PM.Text}
    (ha : C11R.Fillable vs a namesa rta) (hb : C11R.Fillable vs b namesb rtb)
    (hea : C11R.Expandable a) (heb : C11R.Expandable b)
    (hsame : ∀ k, k ∈ a.pattern.nodes.filterMap C11R.wildNum ↔ k ∈ b.pattern.nodes.filterMap C11R.wildNum)
    (hpa : rta ++ C11R.fillN vs a.env a.pattern.nodes = pa) (hpb : rtb ++ C11R.fillN vs b.env b.pattern.nodes = pb) :
    ∃ g g', (menv ms).mtch r pa = some g ∧ (menv ms).expand l g = pb ∧
      (menv ms).mtch l ((menv ms).expand l g) = some g' ∧ (menv ms).expand r g' = pa := by
  subst hpa hpb
  exact sub_contract_partial hr hl ha hb hea heb hsame

/-- The three parts of `PrefixOK` for the computed relation: (a) always, (b) = `Rooted`, (c) from `LiteralBound`. -/
theorem prefixOK_M {specs : List MSpec} {ms : List PM.Matcher} (hb : Built specs ms) {m : MId}
    (hroot : Rooted ms m) (hfull : LiteralBound ms m) : PrefixOK (menv ms) m :=
  prefixOK_holds hb hroot hfull

/-- `ProjectFilesM` really is `ProjectFiles` on the computed relation: a successful `newM` gives a table in the supported
    class, `o.env` is the relation computed from it and `o.pf` is what `PF.new` builds on it; `iterM` / `matchM` return the
    model's enumeration / lookup unless a `sub` call raised. -/
theorem newM_spec {specs : List MSpec} {locale : Option Loc} {projects : List Config} {mb : Bool} {o : Obj}
    (h : newM specs locale projects mb = .ok o) :
    Built specs o.ms ∧ o.env = menv o.ms ∧ PF.new o.env locale projects mb = .ok o.pf ∧
    (∀ fs its, o.iterM fs = .ok its → its = o.pf.iter o.env fs) ∧
    (∀ p r, o.matchM p = .ok r → r = o.pf.matchPath o.env p) := by
  obtain ⟨h1, h2, h3⟩ := newM_ok h
  exact ⟨h1, h2, h2 ▸ h3, fun _ _ => iterM_ok, fun _ _ => matchM_ok⟩

/-- **Completeness, l10n side, for `ProjectFilesM` — PARTIAL** (`C13.iter_complete_partial` with `PrefixOK` reduced).
    An existing, non-excluded file `p` matched by the l10n matcher of a gated rule `pr` is enumerated.  Left: the matchers are
    rooted; a wildcard-free pattern is fully bound; and `hdup`, duplicates are duplicates (F14).  Full statement = without
    `hdup` (false for the Python code). -/
theorem iter_complete_M_partial {specs : List MSpec} {locale : Option Loc} {projects : List Config} {mb : Bool} {o : Obj}
    (hnew : newM specs locale projects mb = .ok o) (hloc : truthy locale = true) {fs : FS}
    {pr : PathRule} {p : Path} {g : GId}
    (hpr : pr ∈ gated locale (collect locale projects).1) (hm : o.env.mtch pr.l10n p = some g)
    (hp : p ∈ fs.files) (hex : excludedBy o.env o.pf.exclude p = false)
    (hroot : ∀ r ∈ o.pf.matchers, Rooted o.ms r.l10n) (hlit : ∀ r ∈ o.pf.matchers, LiteralBound o.ms r.l10n)
    (hdup : ∀ r ∈ o.pf.matchers, (o.env.realpfx r.l10n, o.env.pat r.l10n) = (o.env.realpfx pr.l10n, o.env.pat pr.l10n) →
      (o.env.mtch r.l10n p).isSome = (o.env.mtch pr.l10n p).isSome) :
    ∃ it ∈ o.pf.iter o.env fs, it.path = p := by
  obtain ⟨hb, he, hpf⟩ := newM_ok hnew
  rw [he] at hm hex hdup ⊢
  exact C13.iter_complete_partial hpf hloc hpr hm hp hex
    (fun r hr => prefixOK_holds hb (hroot r hr) (hlit r hr)) hdup

/-- **Last rule wins, for `ProjectFilesM` — PARTIAL** (`C13.last_rule_wins_partial` with `PrefixOK` reduced and
    `SubMatches` replaced by the pattern class on the reference files of the tree).  Left: `r`'s l10n matcher is rooted
    (and fully bound if wildcard-free), the later rules are in the `sub` class, and `hdup` (with `hlast`: no later rule has
    `r`'s key, F14). -/
theorem last_rule_wins_M_partial {specs : List MSpec} {locale : Option Loc} {projects : List Config} {mb : Bool} {o : Obj}
    (hnew : newM specs locale projects mb = .ok o) (hloc : truthy locale = true) {fs : FS}
    {before after : List Rule} {r : Rule} {p : Path} {g : GId}
    (hrs : mkRules locale mb (gated locale (collect locale projects).1) = .ok (before ++ r :: after))
    (hlast : ∀ x ∈ after, o.env.mtch x.l10n p = none) (hm : o.env.mtch r.l10n p = some g)
    (hp : p ∈ fs.files) (hex : excludedBy o.env o.pf.exclude p = false)
    (hroot : Rooted o.ms r.l10n) (hlit : LiteralBound o.ms r.l10n)
    (hsub : ∀ x ∈ after, SubClassOn o.ms fs x)
    (hdup : ∀ x ∈ after, sameKey o.env x r = true → (o.env.mtch x.l10n p).isSome = true) :
    ({ path := p, reference := r.reference.map (o.env.expand · g), merge := r.merge.map (o.env.expand · g),
       test := mergedTests o.env r before.reverse } : Item) ∈ o.pf.iter o.env fs ∧
    ∀ x ∈ r.test, x ∈ mergedTests o.env r before.reverse := by
  obtain ⟨hb, he, hpf⟩ := newM_ok hnew
  rw [he] at hlast hm hex hdup ⊢
  exact ⟨last_rule_wins_on hpf hloc hrs hlast hm hp hex (prefixOK_holds hb hroot hlit)
    (fun x hx => subMatchesOn_of_class (hsub x hx)) (no_later_dup hlast hdup), fun _ => test_sub_mergedTests⟩

/-- **Enumeration = lookup, on the `Matcher` model — PARTIAL** (`C13.iter_eq_match` with `PrefixOK` reduced to `Rooted` and
    `LiteralBound`, `SubMatches` to the pattern class).  For an existing localized file `p` (excluded or not) that no reference matcher matches:
    `list(pf)` has an item for `p` exactly when `pf.match(p)` returns it. -/
theorem iter_eq_match_M_partial {specs : List MSpec} {ms : List PM.Matcher} (hb : Built specs ms) {fs : FS} {pf : PF}
    {p : Path} {it : Item} (hloc : truthy pf.locale = true) (hp : p ∈ fs.files)
    (hroot : ∀ r ∈ pf.matchers, Rooted ms r.l10n) (hlit : ∀ r ∈ pf.matchers, LiteralBound ms r.l10n)
    (hsub : ∀ r ∈ pf.matchers, SubClassOn ms fs r)
    (hnr : ∀ r ∈ pf.matchers, ∀ rm, r.reference = some rm → (menv ms).mtch rm p = none) :
    (it ∈ pf.iter (menv ms) fs ∧ it.path = p) ↔ pf.matchPath (menv ms) p = some it :=
  iter_eq_match_on hloc hp (fun r hr => prefixOK_holds hb (hroot r hr) (hlit r hr))
    (fun r hr => subMatchesOn_of_class (hsub r hr)) hnr

/-- **Validation mode is complete, on the `Matcher` model** (`C13.validation_complete` with `PrefixOK` reduced to `Rooted`
    and `LiteralBound`): every existing reference file matched by a reference matcher of the object is yielded. -/
theorem validation_complete_M {specs : List MSpec} {ms : List PM.Matcher} (hb : Built specs ms) {fs : FS} {pf : PF}
    (hloc : truthy pf.locale = false) {r : Rule} {rm : MId} {q : Path} {g : GId} (hr : r ∈ pf.matchers)
    (hrr : r.reference = some rm) (hq : q ∈ fs.files) (hm : (menv ms).mtch rm q = some g)
    (hroot : Rooted ms rm) (hlit : LiteralBound ms rm) :
    ∃ it ∈ pf.iter (menv ms) fs, it.path = (menv ms).expand rm g :=
  C13.validation_complete hloc hr hrr hq hm (prefixOK_holds hb hroot hlit)

/-! ### non-vacuity: a tiny project given as pattern texts (`PFM.tinySpecs`, `PFM.tinyCfg`, `PFM.tinyFS`)

Rule A: l10n `{l}browser/**/*.ftl` (`l` = `{l10n_base}/{locale}/`, `l10n_base` = `/l10n`, bound to the locale by `with_env`),
reference `browser/locales/en-US/**/*.ftl`, test 7.  Rule B: the wildcard-free `{l10n_base}/de/README`.  An excluded config
with `/l10n/de/browser/x/*.ftl`.  Files: the reference file `browser/locales/en-US/a/b/c.d.ftl`, its localized partner
`/l10n/de/browser/a/b/c.d.ftl`, `/l10n/de/README`, and `/l10n/de/browser/x/y.ftl` (covered by rule A, excluded). -/

/-- the composed model evaluated: regexes are built from the texts, run on the four files, `sub` maps across; the excluded
    file is neither enumerated nor looked up; the lookup by reference path gives the same tuple -/
example : onOkM (newM tinySpecs (some de) [tinyCfg] false) (fun o =>
      (o.pf.matchers, okOf (o.iterM tinyFS), [fRef, fL10n, fLit, fExcl].map (fun p => okOf (o.matchM p)))) = some (
    [⟨2, none, none, []⟩, ⟨0, some 1, none, [7]⟩],
    some [{ path := fLit, reference := none, merge := none, test := [] },
          { path := fL10n, reference := some fRef, merge := none, test := [7] }],
    [some (some { path := fL10n, reference := some fRef, merge := none, test := [7] }),
     some (some { path := fL10n, reference := some fRef, merge := none, test := [7] }),
     some (some { path := fLit, reference := none, merge := none, test := [] }),
     some none]) := of_decide_eq_true tiny_evaluated.2.2.1

/-- … and validation mode (`ProjectFiles(None, …)`) on the same texts -/
example : onOkM (newM tinySpecs none [tinyCfg] false) (fun o => okOf (o.iterM tinyFS)) =
    some (some [{ path := fRef, reference := some fRef, merge := none, test := [7] }]) :=
  of_decide_eq_true tiny_evaluated.2.2.2.1

/-- every hypothesis of the restated theorems holds on the tiny project (table built from texts, all four matchers rooted,
    the wildcard-free one fully bound, rule A in the `sub` class via `C11R.refMatcher_ok` / `C11R.wildMatcher_ok`), so
    `iter_eq_match_M_partial` applies to the localized file: -/
example (pf : PF) (hpf : pf = .mk (some de) [⟨2, none, none, []⟩, ⟨0, some 1, none, [7]⟩] none) (it : Item) :
    (it ∈ pf.iter (menv tinyMs) tinyFS ∧ it.path = fL10n) ↔ pf.matchPath (menv tinyMs) fL10n = some it := by
  subst hpf
  refine iter_eq_match_M_partial tiny_built rfl (by decide +kernel) ?_ (fun r _ => tiny_literalBound r.l10n) ?_ ?_
  · intro r hr
    simp only [PF.matchers, List.mem_cons, List.not_mem_nil, or_false] at hr
    rcases hr with rfl | rfl
    · exact tiny_rooted 2 (by decide)
    · exact tiny_rooted 0 (by decide)
  · intro r hr
    simp only [PF.matchers, List.mem_cons, List.not_mem_nil, or_false] at hr
    rcases hr with rfl | rfl
    · intro rm a q d hrr; cases hrr
    · exact tiny_subClass
  · intro r hr rm hrr
    simp only [PF.matchers, List.mem_cons, List.not_mem_nil, or_false] at hr
    rcases hr with rfl | rfl
    · cases hrr
    · simp only [Option.some.injEq] at hrr
      subst hrr
      exact mtch_none_of_match tiny_get1 ((usable_match_ok (tiny_built.usable tiny_get1) fL10n).resolve_right
        fun ⟨_, h⟩ => matchesB_false tiny_evaluated.2.2.2.2.1 h)

/-- the `sub` contract on the tiny project: reference file → localized file → reference file -/
example : ∃ g g', (menv tinyMs).mtch 1 fRef = some g ∧ (menv tinyMs).expand 0 g = fL10n ∧
    (menv tinyMs).mtch 0 ((menv tinyMs).expand 0 g) = some g' ∧ (menv tinyMs).expand 1 g' = fRef := by
  obtain ⟨⟨na, fa⟩, ea⟩ := C11R.refMatcher_ok
  obtain ⟨⟨nb, fb⟩, eb⟩ := C11R.wildMatcher_ok
  -- the paths are given by name (`tiny_ref_fill : … = fRef`) and the goal is closed up to reducible unfolding only:
  -- at default transparency `(menv tinyMs).mtch 1 fRef =?= (menv tinyMs).mtch 1 (T …)` unfolds the projection and
  -- runs the matcher
  have h := sub_contract_at tiny_get1 tiny_get0 fa fb ea eb C11R.wild_same tiny_ref_fill tiny_wild_fill
  with_reducible exact h

/-- the literal contract on the tiny project: `{l10n_base}/de/README` matches `/l10n/de/README` only -/
example : ∀ p g, (menv tinyMs).mtch 2 p = some g → p = fLit := by
  obtain ⟨t, ht, _, h3, h4⟩ := literal_contract tiny_built tiny_get2 (by decide +kernel) (fullyBound_spec (by decide +kernel))
  have : t = fLit := by
    have h : ((menv tinyMs).pfx 2 == fLit) = true := by decide +kernel
    rw [← h3]; simpa using h
  subst this
  with_reducible exact h4  -- as above: not left to the unifier at default transparency

/-- Outside the `sub` class the round trip — and with it "enumeration = lookup" — fails: reference `/r/**`, l10n `/l/*`.
    The reference file `/r/a/b.ftl` is mapped to `/l/a/b.ftl`, which the l10n pattern does not match (`*` does not cross
    `/`): the enumeration yields `/l/a/b.ftl`, an existing file, while `match("/l/a/b.ftl")` is `None`.
    (The harness runs the real code on exactly this project: probe `sub-class`.) -/
theorem sub_class_witness :
    (match buildAll [{ pattern := PM.T "/l/*", env := [], root := none, withEnv := none },
                     { pattern := PM.T "/r/**", env := [], root := none, withEnv := none }] with
     | .ok ms =>
       ms.all usable &&
       ((PF.mk (some de) [⟨0, some 1, none, []⟩] none).iter (menv ms) { files := [PM.T "/r/a/b.ftl", PM.T "/l/a/b.ftl"] }).map (·.path)
         == [PM.T "/l/a/b.ftl"] &&
       ((PF.mk (some de) [⟨0, some 1, none, []⟩] none).matchPath (menv ms) (PM.T "/l/a/b.ftl")).isNone
     | .error _ => false) = true := by decide +kernel

end C13M

/-!
## C13T — the TOML route: `TOMLParser` on the `toml.load` dictionaries, composed with the enumeration

`TC.parse w env ig top` (Paths/TomlConfig.lean) = `TOMLParser().parse(top, env=env, ignore_missing_includes=ig)` where `w.files`
maps the path of every loadable configuration file to what `toml.load` returns for it (`TC.TV`), `env` is the command-line
environment; the result is the `ProjectConfig` graph `TC.PC`.  `TC.enumerate w env ig configs locale mergebase fs` =
`list(ProjectFiles(locale, [parse(c) for c in configs], mergebase))` over the regular files `fs`, through `ProjectFilesM`:
one function of (dictionaries, env, file tree).  `C13T.FromFile w env c` (Proofs/C13Toml.lean) says that the object `c` is what
ONE file says: path, root, environment, path rules, filter rules and locales.
-/
namespace C13T
open TC PF

/-- **What `parse` can raise** (never anything else; `illTyped` stands for "a value of another type than the code expects",
    which is outside the model).  `ConfigNotFound(q)`: `q` really is not a loadable file, and with `ignore_missing_includes`
    it can only be the top file itself — a missing include/exclude is then skipped, at any depth; `KeyError`: only the three
    mandatory keys (`l10n` of `[[paths]]`, `path` of `[[filters]]`/`[[includes]]`/`[[excludes]]`, `action` of `[[filters]]`);
    the rest is `ExcludeError`, an exception of `Matcher(...)`/`expand(...)`, or `RecursionError` (include cycle). -/
theorem parse_raises_only {w : World} {env : Env} {ig : Bool} {top : Text} {e : TC.Err}
    (h : parse w env ig top = .error e) :
    match e with
    | .configNotFound q => w.files.lookup (abspath w.cwd q) = none ∧ (ig = true → q = top)
    | .keyError k => k = T "l10n" ∨ k = T "path" ∨ k = T "action"
    | .illTyped => ∃ q tv, w.files.lookup q = some tv ∧ decode tv = none
    | _ => True := by
  have := parseF_error _ _ _ h
  cases e <;> exact this

/-- **Parsing is total on well-typed dictionaries**: if every file of the world reads against the schema (`decode`), `parse`
    returns a configuration or raises one of the Python exceptions above — never the model's "ill-typed". -/
theorem parse_total_welltyped {w : World} {env : Env} {ig : Bool} {top : Text}
    (hw : ∀ q tv, w.files.lookup q = some tv → (decode tv).isSome = true) :
    parse w env ig top ≠ .error .illTyped := by
  intro h
  obtain ⟨q, tv, hq, hd⟩ := parseF_error _ _ _ h
  have := hw q tv hq
  rw [hd] at this
  cases this

/-- **A missing include/exclude, exactly**: when the recursive `parse` of a child raises `ConfigNotFound`, `_processChild`
    re-raises it unless `ignore_missing_includes`, in which case the child is skipped and the rest is processed as if the
    entry were not there. -/
theorem missing_child {parseOne : Text → Except TC.Err PC} {ig : Bool} {cwd : Text} {root : Option Text} {environ : Env}
    {refused : PC → Bool} {c : ChildDoc} {cs : List ChildDoc} {t p q : Text}
    (hc : c.path = some t) (hp : childPath cwd root environ t = .ok p) (hq : parseOne p = .error (.configNotFound q)) :
    processChildren parseOne ig cwd root environ refused (c :: cs) =
      if ig then processChildren parseOne ig cwd root environ refused cs else .error (.configNotFound q) := by
  cases ig <;> simp [processChildren, hc, hp, hq]

/-- Every other exception of a child's `parse` is never swallowed. -/
theorem child_error_propagates {parseOne : Text → Except TC.Err PC} {ig : Bool} {cwd : Text} {root : Option Text}
    {environ : Env} {refused : PC → Bool} {c : ChildDoc} {cs : List ChildDoc} {t p : Text} {e : TC.Err}
    (hc : c.path = some t) (hp : childPath cwd root environ t = .ok p) (he : parseOne p = .error e)
    (hne : ∀ q, e ≠ .configNotFound q) :
    processChildren parseOne ig cwd root environ refused (c :: cs) = .error e := by
  cases e with
  | configNotFound q => exact absurd rfl (hne q)
  | _ => simp [processChildren, hc, hp, he]

/-- **Every object of the parsed graph is what one file says** — the top config, its includes and its excludes, at any
    depth (`FromFile`).  In particular every `[[paths]]` table yields exactly one path rule, in order, with
    its own `reference`, `test` and `locales` (`(optL doc.paths).map PathDoc.toPathD? = c.paths.map some`). -/
theorem parsed_node_from_file {w : World} {env : Env} {ig : Bool} {top : Text} {pc : PC}
    (h : parse w env ig top = .ok pc) : ∀ c ∈ pc.nodes, FromFile w env c :=
  parseF_nodes _ _ _ h

/-- `[[paths]]` tables and path rules correspond one to one. -/
theorem paths_one_rule_each {w : World} {env : Env} {c : PC} (h : FromFile w env c) :
    ∃ p doc, c.path = some p ∧ w.load p = .ok doc ∧ c.paths.length = (optL doc.paths).length ∧
      ∀ (i : Nat) (d : PathD), c.paths[i]? = some d → ∃ t : PathDoc, (optL doc.paths)[i]? = some t ∧ t.l10n = some d.l10n ∧
        t.reference = d.reference ∧ t.test = d.test ∧ t.locales = d.locales ∧ d.module = none := by
  obtain ⟨p, doc, h1, h2, _, _, h5, _, _⟩ := h
  refine ⟨p, doc, h1, h2, ?_, fun i d hd => ?_⟩
  · have := congrArg List.length h5
    simpa using this.symm
  · have h6 : ((optL doc.paths).map PathDoc.toPathD?)[i]? = (c.paths.map some)[i]? := by rw [h5]
    simp only [List.getElem?_map, hd, Option.map_some] at h6
    cases ht : (optL doc.paths)[i]? with
    | none => simp [ht] at h6
    | some t =>
      simp only [ht, Option.map_some, Option.some.injEq] at h6
      refine ⟨t, rfl, ?_⟩
      unfold PathDoc.toPathD? at h6
      cases hl : t.l10n with
      | none => simp [hl] at h6
      | some l =>
        simp only [hl, Option.map_some, Option.some.injEq] at h6
        subst h6
        simp

/-- **The command line overrides the file, in every configuration of the graph** (what `C13.env_override` says of the
    abstract `PF.processEnv`, here of `TC.processEnv` through the whole parse; the two models are not linked): for the top config, every included and every excluded config at any depth, the value of a variable is the
    command-line one if given, else the one of THAT config's own `[env]` table.  A child inherits the command-line env
    (`parse(p, env=ctx.env)`) and nothing of its parent's `[env]`. -/
theorem cmdline_env_wins {w : World} {env : Env} {ig : Bool} {top : Text} {pc : PC}
    (h : parse w env ig top = .ok pc) : ∀ c ∈ pc.nodes, ∃ p doc, c.path = some p ∧ w.load p = .ok doc ∧
      ∀ k, c.environ.lookup k = (env.reverse.lookup k).or ((optL doc.env).reverse.lookup k) := by
  intro c hc
  obtain ⟨p, doc, h1, h2, _, h4, _⟩ := parseF_nodes _ _ _ h c hc
  refine ⟨p, doc, h1, h2, fun k => ?_⟩
  rw [h4, TC.processEnv, PM.lookup_dupdate, PM.lookup_dupdate]
  cases env.reverse.lookup k <;> cases (optL doc.env).reverse.lookup k <;> rfl

/-- **`all_locales`** is the union of the config's `locales`, the `locales` of its path rules and `all_locales` of its
    INCLUDED configs; the excludes never contribute. -/
theorem all_locales_union (pc : PC) (l : Text) :
    l ∈ pc.allLocales ↔ l ∈ ownLocales pc ∨ ∃ ch ∈ pc.children, l ∈ ch.allLocales := by
  obtain ⟨p, r, e, ps, rs, ls, ch, ex⟩ := pc
  unfold PC.allLocales
  rw [mem_sortedSet, configs_mk, List.flatMap_cons, List.mem_append]
  refine or_congr Iff.rfl ?_
  simp only [List.mem_flatMap, PC.children]
  constructor
  · rintro ⟨c, hc, hl⟩
    obtain ⟨x, hx, hcx⟩ := mem_configsL.1 hc
    exact ⟨x, hx, mem_sortedSet.2 (List.mem_flatMap.2 ⟨c, hcx, hl⟩)⟩
  · rintro ⟨x, hx, hl⟩
    obtain ⟨c, hcx, hl⟩ := List.mem_flatMap.1 (mem_sortedSet.1 hl)
    exact ⟨c, mem_configsL.2 ⟨x, hx, hcx⟩, hl⟩

/-- … and it is what the project gate of `ProjectFiles.__init__` tests on the tree handed to the enumeration. -/
theorem all_locales_gate (md : Mode) (ids : List (Option Text)) (pc : PC) (n : Nat) (loc : Loc) :
    inAllLocales (toCfg md ids pc n).2 loc = true ↔ loc ∈ pc.allLocales :=
  -- any table that holds the matchers of `pc` from index `n` on
  (toCfg_corr md ids _ pc n ⟨List.replicate n ⟨[], [], none, none⟩, [], rfl, by simp⟩).inAllLocales loc

/-- The bound on the nesting of includes is immaterial once it suffices: any result other than the model's `RecursionError`
    stays the same under every larger bound. -/
theorem parse_fuel_irrelevant {w : World} {env : Env} {ig : Bool} {f : Nat} {top : Text} {r : Except TC.Err PC}
    (h : parseF w env ig f top = r) (hne : r ≠ .error .recursion) : ∀ g, f ≤ g → parseF w env ig g top = r := by
  intro g hg
  induction hg with
  | refl => exact h
  | step _ ih => rw [parseF_succ _ _ (ih ▸ hne), ih]

/-- **Each path at most once, sorted** — for what `enumerate` yields from dictionaries, env and tree (locale and validation mode). -/
theorem enumerate_nodup_sorted {w : World} {env : Env} {ig : Bool} {configs : List Text} {locale : Option Loc}
    {mb : Option Text} {fs : FS} {its : List Item} (h : enumerate w env ig configs locale mb fs = .ok its) :
    (its.map (·.path)).Pairwise (fun a b => a < b) := by
  obtain ⟨o, _, rfl⟩ := enumerate_ok h
  exact C13.iter_nodup_sorted _ _ _

/-- **Nothing of an excluded configuration**: no enumerated path is matched by the nested `ProjectFiles` built from the
    configurations the `[[excludes]]` tables name (and that are not included explicitly). -/
theorem enumerate_not_excluded {w : World} {env : Env} {ig : Bool} {configs : List Text} {locale : Option Loc}
    {mb : Option Text} {fs : FS} {its : List Item} (h : enumerate w env ig configs locale mb fs = .ok its)
    (hloc : truthy locale = true) :
    ∃ o, projectFiles w env ig configs locale mb = .ok o ∧ ∀ it ∈ its, excludedBy o.env o.pf.exclude it.path = false := by
  obtain ⟨o, ho, rfl⟩ := enumerate_ok h
  refine ⟨o, ho, fun it hit => ?_⟩
  obtain ⟨pcs, _, hnew⟩ := projectFiles_ok ho
  obtain ⟨_, he, hpf⟩ := PFM.newM_ok hnew
  unfold PF.new at hpf
  obtain ⟨_, _, _, hl⟩ := build_ok hpf
  exact C13.iter_excluded_sound (by rw [hl]; exact hloc) hit

/-- Where an enumerated item comes from, with ONE set of witnesses: the project, the configuration `c` reached through
    includes only, its `[[paths]]` table `d`, the gates, and the table slots of the two matchers of `d` with what they
    matched.  `enumerate_sound` and `enumerate_sound_matchers` are its two halves. -/
theorem enumerate_origin {w : World} {env : Env} {ig : Bool} {configs : List Text} {locale : Option Loc}
    {mb : Option Text} {fs : FS} {its : List Item} (h : enumerate w env ig configs locale mb fs = .ok its)
    (hloc : truthy locale = true) {it : Item} (hit : it ∈ its) :
    ∃ o pcs, projectFiles w env ig configs locale mb = .ok o ∧ parseAll w env ig configs = .ok pcs ∧
      ∃ project ∈ pcs, (∀ l, locale = some l → l ∈ project.allLocales) ∧
      ∃ c ∈ project.configs, FromFile w env c ∧ localeOk locale c.locales = true ∧
      ∃ d ∈ c.paths, localeOk locale d.locales = true ∧ (∀ ts, d.test = some ts → ∀ t ∈ ts, PFM.encode t ∈ it.test) ∧
      ∃ k,
        (toPFM { locale := locale, mergebase := mb, cwd := w.cwd } pcs).1[k]? =
          some (l10nSpec { locale := locale, mergebase := mb, cwd := w.cwd } c.root c.environ d.l10n) ∧
        ((∃ g, it.path ∈ fs.files ∧ o.env.mtch k it.path = some g ∧ excludedBy o.env o.pf.exclude it.path = false) ∨
         (∃ t r q g, d.reference = some t ∧
            (toPFM { locale := locale, mergebase := mb, cwd := w.cwd } pcs).1[r]? =
              some (refSpec { locale := locale, mergebase := mb, cwd := w.cwd } c.root c.environ t) ∧
            q ∈ fs.files ∧ o.env.mtch r q = some g ∧ excludedBy o.env o.pf.exclude q = false ∧
            excludedBy o.env o.pf.exclude it.path = false ∧ it.path = o.env.expand k g ∧ it.reference = some q)) := by
  obtain ⟨o, ho, rfl⟩ := enumerate_ok h
  obtain ⟨pcs, hpcs, hnew⟩ := projectFiles_ok ho
  obtain ⟨_, he, hpf⟩ := PFM.newM_ok hnew
  rw [he] at hit
  obtain ⟨project, hproj, hen, cfg, hcfg, hok, pr, hpr, hok2, htest, hcase⟩ := C13.iter_sound hpf hloc hit
  obtain ⟨pc, hpc, hcorr⟩ := (toPFM_corr _ pcs).mem project hproj
  obtain ⟨c, hc, hloc', _, hrule⟩ := hcorr.configs.1 cfg hcfg
  obtain ⟨d, hd, hdl, hdt, hk, href⟩ := ruleAt_specs (hrule pr hpr)
  obtain ⟨p, _, hparse⟩ := parseAll_mem hpcs pc hpc
  refine ⟨o, pcs, ho, hpcs, pc, hpc, fun l hl => (hcorr.inAllLocales l).1 (hen l hl), c, hc,
    parseF_nodes _ _ _ hparse c (configs_sub_nodes pc c hc), hloc' ▸ hok, d, hd, hdl ▸ hok2, ?_, pr.l10n, hk, ?_⟩
  · intro ts hts t ht
    exact htest (ts.map PFM.encode) (by rw [hdt, hts]; rfl) (PFM.encode t) (List.mem_map.2 ⟨t, ht, rfl⟩)
  · rw [he]
    rcases hcase with ⟨g, h1, h2, h3, _⟩ | ⟨rm, q, g, h1, h2, h3, h4, h5, h6, h7, _⟩
    · exact Or.inl ⟨g, h1, h2, h3⟩
    · right
      cases hdr : d.reference with
      | none => rw [hdr] at href; simp only at href; rw [href] at h1; cases h1
      | some t =>
        rw [hdr] at href
        obtain ⟨r, hr1, hr2⟩ := href
        rw [hr1] at h1
        simp only [Option.some.injEq] at h1
        subst h1
        exact ⟨t, r, q, g, rfl, hr2, h2, h3, h4, h5, h6, h7⟩

/-- **Soundness over the dictionaries.**  Whatever `enumerate` yields for a locale is claimed by a `[[paths]]` table `d` of
    a configuration `c` that is the top file of a project or reached from it through `[[includes]]` only (`c ∈ project.configs`:
    never through `[[excludes]]`), `c` is what its file says (`FromFile`), the locale is in the project's `all_locales`, enabled
    for `c` (`locales` of the file) and for `d` (`locales` of the table), and the table's `test` names are among the item's tests. -/
theorem enumerate_sound {w : World} {env : Env} {ig : Bool} {configs : List Text} {locale : Option Loc}
    {mb : Option Text} {fs : FS} {its : List Item} (h : enumerate w env ig configs locale mb fs = .ok its)
    (hloc : truthy locale = true) {it : Item} (hit : it ∈ its) :
    ∃ pcs, parseAll w env ig configs = .ok pcs ∧ ∃ project ∈ pcs, (∀ l, locale = some l → l ∈ project.allLocales) ∧
      ∃ c ∈ project.configs, FromFile w env c ∧ localeOk locale c.locales = true ∧
        ∃ d ∈ c.paths, localeOk locale d.locales = true ∧
          ∀ ts, d.test = some ts → ∀ t ∈ ts, PFM.encode t ∈ it.test := by
  obtain ⟨_, pcs, _, hpcs, project, hp, hall, c, hc, hff, hok, d, hd, hok2, ht, _⟩ := enumerate_origin h hloc hit
  exact ⟨pcs, hpcs, project, hp, hall, c, hc, hff, hok, d, hd, hok2, ht⟩

/-- **Soundness over the dictionaries, with the matchers.**  An item `enumerate` yields for a locale comes from a `[[paths]]`
    table `d` of a config `c` reached through includes only (the gates: `enumerate_sound`; both at once, for the same
    `c` and `d`: `enumerate_origin`), and: the table handed to
    `ProjectFilesM` holds, under ids `k` (and `r`), exactly `Matcher(d.l10n, env=c.environ, root=c.root).with_env({"locale": locale})`
    (and `Matcher(d.reference, env=c.environ, root=c.root)`); either the item's path is an existing, non-excluded file that
    matcher `k` matches, or it is the `sub` image of an existing, non-excluded reference file matcher `r` matches. -/
theorem enumerate_sound_matchers {w : World} {env : Env} {ig : Bool} {configs : List Text} {locale : Option Loc}
    {mb : Option Text} {fs : FS} {its : List Item} (h : enumerate w env ig configs locale mb fs = .ok its)
    (hloc : truthy locale = true) {it : Item} (hit : it ∈ its) :
    ∃ o pcs, projectFiles w env ig configs locale mb = .ok o ∧ parseAll w env ig configs = .ok pcs ∧
      ∃ project ∈ pcs, ∃ c ∈ project.configs, ∃ d ∈ c.paths, ∃ k,
        (toPFM { locale := locale, mergebase := mb, cwd := w.cwd } pcs).1[k]? =
          some (l10nSpec { locale := locale, mergebase := mb, cwd := w.cwd } c.root c.environ d.l10n) ∧
        ((∃ g, it.path ∈ fs.files ∧ o.env.mtch k it.path = some g ∧ excludedBy o.env o.pf.exclude it.path = false) ∨
         (∃ t r q g, d.reference = some t ∧
            (toPFM { locale := locale, mergebase := mb, cwd := w.cwd } pcs).1[r]? =
              some (refSpec { locale := locale, mergebase := mb, cwd := w.cwd } c.root c.environ t) ∧
            q ∈ fs.files ∧ o.env.mtch r q = some g ∧ excludedBy o.env o.pf.exclude q = false ∧
            excludedBy o.env o.pf.exclude it.path = false ∧ it.path = o.env.expand k g ∧ it.reference = some q)) := by
  obtain ⟨o, pcs, ho, hpcs, project, hp, _, c, hc, _, _, d, hd, _, _, hk⟩ := enumerate_origin h hloc hit
  exact ⟨o, pcs, ho, hpcs, project, hp, c, hc, d, hd, hk⟩

/-- **The ids `toPFM` writes into the path rules are ids of its table**: the test behind `newM`'s `badId`, here against the
    number of matcher TEXTS (`newM` tests against the number of built matchers; that `buildAll` keeps the length is not
    proved). -/
theorem projectFiles_ids_ok (md : Mode) (pcs : List PC) :
    PFM.idsOkL (toPFM md pcs).1.length (toPFM md pcs).2 = true :=
  idsOkL_of_nodes _ _ (fun cfg hcfg pr hpr => by
    obtain ⟨c, _, hr⟩ := toPFM_located md pcs cfg hcfg pr hpr
    exact ruleIdsOk_of_ruleAt hr)

/-- The example world evaluated in one go: the examples below are its conjuncts.  All of them run `parse` on the same two
    dictionaries, so one evaluation serves them all (`decide … = true` keeps the instance problem of each conjunct apart). -/
theorem exWorld_evaluated :
    decide (
      okOf exParsed (·.root) = some (some (T "/r")) ∧
      okOf exParsed (·.environ) = some [(T "v", T "cmd"), (T "l", T "{l10n_base}/{locale}/"), (T "l10n_base", T "/l")] ∧
      okOf exParsed (fun pc => pc.paths.map (·.l10n)) = some [T "{l}m/*.ftl"] ∧
      okOf exParsed (fun pc => pc.rules.map (fun x => (x.path, x.key.map KeyD.source, x.action))) =
        some [(T "{l}m/a.ftl", some (T "k\\.1$"), T "ignore")]) = true ∧
    decide (
      okOf exParsed (·.allLocales) = some [T "de", T "fr"] ∧
      okOf exParsed (fun pc => pc.children.map (·.path)) = some [some (T "/r/cfg/a.toml")] ∧
      okOf exParsed (fun pc => pc.children.map (·.root)) = some [some (T "/r")]) = true ∧
    decide (
      okOf exParsed (fun pc => pc.children.map (·.environ)) = some [[(T "v", T "cmd"), (T "w", T "kept"), (T "l10n_base", T "/l")]] ∧
      okOf exParsed (fun pc => pc.children.flatMap (fun c => c.paths.flatMap (fun d => optL d.locales))) = some [T "fr"] ∧
      okOf exParsed (·.excludes.length) = some 0) = true ∧
    decide (errOf (parse exWorld exEnv false (T "/r/l10n.toml")) = some (.configNotFound (T "/r/cfg/gone.toml"))) = true ∧
    decide (okOf (enumerate exWorld exEnv true [T "/r/l10n.toml"] (some (T "de")) none
        { files := [T "/r/l10n.toml", T "/l/de/m/a.ftl", T "/l/de/m/sub/b.ftl", T "/r/ref/m/c.ftl", T "/l/fr/m/a.ftl", T "/l/de/c/cmd.ftl"] }) id
      = some [{ path := T "/l/de/m/a.ftl", reference := some (T "/r/ref/m/a.ftl"), merge := none, test := [PFM.encode (T "android-dtd")] },
             { path := T "/l/de/m/c.ftl", reference := some (T "/r/ref/m/c.ftl"), merge := none, test := [PFM.encode (T "android-dtd")] }]) = true ∧
    decide (okOf (enumerate exWorld exEnv true [T "/r/l10n.toml"] (some (T "fr")) none
        { files := [T "/l/fr/c/child.ftl", T "/r/ref/m/c.ftl", T "/l/fr/m/a.ftl", T "/l/fr/c/cmd.ftl"] }) id
      = some [{ path := T "/l/fr/c/cmd.ftl", reference := none, merge := none, test := [] }]) = true := by decide +kernel

/-- with `ignore_missing_includes`: root `/r` for both files, the command line wins `v` in the parent AND in the child, the
    child keeps its own `w` and inherits nothing of the parent's `[env]` (no `l`), one rule per `[[paths]]`, the compiled
    filter key `k\.1$`, `all_locales` = own + child's per-path locales, the missing exclude is skipped -/
example :
    okOf exParsed (·.root) = some (some (T "/r")) ∧
    okOf exParsed (·.environ) = some [(T "v", T "cmd"), (T "l", T "{l10n_base}/{locale}/"), (T "l10n_base", T "/l")] ∧
    okOf exParsed (fun pc => pc.paths.map (·.l10n)) = some [T "{l}m/*.ftl"] ∧
    okOf exParsed (fun pc => pc.rules.map (fun x => (x.path, x.key.map KeyD.source, x.action))) =
      some [(T "{l}m/a.ftl", some (T "k\\.1$"), T "ignore")] := of_decide_eq_true exWorld_evaluated.1

example :
    okOf exParsed (·.allLocales) = some [T "de", T "fr"] ∧
    okOf exParsed (fun pc => pc.children.map (·.path)) = some [some (T "/r/cfg/a.toml")] ∧
    okOf exParsed (fun pc => pc.children.map (·.root)) = some [some (T "/r")] := of_decide_eq_true exWorld_evaluated.2.1

example :
    okOf exParsed (fun pc => pc.children.map (·.environ)) = some [[(T "v", T "cmd"), (T "w", T "kept"), (T "l10n_base", T "/l")]] ∧
    okOf exParsed (fun pc => pc.children.flatMap (fun c => c.paths.flatMap (fun d => optL d.locales))) = some [T "fr"] ∧
    okOf exParsed (·.excludes.length) = some 0 := of_decide_eq_true exWorld_evaluated.2.2.1

/-- without it: the documented `ConfigNotFound`, for the normalised path of the missing exclude -/
example : errOf (parse exWorld exEnv false (T "/r/l10n.toml")) = some (.configNotFound (T "/r/cfg/gone.toml")) :=
  of_decide_eq_true exWorld_evaluated.2.2.2.1

/-- dictionaries + env + tree → enumeration, locale `de`: the localized file and the reference-only file of the parent's
    rule (with its test), nothing of locale `fr`, nothing of the child's rule (its `locales` is `["fr"]`) -/
example : okOf (enumerate exWorld exEnv true [T "/r/l10n.toml"] (some (T "de")) none
      { files := [T "/r/l10n.toml", T "/l/de/m/a.ftl", T "/l/de/m/sub/b.ftl", T "/r/ref/m/c.ftl", T "/l/fr/m/a.ftl", T "/l/de/c/cmd.ftl"] }) id
    = some [{ path := T "/l/de/m/a.ftl", reference := some (T "/r/ref/m/a.ftl"), merge := none, test := [PFM.encode (T "android-dtd")] },
           { path := T "/l/de/m/c.ftl", reference := some (T "/r/ref/m/c.ftl"), merge := none, test := [PFM.encode (T "android-dtd")] }] :=
  of_decide_eq_true exWorld_evaluated.2.2.2.2.1

/-- … locale `fr`: in `all_locales` only through the child's rule; the parent config (`locales = ["de"]`) is gated off; the
    child's `{v}` is the command-line value -/
example : okOf (enumerate exWorld exEnv true [T "/r/l10n.toml"] (some (T "fr")) none
      { files := [T "/l/fr/c/child.ftl", T "/r/ref/m/c.ftl", T "/l/fr/m/a.ftl", T "/l/fr/c/cmd.ftl"] }) id
    = some [{ path := T "/l/fr/c/cmd.ftl", reference := none, merge := none, test := [] }] :=
  of_decide_eq_true exWorld_evaluated.2.2.2.2.2

/-- the hypothesis of `parse_total_welltyped` is needed: `locales = "de"` (a string, not a list) is outside the model -/
theorem illtyped_witness : errOf (parse illWorld [] false (T "/r/l10n.toml")) = some .illTyped ∧
    ¬ (∀ q tv, illWorld.files.lookup q = some tv → (decode tv).isSome = true) := by
  refine ⟨by decide +kernel, fun h => ?_⟩
  have := h (T "/r/l10n.toml") _ rfl
  revert this
  decide +kernel

/-- an include cycle is the model's `RecursionError` (the harness runs the real parser on such files: `RecursionError`) -/
theorem include_cycle_witness : errOf (parse selfWorld [] true (T "/r/l10n.toml")) = some .recursion := by decide +kernel

end C13T

/-!
## C13I — the legacy l10n.ini route (`paths/ini.py`): `EnumerateApp(inipath, l10nbase).asConfig()`

`TI.enumerateApp w fl inipath l10nbase` (Paths/IniConfig.lean) on the parsed ini sections `w.inis` (what `ConfigParser` answers).
-/
namespace C13I
open TI TC PF

/-- **The `ProjectConfig` of an l10n.ini** is a single config without path, root, children, excludes and filter rules, whose
    only variable is `l10n_base = abspath(l10nbase)`, which has a `locales` list (that it is the content of the `all-locales`
    file the top ini names is the second half of `asConfig_ok`, not restated here), and whose path rules are `ruleOfDir` of
    `directories()` of the loaded configuration, in that order. -/
theorem ini_config_shape {w : IniWorld} {fl : Flavour} {inipath l10nbase : Text} {r : Result}
    (h : enumerateApp w fl inipath l10nbase = .ok r) :
    ∃ cfg ls, load w fl inipath = .ok cfg ∧
      r.pc = .mk none none (PM.dupdate [] [(l10nBaseName, abspath w.cwd l10nbase)])
                (cfg.directories.map ruleOfDir) [] (some ls) [] [] := by
  unfold enumerateApp at h
  split at h
  · cases h
  · rename_i cfg hcfg
    obtain ⟨ls, hpc, _⟩ := asConfig_ok h
    exact ⟨cfg, ls, hcfg, hpc⟩

/-- **Every `dirs` entry yields its path rule (l10n and reference pattern), with the module set**: for every loaded ini file
    `n` of the include tree (the top file or an included one, at any depth) and every word `m` of its `[compare] dirs`, the
    config has a path rule with
    l10n `normpath("{l10n_base}/{locale}/" + m + "/**")`, reference `normpath(n.base + "/" + m + "/locales/en-US/**")` and
    `module = m` (plus the `android-dtd` test exactly for `mobile/android/base`) — and every path rule is of that form. -/
theorem dirs_entry_two_rules {w : IniWorld} {fl : Flavour} {inipath l10nbase : Text} {r : Result}
    (h : enumerateApp w fl inipath l10nbase = .ok r) :
    ∃ cfg, load w fl inipath = .ok cfg ∧ ∀ d : PathD, d ∈ r.pc.paths ↔
      ∃ n ∈ nodes cfg, ∃ m ∈ n.dirs,
        d = { l10n := normpath (Gen.TablesCfg.iniL10nPrefix ++ m ++ Gen.TablesCfg.iniL10nSuffix),
              reference := some (normpath (n.base ++ Gen.TablesCfg.iniRefSep ++ m ++ Gen.TablesCfg.iniRefSuffix)),
              test := if m == Gen.TablesCfg.iniTestModule then some [Gen.TablesCfg.iniTestName] else none,
              locales := none, module := some m } := by
  obtain ⟨cfg, ls, hcfg, hpc⟩ := ini_config_shape h
  refine ⟨cfg, hcfg, fun d => ?_⟩
  rw [hpc]
  simp only [PC.paths, List.mem_map]
  constructor
  · rintro ⟨bm, hbm, rfl⟩
    obtain ⟨n, hn, h1, h2⟩ := (mem_directories cfg bm).1 hbm
    exact ⟨n, hn, bm.2, h2, by simp [ruleOfDir, h1]⟩
  · rintro ⟨n, hn, m, hm, rfl⟩
    exact ⟨(n.base, m), (mem_directories cfg _).2 ⟨n, hn, rfl, hm⟩, rfl⟩

/-- the top file's own `dirs` words are among them, with `base = dirname(inipath)/depth` (`.` without a `depth` option) -/
theorem top_dirs_loaded {w : IniWorld} {fl : Flavour} {f : Nat} {given : Text} {cfg : Loaded}
    (h : loadF w fl (f + 1) given = .ok cfg) :
    cfg ∈ nodes cfg ∧
    cfg.base = join (dirname (normpath given)) (match (w.doc (normpath given)).depth with | some d => d | none => dot) ∧
    cfg.dirs = (match (w.doc (normpath given)).dirs with | some s => splitWs s | none => []) := by
  obtain ⟨_, h2, h3⟩ := loadF_top h
  refine ⟨?_, h2, h3⟩
  obtain ⟨p, b, d, a, ch⟩ := cfg
  rw [nodes_mk]; exact List.mem_cons_self

def exIni : IniWorld :=
  { inis := [(T "/r/browser/locales/l10n.ini",
              { depth := some (T "../.."), all := some (T "browser/locales/all-locales"),
                includes := some [(T "toolkit", T "toolkit/locales/l10n.ini")], dirs := some (T "browser mobile/android/base"), details := [] }),
             (T "/r/toolkit/locales/l10n.ini",
              { depth := some (T "../.."), all := none, includes := none, dirs := some (T "toolkit\n  dom"), details := [] })],
    filters := [T "/r/toolkit/locales/l10n.ini"],
    locales := [(T "/r/browser/locales/all-locales", [T "de", T "fr"])],
    cwd := T "/" }

def exRes : Except TI.Err Result := enumerateApp exIni .plain (T "/r/browser/locales/l10n.ini") (T "/l")

def resOf {α} (f : Result → α) : Option α :=
  match exRes with
  | .ok x => some (f x)
  | .error _ => none

/-- The example evaluated in one go (the three examples below are its conjuncts): one load of the two ini files, one
    `asConfig`. -/
theorem exRes_evaluated :
    decide (resOf (fun x => x.pc.paths.map (fun (d : PathD) => (d.l10n, d.reference))) = some
      [(T "{l10n_base}/{locale}/browser/**", some (T "/r/browser/locales/en-US/**")),
       (T "{l10n_base}/{locale}/mobile/android/base/**", some (T "/r/mobile/android/base/locales/en-US/**")),
       (T "{l10n_base}/{locale}/toolkit/**", some (T "/r/toolkit/locales/en-US/**")),
       (T "{l10n_base}/{locale}/dom/**", some (T "/r/dom/locales/en-US/**"))]) = true ∧
    decide (resOf (fun x => x.pc.paths.map (fun (d : PathD) => (d.module, d.test))) = some
      [(some (T "browser"), none), (some (T "mobile/android/base"), some [T "android-dtd"]),
       (some (T "toolkit"), none), (some (T "dom"), none)]) = true ∧
    decide (resOf (fun x => (x.pc.locales, x.filterFrom, x.pc.environ)) =
      some (some [T "de", T "fr"], some (T "/r/toolkit/locales/l10n.ini"), [(T "l10n_base", T "/l")])) = true := by
  decide +kernel

/-- one rule pair per `dirs` word of the top file and of the included one, module set, the Android test where due -/
example : resOf (fun x => x.pc.paths.map (fun (d : PathD) => (d.l10n, d.reference))) = some
    [(T "{l10n_base}/{locale}/browser/**", some (T "/r/browser/locales/en-US/**")),
     (T "{l10n_base}/{locale}/mobile/android/base/**", some (T "/r/mobile/android/base/locales/en-US/**")),
     (T "{l10n_base}/{locale}/toolkit/**", some (T "/r/toolkit/locales/en-US/**")),
     (T "{l10n_base}/{locale}/dom/**", some (T "/r/dom/locales/en-US/**"))] := of_decide_eq_true exRes_evaluated.1

example : resOf (fun x => x.pc.paths.map (fun (d : PathD) => (d.module, d.test))) = some
    [(some (T "browser"), none), (some (T "mobile/android/base"), some [T "android-dtd"]),
     (some (T "toolkit"), none), (some (T "dom"), none)] := of_decide_eq_true exRes_evaluated.2.1

/-- locales from the all-locales file; the filter.py of the included ini (the top one has none) -/
example : resOf (fun x => (x.pc.locales, x.filterFrom, x.pc.environ)) =
    some (some [T "de", T "fr"], some (T "/r/toolkit/locales/l10n.ini"), [(T "l10n_base", T "/l")]) :=
  of_decide_eq_true exRes_evaluated.2.2

end C13I

/-!
## C13S — parser sessions: ONE `TOMLParser` / `EnumerateApp` object used for a sequence of calls (Paths/TomlSession.lean)

The class of regressions these exclude: anything a call leaves behind ON THE OBJECT (a cache of included configurations keyed by
less than the result depends on, a shared `env` dict, shared child `ProjectConfig` objects) that a later call picks up.  In the
model the objects are explicit (`TParser`, `State.live`, `EApp`) and every call is a step; the theorems say that the result of
call number `n` is the STATELESS function of the arguments of call `n` and of the files as they are at call `n`.  The real
objects are held to that by the `c13.session` / `c13.ini.session` correspondence on recorded histories and by the harness
oracle (by-construction expectation per call + the same call on a fresh object).
-/
namespace C13S
open TS TC PF

/-- **A `TOMLParser` object has no memory**: in a sequence of `parse` calls on ONE object, the `n`-th result is
    `TOMLParser().parse` of the `n`-th arguments on the files as they are at the `n`-th call — whatever was parsed before, with
    whatever variables, and whatever was rewritten on disk in between. -/
theorem parser_session_pointwise (p : TParser) (as : List ParseArgs) (n : Nat) :
    (p.session as)[n]? = (as[n]?).map fun a => TC.parse a.w (ctxEnv a.env) a.ignore a.path := by
  induction as generalizing n with
  | nil => simp [TParser.session]
  | cons a as ih =>
    cases n with
    | zero => simp [TParser.session, parse_snd]
    | succ n =>
      simp only [TParser.session, List.getElem?_cons_succ, parse_fst]
      exact ih n

/-- `parse_fst`, under the name the property uses -/
theorem parser_object_unchanged (p : TParser) (a : ParseArgs) : (p.parse a).1 = p := rfl

/-- … also inside a history that mixes `parse`, `set_locales(deep=True)` on earlier results and `ProjectFiles` enumerations:
    call number `n`, if it is a `parse`, returns `TC.parse` of ITS arguments and ITS world. -/
theorem session_parse_pointwise (s : State) (ops : List Op) (n : Nat) (a : ParseArgs) (h : ops[n]? = some (.parse a)) :
    (run s ops).2[n]? = some (.parsed (TC.parse a.w (ctxEnv a.env) a.ignore a.path)) := by
  rw [run_get, h]; simp [step_parse_out]

/-- **`ProjectFiles` built again and again from the configurations the caller holds**: call number `n`, if it is
    `ProjectFiles(locale, [live[i] …], mergebase)` + enumeration + lookups, returns the stateless `listOf` of the graphs held at
    that moment — independent of the locales, merge bases and orders of the earlier constructions. -/
theorem session_files_pointwise (s : State) (ops : List Op) (n : Nat) (is : List Nat) (loc : Option Loc) (mb : Option Text)
    (cwd : Text) (fs : FS) (looks : List Path) (h : ops[n]? = some (.files is loc mb cwd fs looks)) (pcs : List PC)
    (hp : is.mapM (fun i => (stateAt s ops n).live[i]?) = some pcs) :
    (run s ops).2[n]? = some (.listed (listOf cwd pcs loc mb fs looks)) := by
  rw [run_get, h]; simp [step_files_out _ _ _ _ _ _ _ _ hp]

/-- building and enumerating a `ProjectFiles` object changes nothing the caller holds -/
theorem session_reads_leave_state (s : State) (is : List Nat) (loc : Option Loc) (mb : Option Text) (cwd : Text) (fs : FS)
    (looks : List Path) : (step s (.files is loc mb cwd fs looks)).1 = s :=
  step_files_state s is loc mb cwd fs looks

/-- **No aliasing between results**: a configuration the caller holds is changed by nothing but `set_locales` on that very
    configuration — not by later `parse` calls (of the same or other files, with the same or other variables), not by
    `set_locales(deep=True)` on ANOTHER result that includes the same file, not by any number of `ProjectFiles` objects. -/
theorem live_config_stable (s : State) (ops : List Op) (i : Nat) (hi : i < s.live.length)
    (hops : ∀ op ∈ ops, ∀ ls, op ≠ .deep i ls) : (run s ops).1.live[i]? = s.live[i]? := by
  induction ops generalizing s with
  | nil => rfl
  | cons op ops ih =>
    rw [run_cons]
    obtain ⟨h1, h2⟩ := step_live_stable s op i hi (hops op List.mem_cons_self)
    simp only
    rw [ih _ h2 (fun o ho => hops o (List.mem_cons_of_mem _ ho)), h1]

/-- a successful `parse` hands the caller exactly `TC.parse …`, and that object stays what it is through any later history that
    does not call `set_locales` on it -/
theorem parsed_config_kept (s : State) (a : ParseArgs) (pc : PC) (ops : List Op)
    (h : TC.parse a.w (ctxEnv a.env) a.ignore a.path = .ok pc)
    (hops : ∀ op ∈ ops, ∀ ls, op ≠ .deep s.live.length ls) :
    (run s (.parse a :: ops)).1.live[s.live.length]? = some pc := by
  rw [run_cons]
  have hl := step_parse_live_ok s a pc h
  simp only
  rw [live_config_stable _ ops s.live.length (by rw [hl]; simp) hops, hl]
  simp

/-- **Held graphs = fresh graphs**: `ProjectFiles` on the graphs `parse` returned for `configs` is `TC.projectFiles` (parse +
    construct in one go) — so every `C13T.enumerate_*` theorem speaks about the enumerations of a session as well. -/
theorem files_of_fresh_parse {w : World} {env : Env} {ig : Bool} {configs : List Text} {pcs : List PC}
    (hp : parseAll w env ig configs = .ok pcs) (locale : Option Loc) (mb : Option Text) (fs : FS) (looks : List Path)
    {r : List Item × List (Option Item)} (h : listOf w.cwd pcs locale mb fs looks = .ok r) :
    TC.enumerate w env ig configs locale mb fs = .ok r.1 := by
  obtain ⟨o, ho, hits⟩ := listOf_items h
  unfold TC.enumerate
  rw [projectFiles_eq_filesOf, hp]
  simp only [ho, hits]

/-- **An `EnumerateApp` object has no memory either**: the `n`-th `asConfig()` on one object is `asConfig` of the configuration
    its constructor loaded, on the files (`filter.py`, all-locales) as they are at the `n`-th call. -/
theorem eapp_session_pointwise (app : EApp) (ws : List TI.IniWorld) (n : Nat) :
    (app.session ws)[n]? = (ws[n]?).map fun w => TI.asConfigAbs w app.l10nbase app.config := by
  induction ws generalizing n with
  | nil => simp [EApp.session]
  | cons w ws ih =>
    cases n with
    | zero => simp [EApp.session, EApp.asConfig]
    | succ n =>
      simp only [EApp.session, List.getElem?_cons_succ, eapp_fst]
      exact ih n

/-- **Re-used application = fresh application** as long as the l10n.ini files load to the same configuration: any later
    `asConfig()` returns what `EnumerateApp(inipath, l10nbase).asConfig()` returns at that moment. -/
theorem eapp_reuse_eq_fresh {w w' : TI.IniWorld} {fl : TI.Flavour} {inipath l10nbase : Text} {app : EApp}
    (h : EApp.new w fl inipath l10nbase = .ok app) (hload : TI.load w' fl inipath = TI.load w fl inipath)
    (hcwd : w'.cwd = w.cwd) : (app.asConfig w').2 = TI.enumerateApp w' fl inipath l10nbase := by
  obtain ⟨hc, hb⟩ := eapp_new_ok h
  unfold TI.enumerateApp TI.asConfig EApp.asConfig
  rw [hload, hc, hb, hcwd]

/-- **A cache is invisible iff its key determines the result** (⇐): calls through a memo table whose key determines the result
    (`key a = key b → f a = f b`; e.g. a key made of everything `f` reads) return, call by call, what `f` returns. -/
theorem memo_session_pointwise {A K R : Type} [DecidableEq K] (m : Memo A K R)
    (hk : ∀ a b, m.key a = m.key b → m.f a = m.f b) (as : List A) : m.run [] as = as.map m.f :=
  memo_run_eq m hk as [] (fun _ _ h => by simp [List.lookup] at h)

/-- (⇒) two calls with the same key and different results: the second call gets the FIRST call's result. -/
theorem memo_key_must_determine {A K R : Type} [DecidableEq K] (m : Memo A K R) (a b : A) (hkey : m.key a = m.key b)
    (hne : m.f a ≠ m.f b) : m.run [] [a, b] ≠ [a, b].map m.f := by
  rw [memo_second_call_stale m a b hkey]
  intro h
  simp only [List.map_cons, List.map_nil, List.cons.injEq, and_true, true_and] at h
  exact hne h

/-- **The regression in miniature** (negation witness, evaluated through the whole parser model): the included file of the
    example world parsed twice through a cache keyed by (normalised path, sorted NAMES of the command-line variables) — first for
    the checkout `/l`, then for `/other`.  Equal keys, different results: the second call returns the first call's configuration,
    whose `l10n_base` is still `/l`.  (A key of the path alone is coarser and fails on the same two calls.) -/
theorem names_key_witness :
    namesMemo.key exCallA = namesMemo.key exCallB ∧
    namesMemo.run [] [exCallA, exCallB] ≠ [exCallA, exCallB].map namesMemo.f ∧
    (namesMemo.run [] [exCallA, exCallB]).map (fun r => C13T.okOf r (fun pc => pc.environ.lookup (T "l10n_base"))) =
      [some (some (T "/l")), some (some (T "/l"))] ∧
    ([exCallA, exCallB].map namesMemo.f).map (fun r => C13T.okOf r (fun pc => pc.environ.lookup (T "l10n_base"))) =
      [some (some (T "/l")), some (some (T "/other"))] := by
  have hkey : namesMemo.key exCallA = namesMemo.key exCallB := by decide +kernel
  have hB : ([exCallA, exCallB].map namesMemo.f).map (fun r => C13T.okOf r (fun pc => pc.environ.lookup (T "l10n_base"))) =
      [some (some (T "/l")), some (some (T "/other"))] := by decide +kernel
  have hA : (namesMemo.run [] [exCallA, exCallB]).map (fun r => C13T.okOf r (fun pc => pc.environ.lookup (T "l10n_base"))) =
      [some (some (T "/l")), some (some (T "/l"))] := by
    rw [memo_second_call_stale _ _ _ hkey]
    revert hB
    simp only [List.map_cons, List.map_nil, List.cons.injEq, and_true]
    intro h; exact ⟨h.1, h.1⟩
  refine ⟨hkey, ?_, hA, hB⟩
  intro h
  rw [h] at hA
  rw [hA] at hB
  revert hB
  decide

/-- parse the top file for `/l`, then again for `/other` on ONE parser, then mutate the first result -/
def exOps : List Op :=
  [.parse { w := C13T.exWorld, env := some [(T "l10n_base", T "/l")], ignore := true, path := T "/r/l10n.toml" },
   .parse { w := C13T.exWorld, env := some [(T "l10n_base", T "/other")], ignore := true, path := T "/r/l10n.toml" },
   .deep 0 [T "ja"]]

/-- what the example looks at: `l10n_base` of the config and of its children, `locales` of the config and of its children -/
def exView (pc : PC) : List (List Text) :=
  [(pc.environ.lookup (T "l10n_base")).toList, pc.children.flatMap (fun c => (c.environ.lookup (T "l10n_base")).toList),
   optL pc.locales, pc.children.flatMap (fun c => optL c.locales)]

/-- the second result carries `/other` in the parent and in the included config; the first result keeps `/l` and only it gets
    the new locales (the included config of the second result keeps `locales = None`) -/
example :
    (run State.init exOps).1.live.map exView =
      [[[T "/l"], [T "/l"], [T "ja"], [T "ja"]],
       [[T "/other"], [T "/other"], [T "de"], []]] := by decide +kernel

end C13S
