/-
C18 — Results do not depend on what was processed before.

The process-wide mutable state of compare-locales is made explicit in `Hist.G` (CLModel/History/State.lean:
`Junk.junkid`, the `ctx` of the parser singletons, every `Context` object) and each tool
operation is a function `Hist.step : G → Op → G × Out`.  After the theorems about `Hist` come those about the machine with
its memos (`HistM`, CLModel/History/Machine.lean), about the machine with a file system (`HistW`, CLModel/History/World.lean)
and about the Observer's aggregation over the files of one run.
-/
import CLModel.History.State
import CLModel.Proofs.C18Digits
import CLModel.Proofs.C18Natural
import CLModel.Proofs.C18State
import CLModel.History.Machine
import CLModel.Proofs.C18MLint
import CLModel.Proofs.C18MCache
import CLModel.Proofs.C18MStep
import CLModel.Proofs.C18MObserver
import CLModel.History.World
import CLModel.Proofs.C18World
import CLModel.Proofs.C18WorldDemo
namespace C18
open Hist P

/-- `Junk.key = "_junk_%d_%d-%d" % (junkid, start, end)` determines the three numbers: two Junk objects have the
    same key only if they were built from the same counter value (and the same span). -/
theorem junkKey_injective {i s e i' s' e' : Nat} (h : junkKey i s e = junkKey i' s' e') :
    i = i' ∧ s = s' ∧ e = e' :=
  junkKey_inj h

/-- Junk keys are pairwise distinct within a run: whatever state the interpreter is in and whatever is
    processed (any formats, any order, compares in between), no two Junk objects returned by the parses of the
    run have the same key — the class-level counter only grows. -/
theorem junk_keys_distinct (g : G) (ops : List Op) :
    (((run g ops).2.flatMap Out.ents).filterMap Ent.junkKeyStr).Nodup :=
  keys_nodup_of_ids _ (run_ids ops g).1

/-- `Junk.junkid` influences a parse only through the junk keys: started with the counter at `g.junkid` (and
    with `g.heap.length` Context objects alive) the parse returns the SAME entries — same classes, spans, key and
    value spans — with every junk id `g.junkid` higher, and the counter ends `g.junkid` higher. -/
theorem junkid_only_in_keys (g : G) (f : Fmt) (text : Array Nat) :
    (step g (.parse f text)).2 = ((step G.init (.parse f text)).2).shift g.junkid g.heap.length ∧
    (step g (.parse f text)).1.junkid = (step G.init (.parse f text)).1.junkid + g.junkid := by
  have h1 := step_closed_out g G.init g.junkid g.heap.length (.parse f text) trivial
    (by simp [G.init]) (by simp [G.init])
  have h2 := step_closed_state g G.init g.junkid g.heap.length (.parse f text) trivial
    (by simp [G.init]) (by simp [G.init])
  exact ⟨h1, h2.1⟩

/-- The report's dependence on keys: `ContentComparer.compare` (duplicate detection with `Counter`, `AddRemove`,
    `KeyedTuple` lookups, the loop over the actions) commutes with every renaming of keys that is injective on
    the keys of the two files and respects the `[kK]ey` test.  Keys matter only up to equality. -/
theorem compare_natural {κ κ' : Type} [BEq κ] [LawfulBEq κ] [BEq κ'] [LawfulBEq κ']
    {f : κ → κ'} {ks : List κ} (hf : InjOn f ks) (isKey : κ → Bool) (isKey' : κ' → Bool)
    (hkey : ∀ k ∈ ks, isKey' (f k) = isKey k) (lc : Nat → Nat × Nat) (ref l10n : List (KEnt κ))
    (href : ∀ e ∈ ref, e.key ∈ ks) (hl10n : ∀ e ∈ l10n, e.key ∈ ks) :
    compareG isKey' lc (ref.map (KEnt.mapKey f)) (l10n.map (KEnt.mapKey f))
      = (compareG isKey lc ref l10n).map (accMap f) :=
  compareG_nat hf isKey isKey' hkey lc ref l10n href hl10n

/-- The report of a file pair is a function of the two contents only: if no real key of either file has the
    shape `_junk_<n>_<a>-<b>`, comparing the pair in ANY global state (any counter value, any parser contexts)
    gives string for string the report of a fresh interpreter — messages, their order, the statistics, or the
    same exception. -/
theorem report_independent (g : G) (f : Fmt) (ref l10n : Array Nat) (h : NoJunkLikeKeys f ref l10n) :
    (step g (.compare f ref l10n)).2 = (step G.init (.compare f ref l10n)).2 := by
  rw [report_indep g f ref l10n h, report_indep G.init f ref l10n h]

/-- Outputs modulo junk-key renaming are independent of the global state: for a parse, and for a compare under
    `NoJunkLikeKeys` (`Op.closed`), the output in state `g` is the output of a fresh interpreter with the junk ids
    shifted by `g.junkid` (reports are not touched by the shift: they contain no junk key). -/
theorem out_independent (g : G) (op : Op) (h : op.closed) :
    (step g op).2 = ((step G.init op).2).shift g.junkid g.heap.length :=
  step_closed_out g G.init g.junkid g.heap.length op h (by simp [G.init]) (by simp [G.init])

/-- The same for whole histories: what a sequence of operations returns does not depend on the state it is
    started in (so it does not depend on what was processed before). -/
theorem run_independent (g : G) (ops : List Op) (h : ∀ op ∈ ops, op.closed) :
    (run g ops).2 = ((run G.init ops).2).map (Out.shift g.junkid g.heap.length) :=
  run_shift ops g G.init g.junkid g.heap.length h (by simp [G.init]) (by simp [G.init])

/-- A multi-file run reports exactly the union of the single-file runs, in any order: every compare of a run
    over several file pairs — started in any state — returns the report the pair gets alone in a fresh
    interpreter; hence the results of any permutation of the files are a permutation of the same reports
    (the Observer only files each report under its path and adds the statistics up). -/
theorem multi_file_union (g : G) (ops : List Op)
    (h : ∀ op ∈ ops, ∃ f ref l10n, op = .compare f ref l10n ∧ NoJunkLikeKeys f ref l10n) :
    (run g ops).2 = ops.map (fun op => (step G.init op).2) ∧
    ∀ ops', ops'.Perm ops → ∀ g', ((run g' ops').2).Perm ((run g ops).2) := by
  have key : ∀ (ops : List Op) (g : G),
      (∀ op ∈ ops, ∃ f ref l10n, op = .compare f ref l10n ∧ NoJunkLikeKeys f ref l10n) →
      (run g ops).2 = ops.map (fun op => (step G.init op).2) := by
    intro ops
    induction ops with
    | nil => intro g _; rfl
    | cons op t ih =>
      intro g h
      obtain ⟨f, ref, l10n, rfl, hn⟩ := h _ List.mem_cons_self
      simp only [run, List.map_cons]
      rw [report_independent g f ref l10n hn, ih _ (fun o ho => h o (List.mem_cons_of_mem _ ho))]
  refine ⟨key ops g h, ?_⟩
  intro ops' hp g'
  rw [key ops g h, key ops' g' (fun op hop => h op (hp.subset hop))]
  exact hp.map _

/-- Entities obtained from one parse remain valid after the same parser has read other files: key, raw value,
    `all` and the positions read off an entry that refers to an existing Context are the same after ANY further
    operations (each `readUnicode` creates a new Context; old ones only get their line cache filled). -/
theorem entities_survive (g : G) (f : Fmt) (e : Ent) (he : e.ctx < g.heap.length) (ops : List Op) :
    obsPure (run g ops).1.heap f e = obsPure g.heap f e ∧
    (step (run g ops).1 (.reobs f e)).2 = .obs (obsPure g.heap f e) := by
  have h := obsPure_le g.heap (run g ops).1.heap (run_heap ops g) f e he
  refine ⟨h, ?_⟩
  simp only [step]
  rw [doObs_eq, h]

/-- ... in particular the entries a parse has just returned. -/
theorem parsed_entities_survive (g : G) (f : Fmt) (text : Array Nat) (ops : List Op) :
    ∀ e ∈ (doParse g f text).2.2,
      (step (run (doParse g f text).1 ops).1 (.reobs f e)).2 = .obs (obsPure (doParse g f text).1.heap f e) :=
  fun e he => (entities_survive _ f e (doParse_ctx g f text e he) ops).2

/-- "a=1\nzz\n" -/
def refA : Array Nat := #[97, 61, 49, 10, 122, 122, 10]
/-- "b=2\nyy\nakey=3\n" -/
def l10nA : Array Nat := #[98, 61, 50, 10, 121, 121, 10, 97, 107, 101, 121, 61, 51, 10]

theorem keysA : (refK .ini refA).map (·.key) ++ (l10nK .ini refA l10nA).map (·.key)
    = [.real [97], .junk 1 4 7, .real [98], .junk 2 4 7, .real [97, 107, 101, 121]] := by decide +kernel

/-- the hypothesis holds for a pair with entities, junk on both sides and a `key` key -/
theorem noJunkLikeA : NoJunkLikeKeys .ini refA l10nA := by
  intro t ht hs
  rw [keysA] at ht
  have hh := junkShaped_head t hs
  simp at ht
  rcases ht with rfl | rfl | rfl <;> simp at hh

/-- and the theorem applies to it from a state in which 41 Junk objects were created before -/
example : (step { junkid := 41 } (.compare .ini refA l10nA)).2 = (step G.init (.compare .ini refA l10nA)).2 :=
  report_independent _ _ _ _ noJunkLikeA

set_option maxRecDepth 100000 in
/-- the parse listing of the same text: ids 1 in a fresh interpreter, 42 after 41 earlier Junk objects -/
example : ((step G.init (.parse .ini refA)).2.ents.filterMap Ent.junkKeyStr) = [junkKey 1 4 7] ∧
    ((step { junkid := 41 } (.parse .ini refA)).2.ents.filterMap Ent.junkKeyStr) = [junkKey 42 4 7] := by decide +kernel

/-! ### negation witness: `NoJunkLikeKeys` is necessary (finding F8)

A real key that is the key string of the Junk of the same file for ONE value of the counter:
l10n = "_junk_1_16-19=1\nzzz" (the junk "zzz" has span 16-19), reference = "a=1\n". -/

def refW : Array Nat := #[97, 61, 49, 10]
def l10nW : Array Nat := #[95, 106, 117, 110, 107, 95, 49, 95, 49, 54, 45, 49, 57, 61, 49, 10, 122, 122, 122]
/-- "_junk_1_16-19" -/
def K1 : List Nat := [95, 106, 117, 110, 107, 95, 49, 95, 49, 54, 45, 49, 57]
/-- "_junk_2_16-19" -/
def K2 : List Nat := [95, 106, 117, 110, 107, 95, 50, 95, 49, 54, 45, 49, 57]
def rKW : List (KEnt (List Nat)) :=
  [{ key := [97], junk := false, val := [49], s := 0, e := 3, words := 1, moch := [] }]
def lKW (k : List Nat) : List (KEnt (List Nat)) :=
  [{ key := K1, junk := false, val := [49], s := 0, e := 15, words := 1, moch := [] },
   { key := k, junk := true, val := [122, 122, 122], s := 16, e := 19, words := 1, moch := [] }]

example : junkKey 1 16 19 = K1 ∧ junkKey 2 16 19 = K2 := by decide

/-- the excluded case: the hypothesis fails for this pair -/
theorem not_noJunkLikeW : ¬ NoJunkLikeKeys .ini refW l10nW := by
  intro h
  refine h K1 ?_ ⟨1, 16, 19, by decide⟩
  have : Key.real K1 ∈ (l10nK .ini refW l10nW).map (·.key) := by
    decide
  exact List.mem_append_right _ this

theorem parseW_ref (n : Nat) (h : n = 0 ∨ n = 1) :
    (kents .ini refW (doParse { junkid := n } .ini refW).2.2).map (KEnt.mapKey Key.render) = rKW := by
  rcases h with rfl | rfl <;> decide

theorem parseW_0 :
    (kents .ini l10nW (doParse (doParse G.init .ini refW).1 .ini l10nW).2.2).map (KEnt.mapKey Key.render)
      = lKW K1 := by decide +kernel

theorem parseW_1 :
    (kents .ini l10nW (doParse (doParse { junkid := 1 } .ini refW).1 .ini l10nW).2.2).map (KEnt.mapKey Key.render)
      = lKW K2 := by decide +kernel

theorem arW_0 : AR.addRemove [[97]] [K1, K1] = [(.add, K1), (.delete, [97])] := by
  rw [C20P.addRemove_eq_specD]
  decide +kernel

theorem arW_1 : AR.addRemove [[97]] [K1, K2] = [(.add, K1), (.add, K2), (.delete, [97])] := by
  rw [C20P.addRemove_eq_specD]
  decide +kernel

/-- in a fresh interpreter the junk gets id 1: its key equals the real key, the localization "has a duplicate",
    the real entity is shadowed by the Junk in the keyed lookup: 2 errors, 0 obsolete -/
theorem collision_fresh :
    (step G.init (.compare .ini refW l10nW)).2 = .report (.ok
      ([.dupL10n K1 2, .junkErr [122, 122, 122] (2, 1) (2, 4), .missing [97]], { missing := 1, missing_w := 1 })) := by
  simp only [step]
  refine congrArg Out.report ?_
  unfold reportStr
  rw [parseW_0, show G.init = { junkid := 0 } from rfl, parseW_ref 0 (Or.inl rfl)]
  have h1 : rKW.map (·.key) = [[97]] := rfl
  have h2 : (lKW K1).map (·.key) = [K1, K1] := rfl
  have d1 : findDuplicates [[97]] = [] := by decide
  have d2 : findDuplicates [K1, K1] = [(K1, 2)] := by decide
  simp only [compareG, h1, h2, arW_0, d1, d2]
  rfl

/-- after ONE earlier Junk anywhere in the process the junk gets id 2: no duplicate, the real entity is reported
    obsolete: 1 error, 1 obsolete -/
theorem collision_used :
    (step { junkid := 1 } (.compare .ini refW l10nW)).2 = .report (.ok
      ([.obsolete K1, .junkErr [122, 122, 122] (2, 1) (2, 4), .missing [97]],
        { missing := 1, missing_w := 1, obsolete := 1 })) := by
  simp only [step]
  refine congrArg Out.report ?_
  unfold reportStr
  rw [parseW_1, parseW_ref 1 (Or.inr rfl)]
  have h1 : rKW.map (·.key) = [[97]] := rfl
  have h2 : (lKW K2).map (·.key) = [K1, K2] := rfl
  have d1 : findDuplicates [[97]] = [] := by decide
  have d2 : findDuplicates [K1, K2] = [] := by decide
  simp only [compareG, h1, h2, arW_1, d1, d2]
  rfl

/-- without `NoJunkLikeKeys` the report DOES depend on what was processed before -/
theorem report_depends_on_history_when_keys_clash :
    (step { junkid := 1 } (.compare .ini refW l10nW)).2 ≠ (step G.init (.compare .ini refW l10nW)).2 := by
  rw [collision_fresh, collision_used]
  intro h
  injection h with h
  injection h with h
  injection h with h _
  injection h with h _
  cases h

/-! ## the whole state machine `HistM` (model: CLModel/History/Machine.lean, whose header lists the state components) -/

section machine
open HistM C18M

def T (s : String) : List Nat := s.toList.map Char.toNat

/-- as `ObsM.ofString_ofList`: the literal is rewritten to its characters before anything is evaluated -/
theorem T_ofList (l : List Char) : T (String.ofList l) = l.map Char.toNat := by
  rw [T, String.toList_ofList]

deriving instance DecidableEq for Except

/-- Every memo the tools can have built holds what a fresh computation would return: in every state reachable from
    a fresh interpreter by operations that do not add rules or paths to a configuration whose filter cache is
    filled, `mozpath.re_cache[p]` is the regex of `p`, every `Matcher._cached_re` is the regex of its own pattern and
    environment, every `ProjectConfig._all_locales` / `_cache` (and the regexes of the `with_env` matchers inside)
    is what `all_locales` / `cache(locale)` compute from the current paths and rules, every
    `DTDChecker.__known_entities` is the set computed from its reference. -/
theorem memo_coherent_reachable (ep : EpEnv) (s : S) (h : Reachable ep s) : Inv s :=
  reachable_inv ep s h

/-- `out_independent`, all operations.  In every reachable state the output of an operation is a function of its
    arguments and of the construction data of the objects it names (`s.view`: pattern / environment of a Matcher,
    locales / paths / rules of a ProjectConfig, flags / reference of a DTDChecker, the installed entry points) —
    `pureOut`, the cache-free and counter-free reference semantics built from `PM.mozMatch`, `PM.Matcher.match` /
    `sub`, `FiltM.filterS`, `Ser.serializeText`, `Merge.mergeTexts`, `Dtd.entitiesForValue`, the linter and the
    comparison of a fresh interpreter.  Junk ids of parse listings are shifted by the counter, nothing else shows.
    `Op.closed`: compare / lint / merge under `NoJunkLikeKeys` (finding F8), not `reobs` / `rewalk` (whose argument
    is a piece of the state). -/
theorem out_independent_all (ep : EpEnv) (s : S) (h : Reachable ep s) (op : HistM.Op) (hc : op.closed) :
    (HistM.step s op).2 = (pureOut s.view op).shift s.g.junkid s.g.heap.length :=
  step_out_pure s (reachable_inv ep s h) op hc

/-- … hence two reachable states in which the same objects are alive (same construction data; counters, contexts
    and every cache may differ) return the same result. -/
theorem out_same_in_any_two_states (ep ep' : EpEnv) (s s' : S) (h : Reachable ep s) (h' : Reachable ep' s')
    (hv : s.view = s'.view) (op : HistM.Op) (hc : op.closed) :
    ((HistM.step s op).2).shift s'.g.junkid s'.g.heap.length
      = ((HistM.step s' op).2).shift s.g.junkid s.g.heap.length := by
  rw [out_independent_all ep s h op hc, out_independent_all ep' s' h' op hc, hv, out_shift_shift, out_shift_shift,
    Nat.add_comm s.g.junkid, Nat.add_comm s.g.heap.length]

/-- Whole histories: the results of a sequence of operations (no `add_rules` / `add_paths` after construction) do
    not depend on the state it is started in, only on the objects alive at the start. -/
theorem run_independent_all (ep ep' : EpEnv) (s s' : S) (h : Reachable ep s) (h' : Reachable ep' s')
    (hv : s.view = s'.view) (d a : Nat) (hj : s.g.junkid = s'.g.junkid + d) (hh : s.g.heap.length = s'.g.heap.length + a)
    (ops : List HistM.Op) (hc : ∀ op ∈ ops, op.closed ∧ op.mutatesConfig = false) :
    (HistM.run s ops).2 = ((HistM.run s' ops).2).map (HistM.Out.shift d a) :=
  run_out_indep ops s s' d a (reachable_inv ep s h) (reachable_inv ep' s' h') hv hj hh hc

/-- What the live objects ARE evolves independently of what they have cached: constructors and the three mutators
    change the view, every query leaves it alone. -/
theorem view_independent_of_caches (ep : EpEnv) (s : S) (h : Reachable ep s) (op : HistM.Op) :
    (HistM.step s op).1.view = viewStep s.view op :=
  view_step s (reachable_inv ep s h) op

/-- `config.filter(file, entity)` returns the verdict of the cache-free model `FiltM.filterS` of C14 whatever was
    asked before (other files, other locales, `all_locales`, `set_locales`). -/
theorem filter_ignores_caches (ep : EpEnv) (s : S) (h : Reachable ep s) (id : Nat) (c : CObj)
    (hg : AR.dget s.configs id = some c) (file : Filt.File) (entity : Option (List Nat)) :
    (HistM.step s (.cFilter id file entity)).2 = .action (FiltM.filterS c.spec file entity) := by
  simp only [HistM.step, hg]
  rw [(CObj.filter_spec c (inv_config (reachable_inv ep s h) hg) file entity).1]

/-- `matcher.match(path)` is `PM.Matcher.match` of the matcher's pattern and environment, with or without a
    compiled regex from an earlier call. -/
theorem match_ignores_cached_re (ep : EpEnv) (s : S) (h : Reachable ep s) (id : Nat) (o : MObj)
    (hg : AR.dget s.matchers id = some o) (path : List Nat) :
    (HistM.step s (.mMatch id path)).2 = .mres (o.m.match path) := by
  simp only [HistM.step, hg]
  rw [(MObj.match_spec o (inv_matcher (reachable_inv ep s h) hg) path).1]

/-- `mozpath.match(path, pattern)` is `PM.mozMatch` whatever `re_cache` holds. -/
theorem mozmatch_ignores_re_cache (ep : EpEnv) (s : S) (h : Reachable ep s) (path pattern : List Nat) :
    (HistM.step s (.mozMatch path pattern)).2 = .bool (PM.mozMatch path pattern) := by
  simp only [HistM.step]
  rw [(mozMatchS_spec s.reCache (reachable_inv ep s h).1 path pattern).1]

/-- `getParser(path)` reads no mutable state at all: the class returned (and whether it is a shared instance)
    depends on the path and the installed entry points only — in particular a look-alike name or an unknown
    extension is answered the same before and after real files were parsed. -/
theorem getparser_stateless (s s' : S) (he : s.ep = s'.ep) (path : List Nat) :
    (HistM.step s (.getParser path)).2 = (HistM.step s' (.getParser path)).2 := by
  simp only [HistM.step, he]

/-- The class-level text handler never leaks: what `processAndroidContent` is called with is the character data of
    THIS localized value (Android checks) or nothing, whatever `DTDChecker.texthandler.textcontent` held before. -/
theorem texthandler_reset_before_use (d : DObj) (t t' chars) :
    (d.checkText t chars).2 = (d.checkText t' chars).2 ∧
    (d.checkText t chars).2 = if d.android then some (chars.foldl (· ++ ·) []) else none :=
  ⟨DObj.checkText_indep d t t' chars, DObj.checkText_spec d t chars⟩

/-- `inc filter state stored on the context, not the parser`: after reading ANY `.inc` text the flag of the
    singleton's Context is the one a walk from a fresh Context ends with — the flag before does not matter. -/
theorem inc_flag_fresh_per_read (s : S) (t : Array Nat) :
    (HistM.step s (.base (.parse .inc t))).1.incFlag = (incWalk t false).2 ∧ (incWalk t false).1 = walk .inc t :=
  ⟨rfl, incWalk_fresh t⟩

/-- Walking the Context a parser currently holds once more (`rewalk`; not a closed operation: its argument is the
    Context the parser holds) returns the listing of the parse with fresh junk ids, for EVERY format — also `.inc`:
    `DefinesParser.walk` resets `filter_empty_lines` when a pass starts (/repo 0f5119c), so the flag the first pass
    left on the Context is not seen. -/
theorem rewalk_same_listing (s : S) (f : Fmt) (t : Array Nat) :
    (HistM.step (HistM.step s (.base (.parse f t))).1 (.rewalk f)).2
      = .base (.parsed (stuckAt (walk f t))
          ((ents0 f t).map (Ent.shift (s.g.junkid + bump0 f t) s.g.heap.length))) := by
  have hp : (HistM.step s (.base (.parse f t))).1.g = (doParse s.g f t).1 := rfl
  simp only [HistM.step, doRewalk]
  have h1 : (Hist.step s.g (.parse f t)).1 = (doParse s.g f t).1 := rfl
  rw [h1]
  have hpc : (doParse s.g f t).1.pctx f = some s.g.heap.length := by simp [doParse]
  have hheap : (doParse s.g f t).1.heap[s.g.heap.length]? = some { contents := t } := by
    rw [doParse_heap]; simp
  simp only [hpc, hheap]
  have hwf : ∀ fl : Bool, (walkFl f t fl).1 = walk f t := by
    intro fl
    cases f <;> first | rfl | exact incWalk_fresh t
  simp only [hwf]
  have := assign_shift f t 0 s.g.heap.length (s.g.junkid + bump0 f t) (entriesOf (walk f t)) 0 0
  simp only [Nat.zero_add] at this
  rw [doParse_junkid, Nat.add_comm (bump0 f t), this]
  rfl


/-- the kinds of the entries of a parse listing -/
def kindsOf : HistM.Out → List Kind
  | .base (.parsed _ ents) => ents.map (·.entry.kind)
  | _ => []

/-- The filter flag a walk leaves on the Context plays no role for the next walk: `rewalk` returns the same result
    whatever `filter_empty_lines` of the DefinesParser's Context is. -/
theorem rewalk_ignores_flag (s : S) (b : Bool) (f : Fmt) :
    (HistM.step { s with incFlag := b } (.rewalk f)).2 = (HistM.step s (.rewalk f)).2 := by
  simp only [HistM.step, doRewalk]
  cases s.g.pctx f with
  | none => rfl
  | some addr =>
    simp only
    cases s.g.heap[addr]? with
    | none => rfl
    | some c =>
      have hw : (walkFl f c.contents b).1 = (walkFl f c.contents s.incFlag).1 := by cases f <;> rfl
      simp only [hw]

/-- … evaluated on texts that leave the filter switched ON at their end (the inputs of the repaired defect): the
    blank line before `#filter emptyLines` is Junk in the parse AND in a second walk of the same Context, and the
    flag the Context is left with is the same after both. -/
theorem rewalk_inc_same_as_first_walk :
    kindsOf (HistM.step S.init (.base (.parse .inc (T "#define a\n\n#filter emptyLines\n").toArray))).2
      = [.entity, .junk, .instruction, .whitespace] ∧
    kindsOf (HistM.step (HistM.step S.init (.base (.parse .inc (T "#define a\n\n#filter emptyLines\n").toArray))).1
        (.rewalk .inc)).2 = [.entity, .junk, .instruction, .whitespace] ∧
    kindsOf (HistM.step S.init (.base (.parse .inc (T "#a b\n\n#filter emptyLines").toArray))).2
      = kindsOf (HistM.step (HistM.step S.init (.base (.parse .inc (T "#a b\n\n#filter emptyLines").toArray))).1
        (.rewalk .inc)).2 ∧
    (HistM.step (HistM.step S.init (.base (.parse .inc (T "#a b\n\n#filter emptyLines").toArray))).1
        (.rewalk .inc)).1.incFlag = true := by
  repeat rw [T_ofList]
  decide +kernel

/-- Every `readUnicode` / `readFile` / `readContents` REPLACES the per-parse Context: whatever the shared parser of the
    format held before (any text, a filled line cache, the `.inc` filter switched on), afterwards it holds a NEW
    Context object with the given contents, no line cache, for the DefinesParser `filter_empty_lines = False`; the
    junk counter and all older Context objects (which earlier entities still point to) are untouched. -/
theorem read_replaces_context (s : S) (f : Fmt) (t : Array Nat) :
    (HistM.step s (.read f t)).1.g.pctx f = some s.g.heap.length ∧
    (HistM.step s (.read f t)).1.g.heap[s.g.heap.length]? = some { contents := t, lines := none } ∧
    (f = .inc → (HistM.step s (.read f t)).1.incFlag = false) ∧
    (HistM.step s (.read f t)).1.g.junkid = s.g.junkid ∧
    (∀ (i : Nat) (c : Ctx), s.g.heap[i]? = some c → (HistM.step s (.read f t)).1.g.heap[i]? = some c) := by
  refine ⟨by simp [HistM.step, doRead], by simp [HistM.step, doRead], ?_, rfl, ?_⟩
  · intro hf; subst hf; rfl
  · intro i c hc
    have hlt : i < s.g.heap.length := by
      rw [List.getElem?_eq_some_iff] at hc
      exact hc.1
    simp only [HistM.step, doRead]
    rw [List.getElem?_append_left hlt]
    exact hc

/-- `parse` is `read` followed by a walk of the new Context: same listing, same counter, same contexts, same filter
    flag — so a walk right after a read never sees anything of the text read before, even when it is the SAME text. -/
theorem parse_is_read_then_walk (s : S) (f : Fmt) (t : Array Nat) :
    (HistM.step (HistM.step s (.read f t)).1 (.rewalk f)).2 = (HistM.step s (.base (.parse f t))).2 ∧
    (HistM.step (HistM.step s (.read f t)).1 (.rewalk f)).1.g.junkid = (HistM.step s (.base (.parse f t))).1.g.junkid ∧
    (HistM.step (HistM.step s (.read f t)).1 (.rewalk f)).1.g.heap = (HistM.step s (.base (.parse f t))).1.g.heap ∧
    (HistM.step (HistM.step s (.read f t)).1 (.rewalk f)).1.g.pctx = (HistM.step s (.base (.parse f t))).1.g.pctx ∧
    (HistM.step (HistM.step s (.read f t)).1 (.rewalk f)).1.incFlag = (HistM.step s (.base (.parse f t))).1.incFlag := by
  have hpc : (doRead s f t).g.pctx f = some s.g.heap.length := by simp [doRead]
  have hheap : (doRead s f t).g.heap[s.g.heap.length]? = some { contents := t } := by simp [doRead]
  have hw : ∀ fl : Bool, walkFl f t (readFl f fl) = (walk f t, incFinal f t fl) := by
    intro fl
    cases f <;> first | rfl | (simp only [walkFl, incFinal]; rw [← incWalk_fresh t])
  simp only [HistM.step, doRewalk, hpc, hheap]
  have hfl : (doRead s f t).incFlag = readFl f s.incFlag := rfl
  rw [hfl, hw s.incFlag]
  refine ⟨rfl, rfl, rfl, rfl, rfl⟩

/-- In particular reading the same text twice in a row: the second parse returns the listing of the first (fresh
    junk ids), for every format and every text — also for an `.inc` text that ends with the filter switched on. -/
theorem parse_twice_same_listing (s : S) (f : Fmt) (t : Array Nat) :
    (HistM.step (HistM.step s (.base (.parse f t))).1 (.base (.parse f t))).2
      = ((HistM.step s (.base (.parse f t))).2).shift (bump0 f t) 1 := by
  have h1 := step_closed_out (doParse s.g f t).1 s.g (bump0 f t) 1 (.parse f t) trivial
    (by rw [doParse_junkid]; omega) (by rw [doParse_heap]; simp)
  simp only [HistM.step, HistM.Out.shift]
  -- what is left under `.base` is `h1`, which `congr` finds among the hypotheses
  congr 1

/-- non-vacuity on the text of the seeded regression: `"#define a\n\n#filter emptyLines\n"` read twice gives Junk for the
    blank line both times (the second Context starts with the filter off again) -/
example : kindsOf (HistM.step (HistM.step S.init (.base (.parse .inc (T "#define a\n\n#filter emptyLines\n").toArray))).1
    (.base (.parse .inc (T "#define a\n\n#filter emptyLines\n").toArray))).2 = [.entity, .junk, .instruction, .whitespace] := by
  rw [T_ofList]
  decide +kernel

def actionOf : HistM.Out → Option (Except PM.PyErr Filt.Action)
  | .action r => some r
  | _ => none

def cfgOps : List HistM.Op :=
  [.cNew 1 (some [T "de"]) [] none [⟨T "/l/{locale}/**", none⟩] [],
   .cFilter 1 ⟨T "/l/de/a", T "de"⟩ none,
   .cAddRules 1 [⟨T "/l/de/a", none, .ignore⟩],
   .cFilter 1 ⟨T "/l/de/a", T "de"⟩ none]

/-- the same configuration asked without the earlier query -/
def cfgOpsFresh : List HistM.Op :=
  [.cNew 1 (some [T "de"]) [] none [⟨T "/l/{locale}/**", none⟩] [],
   .cAddRules 1 [⟨T "/l/de/a", none, .ignore⟩],
   .cFilter 1 ⟨T "/l/de/a", T "de"⟩ none]

/-- `Op.safe` is necessary: a rule added AFTER a filter query for the same locale is not seen (the `FilterCache`
    built by the first query is returned again): verdict `error` instead of `ignore`.  The configuration is the same
    in both histories, the answer differs.  (`TOMLParser` builds a configuration completely before it is used, so no
    tool does this; `set_locales` — which the tools do call later — is safe.) -/
theorem filter_stale_after_add_rules :
    (HistM.run S.init cfgOps).2.map actionOf = [none, some (.ok .error), none, some (.ok .error)] ∧
    (HistM.run S.init cfgOpsFresh).2.map actionOf = [none, none, some (.ok .ignore)] := by
  decide +kernel

/-- the third operation of that history is not safe -/
example : ¬ (HistM.Op.cAddRules 1 [⟨T "/l/de/a", none, .ignore⟩]).safe
    (HistM.run S.init (cfgOps.take 2)).1 := by
  intro h
  have hc : ∃ c, AR.dget (HistM.run S.init (cfgOps.take 2)).1.configs 1 = some c ∧ c.cache.isSome = true := by
    decide +kernel
  obtain ⟨c, hg, hs⟩ := hc
  rw [h c hg] at hs
  cases hs

def lintOf : HistM.Out → Option (Except String (List (LMsg (List Nat))))
  | .lint r => some r
  | _ => none

/-- without `NoJunkLike1` the linter's result depends on what was processed before (finding F8, second face):
    linting `"_junk_1_16-19=1\nzzz"` in a fresh interpreter reports the real string as a duplicate of the Junk (the
    Junk gets id 1), after one earlier Junk anywhere in the process it does not. -/
theorem lint_depends_on_history_when_keys_clash :
    lintOf (HistM.step S.init (.lint .ini none l10nW)).2
      = some (.ok [.dup K1 (1, 1), .junk [122, 122, 122] (2, 1) (2, 4)]) ∧
    lintOf (HistM.step { g := { junkid := 1 } } (.lint .ini none l10nW)).2
      = some (.ok [.junk [122, 122, 122] (2, 1) (2, 4)]) := by
  decide +kernel

/-- a reachable state with a filled `re_cache`, a matcher with a compiled regex, a configuration with both memos
    filled: the theorems apply to it -/
def warmOps : List HistM.Op :=
  [.mozMatch (T "foo/bar") (T "foo/*"),
   .mNew 1 (T "/l/{locale}/*.ini") [] none, .mWithEnv 1 2 [(T "locale", T "de")], .mMatch 2 (T "/l/de/a.ini"),
   .cNew 1 (some [T "de"]) [] none [⟨T "/l/{locale}/**", none⟩] [⟨T "/l/de/a", none, .ignore⟩],
   .cFilter 1 ⟨T "/l/de/a", T "de"⟩ none,
   .base (.parse .ini refA)]

theorem reachable_run (ep : EpEnv) : ∀ (ops : List HistM.Op) (s : S), Reachable ep s →
    (∀ op ∈ ops, op.mutatesConfig = false) → Reachable ep (HistM.run s ops).1 := by
  intro ops
  induction ops with
  | nil => intro s h _; exact h
  | cons op t ih =>
    intro s h hf
    simp only [HistM.run]
    exact ih _ (Reachable.step s op h (safe_of_frozen s op (hf op List.mem_cons_self)))
      (fun o ho => hf o (List.mem_cons_of_mem _ ho))

theorem warm_reachable : Reachable (.plugins []) (HistM.run S.init warmOps).1 :=
  reachable_run _ warmOps _ Reachable.init (by decide)

/-- the two examples below, evaluated together: both run the same history -/
theorem warm_evaluated :
    decide ((HistM.run S.init warmOps).1.reCache.length = 1 ∧
      ((HistM.run S.init warmOps).1.matchers.map (fun p => (p.1, p.2.cached.isSome))) = [(1, false), (2, true)] ∧
      ((HistM.run S.init warmOps).1.configs.map (fun p => (p.2.allLoc.isSome, p.2.cache.isSome))) = [(true, true)] ∧
      (HistM.run S.init warmOps).1.g.junkid = 1) = true ∧
    decide (actionOf (HistM.step (HistM.run S.init warmOps).1 (.cFilter 1 ⟨T "/l/de/a", T "de"⟩ none)).2
      = some (.ok .ignore)) = true := by decide +kernel

/-- the caches of that state are really filled … -/
example : (HistM.run S.init warmOps).1.reCache.length = 1 ∧
    ((HistM.run S.init warmOps).1.matchers.map (fun p => (p.1, p.2.cached.isSome))) = [(1, false), (2, true)] ∧
    ((HistM.run S.init warmOps).1.configs.map (fun p => (p.2.allLoc.isSome, p.2.cache.isSome))) = [(true, true)] ∧
    (HistM.run S.init warmOps).1.g.junkid = 1 := of_decide_eq_true warm_evaluated.1

/-- … and the filter query answered from the warm caches is the verdict of the cache-free model (here: ignore) -/
example : actionOf (HistM.step (HistM.run S.init warmOps).1 (.cFilter 1 ⟨T "/l/de/a", T "de"⟩ none)).2
    = some (.ok .ignore) := of_decide_eq_true warm_evaluated.2

end machine

/-! ## the file system is part of the state (model: CLModel/History/World.lean)

`HistW.W` = the process (`HistM.S`) + the files (`fs : Path ↦ file contents | symbolic link`).  The operations that
read take PATHS and read the world as it is NOW; `write` / `remove` / `rename` / `copy` / `symlink` and l10n-merge
change it.  A cache keyed by a path (parsed reference files, decoded contents, `os.path.exists` answers, checkers)
would be a component of the state that is indexed by `Path`: the theorems below say that the model — the
transliteration of the code — has none, so such a cache in the code is a correspondence disagreement on a history
that rewrites a path between two reads (`c18.wrun`). -/

section world
open HistM HistW C18W

/-- `out_independent_all` with the world explicit: in every reachable world the output of an operation is a
    function of its arguments, of the CURRENT world (`look w.fs`: what is at each path now) and of the construction
    data of the objects it names — `pureOutW`: read the paths now, then the cache-free, counter-free reference
    semantics on the texts read.  Nothing that was read, compared, counted or cached before shows, in particular no
    earlier contents of the same path. -/
theorem out_independent_world (ep : EpEnv) (w : W) (h : HistW.Reachable ep w) (op : HistW.Op)
    (hc : op.closedIn (look w.fs)) :
    (HistW.step w op).2 = (pureOutW (look w.fs) w.s.view op).shift w.s.g.junkid w.s.g.heap.length :=
  step_out_world w (reachable_invW ep w h) op hc

/-- … hence two reachable worlds that hold the same files now (and in which the same objects are alive) return the
    same result, whatever histories led to them. -/
theorem out_same_in_any_two_worlds (ep ep' : EpEnv) (w w' : W) (h : HistW.Reachable ep w) (h' : HistW.Reachable ep' w')
    (hl : look w.fs = look w'.fs) (hv : w.s.view = w'.s.view) (op : HistW.Op) (hc : op.closedIn (look w.fs)) :
    ((HistW.step w op).2).shift w'.s.g.junkid w'.s.g.heap.length
      = ((HistW.step w' op).2).shift w.s.g.junkid w.s.g.heap.length := by
  rw [out_independent_world ep w h op hc, out_independent_world ep' w' h' op (hl ▸ hc), hv, hl, outW_shift_shift,
    outW_shift_shift, Nat.add_comm w.s.g.junkid, Nat.add_comm w.s.g.heap.length]

/-- an operation on files: its result does not even depend on the objects alive -/
def readsFiles : HistW.Op → Bool
  | .lift _ => false
  | _ => true

theorem pureOutW_view (l : Look) (v v' : View) (op : HistW.Op) (hp : readsFiles op = true) :
    pureOutW l v op = pureOutW l v' op := by
  cases op with
  | lift o => simp [readsFiles] at hp
  | lint f c r =>
    simp only [pureOutW]
    cases readAt l c with
    | error e => rfl
    | ok b => cases lintRef l r <;> rfl
  | compare f r lp mg =>
    simp only [pureOutW]
    cases readAt l r with
    | error e => rfl
    | ok a =>
      simp only
      cases readAt l lp with
      | error e => rfl
      | ok b => cases mg <;> rfl
  | readFile f p => simp only [pureOutW]; cases readAt l p <;> rfl
  | _ => rfl

/-- The oracle's statement, proved for the model: the result of an operation on files in ANY reachable world is the
    result of the same operation in a FRESH interpreter started on the files as they are now (junk ids of parse
    listings shifted by the counter). -/
theorem out_equals_fresh_interpreter_on_current_files (ep ep' : EpEnv) (w : W) (h : HistW.Reachable ep w)
    (op : HistW.Op) (hp : readsFiles op = true) (hc : op.closedIn (look w.fs)) :
    (HistW.step w op).2
      = ((HistW.step { s := { S.init with ep := ep' }, fs := w.fs } op).2).shift w.s.g.junkid w.s.g.heap.length := by
  have hf := out_independent_world ep' { s := { S.init with ep := ep' }, fs := w.fs } (HistW.Reachable.init w.fs) op hc
  rw [out_independent_world ep w h op hc, hf, outW_shift_shift,
    pureOutW_view (look w.fs) w.s.view ({ S.init with ep := ep' } : S).view op hp]
  simp [S.init]

/-- No component of the process state is keyed by a path: the state after an operation is a function of the state
    before and of the PATH-FREE operation `textOp` (texts read now; `HistM.Op` of a read carries no path) … -/
theorem state_forgets_paths (w : W) (op : HistW.Op) :
    (HistW.step w op).1.s = sAfter w.s (textOp (look w.fs) op) :=
  step_s w op

/-- … so the same contents under other paths, in another world, leave the process in the same state. -/
theorem state_keyed_by_contents_only (w w' : W) (op op' : HistW.Op) (hs : w.s = w'.s)
    (ht : textOp (look w.fs) op = textOp (look w'.fs) op') :
    (HistW.step w op).1.s = (HistW.step w' op').1.s := by
  rw [step_s, step_s, hs, ht]

/-- frame: the file-system operations leave the process alone … -/
theorem fs_ops_leave_process (w : W) (op : HistW.Op) (h : textOp (look w.fs) op = none) : (HistW.step w op).1.s = w.s := by
  rw [step_s, h]; rfl

/-- … and only `write` / `remove` / `rename` / `copy` / `symlink` and l10n-merge change the world: how the world
    moves is a function of the world before and of the operation (`lookStep`). -/
theorem world_moves_by_lookStep (ep : EpEnv) (w : W) (h : HistW.Reachable ep w) (op : HistW.Op)
    (hc : op.closedIn (look w.fs)) :
    look (HistW.step w op).1.fs = lookStep (look w.fs) op :=
  look_step w (reachable_invW ep w h) op hc

/-- reads (without merge file) leave every file as it is -/
theorem reads_leave_world (w : W) (f : Fmt) (p q : Path) (r : Option Path) :
    (HistW.step w (.readFile f p)).1.fs = w.fs ∧ (HistW.step w (.compare f p q none)).1.fs = w.fs ∧
    (HistW.step w (.add f p)).1.fs = w.fs ∧ (HistW.step w (.lint f p r)).1.fs = w.fs := by
  refine ⟨?_, ?_, ?_, ?_⟩
  · simp only [HistW.step]; cases readAt (look w.fs) p <;> rfl
  · simp only [HistW.step]
    cases readAt (look w.fs) p with
    | error e => rfl
    | ok a => simp only; cases readAt (look w.fs) q <;> rfl
  · simp only [HistW.step]; cases readAt (look w.fs) p <;> rfl
  · simp only [HistW.step]
    cases readAt (look w.fs) p with
    | ok b => rfl
    | error e => simp only; cases lintRef (look w.fs) r <;> rfl

/-- Whole histories: two reachable worlds that hold the same files and the same live objects return the same
    results for every history of closed operations (reads, writes, renames, links, merges interleaved). -/
theorem run_independent_world (ep ep' : EpEnv) (w w' : W) (h : HistW.Reachable ep w) (h' : HistW.Reachable ep' w')
    (hv : w.s.view = w'.s.view) (hl : look w.fs = look w'.fs) (d a : Nat) (hj : w.s.g.junkid = w'.s.g.junkid + d)
    (hh : w.s.g.heap.length = w'.s.g.heap.length + a) (ops : List HistW.Op) (hc : ClosedRun (look w.fs) ops) :
    (HistW.run w ops).2 = ((HistW.run w' ops).2).map (HistW.Out.shift d a) :=
  run_out_world ops w w' d a (reachable_invW ep w h) (reachable_invW ep' w' h') hv hl hj hh hc

/-- The seeded regression, as a theorem: a reference path that was compared before and whose contents have changed
    since.  The second compare of the SAME paths returns the reference semantics of the NEW contents. -/
theorem compare_after_rewrite (ep : EpEnv) (w : W) (h : HistW.Reachable ep w) (f : Fmt) (r lp : Path) (a' : Array Nat)
    (hc : (HistW.Op.compare f r lp none).closedIn (lset (look w.fs) r (.file a'))) :
    (HistW.step (HistW.step (HistW.step w (.compare f r lp none)).1 (.write r a')).1 (.compare f r lp none)).2
      = (pureOutW (lset (look w.fs) r (.file a')) w.s.view (.compare f r lp none)).shift
          (HistW.step (HistW.step w (.compare f r lp none)).1 (.write r a')).1.s.g.junkid
          (HistW.step (HistW.step w (.compare f r lp none)).1 (.write r a')).1.s.g.heap.length := by
  have h1 : HistW.Reachable ep (HistW.step w (.compare f r lp none)).1 := HistW.Reachable.step w _ h trivial
  have h2 : HistW.Reachable ep (HistW.step (HistW.step w (.compare f r lp none)).1 (.write r a')).1 :=
    HistW.Reachable.step _ _ h1 trivial
  have hfs : look (HistW.step (HistW.step w (.compare f r lp none)).1 (.write r a')).1.fs
      = lset (look w.fs) r (.file a') := by
    have e1 : (HistW.step w (.compare f r lp none)).1.fs = w.fs := (reads_leave_world w f r lp none).2.1
    show look (AR.dset (HistW.step w (.compare f r lp none)).1.fs r (.file a')) = _
    rw [e1, look_dset]
  rw [out_independent_world ep _ h2 _ (hfs ▸ hc), hfs]
  exact congrArg (fun o => HistW.Out.shift _ _ o) (pureOutW_view _ _ _ _ rfl)

def pRef : Path := T "ref/a.ini"
def pL10n : Path := T "l10n/a.ini"
def pLink : Path := T "ref/link.ini"

/-- (missing, obsolete, changed, unchanged) of a compare report -/
def statsOf : HistW.Out → Option (Nat × Nat × Nat × Nat)
  | .m (.base (.report (.ok (_, st)))) => some (st.missing, st.obsolete, st.changed, st.unchanged)
  | _ => none

/-- reference `a=1\nb=2\n`, localization `a=1\n` … -/
def wA : W := (HistW.run {} [.write pRef refAB, .write pL10n refA1]).1
/-- … compared once, then the reference is rewritten to `a=1\n` (a working copy is updated, a temp file reused) -/
def wB : W := (HistW.run wA [.compare .ini pRef pL10n none, .write pRef refA1]).1

/-- The two compares name the SAME two paths.  The first reports `b` missing, the second — after the rewrite —
    nothing: an answer taken from a cache keyed by the reference path would be wrong by one missing string.
    (`compare_after_rewrite` applies: `noJunkLikeA_A`.) -/
theorem compare_sees_the_current_files :
    statsOf (HistW.step wA (.compare .ini pRef pL10n none)).2 = some (1, 0, 0, 1) ∧
    statsOf (HistW.step wB (.compare .ini pRef pL10n none)).2 = some (0, 0, 0, 1) := by
  have hrA : readAt (look wA.fs) pRef = .ok refAB := by decide +kernel
  have hlA : readAt (look wA.fs) pL10n = .ok refA1 := by decide +kernel
  have hrB : readAt (look wB.fs) pRef = .ok refA1 := by decide +kernel
  have hlB : readAt (look wB.fs) pL10n = .ok refA1 := by decide +kernel
  refine ⟨?_, ?_⟩
  · simp only [HistW.step, hrA, hlA]
    show statsOf (.m (.base (Hist.step G.init (.compare .ini refAB refA1)).2)) = _
    rw [cmp_AB_A]
    rfl
  · simp only [HistW.step, hrB, hlB]
    show statsOf (.m (.base (Hist.step wB.s.g (.compare .ini refA1 refA1)).2)) = _
    rw [report_independent wB.s.g .ini refA1 refA1 noJunkLikeA_A, cmp_A_A]
    rfl

/-- the hypothesis of `compare_after_rewrite` holds for that rewrite -/
example : (HistW.Op.compare .ini pRef pL10n none).closedIn (lset (look wA.fs) pRef (.file refA1)) := by
  have hr : readAt (lset (look wA.fs) pRef (.file refA1)) pRef = .ok refA1 := by decide +kernel
  have hl : readAt (lset (look wA.fs) pRef (.file refA1)) pL10n = .ok refA1 := by decide +kernel
  simp only [HistW.Op.closedIn, textOp, hr, hl, HistM.Op.closed, Hist.Op.closed]
  exact noJunkLikeA_A

def addedOf : HistW.Out → Option (Nat × Nat)
  | .added n w => some (n, w)
  | _ => none

def lintCount : HistW.Out → Option Nat
  | .m (.lint (.ok ms)) => some ms.length
  | _ => none

def unreadableOf : HistW.Out → Option (Side × RErr)
  | .unreadable sd _ e => some (sd, e)
  | _ => none

/-- rewrite between two reads, swap of two paths, delete, a symbolic link that is followed, re-targeted, dangling, in a
    cycle, the same contents under another path: `add` (strings and words of a file missing in the localization) and
    `lint` with a reference report the files as they are at that moment -/
def fileOps : List HistW.Op :=
  [.write pRef (T "a=1\nb=2 3\n").toArray, .write pL10n (T "a=1\n").toArray,
   .add .ini pRef,                                              -- 2 strings, 3 words
   .lint .ini pL10n (some pRef),                                -- nothing to say
   .write pRef (T "a=4\n").toArray,
   .add .ini pRef,                                              -- 1 string, 1 word
   .lint .ini pL10n (some pRef),                                -- "Changes to string require a new ID: a"
   .rename pRef (T "tmp"), .rename pL10n pRef, .rename (T "tmp") pL10n,
   .lint .ini pL10n (some pRef),                                -- swapped: still one warning
   .add .ini pRef,
   .remove pRef,
   .add .ini pRef,                                              -- unreadable
   .lint .ini pL10n (some pRef),                                -- `os.path.isfile(ref)` is False: no reference
   .symlink pLink pL10n,
   .add .ini pLink,                                             -- through the link: `a=4\n`
   .write pL10n (T "a=4\nc=5 6 7\n").toArray,
   .add .ini pLink,                                             -- the link's target was rewritten
   .symlink pLink (T "nowhere"),
   .add .ini pLink,                                             -- dangling
   .symlink (T "nowhere") pLink,
   .add .ini pLink,                                             -- cycle
   .copy pL10n pRef,
   .add .ini pRef]                                              -- the same contents under another path

theorem reads_see_the_current_files :
    ((HistW.run {} fileOps).2.filterMap addedOf) = [(2, 3), (1, 1), (1, 1), (1, 1), (2, 4), (2, 4)] ∧
    ((HistW.run {} fileOps).2.filterMap lintCount) = [0, 1, 1, 0] ∧
    ((HistW.run {} fileOps).2.filterMap unreadableOf) = [(.ref, .enoent), (.ref, .enoent), (.ref, .eloop)] := by
  decide +kernel

end world

section observer
open TreeM ObsM C18M

/-- Order independence of the aggregated report.  A multi-file run hands the Observer one block of notifications
    and one `updateStats` per file pair (`bs`; every block speaks about its own file, different files have different
    tree paths).  For EVERY permutation of the file pairs the observer ends with the same details under every path
    and the same number in every summary cell — for every quiet level and every filter. -/
theorem multi_file_union_observer_order (q : Nat) (flt : Option Filter) (bs bs' : List (File × List Ev))
    (hown : OwnFile bs) (hsep : bs.Pairwise SepPath) (hperm : bs.Perm bs') (o o' : ObsM.Obs)
    (hr : (ObsM.Obs.init q flt).run (flat bs) = .ok o) (hr' : (ObsM.Obs.init q flt).run (flat bs') = .ok o') :
    (∀ p, find o.details p = find o'.details p) ∧
    (∀ loc key, getCount o.summary loc key = getCount o'.summary loc key) := by
  constructor
  · intro p
    rw [ObsM.init_details hr p, ObsM.init_details hr' p, detailsSpec_flat_perm q flt hown hsep hperm p]
  · intro loc key
    rw [ObsM.init_summary_counts q flt (flat bs) o hr loc key, ObsM.init_summary_counts q flt (flat bs') o' hr' loc key,
      countSpec_flat, countSpec_flat]
    exact List.Perm.sum_nat (hperm.map _)

/-- … and the aggregated report is exactly the union of the single-file reports: under the path of a file the
    details the run over that file pair alone stores, in every summary cell the sum over the single-file runs. -/
theorem multi_file_union_observer (q : Nat) (flt : Option Filter) (bs : List (File × List Ev))
    (hown : OwnFile bs) (hsep : bs.Pairwise SepPath) (o : ObsM.Obs) (hr : (ObsM.Obs.init q flt).run (flat bs) = .ok o) :
    (∀ b ∈ bs, ∀ ob, (ObsM.Obs.init q flt).run b.2 = .ok ob → ∀ p, hasParts b.1 p = true →
        find o.details p = find ob.details p) ∧
    (∀ (obOf : File × List Ev → ObsM.Obs), (∀ b ∈ bs, (ObsM.Obs.init q flt).run b.2 = .ok (obOf b)) →
        ∀ loc key, getCount o.summary loc key = (bs.map (fun b => getCount (obOf b).summary loc key)).sum) :=
  observer_union q flt bs hown hsep o hr

/-- two files with different tree paths are separated -/
theorem sepPath_of_parts (a b : File × List Ev) (pa pb : List Part) (ha : partsOf a.1 = .ok pa)
    (hb : partsOf b.1 = .ok pb) (hne : pa ≠ pb) : SepPath a b := by
  intro p hp
  obtain ⟨h1, h2⟩ := hp
  simp only [hasParts, ha, hb] at h1 h2
  have e1 : pa = p := by simpa using h1
  have e2 : pb = p := by simpa using h2
  exact hne (e1.trans e2.symm)

def fileA : File := { file := T "a.ini", module := none, locale := some (T "de") }
def fileB : File := { file := T "browser/b.ini", module := none, locale := some (T "de") }
def blocksAB : List (File × List Ev) :=
  [(fileA, [.notify .missingEntity fileA (.str (T "k")), .stats fileA [(.missing, 1), (.unchanged, 2)]]),
   (fileB, [.notify .error fileB (.str (T "Unparsed content")), .stats fileB [(.obsolete, 1)]])]

/-- non-vacuity: the hypotheses hold for a two-file project, both orders run, and the theorem applies -/
example : OwnFile blocksAB ∧ blocksAB.Pairwise SepPath := by
  refine ⟨?_, ?_⟩
  · intro b hb ev hev
    simp only [blocksAB, List.mem_cons, List.mem_nil_iff, or_false] at hb
    rcases hb with rfl | rfl <;> simp only [List.mem_cons, List.mem_nil_iff, or_false] at hev <;>
      rcases hev with rfl | rfl <;> rfl
  · simp only [blocksAB, List.pairwise_cons, List.mem_cons, List.mem_nil_iff, or_false, forall_eq, List.Pairwise.nil,
      and_true, false_imp_iff, implies_true]
    exact sepPath_of_parts _ _ [T "a.ini"] [T "browser", T "b.ini"] (by decide +kernel) (by decide +kernel) (by decide)

end observer

end C18
