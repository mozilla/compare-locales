/-
C02 — Well-formed entries are recovered exactly; junk damage stays local (DESIGN.md "### C02").
The unescape and License theorems hold for all texts.  The round trips and garbage locality are proved
for printed classes: files of one record shape per format (`roundtrip_*_partial`), then block lists of each format's full record
grammar in which every block may be preceded by one inert garbage line (`roundtrip_*_full_partial`, `garbage_local_*`), then the
same after any history on one parser object (`history_roundtrip_*`).  Each docstring says what its class leaves out and which
theorem covers it.  Fluent and Android are not treated here.
-/
import CLModel.Proofs.C01Gen
import CLModel.Parser.Values
import CLModel.Proofs.C02Props
import CLModel.Proofs.C02Po
import CLModel.Proofs.C02Roundtrip
import CLModel.Proofs.C02Ini
import CLModel.Proofs.C02XIni
import CLModel.Proofs.C02XInc
import CLModel.Proofs.C02XDtd
import CLModel.Proofs.C02XComment
import CLModel.Proofs.C04Lines
import CLModel.Proofs.C02XPo
import CLModel.Proofs.C02PPo
import CLModel.Proofs.C02PProps
import CLModel.Proofs.C02PDemo
import CLModel.Proofs.SafeRecDec
namespace C02
open P Rx Gen.Pat

/-- `PropertiesEntityMixin.val` — `escape.sub(unescape, raw_val)` with the escape regex and the `known_escapes`
    table generated from the source — never raises and computes, for EVERY raw value, exactly the documented
    rules: `\uXXXX` with 1–4 hex digits, backslash-newline-indentation removed, `\n \r \t \\`, any other `\c → c`,
    a final lone backslash kept.  (If the regex or the table is edited, this proof breaks.) -/
theorem props_unescape_is_spec (v : List Nat) : propsVal v = some (propsUnescapeSpec v) :=
  propsVal_eq_spec v

/-- values without a backslash are their own unescaped value -/
theorem props_unescape_id (v : List Nat) (h : ∀ c ∈ v, c ≠ 92) : propsVal v = some v := by
  rw [propsVal_eq_spec, spec_id v h]

-- non-vacuity: the specification really unescapes   "\u41\q"  ->  "Aq",   "\<nl> z\"  ->  "z\",   "\n\r\t"
example : propsUnescapeSpec [92, 117, 52, 49, 92, 113] = [65, 113] :=
  Option.some.inj ((props_unescape_is_spec _).symm.trans (by decide +kernel))
example : propsUnescapeSpec [92, 10, 32, 122, 92] = [122, 92] :=
  Option.some.inj ((props_unescape_is_spec _).symm.trans (by decide +kernel))
example : propsUnescapeSpec [92, 110, 92, 114, 92, 116] = [10, 13, 9] :=
  Option.some.inj ((props_unescape_is_spec _).symm.trans (by decide +kernel))

/-- `eval_stringlist` on one fragment — `reEscape.sub(lambda m: escapes[m.group(1)], line)` with the regex and the
    `escapes` table generated from the source — never raises and equals, for EVERY text, the one-pass scanner:
    `\\ \t \r \n \"` are backslash, tab, CR, newline, quote; everything else is copied. -/
theorem po_unescape_is_spec (v : List Nat) : poUnescape v = some (poOnePassText v) :=
  poUnescape_eq_spec v

/-- token form: for every fragment that `reListItem` accepts (a list of tokens: an escape `\\ \t \r \n \"` or a plain
    character) the value is the token-wise unescape. -/
theorem po_unescape_spec (ts : List PoTok) (hwf : ∀ t ∈ ts, t.wf = true) :
    poUnescape (poRender ts) = some (poOnePass ts) :=
  poUnescape_render ts hwf

/-- `\\n` is backslash + `n` (with the five successive `str.replace` of /repo before b81665f it was a newline) -/
theorem po_unescape_backslash_n : poUnescape [92, 92, 110] = some [92, 110] := by decide +kernel

-- non-vacuity: `a\tb\\\"c` (every kind of token)
example : poUnescape (poRender [.plain 97, .esc 116, .plain 98, .esc 92, .esc 34, .plain 99]) = some [97, 9, 98, 92, 34, 99] := by decide +kernel
-- a backslash before any other character, or at the end, is copied (such fragments are not accepted by `reListItem`)
example : poUnescape [92, 120, 92] = some [92, 120, 92] := by decide +kernel
-- the rendered tokens are what the generated list-item regex accepts as one quoted fragment (`"a\tb\\"`)
example : (matchAt #[34, 97, 92, 116, 98, 92, 92, 34] PoParser_reListItem 0).map (·.pos) = some 8 := by decide +kernel

/-- One record: if at offset `pre.length` the text reads `key=value⏎…` with a safe key (non-empty, no `# ! = :`
    and no white-space) and a safe value (no backslash, no newline, no blank at either end, no CR at the end), then
    `PropertiesParser.getNext` returns the entity whose key span is exactly the key and whose value span is exactly
    the value; no comment is attached. -/
theorem props_single_record (pre key value rest : List Nat) (h : SafeRec (key, value)) :
    propsGetNext (pre ++ (key ++ 61 :: (value ++ [10])) ++ rest).toArray pre.length =
      propsEntity_c02 pre.length key.length value.length := by
  exact props_entity_drop _ _ (key, value) rest h (by simp [printRec])

/-- A whole file: for EVERY list of safe records printed as `key=value⏎` one after the other, the walk terminates,
    yields exactly one entity per record, in order, with exactly the printed key, the printed raw value, the same
    unescaped value and no attached comment, and reports no junk. -/
theorem roundtrip_properties_partial (rs : List PRec) (h : ∀ r ∈ rs, SafeRec r) :
    ∃ es, walk .properties (printProps rs).toArray = .done es ∧
      entitiesOf .properties (printProps rs).toArray es = rs.map expectedView ∧
      junkOf (printProps rs).toArray es = [] := by
  refine ⟨expEntries 0 rs, walk_props_printed rs h, ?_⟩
  exact entitiesOf_expEntries (printProps rs).toArray rs 0 (by simp) h

-- non-vacuity: two records  "a.b=x y" and "k=" (empty value)
example : SafeRec ([97, 46, 98], [120, 32, 121]) ∧ SafeRec ([107], []) := by decide
example : printProps [([97, 46, 98], [120, 32, 121]), ([107], [])] = [97, 46, 98, 61, 120, 32, 121, 10, 107, 61, 10] := by decide +kernel

-- NEGATION WITNESSES for the hypotheses on the value (what the code does at the excluded points):
-- a value ending in a blank: the blank is stripped ("a=b ⏎"  ->  value span 2..3)
example : (propsGetNext #[97, 61, 98, 32, 10] 0).ve = 3 := by decide +kernel
-- ... even if the blank is escaped ("a=b\ ⏎" -> raw value `b\`): candidate defect, see NOTES-C02
example : (propsGetNext #[97, 61, 98, 92, 32, 10] 0).ve = 4 := by decide +kernel
-- a value ending in a backslash swallows the next record ("a=b\⏎c=d⏎" is ONE entity up to offset 8)
example : (propsGetNext #[97, 61, 98, 92, 10, 99, 61, 100, 10] 0).e = 8 := by decide +kernel
-- a key character excluded by `propsKeyChar`: ":" ends the key ("a:b=c⏎" -> key span 0..1)
example : (propsGetNext #[97, 58, 98, 61, 99, 10] 0).ke = 1 := by decide +kernel

/-- properties: if the comment regex matches at offset 0 and the comment's value contains the word "License",
    the entry returned at offset 0 is that comment, standalone. -/
theorem license_standalone_properties (s : Array Nat) (st : St)
    (hm : matchAt s PropertiesParser_reComment 0 = some st)
    (hl : isInfix licenseWord (commentVal (.offset Gen.Tables.offsetCommentDefault) (slice s 0 st.pos)) = true) :
    propsGetNext s 0 = { kind := .comment, full := 0, s := 0, e := st.pos } := by
  unfold propsGetNext
  simp [hm, hl]

/-- properties: an entry never has a pre-comment that starts before the offset it was parsed at.  Together with
    `license_standalone_properties`: the entry parsed after the leading License comment (at offset `st.pos`)
    cannot have that comment attached. -/
theorem license_first_entity_unattached_properties (s : Array Nat) (off a b : Nat)
    (h : (propsGetNext s off).pc = some (a, b)) : a = off := by
  rw [propsGetNext_eq_skel] at h
  revert h
  -- only an entity behind a comment has a pre-comment
  apply skel_cases (propsK s) s off (fun e => e.pc = some (a, b) → a = off)
  · intro _ _ h; cases h
  · intro _ _ _ h; cases h
  · intro _ _ _ _ _ _ h; cases h
  · intro o1 o2 b' km r _ _ _ _ _ h
    cases b' <;> simp [entityE] at h
    exact h.1.symm
  · intro _ _ h; simp [propsK, getJunk] at h

/-- the base `Parser.getNext` (used by dtd, ini, po): a comment matched at an offset < 2 whose value contains
    "License" is returned standalone. -/
theorem license_standalone_base (c : BaseCfg) (s : Array Nat) (off : Nat) (st : St) (hoff : off < 2)
    (hm : matchAt s c.reComment off = some st)
    (hl : isInfix licenseWord (commentVal c.commentStyle (slice s off st.pos)) = true) :
    getNext c s off = { kind := .comment, full := off, s := off, e := st.pos } := by
  unfold getNext
  simp [hm, hl, hoff]

theorem license_standalone_po (s : Array Nat) (off : Nat) (st : St) (hoff : off < 2)
    (hm : matchAt s PoParser_reComment off = some st)
    (hl : isInfix licenseWord (slice s off st.pos) = true) :
    poGetNext s off = { kind := .comment, full := off, s := off, e := st.pos } :=
  license_standalone_base poCfg s off st hoff hm hl

/-- ini: the section test comes first in `IniParser.getNext`, but a comment never starts with `[` — where `reComment`
    matches, the text reads `;` or `#` (`C02P.ini_comment_head`) — so the base rule applies unchanged. -/
theorem license_standalone_ini (s : Array Nat) (off : Nat) (st : St) (hoff : off < 2)
    (hm : matchAt s IniParser_reComment off = some st)
    (hl : isInfix licenseWord (commentVal (.offset Gen.Tables.offsetCommentDefault) (slice s off st.pos)) = true) :
    iniGetNext s off = { kind := .comment, full := off, s := off, e := st.pos } := by
  unfold iniGetNext
  rw [C02P.ini_section_none_at s off _ rfl (Txt.head?_of_drop rfl ▸ C02P.ini_comment_not_section s off st hm)]
  exact license_standalone_base iniCfg s off st hoff hm hl

/-- where an ini comment matches, the text starts with `;` or `#` -/
theorem ini_comment_starts_with_marker (s : Array Nat) (off : Nat) (st : St)
    (hm : matchAt s IniParser_reComment off = some st) : s[off]? = some 59 ∨ s[off]? = some 35 :=
  C02P.ini_comment_head s off st hm

-- non-vacuity: "; License⏎[S]⏎" — the comment at offset 0 is standalone, the section follows
example : iniGetNext #[59, 32, 76, 105, 99, 101, 110, 115, 101, 10, 91, 83, 93, 10] 0 = { kind := .comment, full := 0, s := 0, e := 9 } := by decide +kernel

/-- dtd, with or without a byte-order mark: `off` is where `DTDParser.getNext` really starts -/
theorem license_standalone_dtd (s : Array Nat) (off0 : Nat) (st : St)
    (hoff : (if off0 == 0 && (matchAt s DTDParser_reHeader 0).isSome then off0 + 1 else off0) < 2)
    (hm : matchAt s DTDParser_reComment (if off0 == 0 && (matchAt s DTDParser_reHeader 0).isSome then off0 + 1 else off0) = some st)
    (hl : isInfix licenseWord (commentVal .dtd (slice s (if off0 == 0 && (matchAt s DTDParser_reHeader 0).isSome then off0 + 1 else off0) st.pos)) = true) :
    dtdGetNext s off0 =
      { kind := .comment, full := (if off0 == 0 && (matchAt s DTDParser_reHeader 0).isSome then off0 + 1 else off0),
        s := (if off0 == 0 && (matchAt s DTDParser_reHeader 0).isSome then off0 + 1 else off0), e := st.pos } := by
  unfold dtdGetNext
  simp only []
  rw [license_standalone_base dtdCfg s _ st hoff hm hl]
  simp

-- non-vacuity: "# License⏎a=b" : the comment is standalone, the entity that follows has no pre-comment
example : propsGetNext #[35, 32, 76, 105, 99, 101, 110, 115, 101, 10, 97, 61, 98] 0 = { kind := .comment, full := 0, s := 0, e := 9 } := by decide +kernel
example : (propsGetNext #[35, 32, 76, 105, 99, 101, 110, 115, 101, 10, 97, 61, 98] 10).pc = none := by decide +kernel
-- without the rule the same comment IS attached ("# Licence⏎a=b", other spelling): the rule is what detaches it
example : (propsGetNext #[35, 32, 76, 105, 99, 101, 110, 99, 101, 10, 97, 61, 98] 0).pc = some (0, 9) := by decide +kernel
-- NEGATION WITNESS for `offset == 0`: after one leading newline the License comment is attached ("⏎# License⏎a=b")
example : (propsGetNext #[10, 35, 32, 76, 105, 99, 101, 110, 115, 101, 10, 97, 61, 98] 1).pc = some (1, 10) := by decide +kernel
-- dtd with BOM: the hypotheses of `license_standalone_dtd` hold for  "﻿<!--License--><!ENTITY a "b">"  (comment at offset 1)
example : ∃ st,
    (if (0 : Nat) == 0 && (matchAt #[65279, 60, 33, 45, 45, 76, 105, 99, 101, 110, 115, 101, 45, 45, 62, 60, 33, 69, 78, 84, 73, 84, 89, 32, 97, 32, 34, 98, 34, 62] DTDParser_reHeader 0).isSome then 0 + 1 else 0) = 1 ∧
    matchAt #[65279, 60, 33, 45, 45, 76, 105, 99, 101, 110, 115, 101, 45, 45, 62, 60, 33, 69, 78, 84, 73, 84, 89, 32, 97, 32, 34, 98, 34, 62] DTDParser_reComment 1 = some st ∧
    isInfix licenseWord (commentVal .dtd (slice #[65279, 60, 33, 45, 45, 76, 105, 99, 101, 110, 115, 101, 45, 45, 62, 60, 33, 69, 78, 84, 73, 84, 89, 32, 97, 32, 34, 98, 34, 62] 1 st.pos)) = true :=
  ⟨⟨15, [(1, 11, 12), (1, 10, 11), (1, 9, 10), (1, 8, 9), (1, 7, 8), (1, 6, 7), (1, 5, 6)]⟩, by decide +kernel, by decide +kernel, by decide +kernel⟩

/-- ini: if at offset `pre.length` the text reads `key=value` followed by a newline or the end of the text — key
    non-empty, without `=` and newline, not starting with `[ ; #` or white-space; value without newline — then
    `IniParser.getNext` returns the entity with exactly that key span and that value span (the raw value keeps
    leading and trailing blanks), no comment attached. -/
theorem ini_single_record_partial (s : Array Nat) (off klen vlen : Nat) (h : IniRecAt s off klen vlen) :
    iniGetNext s off = iniEntity off klen vlen :=
  ini_entity_at s off klen vlen h

-- non-vacuity: "k = v " at offset 0 of "k = v ⏎x"
example : iniGetNext #[107, 32, 61, 32, 118, 32, 10, 120] 0 = iniEntity 0 2 3 := by decide +kernel
-- NEGATION WITNESS for "key does not start with [": "[a]=b" is a section, not an entity
example : (iniGetNext #[91, 97, 93, 61, 98] 0).kind = .section := by decide +kernel

/-- ini, a whole file: for EVERY section name without `]` and newline and EVERY list of safe ini records (key non-empty,
    without `=` and newline, not starting with `[ ; #` or white-space; value without newline — blanks are kept) printed as
    `[sec]⏎` followed by `key=value⏎` per record, `IniParser.walk` terminates and yields EXACTLY: the section entry
    (span `[sec]`, value span `sec`), a one-newline white-space entry, and per record the entity (span `key=value`, key
    span, value span) followed by a one-newline white-space entry (`C02X.iniExpEntries`); the entities evaluate to exactly
    the printed keys and raw values (value = raw value), no comment attached; there is no junk.
    Blank lines, comments, no section or several sections: `roundtrip_ini_full_partial`.  CRLF is not treated. -/
theorem roundtrip_ini_partial (sec : List Nat) (rs : List PRec) (hsec : ∀ c ∈ sec, c ≠ 93 ∧ c ≠ 10)
    (h : ∀ r ∈ rs, C02X.SafeIniRec r) :
    walk .ini (C02X.printIni sec rs).toArray = .done (C02X.iniExpEntries sec rs) ∧
      entitiesOf .ini (C02X.printIni sec rs).toArray (C02X.iniExpEntries sec rs) = rs.map expectedView ∧
      junkOf (C02X.printIni sec rs).toArray (C02X.iniExpEntries sec rs) = [] :=
  ⟨C02X.walk_ini_printed sec rs hsec h, C02X.entitiesOf_iniExpEntries sec rs h⟩

-- non-vacuity: "[Strings]⏎a b= x ⏎k=⏎"  (blanks inside key and around the value are kept, empty value)
example : C02X.SafeIniRec ([97, 32, 98], [32, 120, 32]) ∧ C02X.SafeIniRec ([107], []) := by decide
example : C02X.printIni [83, 116, 114, 105, 110, 103, 115] [([97, 32, 98], [32, 120, 32]), ([107], [])] =
    [91, 83, 116, 114, 105, 110, 103, 115, 93, 10, 97, 32, 98, 61, 32, 120, 32, 10, 107, 61, 10] := by decide +kernel
example : C02X.iniExpEntries [83, 116, 114, 105, 110, 103, 115] [([97, 32, 98], [32, 120, 32]), ([107], [])] =
    [{ kind := .section, full := 0, s := 0, e := 9, ks := 1, ke := 8, vs := 1, ve := 8 },
     { kind := .whitespace, full := 9, s := 9, e := 10, ks := 9, ke := 10, vs := 9, ve := 10 },
     { kind := .entity, full := 10, s := 10, e := 17, ks := 10, ke := 13, vs := 14, ve := 17 },
     { kind := .whitespace, full := 17, s := 17, e := 18, ks := 17, ke := 18, vs := 17, ve := 18 },
     { kind := .entity, full := 18, s := 18, e := 20, ks := 18, ke := 19, vs := 20, ve := 20 },
     { kind := .whitespace, full := 20, s := 20, e := 21, ks := 20, ke := 21, vs := 20, ve := 21 }] := by decide +kernel
-- NEGATION WITNESSES (what the code does at the excluded points):
-- a key starting with `;` is a comment line ("[S]⏎;a=b⏎": the entry at offset 4 is a comment)
example : (iniGetNext #[91, 83, 93, 10, 59, 97, 61, 98, 10] 4).kind = .comment := by decide +kernel
-- a key containing `=`: the key ends at the FIRST `=` ("a=b=c": key span 0..1, value span 2..5)
example : ((iniGetNext #[97, 61, 98, 61, 99] 0).ke, (iniGetNext #[97, 61, 98, 61, 99] 0).vs) = (1, 2) := by decide +kernel
-- a section name containing `]` ends at the first `]` ("[a]b]⏎": section value span 1..2, entry ends at 3)
example : ((iniGetNext #[91, 97, 93, 98, 93, 10] 0).ke, (iniGetNext #[91, 97, 93, 98, 93, 10] 0).e) = (2, 3) := by decide +kernel
-- a key starting with a blank: the blank goes to the white-space entry, the key loses it ("[S]⏎ a=b": ws entry 3..5)
example : (iniGetNext #[91, 83, 93, 10, 32, 97, 61, 98] 3).e = 5 := by decide +kernel

/-- .inc, a whole file: for EVERY list of safe records (key non-empty, made of ASCII letters / digits / underscore; value
    without newline, possibly empty) printed as `#define KEY value⏎` — resp. `#define KEY⏎` when the value is empty — one
    directly after the other (no blank lines, so the `#filter emptyLines` state is irrelevant; it stays `False`),
    `DefinesParser.walk` terminates and yields EXACTLY, per record, the entity followed by a one-newline white-space entry
    (`C02X.incExpEntries`): entity span = the line without its newline, key span = `KEY`, value span = the text after the ONE
    separating blank; for an EMPTY value the `val` group takes no part in the match and the value span is Python's
    `(-1, -1)` (see `roundtrip_inc_absent_val_span`), whose slice is the empty text.  The entities evaluate to exactly the
    printed keys and raw values (value = raw value), no comment attached; there is no junk.
    Comments, blank lines under `#filter emptyLines`, other instructions: `roundtrip_inc_full_partial`.  Not treated: tabs or
    several blanks after `#define`, non-ASCII `\w` keys. -/
theorem roundtrip_inc_partial (rs : List C02X.IRec) (h : ∀ r ∈ rs, C02X.SafeIncRec r) :
    walk .inc (C02X.printInc rs).toArray = .done (C02X.incExpEntries 0 rs) ∧
      entitiesOf .inc (C02X.printInc rs).toArray (C02X.incExpEntries 0 rs) = rs.map expectedView ∧
      junkOf (C02X.printInc rs).toArray (C02X.incExpEntries 0 rs) = [] :=
  ⟨C02X.walk_inc_printed rs h, C02X.entitiesOf_incExpEntries _ rs 0 (by simp) h⟩

/-- the spans of one record explicitly: empty value ⇒ value span `(-1, -1)`; otherwise the text after the blank -/
theorem roundtrip_inc_absent_val_span (off klen : Nat) :
    ((C02X.incEntity off klen 0).vs, (C02X.incEntity off klen 0).ve) = (-1, -1) ∧
      ∀ vlen, 0 < vlen → ((C02X.incEntity off klen vlen).vs, (C02X.incEntity off klen vlen).ve) =
        (((off + 8 + klen + 1 : Nat) : Int), ((off + 8 + klen + 1 + vlen : Nat) : Int)) := by
  constructor
  · simp [C02X.incEntity]
  · intro vlen hv
    have : vlen ≠ 0 := by omega
    simp [C02X.incEntity, this]

-- non-vacuity: "#define A_1  x y" (value " x y" keeps its own leading blank) and "#define b" (no value)
example : C02X.SafeIncRec ([65, 95, 49], [32, 120, 32, 121]) ∧ C02X.SafeIncRec ([98], []) := by decide
example : C02X.printInc [([65, 95, 49], [32, 120, 32, 121]), ([98], [])] =
    [35, 100, 101, 102, 105, 110, 101, 32, 65, 95, 49, 32, 32, 120, 32, 121, 10,
     35, 100, 101, 102, 105, 110, 101, 32, 98, 10] := by decide +kernel
example : C02X.incExpEntries 0 [([65, 95, 49], [32, 120, 32, 121]), ([98], [])] =
    [{ kind := .entity, full := 0, s := 0, e := 16, ks := 8, ke := 11, vs := 12, ve := 16 },
     { kind := .whitespace, full := 16, s := 16, e := 17, ks := 16, ke := 17, vs := 16, ve := 17 },
     { kind := .entity, full := 17, s := 17, e := 26, ks := 25, ke := 26, vs := -1, ve := -1 },
     { kind := .whitespace, full := 26, s := 26, e := 27, ks := 26, ke := 27, vs := 26, ve := 27 }] := by decide +kernel
-- NEGATION WITNESSES (what the code does at the excluded points):
-- a key character outside `\w` ends the key and the entity: "#define a-b x⏎" is the entity `a` (0..9) followed by junk "-b x⏎"
set_option maxRecDepth 100000 in
example : (definesGetNext #[35, 100, 101, 102, 105, 110, 101, 32, 97, 45, 98, 32, 120, 10] false 0).1 =
    { kind := .entity, full := 0, s := 0, e := 9, ks := 8, ke := 9 } ∧
  (definesGetNext #[35, 100, 101, 102, 105, 110, 101, 32, 97, 45, 98, 32, 120, 10] false 9).1 =
    { kind := .junk, full := 9, s := 9, e := 14 } := by decide +kernel
-- an empty value printed WITH the separating blank ("#define b ⏎") gives an empty but present value span (10, 10)
set_option maxRecDepth 100000 in
example : ((definesGetNext #[35, 100, 101, 102, 105, 110, 101, 32, 98, 32, 10] false 0).1.vs,
    (definesGetNext #[35, 100, 101, 102, 105, 110, 101, 32, 98, 32, 10] false 0).1.ve) = (10, 10) := by decide +kernel
-- a blank line between records (outside `#filter emptyLines`) is junk: "#define a⏎⏎#define b⏎" at offset 9
set_option maxRecDepth 100000 in
example : (definesGetNext #[35, 100, 101, 102, 105, 110, 101, 32, 97, 10, 10, 35, 100, 101, 102, 105, 110, 101, 32, 98, 10] false 9).1.kind = .junk := by decide +kernel

/-- DTD, a whole file: for EVERY list of safe records (key = an ASCII letter followed by ASCII letters / digits / `.` / `-`;
    value without `"` and without `&`; newlines, `<`, `%`, `'` in the value are allowed) printed as
    `<!ENTITY key "value">⏎` one after the other, `DTDParser.walk` terminates and yields EXACTLY, per record, the entity
    followed by a one-newline white-space entry (`C02X.dtdExpEntries`): entity span = `<!ENTITY … >`, key span = `key`,
    value span = the quoted text WITHOUT the two quotes (`createEntity` shrinks the span of the `val` group by one on each
    side).  The entities evaluate to exactly the printed keys and raw values (value = raw value: there is no `&` to
    unescape), no comment attached; there is no junk.
    Single-quoted values, other white-space, comments, parameter entities, a byte-order mark: `roundtrip_dtd_full_partial`.
    Not treated: non-ASCII names, values with character references (`html.unescape` is not modelled). -/
theorem roundtrip_dtd_partial (rs : List C02X.DRec) (h : ∀ r ∈ rs, C02X.SafeDtdRec r) :
    walk .dtd (C02X.printDtd rs).toArray = .done (C02X.dtdExpEntries 0 rs) ∧
      entitiesOf .dtd (C02X.printDtd rs).toArray (C02X.dtdExpEntries 0 rs) = rs.map expectedView ∧
      junkOf (C02X.printDtd rs).toArray (C02X.dtdExpEntries 0 rs) = [] :=
  ⟨C02X.walk_dtd_printed rs h, C02X.entitiesOf_dtdExpEntries _ rs 0 (by simp) h⟩

-- non-vacuity: `<!ENTITY a.b "x y">` and `<!ENTITY k "">` (empty value)
example : C02X.SafeDtdRec ([97, 46, 98], [120, 32, 121]) ∧ C02X.SafeDtdRec ([107], []) := by decide
example : C02X.printDtd [([97, 46, 98], [120, 32, 121]), ([107], [])] = [60, 33, 69, 78, 84, 73, 84, 89, 32, 97, 46, 98, 32, 34, 120, 32, 121, 34, 62, 10, 60, 33, 69, 78, 84, 73, 84, 89, 32, 107, 32, 34, 34, 62, 10] := by decide +kernel
example : C02X.dtdExpEntries 0 [([97, 46, 98], [120, 32, 121]), ([107], [])] =
    [{ kind := .entity, full := 0, s := 0, e := 19, ks := 9, ke := 12, vs := 14, ve := 17 },
     { kind := .whitespace, full := 19, s := 19, e := 20, ks := 19, ke := 20, vs := 19, ve := 20 },
     { kind := .entity, full := 20, s := 20, e := 34, ks := 29, ke := 30, vs := 32, ve := 32 },
     { kind := .whitespace, full := 34, s := 34, e := 35, ks := 34, ke := 35, vs := 34, ve := 35 }] := by decide +kernel
-- NEGATION WITNESSES (what the code does at the excluded points):
-- a key starting with a digit: the whole line is junk (`<!ENTITY 1a "x">⏎`)
example : dtdGetNext #[60, 33, 69, 78, 84, 73, 84, 89, 32, 49, 97, 32, 34, 120, 34, 62, 10] 0 = { kind := .junk, full := 0, s := 0, e := 17 } := by decide +kernel
-- a `"` inside the value ends the value, `>` does not follow: junk (`<!ENTITY a "x"y">⏎`)
example : (dtdGetNext #[60, 33, 69, 78, 84, 73, 84, 89, 32, 97, 32, 34, 120, 34, 121, 34, 62, 10] 0).kind = .junk := by decide +kernel
-- a `&` in the value: the spans are still exact (value span 12..19) but the VALUE needs `html.unescape` (not modelled: `none`)
example : (entView .dtd #[60, 33, 69, 78, 84, 73, 84, 89, 32, 97, 32, 34, 120, 38, 97, 109, 112, 59, 121, 34, 62, 10] (dtdGetNext #[60, 33, 69, 78, 84, 73, 84, 89, 32, 97, 32, 34, 120, 38, 97, 109, 112, 59, 121, 34, 62, 10] 0)).map (·.val) = some none := by decide +kernel

/-- properties with comments, a whole file: every record may carry ONE preceding comment line `# text⏎` (text without any
    line boundary character, see `C02X.SafeCRec`); records are safe as in `roundtrip_properties_partial`.  If the FIRST
    record carries a comment, its text must not contain "License" (otherwise `license_standalone_properties` applies: the
    comment is standalone — the rule only exists at offset 0, so no other comment is restricted).  Then
    `PropertiesParser.walk` terminates and yields EXACTLY, per record, the entity followed by a one-newline white-space
    entry (`C02X.expCEntries`); for a record with a comment the entity's `pre_comment` span is exactly the comment line
    WITHOUT its newline (`attached_comment_span`), the entry's full span starts at the `#`, its own span at the key.
    The entities evaluate to exactly the printed keys, raw values, values (= raw values) and comment values, where the
    comment value is the line without its FIRST character — `OffsetComment` strips `comment_offset = 1` character per
    line, so the blank after `#` is kept: ` text` (`attached_comment_val`).  No junk.
    Multi-line comments, `!` comments, stand-alone comments and the other layouts of the record grammar:
    `roundtrip_properties_full_partial`. -/
theorem roundtrip_properties_comments_partial (rs : List C02X.CRec) (h : ∀ r ∈ rs, C02X.SafeCRec r)
    (hlic : ∀ r c, rs.head? = some r → r.1 = some c → isInfix licenseWord c = false) :
    walk .properties (C02X.printCProps rs).toArray = .done (C02X.expCEntries 0 rs) ∧
      entitiesOf .properties (C02X.printCProps rs).toArray (C02X.expCEntries 0 rs) = rs.map C02X.expectedCView ∧
      junkOf (C02X.printCProps rs).toArray (C02X.expCEntries 0 rs) = [] :=
  ⟨C02X.walk_cprops_printed rs h hlic, C02X.entitiesOf_expCEntries _ rs 0 (by simp) h⟩

/-- the spans of an entity with an attached comment `# text` (length `|text| + 2`) printed at `off`: the pre-comment span
    is the comment line without its newline; the entry starts at the comment, the entity proper after the newline -/
theorem attached_comment_span (off : Nat) (c : List Nat) (r : PRec) :
    (C02X.crecEntity off (some c, r)).pc = some (off, off + (c.length + 2)) ∧
      (C02X.crecEntity off (some c, r)).full = off ∧ (C02X.crecEntity off (some c, r)).s = off + (c.length + 2) + 1 :=
  ⟨rfl, rfl, rfl⟩

/-- `OffsetComment.val` of a one-line comment `# text`: exactly one character (the `#`) is stripped -/
theorem attached_comment_val (c : List Nat) (hb : ∀ ch ∈ c, isLineBreak ch = false) :
    commentVal (.offset Gen.Tables.offsetCommentDefault) (35 :: 32 :: c) = 32 :: c :=
  C02X.commentVal_oneLine c hb

-- non-vacuity: "# hi⏎a=b⏎c=d⏎": the first record carries the comment "# hi"
example : C02X.SafeCRec (some [104, 105], ([97], [98])) ∧ C02X.SafeCRec (none, ([99], [100])) := by decide
example : C02X.printCProps [(some [104, 105], ([97], [98])), (none, ([99], [100]))] =
    [35, 32, 104, 105, 10, 97, 61, 98, 10, 99, 61, 100, 10] := by decide +kernel
example : C02X.expCEntries 0 [(some [104, 105], ([97], [98])), (none, ([99], [100]))] =
    [{ kind := .entity, full := 0, s := 5, e := 8, ks := 5, ke := 6, vs := 7, ve := 8, pc := some (0, 4) },
     { kind := .whitespace, full := 8, s := 8, e := 9, ks := 8, ke := 9, vs := 8, ve := 9 },
     { kind := .entity, full := 9, s := 9, e := 12, ks := 9, ke := 10, vs := 11, ve := 12 },
     { kind := .whitespace, full := 12, s := 12, e := 13, ks := 12, ke := 13, vs := 12, ve := 13 }] := by decide +kernel
example : (C02X.expectedCView (some [104, 105], ([97], [98]))).map (·.comment) = some (some [32, 104, 105]) := by decide +kernel
-- NEGATION WITNESSES (what the code does at the excluded points):
-- the License hypothesis on the first comment: see the `# License⏎a=b` examples above (standalone comment)
-- a line boundary character other than newline inside the comment text (VT, 0x0b): the regex does not care, but
-- `splitlines` starts a new line there and ONE MORE character is dropped  ("# a\x0bbc"  ->  " a\x0bc")
example : commentVal (.offset Gen.Tables.offsetCommentDefault) [35, 32, 97, 11, 98, 99] = [32, 97, 11, 99] := by decide +kernel
-- a blank line between comment and record: the comment is standalone ("# a⏎⏎b=c⏎")
example : propsGetNext #[35, 32, 97, 10, 10, 98, 61, 99, 10] 0 = { kind := .comment, full := 0, s := 0, e := 3 } := by decide +kernel
-- two comment lines are ONE pre-comment ("# a⏎# b⏎b=c⏎": pre-comment span 0..7), outside the printed class
example : (propsGetNext #[35, 32, 97, 10, 35, 32, 98, 10, 98, 61, 99, 10] 0).pc = some (0, 7) := by decide +kernel

/-- garbage locality, properties: take ANY two lists of safe records (either may be empty) and ANY inert garbage line `g`
    (non-empty, without `= : # !` and newline, not starting with white-space), printed as the first records, then `g⏎`,
    then the other records.  `PropertiesParser.walk` terminates and yields EXACTLY the entries of the first records, ONE
    junk entry, and the entries of the other records (`C02X.garbageExpEntries`): every record is recovered unchanged (key,
    raw value, value, no comment) and the only junk text is exactly `g⏎` (`getJunk` stops where the key regex matches
    next — the start of the following record — or at the end of the text).
    Any number of garbage lines between blocks of the full grammars, with comments, per format: `garbage_local_properties`,
    `garbage_local_po`, `roundtrip_ini_full_partial`, `roundtrip_inc_full_partial`, `roundtrip_dtd_full_partial`. -/
theorem garbage_local_properties_partial (rs1 : List PRec) (g : List Nat) (rs2 : List PRec)
    (h1 : ∀ r ∈ rs1, SafeRec r) (hg : C02X.SafeGarbage g) (h2 : ∀ r ∈ rs2, SafeRec r) :
    walk .properties (C02X.printWithGarbage rs1 g rs2).toArray = .done (C02X.garbageExpEntries rs1 g rs2) ∧
      entitiesOf .properties (C02X.printWithGarbage rs1 g rs2).toArray (C02X.garbageExpEntries rs1 g rs2) =
        (rs1 ++ rs2).map expectedView ∧
      junkOf (C02X.printWithGarbage rs1 g rs2).toArray (C02X.garbageExpEntries rs1 g rs2) = [g ++ [10]] := by
  open C02X C04M in
  obtain ⟨a1, b1, c1, g1, k1⟩ := plain_append_lines rs1 (.garb g :: plain rs2)
  obtain ⟨a2, b2, c2, g2, k2⟩ := plain_only_lines rs2
  have ht : linesText (plain rs1 ++ .garb g :: plain rs2) = printWithGarbage rs1 g rs2 := by
    rw [a1, linesText, lineText, a2]; rfl
  have he : lentries 0 (plain rs1 ++ .garb g :: plain rs2) = garbageExpEntries rs1 g rs2 := by
    rw [g1, lentries, g2, Nat.zero_add]; rfl
  obtain ⟨w, v1, v2⟩ := walk_views_from (printWithGarbage rs1 g rs2).toArray _ 0 (by rw [ht]; exact C02P.at_zero _)
    (k1 h1 ⟨hg, by cases rs2 <;> exact trivial, k2 h2⟩)
  rw [he] at w v1 v2
  rw [b1, lrecs, b2] at v1
  rw [c1, lgarb, c2] at v2
  exact ⟨w.done_walk (by rw [ht]; simp), v1, v2⟩

-- non-vacuity: "a=b⏎x y⏎c=d⏎" (garbage "x y", blanks inside are fine)
example : C02X.SafeGarbage [120, 32, 121] := by decide
example : C02X.printWithGarbage [([97], [98])] [120, 32, 121] [([99], [100])] =
    [97, 61, 98, 10, 120, 32, 121, 10, 99, 61, 100, 10] := by decide +kernel
example : C02X.garbageExpEntries [([97], [98])] [120, 32, 121] [([99], [100])] =
    [{ kind := .entity, full := 0, s := 0, e := 3, ks := 0, ke := 1, vs := 2, ve := 3 },
     { kind := .whitespace, full := 3, s := 3, e := 4, ks := 3, ke := 4, vs := 3, ve := 4 },
     { kind := .junk, full := 4, s := 4, e := 8 },
     { kind := .entity, full := 8, s := 8, e := 11, ks := 8, ke := 9, vs := 10, ve := 11 },
     { kind := .whitespace, full := 11, s := 11, e := 12, ks := 11, ke := 12, vs := 11, ve := 12 }] := by decide +kernel
-- NEGATION WITNESSES (what the code does at the excluded points):
-- garbage containing `=` is simply another entity ("x=y")
example : (propsGetNext #[97, 61, 98, 10, 120, 61, 121, 10, 99, 61, 100, 10] 4).kind = .entity := by decide +kernel
-- garbage containing `#` ("x # y"): the junk ends at the `#` (offset 6) and "# y" becomes the PRE-COMMENT of the next
-- record (its `pc` is 6..9): here the damage is NOT local — the comment regex is not anchored at a line start
example : propsGetNext #[97, 61, 98, 10, 120, 32, 35, 32, 121, 10, 99, 61, 100, 10] 4 = { kind := .junk, full := 4, s := 4, e := 6 } ∧
    (propsGetNext #[97, 61, 98, 10, 120, 32, 35, 32, 121, 10, 99, 61, 100, 10] 6).pc = some (6, 9) := by decide +kernel
-- garbage starting with a blank (" x"): the blank joins the preceding white-space entry (3..5), the junk is "x⏎" only
example : (propsGetNext #[97, 61, 98, 10, 32, 120, 10, 99, 61, 100, 10] 3).e = 5 ∧ propsGetNext #[97, 61, 98, 10, 32, 120, 10, 99, 61, 100, 10] 5 = { kind := .junk, full := 5, s := 5, e := 7 } := by decide +kernel

/-- PO, one record: if at offset `|pre|` the text reads `msgid "K"⏎msgstr "V"⏎` — K and V without `"`, backslash and
    newline (either may be empty) — and what follows is the end of the text or starts with something that is neither
    white-space nor a quote (e.g. the next `msgid`, a `#` comment), then `PoParser.getNext` returns the entity whose span is
    `msgid "K"⏎msgstr "V"` (without the final newline), key span `msgid "K"`, value span `msgstr "V"`; `createEntity`
    finds no `msgctxt`, exactly one `msgid` fragment and one `msgstr` fragment (the texts between the quotes), and
    `eval_stringlist` of them is K resp. V; the entity evaluates to key K, context `None`, raw value `msgstr "V"`, value V —
    or K when V is empty (`stringlist_val if stringlist_val else stringlist_key[0]`) — and no comment.
    Lists of records, several fragments per string list, escapes in fragments (their VALUE is `po_unescape_is_spec`),
    `msgctxt`, comments: `roundtrip_po_partial`. -/
theorem po_single_record_partial (pre K V rest : List Nat)
    (hK : ∀ c ∈ K, c ≠ 34 ∧ c ≠ 10 ∧ c ≠ 92) (hV : ∀ c ∈ V, c ≠ 34 ∧ c ≠ 10 ∧ c ≠ 92)
    (hrest : ∀ c, rest.head? = some c → c ≠ 32 ∧ c ≠ 9 ∧ c ≠ 13 ∧ c ≠ 10 ∧ c ≠ 34) :
    poGetNext (pre ++ C02X.printPoRec K V ++ rest).toArray pre.length = C02X.poEntity pre.length K.length V.length ∧
      poCreate (pre ++ C02X.printPoRec K V ++ rest).toArray pre.length = some (C02X.poPartsOf pre.length K.length V.length) ∧
      poEval (pre ++ C02X.printPoRec K V ++ rest).toArray (C02X.poPartsOf pre.length K.length V.length).msgid = some K ∧
      poEval (pre ++ C02X.printPoRec K V ++ rest).toArray (C02X.poPartsOf pre.length K.length V.length).msgstr = some V ∧
      entView .po (pre ++ C02X.printPoRec K V ++ rest).toArray (C02X.poEntity pre.length K.length V.length) =
        C02X.expectedPoView K V :=
  C02X.po_record_plain _ _ K V rest hK hV hrest (by simp)

-- non-vacuity: `msgid "a b"⏎msgstr "x"⏎` followed by the next `msgid`, after a two-character prefix "⏎⏎"
example : C02X.printPoRec [97, 32, 98] [120] = [109, 115, 103, 105, 100, 32, 34, 97, 32, 98, 34, 10, 109, 115, 103, 115, 116, 114, 32, 34, 120, 34, 10] := by decide +kernel
example : C02X.poEntity 2 3 1 = { kind := .entity, full := 2, s := 2, e := 24, ks := 2, ke := 13, vs := 14, ve := 24 } := by decide +kernel
example : C02X.poPartsOf 2 3 1 = { e := 24, idS := 2, idE := 13, valS := 14, msgctxt := none, msgid := [(9, 12)], msgstr := [(22, 23)] } := by decide +kernel
example : C02X.expectedPoView [97, 32, 98] [] =
    some { key := [97, 32, 98], ctxt := some none, raw := [109, 115, 103, 115, 116, 114, 32, 34, 34], val := some [97, 32, 98], comment := none } := by
  decide +kernel
-- NEGATION WITNESSES (what the code does at the excluded points):
-- a quoted text on the next line is a CONTINUATION fragment of msgstr (hypothesis on `rest`): the entity ends at 25, not 19
example : (poGetNext #[109, 115, 103, 105, 100, 32, 34, 97, 34, 10, 109, 115, 103, 115, 116, 114, 32, 34, 120, 34, 10, 34, 121, 122, 34, 10] 0).e = 25 := by decide +kernel
-- a `"` inside K ends the fragment; the record is no entity any more (junk)
example : (poGetNext #[109, 115, 103, 105, 100, 32, 34, 97, 34, 98, 34, 10, 109, 115, 103, 115, 116, 114, 32, 34, 120, 34, 10] 0).kind = .junk := by decide +kernel
-- a backslash in V: the spans are as printed, but the value is the unescaped text (`x\ny` -> x, newline, y)
example : (entView .po #[109, 115, 103, 105, 100, 32, 34, 97, 34, 10, 109, 115, 103, 115, 116, 114, 32, 34, 120, 92, 110, 121, 34, 10] (poGetNext #[109, 115, 103, 105, 100, 32, 34, 97, 34, 10, 109, 115, 103, 115, 116, 114, 32, 34, 120, 92, 110, 121, 34, 10] 0)).map (·.val) = some (some [120, 10, 121]) := by decide +kernel

/-- PO, a whole file: take ANY list of blocks, each either
    * a RECORD: optional `#…` comment lines (any text without newline after the `#`: `# `, `#.`, `#:`, `#,` …), optionally
      white-space with at most ONE newline between the comment block and the record, optional `msgctxt` string list,
      `msgid` string list, `msgstr` string list — every string list is one or more quoted fragments, each preceded by
      arbitrary white-space (so `msgid "a"`, `msgid ""⏎"a"⏎"b"`, `msgid"a" "b"` are all covered), every fragment a list of
      tokens `reListItem` accepts (plain characters, the escapes `\\ \t \r \n \"`) — arbitrary white-space between the
      lists, and arbitrary white-space after the record (the "gap"; the header record `msgid ""` is a record like any
      other — the parser does not treat it specially); or
    * a FREE comment: comment lines followed by white-space with at least TWO newlines.
    The License rule must not fire on an attached comment of the FIRST record (`NoLicense 0`: all other blocks start at an
    offset ≥ 2, where the rule does not exist; a free comment is standalone with or without the rule).  Then
    `PoParser.walk` terminates and yields EXACTLY (`C02P.poExpEntries`), per record: the entity — full span from the first
    comment line, span from `msgctxt`/`msgid` to the closing quote of the last `msgstr` fragment, key span = start … end
    of the last `msgid` fragment (it INCLUDES the msgctxt list: `id_start = cursor = m.start()`), value span = `msgstr` …
    end, pre-comment span = the comment lines — followed by one white-space entry for a non-empty gap; per free comment the
    comment entry and the white-space entry.  The entities evaluate (`C02P.PoRec.view`) to: key = the one-pass unescape
    (`po_unescape_is_spec`) of the msgid fragments concatenated, context = the same for msgctxt (or `None`), raw value =
    `msgstr` + its printed fragments, value = the unescaped msgstr fragments — or the msgid when that is empty —, attached
    comment = the comment lines verbatim (`#` and newline included).  There is no junk.
    A comment separated from its record by white-space is attached iff that white-space has at most one newline: both cases
    are in the class.  Outside it: obsolete `#~` records (they are comments for the parser), a final comment without
    newline, and `\r\n` INSIDE comment lines. -/
theorem roundtrip_po_partial (bs : List C02P.PoBlock) (h : ∀ b ∈ bs, b.Good')
    (hlic : ∀ r, bs.head? = some (.record r) → r.NoLicense 0) :
    walk .po (C02P.printPo bs).toArray = .done (C02P.poExpEntries bs) ∧
      entitiesOf .po (C02P.printPo bs).toArray (C02P.poExpEntries bs) = C02P.poExpViews bs ∧
      junkOf (C02P.printPo bs).toArray (C02P.poExpEntries bs) = [] :=
  open C02P in
  gdoc_plain poSpec poSpec_laws bs (fun b hb _ => h b hb) fun b hb => by
      cases b with
      | record r => exact hlic r hb
      | free cs gap => trivial

/-- the pieces, one record at any offset: `getNext`, `createEntity` and the view -/
theorem po_record_at (s : Array Nat) (off : Nat) (r : C02P.PoRec) (rest : List Nat) (hg : r.Good) (hlic : r.NoLicense off)
    (hfo : C02P.PoFollow rest) (h : s.toList.drop off = r.print ++ rest) :
    poGetNext s off = r.entity off ∧ poCreate s (r.start off) = some (r.parts (r.start off)) ∧
      entView .po s (r.entity off) = r.view := by
  refine ⟨C02P.po_entity_rec s off r rest hg hlic hfo h, ?_, C02P.po_view_rec s off r rest hg hfo h⟩
  have h1 : C02P.At s off (C02P.printComment r.comment ++ (r.cgap ++ (r.body ++ (r.gap ++ rest)))) := by
    simpa [C02P.At, C02P.PoRec.print] using h
  exact C02P.po_create_at s _ r rest hg hfo h1.app.app

-- non-vacuity: `# c⏎⏎⏎#. x⏎msgctxt "c"⏎msgid ""⏎"a\n"⏎msgstr "b"⏎` (free comment; attached `#.` comment, msgctxt, a msgid
-- of two fragments with an escape)
example : (∀ b ∈ C02P.poDemo, b.Good') ∧ ∀ r, C02P.poDemo.head? = some (.record r) → r.NoLicense 0 :=
  ⟨C02P.poDemo_good, C02P.poDemo_lic⟩
example : C02P.printPo C02P.poDemo =
    [35, 32, 99, 10, 10, 10, 35, 46, 32, 120, 10, 109, 115, 103, 99, 116, 120, 116, 32, 34, 99, 34, 10, 109, 115, 103, 105, 100, 32,
     34, 34, 10, 34, 97, 92, 110, 34, 10, 109, 115, 103, 115, 116, 114, 32, 34, 98, 34, 10] := by decide +kernel
example : C02P.poExpEntries C02P.poDemo =
    [{ kind := .comment, full := 0, s := 0, e := 4 },
     { kind := .whitespace, full := 4, s := 4, e := 6, ks := 4, ke := 6, vs := 4, ve := 6 },
     { kind := .entity, full := 6, s := 11, e := 48, ks := 11, ke := 37, vs := 38, ve := 48, pc := some (6, 11) },
     { kind := .whitespace, full := 48, s := 48, e := 49, ks := 48, ke := 49, vs := 48, ve := 49 }] := by decide +kernel
example : C02P.poExpViews C02P.poDemo =
    [some { key := [97, 10], ctxt := some (some [99]), raw := [109, 115, 103, 115, 116, 114, 32, 34, 98, 34], val := some [98],
            comment := some [35, 46, 32, 120, 10] }] := by decide +kernel
-- NEGATION WITNESSES (what the code does at the excluded points):
-- `NoLicense` for the first record: "# License⏎msgid "a"⏎msgstr "b"⏎" — the comment is standalone, not attached
example : poGetNext #[35, 32, 76, 105, 99, 101, 110, 115, 101, 10, 109, 115, 103, 105, 100, 32, 34, 97, 34, 10, 109, 115, 103, 115, 116, 114, 32, 34, 98, 34, 10] 0 =
    { kind := .comment, full := 0, s := 0, e := 10 } := by decide +kernel
-- at most one newline between comment and record (`cgap_nl`): with TWO the comment is standalone ("# c⏎⏎⏎msgid …"); with ONE
-- blank line it is still attached (the comment regex eats its own newline) — that layout is inside the class
example : (poGetNext #[35, 32, 99, 10, 10, 10, 109, 115, 103, 105, 100, 32, 34, 97, 34, 10, 109, 115, 103, 115, 116, 114, 32, 34, 98, 34, 10] 0).kind = .comment ∧
    (poGetNext #[35, 32, 99, 10, 10, 109, 115, 103, 105, 100, 32, 34, 97, 34, 10, 109, 115, 103, 115, 116, 114, 32, 34, 98, 34, 10] 0).pc = some (0, 4) := by
  decide +kernel
-- a token outside the grammar (`\q`): no list item, the record is junk
example : (poGetNext #[109, 115, 103, 105, 100, 32, 34, 92, 113, 34, 10, 109, 115, 103, 115, 116, 114, 32, 34, 98, 34, 10] 0).kind = .junk := by decide +kernel
-- `PoFollow`: see the continuation-fragment witness under `po_single_record_partial`

/-- properties, a whole file: take ANY list of blocks, each either
    * a RECORD (`C02P.PRecord`): an optional comment block of one or more lines, each `#` or `!` followed by any text
      without a line boundary; if there is a comment, a newline and possibly indentation (no second newline) before the key;
      the key (first character not `# ! = :` or white-space, further characters not `= :`, newline, blank, tab); the
      separator — blanks/tabs, `=` or `:`, blanks/tabs —; the value: zero or more CONTINUED physical lines (any text
      without newline that ends in an ODD number of backslashes) and a last line (ending in an EVEN number of backslashes,
      not ending in white-space), the first line not starting with a blank — so `\n \uXXXX \\ \:` escapes and
      `\`-newline-indentation continuations are all inside —; then the "gap": a newline and any further white-space (blank
      lines, indentation of the next record); or
    * a FREE comment block: comment lines followed by white-space that starts with a newline and has at least two.
    The License rule must not fire on an attached comment of the first record (the rule exists at offset 0 only).  Then
    `PropertiesParser.walk` terminates and yields EXACTLY (`C02P.propsExpEntries`), per record, the entity and one
    white-space entry for the gap, per free comment the comment entry and the white-space entry.  The SPANS of the entity
    are exact: key span = the key, VALUE SPAN = EXACTLY THE PRINTED RAW VALUE (all physical lines, backslashes and
    indentation included: the parity loop over `_escapedEnd` and the `_trailingWS` search are proved), pre-comment span =
    the comment block without its final newline.  The entities evaluate (`C02P.PRecord.view`) to the key, the raw value,
    value = `propsUnescapeSpec raw` (`props_unescape_is_spec`), and the comment lines without their markers.  No junk.
    Outside the class: keys containing blanks/tabs (legal for the code), a last record without final newline, a value whose
    last physical line is blank, CRLF. -/
theorem roundtrip_properties_full_partial (bs : List C02P.PBlock) (h : ∀ b ∈ bs, b.Good')
    (hlic : ∀ r, bs.head? = some (.record r) → r.NoLicense 0) :
    walk .properties (C02P.printPropsB bs).toArray = .done (C02P.propsExpEntries bs) ∧
      entitiesOf .properties (C02P.printPropsB bs).toArray (C02P.propsExpEntries bs) = C02P.propsExpViews bs ∧
      junkOf (C02P.printPropsB bs).toArray (C02P.propsExpEntries bs) = [] :=
  open C02P in
  gdoc_plain propsSpec propsSpec_laws bs (fun b hb _ => h b hb) fun b hb r hr => hlic r (hr ▸ hb)

/-- THE SPAN SIDE, one record at any offset: `getNext` returns the entity whose value span is exactly the printed raw
    value (`vstart … vstart + |value|`), whatever escapes and continuation lines it contains -/
theorem props_record_span (s : Array Nat) (off : Nat) (r : C02P.PRecord) (rest : List Nat) (hg : r.Good)
    (hlic : r.NoLicense off) (h : s.toList.drop off = r.print ++ rest) :
    propsGetNext s off = r.entity off ∧
      slice s (r.vstart off) (r.vstart off + r.value.length) = r.value ∧
      entView .properties s (r.entity off) = r.view := by
  refine ⟨C02P.props_entity_rec s off r rest hg hlic h, ?_, C02P.props_view_rec s off r rest hg h⟩
  have h1 : C02P.At s off (C02P.printCLines r.comment ++ (r.cgap ++ (r.key.print ++ (r.value ++ (r.gap ++ rest))))) := by
    simpa [C02P.At, C02P.PRecord.print] using h
  exact (h1.app.app.app).slice

/-- the value of a multi-line comment block: every line loses exactly its marker -/
theorem comment_block_val (ls : List C02P.CLine) (h : ∀ l ∈ ls, C02P.isMark l.1 = true ∧ C02P.CLine.NoBreak l) :
    commentVal (.offset Gen.Tables.offsetCommentDefault) (C02P.printCLines ls) = C02P.cvalLines ls :=
  C02P.offsetVal_lines ls h

-- non-vacuity: `# a⏎! b⏎k : x\⏎  yA⏎⏎`
example : (∀ b ∈ C02P.propsDemo, b.Good') ∧ ∀ r, C02P.propsDemo.head? = some (.record r) → r.NoLicense 0 :=
  ⟨C02P.propsDemo_good, C02P.propsDemo_lic⟩
example : C02P.printPropsB C02P.propsDemo =
    [35, 32, 97, 10, 33, 32, 98, 10, 107, 32, 58, 32, 120, 92, 10, 32, 32, 121, 92, 117, 48, 48, 52, 49, 10, 10] := by decide +kernel
example : C02P.propsExpEntries C02P.propsDemo =
    [{ kind := .entity, full := 0, s := 8, e := 24, ks := 8, ke := 9, vs := 12, ve := 24, pc := some (0, 7) },
     { kind := .whitespace, full := 24, s := 24, e := 26, ks := 24, ke := 26, vs := 24, ve := 26 }] := by decide +kernel
example : (C02P.propsExpViews C02P.propsDemo).map (fun v => v.map (fun x => (x.key, x.raw, x.comment))) =
    [some ([107], [120, 92, 10, 32, 32, 121, 92, 117, 48, 48, 52, 49], some [32, 97, 10, 32, 98])] := by decide +kernel
example : propsUnescapeSpec [120, 92, 10, 32, 32, 121, 92, 117, 48, 48, 52, 49] = [120, 121, 65] :=
  Option.some.inj ((props_unescape_is_spec _).symm.trans (by decide +kernel))
-- NEGATION WITNESSES (what the code does at the excluded points):
-- `val_head`: a value starting with a blank — the blank belongs to the separator ("a= b⏎": value span 3..4)
example : (propsGetNext #[97, 61, 32, 98, 10] 0).vs = 3 := by decide +kernel
-- a key ending in a blank: the blank belongs to the separator ("a =c⏎": key span 0..1); a blank INSIDE a key is kept by
-- the code ("a b=c⏎": key span 0..3) — the hypothesis on `kt` is stronger than necessary there
example : (propsGetNext #[97, 32, 61, 99, 10] 0).ke = 1 ∧ (propsGetNext #[97, 32, 98, 61, 99, 10] 0).ke = 3 := by decide +kernel
-- parity of the final backslashes: an EVEN number does not continue ("a=b\\⏎c=d⏎": entity ends at 5), an odd one does
example : (propsGetNext #[97, 61, 98, 92, 92, 10, 99, 61, 100, 10] 0).e = 5 ∧ (propsGetNext #[97, 61, 98, 92, 10, 99, 61, 100, 10] 0).e = 8 := by decide +kernel
-- `val_last`, the License rule, a line boundary inside a comment, a second newline before the key: see the witnesses under
-- `roundtrip_properties_partial`, `license_standalone_dtd` and `roundtrip_properties_comments_partial`
-- a free comment needs TWO newlines after it: with one it is attached ("# a⏎b=c⏎": pre-comment 0..3)
example : (propsGetNext #[35, 32, 97, 10, 98, 61, 99, 10] 0).pc = some (0, 3) := by decide +kernel

/-! Garbage locality, every regex format, with comments — also comments that contain a complete record.
`Parser.getJunk` ends the junk at the EARLIEST position where ANY of its expressions matches (`C02P.getJunk_at`: if none of
the expressions matches strictly inside `(off, e)` and one matches at `e` — or `e` is the end of the text and none matches
there — the junk entry is `off … e`; matches of the other expressions further on are irrelevant).  The documents below are
lists of blocks, each optionally preceded by ONE garbage line (with the white-space after it), optionally ending in a garbage
line.  Block texts are arbitrary inside their class; in particular a comment may read `# key=value`, `; key=value`,
`<!-- <!ENTITY old "v"> -->`, `#| msgid "old"`, `# #define OLD v`: the key regex then matches INSIDE the comment, and the
junk in front of the comment still ends exactly at the comment start.  In every theorem: the walk terminates; the entries
are exactly the blocks' entries plus ONE junk entry per garbage line; every record is recovered unchanged (key, raw value,
value, attached comment); the junk texts are exactly the garbage lines with the white-space after them. -/

theorem getJunk_earliest (s : Array Nat) (off e : Nat) (exps : List Re) (hoe : off < e)
    (hno : ∀ r ∈ exps, ∀ q, off < q → q < e → matchAt s r q = none)
    (hend : (∃ r ∈ exps, (matchAt s r e).isSome) ∨ (e = s.size ∧ ∀ r ∈ exps, matchAt s r e = none)) (hes : e ≤ s.size) :
    getJunk s off exps = { kind := .junk, full := off, s := off, e := e } :=
  C02P.getJunk_at s off e exps hoe hno hend hes

/-- properties (blocks of `roundtrip_properties_full_partial`; garbage line: non-empty, no `= : # !` and newline, not starting with white-space;
    followed by a newline and any white-space) -/
theorem garbage_local_properties (xs : List C02P.PGBlock) (tail : Option (List Nat × List Nat)) (hg : ∀ x ∈ xs, x.Good')
    (htail : ∀ g gap, tail = some (g, gap) → C02P.PGarbage g gap)
    (hlic : ∀ x r, xs.head? = some x → x.junk = none → x.b = .record r → r.NoLicense 0) :
    walk .properties (C02P.printPropsG xs tail).toArray = .done (C02P.propsGEntries xs tail) ∧
      entitiesOf .properties (C02P.printPropsG xs tail).toArray (C02P.propsGEntries xs tail) = C02P.propsGViews xs ∧
      junkOf (C02P.printPropsG xs tail).toArray (C02P.propsGEntries xs tail) = C02P.propsGJunk xs tail := by
  open C02P in
  have hall := gGoodAll propsSpec propsSpec_laws (xs.map PGBlock.toGB)
    (by
      intro y hy _
      obtain ⟨x, hx, rfl⟩ := List.mem_map.mp hy
      exact ⟨(hg x hx).1, fun g gap h => ⟨(hg x hx).2 g gap h, trivial⟩⟩)
    0 ()
    (by
      intro y hy hn r hr
      cases xs with
      | nil => cases hy
      | cons x xs => cases hy; exact hlic x r rfl hn hr)
  obtain ⟨e1, e2, e3, e4⟩ := propsG_bridge xs tail
  rw [← e1, ← e2, ← e3, ← e4]
  exact gdoc propsSpec propsSpec_laws _ tail hall htail

-- non-vacuity: `a=b⏎garbage⏎#x=y⏎c=d⏎junk⏎` — the comment `#x=y` reads like a record
example : C02P.printPropsG C02P.propsGDemo C02P.propsGTail =
    [97, 61, 98, 10, 103, 97, 114, 98, 97, 103, 101, 10, 35, 120, 61, 121, 10, 99, 61, 100, 10, 106, 117, 110, 107, 10] := by decide +kernel
example : C02P.propsGEntries C02P.propsGDemo C02P.propsGTail =
    [{ kind := .entity, full := 0, s := 0, e := 3, ks := 0, ke := 1, vs := 2, ve := 3 },
     { kind := .whitespace, full := 3, s := 3, e := 4, ks := 3, ke := 4, vs := 3, ve := 4 },
     { kind := .junk, full := 4, s := 4, e := 12 },
     { kind := .entity, full := 12, s := 17, e := 20, ks := 17, ke := 18, vs := 19, ve := 20, pc := some (12, 16) },
     { kind := .whitespace, full := 20, s := 20, e := 21, ks := 20, ke := 21, vs := 20, ve := 21 },
     { kind := .junk, full := 21, s := 21, e := 26 }] := by decide +kernel
example : C02P.propsGJunk C02P.propsGDemo C02P.propsGTail = [[103, 97, 114, 98, 97, 103, 101, 10], [106, 117, 110, 107, 10]] := by decide +kernel
example : (∀ x ∈ C02P.propsGDemo, x.Good') ∧ (∀ g gap, C02P.propsGTail = some (g, gap) → C02P.PGarbage g gap) :=
  ⟨C02P.propsGDemo_good, C02P.propsGTail_ok⟩
-- the key regex DOES match inside that comment (at `x`, offset 13); the junk nevertheless ends at the `#` (offset 12)
example : (matchAt #[97, 61, 98, 10, 103, 97, 114, 98, 97, 103, 101, 10, 35, 120, 61, 121, 10, 99, 61, 100, 10] PropertiesParser_reKey 13).isSome = true ∧
    propsGetNext #[97, 61, 98, 10, 103, 97, 114, 98, 97, 103, 101, 10, 35, 120, 61, 121, 10, 99, 61, 100, 10] 4 = { kind := .junk, full := 4, s := 4, e := 12 } := by decide +kernel

/-- ini, a whole file: ANY list of blocks, each optionally preceded by a garbage line (non-empty, no `=`, `[`, newline; not
    starting with white-space, `;` or `#`; followed by newlines only), each block either
    * `[name]` (no `]`, `=`, newline in the name), optionally with comment lines directly before it — they are a stand-alone
      comment entry followed by a one-newline white-space entry;
    * a record `key=value` (key non-empty, no `=`/newline, not starting with `[ ; #` or white-space; value without newline,
      blanks kept), optionally with an attached comment block (`;` / `#` lines, then ONE newline and possibly indentation);
    * a free comment block followed by white-space with at least two newlines;
    every block ends with white-space that starts and ends with a newline (the next block starts a line — `^` in the
    comment regex).  The License rule (offset < 2) must not fire on an attached comment of the first block.  Then
    `IniParser.walk` yields exactly the entries (`C02P.iniSpec.gentries`): section / entity / comment / white-space / junk;
    views: key, raw value = value, comment lines without their markers; junk = exactly the garbage lines. -/
theorem roundtrip_ini_full_partial (xs : List (C02P.GB C02P.IBlock)) (tail : Option (List Nat × List Nat))
    (hg : ∀ x ∈ xs, x.b.Good' ∧ ∀ g gap, x.junk = some (g, gap) → C02P.IGarbage g gap)
    (htail : ∀ g gap, tail = some (g, gap) → C02P.IGarbage g gap)
    (hlic : ∀ x, xs.head? = some x → x.junk = none → x.b.NoLicense 0) :
    walk .ini (C02P.iniSpec.gprint xs tail).toArray = .done (C02P.iniSpec.gentries xs tail) ∧
      entitiesOf .ini (C02P.iniSpec.gprint xs tail).toArray (C02P.iniSpec.gentries xs tail) = C02P.iniSpec.gviews xs ∧
      junkOf (C02P.iniSpec.gprint xs tail).toArray (C02P.iniSpec.gentries xs tail) = C02P.gbJunk xs tail :=
  open C02P in
  gdoc iniSpec iniSpec_laws xs tail
    (gGoodAll iniSpec iniSpec_laws xs
      (fun x hx _ => ⟨(hg x hx).1, fun g gap hj => ⟨(hg x hx).2 g gap hj, trivial⟩⟩) 0 () hlic) htail

-- non-vacuity: `; c⏎[S]⏎a=b⏎oops⏎; k=v⏎x=y⏎` (comment before the section; garbage in front of the comment `; k=v`)
example : C02P.iniSpec.gprint C02P.iniDemo none =
    [59, 32, 99, 10, 91, 83, 93, 10, 97, 61, 98, 10, 111, 111, 112, 115, 10, 59, 32, 107, 61, 118, 10, 120, 61, 121, 10] := by decide +kernel
example : C02P.iniSpec.gentries C02P.iniDemo none =
    [{ kind := .comment, full := 0, s := 0, e := 3 },
     { kind := .whitespace, full := 3, s := 3, e := 4, ks := 3, ke := 4, vs := 3, ve := 4 },
     { kind := .section, full := 4, s := 4, e := 7, ks := 5, ke := 6, vs := 5, ve := 6 },
     { kind := .whitespace, full := 7, s := 7, e := 8, ks := 7, ke := 8, vs := 7, ve := 8 },
     { kind := .entity, full := 8, s := 8, e := 11, ks := 8, ke := 9, vs := 10, ve := 11 },
     { kind := .whitespace, full := 11, s := 11, e := 12, ks := 11, ke := 12, vs := 11, ve := 12 },
     { kind := .junk, full := 12, s := 12, e := 17 },
     { kind := .entity, full := 17, s := 23, e := 26, ks := 23, ke := 24, vs := 25, ve := 26, pc := some (17, 22) },
     { kind := .whitespace, full := 26, s := 26, e := 27, ks := 26, ke := 27, vs := 26, ve := 27 }] := by decide +kernel
example : (∀ x ∈ C02P.iniDemo, x.b.Good' ∧ ∀ g gap, x.junk = some (g, gap) → C02P.IGarbage g gap) := C02P.iniDemo_good
-- NEGATION WITNESSES (what the code does at the excluded points):
-- an INDENTED comment is not a comment (`^`): "a=b⏎  ; c⏎x=y⏎" — after the white-space entry, "; c" is junk
example : (iniGetNext #[97, 61, 98, 10, 32, 32, 59, 32, 99, 10, 120, 61, 121, 10] 6).kind = .junk := by decide +kernel
-- white-space (not only newlines) after a garbage line belongs to the next record's KEY: "oops⏎  x=y⏎" — junk ends at 5,
-- the entity's key span is 5..8 ("  x")
example : iniGetNext #[111, 111, 112, 115, 10, 32, 32, 120, 61, 121, 10] 0 = { kind := .junk, full := 0, s := 0, e := 5 } ∧
    (iniGetNext #[111, 111, 112, 115, 10, 32, 32, 120, 61, 121, 10] 5).kind = .whitespace := by decide +kernel

/-- PO (blocks of `roundtrip_po_partial`; garbage line: non-empty, without `m`, `#` and newline, not starting with white-space or a
    quote; non-empty white-space after it) -/
theorem garbage_local_po (xs : List (C02P.GB C02P.PoBlock)) (tail : Option (List Nat × List Nat))
    (hg : ∀ x ∈ xs, x.b.Good' ∧ ∀ g gap, x.junk = some (g, gap) → C02P.PoGarbage g gap)
    (htail : ∀ g gap, tail = some (g, gap) → C02P.PoGarbage g gap)
    (hlic : ∀ x r, xs.head? = some x → x.junk = none → x.b = .record r → r.NoLicense 0) :
    walk .po (C02P.poSpec.gprint xs tail).toArray = .done (C02P.poSpec.gentries xs tail) ∧
      entitiesOf .po (C02P.poSpec.gprint xs tail).toArray (C02P.poSpec.gentries xs tail) = C02P.poSpec.gviews xs ∧
      junkOf (C02P.poSpec.gprint xs tail).toArray (C02P.poSpec.gentries xs tail) = C02P.gbJunk xs tail := by
  open C02P in
  apply gdoc poSpec poSpec_laws xs tail _ htail
  apply gGoodAll poSpec poSpec_laws xs (fun x hx _ => ⟨(hg x hx).1, fun g gap h => ⟨(hg x hx).2 g gap h, trivial⟩⟩) 0 ()
  intro x hx hj
  cases hb : x.b with
  | record r => exact hlic x r hx hj hb
  | free cs gap => trivial

-- non-vacuity: `msgid "a"⏎msgstr "b"⏎⏎junk⏎#| msgid "old"⏎msgid "c"⏎msgstr "d"⏎` (garbage in front of a previous-source comment)
example : C02P.poSpec.gprint C02P.poGDemo none =
    [109, 115, 103, 105, 100, 32, 34, 97, 34, 10, 109, 115, 103, 115, 116, 114, 32, 34, 98, 34, 10, 10, 106, 117, 110, 107, 10,
     35, 124, 32, 109, 115, 103, 105, 100, 32, 34, 111, 108, 100, 34, 10, 109, 115, 103, 105, 100, 32, 34, 99, 34, 10,
     109, 115, 103, 115, 116, 114, 32, 34, 100, 34, 10] := by decide +kernel
example : C02P.poSpec.gentries C02P.poGDemo none =
    [{ kind := .entity, full := 0, s := 0, e := 20, ks := 0, ke := 9, vs := 10, ve := 20 },
     { kind := .whitespace, full := 20, s := 20, e := 22, ks := 20, ke := 22, vs := 20, ve := 22 },
     { kind := .junk, full := 22, s := 22, e := 27 },
     { kind := .entity, full := 27, s := 42, e := 62, ks := 42, ke := 51, vs := 52, ve := 62, pc := some (27, 42) },
     { kind := .whitespace, full := 62, s := 62, e := 63, ks := 62, ke := 63, vs := 62, ve := 63 }] := by decide +kernel
example : (∀ x ∈ C02P.poGDemo, x.b.Good' ∧ ∀ g gap, x.junk = some (g, gap) → C02P.PoGarbage g gap) := C02P.poGDemo_good
-- NEGATION WITNESS: a garbage line that starts with a quote continues the string list before it ("…msgstr "b"⏎"x"⏎": the
-- entity ends at 24, after the `"x"`)
example : (poGetNext #[109, 115, 103, 105, 100, 32, 34, 97, 34, 10, 109, 115, 103, 115, 116, 114, 32, 34, 98, 34, 10, 34, 120, 34, 10] 0).e = 24 := by decide +kernel

/-- DTD, a whole file, optionally starting with a byte-order mark: ANY list of blocks, each optionally preceded by garbage
    (non-empty, no `<`, not starting with white-space or a BOM; non-empty white-space after it; NOT in front of a parameter
    entity), each block either
    * an entity declaration `<!ENTITY` ws+ name ws+ `"value"` or `'value'` ws* `>` (ASCII name; value without its quote
      character), optionally with ONE attached comment `<!-- text -->` (text = characters of the parser's `CharMinusDash`,
      single dashes allowed, no `--`) and white-space with at most one newline between them;
    * a free comment followed by white-space with at least two newlines;
    * a parameter entity `<!ENTITY % name SYSTEM "url"> %ref;` + blanks + newline (any white-space between the parts):
      `Parser.getNext` reports junk there and `DTDParser.getNext` then matches `rePE` (dtd.py lines 110-111);
    any white-space after every block.  Then `DTDParser.walk` yields exactly the entries (`C02P.dtdSpec.gentriesAt`, offsets
    shifted by one after a BOM): the entity's value span is the text BETWEEN the quotes (`createEntity` shrinks the span),
    the parameter entity's value span is the url WITH its quotes and its span includes the reference and the newline; views:
    key, raw value, value (= raw value when it has no `&`), comment text; junk = exactly the garbage. -/
theorem roundtrip_dtd_full_partial (bom : Bool) (xs : List (C02P.GB C02P.DBlock)) (tail : Option (List Nat × List Nat))
    (hg : ∀ x ∈ xs, x.b.Good' ∧ ∀ g gap, x.junk = some (g, gap) → C02P.DGarbage g gap ∧ x.b.JOk)
    (htail : ∀ g gap, tail = some (g, gap) → C02P.DGarbage g gap)
    (hlic : ∀ x, xs.head? = some x → x.junk = none → x.b.NoLicense (if bom then 1 else 0))
    (hne : bom = true → xs ≠ []) :
    walk .dtd ((if bom then [65279] else []) ++ C02P.dtdSpec.gprint xs tail).toArray =
        .done (C02P.dtdSpec.gentriesAt (if bom then 1 else 0) xs tail) ∧
      entitiesOf .dtd ((if bom then [65279] else []) ++ C02P.dtdSpec.gprint xs tail).toArray
        (C02P.dtdSpec.gentriesAt (if bom then 1 else 0) xs tail) = C02P.dtdSpec.gviews xs ∧
      junkOf ((if bom then [65279] else []) ++ C02P.dtdSpec.gprint xs tail).toArray
        (C02P.dtdSpec.gentriesAt (if bom then 1 else 0) xs tail) = C02P.gbJunk xs tail :=
  C02P.walk_dtd_doc bom xs tail hg htail hlic hne

/-- a parameter entity, at any offset -/
theorem dtd_parameter_entity (s : Array Nat) (off : Nat) (d : C02P.DPE) (rest : List Nat) (hg : d.Good)
    (h : s.toList.drop off = d.print ++ rest) : dtdGetNext s off = C02P.dtdPEEntry off d :=
  C02P.dtd_pe_entry s off d rest hg h

-- non-vacuity: BOM `<!-- c --><!ENTITY a 'b'>⏎junk⏎<!-- <!ENTITY o "v"> -->⏎<!ENTITY k "v">⏎<!ENTITY % n SYSTEM "u"> %n;⏎`
example : [65279] ++ C02P.dtdSpec.gprint C02P.dtdDemo none =
    [65279, 60, 33, 45, 45, 32, 99, 32, 45, 45, 62, 60, 33, 69, 78, 84, 73, 84, 89, 32, 97, 32, 39, 98, 39, 62, 10, 106, 117, 110, 107, 10,
     60, 33, 45, 45, 32, 60, 33, 69, 78, 84, 73, 84, 89, 32, 111, 32, 34, 118, 34, 62, 32, 45, 45, 62, 10,
     60, 33, 69, 78, 84, 73, 84, 89, 32, 107, 32, 34, 118, 34, 62, 10,
     60, 33, 69, 78, 84, 73, 84, 89, 32, 37, 32, 110, 32, 83, 89, 83, 84, 69, 77, 32, 34, 117, 34, 62, 32, 37, 110, 59, 10] := by decide +kernel
example : C02P.dtdSpec.gentriesAt 1 C02P.dtdDemo none =
    [{ kind := .entity, full := 1, s := 11, e := 26, ks := 20, ke := 21, vs := 23, ve := 24, pc := some (1, 11) },
     { kind := .whitespace, full := 26, s := 26, e := 27, ks := 26, ke := 27, vs := 26, ve := 27 },
     { kind := .junk, full := 27, s := 27, e := 32 },
     { kind := .entity, full := 32, s := 57, e := 72, ks := 66, ke := 67, vs := 69, ve := 70, pc := some (32, 56) },
     { kind := .whitespace, full := 72, s := 72, e := 73, ks := 72, ke := 73, vs := 72, ve := 73 },
     { kind := .entity, full := 73, s := 73, e := 102, ks := 84, ke := 85, vs := 93, ve := 96 }] := by decide +kernel
example : (∀ x ∈ C02P.dtdDemo, x.b.Good' ∧ ∀ g gap, x.junk = some (g, gap) → C02P.DGarbage g gap ∧ x.b.JOk) := C02P.dtdDemo_good
-- NEGATION WITNESSES (what the code does at the excluded points):
-- garbage in front of a PARAMETER ENTITY swallows it: neither `reKey` nor `reComment` matches at `<!ENTITY %` (offset 2 of
-- "x⏎<!ENTITY % n SYSTEM "u"> %n;⏎"), so `getJunk` finds no end there and the junk runs on (to the end of the text, see the
-- probe of the real code in NOTES-C02): the damage is not local, and the theorem excludes this position (`JOk`)
example : matchAt #[120, 10, 60, 33, 69, 78, 84, 73, 84, 89, 32, 37, 32, 110, 32, 83, 89, 83, 84, 69, 77, 32, 34, 117, 34, 62, 32, 37, 110, 59, 10] DTDParser_reKey 2 = none ∧
    matchAt #[120, 10, 60, 33, 69, 78, 84, 73, 84, 89, 32, 37, 32, 110, 32, 83, 89, 83, 84, 69, 77, 32, 34, 117, 34, 62, 32, 37, 110, 59, 10] DTDParser_reComment 2 = none ∧
    (matchAt #[120, 10, 60, 33, 69, 78, 84, 73, 84, 89, 32, 37, 32, 110, 32, 83, 89, 83, 84, 69, 77, 32, 34, 117, 34, 62, 32, 37, 110, 59, 10] DTDParser_rePE 2).isSome = true := by
  decide +kernel
-- `--` inside a comment: the comment regex does not match ("<!-- a--b -->")
example : matchAt #[60, 33, 45, 45, 32, 97, 45, 45, 98, 32, 45, 45, 62, 10] DTDParser_reComment 0 = none := by decide +kernel

/-- .inc, a whole file: ANY list of blocks, each optionally preceded by a garbage line (non-empty, no `#`, no newline;
    newlines after it), each block either
    * `#define KEY[ value]` (ASCII `\w` key, one blank), optionally with an attached comment block of `# text` lines;
    * a free comment block followed by at least two newlines;
    * an instruction `#word␣…arg` (word not starting with `d`) — `#filter emptyLines` switches `ctx.filter_empty_lines` on,
      `#unfilter emptyLines` off;
    every block is followed by newlines: ONE newline, or several if `filter_empty_lines` is on at that point
    (`C02P.NGoodAll` follows the state through the document, starting with `False`).  Then `DefinesParser.walk` yields
    exactly the entries (`C02P.incSpec.gentries`): instruction / entity / comment / white-space / junk; an empty value has
    the span `(-1, -1)`; views: key, raw value, comment = the lines without `# `; junk = exactly the garbage lines. -/
theorem roundtrip_inc_full_partial (xs : List (C02P.GB C02P.NBlock)) (tail : Option (List Nat × List Nat))
    (hg : C02P.NGoodAll false xs) (htail : ∀ g gap, tail = some (g, gap) → C02P.NGarbage g gap) :
    walk .inc (C02P.incSpec.gprint xs tail).toArray = .done (C02P.incSpec.gentries xs tail) ∧
      entitiesOf .inc (C02P.incSpec.gprint xs tail).toArray (C02P.incSpec.gentries xs tail) = C02P.incSpec.gviews xs ∧
      junkOf (C02P.incSpec.gprint xs tail).toArray (C02P.incSpec.gentries xs tail) = C02P.gbJunk xs tail :=
  open C02P in gdoc incSpec incSpec_laws xs tail (incGoodAll xs false 0 hg) htail

-- non-vacuity: `#filter emptyLines⏎⏎# c⏎#define A b⏎junk⏎# #define O v⏎#define B⏎#unfilter emptyLines⏎`
example : C02P.incSpec.gprint C02P.incDemo none =
    [35, 102, 105, 108, 116, 101, 114, 32, 101, 109, 112, 116, 121, 76, 105, 110, 101, 115, 10, 10, 35, 32, 99, 10,
     35, 100, 101, 102, 105, 110, 101, 32, 65, 32, 98, 10, 106, 117, 110, 107, 10,
     35, 32, 35, 100, 101, 102, 105, 110, 101, 32, 79, 32, 118, 10, 35, 100, 101, 102, 105, 110, 101, 32, 66, 10,
     35, 117, 110, 102, 105, 108, 116, 101, 114, 32, 101, 109, 112, 116, 121, 76, 105, 110, 101, 115, 10] := by decide +kernel
example : C02P.incSpec.gentries C02P.incDemo none =
    [{ kind := .instruction, full := 0, s := 0, e := 18, ks := 1, ke := 18, vs := 1, ve := 18 },
     { kind := .whitespace, full := 18, s := 18, e := 20, ks := 18, ke := 20, vs := 18, ve := 20 },
     { kind := .entity, full := 20, s := 24, e := 35, ks := 32, ke := 33, vs := 34, ve := 35, pc := some (20, 23) },
     { kind := .whitespace, full := 35, s := 35, e := 36, ks := 35, ke := 36, vs := 35, ve := 36 },
     { kind := .junk, full := 36, s := 36, e := 41 },
     { kind := .entity, full := 41, s := 55, e := 64, ks := 63, ke := 64, vs := -1, ve := -1, pc := some (41, 54) },
     { kind := .whitespace, full := 64, s := 64, e := 65, ks := 64, ke := 65, vs := 64, ve := 65 },
     { kind := .instruction, full := 65, s := 65, e := 85, ks := 66, ke := 85, vs := 66, ve := 85 },
     { kind := .whitespace, full := 85, s := 85, e := 86, ks := 85, ke := 86, vs := 85, ve := 86 }] := by decide +kernel
example : C02P.NGoodAll false C02P.incDemo := C02P.incDemo_good
-- NEGATION WITNESSES: blank lines are white-space only while `filter_empty_lines` is on: the same two newlines (offset 18 of
-- "#filter emptyLines⏎⏎") are a white-space entry with the flag on and JUNK with the flag off
example : (definesGetNext #[35, 102, 105, 108, 116, 101, 114, 32, 101, 109, 112, 116, 121, 76, 105, 110, 101, 115, 10, 10] true 18).1.kind = .whitespace ∧
    (definesGetNext #[35, 102, 105, 108, 116, 101, 114, 32, 101, 109, 112, 116, 121, 76, 105, 110, 101, 115, 10, 10] false 18).1.kind = .junk := by decide +kernel
-- the flag is what the instruction sets (`C02P.NBlock.tr`)
example : C02P.NBlock.tr false (.instr [102, 105, 108, 116, 101, 114] 1 [101, 109, 112, 116, 121, 76, 105, 110, 101, 115] [10]) = true ∧
    C02P.NBlock.tr true (.instr [117, 110, 102, 105, 108, 116, 101, 114] 1 [101, 109, 112, 116, 121, 76, 105, 110, 101, 115] [10]) = false := by decide +kernel

/-! Recovery does not depend on what was consumed before (one long-lived parser object).
`C01M.stepG` (Parser/C01Gen.lean) is the parser OBJECT: Context objects, `parser.ctx`, and the generator objects returned
by `walk()` / `iter()` with their suspension points.  A history is any list of `read` (readUnicode), `mk` (a new
generator), `next g k` (k entries consumed), `drain g` (`list(g)`), `close g` (abandoned). -/

open C01M C01P in
/-- Whatever happened on the parser object before (`h`: other files read; passes started, partially consumed,
    interleaved, abandoned), and whatever generator operations `h2` follow `readUnicode(t)` — e.g. a first pass over `t`
    abandoned after one entry —, a COMPLETE pass shows exactly the entries of `walk f t`; with the round-trip theorems:
    exactly the printed records and exactly the garbage as junk. -/
theorem complete_pass_recovers_exactly (f : Fmt) (h h2 : List Op) (t : Array Nat) (es : List Entry)
    (hw : walk f t = .done es) (hnr : ∀ op ∈ h2, ∀ t, op ≠ .read t) (loc : Bool) :
    runG f (execG f {} (h ++ [.read t] ++ h2)) [.mk loc, .drain (countMk (h ++ [.read t] ++ h2))] =
      [.full (.done (if loc then es.filter Entry.localizable else es))] := by
  have h1 := complete_pass f (h ++ [.read t] ++ h2) loc
  rw [h1, C02H.lastRead_append, C02H.lastRead_noread h2 hnr, C02H.lastRead_append]
  simp only [lastRead, view, hw, WalkResult.filterLoc]
  cases loc <;> simp

open C01M C01P in
/-- properties, the printed class with garbage lines (`garbage_local_properties`), on a used parser object -/
theorem history_roundtrip_properties (h h2 : List Op) (hnr : ∀ op ∈ h2, ∀ t, op ≠ .read t)
    (xs : List C02P.PGBlock) (tail : Option (List Nat × List Nat)) (hg : ∀ x ∈ xs, x.Good')
    (htail : ∀ g gap, tail = some (g, gap) → C02P.PGarbage g gap)
    (hlic : ∀ x r, xs.head? = some x → x.junk = none → x.b = .record r → r.NoLicense 0) :
    runG .properties (execG .properties {} (h ++ [.read (C02P.printPropsG xs tail).toArray] ++ h2))
        [.mk false, .drain (countMk (h ++ [.read (C02P.printPropsG xs tail).toArray] ++ h2))] =
      [.full (.done (C02P.propsGEntries xs tail))] :=
  complete_pass_recovers_exactly .properties h h2 _ _ (garbage_local_properties xs tail hg htail hlic).1 hnr false

open C01M C01P in
theorem history_roundtrip_po (h h2 : List Op) (hnr : ∀ op ∈ h2, ∀ t, op ≠ .read t)
    (xs : List (C02P.GB C02P.PoBlock)) (tail : Option (List Nat × List Nat))
    (hg : ∀ x ∈ xs, x.b.Good' ∧ ∀ g gap, x.junk = some (g, gap) → C02P.PoGarbage g gap)
    (htail : ∀ g gap, tail = some (g, gap) → C02P.PoGarbage g gap)
    (hlic : ∀ x r, xs.head? = some x → x.junk = none → x.b = .record r → r.NoLicense 0) :
    runG .po (execG .po {} (h ++ [.read (C02P.poSpec.gprint xs tail).toArray] ++ h2))
        [.mk false, .drain (countMk (h ++ [.read (C02P.poSpec.gprint xs tail).toArray] ++ h2))] =
      [.full (.done (C02P.poSpec.gentries xs tail))] :=
  complete_pass_recovers_exactly .po h h2 _ _ (garbage_local_po xs tail hg htail hlic).1 hnr false

open C01M C01P in
theorem history_roundtrip_ini (h h2 : List Op) (hnr : ∀ op ∈ h2, ∀ t, op ≠ .read t)
    (xs : List (C02P.GB C02P.IBlock)) (tail : Option (List Nat × List Nat))
    (hg : ∀ x ∈ xs, x.b.Good' ∧ ∀ g gap, x.junk = some (g, gap) → C02P.IGarbage g gap)
    (htail : ∀ g gap, tail = some (g, gap) → C02P.IGarbage g gap)
    (hlic : ∀ x, xs.head? = some x → x.junk = none → x.b.NoLicense 0) :
    runG .ini (execG .ini {} (h ++ [.read (C02P.iniSpec.gprint xs tail).toArray] ++ h2))
        [.mk false, .drain (countMk (h ++ [.read (C02P.iniSpec.gprint xs tail).toArray] ++ h2))] =
      [.full (.done (C02P.iniSpec.gentries xs tail))] :=
  complete_pass_recovers_exactly .ini h h2 _ _ (roundtrip_ini_full_partial xs tail hg htail hlic).1 hnr false

open C01M C01P in
/-- inc: also when an abandoned pass left `filter_empty_lines` set on the Context (`DefinesParser.walk` resets it) -/
theorem history_roundtrip_inc (h h2 : List Op) (hnr : ∀ op ∈ h2, ∀ t, op ≠ .read t)
    (xs : List (C02P.GB C02P.NBlock)) (tail : Option (List Nat × List Nat))
    (hg : C02P.NGoodAll false xs) (htail : ∀ g gap, tail = some (g, gap) → C02P.NGarbage g gap) :
    runG .inc (execG .inc {} (h ++ [.read (C02P.incSpec.gprint xs tail).toArray] ++ h2))
        [.mk false, .drain (countMk (h ++ [.read (C02P.incSpec.gprint xs tail).toArray] ++ h2))] =
      [.full (.done (C02P.incSpec.gentries xs tail))] :=
  complete_pass_recovers_exactly .inc h h2 _ _ (roundtrip_inc_full_partial xs tail hg htail).1 hnr false

open C01M C01P in
theorem history_roundtrip_dtd (h h2 : List Op) (hnr : ∀ op ∈ h2, ∀ t, op ≠ .read t)
    (bom : Bool) (xs : List (C02P.GB C02P.DBlock)) (tail : Option (List Nat × List Nat))
    (hg : ∀ x ∈ xs, x.b.Good' ∧ ∀ g gap, x.junk = some (g, gap) → C02P.DGarbage g gap ∧ x.b.JOk)
    (htail : ∀ g gap, tail = some (g, gap) → C02P.DGarbage g gap)
    (hlic : ∀ x, xs.head? = some x → x.junk = none → x.b.NoLicense (if bom then 1 else 0))
    (hne : bom = true → xs ≠ []) :
    runG .dtd (execG .dtd {} (h ++ [.read ((if bom then [65279] else []) ++ C02P.dtdSpec.gprint xs tail).toArray] ++ h2))
        [.mk false, .drain (countMk (h ++ [.read ((if bom then [65279] else []) ++ C02P.dtdSpec.gprint xs tail).toArray] ++ h2))] =
      [.full (.done (C02P.dtdSpec.gentriesAt (if bom then 1 else 0) xs tail))] :=
  complete_pass_recovers_exactly .dtd h h2 _ _ (roundtrip_dtd_full_partial bom xs tail hg htail hlic hne).1 hnr false

end C02
