/- Regex-engine lemmas for C02.  The centre is `charLoop_eq`: a repeat of a one-character step (`charStep`) tries its
   continuation at the positions of the run, capped by `runLen`.  Its total, hit and failure forms, the lazy skip, and a
   greedy repeat along a path on which an arbitrary body steps stand around it. -/
import CLModel.Proofs.RxLemmas
import CLModel.Proofs.RxStar
import CLModel.Proofs.RxSearch
namespace Rx

/-- list-level length of the run of characters satisfying `p`, capped by the repeat maximum -/
def runLen (p : Nat → Bool) : Option Nat → List Nat → Nat
  | _, [] => 0
  | mx, c :: t => if mx == some 0 then 0 else if p c then 1 + runLen p (mx.map (· - 1)) t else 0

theorem runLen_le (p : Nat → Bool) : ∀ (l : List Nat) (mx : Option Nat), runLen p mx l ≤ l.length := by
  intro l
  induction l with
  | nil => intro mx; simp [runLen]
  | cons c t ih =>
    intro mx
    simp only [runLen]
    split
    · omega
    · split
      · have := ih (mx.map (· - 1)); simp; omega
      · omega

/-- a regex node that consumes exactly one character satisfying `P` -/
def charStep (s : Array Nat) (P : Nat → Bool) : St → K → Option St := fun st k =>
  match s[st.pos]? with
  | some c => if P c then k { st with pos := st.pos + 1 } else none
  | none => none

theorem m_cls_charStep (s : Array Nat) (neg : Bool) (items : List ClsItem) :
    m s (.cls neg items) = charStep s (inC neg items) := by
  funext st k; rw [m_cls_apply]; rfl

theorem m_any_charStep (s : Array Nat) (da : Bool) : m s (.any da) = charStep s (fun d => da || d != 10) := by
  funext st k; rw [m]; rfl

theorem m_notLit_charStep (s : Array Nat) (c : Nat) : m s (.notLit c) = charStep s (fun d => d != c) := by
  funext st k; rw [m]; rfl

theorem m_any_some (s da st k d) (h : s[st.pos]? = some d) :
    m s (.any da) st k = if da || d != 10 then k { st with pos := st.pos + 1 } else none := by rw [m]; simp [h]
theorem m_any_none (s da st k) (h : s[st.pos]? = none) : m s (.any da) st k = none := by rw [m]; simp [h]
/-- `$` without re.M: at the end of the text, or in front of a final newline -/
theorem m_eol_plain (s : Array Nat) (st : St) (k : K) : m s (.eol false) st k =
    if st.pos = s.size ∨ st.pos + 1 = s.size ∧ s[st.pos]? = some 10 then k st else none := by
  rw [m]
  simp

theorem m_seq_assoc (s : Array Nat) (a b c : Re) (st : St) (k : K) :
    m s (.seq a (.seq b c)) st k = m s (.seq (.seq a b) c) st k := by
  simp only [m_seq_def]

theorem loop_greedy_succ (body : St → K → Option St) (f : Nat) (st : St) (k : K) :
    loop body true (f + 1) 0 none st k =
      (body st (fun st' => if st'.pos ≤ st.pos then none else loop body true f 0 none st' k)).orElse (fun _ => k st) := by
  rw [loop]; rfl

theorem loop_lazy_stop (body : St → K → Option St) (f : Nat) (st : St) (k : K) (r : St)
    (h : k st = some r) : loop body false (f + 1) 0 none st k = some r := by
  rw [loop]
  simp [h]

theorem loop_step (body : St → K → Option St) (g : Bool) (f mn : Nat) (st st' : St) (k : K)
    (hlt : st.pos < st'.pos) (hb : ∀ k', body st k' = k' st') :
    loop body g (f + 1) mn none st k =
      if mn > 0 then loop body g f (mn - 1) none st' k
      else if g then (loop body g f 0 none st' k).orElse (fun _ => k st)
      else (k st).orElse (fun _ => loop body g f 0 none st' k) := by
  rw [loop]
  simp only [hb, show ¬ st'.pos ≤ st.pos by omega, if_false, show ((none : Option Nat) == some 0) = false from rfl,
    Bool.false_eq_true, Option.map_none]
  by_cases hmn : mn > 0
  · simp only [hmn, if_true]
  · obtain rfl : mn = 0 := by omega
    rfl

theorem loop_greedy_path (body : St → K → Option St) (caps) (k : K) (r : St) (p : Nat → Nat) (e : Nat)
    (hfail : ∀ k', body ⟨p e, caps⟩ k' = none) (hk : k ⟨p e, caps⟩ = some r) :
    ∀ n fuel i mn, i + n = e → n < fuel → mn ≤ n →
      (∀ j, i ≤ j → j < e → p j < p (j + 1) ∧ ∀ k', body ⟨p j, caps⟩ k' = k' ⟨p (j + 1), caps⟩) →
      loop body true fuel mn none ⟨p i, caps⟩ k = some r := by
  intro n
  induction n with
  | zero =>
    intro fuel i mn he hf hmn _
    obtain ⟨f, rfl⟩ : ∃ f, fuel = f + 1 := ⟨fuel - 1, by omega⟩
    obtain rfl : i = e := by omega
    obtain rfl : mn = 0 := by omega
    rw [loop_body_fail body true f none _ k hfail, hk]
  | succ n ih =>
    intro fuel i mn he hf hmn hstep
    obtain ⟨f, rfl⟩ : ∃ f, fuel = f + 1 := ⟨fuel - 1, by omega⟩
    obtain ⟨hlt, hb⟩ := hstep i (Nat.le_refl i) (by omega)
    have ihh := ih f (i + 1) (mn - 1) (by omega) (by omega) (by omega) (fun j h1 h2 => hstep j (by omega) h2)
    rw [loop_step body true f mn ⟨p i, caps⟩ ⟨p (i + 1), caps⟩ k hlt hb]
    by_cases hm : mn > 0
    · rw [if_pos hm, ihh]
    · obtain rfl : mn = 0 := by omega
      rw [if_neg hm, if_pos rfl, ihh]
      rfl

theorem runLen_eq (P : Nat → Bool) : ∀ (l : List Nat) (mx : Option Nat),
    runLen P mx l = mx.elim (l.takeWhile P).length (fun M => min M (l.takeWhile P).length)
  | [], mx => by cases mx <;> simp [runLen]
  | c :: t, mx => by
    rw [runLen, List.takeWhile_cons]
    rcases mx with _ | _ | M
    · by_cases hc : P c = true
      · simp [hc, runLen_eq P t none]; omega
      · simp [hc]
    · simp
    · by_cases hc : P c = true
      · simp [hc, runLen_eq P t (some M)]; omega
      · simp [hc]

theorem runLen_none (s : Array Nat) (P : Nat → Bool) (pos : Nat) : runLen P none (s.toList.drop pos) = runAt s P pos :=
  runLen_eq P _ none

theorem charStep_eq (s : Array Nat) (P : Nat → Bool) (st : St) (k : K) :
    charStep s P st k = (stepIf s P st).findSome? k := by
  unfold charStep stepIf
  cases s[st.pos]? with
  | none => rfl
  | some c => by_cases hc : P c = true <;> simp [hc]

/-- **A repeat `{mn,mx}` of a one-character step**: the continuation is tried behind `mn` characters of the run, behind
    `mn+1`, … up to the end of the run or the maximum (`runLen`) — a greedy repeat tries the farthest position first,
    a lazy one the nearest. -/
theorem charLoop_eq (s : Array Nat) (P : Nat → Bool) (g : Bool) (caps) (k : K) (fuel mn : Nat) (mx : Option Nat) (pos : Nat)
    (hf : runLen P mx (s.toList.drop pos) < fuel) :
    loop (charStep s P) g fuel mn mx ⟨pos, caps⟩ k =
      (if g then (runSts caps (pos + mn) (runLen P mx (s.toList.drop pos) + 1 - mn)).reverse
        else runSts caps (pos + mn) (runLen P mx (s.toList.drop pos) + 1 - mn)).findSome? k := by
  obtain ⟨x, rest, hd, hx, hr, hl⟩ := runAt_split s P pos
  have hN : mx.elim (x.length + 1) (fun M => min (M + 1) (x.length + 1)) = runLen P mx (s.toList.drop pos) + 1 := by
    rw [runLen_eq, hl, runAt]; cases mx <;> simp only [Option.elim] <;> omega
  rw [C01P.loop_eq_loopE _ _ g (charStep_eq s P), loopE_stepIf_at P mn mx g caps hd hx hr (by rw [hN]; exact hf), hN]

theorem loop_greedy_total_step (s : Array Nat) (P : Nat → Bool) (caps) (k : K)
    (hk : ∀ st, (k st).isSome) :
    ∀ fuel mn mx pos, runLen P mx (s.toList.drop pos) < fuel →
      loop (charStep s P) true fuel mn mx ⟨pos, caps⟩ k =
        if runLen P mx (s.toList.drop pos) < mn then none
        else k ⟨pos + runLen P mx (s.toList.drop pos), caps⟩ := by
  intro fuel mn mx pos h
  rw [charLoop_eq s P true caps k fuel mn mx pos h, if_pos rfl]
  split
  · rename_i hlt
    rw [show runLen P mx (s.toList.drop pos) + 1 - mn = 0 by omega]; rfl
  · rename_i hlt
    rw [show runLen P mx (s.toList.drop pos) + 1 - mn = (runLen P mx (s.toList.drop pos) - mn) + 1 by omega, runSts,
      List.range'_1_concat, List.map_append, List.reverse_append,
      show pos + mn + (runLen P mx (s.toList.drop pos) - mn) = pos + runLen P mx (s.toList.drop pos) by omega]
    obtain ⟨r, hr⟩ := Option.isSome_iff_exists.mp (hk ⟨pos + runLen P mx (s.toList.drop pos), caps⟩)
    simp [hr]

theorem loop_greedy_total (s : Array Nat) (neg : Bool) (items : List ClsItem) (caps) (k : K)
    (hk : ∀ st, (k st).isSome) :
    ∀ fuel mn mx pos, runLen (inC neg items) mx (s.toList.drop pos) < fuel →
      loop (m s (.cls neg items)) true fuel mn mx ⟨pos, caps⟩ k =
        if runLen (inC neg items) mx (s.toList.drop pos) < mn then none
        else k ⟨pos + runLen (inC neg items) mx (s.toList.drop pos), caps⟩ := by
  rw [m_cls_charStep]
  exact loop_greedy_total_step s (inC neg items) caps k hk

theorem loop_lazy_skip_step (s : Array Nat) (P : Nat → Bool) (caps) (k : K) :
    ∀ n fuel pos, (∀ j, j < n → (∃ c, s[pos + j]? = some c ∧ P c = true) ∧ k ⟨pos + j, caps⟩ = none) →
      loop (charStep s P) false (fuel + n) 0 none ⟨pos, caps⟩ k =
        loop (charStep s P) false fuel 0 none ⟨pos + n, caps⟩ k := by
  intro n
  induction n with
  | zero => intro fuel pos _; rfl
  | succ n ih =>
    intro fuel pos h
    obtain ⟨⟨c, hc, hin⟩, hk⟩ := h 0 (by omega)
    simp only [Nat.add_zero] at hc hk
    have hb : ∀ k', charStep s P ⟨pos, caps⟩ k' = k' ⟨pos + 1, caps⟩ := fun k' => by
      simp only [charStep, hc, hin, if_true]
    have ihh := ih fuel (pos + 1) (fun j hj => by
      have := h (j + 1) (by omega)
      rw [show pos + (j + 1) = pos + 1 + j by omega] at this
      exact this)
    rw [show pos + 1 + n = pos + (n + 1) by omega] at ihh
    rw [show fuel + (n + 1) = fuel + n + 1 from rfl,
      loop_step _ false _ 0 ⟨pos, caps⟩ ⟨pos + 1, caps⟩ k (Nat.lt_succ_self pos) hb, hk, ihh]
    rfl

theorem loop_lazy_hit (s : Array Nat) (P : Nat → Bool) (caps) (k : K) (r : St) (n fuel pos : Nat) (hf : n < fuel)
    (hrun : ∀ j, j < n → (∃ c, s[pos + j]? = some c ∧ P c = true) ∧ k ⟨pos + j, caps⟩ = none)
    (hk : k ⟨pos + n, caps⟩ = some r) :
    loop (charStep s P) false fuel 0 none ⟨pos, caps⟩ k = some r := by
  obtain ⟨f, rfl⟩ : ∃ f, fuel = f + 1 + n := ⟨fuel - n - 1, by omega⟩
  rw [loop_lazy_skip_step s P caps k n (f + 1) pos hrun]
  exact loop_lazy_stop _ f _ k r hk

theorem run_eq_runLen (s : Array Nat) (neg : Bool) (items : List ClsItem) :
    ∀ fuel pos, s.size - pos < fuel → run s neg items fuel pos = runLen (inC neg items) none (s.toList.drop pos) := by
  intro fuel pos h
  obtain ⟨h1, h2⟩ := run_le_runAt s neg items fuel pos
  have := runAt_le s (inC neg items) pos
  rw [runLen_none, h2 (by omega)]

theorem findSome_range {α} (f : Nat → Option α) (v : α) :
    ∀ m n, n < m → (∀ i, i < n → f i = none) → f n = some v → (List.range m).findSome? f = some v := by
  intro m
  induction m with
  | zero => intro n h; omega
  | succ m ih =>
    intro n hn hnone hv
    rw [List.range_succ, List.findSome?_append]
    by_cases h : n < m
    · rw [ih n h hnone hv]; rfl
    · have : n = m := by omega
      subst this
      have : (List.range n).findSome? f = none := by
        rw [List.findSome?_eq_none_iff]
        intro x hx
        exact hnone x (List.mem_range.mp hx)
      rw [this]
      simp [hv]

end Rx

namespace C02X
open Rx

theorem m_lit_charStep (s : Array Nat) (c : Nat) : m s (.lit c) = charStep s (fun d => d == c) := by
  funext st k
  rw [m_lit_def]
  simp only [charStep]
  cases h : s[st.pos]? with
  | none => simp
  | some d => by_cases hd : d = c <;> simp [hd]

theorem charStep_ok (s : Array Nat) (P : Nat → Bool) (p c : Nat) (caps) (h : s[p]? = some c) (hp : P c = true) (k' : K) :
    charStep s P ⟨p, caps⟩ k' = k' ⟨p + 1, caps⟩ := by
  simp only [charStep, h, hp, if_true]

theorem charStep_fail (s : Array Nat) (P : Nat → Bool) (p : Nat) (caps)
    (h : s[p]? = none ∨ ∃ c, s[p]? = some c ∧ P c = false) (k' : K) :
    charStep s P ⟨p, caps⟩ k' = none := by
  rcases h with h | ⟨c, h, hp⟩
  · simp [charStep, h]
  · simp [charStep, h, hp]

theorem charLoop_hit (s : Array Nat) (P : Nat → Bool) (caps) (k : K) (r : St) (n fuel pos mn : Nat)
    (hf : n < fuel) (hmn : mn ≤ n)
    (hrun : ∀ j, j < n → ∃ c, s[pos + j]? = some c ∧ P c = true)
    (hstop : ∀ c, s[pos + n]? = some c → P c = false) (hk : k ⟨pos + n, caps⟩ = some r) :
    loop (charStep s P) true fuel mn none ⟨pos, caps⟩ k = some r := by
  have hn : runLen P none (s.toList.drop pos) = n := by
    have h1 := runAt_ge s P pos n hrun
    have h2 := runAt_stop s P hstop (Nat.le_add_right pos n)
    rw [runLen_none]; omega
  rw [charLoop_eq s P true caps k fuel mn none pos (by omega), hn, if_pos rfl, show n + 1 - mn = (n - mn) + 1 by omega,
    runSts, List.range'_1_concat, List.map_append, List.reverse_append, show pos + mn + (n - mn) = pos + n by omega]
  simp [hk]

theorem charLoop_none (s : Array Nat) (P : Nat → Bool) (g : Bool) (caps) (k : K) {B : Nat}
    (hB : ∀ c, s[B]? = some c → P c = false) (mn : Nat) {pos : Nat} (hle : pos ≤ B)
    (hk : ∀ j, pos ≤ j → j ≤ B → k ⟨j, caps⟩ = none) :
    loop (charStep s P) g (s.size + 2 - pos) mn none ⟨pos, caps⟩ k = none := by
  by_cases hp : pos ≤ s.size + 1
  · have h1 := runAt_le s P pos
    have h2 := runAt_stop s P hB hle
    rw [charLoop_eq s P g caps k _ mn none pos (by rw [runLen_none]; omega), runLen_none, List.findSome?_eq_none_iff]
    intro st hst
    have hst' : st ∈ runSts caps (pos + mn) (runAt s P pos + 1 - mn) := by
      cases g
      · exact hst
      · exact List.mem_reverse.mp hst
    obtain ⟨rfl, h3, h4⟩ := mem_runSts.mp hst'
    exact hk st.pos (by omega) (by omega)
  · rw [show s.size + 2 - pos = 0 by omega]; rfl

end C02X
