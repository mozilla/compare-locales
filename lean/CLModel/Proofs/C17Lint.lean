/-
C17: the linter model (`Lint/Linter.lean`, C19) has its own transliteration of
`Context.linecol` (line ends by a scan, `bisectStart`); it is the same function as `Pos.linecol` for EVERY position
(also negative ones and positions beyond the text), so everything proved about `Pos.linecol` holds for the
line/column members of lint results.
-/
import CLModel.Proofs.C17Formula
import CLModel.Lint.Linter
namespace C17P
open Pos

theorem lint_lineEnds_eq (l : List Nat) : ∀ i, Lint.lineEndsFrom i l = lineEndsL l i := by
  induction l with
  | nil => intro i; rfl
  | cons c t ih =>
    intro i
    simp only [Lint.lineEndsFrom, lineEndsL, ih]
    by_cases hc : c = 10 <;> simp [hc]

/-- `bisectStart` scans up to the first element `> x` and remembers the last one `≤ x`.  On an increasing list the
    elements `≤ x` are a prefix, so their number is `bisect` (a count over the whole list) and the remembered one stands
    at index `bisect − 1`; the table of line ends is increasing (`lineEnds_sorted`). -/
theorem bisectStart_eq : ∀ (l : List Nat) (x : Int) (st : Nat), l.Pairwise (· < ·) →
    Lint.bisectStart l x st =
      (bisect l x, match (if bisect l x != 0 then l[bisect l x - 1]? else some st) with | some v => v | none => st) := by
  intro l
  induction l with
  | nil => intro x st _; simp [Lint.bisectStart, bisect]
  | cons a t ih =>
    intro x st hs
    have hs' := (List.pairwise_cons.mp hs)
    by_cases hle : (a : Int) ≤ x
    · have hb : bisect (a :: t) x = bisect t x + 1 := by
        simp [bisect, hle]
      simp only [Lint.bisectStart, hle, if_true]
      rw [ih x a hs'.2, hb]
      simp only [Nat.add_sub_cancel, bne_iff_ne, ne_eq, Nat.add_eq_zero_iff, Nat.one_ne_zero, and_false,
        not_false_eq_true, if_true]
      congr 1
      by_cases h0 : bisect t x = 0
      · simp [h0]
      · have : (a :: t)[bisect t x]? = t[bisect t x - 1]? := by
          obtain ⟨k, hk⟩ : ∃ k, bisect t x = k + 1 := ⟨bisect t x - 1, by omega⟩
          rw [hk]; simp
        simp only [h0, not_false_eq_true, if_true, this]
        have hlt : bisect t x - 1 < t.length := by
          have : bisect t x ≤ t.length := by
            unfold bisect; exact List.length_filter_le _ _
          omega
        simp [List.getElem?_eq_getElem hlt]
    · have hall : ∀ e ∈ t, ¬ ((e : Int) ≤ x) := by
        intro e he
        have := hs'.1 e he
        omega
      have hb : bisect (a :: t) x = 0 := by
        unfold bisect
        rw [List.length_eq_zero_iff, List.filter_eq_nil_iff]
        intro e he
        rcases List.mem_cons.mp he with rfl | h
        · simpa using hle
        · simpa using hall e h
      simp [Lint.bisectStart, hle, hb]

theorem lint_linecol_eq (s : Array Nat) (x : Int) :
    some (Lint.linecol (Lint.lineEnds s.toList) x) = linecol s x := by
  have hl : Lint.lineEnds s.toList = lineEnds s := by
    rw [lineEnds_eq]; exact lint_lineEnds_eq _ 0
  unfold Lint.linecol linecol
  rw [hl, bisectStart_eq _ x 0 (lineEnds_sorted s)]
  simp only
  by_cases h0 : bisect (lineEnds s) x = 0
  · simp [h0]
  · have hlt : bisect (lineEnds s) x - 1 < (lineEnds s).length := by
      have : bisect (lineEnds s) x ≤ (lineEnds s).length := by
        unfold bisect; exact List.length_filter_le _ _
      omega
    simp [h0, List.getElem?_eq_getElem hlt]

theorem lint_position_eq (s : Array Nat) (e : Lint.Ent) (pe : P.Entry) (hm : e.mode ≠ .node)
    (hs : e.s = pe.s) (he : e.e = pe.e) (off : Int) :
    some (Lint.position (Lint.lineEnds s.toList) e off) = position s pe off := by
  unfold Lint.position position
  cases hmode : e.mode
  · simp only [hs, he]; exact lint_linecol_eq s _
  · simp only [hs, he]; exact lint_linecol_eq s _
  · simp only [hs, he]; exact lint_linecol_eq s _
  · exact absurd hmode hm

theorem lint_position_zero (s : Array Nat) (e : Lint.Ent) (hm : e.mode ≠ .node) :
    Lint.position (Lint.lineEnds s.toList) e 0 = castLC (cursor s e.s) := by
  have h := lint_position_eq s e { kind := .entity, full := e.s, s := e.s, e := e.e } hm rfl rfl 0
  rw [C17.position_spec] at h
  simpa using h

theorem lint_position_end (s : Array Nat) (e : Lint.Ent) (hm : e.mode ≠ .node) (off : Int) (ho : off < 0) :
    Lint.position (Lint.lineEnds s.toList) e off = castLC (cursor s e.e) := by
  have h := lint_position_eq s e { kind := .entity, full := e.s, s := e.s, e := e.e } hm rfl rfl off
  rw [C17.position_spec, if_pos ho] at h
  exact Option.some.inj h

end C17P
