/- `finditer` of a pattern whose matches are never empty is a left-to-right scan over the positions (`scanPos`): it satisfies
   the specification `Rx.Matches` of Proofs/RxSearch, which is functional (`finditer_scan`).  Used for the tokenising regex of
   `mozpath.match` (C12MozLex); the three `re.sub` of the Android conversions (C12AndroidGen) use `NonEmpty` only. -/
import CLModel.Proofs.RxSearch
namespace C12S
open Rx

/-- left-to-right scan: the first match at or after `pos`, then on from its end (every match is non-empty) -/
def scanPos (s : Array Nat) (r : Re) : Nat → Nat → List (Nat × St)
  | 0, _ => []
  | f + 1, pos =>
    if pos > s.size then [] else
    match matchAt s r pos with
    | some st => (pos, st) :: scanPos s r f st.pos
    | none => scanPos s r f (pos + 1)

def NonEmpty (s : Array Nat) (r : Re) : Prop := ∀ p st, matchAt s r p = some st → p < st.pos

theorem scanPos_beyond (s : Array Nat) (r : Re) : ∀ f pos, pos > s.size → scanPos s r f pos = []
  | 0, _, _ => rfl
  | f + 1, pos, h => by simp [scanPos, h]

theorem scanPos_matches (s : Array Nat) (r : Re) (hne : NonEmpty s r) :
    ∀ f pos, s.size + 1 - pos ≤ f → Matches s r pos (scanPos s r f pos)
  | 0, pos, h => .nil (fun q h1 h2 => by omega)
  | f + 1, pos, h => by
    rw [scanPos]
    split
    · exact .nil (fun q h1 h2 => by omega)
    · cases hm : matchAt s r pos with
      | some st =>
        have := hne pos st hm
        exact .cons (Nat.le_refl _) (by omega) (fun q' h1 h2 => by omega) hm (scanPos_matches s r hne f st.pos (by omega))
      | none => exact Matches.step hm (scanPos_matches s r hne f (pos + 1) (by omega))

theorem finditer_scan (s : Array Nat) (r : Re) (hne : NonEmpty s r) :
    finditer s r = scanPos s r (s.size + 1) 0 :=
  (finditer_matches_of s r hne).det (scanPos_matches s r hne _ 0 (by omega))

theorem nonEmpty_of_minLen {s : Array Nat} {r : Re} (h : 1 ≤ minLen r) : NonEmpty s r := fun _ _ => matchAt_advances h

end C12S
