/- Where the results of `AndroidChecker.check` point (`check_pos`): a mojibake result at a U+FFFD of `l10n.all`, every
   other result at 0 or inside the localized value or the reference's text content; before that, bounds on the
   positions that the reference scanners of C09Spec return. -/
import CLModel.Proofs.C09Check
import CLModel.Proofs.RxSearch
import CLModel.Proofs.BaseCheck
namespace C09P
open Android Android.Spec

theorem blankPairs_length (cond : Nat → Nat → Bool) (l : List Nat) : (blankPairs cond l).length = l.length := by
  fun_induction blankPairs cond l <;> simp_all

theorem dqPositions_bound (off : Nat) (l : List Nat) : ∀ i ∈ dqPositions off l, i < off + l.length := by
  fun_induction dqPositions off l <;> intro i hi
  · cases hi
  · cases hi
  · rename_i ih
    rcases List.mem_cons.mp hi with rfl | hi
    · simp
    · have := ih i hi; simp; omega
  · rename_i ih; have := ih i hi; simp at this ⊢; omega

theorem indicesOf_bound (c off : Nat) (l : List Nat) : ∀ i ∈ indicesOf c off l, i < off + l.length := by
  fun_induction indicesOf c off l <;> intro i hi
  · cases hi
  · rename_i ih
    rcases List.mem_cons.mp hi with rfl | hi
    · simp
    · have := ih i hi; simp; omega
  · rename_i ih; have := ih i hi; simp; omega

theorem checkApostrophes_pos (v : List Nat) : ∀ r ∈ checkApostrophes v, r.pos < v.length := by
  classical
  intro r hr
  rw [checkApostrophes_eq] at hr
  rcases List.mem_append.mp hr with hr | hr
  · simp only [List.mem_map] at hr
    obtain ⟨i, hi, rfl⟩ := hr
    have := dqPositions_bound 0 (blankEsc v) i hi
    simpa [blankEsc, blankPairs_length, err] using this
  · split at hr
    · cases hr
    · simp only [List.mem_map] at hr
      obtain ⟨i, hi, rfl⟩ := hr
      have := indicesOf_bound 39 0 (silence v) i hi
      simpa [silence, blankPairs_length, err] using this

theorem lexL_pos : ∀ (f off : Nat) (l : List Nat), ∀ t ∈ lexL f off l, t.pos < off + l.length := by
  intro f
  induction f with
  | zero => intro off l t ht; simp [lexL] at ht
  | succ f ih =>
    intro off l t ht
    cases l with
    | nil => simp [lexL] at ht
    | cons c rest =>
      unfold lexL at ht
      split at ht
      · rename_i o fmt n hp
        rcases List.mem_cons.mp ht with rfl | ht
        · simp
        · by_cases hn : n ≤ (c :: rest).length
          · have := ih (off + n) ((c :: rest).drop n) t ht
            simp at this hn ⊢; omega
          · have hd : (c :: rest).drop n = [] := List.drop_eq_nil_of_le (by omega)
            rw [hd] at ht
            cases f <;> simp [lexL] at ht
      · have := ih (off + 1) rest t ht
        simp; omega

theorem uses_mem {n : Nat} {ts : List Tok} {u : Nat × Tok} (h : u ∈ uses n ts) : u.2 ∈ ts := by
  induction ts generalizing n with
  | nil => simp [uses] at h
  | cons t ts ih =>
    unfold uses at h
    split at h
    · rcases List.mem_cons.mp h with rfl | h
      · simp
      · exact List.mem_cons_of_mem _ (ih h)
    · rcases List.mem_cons.mp h with rfl | h
      · simp
      · exact List.mem_cons_of_mem _ (ih h)

theorem conflictsOf_pos (v : List Nat) : ∀ e ∈ conflictsOf (uses 1 (lex v)), e.2 < v.length := by
  intro e he
  obtain ⟨u, f, hu, -, -, rfl⟩ := mem_conflictsOf_iff.mp he
  simpa using lexL_pos _ 0 v u.2 (uses_mem hu)

theorem checkParams_pos {rp : List (Nat × List Nat)} {count : Nat} {v : List Nat} {rs : List Result}
    (h : checkParams rp count v = some rs) : ∀ r ∈ rs, r.pos = 0 ∨ r.pos < v.length := by
  obtain ⟨st, hst, inv, _⟩ := getParams_str v
  unfold checkParams at h
  rw [hst] at h
  simp only [Option.some.injEq] at h
  subst h
  intro r hr
  simp only [List.mem_append, or_assoc] at hr
  rcases hr with hr | hr | hr | hr
  · simp only [List.mem_map] at hr
    obtain ⟨e, he, rfl⟩ := hr
    rw [inv.errors] at he
    exact Or.inr (conflictsOf_pos v e he)
  · simp only [List.mem_filterMap] at hr
    obtain ⟨p, _, hp⟩ := hr
    left
    split at hp
    · simp at hp; subst hp; rfl
    · split at hp
      · simp at hp; subst hp; rfl
      · cases hp
  · simp only [List.mem_filterMap] at hr
    obtain ⟨p, _, hp⟩ := hr
    left
    split at hp
    · simp at hp; subst hp; rfl
    · cases hp
  · left
    split at hr
    · simp at hr; subst hr; rfl
    · cases hr

theorem checkString_pos {ref : Node} {l10n : Entity} {rs : List Result}
    (h : checkString [ref] l10n = some rs) :
    ∀ r ∈ rs, r.pos = 0 ∨ r.pos < l10n.val.length ∨ r.pos < (textContent ref).length := by
  obtain ⟨st, hst, inv, _⟩ := getParams_node ref
  unfold checkString at h
  split at h
  · simp at h; subst h; intro r hr; simp at hr; subst hr; exact Or.inl rfl
  split at h
  · simp at h; subst h; intro r hr; simp at hr; subst hr; exact Or.inl rfl
  have hw : ∀ r ∈ (if noAtString [ref] then [warn 0 Msg.notTranslatable] else []), r.pos = 0 := by
    intro r hr
    by_cases hc : noAtString [ref] = true
    · simp [hc] at hr; subst hr; rfl
    · simp [hc] at hr
  simp only at h
  split at h
  · simp at h; subst h
    intro r hr
    rcases List.mem_append.mp hr with hr | hr
    · exact Or.inl (hw r hr)
    · simp at hr; subst hr; exact Or.inl rfl
  simp only [List.map_cons, List.map_nil, hst] at h
  cases hc : checkParams st.params st.count l10n.val with
  | none => simp [hc] at h
  | some c =>
    simp [hc] at h
    subst h
    intro r hr
    simp only [List.mem_append, or_assoc] at hr
    rcases hr with hr | hr | hr | hr
    · exact Or.inl (hw r (by simpa using hr))
    · exact Or.inr (Or.inl (checkApostrophes_pos _ r hr))
    · simp only [List.mem_map] at hr
      obtain ⟨e, he, rfl⟩ := hr
      rw [inv.errors] at he
      exact Or.inr (Or.inr (conflictsOf_pos _ e he))
    · rcases checkParams_pos hc r hr with h1 | h1
      · exact Or.inl h1
      · exact Or.inr (Or.inl h1)

theorem baseCheck_pos (l10n : Entity) : ∀ r ∈ baseCheck l10n, r.msg = .mojibake ∧ l10n.all[r.pos]? = some 0xFFFD := by
  intro r hr
  simp only [baseCheck, List.mem_map] at hr
  obtain ⟨p, hp, rfl⟩ := hr
  exact ⟨rfl, by simpa [warn] using Checks.mochibake_at _ p hp⟩

theorem check_pos {ref l10n : Entity} {rs : List Result} (h : check ref l10n = some rs) :
    ∀ r ∈ rs, (r.msg = .mojibake ∧ l10n.all[r.pos]? = some 0xFFFD) ∨
      r.pos = 0 ∨ r.pos < l10n.val.length ∨ r.pos < (textContent ref.node).length := by
  unfold check at h
  simp only at h
  split at h
  · simp at h; subst h
    intro r hr
    rcases List.mem_append.mp hr with hr | hr
    · exact Or.inl (baseCheck_pos l10n r hr)
    · simp at hr; subst hr; exact Or.inr (Or.inl rfl)
  split at h
  · simp at h; subst h
    intro r hr
    rcases List.mem_append.mp hr with hr | hr
    · exact Or.inl (baseCheck_pos l10n r hr)
    · simp at hr; subst hr; exact Or.inr (Or.inl rfl)
  cases hs : checkString [ref.node] l10n with
  | none => simp [hs] at h
  | some cs =>
    simp [hs] at h
    subst h
    intro r hr
    rcases List.mem_append.mp hr with hr | hr
    · exact Or.inl (baseCheck_pos l10n r hr)
    · exact Or.inr (checkString_pos hs r hr)

end C09P
