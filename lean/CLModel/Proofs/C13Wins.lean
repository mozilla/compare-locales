/-
The first matcher in list order that covers an existing file claims it (`first_rule_wins`);
without duplicate keys the duplicate scan changes nothing (`dedupSpec_id`).
-/
import CLModel.Proofs.C13Iter
import CLModel.Proofs.C13Dedup
namespace PF

theorem flatMap_claims_find_none {env : MEnv} {fs : FS} {ex : Path → Bool} {p : Path} {pre : List Rule}
    (hpre : ∀ x ∈ pre, env.mtch x.l10n p = none) (hrt : ∀ x ∈ pre, SubMatchesOn env fs x) :
    (pre.flatMap (claims env fs ex)).find? (·.1 == p) = none := by
  rw [List.find?_flatMap, List.findSome?_eq_none_iff]
  exact fun x hx => claims_find_none_of_mtch (hpre x hx) (hrt x hx)

theorem first_rule_claims {env : MEnv} {fs : FS} {ex : Path → Bool} {pre post : List Rule} {r : Rule} {p : Path} {g : GId}
    (hpre : ∀ x ∈ pre, env.mtch x.l10n p = none) (hrt : ∀ x ∈ pre, SubMatchesOn env fs x)
    (hf : (p, g) ∈ files env fs ex r.l10n) :
    ((pre ++ r :: post).flatMap (claims env fs ex)).find? (·.1 == p) = some (p, entryL env r g) := by
  rw [List.flatMap_append, List.find?_append, flatMap_claims_find_none hpre hrt, List.flatMap_cons,
    List.find?_append, claims_find_some hf]
  rfl

theorem first_rule_wins {env : MEnv} {fs : FS} {pf : PF} {pre post : List Rule} {r : Rule} {p : Path} {g : GId}
    (hms : pf.matchers = pre ++ r :: post)
    (hpre : ∀ x ∈ pre, env.mtch x.l10n p = none) (hrt : ∀ x ∈ pre, SubMatchesOn env fs x)
    (hf : (p, g) ∈ files env fs (excludedBy env pf.exclude) r.l10n) :
    toItem (p, entryL env r g) ∈ pf.iterLocale env fs := by
  rw [iterLocale_eq, mem_sorted_items, hms]
  exact ⟨entryL env r g, first_rule_claims hpre hrt hf, rfl⟩

theorem specGo_id {env : MEnv} : ∀ {ms : List Rule} {K : List (Path × Nat)},
    ((ms.map (keyOf env)).Nodup) → (∀ m ∈ ms, keyOf env m ∉ K) → specGo env K ms = ms
  | [], _, _, _ => rfl
  | m :: ms, K, hn, hK => by
    rw [List.map_cons, List.nodup_cons] at hn
    rw [specGo_cons_new (hK m List.mem_cons_self)]
    have hno : ∀ m_ ∈ ms, sameKey env m m_ = false := by
      intro m_ hm_
      cases hs : sameKey env m m_ with
      | false => rfl
      | true => exact absurd (List.mem_map.2 ⟨m_, hm_, (sameKey_iff.1 hs).symm⟩) hn.1
    have ht : mergedTests env m ms = m.test := mergedFrom_of_no_dup hno
    rw [ht, specGo_id hn.2]
    · intro m_ hm_
      simp only [List.mem_cons, not_or]
      refine ⟨?_, hK m_ (List.mem_cons_of_mem _ hm_)⟩
      intro e
      exact hn.1 (List.mem_map.2 ⟨m_, hm_, e⟩)

theorem dedupSpec_id {env : MEnv} {ms : List Rule} (hn : (ms.map (keyOf env)).Nodup) : dedupSpec env ms = ms :=
  specGo_id hn (by simp)

end PF
