/- C04, ini analogue of the clean-append re-parse: `[name]`, then printed records and newlines, parse back to
   exactly the records.  Builds on the single-record lemma `ini_entity_at` of C02. -/
import CLModel.Proofs.C04Splice
import CLModel.Proofs.C02Ini
import CLModel.Proofs.C02PIni
namespace C04R
open P

/-- ini record `key=value`: non-empty key without `=` and newline that does not start with `[ ; #` or white-space;
    value without newline (backslashes, blanks at either end, `=`, `#` are all allowed) -/
structure IniSafeRec (r : PRec) : Prop where
  key_ne : r.1 ≠ []
  key : ∀ c ∈ r.1, c ≠ 10 ∧ c ≠ 61
  first : ∀ c, r.1.head? = some c → c ≠ 91 ∧ c ≠ 59 ∧ c ≠ 35 ∧ c ≠ 32 ∧ c ≠ 9 ∧ c ≠ 13
  val : ∀ c ∈ r.2, c ≠ 10

theorem IniSafeRec.safe {r : PRec} (h : IniSafeRec r) : C02X.SafeIniRec r := ⟨h.key_ne, h.key, h.first, h.val⟩

theorem ini_entView (s : Array Nat) (off : Nat) (r : PRec) (rest : List Nat)
    (h : s.toList.drop off = printRec r ++ rest) :
    entView .ini s (iniEntity off r.1.length r.2.length) = expectedView r := by
  have hK : C02P.At s off (r.1 ++ ([61] ++ (r.2 ++ 10 :: rest))) := by rw [C02P.At, h]; simp [printRec]
  have hV : C02P.At s (off + r.1.length + 1) (r.2 ++ 10 :: rest) := hK.app.app
  simp only [entView, iniEntity, expectedView]
  rw [C02X.pySlice_of_drop s hK, C02X.pySlice_of_drop s hV]
  rfl

/-- `[name]` -/
def iniSection (name : List Nat) : List Nat := 91 :: (name ++ [93])

def sectionEntry (n : Nat) : Entry :=
  { kind := .section, full := 0, s := 0, e := n + 2, ks := (1 : Nat), ke := (n + 1 : Nat), vs := (1 : Nat), ve := (n + 1 : Nat) }

theorem ini_section_at (s : Array Nat) (name rest : List Nat) (hn : ∀ c ∈ name, c ≠ 93 ∧ c ≠ 10)
    (h : s.toList = iniSection name ++ rest) : iniGetNext s 0 = sectionEntry name.length := by
  rw [C02P.ini_section_at_p s 0 name rest hn (by simp [C02P.At, h, iniSection])]
  simp [C02P.iniSecEntry, sectionEntry]

theorem ini_walk_section_toks (name : List Nat) (t : List Tok) (hn : ∀ c ∈ name, c ≠ 93 ∧ c ≠ 10)
    (h : ∀ r ∈ recsOf t, IniSafeRec r) :
    ∃ es, walk .ini (iniSection name ++ printToks t).toArray = .done es ∧
      entitiesOf .ini (iniSection name ++ printToks t).toArray es = (recsOf t).map expectedView ∧
      junkOf (iniSection name ++ printToks t).toArray es = [] := by
  have hsz : name.length + 2 ≤ (iniSection name ++ printToks t).toArray.size := by simp [iniSection]
  have e0 := ini_section_at (iniSection name ++ printToks t).toArray name (printToks t) hn (by simp)
  have := walk_lead_gapped .ini (iniSection name ++ printToks t).toArray (iniGetNext _) propsBody
    (fun off r => iniEntity off r.1.length r.2.length) expectedView IniSafeRec (C02P.ini_ws_at_n _)
    (fun off r rest hs hd => by
      have hd' : (iniSection name ++ printToks t).toArray.toList.drop off = printRec r ++ rest := by
        simpa [propsBody, printRec] using hd
      exact ⟨ini_entity_at _ off _ _ (C02X.iniRecAt_of_drop _ off r _ hs.safe hd'), rfl, by simp [iniEntity, propsBody]; omega,
        ini_entView _ off r _ hd'⟩)
    (fun r rest hs => by
      refine ⟨by simp [propsBody], fun c hc => ?_⟩
      have hkl : 0 < r.1.length := List.length_pos_iff.mpr hs.key_ne
      have e : (propsBody r ++ rest).head? = r.1.head? := by
        rw [List.head?_eq_getElem?, List.head?_eq_getElem?]
        simp [propsBody, List.getElem?_append_left hkl]
      rw [e] at hc
      have hf := hs.first c hc
      exact ⟨hf.2.2.2.1, hf.2.2.2.2.1, hf.2.2.2.2.2, (hs.key c (List.mem_of_mem_head? hc)).1⟩)
    (norm t).2 (norm t).1 (name.length + 2)
    (by
      rw [← toks_norm printToks propsBody rfl (fun _ => rfl) (fun r t => by simp [printToks, printRec, propsBody]) t]
      exact List.drop_left' (by simp [iniSection]))
    (safe_norm h) hsz
  rw [map_norm_view] at this
  have := WalksTo.step (sectionEntry name.length) (by omega) (by simp [sectionEntry]) e0 (by simp [sectionEntry]) this
  rw [if_neg (by simp [sectionEntry])] at this
  exact this.done

/-- for closed test vectors (the examples of the property file); no theorem evaluates the class -/
instance (r : PRec) : Decidable (IniSafeRec r) :=
  decidable_of_iff (_ ∧ _ ∧ _ ∧ _) ⟨fun h => ⟨h.1, h.2.1, h.2.2.1, h.2.2.2⟩, fun h => ⟨h.1, h.2, h.3, h.4⟩⟩

end C04R
