/- The classes of printable records of C02 (`SafeRec`, `SafeIniRec`, `SafeIncRec`, `SafeDtdRec`, `SafeCRec`,
   `SafeGarbage`) are conjunctions of decidable conditions on the two texts of a record.  The non-vacuity examples of the
   property files show them for closed records by evaluation; no theorem about the classes uses these instances. -/
import CLModel.Proofs.C02Roundtrip
import CLModel.Proofs.C02Ini
import CLModel.Proofs.C02IncRec
import CLModel.Proofs.C02XDtd
import CLModel.Proofs.C02XComment
import CLModel.Proofs.C02PGarbage

instance (r : P.PRec) : Decidable (P.SafeRec r) :=
  decidable_of_iff (_ ∧ _ ∧ _ ∧ _ ∧ _)
    ⟨fun h => ⟨h.1, h.2.1, h.2.2.1, h.2.2.2.1, h.2.2.2.2⟩, fun h => ⟨h.1, h.2, h.3, h.4, h.5⟩⟩

instance (r : P.PRec) : Decidable (C02X.SafeIniRec r) :=
  decidable_of_iff (_ ∧ _ ∧ _ ∧ _) ⟨fun h => ⟨h.1, h.2.1, h.2.2.1, h.2.2.2⟩, fun h => ⟨h.1, h.2, h.3, h.4⟩⟩

instance (r : C02X.IRec) : Decidable (C02X.SafeIncRec r) :=
  decidable_of_iff (_ ∧ _ ∧ _) ⟨fun h => ⟨h.1, h.2.1, h.2.2⟩, fun h => ⟨h.1, h.2, h.3⟩⟩

instance (r : C02X.DRec) : Decidable (C02X.SafeDtdRec r) :=
  decidable_of_iff (_ ∧ _ ∧ _ ∧ _) ⟨fun h => ⟨h.1, h.2.1, h.2.2.1, h.2.2.2⟩, fun h => ⟨h.1, h.2, h.3, h.4⟩⟩

instance (r : C02X.CRec) : Decidable (C02X.SafeCRec r) :=
  decidable_of_iff (_ ∧ _) ⟨fun h => ⟨h.1, h.2⟩, fun h => ⟨h.1, h.2⟩⟩

instance (g : List Nat) : Decidable (C02X.SafeGarbage g) :=
  decidable_of_iff (_ ∧ _ ∧ _) ⟨fun h => ⟨h.1, h.2.1, h.2.2⟩, fun h => ⟨h.1, h.2, h.3⟩⟩
