/- C08/C07 CSS: what `parse_css_spec` returns on a text given as a chain gap₁ d₁ gap₂ … dₙ trail of its LEFTMOST declarations
   (`C07G.SpecT`): exactly the dict of the dᵢ and one error per gap that is not a correct separator (`parse_of_specT`); on a
   text without any declaration, nothing (`parse_none`).  That every other text is such a chain is `specT_total` of
   C07CssComplete.  The two generated regexes are sound for the grammar: wherever `_css_spec` matches non-emptily a
   grammatical declaration stands (`spec_match_inv`), and a gap that `_css_sep` matches is `ws* ;? ws*` (`sep_match_edge`);
   both by reading a successful run of the engine backwards.  The step lemmas about `Dtd.cssStep` are `C08C.*`; the chain
   and what is stated over it are `C07G.*`, a namespace that C07CssComplete continues. -/
import CLModel.Proofs.C08CGrammar

namespace Rx

/-- where a greedy class repeat hands over, a list of at least `mn` class characters has been read: its outcomes
    (`ends_rep_step`) read backwards -/
theorem rep_cls_list (s : Array Nat) {items : List ClsItem} {P : Nat → Bool} (hP : inC false items = P)
    {caps} {k : K} {mn pos : Nat} {res : St} (hpos : pos ≤ s.size)
    (h : m s (.rep mn none true (.cls false items)) ⟨pos, caps⟩ k = some res) :
    ∃ l : List Nat, mn ≤ l.length ∧ l.all P = true ∧ s.toList.drop pos = l ++ s.toList.drop (pos + l.length) ∧
      pos + l.length ≤ s.size ∧ k ⟨pos + l.length, caps⟩ = some res := by
  rw [m_eq_ends, ends_rep_step (P := P) (fun st => by rw [ends_cls, hP]) mn true hpos caps, if_pos rfl] at h
  obtain ⟨st', hmem, hk⟩ := List.exists_of_findSome?_eq_some h
  obtain ⟨hcaps, hj1, hj2⟩ := mem_runSts.mp (List.mem_reverse.mp hmem)
  obtain ⟨j, caps'⟩ := st'
  cases hcaps
  have hj : pos + mn ≤ j ∧ j ≤ pos + ((s.toList.drop pos).takeWhile P).length := by
    simp only at hj1 hj2; omega
  -- the continuation succeeded after `j - pos` characters of the maximal run
  have hpre : (s.toList.drop pos).take (j - pos) <+: (s.toList.drop pos).takeWhile P :=
    List.prefix_of_prefix_length_le (List.take_prefix _ _) (List.takeWhile_prefix P)
      (Nat.le_trans (List.length_take_le _ _) (by omega))
  have hlen : ((s.toList.drop pos).take (j - pos)).length = j - pos :=
    List.length_take_of_le (Nat.le_trans (by omega) (List.takeWhile_prefix P).length_le)
  have hsz : j ≤ s.size := by
    have := (List.takeWhile_prefix P (l := s.toList.drop pos)).length_le
    simp only [List.length_drop, Array.length_toList] at this
    omega
  refine ⟨(s.toList.drop pos).take (j - pos), ?_, ?_, ?_, ?_, ?_⟩
  · omega
  · exact List.all_eq_true.mpr fun x hx => List.all_eq_true.mp List.all_takeWhile x (hpre.subset hx)
  · rw [hlen, ← List.drop_drop, List.take_append_drop]
  · omega
  · rwa [hlen, Nat.add_sub_cancel' (by omega : pos ≤ j)]
theorem drop_of_getElem? {s : Array Nat} {j c : Nat} (h : s[j]? = some c) :
    s.toList.drop j = c :: s.toList.drop (j + 1) := by
  have hlt := getElem?_some_lt h
  rw [Array.getElem?_eq_getElem hlt, Option.some.injEq] at h
  rw [← h, ← Array.getElem_toList (h := by simpa using hlt)]
  exact List.drop_eq_getElem_cons (by simpa using hlt)

theorem lit_sound {s : Array Nat} {c : Nat} {st res : St} {k : K} (h : m s (.lit c) st k = some res) :
    s.toList.drop st.pos = c :: s.toList.drop (st.pos + 1) ∧ st.pos < s.size ∧
      k { st with pos := st.pos + 1 } = some res := by
  rw [m_lit_def] at h
  split at h
  · rename_i hc
    have hc := beq_iff_eq.mp hc
    exact ⟨drop_of_getElem? hc, getElem?_some_lt hc, h⟩
  · cases h

end Rx

namespace C08C
open Rx

def errAt (pos : Nat) : Option Dtd.CssCode → List Dtd.CssErr
  | none => []
  | some c => [⟨pos, c⟩]

def optOf (l : List Dtd.CssErr) : Option (List Dtd.CssErr) := if l.isEmpty then none else some l
def errList (o : Option (List Dtd.CssErr)) : List Dtd.CssErr := match o with | some l => l | none => []

theorem optOf_ne (l : List Dtd.CssErr) : optOf l ≠ some [] := by
  cases l <;> simp [optOf]

/-- the outcome of `_css_sep.match(val, e, q)` for a gap with verdict `c` -/
def GapRes (s : Array Nat) (e q : Nat) : Option Dtd.CssCode → Prop
  | none => GapOk s e q
  | some .missingSemicolon => 0 < e ∧ ∃ sp, matchAt (s.extract 0 q) Gen.Pat.CSSCheckMixin__css_sep e = some sp ∧
      (sp.group Gen.Pat.CSSCheckMixin__css_sep_g_semi).isNone = true
  | some .badContent => e < q ∧ matchAt (s.extract 0 q) Gen.Pat.CSSCheckMixin__css_sep e = none

theorem cssStep_decl (s : Array Nat) (rm : Option (List (Text × Text))) (es : List Dtd.CssErr) (e q : Nat) (d : Decl)
    (rest : Text) (h : s.toList.drop q = d.text ++ rest) (hd : d.Ok) (c : Option Dtd.CssCode) (hgap : GapRes s e q c) :
    Dtd.cssStep s ⟨rm, optOf es, e⟩ (q, declSt q d) =
      some ⟨some (Dtd.dset (mapOr rm) d.prop d.unit), optOf (es ++ errAt e c), q + d.text.length⟩ := by
  obtain ⟨ph, ptl, hpe, _, _⟩ := mem_props_cons hd.prop
  have hplen : 0 < d.prop.length := by rw [hpe]; simp
  have hg1 : (declSt q d).group Gen.Pat.CSSCheckMixin__css_spec_g_prop = some (q, q + d.prop.length) := by
    simp [declSt, St.group, capOf, Gen.Pat.CSSCheckMixin__css_spec_g_prop]
  have hg3 : (declSt q d).group Gen.Pat.CSSCheckMixin__css_spec_g_unit
      = some (q + (d.prop.length + d.ws1.length + 1 + d.ws2.length + d.num.length), q + d.text.length) := by
    simp [declSt, St.group, capOf, Gen.Pat.CSSCheckMixin__css_spec_g_unit]
  have hsl1 : Dtd.slice s q (q + d.prop.length) = d.prop := by
    rw [slice_drop, h]; simp [Decl.text]
  have hsl3 : Dtd.slice s (q + (d.prop.length + d.ws1.length + 1 + d.ws2.length + d.num.length)) (q + d.text.length) = d.unit := by
    have e : q + d.text.length = q + (d.prop.length + d.ws1.length + 1 + d.ws2.length + d.num.length) + d.unit.length := by
      rw [decl_text_length]; omega
    have h1 : s.toList.drop q = (d.prop ++ (d.ws1 ++ 58 :: (d.ws2 ++ d.num))) ++ (d.unit ++ rest) := by
      rw [h]; simp [Decl.text]
    have h2 := Txt.drop_add_of_append h1
    have e2 : q + (d.prop ++ (d.ws1 ++ 58 :: (d.ws2 ++ d.num))).length
        = q + (d.prop.length + d.ws1.length + 1 + d.ws2.length + d.num.length) := by simp; omega
    rw [e2] at h2
    rw [e, slice_drop, h2]; simp
  have hpos : (declSt q d).pos = q + d.text.length := rfl
  have hlen : 0 < d.text.length := decl_text_pos hd
  have hlt : q < q + d.prop.length := by omega
  unfold Dtd.cssStep
  simp only [hg1, hg3, hpos, hsl1, hsl3]
  have hne : (e == 0 && q == q + d.text.length) = false := by
    have : (q == q + d.text.length) = false := by rw [beq_eq_false_iff_ne]; omega
    simp [this]
  simp only [hne, Bool.false_eq_true, if_false, hlt, if_true, decide_true, Bool.and_true, mapOr]
  cases c with
  | none =>
    rw [show optOf (es ++ errAt e none) = optOf es by simp [errAt]]
    rcases hgap with ⟨h1, h2⟩ | ⟨sp, hsp, hlt', hsemi⟩
    · have hc : (decide (q > e) || decide (e > 0)) = false := by simp; omega
      simp only [hc, Bool.false_eq_true, if_false]
      cases rm <;> rfl
    · have hc : (decide (q > e) || decide (e > 0)) = true := by simp; omega
      have hc2 : (decide (e > 0) && (sp.group Gen.Pat.CSSCheckMixin__css_sep_g_semi).isNone) = false := by
        rcases hsemi with h0 | hs
        · simp; omega
        · cases hg : sp.group Gen.Pat.CSSCheckMixin__css_sep_g_semi with
          | none => rw [hg] at hs; cases hs
          | some x => simp
      simp only [hc, if_true, hsp, hc2, Bool.false_eq_true, if_false]
      cases rm <;> rfl
  | some code =>
    cases code with
    | missingSemicolon =>
      obtain ⟨he, sp, hsp, hnone⟩ := hgap
      have hc : (decide (q > e) || decide (e > 0)) = true := by simp; omega
      have hc2 : (decide (e > 0) && (sp.group Gen.Pat.CSSCheckMixin__css_sep_g_semi).isNone) = true := by
        simp [hnone]; omega
      simp only [hc, if_true, hsp, hc2, errAt]
      cases rm <;> cases es <;> rfl
    | badContent =>
      obtain ⟨he, hsp⟩ := hgap
      have hc : (decide (q > e) || decide (e > 0)) = true := by simp; omega
      simp only [hc, if_true, hsp, errAt]
      cases rm <;> cases es <;> rfl

/-- the outcome of `_css_sep.match(val, e)` on the trailing text -/
def TrailRes (s : Array Nat) (e : Nat) : Option Dtd.CssCode → Prop
  | none => e = s.size ∨ (e < s.size ∧ ∃ sp, matchAt (s.extract 0 s.size) Gen.Pat.CSSCheckMixin__css_sep e = some sp)
  | some .badContent => e < s.size ∧ matchAt (s.extract 0 s.size) Gen.Pat.CSSCheckMixin__css_sep e = none
  | some .missingSemicolon => False

theorem cssStep_final (s : Array Nat) (rm : Option (List (Text × Text))) (es : List Dtd.CssErr) (e : Nat) (he : 0 < e)
    (c : Option Dtd.CssCode) (hgap : TrailRes s e c) :
    Dtd.cssStep s ⟨rm, optOf es, e⟩ (s.size, ⟨s.size, []⟩) = some ⟨rm, optOf (es ++ errAt e c), s.size⟩ := by
  unfold Dtd.cssStep
  have hne : (e == 0) = false := by simp; omega
  simp only [hne, Bool.false_and, Bool.false_eq_true, if_false, St.group, capOf, List.find?_nil, Bool.and_false,
    Bool.or_false]
  match c, hgap with
  | none, hgap =>
    rw [show optOf (es ++ errAt e none) = optOf es by simp [errAt]]
    rcases hgap with h | ⟨h, sp, hsp⟩
    · rw [if_neg (by simp; omega)]
    · rw [if_pos (by simp; omega), hsp]
  | some .badContent, ⟨hlt, hsp⟩ =>
    rw [if_pos (by simp; omega), hsp]
    simp only [errAt]
    cases es <;> rfl

theorem lang_sound (s : Array Nat) (r : Re) (l : List Text) (hl : langOf r = some l) (st : St) (k : K) (res : St)
    (h : m s r st k = some res) : ∃ t ∈ l, textAt s st.pos t = true ∧ k (after st t) = some res := by
  rw [m_eq_ends, ends_lang s r l hl] at h
  obtain ⟨x, hx, hk⟩ := List.exists_of_findSome?_eq_some h
  obtain ⟨t, ht, rfl⟩ := List.mem_map.mp hx
  exact ⟨t, (List.mem_filter.mp ht).1, (List.mem_filter.mp ht).2, hk⟩

theorem drop_of_textAt (s : Array Nat) : ∀ (t : Text) (p : Nat), textAt s p t = true →
    s.toList.drop p = t ++ s.toList.drop (p + t.length)
  | [], p, _ => by simp
  | c :: t, p, h => by
    simp only [textAt, Bool.and_eq_true, beq_iff_eq] at h
    rw [drop_of_getElem? h.1, drop_of_textAt s t (p + 1) h.2, List.cons_append, List.length_cons, Nat.add_assoc,
      Nat.add_comm 1]

end C08C

namespace C07G
open Rx C08C

abbrev Text := List Nat

theorem spec_match_inv (s : Array Nat) (q : Nat) (st : St) (hq : q < s.size)
    (h : matchAt s Gen.Pat.CSSCheckMixin__css_spec q = some st) :
    ∃ (d : Decl) (rest : Text), d.Ok ∧ s.toList.drop q = d.text ++ rest := by
  rw [spec_shape] at h
  simp only [matchAt, m_alt_def] at h
  have heos : m s .eos ⟨q, []⟩ some = none := by
    simp only [m]
    rw [if_neg]; simp; omega
  rcases orElse_some h with hA | ⟨_, hB⟩
  case inr => rw [heos] at hB; cases hB
  clear h heos
  simp only [m_seq_def, m_group_def] at hA
  obtain ⟨t, ht, htx, hA⟩ := lang_sound s propRe cssProps lang_prop _ _ _ hA
  simp only [after] at hA htx
  have hd0 := drop_of_textAt s t q htx
  have hqt : q + t.length ≤ s.size := by
    have := congrArg List.length hd0
    simp at this; omega
  simp only [wsStar] at hA
  obtain ⟨ws1, -, hws1, hd1, hp1, hA⟩ := rep_cls_list s inC_ws hqt hA
  obtain ⟨hd58, hp58, hA⟩ := lit_sound hA
  obtain ⟨ws2, -, hws2, hd2, hp2, hA⟩ := rep_cls_list s inC_ws (Nat.succ_le_of_lt hp58) hA
  simp only [Dtd.numReG, m_alt_def, m_seq_def] at hA
  obtain ⟨num, j3, hnum, hd3, hp3, hu⟩ : ∃ num j3, IsNumber num ∧
      s.toList.drop (q + t.length + ws1.length + 1 + ws2.length) = num ++ s.toList.drop j3 ∧ j3 ≤ s.size ∧
      m s unitRe ⟨j3, (2, q + t.length + ws1.length + 1 + ws2.length, j3) :: (1, q, q + t.length) :: []⟩
        (fun st' => some { st' with caps := (3, j3, st'.pos) :: st'.caps }) = some st := by
    rcases orElse_some hA with h1 | ⟨_, h2⟩
    · obtain ⟨ds, hl, hds, hdd, hpd, hu⟩ := rep_cls_list s inC_dig hp2 h1
      exact ⟨ds, _, .int ds (by rintro rfl; simp at hl) hds, hdd, hpd, hu⟩
    · obtain ⟨ds, -, hds, hdd, hpd, h2⟩ := rep_cls_list s inC_dig hp2 h2
      obtain ⟨hd46, hp46, h2⟩ := lit_sound h2
      obtain ⟨fs, hl, hfs, hdf, hpf, hu⟩ := rep_cls_list s inC_dig (Nat.succ_le_of_lt hp46) h2
      refine ⟨ds ++ 46 :: fs, _, .frac ds fs hds (by rintro rfl; simp at hl) hfs, ?_, hpf, hu⟩
      rw [hdd, hd46, hdf]; simp
  obtain ⟨u, hu1, hu2, _⟩ := lang_sound s unitRe cssUnits lang_unit _ _ _ hu
  refine ⟨⟨t, ws1, ws2, num, u⟩, s.toList.drop (j3 + u.length), ⟨ht, hws1, hws2, hnum, hu1⟩, ?_⟩
  rw [hd0, hd1, hd58, hd2, hd3, drop_of_textAt s u j3 hu2]
  simp [Decl.text]

theorem drop_at_end (s : Array Nat) (j : Nat)
    (h : (j == s.size || (j + 1 == s.size && s[j]? == some 10)) = true) :
    (s.toList.drop j).all isWs = true := by
  simp only [Bool.or_eq_true, Bool.and_eq_true, beq_iff_eq] at h
  rcases h with h | ⟨h1, h2⟩
  · rw [h, List.drop_eq_nil_of_le (by simp)]; rfl
  · rw [drop_of_getElem? h2, h1, List.drop_eq_nil_of_le (by simp)]; rfl

theorem ws_eol_sound (s : Array Nat) {p : Nat} {caps} {res : St} (hp : p ≤ s.size)
    (h : m s wsStar ⟨p, caps⟩ (fun st => m s (.eol false) st some) = some res) : (s.toList.drop p).all isWs = true := by
  obtain ⟨ws, -, hws, hd, -, h⟩ := rep_cls_list s inC_ws hp h
  rw [m_eol_false] at h
  split at h
  · rename_i hend
    rw [hd, List.all_append, hws, drop_at_end s _ hend]; rfl
  · cases h

theorem sep_match_edge (s : Array Nat) (e : Nat) (sp : St) (he : e ≤ s.size)
    (h : matchAt s Gen.Pat.CSSCheckMixin__css_sep e = some sp) : IsEdge (s.toList.drop e) := by
  rw [sep_shape] at h
  simp only [matchAt, m_seq_def] at h
  obtain ⟨wsa, -, ha, hda, hpa, h⟩ := rep_cls_list s inC_ws he h
  rw [m_alt_def] at h
  rcases orElse_some h with h | ⟨_, h⟩
  · rw [m_group_def] at h
    obtain ⟨hd59, hp59, h⟩ := lit_sound h
    exact Or.inr ⟨wsa, _, by rw [hda, hd59], ha, ws_eol_sound s (Nat.succ_le_of_lt hp59) h⟩
  · rw [m_eps_def] at h
    left
    rw [hda, List.all_append, ha, ws_eol_sound s hpa h]; rfl

/-- a grammatical declaration starts the text -/
def DeclHere (l : Text) : Prop := ∃ (d : Decl) (rest : Text), d.Ok ∧ l = d.text ++ rest

/-- no declaration starts at any of the first `n` positions -/
def NoDeclIn (n : Nat) (l : Text) : Prop := ∀ i, i < n → ¬ DeclHere (l.drop i)

open Classical in
/-- the verdict of `parse_css_spec` on what stands before a declaration (`first`: before the first one) -/
noncomputable def gapCode (first : Bool) (g : Text) : Option Dtd.CssCode :=
  if first then (if IsEdge g then none else some .badContent)
  else if IsSep g then none else if g.all isWs = true then some .missingSemicolon else some .badContent

open Classical in
/-- … and on what stands after the last one -/
noncomputable def trailCode (g : Text) : Option Dtd.CssCode := if IsEdge g then none else some .badContent

/-- `SpecT first off ds t errs`: `t` (standing at offset `off`) is gap₁ d₁ gap₂ d₂ … dₙ trail where every dᵢ is the
    LEFTMOST declaration after dᵢ₋₁ (no declaration starts inside a gap or inside the trail); `errs` = one error per
    gap / trail that is not a correct separator / edge, at the end of the preceding declaration -/
inductive SpecT : Bool → Nat → List Decl → Text → List Dtd.CssErr → Prop
  | last (f : Bool) (off : Nat) (gap : Text) (d : Decl) (trail : Text) :
      d.Ok → NoDeclIn gap.length (gap ++ (d.text ++ trail)) → NoDeclIn trail.length trail →
      SpecT f off [d] (gap ++ (d.text ++ trail))
        (errAt off (gapCode f gap) ++ errAt (off + gap.length + d.text.length) (trailCode trail))
  | cons (f : Bool) (off : Nat) (gap : Text) (d : Decl) (ds : List Decl) (t : Text) (errs : List Dtd.CssErr) :
      d.Ok → NoDeclIn gap.length (gap ++ (d.text ++ t)) →
      SpecT false (off + gap.length + d.text.length) ds t errs →
      SpecT f off (d :: ds) (gap ++ (d.text ++ t)) (errAt off (gapCode f gap) ++ errs)

theorem noMatch_of_noDecl (s : Array Nat) (e : Nat) (g rest : Text) (h : s.toList.drop e = g ++ rest)
    (hnd : NoDeclIn g.length (g ++ rest)) :
    ∀ q', e ≤ q' → q' < e + g.length → matchAt s Gen.Pat.CSSCheckMixin__css_spec q' = none := by
  intro q' h1 h2
  have hsz : e + g.length ≤ s.size := by
    have := Txt.length_of_drop h
    simp at this; omega
  cases hm : matchAt s Gen.Pat.CSSCheckMixin__css_spec q' with
  | none => rfl
  | some st =>
    exfalso
    obtain ⟨d, r, hd, hdr⟩ := spec_match_inv s q' st (by omega) hm
    apply hnd (q' - e) (by omega)
    refine ⟨d, r, hd, ?_⟩
    rw [← h, List.drop_drop, ← hdr]
    congr 1; omega

theorem not_isEdge_ne_nil {g : Text} (h : ¬ IsEdge g) : g ≠ [] := by
  intro hn; subst hn; exact h (Or.inl rfl)

theorem gapRes_of_code (s : Array Nat) (f : Bool) (e : Nat) (g rest : Text) (h : s.toList.drop e = g ++ rest)
    (hf : (f = true ∧ e = 0) ∨ (f = false ∧ 0 < e)) (hle : e ≤ s.size) :
    GapRes s e (e + g.length) (gapCode f g) := by
  have hx := extract_drop s (e + g.length) e g rest h rfl
  have hsz : e + g.length ≤ (s.extract 0 (e + g.length)).size := by
    have := Txt.length_of_drop h
    simp at this
    simp; omega
  have hbad : ¬ IsEdge g → GapRes s e (e + g.length) (some .badContent) := by
    intro hne
    have hpos : 0 < g.length := List.length_pos_iff.mpr (not_isEdge_ne_nil hne)
    refine ⟨by omega, ?_⟩
    cases hm : matchAt (s.extract 0 (e + g.length)) Gen.Pat.CSSCheckMixin__css_sep e with
    | none => rfl
    | some sp => exact absurd (hx ▸ sep_match_edge _ e sp (by omega) hm) hne
  unfold gapCode
  rcases hf with ⟨rfl, rfl⟩ | ⟨rfl, he⟩
  · simp only [if_true]
    by_cases hedge : IsEdge g
    · rw [if_pos hedge]; exact gap_of_edge0 s g rest h hedge
    · rw [if_neg hedge]; exact hbad hedge
  · simp only [Bool.false_eq_true, if_false]
    by_cases hsep : IsSep g
    · rw [if_pos hsep]; exact gap_of_sep s e g rest h hsep
    · rw [if_neg hsep]
      by_cases hws : g.all isWs = true
      · rw [if_pos hws]
        exact ⟨he, _, sep_ws_exact _ e g (by omega) hx hws, by simp [St.group, capOf]⟩
      · rw [if_neg hws]
        exact hbad (by rintro (h1 | h1); exact hws h1; exact hsep h1)

theorem trailRes_of_code (s : Array Nat) (e : Nat) (trail : Text) (h : s.toList.drop e = trail) (hle : e ≤ s.size) :
    TrailRes s e (trailCode trail) := by
  have hsz : e + trail.length = s.size := by
    have := Txt.length_of_drop h
    omega
  have hx : (s.extract 0 s.size).toList.drop e = trail :=
    extract_drop s s.size e trail [] (by simpa using h) (by omega)
  unfold trailCode
  by_cases hedge : IsEdge trail
  · rw [if_pos hedge]
    by_cases hnil : trail = []
    · left; subst hnil; simpa using hsz
    · right
      have hl : 0 < trail.length := List.length_pos_iff.mpr hnil
      refine ⟨by omega, ?_⟩
      rcases hedge with hg | ⟨a, b, rfl, ha, hb⟩
      · exact ⟨_, sep_ws_exact _ e trail (by simp; omega) hx hg⟩
      · exact (sep_semi _ e a b hx ha hb).imp fun _ h => h.1
  · rw [if_neg hedge]
    have hpos : 0 < trail.length := List.length_pos_iff.mpr (not_isEdge_ne_nil hedge)
    refine ⟨by omega, ?_⟩
    cases hm : matchAt (s.extract 0 s.size) Gen.Pat.CSSCheckMixin__css_sep e with
    | none => rfl
    | some sp => exact absurd (hx ▸ sep_match_edge _ e sp (by simp; omega) hm) hedge

theorem loop_tail (s : Array Nat) (fuel e : Nat) (rm : Option (List (Text × Text))) (es : List Dtd.CssErr) (trail : Text)
    (hpos : 0 < e) (h : s.toList.drop e = trail) (hle : e ≤ s.size) (hnd : NoDeclIn trail.length trail) :
    Dtd.cssLoop s (finditerAux s Gen.Pat.CSSCheckMixin__css_spec (fuel + 1) e false) ⟨rm, optOf es, e⟩
      = some ⟨rm, optOf (es ++ errAt e (trailCode trail)), s.size⟩ := by
  have hsz : e + trail.length = s.size := by
    have := Txt.length_of_drop h
    omega
  have htr := trailRes_of_code s e trail h hle
  rw [finditerAux_skip s _ fuel e s.size ⟨s.size, []⟩ hle (Nat.le_refl _)
    (by
      intro q' h1 h2
      exact noMatch_of_noDecl s e trail [] (by simpa using h) (by simpa using hnd) q' h1 (by omega))
    (spec_end s)]
  simp only [beq_self_eq_true, finditerAux_end s _ fuel (spec_end_ne s), Dtd.cssLoop]
  rw [cssStep_final s rm es e hpos _ htr]

theorem loop_decl_step (s : Array Nat) (f : Bool) (off : Nat) (gap : Text) (d : Decl) (t : Text) (fu : Nat)
    (rm : Option (List (Text × Text))) (es : List Dtd.CssErr) (hd : d.Ok)
    (hng : NoDeclIn gap.length (gap ++ (d.text ++ t)))
    (hf : (f = true ∧ off = 0) ∨ (f = false ∧ 0 < off)) (h : s.toList.drop off = gap ++ (d.text ++ t))
    (hle : off ≤ s.size) :
    Dtd.cssLoop s (finditerAux s Gen.Pat.CSSCheckMixin__css_spec (fu + 1) off false) ⟨rm, optOf es, off⟩ =
      Dtd.cssLoop s (finditerAux s Gen.Pat.CSSCheckMixin__css_spec fu (off + gap.length + d.text.length) false)
        ⟨some (Dtd.dset (mapOr rm) d.prop d.unit), optOf (es ++ errAt off (gapCode f gap)),
          off + gap.length + d.text.length⟩ ∧
    s.toList.drop (off + gap.length + d.text.length) = t ∧ off + gap.length + d.text.length ≤ s.size ∧
    0 < off + gap.length + d.text.length := by
  have hq : s.toList.drop (off + gap.length) = d.text ++ t := Txt.drop_add_of_append h
  have hlen : 0 < d.text.length := decl_text_pos hd
  have hqs : off + gap.length + d.text.length ≤ s.size := by
    have := congrArg List.length hq
    simp at this; omega
  refine ⟨?_, Txt.drop_add_of_append hq, hqs, by omega⟩
  rw [finditerAux_skip s _ fu off (off + gap.length) (declSt (off + gap.length) d) (by omega) (by omega)
    (noMatch_of_noDecl s off gap _ h hng) (decl_match s _ d hd t hq)]
  have hb : ((declSt (off + gap.length) d).pos == off + gap.length) = false := by
    rw [beq_eq_false_iff_ne]; simp only [declSt]; omega
  rw [hb]
  simp only [Dtd.cssLoop]
  rw [cssStep_decl s rm es off _ d t hq hd _ (gapRes_of_code s f off gap _ h hf hle)]
  rfl

/-- The state is written `⟨rm, optOf es, off⟩`: the errors of `parse_css_spec` are `None` or a non-empty list, never `[]`.
    The fuel bound: every declaration costs one round of `finditerAux` and moves `off` forward by at least one, and after
    the last one a round must be left for the final `\Z` match at `s.size` (`finditer` starts with `2 * size + 3`). -/
theorem loop_specT (s : Array Nat) : ∀ (f : Bool) (off : Nat) (ds : List Decl) (t : Text) (errs : List Dtd.CssErr),
    SpecT f off ds t errs → ∀ (fuel : Nat) (rm : Option (List (Text × Text))) (es : List Dtd.CssErr),
      ((f = true ∧ off = 0) ∨ (f = false ∧ 0 < off)) → s.toList.drop off = t → off ≤ s.size →
      s.size + 2 ≤ fuel + off →
      Dtd.cssLoop s (finditerAux s Gen.Pat.CSSCheckMixin__css_spec fuel off false) ⟨rm, optOf es, off⟩
        = some ⟨some (foldDecls (mapOr rm) ds), optOf (es ++ errs), s.size⟩ := by
  intro f off ds t errs hsp
  induction hsp with
  | last f off gap d trail hd hng hnt =>
    intro fuel rm es hf h hle hfuel
    obtain ⟨fu, rfl⟩ : ∃ fu, fuel = fu + 1 + 1 := ⟨fuel - 2, by omega⟩
    obtain ⟨hstep, htl, hqs, hpos⟩ := loop_decl_step s f off gap d trail (fu + 1) rm es hd hng hf h hle
    rw [hstep, loop_tail s fu (off + gap.length + d.text.length) _ _ trail hpos htl hqs hnt]
    simp [foldDecls, List.append_assoc]
  | cons f off gap d ds t errs hd hng _ ih =>
    intro fuel rm es hf h hle hfuel
    obtain ⟨fu, rfl⟩ : ∃ fu, fuel = fu + 1 := ⟨fuel - 1, by omega⟩
    obtain ⟨hstep, htl, hqs, hpos⟩ := loop_decl_step s f off gap d t fu rm es hd hng hf h hle
    have hlen : 0 < d.text.length := decl_text_pos hd
    rw [hstep, ih fu _ _ (Or.inr ⟨rfl, hpos⟩) htl hqs (by omega)]
    simp [foldDecls, mapOr, List.append_assoc]

theorem parse_of_specT (ds : List Decl) (v : Text) (errs : List Dtd.CssErr) (h : SpecT true 0 ds v errs) :
    Dtd.parseCssSpec v = (some (declMap ds), optOf errs) := by
  unfold Dtd.parseCssSpec finditer
  simp only []
  have := loop_specT v.toArray true 0 ds v errs h (2 * v.toArray.size + 3) none [] (Or.inl ⟨rfl, rfl⟩)
    (by simp) (by omega) (by omega)
  rw [show (⟨none, none, 0⟩ : Dtd.CssState) = ⟨none, optOf [], 0⟩ from rfl, this]
  rfl

theorem parse_none (v : Text) (h : NoDeclIn v.length v) : Dtd.parseCssSpec v = (none, none) := by
  unfold Dtd.parseCssSpec finditer
  simp only []
  have hsz : v.toArray.size = v.length := by simp
  have e : 2 * v.toArray.size + 3 = (2 * v.toArray.size + 2) + 1 := by omega
  rw [e, finditerAux_skip v.toArray _ _ 0 v.toArray.size ⟨v.toArray.size, []⟩ (by omega) (Nat.le_refl _)
    (by
      intro q' h1 h2
      exact noMatch_of_noDecl v.toArray 0 v [] (by simp) (by simpa using h) q' h1 (by rw [hsz] at h2; omega))
    (spec_end _)]
  simp only [beq_self_eq_true, Dtd.cssLoop, Dtd.cssStep, Bool.and_self, if_true]

end C07G
