/-
The plural-category part of check_variants in closed form (`checkPlurals_some`, `missingCats`), and the two nested
duplicate loops (`dupLoop`): what they emit up to order for an equality given by a key (`dupLoop_perm`), and that they
commute with a map that respects the equality (`dupLoop_map`).
-/
import CLModel.Proofs.C08
namespace Ftl
open Gen.Tables

theorem strLe_iff : ∀ a b : Str, strLe a b = true ↔ a ≤ b
  | [], _ => by simp [strLe]
  | _ :: _, [] => by simp [strLe]
  | x :: xs, y :: ys => by
    rw [strLe, List.cons_le_cons_iff, ← strLe_iff xs ys]
    split
    · simp [*]
    · split
      · simp; omega
      · have : x = y := by omega
        simp [*]

theorem mem_dedup {α : Type} [BEq α] [LawfulBEq α] (l : List α) (x : α) : x ∈ dedup l ↔ x ∈ l := by
  induction l with
  | nil => simp [dedup]
  | cons y r ih =>
    simp only [dedup, List.mem_cons, List.mem_filter, ih]
    constructor
    · rintro (h | ⟨h, _⟩)
      · exact Or.inl h
      · exact Or.inr h
    · rintro (h | h)
      · exact Or.inl h
      · by_cases hxy : x = y
        · exact Or.inl hxy
        · exact Or.inr ⟨h, by simpa using hxy⟩

theorem nodup_dedup {α : Type} [BEq α] [LawfulBEq α] (l : List α) : (dedup l).Nodup := by
  induction l with
  | nil => simp [dedup]
  | cons y r ih =>
    simp only [dedup, List.nodup_cons, List.mem_filter]
    refine ⟨?_, ih.filter _⟩
    rintro ⟨_, h⟩
    simp at h

/-- the categories of the locale that no variant key names -/
def missingCats (cats : List Str) (keys : List VKey) : List Str :=
  sortBy strLe ((dedup cats).filter (fun c => !(keys.map VKey.str).contains c))

theorem mem_missingCats (cats : List Str) (keys : List VKey) (c : Str) :
    c ∈ missingCats cats keys ↔ c ∈ cats ∧ c ∉ keys.map VKey.str := by
  unfold missingCats
  rw [mem_sortBy, List.mem_filter, mem_dedup]
  simp

theorem missingCats_sorted (cats : List Str) (keys : List VKey) :
    (missingCats cats keys).Pairwise (fun a b => strLe a b = true ∧ a ≠ b) := by
  unfold missingCats
  have h1 := sortBy_pairwise strLe (fun a b => by simp only [strLe_iff]; exact List.le_total a b)
    (fun a b c => by simp only [strLe_iff]; exact List.le_trans) ((dedup cats).filter (fun c => !(keys.map VKey.str).contains c))
  have h2 : (sortBy strLe ((dedup cats).filter (fun c => !(keys.map VKey.str).contains c))).Nodup :=
    (sortBy_perm _ _).nodup_iff.mpr ((nodup_dedup cats).filter _)
  exact h1.and h2

/-- some variant key names a category of the locale other than `other` -/
def usesCategory (cats : List Str) (keys : List VKey) : Prop :=
  ∃ k ∈ keys, k.str ∈ cats ∧ k.str ≠ sOther

theorem checkPlurals_none (keys : List VKey) : checkPlurals none keys = [] := rfl

theorem checkPlurals_some (cats : List Str) (hc : cats ≠ []) (keys : List VKey) :
    checkPlurals (some cats) keys =
      match keys with
      | [] => []
      | k0 :: _ =>
        if (keys.map VKey.str).any (fun g => ((dedup cats).filter (fun c => !(c == sOther))).contains g)
            && !(missingCats cats keys).isEmpty then
          [⟨sevWarning, k0.start, fmt fluentMsg_missing_plural [join [44, 32] (missingCats cats keys)]⟩]
        else [] := by
  unfold checkPlurals missingCats
  have : cats.isEmpty = false := by cases cats <;> simp_all
  simp only [this, Bool.false_eq_true, if_false]
  cases keys with
  | nil => simp
  | cons k0 r =>
    simp only
    split
    · rename_i hA
      split
      · rename_i hM
        simp only [hA, hM, Bool.not_true, Bool.and_false, Bool.false_eq_true, if_false]
      · rename_i hM
        simp only [hA, hM, Bool.true_and, Bool.not_eq_true', if_true]
    · rename_i hA
      simp only [hA, Bool.false_and, Bool.false_eq_true, if_false]

theorem any_check_iff (cats : List Str) (keys : List VKey) :
    (keys.map VKey.str).any (fun g => ((dedup cats).filter (fun c => !(c == sOther))).contains g) = true
      ↔ usesCategory cats keys := by
  simp only [List.any_eq_true, List.mem_map, usesCategory]
  constructor
  · rintro ⟨g, ⟨k, hk, rfl⟩, hg⟩
    have : k.str ∈ (dedup cats).filter (fun c => !(c == sOther)) := by simpa using hg
    rw [List.mem_filter, mem_dedup] at this
    exact ⟨k, hk, this.1, by simpa using this.2⟩
  · rintro ⟨k, hk, h1, h2⟩
    refine ⟨k.str, ⟨k, hk, rfl⟩, ?_⟩
    have : k.str ∈ (dedup cats).filter (fun c => !(c == sOther)) := by
      rw [List.mem_filter, mem_dedup]
      exact ⟨h1, by simpa using h2⟩
    simpa using this

theorem dupLoop_map {α β : Type} (eq : α → α → Bool) (eq' : β → β → Bool) (h : α → β)
    (hh : ∀ a b, eq' (h a) (h b) = eq a b) (ks l : List α) :
    dupLoop eq' (ks.map h) (l.map h) = (dupLoop eq ks l).map h := by
  induction l generalizing ks with
  | nil => rfl
  | cons x rest ih =>
    simp only [List.map_cons, dupLoop]
    have hany : (ks.map h).any (fun k => eq' k (h x)) = ks.any (fun k => eq k x) := by
      simp [List.any_map, Function.comp_def, hh]
    rw [hany]
    split
    · exact ih ks
    · have hf : (rest.map h).filter (fun y => eq' (h x) y) = (rest.filter (fun y => eq x y)).map h := by
        rw [List.filter_map]
        congr 1
        apply List.filter_congr
        intro y _
        simp [hh]
      rw [hf]
      have := ih (ks ++ [x])
      simp only [List.map_append, List.map_cons, List.map_nil] at this
      rw [this]
      cases hm : rest.filter (fun y => eq x y) <;> simp

section dup
variable {α κ : Type} [BEq κ] [LawfulBEq κ]

theorem filter_split_perm (l : List α) (q p : α → Bool) :
    (l.filter p).Perm ((l.filter q).filter p ++ (l.filter (fun y => !q y)).filter p) := by
  have h := (List.filter_append_perm q l).symm
  have h2 := h.filter p
  rw [List.filter_append] at h2
  exact h2

/-- Closed form of the two nested loops for an equality given by a key function: what is emitted is,
    up to order, every element whose key occurs at least twice (and is not among the keys `ks` that
    were already handled). -/
theorem dupLoop_perm (f : α → κ) (ks xs : List α) :
    (dupLoop (fun a b => f a == f b) ks xs).Perm
      ((xs.filter (fun x => !(ks.map f).contains (f x))).filter (fun x => decide (2 ≤ (xs.map f).count (f x)))) := by
  induction xs generalizing ks with
  | nil => simp [dupLoop]
  | cons x rest ih =>
    simp only [dupLoop]
    have hany : (ks.any (fun k => f k == f x)) = (ks.map f).contains (f x) := by
      rw [Bool.eq_iff_iff]
      simp only [List.any_eq_true, List.contains_iff_mem, List.mem_map, beq_iff_eq]
    by_cases hin : (ks.map f).contains (f x) = true
    · -- `left in warned`
      simp only [hany, hin, if_true]
      refine (ih ks).trans ?_
      simp only [List.filter_cons, hin, Bool.not_true, Bool.false_eq_true, if_false]
      apply List.Perm.of_eq
      apply List.filter_congr
      intro y hy
      have hy' := (List.mem_filter.mp hy).2
      have hne : (f x == f y) = false := by
        rw [beq_eq_false_iff_ne]
        intro h
        have hmem : (ks.map f).contains (f y) = true := by rw [← h]; exact hin
        rw [hmem] at hy'
        simp at hy'
      simp [List.count_cons, hne]
    · have hin' : (ks.map f).contains (f x) = false := by simpa using hin
      simp only [hany, hin', Bool.false_eq_true, if_false]
      have hms : ∀ y, y ∈ rest.filter (fun y => f x == f y) ↔ y ∈ rest ∧ f x = f y := by
        intro y; simp [List.mem_filter]
      have hcount : (List.filter (fun y => f x == f y) rest).isEmpty = true ↔ (rest.map f).count (f x) = 0 := by
        rw [List.isEmpty_iff, List.filter_eq_nil_iff, List.count_eq_zero]
        simp only [List.mem_map, not_exists, not_and, beq_iff_eq]
        constructor
        · intro h y hy hfy; exact h y hy hfy.symm
        · intro h y hy hfy; exact h y hy hfy.symm
      -- the target, with `x` taken out
      simp only [List.filter_cons, hin', Bool.not_false, if_true, List.map_cons, List.count_cons_self]
      have hsplit := filter_split_perm (rest.filter (fun y => !(ks.map f).contains (f y))) (fun y => f x == f y)
        (fun y => decide (2 ≤ (f x :: rest.map f).count (f y)))
      -- first part = the matching rights
      have h1 : ((rest.filter (fun y => !(ks.map f).contains (f y))).filter (fun y => f x == f y)).filter
          (fun y => decide (2 ≤ (f x :: rest.map f).count (f y))) = rest.filter (fun y => f x == f y) := by
        rw [List.filter_filter, List.filter_filter]
        apply List.filter_congr
        intro y hy
        by_cases hxy : (f x == f y) = true
        · have hxy' : f x = f y := by simpa using hxy
          have hc : 0 < (rest.map f).count (f y) := List.count_pos_iff.mpr (List.mem_map.mpr ⟨y, hy, rfl⟩)
          have hnotin : (ks.map f).contains (f y) = false := by rw [← hxy']; exact hin'
          have hcnt : (f x :: rest.map f).count (f y) = (rest.map f).count (f y) + 1 := by
            rw [List.count_cons]; simp [hxy]
          have hP : decide (2 ≤ (f x :: rest.map f).count (f y)) = true := by
            rw [hcnt]; exact decide_eq_true (by omega)
          simp [hxy, hP]
          simpa using hnotin
        · simp [hxy]
      -- second part = what the recursive call emits
      have h2 : ((rest.filter (fun y => !(ks.map f).contains (f y))).filter (fun y => !(f x == f y))).filter
          (fun y => decide (2 ≤ (f x :: rest.map f).count (f y))) =
          (rest.filter (fun y => !((ks ++ [x]).map f).contains (f y))).filter (fun y => decide (2 ≤ (rest.map f).count (f y))) := by
        rw [List.filter_filter, List.filter_filter, List.filter_filter]
        apply List.filter_congr
        intro y _
        by_cases hxy : (f x == f y) = true
        · have hxy' : f x = f y := by simpa using hxy
          simp [hxy']
        · have hxy' : (f x == f y) = false := by simpa using hxy
          have hne : ¬ f y = f x := by
            intro h; rw [h] at hxy'; simp at hxy'
          have hcnt : (f x :: rest.map f).count (f y) = (rest.map f).count (f y) := by
            rw [List.count_cons]; simp [hxy']
          have hmem : (f y ∈ List.map f ks ++ [f x]) ↔ f y ∈ List.map f ks := by
            simp [List.mem_append, hne]
          have hdm : decide (f y ∈ List.map f ks ++ [f x]) = decide (f y ∈ List.map f ks) := by
            rw [decide_eq_decide]; exact hmem
          simp [hxy', hcnt]
          rw [hdm]
      rw [h1, h2] at hsplit
      by_cases hempty : (List.filter (fun y => f x == f y) rest).isEmpty = true
      · have hz := hcount.mp hempty
        have hnil : List.filter (fun y => f x == f y) rest = [] := List.isEmpty_iff.mp hempty
        simp only [hempty, if_true, List.nil_append, hz]
        simp only [Nat.zero_add, Nat.reduceLeDiff, decide_false, Bool.false_eq_true, if_false]
        rw [hnil] at hsplit
        exact (ih (ks ++ [x])).trans (by simpa using hsplit.symm)
      · have hpos : 0 < (rest.map f).count (f x) := by
          rcases Nat.eq_zero_or_pos ((rest.map f).count (f x)) with h | h
          · exact absurd (hcount.mpr h) hempty
          · exact h
        have hdec : decide (2 ≤ (rest.map f).count (f x) + 1) = true := decide_eq_true (by omega)
        simp only [hempty, Bool.false_eq_true, if_false, hdec, if_true, List.cons_append]
        refine List.Perm.cons x ?_
        exact (List.Perm.append_left _ (ih (ks ++ [x]))).trans hsplit.symm

end dup

theorem dupLoop_nil_perm {α κ : Type} [BEq κ] [LawfulBEq κ] (f : α → κ) (xs : List α) :
    (dupLoop (fun a b => f a == f b) [] xs).Perm (xs.filter (fun x => decide (2 ≤ (xs.map f).count (f x)))) := by
  have := dupLoop_perm f [] xs
  simpa using this

/-- the key under which two variant keys are `equals`: node type and text -/
def VKey.tag : VKey → Bool × Str
  | .ident _ n => (true, n)
  | .num _ v => (false, v)

theorem VKey.equals_eq : VKey.equals = (fun a b => a.tag == b.tag) := by
  funext a b
  cases a <;> cases b <;> simp only [VKey.equals, VKey.tag] <;> rw [Bool.eq_iff_iff] <;> simp

end Ftl
