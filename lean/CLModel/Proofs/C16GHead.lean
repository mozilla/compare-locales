/-
Does the output start with a blank line?  (`.inc`: a leading blank line is Junk — finding
C16-inc-leading-blank; text-level idempotence: the second run must reproduce the first run's leading newline.)

`hw_out` answers on the flat list before any reduce: the white-space folding reduce never changes whether a list starts
with white space (`C16R.hw_fold`).
-/
import CLModel.Proofs.C16GFmt
namespace C16G
open AR Ser C16L C16R

section
variable {γ : Type}

theorem hw_map {δ : Type} (w : γ → Bool) (w' : δ → Bool) (f : γ → δ) (l : List γ) (h : ∀ x ∈ l, w' (f x) = w x) :
    hw w' (l.map f) = hw w l := by
  cases l with
  | nil => rfl
  | cons a t => exact h a (by simp)

theorem hw_skip (w q : γ → Bool) (hq : ∀ x, w x = true → q x = true) (L : List γ) (x : γ) (T : List γ)
    (hL : ∀ p ∈ L, w p = true ∨ q p = false) (hx : w x = true) :
    hw w ((L ++ x :: T).filter q) = true := by
  induction L with
  | nil => simp [List.filter_cons, hq x hx, hw, hx]
  | cons a L ih =>
    have iha := ih (fun p hp => hL p (List.mem_cons_of_mem _ hp))
    rcases hL a (by simp) with ha | ha
    · simp [List.filter_cons, hq a ha, hw, ha]
    · simpa [List.filter_cons, ha] using iha

end

/-- a pair survives `prune_placeholders` (after the new values are filled in) -/
def q2 (D2 : Dict) (p : MKey × Ent) : Bool := !(pick D2 p.1 p.2).isPlaceholder

theorem isReal_not_placeholder {e : Ent} (h : e.isReal = true) : e.isPlaceholder = false := isReal_not_ph h

theorem q2_of_ws (ref : List Ent) (nd : NewData) (p : MKey × Ent) (h : pIsWs p = true) : q2 (d2Of ref nd) p = true := by
  unfold q2 pick
  cases hg : dget (d2Of ref nd) p.1 with
  | none => simp only; simp [isWs_not_ph (show p.2.isWs = true from h)]
  | some l =>
    simp only
    split
    · simp [isWs_not_ph (show p.2.isWs = true from h)]
    · simp [isReal_not_ph (d2_some hg).1]

theorem hw_out (ref old : List Ent) (nd : NewData) :
    hw Ent.isWs (serializeEnts ref old nd)
      = hw pIsWs ((olderPairs (d0Of ref) (d1Of ref old nd)).filter (q2 (d2Of ref nd))) := by
  rw [serializeEnts_fold, hw_fold, flatOut, List.filter_map]
  apply hw_map
  intro p hp
  rw [← over_isWs ref nd p, over_eq ref nd (olderPairs01_keyOK ref old nd p (List.mem_filter.1 hp).1)]
  rfl

end C16G
