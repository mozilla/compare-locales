/- C14 composed: `Matcher.match` computed for a literal pattern (every path) and for `pre*post` on the paths of the shape
   root ++ pre ++ x ++ post (any environment, any root). -/
import CLModel.Proofs.C14MParse
import CLModel.Proofs.C12RNest
namespace C14M
open Rx PM

/-- what a rooted pattern is prefixed with: nothing for an unrooted pattern or one whose first segment is
    absolute, the root otherwise (`Pattern.expand` / `regex_pattern`) -/
def effRoot (root : Option Text) (first : Text) : Text :=
  match root with
  | none => []
  | some r => if isabs first then [] else r

theorem rootOf_lit (rec : ExpRec) (p : Pattern) (env : Env) {t : Text} {rest : List Node}
    (hn : p.nodes = .lit t :: rest) : rootOf rec p env = .ok (effRoot p.root t) := by
  unfold rootOf effRoot
  cases p.root with
  | none => rfl
  | some r => simp [hn, expandNode, pure, Except.pure]

theorem wfRe_seqOf_cons (x : Re) (l : List Re) (s : List Nat × List Nat) :
    wfRe (seqOf (x :: l)) s = (wfRe x s).bind (wfRe (seqOf l)) := by
  cases l with
  | nil =>
    simp only [seqOf]
    cases wfRe x s <;> simp [wfRe]
  | cons y r =>
    simp only [seqOf, wfRe]
    cases wfRe x s <;> rfl

theorem wfRe_seqOf_lits (t : Text) (rest : List Re) (s : List Nat × List Nat) :
    wfRe (seqOf (t.map Re.lit ++ rest)) s = wfRe (seqOf rest) s := by
  induction t with
  | nil => rfl
  | cons c t ih =>
    simp only [List.map_cons, List.cons_append]
    rw [wfRe_seqOf_cons]
    simp [wfRe, ih]

/-- `_cache_regex` for a pattern that is one literal: the characters of root + text, then `\Z`; no groups -/
theorem regexOf_lit {m : Matcher} {t : Text} (hn : m.pattern.nodes = [.lit t]) :
    m.regexOf = .ok (seqOf ((effRoot m.pattern.root t ++ t).map Re.lit ++ [Gen.Pat.matcher_frag_anchor]), []) := by
  have hroot := rootOf_lit (expandVal (fuelFor m.env)) m.pattern m.env hn
  simp only [Matcher.regexOf, rxPat, hroot, hn, rxChildren, rxNode, bind, Except.bind, pure, Except.pure,
    List.append_nil, List.all_nil, Bool.true_and]
  rw [← List.map_append, wfRe_seqOf_lits]
  simp [seqOf, wfRe, Gen.Pat.matcher_frag_anchor]

/-- group number of the first wildcard, `s1` -/
def s1 : Nat := encName (sname 1)

/-- `_cache_regex` for `dir*suffix`: root + dir, `(?P<s1>[^/]*)`, suffix, `\Z` -/
theorem regexOf_star {m : Matcher} {pre post : Text} (hn : m.pattern.nodes = [.lit pre, .star 1, .lit post]) :
    m.regexOf = .ok (seqOf ((effRoot m.pattern.root pre ++ pre).map Re.lit ++
      (Re.group s1 Gen.Pat.matcher_frag_star :: (post.map Re.lit ++ [Gen.Pat.matcher_frag_anchor]))), [sname 1]) := by
  have hroot := rootOf_lit (expandVal (fuelFor m.env)) m.pattern m.env hn
  have hv : validName (sname 1) = true := by decide
  simp only [Matcher.regexOf, rxPat, hroot, hn, rxChildren, rxNode, bind, Except.bind, pure, Except.pure,
    List.append_nil, List.all_cons, List.all_nil, hv, Bool.true_and, List.nil_append, List.cons_append,
    List.append_assoc]
  have hwf : (wfRe (seqOf ((effRoot m.pattern.root pre).map Re.lit ++ (pre.map Re.lit ++
      Re.group (encName (sname 1)) Gen.Pat.matcher_frag_star ::
        (post.map Re.lit ++ [Gen.Pat.matcher_frag_anchor])))) ([], [])).isSome = true := by
    rw [wfRe_seqOf_lits, wfRe_seqOf_lits, wfRe_seqOf_cons]
    simp only [wfRe, Gen.Pat.matcher_frag_star, List.contains_nil, Bool.false_eq_true, if_false, Option.bind]
    rw [wfRe_seqOf_lits]
    simp [seqOf, wfRe, Gen.Pat.matcher_frag_anchor]
  rw [if_pos hwf, List.map_append, List.append_assoc]
  rfl


theorem eq_iff_textAt (path A : Text) : path = A ↔ TextAt path.toArray 0 A ∧ A.length = path.length := by
  constructor
  · rintro rfl
    exact ⟨by simpa using C11R.textAt_toArray_zero path [], rfl⟩
  · rintro ⟨h1, h2⟩
    have := textAt_all h1 (by simpa using h2)
    simpa using this

/-- the dictionary returned for a match is empty, hence falsy in Python: this is why `_filter` must test `is not None` -/
theorem match_lit {m : Matcher} {t : Text} (hn : m.pattern.nodes = [.lit t]) (path : Text) :
    m.match path = .ok (if path = effRoot m.pattern.root t ++ t then some [] else none) := by
  have hanchor : Gen.Pat.matcher_frag_anchor = Re.eos := rfl
  simp only [Matcher.match, regexOf_lit hn, bind, Except.bind, matchAt, hanchor]
  by_cases hta : TextAt path.toArray 0 (effRoot m.pattern.root t ++ t)
  · rw [C11R.m_lits_ok _ _ _ ⟨0, []⟩ some hta]
    by_cases hl : (effRoot m.pattern.root t ++ t).length = path.length
    · have : path = effRoot m.pattern.root t ++ t := (eq_iff_textAt _ _).mpr ⟨hta, hl⟩
      rw [if_pos this]
      simp [seqOf, Rx.m, hl, groupDict, pure, Except.pure]
    · have : ¬ path = effRoot m.pattern.root t ++ t := fun h => hl ((eq_iff_textAt _ _).mp h).2
      rw [if_neg this]
      have hl' : ¬ (effRoot m.pattern.root t).length + t.length = path.length := by simpa using hl
      simp [seqOf, Rx.m, hl', pure, Except.pure]
  · have : ¬ path = effRoot m.pattern.root t ++ t := fun h => hta ((eq_iff_textAt _ _).mp h).1
    rw [if_neg this, C11R.m_lits_fail _ _ _ ⟨0, []⟩ some hta]
    rfl


theorem tail_ok (s : Array Nat) (post : Text) (st : St) (hta : TextAt s st.pos post)
    (hl : st.pos + post.length = s.size) :
    Rx.m s (seqOf (post.map Re.lit ++ [Re.eos])) st some = some ⟨s.size, st.caps⟩ := by
  rw [C11R.m_lits_ok s post _ st some hta]
  simp [seqOf, Rx.m, hl]

theorem tail_fail (s : Array Nat) (post : Text) (st : St) (hl : st.pos + post.length ≠ s.size) :
    Rx.m s (seqOf (post.map Re.lit ++ [Re.eos])) st some = none := by
  by_cases hta : TextAt s st.pos post
  · rw [C11R.m_lits_ok s post _ st some hta]
    simp [seqOf, Rx.m, hl]
  · exact C11R.m_lits_fail s post _ st some hta

/-- where the engine stands after the literal part of `dir*suffix`: the suffix is tried at the end of the
    `/`-free run that follows, then at every shorter prefix of it -/
theorem star_run (A x post : Text) :
    matchAt (A ++ x ++ post).toArray
        (seqOf (A.map Re.lit ++ (Re.group s1 Gen.Pat.matcher_frag_star :: (post.map Re.lit ++ [Re.eos])))) 0 =
      Rx.firstSome (fun j => Rx.m (A ++ x ++ post).toArray (seqOf (post.map Re.lit ++ [Re.eos]))
          ⟨j, [(s1, A.length, j)]⟩ some)
        (Rx.downFrom A.length (Rx.runAt (A ++ x ++ post).toArray (fun d => d != 47) A.length)) := by
  have hta : TextAt (A ++ x ++ post).toArray 0 A := by
    rw [List.append_assoc]; exact C11R.textAt_toArray_zero A (x ++ post)
  unfold matchAt
  rw [C11R.m_lits_ok _ A _ ⟨0, []⟩ some hta, m_seqOf_cons]
  have hfrag : Gen.Pat.matcher_frag_star = Re.rep 0 none true (Re.notLit 47) := rfl
  rw [hfrag]
  simp only [Nat.zero_add]
  rw [C11R.m_star_group _ s1 _ _ (C11R.oneChar_notLit _ 47) A.length (by simp) [] _]

theorem getElem_mid (A x post : Text) (q : Nat) (hq : q < x.length) :
    (A ++ x ++ post).toArray[A.length + q]? = x[q]? := by
  simp only [List.getElem?_toArray, List.append_assoc]
  rw [List.getElem?_append_right (by omega), Nat.add_sub_cancel_left, List.getElem?_append_left hq]

theorem star_hit (A x post : Text) (hx : 47 ∉ x) :
    matchAt (A ++ x ++ post).toArray
        (seqOf (A.map Re.lit ++ (Re.group s1 Gen.Pat.matcher_frag_star :: (post.map Re.lit ++ [Re.eos])))) 0 =
      some ⟨(A ++ x ++ post).toArray.size, [(s1, A.length, A.length + x.length)]⟩ := by
  rw [star_run]
  have hsz : (A ++ x ++ post).toArray.size = A.length + x.length + post.length := by simp; omega
  apply Rx.firstSome_downFrom_some (a := A.length) (i := x.length)
  · apply tail_ok
    · have := C11R.textAt_toArray_right (A ++ x) post
      simpa using this
    · simp only [hsz]
  · apply Rx.runAt_ge
    · intro q hq
      rw [getElem_mid A x post q hq]
      refine ⟨x[q], by simp [hq], ?_⟩
      have : x[q] ≠ 47 := fun h => hx (h ▸ List.getElem_mem hq)
      simpa using this
  · intro j hj _
    apply tail_fail
    simp only [hsz]; omega

/-- a value with a `/`: the run stops before the value ends, no candidate reaches the end of the path -/
theorem star_miss (A x post : Text) (hx : 47 ∈ x) :
    matchAt (A ++ x ++ post).toArray
        (seqOf (A.map Re.lit ++ (Re.group s1 Gen.Pat.matcher_frag_star :: (post.map Re.lit ++ [Re.eos])))) 0 = none := by
  rw [star_run]
  have hsz : (A ++ x ++ post).toArray.size = A.length + x.length + post.length := by simp; omega
  obtain ⟨i, hi, hxi⟩ := List.getElem_of_mem hx
  apply Rx.firstSome_eq_none.mpr
  intro j hj
  obtain ⟨_, hj2⟩ := mem_downFrom_iff.mp hj
  apply tail_fail
  simp only [hsz]
  have hrun : Rx.runAt (A ++ x ++ post).toArray (fun d => d != 47) A.length ≤ i := by
    apply Nat.le_of_not_lt
    intro hlt
    obtain ⟨c, hc, hp⟩ := Rx.runAt_all _ _ _ i hlt
    rw [getElem_mid A x post i hi] at hc
    have : c = 47 := by
      rw [List.getElem?_eq_getElem hi, hxi] at hc
      exact (Option.some.inj hc).symm
    subst this
    simp at hp
  omega


theorem match_star {mt : Matcher} {pre post : Text} (hn : mt.pattern.nodes = [.lit pre, .star 1, .lit post])
    (x : Text) :
    mt.match (effRoot mt.pattern.root pre ++ pre ++ x ++ post) =
      .ok (if 47 ∈ x then none else some [(sname 1, some x)]) := by
  have hanchor : Gen.Pat.matcher_frag_anchor = Re.eos := rfl
  simp only [Matcher.match, regexOf_star hn, bind, Except.bind, hanchor]
  by_cases hx : 47 ∈ x
  · rw [star_miss _ x post hx, if_pos hx]; rfl
  · rw [star_hit _ x post hx, if_neg hx]
    have hne : (sname 1 == androidName) = false := by decide
    have hsl : slice (effRoot mt.pattern.root pre ++ pre ++ x ++ post).toArray
        (effRoot mt.pattern.root pre ++ pre).length ((effRoot mt.pattern.root pre ++ pre).length + x.length) = x := by
      apply slice_textAt
      have := C11R.textAt_toArray_right (effRoot mt.pattern.root pre ++ pre) (x ++ post)
      rw [← List.append_assoc] at this
      exact (TextAt.split this).1
    simp only [groupDict, List.map_cons, List.map_nil, List.any_cons, List.any_nil, hne, Bool.or_false,
      Bool.false_and, Bool.false_eq_true, if_false, pure, Except.pure, groupText, St.group, capOf, s1,
      List.find?_cons, beq_self_eq_true, hsl]

end C14M
