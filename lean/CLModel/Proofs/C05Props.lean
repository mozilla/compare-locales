/-
C05 pipeline, properties files: `PropCk.check` (C06 model of PropertiesChecker.check) never raises.
The unescape model `PropCk.unescape` IS the unescape model of C02 (`P.propsVal`, total by `propsVal_eq_spec`) on every
text: Proofs/C06Unesc.
-/
import CLModel.Proofs.C05Pipe
import CLModel.Proofs.C05Lint
import CLModel.Props.C06
namespace Pipe

/-- `C06U.unescape_eq_propsVal` under the name registered in harness/props/c05.py -/
theorem unescape_eq_propsVal (raw : List Nat) : PropCk.unescape raw = P.propsVal raw := C06U.unescape_eq_propsVal raw

theorem unescape_total (raw : List Nat) : ∃ v, PropCk.unescape raw = some v := ⟨_, C06.unescape_total raw⟩

theorem check_shape (e : PropCk.Ents) : ∃ rest, PropCk.check e = some (PropCk.baseCheck e ++ rest) := by
  rcases C06.check_trichotomy e with ⟨_, pl, _, h⟩ | ⟨_, _, h⟩ | ⟨_, R, pf, _, _, _, h⟩
  · exact ⟨_, h⟩
  · exact ⟨_, h⟩
  · exact ⟨_, h.trans (by rw [List.append_assoc])⟩

theorem runProps_ok (fmt : P.Fmt) (hf : fmt ≠ .po) (cls : Cls) (locale : Option Text) (r l : PEnt)
    (hr : PWf fmt r) (hl : PWf fmt l) (hrj : r.junk = false) (hlj : l.junk = false) :
    ∃ rs, runProps locale r l = .ok rs ∧ (∀ c ∈ rs, Resolvable cls l c.pos) ∧
      ∀ b ∈ runBase l, b ∈ rs := by
  obtain ⟨rk, hrk⟩ := hr.2.1 hf
  obtain ⟨lk, hlk⟩ := hl.2.1 hf
  generalize hE : ({ locale := locale, refComment := r.comment, refKey := rk, refRaw := r.raw,
                     l10nKey := lk, l10nAll := l.all, l10nRaw := l.raw } : PropCk.Ents) = E
  obtain ⟨rest, hc⟩ := check_shape E
  refine ⟨(PropCk.baseCheck E ++ rest).map ofFinding,
    by simp only [runProps, hrj, Bool.false_eq_true, if_false, hrk, hlk, hE, hc], ?_, ?_⟩
  · intro c hcm
    simp only [List.mem_map] at hcm
    obtain ⟨f, _, rfl⟩ := hcm
    cases hp : f.pos with
    | val n => exact Or.inr (Or.inl ⟨⟨n, by simp [ofFinding, hp]⟩, Or.inr ⟨hlj, hl.entity hlj⟩⟩)
    | ent n => exact Or.inl ⟨n, by simp [ofFinding, hp]⟩
  · intro b hb
    simp only [runBase, List.mem_map] at hb
    obtain ⟨x, hx, rfl⟩ := hb
    simp only [Checks.baseCheck, List.mem_map] at hx
    obtain ⟨m, hm, rfl⟩ := hx
    simp only [List.mem_map]
    refine ⟨⟨.warning, .ent m.1, PropCk.sInColon ++ lk, .encodings⟩, ?_, ?_⟩
    · apply List.mem_append_left
      subst hE
      simp only [PropCk.baseCheck, List.mem_map]
      exact ⟨m, hm, rfl⟩
    · simp only [ofFinding, catText, hlk, keyText]
      rfl

theorem answers_props (fmt : P.Fmt) (hf : fmt ≠ .po) (c : CkCtx) (hk : c.kind = .properties) (cls : Cls) (r l : PEnt)
    (hr : PWf fmt r) (hl : PWf fmt l) (hrj : r.junk = false) (hlj : l.junk = false) : Answers cls c r l := by
  obtain ⟨rs, h1, h2, h3⟩ := runProps_ok fmt hf cls c.locale r l hr hl hrj hlj
  exact ⟨rs, by simp only [runChecker, hk, h1], h2, h3⟩

end Pipe
