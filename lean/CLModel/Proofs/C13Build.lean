/-
What `ProjectFiles.__init__` (model: `build`) puts into `self.matchers`: the closed form of the duplicate scan applied to the
reversed list of rules of the gated configs (`build_ok`), where every matcher comes from (`build_matcher_origin`) and that
every gated rule's key is kept (`build_kept`).
-/
import CLModel.Paths.ProjectFiles
import CLModel.Proofs.C13Dedup
namespace PF

theorem mem_maybeExtend {c : Config} : ∀ {other self : List Config}, c ∈ maybeExtend self other → c ∈ self ∨ c ∈ other
  | [], self, h => by simp [maybeExtend] at h; exact Or.inl h
  | o :: os, self, h => by
    have ih := fun s => mem_maybeExtend (c := c) (other := os) (self := s)
    simp only [maybeExtend, List.foldl_cons] at h ih
    split at h
    · rcases ih _ h with h | h
      · exact Or.inl h
      · exact Or.inr (List.mem_cons_of_mem _ h)
    · rcases ih _ h with h | h
      · rcases List.mem_append.1 h with h | h
        · exact Or.inl h
        · simp only [List.mem_singleton] at h
          exact Or.inr (h ▸ List.mem_cons_self)
      · exact Or.inr (List.mem_cons_of_mem _ h)

theorem maybeExtend_keeps {c : Config} : ∀ {other self : List Config}, c ∈ self → c ∈ maybeExtend self other
  | [], _, h => by simpa [maybeExtend] using h
  | o :: os, self, h => by
    have ih := fun s => maybeExtend_keeps (c := c) (other := os) (self := s)
    simp only [maybeExtend, List.foldl_cons] at ih ⊢
    split
    · exact ih _ h
    · exact ih _ (List.mem_append_left _ h)

theorem maybeExtend_path {c : Config} : ∀ {other self : List Config}, c ∈ other →
    ∃ c' ∈ maybeExtend self other, c'.path = c.path
  | [], _, h => by simp at h
  | o :: os, self, h => by
    have ih := fun s => maybeExtend_path (c := c) (other := os) (self := s)
    have keep := fun (c' : Config) s (h : c' ∈ s) => maybeExtend_keeps (c := c') (other := os) (self := s) h
    simp only [maybeExtend, List.foldl_cons] at ih keep ⊢
    rcases List.mem_cons.1 h with rfl | h
    · split
      · rename_i hany
        simp only [List.any_eq_true, beq_iff_eq] at hany
        obtain ⟨mine, hm, hp⟩ := hany
        exact ⟨mine, keep mine _ hm, hp⟩
      · exact ⟨c, keep c _ (by simp), rfl⟩
    · split
      · exact ih _ h
      · exact ih _ h

/-- the project gate of `ProjectFiles.__init__`: `locale in project.all_locales` (no gate without a locale) -/
def enabledProject (locale : Option Loc) (project : Config) : Prop :=
  ∀ l, locale = some l → inAllLocales project l = true

theorem skipProject_false {locale : Option Loc} {project : Config} :
    skipProject locale project = false ↔ enabledProject locale project := by
  unfold skipProject enabledProject
  cases locale with
  | none => simp
  | some l => simp

def collectStep (locale : Option Loc) (acc : List Config × List Config) (project : Config) : List Config × List Config :=
  if skipProject locale project then acc
  else (maybeExtend acc.1 project.configs, maybeExtend acc.2 project.excludes)

theorem collect_eq {locale : Option Loc} {projects : List Config} :
    collect locale projects = projects.foldl (collectStep locale) ([], []) := rfl

theorem collect_sound {locale : Option Loc} {c : Config} : ∀ {projects : List Config} {acc : List Config × List Config},
    c ∈ (projects.foldl (collectStep locale) acc).1 →
    c ∈ acc.1 ∨ ∃ project ∈ projects, enabledProject locale project ∧ c ∈ project.configs
  | [], _, h => Or.inl h
  | p :: ps, acc, h => by
    rw [List.foldl_cons] at h
    rcases collect_sound (projects := ps) h with h | ⟨q, hq, he, hc⟩
    · unfold collectStep at h
      cases hs : skipProject locale p with
      | true => simp only [hs, if_true] at h; exact Or.inl h
      | false =>
        simp only [hs, Bool.false_eq_true, if_false] at h
        rcases mem_maybeExtend h with h | h
        · exact Or.inl h
        · exact Or.inr ⟨p, List.mem_cons_self, skipProject_false.1 hs, h⟩
    · exact Or.inr ⟨q, List.mem_cons_of_mem _ hq, he, hc⟩

theorem mem_collect {locale : Option Loc} {projects : List Config} {c : Config}
    (h : c ∈ (collect locale projects).1) : ∃ project ∈ projects, enabledProject locale project ∧ c ∈ project.configs := by
  rw [collect_eq] at h
  rcases collect_sound h with h | h
  · simp at h
  · exact h

theorem collect_keeps {locale : Option Loc} {c : Config} : ∀ {projects : List Config} {acc : List Config × List Config},
    c ∈ acc.1 → c ∈ (projects.foldl (collectStep locale) acc).1
  | [], _, h => h
  | p :: ps, acc, h => by
    rw [List.foldl_cons]
    apply collect_keeps (projects := ps)
    unfold collectStep
    split
    · exact h
    · exact maybeExtend_keeps h

theorem collect_complete_aux {locale : Option Loc} {c : Config} {project : Config}
    (he : enabledProject locale project) (hc : c ∈ project.configs) :
    ∀ {projects : List Config} {acc : List Config × List Config}, project ∈ projects →
    ∃ c' ∈ (projects.foldl (collectStep locale) acc).1, c'.path = c.path
  | [], _, h => by simp at h
  | p :: ps, acc, h => by
    rw [List.foldl_cons]
    rcases List.mem_cons.1 h with rfl | h
    · have hen := skipProject_false.2 he
      unfold collectStep
      simp only [hen, Bool.false_eq_true, if_false]
      obtain ⟨c', hc', hp⟩ := maybeExtend_path (self := acc.1) hc
      exact ⟨c', collect_keeps hc', hp⟩
    · exact collect_complete_aux he hc h

/-- every config of an enabled project is in the list, up to `ConfigList`'s identification by path -/
theorem collect_complete {locale : Option Loc} {projects : List Config} {project c : Config}
    (hp : project ∈ projects) (he : enabledProject locale project) (hc : c ∈ project.configs) :
    ∃ c' ∈ (collect locale projects).1, c'.path = c.path := by
  rw [collect_eq]
  exact collect_complete_aux he hc hp

theorem mem_gated {locale : Option Loc} {configs : List Config} {pr : PathRule} :
    pr ∈ gated locale configs ↔
      ∃ pc ∈ configs, localeOk locale pc.locales = true ∧ pr ∈ pc.paths ∧ localeOk locale pr.locales = true := by
  simp only [gated, List.mem_flatMap]
  constructor
  · rintro ⟨pc, hpc, h⟩
    split at h
    · rename_i hok
      simp only [List.mem_filter] at h
      exact ⟨pc, hpc, hok, h.1, h.2⟩
    · simp at h
  · rintro ⟨pc, hpc, hok, h1, h2⟩
    exact ⟨pc, hpc, by simp [hok, List.mem_filter, h1, h2]⟩

theorem mkRule_ok {locale : Option Loc} {mb : Bool} {p : PathRule} {r : Rule} (h : mkRule locale mb p = .ok r) :
    r.l10n = p.l10n ∧ r.reference = p.reference ∧ r.merge = (if mb then some p.merge else none) ∧
    r.test = setOfList (optList p.test) := by
  unfold mkRule at h
  split at h
  · rename_i hmb
    split at h
    · simp at h
    · simp only [Except.ok.injEq] at h
      subst h
      simp [hmb]
  · rename_i hmb
    simp only [Except.ok.injEq] at h
    subst h
    simp [hmb]

theorem mkRules_mem_right {locale : Option Loc} {mb : Bool} : ∀ {ps : List PathRule} {rs : List Rule},
    mkRules locale mb ps = .ok rs → ∀ r ∈ rs, ∃ p ∈ ps, mkRule locale mb p = .ok r
  | [], rs, h, r, hr => by
    simp only [mkRules, Except.ok.injEq] at h
    subst h
    simp at hr
  | p :: ps, rs, h, r, hr => by
    unfold mkRules at h
    cases hr0 : mkRule locale mb p with
    | error e => simp [hr0] at h
    | ok r0 =>
      simp only [hr0] at h
      obtain ⟨rs', hrs, rfl⟩ := map_eq_ok h
      rcases List.mem_cons.1 hr with rfl | hr
      · exact ⟨p, List.mem_cons_self, hr0⟩
      · obtain ⟨q, hq, h⟩ := mkRules_mem_right hrs r hr
        exact ⟨q, List.mem_cons_of_mem _ hq, h⟩

theorem mkRules_mem_left {locale : Option Loc} {mb : Bool} : ∀ {ps : List PathRule} {rs : List Rule},
    mkRules locale mb ps = .ok rs → ∀ p ∈ ps, ∃ r ∈ rs, mkRule locale mb p = .ok r
  | [], rs, h, p, hp => by simp at hp
  | p0 :: ps, rs, h, p, hp => by
    unfold mkRules at h
    cases hr0 : mkRule locale mb p0 with
    | error e => simp [hr0] at h
    | ok r0 =>
      simp only [hr0] at h
      obtain ⟨rs', hrs, rfl⟩ := map_eq_ok h
      rcases List.mem_cons.1 hp with rfl | hp
      · exact ⟨r0, List.mem_cons_self, hr0⟩
      · obtain ⟨r, hr, h⟩ := mkRules_mem_left hrs p hp
        exact ⟨r, List.mem_cons_of_mem _ hr, h⟩

theorem build_succ {env : MEnv} {fuel : Nat} {locale : Option Loc} {projects : List Config} {mb : Bool} {pf : PF}
    (h : build env (fuel + 1) locale projects mb = .ok pf) :
    ∃ rs, mkRules locale mb (gated locale (collect locale projects).1) = .ok rs ∧
      pf.matchers = dedupSpec env rs.reverse ∧ pf.locale = locale ∧
      (pf.exclude = none ∨ ∃ ex, pf.exclude = some ex ∧ build env fuel locale (excludesOf locale projects) false = .ok ex) := by
  unfold build at h
  split at h
  · simp at h
  · rename_i exclude hex
    split at h
    · simp at h
    · rename_i ms hms
      split at h
      · simp at h
      · rename_i ms' hd
        simp only [Except.ok.injEq] at h
        subst h
        refine ⟨ms, hms, dedup_eq_spec hd, rfl, ?_⟩
        split at hex
        · simp only [Except.ok.injEq] at hex
          exact Or.inl hex.symm
        · obtain ⟨ex, hb, rfl⟩ := map_eq_ok hex
          exact Or.inr ⟨ex, rfl, hb⟩

theorem build_fuel_pos {env : MEnv} {fuel : Nat} {locale : Option Loc} {projects : List Config} {mb : Bool} {pf : PF}
    (h : build env fuel locale projects mb = .ok pf) : ∃ f, fuel = f + 1 := by
  cases fuel with
  | zero => simp [build] at h
  | succ f => exact ⟨f, rfl⟩

/-- a successful `build`, whatever the bound on the nesting of exclude lists was -/
theorem build_ok {env : MEnv} {fuel : Nat} {locale : Option Loc} {projects : List Config} {mb : Bool} {pf : PF}
    (h : build env fuel locale projects mb = .ok pf) :
    ∃ rs, mkRules locale mb (gated locale (collect locale projects).1) = .ok rs ∧
      pf.matchers = dedupSpec env rs.reverse ∧ pf.locale = locale := by
  obtain ⟨f, rfl⟩ := build_fuel_pos h
  obtain ⟨rs, h1, h2, h3, _⟩ := build_succ h
  exact ⟨rs, h1, h2, h3⟩

theorem mem_setOfList {x : Nat} {l : List Nat} : x ∈ setOfList l ↔ x ∈ l := by
  simp [setOfList, mem_setUnion]

theorem build_matcher_origin {env : MEnv} {fuel : Nat} {locale : Option Loc} {projects : List Config} {mb : Bool}
    {pf : PF} (h : build env fuel locale projects mb = .ok pf) {r : Rule} (hr : r ∈ pf.matchers) :
    ∃ project ∈ projects, enabledProject locale project ∧ ∃ pc ∈ project.configs, localeOk locale pc.locales = true ∧
      ∃ pr ∈ pc.paths, localeOk locale pr.locales = true ∧ r.l10n = pr.l10n ∧ r.reference = pr.reference ∧
        r.merge = (if mb then some pr.merge else none) ∧ (∀ t, pr.test = some t → ∀ x ∈ t, x ∈ r.test) := by
  obtain ⟨rs, hrs, hm, _⟩ := build_ok h
  rw [hm] at hr
  obtain ⟨r0, hr0, rest, _, rfl⟩ := specGo_sound hr
  obtain ⟨pr, hpr, hmk⟩ := mkRules_mem_right hrs r0 (List.mem_reverse.1 hr0)
  obtain ⟨pc, hpc, hok, hin, hok2⟩ := mem_gated.1 hpr
  obtain ⟨project, hproj, hen, hcfg⟩ := mem_collect hpc
  obtain ⟨h1, h2, h3, h4⟩ := mkRule_ok hmk
  refine ⟨project, hproj, hen, pc, hcfg, hok, pr, hin, hok2, h1, h2, h3, ?_⟩
  intro t ht x hx
  show x ∈ mergedTests env r0 rest
  unfold mergedTests
  rw [mem_mergedFrom]
  left
  rw [h4, mem_setOfList, ht]
  exact hx

theorem build_kept {env : MEnv} {fuel : Nat} {locale : Option Loc} {projects : List Config} {mb : Bool} {pf : PF}
    (h : build env fuel locale projects mb = .ok pf) {pr : PathRule} (hpr : pr ∈ gated locale (collect locale projects).1) :
    pf.locale = locale ∧ ∃ r ∈ pf.matchers,
      (env.realpfx r.l10n, env.pat r.l10n) = (env.realpfx pr.l10n, env.pat pr.l10n) := by
  obtain ⟨rs, hrs, hms, hl⟩ := build_ok h
  obtain ⟨r0, hr0, hmk⟩ := mkRules_mem_left hrs pr hpr
  obtain ⟨e1, _, _, _⟩ := mkRule_ok hmk
  obtain ⟨r', hr', hk⟩ := specGo_covers (env := env) (K := []) (List.mem_reverse.2 hr0) (by simp)
  refine ⟨hl, r', hms ▸ hr', ?_⟩
  have : keyOf env r' = keyOf env r0 := hk
  unfold keyOf at this
  rw [this, e1]

end PF
