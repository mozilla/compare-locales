/- C02: concrete members of the document classes (non-vacuity of the whole-file theorems).  Every document has a
   garbage line directly in front of a comment whose text is itself a complete record of the format. -/
import CLModel.Proofs.C02PGarbage
import CLModel.Proofs.C02PIni
import CLModel.Proofs.C02PPoG
import CLModel.Proofs.C02PDtd
import CLModel.Proofs.C02PInc
namespace C02P
open P

/-- `a=b⏎garbage⏎#x=y⏎c=d⏎junk⏎` -/
def propsGDemo : List PGBlock :=
  [⟨none, .record { comment := [], cgap := [], key := ⟨97, [], [], 61, []⟩, lines := [], last := ⟨[98], 0⟩, gap := [10] }⟩,
   ⟨some ([103, 97, 114, 98, 97, 103, 101], [10]),
    .record { comment := [(35, [120, 61, 121])], cgap := [10], key := ⟨99, [], [], 61, []⟩, lines := [], last := ⟨[100], 0⟩,
              gap := [10] }⟩]
def propsGTail : Option (List Nat × List Nat) := some ([106, 117, 110, 107], [10])

theorem pgarbage_demo1 : PGarbage [103, 97, 114, 98, 97, 103, 101] [10] :=
  ⟨⟨by simp, by decide, by decide⟩, ⟨[], rfl, by simp⟩⟩
theorem pgarbage_demo2 : PGarbage [106, 117, 110, 107] [10] :=
  ⟨⟨by simp, by decide, by decide⟩, ⟨[], rfl, by simp⟩⟩

theorem propsGDemo_good : ∀ x ∈ propsGDemo, x.Good' := by
  intro x hx
  simp only [propsGDemo, List.mem_cons, List.not_mem_nil, or_false] at hx
  rcases hx with rfl | rfl
  · refine ⟨?_, by intro g gap h; cases h⟩
    exact { comment := by simp, nobreak := by simp, cgap_nil := by simp, cgap := by simp,
            key := { k0 := by decide, kt := by simp, b1 := by simp, sep := Or.inl rfl, b2 := by simp },
            lines := by simp, last := ⟨by decide, by decide⟩, last_even := by decide, val_head := by decide,
            val_last := by decide, gap := ⟨[], rfl, by simp⟩ }
  · refine ⟨?_, by intro g gap h; cases h; exact pgarbage_demo1⟩
    exact { comment := by intro l hl; simp at hl; subst hl; exact ⟨by decide, by decide⟩,
            nobreak := by intro l hl; simp at hl; subst hl; intro c hc; revert c; decide,
            cgap_nil := by simp, cgap := fun _ => ⟨[], rfl, by simp⟩,
            key := { k0 := by decide, kt := by simp, b1 := by simp, sep := Or.inl rfl, b2 := by simp },
            lines := by simp, last := ⟨by decide, by decide⟩, last_even := by decide, val_head := by decide,
            val_last := by decide, gap := ⟨[], rfl, by simp⟩ }

theorem propsGDemo_lic : ∀ x r, propsGDemo.head? = some x → x.junk = none → x.b = .record r → r.NoLicense 0 := by
  intro x r hx _ hb _
  simp only [propsGDemo, List.head?_cons, Option.some.injEq] at hx
  subst hx
  simp only [PBlock.record.injEq] at hb
  subst hb
  decide

theorem propsGTail_ok : ∀ g gap, propsGTail = some (g, gap) → PGarbage g gap := by
  intro g gap h; simp only [propsGTail, Option.some.injEq, Prod.mk.injEq] at h
  obtain ⟨rfl, rfl⟩ := h; exact pgarbage_demo2

/-- `; c⏎[S]⏎a=b⏎oops⏎; k=v⏎x=y⏎` -/
def iniDemo : List (GB IBlock) :=
  [⟨none, .section [(59, [32, 99])] [83] [10]⟩,
   ⟨none, .record [] [] ([97], [98]) [10]⟩,
   ⟨some ([111, 111, 112, 115], [10]), .record [(59, [32, 107, 61, 118])] [10] ([120], [121]) [10]⟩]

theorem igap_nl : IGap [10] := ⟨by decide, rfl, rfl⟩

theorem iniDemo_good : ∀ x ∈ iniDemo, x.b.Good' ∧ ∀ g gap, x.junk = some (g, gap) → IGarbage g gap := by
  intro x hx
  simp only [iniDemo, List.mem_cons, List.not_mem_nil, or_false] at hx
  rcases hx with rfl | rfl | rfl
  · refine ⟨⟨?_, by decide, igap_nl⟩, by intro g gap h; cases h⟩
    intro l hl; simp at hl; subst hl; exact ⟨by decide, by decide⟩
  · refine ⟨⟨by simp, by simp, by simp, ⟨by simp, by decide, by decide, by decide⟩, igap_nl⟩, by intro g gap h; cases h⟩
  · refine ⟨⟨?_, by simp, fun _ => ⟨[], rfl, by simp⟩, ⟨by simp, by decide, by decide, by decide⟩, igap_nl⟩, ?_⟩
    · intro l hl; simp at hl; subst hl; exact ⟨⟨by decide, by decide⟩, by intro c hc; revert c; decide⟩
    · intro g gap h; cases h
      exact ⟨by simp, by decide, by decide, by simp, by decide⟩

theorem iniDemo_lic : ∀ x, iniDemo.head? = some x → x.junk = none → x.b.NoLicense 0 := by
  intro x hx _
  simp only [iniDemo, List.head?_cons, Option.some.injEq] at hx
  subst hx; trivial

/-- `msgid "a"⏎msgstr "b"⏎⏎junk⏎#| msgid "old"⏎msgid "c"⏎msgstr "d"⏎` -/
def poGDemo : List (GB PoBlock) :=
  [⟨none, .record { comment := [], cgap := [], ctxt := none, msgid := [⟨[32], [.plain 97]⟩], sep := [10],
                    msgstr := [⟨[32], [.plain 98]⟩], gap := [10, 10] }⟩,
   ⟨some ([106, 117, 110, 107], [10]),
    .record { comment := [[124, 32, 109, 115, 103, 105, 100, 32, 34, 111, 108, 100, 34]], cgap := [], ctxt := none,
              msgid := [⟨[32], [.plain 99]⟩], sep := [10], msgstr := [⟨[32], [.plain 100]⟩], gap := [10] }⟩]

theorem poGDemo_good : ∀ x ∈ poGDemo, x.b.Good' ∧ ∀ g gap, x.junk = some (g, gap) → PoGarbage g gap := by
  intro x hx
  simp only [poGDemo, List.mem_cons, List.not_mem_nil, or_false] at hx
  have frag : ∀ (c : Nat) (hc : (PoTok.plain c).wf = true) (f : PoFrag), f ∈ [(⟨[32], [.plain c]⟩ : PoFrag)] → f.Good := by
    intro c hc f hf
    simp only [List.mem_cons, List.not_mem_nil, or_false] at hf
    subst hf
    exact ⟨by intro c' hc'; simp at hc'; subst hc'; decide, by intro t ht; simp at ht; subst ht; exact hc⟩
  rcases hx with rfl | rfl
  · refine ⟨?_, by intro g gap h; cases h⟩
    exact { comment := by simp, cgap := by simp, cgap_nl := by decide, cgap_nil := by simp,
            ctxt := (by intro fs w h; cases h), msgid_ne := by simp, msgid := frag 97 (by decide), sep := by decide,
            msgstr_ne := by simp, msgstr := frag 98 (by decide), gap := by decide }
  · refine ⟨?_, ?_⟩
    · exact { comment := by decide, cgap := by simp, cgap_nl := by decide, cgap_nil := by simp,
              ctxt := (by intro fs w h; cases h), msgid_ne := by simp, msgid := frag 99 (by decide), sep := by decide,
              msgstr_ne := by simp, msgstr := frag 100 (by decide), gap := by decide }
    · intro g gap h; cases h
      exact ⟨by simp, by decide, by decide, by simp, by decide⟩

theorem poGDemo_lic : ∀ x r, poGDemo.head? = some x → x.junk = none → x.b = .record r → r.NoLicense 0 := by
  intro x r hx _ hb _
  simp only [poGDemo, List.head?_cons, Option.some.injEq] at hx
  subst hx
  simp only [PoBlock.record.injEq] at hb
  subst hb
  decide

def du (s : List Nat) : List DUnit := s.map (fun c => ⟨false, c⟩)

/-- behind a byte-order mark: `<!-- c --><!ENTITY a 'b'>⏎junk⏎<!-- <!ENTITY o "v"> -->⏎<!ENTITY k "v">⏎<!ENTITY % n SYSTEM "u"> %n;⏎` -/
def dtdDemo : List (GB DBlock) :=
  [⟨none, .entity (some (du [32, 99, 32])) [] ⟨[32], 97, [], [32], 39, [98], []⟩ [10]⟩,
   ⟨some ([106, 117, 110, 107], [10]),
    .entity (some (du [32, 60, 33, 69, 78, 84, 73, 84, 89, 32, 111, 32, 34, 118, 34, 62, 32])) [10]
      ⟨[32], 107, [], [32], 34, [118], []⟩ [10]⟩,
   ⟨none, .pe ⟨[32], [32], 110, [], [32], [32], 34, [117], [], [32], 110, [], []⟩ []⟩]

theorem dtdDemo_good : ∀ x ∈ dtdDemo, x.b.Good' ∧ ∀ g gap, x.junk = some (g, gap) → DGarbage g gap ∧ x.b.JOk := by
  intro x hx
  simp only [dtdDemo, List.mem_cons, List.not_mem_nil, or_false] at hx
  rcases hx with rfl | rfl | rfl
  · refine ⟨⟨?_, by simp, by simp, by decide, ?_, by decide⟩, by intro g gap h; cases h⟩
    · intro us hus; cases hus; decide
    · exact { w1_ne := by simp, w1 := by decide, n0 := by decide, nt := by simp, w2_ne := by simp, w2 := by decide,
              q := Or.inr rfl, value := by decide, w3 := by simp }
  · refine ⟨⟨?_, by simp, by decide, by decide, ?_, by decide⟩, ?_⟩
    · intro us hus; cases hus; decide
    · exact { w1_ne := by simp, w1 := by decide, n0 := by decide, nt := by simp, w2_ne := by simp, w2 := by decide,
              q := Or.inl rfl, value := by decide, w3 := by simp }
    · intro g gap h; cases h
      exact ⟨⟨by simp, by decide, by decide, by simp, by decide⟩, trivial⟩
  · refine ⟨⟨?_, by simp⟩, by intro g gap h; cases h⟩
    exact { w1_ne := by simp, w1 := by decide, w2_ne := by simp, w2 := by decide, n0 := by decide, nt := by simp,
            w3_ne := by simp, w3 := by decide, w4_ne := by simp, w4 := by decide, q := Or.inl rfl, url := by decide,
            w5 := by simp, w6 := by decide, m0 := by decide, mt := by simp, b := by simp }

theorem dtdDemo_lic : ∀ x, dtdDemo.head? = some x → x.junk = none → x.b.NoLicense (if true then 1 else 0) := by
  intro x hx _
  simp only [dtdDemo, List.head?_cons, Option.some.injEq] at hx
  subst hx
  intro _; decide

/-- `#filter emptyLines⏎⏎# c⏎#define A b⏎junk⏎# #define O v⏎#define B⏎#unfilter emptyLines⏎` -/
def incDemo : List (GB NBlock) :=
  [⟨none, .instr [102, 105, 108, 116, 101, 114] 1 [101, 109, 112, 116, 121, 76, 105, 110, 101, 115] [10, 10]⟩,
   ⟨none, .define [[99]] ([65], [98]) [10]⟩,
   ⟨some ([106, 117, 110, 107], [10]), .define [[35, 100, 101, 102, 105, 110, 101, 32, 79, 32, 118]] ([66], []) [10]⟩,
   ⟨none, .instr [117, 110, 102, 105, 108, 116, 101, 114] 1 [101, 109, 112, 116, 121, 76, 105, 110, 101, 115] [10]⟩]

theorem ngap1 : NGap [10] := ⟨by simp, by decide⟩

theorem incDemo_good : NGoodAll false incDemo := by
  have ig : ∀ w, w = [102, 105, 108, 116, 101, 114] ∨ w = [117, 110, 102, 105, 108, 116, 101, 114] →
      InstrGood w 1 [101, 109, 112, 116, 121, 76, 105, 110, 101, 115] := by
    intro w hw
    rcases hw with rfl | rfl <;>
      exact ⟨by simp, by decide, by decide, by decide, by simp, by decide, by decide⟩
  unfold incDemo
  simp only [NGoodAll]
  refine ⟨?_, (by intro g gap h; cases h), ?_, (by intro g gap h; cases h), ?_, ?_, ?_, (by intro g gap h; cases h), trivial⟩
  · exact ⟨ig _ (Or.inl rfl), ⟨by simp, by decide⟩, Or.inr (by decide)⟩
  · exact ⟨by decide, ⟨by simp, by decide, by decide⟩, ngap1, Or.inl rfl⟩
  · exact ⟨by decide, ⟨by simp, by decide, by decide⟩, ngap1, Or.inl rfl⟩
  · intro g gap h; cases h
    exact ⟨by simp, by decide, ngap1⟩
  · exact ⟨ig _ (Or.inr rfl), ngap1, Or.inl rfl⟩

end C02P
