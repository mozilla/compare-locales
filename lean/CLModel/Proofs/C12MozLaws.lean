/- The lexer `mozLex` and the glob relation `TokM` on the three pattern shapes of the `mozpath.match` laws of Props/C12:
   a text without "*" (`mozLex_plain`, `tokM_chars`), one star (`mozLex_star`), one "/**/" (`mozLex_dirs`). -/
import CLModel.Proofs.C12MozSem
import CLModel.Proofs.C11Witness
namespace C12M
open PM

theorem local_none (b : Bool) (c : Nat) (r : Text) (h1 : c ≠ 42) (h2 : c ≠ 47 ∨ [42, 42].isPrefixOf r = false) :
    mozLocal b (c :: r) = none := by
  cases hk : mozLocal b (c :: r) with
  | none => rfl
  | some k =>
    -- what is found begins with "*", or with "/**"
    obtain ⟨t, ht⟩ := local_prefix hk
    have hstar : ∀ x, 42 :: x = c :: r → False := fun x e => h1 (List.head_eq_of_cons_eq e).symm
    have hslash : ∀ x, 47 :: 42 :: 42 :: x = c :: r → False := by
      intro x e
      obtain ⟨rfl, rfl⟩ := List.cons.inj e
      simp [List.isPrefixOf] at h2
    cases k with
    | slashDirs => exact (hslash _ ht).elim
    | below => exact (hslash _ ht).elim
    | startDirs => exact (hstar _ ht).elim
    | all => exact (hstar _ ht).elim
    | star => exact (hstar _ ht).elim

theorem lex_chars : ∀ (A R : Text) (f : Nat) (b : Bool), (A ++ R).length ≤ f → 42 ∉ A →
    (A.getLast? ≠ some 47 ∨ [42, 42].isPrefixOf R = false) →
    mozLexF f b (A ++ R) = A.map MTok.chr ++ mozLexF (f - A.length) (b && A.isEmpty) R
  | [], R, f, b, _, _, _ => by simp
  | c :: A, R, 0, b, hf, _, _ => by simp at hf
  | c :: A, R, f + 1, b, hf, hA, hend => by
    have hc : c ≠ 42 := fun e => hA (by simp [e])
    have hnone : mozLocal b (c :: (A ++ R)) = none := by
      apply local_none b c _ hc
      by_cases h47 : c = 47
      · right
        cases A with
        | nil =>
          simp only [List.nil_append]
          rcases hend with h | h
          · simp [h47] at h
          · exact h
        | cons d A' =>
          have : ¬ 42 = d := fun e => hA (by simp [e])
          simp [List.isPrefixOf, this]
      · left; exact h47
    simp only [List.cons_append, mozLexF, hnone, List.map_cons]
    have ih := lex_chars A R f false (by simpa using hf) (fun e => hA (by simp [e])) (by
      rcases hend with h | h
      · cases A with
        | nil => left; simp
        | cons d A' => left; simpa [List.getLast?_cons_cons] using h
      · right; exact h)
    rw [ih]
    simp

theorem mozLexF_nil (f : Nat) (b : Bool) : mozLexF f b [] = [] := by cases f <;> rfl

theorem mozLex_plain {t : Text} (h : 42 ∉ t) : mozLex t = t.map MTok.chr := by
  have := lex_chars t [] t.length true (by simp) h (Or.inr (by simp [List.isPrefixOf]))
  simp only [List.append_nil] at this
  unfold mozLex
  rw [this, mozLexF_nil]; simp

theorem tokM_chars : ∀ (t pre : Text) (ts : List MTok) , TokM (t.map MTok.chr ++ ts) pre ↔ ∃ v, pre = t ++ v ∧ TokM ts v
  | [], pre, ts => by simp
  | c :: t, pre, ts => by
    simp only [List.map_cons, List.cons_append]
    constructor
    · intro h
      cases h with
      | chr h' =>
        obtain ⟨v, rfl, hv⟩ := (tokM_chars t _ ts).mp h'
        exact ⟨v, rfl, hv⟩
    · rintro ⟨v, rfl, hv⟩
      exact TokM.chr ((tokM_chars t _ ts).mpr ⟨v, rfl, hv⟩)

theorem tokM_nil (pre : Text) : TokM [] pre ↔ pre = [] := by
  constructor
  · intro h; cases h; rfl
  · rintro rfl; exact TokM.nil

theorem mozLex_star {A B : Text} (hA : 42 ∉ A) (hB : 42 ∉ B) :
    mozLex (A ++ 42 :: B) = A.map MTok.chr ++ MTok.star :: B.map MTok.chr := by
  unfold mozLex
  have hB0 : [42, 42].isPrefixOf (42 :: B) = false := by
    cases B with
    | nil => simp [List.isPrefixOf]
    | cons d B' =>
      have : ¬ 42 = d := fun e => hB (by simp [e])
      simp [List.isPrefixOf, this]
  rw [lex_chars A (42 :: B) _ true (Nat.le_refl _) hA (Or.inr hB0)]
  congr 1
  have hlen : (A ++ 42 :: B).length - A.length = B.length + 1 := by simp
  rw [hlen]
  have hloc : ∀ b, mozLocal b (42 :: B) = some Kind.star := by
    intro b
    cases B with
    | nil => cases b <;> simp [mozLocal, List.isPrefixOf, endHere]
    | cons d B' =>
      have : ¬ 42 = d := fun e => hB (by simp [e])
      cases b <;> simp [mozLocal, List.isPrefixOf, endHere, this]
  simp only [mozLexF, hloc, Kind.toks, Kind.len, List.drop_succ_cons, List.drop_zero, List.singleton_append]
  congr 1
  have := lex_chars B [] B.length false (by simp) hB (Or.inr (by simp [List.isPrefixOf]))
  simp only [List.append_nil] at this
  rw [this, mozLexF_nil]; simp

theorem mozLex_dirs {A B : Text} (hA : 42 ∉ A) (hB : 42 ∉ B) :
    mozLex (A ++ 47 :: 42 :: 42 :: 47 :: B) = A.map MTok.chr ++ MTok.chr 47 :: MTok.dirs :: B.map MTok.chr := by
  unfold mozLex
  rw [lex_chars A (47 :: 42 :: 42 :: 47 :: B) _ true (Nat.le_refl _) hA (Or.inr (by simp [List.isPrefixOf]))]
  congr 1
  have hlen : (A ++ 47 :: 42 :: 42 :: 47 :: B).length - A.length = B.length + 3 + 1 := by simp
  rw [hlen]
  have hloc : ∀ b, mozLocal b (47 :: 42 :: 42 :: 47 :: B) = some Kind.slashDirs := by
    intro b; simp [mozLocal, List.isPrefixOf]
  simp only [mozLexF, hloc, Kind.toks, Kind.len, List.drop_succ_cons, List.drop_zero, List.cons_append, List.nil_append]
  congr 2
  have := lex_chars B [] (B.length + 3) false (by simp) hB (Or.inr (by simp [List.isPrefixOf]))
  simp only [List.append_nil] at this
  rw [this, mozLexF_nil]; simp

theorem tokM_chars_end (t pre : Text) : TokM (t.map MTok.chr) pre ↔ pre = t := by
  have := tokM_chars t pre []
  simp only [List.append_nil] at this
  rw [this]
  constructor
  · rintro ⟨v, rfl, hv⟩
    rw [tokM_nil] at hv; subst hv; simp
  · rintro rfl; exact ⟨[], by simp, TokM.nil⟩

/-- `mozpath.match(path, pattern)` on string literals (proof files only): `none` = it raised -/
def mozOutcome (path pat : String) : Option Bool :=
  match mozMatch (T path) (T pat) with
  | .ok b => some b
  | .error _ => none
end C12M
