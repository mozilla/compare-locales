/-
C03: the job sequences of CLModel/Compare/Session.lean.  To the observers a job is a history of events (`ObsM.Ev`) on the job's
own files (`Tr l l' evs`), and every event adds to the counters of ITS file's locale only (`ObsM.list_run_counts`, C10).
The functions of the session model are inverted for two runs from lists of the same configuration (`Same`): the same
values through the same events, of a stated shape (`ObsM.Sim P`).  What one run alone does (`notifyDups_tr`, `foldE_tr`,
`runJob_tr`) is the case `b = a`.
-/
import CLModel.Compare.Session
import CLModel.Proofs.PipePlanFacts
namespace C03S
open ObsM Sess

def Tr (l l' : ObsList) (evs : List Ev) : Prop := l.run evs = .ok l'

theorem Tr.refl (l : ObsList) : Tr l l [] := rfl

theorem Tr.trans {a b c : ObsList} {e1 e2 : List Ev} (h1 : Tr a b e1) (h2 : Tr b c e2) : Tr a c (e1 ++ e2) :=
  ObsList.run_trans h1 h2

theorem tell_tr {l l' : ObsList} {c : Cat} {f : File} {d : Data} {rv : Ret} (h : tell l c f d = .ok (l', rv)) :
    Tr l l' [.notify c f d] ∧ l.notify c f d = .ok (l', rv) := by
  unfold tell at h
  cases hn : l.notify c f d with
  | error e => rw [hn] at h; cases h
  | ok r =>
    rw [hn] at h
    simp only [Except.ok.injEq] at h
    subst h
    exact ⟨ObsList.notify_run hn, rfl⟩

theorem push_tr (l : ObsList) (f : File) (st : List (StatKey × Nat)) : Tr l (l.updateStats f st) [.stats f st] :=
  ObsList.stats_run l f st

def NotifyOn (file : File) (evs : List Ev) : Prop := ∀ ev ∈ evs, ∃ c d, ev = .notify c file d

theorem NotifyOn.nil (file : File) : NotifyOn file [] := by intro ev h; cases h

theorem NotifyOn.single (file : File) (c : Cat) (d : Data) : NotifyOn file [.notify c file d] := by
  intro ev h
  simp only [List.mem_singleton] at h
  exact ⟨c, d, h⟩

theorem NotifyOn.append {file : File} {a b : List Ev} (ha : NotifyOn file a) (hb : NotifyOn file b) : NotifyOn file (a ++ b) := by
  intro ev h
  rcases List.mem_append.1 h with h | h
  · exact ha ev h
  · exact hb ev h

theorem pipe_notify_eq (env : Pipe.Env) (l : ObsList) (c : Cat) (d : Data) : Pipe.notify env l c d = tell l c env.file d := rfl

/-- the files a job reports about -/
def jobFiles : Job → List File
  | .compare ref l10n _ _ => [ref, l10n]
  | .add orig missing _ _ => [orig, missing]
  | .remove _ l10n _ => [l10n]

def On (fs : List File) (evs : List Ev) : Prop := ∀ ev ∈ evs, ev.file ∈ fs

theorem NotifyOn.on {file : File} {evs : List Ev} {fs : List File} (h : NotifyOn file evs) (hf : file ∈ fs) : On fs evs := by
  intro ev hev
  obtain ⟨c, d, rfl⟩ := h ev hev
  exact hf

theorem On.append {fs : List File} {a b : List Ev} (ha : On fs a) (hb : On fs b) : On fs (a ++ b) := by
  intro ev h
  rcases List.mem_append.1 h with h | h
  · exact ha ev h
  · exact hb ev h

theorem On.single {fs : List File} {ev : Ev} (h : ev.file ∈ fs) : On fs [ev] := by
  intro e he
  simp only [List.mem_singleton] at he
  subst he; exact h

theorem On.nil (fs : List File) : On fs [] := by intro ev h; cases h

def toV : Ret → Cmp.Verdict
  | .error => .error
  | .warning => .warning
  | .ignore => .ignore

/-- what `ObserverList.notify("missingEntity" | "obsoleteEntity", file, key)` returns, given the project observers' filters -/
def verdictOf (F : List (Option Filter)) (file : File) (k : Cmp.Key) : Cmp.Verdict :=
  toV (listRet (F.map (fun flt => rvOf flt .missingEntity file (Pipe.keyData k))))

theorem rvOf_obsolete (flt : Option Filter) (f : File) (d : Data) : rvOf flt .obsoleteEntity f d = rvOf flt .missingEntity f d := by
  cases flt <;> rfl

theorem lookup_cmp {es : List Cmp.Ent} {k : Cmp.Key} {e : Cmp.Ent} (h : lookup es k = .ok e) : Cmp.lookup es k = .ok e := by
  unfold lookup at h
  unfold Cmp.lookup
  cases hi : AR.keyedIndex (es.map (·.key)) k with
  | none => rw [hi] at h; cases h
  | some i =>
    rw [hi] at h
    simp only at h ⊢
    cases he : es[i]? with
    | none => rw [he] at h; cases h
    | some x => rw [he] at h; simpa using h

/-- the same configuration (filters of the project observers and of the list's own observer): what `ContentComparer()` +
    `observers.append(Observer(filter=…))` fixes, whatever the two lists have accumulated -/
def Same (a b : ObsList) : Prop := a.filters = b.filters ∧ a.own.filter = b.own.filter

theorem Same.refl (a : ObsList) : Same a a := ⟨rfl, rfl⟩

theorem Same.symm {a b : ObsList} (h : Same a b) : Same b a := ⟨h.1.symm, h.2.symm⟩

theorem Same.trans {a b c : ObsList} (h1 : Same a b) (h2 : Same b c) : Same a c := ⟨h1.1.trans h2.1, h1.2.trans h2.2⟩

theorem tr_same (evs : List Ev) {l l' : ObsList} (h : Tr l l' evs) : Same l l' :=
  ⟨(ObsList.run_filters evs h).1.symm, (ObsList.run_filters evs h).2.symm⟩

theorem _root_.ObsM.Sim.append {file : File} {a a' a'' b b' b'' : ObsList} (h1 : Sim (NotifyOn file) a a' b b')
    (h2 : Sim (NotifyOn file) a' a'' b' b'') : Sim (NotifyOn file) a a'' b b'' :=
  h1.trans h2 (fun _ _ => NotifyOn.append)

theorem _root_.ObsM.Sim.appendOn {fs : List File} {a a' a'' b b' b'' : ObsList} (h1 : Sim (On fs) a a' b b')
    (h2 : Sim (On fs) a' a'' b' b'') : Sim (On fs) a a'' b b'' :=
  h1.trans h2 (fun _ _ => On.append)

theorem _root_.ObsM.Sim.same {P : List Ev → Prop} {a a' b b' : ObsList} (h : Sim P a a' b b') (hab : Same a b) : Same a' b' := by
  obtain ⟨evs, _, t, u⟩ := h
  exact ((tr_same evs t).symm.trans hab).trans (tr_same evs u)

theorem tell_rv {l l' : ObsList} {c : Cat} {f : File} {d : Data} {rv : Ret} (h : tell l c f d = .ok (l', rv)) :
    rv = verdict l.filters c f d := ObsList.notify_rv (tell_tr h).2

theorem tell_sim {a b a' b' : ObsList} {c : Cat} {f : File} {d : Data} {r1 r2 : Ret} (hab : Same a b)
    (h1 : tell a c f d = .ok (a', r1)) (h2 : tell b c f d = .ok (b', r2)) : r1 = r2 ∧ Sim (NotifyOn f) a a' b b' :=
  ⟨by rw [tell_rv h1, tell_rv h2, hab.1], [.notify c f d], NotifyOn.single f c d, (tell_tr h1).1, (tell_tr h2).1⟩

theorem push_sim (a b : ObsList) (f : File) (st : List (StatKey × Nat)) :
    Sim (· = [.stats f st]) a (a.updateStats f st) b (b.updateStats f st) :=
  ⟨_, rfl, push_tr a f st, push_tr b f st⟩

/-- two runs of "notify, then go on with the new list and the answer": the answers agree, and so does the notification -/
theorem tell_then_sim {β : Type} {a b : ObsList} (hab : Same a b) {c : Cat} {f : File} {d : Data}
    {F G : ObsList → Ret → Except E β} {x y : β}
    (h1 : (match tell a c f d with | .error e => (.error e : Except E β) | .ok (l', rv) => F l' rv) = .ok x)
    (h2 : (match tell b c f d with | .error e => (.error e : Except E β) | .ok (l', rv) => G l' rv) = .ok y) :
    ∃ a1 b1 rv, Sim (NotifyOn f) a a1 b b1 ∧ rv = verdict a.filters c f d ∧ F a1 rv = .ok x ∧ G b1 rv = .ok y := by
  cases ht1 : tell a c f d with
  | error e => rw [ht1] at h1; cases h1
  | ok r1 =>
    cases ht2 : tell b c f d with
    | error e => rw [ht2] at h2; cases h2
    | ok r2 =>
      obtain ⟨a1, rv1⟩ := r1
      obtain ⟨b1, rv2⟩ := r2
      rw [ht1] at h1
      rw [ht2] at h2
      obtain ⟨hrv, s⟩ := tell_sim hab ht1 ht2
      subst hrv
      exact ⟨a1, b1, rv1, s, tell_rv ht1, h1, h2⟩

theorem checkLoop_sim (file : File) : ∀ (cs : List (Bool × Text)) {a b a' b' : ObsList}, Same a b →
    checkLoop file cs a = .ok a' → checkLoop file cs b = .ok b' → Sim (NotifyOn file) a a' b b'
  | [], a, b, a', b', hab, h1, h2 => by
    simp only [checkLoop, Except.ok.injEq] at h1 h2
    subst h1; subst h2
    exact Sim.refl (NotifyOn.nil _) _ _
  | (isErr, t) :: rest, a, b, a', b', hab, h1, h2 => by
    obtain ⟨a1, b1, _, s, _, h1, h2⟩ := tell_then_sim hab h1 h2
    exact s.append (checkLoop_sim file rest (s.same hab) h1 h2)

theorem notifyDups_sim (file : File) (cat : Cat) : ∀ (ds : List (Cmp.Key × Nat)) {a b a' b' : ObsList}, Same a b →
    notifyDups file cat ds a = .ok a' → notifyDups file cat ds b = .ok b' → Sim (NotifyOn file) a a' b b'
  | [], a, b, a', b', hab, h1, h2 => by
    simp only [notifyDups, Except.ok.injEq] at h1 h2
    subst h1; subst h2
    exact Sim.refl (NotifyOn.nil _) _ _
  | (k, n) :: rest, a, b, a', b', hab, h1, h2 => by
    obtain ⟨a1, b1, _, s, _, h1, h2⟩ := tell_then_sim hab h1 h2
    exact s.append (notifyDups_sim file cat rest (s.same hab) h1 h2)

/-- One iteration of the loop in two runs: the same stats through the same events.  The third conjunct speaks of the first run
    alone — its stats are those of the pure loop `Cmp.step` under the verdicts the filters give — and stands here because it is
    read off the same case analysis; `C03S.foldE_refines` uses it at `b = a`. -/
theorem stepEnt_sim (file : File) (j : EntJob) (p : AR.Label × Cmp.Key) {a b a' b' : ObsList} {s s1 s2 : Cmp.Stats}
    (hab : Same a b) (h1 : stepEnt file j (a, s) p = .ok (a', s1)) (h2 : stepEnt file j (b, s) p = .ok (b', s2)) :
    s1 = s2 ∧ Sim (NotifyOn file) a a' b b' ∧
      ∀ notes, ∃ notes', Cmp.step j.ref j.l10n (verdictOf a.filters file) ⟨s, notes⟩ p = .ok ⟨s1, notes'⟩ := by
  obtain ⟨lab, k⟩ := p
  cases lab with
  | delete =>
    simp only [stepEnt] at h1 h2
    cases hr : lookup j.ref k with
    | error e => rw [hr] at h1; cases h1
    | ok refent =>
      rw [hr] at h1 h2
      simp only at h1 h2
      simp only [Cmp.step, lookup_cmp hr, bind, Except.bind, pure, Except.pure]
      by_cases hj : refent.junk = true
      · simp only [hj, ↓reduceIte] at h1 h2
        obtain ⟨a1, b1, _, hs, _, h1, h2⟩ := tell_then_sim hab h1 h2
        cases h1; cases h2
        exact ⟨rfl, hs, fun notes => ⟨notes ++ [Cmp.Note.warning Cmp.Msg.refJunk], by simp [hj, Cmp.notifyMsg]⟩⟩
      · simp only [hj, Bool.false_eq_true, ↓reduceIte] at h1 h2
        obtain ⟨a1, b1, rv1, hs, hrv, h1, h2⟩ := tell_then_sim hab h1 h2
        have hv : verdictOf a.filters file k = toV rv1 := by rw [hrv]; rfl
        simp only [hj, Bool.false_eq_true, if_false, Cmp.notifyEntity, hv]
        cases rv1 <;> simp only [toV, Except.ok.injEq, Prod.mk.injEq] at h1 h2 ⊢ <;>
          (obtain ⟨rfl, rfl⟩ := h1; obtain ⟨rfl, rfl⟩ := h2; exact ⟨rfl, hs, fun _ => ⟨_, rfl⟩⟩)
  | add =>
    simp only [stepEnt] at h1 h2
    cases hr : lookup j.l10n k with
    | error e => rw [hr] at h1; cases h1
    | ok l10nent =>
      rw [hr] at h1 h2
      simp only at h1 h2
      simp only [Cmp.step, lookup_cmp hr, bind, Except.bind, pure, Except.pure]
      by_cases hj : l10nent.junk = true
      · simp only [hj, ↓reduceIte] at h1 h2
        cases hm : j.msgs[l10nent.msg]? with
        | none => rw [hm] at h1; cases h1
        | some msg =>
          rw [hm] at h1 h2
          simp only at h1 h2
          obtain ⟨a1, b1, _, hs, _, h1, h2⟩ := tell_then_sim hab h1 h2
          cases h1; cases h2
          exact ⟨rfl, hs, fun notes => ⟨notes ++ [Cmp.Note.error (Cmp.Msg.junk l10nent.msg)], by simp [hj, Cmp.notifyMsg]⟩⟩
      · simp only [hj, Bool.false_eq_true, ↓reduceIte] at h1 h2
        obtain ⟨a1, b1, rv1, hs, hrv, h1, h2⟩ := tell_then_sim hab h1 h2
        have hv : verdictOf a.filters file k = toV rv1 := by
          rw [hrv]; unfold verdictOf verdict; simp only [rvOf_obsolete]
        simp only [hj, Bool.false_eq_true, if_false, Cmp.notifyEntity, hv]
        cases rv1 <;> simp only [toV] at h1 h2 ⊢ <;>
          simp +decide only [if_true, if_false, Except.ok.injEq, Prod.mk.injEq] at h1 h2 ⊢ <;>
          (obtain ⟨rfl, rfl⟩ := h1; obtain ⟨rfl, rfl⟩ := h2; exact ⟨rfl, hs, fun _ => ⟨_, rfl⟩⟩)
  | equal =>
    simp only [stepEnt] at h1 h2
    cases hr : lookup j.ref k with
    | error e => rw [hr] at h1; cases h1
    | ok refent =>
      cases hl : lookup j.l10n k with
      | error e => rw [hr, hl] at h1; cases h1
      | ok l10nent =>
        rw [hr, hl] at h1 h2
        simp only at h1 h2
        simp only [Cmp.step, lookup_cmp hr, lookup_cmp hl, bind, Except.bind, pure, Except.pure]
        split at h1
        · cases h1
        · rename_i st' hst
          rw [hst] at h2
          simp only at h2
          split at h1
          · cases h1
          split at h2
          · cases h2
          rename_i _ a1 hc1 _ b1 hc2
          simp only [Except.ok.injEq, Prod.mk.injEq] at h1 h2
          obtain ⟨rfl, rfl⟩ := h1
          obtain ⟨rfl, rfl⟩ := h2
          refine ⟨rfl, checkLoop_sim file _ hab hc1 hc2, fun notes => ?_⟩
          by_cases hk : Cmp.keyMatch k = true
          · simp only [hk, if_true, Except.ok.injEq] at hst ⊢
            subst hst; exact ⟨_, rfl⟩
          · simp only [hk, Bool.false_eq_true, if_false] at hst ⊢
            by_cases hj : refent.junk = true
            · simp [hj] at hst
            · simp only [hj, Bool.false_eq_true, if_false] at hst
              by_cases hcl : (refent.cls == l10nent.cls) = true
              · simp only [hcl, if_true, Except.ok.injEq] at hst ⊢
                subst hst; exact ⟨_, rfl⟩
              · simp only [hcl, Bool.false_eq_true, if_false, Except.ok.injEq] at hst ⊢
                subst hst; exact ⟨_, rfl⟩

theorem foldE_sim (file : File) (j : EntJob) : ∀ (ar : List (AR.Label × Cmp.Key)) {a b : ObsList} {s : Cmp.Stats}
    {st1 st2 : ObsList × Cmp.Stats}, Same a b →
    Pipe.foldE (stepEnt file j) ar (a, s) = .ok st1 → Pipe.foldE (stepEnt file j) ar (b, s) = .ok st2 →
    st1.2 = st2.2 ∧ Sim (NotifyOn file) a st1.1 b st2.1
  | [], a, b, s, st1, st2, hab, h1, h2 => by
    simp only [Pipe.foldE, Except.ok.injEq] at h1 h2
    subst h1; subst h2
    exact ⟨rfl, Sim.refl (NotifyOn.nil _) _ _⟩
  | p :: rest, a, b, s, st1, st2, hab, h1, h2 => by
    simp only [Pipe.foldE] at h1 h2
    split at h1
    · cases h1
    split at h2
    · cases h2
    rename_i _ r1 hs1 _ r2 hs2
    obtain ⟨a1, s1⟩ := r1
    obtain ⟨b1, s2⟩ := r2
    obtain ⟨hss, hsim, _⟩ := stepEnt_sim file j p hab hs1 hs2
    subst hss
    obtain ⟨e, hs⟩ := foldE_sim file j rest (hsim.same hab) h1 h2
    exact ⟨e, hsim.append hs⟩

theorem compareEnts_sim (file : File) (j : EntJob) {a b a' b' : ObsList} (hab : Same a b)
    (h1 : compareEnts file j a = .ok a') (h2 : compareEnts file j b = .ok b') :
    Sim (fun e => ∃ evs s, e = evs ++ [.stats file (Pipe.statsList s)] ∧ NotifyOn file evs) a a' b b' := by
  simp only [compareEnts] at h1 h2
  split at h1
  · cases h1
  split at h2
  · cases h2
  rename_i _ a1 d1 _ b1 d2
  have s1 := notifyDups_sim file _ _ hab d1 d2
  split at h1
  · cases h1
  split at h2
  · cases h2
  rename_i _ a2 e1 _ b2 e2
  have s2 := notifyDups_sim file _ _ (s1.same hab) e1 e2
  cases f1 : Pipe.foldE (stepEnt file j) (AR.addRemove (j.ref.map (·.key)) (j.l10n.map (·.key))) (a2, {}) with
  | error e => rw [f1] at h1; cases h1
  | ok st1 =>
    cases f2 : Pipe.foldE (stepEnt file j) (AR.addRemove (j.ref.map (·.key)) (j.l10n.map (·.key))) (b2, {}) with
    | error e => rw [f2] at h2; cases h2
    | ok st2 =>
      rw [f1] at h1
      rw [f2] at h2
      simp only [Except.ok.injEq] at h1 h2
      subst h1; subst h2
      obtain ⟨hst, s3⟩ := foldE_sim file j _ (s2.same (s1.same hab)) f1 f2
      rw [hst]
      exact ((s1.append s2).append s3).trans (push_sim _ _ _ _) (fun e1 _ h1 h2 => ⟨e1, _, congrArg (e1 ++ ·) h2, h1⟩)

/-- the same filters give the same plan (Proofs/PipePlan.lean): the same outcome, the same events -/
theorem pipe_compareParsed_sim (env : Pipe.Env) (ref l10n : List Pipe.PEnt) {a b a' b' : ObsList} {o1 o2 : Merge.Outcome}
    (hab : Same a b) (h1 : Pipe.compareParsed env ref l10n a = .ok (a', o1))
    (h2 : Pipe.compareParsed env ref l10n b = .ok (b', o2)) :
    o1 = o2 ∧ Sim (fun e => ∃ evs s, e = evs ++ [.stats env.file (Pipe.statsList s)] ∧ NotifyOn env.file evs) a a' b b' := by
  rw [Pipe.compareParsed_eq] at h1 h2
  rw [← hab.1] at h2
  obtain ⟨r1, e1⟩ := Plan.exec_ok.1 h1
  obtain ⟨r2, e2⟩ := Plan.exec_ok.1 h2
  obtain ⟨s, he⟩ := Pipe.comparePlan_ok e1
  refine ⟨Except.ok.inj (e1.symm.trans e2), _, ⟨_, s, he, fun ev h => ?_⟩, r1, r2⟩
  obtain ⟨c, d, rfl, _⟩ := Pipe.expl_notify (Pipe.compareEvs_expl _ _ _ _ ev h)
  exact ⟨c, d, rfl⟩

/-- a `compare` job in two runs, by the shape of its body: a read error is one notification; entity lists go through
    `compareEnts_sim`; two texts are parsed (the same in both runs: the parse does not see the observers) and compared by the
    plan of the pipeline (`pipe_compareParsed_sim`) -/
theorem runCompare_sim (ext : Pipe.Ext) (ref l10n : File) (m : Bool) (body : CmpBody) {a b a' b' : ObsList}
    {o1 o2 : Merge.Outcome} (hab : Same a b) (h1 : runCompare ext a ref l10n m body = .ok (a', o1))
    (h2 : runCompare ext b ref l10n m body = .ok (b', o2)) : o1 = o2 ∧ Sim (On [ref, l10n]) a a' b b' := by
  cases body with
  | noParser =>
    simp only [runCompare, Except.ok.injEq, Prod.mk.injEq] at h1 h2
    obtain ⟨rfl, rfl⟩ := h1
    obtain ⟨rfl, rfl⟩ := h2
    exact ⟨rfl, Sim.refl (On.nil _) _ _⟩
  | refReadError msg =>
    obtain ⟨a1, b1, _, hs, _, h1, h2⟩ := tell_then_sim hab h1 h2
    cases h1; cases h2
    exact ⟨rfl, hs.mono (fun _ h => h.on (by simp))⟩
  | l10nReadError msg =>
    obtain ⟨a1, b1, _, hs, _, h1, h2⟩ := tell_then_sim hab h1 h2
    cases h1; cases h2
    exact ⟨rfl, hs.mono (fun _ h => h.on (by simp))⟩
  | ents j =>
    simp only [runCompare] at h1 h2
    by_cases hm : m = true
    · simp only [hm, ↓reduceIte] at h1
      cases h1
    · simp only [hm, Bool.false_eq_true, ↓reduceIte] at h1 h2
      split at h1
      · cases h1
      split at h2
      · cases h2
      rename_i _ a1 hc1 _ b1 hc2
      simp only [Except.ok.injEq, Prod.mk.injEq] at h1 h2
      obtain ⟨rfl, rfl⟩ := h1
      obtain ⟨rfl, rfl⟩ := h2
      exact ⟨rfl, (compareEnts_sim l10n j hab hc1 hc2).mono (fun _ ⟨_, _, he, hn⟩ =>
        he ▸ (hn.on (by simp)).append (On.single (by simp [Ev.file])))⟩
  | text fmt refText l10nText =>
    simp only [runCompare] at h1 h2
    cases hk : Pipe.plainFmt fmt with
    | false => rw [hk] at h1; cases h1
    | true =>
      rw [hk] at h1 h2
      simp only at h1 h2
      cases hp1 : Pipe.parseFile ext fmt refText 0 with
      | error e => rw [hp1] at h1; cases h1
      | ok q1 =>
        obtain ⟨r, n1⟩ := q1
        rw [hp1] at h1 h2
        simp only at h1 h2
        cases hp2 : Pipe.parseFile ext fmt l10nText n1 with
        | error e => rw [hp2] at h1; cases h1
        | ok q2 =>
          obtain ⟨lo, n2⟩ := q2
          rw [hp2] at h1 h2
          simp only at h1 h2
          obtain ⟨ho, hs⟩ := pipe_compareParsed_sim _ r lo hab h1 h2
          exact ⟨ho, hs.mono (fun _ ⟨_, _, he, hn⟩ =>
            he ▸ (hn.on (by simp [Pipe.envOf])).append (On.single (by simp [Ev.file, Pipe.envOf])))⟩

theorem pushMissing_sim (a b : ObsList) {f : File} {fs : List File} (hf : f ∈ fs) (n w : Nat) :
    Sim (On fs) a (pushMissing a f n w) b (pushMissing b f n w) :=
  ((push_sim a b f _).mono (fun _ h => h ▸ On.single hf)).appendOn
    ((push_sim _ _ f _).mono (fun _ h => h ▸ On.single hf))

/-- an `add` job in two runs: here the events DO depend on what the first notification returned (nothing more if the file is
    ignored), which is the same in both runs because the filters are -/
theorem runAdd_sim (ext : Pipe.Ext) (orig missing : File) (m : Bool) (body : AddBody) {a b a' b' : ObsList}
    {o1 o2 : Merge.Outcome} (hab : Same a b) (h1 : runAdd ext a orig missing m body = .ok (a', o1))
    (h2 : runAdd ext b orig missing m body = .ok (b', o2)) : o1 = o2 ∧ Sim (On [orig, missing]) a a' b b' := by
  obtain ⟨a1, b1, rv1, s0, _, h1, h2⟩ := tell_then_sim hab h1 h2
  have s1 : Sim (On [orig, missing]) a a1 b b1 := s0.mono (fun _ h => h.on (by simp))
  by_cases hi : (rv1 == Ret.ignore) = true
  · simp only [hi, ↓reduceIte, Except.ok.injEq, Prod.mk.injEq] at h1 h2
    obtain ⟨rfl, rfl⟩ := h1
    obtain ⟨rfl, rfl⟩ := h2
    exact ⟨rfl, s1⟩
  · simp only [hi, Bool.false_eq_true, ↓reduceIte] at h1 h2
    cases body with
    | noParser =>
      simp only [Except.ok.injEq, Prod.mk.injEq] at h1 h2
      obtain ⟨rfl, rfl⟩ := h1
      obtain ⟨rfl, rfl⟩ := h2
      exact ⟨rfl, s1⟩
    | readError caps msg =>
      obtain ⟨a2, b2, _, s2, _, h1, h2⟩ := tell_then_sim (s1.same hab) h1 h2
      cases h1; cases h2
      exact ⟨rfl, s1.appendOn (s2.mono (fun _ h => h.on (by simp)))⟩
    | ents caps ref =>
      simp only [Except.ok.injEq, Prod.mk.injEq] at h1 h2
      obtain ⟨rfl, rfl⟩ := h1
      obtain ⟨rfl, rfl⟩ := h2
      exact ⟨rfl, s1.appendOn (pushMissing_sim _ _ (by simp) _ _)⟩
    | text fmt refText =>
      simp only at h1 h2
      cases hp : Pipe.parseFile ext fmt refText 0 with
      | error e => rw [hp] at h1; cases h1
      | ok q =>
        obtain ⟨ents, n2⟩ := q
        rw [hp] at h1 h2
        simp only [Except.ok.injEq, Prod.mk.injEq] at h1 h2
        obtain ⟨rfl, rfl⟩ := h1
        obtain ⟨rfl, rfl⟩ := h2
        exact ⟨rfl, s1.appendOn (pushMissing_sim _ _ (by simp) _ _)⟩

theorem runRemove_sim (l10n : File) (m : Bool) {a b a' b' : ObsList} {o1 o2 : Merge.Outcome} (hab : Same a b)
    (h1 : runRemove a l10n m = .ok (a', o1)) (h2 : runRemove b l10n m = .ok (b', o2)) :
    o1 = o2 ∧ Sim (On [l10n]) a a' b b' := by
  obtain ⟨a1, b1, _, hs, _, h1, h2⟩ := tell_then_sim hab h1 h2
  cases h1; cases h2
  exact ⟨rfl, hs.mono (fun _ h => h.on (by simp))⟩

theorem runJob_sim (ext : Pipe.Ext) (j : Job) {a b a' b' : ObsList} {o1 o2 : Merge.Outcome} (hab : Same a b)
    (h1 : runJob ext a j = .ok (a', o1)) (h2 : runJob ext b j = .ok (b', o2)) : o1 = o2 ∧ Sim (On (jobFiles j)) a a' b b' := by
  cases j with
  | compare ref l10n m body => exact runCompare_sim ext ref l10n m body hab h1 h2
  | add orig missing m body => exact runAdd_sim ext orig missing m body hab h1 h2
  | remove ref l10n m => exact runRemove_sim l10n m hab h1 h2


theorem notifyDups_tr (file : File) (cat : Cat) (ds : List (Cmp.Key × Nat)) (l l' : ObsList)
    (h : notifyDups file cat ds l = .ok l') : ∃ evs, Tr l l' evs ∧ NotifyOn file evs :=
  (notifyDups_sim file cat ds (Same.refl l) h h).tr

theorem foldE_tr (file : File) (j : EntJob) (ar : List (AR.Label × Cmp.Key)) (st st' : ObsList × Cmp.Stats)
    (h : Pipe.foldE (stepEnt file j) ar st = .ok st') : ∃ evs, Tr st.1 st'.1 evs ∧ NotifyOn file evs :=
  (foldE_sim file j ar (Same.refl st.1) h h).2.tr

theorem runJob_tr (ext : Pipe.Ext) (l l' : ObsList) (j : Job) (o : Merge.Outcome) (h : runJob ext l j = .ok (l', o)) :
    ∃ evs, Tr l l' evs ∧ On (jobFiles j) evs :=
  (runJob_sim ext j (Same.refl l) h h).2.tr

theorem contrib_other_locale (ign : Ev → Bool) (L : Option Text) (key : StatKey) (ev : Ev) (h : ev.file.locale ≠ L) :
    contrib ign L key ev = 0 := by
  unfold contrib
  split
  · rfl
  · cases ev with
    | notify c f d => simp only [Ev.file] at h; simp [h]
    | stats f st => simp only [Ev.file] at h; simp [h]

theorem countSpec_other_locale (ign : Ev → Bool) (L : Option Text) (key : StatKey) (evs : List Ev)
    (h : ∀ ev ∈ evs, ev.file.locale ≠ L) : countSpec ign L key evs = 0 := by
  unfold countSpec
  induction evs with
  | nil => rfl
  | cons ev rest ih =>
    simp only [List.map_cons, List.sum_cons]
    rw [contrib_other_locale ign L key ev (h ev (by simp)), ih (fun e he => h e (by simp [he]))]

theorem countSpec_append (ign : Ev → Bool) (L : Option Text) (key : StatKey) (a b : List Ev) :
    countSpec ign L key (a ++ b) = countSpec ign L key a + countSpec ign L key b := by
  simp [countSpec]

theorem tr_observers {l l' : ObsList} {evs : List Ev} (ht : Tr l l' evs) (hown : l.own.filter = none) :
    All₂ (fun o o' => ∀ L key, getCount o'.summary L key = getCount o.summary L key + countSpec (ignObs o.filter) L key evs)
      l.observers l'.observers :=
  All₂.imp (fun _ _ hr => Obs.run_counts hr) (list_run_spec evs l l' ht hown).2.1

theorem run_tr (ext : Pipe.Ext) : ∀ (jobs : List Job) (l l' : ObsList) (os : List Merge.Outcome),
    Sess.run ext l jobs = .ok (l', os) →
    ∃ trs : List (List Ev), All₂ (fun j evs => On (jobFiles j) evs) jobs trs ∧ Tr l l' trs.flatten
  | [], l, l', os, h => by
    simp only [Sess.run, Except.ok.injEq, Prod.mk.injEq] at h
    obtain ⟨rfl, _⟩ := h
    exact ⟨[], All₂.nil, Tr.refl _⟩
  | j :: rest, l, l', os, h => by
    simp only [Sess.run] at h
    split at h
    · cases h
    rename_i _ l1 o hj
    split at h
    · cases h
    rename_i _ l2 os2 hr
    simp only [Except.ok.injEq, Prod.mk.injEq] at h
    obtain ⟨rfl, _⟩ := h
    obtain ⟨e1, t1, o1⟩ := runJob_tr ext l l1 j o hj
    obtain ⟨trs, f2, t2⟩ := run_tr ext rest l1 l2 os2 hr
    exact ⟨e1 :: trs, All₂.cons o1 f2, by simpa using t1.trans t2⟩

def touches (L : Option Text) (j : Job) : Bool := (jobFiles j).any (fun f => f.locale == L)

theorem on_not_touching {L : Option Text} {j : Job} {evs : List Ev} (ho : On (jobFiles j) evs) (hn : touches L j = false) :
    ∀ ev ∈ evs, ev.file.locale ≠ L := by
  intro ev hev hl
  have hm := ho ev hev
  have : touches L j = true := by
    simp only [touches, List.any_eq_true, beq_iff_eq]
    exact ⟨ev.file, hm, hl⟩
  rw [hn] at this; cases this

theorem sum_flatten (ign : Ev → Bool) (L : Option Text) (key : StatKey) (trs : List (List Ev)) :
    countSpec ign L key trs.flatten = (trs.map (countSpec ign L key)).sum := by
  induction trs with
  | nil => rfl
  | cons a rest ih => simp only [List.flatten_cons, countSpec_append, ih, List.map_cons, List.sum_cons]

theorem sum_touching (ign : Ev → Bool) (L : Option Text) (key : StatKey) : ∀ (jobs : List Job) (trs : List (List Ev)),
    All₂ (fun j evs => On (jobFiles j) evs) jobs trs →
    (trs.map (countSpec ign L key)).sum
      = (((jobs.zip trs).filter (fun p => touches L p.1)).map (fun p => countSpec ign L key p.2)).sum
  | [], [], _ => rfl
  | [], _ :: _, h => by cases h
  | _ :: _, [], h => by cases h
  | j :: jobs, evs :: trs, h => by
    cases h with
    | cons h1 h2 =>
      have ih := sum_touching ign L key jobs trs h2
      simp only [List.map_cons, List.sum_cons, List.zip_cons_cons, List.filter_cons]
      cases ht : touches L j
      · rw [countSpec_other_locale ign L key evs (on_not_touching h1 ht), ih]; simp
      · simp [ih]

end C03S
