/- C14: the missing-entity branch of `ContentComparer.compare` under observers with filters (CLModel/Compare/MissingFilter.lean)
in closed form: the loop is `missingSpec` of the observers' combined verdict (`missingLoop_eq`). -/
import CLModel.Compare.MissingFilter
namespace Filt

/-- what an observer answers for a missing key -/
def obsVerdict : Obs → Text → Action
  | some f, k => f k
  | none, _ => .error

/-- most severe answer of all observers, `ignore` when there is none -/
def combined (observers : List Obs) (k : Text) : Action :=
  if observers.any (fun o => obsVerdict o k == .error) then .error
  else if observers.any (fun o => obsVerdict o k == .warning) then .warning
  else .ignore

theorem observerNotifyMissing_eq (o : Obs) (k : Text) :
    observerNotifyMissing o k = (obsVerdict o k, obsVerdict o k != .ignore) := by
  cases o with
  | none => simp [observerNotifyMissing, obsVerdict]
  | some f =>
    simp only [observerNotifyMissing, obsVerdict]
    cases f k <;> simp

/-- most severe of a list of answers, `ignore` for none -/
def worst (rvs : List Action) : Action :=
  if rvs.contains .error then .error else if rvs.contains .warning then .warning else .ignore

theorem all_ignore_iff (rvs : List Action) : rvs.all (· == .ignore) = true ↔ worst rvs = .ignore := by
  induction rvs with
  | nil => simp [worst]
  | cons a r ih => cases a <;> simp_all [worst] <;> split <;> simp_all

theorem notify_sets (rvs : List Action) : notifyRvs rvs = .ok (worst rvs, worst rvs != .ignore) := by
  unfold notifyRvs
  by_cases h1 : rvs.all (· == Action.ignore) = true
  · rw [if_pos h1, (all_ignore_iff rvs).1 h1]; rfl
  · have hw : worst rvs ≠ .ignore := fun h => h1 ((all_ignore_iff rvs).2 h)
    rw [if_neg h1]
    have hF : ∀ x, x ∈ rvs.filter (· != Action.ignore) ↔ x ∈ rvs ∧ x ≠ .ignore := fun x => by simp
    by_cases he : Action.error ∈ rvs
    · simp [worst, he]
    · -- what is left are warnings, and there is one
      have hwin : Action.warning ∈ rvs := by
        refine Classical.byContradiction fun h => hw ?_
        simp [worst, he, h]
      have hww : worst rvs = .warning := by simp [worst, he, hwin]
      rw [hww, if_neg (by simpa [hF] using he)]
      cases hl : rvs.filter (· != Action.ignore) with
      | nil => exact absurd ((hF _).2 ⟨hwin, by decide⟩) (by simp [hl])
      | cons a rest =>
        have hwarn : ∀ x ∈ a :: rest, x = Action.warning := fun x hx => by
          rw [← hl] at hx
          cases x with
          | warning => rfl
          | ignore => exact absurd rfl ((hF _).1 hx).2
          | error => exact absurd ((hF _).1 hx).1 he
        cases hwarn a (by simp)
        simp only
        rw [if_pos (by simpa using fun x hx => hwarn x (by simp [hx]))]
        rfl

theorem contains_map_eq_any (l : List Obs) (k : Text) (a : Action) :
    (l.map (fun o => obsVerdict o k)).contains a = l.any (fun o => obsVerdict o k == a) := by
  rw [Bool.eq_iff_iff]
  simp [List.mem_map]

theorem worst_map (observers : List Obs) (k : Text) : worst (observers.map (obsVerdict · k)) = combined observers k := by
  unfold worst combined
  rw [contains_map_eq_any, contains_map_eq_any]

theorem listNotifyMissing_eq (observers : List Obs) (k : Text) :
    listNotifyMissing observers k = .ok (combined observers k, combined observers k != .ignore) := by
  unfold listNotifyMissing
  rw [List.map_congr_left fun o _ => congrArg Prod.fst (observerNotifyMissing_eq o k), notify_sets, worst_map]

/-- closed form of the missing-entity loop -/
def missingSpec (v : Text → Action) (keys : List Text) (acc : MissAcc) : MissAcc :=
  { missing := acc.missing + (keys.filter (fun k => v k == .error)).length
    report := acc.report + (keys.filter (fun k => v k == .warning)).length
    missings := acc.missings ++ keys.filter (fun k => v k == .error)
    shown := acc.shown ++ keys.filter (fun k => v k != .ignore) }

theorem missingLoop_eq (observers : List Obs) (keys : List Text) (acc : MissAcc) :
    missingLoop observers keys acc = .ok (missingSpec (combined observers) keys acc) := by
  induction keys generalizing acc with
  | nil => simp [missingLoop, missingSpec]
  | cons k rest ih =>
    rw [missingLoop, listNotifyMissing_eq]
    simp only [bind, Except.bind]
    cases hv : combined observers k <;>
      simp [ih, missingSpec, hv, Nat.add_assoc, Nat.add_comm 1]

theorem compareMissing_eq (observers : List Obs) (keys : List Text) :
    compareMissing observers keys = .ok
      ⟨missingSpec (combined observers) keys MissAcc.zero,
       observers.map (fun o => observerUpdateStats o (missingSpec (combined observers) keys MissAcc.zero))⟩ := by
  simp [compareMissing, missingLoop_eq, bind, Except.bind, pure, Except.pure]

theorem combined_single (v : Text → Action) (k : Text) : combined [some v] k = v k := by
  simp only [combined, obsVerdict, List.any_cons, List.any_nil, Bool.or_false]
  cases v k <;> simp

end Filt
