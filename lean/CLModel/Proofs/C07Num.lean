/- Regex-free characterisation of DTDChecker.num / DTDChecker.length: the outcomes of the number group in front of
   anything that has no outcome at a digit (`numGroup_then`), then `$` resp. a unit and `$`. -/
import CLModel.Checks.Dtd
import CLModel.Proofs.RxStar
namespace Dtd
open Rx

theorem flatMap_ite {α β} (c : Prop) [Decidable c] (l : List α) (f : α → List β) :
    (if c then l else []).flatMap f = if c then l.flatMap f else [] := by
  split <;> rfl

theorem map_ite {α β} (c : Prop) [Decidable c] (l : List α) (f : α → β) :
    (if c then l else []).map f = if c then l.map f else [] := by
  split <;> rfl

theorem isSome_head?_append {α} (a b : List α) : (a ++ b).head?.isSome = (a.head?.isSome || b.head?.isSome) := by
  cases a <;> simp

theorem isSome_head?_ite {α} (c : Prop) [Decidable c] (l : List α) :
    (if c then l else []).head?.isSome = (decide c && l.head?.isSome) := by
  by_cases h : c <;> simp [h]

def isDig (c : Nat) : Bool := 48 ≤ c && c ≤ 57

def digitsLen (l : Text) : Nat := (l.takeWhile isDig).length

def D : List ClsItem := [.range 48 57]

theorem ends_D (s : Array Nat) (st : St) : ends s (.cls false D) st = stepIf s isDig st := by
  rw [ends_cls, show inC false D = isDig from funext fun c => inC_range]

/-- `$` without MULTILINE at position j: end of text, or before a final newline -/
def atEnd (v : Text) (j : Nat) : Bool := j == v.length || (j + 1 == v.length && v[j]? == some 10)

theorem ends_eol_atEnd (v : Text) (st : St) : ends v.toArray (.eol false) st = if atEnd v st.pos then [st] else [] := by
  simp [ends_eol, atEnd]

theorem after_run (v : Text) (pos : Nat) : ∀ c, v[pos + digitsLen (v.drop pos)]? = some c → isDig c = false := by
  intro c hc
  exact Txt.takeWhile_stop (l := v.drop pos) (by rw [List.getElem?_drop]; exact hc)

theorem digits_then {β} (v : Text) (mn pos : Nat) (hpos : pos ≤ v.length) (caps) (F : St → List β)
    (hF : ∀ j c, v[j]? = some c → isDig c = true → F ⟨j, caps⟩ = []) :
    (ends v.toArray (.rep mn none true (.cls false D)) ⟨pos, caps⟩).flatMap F =
      if mn ≤ digitsLen (v.drop pos) then F ⟨pos + digitsLen (v.drop pos), caps⟩ else [] :=
  flatMap_rep_step (ends_D _) mn true (by simpa using hpos) caps F (by simpa using hF)

theorem atEnd_notDigit (v : Text) (j c : Nat) (hc : v[j]? = some c) (hd : isDig c = true) : atEnd v j = false := by
  have hlt : j < v.length := Txt.getElem?_some_lt hc
  have hne : c ≠ 10 := by rintro rfl; revert hd; decide
  simp [atEnd, hc, hne]; omega

def EndK (v : Text) (k : K) : Prop := ∀ j caps, (k ⟨j, caps⟩).isSome = atEnd v j

theorem plus_D_end (v : Text) (pos : Nat) (hpos : pos ≤ v.length) (caps) (k : K) (hk : EndK v k) :
    (m v.toArray (.rep 1 none true (.cls false D)) ⟨pos, caps⟩ k).isSome
      = (decide (digitsLen (v.drop pos) ≥ 1) && atEnd v (pos + digitsLen (v.drop pos))) := by
  rw [m_eq_head, digits_then v 1 pos hpos caps _ fun j c hc hd => by
    -- only the end of the run can be the end of the text
    have := hk j caps
    rw [atEnd_notDigit v j c hc hd] at this
    cases h : k ⟨j, caps⟩ <;> simp_all]
  by_cases h1 : 1 ≤ digitsLen (v.drop pos) <;> simp [h1, hk _ _]

/-- a number at the start of `v` followed by something satisfying `q`: digits, or optional digits, a dot, digits -/
def numThen (v : Text) (q : Nat → Bool) : Bool :=
  (decide (digitsLen v ≥ 1) && q (digitsLen v)) ||
  (v[digitsLen v]? == some 46 && decide (digitsLen (v.drop (digitsLen v + 1)) ≥ 1) &&
    q (digitsLen v + 1 + digitsLen (v.drop (digitsLen v + 1))))

/-- the body of the group `DTDChecker.numPattern`, `([0-9]+|[0-9]*\.[0-9]+)`; the same term is the `length` group of
    `CSSCheckMixin._css_spec` (`C08C.spec_shape`) -/
def numReG : Re := .alt (.rep 1 none true (.cls false D))
  (.seq (.rep 0 none true (.cls false D)) (.seq (.lit 46) (.rep 1 none true (.cls false D))))

theorem numGroup_then {β} (v : Text) (g : Nat) (F : St → List β)
    (hF : ∀ j c caps, v[j]? = some c → isDig c = true → F ⟨j, caps⟩ = []) :
    (ends v.toArray (.group g numReG) ⟨0, []⟩).flatMap F =
      (if 1 ≤ digitsLen v then F ⟨digitsLen v, [(g, 0, digitsLen v)]⟩ else []) ++
      (if (v[digitsLen v]? == some 46) = true ∧ 1 ≤ digitsLen (v.drop (digitsLen v + 1)) then
        F ⟨digitsLen v + 1 + digitsLen (v.drop (digitsLen v + 1)),
          [(g, 0, digitsLen v + 1 + digitsLen (v.drop (digitsLen v + 1)))]⟩ else []) := by
  have hF' : ∀ j c, v[j]? = some c → isDig c = true →
      (fun st' : St => F { st' with caps := (g, 0, st'.pos) :: st'.caps }) ⟨j, []⟩ = [] := fun j c hc hd => hF j c _ hc hd
  simp only [ends_group, ends_alt, ends_seq, numReG, List.map_append, List.flatMap_append, List.flatMap_map, List.flatMap_assoc]
  rw [digits_then v 1 0 (Nat.zero_le _) [] _ hF', digits_then v 0 0 (Nat.zero_le _) [] _ fun j c hc hd => by
    have : c ≠ 46 := by rintro rfl; revert hd; decide
    show (ends _ (.lit 46) ⟨j, []⟩).flatMap _ = []
    rw [ends_lit_fail (by simp [hc, this])]; rfl]
  simp only [List.drop_zero, Nat.zero_add, Nat.zero_le, if_true]
  congr 1
  by_cases h46 : v[digitsLen v]? = some 46
  · rw [ends_lit_ok (by simpa using h46), List.flatMap_singleton,
      digits_then v 1 (digitsLen v + 1) (Txt.getElem?_some_lt h46) [] _ hF']
    simp only [h46, beq_self_eq_true, true_and]
  · rw [if_neg fun h => h46 (by simpa using h.1), ends_lit_fail (by simpa using h46)]; rfl

/-- the shape `num` accepts, up to the end of the text or a final newline -/
def numShape (v : Text) : Bool := numThen v (atEnd v)

theorem isSome_ite_some {α} (c : Prop) [Decidable c] (x : α) :
    (if c then some x else none).isSome = decide c := by
  by_cases h : c <;> simp [h]

theorem isNum_eq_numShape (v : Text) : isNum v = numShape v := by
  unfold isNum reMatches Gen.Pat.DTDChecker_num numShape numThen
  rw [matchAt_eq_head, ends_seq, show ends v.toArray (.bol false) ⟨0, []⟩ = [⟨0, []⟩] from rfl, List.flatMap_singleton,
    ends_seq]
  show (List.flatMap _ (ends v.toArray (Re.group 1 numReG) ⟨0, []⟩)).head?.isSome = _
  rw [numGroup_then v 1 _ fun j c caps hc hd => by rw [ends_eol_atEnd, atEnd_notDigit v j c hc hd]; rfl]
  simp only [ends_eol_atEnd, isSome_head?_append, isSome_head?_ite, List.head?_cons, Option.isSome_some, Bool.and_true,
    Bool.decide_and, Bool.decide_eq_true, ge_iff_le, Bool.and_assoc]

/-- one of the five units of `length` at position j: em px ch cm in -/
def unitAt (v : Text) (j : Nat) : Bool :=
  (v[j]? == some 101 && v[j + 1]? == some 109) || (v[j]? == some 112 && v[j + 1]? == some 120) ||
  (v[j]? == some 99 && v[j + 1]? == some 104) || (v[j]? == some 99 && v[j + 1]? == some 109) ||
  (v[j]? == some 105 && v[j + 1]? == some 110)

/-- the shape `length` accepts: a number, a unit, the end -/
def lengthShape (v : Text) : Bool := numThen v (fun j => unitAt v j && atEnd v (j + 2))

def unitsRe : Re := Re.seq (Re.group 2 (Re.alt (Re.seq (Re.lit 101) (Re.lit 109)) (Re.alt (Re.seq (Re.lit 112) (Re.lit 120))
  (Re.alt (Re.seq (Re.lit 99) (Re.lit 104)) (Re.alt (Re.seq (Re.lit 99) (Re.lit 109)) (Re.seq (Re.lit 105) (Re.lit 110)))))))
  (Re.eol false)

theorem units_isSome (v : Text) (st : St) :
    (ends v.toArray unitsRe st).head?.isSome = (unitAt v st.pos && atEnd v (st.pos + 2)) := by
  simp only [unitsRe, ends_seq, ends_group, ends_alt, ends_lit, ends_eol_atEnd, unitAt, List.getElem?_toArray, flatMap_ite, map_ite,
    List.map_append, List.flatMap_append, List.flatMap_singleton, List.map_cons, List.map_nil, isSome_head?_append,
    isSome_head?_ite, Nat.add_assoc, List.head?_cons, Option.isSome_some, Bool.and_true, Bool.decide_eq_true,
    Bool.and_assoc, Bool.and_or_distrib_right, Bool.or_assoc]

theorem isLength_eq_lengthShape (v : Text) : isLength v = lengthShape v := by
  unfold isLength reMatches Gen.Pat.DTDChecker_length lengthShape numThen
  rw [matchAt_eq_head, ends_seq, show ends v.toArray (.bol false) ⟨0, []⟩ = [⟨0, []⟩] from rfl, List.flatMap_singleton,
    ends_seq]
  show (List.flatMap (ends v.toArray unitsRe) (ends v.toArray (Re.group 1 numReG) ⟨0, []⟩)).head?.isSome = _
  rw [numGroup_then v 1 _ fun j c caps hc hd => by
    have h1 : c ≠ 101 := by rintro rfl; revert hd; decide
    have h2 : c ≠ 112 := by rintro rfl; revert hd; decide
    have h3 : c ≠ 99 := by rintro rfl; revert hd; decide
    have h4 : c ≠ 105 := by rintro rfl; revert hd; decide
    simp [unitsRe, ends_seq, ends_group, ends_alt, ends_lit, hc, h1, h2, h3, h4]]
  simp only [isSome_head?_append, isSome_head?_ite, units_isSome, Bool.decide_and, Bool.decide_eq_true, ge_iff_le,
    Bool.and_assoc]

end Dtd
