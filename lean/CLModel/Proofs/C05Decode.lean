/-
C05 — `Pipe.decode` (Parser.readFile: UTF-8 with errors="replace", universal newlines): what it guarantees.
One case analysis of the decoder at the front of its input (`step_cases`) gives an induction principle (`decode_induction`);
the guarantees are instances of it.
-/
import CLModel.Compare.Decode
import CLModel.Proofs.C05Utf8
namespace C05Dec
open Pipe C05Dtd Utf8

theorem mem_universalNewlines : ∀ (t : List Nat) (c : Nat), c ∈ universalNewlines t → (c ∈ t ∧ c ≠ 13) ∨ c = 10 := by
  intro t
  fun_induction universalNewlines t with
  | case1 => intro c hc; cases hc
  | case2 rest ih =>
    intro c hc
    simp only [List.mem_cons] at hc
    rcases hc with rfl | hc
    · exact Or.inr rfl
    · rcases ih c hc with ⟨h1, h2⟩ | h
      · exact Or.inl ⟨by simp [h1], h2⟩
      · exact Or.inr h
  | case3 rest _ ih =>
    intro c hc
    simp only [List.mem_cons] at hc
    rcases hc with rfl | hc
    · exact Or.inr rfl
    · rcases ih c hc with ⟨h1, h2⟩ | h
      · exact Or.inl ⟨by simp [h1], h2⟩
      · exact Or.inr h
  | case4 c' rest _ h13 ih =>
    intro c hc
    simp only [List.mem_cons] at hc
    rcases hc with rfl | hc
    · exact Or.inl ⟨by simp, fun h => h13 h⟩
    · rcases ih c hc with ⟨h1, h2⟩ | h
      · exact Or.inl ⟨by simp [h1], h2⟩
      · exact Or.inr h

theorem universalNewlines_no_cr (t : List Nat) : 13 ∉ universalNewlines t := by
  intro h
  rcases mem_universalNewlines t 13 h with ⟨_, h2⟩ | h
  · exact h2 rfl
  · cases h

theorem universalNewlines_id : ∀ (t : List Nat), 13 ∉ t → universalNewlines t = t := by
  intro t
  fun_induction universalNewlines t with
  | case1 => intro _; rfl
  | case2 rest ih => intro h; simp at h
  | case3 rest _ ih => intro h; simp at h
  | case4 c rest _ _ ih =>
    intro h
    simp only [List.mem_cons, not_or] at h
    rw [ih h.2]

theorem isCont_payload {y : Nat} (h : y < 64) : isCont (0x80 + y) = true := by
  simp only [isCont, Bool.and_eq_true, decide_eq_true_eq]; omega

theorem cont_payload {b : Nat} (h : isCont b = true) : ∃ y, b = 0x80 + y ∧ y < 64 := by
  simp only [isCont, Bool.and_eq_true, decide_eq_true_eq] at h
  exact ⟨b - 0x80, by omega, by omega⟩

/-- the decoder's test of the second byte after a lead `L + x` whose first value (`x = 0`) needs a payload of at least
    `t` and whose value `x = k` needs one below `t` (E0/ED with `t = 32`, F0/F4 with `t = 16`) -/
theorem second_ok_iff (L k t x y : Nat) (hy : y < 64) :
    (!isCont (0x80 + y) || (if 0x80 + y < 0x80 + t then L + x == L else L + x == L + k)) = false ↔
      (x = 0 → t ≤ y) ∧ (x = k → y < t) := by
  rw [isCont_payload hy]
  by_cases h : y < t
  · rw [if_pos (by omega)]; simp; omega
  · rw [if_neg (by omega)]; simp; omega

theorem of_bytes2 {b b2 : Nat} (h1 : ¬ b < 0xC2) (h2 : b < 0xE0) (hc : isCont b2 = true) :
    Seq ((b - 0xC0) * 64 + (b2 - 0x80)) [b, b2] := by
  obtain ⟨x, rfl⟩ : ∃ x, b = 0xC0 + x := ⟨b - 0xC0, by omega⟩
  obtain ⟨y, rfl, hy⟩ := cont_payload hc
  rw [Nat.add_sub_cancel_left, Nat.add_sub_cancel_left]
  exact .two x y (by omega) (by omega) hy

theorem of_bytes3 {b b2 b3 : Nat} (h1 : ¬ b < 0xE0) (h2 : b < 0xF0)
    (hok : (!isCont b2 || (if b2 < 0xA0 then b == 0xE0 else b == 0xED)) = false) (hc3 : isCont b3 = true) :
    Seq ((b - 0xE0) * 4096 + (b2 - 0x80) * 64 + (b3 - 0x80)) [b, b2, b3] := by
  obtain ⟨x, rfl⟩ : ∃ x, b = 0xE0 + x := ⟨b - 0xE0, by omega⟩
  obtain ⟨y, rfl, hy⟩ := cont_payload (by cases hb : isCont b2 <;> simp_all)
  obtain ⟨z, rfl, hz⟩ := cont_payload hc3
  have hxy := (second_ok_iff 0xE0 13 32 x y hy).1 hok
  rw [Nat.add_sub_cancel_left, Nat.add_sub_cancel_left, Nat.add_sub_cancel_left,
    show x * 4096 + y * 64 + z = (x * 64 + y) * 64 + z by omega]
  exact .three x y z (by omega) hy hz hxy.1 hxy.2

theorem of_bytes4 {b b2 b3 b4 : Nat} (h1 : ¬ b < 0xF0) (h2 : b < 0xF5)
    (hok : (!isCont b2 || (if b2 < 0x90 then b == 0xF0 else b == 0xF4)) = false) (hc3 : isCont b3 = true)
    (hc4 : isCont b4 = true) :
    Seq ((b - 0xF0) * 262144 + (b2 - 0x80) * 4096 + (b3 - 0x80) * 64 + (b4 - 0x80)) [b, b2, b3, b4] := by
  obtain ⟨w, rfl⟩ : ∃ w, b = 0xF0 + w := ⟨b - 0xF0, by omega⟩
  obtain ⟨x, rfl, hx⟩ := cont_payload (by cases hb : isCont b2 <;> simp_all)
  obtain ⟨y, rfl, hy⟩ := cont_payload hc3
  obtain ⟨z, rfl, hz⟩ := cont_payload hc4
  have hwx := (second_ok_iff 0xF0 4 16 w x hx).1 hok
  rw [Nat.add_sub_cancel_left, Nat.add_sub_cancel_left, Nat.add_sub_cancel_left, Nat.add_sub_cancel_left,
    show w * 262144 + x * 4096 + y * 64 + z = ((w * 64 + x) * 64 + y) * 64 + z by omega]
  exact .four w x y z (by omega) hx hy hz hwx.1 hwx.2

/-- what the decoder does at the front of a non-empty input `r`, with output `out`: it either takes the UTF-8 encoding
    of ONE scalar value and yields that value, or it replaces `k` bytes (1 ≤ k ≤ 3: the lead byte and the continuation
    bytes accepted so far) by ONE U+FFFD and goes on right after them — no byte is dropped without a trace -/
inductive Step (r out : List Nat) : Prop
  | valid {c : Nat} {e : List Nat} (tail : List Nat) (hs : Seq c e) (hr : r = e ++ tail) (ho : out = c :: utf8Decode tail)
  | error (k : Nat) (h1 : 1 ≤ k) (h3 : k ≤ 3) (hk : k ≤ r.length) (ho : out = 0xFFFD :: utf8Decode (r.drop k))

theorem step_cases (b : Nat) (rest : List Nat) : Step (b :: rest) (utf8Decode (b :: rest)) := by
  have e1 : ∀ {r}, Step (b :: r) (0xFFFD :: utf8Decode r) := .error 1 (by decide) (by decide) (by simp) rfl
  have e2 : ∀ {b2 r}, Step (b :: b2 :: r) (0xFFFD :: utf8Decode r) := .error 2 (by decide) (by decide) (by simp) rfl
  have e3 : ∀ {b2 b3 r}, Step (b :: b2 :: b3 :: r) (0xFFFD :: utf8Decode r) :=
    .error 3 (by decide) (by decide) (by simp) rfl
  unfold utf8Decode
  by_cases h1 : b < 0x80
  · rw [if_pos h1]; exact .valid rest (.one b h1) rfl rfl
  rw [if_neg h1]
  by_cases h2 : b < 0xC2
  · rw [if_pos h2]; exact e1
  rw [if_neg h2]
  by_cases h3 : b < 0xE0
  · rw [if_pos h3]
    cases rest with
    | nil => exact e1
    | cons b2 r2 =>
      dsimp only
      by_cases hc : isCont b2 = true
      · rw [if_pos hc]; exact .valid _ (of_bytes2 h2 h3 hc) rfl rfl
      · rw [if_neg hc]; exact e1
  rw [if_neg h3]
  by_cases h4 : b < 0xF0
  · rw [if_pos h4]
    cases rest with
    | nil => exact e1
    | cons b2 r2 =>
      dsimp only
      by_cases hbad : (!isCont b2 || (if b2 < 0xA0 then b == 0xE0 else b == 0xED)) = true
      · rw [if_pos hbad]; exact e1
      rw [if_neg hbad]
      cases r2 with
      | nil => exact e2
      | cons b3 r3 =>
        dsimp only
        by_cases hc3 : isCont b3 = true
        · rw [if_pos hc3]; exact .valid _ (of_bytes3 h3 h4 (Bool.eq_false_iff.2 hbad) hc3) rfl rfl
        · rw [if_neg hc3]; exact e2
  rw [if_neg h4]
  by_cases h5 : b < 0xF5
  · rw [if_pos h5]
    cases rest with
    | nil => exact e1
    | cons b2 r2 =>
      dsimp only
      by_cases hbad : (!isCont b2 || (if b2 < 0x90 then b == 0xF0 else b == 0xF4)) = true
      · rw [if_pos hbad]; exact e1
      rw [if_neg hbad]
      cases r2 with
      | nil => exact e2
      | cons b3 r3 =>
        dsimp only
        by_cases hc3 : isCont b3 = true
        · rw [hc3, Bool.not_true, if_neg Bool.false_ne_true]
          cases r3 with
          | nil => exact e3
          | cons b4 r4 =>
            dsimp only
            by_cases hc4 : isCont b4 = true
            · rw [if_pos hc4]; exact .valid _ (of_bytes4 h4 h5 (Bool.eq_false_iff.2 hbad) hc3 hc4) rfl rfl
            · rw [if_neg hc4]; exact e3
        · rw [Bool.eq_false_iff.2 hc3, Bool.not_false, if_pos rfl]; exact e2
  · rw [if_neg h5]; exact e1

theorem decode_induction (Q : List Nat → Prop) (hnil : Q [])
    (hvalid : ∀ c e tail, Seq c e → utf8Decode (e ++ tail) = c :: utf8Decode tail → Q tail → Q (e ++ tail))
    (herror : ∀ r k, 1 ≤ k → utf8Decode r = 0xFFFD :: utf8Decode (r.drop k) → Q (r.drop k) → Q r) : ∀ bs, Q bs := by
  intro bs
  generalize hn : bs.length = n
  induction n using Nat.strongRecOn generalizing bs with
  | _ n ih =>
    cases bs with
    | nil => exact hnil
    | cons b rest =>
      cases step_cases b rest with
      | @valid c e tail hs hr hd =>
        rw [hr] at hd hn ⊢
        have : 0 < e.length := List.length_pos_iff.2 hs.ne_nil
        exact hvalid c e tail hs hd (ih tail.length (by rw [← hn, List.length_append]; omega) tail rfl)
      | error k h1 h3 hk hd =>
        exact herror _ k h1 hd (ih _ (by rw [← hn, List.length_drop]; omega) _ rfl)

theorem utf8Decode_scalar : ∀ bs, ScalarText (utf8Decode bs) := by
  apply decode_induction
  · intro c hc; simp [utf8Decode] at hc
  · intro c e tail hs hd ih x hx
    rw [hd] at hx
    simp only [List.mem_cons] at hx
    rcases hx with rfl | hx
    · exact hs.scalar
    · exact ih x hx
  · intro r k _ hd ih x hx
    rw [hd] at hx
    simp only [List.mem_cons] at hx
    rcases hx with rfl | hx
    · decide
    · exact ih x hx

/-- what `Parser.readFile` leaves in `ctx.contents` holds scalar values only, so `str.encode("utf-8")` in the DTD checker
    cannot raise on a text read from a file -/
theorem decode_scalar (bs : List Nat) : ScalarText (decode bs) := by
  intro c hc
  rcases mem_universalNewlines _ c hc with ⟨h, _⟩ | rfl
  · exact utf8Decode_scalar bs c h
  · decide

theorem decode_no_cr (bs : List Nat) : 13 ∉ decode bs := universalNewlines_no_cr _

theorem wellformed_of_no_ufffd : ∀ bs, 0xFFFD ∉ utf8Decode bs → Dtd.utf8 (utf8Decode bs) = some bs := by
  apply decode_induction
  · intro _; simp [utf8Decode, Dtd.utf8]
  · intro c e tail hs hd ih hno
    rw [hd] at hno ⊢
    simp only [List.mem_cons, not_or] at hno
    simp [Dtd.utf8, hs.utf8Char, ih hno.2]
  · intro r k _ hd _ hno
    rw [hd] at hno
    simp at hno

theorem ufffd_of_illformed (bs : List Nat) (h : ∀ t, Dtd.utf8 t ≠ some bs) : 0xFFFD ∈ utf8Decode bs := by
  by_cases hm : 0xFFFD ∈ utf8Decode bs
  · exact hm
  · exact absurd (wellformed_of_no_ufffd bs hm) (h _)

theorem _root_.Utf8.Seq.decode {c : Nat} {e : List Nat} (h : Seq c e) (tail : List Nat) :
    utf8Decode (e ++ tail) = c :: utf8Decode tail := by
  cases h with
  | one c h =>
    simp only [List.cons_append, List.nil_append]
    conv => lhs; unfold utf8Decode
    rw [if_pos h]
  | two x y hx hx' hy =>
    simp only [List.cons_append, List.nil_append]
    conv => lhs; unfold utf8Decode
    rw [if_neg (by omega), if_neg (by omega), if_pos (by omega)]
    simp only [isCont_payload hy, if_true, Nat.add_sub_cancel_left]
  | three x y z hx hy hz h0 h13 =>
    simp only [List.cons_append, List.nil_append]
    conv => lhs; unfold utf8Decode
    rw [if_neg (by omega), if_neg (by omega), if_neg (by omega), if_pos (by omega)]
    simp only [(second_ok_iff 0xE0 13 32 x y hy).2 ⟨h0, h13⟩, isCont_payload hz, if_true, Bool.false_eq_true, if_false,
      Nat.add_sub_cancel_left]
    rw [show x * 4096 + y * 64 + z = (x * 64 + y) * 64 + z by omega]
  | four w x y z hw hx hy hz h0 h4 =>
    simp only [List.cons_append, List.nil_append]
    conv => lhs; unfold utf8Decode
    rw [if_neg (by omega), if_neg (by omega), if_neg (by omega), if_neg (by omega), if_pos (by omega)]
    simp only [(second_ok_iff 0xF0 4 16 w x hx).2 ⟨h0, h4⟩, isCont_payload hy, isCont_payload hz, if_true,
      Bool.false_eq_true, if_false, Bool.not_true, Nat.add_sub_cancel_left]
    rw [show w * 262144 + x * 4096 + y * 64 + z = ((w * 64 + x) * 64 + y) * 64 + z by omega]

theorem decode_valid_prefix : ∀ (t : List Nat) (e r : List Nat), Dtd.utf8 t = some e → utf8Decode (e ++ r) = t ++ utf8Decode r
  | [], e, r, h => by simp [Dtd.utf8] at h; subst h; rfl
  | c :: cs, e, r, h => by
    simp only [Dtd.utf8] at h
    cases hc : Dtd.utf8Char c with
    | none => simp [hc] at h
    | some a =>
      cases hcs : Dtd.utf8 cs with
      | none => simp [hc, hcs] at h
      | some b =>
        simp only [hc, hcs, Option.some.injEq] at h
        subst h
        rw [List.append_assoc, (Seq.of_utf8Char hc).decode, decode_valid_prefix cs b r hcs]
        rfl

theorem decode_encode (t e : List Nat) (h : Dtd.utf8 t = some e) : utf8Decode e = t := by
  have := decode_valid_prefix t e [] h
  simpa [utf8Decode] using this

end C05Dec
