/-
Which keys the merge has (`merged_keys`, `merged_entity_keys`: those of the versions, each once) and what it stores under
them: the text serialised for a string is the one of the newest version having it (`newest_text`, a lookup in the version
dicts through `merged_dget`).
-/
import CLModel.Proofs.C15Text
namespace Merge
open AR

theorem pairs_mem_ent (es : List Ent) (c : List (List Nat × Nat)) (e : Ent) (he : e ∈ es)
    (hk : e.keyed = true) : (Key.ent e.ekey, e) ∈ pairs es c := by
  induction es generalizing c with
  | nil => simp at he
  | cons x es ih =>
    rw [List.mem_cons] at he
    rcases he with rfl | he
    · have h1 : e.kind ≠ .comment := by
        intro h; simp [Ent.keyed, h] at hk
      have h2 : e.kind ≠ .whitespace := by
        intro h; simp [Ent.keyed, h] at hk
      simp [pairs, getKeyValue_ent e c h1 h2]
    · simp only [pairs, List.mem_cons]
      exact .inr (ih _ he)

theorem stamp_mem (v : Nat) (es : List Ent) (e : Ent) (he : e ∈ es) :
    ∃ e' ∈ stamp v es, SameBut e' e := by
  simp only [stamp, List.mem_map]
  obtain ⟨j, hj, hget⟩ := List.mem_iff_getElem.1 he
  refine ⟨{ e with oid := (v, j) }, ⟨(e, j), ?_, rfl⟩, ⟨rfl, rfl, rfl, rfl⟩⟩
  rw [List.mem_zipIdx_iff_getElem?, List.getElem?_eq_getElem hj, hget]

theorem stamp_mem_inv (v : Nat) (es : List Ent) (e' : Ent) (he : e' ∈ stamp v es) :
    ∃ e ∈ es, SameBut e' e := by
  simp only [stamp, List.mem_map] at he
  obtain ⟨p, hp, rfl⟩ := he
  have hp1 : p.1 ∈ es := by
    have := List.mem_map_of_mem (f := Prod.fst) hp
    rwa [List.zipIdx_map_fst] at this
  exact ⟨p.1, hp1, ⟨rfl, rfl, rfl, rfl⟩⟩

theorem versionDict_dget_ent (i : Nat) (es : List Ent) (hk : NodupKeys es) (e : Ent) (he : e ∈ es)
    (hkeyed : e.keyed = true) : (dget (versionDict i es) (Key.ent e.ekey)).map (·.all) = some e.all := by
  obtain ⟨e', he', hs⟩ := stamp_mem i es e he
  have hkeyed' : e'.keyed = true := by rw [sameBut_keyed _ _ hs]; exact hkeyed
  have hm := pairs_mem_ent (stamp i es) [] e' he' hkeyed'
  rw [← versionDict_eq i es hk] at hm
  have := dget_of_mem (versionDict_wf i es).nodup hm
  rw [← hs.2.1, this]
  simp [hs.2.2.2]

theorem versionDict_dget_none (j : Nat) (es : List Ent) (ek : EKey)
    (h : ∀ e ∈ es, e.keyed = true → e.ekey ≠ ek) : dget (versionDict j es) (Key.ent ek) = none := by
  apply dget_eq_none_iff.2
  intro hm
  have := (versionDict_mem_keys j es _).1 hm
  obtain ⟨e', he', hkeyed', hek⟩ := (pairs_ent_mem _ _ _).1 this
  obtain ⟨e, he, hs⟩ := stamp_mem_inv j es e' he'
  exact h e he (by rw [← sameBut_keyed _ _ hs]; exact hkeyed') (by rw [← hs.2.1]; exact hek)

theorem findSome_first (k : Key) (rs : List (List Ent)) (n i : Nat) (es : List Ent) (v : Ent)
    (hi : rs[i]? = some es)
    (hnone : ∀ j < i, ∀ es', rs[j]? = some es' → dget (versionDict (n + j) es') k = none)
    (hsome : dget (versionDict (n + i) es) k = some v) :
    ((rs.zipIdx n).map (fun p => versionDict p.2 p.1)).findSome? (fun dv => dget dv k) = some v := by
  induction rs generalizing n i with
  | nil => simp at hi
  | cons r rs ih =>
    rw [List.zipIdx_cons, List.map_cons, List.findSome?_cons]
    cases i with
    | zero =>
      simp only [List.getElem?_cons_zero, Option.some.injEq] at hi
      subst hi
      simp only [Nat.add_zero] at hsome
      rw [hsome]
    | succ i =>
      have h0 := hnone 0 (by omega) r (by simp)
      simp only [Nat.add_zero] at h0
      rw [h0]
      simp only [List.getElem?_cons_succ] at hi
      apply ih (n + 1) i hi
      · intro j hj es' hes'
        have := hnone (j + 1) (by omega) es' (by simpa using hes')
        rwa [show n + (j + 1) = n + 1 + j by omega] at this
      · rwa [show n + 1 + i = n + (i + 1) by omega]

theorem merged_keys (rs : List (List Ent)) (d : Dict) (h : mergeResources rs = some d) :
    (keysOf d).Nodup ∧
    ∀ k, k ∈ nwKeys d ↔ ∃ i es, rs[i]? = some es ∧ k ∈ nwKeys (versionDict i es) := by
  refine ⟨(merged_wf h).nodup, fun k => ?_⟩
  obtain ⟨d0, ds, hvd, hord⟩ := merged_nwKeys h
  have hwf : ∀ dv ∈ d0 :: ds, (nwKeys dv).Nodup := by
    intro dv hdv
    obtain ⟨i, es, _, rfl⟩ := (mem_versionDicts rs dv).1 (hvd ▸ hdv)
    exact nwKeys_nodup _ (versionDict_wf i es)
  rw [hord, foldl_map_nwKeys, (foldSpec_mem (ds.map nwKeys) (nwKeys d0) (hwf d0 (by simp))
    (fun r hr => by obtain ⟨dv, hdv, rfl⟩ := List.mem_map.1 hr; exact hwf dv (by simp [hdv])) k).2]
  have hmem : (∃ i es, rs[i]? = some es ∧ k ∈ nwKeys (versionDict i es)) ↔ ∃ dv ∈ d0 :: ds, k ∈ nwKeys dv := by
    rw [← hvd]
    constructor
    · rintro ⟨i, es, hi, hk⟩
      exact ⟨_, (mem_versionDicts rs _).2 ⟨i, es, hi, rfl⟩, hk⟩
    · rintro ⟨dv, hdv, hk⟩
      obtain ⟨i, es, hi, rfl⟩ := (mem_versionDicts rs dv).1 hdv
      exact ⟨i, es, hi, hk⟩
  rw [hmem]
  simp only [List.mem_cons, List.mem_map, exists_eq_or_imp]
  constructor
  · rintro (h0 | ⟨_, ⟨dv, hdv, rfl⟩, hk⟩)
    · exact .inl h0
    · exact .inr ⟨dv, hdv, hk⟩
  · rintro (h0 | ⟨dv, hdv, hk⟩)
    · exact .inl h0
    · exact .inr ⟨_, ⟨dv, hdv, rfl⟩, hk⟩

theorem merged_entity_keys (rs : List (List Ent)) (d : Dict) (h : mergeResources rs = some d) (ek : EKey) :
    Key.ent ek ∈ keysOf d ↔ ∃ es ∈ rs, ∃ e ∈ es, e.keyed = true ∧ e.ekey = ek := by
  have hnw : ∀ d' : Dict, WF d' → (Key.ent ek ∈ nwKeys d' ↔ Key.ent ek ∈ keysOf d') := by
    intro d' hd'
    rw [nwKeys_eq_filter d' hd', List.mem_filter]
    simp [Key.isObj]
  rw [← hnw d (merged_wf h), (merged_keys rs d h).2]
  constructor
  · rintro ⟨i, es, hi, hk⟩
    rw [hnw _ (versionDict_wf i es), versionDict_mem_keys, pairs_ent_mem] at hk
    obtain ⟨e', he', hkeyed, hek⟩ := hk
    obtain ⟨e, he, hs⟩ := stamp_mem_inv i es e' he'
    exact ⟨es, List.mem_of_getElem? hi, e, he, by rw [← sameBut_keyed _ _ hs]; exact hkeyed, by rw [← hs.2.1]; exact hek⟩
  · rintro ⟨es, hes, e, he, hkeyed, hek⟩
    obtain ⟨i, hi⟩ := List.mem_iff_getElem?.1 hes
    refine ⟨i, es, hi, ?_⟩
    rw [hnw _ (versionDict_wf i es), versionDict_mem_keys, pairs_ent_mem]
    obtain ⟨e', he', hs⟩ := stamp_mem i es e he
    exact ⟨e', he', by rw [sameBut_keyed _ _ hs]; exact hkeyed, by rw [hs.2.1]; exact hek⟩

theorem newest_text (rs : List (List Ent)) (d : Dict) (h : mergeResources rs = some d)
    (i : Nat) (es : List Ent) (hi : rs[i]? = some es) (hk : NodupKeys es)
    (e : Ent) (he : e ∈ es) (hkeyed : e.keyed = true)
    (hfirst : ∀ j < i, ∀ es', rs[j]? = some es' → ∀ e' ∈ es', e'.keyed = true → e'.ekey ≠ e.ekey) :
    (dget d (Key.ent e.ekey)).map (·.all) = some e.all := by
  have h1 := versionDict_dget_ent i es hk e he hkeyed
  cases hv : dget (versionDict i es) (Key.ent e.ekey) with
  | none => rw [hv] at h1; simp at h1
  | some v =>
    rw [hv] at h1
    rw [merged_dget h _ rfl, versionDicts,
      findSome_first (Key.ent e.ekey) rs 0 i es v hi
        (fun j hj es' hes' => by
          rw [Nat.zero_add]
          exact versionDict_dget_none j es' e.ekey (hfirst j hj es' hes'))
        (by rw [Nat.zero_add]; exact hv)]
    exact h1

end Merge
