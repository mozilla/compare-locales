/-
Merging a dict with a dict of the same shape (same entries position by position, Whitespace objects distinct), the two
halves: the key diff of the zipped dicts is `weave` (`specKeys_aligned`), and `prune` folded over it leaves `mix`
(`fold_aligned`).  `mergeTwo_aligned` (C15Single) puts them together.
-/
import CLModel.Proofs.C15Append
import CLModel.Proofs.C15Fold
import CLModel.Proofs.C16GNoAdj
import CLModel.Proofs.C16RAlt
namespace Merge
open AR
open C15R (pws)
open C16G (NoAdj noAdj_nil noAdj_cons noAdj_head noAdj_tail noAdj_map)

abbrev DictPair := (Key × Ent) × (Key × Ent)

/-- same sort of entry, same key unless Whitespace, same text -/
def Align (x y : Key × Ent) : Prop :=
  x.2.isWs = y.2.isWs ∧ (x.2.isWs = false → x.1 = y.1) ∧ x.2.all = y.2.all

/-- the C20 closed form for two aligned dicts: the newer dict's keys, every Whitespace key preceded by its twin of the older dict -/
def weave (z : List DictPair) : List Key := z.flatMap (fun p => if p.1.2.isWs then [p.2.1, p.1.1] else [p.1.1])

/-- result of the merge: Whitespace from the older dict, everything else from the newer -/
def mix (z : List DictPair) : List (Key × Ent) := z.map (fun p => if p.1.2.isWs then p.2 else p.1)

theorem specKeys_nil : specKeys ([] : List Key) [] = [] := by
  simp [specKeys, spec, anchors]

/-- what `specKeys_aligned` asks of the zipped dicts -/
structure AlignedZ (z : List DictPair) : Prop where
  nodup : (z.map (·.1.1)).Nodup
  al : ∀ p ∈ z, Align p.1 p.2
  fresh : ∀ p ∈ z, p.1.2.isWs = true → ¬ p.2.1 ∈ z.map (·.1.1)
  adj : NoAdj (fun p : DictPair => p.1.2.isWs) z

theorem AlignedZ.tail {p : DictPair} {z : List DictPair} (h : AlignedZ (p :: z)) : AlignedZ z where
  nodup := (List.nodup_cons.1 h.nodup).2
  al := fun q hq => h.al q (List.mem_cons_of_mem _ hq)
  fresh := fun q hq hw hm => h.fresh q (List.mem_cons_of_mem _ hq) hw (List.mem_cons_of_mem _ hm)
  adj := noAdj_tail h.adj

theorem AlignedZ.key_eq {z : List DictPair} (h : AlignedZ z) {p : DictPair} (hp : p ∈ z) (hw : p.1.2.isWs = false) : p.2.1 = p.1.1 :=
  ((h.al p hp).2.1 hw).symm

theorem specKeys_aligned_append (A B : List DictPair) (h : AlignedZ (A ++ B))
    (hB : ∀ q, B.head? = some q → q.1.2.isWs = false) :
    specKeys ((A ++ B).map (·.1.1)) ((A ++ B).map (·.2.1))
      = specKeys (A.map (·.1.1)) (A.map (·.2.1)) ++ specKeys (B.map (·.1.1)) (B.map (·.2.1)) := by
  have hnd := h.nodup
  rw [List.map_append, List.nodup_append] at hnd
  -- an older key is a newer key of the same pair, or fresh
  have cross : ∀ q ∈ A ++ B, ∀ (S : List DictPair), (∀ q' ∈ S, q' ∈ A ++ B) → (∀ q' ∈ S, q'.1.1 ≠ q.1.1) → ¬ q.2.1 ∈ S.map (·.1.1) := by
    intro q hq S hS hne hm
    cases hw : q.1.2.isWs with
    | true =>
      obtain ⟨q', hq', e⟩ := List.mem_map.1 hm
      exact h.fresh q hq hw (e ▸ List.mem_map.2 ⟨q', hS q' hq', rfl⟩)
    | false =>
      obtain ⟨q', hq', e⟩ := List.mem_map.1 hm
      exact hne q' hq' (e.trans (h.key_eq hq hw))
  rw [List.map_append, List.map_append]
  apply specKeys_append
  · intro x hx
    obtain ⟨q, hq, rfl⟩ := List.mem_map.1 hx
    exact cross q (by simp [hq]) B (fun q' hq' => by simp [hq']) (fun q' hq' e =>
      hnd.2.2 _ (List.mem_map.2 ⟨q, hq, rfl⟩) _ (List.mem_map.2 ⟨q', hq', rfl⟩) e.symm)
  · intro x hx
    obtain ⟨q, hq, rfl⟩ := List.mem_map.1 hx
    exact cross q (by simp [hq]) A (fun q' hq' => by simp [hq']) (fun q' hq' e =>
      hnd.2.2 _ (List.mem_map.2 ⟨q', hq', rfl⟩) _ (List.mem_map.2 ⟨q, hq, rfl⟩) e)
  · cases B with
    | nil => trivial
    | cons q r =>
      simp only [List.map_cons, HeadShared]
      rw [h.key_eq (by simp) (hB q rfl)]
      simp

theorem weave_cons (p : DictPair) (z : List DictPair) :
    weave (p :: z) = (if p.1.2.isWs then [p.2.1, p.1.1] else [p.1.1]) ++ weave z := List.flatMap_cons

theorem specKeys_aligned : (z : List DictPair) → AlignedZ z → specKeys (z.map (·.1.1)) (z.map (·.2.1)) = weave z
  | [], _ => specKeys_nil
  | [p], h => by
    by_cases hw : p.1.2.isWs = true
    · simp only [weave, List.flatMap_cons, List.flatMap_nil, hw, if_true, List.map_cons, List.map_nil, List.append_nil]
      exact specKeys_one_fresh _ _ (fun e => h.fresh p (by simp) hw (by simp [e]))
    · have hw' : p.1.2.isWs = false := by simpa using hw
      simp only [weave, List.flatMap_cons, List.flatMap_nil, hw', Bool.false_eq_true, if_false, List.map_cons,
        List.map_nil, List.append_nil, h.key_eq (by simp) hw']
      exact specKeys_one_same _
  | p :: p2 :: rest, h => by
    by_cases hw : p.1.2.isWs = true
    · -- `[w] / [w']`, then the rest, which starts with a pair that is not Whitespace
      have hp2 : p2.1.2.isWs = false := by
        cases h2 : p2.1.2.isWs
        · rfl
        · exact absurd ⟨hw, h2⟩ (noAdj_head h.adj)
      have := specKeys_aligned_append [p] (p2 :: rest) h (fun q hq => by cases hq; exact hp2)
      rw [List.singleton_append] at this
      rw [this, specKeys_aligned (p2 :: rest) h.tail, weave_cons p, if_pos hw]
      refine congrArg (· ++ weave _) ?_
      exact specKeys_one_fresh _ _ (fun e => h.fresh p (by simp) hw (by simp [e]))
    · have hw' : p.1.2.isWs = false := by simpa using hw
      by_cases hw2 : p2.1.2.isWs = true
      · -- `[x, w] / [x, w']`, then the rest
        have hrest : ∀ q, rest.head? = some q → q.1.2.isWs = false := by
          intro q hq
          cases rest with
          | nil => cases hq
          | cons q' r =>
            cases hq
            cases h3 : q.1.2.isWs
            · rfl
            · exact absurd ⟨hw2, h3⟩ (noAdj_head h.tail.adj)
        have := specKeys_aligned_append [p, p2] rest h hrest
        have hnd := h.nodup
        simp only [List.map_cons, List.nodup_cons, List.mem_cons, not_or] at hnd
        rw [show p :: p2 :: rest = [p, p2] ++ rest from rfl, this, specKeys_aligned rest h.tail.tail,
          show [p, p2] ++ rest = p :: p2 :: rest from rfl, weave_cons p, weave_cons p2, if_neg hw, if_pos hw2,
          ← List.append_assoc]
        refine congrArg (· ++ weave _) ?_
        simp only [List.map_cons, List.map_nil, List.singleton_append, h.key_eq (by simp) hw']
        exact specKeys_pair_fresh _ _ _ hnd.1.1
          (fun e => h.fresh p2 (by simp) hw2 (by simp [← e])) (fun e => h.fresh p2 (by simp) hw2 (by simp [← e]))
      · have hw2' : p2.1.2.isWs = false := by simpa using hw2
        have := specKeys_aligned_append [p] (p2 :: rest) h (fun q hq => by cases hq; exact hw2')
        rw [List.singleton_append] at this
        rw [this, specKeys_aligned (p2 :: rest) h.tail, weave_cons p, if_neg hw]
        refine congrArg (· ++ weave _) ?_
        simp only [List.map_cons, List.map_nil, h.key_eq (by simp) hw']
        exact specKeys_one_same _

theorem prune_nonws (acc : List (Key × Ent)) (k : Key) (e : Ent) (he : e.isWs = false) :
    prune acc (k, some e) = (k, e) :: acc := by
  simp [prune, he]

theorem prune_ws_new (acc : List (Key × Ent)) (k : Key) (e : Ent) (h : C16R.hw pws acc = false) :
    prune acc (k, some e) = (k, e) :: acc := by
  cases acc with
  | nil => cases hw : e.isWs <;> simp [prune, hw]
  | cons q t =>
    have h : q.2.isWs = false := h
    cases hw : e.isWs <;> simp [prune, hw, h]

theorem prune_ws_fold (q : Key × Ent) (t : List (Key × Ent)) (k : Key) (e : Ent) (he : e.isWs = true)
    (hq : q.2.isWs = true) (hl : e.all = q.2.all) : prune (q :: t) (k, some e) = q :: t := by
  simp [prune, he, hq, hl]

theorem mix_cons (p : DictPair) (z : List DictPair) : mix (p :: z) = (if p.1.2.isWs then p.2 else p.1) :: mix z := rfl

/-- the head of the accumulator is not Whitespace whenever the next pair is -/
def StartOK (z : List DictPair) (acc : List (Key × Ent)) : Prop :=
  ∀ p, z.head? = some p → p.1.2.isWs = true → C16R.hw pws acc = false

theorem fold_aligned (f : Key → Option Ent) : (z : List DictPair) → (acc : List (Key × Ent)) →
    (∀ p ∈ z, f p.1.1 = some p.1.2) → (∀ p ∈ z, p.1.2.isWs = true → f p.2.1 = some p.2.2) →
    (∀ p ∈ z, Align p.1 p.2) → NoAdj (fun p : DictPair => p.1.2.isWs) z → StartOK z acc →
    ((weave z).map (fun k => (k, f k))).foldl prune acc = (mix z).reverse ++ acc
  | [], acc, _, _, _, _, _ => rfl
  | p :: z, acc, h1, h2, hal, hadj, hst => by
    have a := hal p (by simp)
    have f1 := h1 p (by simp)
    have ih := fun acc' hst' => fold_aligned f z acc' (fun q hq => h1 q (by simp [hq])) (fun q hq => h2 q (by simp [hq]))
      (fun q hq => hal q (by simp [hq])) (noAdj_tail hadj) hst'
    rw [weave_cons, List.map_append, List.foldl_append, mix_cons, List.reverse_cons, List.append_assoc]
    by_cases hw : p.1.2.isWs = true
    · have hw2 : p.2.2.isWs = true := by rw [← a.1]; exact hw
      simp only [hw, if_true, List.map_cons, List.map_nil, List.foldl_cons, List.foldl_nil, f1, h2 p (by simp) hw]
      rw [prune_ws_new acc p.2.1 p.2.2 (hst p rfl hw), prune_ws_fold (p.2.1, p.2.2) acc p.1.1 p.1.2 hw hw2 a.2.2]
      exact ih _ (by
        intro q hq hqw
        cases z with
        | nil => cases hq
        | cons q' r => cases hq; exact absurd ⟨hw, hqw⟩ (noAdj_head hadj))
    · have hw' : p.1.2.isWs = false := by simpa using hw
      simp only [hw', Bool.false_eq_true, if_false, List.map_cons, List.map_nil, List.foldl_cons, List.foldl_nil, f1]
      rw [prune_nonws acc p.1.1 p.1.2 hw']
      exact ih _ (fun _ _ _ => hw')

end Merge
