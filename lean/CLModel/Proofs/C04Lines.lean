/- Printed `.properties` files as lists of lines: records and inert garbage lines, a garbage line followed by a record or by the end
   of the file.  The walk reports one entity per record and ONE junk entry per garbage line, spanning exactly the line with its
   newline (`walk_views_from`: line by line, each step one of the laws of the block layer, `propsSpec_laws`). -/
import CLModel.Proofs.C02Roundtrip
namespace C04M
open P C02P

inductive Line
  | rcd (r : PRec) (bad : Option PRec)   -- a record; `some rref`: it has an error-level check result, `rref` is the reference record
  | garb (g : List Nat)                  -- a garbage line (junk)

def lineText : Line → List Nat
  | .rcd r _ => printRec r
  | .garb g => g ++ [10]

def linesText : List Line → List Nat
  | [] => []
  | l :: ls => lineText l ++ linesText ls

/-- the entries the walk must report -/
def lentries : Nat → List Line → List Entry
  | _, [] => []
  | off, .rcd r _ :: ls =>
    propsEntity_c02 off r.1.length r.2.length :: wsEntry (off + r.1.length + 1 + r.2.length) ::
      lentries (off + r.1.length + 1 + r.2.length + 1) ls
  | off, .garb g :: ls => C02X.junkEntry off (off + g.length + 1) :: lentries (off + g.length + 1) ls

def startsRec : List Line → Prop
  | .garb _ :: _ => False
  | _ => True

def LinesOK : List Line → Prop
  | [] => True
  | .rcd r bad :: ls => SafeRec r ∧ (∀ rref, bad = some rref → SafeRec rref) ∧ LinesOK ls
  | .garb g :: ls => C02X.SafeGarbage g ∧ startsRec ls ∧ LinesOK ls

def lrecs : List Line → List PRec
  | [] => []
  | .rcd r _ :: ls => r :: lrecs ls
  | .garb _ :: ls => lrecs ls

def lgarb : List Line → List (List Nat)
  | [] => []
  | .rcd _ _ :: ls => lgarb ls
  | .garb g :: ls => (g ++ [10]) :: lgarb ls

theorem lines_follow (ls : List Line) (hok : LinesOK ls) : C02P.DFollow (linesText ls) := by
  cases ls with
  | nil => intro c hc; cases hc
  | cons l ls' =>
    cases l with
    | rcd r bad =>
      rw [linesText, lineText, ← propsEmbeds.pr r hok.1]
      exact C02P.pfollow_block (propsBlock r) (propsEmbeds.good () r hok.1) _
    | garb gg =>
      rw [linesText, lineText, List.append_assoc]
      exact C02P.pgarbage_head gg [10] ⟨hok.1, [], rfl, fun _ h => nomatch h⟩ _

/-- A record is a one-element list of `propsEmbeds`; at a garbage line `junk_at` wants to know that a record follows or the
    text ends, which is `startsRec`. -/
theorem walk_views_from (s : Array Nat) :
    ∀ (ls : List Line) (off : Nat), At s off (linesText ls) → LinesOK ls →
      Walks (propsSpec.next s) s.size () off (lentries off ls) () (off + (linesText ls).length) ∧
      entitiesOf .properties s (lentries off ls) = (lrecs ls).map expectedView ∧ junkOf s (lentries off ls) = lgarb ls
  | [], off, _, _ => ⟨.nil _ _, rfl, rfl⟩
  | .rcd r bad :: ls, off, h, hok => by
    have hat : At s off (([r].map printRec).flatten ++ linesText ls) := by simpa [At, linesText, lineText] using h
    have hfo := lines_follow ls hok.2.2
    have hs : ∀ x ∈ [r], SafeRec x := fun x hx => by cases List.mem_singleton.mp hx; exact hok.1
    obtain ⟨w, _⟩ := propsEmbeds.walks propsSpec_laws [r] hs s off () _ hat hfo trivial fun x _ => propsBlock_lic off x
    have ⟨v1, v2⟩ : entitiesOf .properties s (expEntries off [r]) = [r].map expectedView ∧ _ :=
      propsEmbeds.views_at propsSpec_laws [r] hs s off _ hat hfo
    have hl : off + ([r].map printRec).flatten.length = off + r.1.length + 1 + r.2.length + 1 := by
      simp [printRec_length]; omega
    obtain ⟨w', u1, u2⟩ := walk_views_from s ls _ (hl ▸ hat.app) hok.2.2
    have e : lentries off (.rcd r bad :: ls) = expEntries off [r] ++ lentries (off + r.1.length + 1 + r.2.length + 1) ls := rfl
    rw [e, entitiesOf_append, junkOf_append, show entitiesOf .properties s _ = _ from v1, v2, u1, u2]
    refine ⟨?_, rfl, rfl⟩
    have := w.append (hl ▸ w')
    simpa [linesText, lineText, printRec_length, Nat.add_assoc] using this
  | .garb g :: ls, off, h, hok => by
    have hat : At s off (g ++ ([10] ++ linesText ls)) := by simpa [At, linesText, lineText] using h
    have hg : PGarbage g [10] := ⟨hok.1, [], rfl, nofun⟩
    obtain ⟨w', u1, u2⟩ := walk_views_from s ls (off + g.length + 1) hat.app.app hok.2.2
    have ej := (propsSpec_laws.junk_at s () off g [10] _ hg hat trivial (by
      cases ls with
      | nil => exact Or.inl rfl
      | cons l ls =>
        cases l with
        | garb g' => exact absurd hok.2.1 (by simp [startsRec])
        | rcd r bad =>
          exact Or.inr ⟨propsBlock r, linesText ls, by rw [show propsSpec.pr (propsBlock r) = _ from propsEmbeds.pr r hok.2.2.1]; rfl,
            propsEmbeds.good () r hok.2.2.1, trivial, lines_follow ls hok.2.2.2.2⟩)).1
    have hgl : 0 < g.length := List.length_pos_iff.mpr hok.1.ne
    have w := (Walks.one (hat.pos_lt (by simp [hok.1.ne])) (by simp [C02X.junkEntry]; omega) ej).append w'
    refine ⟨by simpa [lentries, linesText, lineText, Nat.add_assoc, Nat.add_comm 1] using w, ?_, ?_⟩
    · rw [lentries, entitiesOf_cons_other _ _ _ _ (by simp [C02X.junkEntry]), u1]; rfl
    · rw [lentries, junkOf_cons_junk _ _ _ rfl, u2]
      have : slice s off (off + g.length + 1) = g ++ [10] := by
        have : At s off ((g ++ [10]) ++ linesText ls) := by simpa using hat
        simpa [Nat.add_assoc] using this.slice
      simp [C02X.junkEntry, lgarb, this]

def plain (rs : List PRec) : List Line := rs.map (.rcd · none)

theorem plain_append_lines (rs : List PRec) (tail : List Line) :
    linesText (plain rs ++ tail) = printProps rs ++ linesText tail ∧
    lrecs (plain rs ++ tail) = rs ++ lrecs tail ∧ lgarb (plain rs ++ tail) = lgarb tail ∧
    (∀ off, lentries off (plain rs ++ tail) = expEntries off rs ++ lentries (off + (printProps rs).length) tail) ∧
    ((∀ r ∈ rs, SafeRec r) → LinesOK tail → LinesOK (plain rs ++ tail)) := by
  induction rs with
  | nil => simp [plain, printProps, expEntries]
  | cons r rs ih =>
    obtain ⟨a, b, c, g, h⟩ := ih
    have hp : printProps (r :: rs) = printRec r ++ printProps rs := by simp [printProps]
    have hl : ∀ off, off + (printProps (r :: rs)).length = off + r.1.length + 1 + r.2.length + 1 + (printProps rs).length := by
      intro off; rw [hp, List.length_append, printRec_length]; omega
    simp only [plain, List.map_cons, List.cons_append] at a b c g h ⊢
    refine ⟨?_, ?_, ?_, fun off => ?_, fun h1 h2 => ?_⟩
    · rw [linesText, a, hp, lineText, List.append_assoc]
    · rw [lrecs, b]
    · rw [lgarb, c]
    · rw [lentries, expEntries, g, hl]; rfl
    · exact ⟨h1 r (by simp), (fun _ h => by cases h), h (fun x hx => h1 x (by simp [hx])) h2⟩

theorem plain_only_lines (rs : List PRec) :
    linesText (plain rs) = printProps rs ∧ lrecs (plain rs) = rs ∧ lgarb (plain rs) = [] ∧
    (∀ off, lentries off (plain rs) = expEntries off rs) ∧ ((∀ r ∈ rs, SafeRec r) → LinesOK (plain rs)) := by
  have := plain_append_lines rs []
  simpa [linesText, lrecs, lgarb, lentries, LinesOK] using this

end C04M

/- C02, properties: one inert garbage line between printed records is exactly one junk entry — the line list
   `records, the line, records`. -/
namespace C02X
open P

def printWithGarbage (rs1 : List PRec) (g : List Nat) (rs2 : List PRec) : List Nat :=
  printProps rs1 ++ ((g ++ [10]) ++ printProps rs2)

/-- what the walk over `printWithGarbage rs1 g rs2` must yield -/
def garbageExpEntries (rs1 : List PRec) (g : List Nat) (rs2 : List PRec) : List Entry :=
  expEntries 0 rs1 ++
    junkEntry (printProps rs1).length ((printProps rs1).length + g.length + 1) ::
      expEntries ((printProps rs1).length + g.length + 1) rs2

end C02X
