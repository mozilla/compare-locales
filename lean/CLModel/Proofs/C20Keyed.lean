/-
C20 — `KeyedTuple`: the answers of the object with its `__map` equal the closed form on the
entity list alone.
-/
import CLModel.Compare.KeyedTuple
import CLModel.Compare.AddRemoveObj
import CLModel.Proofs.AddRemove
namespace C20P
open AR C20K

variable {κ : Type} [DecidableEq κ]

theorem map_new (es : List (Ent κ)) : (KT.new es).map = keyedMap (es.map (·.key)) := by
  cases es with
  | nil => rfl
  | cons e t =>
    simp only [KT.new, List.isEmpty_cons, Bool.false_eq_true, if_false, keyedMap]
    rw [List.zipIdx_map, List.foldl_map]
    rfl

theorem tupleIndex_nat {β : Type} (xs : List β) (i : Nat) : tupleIndex xs (i : Int) = xs[i]? := by
  have : ¬ ((i : Int) < 0) := by omega
  simp [tupleIndex, this]

theorem any_key_eq (es : List (Ent κ)) (k : κ) :
    es.any (fun e => e.key == k) = (es.map (·.key)).contains k := by
  rw [Bool.eq_iff_iff]
  simp [List.any_eq_true]

theorem getitem_key (es : List (Ent κ)) (k : κ) :
    (KT.new es).getitem (.key k) = match lastWithKey es k with
      | some e => .ent e
      | none => .err "TypeError" := by
  rw [lastWithKey, ← keyed_getElem? (fun e : Ent κ => e.key)]
  simp only [KT.getitem, KT.mapGet, map_new]
  rw [show dget (keyedMap (es.map (·.key))) k = keyedIndex (es.map (·.key)) k from rfl]
  cases hi : keyedIndex (es.map (·.key)) k with
  | none => rfl
  | some i =>
    have hlt : i < es.length := by simpa using keyedIndex_lt hi
    simp only [Option.bind_some, tupleGetitem, tupleIndex_nat, KT.new]
    rw [List.getElem?_eq_getElem hlt]

theorem contains_key (es : List (Ent κ)) (k : κ) :
    (KT.new es).contains (.key k) = es.any (fun e => e.key == k) := by
  simp only [KT.contains, KT.mapContains, map_new, any_key_eq]
  rw [← keyedContains_eq, keyedContains]
  cases (dget (keyedMap (es.map (·.key))) k).isSome
  · simp [tupleContains]
  · simp

theorem step_eq_spec (es : List (Ent κ)) (q : Q κ) :
    ((KT.new es).step q).2 = specAsk es q := by
  cases q with
  | getitem a =>
    cases a with
    | key k =>
      show (KT.new es).getitem (.key k) = _
      rw [getitem_key]
      rfl
    | _ => simp only [KT.step, KT.getitem, KT.mapGet, specAsk, KT.new]
  | contains a =>
    cases a with
    | key k => simp only [KT.step, specAsk, contains_key]
    | _ => simp [KT.step, KT.contains, KT.mapContains, specAsk, KT.new]
  | _ => rfl

theorem step_state (t : KT κ) (q : Q κ) : (t.step q).1 = t := by
  cases q <;> rfl

theorem run_eq_map (t : KT κ) (qs : List (Q κ)) : t.run qs = qs.map (fun q => (t.step q).2) := by
  induction qs with
  | nil => rfl
  | cons q qs ih => rw [KT.run, step_state, ih, List.map_cons]

theorem lastWithKey_eq_some_iff (es : List (Ent κ)) (k : κ) (e : Ent κ) :
    lastWithKey es k = some e ↔
      e.key = k ∧ ∃ pre post, es = pre ++ e :: post ∧ ∀ e' ∈ post, e'.key ≠ k := by
  rw [lastWithKey, Txt.reverse_find?_key_eq_some_iff]
  exact ⟨fun ⟨pre, post, h, hk, hp⟩ => ⟨hk, pre, post, h, hp⟩, fun ⟨hk, pre, post, h, hp⟩ => ⟨pre, post, h, hk, hp⟩⟩

theorem lastWithKey_none (es : List (Ent κ)) (k : κ) (h : ∀ e ∈ es, e.key ≠ k) : lastWithKey es k = none :=
  (Txt.reverse_find?_key_eq_none_iff Ent.key es k).2 h

end C20P
