/-
Dead branches of the three `getNext` functions.

`Parser.getNext` (base.py:416-417), `PropertiesParser.getNext` (properties.py:106-107) and
`DefinesParser.getNext` (defines.py:90-91) all end with

    if current_comment is not None: return current_comment
    if white_space is not None:     return white_space        # <- never executed
    return self.getJunk(...)

The models have the same branch.  Each `…D` function below is the model with the value of that
branch replaced by an ARBITRARY entry `d`; it is proved equal to the model for every `d`, text and
offset (`C01.dead_*_late_whitespace`): the branch is never taken (white-space without a pending comment has already been
returned by the early `if current_comment is None: return white_space`).
-/
import CLModel.Parser.Formats
namespace C01P
open P Rx Gen.Pat

/-- `P.getNext` with the late `return white_space` replaced by `d` -/
def getNextD (d : Entry) (c : BaseCfg) (s : Array Nat) (off0 : Nat) : Entry :=
  let cm := matchAt s c.reComment off0
  match (match cm with
         | some st =>
            if off0 < 2 && isInfix licenseWord (commentVal c.commentStyle (slice s off0 st.pos))
            then some ({ kind := .comment, full := off0, s := off0, e := st.pos } : Entry) else none
         | none => none) with
  | some e => e
  | none =>
  let off1 := match cm with | some st => st.pos | none => off0
  let ws := matchAt s c.reWhitespace off1
  match (match ws with
         | some w =>
            if cm.isSome && countNl s off1 w.pos > 1 then
              some ({ kind := .comment, full := off0, s := off0, e := off1 } : Entry)
            else if cm.isNone then some ({ kind := .whitespace, full := off1, s := off1, e := w.pos, ks := off1, ke := w.pos, vs := off1, ve := w.pos } : Entry)
            else none
         | none => none) with
  | some e => e
  | none =>
  let off2 := match ws with | some w => w.pos | none => off1
  match (match matchAt s c.reKey off2 with
         | some km => (c.create s off2 km).map (fun (e, k, v) =>
              ({ kind := .entity, full := off0, s := off2, e := e, ks := k.1, ke := k.2, vs := v.1, ve := v.2,
                 pc := if cm.isSome then some (off0, off1) else none } : Entry))
         | none => none) with
  | some e => e
  | none =>
    if cm.isSome then { kind := .comment, full := off0, s := off0, e := off1 }
    else if ws.isSome then d
    else getJunk s off0 c.junkExps

/-- `P.propsGetNext` with the late `return white_space` replaced by `d` -/
def propsGetNextD (d : Entry) (s : Array Nat) (off0 : Nat) : Entry :=
  let cm := matchAt s PropertiesParser_reComment off0
  match (match cm with
         | some st =>
            if off0 == 0 && isInfix licenseWord (commentVal (.offset Gen.Tables.offsetCommentDefault) (slice s off0 st.pos))
            then some ({ kind := .comment, full := off0, s := off0, e := st.pos } : Entry) else none
         | none => none) with
  | some e => e
  | none =>
  let off1 := match cm with | some st => st.pos | none => off0
  let ws := matchAt s Parser_reWhitespace off1
  match (match ws with
         | some w =>
            if cm.isSome && countNl s off1 w.pos > 1 then
              some ({ kind := .comment, full := off0, s := off0, e := off1 } : Entry)
            else if cm.isNone then some ({ kind := .whitespace, full := off1, s := off1, e := w.pos, ks := off1, ke := w.pos, vs := off1, ve := w.pos } : Entry)
            else none
         | none => none) with
  | some e => e
  | none =>
  let off2 := match ws with | some w => w.pos | none => off1
  match matchAt s PropertiesParser_reKey off2 with
  | some km =>
    let (endval0, startline) := propsLines s (s.size + 1) km.pos km.pos
    let endval := match search s PropertiesParser__trailingWS startline with
      | some (q, _) => q
      | none => endval0
    let k := spanI km PropertiesParser_reKey_g_key
    { kind := .entity, full := off0, s := off2, e := endval, ks := k.1, ke := k.2, vs := km.pos, ve := endval,
      pc := if cm.isSome then some (off0, off1) else none }
  | none =>
    if cm.isSome then { kind := .comment, full := off0, s := off0, e := off1 }
    else if ws.isSome then d
    else getJunk s off0 [PropertiesParser_reKey, PropertiesParser_reComment]

/-- `P.definesGetNext` with the late `return white_space` replaced by `d` -/
def definesGetNextD (d : Entry) (s : Array Nat) (fel : Bool) (off0 : Nat) : Entry × Bool :=
  let cm := matchAt s DefinesParser_reComment off0
  let off1 := match cm with | some st => st.pos | none => off0
  let cmE : Entry := { kind := .comment, full := off0, s := off0, e := off1 }
  let ws := matchAt s DefinesParser_reWhitespace off1
  match (match ws with
         | some w =>
            if off1 == 0 || !(w.pos - off1 == 1 || fel) then
              if cm.isSome then some cmE
              else some ({ kind := .junk, full := off1, s := off1, e := w.pos } : Entry)
            else if cm.isSome && countNl s off1 w.pos > 1 then some cmE
            else if cm.isNone then some ({ kind := .whitespace, full := off1, s := off1, e := w.pos, ks := off1, ke := w.pos, vs := off1, ve := w.pos } : Entry)
            else none
         | none => none) with
  | some e => (e, fel)
  | none =>
  let off2 := match ws with | some w => w.pos | none => off1
  match matchAt s DefinesParser_reKey off2 with
  | some km =>
    let k := spanI km DefinesParser_reKey_g_key
    let v := spanI km DefinesParser_reKey_g_val
    ({ kind := .entity, full := off0, s := off2, e := km.pos, ks := k.1, ke := k.2, vs := v.1, ve := v.2,
       pc := if cm.isSome then some (off0, off1) else none }, fel)
  | none =>
    if cm.isSome then (cmE, fel)
    else if ws.isSome then (d, fel)
    else
      match matchAt s DefinesParser_rePI off2 with
      | some st =>
        let v := spanI st DefinesParser_rePI_g_val
        let val := slice s v.1.toNat v.2.toNat
        let fel' := if val == filterEmptyLines then true else if val == unfilterEmptyLines then false else fel
        ({ kind := .instruction, full := off2, s := off2, e := st.pos, ks := v.1, ke := v.2, vs := v.1, ve := v.2 }, fel')
      | none => (getJunk s off0 [DefinesParser_reComment, DefinesParser_reKey, DefinesParser_rePI], fel)

/-- the entity a DTD parameter entity `<!ENTITY % n SYSTEM "u"> %n;` is turned into is only
    looked for when the base `getNext` reported junk (dtd.py:107-111); the model agrees: when the
    base result is not junk, `rePE` is never consulted -/
theorem dtdGetNext_of_not_junk (s : Array Nat) (off0 : Nat)
    (h : (getNext dtdCfg s (if off0 == 0 && (matchAt s DTDParser_reHeader 0).isSome then off0 + 1 else off0)).kind ≠ .junk) :
    dtdGetNext s off0 =
      getNext dtdCfg s (if off0 == 0 && (matchAt s DTDParser_reHeader 0).isSome then off0 + 1 else off0) := by
  have hk : ((getNext dtdCfg s (if off0 == 0 && (matchAt s DTDParser_reHeader 0).isSome then off0 + 1 else off0)).kind == .junk) = false := by
    cases hx : (getNext dtdCfg s (if off0 == 0 && (matchAt s DTDParser_reHeader 0).isSome then off0 + 1 else off0)).kind <;>
      first | rfl | exact absurd hx h
  simp only [dtdGetNext, hk]
  rfl

end C01P
