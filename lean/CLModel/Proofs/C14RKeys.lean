/-
C14: the key text `_compile_rule` compiles (`compiledKeyText`, `reEscape`, `litDollarText`) and `TOMLParser.processFilters`
(`processFiltersM`).
-/
import CLModel.Paths.Filter
import CLModel.Paths.FilterM
namespace C14R
open Filt FiltM

theorem compileRuleM_single (p : Text) (k : Option (OneOrMany RawKey)) (a : Action) :
    compileRuleM ⟨.many [p], k, a⟩ = compileRuleM ⟨.one p, k, a⟩ := by
  simp [compileRuleM]

theorem addRulesM_eq_append (rules : List RuleM) (raws : List RawRuleM) :
    addRulesM rules raws = rules ++ raws.flatMap compileRuleM := by
  induction raws generalizing rules with
  | nil => simp [addRulesM]
  | cons r rest ih =>
    have : addRulesM rules (r :: rest) = addRulesM (rules ++ compileRuleM r) rest := rfl
    rw [this, ih, List.flatMap_cons, List.append_assoc]

theorem processFiltersM_acc (acc : List RuleM) (tables : List RawRuleM) :
    tables.foldl (fun rules d =>
      let paths := match d.path with
        | .one p => [p]
        | .many ps => ps
      addRulesM rules [⟨.many paths, d.key, d.action⟩]) acc = acc ++ tables.flatMap compileRuleM := by
  induction tables generalizing acc with
  | nil => simp
  | cons d rest ih =>
    rw [List.foldl_cons, ih, List.flatMap_cons, addRulesM_eq_append]
    have : compileRuleM ⟨.many (match d.path with | .one p => [p] | .many ps => ps), d.key, d.action⟩
        = compileRuleM d := by
      cases d with
      | mk path key action =>
        cases path with
        | one p => exact compileRuleM_single p key action
        | many ps => rfl
    simp only [List.flatMap_cons, List.flatMap_nil, List.append_nil, this, List.append_assoc]

/-- `TOMLParser.processFilters` = one `add_rules` with the tables as written: a string path and a one-element
    list compile to the same rules -/
theorem processFiltersM_eq (tables : List RawRuleM) : processFiltersM tables = addRulesM [] tables := by
  rw [addRulesM_eq_append]
  exact processFiltersM_acc [] tables

theorem litDollarText_sound (r : Rx.Re) : ∀ (s : Text), litDollarText r = some s → r = escapedDollar s := by
  fun_induction litDollarText r with
  | case1 => rintro _ ⟨⟩; rfl
  | case2 c r ih =>
    intro s h
    obtain ⟨t, ht, rfl⟩ := Option.map_eq_some_iff.mp h
    rw [ih t ht]; rfl
  | case3 => intro s h; cases h

theorem litDollarText_complete : ∀ (s : Text), litDollarText (escapedDollar s) = some s
  | [] => rfl
  | c :: s => by
    have : escapedDollar (c :: s) = .seq (.lit c) (escapedDollar s) := rfl
    rw [this, litDollarText, litDollarText_complete s]; rfl

theorem reEscape_plain (s : Text) (h : ∀ c ∈ s, Gen.Tables.reEscapeSpecials.contains c = false) : reEscape s = s := by
  induction s with
  | nil => rfl
  | cons c s ih =>
    have hc := h c (by simp)
    simp only [reEscape, List.flatMap_cons, hc, Bool.false_eq_true, ↓reduceIte, List.singleton_append, List.cons.injEq,
      true_and]
    exact ih (fun d hd => h d (by simp [hd]))

/-- undo `re.escape`: drop the backslash in front of a special character -/
def unEscape : Text → Text
  | 92 :: c :: rest => c :: unEscape rest
  | c :: rest => c :: unEscape rest
  | [] => []

theorem unEscape_reEscape : ∀ (s : Text), unEscape (reEscape s) = s
  | [] => rfl
  | c :: s => by
    have ih := unEscape_reEscape s
    simp only [reEscape, List.flatMap_cons] at ih ⊢
    by_cases hc : Gen.Tables.reEscapeSpecials.contains c = true
    · simp only [hc, ↓reduceIte, List.cons_append, List.nil_append, unEscape, ih]
    · have hc' : Gen.Tables.reEscapeSpecials.contains c = false := by simpa using hc
      have h92 : c ≠ 92 := by
        intro h; subst h; revert hc'; decide
      simp only [hc', Bool.false_eq_true, ↓reduceIte, List.singleton_append]
      rw [unEscape.eq_def]
      split
      · rename_i heq; simp only [List.cons.injEq] at heq; exact absurd heq.1 h92
      · rename_i heq; simp only [List.cons.injEq] at heq; obtain ⟨rfl, rfl⟩ := heq; rw [ih]
      · rename_i heq; cases heq

end C14R
