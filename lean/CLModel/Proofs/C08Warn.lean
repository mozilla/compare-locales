/-
C08: the texts of the CSS *warnings* of `CSSCheckMixin.check_style`, the in-place `ref_map.pop`, and what that
means for several `style` attributes in one message; `maybe_style`; `check_style` with categories.
-/
import CLModel.Proofs.C08
import CLModel.Proofs.ListLemmas
import CLModel.Checks.FluentExt
namespace C08W
open Ftl Gen.Tables

/-- `"%s only in l10n" % prop` -/
def onlyL10nMsg (prop : Str) : Str := fmt checkStyleStr_6 [prop]
/-- `"%s only in reference" % prop` -/
def onlyRefMsg (prop : Str) : Str := fmt checkStyleStr_8 [prop]
/-- `"units for %s don't match (%s != %s)" % (prop, unit, ref_unit)` -/
def unitsMsg (prop : Str) (unit refUnit : Option Str) : Str := fmt checkStyleStr_7 [prop, unitStr unit, unitStr refUnit]

/-- properties of the localization that the reference does not have, in the localization's order -/
def onlyL10n (rm lm : CssMap) : List Str := (lm.filter (fun p => (dictGet? rm p.1).isNone)).map (·.1)

/-- properties on both sides whose units differ, in the localization's order -/
def mismatches (rm lm : CssMap) : List Str :=
  lm.filterMap (fun p => match dictGet? rm p.1 with
    | some ru => if p.2 != ru then some (unitsMsg p.1 p.2 ru) else none
    | none => none)

/-- properties of the reference that the localization does not have, in the reference's order -/
def onlyRef (rm lm : CssMap) : List Str := (rm.filter (fun q => !(dictKeys lm).contains q.1)).map (·.1)

theorem onlyL10n_cons_none (rm rest : CssMap) (prop : Str) (unit : Option Str) (hg : dictGet? rm prop = none) :
    onlyL10n rm ((prop, unit) :: rest) = prop :: onlyL10n rm rest := by
  simp [onlyL10n, hg]

theorem onlyL10n_cons_some (rm rest : CssMap) (prop : Str) (unit ru : Option Str) (hg : dictGet? rm prop = some ru) :
    onlyL10n rm ((prop, unit) :: rest) = onlyL10n rm rest := by
  simp [onlyL10n, hg]

theorem mismatches_cons_none (rm rest : CssMap) (prop : Str) (unit : Option Str) (hg : dictGet? rm prop = none) :
    mismatches rm ((prop, unit) :: rest) = mismatches rm rest := by
  simp [mismatches, hg]

theorem mismatches_cons_some (rm rest : CssMap) (prop : Str) (unit ru : Option Str) (hg : dictGet? rm prop = some ru) :
    mismatches rm ((prop, unit) :: rest) =
      (if unit != ru then [unitsMsg prop unit ru] else []) ++ mismatches rm rest := by
  simp only [mismatches, List.filterMap_cons, hg]
  split <;> simp_all

/-- what is left in `ref_map` after check_style -/
def popped (rm lm : CssMap) : CssMap := rm.filter (fun q => !(dictKeys lm).contains q.1)

/-- Closed form of the `l10n_map.items()` loop.  `msgs.insert(0, …)` for a property only in the localization gives the
    reversed prefix, `msgs.append(…)` for a unit mismatch the suffix.  Both `Nodup`s are needed: `dictDel` removes the first
    hit only, so it is the filter of the statement only for distinct reference keys; and a later property of the
    localization must be another key for its lookup to survive the pop. -/
theorem styleLoop_spec (lm rm : CssMap) (msgs : List Str) (hl : (dictKeys lm).Nodup) (hr : (dictKeys rm).Nodup) :
    styleLoop lm rm msgs = (popped rm lm, ((onlyL10n rm lm).map onlyL10nMsg).reverse ++ msgs ++ mismatches rm lm) := by
  unfold popped
  induction lm generalizing rm msgs with
  | nil =>
    have : rm.filter (fun q => !(dictKeys ([] : CssMap)).contains q.1) = rm := by
      rw [List.filter_eq_self]; intro q _; simp [dictKeys]
    rw [this]
    simp [styleLoop, onlyL10n, mismatches]
  | cons p rest ih =>
    obtain ⟨prop, unit⟩ := p
    have hl' : (dictKeys rest).Nodup := by
      simp only [dictKeys, List.map_cons, List.nodup_cons] at hl
      simpa [dictKeys] using hl.2
    have hprop : prop ∉ dictKeys rest := by
      simp only [dictKeys, List.map_cons, List.nodup_cons] at hl
      simpa [dictKeys] using hl.1
    simp only [styleLoop]
    cases hg : dictGet? rm prop with
    | none =>
      simp only
      rw [ih rm _ hl' hr]
      have hnot : prop ∉ dictKeys rm := (dictGet?_none_iff rm prop).mp hg
      have hf : rm.filter (fun q => !(dictKeys ((prop, unit) :: rest)).contains q.1) =
          rm.filter (fun q => !(dictKeys rest).contains q.1) := by
        apply List.filter_congr
        intro q hq
        have : q.1 ≠ prop := fun he => hnot (he ▸ List.mem_map.mpr ⟨q, hq, rfl⟩)
        have h2 : (q.1 == prop) = false := by simpa using this
        simp [dictKeys, h2]
      rw [hf, onlyL10n_cons_none _ _ _ _ hg, mismatches_cons_none _ _ _ _ hg]
      simp [onlyL10nMsg]
    | some refUnit =>
      simp only
      have hr' : (dictKeys (dictDel rm prop)).Nodup := by
        rw [dictDel_eq_filter rm prop hr]; exact nodup_keys_filter _ _ hr
      have hsame : ∀ q ∈ rest, dictGet? (dictDel rm prop) q.1 = dictGet? rm q.1 := by
        intro q hq
        apply dictGet?_dictDel_ne _ _ _ hr
        intro he
        exact hprop (he ▸ List.mem_map.mpr ⟨q, hq, rfl⟩)
      have hL : onlyL10n (dictDel rm prop) rest = onlyL10n rm rest := by
        unfold onlyL10n
        congr 1
        apply List.filter_congr
        intro q hq
        rw [hsame q hq]
      have hM : mismatches (dictDel rm prop) rest = mismatches rm rest := by
        unfold mismatches
        apply Txt.filterMap_congr'
        intro q hq
        rw [hsame q hq]
      have hF : (dictDel rm prop).filter (fun q => !(dictKeys rest).contains q.1) =
          rm.filter (fun q => !(dictKeys ((prop, unit) :: rest)).contains q.1) := by
        rw [dictDel_eq_filter rm prop hr, List.filter_filter]
        apply List.filter_congr
        intro q _
        simp only [dictKeys, List.map_cons, List.contains_cons]
        cases h1 : (q.1 == prop) <;> cases h2 : (List.map (fun x => x.1) rest).contains q.1 <;> simp
      rw [onlyL10n_cons_some _ _ _ _ _ hg, mismatches_cons_some _ _ _ _ _ hg]
      split
      · rename_i hne
        rw [ih _ _ hl' hr', hL, hM, hF]
        simp [unitsMsg]
      · rename_i hne
        rw [ih _ _ hl' hr', hL, hM, hF]
        simp

/-- the list `msgs` of check_style when the localized value parsed without errors -/
def styleMsgs (rm lm : CssMap) : List Str :=
  ((onlyRef rm lm).map onlyRefMsg).reverse ++ ((onlyL10n rm lm).map onlyL10nMsg).reverse ++ mismatches rm lm

/-- the CSS warning of check_style as a message of the Fluent visitor -/
def cssWarning (rm lm : CssMap) : List Msg :=
  if (styleMsgs rm lm).isEmpty then [] else [⟨sevWarning, 0, join [44, 32] (styleMsgs rm lm)⟩]

theorem checkStyle_ok (rm lm : CssMap) (ce : Option (List CssErr)) (hne : lm ≠ [])
    (hce : (match ce with | some (_ :: _) => true | _ => false) = false)
    (hl : (dictKeys lm).Nodup) (hr : (dictKeys rm).Nodup) :
    checkStyle rm (some lm) ce = (cssWarning rm lm, popped rm lm) := by
  cases lm with
  | nil => exact absurd rfl hne
  | cons p rest =>
    have hmsgs : (List.map (fun prop => fmt checkStyleStr_8 [prop])
        (dictKeys (popped rm (p :: rest)))).reverse ++
        ((List.map onlyL10nMsg (onlyL10n rm (p :: rest))).reverse ++ mismatches rm (p :: rest)) = styleMsgs rm (p :: rest) := by
      simp [styleMsgs, onlyRef, onlyRefMsg, popped, dictKeys, List.append_assoc]
    have hbody : ∀ ce', (match ce' with | some (_ :: _) => true | _ => false) = false →
        checkStyle rm (some (p :: rest)) ce' = (cssWarning rm (p :: rest), popped rm (p :: rest)) := by
      intro ce' h'
      cases ce' with
      | none =>
        simp only [checkStyle, Bool.false_eq_true, if_false]
        rw [styleLoop_spec _ _ _ hl hr]
        simp only [List.foldl_flip_cons_eq_append, List.append_nil]
        rw [hmsgs, styleStr_9, styleStr_10]
        rfl
      | some l =>
        cases l with
        | nil =>
          simp only [checkStyle, Bool.false_eq_true, if_false]
          rw [styleLoop_spec _ _ _ hl hr]
          simp only [List.foldl_flip_cons_eq_append, List.append_nil]
          rw [hmsgs, styleStr_9, styleStr_10]
          rfl
        | cons c cs => simp at h'
    exact hbody ce hce

theorem checkStyle_bad_keeps (rm : CssMap) (lm : Option CssMap) (ce : Option (List CssErr)) (h : cssBadP (lm, ce) = true) :
    checkStyle rm lm ce = ([cssError], rm) := by
  unfold checkStyle
  rw [cssError, ← styleStr_0]
  cases lm with
  | none => rfl
  | some m =>
    cases m with
    | nil => rfl
    | cons p r =>
      cases ce with
      | none => simp [cssBadP] at h
      | some l =>
        cases l with
        | nil => simp [cssBadP] at h
        | cons c cs => simp [styleStr_3, styleStr_0, styleStr_4]

/-- an invariant of the map `parse_css_spec` builds: it holds of a map that was entered into (`ref_map[prop] = unit`),
    whether the map was there before or not -/
theorem cssLoop_inv (I : CssMap → Prop) (hset : ∀ d k v, (d = [] ∨ I d) → I (dictSet d k v)) (s : Array Nat)
    (ms : List (Nat × Rx.St)) (endp : Nat) (rm : Option CssMap) (errs : Option (List CssErr)) (h : ∀ m, rm = some m → I m) :
    ∀ m, (cssLoop s ms endp rm errs).1 = some m → I m := by
  induction ms generalizing endp rm errs with
  | nil => intro m hm; exact h m hm
  | cons q rest ih =>
    obtain ⟨q, st⟩ := q
    intro m hm
    simp only [cssLoop] at hm
    split at hm
    · cases hm
    · refine ih _ _ _ ?_ m hm
      intro m' hm'
      split at hm'
      · split at hm'
        · exact h m' hm'
        · cases hm'
          apply hset
          cases rm with
          | none => exact Or.inl rfl
          | some d => exact Or.inr (h d rfl)
      · exact h m' hm'

theorem parseCssSpec_nodup (v : Str) (m : CssMap) (h : (parseCssSpec v).1 = some m) : (dictKeys m).Nodup := by
  refine cssLoop_inv (fun m => (dictKeys m).Nodup) ?_ _ _ _ _ _ (by intro m hm; cases hm) m h
  intro d k v hd
  rw [dictKeys_dictSet]
  apply nodup_setAdd
  rcases hd with rfl | hd
  · exact List.nodup_nil
  · exact hd

def dropCat (o : Out) : Msg := ⟨o.sev, o.pos.toNat, o.text⟩

theorem checkStyle4_eq (rm : CssMap) (lm : Option CssMap) (ce : Option (List CssErr)) :
    (checkStyle4 rm lm ce).1.map dropCat = (checkStyle rm lm ce).1 ∧ (checkStyle4 rm lm ce).2 = (checkStyle rm lm ce).2 ∧
    ∀ o ∈ (checkStyle4 rm lm ce).1, o.cat = fmt checkStyleStr_2 [] := by
  cases lm with
  | none => simp [checkStyle4, checkStyle, dropCat]
  | some m =>
    cases m with
    | nil => simp [checkStyle4, checkStyle, dropCat]
    | cons p r =>
      cases ce with
      | none =>
        simp only [checkStyle4, checkStyle, Bool.false_eq_true, if_false]
        split <;> simp [dropCat, styleStr_11]
      | some l =>
        cases l with
        | nil =>
          simp only [checkStyle4, checkStyle, Bool.false_eq_true, if_false]
          split <;> simp [dropCat, styleStr_11]
        | cons c cs => simp [checkStyle4, checkStyle, dropCat, styleStr_5]

theorem parseCssSpec_ne_nil (v : Str) (m : CssMap) (h : (parseCssSpec v).1 = some m) : m ≠ [] :=
  cssLoop_inv (· ≠ []) (fun d k v _ => dictSet_ne_nil d k v) _ _ _ _ _ (by intro m hm; cases hm) m h

theorem maybeStyle_none (r l : Str) (h : (parseCssSpec r).1 = none) : maybeStyle r l = [] := by
  simp [maybeStyle, h]

theorem maybeStyle_some (r l : Str) (rm : CssMap) (h : (parseCssSpec r).1 = some rm) :
    maybeStyle r l = (checkStyle4 rm (parseCssSpec l).1 (parseCssSpec l).2).1 := by
  have hne := parseCssSpec_ne_nil r rm h
  cases rm with
  | nil => exact absurd rfl hne
  | cons p rest => simp [maybeStyle, h]

/-- the map of a `style` attribute the checker accepts: one text element that parses without errors -/
def goodMap (a : Attribute) : Option CssMap :=
  if a.name == sStyle then
    match patternVariants a.value with
    | t :: _ => if cssBad t then none else (parseCssSpec t).1
    | [] => none
  else none

theorem cssBad_false (t : Str) (h : cssBad t = false) :
    ∃ lm, (parseCssSpec t).1 = some lm ∧ lm ≠ [] ∧ (dictKeys lm).Nodup ∧
      (match (parseCssSpec t).2 with | some (_ :: _) => true | _ => false) = false := by
  unfold cssBad at h
  rcases hp : parseCssSpec t with ⟨lm, ce⟩
  rw [hp] at h
  cases lm with
  | none => simp [cssBadP] at h
  | some m =>
    have hn := parseCssSpec_nodup t m (by rw [hp])
    cases m with
    | nil => simp [cssBadP] at h
    | cons p r =>
      refine ⟨p :: r, rfl, by simp, hn, ?_⟩
      cases ce with
      | none => rfl
      | some l =>
        cases l with
        | nil => rfl
        | cons c cs => simp [cssBadP] at h

/-- what the `style` check of one attribute appends, given the reference map at that moment -/
def styleVerdict (rm : CssMap) (a : Attribute) : List Msg :=
  match goodMap a with
  | some lm => cssWarning rm lm
  | none => if badStyle a then [cssError] else []

/-- … and the reference map afterwards (`ref_map.pop` for every property of an accepted style) -/
def popOne (rm : CssMap) (a : Attribute) : CssMap :=
  match goodMap a with
  | some lm => popped rm lm
  | none => rm

/-- the map `check_style` is called with: `reference.css_styles` if it is a dict, else a fresh `{}` -/
def rmOf : CssVal → CssMap
  | .map rm => rm
  | _ => []

/-- `reference.css_styles` after the `style` check of `a`: only a dict is popped from -/
def popC : CssVal → Attribute → CssVal
  | .map rm, a => .map (popOne rm a)
  | rc, _ => rc

theorem cssCheck_eq (rc : CssVal) (hr : (dictKeys (rmOf rc)).Nodup) (a : Attribute) :
    cssCheck rc a = (styleVerdict (rmOf rc) a, popC rc a) := by
  by_cases hn : (a.name == sStyle) = true
  · have hn' : (a.name != sStyle) = false := by simpa using hn
    cases hpv : patternVariants a.value with
    | nil =>
      have hg : goodMap a = none := by simp [goodMap, hn, hpv]
      have hbs : badStyle a = false := by simp [badStyle, hpv]
      cases rc <;> simp [cssCheck, hn', hpv, styleVerdict, popC, popOne, hg, hbs]
    | cons t r =>
      by_cases hb : cssBad t = true
      · -- check_style refuses the localized value: one error, nothing popped
        have hg : goodMap a = none := by simp [goodMap, hn, hpv, hb]
        have hbs : badStyle a = true := by simp [badStyle, hn, hpv, hb]
        have hbp : cssBadP ((parseCssSpec t).1, (parseCssSpec t).2) = true := hb
        cases rc <;>
          simp [cssCheck, hn', hpv, styleVerdict, popC, popOne, hg, hbs, checkStyle_bad_keeps _ _ _ hbp]
      · -- an accepted map: the warning of `checkStyle_ok`, its properties popped
        have hb' : cssBad t = false := by simpa using hb
        obtain ⟨lm, h1, h2, h3, h4⟩ := cssBad_false t hb'
        have hg : goodMap a = some lm := by simp [goodMap, hn, hpv, hb', h1]
        cases rc <;> simp only [rmOf] at hr <;>
          simp [cssCheck, hn', hpv, styleVerdict, popC, popOne, hg, rmOf, h1, checkStyle_ok _ lm _ h2 h4 h3 hr]
  · have hn' : (a.name != sStyle) = true := by simpa using hn
    have hg : goodMap a = none := by simp [goodMap, hn]
    have hbs : badStyle a = false := by simp [badStyle, hn]
    cases rc <;> simp [cssCheck, hn', styleVerdict, popC, popOne, hg, hbs]

theorem nodup_popOne (rm : CssMap) (a : Attribute) (h : (dictKeys rm).Nodup) : (dictKeys (popOne rm a)).Nodup := by
  unfold popOne
  split
  · exact nodup_keys_filter _ _ h
  · exact h

theorem mem_foldl_popOne (rm : CssMap) (attrs : List Attribute) (q : Str × Option Str) :
    q ∈ attrs.foldl popOne rm ↔ q ∈ rm ∧ ∀ a ∈ attrs, ∀ lm, goodMap a = some lm → q.1 ∉ dictKeys lm := by
  induction attrs generalizing rm with
  | nil => simp
  | cons a r ih =>
    rw [List.foldl_cons, ih, popOne]
    cases hg : goodMap a with
    | none =>
      simp only [List.mem_cons, forall_eq_or_imp, hg]
      constructor
      · rintro ⟨h1, h2⟩
        exact ⟨h1, ⟨(fun lm h => by cases h), h2⟩⟩
      · rintro ⟨h1, _, h2⟩
        exact ⟨h1, h2⟩
    | some lm =>
      simp only [List.mem_cons, forall_eq_or_imp, hg, popped, List.mem_filter]
      constructor
      · rintro ⟨⟨h1, h2⟩, h3⟩
        refine ⟨h1, ?_, h3⟩
        intro lm' hl
        cases hl
        simpa using h2
      · rintro ⟨h1, h2, h3⟩
        refine ⟨⟨h1, ?_⟩, h3⟩
        have := h2 lm rfl
        simpa using this

/-- the per-attribute messages of the l10n visitor with the reference map threaded explicitly -/
def attrsSpec (kp : Option (List Str)) (rr : Slot → List Str) : CssMap → List Attribute → List Msg
  | _, [] => []
  | rm, a :: r =>
    (evPattern false a.value).flatMap (evMsgs kp (rr (some a.name))) ++ styleVerdict rm a ++ attrsSpec kp rr (popOne rm a) r

/-- the same when the reference has no usable map (no `style`, or a complex one): every call gets a fresh `{}` -/
def attrsSpecNoMap (kp : Option (List Str)) (rr : Slot → List Str) : List Attribute → List Msg
  | [] => []
  | a :: r =>
    (evPattern false a.value).flatMap (evMsgs kp (rr (some a.name))) ++ styleVerdict [] a ++ attrsSpecNoMap kp rr r

theorem attrsMsgs_map (kp : Option (List Str)) (rr : Slot → List Str) (rm : CssMap) (hr : (dictKeys rm).Nodup)
    (attrs : List Attribute) : attrsMsgs kp rr (.map rm) attrs = attrsSpec kp rr rm attrs := by
  induction attrs generalizing rm with
  | nil => rfl
  | cons a r ih =>
    rw [attrsMsgs, attrsSpec, cssCheck_eq (.map rm) hr a]
    exact congrArg _ (ih _ (nodup_popOne rm a hr))

theorem attrsMsgs_nomap (kp : Option (List Str)) (rr : Slot → List Str) (rc : CssVal) (hrc : ∀ rm, rc ≠ .map rm)
    (attrs : List Attribute) : attrsMsgs kp rr rc attrs = attrsSpecNoMap kp rr attrs := by
  induction attrs with
  | nil => rfl
  | cons a r ih =>
    rw [attrsMsgs, attrsSpecNoMap, ← ih]
    cases rc with
    | map rm => exact absurd rfl (hrc rm)
    | none => rw [cssCheck_eq .none List.nodup_nil a]; rfl
    | skip => rw [cssCheck_eq .skip List.nodup_nil a]; rfl

theorem styleOf_nodup (p : Pattern) (x : CssVal × Option (List CssErr)) (rm : CssMap) (h : (styleOf p x).1 = .map rm) :
    (dictKeys rm).Nodup := by
  obtain ⟨c, e⟩ := x
  unfold styleOf at h
  simp only at h
  split at h
  · cases h
  · rename_i t r _
    rcases hp : parseCssSpec t with ⟨m, e'⟩
    rw [hp] at h
    cases m with
    | none => cases h
    | some m =>
      simp only at h
      cases h
      exact parseCssSpec_nodup t _ (by rw [hp])

theorem foldl_refVisitAttribute_css (attrs : List Attribute) (st : RefState)
    (h : ∀ rm, st.css = .map rm → (dictKeys rm).Nodup) :
    ∀ rm, (attrs.foldl refVisitAttribute st).css = .map rm → (dictKeys rm).Nodup := by
  induction attrs generalizing st with
  | nil => exact h
  | cons a r ih =>
    simp only [List.foldl_cons]
    apply ih
    intro rm hrm
    unfold refVisitAttribute at hrm
    simp only at hrm
    split at hrm
    · exact h rm hrm
    · exact styleOf_nodup a.value _ rm hrm

theorem refVisitEntry_css_nodup (ref : Entry) (rm : CssMap) (h : (refVisitEntry ref).css = .map rm) : (dictKeys rm).Nodup := by
  cases ref with
  | message m =>
    simp only [refVisitEntry, refVisit] at h
    refine foldl_refVisitAttribute_css m.attributes _ ?_ rm h
    intro rm' h'
    cases hv : m.value <;> simp [hv, refInit] at h'
  | term t =>
    simp only [refVisitEntry, refVisit] at h
    refine foldl_refVisitAttribute_css t.attributes _ ?_ rm h
    intro rm' h'
    simp [refInit] at h'

end C08W
