/- C09: on the node shapes the checker accepts (`SimpleData`) `textContent` is the text of the node: that of its single
   text child, or of its one CDATA section wherever it stands among the children. -/
import CLModel.Proofs.C09Check
namespace C09P
open Android Android.Spec

theorem firstCdata_append_cdata (pre post : List Child) (d : List Nat) (h : ∀ c ∈ pre, c.isCdata = false) :
    firstCdata (pre ++ .cdata d :: post) = some d := by
  induction pre with
  | nil => rfl
  | cons c cs ih =>
    have hc := h c (by simp)
    cases c <;> simp [Child.isCdata] at hc <;> simp [firstCdata] <;> exact ih (fun c hc' => h c (by simp [hc']))

theorem firstCdata_none {cs : List Child} (h : ∀ c ∈ cs, c.isCdata = false) : firstCdata cs = none := by
  induction cs with
  | nil => rfl
  | cons c cs ih =>
    have hc := h c (by simp)
    cases c <;> simp [Child.isCdata] at hc <;> simp [firstCdata] <;> exact ih (fun c hc' => h c (by simp [hc']))

theorem textContent_cdata_anywhere (n : Node) (pre post : List Child) (d : List Nat)
    (hc : n.children = pre ++ .cdata d :: post) (h : ∀ c ∈ pre, c.isCdata = false) : textContent n = d := by
  unfold textContent
  rw [hc, firstCdata_append_cdata pre post d h]
  simp

theorem whiteText_not_cdata {c : Child} (h : WhiteText c) : c.isCdata = false := by
  obtain ⟨d, rfl, _⟩ := h; rfl

theorem textContent_simple (n : Node) (h : SimpleData n) :
    (n.children = [] ∧ textContent n = []) ∨ (∃ d, n.children = [.text d] ∧ textContent n = d) ∨
    (∃ pre d post, n.children = pre ++ .cdata d :: post ∧ (∀ c ∈ pre ++ post, WhiteText c) ∧ textContent n = d) := by
  rcases h with h | ⟨d, h⟩ | ⟨hlen, hall⟩
  · exact Or.inl ⟨h, by simp [textContent, h]⟩
  · exact Or.inr (Or.inl ⟨d, h, by simp [textContent, h, firstCdata]⟩)
  · right; right
    have hex : ∃ c ∈ n.children, c.isCdata = true := by
      cases hf : n.children.filter (·.isCdata) with
      | nil => simp [hf] at hlen
      | cons c cs =>
        have : c ∈ n.children.filter (·.isCdata) := by rw [hf]; simp
        rw [List.mem_filter] at this
        exact ⟨c, this.1, this.2⟩
    obtain ⟨c, hmem, hcd⟩ := hex
    obtain ⟨s, t, hst⟩ := List.append_of_mem hmem
    cases c <;> simp [Child.isCdata] at hcd
    rename_i d
    rw [hst, List.filter_append, List.filter_cons] at hlen
    simp only [show (Child.cdata d).isCdata = true from rfl, if_true, List.length_append, List.length_cons] at hlen
    have hs : ∀ x ∈ s, x.isCdata = false := by
      intro x hx
      have := (List.filter_eq_nil_iff.mp (List.eq_nil_of_length_eq_zero (by omega : (s.filter (·.isCdata)).length = 0))) x hx
      simpa using this
    have ht : ∀ x ∈ t, x.isCdata = false := by
      intro x hx
      have := (List.filter_eq_nil_iff.mp (List.eq_nil_of_length_eq_zero (by omega : (t.filter (·.isCdata)).length = 0))) x hx
      simpa using this
    refine ⟨s, d, t, hst, ?_, textContent_cdata_anywhere n s t d hst hs⟩
    intro x hx
    rcases List.mem_append.mp hx with hx | hx
    · rcases hall x (by rw [hst]; simp [hx]) with h1 | h1
      · rw [hs x hx] at h1; cases h1
      · exact h1
    · rcases hall x (by rw [hst]; simp [hx]) with h1 | h1
      · rw [ht x hx] at h1; cases h1
      · exact h1

end C09P
