/- `posixpath.normpath` of the mozpath model (`MP.normpath`, Paths/MozPath.lean; the copies in Compare/Projects.lean and
   Paths/TomlConfig.lean are separate definitions, no lemma here speaks of them) as a fold over the components, and the law
   relpath(join(base, q), base) = normpath(q). -/
import CLModel.Proofs.C12MozPath
namespace C12MP
open MP

def normFold (i : Nat) (cs : List Text) (S : List Text) : List Text := cs.foldl (normStep i) S

theorem normFold_nil (i : Nat) (S : List Text) : normFold i [] S = S := rfl
theorem normFold_cons (i : Nat) (c : Text) (cs S : List Text) : normFold i (c :: cs) S = normFold i cs (normStep i S c) := rfl
theorem normFold_append (i : Nat) (a b S : List Text) : normFold i (a ++ b) S = normFold i b (normFold i a S) := by
  simp [normFold, List.foldl_append]

theorem normStep_skip (i : Nat) (S : List Text) {c : Text} (h : c = [] ∨ c = dot) : normStep i S c = S := by
  rcases h with rfl | rfl <;> simp [normStep, dot]

theorem normStep_push (i : Nat) (S : List Text) {c : Text} (h1 : c ≠ []) (h2 : c ≠ dot) (h3 : c ≠ dotdot) :
    normStep i S c = S ++ [c] := by
  simp [normStep, h1, h2, h3]

theorem normStep_pop (i : Nat) (S : List Text) {x : Text} (hx : x ≠ dotdot) : normStep i (S ++ [x]) dotdot = S := by
  have hne : (S ++ [x]).isEmpty = false := by simp
  simp only [normStep, hne, List.getLast?_concat]
  simpa [dotdot, dot] using hx

theorem normFold_mem (P : Text → Prop) (i : Nat) : ∀ (cs S : List Text), (∀ c ∈ S, P c) →
    (∀ c ∈ cs, c ≠ [] → c ≠ dot → P c) → ∀ c ∈ normFold i cs S, P c
  | [], S, hS, _ => hS
  | x :: xs, S, hS, hcs => by
    rw [normFold_cons]
    apply normFold_mem P i xs _ _ (fun c hc => hcs c (by simp [hc]))
    intro c hc
    unfold normStep at hc
    split at hc
    · exact hS c hc
    · rename_i hx
      simp only [Bool.or_eq_true, beq_iff_eq, not_or] at hx
      split at hc
      · rcases List.mem_append.mp hc with h | h
        · exact hS c h
        · simp only [List.mem_singleton] at h; subst h
          exact hcs c (by simp) hx.1 hx.2
      · split at hc
        · exact hS c (List.dropLast_subset _ hc)
        · exact hS c hc

/-- a relative path that never climbs above its start: `d` = current depth -/
def depthOK : Nat → List Text → Bool
  | _, [] => true
  | d, c :: cs =>
    if c == [] || c == dot then depthOK d cs
    else if c == dotdot then d > 0 && depthOK (d - 1) cs
    else depthOK (d + 1) cs

def NoDD (S : List Text) : Prop := ∀ c ∈ S, c ≠ dotdot

/-- `normStep` looks at the last element of the stack only.  As long as every ".." finds a component of `S2` to cancel
    (`depthOK`, with the depth `S2.length`) and none of them is ".." itself (`NoDD`), the fold never looks into `S1`, nor at the
    number `i` of leading slashes (which matters on an empty stack only). -/
theorem normFold_frame (i : Nat) (S1 : List Text) : ∀ (cs S2 : List Text), NoDD S2 → depthOK S2.length cs = true →
    normFold i cs (S1 ++ S2) = S1 ++ normFold 0 cs S2
  | [], S2, _, _ => rfl
  | c :: cs, S2, hdd, hd => by
    rw [normFold_cons, normFold_cons]
    unfold depthOK at hd
    split at hd
    · rename_i hb
      have h1 : c = [] ∨ c = dot := by simpa using hb
      rw [normStep_skip i _ h1, normStep_skip 0 _ h1]
      exact normFold_frame i S1 cs S2 hdd hd
    · rename_i hb
      simp only [Bool.or_eq_true, beq_iff_eq, not_or] at hb
      split at hd
      · rename_i h2
        obtain rfl : c = dotdot := by simpa using h2
        simp only [Bool.and_eq_true, decide_eq_true_eq] at hd
        obtain ⟨hpos, hd'⟩ := hd
        -- the ".." takes the last component of `S2`, which is there and is not ".." itself
        rcases List.eq_nil_or_concat S2 with rfl | ⟨S2', x, rfl⟩
        · exact absurd hpos (Nat.lt_irrefl 0)
        · rw [List.concat_eq_append] at hdd hd' ⊢
          have hx : x ≠ dotdot := hdd x (by simp)
          rw [← List.append_assoc, normStep_pop i _ hx, normStep_pop 0 _ hx]
          rw [List.length_append, List.length_singleton, Nat.add_sub_cancel] at hd'
          exact normFold_frame i S1 cs S2' (fun c hc => hdd c (by simp [hc])) hd'
      · rename_i h2
        have h2 : c ≠ dotdot := by simpa using h2
        rw [normStep_push i _ hb.1 hb.2 h2, normStep_push 0 _ hb.1 hb.2 h2, List.append_assoc]
        refine normFold_frame i S1 cs (S2 ++ [c]) ?_ (by simpa using hd)
        intro y hy
        rcases List.mem_append.mp hy with h | h
        · exact hdd y h
        · simp only [List.mem_singleton] at h; subst h; exact h2

def Comp (c : Text) : Prop := c ≠ [] ∧ 47 ∉ c

theorem normFold_comps (i : Nat) (p : Text) : ∀ c ∈ normFold i (split p) [], Comp c := by
  apply normFold_mem Comp i
  · intro c hc; cases hc
  · intro c hc h1 _
    exact ⟨h1, split_no_slash p c hc⟩

theorem joinSlash_ne_nil : ∀ {cs : List Text}, cs ≠ [] → (∀ c ∈ cs, Comp c) → joinSlash cs ≠ []
  | [], h, _ => absurd rfl h
  | [a], _, h => by simpa [joinSlash] using (h a (by simp)).1
  | a :: b :: r, _, h => by
    show a ++ 47 :: joinSlash (b :: r) ≠ []
    simp

theorem joinSlash_head {cs : List Text} (h : ∀ c ∈ cs, Comp c) : startsSlash (joinSlash cs) = false := by
  cases cs with
  | nil => rfl
  | cons a r =>
    obtain ⟨hne, hns⟩ := h a (by simp)
    cases a with
    | nil => exact absurd rfl hne
    | cons x xs =>
      have hx : x ≠ 47 := fun e => hns (by simp [e])
      cases r with
      | nil => simp [joinSlash, startsSlash, hx]
      | cons b r' => simp [joinSlash, startsSlash, hx]

theorem split_filter_abs (i : Nat) (hi : i = 1 ∨ i = 2) {cs : List Text} (h : ∀ c ∈ cs, Comp c) :
    (split (List.replicate i 47 ++ joinSlash cs)).filter (fun x => !x.isEmpty) = cs := by
  have hsp : (split (joinSlash cs)).filter (fun x => !x.isEmpty) = cs := by
    by_cases hn : cs = []
    · subst hn; simp [joinSlash, split]
    · rw [split_joinSlash cs hn (fun c hc => (h c hc).2)]
      apply List.filter_eq_self.mpr
      intro c hc
      have := (h c hc).1
      cases c <;> simp_all
  have h1 : ∀ t : Text, split (47 :: t) = [] :: split t := by intro t; simp [split]
  rcases hi with rfl | rfl
  · simp only [List.replicate, List.cons_append, List.nil_append, h1]
    simpa using hsp
  · simp only [List.replicate, List.cons_append, List.nil_append, h1]
    simpa using hsp

theorem initialSlashes_pos {p : Text} (h : startsSlash p = true) : initialSlashes p = 1 ∨ initialSlashes p = 2 := by
  cases p with
  | nil => simp [startsSlash] at h
  | cons x r =>
    have : x = 47 := by simpa [startsSlash] using h
    subst this
    unfold initialSlashes
    split
    · right; rfl
    · left; simp [List.isPrefixOf]

theorem comps_normpath_abs {p : Text} (h : startsSlash p = true) :
    (split (normpath p)).filter (fun x => !x.isEmpty) = normFold (initialSlashes p) (split p) [] := by
  have hne : p.isEmpty = false := by cases p <;> simp_all [startsSlash]
  have hi := initialSlashes_pos h
  unfold normpath
  simp only [hne, Bool.false_eq_true, if_false]
  have hrep : (List.replicate (initialSlashes p) 47 ++ joinSlash (normFold (initialSlashes p) (split p) [])).isEmpty = false := by
    rcases hi with e | e <;> rw [e] <;> simp [List.replicate]
  show (split (if (List.replicate (initialSlashes p) 47 ++ joinSlash (normFold (initialSlashes p) (split p) [])).isEmpty = true
      then dot else _)).filter _ = _
  rw [hrep]
  simp only [Bool.false_eq_true, if_false]
  exact split_filter_abs _ hi (normFold_comps _ p)

theorem commonLen_append (a b : List Text) : commonLen a (a ++ b) = a.length := by
  induction a with
  | nil => cases b <;> simp [commonLen]
  | cons x xs ih => simp [commonLen, ih]

theorem endsSlash_noslash {c : Text} (h : 47 ∉ c) : endsSlash c = false := by
  unfold endsSlash
  cases hl : c.getLast? with
  | none => rfl
  | some z =>
    have hz : z ∈ c := List.mem_of_getLast? hl
    have : z ≠ 47 := fun e => h (e ▸ hz)
    simp [this]

theorem foldl_join2_comps : ∀ (cs : List Text) (a : Text), a ≠ [] → endsSlash a = false → (∀ c ∈ cs, Comp c) →
    cs.foldl join2 a = joinSlash (a :: cs)
  | [], a, _, _, _ => rfl
  | c :: cs, a, ha, he, h => by
    obtain ⟨hne, hns⟩ := h c (by simp)
    have hrel : startsSlash c = false := by
      cases c with
      | nil => rfl
      | cons x xs => simp [startsSlash]; intro e; exact hns (by simp [e])
    have hai : a.isEmpty = false := by cases a <;> simp_all
    have hj : join2 a c = a ++ 47 :: c := by simp [join2, hrel, hai, he]
    simp only [List.foldl_cons, hj]
    have hend : endsSlash (a ++ 47 :: c) = false := by
      have : a ++ 47 :: c = (a ++ [47]) ++ c := by simp
      rw [this, endsSlash_append hne]
      exact endsSlash_noslash hns
    rw [foldl_join2_comps cs _ (by simp) hend (fun c hc => h c (by simp [hc]))]
    cases cs with
    | nil => simp [joinSlash]
    | cons d ds => simp [joinSlash, List.append_assoc]

theorem join_comps {cs : List Text} (hne : cs ≠ []) (h : ∀ c ∈ cs, Comp c) : join cs = .ok (joinSlash cs) := by
  cases cs with
  | nil => exact absurd rfl hne
  | cons a r =>
    obtain ⟨ha, hs⟩ := h a (by simp)
    simp only [join, pure, Except.pure]
    rw [foldl_join2_comps r a ha (endsSlash_noslash hs) (fun c hc => h c (by simp [hc]))]

/-- what is put behind an absolute `B` does not change its leading slashes, unless it begins with "/" directly after a
    final "/" of `B` -/
theorem initialSlashes_append {B t : Text} (hB : startsSlash B = true) (h : startsSlash t = false ∨ endsSlash B = false) :
    initialSlashes (B ++ t) = initialSlashes B := by
  have rel : ∀ {x : Nat} {r : Text}, startsSlash (x :: r) = false → ¬ 47 = x := by
    intro x r hx e; subst e; simp [startsSlash] at hx
  match B, hB, h with
  | [x], hB, h =>
    obtain rfl : x = 47 := by simpa [startsSlash] using hB
    match t, h.resolve_right (by simp [endsSlash]) with
    | [], _ => rfl
    | y :: r, hy => simp [initialSlashes, List.isPrefixOf, rel hy]
  | [x, y], hB, h =>
    obtain rfl : x = 47 := by simpa [startsSlash] using hB
    by_cases hy : 47 = y
    · subst hy
      match t, h.resolve_right (by simp [endsSlash]) with
      | [], _ => rfl
      | z :: r, hz => simp [initialSlashes, List.isPrefixOf, rel hz]
    · cases t <;> simp [initialSlashes, List.isPrefixOf, hy]
  | x :: y :: z :: r, _, _ => simp [initialSlashes, List.isPrefixOf]

theorem startsSlash_join2_left {a b : Text} (ha : startsSlash a = true) (hb : startsSlash b = false) :
    startsSlash (join2 a b) = true := by
  have hne : a ≠ [] := by intro e; subst e; simp [startsSlash] at ha
  rw [join2_rel hb, List.append_assoc, startsSlash_append hne]; exact ha

theorem normFold_join2 (i : Nat) {B q : Text} (hB : startsSlash B = true) (hq : startsSlash q = false) :
    normFold i (split (join2 B q)) [] = normFold i (split q) (normFold i (split B) []) := by
  rw [join2_rel hq]
  by_cases hs : (B.isEmpty || endsSlash B) = true
  · -- B ends with "/" : B = B' ++ "/"
    have hsep : sep B = [] := by simp only [sep, hs, if_true]
    have hne : B ≠ [] := by intro e; subst e; simp [startsSlash] at hB
    have hend : endsSlash B = true := by
      cases B with
      | nil => exact absurd rfl hne
      | cons x xs => simpa using hs
    obtain ⟨B', rfl⟩ : ∃ B', B = B' ++ [47] := by
      unfold endsSlash at hend
      have hl : B.getLast? = some 47 := by simpa using hend
      refine ⟨B.dropLast, ?_⟩
      have h1 := List.dropLast_concat_getLast (l := B) hne
      have h2 : B.getLast hne = 47 := by
        have := List.getLast?_eq_some_getLast hne
        rw [hl] at this; simpa using this.symm
      rw [h2] at h1; exact h1.symm
    rw [hsep, List.append_nil, List.append_assoc]
    simp only [List.singleton_append]
    rw [split_append, split_append B' [], normFold_append, normFold_append]
    congr 1
  · have hsep : sep B = [47] := by simp only [sep, hs]; rfl
    rw [hsep, List.append_assoc]
    simp only [List.singleton_append]
    rw [split_append, normFold_append]

/-- Both `abspath`s are `normpath` of `B` and of `join2 B q` for one absolute `B`; their components are a fold of
    `normStep` over the split text, the fold over `split q` runs on top of the stack left by `split B` without looking
    into it (`normFold_frame`, this is where `depthOK` is needed), so the common part is all of `B`'s components and what is
    left are those of `normpath q`. -/
theorem relpath_join (cwd base q : Text) (hcwd : startsSlash cwd = true) (hq : startsSlash q = false)
    (hne : join2 base q ≠ []) (hclimb : depthOK 0 (split q) = true) :
    relpath cwd (join2 base q) base = .ok (if normpath q = dot then [] else normpath q) := by
  -- the absolute, not yet normalised start directory
  obtain ⟨B, hBabs, hst, hpa⟩ : ∃ B, startsSlash B = true ∧ abspath cwd base = normpath B ∧
      abspath cwd (join2 base q) = normpath (join2 B q) := by
    cases hb : startsSlash base with
    | true =>
      refine ⟨base, hb, by simp [abspath, hb], ?_⟩
      simp [abspath, startsSlash_join2_left hb hq]
    | false =>
      refine ⟨join2 cwd base, startsSlash_join2_left hcwd hb, by simp [abspath, hb], ?_⟩
      have hrel : startsSlash (join2 base q) = false := by
        rw [join2_rel hq]
        by_cases hbe : base = []
        · subst hbe; simpa [sep] using hq
        · rw [List.append_assoc, startsSlash_append hbe]; exact hb
      simp [abspath, hrel, join2_assoc]
  have hjabs : startsSlash (join2 B q) = true := startsSlash_join2_left hBabs hq
  have hinit : initialSlashes (join2 B q) = initialSlashes B := by
    rw [join2_rel hq, List.append_assoc]
    apply initialSlashes_append hBabs
    by_cases hs : (B.isEmpty || endsSlash B) = true
    · left; simp only [sep, hs, if_true, List.nil_append]; exact hq
    · right; exact (by simpa using hs : ¬ B = [] ∧ endsSlash B = false).2
  have hS := comps_normpath_abs hBabs
  have hP := comps_normpath_abs hjabs
  rw [hinit, normFold_join2 _ hBabs hq] at hP
  have hframe := normFold_frame (initialSlashes B) (normFold (initialSlashes B) (split B) []) (split q) []
    (by intro c hc; cases hc) (by simpa using hclimb)
  simp only [List.append_nil] at hframe
  rw [hframe] at hP
  have hnei : (join2 base q).isEmpty = false := by cases h : join2 base q <;> simp_all
  have hR : ∀ c ∈ normFold 0 (split q) [], Comp c := normFold_comps 0 q
  have hinq : initialSlashes q = 0 := by
    match q, hq with
    | [], _ => rfl
    | x :: r, h =>
      have : ¬ 47 = x := by intro e; subst e; simp [startsSlash] at h
      simp [initialSlashes, List.isPrefixOf, this]
  have hnq : normpath q = if normFold 0 (split q) [] = [] then dot else joinSlash (normFold 0 (split q) []) := by
    unfold normpath
    by_cases hqe : q = []
    · subst hqe; simp [split, normFold, normStep]
    · have : q.isEmpty = false := by cases q <;> simp_all
      simp only [this, Bool.false_eq_true, if_false, hinq, List.replicate, List.nil_append]
      show (if (joinSlash (normFold 0 (split q) [])).isEmpty = true then dot else _) = _
      by_cases hr : normFold 0 (split q) [] = []
      · simp [hr, joinSlash]
      · have := joinSlash_ne_nil hr hR
        have hje : (joinSlash (normFold 0 (split q) [])).isEmpty = false := by
          cases hj : joinSlash (normFold 0 (split q) []) <;> simp_all
        simp only [hje, hr, Bool.false_eq_true, if_false]
        rfl
  unfold relpath osRelpath
  simp only [hnei, Bool.false_eq_true, if_false, hst, hpa, hS, hP, commonLen_append, Nat.sub_self, List.replicate,
    List.nil_append, List.drop_left']
  rw [hnq]
  by_cases hr : normFold 0 (split q) [] = []
  · simp [hr, bind, Except.bind, pure, Except.pure, dot]
  · have hjn := joinSlash_ne_nil hr hR
    have hdotne : joinSlash (normFold 0 (split q) []) ≠ dot := by
      intro e
      -- a single component "." is never on the stack
      have hall : ∀ c ∈ normFold 0 (split q) [], c ≠ dot := by
        apply normFold_mem (fun c => c ≠ dot) 0
        · intro c hc; cases hc
        · intro c _ _ h2; exact h2
      cases hcs : normFold 0 (split q) [] with
      | nil => exact hr hcs
      | cons a r =>
        rw [hcs] at e hall hR
        cases r with
        | nil => simp only [joinSlash] at e; exact hall a (by simp) e
        | cons b r' =>
          have : (a ++ 47 :: joinSlash (b :: r')).length = 1 := by
            have := congrArg List.length e
            simpa [joinSlash, dot] using this
          have ha := (hR a (by simp)).1
          cases a <;> simp_all
    cases hcs : normFold 0 (split q) [] with
    | nil => exact absurd hcs hr
    | cons a r =>
      rw [hcs] at hR hdotne hjn
      have hj := join_comps (cs := a :: r) (by simp) hR
      simp only [hj, bind, Except.bind, pure, Except.pure]
      simp [hdotne]

/-- result of a partial helper as a value with decidable equality (proof files only) -/
def res (r : Except Err Text) : Sum Err Text :=
  match r with
  | .ok t => .inr t
  | .error e => .inl e

end C12MP
