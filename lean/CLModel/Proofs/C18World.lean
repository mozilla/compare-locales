/-
C18: the world `HistW` (process state `HistM.S` plus an explicit file system) against its reference semantics
`pureOutW l v op`: what `op` returns as a function of its arguments, of the CURRENT world `l : Path → Option Node` and of the
construction data `v` of the objects it names; no counter, no cache, no history.  `stepW_spec` is the one case analysis per
operation; `run_out_world` is the statement for whole histories from two worlds that hold the same files.
-/
import CLModel.History.World
import CLModel.Proofs.C18MStep
namespace C18W
open Hist HistM HistW C18M P

theorem look_dset (fs : FS) (p : Path) (n : Node) : look (AR.dset fs p n) = lset (look fs) p n := by
  funext q
  simp only [look, lset]
  exact dget_dset_flip fs p n q

theorem look_erase (fs : FS) (p : Path) : look (fs.erase p) = ldel (look fs) p := by
  funext q
  simp only [look, ldel, FS.erase, AR.dget_filter_ne, BEq.comm (a := q)]

theorem mergeWrite_look (fs : FS) (mp : Path) (a b : Array Nat) (o : Option (Except String Merge.Outcome)) :
    look (mergeWrite fs mp a b o) = mergeLook (look fs) mp a b o := by
  cases o with
  | none => rfl
  | some r =>
    cases r with
    | error e => rfl
    | ok oc => cases oc <;> simp only [mergeWrite, mergeLook, look_dset]

def pureOutW (l : Look) (v : View) : HistW.Op → HistW.Out
  | .write _ _ => .fsok
  | .remove p =>
    match l p with
    | none => .fserr .enoent
    | some _ => .fsok
  | .rename a _ =>
    match l a with
    | none => .fserr .enoent
    | some _ => .fsok
  | .copy a _ =>
    match readAt l a with
    | .error e => .fserr e
    | .ok _ => .fsok
  | .symlink _ _ => .fsok
  | .readFile f p =>
    match readAt l p with
    | .error e => .unreadable .cur p e
    | .ok t => .m (pureOut v (.base (.parse f t)))
  | .compare f r lp mg =>
    match readAt l r with
    | .error e => .unreadable .ref r e
    | .ok a =>
      match readAt l lp with
      | .error e => .unreadable .l10n lp e
      | .ok b =>
        match mg with
        | none => .m (pureOut v (.base (.compare f a b)))
        | some _ => .m (pureOut v (.merge f a b))
  | .add f r =>
    match readAt l r with
    | .error e => .unreadable .ref r e
    | .ok a => .added (addCounts (refK f a)).1 (addCounts (refK f a)).2
  | .lint f c r =>
    match readAt l c with
    | .ok b => .m (pureOut v (.lint f (lintRef l r) b))
    | .error e => .unreadable .cur c e
  | .lift op => .m (pureOut v op)

/-- how the world moves: a function of the world before, of the operation and (l10n-merge) of the contents read -/
def lookStep (l : Look) : HistW.Op → Look
  | .write p b => lset l p (.file b)
  | .remove p => ldel l p
  | .rename a b =>
    match l a with
    | none => l
    | some n => if a == b then l else lset (ldel l a) b n
  | .copy a b =>
    match readAt l a with
    | .error _ => l
    | .ok t => lset l b (.file t)
  | .symlink p t => lset l p (.link t)
  | .compare f r lp (some mp) =>
    match readAt l r, readAt l lp with
    | .ok a, .ok b => mergeLook l mp a b (pureMerge f a b)
    | _, _ => l
  | _ => l

theorem addCounts_mapKey {κ κ' : Type} (g : κ → κ') (K : List (KEnt κ)) :
    addCounts (K.map (KEnt.mapKey g)) = addCounts K := by
  have hf : (K.map (KEnt.mapKey g)).filter (fun e => !e.junk) = (K.filter (fun e => !e.junk)).map (KEnt.mapKey g) := by
    rw [List.filter_map]
    rfl
  unfold addCounts
  rw [hf]
  simp only [List.length_map, List.map_map]
  rfl

theorem parse_step_out (s : S) (f : Fmt) (a : Array Nat) :
    (HistM.step s (.base (.parse f a))).2 = .base (.parsed (doParse s.g f a).2.1 (doParse s.g f a).2.2) := rfl

theorem ldel_absent (l : Look) (p : Path) (h : l p = none) : ldel l p = l := by
  funext q
  simp only [ldel]
  split
  · rename_i hq
    have : q = p := by simpa using hq
    rw [this, h]
  · rfl

theorem stepW_spec (w : W) (op : HistW.Op) :
    (HistW.step w op).1.s = sAfter w.s (textOp (look w.fs) op) ∧
    (Inv w.s → op.closedIn (look w.fs) →
      (HistW.step w op).2 = (pureOutW (look w.fs) w.s.view op).shift w.s.g.junkid w.s.g.heap.length ∧
      look (HistW.step w op).1.fs = lookStep (look w.fs) op) := by
  cases op with
  | write p b => exact ⟨rfl, fun _ _ => ⟨rfl, look_dset _ _ _⟩⟩
  | remove p =>
    simp only [HistW.step, textOp, sAfter, pureOutW, lookStep]
    cases hp : look w.fs p with
    | none => exact ⟨rfl, fun _ _ => ⟨rfl, (ldel_absent _ _ hp).symm⟩⟩
    | some n => exact ⟨rfl, fun _ _ => ⟨rfl, look_erase _ _⟩⟩
  | rename a b =>
    simp only [HistW.step, textOp, sAfter, pureOutW, lookStep]
    cases look w.fs a with
    | none => exact ⟨rfl, fun _ _ => ⟨rfl, rfl⟩⟩
    | some n =>
      simp only
      split
      · exact ⟨rfl, fun _ _ => ⟨rfl, rfl⟩⟩
      · exact ⟨rfl, fun _ _ => ⟨rfl, by simp only [look_dset, look_erase]⟩⟩
  | copy a b =>
    simp only [HistW.step, textOp, sAfter, pureOutW, lookStep]
    cases readAt (look w.fs) a with
    | error e => exact ⟨rfl, fun _ _ => ⟨rfl, rfl⟩⟩
    | ok t => exact ⟨rfl, fun _ _ => ⟨rfl, look_dset _ _ _⟩⟩
  | symlink p t => exact ⟨rfl, fun _ _ => ⟨rfl, look_dset _ _ _⟩⟩
  | readFile f p =>
    simp only [HistW.step, textOp, pureOutW, lookStep]
    cases readAt (look w.fs) p with
    | error e => exact ⟨rfl, fun _ _ => ⟨rfl, rfl⟩⟩
    | ok t =>
      refine ⟨rfl, fun h _ => ⟨?_, rfl⟩⟩
      simp only [HistW.Out.shift]
      rw [step_out_pure w.s h (.base (.parse f t)) trivial]
  | compare f r lp mg =>
    cases mg with
    | none =>
      simp only [HistW.step, textOp, pureOutW, lookStep, HistW.Op.closedIn]
      cases readAt (look w.fs) r with
      | error e => exact ⟨rfl, fun _ _ => ⟨rfl, rfl⟩⟩
      | ok a =>
        simp only
        cases readAt (look w.fs) lp with
        | error e => exact ⟨rfl, fun _ _ => ⟨rfl, rfl⟩⟩
        | ok b =>
          refine ⟨rfl, fun h hc => ⟨?_, rfl⟩⟩
          simp only [HistW.Out.shift]
          rw [step_out_pure w.s h _ hc]
    | some mp =>
      simp only [HistW.step, textOp, pureOutW, lookStep, HistW.Op.closedIn]
      cases readAt (look w.fs) r with
      | error e => exact ⟨rfl, fun _ _ => ⟨rfl, rfl⟩⟩
      | ok a =>
        simp only
        cases readAt (look w.fs) lp with
        | error e => exact ⟨rfl, fun _ _ => ⟨rfl, rfl⟩⟩
        | ok b =>
          refine ⟨rfl, fun h hc => ⟨?_, ?_⟩⟩
          · simp only [HistW.Out.shift]
            rw [step_out_pure w.s h _ hc]
          · simp only [mergeWrite_look]
            rw [step_out_pure w.s h _ hc]
            rfl
  | add f r =>
    simp only [HistW.step, textOp, pureOutW, lookStep]
    cases readAt (look w.fs) r with
    | error e => exact ⟨rfl, fun _ _ => ⟨rfl, rfl⟩⟩
    | ok a =>
      refine ⟨rfl, fun _ _ => ⟨?_, rfl⟩⟩
      simp only [parse_step_out, addOf, HistW.Out.shift]
      rw [kents_doParse, addCounts_mapKey]
  | lint f c r =>
    simp only [HistW.step, textOp, pureOutW, lookStep, HistW.Op.closedIn]
    cases readAt (look w.fs) c with
    | ok b =>
      refine ⟨rfl, fun h hc => ⟨?_, rfl⟩⟩
      simp only [HistW.Out.shift]
      rw [step_out_pure w.s h _ hc]
    | error e =>
      simp only
      cases lintRef (look w.fs) r <;> exact ⟨rfl, fun _ _ => ⟨rfl, rfl⟩⟩
  | lift o =>
    refine ⟨rfl, fun h hc => ⟨?_, rfl⟩⟩
    simp only [HistW.step, pureOutW, HistW.Out.shift]
    rw [step_out_pure w.s h o hc]

theorem step_s (w : W) (op : HistW.Op) : (HistW.step w op).1.s = sAfter w.s (textOp (look w.fs) op) :=
  (stepW_spec w op).1

theorem step_out_world (w : W) (h : Inv w.s) (op : HistW.Op) (hc : op.closedIn (look w.fs)) :
    (HistW.step w op).2 = (pureOutW (look w.fs) w.s.view op).shift w.s.g.junkid w.s.g.heap.length :=
  ((stepW_spec w op).2 h hc).1

theorem look_step (w : W) (h : Inv w.s) (op : HistW.Op) (hc : op.closedIn (look w.fs)) :
    look (HistW.step w op).1.fs = lookStep (look w.fs) op :=
  ((stepW_spec w op).2 h hc).2

/-- the operations a read of files resolves to: they carry texts only -/
def reads : HistM.Op → Bool
  | .base (.parse ..) | .base (.compare ..) | .merge .. | .lint .. => true
  | _ => false

theorem textOp_cases (l : Look) (op : HistW.Op) (top : HistM.Op) (ht : textOp l op = some top) :
    op = .lift top ∨ reads top = true := by
  cases op with
  | lift o => exact .inl (by rw [Option.some.inj ht])
  | readFile f p =>
    simp only [textOp] at ht
    cases hr : readAt l p <;> rw [hr] at ht <;> cases ht
    exact .inr rfl
  | add f r =>
    simp only [textOp] at ht
    cases hr : readAt l r <;> rw [hr] at ht <;> cases ht
    exact .inr rfl
  | compare f r lp mg =>
    simp only [textOp] at ht
    cases hr : readAt l r <;> rw [hr] at ht
    · cases ht
    · cases hl : readAt l lp <;> rw [hl] at ht
      · cases ht; exact .inr rfl
      · cases mg <;> cases ht <;> exact .inr rfl
  | lint f c r =>
    simp only [textOp] at ht
    cases hc : readAt l c <;> rw [hc] at ht
    · cases hl : lintRef l r <;> rw [hl] at ht <;> cases ht
      exact .inr rfl
    · cases ht; exact .inr rfl
  | _ => cases ht

theorem textOp_safe (s : S) (l : Look) (op : HistW.Op) (h : ∀ o, op = .lift o → o.safe s) :
    ∀ top, textOp l op = some top → top.safe s := by
  intro top ht
  rcases textOp_cases l op top ht with e | hr
  · exact h top e
  · cases top with
    | base _ => trivial
    | merge _ _ _ => trivial
    | lint _ _ _ => trivial
    | _ => cases hr

theorem inv_sAfter (s : S) (h : Inv s) (top : Option HistM.Op) (hs : ∀ t, top = some t → t.safe s) : Inv (sAfter s top) := by
  cases top with
  | none => exact h
  | some t => exact inv_step s h t (hs t rfl)

theorem safe_lift {w : W} {op : HistW.Op} (hs : op.safe w) : ∀ o, op = .lift o → o.safe w.s := by
  intro o ho
  subst ho
  exact hs

theorem inv_stepW (w : W) (h : Inv w.s) (op : HistW.Op) (hs : op.safe w) : Inv (HistW.step w op).1.s := by
  rw [step_s]
  exact inv_sAfter w.s h _ (textOp_safe w.s (look w.fs) op (safe_lift hs))

theorem reachable_invW (ep : EpEnv) (w : W) (h : HistW.Reachable ep w) : Inv w.s := by
  induction h with
  | init fs => exact inv_init ep
  | step w op _ hs ih => exact inv_stepW w ih op hs

theorem reachable_s (ep : EpEnv) (w : W) (h : HistW.Reachable ep w) : HistM.Reachable ep w.s := by
  induction h with
  | init fs => exact HistM.Reachable.init
  | step w op _ hs ih =>
    rw [step_s]
    cases ht : textOp (look w.fs) op with
    | none => exact ih
    | some top => exact HistM.Reachable.step w.s top ih (textOp_safe w.s (look w.fs) op (safe_lift hs) top ht)

def viewStepW (l : Look) (v : View) (op : HistW.Op) : View :=
  match textOp l op with
  | some top => viewStep v top
  | none => v

theorem view_stepW (w : W) (h : Inv w.s) (op : HistW.Op) :
    (HistW.step w op).1.s.view = viewStepW (look w.fs) w.s.view op := by
  rw [step_s]
  unfold viewStepW
  cases textOp (look w.fs) op with
  | none => rfl
  | some top => exact view_step w.s h top

theorem textOp_frozen (l : Look) (op : HistW.Op) (h : op.mutatesConfig = false) :
    ∀ top, textOp l op = some top → top.mutatesConfig = false := by
  intro top ht
  rcases textOp_cases l op top ht with rfl | hr
  · exact h
  · cases top with
    | base _ => rfl
    | merge _ _ _ => rfl
    | lint _ _ _ => rfl
    | _ => cases hr

theorem safe_of_frozenW (w : W) (op : HistW.Op) (h : op.mutatesConfig = false) : op.safe w := by
  cases op with
  | lift o => exact safe_of_frozen w.s o h
  | _ => trivial

/-- every operation of the history is closed in the world it meets, and none adds rules / paths to a configuration -/
def ClosedRun : Look → List HistW.Op → Prop
  | _, [] => True
  | l, op :: ops => op.closedIn l ∧ op.mutatesConfig = false ∧ ClosedRun (lookStep l op) ops

theorem sAfter_g_shift (s s0 : S) (d a : Nat) (top : Option HistM.Op) (hc : ∀ t, top = some t → t.closed)
    (hj : s.g.junkid = s0.g.junkid + d) (hh : s.g.heap.length = s0.g.heap.length + a) :
    (sAfter s top).g.junkid = (sAfter s0 top).g.junkid + d ∧
      (sAfter s top).g.heap.length = (sAfter s0 top).g.heap.length + a := by
  cases top with
  | none => exact ⟨hj, hh⟩
  | some t => exact step_g_shift s s0 d a t (hc t rfl) hj hh

theorem closedIn_textOp {l : Look} {op : HistW.Op} (hc : op.closedIn l) : ∀ t, textOp l op = some t → t.closed := by
  intro t ht
  simpa only [HistW.Op.closedIn, ht] using hc

theorem outW_shift_shift (d a d' a' : Nat) (o : HistW.Out) :
    (o.shift d a).shift d' a' = o.shift (d + d') (a + a') := by
  cases o <;> simp only [HistW.Out.shift, out_shift_shift]

theorem run_out_world : ∀ (ops : List HistW.Op) (w w0 : W) (d a : Nat), Inv w.s → Inv w0.s → w.s.view = w0.s.view →
    look w.fs = look w0.fs → w.s.g.junkid = w0.s.g.junkid + d → w.s.g.heap.length = w0.s.g.heap.length + a →
    ClosedRun (look w.fs) ops →
    (HistW.run w ops).2 = ((HistW.run w0 ops).2).map (HistW.Out.shift d a) := by
  intro ops
  induction ops with
  | nil => intro w w0 d a _ _ _ _ _ _ _; rfl
  | cons op t ih =>
    intro w w0 d a hi hi0 hv hl hj hh hc
    obtain ⟨hcl, hfr, hrest⟩ := hc
    have hcl0 : op.closedIn (look w0.fs) := hl ▸ hcl
    have hs : op.safe w := safe_of_frozenW w op hfr
    have hs0 : op.safe w0 := safe_of_frozenW w0 op hfr
    have hv' : (HistW.step w op).1.s.view = (HistW.step w0 op).1.s.view := by
      rw [view_stepW w hi op, view_stepW w0 hi0 op, hv, hl]
    have hl' : look (HistW.step w op).1.fs = look (HistW.step w0 op).1.fs := by
      rw [look_step w hi op hcl, look_step w0 hi0 op hcl0, hl]
    have hg := sAfter_g_shift w.s w0.s d a (textOp (look w.fs) op) (closedIn_textOp hcl) hj hh
    have hg1 : (HistW.step w op).1.s.g.junkid = (HistW.step w0 op).1.s.g.junkid + d := by
      rw [step_s, step_s, ← hl]; exact hg.1
    have hg2 : (HistW.step w op).1.s.g.heap.length = (HistW.step w0 op).1.s.g.heap.length + a := by
      rw [step_s, step_s, ← hl]; exact hg.2
    have hrest' : ClosedRun (look (HistW.step w op).1.fs) t := by
      rw [look_step w hi op hcl]; exact hrest
    simp only [HistW.run, List.map_cons]
    rw [ih (HistW.step w op).1 (HistW.step w0 op).1 d a (inv_stepW w hi op hs) (inv_stepW w0 hi0 op hs0) hv' hl' hg1 hg2 hrest']
    congr 1
    rw [step_out_world w hi op hcl, step_out_world w0 hi0 op hcl0, hv, hl, outW_shift_shift, hj, hh]

end C18W
