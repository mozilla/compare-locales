/- `_no_cycle`: expansion terminates (never exhausts the nesting bound) for every environment,
   including self and mutual references, unless env["locale"] itself contains {android_locale}. -/
import CLModel.Paths.Matcher
import CLModel.Proofs.Dict
namespace PM
open Rx

def NoAndroid (p : Pattern) : Prop := ∀ n ∈ p.nodes, ∀ r, n ≠ Node.android r

/-- the value of "locale" does not itself contain `{android_locale}` (excluded point: finding C12-android-locale-cycle-recursion) -/
def AndroidSafe (env : Env) : Prop := ∀ p, env.lookup localeName = some (.pat p) → NoAndroid p

theorem lookup_derase_eq {β} (k k' : Text) (l : List (Text × β)) :
    (derase l k).lookup k' = if k == k' then none else l.lookup k' := by
  rw [AR.lookup_eq_dget, AR.lookup_eq_dget]
  exact AR.dget_filter_ne l k k'

theorem lookup_derase_self {β} (k : Text) (l : List (Text × β)) : (derase l k).lookup k = none := by
  rw [lookup_derase_eq, if_pos (beq_self_eq_true k)]

theorem lookup_derase_ne {β} (k k' : Text) (hne : (k' == k) = false) (l : List (Text × β)) :
    (derase l k).lookup k' = l.lookup k' := by
  rw [lookup_derase_eq, BEq.comm, hne]; rfl

theorem lookup_derase {β} (k k' : Text) (l : List (Text × β)) {v : β}
    (h : (derase l k).lookup k' = some v) : l.lookup k' = some v := by
  rw [lookup_derase_eq] at h
  split at h
  · cases h
  · exact h

theorem AndroidSafe.derase {env : Env} (h : AndroidSafe env) (k : Text) : AndroidSafe (derase env k) :=
  fun p hp => h p (lookup_derase k localeName env hp)

theorem derase_length_le {β} (l : List (Text × β)) (k : Text) : (derase l k).length ≤ l.length :=
  List.length_filter_le _ _

theorem derase_length_lt {β} : ∀ {l : List (Text × β)} {k : Text} {v : β}, l.lookup k = some v →
    (derase l k).length < l.length
  | [], _, _, h => by simp at h
  | (a, b) :: l, k, v, h => by
    simp only [List.lookup_cons] at h
    simp only [derase, List.filter_cons]
    cases hk : (k == a) with
    | true =>
      have : (a == k) = true := by
        have : k = a := by simpa using hk
        subst this; simp
      simp only [this, Bool.not_true, Bool.false_eq_true, if_false, List.length_cons]
      have := List.length_filter_le (fun p : Text × β => !(p.1 == k)) l
      omega
    | false =>
      simp only [hk] at h
      have ih := derase_length_lt h
      simp only [derase] at ih
      split
      · simp only [List.length_cons]; omega
      · simp only [List.length_cons]; omega

theorem subWithE_go_error {s : Array Nat} {f : St → Except PyErr Text} {e : PyErr} :
    ∀ (ms : List (Nat × St)) (last : Nat), subWithE.go s f ms last = .error e → ∃ st, f st = .error e
  | [], last, h => by simp [subWithE.go, pure, Except.pure] at h
  | (q, st) :: rest, last, h => by
    simp only [subWithE.go, bind, Except.bind] at h
    split at h
    · rename_i e' he
      simp only [Except.error.injEq] at h
      subst h
      exact ⟨st, he⟩
    · split at h
      · rename_i e' he
        simp only [Except.error.injEq] at h
        subst h
        exact subWithE_go_error rest _ he
      · simp [pure, Except.pure] at h

theorem lookupTable_norec (t : List (Text × Text)) (k : Text) : lookupTable t k ≠ .error .recursion := by
  unfold lookupTable
  split
  · intro h; cases h
  · intro h; cases h

theorem toAndroid_norec (b : Text) : toAndroid b ≠ .error .recursion := by
  intro h
  simp only [toAndroid, bind, Except.bind] at h
  split at h
  · rename_i e he
    simp only [Except.error.injEq] at h
    subst h
    obtain ⟨st, hst⟩ := subWithE_go_error _ _ he
    split at hst
    · exact lookupTable_norec _ _ hst
    · cases hst
  · split at h
    · split at h
      · cases h
      · cases h
    · split at h <;> cases h

def NodeNoRec (rec : ExpRec) (n : Node) (env : Env) : Prop := ∀ rm, expandNode rec n env rm ≠ .error .recursion

theorem expandChildren_norec {rec : ExpRec} {env : Env} {rm : Bool} :
    ∀ {ns : List Node}, (∀ n ∈ ns, NodeNoRec rec n env) → expandChildren rec ns env rm ≠ .error .recursion
  | [], _ => by simp [expandChildren, pure, Except.pure]
  | c :: cs, h => by
    have hc := h c (by simp) true
    have hcs := expandChildren_norec (rec := rec) (env := env) (rm := rm) (ns := cs) (fun n hn => h n (by simp [hn]))
    simp only [expandChildren]
    cases hn : expandNode rec c env true with
    | error e =>
      cases e with
      | recursion => exact absurd hn hc
      | missingEnv => simp only; split <;> (intro hx; cases hx)
      | notStr =>
        simp only
        split
        · intro hx; cases hx
        · rename_i e he
          intro hx
          simp only [throw, throwThe, MonadExceptOf.throw, Except.error.injEq] at hx
          subst hx
          exact hcs he
      | _ => intro hx; cases hx
    | ok s =>
      simp only [bind, Except.bind]
      split
      · rename_i e he
        intro hx
        simp only [Except.error.injEq] at hx
        subst hx
        exact hcs he
      · intro hx; cases hx

theorem rootOf_norec {rec : ExpRec} {p : Pattern} {env : Env} (h : ∀ n ∈ p.nodes, NodeNoRec rec n env) :
    rootOf rec p env ≠ .error .recursion := by
  unfold rootOf
  split
  · intro hx; cases hx
  · split
    · intro hx; cases hx
    · rename_i n0 tl hnodes
      have hc := h n0 (by simp [hnodes]) false
      cases hn : expandNode rec n0 env false with
      | error e =>
        cases e with
        | recursion => exact absurd hn hc
        | _ => intro hx; cases hx
      | ok s => intro hx; cases hx

theorem expandPat_norec {rec : ExpRec} {p : Pattern} {env : Env} {rm : Bool}
    (h : ∀ n ∈ p.nodes, NodeNoRec rec n env) : expandPat rec p env rm ≠ .error .recursion := by
  simp only [expandPat, bind, Except.bind]
  split
  · rename_i e he
    intro hx
    simp only [Except.error.injEq] at hx
    subst hx
    exact rootOf_norec h he
  · split
    · rename_i e he
      intro hx
      simp only [Except.error.injEq] at hx
      subst hx
      exact expandChildren_norec h he
    · intro hx; cases hx

theorem getAndroidLocale_norec {rec : ExpRec} {env : Env}
    (h : ∀ v, env.lookup localeName = some v → rec v (derase env androidName) false ≠ .error .recursion) :
    getAndroidLocale rec env ≠ .error .recursion := by
  unfold getAndroidLocale
  split
  · intro hx; cases hx
  · rename_i v hv
    simp only [bind, Except.bind]
    split
    · rename_i e he
      intro hx
      simp only [Except.error.injEq] at hx
      subst hx
      exact h v hv he
    · split
      · rename_i e he
        intro hx
        simp only [Except.error.injEq] at hx
        subst hx
        exact toAndroid_norec _ he
      · intro hx; cases hx

theorem expandNode_norec {rec : ExpRec} {env : Env} (n : Node)
    (hvar : ∀ name v, env.lookup name = some v → ∀ rm, rec v (derase env name) rm ≠ .error .recursion)
    (hand : (∃ r, n = Node.android r) → ∀ v, env.lookup localeName = some v →
      rec v (derase env androidName) false ≠ .error .recursion) : NodeNoRec rec n env := by
  intro rm
  cases n with
  | lit s => intro hx; cases hx
  | var name rep =>
    simp only [expandNode]
    split
    · intro hx; cases hx
    · rename_i v hv
      exact hvar name v hv rm
  | android rep =>
    simp only [expandNode, bind, Except.bind]
    split
    · rename_i e he
      intro hx
      simp only [Except.error.injEq] at hx
      subst hx
      exact getAndroidLocale_norec (hand ⟨rep, rfl⟩) he
    · split <;> (intro hx; cases hx)
  | star k =>
    simp only [expandNode]
    split <;> (intro hx; cases hx)
  | starstar k sfx =>
    simp only [expandNode]
    split <;> (intro hx; cases hx)

/-- Where `fuelFor env = 2 * env.length + 3` comes from.  A variable step erases the variable's entry, which frees two units
    of `2 * env.length`.  The `{android_locale}` step may erase nothing (`android_locale` need not be a key) but goes on in the
    value of `locale`, which contains no `{android_locale}` (`AndroidSafe`): it spends the odd unit, and the second conjunct
    is the bound for such a value.  The third unit is the top-level call (`expandTop_norec`). -/
theorem expandVal_norec : ∀ f,
    (∀ v env rm, AndroidSafe env → 2 * env.length + 2 ≤ f → expandVal f v env rm ≠ .error .recursion) ∧
    (∀ p env rm, AndroidSafe env → NoAndroid p → 2 * env.length + 1 ≤ f →
      expandVal f (.pat p) env rm ≠ .error .recursion)
  | 0 => ⟨fun _ _ _ _ h => by omega, fun _ _ _ _ _ h => by omega⟩
  | f + 1 => by
    obtain ⟨ih1, ih2⟩ := expandVal_norec f
    have hvar : ∀ (env : Env), AndroidSafe env → 2 * env.length ≤ f →
        ∀ name v, env.lookup name = some v → ∀ rm, expandVal f v (derase env name) rm ≠ .error .recursion := by
      intro env hs hle name v hl rm
      have := derase_length_lt hl
      exact ih1 v _ rm (hs.derase name) (by omega)
    refine ⟨?_, ?_⟩
    · intro v env rm hs hle
      cases v with
      | str s => simp only [expandVal]; intro hx; cases hx
      | pat p =>
        simp only [expandVal]
        apply expandPat_norec
        intro n _
        apply expandNode_norec n (hvar env hs (by omega))
        intro _ v hv
        cases v with
        | str s => simp only [expandVal]; intro hx; cases hx
        | pat pl =>
          have := derase_length_le env androidName
          exact ih2 pl _ false (hs.derase _) (hs pl hv) (by omega)
    · intro p env rm hs hna hle
      simp only [expandVal]
      apply expandPat_norec
      intro n hn
      apply expandNode_norec n (hvar env hs (by omega))
      intro ⟨r, hr⟩
      exact absurd hr (hna n hn r)

theorem expandTop_norec (p : Pattern) (env : Env) (hs : AndroidSafe env) :
    expandTop p env ≠ .error .recursion := by
  unfold expandTop
  apply expandPat_norec
  intro n _
  have h1 := (expandVal_norec (fuelFor env)).1
  apply expandNode_norec n
  · intro name v hl rm
    have := derase_length_lt hl
    exact h1 v _ rm (hs.derase name) (by simp only [fuelFor]; omega)
  · intro _ v _
    have := derase_length_le env androidName
    exact h1 v _ false (hs.derase _) (by simp only [fuelFor]; omega)

theorem rxChildren_norec {rec : RxRec} {env : Env} :
    ∀ {ns : List Node}, (∀ n ∈ ns, rxNode rec n env ≠ .error .recursion) → rxChildren rec ns env ≠ .error .recursion
  | [], _ => by simp [rxChildren, pure, Except.pure]
  | c :: cs, h => by
    simp only [rxChildren, bind, Except.bind]
    split
    · rename_i e he
      intro hx
      simp only [Except.error.injEq] at hx
      subst hx
      exact h c (by simp) he
    · split
      · rename_i e he
        intro hx
        simp only [Except.error.injEq] at hx
        subst hx
        exact rxChildren_norec (fun n hn => h n (by simp [hn])) he
      · intro hx; cases hx

theorem rxNode_norec {rec : RxRec} {env : Env} (hs : AndroidSafe env) (n : Node)
    (hvar : ∀ name v, env.lookup name = some v → rec v (derase env name) ≠ .error .recursion) :
    rxNode rec n env ≠ .error .recursion := by
  cases n with
  | lit s => intro hx; cases hx
  | var name rep =>
    simp only [rxNode]
    split
    · intro hx; cases hx
    · split
      · rename_i v hv
        simp only [bind, Except.bind]
        split
        · rename_i e he
          intro hx
          simp only [Except.error.injEq] at hx
          subst hx
          exact hvar name v hv he
        · intro hx; cases hx
      · intro hx; cases hx
  | android rep =>
    simp only [rxNode]
    split
    · intro hx; cases hx
    · simp only [bind, Except.bind]
      split
      · rename_i e he
        intro hx
        simp only [Except.error.injEq] at hx
        subst hx
        refine getAndroidLocale_norec ?_ he
        intro v _
        have := derase_length_le env androidName
        exact (expandVal_norec (fuelFor env)).1 v _ false (hs.derase _) (by simp only [fuelFor]; omega)
      · split <;> (intro hx; cases hx)
  | star k => intro hx; cases hx
  | starstar k sfx => intro hx; cases hx

theorem rxVal_norec : ∀ f v env, AndroidSafe env → env.length + 1 ≤ f → rxVal f v env ≠ .error .recursion
  | 0, _, _, _, h => by omega
  | f + 1, .str s, _, _, _ => by simp only [rxVal]; intro hx; cases hx
  | f + 1, .pat p, env, hs, hle => by
    simp only [rxVal, rxPat, bind, Except.bind]
    split
    · rename_i e he
      intro hx
      simp only [Except.error.injEq] at hx
      subst hx
      have : rootOf (expandVal (fuelFor env)) p env ≠ .error .recursion := by
        apply rootOf_norec
        intro n _
        have h1 := (expandVal_norec (fuelFor env)).1
        apply expandNode_norec n
        · intro name v hl rm
          have := derase_length_lt hl
          exact h1 v _ rm (hs.derase name) (by simp only [fuelFor]; omega)
        · intro _ v _
          have := derase_length_le env androidName
          exact h1 v _ false (hs.derase _) (by simp only [fuelFor]; omega)
      exact this he
    · split
      · rename_i e he
        intro hx
        simp only [Except.error.injEq] at hx
        subst hx
        refine rxChildren_norec ?_ he
        intro n _
        apply rxNode_norec hs n
        intro name v hl
        have := derase_length_lt hl
        exact rxVal_norec f v _ (hs.derase name) (by omega)
      · intro hx; cases hx

end PM
