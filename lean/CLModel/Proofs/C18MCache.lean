/-
C18: helper lemmas about the memo components of `HistM.S`: every cache holds what a fresh computation would
return (coherence), coherence is preserved by the operations, and under coherence an operation returns what the
cache-free pure model returns (`PM.mozMatch`, `PM.Matcher.match`, `FiltM.filterS`, …).  The `.inc` walk that threads the
flag, started with the flag clear, is the plain walk (`incWalk_fresh`).
-/
import CLModel.History.Machine
import CLModel.Proofs.C11Sub
namespace C18M
open HistM P Rx

section dict
variable {κ : Type} [BEq κ] [LawfulBEq κ] {β : Type}

theorem dget_dset_flip (d : List (κ × β)) (k : κ) (v : β) (i : κ) :
    AR.dget (AR.dset d k v) i = if i == k then some v else AR.dget d i := by
  rw [AR.dget_dset, BEq.comm]

end dict

theorem walkFromSt_fst {σ : Type} (next : σ → Nat → Entry × σ) (size : Nat) :
    ∀ (fuel : Nat) (ctx : σ) (off : Nat), (walkFromSt next size fuel ctx off).1 = walkFrom next size fuel ctx off := by
  intro fuel
  induction fuel with
  | zero => intro ctx off; rfl
  | succ n ih =>
    intro ctx off
    simp only [walkFromSt, walkFrom]
    split
    · rfl
    · simp only [ih]

theorem incWalk_fresh (s : Array Nat) : (incWalk s false).1 = walk .inc s := by
  unfold incWalk walk
  exact walkFromSt_fst _ _ _ _ _

theorem mozMatchS_spec (c : List (Text × Re)) (h : ReCoh c) (path pattern : Text) :
    (mozMatchS c path pattern).2 = PM.mozMatch path pattern ∧ ReCoh (mozMatchS c path pattern).1 := by
  unfold mozMatchS PM.mozMatch
  by_cases he : pattern.isEmpty = true
  · simp only [he, if_true]
    exact ⟨rfl, h⟩
  · simp only [he, Bool.false_eq_true, if_false]
    cases hg : AR.dget c pattern with
    | some re =>
      have := h (pattern, re) (AR.mem_of_dget hg)
      simp only at this
      refine ⟨?_, h⟩
      simp only [this, bind, Except.bind, pure, Except.pure]
    | none =>
      cases hr : PM.mozRegex pattern with
      | error e => exact ⟨rfl, h⟩
      | ok re =>
        refine ⟨?_, ?_⟩
        · simp only [bind, Except.bind, pure, Except.pure]
        intro p hp
        rcases (AR.mem_dset hp).symm with hp | hp
        · subst hp; exact hr
        · exact h p hp

theorem match_eq (m : PM.Matcher) (path : Text) :
    m.match path = (match m.regexOf with | .error e => .error e | .ok r => matchWith r path) := by
  unfold PM.Matcher.match
  cases m.regexOf with
  | error e => rfl
  | ok r => cases r; rfl

theorem MObj.match_spec (o : MObj) (h : o.Coh) (path : Text) :
    (o.match path).2 = o.m.match path ∧ (o.match path).1.m = o.m ∧ (o.match path).1.Coh := by
  unfold MObj.match
  rw [match_eq]
  cases hc : o.cached with
  | some r =>
    have := h r hc
    simp only [this]
    exact ⟨by trivial, by trivial, h⟩
  | none =>
    cases hr : o.m.regexOf with
    | error e => exact ⟨rfl, rfl, h⟩
    | ok r =>
      refine ⟨rfl, rfl, ?_⟩
      intro r' hr'
      simp only at hr'
      injection hr' with hr'
      subst hr'
      exact hr

theorem MObj.fresh_coh (m : PM.Matcher) : MObj.Coh { m := m } := by
  intro r hr; simp at hr

theorem MObj.sub_spec (o : MObj) (h : o.Coh) (other : PM.Matcher) (path : Text) :
    (o.sub other path).2 = o.m.sub other path ∧ (o.sub other path).1.m = o.m ∧ (o.sub other path).1.Coh := by
  obtain ⟨h1, h2, h3⟩ := MObj.match_spec o h path
  unfold MObj.sub
  rw [PM.sub_eq, ← h1]
  cases hm : (o.match path).2 with
  | error e => exact ⟨rfl, h2, h3⟩
  | ok r =>
    cases r with
    | none => exact ⟨rfl, h2, h3⟩
    | some d =>
      simp only
      cases PM.expandTop other.pattern (PM.subEnv d other.env) <;> exact ⟨rfl, h2, h3⟩

theorem matchesS_eq (m : PM.Matcher) (fp : Text) :
    FiltM.matchesS m fp = (match m.match fp with | .error e => .error e | .ok r => .ok r.isSome) := by
  unfold FiltM.matchesS
  cases m.match fp <;> rfl

/-- a list of memo objects later in time: the same objects (what `abs` reads off them), all coherent -/
def Kept {β γ : Type} (abs : β → γ) (P : β → Prop) (os os' : List β) : Prop :=
  os'.map abs = os.map abs ∧ ∀ o ∈ os', P o

theorem Kept.refl {β γ : Type} {abs : β → γ} {P : β → Prop} {os : List β} (h : ∀ o ∈ os, P o) : Kept abs P os os :=
  ⟨rfl, h⟩

theorem Kept.cons {β γ : Type} {abs : β → γ} {P : β → Prop} {o o' : β} {os os' : List β} (ha : abs o' = abs o) (hp : P o')
    (h : Kept abs P os os') : Kept abs P (o :: os) (o' :: os') :=
  ⟨by rw [List.map_cons, List.map_cons, ha, h.1], List.forall_mem_cons.2 ⟨hp, h.2⟩⟩

theorem anyMatchO_spec (fp : Text) : ∀ (os : List MObj), (∀ o ∈ os, o.Coh) →
    (anyMatchO fp os).2 = FiltM.anyMatchS fp (os.map (·.m)) ∧ Kept (·.m) MObj.Coh os (anyMatchO fp os).1 := by
  intro os
  induction os with
  | nil => intro h; exact ⟨rfl, .refl h⟩
  | cons p ps ih =>
    intro h
    obtain ⟨hp, hps⟩ := List.forall_mem_cons.1 h
    obtain ⟨h1, h2, h3⟩ := MObj.match_spec p hp fp
    obtain ⟨i1, ik⟩ := ih hps
    simp only [anyMatchO, List.map_cons, FiltM.anyMatchS, matchesS_eq, ← h1]
    cases hm : (p.match fp).2 with
    | error e => exact ⟨rfl, .cons h2 h3 (.refl hps)⟩
    | ok r =>
      cases r with
      | some d => exact ⟨rfl, .cons h2 h3 (.refl hps)⟩
      | none =>
        refine ⟨?_, .cons h2 h3 ik⟩
        simp only [bind, Except.bind, pure, Except.pure, Option.isSome_none, Bool.false_eq_true, if_false]
        exact i1

theorem scanRulesO_spec (fp : Text) (entity : Option Text) : ∀ (rs : List FCRule), (∀ r ∈ rs, r.path.Coh) →
    (scanRulesO fp entity rs).2 = FiltM.scanRulesS fp entity (rs.map FCRule.toS) ∧
    Kept FCRule.toS (·.path.Coh) rs (scanRulesO fp entity rs).1 := by
  intro rs
  induction rs with
  | nil => intro h; exact ⟨rfl, .refl h⟩
  | cons rule rest ih =>
    intro h
    obtain ⟨rp, rk, ra⟩ := rule
    obtain ⟨hrule, hrest⟩ := List.forall_mem_cons.1 h
    obtain ⟨h1, h2, h3⟩ := MObj.match_spec rp hrule fp
    obtain ⟨i1, ik⟩ := ih hrest
    have hk : ∀ {tl tl'}, Kept FCRule.toS (·.path.Coh) tl tl' →
        Kept FCRule.toS (·.path.Coh) (⟨rp, rk, ra⟩ :: tl) (⟨(rp.match fp).1, rk, ra⟩ :: tl') :=
      Kept.cons (by simp only [FCRule.toS, h2]) h3
    simp only [scanRulesO, List.map_cons, FiltM.scanRulesS, matchesS_eq, FCRule.toS, ← h1]
    cases hm : (rp.match fp).2 with
    | error e => exact ⟨rfl, hk (.refl hrest)⟩
    | ok r =>
      cases r with
      | none =>
        refine ⟨?_, hk ik⟩
        simp only [bind, Except.bind, pure, Except.pure, Option.isSome_none, Bool.not_false, if_true]
        exact i1
      | some d =>
        simp only [bind, Except.bind, pure, Except.pure, Option.isSome_some, Bool.not_true, Bool.false_eq_true,
          if_false]
        by_cases hke : (rk.isSome != entity.isSome) = true
        · simp only [hke, if_true]
          exact ⟨i1, hk ik⟩
        · simp only [hke, Bool.false_eq_true, if_false]
          cases rk with
          | none => exact ⟨rfl, hk (.refl hrest)⟩
          | some k =>
            cases entity with
            | none => exact ⟨rfl, hk (.refl hrest)⟩
            | some e =>
              simp only
              by_cases hmk : (!k.matches e) = true
              · simp only [hmk, if_true]
                exact ⟨i1, hk ik⟩
              · simp only [hmk, Bool.false_eq_true, if_false]
                exact ⟨by trivial, hk (.refl hrest)⟩

/-- the rest of `_filter` once `cache(locale)` has returned `k` -/
def ownRest (k : FiltM.FilterCacheS) (file : Filt.File) (entity : Option Text) : Except PM.PyErr (Option Filt.Action) :=
  match FiltM.anyMatchS file.fullpath k.l10nPaths with
  | .error e => .error e
  | .ok false => .ok (Filt.pick [])
  | .ok true =>
    match FiltM.scanRulesS file.fullpath entity k.rules.reverse with
    | .error e => .error e
    | .ok a => .ok (Filt.pick [some a])

theorem ownStepS_eq (paths : List FiltM.PathEntryS) (rules : List FiltM.RuleS) (file : Filt.File)
    (entity : Option Text) :
    FiltM.ownStepS paths rules file entity [] =
      (match FiltM.cacheS paths rules file.locale with
       | .error e => .error e
       | .ok k => ownRest k file entity) := by
  unfold FiltM.ownStepS ownRest
  cases FiltM.cacheS paths rules file.locale with
  | error e => rfl
  | ok k =>
    simp only [bind, Except.bind, pure, Except.pure]
    cases FiltM.anyMatchS file.fullpath k.l10nPaths with
    | error e => rfl
    | ok b =>
      cases b with
      | false => rfl
      | true =>
        simp only [if_true]
        cases FiltM.scanRulesS file.fullpath entity k.rules.reverse <;> rfl

theorem FCObj.own_spec (paths : List FiltM.PathEntryS) (rules : List FiltM.RuleS) (fc : FCObj)
    (h : FCObj.Coh paths rules fc) (file : Filt.File) (entity : Option Text) :
    (fc.own file entity).2 = ownRest fc.toS file entity ∧ (fc.own file entity).1.toS = fc.toS ∧
      (fc.own file entity).1.locale = fc.locale ∧ FCObj.Coh paths rules (fc.own file entity).1 := by
  obtain ⟨hc, hp, hr⟩ := h
  obtain ⟨a1, a2, a3⟩ := anyMatchO_spec file.fullpath fc.l10nPaths hp
  have hrev : ∀ r ∈ fc.rules.reverse, r.path.Coh := fun r hr' => hr r (List.mem_reverse.mp hr')
  obtain ⟨s1, s2, s3⟩ := scanRulesO_spec file.fullpath entity fc.rules.reverse hrev
  have hrules : ((scanRulesO file.fullpath entity fc.rules.reverse).1.reverse).map FCRule.toS
      = fc.rules.map FCRule.toS := by
    rw [List.map_reverse, s2, List.map_reverse, List.reverse_reverse]
  have hrcoh : ∀ r ∈ (scanRulesO file.fullpath entity fc.rules.reverse).1.reverse, r.path.Coh :=
    fun r hr' => s3 r (List.mem_reverse.mp hr')
  unfold FCObj.own ownRest
  have e1 : fc.toS.l10nPaths = fc.l10nPaths.map (·.m) := rfl
  have e2 : fc.toS.rules.reverse = (fc.rules.reverse).map FCRule.toS := by
    simp only [FCObj.toS, List.map_reverse]
  rw [e1, e2, ← a1, ← s1]
  cases hm : (anyMatchO file.fullpath fc.l10nPaths).2 with
  | error e =>
    refine ⟨rfl, ?_, rfl, ?_⟩
    · simp only [FCObj.toS, a2]
    · refine ⟨?_, a3, hr⟩
      simp only [FCObj.toS, a2]
      exact hc
  | ok b =>
    cases b with
    | false =>
      refine ⟨rfl, ?_, rfl, ?_⟩
      · simp only [FCObj.toS, a2]
      · refine ⟨?_, a3, hr⟩
        simp only [FCObj.toS, a2]
        exact hc
    | true =>
      simp only
      cases hs : (scanRulesO file.fullpath entity fc.rules.reverse).2 with
      | error e =>
        refine ⟨rfl, ?_, rfl, ?_⟩
        · simp only [FCObj.toS, a2, hrules]
        · refine ⟨?_, a3, hrcoh⟩
          simp only [FCObj.toS, a2, hrules]
          exact hc
      | ok a =>
        refine ⟨rfl, ?_, rfl, ?_⟩
        · simp only [FCObj.toS, a2, hrules]
        · refine ⟨?_, a3, hrcoh⟩
          simp only [FCObj.toS, a2, hrules]
          exact hc

theorem CObj.Same.refl (c : CObj) : CObj.Same c c := ⟨rfl, rfl, rfl, rfl, rfl⟩

theorem cacheS_locale (paths : List FiltM.PathEntryS) (rules : List FiltM.RuleS) (locale : Text)
    (k : FiltM.FilterCacheS) (h : FiltM.cacheS paths rules locale = .ok k) : k.locale = locale := by
  unfold FiltM.cacheS at h
  cases h1 : FiltM.cachePaths locale paths with
  | error e => rw [h1] at h; simp [bind, Except.bind] at h
  | ok ps =>
    cases h2 : FiltM.cacheRules locale rules with
    | error e => rw [h1, h2] at h; simp [bind, Except.bind] at h
    | ok rs =>
      rw [h1, h2] at h
      simp only [bind, Except.bind, pure, Except.pure] at h
      injection h with h
      subst h
      rfl

theorem fresh_fc_coh (paths : List FiltM.PathEntryS) (rules : List FiltM.RuleS) (locale : Text)
    (k : FiltM.FilterCacheS) (h : FiltM.cacheS paths rules locale = .ok k) :
    FCObj.Coh paths rules
      { locale := locale, rules := k.rules.map (fun r => ⟨{ m := r.path }, r.key, r.action⟩),
        l10nPaths := k.l10nPaths.map (fun m => { m := m }) } := by
  have hl := cacheS_locale paths rules locale k h
  refine ⟨?_, ?_, ?_⟩
  · simp only [FCObj.toS]
    rw [h]
    congr 1
    cases k with
    | mk loc rs ps =>
      simp only at hl
      subst hl
      simp only [List.map_map]
      congr 1
      · conv => lhs; rw [← List.map_id rs]
        apply List.map_congr_left
        intro r _
        cases r; rfl
      · conv => lhs; rw [← List.map_id ps]
        apply List.map_congr_left
        intro m _
        rfl
  · intro o ho
    rw [List.mem_map] at ho
    obtain ⟨m, _, rfl⟩ := ho
    exact MObj.fresh_coh m
  · intro r hr
    rw [List.mem_map] at hr
    obtain ⟨x, _, rfl⟩ := hr
    exact MObj.fresh_coh x.path

theorem CObj.cacheFor_spec (c : CObj) (h : c.Coh) (locale : Text) :
    CObj.Same c (c.cacheFor locale).1 ∧ (c.cacheFor locale).1.allLoc = c.allLoc ∧
    (match (c.cacheFor locale).2 with
     | .error e => FiltM.cacheS c.paths c.rules locale = .error e ∧ (c.cacheFor locale).1.Coh
     | .ok fc => FCObj.Coh c.paths c.rules fc ∧ fc.locale = locale) := by
  obtain ⟨ha, hcache⟩ := h
  unfold CObj.cacheFor
  cases hc : c.cache with
  | some fc =>
    simp only
    by_cases hl : (fc.locale == locale) = true
    · simp only [hl, if_true]
      exact ⟨CObj.Same.refl c, by trivial, hcache fc hc, by simpa using hl⟩
    · simp only [hl, Bool.false_eq_true, if_false]
      cases hk : FiltM.cacheS c.paths c.rules locale with
      | error e =>
        refine ⟨⟨rfl, rfl, rfl, rfl, rfl⟩, rfl, rfl, ?_, ?_⟩
        · exact ha
        · intro fc' hfc'; simp at hfc'
      | ok k => exact ⟨⟨rfl, rfl, rfl, rfl, rfl⟩, rfl, fresh_fc_coh _ _ _ k hk, rfl⟩
  | none =>
    simp only
    cases hk : FiltM.cacheS c.paths c.rules locale with
    | error e =>
      refine ⟨CObj.Same.refl c, rfl, rfl, ha, ?_⟩
      intro fc' hfc'; rw [hc] at hfc'; simp at hfc'
    | ok k => exact ⟨⟨rfl, rfl, rfl, rfl, rfl⟩, rfl, fresh_fc_coh _ _ _ k hk, rfl⟩

theorem CObj.allLocales_spec (c : CObj) (h : c.Coh) :
    c.allLocales.2 = FiltM.ownLocalesS c.locales c.paths ∧ CObj.Same c c.allLocales.1 ∧ c.allLocales.1.Coh ∧
      c.allLocales.1.cache = c.cache := by
  obtain ⟨ha, hcache⟩ := h
  unfold CObj.allLocales
  cases hl : c.allLoc with
  | some l => exact ⟨ha l hl, CObj.Same.refl c, ⟨ha, hcache⟩, rfl⟩
  | none =>
    refine ⟨rfl, ⟨rfl, rfl, rfl, rfl, rfl⟩, ⟨?_, hcache⟩, rfl⟩
    intro l hl'
    simp only at hl'
    injection hl' with hl'
    exact hl'.symm

theorem filterS_flat (locales : Option (List Text)) (paths : List FiltM.PathEntryS) (rules : List FiltM.RuleS)
    (file : Filt.File) (entity : Option Text) :
    FiltM.filterS (.mk locales paths rules [] []) file entity =
      (if !(FiltM.ownLocalesS locales paths).contains file.locale then .ok .ignore else
       match FiltM.ownStepS paths rules file entity [] with
       | .error e => .error e
       | .ok none => .ok .ignore
       | .ok (some a) => .ok a) := by
  unfold FiltM.filterS
  simp only [FiltM.allLocalesS, FiltM.allLocalesListS, List.append_nil]
  split
  · rfl
  · simp only [FiltM.filterInnerS, FiltM.anyExcludeErrorS, FiltM.childActionsS, bind, Except.bind, pure, Except.pure,
      Bool.false_eq_true, if_false, List.contains_nil]
    cases FiltM.ownStepS paths rules file entity [] with
    | error e => rfl
    | ok r => cases r <;> rfl

theorem CObj.filter_spec (c : CObj) (h : c.Coh) (file : Filt.File) (entity : Option Text) :
    (c.filter file entity).2 = FiltM.filterS c.spec file entity ∧ CObj.Same c (c.filter file entity).1 ∧
      (c.filter file entity).1.Coh := by
  obtain ⟨l1, l2, l3, l4⟩ := CObj.allLocales_spec c h
  obtain ⟨sl, se, sr, sp, sru⟩ := l2
  unfold CObj.spec
  rw [filterS_flat, ownStepS_eq]
  unfold CObj.filter
  simp only [l1]
  by_cases hloc : (!(FiltM.ownLocalesS c.locales c.paths).contains file.locale) = true
  · simp only [hloc, if_true]
    exact ⟨by trivial, ⟨sl, se, sr, sp, sru⟩, l3⟩
  · simp only [hloc, Bool.false_eq_true, if_false]
    obtain ⟨k1, k2, k3⟩ := CObj.cacheFor_spec c.allLocales.1 l3 file.locale
    obtain ⟨tl, te, tr, tp, tru⟩ := k1
    rw [sp, sru] at k3
    cases hcf : (c.allLocales.1.cacheFor file.locale).2 with
    | error e =>
      rw [hcf] at k3
      obtain ⟨k3a, k3b⟩ := k3
      simp only [k3a]
      exact ⟨by trivial, ⟨tl.trans sl, te.trans se, tr.trans sr, tp.trans sp, tru.trans sru⟩, k3b⟩
    | ok fc =>
      rw [hcf] at k3
      obtain ⟨k3a, k3b⟩ := k3
      obtain ⟨o1, o2, o3, o4⟩ := FCObj.own_spec c.paths c.rules fc k3a file entity
      have hk : FiltM.cacheS c.paths c.rules file.locale = .ok fc.toS := by rw [← k3b]; exact k3a.1
      simp only [hk, ← o1]
      have hcoh : ∀ (c2 : CObj), CObj.Same c c2 → (∀ l, c2.allLoc = some l → l = FiltM.ownLocalesS c2.locales c2.paths) →
          CObj.Coh { c2 with cache := some (fc.own file entity).1 } := by
        intro c2 hs ha
        obtain ⟨q1, q2, q3, q4, q5⟩ := hs
        refine ⟨ha, ?_⟩
        intro fc' hfc'
        simp only at hfc'
        injection hfc' with hfc'
        subst hfc'
        simp only [q4, q5]
        exact o4
      have hsame : CObj.Same c (c.allLocales.1.cacheFor file.locale).1 :=
        ⟨tl.trans sl, te.trans se, tr.trans sr, tp.trans sp, tru.trans sru⟩
      have hall : ∀ l, (c.allLocales.1.cacheFor file.locale).1.allLoc = some l →
          l = FiltM.ownLocalesS (c.allLocales.1.cacheFor file.locale).1.locales
                (c.allLocales.1.cacheFor file.locale).1.paths := by
        intro l hl
        rw [k2] at hl
        rw [tl, tp]
        exact l3.1 l hl
      cases ho : (fc.own file entity).2 with
      | error e => exact ⟨rfl, hsame, hcoh _ hsame hall⟩
      | ok r =>
        cases r with
        | none => exact ⟨rfl, hsame, hcoh _ hsame hall⟩
        | some a => exact ⟨rfl, hsame, hcoh _ hsame hall⟩

theorem DObj.known_spec (d : DObj) (h : d.Coh) (refValue : Text) :
    (d.knownEntities refValue).2 = knownPure d.reference refValue ∧
    (d.knownEntities refValue).1.android = d.android ∧ (d.knownEntities refValue).1.reference = d.reference ∧
    (d.knownEntities refValue).1.Coh := by
  unfold DObj.knownEntities knownPure
  cases hk : d.known with
  | some k =>
    obtain ⟨vals, hv, hkv⟩ := h k hk
    simp only [hv]
    exact ⟨hkv, by trivial, by trivial, h⟩
  | none =>
    cases hr : d.reference with
    | some vals =>
      refine ⟨rfl, rfl, rfl, ?_⟩
      intro k' hk'
      simp only at hk'
      injection hk' with hk'
      exact ⟨vals, rfl, hk'.symm⟩
    | none =>
      refine ⟨rfl, rfl, hr, ?_⟩
      intro k' hk'
      rw [hk] at hk'
      simp at hk'

/-- what `processAndroidContent` is called with does not depend on what the class-level handler held before -/
theorem DObj.checkText_indep (d : DObj) (t t' : Text) (chars : List Text) :
    (d.checkText t chars).2 = (d.checkText t' chars).2 := by
  unfold DObj.checkText
  split <;> rfl

theorem DObj.checkText_spec (d : DObj) (t : Text) (chars : List Text) :
    (d.checkText t chars).2 = if d.android then some (chars.foldl (· ++ ·) []) else none := by
  unfold DObj.checkText
  split <;> rfl

end C18M
