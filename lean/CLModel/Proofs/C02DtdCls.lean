/- C02, DTD: the XML name classes of the generated key regex, their ASCII part, and where no byte-order mark starts. -/
import CLModel.Proofs.C02Base
namespace C02X
open Rx Gen.Pat

def dtdWs : List ClsItem := [.ch 32, .ch 9, .ch 13, .ch 10]

/-- XML NameStartChar as generated from `DTDParser.NameStartChar` -/
def dtdNameStart : List ClsItem :=
  [.ch 58, .range 65 90, .ch 95, .range 97 122, .range 192 214, .range 216 246, .range 248 767, .range 880 893,
   .range 895 8191, .range 8204 8205, .range 8304 8591, .range 11264 12271, .range 12289 55295, .range 63744 64975,
   .range 65008 65533]

/-- XML NameChar as generated from `DTDParser.NameChar` -/
def dtdNameChar : List ClsItem :=
  [.ch 58, .range 65 90, .ch 95, .range 97 122, .range 192 214, .range 216 246, .range 248 767, .range 880 893,
   .range 895 8191, .range 8204 8205, .range 8304 8591, .range 11264 12271, .range 12289 55295, .range 63744 64975,
   .range 65008 65533, .ch 45, .ch 46, .range 48 57, .ch 183, .range 768 879, .range 8255 8256]

def asciiLetter (c : Nat) : Bool := (65 ≤ c && c ≤ 90) || (97 ≤ c && c ≤ 122)

/-- ASCII letters, digits, `.`, `-` -/
def dtdKeyChar (c : Nat) : Bool := asciiLetter c || (48 ≤ c && c ≤ 57) || c == 46 || c == 45

theorem inC_of_has (items : List ClsItem) (it : ClsItem) (c : Nat) (hm : it ∈ items) (hh : it.has c = true) :
    inC false items c = true := by
  have : items.any (·.has c) = true := List.any_eq_true.mpr ⟨it, hm, hh⟩
  simp [inC, this]

theorem nameStart_of_letter (c : Nat) (h : asciiLetter c = true) : inC false dtdNameStart c = true := by
  simp only [asciiLetter, Bool.or_eq_true, Bool.and_eq_true, decide_eq_true_eq] at h
  rcases h with h | h
  · exact inC_of_has _ (.range 65 90) c (by simp [dtdNameStart]) (by simp [ClsItem.has, h])
  · exact inC_of_has _ (.range 97 122) c (by simp [dtdNameStart]) (by simp [ClsItem.has, h])

theorem nameChar_of_keyChar (c : Nat) (h : dtdKeyChar c = true) : inC false dtdNameChar c = true := by
  simp only [dtdKeyChar, asciiLetter, Bool.or_eq_true, Bool.and_eq_true, decide_eq_true_eq, beq_iff_eq] at h
  rcases h with (((h | h) | h) | h) | h
  · exact inC_of_has _ (.range 65 90) c (by simp [dtdNameChar]) (by simp [ClsItem.has, h])
  · exact inC_of_has _ (.range 97 122) c (by simp [dtdNameChar]) (by simp [ClsItem.has, h])
  · exact inC_of_has _ (.range 48 57) c (by simp [dtdNameChar]) (by simp [ClsItem.has, h])
  · exact inC_of_has _ (.ch 46) c (by simp [dtdNameChar]) (by simp [ClsItem.has, h])
  · exact inC_of_has _ (.ch 45) c (by simp [dtdNameChar]) (by simp [ClsItem.has, h])

theorem orElse_of_some {α} {a : Option α} {f : Unit → Option α} {r : α} (h : a = some r) : a.orElse f = some r := by
  subst h; rfl

theorem dtd_header_none (s : Array Nat) (h : s[0]? ≠ some 65279) : matchAt s DTDParser_reHeader 0 = none := by
  simp only [matchAt, DTDParser_reHeader, m_seq_def, m_bol_def]
  simp only [beq_self_eq_true, Bool.true_or, if_true]
  exact m_lit_fail h [] _

end C02X
