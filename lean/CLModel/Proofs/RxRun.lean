/- The big-step relation of the engine: every outcome of `r` from `st` (`C01P.ends`) is a `Run` (`run_of_mem_ends`), so
   whenever the matcher succeeds its continuation succeeded on a state the regex runs to (`m_run`).  `Run` is exact on the
   one-character atoms, `eol`, `eos`, back-references and the LOWER bound of a repeat; it does not test `bol`, a
   look-behind or negative look-ahead, or the upper bound `mx` (`repCons` only carries it along).  What holds of every
   accepted match is an induction over `Run`: the least length consumed (RxLemmas), the captures (Captures), the coarser
   `BSem` (RxSem). -/
import CLModel.Proofs.RxEnds
namespace Rx

inductive Run (s : Array Nat) : Re → St → St → Prop
  | eps {st} : Run s .eps st st
  | lit {c st} : s[st.pos]? = some c → Run s (.lit c) st { st with pos := st.pos + 1 }
  | notLit {c d st} : s[st.pos]? = some d → d ≠ c → Run s (.notLit c) st { st with pos := st.pos + 1 }
  | any {da d st} : s[st.pos]? = some d → (da = true ∨ d ≠ 10) → Run s (.any da) st { st with pos := st.pos + 1 }
  | cls {neg items c st} : s[st.pos]? = some c → inC neg items c = true →
      Run s (.cls neg items) st { st with pos := st.pos + 1 }
  | seq {a b st st1 st2} : Run s a st st1 → Run s b st1 st2 → Run s (.seq a b) st st2
  | altL {a b st st'} : Run s a st st' → Run s (.alt a b) st st'
  | altR {a b st st'} : Run s b st st' → Run s (.alt a b) st st'
  | group {i r st st'} : Run s r st st' →
      Run s (.group i r) st { st' with caps := (i, st.pos, st'.pos) :: st'.caps }
  | backref {i a b st} : capOf st.caps i = some (a, b) →
      (∀ j, j < b - a → s[a + j]? = s[st.pos + j]? ∧ st.pos + j < s.size) →
      Run s (.backref i) st { st with pos := st.pos + (b - a) }
  | bol {ml st} : Run s (.bol ml) st st
  | eol {ml st} : (st.pos = s.size ∨ (ml = true ∧ s[st.pos]? = some 10) ∨
        (ml = false ∧ st.pos + 1 = s.size ∧ s[st.pos]? = some 10)) → Run s (.eol ml) st st
  | eos {st} : st.pos = s.size → Run s .eos st st
  | lookPos {r st st'} : Run s r st st' → Run s (.look true false r) st { st with caps := st'.caps }
  | lookOther {ahead neg r st} : (ahead = false ∨ neg = true) → Run s (.look ahead neg r) st st
  | repNil {mx g r st} : Run s (.rep 0 mx g r) st st
  | repCons {mn mx g r st st1 st2} : Run s r st st1 → st.pos < st1.pos →
      Run s (.rep (mn - 1) (mx.map (· - 1)) g r) st1 st2 → Run s (.rep mn mx g r) st st2

theorem run_of_mem_loopE (s : Array Nat) (r : Re) (g : Bool) (hb : ∀ st st', st' ∈ ends s r st → Run s r st st') :
    ∀ fuel mn mx st st', st' ∈ loopE (ends s r) g fuel mn mx st → Run s (.rep mn mx g r) st st' := by
  intro fuel
  induction fuel with
  | zero => intro mn mx st st' h; cases h
  | succ f ih =>
    intro mn mx st st' h
    rw [loopE] at h
    have hmore : ∀ st', st' ∈ (if mx == some 0 then [] else (ends s r st).flatMap fun st1 =>
        if st1.pos ≤ st.pos then [] else loopE (ends s r) g f (mn - 1) (mx.map (· - 1)) st1) →
        Run s (.rep mn mx g r) st st' := by
      intro st' h
      split at h
      · cases h
      · obtain ⟨st1, h1, h2⟩ := List.mem_flatMap.mp h
        split at h2
        · cases h2
        · exact .repCons (hb _ _ h1) (by omega) (ih _ _ _ _ h2)
    split at h
    · exact hmore _ h
    · obtain rfl : mn = 0 := by omega
      split at h
      · rcases List.mem_append.mp h with h | h
        · exact hmore _ h
        · cases List.mem_singleton.mp h; exact .repNil
      · rcases List.mem_cons.mp h with rfl | h
        · exact .repNil
        · exact hmore _ h

theorem run_of_mem_ends (s : Array Nat) : ∀ (r : Re) (st st' : St), st' ∈ ends s r st → Run s r st st' := by
  intro r
  induction r with
  | eps => intro st st' h; cases List.mem_singleton.mp h; exact .eps
  | lit c =>
    intro st st' h
    obtain ⟨hc, rfl⟩ := Txt.mem_ite_singleton h
    exact .lit (by simpa using hc)
  | notLit c => intro st st' h; obtain ⟨d, hd, hp, rfl⟩ := mem_stepIf h; exact .notLit hd (by simpa using hp)
  | any da => intro st st' h; obtain ⟨d, hd, hp, rfl⟩ := mem_stepIf h; exact .any hd (by simpa using hp)
  | cls neg items => intro st st' h; obtain ⟨d, hd, hp, rfl⟩ := mem_stepIf h; exact .cls hd hp
  | seq a b iha ihb =>
    intro st st' h
    obtain ⟨st1, h1, h2⟩ := List.mem_flatMap.mp h
    exact .seq (iha _ _ h1) (ihb _ _ h2)
  | alt a b iha ihb =>
    intro st st' h
    rcases List.mem_append.mp h with h | h
    · exact .altL (iha _ _ h)
    · exact .altR (ihb _ _ h)
  | group i r ih =>
    intro st st' h
    obtain ⟨st1, h1, rfl⟩ := List.mem_map.mp h
    exact .group (ih _ _ h1)
  | backref i =>
    intro st st' h
    rw [ends] at h
    split at h
    · rename_i a b hcap
      obtain ⟨hall, rfl⟩ := Txt.mem_ite_singleton h
      exact .backref hcap fun j hj => by simpa using List.all_eq_true.mp hall j (List.mem_range.mpr hj)
    · cases h
  | bol ml => intro st st' h; obtain ⟨_, rfl⟩ := Txt.mem_ite_singleton h; exact .bol
  | eol ml =>
    intro st st' h
    obtain ⟨hc, rfl⟩ := Txt.mem_ite_singleton h
    refine .eol ?_
    simp only [Bool.or_eq_true, Bool.and_eq_true, beq_iff_eq, Bool.not_eq_true'] at hc
    rcases hc with (hc | hc) | hc
    · exact .inl hc
    · exact .inr (.inl hc)
    · exact .inr (.inr ⟨hc.1.1, hc.1.2, hc.2⟩)
  | eos => intro st st' h; obtain ⟨hc, rfl⟩ := Txt.mem_ite_singleton h; exact .eos (by simpa using hc)
  | look ahead neg r ih =>
    intro st st' h
    cases ahead with
    | true =>
      rw [ends] at h
      split at h
      · rename_i st1 hst1
        cases neg
        · cases List.mem_singleton.mp h
          exact .lookPos (ih _ _ (List.mem_of_mem_head? hst1))
        · cases h
      · cases neg
        · cases h
        · cases List.mem_singleton.mp h; exact .lookOther (.inr rfl)
    | false =>
      rw [ends] at h
      have : st' ∈ [st] := by split at h <;> cases neg <;> first | exact h | cases h
      cases List.mem_singleton.mp this; exact .lookOther (.inl rfl)
  | rep mn mx g r ih => intro st st' h; exact run_of_mem_loopE s r g ih _ mn mx st st' h

theorem m_run {s : Array Nat} {r : Re} {st : St} {k : K} {res : St} (h : m s r st k = some res) :
    ∃ st', Run s r st st' ∧ k st' = some res := by
  rw [m_eq_ends] at h
  obtain ⟨st', hm, hk⟩ := List.exists_of_findSome?_eq_some h
  exact ⟨st', run_of_mem_ends s r st st' hm, hk⟩

theorem matchAt_run {s : Array Nat} {r : Re} {p : Nat} {st : St} (h : matchAt s r p = some st) : Run s r ⟨p, []⟩ st := by
  obtain ⟨st', h1, h3⟩ := m_run h
  cases h3; exact h1

end Rx
