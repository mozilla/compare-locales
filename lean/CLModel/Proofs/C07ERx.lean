/- The `eref` scan of DTDChecker without the regex engine: `Dtd.erefNames v` (`finditer` of the generated `&(Name);`,
   group 1) is what the one-pass scanner `plainRefs` computes, which after `&` collects NameStartChar NameChar* and
   emits the name at `;`.  The generated Name classes are the BMP part of the XML 1.0 (5th edition) classes
   `XmlContent.isNameStart/isNameChar`, by evaluating `ClsItem.has` (the source leaves out U+10000–U+EFFFF). -/
import CLModel.Checks.Dtd
import CLModel.Checks.XmlGrammar
import CLModel.Proofs.C09Scan
import CLModel.Proofs.RxStar
namespace Rx

theorem Matches.mem {s : Array Nat} {r : Re} : ∀ {pos ms}, Matches s r pos ms →
    ∀ p ∈ ms, matchAt s r p.1 = some p.2 ∧ p.1 ≤ s.size := by
  intro pos ms h
  induction h with
  | nil _ => intro p hp; cases hp
  | cons _ h2 _ h4 _ ih =>
    intro p hp
    rcases List.mem_cons.mp hp with rfl | hp
    · exact ⟨h4, h2⟩
    · exact ih p hp

end Rx

namespace C07E
open Rx

abbrev Text := List Nat

/-- `DTDParser.NameStartChar` as generated -/
def nsCls : List ClsItem :=
  [.ch 58, .range 65 90, .ch 95, .range 97 122, .range 192 214, .range 216 246, .range 248 767, .range 880 893,
   .range 895 8191, .range 8204 8205, .range 8304 8591, .range 11264 12271, .range 12289 55295, .range 63744 64975,
   .range 65008 65533]

/-- `DTDParser.NameChar` as generated -/
def ncCls : List ClsItem :=
  [.ch 58, .range 65 90, .ch 95, .range 97 122, .range 192 214, .range 216 246, .range 248 767, .range 880 893,
   .range 895 8191, .range 8204 8205, .range 8304 8591, .range 11264 12271, .range 12289 55295, .range 63744 64975,
   .range 65008 65533, .ch 45, .ch 46, .range 48 57, .ch 183, .range 768 879, .range 8255 8256]

/-- `&(NameStartChar NameChar*);` — if the source regex changes, this `rfl` and everything below breaks -/
theorem eref_shape : Gen.Pat.DTDChecker_eref =
    .seq (.lit 38) (.seq (.group 1 (.seq (.cls false nsCls) (.rep 0 none true (.cls false ncCls)))) (.lit 59)) := rfl

def nameStart (c : Nat) : Bool := XmlContent.isNameStart c && decide (c < 65536)

def nameChar (c : Nat) : Bool := XmlContent.isNameChar c && decide (c < 65536)

theorem bmp_part {a : Bool} {c : Nat} (h : a = true → c < 65536) :
    a = ((a || (decide (0x10000 ≤ c) && decide (c ≤ 0xEFFFF))) && decide (c < 65536)) := by
  cases a with
  | true => simpa using h rfl
  | false =>
    rw [Bool.false_or, Bool.and_right_comm]
    have : (decide (0x10000 ≤ c) && decide (c < 65536)) = false := by simp
    rw [this, Bool.false_and]

/-- the generated NameChar lists the items of NameStartChar first -/
theorem inC_nc_split (c : Nat) : inC false ncCls c =
    (inC false nsCls c || inC false [.ch 45, .ch 46, .range 48 57, .ch 183, .range 768 879, .range 8255 8256] c) := by
  simp only [inC, Bool.bne_false, ← List.any_append]
  rfl

theorem inC_nc_lt {c : Nat} (h : inC false ncCls c = true) : c < 65536 := by
  simp only [inC, ncCls, ClsItem.has, List.any_cons, List.any_nil, Bool.or_false, Bool.bne_false, Bool.or_eq_true,
    Bool.and_eq_true, beq_iff_eq, decide_eq_true_eq] at h
  omega

/-- item by item, in the order of the specification -/
theorem isNameStart_eq (c : Nat) :
    XmlContent.isNameStart c = (inC false nsCls c || (decide (0x10000 ≤ c) && decide (c ≤ 0xEFFFF))) := by
  simp only [inC, nsCls, XmlContent.isNameStart, ClsItem.has, List.any_cons, List.any_nil, Bool.or_false,
    Bool.bne_false, Bool.or_assoc]

theorem inC_ns (c : Nat) : inC false nsCls c = nameStart c := by
  rw [nameStart, isNameStart_eq]
  exact bmp_part fun h => inC_nc_lt (by rw [inC_nc_split, h]; rfl)

theorem inC_nc (c : Nat) : inC false ncCls c = nameChar c := by
  have hs : XmlContent.isNameChar c = (inC false ncCls c || (decide (0x10000 ≤ c) && decide (c ≤ 0xEFFFF))) := by
    rw [inC_nc_split, Bool.or_right_comm, ← isNameStart_eq]
    simp only [inC, XmlContent.isNameChar, ClsItem.has, List.any_cons, List.any_nil, Bool.or_false,
      Bool.bne_false, Bool.or_assoc]
  rw [nameChar, hs]
  exact bmp_part inC_nc_lt

theorem ns_nc {c : Nat} (h : nameStart c = true) : nameChar c = true := by
  simp only [nameStart, nameChar, XmlContent.isNameChar, Bool.and_eq_true, Bool.or_eq_true] at h ⊢
  exact ⟨Or.inl (Or.inl (Or.inl (Or.inl (Or.inl (Or.inl h.1))))), h.2⟩

theorem nc_ne {c : Nat} (h : nameChar c = true) : c ≠ 38 ∧ c ≠ 59 ∧ c ≠ 62 := by
  refine ⟨?_, ?_, ?_⟩ <;> (rintro rfl; revert h; decide)

/-- `eref.match(text, off)` on the suffix at `off`: `&`, a name start, the maximal run of name characters, `;` -/
def erefAt (off : Nat) : List Nat → Option St
  | c0 :: c :: rest =>
    if c0 == 38 && nameStart c && (rest.dropWhile nameChar).head? == some 59 then
      some ⟨off + 2 + (rest.takeWhile nameChar).length + 1, [(1, off + 1, off + 2 + (rest.takeWhile nameChar).length)]⟩
    else none
  | _ => none

theorem eref_local (s : Array Nat) (p : Nat) (hp : p ≤ s.size) :
    matchAt s Gen.Pat.DTDChecker_eref p = erefAt p (s.toList.drop p) := by
  rw [eref_shape, matchAt_eq_head, ends_seq]
  generalize hl : s.toList.drop p = l
  match l, hl with
  | [], hl => rw [ends_lit_at_fail hl (by simp)]; rfl
  | [c0], hl =>
    by_cases ha : c0 = 38
    · subst ha
      rw [ends_lit_at hl, List.flatMap_singleton, ends_seq, ends_group, ends_seq,
        ends_step_at_fail (ends_cls s false nsCls) (Txt.drop_succ_of_cons hl) (by simp)]
      rfl
    · rw [ends_lit_at_fail hl (by simpa using ha)]; rfl
  | c0 :: c :: rest, hl =>
    have h1 := Txt.drop_succ_of_cons hl
    have h2 := Txt.drop_succ_of_cons h1
    have hlen := Txt.length_of_drop hl
    simp only [List.length_cons] at hlen
    by_cases ha : c0 = 38
    · subst ha
      rw [ends_lit_at hl, List.flatMap_singleton, ends_seq, ends_group, ends_seq]
      by_cases hb : nameStart c = true
      · -- `;` does not stand where a name character stands, so the whole run of name characters is taken
        rw [ends_step_at (ends_cls s false nsCls) h1 (by rw [inC_ns]; exact hb), List.flatMap_singleton, List.flatMap_map,
          flatMap_rep_step (P := nameChar) (fun st => by rw [ends_cls, funext inC_nc]) 0 true (by omega) []
            (fun a : St => ends s (.lit 59) ⟨a.pos, (1, p + 1, a.pos) :: a.caps⟩)
            fun j d hd hin => ends_lit_fail (by rw [hd]; simpa using (nc_ne hin).2.1) _,
          if_pos (Nat.zero_le _), h2, ends_lit, ← Nat.add_zero (p + 1 + 1 + _),
          Txt.get_of_drop (Txt.drop_add_of_append (h2.trans List.takeWhile_append_dropWhile.symm)) 0,
          ← List.head?_eq_getElem?]
        simp only [erefAt, hb, beq_self_eq_true, Bool.true_and, Nat.add_zero]
        split <;> rfl
      · rw [ends_step_at_fail (ends_cls s false nsCls) h1 (by simpa [inC_ns] using hb)]
        simp [erefAt, hb]
    · rw [ends_lit_at_fail hl (by simpa using ha)]
      simp [erefAt, ha]

/-- one character of the scanner.  State: `none` = not after `&`; `some acc` = after `&` and the name
    characters `acc` (reversed).  Result: new state and the name completed by this character, if any. -/
def refStep (st : Option Text) (c : Nat) : Option Text × Option Text :=
  if c == 38 then (some [], none) else
  match st with
  | none => (none, none)
  | some acc =>
    if acc.isEmpty then (if nameStart c then (some [c], none) else (none, none))
    else if c == 59 then (none, some acc.reverse)
    else if nameChar c then (some (c :: acc), none)
    else (none, none)

/-- the scanner over a text: the names completed, and the state at the end -/
def refRun : Option Text → Text → List Text × Option Text
  | st, [] => ([], st)
  | st, c :: cs =>
    ((refStep st c).2.toList ++ (refRun (refStep st c).1 cs).1, (refRun (refStep st c).1 cs).2)

/-- the names `n` of all `&n;` (n = NameStartChar NameChar* in the BMP) in the text, in order of occurrence -/
def plainRefs (v : Text) : List Text := (refRun none v).1

theorem refRun_append (st : Option Text) (a b : Text) :
    refRun st (a ++ b) = ((refRun st a).1 ++ (refRun (refRun st a).2 b).1, (refRun (refRun st a).2 b).2) := by
  induction a generalizing st with
  | nil => simp [refRun]
  | cons c cs ih => simp only [List.cons_append, refRun, ih, List.append_assoc]

theorem refRun_cons_ne (c : Nat) (cs : Text) (h : c ≠ 38) : refRun none (c :: cs) = refRun none cs := by
  simp [refRun, refStep, h]

theorem refRun_amp (st : Option Text) (cs : Text) : refRun st (38 :: cs) = refRun (some []) cs := by
  simp [refRun, refStep]

theorem refRun_name (xs tail : Text) (hx : xs.all nameChar = true) :
    ∀ acc : Text, acc ≠ [] →
      refRun (some acc) (xs ++ 59 :: tail) = ((acc.reverse ++ xs) :: (refRun none tail).1, (refRun none tail).2) := by
  induction xs with
  | nil =>
    intro acc hacc
    have : acc.isEmpty = false := by cases acc <;> simp_all
    simp [refRun, refStep, this]
  | cons x xs ih =>
    intro acc hacc
    simp only [List.all_cons, Bool.and_eq_true] at hx
    have hne := nc_ne hx.1
    have : acc.isEmpty = false := by cases acc <;> simp_all
    simp only [List.cons_append, refRun, refStep, this, hne.1, hne.2.1, hx.1, beq_iff_eq, if_false, if_true,
      Bool.false_eq_true, Option.toList_none, List.nil_append]
    rw [ih hx.2 (x :: acc) (by simp)]
    simp

theorem refRun_block {c : Nat} {tw : Text} (hns : nameStart c = true) (hall : tw.all nameChar = true)
    (st : Option Text) (tail : Text) :
    refRun st (38 :: c :: (tw ++ 59 :: tail)) = ((c :: tw) :: (refRun none tail).1, (refRun none tail).2) := by
  have hrun : refRun (some []) (c :: (tw ++ 59 :: tail)) = refRun (some [c]) (tw ++ 59 :: tail) := by
    simp [refRun, refStep, (nc_ne (ns_nc hns)).1, hns]
  rw [refRun_amp, hrun, refRun_name _ _ hall [c] (by simp)]
  rfl

theorem refRun_noname : ∀ (r : Text) (acc : Text), acc ≠ [] → (r.dropWhile nameChar).head? ≠ some 59 →
    (refRun (some acc) r).1 = (refRun none r).1
  | [], _, _, _ => by simp [refRun]
  | x :: r, acc, hacc, h => by
    have hemp : acc.isEmpty = false := by cases acc <;> simp_all
    by_cases h38 : x = 38
    · subst h38; rw [refRun_amp, refRun_amp]
    · by_cases hnc : nameChar x = true
      · have hne := nc_ne hnc
        simp only [List.dropWhile_cons, hnc, if_true] at h
        have ih := refRun_noname r (x :: acc) (by simp) h
        rw [refRun_cons_ne x r h38]
        simp only [refRun, refStep, hemp, hne.1, hne.2.1, hnc, beq_iff_eq, if_false, if_true, Bool.false_eq_true,
          Option.toList_none, List.nil_append]
        exact ih
      · have h59 : x ≠ 59 := by
          intro h59; subst h59
          have hn59 : nameChar 59 = false := by decide
          simp [hn59] at h
        rw [refRun_cons_ne x r h38]
        simp [refRun, refStep, hemp, h38, h59, hnc]

/-- an `&` at which the regex does not match contributes nothing to the scan -/
theorem refRun_nomatch (off : Nat) (rest : Text) (h : erefAt off (38 :: rest) = none) :
    (refRun (some []) rest).1 = (refRun none rest).1 := by
  cases rest with
  | nil => simp [refRun]
  | cons c r =>
    by_cases h38 : c = 38
    · subst h38; rw [refRun_amp, refRun_amp]
    · rw [refRun_cons_ne c r h38]
      by_cases hns : nameStart c = true
      · have hh : (r.dropWhile nameChar).head? ≠ some 59 := by
          intro hc
          simp [erefAt, hns, hc] at h
        have := refRun_noname r [c] (by simp) hh
        simpa [refRun, refStep, h38, hns] using this
      · simp [refRun, refStep, h38, hns]

theorem minLen_eref : 1 ≤ minLen Gen.Pat.DTDChecker_eref := by decide

/-- group 1 of an `eref` match as text: what `m.group(1)` is -/
def nameOf (s : Array Nat) (p : Nat × St) : Option Text :=
  match p.2.group 1 with
  | some (a, b) => some (Dtd.slice s a b)
  | none => none

theorem erefAt_some {off : Nat} {l : List Nat} {st : St} (h : erefAt off l = some st) :
    ∃ c tw tail, l = 38 :: c :: (tw ++ 59 :: tail) ∧ nameStart c = true ∧ tw.all nameChar = true ∧
      st = ⟨off + 2 + tw.length + 1, [(1, off + 1, off + 2 + tw.length)]⟩ := by
  rcases l with _ | ⟨c0, _ | ⟨c, r⟩⟩
  · simp [erefAt] at h
  · simp [erefAt] at h
  · simp only [erefAt] at h
    split at h
    · rename_i hcond
      simp only [Bool.and_eq_true, beq_iff_eq] at hcond
      obtain ⟨⟨h38, hns⟩, h59⟩ := hcond
      obtain ⟨tail, htail⟩ : ∃ tail, r.dropWhile nameChar = 59 :: tail := by
        cases hdw : r.dropWhile nameChar with
        | nil => rw [hdw] at h59; simp at h59
        | cons x t => rw [hdw] at h59; simp at h59; exact ⟨t, by rw [h59]⟩
      refine ⟨c, r.takeWhile nameChar, tail, ?_, hns, List.all_takeWhile, by cases h; rfl⟩
      rw [h38, ← htail, List.takeWhile_append_dropWhile]
    · cases h

theorem drop_block (c0 c : Nat) (tw tail : List Nat) :
    (c0 :: c :: (tw ++ 59 :: tail)).drop (tw.length + 3) = tail := by
  have : (c0 :: c :: (tw ++ 59 :: tail)) = (c0 :: c :: tw ++ [59]) ++ tail := by simp
  rw [this, List.drop_left']
  simp

theorem nameOf_block {s : Array Nat} {off c : Nat} {tw tail : List Nat}
    (hl : s.toList.drop off = 38 :: c :: (tw ++ 59 :: tail)) :
    nameOf s (off, (⟨off + 2 + tw.length + 1, [(1, off + 1, off + 2 + tw.length)]⟩ : St)) = some (c :: tw) := by
  simp only [nameOf, St.group, capOf, List.find?_cons_of_pos, beq_self_eq_true]
  have e2 : off + 2 + tw.length = off + 1 + (tw.length + 1) := by omega
  have e3 : s.toList.drop (off + 1) = (s.toList.drop off).drop 1 := by rw [List.drop_drop]
  rw [e2, Dtd.slice, Txt.extract_eq, Nat.add_sub_cancel_left, e3, hl]
  simp only [List.drop_succ_cons, List.drop_zero, List.take_succ_cons]
  rw [List.take_left']
  rfl

/-- Position by position: no match here, then the scanner forgets what it had begun (`refRun_nomatch`); a match, then both
    jump over the block `& name ;` and emit the name (`refRun_block`). -/
theorem scan_eref (s : Array Nat) : ∀ fuel off, s.size - off < fuel → off ≤ s.size →
    (scanL erefAt fuel off (s.toList.drop off)).filterMap (nameOf s) = (refRun none (s.toList.drop off)).1 := by
  intro fuel
  induction fuel with
  | zero => intro off h; omega
  | succ f ih =>
    intro off hf hle
    rcases Txt.drop_cases s off with ⟨-, -, hnil⟩ | ⟨c0, -, hlt, hd⟩
    · rw [hnil]
      simp [scanL, refRun]
    · rw [hd]
      simp only [scanL]
      cases hm : erefAt off (c0 :: s.toList.drop (off + 1)) with
      | none =>
        simp only []
        rw [ih (off + 1) (by omega) (by omega)]
        by_cases h38 : c0 = 38
        · rw [h38, refRun_amp]
          rw [h38] at hm
          exact (refRun_nomatch off _ hm).symm
        · rw [refRun_cons_ne _ _ h38]
      | some st =>
        simp only []
        obtain ⟨c, tw, tail, hl, hns, hall, rfl⟩ := erefAt_some hm
        rw [hl]
        have hl' : s.toList.drop off = 38 :: c :: (tw ++ 59 :: tail) := by rw [hd, hl]
        have e : off + 2 + tw.length + 1 - off = tw.length + 3 := by omega
        simp only [e, drop_block]
        have htl : s.toList.drop (off + 2 + tw.length + 1) = tail := by
          have e1 : s.toList.drop (off + 2 + tw.length + 1) = (s.toList.drop off).drop (tw.length + 3) := by
            rw [List.drop_drop]; congr 1; omega
          rw [e1, hl', drop_block]
        have hlen : (s.toList.drop off).length = s.size - off := by simp
        rw [hl'] at hlen
        simp only [List.length_cons, List.length_append] at hlen
        rw [List.filterMap_cons]
        rw [nameOf_block hl']
        simp only []
        have := ih (off + 2 + tw.length + 1) (by omega) (by omega)
        rw [htl] at this
        rw [this, refRun_block hns hall]

theorem erefNames_eq_plainRefs (v : Text) : Dtd.erefNames v = plainRefs v := by
  unfold Dtd.erefNames plainRefs
  simp only []
  rw [finditer_eq_scanL _ _ minLen_eref erefAt (fun p hp => eref_local _ p hp)]
  have := scan_eref v.toArray (v.toArray.size + 1) 0 (by omega) (by omega)
  simp only [List.drop_zero] at this
  rw [← this]
  rfl

end C07E
