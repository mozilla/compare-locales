/-
The `Matcher` contracts the enumeration theorems assume (`PrefixOK`, `SubMatches`, `SubMatchesOn`), and `iter_locale` /
`iter_reference` as "first claim wins": the nested fold is `addAll (ms.flatMap claims) []` (`iterLocale_eq`,
`iterReference_eq`), so every fact about the enumeration is a `find?` over the claims in list order; its relation to `match`.
-/
import CLModel.Paths.ProjectFiles
import CLModel.Proofs.C13Known
import CLModel.Proofs.C13Path
import CLModel.Proofs.C13Env
namespace PF

/-- What enumeration needs to know about a matcher, none of it about the tree: (a) every matched path starts with the
    prefix string, (b) the prefix is rooted (contains a `/`), (c) a wildcard-free pattern matches its prefix (the whole
    expanded pattern) only.  On the `Matcher` model (a) is proved (`PFM.prefix_holds`, from C12 `match_has_prefix`), (c)
    for fully bound patterns (`PFM.literal_holds`); (b) is proved nowhere and stays a hypothesis (`PFM.Rooted`). -/
def PrefixOK (env : MEnv) (m : MId) : Prop :=
  (∀ p g, env.mtch m p = some g → env.pfx m <+: p) ∧ 47 ∈ env.pfx m ∧
  (env.literal m = true → ∀ p g, env.mtch m p = some g → p = env.pfx m)

/-- `Matcher.sub` round trip: the l10n path computed from a reference match is matched by the l10n matcher -/
def SubMatches (env : MEnv) (r : Rule) : Prop :=
  ∀ rm q g, r.reference = some rm → env.mtch rm q = some g → (env.mtch r.l10n (env.expand r.l10n g)).isSome = true

/-- `Matcher.sub` round trip on the files of the tree: the l10n path computed from a reference FILE that the reference
    matcher matches is matched by the l10n matcher -/
def SubMatchesOn (env : MEnv) (fs : FS) (r : Rule) : Prop :=
  ∀ rm q g, r.reference = some rm → q ∈ fs.files → env.mtch rm q = some g →
    (env.mtch r.l10n (env.expand r.l10n g)).isSome = true

theorem PrefixOK.starts {env : MEnv} {m : MId} (h : PrefixOK env m) {p : Path} {g : GId}
    (hm : env.mtch m p = some g) : env.pfx m <+: p := h.1 p g hm

theorem PrefixOK.rooted {env : MEnv} {m : MId} (h : PrefixOK env m) : 47 ∈ env.pfx m := h.2.1

theorem PrefixOK.literal_only {env : MEnv} {m : MId} (h : PrefixOK env m) (hl : env.literal m = true) {p : Path} {g : GId}
    (hm : env.mtch m p = some g) : p = env.pfx m := h.2.2 hl p g hm

theorem SubMatches.on {env : MEnv} {fs : FS} {r : Rule} (h : SubMatches env r) : SubMatchesOn env fs r :=
  fun rm q g hr _ hm => h rm q g hr hm

theorem iter_of_locale {env : MEnv} {fs : FS} {pf : PF} (h : truthy pf.locale = true) :
    pf.iter env fs = pf.iterLocale env fs := if_pos h

theorem iter_of_no_locale {env : MEnv} {fs : FS} {pf : PF} (h : truthy pf.locale = false) :
    pf.iter env fs = pf.iterReference env fs := if_neg (by rw [h]; decide)

theorem isSome_of_truthy : ∀ {l : Option Loc}, truthy l = true → l.isSome = true
  | some _, _ => rfl

theorem mem_files {env : MEnv} {fs : FS} {ex : Path → Bool} {m : MId} {p : Path} {g : GId}
    (h : (p, g) ∈ files env fs ex m) : p ∈ fs.files ∧ ex p = false ∧ env.mtch m p = some g := by
  unfold files at h
  simp only at h
  split at h
  · rename_i hf
    simp only [Bool.and_eq_true] at hf
    split at h
    · simp at h
    · rename_i hex
      split at h
      · rename_i g' hm
        simp only [List.mem_singleton, Prod.mk.injEq] at h
        obtain ⟨rfl, rfl⟩ := h
        refine ⟨by simpa [FS.isfile] using hf.2, by simpa using hex, hm⟩
      · simp at h
  · simp only [List.mem_filterMap] at h
    obtain ⟨q, hq, hq2⟩ := h
    split at hq2
    · simp at hq2
    · rename_i hex
      simp only [Option.map_eq_some_iff, Prod.mk.injEq] at hq2
      obtain ⟨g', hm, rfl, rfl⟩ := hq2
      unfold FS.walk at hq
      split at hq
      · simp at hq
      · simp only [List.mem_filter] at hq
        exact ⟨hq.1, by simpa using hex, hm⟩

theorem mem_files_of {env : MEnv} {fs : FS} {ex : Path → Bool} {m : MId} {p : Path} {g : GId}
    (hok : PrefixOK env m) (hp : p ∈ fs.files) (hex : ex p = false) (hm : env.mtch m p = some g) :
    (p, g) ∈ files env fs ex m := by
  unfold files
  simp only
  split
  · rename_i hf
    simp only [Bool.and_eq_true] at hf
    have := hok.literal_only hf.1 hm
    subst this
    simp [hex, hm]
  · obtain ⟨hne, hu⟩ := isUnder_walkBase (hok.starts hm) hok.rooted
    simp only [List.mem_filterMap]
    refine ⟨p, ?_, by simp [hex, hm]⟩
    unfold FS.walk
    have : (walkBase (env.pfx m)).isEmpty = false := by
      cases hw : walkBase (env.pfx m) with
      | nil => exact absurd hw hne
      | cons _ _ => rfl
    simp [this, hp, hu]

theorem find_files_some {env : MEnv} {fs : FS} {ex : Path → Bool} {m : MId} {p : Path} {g : GId}
    (h : (p, g) ∈ files env fs ex m) : (files env fs ex m).find? (fun pg => pg.1 == p) = some (p, g) := by
  refine find?_of_unique h (beq_self_eq_true p) fun ⟨q, g'⟩ hy hq => ?_
  obtain rfl : q = p := eq_of_beq hq
  have := (mem_files hy).2.2
  rw [(mem_files h).2.2] at this
  cases this
  rfl

/-- what `iter_locale` stores for a file found on the l10n side by the match `g` of `r`'s l10n matcher … -/
def entryL (env : MEnv) (r : Rule) (g : GId) : Entry :=
  { reference := r.reference.map (env.expand · g), merge := r.merge.map (env.expand · g), test := r.test }

/-- … and for the reference file `q` found by the match `g` of `r`'s reference matcher -/
def entryR (env : MEnv) (r : Rule) (q : Path) (g : GId) : Entry :=
  { reference := some q, merge := r.merge.map (env.expand · g), test := r.test }

/-- The (path, entry) pairs one matcher offers to `known` in locale mode, in the order of the loop body: first the files its
    l10n matcher finds (`claimsL`), then the non-excluded `sub` images of the files its reference matcher finds (`claimsR`). -/
def claimsL (env : MEnv) (fs : FS) (ex : Path → Bool) (r : Rule) : List (Path × Entry) :=
  (files env fs ex r.l10n).map fun pg => (pg.1, entryL env r pg.2)

def claimsR (env : MEnv) (fs : FS) (ex : Path → Bool) (r : Rule) : List (Path × Entry) :=
  match r.reference with
  | none => []
  | some rm => (files env fs ex rm).filterMap fun pg =>
      if ex (env.expand r.l10n pg.2) then none else some (env.expand r.l10n pg.2, entryR env r pg.1 pg.2)

def claims (env : MEnv) (fs : FS) (ex : Path → Bool) (r : Rule) : List (Path × Entry) :=
  claimsL env fs ex r ++ claimsR env fs ex r

theorem foldl_refclaims {env : MEnv} {ex : Path → Bool} {r : Rule} : ∀ (l : List (Path × GId)) (k : Known),
    l.foldl (fun k (pg : Path × GId) =>
      if ex (env.expand r.l10n pg.2) then k
      else kAdd k (env.expand r.l10n pg.2) { reference := some pg.1,
                                             merge := r.merge.map (env.expand · pg.2), test := r.test }) k
    = addAll (l.filterMap fun pg =>
        if ex (env.expand r.l10n pg.2) then none else some (env.expand r.l10n pg.2, entryR env r pg.1 pg.2)) k
  | [], k => by simp [addAll]
  | x :: xs, k => by
    rw [List.foldl_cons, List.filterMap_cons]
    by_cases hx : ex (env.expand r.l10n x.2) = true
    · simp only [hx, if_true]
      exact foldl_refclaims xs k
    · simp only [hx, Bool.false_eq_true, if_false]
      rw [foldl_refclaims xs]
      simp [addAll, entryR]

theorem stepLocale_eq {env : MEnv} {fs : FS} {ex : Path → Bool} {k : Known} {r : Rule} :
    stepLocale env fs ex k r = addAll (claims env fs ex r) k := by
  unfold stepLocale claims claimsL claimsR
  rw [addAll_append]
  cases hr : r.reference with
  | none => simp [addAll, List.foldl_map, entryL, hr]
  | some rm =>
    simp only
    rw [foldl_refclaims]
    simp [addAll, List.foldl_map, entryL, hr]

/-- the pairs one matcher offers in reference self-validation mode (`iter_reference`): its reference files, each paired with
    itself; excludes play no role -/
def claimsValidation (env : MEnv) (fs : FS) (r : Rule) : List (Path × Entry) :=
  match r.reference with
  | none => []
  | some rm => (files env fs (fun _ => false) rm).map fun pg =>
      (env.expand rm pg.2, { reference := some pg.1, merge := none, test := r.test })

theorem stepReference_eq {env : MEnv} {fs : FS} {k : Known} {r : Rule} :
    stepReference env fs k r = addAll (claimsValidation env fs r) k := by
  unfold stepReference claimsValidation
  cases hr : r.reference with
  | none => simp [addAll]
  | some rm => simp [addAll, List.foldl_map]

theorem iterLocale_eq {env : MEnv} {fs : FS} {pf : PF} :
    pf.iterLocale env fs =
      (sortKnown (addAll (pf.matchers.flatMap (claims env fs (excludedBy env pf.exclude))) [])).map toItem := by
  unfold PF.iterLocale
  rw [foldl_addAll (step := stepLocale _ _ _) fun _ _ => stepLocale_eq]

theorem iterReference_eq {env : MEnv} {fs : FS} {pf : PF} :
    pf.iterReference env fs = (sortKnown (addAll (pf.matchers.flatMap (claimsValidation env fs)) [])).map toItem := by
  unfold PF.iterReference
  rw [foldl_addAll (step := stepReference _ _) fun _ _ => stepReference_eq]

theorem claimsL_find_some {env : MEnv} {fs : FS} {ex : Path → Bool} {r : Rule} {p : Path} {g : GId}
    (h : (p, g) ∈ files env fs ex r.l10n) :
    (claimsL env fs ex r).find? (·.1 == p) = some (p, entryL env r g) := by
  unfold claimsL
  rw [List.find?_map]
  have : ((fun (x : Path × Entry) => x.1 == p) ∘ fun (pg : Path × GId) => (pg.1, entryL env r pg.2))
      = fun pg => pg.1 == p := by funext pg; rfl
  rw [this, find_files_some h]
  rfl

theorem claimsL_find_none {env : MEnv} {fs : FS} {ex : Path → Bool} {r : Rule} {p : Path}
    (h : ∀ g, (p, g) ∉ files env fs ex r.l10n) : (claimsL env fs ex r).find? (·.1 == p) = none := by
  unfold claimsL
  rw [List.find?_eq_none]
  intro x hx
  simp only [List.mem_map] at hx
  obtain ⟨⟨q, g⟩, hq, rfl⟩ := hx
  simp only [beq_iff_eq]
  rintro rfl
  exact h g hq

theorem mem_claimsR {env : MEnv} {fs : FS} {ex : Path → Bool} {r : Rule} {x : Path × Entry} :
    x ∈ claimsR env fs ex r ↔ ∃ rm q g, r.reference = some rm ∧ (q, g) ∈ files env fs ex rm ∧
      ex (env.expand r.l10n g) = false ∧ x = (env.expand r.l10n g, entryR env r q g) := by
  unfold claimsR
  cases hr : r.reference with
  | none => simp
  | some rm =>
    simp only [List.mem_filterMap, Option.some.injEq]
    constructor
    · rintro ⟨⟨q, g⟩, hq, h⟩
      split at h
      · simp at h
      · rename_i hex
        simp only [Option.some.injEq] at h
        exact ⟨rm, q, g, rfl, hq, by simpa using hex, h.symm⟩
    · rintro ⟨rm', q, g, h1, hq, hex, rfl⟩
      subst h1
      exact ⟨(q, g), hq, by simp [hex]⟩

theorem claimsR_find_none {env : MEnv} {fs : FS} {ex : Path → Bool} {r : Rule} {p : Path}
    (h : ∀ rm q g, r.reference = some rm → (q, g) ∈ files env fs ex rm → ex (env.expand r.l10n g) = false →
      env.expand r.l10n g ≠ p) :
    (claimsR env fs ex r).find? (·.1 == p) = none := by
  rw [List.find?_eq_none]
  intro x hx
  obtain ⟨rm, q, g, hr, hq, hex, rfl⟩ := mem_claimsR.1 hx
  simp only [beq_iff_eq]
  exact h rm q g hr hq hex

theorem claims_find_none {env : MEnv} {fs : FS} {ex : Path → Bool} {r : Rule} {p : Path}
    (hl : ∀ g, (p, g) ∉ files env fs ex r.l10n)
    (hr : ∀ rm q g, r.reference = some rm → (q, g) ∈ files env fs ex rm → ex (env.expand r.l10n g) = false →
      env.expand r.l10n g ≠ p) :
    (claims env fs ex r).find? (·.1 == p) = none := by
  unfold claims
  rw [List.find?_append, claimsL_find_none hl, claimsR_find_none hr]
  rfl

theorem claims_find_none_of_mtch {env : MEnv} {fs : FS} {ex : Path → Bool} {r : Rule} {p : Path}
    (hm : env.mtch r.l10n p = none) (hrt : SubMatchesOn env fs r) :
    (claims env fs ex r).find? (·.1 == p) = none := by
  refine claims_find_none (fun g hg => ?_) (fun rm q g hr hq _ e => ?_)
  · have := (mem_files hg).2.2
    rw [hm] at this
    cases this
  · have := hrt rm q g hr (mem_files hq).1 (mem_files hq).2.2
    rw [e, hm] at this
    cases this

theorem claims_find_some {env : MEnv} {fs : FS} {ex : Path → Bool} {r : Rule} {p : Path} {g : GId}
    (h : (p, g) ∈ files env fs ex r.l10n) :
    (claims env fs ex r).find? (·.1 == p) = some (p, entryL env r g) := by
  unfold claims
  rw [List.find?_append, claimsL_find_some h]
  rfl

theorem iterLocale_sound {env : MEnv} {fs : FS} {pf : PF} {it : Item} (h : it ∈ pf.iterLocale env fs) :
    ∃ r ∈ pf.matchers,
      (∃ g, (it.path, g) ∈ files env fs (excludedBy env pf.exclude) r.l10n ∧ it = toItem (it.path, entryL env r g)) ∨
      (∃ rm q g, r.reference = some rm ∧ (q, g) ∈ files env fs (excludedBy env pf.exclude) rm ∧
        excludedBy env pf.exclude (env.expand r.l10n g) = false ∧
        it = toItem (env.expand r.l10n g, entryR env r q g)) := by
  rw [iterLocale_eq] at h
  obtain ⟨r, hr, e, hc, hit⟩ := yielded_claim h
  refine ⟨r, hr, ?_⟩
  unfold claims at hc
  rw [List.mem_append] at hc
  rcases hc with hc | hc
  · left
    unfold claimsL at hc
    simp only [List.mem_map, Prod.mk.injEq] at hc
    obtain ⟨⟨q, g⟩, hq, rfl, rfl⟩ := hc
    exact ⟨g, hq, hit⟩
  · right
    obtain ⟨rm, q, g, hrr, hq, hex, h1⟩ := mem_claimsR.1 hc
    refine ⟨rm, q, g, hrr, hq, hex, ?_⟩
    rw [hit, h1]

theorem iterLocale_not_excluded {env : MEnv} {fs : FS} {pf : PF} {it : Item} (h : it ∈ pf.iterLocale env fs) :
    excludedBy env pf.exclude it.path = false := by
  obtain ⟨r, _, hcl⟩ := iterLocale_sound h
  rcases hcl with ⟨g, hf, _⟩ | ⟨rm, q, g, _, _, hex, e⟩
  · exact (mem_files hf).2.1
  · rw [e]; exact hex

theorem iterLocale_complete_l10n {env : MEnv} {fs : FS} {pf : PF} {r : Rule} {p : Path} {g : GId}
    (hr : r ∈ pf.matchers) (hf : (p, g) ∈ files env fs (excludedBy env pf.exclude) r.l10n) :
    ∃ it ∈ pf.iterLocale env fs, it.path = p := by
  rw [iterLocale_eq]
  refine claim_yielded hr (e := entryL env r g) ?_
  unfold claims claimsL
  exact List.mem_append_left _ (List.mem_map.2 ⟨(p, g), hf, rfl⟩)

theorem iterLocale_complete_ref {env : MEnv} {fs : FS} {pf : PF} {r : Rule} {rm : MId} {q : Path} {g : GId}
    (hr : r ∈ pf.matchers) (hrr : r.reference = some rm)
    (hf : (q, g) ∈ files env fs (excludedBy env pf.exclude) rm)
    (hex : excludedBy env pf.exclude (env.expand r.l10n g) = false) :
    ∃ it ∈ pf.iterLocale env fs, it.path = env.expand r.l10n g := by
  rw [iterLocale_eq]
  refine claim_yielded hr (e := entryR env r q g) ?_
  unfold claims
  exact List.mem_append_right _ (mem_claimsR.2 ⟨rm, q, g, hrr, hf, hex, rfl⟩)

theorem iterReference_sound {env : MEnv} {fs : FS} {pf : PF} {it : Item} (h : it ∈ pf.iterReference env fs) :
    ∃ r ∈ pf.matchers, ∃ rm q g, r.reference = some rm ∧ q ∈ fs.files ∧ env.mtch rm q = some g ∧
      it = { path := env.expand rm g, reference := some q, merge := none, test := r.test } := by
  rw [iterReference_eq] at h
  obtain ⟨r, hr, e, hc, hit⟩ := yielded_claim h
  refine ⟨r, hr, ?_⟩
  unfold claimsValidation at hc
  cases hrr : r.reference with
  | none => simp [hrr] at hc
  | some rm =>
    simp only [hrr, List.mem_map, Prod.mk.injEq] at hc
    obtain ⟨⟨q, g⟩, hq, h1, rfl⟩ := hc
    have := mem_files hq
    refine ⟨rm, q, g, rfl, this.1, this.2.2, ?_⟩
    rw [hit, ← h1]
    rfl

theorem iterReference_complete {env : MEnv} {fs : FS} {pf : PF} {r : Rule} {rm : MId} {q : Path} {g : GId}
    (hr : r ∈ pf.matchers) (hrr : r.reference = some rm) (hq : q ∈ fs.files)
    (hm : env.mtch rm q = some g) (hd : PrefixOK env rm) :
    ∃ it ∈ pf.iterReference env fs, it.path = env.expand rm g := by
  rw [iterReference_eq]
  refine claim_yielded hr (e := { reference := some q, merge := none, test := r.test }) ?_
  unfold claimsValidation
  rw [hrr]
  exact List.mem_map.2 ⟨(q, g), mem_files_of hd hq rfl hm, rfl⟩

theorem matchPath_eq {env : MEnv} {locale : Option Loc} {ms : List Rule} {exclude : Option PF} {p : Path} :
    (PF.mk locale ms exclude).matchPath env p =
      if (locale.isSome && excludedBy env exclude p) = true then none
      else matchRules env locale.isSome (excludedBy env exclude) p ms := by
  unfold PF.matchPath excludedBy
  rfl

theorem matchRules_path {env : MEnv} {ex : Path → Bool} {p : Path} : ∀ {ms : List Rule} {it : Item},
    (∀ r ∈ ms, ∀ rm, r.reference = some rm → env.mtch rm p = none) →
    matchRules env true ex p ms = some it → it.path = p
  | [], _, _, h => by simp [matchRules] at h
  | r :: ms, it, hnr, h => by
    have ih := matchRules_path (ex := ex) (ms := ms) (it := it) (fun r' hr' => hnr r' (List.mem_cons_of_mem _ hr'))
    unfold matchRules at h
    simp only [if_true] at h
    split at h
    · simp only [Option.some.injEq] at h
      rw [← h]
    · split at h
      · exact ih h
      · rename_i rm hrm
        rw [hnr r List.mem_cons_self rm hrm] at h
        exact ih h

theorem find_claims_eq_matchRules {env : MEnv} {fs : FS} {ex : Path → Bool} {p : Path}
    (hp : p ∈ fs.files) (hex : ex p = false) : ∀ {ms : List Rule},
    (∀ r ∈ ms, PrefixOK env r.l10n) → (∀ r ∈ ms, SubMatchesOn env fs r) →
    (∀ r ∈ ms, ∀ rm, r.reference = some rm → env.mtch rm p = none) →
    (ms.flatMap (claims env fs ex)).find? (·.1 == p) =
      (matchRules env true ex p ms).map fun it => (p, ({ reference := it.reference, merge := it.merge, test := it.test } : Entry))
  | [], _, _, _ => by simp [matchRules]
  | r :: ms, hdir, hrt, hnr => by
    have ih := find_claims_eq_matchRules hp hex (ms := ms)
      (fun r' hr' => hdir r' (List.mem_cons_of_mem _ hr')) (fun r' hr' => hrt r' (List.mem_cons_of_mem _ hr'))
      (fun r' hr' => hnr r' (List.mem_cons_of_mem _ hr'))
    rw [List.flatMap_cons, List.find?_append]
    unfold matchRules
    simp only [if_true]
    cases hm : env.mtch r.l10n p with
    | some g =>
      have hf : (p, g) ∈ files env fs ex r.l10n :=
        mem_files_of (hdir r List.mem_cons_self) hp hex hm
      rw [claims_find_some hf]
      simp [entryL]
    | none =>
      rw [claims_find_none_of_mtch hm (hrt r List.mem_cons_self)]
      simp only [Option.none_or]
      cases hrr : r.reference with
      | none => exact ih
      | some rm =>
        simp only
        rw [hnr r List.mem_cons_self rm hrr]
        exact ih

theorem find_claims_excluded {env : MEnv} {fs : FS} {ex : Path → Bool} {p : Path} (hex : ex p = true)
    {ms : List Rule} : (ms.flatMap (claims env fs ex)).find? (·.1 == p) = none := by
  rw [List.find?_flatMap, List.findSome?_eq_none_iff]
  refine fun r _ => claims_find_none (fun g hg => ?_) (fun rm q g _ _ h e => ?_)
  · have := (mem_files hg).2.1
    rw [hex] at this
    cases this
  · rw [e, hex] at h
    cases h

end PF
