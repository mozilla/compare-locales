/-
What follows from the closed form `serialized_entities` and from the one fold `serializeEnts_fold`: the emitted keys and values
(through `chosen_some`, the inversion of `chosen`), where an output entry comes from (`mem_out`, `nothing_foreign`), that string
keys are unique in the output (`out_unique`), hence idempotence at the entry level.  Then `serializeEntsS`, the model with
`AddRemove` replaced by its closed form `AR.spec` so that the kernel can evaluate it, and (`C16S`) what `get_older_entity`
does with sticky entries.
-/
import CLModel.Proofs.C16Ser
namespace C16L
open AR Ser

/-- a new value is given for `s` and `s` is a reference entity -/
def given (ref : List Ent) (nd : NewData) (s : List Nat) : Bool :=
  match dget nd s with
  | some (some _) => known ref s
  | _ => false

/-- the old localization has a real entity under `s`, a reference entity key, not marked for removal -/
def kept (ref old : List Ent) (nd : NewData) (s : List Nat) : Bool :=
  match oldEntry old s with
  | some e => e.isReal && known ref s && !removed nd s
  | none => false

theorem newValue_isSome (ref : List Ent) (nd : NewData) (s : List Nat) :
    (newValue ref nd s).isSome = given ref nd s := by
  unfold newValue given
  cases dget nd s with
  | none => rfl
  | some ov =>
    cases ov with
    | none => rfl
    | some v =>
      simp only
      rw [Bool.eq_iff_iff, known_iff]
      cases dget (refMapping ref) s <;> simp

theorem oldEntry_some {old : List Ent} {s : List Nat} {e : Ent} (h : oldEntry old s = some e) :
    e ∈ old ∧ e.isJunk = false ∧ strKeyed e = true ∧ e.key = s := by
  have := lastMatch_some h
  rw [List.mem_filter] at this
  simp only [Bool.and_eq_true, beq_iff_eq, Bool.not_eq_true'] at this
  exact ⟨this.1.1, this.1.2, this.2.1, this.2.2⟩

theorem chosen_some {ref old : List Ent} {nd : NewData} {s : List Nat} {e : Ent} (h : chosen ref old nd s = some e) :
    newValue ref nd s = some e ∨
      (newValue ref nd s = none ∧ oldEntry old s = some e ∧ e.isReal = true ∧ known ref s = true ∧
        removed nd s = false) := by
  unfold chosen at h
  cases hv : newValue ref nd s with
  | some l =>
    rw [hv] at h
    exact .inl h
  | none =>
    rw [hv] at h
    simp only at h
    cases ho : oldEntry old s with
    | none => rw [ho] at h; simp at h
    | some e0 =>
      rw [ho] at h
      simp only at h
      split at h
      · rename_i hc
        simp only [Option.some.injEq] at h
        subst h
        simp only [Bool.and_eq_true, Bool.not_eq_true'] at hc
        exact .inr ⟨rfl, rfl, hc.1.1, hc.1.2, hc.2⟩
      · simp at h

theorem chosen_key {ref old : List Ent} {nd : NewData} {s : List Nat} {e : Ent} (h : chosen ref old nd s = some e) :
    e.key = s := by
  rcases chosen_some h with hv | ⟨_, ho, _⟩
  · obtain ⟨v, r, _, _, rfl, hk⟩ := newValue_some hv
    exact hk
  · exact (oldEntry_some ho).2.2.2

theorem chosen_known {ref old : List Ent} {nd : NewData} {s : List Nat} {e : Ent} (h : chosen ref old nd s = some e) :
    e.isReal = true ∧ known ref s = true := by
  rcases chosen_some h with hv | ⟨_, _, hr, hk, _⟩
  · obtain ⟨v, r, _, hr, rfl, _⟩ := newValue_some hv
    exact ⟨rfl, by rw [known_iff, hr]; rfl⟩
  · exact ⟨hr, hk⟩

theorem chosen_isSome (ref old : List Ent) (nd : NewData) (s : List Nat) :
    (chosen ref old nd s).isSome = (given ref nd s || kept ref old nd s) := by
  rw [← newValue_isSome]
  unfold chosen kept
  cases newValue ref nd s with
  | some l => rfl
  | none =>
    simp only [Option.isSome_none, Bool.false_or]
    cases oldEntry old s with
    | none => rfl
    | some e =>
      simp only
      split
      · rename_i h; rw [h]; rfl
      · rename_i h; simp only [Bool.not_eq_true] at h; rw [h]; rfl

theorem serialized_keys (ref old : List Ent) (nd : NewData) (hnd : (nd.map (·.1)).Nodup) :
    ((serializeEnts ref old nd).filter Ent.isReal).map (·.key)
      = (refKeys ref).filter (fun s => given ref nd s || kept ref old nd s) := by
  rw [serialized_entities ref old nd hnd, Txt.filterMap_map_key _ _ _ (fun s e h => chosen_key h)]
  apply List.filter_congr
  intro s _
  exact chosen_isSome ref old nd s

theorem serialized_values (ref old : List Ent) (nd : NewData) (hnd : (nd.map (·.1)).Nodup) :
    ∀ e ∈ (serializeEnts ref old nd).filter Ent.isReal,
      match dget nd e.key with
      | some (some v) => e.val = v ∧ ∃ r, dget (refMapping ref) e.key = some r ∧ e.all = r.pre ++ v ++ r.post
      | _ => oldEntry old e.key = some e := by
  intro e he
  rw [serialized_entities ref old nd hnd, List.mem_filterMap] at he
  obtain ⟨s, _, hc⟩ := he
  have hk := chosen_key hc
  subst hk
  rcases chosen_some hc with hv | ⟨hv, ho, _, hkn, _⟩
  · obtain ⟨v, r, hd, hr, hl, _⟩ := newValue_some hv
    rw [hd]
    simp only
    refine ⟨by rw [hl]; rfl, r, hr, by rw [hl]; rfl⟩
  · -- a value cannot have been given: the key is known, so `newValue` would be defined
    have hg : given ref nd e.key = false := by rw [← newValue_isSome, hv]; rfl
    unfold given at hg
    cases hd : dget nd e.key with
    | none => exact ho
    | some ov =>
      cases ov with
      | none => exact ho
      | some v => rw [hd] at hg; simp only at hg; rw [hkn] at hg; simp at hg

theorem prunePlaceholders_no_ph (es : List Ent) : ∀ e ∈ prunePlaceholders es, e.isPlaceholder = false := by
  intro e he
  rw [prunePlaceholders_fold] at he
  have := (fold_sub _ _ _).subset he
  simpa using (List.mem_filter.1 this).2

theorem mem_out {ref old : List Ent} {nd : NewData} {e : Ent} (h : e ∈ serializeEnts ref old nd) :
    e.isPlaceholder = false ∧ ∃ p ∈ olderPairs (d0Of ref) (d1Of ref old nd), pickPair (d2Of ref nd) p = e := by
  rw [serializeEnts_fold] at h
  have := (fold_sub _ _ _).subset h
  rw [flatOut, List.mem_filter, List.mem_map] at this
  exact ⟨by simpa using this.2, this.1⟩

theorem pickPair_mem {ref old : List Ent} {nd : NewData} {p : MKey × Ent} (hp : p ∈ olderPairs (d0Of ref) (d1Of ref old nd)) :
    (p.1, pickPair (d2Of ref nd) p) ∈ d0Of ref ∨ (p.1, pickPair (d2Of ref nd) p) ∈ d1Of ref old nd ∨
      (p.1, pickPair (d2Of ref nd) p) ∈ d2Of ref nd := by
  have h01 : (p.1, p.2) ∈ d0Of ref ∨ (p.1, p.2) ∈ d1Of ref old nd ∨ (p.1, p.2) ∈ d2Of ref nd := by
    rcases getOlder_mem (mem_olderPairs hp) with h | h
    · exact .inl h
    · exact .inr (.inl h)
  unfold pickPair pick
  cases hg : dget (d2Of ref nd) p.1 with
  | none => exact h01
  | some l =>
    simp only
    split
    · exact h01
    · exact .inr (.inr (mem_of_dget hg))

theorem pickPair_keyOK {ref old : List Ent} {nd : NewData} {p : MKey × Ent} (hp : p ∈ olderPairs (d0Of ref) (d1Of ref old nd)) :
    keyOK (p.1, pickPair (d2Of ref nd) p) = true := by
  rcases pickPair_mem (nd := nd) hp with h | h | h
  · exact d0_keyOK ref _ h
  · exact d1_keyOK ref old nd _ h
  · exact d2_keyOK ref nd _ h

theorem nothing_foreign (ref old : List Ent) (nd : NewData) :
    ∀ e ∈ serializeEnts ref old nd,
      e.isPlaceholder = false ∧ e.isJunk = false ∧
      ((e ∈ newL10n (refMapping ref) nd) ∨
       (e ∈ old ∧ shouldPlaceholder ((refMapping ref).map (·.1)) nd e = false) ∨
       (e ∈ ref ∧ e.isEntity = false)) := by
  intro e he
  obtain ⟨hph, p, hp, hpe⟩ := mem_out he
  have hm := pickPair_mem (nd := nd) hp
  rw [hpe] at hm
  rcases hm with h | h | h
  · have hm := parseResource_mem h
    simp only [plOf, List.mem_map, List.mem_filter] at hm
    obtain ⟨r, ⟨hr, hj⟩, rfl⟩ := hm
    unfold placeholder at hph ⊢
    split
    · rename_i hent; rw [if_pos hent] at hph; simp [mkPlaceholder, Ent.isPlaceholder] at hph
    · rename_i hent
      refine ⟨by rw [if_neg hent] at hph; exact hph, by simpa using hj, .inr (.inr ⟨hr, by simpa using hent⟩)⟩
  · have hm := parseResource_mem h
    simp only [osOf_eq, List.mem_map, List.mem_filter] at hm
    obtain ⟨e0, ⟨h0, hj⟩, rfl⟩ := hm
    unfold sanOf at hph ⊢
    split
    · rename_i hsp
      rw [if_pos hsp] at hph
      exfalso
      have hent : e0.isEntity = true := by
        unfold shouldPlaceholder at hsp
        cases hh : e0.isEntity with
        | true => rfl
        | false => rw [hh] at hsp; simp at hsp
      unfold placeholder at hph
      rw [if_pos hent] at hph
      simp [mkPlaceholder, Ent.isPlaceholder] at hph
    · rename_i hsp
      refine ⟨by rw [if_neg hsp] at hph; exact hph, by simpa using hj, .inr (.inl ⟨h0, by simpa using hsp⟩)⟩
  · have hm := parseResource_mem h
    have hr := (mem_nl hm).1
    refine ⟨hph, ?_, .inl hm⟩
    cases hj : e.isJunk with
    | false => rfl
    | true => have := isJunk_not_entity hj; rw [isReal_isEntity hr] at this; simp at this

theorem out_unique (ref old : List Ent) (nd : NewData) {e e' : Ent}
    (he : e ∈ serializeEnts ref old nd) (he' : e' ∈ serializeEnts ref old nd)
    (hs : strKeyed e = true) (hs' : strKeyed e' = true) (hk : e.key = e'.key) : e = e' := by
  obtain ⟨_, p, hp, rfl⟩ := mem_out he
  obtain ⟨_, p', hp', rfl⟩ := mem_out he'
  have h1 := keyOK_str (pickPair_keyOK hp) hs
  have h2 := keyOK_str (pickPair_keyOK hp') hs'
  rw [Txt.eq_of_nodup_map (olderPairs_keys_nodup (d0Of ref) (d1Of ref old nd)) hp hp'
    (h1.trans ((congrArg MKey.str hk).trans h2.symm))]

theorem idempotent_entities (ref old : List Ent) (nd : NewData) (hnd : (nd.map (·.1)).Nodup) :
    (serializeEnts ref (serializeEnts ref old nd) []).filter Ent.isReal
      = (serializeEnts ref old nd).filter Ent.isReal := by
  rw [serialized_entities ref _ [] (by simp), serialized_entities ref old nd hnd]
  apply Txt.filterMap_congr'
  intro s hs
  -- without new data the second run's `chosen` is `oldEntry` of the first output; that is the first run's `chosen`, since the
  -- output has no junk and at most one entry per string key (`out_unique`)
  have hout := serialized_entities ref old nd hnd
  have hjunk : (serializeEnts ref old nd).filter (fun e => !e.isJunk) = serializeEnts ref old nd := by
    rw [List.filter_eq_self]
    intro e he
    simp [(nothing_foreign ref old nd e he).2.1]
  have hnv : newValue ref [] s = none := rfl
  have hrm : removed [] s = false := rfl
  cases hc : chosen ref old nd s with
  | some e =>
    have hin : e ∈ (serializeEnts ref old nd).filter Ent.isReal := by
      rw [hout, List.mem_filterMap]; exact ⟨s, hs, hc⟩
    rw [List.mem_filter] at hin
    have hk := chosen_key hc
    have hkn := (chosen_known hc).2
    have hoe : oldEntry (serializeEnts ref old nd) s = some e := by
      unfold oldEntry
      rw [hjunk]
      apply lastMatch_unique hin.1 (by simp [isReal_strKeyed hin.2, hk])
      intro y hy hp
      simp only [Bool.and_eq_true, beq_iff_eq] at hp
      exact out_unique ref old nd hy hin.1 hp.1 (isReal_strKeyed hin.2) (hp.2.trans hk.symm)
    unfold chosen
    rw [hnv, hoe]
    simp [hin.2, hkn, hrm]
  | none =>
    unfold chosen
    rw [hnv]
    simp only
    cases hoe : oldEntry (serializeEnts ref old nd) s with
    | none => rfl
    | some e' =>
      simp only
      split
      · rename_i hcond
        exfalso
        simp only [Bool.and_eq_true] at hcond
        obtain ⟨hm, _, _, hk'⟩ := oldEntry_some hoe
        have : e' ∈ (serializeEnts ref old nd).filter Ent.isReal := by
          rw [List.mem_filter]; exact ⟨hm, hcond.1.1⟩
        rw [hout, List.mem_filterMap] at this
        obtain ⟨s', _, hc'⟩ := this
        have := chosen_key hc'
        rw [hk'] at this
        subst this
        rw [hc] at hc'
        simp at hc'
      · rfl

/-! An evaluable form of the model (for `decide` in examples).

`List.mergeSort` inside `AddRemove` is defined by well-founded recursion and does not reduce in the
kernel; dict keys are always duplicate-free, so the proved closed form `AR.spec` can replace it.  The examples of `Props/C16`
evaluate `serializeEntsS`; `serializeEnts_eq_spec` is what makes them statements about the model. -/

def mergeTwoS (N O : Dict) : Dict :=
  mkDict ((((AR.spec (N.map (·.1)) (O.map (·.1))).map (fun p => (p.2, getOlder N O p.2))).foldl pruneStep []).reverse)

theorem mergeTwo_spec (N O : Dict) (hN : (dkeys N).Nodup) (hO : (dkeys O).Nodup) :
    mergeTwo N O false = mergeTwoS N O := by
  unfold mergeTwo mergeTwoS
  simp only [Bool.false_eq_true, if_false]
  rw [addRemove_eq_spec _ _ hN hO]

def serializeEntsS (ref old : List Ent) (nd : NewData) : List Ent :=
  prunePlaceholders ((mergeTwoS (mergeTwoS (d0Of ref) (d1Of ref old nd)) (d2Of ref nd)).map (·.2))

theorem serializeEnts_eq_spec (ref old : List Ent) (nd : NewData) :
    serializeEnts ref old nd = serializeEntsS ref old nd := by
  rw [serializeEnts_eq, serializeEntsS, m1Of,
    mergeTwo_spec _ _ (d0_nodup ref) (d1_nodup ref old nd),
    ← mergeTwo_spec _ _ (by rw [← mergeTwo_spec _ _ (d0_nodup ref) (d1_nodup ref old nd)]; exact mergeTwo_keys_nodup _ _ _)
      (d2_nodup ref nd)]

end C16L

namespace C16S
open AR Ser C16L

theorem getOlder_sticky {N O : Dict} {k : MKey} {e : Ent} (h : getOlder N O k = some e) (hs : e.isSticky = true) :
    (k, e) ∈ N := by
  unfold getOlder at h
  cases ho : dget O k with
  | none => rw [ho] at h; exact mem_of_dget h
  | some e' =>
    rw [ho] at h
    simp only at h
    split at h
    · exact mem_of_dget h
    · rename_i hns
      simp only [Option.some.injEq] at h
      subst h
      exact absurd hs hns

theorem placeholder_sticky {r : Ent} (h : (placeholder r).isSticky = true) : placeholder r = r := by
  unfold placeholder at h ⊢
  split
  · rename_i he
    rw [if_pos he] at h
    simp [mkPlaceholder, Ent.isSticky] at h
  · rfl

theorem d1_str_sticky (ref old : List Ent) (nd : NewData) (s : List Nat)
    (hold : ∀ e ∈ old, e.isJunk = false → strKeyed e = true → e.key = s → e.isSticky = true) :
    ∀ e', dget (d1Of ref old nd) (MKey.str s) = some e' → e'.isSticky = true := by
  intro e' h
  have hm := parseResource_mem (mem_of_dget h)
  have hok := parseResource_keyOK _ _ _ (mem_of_dget h)
  simp only [osOf_eq, List.mem_map, List.mem_filter] at hm
  obtain ⟨e0, ⟨h0, hj⟩, rfl⟩ := hm
  simp only [keyOK, Bool.and_eq_true, beq_iff_eq] at hok
  obtain ⟨hsk, hkey⟩ := hok
  rw [sanOf_strKeyed] at hsk
  rw [sanOf_key] at hkey
  have hst := hold e0 h0 (by simpa using hj) hsk hkey
  have hne := isSticky_not_entity hst
  unfold sanOf shouldPlaceholder
  simp [hne, hst]

end C16S
