/- C09: on values of plain characters (`plainChar`) the serialisers `escapeData`, `saxEscape` and `quoteattr` change
   nothing, so the raw attributes of the source are what `toxml()` writes; the constant frame of the `<resources>` document. -/
import CLModel.Proofs.C09WalkTop
namespace C09P
open AndroidP

/-- a character that neither `toxml()` nor `quoteattr` touches -/
def plainChar (c : Nat) : Bool := c != 38 && c != 60 && c != 62 && c != 34 && c != 10 && c != 13 && c != 9

theorem flatMap_singletons {f : Nat → List Nat} : ∀ (l : List Nat), (∀ c ∈ l, f c = [c]) → l.flatMap f = l := by
  intro l
  induction l with
  | nil => intro _; rfl
  | cons c cs ih =>
    intro h
    rw [List.flatMap_cons, h c (by simp), ih (fun x hx => h x (by simp [hx]))]
    rfl

theorem plainChar_spec {c : Nat} (h : plainChar c = true) :
    c ≠ 38 ∧ c ≠ 60 ∧ c ≠ 62 ∧ c ≠ 34 ∧ c ≠ 10 ∧ c ≠ 13 ∧ c ≠ 9 := by
  simp only [plainChar, Bool.and_eq_true, bne_iff_ne, ne_eq] at h
  exact ⟨h.1.1.1.1.1.1, h.1.1.1.1.1.2, h.1.1.1.1.2, h.1.1.1.2, h.1.1.2, h.1.2, h.2⟩

theorem escapeData_plain (v : List Nat) (h : v.all plainChar = true) : escapeData v = v := by
  apply flatMap_singletons
  intro c hc
  have := plainChar_spec (List.all_eq_true.mp h c hc)
  simp [this]

theorem saxEscape_plain (v : List Nat) (h : v.all plainChar = true) : saxEscape v = v := by
  apply flatMap_singletons
  intro c hc
  have := plainChar_spec (List.all_eq_true.mp h c hc)
  simp [this]

theorem not_mem_quote (v : List Nat) (h : v.all plainChar = true) : 34 ∉ v := by
  intro hm
  have := plainChar_spec (List.all_eq_true.mp h 34 hm)
  exact this.2.2.2.1 rfl

theorem quoteattr_plain (v : List Nat) (h : v.all plainChar = true) : quoteattr v = [34] ++ v ++ [34] := by
  unfold quoteattr
  have := not_mem_quote v h
  simp [saxEscape_plain v h, this]

theorem rawAttr_plain (a : List Nat × List Nat) (h : a.2.all plainChar = true) : rawAttr a = writeAttrs [a] := by
  have hq : Gen.TablesAndroid.attr_quoteattr = true := by decide
  have h1 : Gen.TablesAndroid.attr_pre = [32] := by decide
  have h2 : Gen.TablesAndroid.attr_mid = [61] := by decide
  have h3 : Gen.TablesAndroid.attr_post = [] := by decide
  obtain ⟨n, v⟩ := a
  simp [rawAttr, attrWrapper, Entry.all, hq, h1, h2, h3, quoteattr_plain v h, writeAttrs, escapeData_plain v h]

theorem writeAttrs_cons (a : List Nat × List Nat) (as : List (List Nat × List Nat)) :
    writeAttrs (a :: as) = writeAttrs [a] ++ writeAttrs as := by
  obtain ⟨n, v⟩ := a
  simp [writeAttrs]

theorem rawAttrs_plain (attrs : List (List Nat × List Nat)) (h : ∀ a ∈ attrs, a.2.all plainChar = true) :
    attrs.flatMap rawAttr = writeAttrs attrs := by
  induction attrs with
  | nil => rfl
  | cons a as ih =>
    rw [List.flatMap_cons, writeAttrs_cons, rawAttr_plain a (h a (by simp)), ih (fun x hx => h x (by simp [hx]))]

/-- `<?xml version="1.0" encoding="utf-8"?>\n` -/
def xmlDecl : List Nat := Gen.TablesAndroid.open_all.take (Gen.TablesAndroid.open_all.length - (Gen.TablesAndroid.resources_tag.length + 1))

theorem frame_constants :
    Gen.TablesAndroid.open_all = xmlDecl ++ [60] ++ Gen.TablesAndroid.resources_tag ∧
    Gen.TablesAndroid.gt_all = [62] ∧
    Gen.TablesAndroid.close_all = [60, 47] ++ Gen.TablesAndroid.resources_tag ++ [62, 10] := by decide +kernel

theorem toxml_resources (attrs : List (List Nat × List Nat)) (c : DNode) (cs : List DNode) :
    (DNode.element Gen.TablesAndroid.resources_tag attrs (c :: cs)).toxml =
      [60] ++ Gen.TablesAndroid.resources_tag ++ writeAttrs attrs ++ [62] ++ toxmlList (c :: cs) ++
        [60, 47] ++ Gen.TablesAndroid.resources_tag ++ [62] := by
  simp [DNode.toxml, List.append_assoc]

theorem wrapTarget_none_iff (children : List DNode) : wrapTarget children = none ↔ children = [] := by
  unfold wrapTarget
  cases children with
  | nil => simp [firstCdataIdx]
  | cons c cs =>
    simp only [List.length_cons]
    split
    · simp
    · cases firstCdataIdx (c :: cs) 0 <;> simp

end C09P
