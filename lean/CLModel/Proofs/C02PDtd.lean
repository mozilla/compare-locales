/- C02, DTD: comments (attached / stand-alone), any white-space inside and between the declarations, single- and
   double-quoted values, parameter entities (`<!ENTITY % name SYSTEM "url"> %name;`), a leading byte-order mark, and inert
   garbage (garbage locality, also in front of a comment that contains a complete `<!ENTITY …>`). -/
import CLModel.Proofs.C02PGen
import CLModel.Proofs.C02DtdCls
namespace C02P
open Rx P Gen.Pat C02X

theorem none_orElse_d {α} (f : Unit → Option α) : (none : Option α).orElse f = f () := rfl

/-- `CharMinusDash` of the parser -/
def dcChar (c : Nat) : Bool :=
  c == 9 || c == 10 || c == 13 || (32 ≤ c && c ≤ 44) || (46 ≤ c && c ≤ 55295) || (57344 ≤ c && c ≤ 65533)

def dcCls : List ClsItem := [.ch 9, .ch 10, .ch 13, .range 32 44, .range 46 55295, .range 57344 65533]

theorem inC_dc (c : Nat) : inC false dcCls c = dcChar c := by
  simp [inC, dcCls, ClsItem.has, dcChar, Bool.or_assoc]

/-- one unit of a comment text: an optional single dash and a character of `CharMinusDash` -/
structure DUnit where
  dash : Bool
  c : Nat

def DUnit.render (u : DUnit) : List Nat := if u.dash then [45, u.c] else [u.c]

def dcText (us : List DUnit) : List Nat := (us.map DUnit.render).flatten

@[simp] theorem dcText_nil : dcText [] = [] := rfl
@[simp] theorem dcText_cons (u : DUnit) (us : List DUnit) : dcText (u :: us) = u.render ++ dcText us := by
  simp [dcText]

/-- `<!--` text `-->` -/
def printDComment (us : List DUnit) : List Nat := [60, 33, 45, 45] ++ (dcText us ++ [45, 45, 62])

def dcUnit : Re := Re.group 1 (Re.seq (Re.alt (Re.lit 45) Re.eps) (Re.cls false dcCls))
def dcEnd : Re := Re.seq (Re.lit 45) (Re.seq (Re.lit 45) (Re.lit 62))

theorem dtdComment_eq :
    DTDParser_reComment = litsThen [60, 33, 45, 45] (Re.seq (Re.rep 0 none false dcUnit) dcEnd) := rfl

theorem dcChar_ne45 {c : Nat} (h : dcChar c = true) : c ≠ 45 := by
  intro h45; subst h45; revert h; decide

theorem dcUnit_step (s : Array Nat) (p : Nat) (u : DUnit) (l : List Nat) (caps) (h : At s p (u.render ++ l))
    (hg : dcChar u.c = true) (k' : K) :
    m s dcUnit ⟨p, caps⟩ k' = k' ⟨p + u.render.length, (1, p, p + u.render.length) :: caps⟩ := by
  unfold dcUnit
  rw [m_group_def, m_seq_def, m_alt_def]
  cases hd : u.dash with
  | false =>
    have h' : At s p (u.c :: l) := by simpa [DUnit.render, hd] using h
    rw [lit_at_fail h' (by simp [dcChar_ne45 hg])]
    simp only [none_orElse_d, m_eps_def]
    rw [m_cls_charStep, step_at _ h' (by rw [inC_dc]; exact hg)]
    simp [DUnit.render, hd]
  | true =>
    have h' : At s p (45 :: u.c :: l) := by simpa [DUnit.render, hd] using h
    rw [lit_at h', m_eps_def, m_cls_charStep, step_at _ h'.tail (by rw [inC_dc]; exact hg),
      step_at_fail _ h' (by intro c hc; simp at hc; subst hc; decide)]
    simp only [DUnit.render, hd, if_true, List.length_cons, List.length_nil]
    cases k' ⟨p + 1 + 1, (1, p, p + 1 + 1) :: caps⟩ <;> rfl

theorem dcEnd_fail_unit (s : Array Nat) (p : Nat) (u : DUnit) (l : List Nat) (caps) (h : At s p (u.render ++ l))
    (hg : dcChar u.c = true) (k' : K) : m s dcEnd ⟨p, caps⟩ k' = none := by
  unfold dcEnd
  rw [m_seq_def]
  cases hd : u.dash with
  | false =>
    have h' : At s p (u.c :: l) := by simpa [DUnit.render, hd] using h
    exact lit_at_fail h' (by simp [dcChar_ne45 hg]) caps _
  | true =>
    have h' : At s p (45 :: u.c :: l) := by simpa [DUnit.render, hd] using h
    rw [lit_at h', m_seq_def]
    exact lit_at_fail h'.tail (by simp [dcChar_ne45 hg]) caps _

theorem dcEnd_ok (s : Array Nat) (p : Nat) (l : List Nat) (caps) (h : At s p (45 :: 45 :: 62 :: l)) :
    m s dcEnd ⟨p, caps⟩ some = some ⟨p + 3, caps⟩ := by
  unfold dcEnd
  rw [m_seq_def, lit_at h, m_seq_def, lit_at h.tail, lit_at h.tail.tail]

theorem DUnit.render_pos (u : DUnit) : 0 < u.render.length := by
  unfold DUnit.render; split <;> simp

theorem dc_loop (s : Array Nat) : ∀ (us : List DUnit) (p fuel : Nat) (caps) (rest : List Nat),
    At s p (dcText us ++ 45 :: 45 :: 62 :: rest) → (∀ u ∈ us, dcChar u.c = true) → us.length < fuel →
    ∃ caps', loop (m s dcUnit) false fuel 0 none ⟨p, caps⟩ (fun st => m s dcEnd st some) =
      some ⟨p + (dcText us).length + 3, caps'⟩ := by
  intro us
  induction us with
  | nil =>
    intro p fuel caps rest h _ hf
    obtain ⟨f, rfl⟩ : ∃ f, fuel = f + 1 := ⟨fuel - 1, by simp at hf; omega⟩
    refine ⟨caps, ?_⟩
    rw [loop]
    have := dcEnd_ok s p rest caps (by simpa using h)
    simp [this]
  | cons u us ih =>
    intro p fuel caps rest h hg hf
    obtain ⟨f, rfl⟩ : ∃ f, fuel = f + 1 := ⟨fuel - 1, by simp at hf; omega⟩
    have h' : At s p (u.render ++ (dcText us ++ 45 :: 45 :: 62 :: rest)) := by simpa [At] using h
    have hu := hg u (by simp)
    have hpos := u.render_pos
    obtain ⟨caps', ihh⟩ := ih (p + u.render.length) f ((1, p, p + u.render.length) :: caps) rest h'.app
      (fun v hv => hg v (by simp [hv])) (by simp at hf; omega)
    refine ⟨caps', ?_⟩
    rw [loop]
    simp only [dcEnd_fail_unit s p u _ caps h' hu, dcUnit_step s p u _ caps h' hu,
      show ¬ (p + u.render.length ≤ p) by omega, if_false, show ((none : Option Nat) == some 0) = false from rfl,
      Bool.false_eq_true, Option.map_none, Nat.zero_sub, ihh, Nat.lt_irrefl]
    simp only [dcText_cons, List.length_append]
    simp [Nat.add_assoc]

theorem dcText_len (us : List DUnit) : us.length ≤ (dcText us).length := by
  induction us with
  | nil => simp
  | cons u us ih => have := u.render_pos; simp only [dcText_cons, List.length_cons, List.length_append]; omega

theorem dtd_comment_at (s : Array Nat) (p : Nat) (us : List DUnit) (rest : List Nat) (hg : ∀ u ∈ us, dcChar u.c = true)
    (h : At s p (printDComment us ++ rest)) :
    ∃ st, matchAt s DTDParser_reComment p = some st ∧ st.pos = p + (printDComment us).length := by
  have h0 : At s p ([60, 33, 45, 45] ++ (dcText us ++ 45 :: 45 :: 62 :: rest)) := by simpa [At, printDComment] using h
  have hl := h0.app.len
  have := dcText_len us
  simp only [List.length_append, List.length_cons] at hl
  rw [dtdComment_eq]
  simp only [matchAt]
  rw [m_seqLits s _ [60, 33, 45, 45] p _ [] some h0, m_seq_def, m_rep_def]
  obtain ⟨caps', hc⟩ := dc_loop s us (p + 4) (s.size + 2 - (p + 4)) [] rest h0.app hg (by omega)
  exact ⟨_, hc, by simp [printDComment]; omega⟩

/-- `Comment.val` of the DTD parser: `all[4:-3]` -/
theorem dtd_comment_val (us : List DUnit) : commentVal .dtd (printDComment us) = dcText us := by
  simp [commentVal, printDComment]

/-- `<!ENTITY` -/
def kwEntity : List Nat := [60, 33, 69, 78, 84, 73, 84, 89]

structure DEnt where
  /-- white-space after `<!ENTITY` -/
  w1 : List Nat
  n0 : Nat
  nt : List Nat
  /-- white-space after the name -/
  w2 : List Nat
  /-- the quote character, `"` or `'` -/
  q : Nat
  value : List Nat
  /-- white-space before `>` -/
  w3 : List Nat

def DEnt.name (e : DEnt) : List Nat := e.n0 :: e.nt

def DEnt.print (e : DEnt) : List Nat :=
  kwEntity ++ (e.w1 ++ (e.n0 :: (e.nt ++ (e.w2 ++ (e.q :: (e.value ++ (e.q :: (e.w3 ++ [62]))))))))

structure DEnt.Good (e : DEnt) : Prop where
  w1_ne : e.w1 ≠ []
  w1 : ∀ c ∈ e.w1, isWs c = true
  n0 : asciiLetter e.n0 = true
  nt : ∀ c ∈ e.nt, dtdKeyChar c = true
  w2_ne : e.w2 ≠ []
  w2 : ∀ c ∈ e.w2, isWs c = true
  q : e.q = 34 ∨ e.q = 39
  value : ∀ c ∈ e.value, c ≠ e.q
  w3 : ∀ c ∈ e.w3, isWs c = true

theorem DEnt.print_length (e : DEnt) :
    e.print.length = 8 + e.w1.length + 1 + e.nt.length + e.w2.length + 1 + e.value.length + 1 + e.w3.length + 1 := by
  simp [DEnt.print, kwEntity]; omega

theorem DEnt.print_app (e : DEnt) (rest : List Nat) : e.print ++ rest =
    kwEntity ++ (e.w1 ++ (e.n0 :: (e.nt ++ (e.w2 ++ (e.q :: (e.value ++ (e.q :: (e.w3 ++ (62 :: rest))))))))) := by
  simp [DEnt.print]

/-- `<!ENTITY[ws]+(?P<key>NameStart NameChar*)[ws]+(?P<val>"[^"]*"|'[^']*'?)[ws]*>` — if the source regex changes this
    `rfl` (and everything below) breaks -/
theorem dtd_reKey_shape : DTDParser_reKey = litsThen kwEntity
    (Re.seq (Re.rep 1 none true (Re.cls false dtdWs))
    (Re.seq (Re.group 1 (Re.seq (Re.cls false dtdNameStart) (Re.rep 0 none true (Re.cls false dtdNameChar))))
    (Re.seq (Re.rep 1 none true (Re.cls false dtdWs))
    (Re.seq (Re.group 2 (Re.alt (Re.seq (Re.lit 34) (Re.seq (Re.rep 0 none true (Re.notLit 34)) (Re.lit 34)))
                                (Re.seq (Re.lit 39) (Re.seq (Re.rep 0 none true (Re.notLit 39)) (Re.alt (Re.lit 39) Re.eps)))))
    (Re.seq (Re.rep 0 none true (Re.cls false dtdWs)) (Re.lit 62)))))) := rfl

theorem inC_dtdWs (c : Nat) : inC false dtdWs c = isWs c := inC_ws c

theorem nameChar_ws {c : Nat} (h : isWs c = true) : inC false dtdNameChar c = false := by
  simp [isWs] at h
  rcases h with ((h | h) | h) | h <;> subst h <;> decide

theorem isWs_letter {c : Nat} (h : asciiLetter c = true) : isWs c = false := by
  simp only [asciiLetter, Bool.or_eq_true, Bool.and_eq_true, decide_eq_true_eq] at h
  have : c ≠ 32 ∧ c ≠ 9 ∧ c ≠ 13 ∧ c ≠ 10 := by omega
  simp [isWs, this]

theorem wsRep_at {s : Array Nat} {p c : Nat} {w t : List Nat} (mn : Nat) (caps) (k : K) (r : St)
    (h : At s p (w ++ c :: t)) (hw : ∀ x ∈ w, isWs x = true) (hc : isWs c = false) (hmn : mn ≤ w.length)
    (hk : k ⟨p + w.length, caps⟩ = some r) :
    m s (Re.rep mn none true (Re.cls false dtdWs)) ⟨p, caps⟩ k = some r := by
  have hp := h.app.pos_lt (by simp)
  simp only [m_rep_def, m_cls_charStep]
  exact greedy_at _ caps k r mn h (fun x hx => by rw [inC_dtdWs]; exact hw x hx)
    (by intro x hx; simp at hx; subst hx; rw [inC_dtdWs]; exact hc) hmn (by omega) hk

theorem dtdName_at {s : Array Nat} {p n0 : Nat} {nt rest : List Nat} (caps) (k : K) (r : St)
    (h : At s p (n0 :: (nt ++ rest))) (h0 : asciiLetter n0 = true) (ht : ∀ x ∈ nt, dtdKeyChar x = true) (hne : rest ≠ [])
    (hrest : ∀ c, rest.head? = some c → inC false dtdNameChar c = false) (hk : k ⟨p + 1 + nt.length, caps⟩ = some r) :
    m s (Re.seq (Re.cls false dtdNameStart) (Re.rep 0 none true (Re.cls false dtdNameChar))) ⟨p, caps⟩ k = some r := by
  have hp := h.tail.app.pos_lt hne
  rw [m_seq_def, m_cls_charStep, step_at _ h (nameStart_of_letter n0 h0)]
  simp only [m_rep_def, m_cls_charStep]
  exact greedy_at _ caps k r 0 h.tail (fun x hx => nameChar_of_keyChar x (ht x hx)) hrest (by omega) (by omega) hk

/-- `"[^"]*"` or `'[^']*` + `cl`, where `cl` closes the single-quoted alternative (`'` in `rePE`, `'?` in `reKey`) -/
theorem dtdQuoted_at {s : Array Nat} {p q : Nat} {v t : List Nat} (cl : Re) (caps) (k : K) (r : St)
    (h : At s p (q :: (v ++ q :: t))) (hq : q = 34 ∨ q = 39) (hv : ∀ c ∈ v, c ≠ q)
    (hk : k ⟨p + 1 + v.length + 1, caps⟩ = some r) (hcl : q = 39 → m s cl ⟨p + 1 + v.length, caps⟩ k = some r) :
    m s (Re.alt (Re.seq (Re.lit 34) (Re.seq (Re.rep 0 none true (Re.notLit 34)) (Re.lit 34)))
                (Re.seq (Re.lit 39) (Re.seq (Re.rep 0 none true (Re.notLit 39)) cl))) ⟨p, caps⟩ k = some r := by
  have hp := h.tail.app.pos_lt (by simp)
  rw [m_alt_def]
  rcases hq with hq | hq
  · subst hq
    apply orElse_of_some
    rw [m_seq_def, lit_at h, m_seq_def]
    simp only [m_rep_def, m_notLit_charStep]
    apply greedy_at _ _ _ _ 0 h.tail (fun c hc => by simpa using hv c hc) (by intro c hc; simp at hc; subst hc; decide)
      (by omega) (by omega)
    rw [lit_at h.tail.app, hk]
  · subst hq
    rw [m_seq_def, lit_at_fail h (by simp)]
    simp only [none_orElse_d]
    rw [m_seq_def, lit_at h, m_seq_def]
    simp only [m_rep_def, m_notLit_charStep]
    exact greedy_at _ _ _ _ 0 h.tail (fun c hc => by simpa using hv c hc) (by intro c hc; simp at hc; subst hc; decide)
      (by omega) (by omega) (hcl rfl)

theorem isWs_quote {q : Nat} (hq : q = 34 ∨ q = 39) : isWs q = false := by
  rcases hq with hq | hq <;> subst hq <;> decide

theorem nameChar_head_ws {w t : List Nat} (hne : w ≠ []) (hw : ∀ c ∈ w, isWs c = true) :
    ∀ c, (w ++ t).head? = some c → inC false dtdNameChar c = false := by
  intro c hc
  rw [head?_app_ne hne] at hc
  exact nameChar_ws (hw c (List.mem_of_mem_head? hc))

theorem dtd_key_at (s : Array Nat) (p : Nat) (e : DEnt) (rest : List Nat) (hg : e.Good) (h : At s p (e.print ++ rest)) :
    matchAt s DTDParser_reKey p =
      some ⟨p + e.print.length,
        [(2, p + 8 + e.w1.length + 1 + e.nt.length + e.w2.length,
             p + 8 + e.w1.length + 1 + e.nt.length + e.w2.length + 1 + e.value.length + 1),
         (1, p + 8 + e.w1.length, p + 8 + e.w1.length + 1 + e.nt.length)]⟩ := by
  have h0 := h
  rw [e.print_app] at h0
  have h1 : At s (p + 8) _ := h0.app
  have h2 := h1.app
  have h4 := h2.tail.app
  have h5 := h4.app
  have h8 := h5.tail.app.tail
  simp only [matchAt]
  rw [dtd_reKey_shape, m_seqLits s _ kwEntity p _ [] some h0, show kwEntity.length = 8 from rfl, m_seq_def]
  apply wsRep_at 1 _ _ _ h1 hg.w1 (isWs_letter hg.n0) (List.length_pos_iff.mpr hg.w1_ne)
  rw [m_seq_def, m_group_def]
  apply dtdName_at _ _ _ h2 hg.n0 hg.nt (by simp [hg.w2_ne]) (nameChar_head_ws hg.w2_ne hg.w2)
  rw [m_seq_def]
  apply wsRep_at 1 _ _ _ h4 hg.w2 (isWs_quote hg.q) (List.length_pos_iff.mpr hg.w2_ne)
  rw [m_seq_def, m_group_def]
  have tailk : ∀ caps, m s (Re.seq (Re.rep 0 none true (Re.cls false dtdWs)) (Re.lit 62))
      ⟨p + 8 + e.w1.length + 1 + e.nt.length + e.w2.length + 1 + e.value.length + 1, caps⟩ some =
      some ⟨p + e.print.length, caps⟩ := by
    intro caps
    rw [m_seq_def]
    apply wsRep_at 0 _ _ _ h8 hg.w3 (by decide) (Nat.zero_le _)
    rw [lit_at h8.app]
    simp [DEnt.print_length]; omega
  apply dtdQuoted_at _ _ _ _ h5 hg.q hg.value (tailk _)
  intro hq
  have h7 := h5.tail.app
  rw [hq] at h7
  rw [m_alt_def, lit_at h7]
  exact orElse_of_some (tailk _)

theorem dtd_key_none_head (s : Array Nat) (p : Nat) (l : List Nat) (h : At s p l) (hl : l.head? ≠ some 60) :
    matchAt s DTDParser_reKey p = none := by
  rw [dtd_reKey_shape]
  simp only [matchAt, kwEntity, litsThen, m_seq_def]
  exact lit_at_fail h hl [] _

theorem dtd_comment_none_head (s : Array Nat) (p : Nat) (l : List Nat) (h : At s p l) (hl : l.head? ≠ some 60) :
    matchAt s DTDParser_reComment p = none := by
  rw [dtdComment_eq]
  simp only [matchAt, litsThen, m_seq_def]
  exact lit_at_fail h hl [] _

theorem dtd_comment_none_ent (s : Array Nat) (p : Nat) (l : List Nat) (h : At s p (kwEntity ++ l)) :
    matchAt s DTDParser_reComment p = none := by
  have h0 : At s p (60 :: 33 :: 69 :: 78 :: 84 :: 73 :: 84 :: 89 :: l) := h
  rw [dtdComment_eq]
  simp only [matchAt, litsThen, m_seq_def]
  rw [lit_at h0, lit_at h0.tail]
  exact lit_at_fail h0.tail.tail (by simp) [] _

theorem dtd_key_none_comment (s : Array Nat) (p : Nat) (l : List Nat) (h : At s p (60 :: 33 :: 45 :: l)) :
    matchAt s DTDParser_reKey p = none := by
  rw [dtd_reKey_shape]
  simp only [matchAt, kwEntity, litsThen, m_seq_def]
  rw [lit_at h, lit_at h.tail]
  exact lit_at_fail h.tail.tail (by simp) [] _

def kwSystem : List Nat := [83, 89, 83, 84, 69, 77]

/-- the comment group inside the tail of `rePE` -/
def peComment : Re :=
  Re.seq (Re.lit 60) (Re.seq (Re.lit 33) (Re.seq (Re.lit 45) (Re.seq (Re.lit 45)
    (Re.seq (Re.rep 0 none false (Re.seq (Re.alt (Re.lit 45) Re.eps) (Re.cls false dcCls)))
      (Re.seq (Re.lit 45) (Re.seq (Re.lit 45) (Re.seq (Re.lit 62) (Re.rep 0 none true (Re.cls false dtdWs)))))))))

theorem dtd_rePE_shape : DTDParser_rePE = litsThen kwEntity
    (Re.seq (Re.rep 1 none true (Re.cls false dtdWs)) (Re.seq (Re.lit 37) (Re.seq (Re.rep 1 none true (Re.cls false dtdWs))
    (Re.seq (Re.group 1 (Re.seq (Re.cls false dtdNameStart) (Re.rep 0 none true (Re.cls false dtdNameChar))))
    (Re.seq (Re.rep 1 none true (Re.cls false dtdWs)) (litsThen kwSystem
    (Re.seq (Re.rep 1 none true (Re.cls false dtdWs))
    (Re.seq (Re.group 2 (Re.alt (Re.seq (Re.lit 34) (Re.seq (Re.rep 0 none true (Re.notLit 34)) (Re.lit 34)))
                                (Re.seq (Re.lit 39) (Re.seq (Re.rep 0 none true (Re.notLit 39)) (Re.lit 39)))))
    (Re.seq (Re.rep 0 none true (Re.cls false dtdWs)) (Re.seq (Re.lit 62) (Re.seq (Re.rep 0 none true (Re.cls false dtdWs))
    (Re.seq (Re.lit 37) (Re.seq (Re.cls false dtdNameStart) (Re.seq (Re.rep 0 none true (Re.cls false dtdNameChar))
    (Re.seq (Re.lit 59)
      (Re.alt (Re.seq (Re.rep 0 none true (Re.cls false [.ch 32, .ch 9]))
                (Re.seq (Re.rep 0 none true peComment) (Re.alt (Re.lit 10) Re.eps))) Re.eps)))))))))))))))) := rfl

/-- a printed parameter entity with its reference: `<!ENTITY % name SYSTEM "url"> %ref;` + blanks + newline.  `w1` … `w6`: the
    white-space stretches in the order of `DPE.print`; `n0 nt`, `m0 mt`: first and further characters of the two names; `q`:
    the quote; `b`: the blanks in front of the newline -/
structure DPE where
  w1 : List Nat
  w2 : List Nat
  n0 : Nat
  nt : List Nat
  w3 : List Nat
  w4 : List Nat
  q : Nat
  url : List Nat
  w5 : List Nat
  w6 : List Nat
  m0 : Nat
  mt : List Nat
  b : List Nat

def DPE.print (d : DPE) : List Nat :=
  kwEntity ++ (d.w1 ++ (37 :: (d.w2 ++ (d.n0 :: (d.nt ++ (d.w3 ++ (kwSystem ++ (d.w4 ++ (d.q :: (d.url ++ (d.q :: (d.w5 ++
    (62 :: (d.w6 ++ (37 :: (d.m0 :: (d.mt ++ (59 :: (d.b ++ [10])))))))))))))))))))

structure DPE.Good (d : DPE) : Prop where
  w1_ne : d.w1 ≠ []
  w1 : ∀ c ∈ d.w1, isWs c = true
  w2_ne : d.w2 ≠ []
  w2 : ∀ c ∈ d.w2, isWs c = true
  n0 : asciiLetter d.n0 = true
  nt : ∀ c ∈ d.nt, dtdKeyChar c = true
  w3_ne : d.w3 ≠ []
  w3 : ∀ c ∈ d.w3, isWs c = true
  w4_ne : d.w4 ≠ []
  w4 : ∀ c ∈ d.w4, isWs c = true
  q : d.q = 34 ∨ d.q = 39
  url : ∀ c ∈ d.url, c ≠ d.q
  w5 : ∀ c ∈ d.w5, isWs c = true
  w6 : ∀ c ∈ d.w6, isWs c = true
  m0 : asciiLetter d.m0 = true
  mt : ∀ c ∈ d.mt, dtdKeyChar c = true
  b : ∀ c ∈ d.b, isBlank c = true

/-- `8`: `<!ENTITY`; `1`: the `%`; in `urlStart`, `1`: the first name character, `6`: `SYSTEM` -/
def DPE.nameStart (p : Nat) (d : DPE) : Nat := p + 8 + d.w1.length + 1 + d.w2.length
def DPE.urlStart (p : Nat) (d : DPE) : Nat := d.nameStart p + 1 + d.nt.length + d.w3.length + 6 + d.w4.length

theorem DPE.print_length (d : DPE) : d.print.length =
    8 + d.w1.length + 1 + d.w2.length + 1 + d.nt.length + d.w3.length + 6 + d.w4.length + 1 + d.url.length + 1 + d.w5.length + 1 +
      d.w6.length + 1 + 1 + d.mt.length + 1 + d.b.length + 1 := by
  simp [DPE.print, kwEntity, kwSystem]; omega

theorem DPE.print_app (d : DPE) (rest : List Nat) : d.print ++ rest =
    kwEntity ++ (d.w1 ++ (37 :: (d.w2 ++ (d.n0 :: (d.nt ++ (d.w3 ++ (kwSystem ++ (d.w4 ++ (d.q :: (d.url ++ (d.q :: (d.w5 ++
      (62 :: (d.w6 ++ (37 :: (d.m0 :: (d.mt ++ (59 :: (d.b ++ (10 :: rest)))))))))))))))))))) := by
  simp [DPE.print]

theorem nameChar_59 : inC false dtdNameChar 59 = false := by decide
theorem nameStart_37 : inC false dtdNameStart 37 = false := by decide
theorem nameStart_ws {c : Nat} (h : isWs c = true) : inC false dtdNameStart c = false := by
  simp [isWs] at h
  rcases h with ((h | h) | h) | h <;> subst h <;> decide

theorem isBlank_ws' {c : Nat} (h : isBlank c = true) : isWs c = true := by
  simp [isBlank] at h; rcases h with h | h <;> subst h <;> decide

theorem dtd_pe_at (s : Array Nat) (p : Nat) (d : DPE) (rest : List Nat) (hg : d.Good) (h : At s p (d.print ++ rest)) :
    matchAt s DTDParser_rePE p =
      some ⟨p + d.print.length,
        [(2, d.urlStart p, d.urlStart p + 1 + d.url.length + 1), (1, d.nameStart p, d.nameStart p + 1 + d.nt.length)]⟩ := by
  have h0 := h
  rw [d.print_app] at h0
  have a1 : At s (p + 8) _ := h0.app
  have a3 := a1.app.tail
  have a4 := a3.app
  have a6 := a4.tail.app
  have a8 := a6.app
  have a9 : At s (p + 8 + d.w1.length + 1 + d.w2.length + 1 + d.nt.length + d.w3.length + 6) _ := a8.app
  have a10 := a9.app
  have a12 := a10.tail.app.tail
  have a14 := a12.app.tail
  have a16 := a14.app.tail
  have a19 := a16.tail.app.tail
  have a20 := a19.app
  simp only [matchAt]
  rw [dtd_rePE_shape, m_seqLits s _ kwEntity p _ [] some h0, show kwEntity.length = 8 from rfl, m_seq_def]
  apply wsRep_at 1 _ _ _ a1 hg.w1 (by decide) (List.length_pos_iff.mpr hg.w1_ne)
  rw [m_seq_def, lit_at a1.app, m_seq_def]
  apply wsRep_at 1 _ _ _ a3 hg.w2 (isWs_letter hg.n0) (List.length_pos_iff.mpr hg.w2_ne)
  rw [m_seq_def, m_group_def]
  apply dtdName_at _ _ _ a4 hg.n0 hg.nt (by simp [hg.w3_ne]) (nameChar_head_ws hg.w3_ne hg.w3)
  rw [m_seq_def]
  apply wsRep_at (c := 83) 1 _ _ _ a6 hg.w3 (by decide) (List.length_pos_iff.mpr hg.w3_ne)
  rw [m_seqLits s _ kwSystem _ _ _ _ a8, show kwSystem.length = 6 from rfl, m_seq_def]
  apply wsRep_at 1 _ _ _ a9 hg.w4 (isWs_quote hg.q) (List.length_pos_iff.mpr hg.w4_ne)
  rw [m_seq_def, m_group_def]
  have tailk : ∀ caps, m s (Re.seq (Re.rep 0 none true (Re.cls false dtdWs)) (Re.seq (Re.lit 62)
      (Re.seq (Re.rep 0 none true (Re.cls false dtdWs)) (Re.seq (Re.lit 37) (Re.seq (Re.cls false dtdNameStart)
      (Re.seq (Re.rep 0 none true (Re.cls false dtdNameChar)) (Re.seq (Re.lit 59)
        (Re.alt (Re.seq (Re.rep 0 none true (Re.cls false [.ch 32, .ch 9]))
                  (Re.seq (Re.rep 0 none true peComment) (Re.alt (Re.lit 10) Re.eps))) Re.eps))))))))
      ⟨p + 8 + d.w1.length + 1 + d.w2.length + 1 + d.nt.length + d.w3.length + 6 + d.w4.length + 1 + d.url.length + 1, caps⟩ some =
      some ⟨p + d.print.length, caps⟩ := by
    intro caps
    have hsz := a20.pos_lt (by simp)
    rw [m_seq_def]
    apply wsRep_at 0 _ _ _ a12 hg.w5 (by decide) (Nat.zero_le _)
    rw [m_seq_def, lit_at a12.app, m_seq_def]
    apply wsRep_at 0 _ _ _ a14 hg.w6 (by decide) (Nat.zero_le _)
    rw [m_seq_def, lit_at a14.app, m_seq_assoc, m_seq_def]
    apply dtdName_at _ _ _ a16 hg.m0 hg.mt (by simp) (by intro c hc; simp at hc; subst hc; exact nameChar_59)
    rw [m_seq_def, lit_at a16.tail.app, m_alt_def]
    apply orElse_of_some
    simp only [m_seq_def, m_rep_def, m_cls_charStep]
    apply greedy_at _ _ _ _ 0 a19 (fun c hc => by rw [inC_blank]; exact hg.b c hc)
      (by intro c hc; simp at hc; subst hc; decide) (by omega) (by omega)
    simp only []
    rw [loop_body_fail_pos _ true _ _ _ _ (by omega)
      (fun k' => by unfold peComment; rw [m_seq_def]; exact lit_at_fail a20 (by simp) _ _), m_alt_def, lit_at a20]
    simp [DPE.print_length]
    omega
  apply dtdQuoted_at _ _ _ _ a10 hg.q hg.url
  · refine (tailk _).trans ?_
    simp [DPE.urlStart, DPE.nameStart]
  · intro hq
    have a11 := a10.tail.app
    rw [hq] at a11
    rw [lit_at a11]
    refine (tailk _).trans ?_
    simp [DPE.urlStart, DPE.nameStart]

/-- `%` is not a name start -/
theorem dtd_key_none_pe (s : Array Nat) (p : Nat) (w1 l : List Nat) (hw : ∀ c ∈ w1, isWs c = true)
    (h : At s p (kwEntity ++ (w1 ++ 37 :: l))) : matchAt s DTDParser_reKey p = none := by
  simp only [matchAt]
  rw [dtd_reKey_shape, m_seqLits s _ kwEntity p _ [] some h, m_seq_def, m_rep_def, m_cls_charStep]
  apply loop_at_none _ true _ _ 1 h.app (by intro c hc; simp at hc; subst hc; decide)
  intro j hj
  rw [m_seq_def, m_group_def, m_seq_def, m_cls_charStep]
  by_cases hjl : j < w1.length
  · exact charStep_fail s _ _ _ (Or.inr ⟨_, h.app.left j hjl, nameStart_ws (hw _ (List.getElem_mem hjl))⟩) _
  · have : j = w1.length := by omega
    subst this
    exact step_at_fail _ h.app.app (by intro c hc; simp at hc; subst hc; exact nameStart_37) _ _

theorem dtd_noheader (s : Array Nat) (p : Nat) (l : List Nat) (h : At s p l) (hl : l.head? ≠ some 65279) :
    (if p == 0 && (matchAt s DTDParser_reHeader 0).isSome then p + 1 else p) = p := by
  by_cases h0 : p = 0
  · subst h0
    rw [dtd_header_none s (by rw [h.head]; exact hl)]
    simp
  · simp [h0]

theorem kwEntity_head (l : List Nat) : (kwEntity ++ l).head? = some 60 := rfl

theorem dtdGetNext_eq {s : Array Nat} {off : Nat} {l : List Nat} {ent : Entry} (h : At s off l) (hl : l.head? ≠ some 65279)
    (he : skel (baseK dtdCfg s) s off = ent) (hk : ent.kind ≠ .junk) : dtdGetNext s off = ent := by
  unfold dtdGetNext
  simp only [dtd_noheader s off l h hl, getNext_eq_skel, he]
  simp [hk]

theorem dtd_ws_at_n (s : Array Nat) (p : Nat) (w rest : List Nat) (hne : w ≠ []) (hw : ∀ c ∈ w, isWs c = true)
    (hr : ∀ c, rest.head? = some c → isWs c = false) (h : At s p (w ++ rest)) : dtdGetNext s p = wsEntryN p w.length := by
  obtain ⟨a, ha, haw⟩ : ∃ a, (w ++ rest).head? = some a ∧ isWs a = true := by
    cases w with
    | nil => exact absurd rfl hne
    | cons a t => exact ⟨a, rfl, hw a (by simp)⟩
  exact dtdGetNext_eq h (by rw [ha]; intro hh; cases hh; revert haw; decide)
    (skel_ws_at (baseK_plainWs dtdCfg rfl s) (dtd_comment_none_head s p _ h (by rw [ha]; intro hh; cases hh; revert haw; decide))
      h hne hw hr)
    (by simp [wsEntryN])

/-- `8`: `<!ENTITY`; the value span is the text between the quotes (`+ 1` behind the opening quote) -/
def dtdEntEntry (off clen cglen : Nat) (e : DEnt) (hasC : Bool) : Entry :=
  { kind := .entity, full := off, s := off + clen + cglen, e := off + clen + cglen + e.print.length,
    ks := (off + clen + cglen + 8 + e.w1.length : Nat), ke := (off + clen + cglen + 8 + e.w1.length + 1 + e.nt.length : Nat),
    vs := (off + clen + cglen + 8 + e.w1.length + 1 + e.nt.length + e.w2.length + 1 : Nat),
    ve := (off + clen + cglen + 8 + e.w1.length + 1 + e.nt.length + e.w2.length + 1 + e.value.length : Nat),
    pc := if hasC then some (off, off + clen) else none }

theorem dtd_entity_plain (s : Array Nat) (off : Nat) (e : DEnt) (rest : List Nat) (hg : e.Good)
    (h : At s off (e.print ++ rest)) : dtdGetNext s off = dtdEntEntry off 0 0 e false := by
  have h0 := h
  rw [e.print_app] at h0
  refine (dtdGetNext_eq h0 (by rw [kwEntity_head]; simp) (skel_plain (dtd_comment_none_ent s off _ h0)
    (ws_none_at h0 (by intro c hc; rw [kwEntity_head] at hc; cases hc; decide)) (dtd_key_at s off e rest hg h) rfl)
    (by simp [entityE])).trans ?_
  simp [entityE, dtdEntEntry, spanI, St.group, capOf, DTDParser_reKey_g_key, DTDParser_reKey_g_val]

theorem printDComment_head (us : List DUnit) (l : List Nat) : (printDComment us ++ l).head? = some 60 := rfl

theorem printDComment_length (us : List DUnit) : (printDComment us).length = (dcText us).length + 7 := by
  simp [printDComment]

theorem dtd_entity_commented (s : Array Nat) (off : Nat) (us : List DUnit) (cgap : List Nat) (e : DEnt) (rest : List Nat)
    (hus : ∀ u ∈ us, dcChar u.c = true) (hcg : ∀ c ∈ cgap, isWs c = true) (hnl : (cgap.filter (· == 10)).length ≤ 1)
    (hg : e.Good) (hlic : off < 2 → isInfix licenseWord (dcText us) = false)
    (h : At s off (printDComment us ++ (cgap ++ (e.print ++ rest)))) :
    dtdGetNext s off = dtdEntEntry off (printDComment us).length cgap.length e true := by
  obtain ⟨⟨_, caps⟩, hcm, rfl⟩ := dtd_comment_at s off us _ hus h
  have hl : (decide (off < 2) && isInfix licenseWord (commentVal .dtd (slice s off (off + (printDComment us).length)))) = false := by
    rw [h.slice, dtd_comment_val]
    by_cases ho : off < 2
    · simp [hlic ho]
    · simp [ho]
  refine (dtdGetNext_eq h (by rw [printDComment_head]; simp) (skel_commented hcm hl
    (attach_at (baseK_plainWs dtdCfg rfl s) h.app hcg hnl (by intro c hc; cases hc; decide))
    (dtd_key_at s _ e rest hg h.app.app) rfl) (by simp [entityE])).trans ?_
  simp [entityE, dtdEntEntry, spanI, St.group, capOf, DTDParser_reKey_g_key, DTDParser_reKey_g_val]

theorem dtd_free_comment (s : Array Nat) (off : Nat) (us : List DUnit) (gap rest : List Nat)
    (hus : ∀ u ∈ us, dcChar u.c = true) (hw : ∀ c ∈ gap, isWs c = true) (hnl : 2 ≤ (gap.filter (· == 10)).length)
    (hfo : ∀ c, rest.head? = some c → isWs c = false) (h : At s off (printDComment us ++ (gap ++ rest))) :
    dtdGetNext s off = commentEntry off (off + (printDComment us).length) := by
  obtain ⟨st, hcm, hpos⟩ := dtd_comment_at s off us _ hus h
  exact dtdGetNext_eq h (by rw [printDComment_head]; simp)
    (skel_free_at (baseK_plainWs dtdCfg rfl s) hcm hpos h.app hw hnl hfo) (by simp [commentEntry])

def dtdPEEntry (off : Nat) (d : DPE) : Entry :=
  { kind := .entity, full := off, s := off, e := off + d.print.length,
    ks := (d.nameStart off : Nat), ke := (d.nameStart off + 1 + d.nt.length : Nat),
    vs := (d.urlStart off : Nat), ve := (d.urlStart off + 1 + d.url.length + 1 : Nat) }

theorem dtd_pe_entry (s : Array Nat) (off : Nat) (d : DPE) (rest : List Nat) (hg : d.Good) (h : At s off (d.print ++ rest)) :
    dtdGetNext s off = dtdPEEntry off d := by
  have h0 := h
  rw [d.print_app] at h0
  have hoff := dtd_noheader s off _ h0 (by rw [kwEntity_head]; simp)
  have hpe := dtd_pe_at s off d rest hg h
  have hbase : getNext dtdCfg s off = getJunk s off dtdCfg.junkExps :=
    (getNext_eq_skel ..).trans (skel_other (K := baseK dtdCfg s) (dtd_comment_none_ent s off _ h0)
      (ws_none_at h0 (by intro c hc; rw [kwEntity_head] at hc; cases hc; decide)) (dtd_key_none_pe s off d.w1 _ hg.w1 h0))
  unfold dtdGetNext
  simp only [hoff, hbase, hpe]
  simp [getJunk, dtdPEEntry, spanI, St.group, capOf, DTDParser_rePE_g_key, DTDParser_rePE_g_val]

inductive DBlock
  /-- an entity declaration, optionally with ONE attached comment (and white-space with at most one newline behind it) -/
  | entity (cm : Option (List DUnit)) (cgap : List Nat) (e : DEnt) (gap : List Nat)
  /-- a comment followed by white-space with at least two newlines -/
  | free (us : List DUnit) (gap : List Nat)
  /-- a parameter entity with its reference -/
  | pe (d : DPE) (gap : List Nat)

def cmText : Option (List DUnit) → List Nat
  | none => []
  | some us => printDComment us

def DBlock.print : DBlock → List Nat
  | .entity cm cgap e gap => cmText cm ++ (cgap ++ (e.print ++ gap))
  | .free us gap => printDComment us ++ gap
  | .pe d gap => d.print ++ gap

def DBlock.entries (off : Nat) : DBlock → List Entry
  | .entity cm cgap e gap =>
    dtdEntEntry off (cmText cm).length cgap.length e cm.isSome ::
      wsOpt (off + (cmText cm).length + cgap.length + e.print.length) gap
  | .free us gap => [commentEntry off (off + (printDComment us).length), wsEntryN (off + (printDComment us).length) gap.length]
  | .pe d gap => dtdPEEntry off d :: wsOpt (off + d.print.length) gap

def DBlock.Good' : DBlock → Prop
  | .entity cm cgap e gap =>
    (∀ us, cm = some us → ∀ u ∈ us, dcChar u.c = true) ∧ (cm = none → cgap = []) ∧ (∀ c ∈ cgap, isWs c = true) ∧
    (cgap.filter (· == 10)).length ≤ 1 ∧ e.Good ∧ ∀ c ∈ gap, isWs c = true
  | .free us gap => (∀ u ∈ us, dcChar u.c = true) ∧ (∀ c ∈ gap, isWs c = true) ∧ 2 ≤ (gap.filter (· == 10)).length
  | .pe d gap => d.Good ∧ ∀ c ∈ gap, isWs c = true

def DBlock.NoLicense (off : Nat) : DBlock → Prop
  | .entity (some us) _ _ _ => off < 2 → isInfix licenseWord (dcText us) = false
  | _ => True

/-- a garbage line may stand in front of the block: its start is recognised by `reKey` or `reComment` (a parameter entity is
    recognised by neither: junk in front of it would swallow it — see the negation witness) -/
def DBlock.JOk : DBlock → Prop
  | .pe _ _ => False
  | _ => True

def dtdVal (raw : List Nat) : Option (List Nat) := if raw.contains 38 then none else some raw

def DBlock.views : DBlock → List (Option EntView)
  | .entity cm _ e _ => [some { key := e.name, raw := e.value, val := dtdVal e.value, comment := cm.map dcText }]
  | .free _ _ => []
  | .pe d _ => [some { key := d.n0 :: d.nt, raw := d.q :: (d.url ++ [d.q]), val := dtdVal (d.q :: (d.url ++ [d.q])), comment := none }]

abbrev dtdNext (s : Array Nat) : Unit → Nat → Entry × Unit := fun _ off => (dtdGetNext s off, ())

theorem dtd_unit_gap {s : Array Nat} {off : Nat} {ent : Entry} {u gap rest : List Nat} (hu : u ≠ [])
    (hgap : ∀ c ∈ gap, isWs c = true) (hfo : DFollow rest) (h : At s off (u ++ (gap ++ rest)))
    (e1 : dtdGetNext s off = ent) (he : ent.e = off + u.length) :
    Walks (dtdNext s) s.size () off (ent :: wsOpt (off + u.length) gap) () (off + u.length + gap.length) := by
  have hpos := List.length_pos_iff.mpr hu
  exact walks_entry_wsOpt he (by omega) (h.pos_lt (by simp [hu])) h.app (by rw [dtdNext, e1])
    fun hg => by rw [dtdNext, dtd_ws_at_n s _ gap rest hg hgap hfo h.app]

theorem dblock_head (b : DBlock) (hg : b.Good') (l : List Nat) : (b.print ++ l).head? = some 60 := by
  cases b with
  | entity cm cgap e gap =>
    cases cm with
    | none => rw [show cgap = [] from hg.2.1 rfl]; rfl
    | some us => rfl
  | free us gap => rfl
  | pe d gap => rfl

theorem dfollow_block (b : DBlock) (hg : b.Good') (l : List Nat) : DFollow (b.print ++ l) := by
  intro c hc; rw [dblock_head b hg l] at hc; cases hc; decide

theorem cmText_length_some (us : List DUnit) : (cmText (some us)).length = (printDComment us).length := rfl

theorem dtd_walks_block (s : Array Nat) (off : Nat) (b : DBlock) (rest : List Nat) (hg : b.Good') (hl : b.NoLicense off)
    (hfo : DFollow rest) (h : At s off (b.print ++ rest)) :
    Walks (dtdNext s) s.size () off (b.entries off) () (off + b.print.length) := by
  cases b with
  | entity cm cgap e gap =>
    obtain ⟨hus, hcg0, hcg, hnl, he, hgap⟩ := hg
    have h1 : At s off (cmText cm ++ (cgap ++ (e.print ++ (gap ++ rest)))) := by simpa [At, DBlock.print] using h
    have e1 : dtdGetNext s off = dtdEntEntry off (cmText cm).length cgap.length e cm.isSome := by
      cases cm with
      | none =>
        have hcg' := hcg0 rfl
        subst hcg'
        have := dtd_entity_plain s off e (gap ++ rest) he (by simpa [At, cmText] using h1)
        simpa [cmText] using this
      | some us =>
        exact dtd_entity_commented s off us cgap e (gap ++ rest) (hus us rfl) hcg hnl he hl h1
    have hw := dtd_unit_gap (u := cmText cm ++ (cgap ++ e.print)) (by simp [DEnt.print, kwEntity]) hgap hfo
      (by simpa [At] using h1) e1 (by simp [dtdEntEntry, Nat.add_assoc])
    simpa [DBlock.entries, DBlock.print, Nat.add_assoc] using hw
  | free us gap =>
    obtain ⟨g1, g2, g3⟩ := hg
    have h' : At s off (printDComment us ++ (gap ++ rest)) := by simpa [At, DBlock.print] using h
    have hgne : gap ≠ [] := by intro hh; rw [hh] at g3; simp at g3
    have hw := dtd_unit_gap (by simp [printDComment]) g2 hfo h' (dtd_free_comment s off us gap rest g1 g2 g3 hfo h') rfl
    simpa [DBlock.entries, DBlock.print, wsOpt, isEmpty_false_of_ne hgne, Nat.add_assoc] using hw
  | pe d gap =>
    obtain ⟨hd, hgap⟩ := hg
    have h1 : At s off (d.print ++ (gap ++ rest)) := by simpa [At, DBlock.print] using h
    have hw := dtd_unit_gap (by simp [DPE.print, kwEntity]) hgap hfo h1 (dtd_pe_entry s off d (gap ++ rest) hd h1) rfl
    simpa [DBlock.entries, DBlock.print, Nat.add_assoc] using hw

theorem views_entity_wsOpt (f : Fmt) (s : Array Nat) {e : Entry} (p : Nat) (gap : List Nat) (he : e.kind = .entity) :
    entitiesOf f s (e :: wsOpt p gap) = [entView f s e] ∧ junkOf s (e :: wsOpt p gap) = [] := by
  unfold wsOpt
  split
  · simp [entitiesOf, junkOf, he]
  · exact views_entity_ws f s p gap.length he

theorem dtd_views_block (s : Array Nat) (off : Nat) (b : DBlock) (rest : List Nat) (hg : b.Good')
    (h : At s off (b.print ++ rest)) :
    entitiesOf .dtd s (b.entries off) = b.views ∧ junkOf s (b.entries off) = [] := by
  cases b with
  | entity cm cgap e gap =>
    have h1 : At s off (cmText cm ++ (cgap ++ (e.print ++ (gap ++ rest)))) := by simpa [At, DBlock.print] using h
    have h0 := h1.app.app
    rw [e.print_app] at h0
    have hn : At s (off + (cmText cm).length + cgap.length + 8 + e.w1.length) (e.n0 :: _) := h0.app.app
    have hview : entView .dtd s (dtdEntEntry off (cmText cm).length cgap.length e cm.isSome) =
        some { key := e.name, raw := e.value, val := dtdVal e.value, comment := cm.map dcText } := by
      have p1 : pySlice s (off + (cmText cm).length + cgap.length + 8 + e.w1.length : Nat)
          (off + (cmText cm).length + cgap.length + 8 + e.w1.length + 1 + e.nt.length : Nat) = e.name :=
        At.pySlice (a := e.name) hn (by simp [DEnt.name]; omega)
      have p2 : pySlice s (off + (cmText cm).length + cgap.length + 8 + e.w1.length + 1 + e.nt.length + e.w2.length + 1 : Nat)
          (off + (cmText cm).length + cgap.length + 8 + e.w1.length + 1 + e.nt.length + e.w2.length + 1 + e.value.length : Nat) =
          e.value :=
        hn.tail.app.app.tail.pySlice rfl
      simp only [entView, dtdEntEntry, p1, p2]
      cases cm with
      | none => simp [dtdVal]
      | some us =>
        have : slice s off (off + (cmText (some us)).length) = printDComment us := h1.slice
        simp [dtdVal, commentStyleOf, this, dtd_comment_val]
    rw [DBlock.entries, DBlock.views, ← hview]
    exact views_entity_wsOpt .dtd s _ gap rfl
  | free us gap =>
    exact views_other_ws .dtd s _ _ (by simp [commentEntry]) (by simp [commentEntry])
  | pe d gap =>
    have h0 : At s off (d.print ++ (gap ++ rest)) := by simpa [At, DBlock.print] using h
    rw [d.print_app] at h0
    have hn : At s (d.nameStart off) (d.n0 :: _) := h0.app.app.tail.app
    have hu : At s (d.urlStart off) _ := hn.tail.app.app.app.app
    have hview : entView .dtd s (dtdPEEntry off d) =
        some { key := d.n0 :: d.nt, raw := d.q :: (d.url ++ [d.q]), val := dtdVal (d.q :: (d.url ++ [d.q])), comment := none } := by
      have p1 : pySlice s (d.nameStart off : Nat) (d.nameStart off + 1 + d.nt.length : Nat) = d.n0 :: d.nt :=
        At.pySlice (a := d.n0 :: d.nt) hn (by simp; omega)
      have p2 : pySlice s (d.urlStart off : Nat) (d.urlStart off + 1 + d.url.length + 1 : Nat) = d.q :: (d.url ++ [d.q]) :=
        At.pySlice (b := d.w5 ++ _) (by simpa using hu) (by simp; omega)
      simp only [entView, dtdPEEntry, p1, p2]
      simp [dtdVal]
    rw [DBlock.entries, DBlock.views, ← hview]
    exact views_entity_wsOpt .dtd s _ gap rfl

/-- inert garbage and the white-space after it: non-empty, no `<` (neither `reKey` nor `reComment` nor `rePE` can start
    inside), not starting with white-space or a byte-order mark; non-empty white-space follows -/
structure DGarbage (g gap : List Nat) : Prop where
  ne : g ≠ []
  chars : ∀ c ∈ g, c ≠ 60
  head : ∀ c, g.head? = some c → isWs c = false ∧ c ≠ 65279
  gap_ne : gap ≠ []
  gap : ∀ c ∈ gap, isWs c = true

theorem dtd_pe_none_head (s : Array Nat) (p : Nat) (l : List Nat) (h : At s p l) (hl : l.head? ≠ some 60) :
    matchAt s DTDParser_rePE p = none := by
  rw [dtd_rePE_shape]
  simp only [matchAt, kwEntity, litsThen, m_seq_def]
  exact lit_at_fail h hl [] _

theorem dtd_start_match (s : Array Nat) (e : Nat) (b : DBlock) (rest : List Nat) (hg : b.Good') (hj : b.JOk)
    (h : At s e (b.print ++ rest)) : ∃ r ∈ dtdCfg.junkExps, (matchAt s r e).isSome := by
  cases b with
  | entity cm cgap en gap =>
    obtain ⟨hus, hcg0, hcg, hnl, he, hgap⟩ := hg
    have h1 : At s e (cmText cm ++ (cgap ++ (en.print ++ (gap ++ rest)))) := by simpa [At, DBlock.print] using h
    cases cm with
    | none =>
      have hcg' := hcg0 rfl
      subst hcg'
      have h3 : At s e (en.print ++ (gap ++ rest)) := by simpa [At, cmText] using h1
      exact ⟨DTDParser_reKey, by simp [dtdCfg], by rw [dtd_key_at s e en _ he h3]; rfl⟩
    | some us =>
      obtain ⟨st, hst, _⟩ := dtd_comment_at s e us _ (hus us rfl) h1
      exact ⟨DTDParser_reComment, by simp [dtdCfg], by rw [hst]; rfl⟩
  | free us gap =>
    have h' : At s e (printDComment us ++ (gap ++ rest)) := by simpa [At, DBlock.print] using h
    obtain ⟨st, hst, _⟩ := dtd_comment_at s e us _ hg.1 h'
    exact ⟨DTDParser_reComment, by simp [dtdCfg], by rw [hst]; rfl⟩
  | pe d gap => exact absurd hj (by simp [DBlock.JOk])

theorem dtd_junk_at (s : Array Nat) (p : Nat) (g gap rest : List Nat) (hg : DGarbage g gap)
    (hnext : rest = [] ∨ ∃ r ∈ dtdCfg.junkExps, (matchAt s r (p + g.length + gap.length)).isSome)
    (h : At s p (g ++ (gap ++ rest))) : dtdGetNext s p = junkEntry p (p + g.length + gap.length) := by
  have h' : At s p ((g ++ gap) ++ rest) := by simpa [At] using h
  -- no expression starts on a character of the line or of the white-space: none is `<`
  have hhead : ∀ q, p ≤ q → q < p + (g ++ gap).length → ∃ l, At s q l ∧ l.head? ≠ some 60 := by
    intro q h1 h2
    obtain ⟨a, t, ha, hat⟩ := h'.inside h1 h2
    refine ⟨_, hat, ?_⟩
    rcases List.mem_append.mp ha with hm | hm
    · simp [hg.chars a hm]
    · simp only [List.head?_cons, ne_eq, Option.some.injEq]
      intro h60; subst h60; exact absurd (hg.gap 60 hm) (by decide)
  have hgl : 0 < g.length := List.length_pos_iff.mpr hg.ne
  obtain ⟨l0, hat0, hh0⟩ := hhead p (Nat.le_refl _) (by simp; omega)
  obtain ⟨c0, hc0, hws0, hbom0⟩ : ∃ c, (g ++ (gap ++ rest)).head? = some c ∧ isWs c = false ∧ c ≠ 65279 := by
    cases hgg : g with
    | nil => exact absurd hgg hg.ne
    | cons a t => exact ⟨a, rfl, hg.head a (by rw [hgg]; rfl)⟩
  have hj := getJunk_over dtdCfg.junkExps (by decide) (by simp [hg.ne])
    (fun r hr q h1 h2 => by
      obtain ⟨l, hat, hh⟩ := hhead q (by omega) h2
      simp only [dtdCfg, List.mem_cons, List.not_mem_nil, or_false] at hr
      rcases hr with rfl | rfl
      · exact dtd_key_none_head s q l hat hh
      · exact dtd_comment_none_head s q l hat hh)
    (by simpa [Nat.add_assoc] using hnext) h'
  have hbase : getNext dtdCfg s p = junkEntry p (p + g.length + gap.length) := by
    refine (getNext_eq_skel ..).trans ((skel_other (K := baseK dtdCfg s) (dtd_comment_none_head s p l0 hat0 hh0)
      (ws_none_at h (by intro c hc; rw [hc0] at hc; cases hc; exact hws0)) (dtd_key_none_head s p l0 hat0 hh0)).trans
      (hj.trans ?_))
    rw [List.length_append, Nat.add_assoc]
  unfold dtdGetNext
  simp only [dtd_noheader s p _ h (by rw [hc0]; simp [hbom0]), hbase, dtd_pe_none_head s p l0 hat0 hh0]
  simp [junkEntry]

def dtdSpec : GSpec Unit DBlock where
  f := .dtd
  next := fun s _ off => (dtdGetNext s off, ())
  c0 := ()
  pr := DBlock.print
  en := fun off _ b => b.entries off
  tr := fun c _ => c
  vw := DBlock.views
  Good' := fun _ b => b.Good'
  Lic := fun off b => b.NoLicense off
  Garb := fun _ g gap => DGarbage g gap
  JOk := DBlock.JOk
  Follow := DFollow
  Inv := fun _ _ => True

theorem DBlock.print_len2 (b : DBlock) : 2 ≤ b.print.length := by
  cases b with
  | entity cm cgap e gap => have := e.print_length; simp only [DBlock.print, List.length_append]; omega
  | free us gap => have := printDComment_length us; simp only [DBlock.print, List.length_append]; omega
  | pe d gap => have := d.print_length; simp only [DBlock.print, List.length_append]; omega

theorem DBlock.lic2 (off : Nat) (b : DBlock) (h : 2 ≤ off) : b.NoLicense off := by
  cases b with
  | entity cm cgap e gap =>
    cases cm with
    | none => trivial
    | some us => intro hlt; omega
  | free us gap => trivial
  | pe d gap => trivial

theorem dtdSpec_laws : dtdSpec.Laws where
  walk_def := fun _ => rfl
  inv0 := fun _ => trivial
  follow_nil := by intro c hc; cases hc
  block_walk := fun s b _ off rest hg hl h hfo _ => ⟨dtd_walks_block s off b rest hg hl hfo h, trivial⟩
  block_follow := fun _ b rest hg => dfollow_block b hg rest
  block_views := fun s b _ off rest hg h _ => dtd_views_block s off b rest hg h
  junk_at := by
    intro s _ p g gap rest hg h _ hnext
    refine ⟨?_, trivial⟩
    have : dtdGetNext s p = junkEntry p (p + g.length + gap.length) := by
      apply dtd_junk_at s p g gap rest hg _ h
      rcases hnext with rfl | ⟨b, rest', rfl, hb, hjo, _⟩
      · exact Or.inl rfl
      · exact Or.inr (dtd_start_match s _ b rest' hb hjo h.app.app)
    show (dtdGetNext s p, ()) = _
    rw [this]
  garb_follow := by
    intro _ g gap rest hg c hc
    cases hgg : g with
    | nil => exact absurd hgg hg.ne
    | cons a t => rw [hgg] at hc; simp at hc; subst hc; exact (hg.head a (by rw [hgg]; rfl)).1
  garb_pos := fun _ g gap hg => List.length_pos_iff.mpr hg.ne
  gap_pos := fun _ g gap hg => List.length_pos_iff.mpr hg.gap_ne
  len2 := fun _ b _ => b.print_len2
  lic2 := DBlock.lic2

theorem dtd_bom (s : Array Nat) (h : s[0]? = some 65279) : dtdGetNext s 0 = dtdGetNext s 1 := by
  have hm : (matchAt s DTDParser_reHeader 0).isSome = true := by
    simp only [matchAt, DTDParser_reHeader, m_seq_def, m_bol_def]
    simp only [beq_self_eq_true, Bool.true_or, if_true]
    rw [m_lit_ok h []]
    rfl
  unfold dtdGetNext
  simp [hm]

/-- `hne`: offsets 0 and 1 give the same entry behind a byte-order mark (`dtd_bom`), so the walk from 1 becomes the walk of
    the file by replacing its first step (`Walks.shift_start`) — which needs a first step -/
theorem walk_dtd_doc (bom : Bool) (xs : List (GB DBlock)) (tail : Option (List Nat × List Nat))
    (hg : ∀ x ∈ xs, x.b.Good' ∧ ∀ g gap, x.junk = some (g, gap) → DGarbage g gap ∧ x.b.JOk)
    (htail : ∀ g gap, tail = some (g, gap) → DGarbage g gap)
    (hlic : ∀ x, xs.head? = some x → x.junk = none → x.b.NoLicense (if bom then 1 else 0))
    (hne : bom = true → xs ≠ []) :
    walk .dtd ((if bom then [65279] else []) ++ dtdSpec.gprint xs tail).toArray =
        .done (dtdSpec.gentriesAt (if bom then 1 else 0) xs tail) ∧
      entitiesOf .dtd ((if bom then [65279] else []) ++ dtdSpec.gprint xs tail).toArray
        (dtdSpec.gentriesAt (if bom then 1 else 0) xs tail) = dtdSpec.gviews xs ∧
      junkOf ((if bom then [65279] else []) ++ dtdSpec.gprint xs tail).toArray
        (dtdSpec.gentriesAt (if bom then 1 else 0) xs tail) = gbJunk xs tail := by
  have hall : ∀ o, (∀ x, xs.head? = some x → x.junk = none → x.b.NoLicense o) →
      GoodAll dtdSpec.gpr dtdSpec.gtr dtdSpec.GGood o () xs :=
    fun o hl => gGoodAll dtdSpec dtdSpec_laws xs (fun x hx _ => hg x hx) o () hl
  cases bom with
  | false =>
    simp only [Bool.false_eq_true, if_false, List.nil_append] at hlic ⊢
    exact gdoc dtdSpec dtdSpec_laws xs tail (hall 0 hlic) htail
  | true =>
    simp only [if_true] at hlic ⊢
    obtain ⟨⟨c', e, he, hw⟩, hv⟩ := gdoc_at dtdSpec dtdSpec_laws xs tail ([65279] ++ dtdSpec.gprint xs tail).toArray 1
      (by simp [At]) trivial (hall 1 hlic) htail
    refine ⟨?_, hv⟩
    have hes : dtdSpec.gentriesAt 1 xs tail ≠ [] := by
      cases hxs : xs with
      | nil => exact absurd hxs (hne rfl)
      | cons x xs' =>
        simp only [GSpec.gentriesAt, blockEntries, GSpec.gen]
        cases hj : x.junk with
        | none =>
          cases hb : x.b with
          | entity cm cgap e gap => simp [dtdSpec, DBlock.entries]
          | free us gap => simp [dtdSpec, DBlock.entries]
          | pe d gap => simp [dtdSpec, DBlock.entries]
        | some gg => simp
    have h0 : (([65279] ++ dtdSpec.gprint xs tail).toArray)[0]? = some 65279 := by simp
    have hw0 := hw.shift_start hes (by
      show (dtdGetNext _ 0, ()) = (dtdGetNext _ 1, ())
      rw [dtd_bom _ h0])
    show walkFrom (fun (_ : Unit) off => (dtdGetNext _ off, ())) _ _ () 0 = _
    exact hw0.done_walk he

end C02P
