/- Shape of the regular expression `Matcher.regexOf` builds, and inversion lemmas for `Matcher.match`. -/
import CLModel.Paths.Matcher
import CLModel.Proofs.RxSem
namespace PM
open Rx

inductive SemL (s : Array Nat) : List Re → St → St → Prop
  | nil {st} : SemL s [] st st
  | cons {r rs st st1 st2} : BSem s r st st1 → SemL s rs st1 st2 → SemL s (r :: rs) st st2

theorem sem_seqOf {s : Array Nat} : ∀ (l : List Re) {st st' : St}, BSem s (seqOf l) st st' → SemL s l st st'
  | [], st, st', h => by
    simp only [seqOf] at h
    cases h
    exact SemL.nil
  | [x], st, st', h => by
    simp only [seqOf] at h
    exact SemL.cons h SemL.nil
  | x :: y :: rest, st, st', h => by
    simp only [seqOf] at h
    cases h with
    | seq ha hb => exact SemL.cons ha (sem_seqOf (y :: rest) hb)

theorem SemL.append {s : Array Nat} : ∀ {a b : List Re} {st st' : St}, SemL s (a ++ b) st st' →
    ∃ mid, SemL s a st mid ∧ SemL s b mid st'
  | [], b, st, st', h => ⟨st, SemL.nil, h⟩
  | x :: a, b, st, st', h => by
    cases h with
    | cons hx hr =>
      obtain ⟨mid, h1, h2⟩ := SemL.append hr
      exact ⟨mid, SemL.cons hx h1, h2⟩

theorem SemL.pos_le {s : Array Nat} {l : List Re} {st st' : St} (h : SemL s l st st') : st.pos ≤ st'.pos := by
  induction h with
  | nil => exact Nat.le_refl _
  | cons hx _ ih => exact Nat.le_trans hx.pos_le ih

theorem groups_seqOf : ∀ (l : List Re), groups (seqOf l) = l.flatMap groups
  | [] => by simp [seqOf, groups]
  | [x] => by simp [seqOf]
  | x :: y :: rest => by
    have := groups_seqOf (y :: rest)
    simp only [seqOf, groups, this, List.flatMap_cons]

/-- the text `t` stands in `s` at position `p`.  Same body as `Txt.At` (Proofs/ListLemmas): `Txt.at_cons`, `Txt.At.le_size`,
    `Txt.At.get` … apply to a `TextAt` hypothesis by unfolding, and `TextAt.append`, `.tail`, `.split`, `textAt_slice` are
    `Txt.at_append`, `Txt.at_cons`, `Txt.at_extract` under this name. -/
def TextAt (s : Array Nat) (p : Nat) (t : Text) : Prop := ∀ j, j < t.length → s[p + j]? = t[j]?

theorem semL_lits {s : Array Nat} : ∀ (t : Text) {rest : List Re} {st st' : St},
    SemL s (t.map Re.lit ++ rest) st st' →
    TextAt s st.pos t ∧ SemL s rest { st with pos := st.pos + t.length } st'
  | [], rest, st, st', h => by
    refine ⟨fun j hj => by simp at hj, ?_⟩
    simpa using h
  | c :: t, rest, st, st', h => by
    simp only [List.map_cons, List.cons_append] at h
    cases h with
    | cons hx hr =>
      cases hx with
      | lit hc =>
        obtain ⟨h1, h2⟩ := semL_lits t hr
        refine ⟨?_, ?_⟩
        · intro j hj
          cases j with
          | zero => simpa using hc
          | succ j =>
            have := h1 j (by simpa using hj)
            simp only [List.getElem?_cons_succ]
            rw [← this]
            congr 1
            simp; omega
        · simp only [List.length_cons]
          have e : st.pos + 1 + t.length = st.pos + (t.length + 1) := by omega
          simpa [e] using h2

theorem TextAt.prefix {s : Array Nat} {t : Text} (h : TextAt s 0 t) : t <+: s.toList := by
  induction t generalizing s with
  | nil => exact List.nil_prefix
  | cons c t ih =>
    have h0 := h 0 (by simp)
    simp at h0
    obtain ⟨l⟩ := s
    cases l with
    | nil => simp at h0
    | cons d l =>
      simp at h0
      subst h0
      simp only [List.cons_prefix_cons, true_and]
      have : TextAt (l.toArray) 0 t := by
        intro j hj
        have := h (j + 1) (by simpa using hj)
        simpa using this
      exact ih this

theorem TextAt.append {s : Array Nat} {p : Nat} {a b : Text} (ha : TextAt s p a) (hb : TextAt s (p + a.length) b) :
    TextAt s p (a ++ b) := Txt.at_append.mpr ⟨ha, hb⟩

theorem rxChildren_cons {rec : RxRec} {c : Node} {cs : List Node} {env : Env} {items names}
    (h : rxChildren rec (c :: cs) env = .ok (items, names)) :
    ∃ a na b nb, rxNode rec c env = .ok (a, na) ∧ rxChildren rec cs env = .ok (b, nb) ∧
      items = a ++ b ∧ names = na ++ nb := by
  simp only [rxChildren, bind, Except.bind] at h
  split at h
  · cases h
  · rename_i v hv
    obtain ⟨a, na⟩ := v
    simp only at h
    split at h
    · cases h
    · rename_i w hw
      obtain ⟨b, nb⟩ := w
      simp only [pure, Except.pure, Except.ok.injEq, Prod.mk.injEq] at h
      exact ⟨a, na, b, nb, hv, hw, h.1.symm, h.2.symm⟩

theorem rxChildren_append {rec : RxRec} {env : Env} : ∀ {xs ys : List Node} {items names},
    rxChildren rec (xs ++ ys) env = .ok (items, names) →
    ∃ a na b nb, rxChildren rec xs env = .ok (a, na) ∧ rxChildren rec ys env = .ok (b, nb) ∧
      items = a ++ b ∧ names = na ++ nb
  | [], ys, items, names, h => ⟨[], [], items, names, rfl, h, rfl, rfl⟩
  | c :: xs, ys, items, names, h => by
    obtain ⟨a, na, b, nb, h1, h2, rfl, rfl⟩ := rxChildren_cons (cs := xs ++ ys) h
    obtain ⟨a', na', b', nb', h3, h4, rfl, rfl⟩ := rxChildren_append h2
    refine ⟨a ++ a', na ++ na', b', nb', ?_, h4, by simp, by simp⟩
    simp [rxChildren, bind, Except.bind, h1, h3, pure, Except.pure]

theorem rxChildren_mem {rec : RxRec} {env : Env} {n : Node} : ∀ {ns : List Node} {items names},
    rxChildren rec ns env = .ok (items, names) → n ∈ ns →
    ∃ a na, rxNode rec n env = .ok (a, na) ∧ (∀ x ∈ a, x ∈ items) ∧ (∀ x ∈ na, x ∈ names)
  | [], _, _, _, hm => by cases hm
  | c :: cs, items, names, h, hm => by
    obtain ⟨a, na, b, nb, h1, h2, rfl, rfl⟩ := rxChildren_cons h
    simp only [List.mem_cons] at hm
    rcases hm with rfl | hm
    · exact ⟨a, na, h1, fun x hx => by simp [hx], fun x hx => by simp [hx]⟩
    · obtain ⟨a', na', h3, h4, h5⟩ := rxChildren_mem h2 hm
      exact ⟨a', na', h3, fun x hx => by simp [h4 x hx], fun x hx => by simp [h5 x hx]⟩

theorem rxPat_inv {rec : RxRec} {p : Pattern} {env : Env} {items names}
    (h : rxPat rec p env = .ok (items, names)) :
    ∃ root citems, rootOf (expandVal (fuelFor env)) p env = .ok root ∧
      rxChildren rec p.nodes env = .ok (citems, names) ∧ items = root.map Re.lit ++ citems := by
  simp only [rxPat, bind, Except.bind] at h
  split at h
  · cases h
  · rename_i root hroot
    split at h
    · cases h
    · rename_i w hw
      obtain ⟨b, nb⟩ := w
      simp only [pure, Except.pure, Except.ok.injEq, Prod.mk.injEq] at h
      obtain ⟨rfl, rfl⟩ := h
      exact ⟨root, b, hroot, hw, rfl⟩

theorem regexOf_inv {m : Matcher} {re names} (h : m.regexOf = .ok (re, names)) :
    ∃ items, rxPat (rxVal (fuelFor m.env)) m.pattern m.env = .ok (items, names) ∧
      re = seqOf (items ++ [Gen.Pat.matcher_frag_anchor]) ∧ (wfRe re ([], [])).isSome = true := by
  simp only [Matcher.regexOf, bind, Except.bind] at h
  split at h
  · cases h
  · rename_i w hw
    obtain ⟨items, nm⟩ := w
    simp only at h
    split at h
    · rename_i hc
      simp only [pure, Except.pure, Except.ok.injEq, Prod.mk.injEq] at h
      obtain ⟨rfl, rfl⟩ := h
      simp only [Bool.and_eq_true] at hc
      exact ⟨items, hw, rfl, hc.2⟩
    · cases h

theorem match_inv_dict {m : Matcher} {path : Text} {d : GroupDict} (h : m.match path = .ok (some d)) :
    ∃ re names st, m.regexOf = .ok (re, names) ∧ matchAt path.toArray re 0 = some st ∧
      (d = groupDict path.toArray st names ∨
       ∃ l, d = groupDict path.toArray st names ++ [(localeName, some l)] ∧
         (groupDict path.toArray st names).any (·.1 == localeName) = false) := by
  simp only [Matcher.match, bind, Except.bind] at h
  split at h
  · cases h
  · rename_i w hw
    obtain ⟨re, names⟩ := w
    simp only at h
    split at h
    · simp [pure, Except.pure] at h
    · rename_i st hst
      refine ⟨re, names, st, hw, hst, ?_⟩
      split at h
      · rename_i hcond
        split at h
        · rename_i a _
          split at h
          · cases h
          · rename_i l hl
            simp only [pure, Except.pure, Except.ok.injEq, Option.some.injEq] at h
            simp only [Bool.and_eq_true, Bool.not_eq_true'] at hcond
            exact Or.inr ⟨l, h.symm, hcond.2⟩
        · cases h
      · simp only [pure, Except.pure, Except.ok.injEq, Option.some.injEq] at h
        exact Or.inl h.symm

theorem match_inv {m : Matcher} {path : Text} {d : GroupDict} (h : m.match path = .ok (some d)) :
    ∃ re names st, m.regexOf = .ok (re, names) ∧ matchAt path.toArray re 0 = some st ∧
      (d = groupDict path.toArray st names ∨
       ∃ l, d = groupDict path.toArray st names ++ [(localeName, some l)]) :=
  let ⟨re, names, st, hre, hst, hd⟩ := match_inv_dict h
  ⟨re, names, st, hre, hst, hd.imp id fun ⟨l, hl, _⟩ => ⟨l, hl⟩⟩

theorem lookup_map_graph {β} (f : Text → β) (k : Text) (names : List Text) :
    (names.map (fun nm => (nm, f nm))).lookup k = if k ∈ names then some (f k) else none := by
  induction names with
  | nil => rfl
  | cons n ns ih =>
    rw [List.map_cons, List.lookup_cons, ih]
    by_cases h : k = n
    · subst h; simp
    · rw [beq_false_of_ne h]
      by_cases hk : k ∈ ns
      · exact (if_pos hk).trans (if_pos (List.mem_cons_of_mem _ hk)).symm
      · exact (if_neg hk).trans (if_neg (fun hm => (List.mem_cons.1 hm).elim h hk)).symm

theorem lookup_map_self {β} (f : Text → β) (k : Text) (names : List Text) {v : β}
    (h : (names.map (fun nm => (nm, f nm))).lookup k = some v) : v = f k := by
  rw [lookup_map_graph] at h
  split at h
  · exact (Option.some.inj h).symm
  · cases h

theorem lookup_append_of_ne {β} (k k' : Text) (v' : β) (l : List (Text × β)) {v : β}
    (hne : (k == k') = false) (h : (l ++ [(k', v')]).lookup k = some v) : l.lookup k = some v := by
  rw [List.lookup_append, List.lookup_cons, hne] at h
  cases hl : l.lookup k with
  | some w => rw [hl] at h; exact h
  | none => rw [hl] at h; cases h

theorem sname_ne_locale (n : Nat) : (sname n == localeName) = false := by
  simp [sname, localeName]

theorem dict_lookup_sname {path : Text} {d : GroupDict} {names st} {n : Nat} {v : Option Text}
    (hd : d = groupDict path.toArray st names ∨ ∃ l, d = groupDict path.toArray st names ++ [(localeName, some l)])
    (hl : d.lookup (sname n) = some v) : v = groupText path.toArray st (encName (sname n)) := by
  rcases hd with rfl | ⟨l, rfl⟩
  · exact lookup_map_self _ _ names hl
  · exact lookup_map_self _ _ names (lookup_append_of_ne _ _ _ _ (sname_ne_locale n) hl)

end PM
