/- the exact result of the generated `printf` regex
   `%(?:(?P<good>%|(?:(?P<number>[1-9][0-9]*)\$)?(?P<width>\*|[0-9]+)?(?P<prec>\.(?:\*|[0-9]+)?)?(?P<spec>[duxXosScpfg]))?)`
   evaluated on every text (`printf_eval`): behind `%` the number, the width and the precision of an argument are
   functions of the text (`numOf`, `widthOf`, `precOf`; each digit run is maximal, and `10` in `%10d` is no number
   because no `$` follows), and the regex has at most one outcome there, the conversion character.  From it, on each
   token shape, the final state with all capture groups (`printf_pct`, `printf_arg`, `printf_nomatch`, `printf_lone_or`). -/
import CLModel.Gen.Regexes
import CLModel.Rx.Basic
import CLModel.Proofs.RxLemmas
import CLModel.Proofs.RxStar
namespace C06R
open Rx
open Txt (At at_cons at_append)

abbrev Text := List Nat

theorem orElse_some_left {α : Type} (a : α) (f : Unit → Option α) : (some a).orElse f = some a := rfl

def reDig : Re := .cls false [.range 48 57]

def IsDig (c : Nat) : Prop := 48 ≤ c ∧ c ≤ 57

def NoDigAt (s : Array Nat) (p : Nat) : Prop := ∀ c, s[p]? = some c → ¬ IsDig c

def specItems : List ClsItem :=
  [.ch 100, .ch 117, .ch 120, .ch 88, .ch 111, .ch 115, .ch 83, .ch 99, .ch 112, .ch 102, .ch 103]
def reC19 : Re := .cls false [.range 49 57]
def reNumG : Re := .seq (.group 2 (.seq reC19 (.rep 0 none true reDig))) (.lit 36)
def reNum : Re := .alt reNumG .eps
def reWidth : Re := .alt (.group 3 (.alt (.lit 42) (.rep 1 none true reDig))) .eps
def rePrec : Re := .alt (.group 4 (.seq (.lit 46) (.alt (.alt (.lit 42) (.rep 1 none true reDig)) .eps))) .eps
def reSpec : Re := .group 5 (.cls false specItems)
def reArg : Re := .seq reNum (.seq reWidth (.seq rePrec reSpec))

/-- the generated regex is made of these pieces (breaks when the regex of the source changes) -/
theorem printf_eq : Gen.Pat.PropertiesChecker_printf =
    .seq (.lit 37) (.alt (.group 1 (.alt (.lit 37) reArg)) .eps) := rfl

/-- a conversion character of the regex: one of `duxXosScpfg` -/
def IsSpec (c : Nat) : Prop := inC false specItems c = true

theorem isSpec_iff (c : Nat) : IsSpec c ↔
    c = 100 ∨ c = 117 ∨ c = 120 ∨ c = 88 ∨ c = 111 ∨ c = 115 ∨ c = 83 ∨ c = 99 ∨ c = 112 ∨ c = 102 ∨ c = 103 := by
  simp [IsSpec, specItems, inC, ClsItem.has]

instance (c : Nat) : Decidable (IsSpec c) := by unfold IsSpec; infer_instance
instance (c : Nat) : Decidable (IsDig c) := by unfold IsDig; infer_instance

theorem spec_facts {c : Nat} (h : IsSpec c) : ¬ IsDig c ∧ c ≠ 37 ∧ c ≠ 36 ∧ c ≠ 42 ∧ c ≠ 46 := by
  have := (isSpec_iff c).mp h
  unfold IsDig
  omega

/-- width: absent, `*`, or a non-empty digit string -/
def WShape (W : Text) : Prop := W = [] ∨ W = [42] ∨ (W ≠ [] ∧ ∀ d ∈ W, IsDig d)

/-- precision: absent, `.`, `.*`, or `.` followed by a non-empty digit string -/
def PShape (P : Text) : Prop :=
  P = [] ∨ P = [46] ∨ P = [46, 42] ∨ ∃ ds, ds ≠ [] ∧ (∀ d ∈ ds, IsDig d) ∧ P = 46 :: ds

def widthCaps (p : Nat) (W : Text) : List (Nat × Nat × Nat) := if W = [] then [] else [(3, p, p + W.length)]
def precCaps (p : Nat) (P : Text) : List (Nat × Nat × Nat) := if P = [] then [] else [(4, p, p + P.length)]

def isDigB (c : Nat) : Bool := decide (IsDig c)

theorem ends_dig (s : Array Nat) (st : St) : ends s reDig st = stepIf s isDigB st := by
  rw [reDig, ends_cls, show inC false [.range 48 57] = isDigB from
    funext fun c => inC_range.trans (Bool.decide_and _ _).symm]

def precOf (t : Text) : Text :=
  if t.head? = some 46 then
    if t.tail.head? = some 42 then [46, 42] else 46 :: t.tail.takeWhile isDigB
  else []

def widthOf (t : Text) : Text := if t.head? = some 42 then [42] else t.takeWhile isDigB

/-- the argument number with its `$`, read off the text: a digit run that starts with `1-9` and is followed by `$` -/
def numOf (t : Text) : Text :=
  if (∃ d, t.head? = some d ∧ 49 ≤ d ∧ d ≤ 57) ∧ (t.dropWhile isDigB).head? = some 36 then t.takeWhile isDigB ++ [36] else []

/-- `N` is the number with its `$`; group 2 holds the digits only, hence `- 1` -/
def numCaps (p : Nat) (N : Text) : List (Nat × Nat × Nat) := if N = [] then [] else [(2, p, p + N.length - 1)]

theorem ends_spec (s : Array Nat) (j : Nat) (caps) :
    ends s reSpec ⟨j, caps⟩ =
      match s[j]? with
      | some c => if IsSpec c then [⟨j + 1, (5, j, j + 1) :: caps⟩] else []
      | none => [] := by
  rw [reSpec, ends_group, ends_cls, stepIf]
  cases s[j]? with
  | none => rfl
  | some c => by_cases h : inC false specItems c = true <;> simp [IsSpec, h]

theorem ends_spec_nil {s : Array Nat} {j : Nat} (caps) (h : ∀ c, s[j]? = some c → ¬ IsSpec c) : ends s reSpec ⟨j, caps⟩ = [] := by
  rw [ends_spec]
  cases hc : s[j]? with
  | none => rfl
  | some c => simp only [if_neg (h c hc)]

theorem isSpec_not {c : Nat} (h : IsDig c ∨ c = 42 ∨ c = 46 ∨ c = 36 ∨ c = 37) : ¬ IsSpec c := fun hs => by
  obtain ⟨h1, h2, h3, h4, h5⟩ := spec_facts hs
  rcases h with h | h | h | h | h <;> simp_all

theorem ends_prec_spec (s : Array Nat) (p : Nat) (caps) :
    ends s (.seq rePrec reSpec) ⟨p, caps⟩ =
      ends s reSpec ⟨p + (precOf (s.toList.drop p)).length, precCaps p (precOf (s.toList.drop p)) ++ caps⟩ := by
  rw [ends_seq, rePrec, ends_alt, ends_group, ends_seq, ends_eps, List.flatMap_append, List.flatMap_singleton,
    List.flatMap_map]
  by_cases h46 : (s.toList.drop p).head? = some 46
  · obtain ⟨t, hl⟩ : ∃ t, s.toList.drop p = 46 :: t := by
      cases hd : s.toList.drop p with
      | nil => rw [hd] at h46; cases h46
      | cons c t => rw [hd] at h46; cases h46; exact ⟨t, rfl⟩
    have ht := Txt.drop_succ_of_cons hl
    have hc := Txt.head_of_drop hl
    -- behind the dot `*`, digits or nothing; the conversion character stands at none of `.`, `*`, a digit
    rw [ends_lit_at hl, List.flatMap_singleton, ends_spec_nil caps fun c h => by rw [hc] at h; cases h; exact isSpec_not (by simp),
      List.append_nil, ends_alt, ends_alt, ends_eps, List.flatMap_append, List.flatMap_append, List.flatMap_singleton]
    dsimp only
    rw [flatMap_rep_step (ends_dig s) 1 true (pos := p + 1) (getElem?_some_lt hc) caps
        (fun a : St => ends s reSpec ⟨a.pos, (4, p, a.pos) :: a.caps⟩) fun j d hd hdig =>
          ends_spec_nil _ fun c h => by rw [hd] at h; cases h; exact isSpec_not (.inl (of_decide_eq_true hdig)),
      ht, hl, ends_lit]
    dsimp only
    rw [Txt.head?_of_drop ht]
    simp only [precOf, List.head?_cons, List.tail_cons, if_true]
    cases t with
    | nil => simp [precCaps, ends_spec_nil _ fun c (h : s[p + 1]? = some c) => by rw [Txt.head?_of_drop ht] at h; cases h]
    | cons c t' =>
      have hc1 : s[p + 1]? = some c := Txt.head_of_drop ht
      by_cases h42 : c = 42
      · subst h42
        simp [precCaps, isDigB, IsDig, ends_spec_nil _ fun c h => by rw [hc1] at h; cases h; exact isSpec_not (by simp)]
      · by_cases hd : isDigB c = true
        · simp [h42, hd, precCaps, Nat.add_assoc,
            ends_spec_nil _ fun c' h => by rw [hc1] at h; cases h; exact isSpec_not (.inl (of_decide_eq_true hd))]
          rw [show 1 + ((t'.takeWhile isDigB).length + 1) = (t'.takeWhile isDigB).length + 2 by omega]
        · simp [h42, hd, precCaps]
  · have : precOf (s.toList.drop p) = [] := by rw [precOf, if_neg h46]
    rw [ends_lit_at_fail rfl h46, this]
    rfl

theorem prec_spec_nil {s : Array Nat} {j c : Nat} (caps) (hc : s[j]? = some c) (h46 : c ≠ 46) (hs : ¬ IsSpec c) :
    ends s (.seq rePrec reSpec) ⟨j, caps⟩ = [] := by
  rw [ends_prec_spec, precOf, if_neg (by rw [← Txt.head?_of_drop rfl, hc]; simpa using h46)]
  exact ends_spec_nil _ fun c' h => by rw [List.length_nil, Nat.add_zero, hc] at h; cases h; exact hs

theorem ends_width_rest (s : Array Nat) (p : Nat) (caps) (hp : p ≤ s.size) :
    ends s (.seq reWidth (.seq rePrec reSpec)) ⟨p, caps⟩ =
      ends s (.seq rePrec reSpec) ⟨p + (widthOf (s.toList.drop p)).length, widthCaps p (widthOf (s.toList.drop p)) ++ caps⟩ := by
  rw [ends_seq, reWidth, ends_alt, ends_group, ends_alt, ends_eps, List.flatMap_append, List.flatMap_singleton,
    List.flatMap_map, List.flatMap_append]
  dsimp only
  -- neither precision nor conversion start at a digit: all digits are the width
  rw [flatMap_rep_step (ends_dig s) 1 true hp caps
      (fun a : St => ends s (.seq rePrec reSpec) ⟨a.pos, (3, p, a.pos) :: a.caps⟩) fun j d hd hdig =>
        prec_spec_nil _ hd (by rintro rfl; revert hdig; decide) (isSpec_not (.inl (of_decide_eq_true hdig))),
    ends_lit, widthOf, ← Txt.head?_of_drop rfl]
  dsimp only
  cases hl : s.toList.drop p with
  | nil =>
    have hc : s[p]? = none := by rw [Txt.head?_of_drop hl]; rfl
    simp [hc, widthCaps]
  | cons c t =>
    have hc : s[p]? = some c := Txt.head_of_drop hl
    by_cases h42 : c = 42
    · subst h42
      simp [hc, widthCaps, isDigB, IsDig, prec_spec_nil caps hc (by decide) (isSpec_not (by simp))]
    · by_cases hd : isDigB c = true
      · simp [hc, h42, hd, widthCaps,
          prec_spec_nil caps hc (by rintro rfl; revert hd; decide) (isSpec_not (.inl (of_decide_eq_true hd)))]
      · simp [hc, h42, hd, widthCaps]

theorem ends_arg (s : Array Nat) (p : Nat) (caps) (hp : p ≤ s.size) :
    ends s reArg ⟨p, caps⟩ =
      ends s (.seq reWidth (.seq rePrec reSpec)) ⟨p + (numOf (s.toList.drop p)).length, numCaps p (numOf (s.toList.drop p)) ++ caps⟩ := by
  rw [reArg, ends_seq, reNum, ends_alt, ends_eps, List.flatMap_append, List.flatMap_singleton, reNumG, ends_seq, ends_group,
    ends_seq, List.flatMap_map, reC19, numOf]
  by_cases h19 : ∃ d, (s.toList.drop p).head? = some d ∧ 49 ≤ d ∧ d ≤ 57
  · obtain ⟨d, hd, hd19⟩ := h19
    obtain ⟨t, hl⟩ : ∃ t, s.toList.drop p = d :: t := by
      cases h : s.toList.drop p with
      | nil => rw [h] at hd; cases hd
      | cons c t => rw [h] at hd; cases hd; exact ⟨t, rfl⟩
    have hc := Txt.head_of_drop hl
    have ht := Txt.drop_succ_of_cons hl
    have hdig : isDigB d = true := decide_eq_true ⟨by omega, hd19.2⟩
    have htw : (s.toList.drop p).takeWhile isDigB = d :: t.takeWhile isDigB := by rw [hl, List.takeWhile_cons, if_pos hdig]
    have hdw : (s.toList.drop p).dropWhile isDigB = t.dropWhile isDigB := by rw [hl, List.dropWhile_cons, if_pos hdig]
    have hnext : s[p + 1 + (t.takeWhile isDigB).length]? = (t.dropWhile isDigB).head? := by
      rw [← Nat.add_zero (p + 1 + _), Txt.get_of_drop (Txt.drop_add_of_append (ht.trans List.takeWhile_append_dropWhile.symm)) 0,
        List.head?_eq_getElem?]
    dsimp only
    -- `$` does not stand at a digit: all digits belong to the number
    rw [ends_step_at (ends_cls s false _) hl (by rw [inC_range]; simp [hd19]), List.flatMap_singleton,
      flatMap_rep_step (ends_dig s) 0 true (pos := p + 1) (getElem?_some_lt hc) caps
        (fun a : St => ends s (.lit 36) ⟨a.pos, (2, p, a.pos) :: a.caps⟩) fun j c hj hdig =>
          ends_lit_fail (by rw [hj]; rintro ⟨⟩; revert hdig; decide) _,
      if_pos (Nat.zero_le _), ht, ends_lit, hnext, hdw, htw]
    dsimp only
    by_cases h36 : (t.dropWhile isDigB).head? = some 36
    · -- without the number the digits would be the width, and `$` is no conversion character
      have hw : widthOf (s.toList.drop p) = d :: t.takeWhile isDigB := by
        rw [widthOf, if_neg (by rw [hd]; rintro ⟨⟩; omega), htw]
      have hnil : ends s (.seq reWidth (.seq rePrec reSpec)) ⟨p, caps⟩ = [] := by
        rw [ends_width_rest s p caps hp, hw, List.length_cons, ← Nat.add_assoc, Nat.add_right_comm]
        exact prec_spec_nil _ (hnext.trans h36) (by decide) (isSpec_not (by simp))
      rw [h36, beq_self_eq_true, if_pos rfl, List.flatMap_singleton, hnil, List.append_nil, if_pos ⟨⟨d, hd, hd19⟩, rfl⟩]
      simp [numCaps, Nat.add_assoc, Nat.add_comm 1]
    · rw [if_neg (by simpa using h36), if_neg fun h => h36 h.2]
      rfl
  · have : ends s (.cls false [.range 49 57]) ⟨p, caps⟩ = [] :=
      ends_step_at_fail (ends_cls s false _) rfl (fun c hc => by
        rw [inC_range]
        have := fun h => h19 ⟨c, hc, h⟩
        simpa using this) caps
    rw [if_neg fun h => h19 h.1, this]
    rfl

theorem takeDig_all (l : Text) : ∀ d ∈ l.takeWhile isDigB, IsDig d :=
  fun d hd => of_decide_eq_true (List.all_eq_true.mp List.all_takeWhile d hd)

theorem numOf_prefix (l : Text) : ∃ r, l = numOf l ++ r := by
  rw [numOf]
  split
  · rename_i h
    obtain ⟨r, hr⟩ := List.head?_eq_some_iff.mp h.2
    exact ⟨r, by rw [List.append_assoc, List.singleton_append, ← hr, List.takeWhile_append_dropWhile]⟩
  · exact ⟨l, rfl⟩

theorem numOf_shape (l : Text) : numOf l = [] ∨
    ∃ d ds, numOf l = d :: ds ++ [36] ∧ (49 ≤ d ∧ d ≤ 57) ∧ ∀ x ∈ ds, IsDig x := by
  rw [numOf]
  split
  · rename_i h
    obtain ⟨⟨d, hd, hd19⟩, _⟩ := h
    obtain ⟨t, rfl⟩ := List.head?_eq_some_iff.mp hd
    have hdig : isDigB d = true := decide_eq_true ⟨by omega, hd19.2⟩
    exact .inr ⟨d, t.takeWhile isDigB, by rw [List.takeWhile_cons, if_pos hdig], hd19, takeDig_all t⟩
  · exact .inl rfl

theorem widthOf_prefix (l : Text) : ∃ r, l = widthOf l ++ r := by
  rw [widthOf]
  split
  · rename_i h
    obtain ⟨r, hr⟩ := List.head?_eq_some_iff.mp h
    exact ⟨r, hr⟩
  · exact ⟨_, List.takeWhile_append_dropWhile.symm⟩

theorem widthOf_shape (l : Text) : WShape (widthOf l) := by
  rw [widthOf]
  split
  · exact .inr (.inl rfl)
  · by_cases h : l.takeWhile isDigB = []
    · exact .inl h
    · exact .inr (.inr ⟨h, takeDig_all l⟩)

theorem precOf_prefix (l : Text) : ∃ r, l = precOf l ++ r := by
  rw [precOf]
  split
  · rename_i h
    obtain ⟨t, rfl⟩ := List.head?_eq_some_iff.mp h
    rw [List.tail_cons]
    split
    · rename_i h'
      obtain ⟨r, hr⟩ := List.head?_eq_some_iff.mp h'
      exact ⟨r, by rw [hr]; rfl⟩
    · exact ⟨t.dropWhile isDigB, by rw [List.cons_append, List.takeWhile_append_dropWhile]⟩
  · exact ⟨l, rfl⟩

theorem precOf_shape (l : Text) : PShape (precOf l) := by
  rw [precOf]
  split
  · split
    · exact .inr (.inr (.inl rfl))
    · by_cases h : l.tail.takeWhile isDigB = []
      · exact .inr (.inl (by rw [h]))
      · exact .inr (.inr (.inr ⟨_, h, takeDig_all _, rfl⟩))
  · exact .inl rfl

/-- length of the number, width and precision at the head of `l`; `argCaps p l`: their captures when `l` stands at `p` -/
def argLen (l : Text) : Nat :=
  (numOf l).length + (widthOf (l.drop (numOf l).length)).length +
    (precOf (l.drop ((numOf l).length + (widthOf (l.drop (numOf l).length)).length))).length

def argCaps (p : Nat) (l : Text) : List (Nat × Nat × Nat) :=
  precCaps (p + (numOf l).length + (widthOf (l.drop (numOf l).length)).length)
      (precOf (l.drop ((numOf l).length + (widthOf (l.drop (numOf l).length)).length))) ++
    (widthCaps (p + (numOf l).length) (widthOf (l.drop (numOf l).length)) ++ numCaps p (numOf l))

theorem ends_arg_spec (s : Array Nat) (p : Nat) (hp : p ≤ s.size) :
    ends s reArg ⟨p, []⟩ = ends s reSpec ⟨p + argLen (s.toList.drop p), argCaps p (s.toList.drop p)⟩ := by
  obtain ⟨r, hr⟩ := numOf_prefix (s.toList.drop p)
  have hN : p + (numOf (s.toList.drop p)).length ≤ s.size := by
    have := Txt.length_of_drop hr
    rw [List.length_append] at this; omega
  rw [ends_arg s p [] hp, ends_width_rest s _ _ hN, ends_prec_spec]
  simp only [argLen, argCaps, List.drop_drop, List.append_nil, Nat.add_assoc]

/-- **the `printf` regex on every text**: `%`, then `%`, or an argument, or nothing -/
theorem printf_eval (s : Array Nat) (q : Nat) :
    matchAt s Gen.Pat.PropertiesChecker_printf q =
      if s[q]? = some 37 then
        ((if s[q + 1]? = some 37 then [(⟨q + 2, [(1, q + 1, q + 2)]⟩ : St)] else []) ++
          (ends s reSpec ⟨q + 1 + argLen (s.toList.drop (q + 1)), argCaps (q + 1) (s.toList.drop (q + 1))⟩).map
            (fun st' : St => (⟨st'.pos, (1, q + 1, st'.pos) :: st'.caps⟩ : St)) ++ [(⟨q + 1, []⟩ : St)]).head?
      else none := by
  rw [printf_eq, matchAt_eq_head, ends_seq]
  by_cases h0 : s[q]? = some 37
  · rw [if_pos h0, ends_lit_ok h0, List.flatMap_singleton, ends_alt, ends_group, ends_alt, ends_eps, ends_lit,
      ends_arg_spec s (q + 1) (getElem?_some_lt h0), List.map_append]
    by_cases h1 : s[q + 1]? = some 37 <;> simp [h1]
  · rw [if_neg h0, ends_lit_fail h0]; rfl

/-- what follows the width: `.` or the conversion character -/
def Stop (x : Text) : Prop := ∃ x0 t, x = x0 :: t ∧ (x0 = 46 ∨ IsSpec x0)

theorem stop_prec {P : Text} {c : Nat} (hP : PShape P) (hc : IsSpec c) (r : Text) : Stop (P ++ c :: r) := by
  rcases hP with rfl | rfl | rfl | ⟨ds, _, _, rfl⟩
  · exact ⟨c, r, rfl, .inr hc⟩
  · exact ⟨46, _, rfl, .inl rfl⟩
  · exact ⟨46, _, rfl, .inl rfl⟩
  · exact ⟨46, _, rfl, .inl rfl⟩

/-- a character at which neither a number, nor a width, nor a token starts -/
structure StopChar (c : Nat) : Prop where
  notDig : ¬ IsDig c
  ne_star : c ≠ 42
  ne_dollar : c ≠ 36
  ne_pct : c ≠ 37

theorem Stop.head {x : Text} (h : Stop x) {c : Nat} (hc : x.head? = some c) : StopChar c := by
  obtain ⟨x0, t, rfl, h0⟩ := h
  cases hc
  rcases h0 with rfl | h0
  · exact ⟨by unfold IsDig; omega, by omega, by omega, by omega⟩
  · obtain ⟨h1, h2, h3, h4, _⟩ := spec_facts h0
    exact ⟨h1, h4, h3, h2⟩

theorem takeDig_run {ds x : Text} (hd : ∀ d ∈ ds, IsDig d) (hx : ∀ c, x.head? = some c → ¬ IsDig c) :
    (ds ++ x).takeWhile isDigB = ds ∧ (ds ++ x).dropWhile isDigB = x := by
  have h := Txt.takeWhile_append_stop (p := isDigB) (fun d h => decide_eq_true (hd d h)) (fun c h => decide_eq_false (hx c h))
  refine ⟨h, ?_⟩
  have := List.takeWhile_append_dropWhile (p := isDigB) (l := ds ++ x)
  rw [h] at this
  exact List.append_cancel_left this

theorem takeDig_nil {x : Text} (hx : ∀ c, x.head? = some c → ¬ IsDig c) : x.takeWhile isDigB = [] := by
  simpa using (takeDig_run (ds := []) (by simp) hx).1

theorem precOf_eq {P : Text} {c : Nat} (hP : PShape P) (hc : IsSpec c) (r : Text) : precOf (P ++ c :: r) = P := by
  obtain ⟨hnd, _, _, h42, h46⟩ := spec_facts hc
  have hstop : ∀ d, (c :: r).head? = some d → ¬ IsDig d := fun d hd => by cases hd; exact hnd
  rcases hP with rfl | rfl | rfl | ⟨ds, hne, hds, rfl⟩
  · simp [precOf, h46]
  · simp [precOf, h42, takeDig_nil hstop]
  · simp [precOf]
  · obtain ⟨d, ds', rfl⟩ := List.exists_cons_of_ne_nil hne
    have hd42 : d ≠ 42 := by have := hds d (by simp); unfold IsDig at this; omega
    simpa [precOf, hd42] using (takeDig_run hds hstop).1

theorem widthOf_eq {W x : Text} (hW : WShape W) (hx : Stop x) : widthOf (W ++ x) = W := by
  have hstop : ∀ d, x.head? = some d → ¬ IsDig d := fun d hd => (hx.head hd).notDig
  rcases hW with rfl | rfl | ⟨hne, hds⟩
  · have h42 : x.head? ≠ some 42 := fun h => (hx.head h).ne_star rfl
    simp [widthOf, h42, takeDig_nil hstop]
  · simp [widthOf]
  · obtain ⟨d, W', rfl⟩ := List.exists_cons_of_ne_nil hne
    have hd42 : d ≠ 42 := by have := hds d (by simp); unfold IsDig at this; omega
    simpa [widthOf, hd42] using (takeDig_run hds hstop).1

theorem numOf_none {W x : Text} (hW : WShape W) (hx : Stop x) : numOf (W ++ x) = [] := by
  have hstop : ∀ d, x.head? = some d → ¬ IsDig d := fun d hd => (hx.head hd).notDig
  rw [numOf, if_neg]
  rintro ⟨⟨d, hd, hd19⟩, h36⟩
  rcases hW with rfl | rfl | ⟨_, hds⟩
  · exact (hx.head hd).notDig ⟨by omega, hd19.2⟩
  · cases hd; omega
  · rw [(takeDig_run hds hstop).2] at h36
    exact (hx.head h36).ne_dollar rfl

theorem numOf_some {d : Nat} {ds : Text} (hd : 49 ≤ d ∧ d ≤ 57) (hds : ∀ x ∈ ds, IsDig x) (x : Text) :
    numOf ((d :: ds ++ [36]) ++ x) = d :: ds ++ [36] := by
  have hrun : ∀ y ∈ d :: ds, IsDig y := fun y hy => by
    rcases List.mem_cons.mp hy with rfl | hy
    · exact ⟨by omega, hd.2⟩
    · exact hds y hy
  have e : (d :: ds ++ [36]) ++ x = (d :: ds) ++ 36 :: x := by simp
  obtain ⟨h1, h2⟩ := takeDig_run (x := 36 :: x) hrun (fun c hc => by cases hc; unfold IsDig; omega)
  rw [e, numOf, h1, h2, if_pos ⟨⟨d, rfl, hd⟩, rfl⟩]

theorem printf_nomatch {s : Array Nat} {q : Nat} (h : s[q]? ≠ some 37) :
    matchAt s Gen.Pat.PropertiesChecker_printf q = none := by
  rw [printf_eval, if_neg h]

theorem printf_pct {s : Array Nat} {q : Nat} (hat : At s q [37, 37]) :
    matchAt s Gen.Pat.PropertiesChecker_printf q = some ⟨q + 2, [(1, q + 1, q + 2)]⟩ := by
  obtain ⟨h0, h1⟩ := Txt.at_cons.mp hat
  rw [printf_eval, if_pos h0, if_pos (Txt.at_cons.mp h1).1]
  rfl

/-- the shape of the number part: absent, or a digit `1-9`, digits, `$` -/
def NShape (N : Text) : Prop := N = [] ∨ ∃ d ds, N = d :: ds ++ [36] ∧ (49 ≤ d ∧ d ≤ 57) ∧ ∀ x ∈ ds, IsDig x

theorem arg_second {N W x : Text} (hN : NShape N) (hW : WShape W) (hx : Stop x) : (N ++ (W ++ x)).head? ≠ some 37 := by
  intro hc
  rcases hN with rfl | ⟨d, ds, rfl, hd, _⟩
  · rcases hW with rfl | rfl | ⟨hne, hds⟩
    · exact (hx.head hc).ne_pct rfl
    · cases hc
    · obtain ⟨d, W', rfl⟩ := List.exists_cons_of_ne_nil hne
      cases hc
      have := hds 37 (by simp); unfold IsDig at this; omega
  · cases hc; omega

theorem printf_arg {s : Array Nat} {q c : Nat} {N W P : Text} (hN : NShape N) (hW : WShape W) (hP : PShape P)
    (hs : IsSpec c) (hat : At s q (37 :: (N ++ (W ++ (P ++ [c]))))) :
    matchAt s Gen.Pat.PropertiesChecker_printf q =
      some ⟨q + 1 + N.length + W.length + P.length + 1,
        (1, q + 1, q + 1 + N.length + W.length + P.length + 1) ::
        (5, q + 1 + N.length + W.length + P.length, q + 1 + N.length + W.length + P.length + 1) ::
          (precCaps (q + 1 + N.length + W.length) P ++ (widthCaps (q + 1 + N.length) W ++ numCaps (q + 1) N))⟩ := by
  have hd := hat.drop_eq
  generalize s.toList.drop (q + (37 :: (N ++ (W ++ (P ++ [c])))).length) = R at hd
  have h0 := Txt.head_of_drop hd
  have hl : s.toList.drop (q + 1) = N ++ (W ++ (P ++ c :: R)) := by
    rw [Txt.drop_succ_of_cons hd]; simp
  have hstop := stop_prec hP hs R
  -- on the token's text the three functions return its parts
  have eN : numOf (s.toList.drop (q + 1)) = N := by
    rw [hl]
    rcases hN with rfl | ⟨d, ds, rfl, hd19, hds⟩
    · exact numOf_none hW hstop (W := W)
    · exact numOf_some hd19 hds _
  have eW : widthOf ((s.toList.drop (q + 1)).drop N.length) = W := by rw [hl, List.drop_left]; exact widthOf_eq hW hstop
  have eP : precOf ((s.toList.drop (q + 1)).drop (N.length + W.length)) = P := by
    rw [hl, ← List.drop_drop, List.drop_left, List.drop_left]; exact precOf_eq hP hs R
  have hc : s[q + 1 + (N.length + W.length + P.length)]? = some c := by
    rw [Txt.get_of_drop hl, ← List.append_assoc, ← List.append_assoc,
      List.getElem?_append_right (by simp [Nat.add_assoc])]
    simp [Nat.add_assoc]
  rw [printf_eval, if_pos h0, if_neg (by rw [Txt.head?_of_drop hl]; exact arg_second hN hW hstop), argLen, argCaps, eN,
    eW, eP, ends_spec, hc]
  simp only [if_pos hs, List.nil_append, List.map_cons, List.map_nil, List.cons_append, List.head?_cons, Nat.add_assoc]

theorem arg_split (l : Text) : ∃ N W P r, NShape N ∧ WShape W ∧ PShape P ∧ l = N ++ (W ++ (P ++ r)) ∧
    argLen l = N.length + W.length + P.length := by
  obtain ⟨r1, e1⟩ := numOf_prefix l
  obtain ⟨r2, e2⟩ := widthOf_prefix r1
  obtain ⟨r3, e3⟩ := precOf_prefix r2
  have d1 : l.drop (numOf l).length = r1 := by conv => lhs; arg 2; rw [e1]
                                               exact List.drop_left
  have d2 : l.drop ((numOf l).length + (widthOf r1).length) = r2 := by
    rw [← List.drop_drop, d1]
    conv => lhs; arg 2; rw [e2]
    exact List.drop_left
  refine ⟨numOf l, widthOf r1, precOf r2, r3, numOf_shape l, widthOf_shape r1, precOf_shape r2, ?_, ?_⟩
  · rw [← e3, ← e2, ← e1]
  · rw [argLen, d1, d2]

theorem printf_lone_or {s : Array Nat} {q : Nat} (h0 : s[q]? = some 37) :
    matchAt s Gen.Pat.PropertiesChecker_printf q = some ⟨q + 1, []⟩ ∨ At s q [37, 37] ∨
      ∃ N W P c, NShape N ∧ WShape W ∧ PShape P ∧ IsSpec c ∧ At s q (37 :: (N ++ (W ++ (P ++ [c])))) := by
  by_cases h1 : s[q + 1]? = some 37
  · exact .inr (.inl (Txt.at_cons.mpr ⟨h0, Txt.at_cons.mpr ⟨h1, Txt.at_nil _ _⟩⟩))
  · rw [printf_eval, if_pos h0, if_neg h1, ends_spec]
    obtain ⟨N, W, P, r, hN, hW, hP, hl, hlen⟩ := arg_split (s.toList.drop (q + 1))
    cases hc : s[q + 1 + argLen (s.toList.drop (q + 1))]? with
    | none => exact .inl rfl
    | some c =>
      by_cases hs : IsSpec c
      · -- the conversion character stands behind the three parts: an argument of the grammar
        refine .inr (.inr ⟨N, W, P, c, hN, hW, hP, hs, Txt.at_cons.mpr ⟨h0, ?_⟩⟩)
        rw [hlen, Txt.get_of_drop hl, ← List.append_assoc, ← List.append_assoc,
          List.getElem?_append_right (by simp [Nat.add_assoc]),
          show N.length + W.length + P.length - (N ++ W ++ P).length = 0 by simp [Nat.add_assoc],
          ← List.head?_eq_getElem?] at hc
        obtain ⟨r', rfl⟩ := List.head?_eq_some_iff.mp hc
        exact Txt.at_of_drop (rest := r') (by rw [hl]; simp)
      · exact .inl (by simp [if_neg hs])

end C06R
