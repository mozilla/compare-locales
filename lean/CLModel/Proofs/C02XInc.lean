/- C02, .inc (DefinesParser): files of `#define KEY value⏎` records, one directly after the other — blocks of the full grammar
   without comment, each followed by a single newline. -/
import CLModel.Proofs.C02PInc
namespace C02X
open P C02P

def printInc (rs : List IRec) : List Nat := (rs.map printIncRec).flatten

def incExpEntries : Nat → List IRec → List Entry
  | _, [] => []
  | off, r :: rs =>
    incEntity off r.1.length r.2.length :: wsEntry (off + incLen r.1.length r.2.length) ::
      incExpEntries (off + incLen r.1.length r.2.length + 1) rs

theorem printIncRec_end (off : Nat) (r : IRec) :
    off + (printIncRec r).length = (incEntity off r.1.length r.2.length).e + 1 := by
  rw [printIncRec_length, incEntity_e]
  rfl

theorem incExpEntries_cons (off : Nat) (r : IRec) (rs : List IRec) :
    incExpEntries off (r :: rs) =
      incEntity off r.1.length r.2.length :: wsEntry (incEntity off r.1.length r.2.length).e ::
        incExpEntries ((incEntity off r.1.length r.2.length).e + 1) rs := by
  rw [incEntity_e]
  rfl

theorem incEmbeds : Embeds incSpec (fun r => NBlock.define [] r [10]) printIncRec
    (fun off r => incEntity off r.1.length r.2.length) incExpEntries expectedView SafeIncRec where
  nil := fun _ => rfl
  cons := incExpEntries_cons
  len := printIncRec_end
  pr := fun r _ => by
    show ncPre [] ++ (defText r ++ [10]) = _
    rw [defText_nl, List.append_nil]; rfl
  en := fun off _ r _ => by
    show [incEntityC off 0 r.1.length r.2.length false, wsEntryN (off + 0 + (defText r).length) 1] = _
    rw [incEntityC_plain, incEntity_e, defText_length]
    rfl
  tr := fun _ _ => rfl
  vw := fun _ _ => rfl
  good := fun _ _ hs => ⟨(fun _ h => nomatch h), hs, ⟨List.cons_ne_nil _ _, fun c hc => List.mem_singleton.mp hc⟩, Or.inl rfl⟩

theorem walk_inc_printed (rs : List IRec) (h : ∀ r ∈ rs, SafeIncRec r) :
    walk .inc (printInc rs).toArray = .done (incExpEntries 0 rs) :=
  (incEmbeds.doc incSpec_laws rs h fun _ _ => trivial).1

theorem entitiesOf_incExpEntries (s : Array Nat) :
    ∀ (rs : List IRec) (off : Nat), s.toList.drop off = printInc rs → (∀ r ∈ rs, SafeIncRec r) →
      entitiesOf .inc s (incExpEntries off rs) = rs.map expectedView ∧ junkOf s (incExpEntries off rs) = [] :=
  fun rs off h hsafe =>
    incEmbeds.views_at incSpec_laws rs hsafe s off [] (by rw [List.append_nil]; exact h) incSpec_laws.follow_nil

end C02X
