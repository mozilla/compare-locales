/- C04, re-parse of the staged text: records separated by arbitrary runs of blank lines parse back to exactly the
   records — one walk lemma for the line formats (`walk_lead_gapped`), instantiated here for properties. -/
import CLModel.Proofs.C02Roundtrip
import CLModel.Proofs.WalkRel
namespace C04R
open P

def nls (n : Nat) : List Nat := List.replicate n 10

def NoWsHead (rest : List Nat) : Prop := ∀ c, rest.head? = some c → c ≠ 32 ∧ c ≠ 9 ∧ c ≠ 13 ∧ c ≠ 10

theorem noWsHead_nil : NoWsHead [] := by intro c h; simp at h

/-- a record `r` with `g` further newlines behind its own: `body r`, then `g + 1` newlines -/
def gapRec {R : Type} (body : R → List Nat) (p : R × Nat) : List Nat := body p.1 ++ nls (p.2 + 1)

abbrev gapped {R : Type} (body : R → List Nat) (gs : List (R × Nat)) : List Nat := C02P.printBlocks (gapRec body) gs

theorem entitiesOf_cons (f : Fmt) (s : Array Nat) (e : Entry) (es : List Entry) :
    entitiesOf f s (e :: es) = if e.kind = .entity then entView f s e :: entitiesOf f s es else entitiesOf f s es := by
  unfold entitiesOf
  by_cases h : e.kind = .entity <;> simp [List.filter_cons, h]

/-- from `off` the walk with `next` arrives at `off'` and reports exactly the entities with views `vs`, and no junk -/
def WalksTo (f : Fmt) (s : Array Nat) (next : Nat → Entry) (off : Nat) (vs : List (Option EntView)) (off' : Nat) : Prop :=
  ∃ es, C02P.Walks (fun (_ : Unit) o => (next o, ())) s.size () off es () off' ∧ entitiesOf f s es = vs ∧ junkOf s es = []

theorem WalksTo.step {f : Fmt} {s : Array Nat} {next : Nat → Entry} {off off' : Nat} {vs : List (Option EntView)}
    (e : Entry) (hoff : off < s.size) (hlt : off < e.e) (he : next off = e) (hj : e.kind ≠ .junk)
    (h : WalksTo f s next e.e vs off') :
    WalksTo f s next off (if e.kind = .entity then entView f s e :: vs else vs) off' := by
  obtain ⟨es, hw, hen, hjs⟩ := h
  exact ⟨e :: es, .cons hoff hlt (by rw [he]) hw, by rw [entitiesOf_cons, hen], by rw [C02P.junkOf_cons_other _ _ _ hj, hjs]⟩

theorem WalksTo.done {f : Fmt} {s : Array Nat} {next : Nat → Entry} {vs : List (Option EntView)}
    (h : WalksTo f s next 0 vs s.size) :
    ∃ es, walkFrom (fun (_ : Unit) o => (next o, ())) s.size (s.size + 1) () 0 = .done es ∧ entitiesOf f s es = vs ∧
      junkOf s es = [] :=
  h.imp fun _ h => ⟨h.1.done_walk (Nat.le_refl _), h.2⟩

/-- what one format's `next` has to do: on a white-space run (`hwsn`) and on one printed record (`hent`: the entity `ent off r`
    spanning `body r`, with view `view r`) -/
theorem walk_lead_gapped {R : Type} (f : Fmt) (s : Array Nat) (next : Nat → Entry) (body : R → List Nat)
    (ent : Nat → R → Entry) (view : R → Option EntView) (Safe : R → Prop)
    (hwsn : ∀ p w rest, w ≠ [] → (∀ c ∈ w, C02P.isWs c = true) → (∀ c, rest.head? = some c → C02P.isWs c = false) →
      C02P.At s p (w ++ rest) → next p = C02P.wsEntryN p w.length)
    (hent : ∀ off r rest, Safe r → s.toList.drop off = body r ++ (10 :: rest) →
      next off = ent off r ∧ (ent off r).kind = .entity ∧ (ent off r).e = off + (body r).length ∧
        entView f s (ent off r) = view r)
    (hhead : ∀ r rest, Safe r → body r ≠ [] ∧ NoWsHead (body r ++ rest))
    (gs : List (R × Nat)) (g0 off : Nat) (h : s.toList.drop off = nls g0 ++ gapped body gs) (hs : ∀ p ∈ gs, Safe p.1)
    (hoff : off ≤ s.size) : WalksTo f s next off (gs.map (fun p => view p.1)) s.size := by
  have hws : ∀ a n rest, 0 < n → s.toList.drop a = nls n ++ rest → NoWsHead rest → next a = C02P.wsEntryN a n := by
    intro a n rest hn h hr
    have := hwsn a (nls n) rest (by intro hh; simp [nls] at hh; omega) (fun c hc => by rw [List.eq_of_mem_replicate hc]; rfl)
      (fun c hc => by obtain ⟨h1, h2, h3, h4⟩ := hr c hc; simp [C02P.isWs, h1, h2, h3, h4]) h
    simpa [nls] using this
  have hgood : ∀ off, C02P.GoodAll (gapRec body) (fun c _ => c) (fun _ (_ : Unit) p => Safe p.1) off () gs := by
    clear h
    induction gs with
    | nil => intro _; trivial
    | cons p gs ih => intro off; exact ⟨hs p (by simp), ih (fun q hq => hs q (by simp [hq])) _⟩
  have hat : C02P.At s (off + g0) (gapped body gs ++ []) := by
    rw [List.append_nil]; simpa [nls] using C02P.At.app h
  -- block by block: the entity of a record, then ONE white-space entry over its newlines
  obtain ⟨tail, hfo⟩ := C02P.blocks_ind s (gapRec body) (fun c _ => c) (fun _ (_ : Unit) p => Safe p.1) NoWsHead
    (fun p _ _ rest hp _ => by rw [gapRec, List.append_assoc]; exact (hhead p.1 _ hp).2)
    (fun off _ gs => WalksTo f s next off (gs.map (fun p => view p.1)) (off + (gapped body gs).length))
    (fun off _ => ⟨[], .nil _ _, rfl, rfl⟩)
    (fun p gs _ off rest hp h hr ih => by
      have h1 : C02P.At s off (body p.1 ++ (nls (p.2 + 1) ++ rest)) := by simpa [gapRec] using h
      obtain ⟨e1, hk, he, hv⟩ := hent off p.1 (nls p.2 ++ rest) hp (by rw [h1]; simp [nls, List.replicate_succ])
      have hb : 0 < (body p.1).length := List.length_pos_iff.2 (hhead p.1 [] hp).1
      have hl := Txt.length_of_drop h1
      simp only [List.length_append, nls, List.length_replicate] at hl
      have := WalksTo.step (f := f) (s := s) (ent off p.1) (by omega) (by rw [he]; omega) e1 (by rw [hk]; decide)
        (he ▸ WalksTo.step (f := f) (s := s) (C02P.wsEntryN _ (p.2 + 1)) (by omega) (by simp [C02P.wsEntryN]) (hws _ (p.2 + 1) rest (Nat.succ_pos _) h1.app hr)
          (by simp [C02P.wsEntryN]) (by simpa [C02P.wsEntryN, gapRec, nls, Nat.add_assoc] using ih))
      simpa [hk, hv, C02P.wsEntryN, gapRec, nls, Nat.add_assoc] using this)
    gs () (off + g0) [] (hgood _) hat noWsHead_nil
  have hsz : off + g0 + (gapped body gs).length = s.size := by
    have := Txt.length_of_drop h
    simp only [List.length_append, nls, List.length_replicate] at this
    have := C02P.At.nil_size (C02P.At.app hat)
    omega
  rw [hsz] at tail
  rcases Nat.eq_zero_or_pos g0 with rfl | hg
  · exact tail
  · have := WalksTo.step (C02P.wsEntryN off g0) (by omega) (by simp [C02P.wsEntryN]; omega)
      (hws off g0 _ hg h (by simpa using hfo)) (by simp [C02P.wsEntryN]) tail
    simpa [C02P.wsEntryN] using this

inductive Tok
  | record (r : PRec)
  | nl

def printToks : List Tok → List Nat
  | [] => []
  | .record r :: t => printRec r ++ printToks t
  | .nl :: t => 10 :: printToks t

def recsOf : List Tok → List PRec
  | [] => []
  | .record r :: t => r :: recsOf t
  | .nl :: t => recsOf t

/-- leading newlines, then the records each with the number of extra newlines that follow it -/
def norm : List Tok → Nat × List (PRec × Nat)
  | [] => (0, [])
  | .nl :: t => ((norm t).1 + 1, (norm t).2)
  | .record r :: t => (0, (r, (norm t).1) :: (norm t).2)

theorem toks_norm (pt : List Tok → List Nat) (body : PRec → List Nat) (hnil : pt [] = [])
    (hnl : ∀ t, pt (.nl :: t) = 10 :: pt t) (hrec : ∀ r t, pt (.record r :: t) = body r ++ 10 :: pt t) :
    ∀ t, pt t = nls (norm t).1 ++ gapped body (norm t).2 := by
  intro t
  induction t with
  | nil => simp [hnil, norm, nls, gapped]
  | cons x t ih =>
    cases x with
    | nl => simp [hnl, norm, ih, nls, List.replicate_succ]
    | record r => simp [hrec, norm, ih, nls, gapRec, List.replicate_succ]

theorem norm_recs : ∀ t, (norm t).2.map (·.1) = recsOf t := by
  intro t
  induction t with
  | nil => simp [norm, recsOf]
  | cons x t ih => cases x <;> simp [norm, recsOf, ih]

theorem printToks_append (a b : List Tok) : printToks (a ++ b) = printToks a ++ printToks b := by
  induction a with
  | nil => simp [printToks]
  | cons x a ih => cases x <;> simp [printToks, ih]

theorem recsOf_append (a b : List Tok) : recsOf (a ++ b) = recsOf a ++ recsOf b := by
  induction a with
  | nil => simp [recsOf]
  | cons x a ih => cases x <;> simp [recsOf, ih]

theorem printToks_recs (rs : List PRec) : printToks (rs.map .record) = printProps rs := by
  induction rs with
  | nil => simp [printToks, printProps]
  | cons r rs ih =>
    simp only [List.map_cons, printToks, ih]
    simp [printProps]

theorem recsOf_recs (rs : List PRec) : recsOf (rs.map .record) = rs := by
  induction rs with
  | nil => simp [recsOf]
  | cons r rs ih => simp [recsOf, ih]

theorem recsOf_then_recs (t : List Tok) (rs : List PRec) : recsOf (t ++ .nl :: rs.map .record) = recsOf t ++ rs := by
  rw [recsOf_append, recsOf, recsOf_recs]

theorem safe_norm {Safe : PRec → Prop} {t : List Tok} (h : ∀ r ∈ recsOf t, Safe r) : ∀ p ∈ (norm t).2, Safe p.1 := by
  intro p hp
  apply h
  rw [← norm_recs]
  exact List.mem_map.mpr ⟨p, hp, rfl⟩

theorem map_norm_view (view : PRec → Option EntView) (t : List Tok) :
    (norm t).2.map (fun p => view p.1) = (recsOf t).map view := by
  rw [← norm_recs, List.map_map]; rfl

/-- `key=value` without its newline: the span of the entity -/
def propsBody (r : PRec) : List Nat := r.1 ++ 61 :: r.2

theorem walk_toks (t : List Tok) (h : ∀ r ∈ recsOf t, SafeRec r) :
    ∃ es, walk .properties (printToks t).toArray = .done es ∧
      entitiesOf .properties (printToks t).toArray es = (recsOf t).map expectedView ∧
      junkOf (printToks t).toArray es = [] := by
  have := walk_lead_gapped .properties (printToks t).toArray (propsGetNext _) propsBody
    (fun off r => propsEntity_c02 off r.1.length r.2.length) expectedView SafeRec (C02P.props_ws_at_n _)
    (fun off r rest hs hd => by
      have hd' : (printToks t).toArray.toList.drop off = printRec r ++ rest := by simpa [propsBody, printRec] using hd
      exact ⟨props_entity_drop _ off r _ hs hd', rfl, by simp [propsEntity_c02, propsBody]; omega,
        entView_propsEntity _ off r _ hs hd'⟩)
    (fun r rest hs => by
      have hkl : 0 < r.1.length := List.length_pos_iff.mpr hs.key_ne
      have f0 := keyChar_facts (hs.key r.1[0] (List.getElem_mem _))
      refine ⟨by simp [propsBody], fun c hc => ?_⟩
      have e : (propsBody r ++ rest).head? = some r.1[0] := by
        rw [List.head?_eq_getElem?]
        simp [propsBody, List.getElem?_append_left hkl]
      rw [e] at hc; cases hc
      exact ⟨f0.2.2.1, f0.2.2.2.1, f0.2.2.2.2.1, f0.2.2.2.2.2.1⟩)
    (norm t).2 (norm t).1 0
    (by simpa using toks_norm printToks propsBody rfl (fun _ => rfl) (fun r t => by simp [printToks, printRec, propsBody]) t)
    (safe_norm h) (Nat.zero_le _)
  rw [map_norm_view] at this
  exact this.done

end C04R
