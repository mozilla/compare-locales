/- The `eref` scan on values of the grammar.  `ValueN` adds to `ValueGrammar` the names of the entity reference items
   (in element content and in attribute values); the opaque bodies of comments, CDATA sections and processing
   instructions contribute the `&name;` texts they contain (`plainRefs body`), since the regex cannot tell them from
   references.  `ValueN d v ns → erefNames v = ns` for names in the BMP, hence every grammar value is a grammar value
   over the names the checker finds in it. -/
import CLModel.Proofs.C07ERx
import CLModel.Proofs.C07Xml
namespace C07E
open XmlContent (isName isNameStart isNameChar isS isDigit hexVal crOk decAcc hexAcc predefined isXmlChar
  isTextChar commentOk cdataOk piOk isXmlTarget RefText AttrValText AttrsText ValueGrammar)

/- `RefN`, `AttrValN`, `AttrsN`, `ValueN` repeat `RefText`, `AttrValText`, `AttrsText`, `ValueGrammar` constructor for
   constructor and add the names; a production added to the grammar has to be added here and in `ofGrammar`, `overNames`, `segs`. -/
inductive RefN (d : List Text) : Text → List Text → Prop
  | ent (n : Text) : isName n = true → (d.contains n || predefined.contains n) = true →
      RefN d (38 :: n ++ [59]) [n]
  | dec (d0 : Nat) (ds : Text) : isDigit d0 = true → ds.all isDigit = true → crOk (decAcc (d0 - 48) ds) = true →
      RefN d (38 :: 35 :: d0 :: ds ++ [59]) []
  | hex (h0 x0 : Nat) (hs : Text) : hexVal h0 = some x0 → hs.all (fun c => (hexVal c).isSome) = true →
      crOk (hexAcc x0 hs) = true → RefN d (38 :: 35 :: 120 :: h0 :: hs ++ [59]) []

inductive AttrValN (d : List Text) (q : Nat) : Text → List Text → Prop
  | nil : AttrValN d q [] []
  | char (c : Nat) (v : Text) (ns : List Text) : isXmlChar c = true → c ≠ 60 → c ≠ 38 → c ≠ q → AttrValN d q v ns →
      AttrValN d q (c :: v) ns
  | ref (r v : Text) (n1 n2 : List Text) : RefN d r n1 → AttrValN d q v n2 → AttrValN d q (r ++ v) (n1 ++ n2)

inductive AttrsN (d : List Text) : List Text → Text → List Text → List Text → Prop
  | nil (seen : List Text) : AttrsN d seen [] seen []
  | cons (seen : List Text) (a : Text) (s0 : Nat) (ws1 ws2 ws3 : Text) (q : Nat) (val rest : Text)
      (seen' : List Text) (n1 n2 : List Text) :
      isS s0 = true → ws1.all isS = true → ws2.all isS = true → ws3.all isS = true →
      isName a = true → seen.contains a = false → (q = 34 ∨ q = 39) →
      AttrValN d q val n1 → AttrsN d (a :: seen) rest seen' n2 →
      AttrsN d seen (s0 :: ws1 ++ a ++ ws2 ++ [61] ++ ws3 ++ [q] ++ val ++ [q] ++ rest) seen' (n1 ++ n2)

/-- `ValueGrammar d v` with the names of the reference items of `v`, in order -/
inductive ValueN (d : List Text) : Text → List Text → Prop
  | nil : ValueN d [] []
  | text (c : Nat) (v : Text) (ns : List Text) : isTextChar c = true → ValueN d v ns → ValueN d (c :: v) ns
  | ref (r v : Text) (n1 n2 : List Text) : RefN d r n1 → ValueN d v n2 → ValueN d (r ++ v) (n1 ++ n2)
  | elem (n attrs ws ws' body v : Text) (seen' : List Text) (na nb nv : List Text) :
      isName n = true → AttrsN d [] attrs seen' na → ws.all isS = true → ws'.all isS = true →
      ValueN d body nb → ValueN d v nv →
      ValueN d (60 :: n ++ attrs ++ ws ++ [62] ++ body ++ [60, 47] ++ n ++ ws' ++ [62] ++ v) (na ++ nb ++ nv)
  | empty (n attrs ws v : Text) (seen' : List Text) (na nv : List Text) :
      isName n = true → AttrsN d [] attrs seen' na → ws.all isS = true → ValueN d v nv →
      ValueN d (60 :: n ++ attrs ++ ws ++ [47, 62] ++ v) (na ++ nv)
  | comment (body v : Text) (nv : List Text) : commentOk false body = true → ValueN d v nv →
      ValueN d ([60, 33, 45, 45] ++ body ++ [45, 45, 62] ++ v) (plainRefs body ++ nv)
  | cdata (body v : Text) (nv : List Text) : cdataOk 0 body = true → ValueN d v nv →
      ValueN d ([60, 33, 91, 67, 68, 65, 84, 65, 91] ++ body ++ [93, 93, 62] ++ v) (plainRefs body ++ nv)
  | pi (target : Text) (v : Text) (nv : List Text) : isName target = true → isXmlTarget target = false →
      ValueN d v nv → ValueN d ([60, 63] ++ target ++ [63, 62] ++ v) nv
  | piData (target : Text) (s : Nat) (body v : Text) (nv : List Text) : isName target = true →
      isXmlTarget target = false → isS s = true → piOk false body = true → ValueN d v nv →
      ValueN d ([60, 63] ++ target ++ s :: body ++ [63, 62] ++ v) (plainRefs body ++ nv)

theorem RefN.ofRefText {d r} (h : RefText d r) : ∃ ns, RefN d r ns := by
  cases h with
  | ent n h1 h2 => exact ⟨_, .ent n h1 h2⟩
  | dec d0 ds h1 h2 h3 => exact ⟨_, .dec d0 ds h1 h2 h3⟩
  | hex h0 x0 hs h1 h2 h3 => exact ⟨_, .hex h0 x0 hs h1 h2 h3⟩

theorem AttrValN.ofText {d q v} (h : AttrValText d q v) : ∃ ns, AttrValN d q v ns := by
  induction h with
  | nil => exact ⟨_, .nil⟩
  | char c v h1 h2 h3 h4 _ ih => obtain ⟨ns, ih⟩ := ih; exact ⟨_, .char c v ns h1 h2 h3 h4 ih⟩
  | ref r v hr _ ih =>
    obtain ⟨n2, ih⟩ := ih
    obtain ⟨n1, hr⟩ := RefN.ofRefText hr
    exact ⟨_, .ref r v n1 n2 hr ih⟩

theorem AttrsN.ofText {d seen t seen'} (h : AttrsText d seen t seen') : ∃ ns, AttrsN d seen t seen' ns := by
  induction h with
  | nil seen => exact ⟨_, .nil seen⟩
  | cons seen a s0 ws1 ws2 ws3 q val rest seen' h1 h2 h3 h4 h5 h6 h7 hv _ ih =>
    obtain ⟨n2, ih⟩ := ih
    obtain ⟨n1, hv⟩ := AttrValN.ofText hv
    exact ⟨_, .cons seen a s0 ws1 ws2 ws3 q val rest seen' n1 n2 h1 h2 h3 h4 h5 h6 h7 hv ih⟩

theorem ValueN.ofGrammar {d v} (h : ValueGrammar d v) : ∃ ns, ValueN d v ns := by
  induction h with
  | nil => exact ⟨_, .nil⟩
  | text c v hc _ ih => obtain ⟨ns, ih⟩ := ih; exact ⟨_, .text c v ns hc ih⟩
  | ref r v hr _ ih =>
    obtain ⟨n2, ih⟩ := ih
    obtain ⟨n1, hr⟩ := RefN.ofRefText hr
    exact ⟨_, .ref r v n1 n2 hr ih⟩
  | elem n attrs ws ws' body v seen' hn ha hws hws' _ _ ihb ihv =>
    obtain ⟨nb, ihb⟩ := ihb
    obtain ⟨nv, ihv⟩ := ihv
    obtain ⟨na, ha⟩ := AttrsN.ofText ha
    exact ⟨_, .elem n attrs ws ws' body v seen' na nb nv hn ha hws hws' ihb ihv⟩
  | empty n attrs ws v seen' hn ha hws _ ihv =>
    obtain ⟨nv, ihv⟩ := ihv
    obtain ⟨na, ha⟩ := AttrsN.ofText ha
    exact ⟨_, .empty n attrs ws v seen' na nv hn ha hws ihv⟩
  | comment body v hb _ ihv => obtain ⟨nv, ihv⟩ := ihv; exact ⟨_, .comment body v nv hb ihv⟩
  | cdata body v hb _ ihv => obtain ⟨nv, ihv⟩ := ihv; exact ⟨_, .cdata body v nv hb ihv⟩
  | pi target v ht hx _ ihv => obtain ⟨nv, ihv⟩ := ihv; exact ⟨_, .pi target v nv ht hx ihv⟩
  | piData target s body v ht hx hs hb _ ihv =>
    obtain ⟨nv, ihv⟩ := ihv; exact ⟨_, .piData target s body v nv ht hx hs hb ihv⟩

/-- the declared list `D` serves the names `ns` as well as `d` does -/
def Keeps (d D ns : List Text) : Prop :=
  ∀ n ∈ ns, (d.contains n || predefined.contains n) = true → (D.contains n || predefined.contains n) = true

theorem Keeps.left {d D a b : List Text} (h : Keeps d D (a ++ b)) : Keeps d D a :=
  fun n hn => h n (List.mem_append_left _ hn)

theorem Keeps.right {d D a b : List Text} (h : Keeps d D (a ++ b)) : Keeps d D b :=
  fun n hn => h n (List.mem_append_right _ hn)

theorem ValueN.overNames {d v ns} (h : ValueN d v ns) :
    ∀ D : List Text, Keeps d D ns → ValueGrammar D v := by
  have href : ∀ {r n1}, RefN d r n1 → ∀ D : List Text, Keeps d D n1 → RefText D r := by
    intro r n1 hr D hD
    cases hr with
    | ent n h1 h2 => exact .ent n h1 (hD n (by simp) h2)
    | dec d0 ds h1 h2 h3 => exact .dec d0 ds h1 h2 h3
    | hex h0 x0 hs h1 h2 h3 => exact .hex h0 x0 hs h1 h2 h3
  have hval : ∀ {q val n1}, AttrValN d q val n1 → ∀ D : List Text, Keeps d D n1 →
      AttrValText D q val := by
    intro q val n1 hv
    induction hv with
    | nil => intro D _; exact .nil
    | char c v ns h1 h2 h3 h4 _ ih => intro D hD; exact .char c v h1 h2 h3 h4 (ih D hD)
    | ref r v n1 n2 hr _ ih =>
      intro D hD
      exact .ref r v (href hr D hD.left) (ih D hD.right)
  have hattrs : ∀ {seen t seen' na}, AttrsN d seen t seen' na → ∀ D : List Text, Keeps d D na →
      AttrsText D seen t seen' := by
    intro seen t seen' na ha
    induction ha with
    | nil seen => intro D _; exact .nil seen
    | cons seen a s0 ws1 ws2 ws3 q val rest seen' n1 n2 h1 h2 h3 h4 h5 h6 h7 hv _ ih =>
      intro D hD
      exact .cons seen a s0 ws1 ws2 ws3 q val rest seen' h1 h2 h3 h4 h5 h6 h7
        (hval hv D hD.left) (ih D hD.right)
  induction h with
  | nil => intro D _; exact .nil
  | text c v ns hc _ ih => intro D hD; exact .text c v hc (ih D hD)
  | ref r v n1 n2 hr _ ih =>
    intro D hD
    exact .ref r v (href hr D hD.left) (ih D hD.right)
  | elem n attrs ws ws' body v seen' na nb nv hn ha hws hws' _ _ ihb ihv =>
    intro D hD
    exact .elem n attrs ws ws' body v seen' hn
      (hattrs ha D hD.left.left) hws hws' (ihb D hD.left.right) (ihv D hD.right)
  | empty n attrs ws v seen' na nv hn ha hws _ ihv =>
    intro D hD
    exact .empty n attrs ws v seen' hn (hattrs ha D hD.left) hws (ihv D hD.right)
  | comment body v nv hb _ ihv => intro D hD; exact .comment body v hb (ihv D hD.right)
  | cdata body v nv hb _ ihv => intro D hD; exact .cdata body v hb (ihv D hD.right)
  | pi target v nv ht hx _ ihv => intro D hD; exact .pi target v ht hx (ihv D hD)
  | piData target s body v nv ht hx hs hb _ ihv =>
    intro D hD; exact .piData target s body v ht hx hs hb (ihv D hD.right)

theorem ValueN.toGrammar {d v ns} (h : ValueN d v ns) : ValueGrammar d v := h.overNames d fun _ _ h => h

/-- names in the Basic Multilingual Plane (the generated Name classes stop at U+FFFD) -/
def Bmp (ns : List Text) : Prop := ∀ n ∈ ns, ∀ c ∈ n, c < 65536

theorem Bmp.left {a b : List Text} (h : Bmp (a ++ b)) : Bmp a := fun n hn => h n (List.mem_append_left _ hn)
theorem Bmp.right {a b : List Text} (h : Bmp (a ++ b)) : Bmp b := fun n hn => h n (List.mem_append_right _ hn)

theorem refRun_noamp : ∀ (l : Text), (∀ c ∈ l, c ≠ 38) → refRun none l = ([], none)
  | [], _ => rfl
  | c :: cs, h => by
    rw [refRun_cons_ne c cs (h c (by simp))]
    exact refRun_noamp cs (fun x hx => h x (by simp [hx]))

theorem refRun_none_append {a b : Text} {na nb : List Text} (ha : refRun none a = (na, none))
    (hb : refRun none b = (nb, none)) : refRun none (a ++ b) = (na ++ nb, none) := by
  rw [refRun_append, ha]; simp only [hb]


theorem noamp_app {a b : Text} (ha : ∀ c ∈ a, c ≠ 38) (hb : ∀ c ∈ b, c ≠ 38) : ∀ c ∈ a ++ b, c ≠ 38 := by
  intro c hc
  rcases List.mem_append.mp hc with h | h
  · exact ha c h
  · exact hb c h

theorem noamp_cons {x : Nat} {l : Text} (hx : x ≠ 38) (hl : ∀ c ∈ l, c ≠ 38) : ∀ c ∈ x :: l, c ≠ 38 := by
  intro c hc
  rcases List.mem_cons.mp hc with rfl | h
  · exact hx
  · exact hl c h

theorem noamp_nil : ∀ c ∈ ([] : Text), c ≠ 38 := by simp

theorem isS_noamp {s : Nat} (h : isS s = true) : s ≠ 38 := by
  rintro rfl; revert h; decide

theorem refRun_term : ∀ (t : Text) (st : Option Text), (∀ c ∈ t, c ≠ 38 ∧ c ≠ 59) →
    refRun st (t ++ [62]) = ([], none)
  | [], st, _ => by
    cases st with
    | none => simp [refRun, refStep]
    | some acc =>
      have : nameStart 62 = false := by decide
      have h2 : nameChar 62 = false := by decide
      cases acc <;> simp [refRun, refStep, this, h2]
  | c :: t, st, h => by
    have hc := h c (by simp)
    have ih := fun st' => refRun_term t st' (fun x hx => h x (by simp [hx]))
    cases st with
    | none => simp [refRun, refStep, hc.1, ih]
    | some acc =>
      simp only [List.cons_append, refRun, refStep, hc.1, hc.2, beq_iff_eq, if_false]
      split <;> split <;> simp [ih]

theorem name_noamp {n : Text} (h : isName n = true) : ∀ c ∈ n, c ≠ 38 := by
  cases n with
  | nil => simp [isName] at h
  | cons a as =>
    simp only [isName, Bool.and_eq_true, List.all_eq_true] at h
    intro c hc
    rcases List.mem_cons.mp hc with rfl | hc
    · exact XmlContent.nameChar_ne (XmlContent.nameStart_nameChar h.1) 38 rfl
    · exact XmlContent.nameChar_ne (h.2 c hc) 38 rfl

theorem all_noamp {p : Nat → Bool} {l : Text} (hp : p 38 = false) (h : l.all p = true) : ∀ c ∈ l, c ≠ 38 := by
  rintro c hc rfl
  rw [List.all_eq_true.mp h 38 hc] at hp
  cases hp

def isBmpName : Text → Bool
  | [] => false
  | c :: cs => nameStart c && cs.all nameChar

theorem isBmpName_iff (n : Text) : isBmpName n = true ↔ isName n = true ∧ ∀ c ∈ n, c < 65536 := by
  cases n with
  | nil => simp [isBmpName, isName]
  | cons c cs =>
    simp only [isBmpName, isName, nameStart, nameChar, Bool.and_eq_true, List.all_eq_true, decide_eq_true_eq,
      List.mem_cons, forall_eq_or_imp]
    constructor
    · rintro ⟨⟨h1, h2⟩, h3⟩
      exact ⟨⟨h1, fun x hx => (h3 x hx).1⟩, h2, fun x hx => (h3 x hx).2⟩
    · rintro ⟨⟨h1, h2⟩, h3, h4⟩
      exact ⟨⟨h1, h3⟩, fun x hx => ⟨h2 x hx, h4 x hx⟩⟩

theorem refRun_ent {n : Text} (hn : isBmpName n = true) (st : Option Text) :
    refRun st (38 :: n ++ [59]) = ([n], none) := by
  cases n with
  | nil => cases hn
  | cons c cs =>
    simp only [isBmpName, Bool.and_eq_true] at hn
    rw [List.cons_append, List.cons_append, refRun_block hn.1 hn.2]
    rfl

/-- All the `eref` scan can tell apart in a grammar value: text without `&`, `&name;`, a character reference, an opaque
    body up to the `>` of its terminator.  What holds of these and is closed under `++` holds of the value and its names. -/
theorem ValueN.segs {M : Text → List Text → Prop}
    (app : ∀ {a b : Text} {na nb : List Text}, M a na → M b nb → M (a ++ b) (na ++ nb))
    (plain : ∀ a : Text, (∀ c ∈ a, c ≠ 38) → M a [])
    (ent : ∀ n : Text, isName n = true → M (38 :: n ++ [59]) [n])
    (cref : ∀ a : Text, (∀ c ∈ a, c ≠ 38) → M (38 :: 35 :: a) [])
    (opq : ∀ body t : Text, (∀ c ∈ t, c ≠ 38 ∧ c ≠ 59) → M (body ++ (t ++ [62])) (plainRefs body))
    {d v ns} (h : ValueN d v ns) : M v ns := by
  have pl : ∀ {a b : Text} {nb : List Text}, (∀ c ∈ a, c ≠ 38) → M b nb → M (a ++ b) nb :=
    fun ha hb => app (plain _ ha) hb
  have pr : ∀ {a b : Text} {na : List Text}, M a na → (∀ c ∈ b, c ≠ 38) → M (a ++ b) na :=
    fun ha hb => by simpa using app ha (plain _ hb)
  have href : ∀ {r n1}, RefN d r n1 → M r n1 := by
    intro r n1 hr
    cases hr with
    | ent n hn _ => exact ent n hn
    | dec d0 ds h0 hds _ =>
      exact cref (d0 :: ds ++ [59]) (noamp_cons (by rintro rfl; revert h0; decide) (noamp_app (all_noamp rfl hds) (by decide)))
    | hex h0 x0 hs hh0 hhs _ =>
      exact cref (120 :: h0 :: hs ++ [59]) (noamp_cons (by decide) (noamp_cons (by rintro rfl; simp [hexVal] at hh0)
        (noamp_app (all_noamp rfl hhs) (by decide))))
  have hval : ∀ {q val n1}, AttrValN d q val n1 → M val n1 := by
    intro q val n1 hv
    induction hv with
    | nil => exact plain [] noamp_nil
    | char c v ns _ _ h38 _ _ ih => exact pl (a := [c]) (noamp_cons h38 noamp_nil) ih
    | ref r v n1 n2 hr _ ih => exact app (href hr) ih
  have hattrs : ∀ {seen t seen' na}, AttrsN d seen t seen' na → M t na := by
    intro seen t seen' na ha
    induction ha with
    | nil seen => exact plain [] noamp_nil
    | cons seen a s0 ws1 ws2 ws3 q val rest seen' n1 n2 hs0 h1 h2 h3 ha _ hq hv _ ih =>
      have hq38 : ∀ c ∈ [q], c ≠ 38 := noamp_cons (by rcases hq with rfl | rfl <;> decide) noamp_nil
      exact app (pr (pl (noamp_app (noamp_app (noamp_app (noamp_app (noamp_app (noamp_cons (isS_noamp hs0) (all_noamp rfl h1))
        (name_noamp ha)) (all_noamp rfl h2)) (by decide)) (all_noamp rfl h3)) hq38) (hval hv)) hq38) ih
  induction h with
  | nil => exact plain [] noamp_nil
  | text c v ns hc _ ih => exact pl (a := [c]) (noamp_cons (by rintro rfl; revert hc; decide) noamp_nil) ih
  | ref r v n1 n2 hr _ ih => exact app (href hr) ih
  | elem n attrs ws ws' body v seen' na nb nv hn ha hws hws' _ _ ihb ihv =>
    exact app (pr (pr (pr (pr (app (pr (pr (pl (noamp_cons (by decide) (name_noamp hn)) (hattrs ha)) (all_noamp rfl hws))
      (by decide)) ihb) (by decide)) (name_noamp hn)) (all_noamp rfl hws')) (by decide)) ihv
  | empty n attrs ws v seen' na nv hn ha hws _ ihv =>
    exact app (pr (pr (pl (noamp_cons (by decide) (name_noamp hn)) (hattrs ha)) (all_noamp rfl hws)) (by decide)) ihv
  | comment body v nv _ _ ihv => exact pl (a := [60, 33, 45, 45]) (by decide) (app (opq body [45, 45] (by decide)) ihv)
  | cdata body v nv _ _ ihv =>
    exact pl (a := [60, 33, 91, 67, 68, 65, 84, 65, 91]) (by decide) (app (opq body [93, 93] (by decide)) ihv)
  | pi target v nv ht _ _ ihv => exact pl (noamp_app (noamp_app (by decide) (name_noamp ht)) (by decide)) ihv
  | piData target s body v nv ht _ hs _ _ ihv =>
    have e : [60, 63] ++ target ++ s :: body ++ [63, 62] ++ v
        = ([60, 63] ++ target ++ [s]) ++ (body ++ ([63] ++ [62]) ++ v) := by simp
    rw [e]
    exact pl (noamp_app (noamp_app (by decide) (name_noamp ht)) (noamp_cons (isS_noamp hs) noamp_nil))
      (app (opq body [63] (by decide)) ihv)

theorem refRun_value {d v ns} (h : ValueN d v ns) : Bmp ns → refRun none v = (ns, none) := by
  refine h.segs (M := fun t ns => Bmp ns → refRun none t = (ns, none)) ?_ ?_ ?_ ?_ ?_
  · intro a b na nb ha hb h; exact refRun_none_append (ha h.left) (hb h.right)
  · intro a ha _; exact refRun_noamp a ha
  · intro n hn hb; exact refRun_ent ((isBmpName_iff n).mpr ⟨hn, hb n (by simp)⟩) none
  · intro a ha _
    have : refRun none (38 :: 35 :: a) = refRun none a := by
      simp [refRun, refStep, (by decide : nameStart 35 = false)]
    rw [this]; exact refRun_noamp a ha
  · intro body t ht _
    rw [refRun_append, refRun_term t _ ht]
    simp [plainRefs]

theorem erefNames_of_valueN {d v ns} (h : ValueN d v ns) (hb : Bmp ns) : Dtd.erefNames v = ns := by
  rw [erefNames_eq_plainRefs, plainRefs, refRun_value h hb]

theorem mem_erefNames_sound {v n : Text} (h : n ∈ Dtd.erefNames v) :
    isBmpName n = true ∧ ∃ a b, v = a ++ (38 :: n ++ [59]) ++ b := by
  rw [show Dtd.erefNames v = (Rx.finditer v.toArray Gen.Pat.DTDChecker_eref).filterMap (nameOf v.toArray) from rfl] at h
  obtain ⟨⟨q, st⟩, hp, hn⟩ := List.mem_filterMap.mp h
  obtain ⟨hm, hle⟩ := (Rx.finditer_matches v.toArray _ minLen_eref).mem _ hp
  rw [eref_local _ _ hle] at hm
  obtain ⟨c, tw, tail, hl, hns, hall, hst⟩ := erefAt_some hm
  simp only at hst hl
  subst hst
  rw [nameOf_block hl, Option.some.injEq] at hn
  subst hn
  refine ⟨by simp [isBmpName, hns, hall], v.take q, tail, ?_⟩
  have hv : v = v.take q ++ v.drop q := (List.take_append_drop q v).symm
  rw [hl] at hv
  simpa using hv

theorem plainRefs_chars (l : Text) (P : Nat → Prop) (h : ∀ c ∈ l, P c) : ∀ n ∈ plainRefs l, ∀ c ∈ n, P c := by
  intro n hn c hc
  rw [← erefNames_eq_plainRefs] at hn
  obtain ⟨-, a, b, hab⟩ := mem_erefNames_sound hn
  exact h c (by rw [hab]; simp [hc])


theorem ValueN.chars {d v ns} (h : ValueN d v ns) (P : Nat → Prop) : (∀ c ∈ v, P c) → ∀ n ∈ ns, ∀ c ∈ n, P c := by
  refine h.segs (M := fun t ns => (∀ c ∈ t, P c) → ∀ n ∈ ns, ∀ c ∈ n, P c) ?_ ?_ ?_ ?_ ?_
  · intro a b na nb ha hb hP n hn
    rcases List.mem_append.mp hn with hn | hn
    · exact ha (fun x hx => hP x (List.mem_append_left _ hx)) n hn
    · exact hb (fun x hx => hP x (List.mem_append_right _ hx)) n hn
  · intro a _ _ n hn; cases hn
  · intro n _ hP m hm c hc
    rw [List.mem_singleton.mp hm] at hc
    exact hP c (by simp [hc])
  · intro a _ _ n hn; cases hn
  · intro body t _ hP
    exact plainRefs_chars body P (fun x hx => hP x (List.mem_append_left _ hx))

theorem grammar_over_erefNames {d v} (h : ValueGrammar d v) (hb : ∀ c ∈ v, c < 65536) :
    ValueGrammar (Dtd.erefNames v) v := by
  obtain ⟨ns, hn⟩ := ValueN.ofGrammar h
  have hbmp : Bmp ns := hn.chars (fun c => c < 65536) hb
  rw [erefNames_of_valueN hn hbmp]
  exact hn.overNames ns (fun n hn' _ => by simp [hn'])

theorem refRun_occurs (a b n : Text) (hn : isName n = true) (hb : ∀ c ∈ n, c < 65536) (st : Option Text) :
    n ∈ (refRun st (a ++ (38 :: n ++ [59]) ++ b)).1 := by
  rw [List.append_assoc, refRun_append, refRun_append, refRun_ent ((isBmpName_iff n).mpr ⟨hn, hb⟩)]
  simp

theorem mem_erefNames_of_occurs (v a b n : Text) (hn : isName n = true) (hb : ∀ c ∈ n, c < 65536)
    (hv : v = a ++ (38 :: n ++ [59]) ++ b) : n ∈ Dtd.erefNames v := by
  rw [erefNames_eq_plainRefs, plainRefs, hv]
  exact refRun_occurs a b n hn hb none

theorem mem_erefNames_iff (v n : Text) :
    n ∈ Dtd.erefNames v ↔ isBmpName n = true ∧ ∃ a b, v = a ++ (38 :: n ++ [59]) ++ b := by
  constructor
  · exact mem_erefNames_sound
  · rintro ⟨hn, a, b, hv⟩
    obtain ⟨h1, h2⟩ := (isBmpName_iff n).mp hn
    exact mem_erefNames_of_occurs v a b n h1 h2 hv

end C07E
