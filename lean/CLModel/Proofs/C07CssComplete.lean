/-
`parse_css_spec` on arbitrary texts: every text is either free of declarations or a chain `SpecT` (C08CLoop) of its
leftmost declarations (`specT_total`, `parse_total`), and a chain without errors is a text of the grammar
(`specT_clean`, for `C07.css_complete`): the converse of C08CReject.  Then the alphabet of the grammar (`cssChar`, the
`*_chars` lemmas: Unicode white space and digits are outside it) and `parse_errors_ne_nil`.
-/
import CLModel.Proofs.C08CReject
namespace C07G
open C08C

theorem extract_drop' (s : Array Nat) (q e : Nat) (g rest : Text) (h : s.toList.drop e = g ++ rest)
    (hq : q = e + g.length) : (s.extract 0 q).toList.drop e = g :=
  extract_drop s q e g rest h hq

theorem exists_least (P : Nat → Prop) : ∀ n, P n → ∃ i, P i ∧ ∀ j, j < i → ¬ P j := by
  intro n
  induction n using Nat.strongRecOn with
  | ind n ih =>
    intro hn
    by_cases h : ∃ j, j < n ∧ P j
    · obtain ⟨j, hj, hp⟩ := h
      exact ih j hj hp
    · exact ⟨n, hn, fun j hj hp => h ⟨j, hj, hp⟩⟩

theorem specT_total (t : Text) (f : Bool) (off : Nat) (h : ∃ i, i < t.length ∧ DeclHere (t.drop i)) :
    ∃ ds errs, SpecT f off ds t errs := by
  induction hn : t.length using Nat.strongRecOn generalizing t f off with
  | ind n ih =>
    obtain ⟨i0, hi0, hd0⟩ := h
    obtain ⟨i, ⟨hi, d, rest, hd, hdr⟩, hmin⟩ :=
      exists_least (fun i => i < t.length ∧ DeclHere (t.drop i)) i0 ⟨hi0, hd0⟩
    have ht : t = t.take i ++ (d.text ++ rest) := by rw [← hdr]; simp
    have hgl : (t.take i).length = i := by simp; omega
    have hng : NoDeclIn (t.take i).length (t.take i ++ (d.text ++ rest)) := by
      rw [← ht, hgl]
      intro j hj hdj
      exact hmin j hj ⟨by omega, hdj⟩
    have hlen : 0 < d.text.length := decl_text_pos hd
    have hrl : rest.length < t.length := by
      have := congrArg List.length ht
      simp only [List.length_append] at this
      omega
    by_cases hmore : ∃ j, j < rest.length ∧ DeclHere (rest.drop j)
    · obtain ⟨ds, errs, hs⟩ := ih rest.length (by omega) rest false (off + (t.take i).length + d.text.length) hmore rfl
      have key := SpecT.cons f off (t.take i) d ds rest errs hd hng hs
      rw [← ht] at key
      exact ⟨_, _, key⟩
    · have key := SpecT.last f off (t.take i) d rest hd hng (fun j hj hdj => hmore ⟨j, hj, hdj⟩)
      rw [← ht] at key
      exact ⟨_, _, key⟩

theorem errAt_nil {pos : Nat} {c : Option Dtd.CssCode} (h : errAt pos c = []) : c = none := by
  cases c with
  | none => rfl
  | some x => simp [errAt] at h

theorem gapCode_none {f : Bool} {g : Text} (h : gapCode f g = none) : (f = true → IsEdge g) ∧ (f = false → IsSep g) := by
  unfold gapCode at h
  cases f with
  | true =>
    simp only [if_true] at h
    refine ⟨fun _ => ?_, fun hf => by cases hf⟩
    by_cases he : IsEdge g
    · exact he
    · rw [if_neg he] at h; cases h
  | false =>
    simp only [Bool.false_eq_true, if_false] at h
    refine ⟨fun hf => (by cases hf), fun _ => ?_⟩
    by_cases hs : IsSep g
    · exact hs
    · rw [if_neg hs] at h
      split at h <;> cases h

theorem trailCode_none {g : Text} (h : trailCode g = none) : IsEdge g := by
  unfold trailCode at h
  by_cases he : IsEdge g
  · exact he
  · rw [if_neg he] at h; cases h

theorem specT_clean : ∀ {f : Bool} {off : Nat} {ds : List Decl} {t : Text} {errs : List Dtd.CssErr},
    SpecT f off ds t errs → errs = [] →
    ∃ gap body trail, t = gap ++ (body ++ trail) ∧ gapCode f gap = none ∧ DeclsText ds body ∧ IsEdge trail := by
  intro f off ds t errs h
  induction h with
  | last f off gap d trail hd _ _ =>
    intro he
    obtain ⟨h1, h2⟩ := List.append_eq_nil_iff.mp he
    exact ⟨gap, d.text, trail, rfl, errAt_nil h1, DeclsText.one d hd, trailCode_none (errAt_nil h2)⟩
  | cons f off gap d ds t errs hd _ _ ih =>
    intro he
    obtain ⟨h1, h2⟩ := List.append_eq_nil_iff.mp he
    obtain ⟨gap', body', trail', rfl, hg', hb', ht'⟩ := ih h2
    refine ⟨gap, d.text ++ (gap' ++ body'), trail', by simp, errAt_nil h1, ?_, ht'⟩
    exact DeclsText.cons d gap' ds body' hd ((gapCode_none hg').2 rfl) hb'

theorem optOf_none {l : List Dtd.CssErr} (h : optOf l = none) : l = [] := by
  cases l with
  | nil => rfl
  | cons x xs => simp [optOf] at h

theorem parse_total (v : Text) :
    (NoDeclIn v.length v ∧ Dtd.parseCssSpec v = (none, none)) ∨
    ∃ ds errs, SpecT true 0 ds v errs ∧ Dtd.parseCssSpec v = (some (declMap ds), optOf errs) := by
  by_cases h : ∃ i, i < v.length ∧ DeclHere (v.drop i)
  · right
    obtain ⟨ds, errs, hs⟩ := specT_total v true 0 h
    exact ⟨ds, errs, hs, parse_of_specT ds v errs hs⟩
  · left
    have hn : NoDeclIn v.length v := fun i hi hd => h ⟨i, hi, hd⟩
    exact ⟨hn, parse_none v hn⟩

/-- the characters that can occur in a text of the grammar -/
def cssChar (c : Nat) : Bool :=
  isWs c || c == 59 || c == 58 || isDig c || c == 46 || cssProps.any (·.contains c) || cssUnits.any (·.contains c)

theorem isEdge_chars {g : Text} (h : IsEdge g) : ∀ c ∈ g, cssChar c = true := by
  intro c hc
  rcases h with h | ⟨a, b, rfl, ha, hb⟩
  · have := List.all_eq_true.mp h c hc
    simp [cssChar, this]
  · simp only [List.mem_append, List.mem_cons] at hc
    rcases hc with hc | rfl | hc
    · have := List.all_eq_true.mp ha c hc; simp [cssChar, this]
    · simp [cssChar]
    · have := List.all_eq_true.mp hb c hc; simp [cssChar, this]

theorem isNumber_chars {n : Text} (h : IsNumber n) : ∀ c ∈ n, cssChar c = true := by
  intro c hc
  cases h with
  | int ds _ hd => have := List.all_eq_true.mp hd c hc; simp [cssChar, this]
  | frac ds fs hd _ hf =>
    simp only [List.mem_append, List.mem_cons] at hc
    rcases hc with hc | rfl | hc
    · have := List.all_eq_true.mp hd c hc; simp [cssChar, this]
    · simp [cssChar]
    · have := List.all_eq_true.mp hf c hc; simp [cssChar, this]

theorem decl_chars {d : Decl} (hd : d.Ok) : ∀ c ∈ d.text, cssChar c = true := by
  intro c hc
  simp only [Decl.text, List.mem_append, List.mem_cons] at hc
  rcases hc with hc | hc | rfl | hc | hc | hc
  · have : cssProps.any (·.contains c) = true := List.any_eq_true.mpr ⟨d.prop, hd.prop, by simpa using hc⟩
    unfold cssChar; rw [this]; simp
  · have := List.all_eq_true.mp hd.ws1 c hc; simp [cssChar, this]
  · simp [cssChar]
  · have := List.all_eq_true.mp hd.ws2 c hc; simp [cssChar, this]
  · exact isNumber_chars hd.num c hc
  · have : cssUnits.any (·.contains c) = true := List.any_eq_true.mpr ⟨d.unit, hd.unit, by simpa using hc⟩
    unfold cssChar; rw [this]; simp

theorem declsText_chars {ds : List Decl} {t : Text} (h : DeclsText ds t) : ∀ c ∈ t, cssChar c = true := by
  induction h with
  | one d hd => exact decl_chars hd
  | cons d sep ds t hd hsep _ ih =>
    intro c hc
    simp only [List.mem_append] at hc
    rcases hc with hc | hc | hc
    · exact decl_chars hd c hc
    · exact isEdge_chars (Or.inr hsep) c hc
    · exact ih c hc

theorem cssSpec_chars {ds : List Decl} {v : Text} (h : CssSpec ds v) : ∀ c ∈ v, cssChar c = true := by
  cases h with
  | mk lead t trail ds hl ht htr =>
    intro c hc
    simp only [List.mem_append] at hc
    rcases hc with hc | hc | hc
    · exact isEdge_chars hl c hc
    · exact declsText_chars ht c hc
    · exact isEdge_chars htr c hc

/-- Unicode white space and Unicode digits are outside the alphabet -/
theorem foreign_chars : cssChar 160 = false ∧ cssChar 0x3000 = false ∧ cssChar 0x2003 = false ∧ cssChar 0x2028 = false ∧
    cssChar 0x85 = false ∧ cssChar 11 = false ∧ cssChar 12 = false ∧ cssChar 0x1f = false ∧ cssChar 0x663 = false ∧
    cssChar 0xFF13 = false := by decide +kernel

theorem parse_errors_ne_nil (v : Text) : (Dtd.parseCssSpec v).2 ≠ some [] := by
  rcases parse_total v with ⟨_, hn⟩ | ⟨ds, errs, _, hp⟩
  · rw [hn]; simp
  · rw [hp]; exact optOf_ne errs

end C07G
