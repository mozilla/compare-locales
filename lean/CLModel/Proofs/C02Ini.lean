/- C02, ini: one `key=value` record — the key regex on it, stated position by position (`IniRecAt`), and the safe record as
   a text. -/
import CLModel.Proofs.C02PCore
namespace P
open Rx Gen.Pat

/-- at `off` the text reads key `=` value and then a newline or the end of the text -/
structure IniRecAt (s : Array Nat) (off klen vlen : Nat) : Prop where
  klen_pos : 0 < klen
  first : ∃ c, s[off]? = some c ∧ c ≠ 91 ∧ c ≠ 59 ∧ c ≠ 35 ∧ c ≠ 32 ∧ c ≠ 9 ∧ c ≠ 13 ∧ c ≠ 10
  key : ∀ j, j < klen → ∃ c, s[off + j]? = some c ∧ c ≠ 10 ∧ c ≠ 61
  eq : s[off + klen]? = some 61
  val : ∀ j, j < vlen → ∃ c, s[off + klen + 1 + j]? = some c ∧ c ≠ 10
  stop : s[off + klen + 1 + vlen]? = none ∨ s[off + klen + 1 + vlen]? = some 10

def iniEntity (off klen vlen : Nat) : Entry :=
  { kind := .entity, full := off, s := off, e := off + klen + 1 + vlen, ks := off, ke := (off + klen : Nat),
    vs := (off + klen + 1 : Nat), ve := (off + klen + 1 + vlen : Nat), pc := none }

theorem ini_key_match (s : Array Nat) (off klen vlen : Nat) (h : IniRecAt s off klen vlen) :
    matchAt s IniParser_reKey off =
      some ⟨off + klen + 1 + vlen, [(2, off + klen + 1, off + klen + 1 + vlen), (1, off, off + klen)]⟩ := by
  have hkp := h.klen_pos
  obtain ⟨c0, hc0, hc0a, _⟩ := h.key 0 hkp
  simp only [Nat.add_zero] at hc0
  have hsz : off + klen < s.size := getElem?_some_lt h.eq
  have hvl : off + klen + 1 + vlen ≤ s.size := by
    cases vlen with
    | zero => omega
    | succ v => obtain ⟨c, hc, _⟩ := h.val v (by omega); have := getElem?_some_lt hc; omega
  simp only [matchAt, IniParser_reKey, m_seq_def, m_group_def, m_rep_def, m_any_charStep]
  -- the mandatory first iteration of `.+?`, then the lazy rest up to the `=`
  obtain ⟨f, hf⟩ : ∃ f, s.size + 2 - off = f + 1 := ⟨s.size + 1 - off, by omega⟩
  rw [hf, loop_step _ false f 1 ⟨off, []⟩ ⟨off + 1, []⟩ _ (Nat.lt_succ_self off)
    (C02X.charStep_ok s _ off c0 [] hc0 (by simp [hc0a])), if_pos (Nat.lt_succ_self 0)]
  apply loop_lazy_hit s _ [] _ _ (klen - 1) f (off + 1) (by omega)
  · intro j hj
    obtain ⟨c, hc, hne, hne2⟩ := h.key (j + 1) (by omega)
    rw [show off + (j + 1) = off + 1 + j by omega] at hc
    exact ⟨⟨c, hc, by simp [hne]⟩, m_lit_fail (c := 61) (by simp [hc, hne2]) _ _⟩
  · rw [show off + 1 + (klen - 1) = off + klen by omega, m_lit_ok h.eq]
    -- `.*` runs over the value and stops at the newline or the end of the text
    apply C02X.charLoop_hit s _ _ _ _ vlen _ (off + klen + 1) 0 (by simp only []; omega) (Nat.zero_le _)
    · intro j hj
      obtain ⟨c, hc, hne⟩ := h.val j hj
      exact ⟨c, hc, by simp [hne]⟩
    · intro c hc
      rcases h.stop with hs | hs <;> rw [hs] at hc <;> cases hc
      decide
    · rfl

end P

namespace C02X
open P C02P

/-- key: non-empty, no newline and no `=`, not starting with `[ ; #` or white-space; value: no newline -/
structure SafeIniRec (r : PRec) : Prop where
  key_ne : r.1 ≠ []
  key : ∀ c ∈ r.1, c ≠ 10 ∧ c ≠ 61
  key_head : ∀ c, r.1.head? = some c → c ≠ 91 ∧ c ≠ 59 ∧ c ≠ 35 ∧ c ≠ 32 ∧ c ≠ 9 ∧ c ≠ 13
  val : ∀ c ∈ r.2, c ≠ 10

theorem iniRecAt_of_drop (s : Array Nat) (off : Nat) (r : PRec) (rest : List Nat) (hs : SafeIniRec r)
    (h : s.toList.drop off = printRec r ++ rest) : IniRecAt s off r.1.length r.2.length := by
  have hK : At s off (r.1 ++ ([61] ++ (r.2 ++ 10 :: rest))) := by rw [At, h]; simp [printRec]
  have hV : At s (off + r.1.length + 1) (r.2 ++ 10 :: rest) := hK.app.app
  have hkl : 0 < r.1.length := List.length_pos_iff.mpr hs.key_ne
  refine ⟨hkl, ?_, fun j hj => ⟨_, hK.left j hj, hs.key _ (List.getElem_mem hj)⟩, hK.app.hd,
    fun j hj => ⟨_, hV.left j hj, hs.val _ (List.getElem_mem hj)⟩, Or.inr hV.app.hd⟩
  have a := hs.key_head r.1[0] (by rw [List.head?_eq_getElem?, List.getElem?_eq_getElem hkl])
  exact ⟨r.1[0], hK.left 0 hkl, a.1, a.2.1, a.2.2.1, a.2.2.2.1, a.2.2.2.2.1, a.2.2.2.2.2,
    (hs.key _ (List.getElem_mem hkl)).1⟩

end C02X
