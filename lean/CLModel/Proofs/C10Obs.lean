/-
The `Observer` / `ObserverList` model in closed form, for C10.  `notify` is one formula (`notify_eq`); summary and error flag
are a pure fold over the events (`Core`, `coreRun`), independent of quiet level and details; the details tree gains at most
one `appendDetail` per event (`detStep`), so after a history each path holds `detailsSpec`.  An `ObserverList` steps every
project observer and, unless all of them ignore the event, its own (`list_step_iff`, `list_run_spec`).
-/
import CLModel.Compare.Observer
import CLModel.Proofs.C10Tree
namespace ObsM
open TreeM

def Cat.isFile : Cat → Bool
  | .missingFile | .obsoleteFile => true
  | _ => false

def Cat.isError : Cat → Bool
  | .error => true
  | _ => false

/-- the value `notify` returns: the filter's answer (asked without entity for file categories) -/
def rvOf (flt : Option Filter) (cat : Cat) (file : File) (data : Data) : Ret :=
  match flt with
  | none => .error
  | some f => if cat.isFile then f file .none else f file data

/-- is a non-ignored notification of this category stored in the details at this quiet level? -/
def shows (q : Nat) : Cat → Bool
  | .missingFile => q < 2
  | .obsoleteFile => q == 0
  | .missingEntity => q < 2
  | .obsoleteEntity => q < 1
  | .error => q < 4
  | .warning => q < 3
  | .other => false

def detailOf (cat : Cat) (rv : Ret) (data : Data) : Detail :=
  if cat.isFile then (cat, .ret rv) else (cat, .data data)

/-- the summary counter a notification bumps -/
def countKey : Cat → Option StatKey
  | .error => some .errors
  | .warning => some .warnings
  | _ => none

def bumpCat (s : Summary) (loc : Option Text) (cat : Cat) : Summary :=
  match countKey cat with
  | some k => bump s loc k 1
  | none => s

theorem notify_eq (o : Obs) (cat : Cat) (file : File) (data : Data) :
    o.notify cat file data =
      (let rv := rvOf o.filter cat file data
       if rv = .ignore then pure (o, rv)
       else do
         let d ← if shows o.quiet cat then appendDetail o.details file (detailOf cat rv data) else pure o.details
         pure ({ o with details := d, error := o.error || cat.isError,
                        summary := bumpCat o.summary file.locale cat }, rv)) := by
  obtain ⟨q, flt, s, d, e⟩ := o
  cases cat <;> cases flt <;>
    simp +decide [Obs.notify, rvOf, Cat.isError, shows, detailOf, countKey, bumpCat, bind, Except.bind, pure, Except.pure]
  all_goals
    by_cases h2 : 2 ≤ q
    · have h2' : ¬ q < 2 := by omega
      have h0 : ¬ q = 0 := by omega
      simp [h2, h2', h0]
    · have h2' : q < 2 := by omega
      simp [h2, h2']

abbrev Core := Summary × Bool

def Obs.core (o : Obs) : Core := (o.summary, o.error)

def coreNotify (ign : Bool) (c : Core) (cat : Cat) (loc : Option Text) : Core :=
  if ign then c else (bumpCat c.1 loc cat, c.2 || cat.isError)

def coreAddStats (c : Core) (loc : Option Text) : List (StatKey × Nat) → Core
  | [] => c
  | (k, v) :: rest => coreAddStats (bump c.1 loc k v, c.2 || (k == .errors)) loc rest

def coreEv (ign : Ev → Bool) (c : Core) (ev : Ev) : Core :=
  match ev with
  | .notify cat f _ => coreNotify (ign ev) c cat f.locale
  | .stats f st => if ign ev then c else coreAddStats c f.locale st

def coreRun (ign : Ev → Bool) (c : Core) (h : List Ev) : Core := h.foldl (coreEv ign) c

/-- does an observer with this filter ignore the event? -/
def ignObs (flt : Option Filter) : Ev → Bool
  | .notify cat f d => rvOf flt cat f d == .ignore
  | .stats f _ => match flt with
    | some g => g f (.str []) == .ignore
    | none => false

/-- does the `ObserverList` ignore the event?  (`updateStats` is never filtered by the list) -/
def ignList (flts : List (Option Filter)) : Ev → Bool
  | .notify cat f d => flts.all (fun flt => rvOf flt cat f d == .ignore)
  | .stats _ _ => false

theorem addStats_eq (o : Obs) (loc : Option Text) (st : List (StatKey × Nat)) :
    o.addStats loc st = { o with summary := (coreAddStats o.core loc st).1, error := (coreAddStats o.core loc st).2 } := by
  induction st generalizing o with
  | nil => rfl
  | cons kv rest ih =>
    obtain ⟨k, v⟩ := kv
    simp only [Obs.addStats, coreAddStats]
    cases hk : (k == StatKey.errors) <;> simp [ih, Obs.core]

/-- the details tree after an event: one `appendDetail` for a notification that is neither ignored nor hidden -/
def detStep (o : Obs) : Ev → Except PyErr (Tree Detail)
  | .notify cat f d =>
    if rvOf o.filter cat f d ≠ .ignore ∧ shows o.quiet cat = true
    then appendDetail o.details f (detailOf cat (rvOf o.filter cat f d) d) else .ok o.details
  | .stats _ _ => .ok o.details

def Obs.after (o : Obs) (ev : Ev) (t : Tree Detail) : Obs :=
  { o with details := t, summary := (coreEv (ignObs o.filter) o.core ev).1, error := (coreEv (ignObs o.filter) o.core ev).2 }

theorem notify_after (o : Obs) (cat : Cat) (f : File) (d : Data) :
    o.notify cat f d = (detStep o (.notify cat f d)).map fun t => (o.after (.notify cat f d) t, rvOf o.filter cat f d) := by
  rw [notify_eq]
  simp only [detStep, Obs.after, coreEv, coreNotify, ignObs, Obs.core]
  by_cases hi : rvOf o.filter cat f d = Ret.ignore
  · simp [hi, pure, Except.pure, Except.map]
  · cases hs : shows o.quiet cat
    · simp [hi, pure, Except.pure, Except.map, bind, Except.bind]
    · simp only [hi, ↓reduceIte, beq_iff_eq, not_false_eq_true, and_self, ne_eq, bind, Except.bind, pure, Except.pure]
      cases appendDetail o.details f (detailOf cat (rvOf o.filter cat f d) d) <;> simp [Except.map]

theorem Obs.step_eq (o : Obs) (ev : Ev) : o.step ev = (detStep o ev).map (o.after ev) := by
  cases ev with
  | notify cat f d =>
    simp only [Obs.step, notify_after, bind, Except.bind]
    cases detStep o (.notify cat f d) <;> rfl
  | stats f st =>
    obtain ⟨q, flt, s, t, e⟩ := o
    cases flt with
    | none => simp [Obs.step, detStep, Except.map, pure, Except.pure, Obs.after, coreEv, ignObs, Obs.updateStats, addStats_eq, Obs.core]
    | some g =>
      cases hg : (g f (Data.str []) == Ret.ignore) <;>
        simp [Obs.step, detStep, Except.map, pure, Except.pure, Obs.after, coreEv, ignObs, Obs.updateStats, addStats_eq, Obs.core, hg]

theorem Obs.step_iff {o o1 : Obs} {ev : Ev} : o.step ev = .ok o1 ↔ ∃ t, detStep o ev = .ok t ∧ o1 = o.after ev t := by
  rw [Obs.step_eq]
  cases detStep o ev <;> simp [Except.map, eq_comm]

theorem Obs.step_core {o o1 : Obs} {ev : Ev} (hs : o.step ev = .ok o1) :
    o1.core = coreEv (ignObs o.filter) o.core ev ∧ o1.filter = o.filter ∧ o1.quiet = o.quiet := by
  obtain ⟨t, _, rfl⟩ := Obs.step_iff.1 hs
  exact ⟨rfl, rfl, rfl⟩

theorem notify_eq_step (o : Obs) (cat : Cat) (f : File) (d : Data) :
    o.notify cat f d = (o.step (.notify cat f d)).map fun o' => (o', rvOf o.filter cat f d) := by
  rw [notify_after, Obs.step_eq]
  cases detStep o (.notify cat f d) <;> rfl

theorem notify_ok {o o' : Obs} {cat file data rv} (h : o.notify cat file data = .ok (o', rv)) :
    rv = rvOf o.filter cat file data ∧ o.step (.notify cat file data) = .ok o' := by
  rw [notify_eq_step] at h
  cases hs : o.step (.notify cat file data) with
  | error e => rw [hs] at h; cases h
  | ok o1 => rw [hs] at h; cases h; exact ⟨rfl, rfl⟩

theorem notify_of_step {o o1 : Obs} {cat f d} (hs : o.step (.notify cat f d) = .ok o1) :
    o.notify cat f d = .ok (o1, rvOf o.filter cat f d) := by
  rw [notify_eq_step, hs]; rfl


theorem getCount_bump (s : Summary) (loc' loc : Option Text) (key' key : StatKey) (n : Nat) :
    getCount (bump s loc' key' n) loc key = getCount s loc key + (if loc' = loc ∧ key' = key then n else 0) := by
  induction s with
  | nil =>
    simp only [bump, getCount, List.find?_cons, List.find?_nil]
    by_cases hl : loc' = loc
    · subst hl
      by_cases hk : key = key'
      · simp [Counters.add, Counters.zero, hk]
      · have hk' : ¬ key' = key := fun h => hk h.symm
        simp [Counters.add, Counters.zero, hk, hk']
    · have : (loc' == loc) = false := by simpa using hl
      simp [this, hl]
  | cons p rest ih =>
    simp only [bump]
    by_cases hp : (p.1 == loc') = true
    · have hp' : p.1 = loc' := by simpa using hp
      simp only [hp, ↓reduceIte, getCount, List.find?_cons]
      by_cases hl : loc' = loc
      · subst hl
        by_cases hk : key = key'
        · simp [hp, Counters.add, hk]
        · have hk' : ¬ key' = key := fun h => hk h.symm
          simp [hp, Counters.add, hk, hk']
      · have : (p.1 == loc) = false := by rw [hp']; simpa using hl
        simp [this, hl]
    · have hpf : (p.1 == loc') = false := by simpa using hp
      simp only [hpf, Bool.false_eq_true, ↓reduceIte]
      unfold getCount at ih ⊢
      simp only [List.find?_cons]
      cases hpl : (p.1 == loc)
      · exact ih
      · have : ¬ loc' = loc := by
          intro h; subst h; rw [hpl] at hpf; cases hpf
        simp [this]

theorem totalErrors_bump (s : Summary) (loc : Option Text) (key : StatKey) (n : Nat) :
    totalErrors (bump s loc key n) = totalErrors s + (if key = .errors then n else 0) := by
  induction s with
  | nil => by_cases hk : key = .errors <;> simp [bump, totalErrors, Counters.add, Counters.zero, hk, eq_comm]
  | cons p rest ih =>
    simp only [bump]
    by_cases hp : (p.1 == loc) = true
    · by_cases hk : key = .errors
      · subst hk; simp [hp, totalErrors, Counters.add]; omega
      · simp [hp, totalErrors, Counters.add, hk, eq_comm]
    · have hpf : (p.1 == loc) = false := by simpa using hp
      simp only [hpf, Bool.false_eq_true, ↓reduceIte]
      simp only [totalErrors, List.map_cons, List.sum_cons] at ih ⊢
      rw [ih]; omega

/-- the total a stats dict holds for one key -/
def statSum (st : List (StatKey × Nat)) (key : StatKey) : Nat := ((st.filter (·.1 == key)).map (·.2)).sum

/-- what one event adds to `summary[loc][key]` -/
def contrib (ign : Ev → Bool) (loc : Option Text) (key : StatKey) (ev : Ev) : Nat :=
  if ign ev then 0 else
    match ev with
    | .notify cat f _ => if f.locale = loc ∧ countKey cat = some key then 1 else 0
    | .stats f st => if f.locale = loc then statSum st key else 0

/-- number of non-ignored error/warning notifications of the locale, plus the non-ignored stats -/
def countSpec (ign : Ev → Bool) (loc : Option Text) (key : StatKey) (h : List Ev) : Nat :=
  (h.map (contrib ign loc key)).sum

/-- does the event raise the error flag? -/
def isErrEv : Ev → Bool
  | .notify cat _ _ => cat.isError
  | .stats _ st => st.any (·.1 == .errors)

theorem getCount_bumpCat (s : Summary) (loc' loc : Option Text) (cat : Cat) (key : StatKey) :
    getCount (bumpCat s loc' cat) loc key
      = getCount s loc key + (if loc' = loc ∧ countKey cat = some key then 1 else 0) := by
  unfold bumpCat
  cases hc : countKey cat with
  | none => simp
  | some k => simp [getCount_bump]

theorem coreAddStats_spec (c : Core) (loc' : Option Text) (st : List (StatKey × Nat)) :
    (∀ loc key, getCount (coreAddStats c loc' st).1 loc key
        = getCount c.1 loc key + (if loc' = loc then statSum st key else 0)) ∧
      (coreAddStats c loc' st).2 = (c.2 || st.any (·.1 == .errors)) ∧
      totalErrors (coreAddStats c loc' st).1 = totalErrors c.1 + statSum st .errors := by
  induction st generalizing c with
  | nil => simp [coreAddStats, statSum]
  | cons kv rest ih =>
    obtain ⟨k, v⟩ := kv
    obtain ⟨h1, h2, h3⟩ := ih (bump c.1 loc' k v, c.2 || (k == .errors))
    simp only [coreAddStats]
    refine ⟨?_, ?_, ?_⟩
    · intro loc key
      rw [h1, getCount_bump]
      by_cases hl : loc' = loc
      · by_cases hk : k = key
        · subst hk; simp [hl, statSum]; omega
        · have : (k == key) = false := by simpa using hk
          simp [hl, hk, statSum, this]
      · simp [hl]
    · rw [h2]; simp [Bool.or_assoc]
    · rw [h3, totalErrors_bump]
      by_cases hk : k = .errors
      · subst hk; simp [statSum]; omega
      · have : (k == StatKey.errors) = false := by simpa using hk
        simp [hk, statSum, this]

theorem coreEv_spec (ign : Ev → Bool) (c : Core) (ev : Ev) :
    (∀ loc key, getCount (coreEv ign c ev).1 loc key = getCount c.1 loc key + contrib ign loc key ev) ∧
      (coreEv ign c ev).2 = (c.2 || (!ign ev && isErrEv ev)) := by
  cases ev with
  | notify cat f d =>
    simp only [coreEv, coreNotify, contrib, isErrEv]
    cases hi : ign (.notify cat f d)
    · simp [getCount_bumpCat]
    · simp
  | stats f st =>
    simp only [coreEv, contrib, isErrEv]
    cases hi : ign (.stats f st)
    · obtain ⟨h1, h2, _⟩ := coreAddStats_spec c f.locale st
      simp [h1, h2]
    · simp

theorem coreRun_spec (ign : Ev → Bool) (h : List Ev) : ∀ (c : Core),
    (∀ loc key, getCount (coreRun ign c h).1 loc key = getCount c.1 loc key + countSpec ign loc key h) ∧
      (coreRun ign c h).2 = (c.2 || h.any (fun ev => !ign ev && isErrEv ev)) := by
  induction h with
  | nil => intro c; simp [coreRun, countSpec]
  | cons ev rest ih =>
    intro c
    obtain ⟨h1, h2⟩ := ih (coreEv ign c ev)
    obtain ⟨e1, e2⟩ := coreEv_spec ign c ev
    simp only [coreRun, List.foldl_cons] at h1 h2 ⊢
    refine ⟨?_, ?_⟩
    · intro loc key
      rw [h1, e1]; simp [countSpec]; omega
    · rw [h2, e2]; simp [Bool.or_assoc]

theorem bump_locs (s : Summary) (loc : Option Text) (k : StatKey) (n : Nat) :
    ∀ x ∈ (bump s loc k n).map (·.1), x = loc ∨ x ∈ s.map (·.1) := by
  induction s with
  | nil => intro x hx; exact Or.inl (List.mem_singleton.1 hx)
  | cons p rest ih =>
    intro x hx
    simp only [bump] at hx
    split at hx
    · exact Or.inr hx
    · rcases List.mem_cons.1 hx with rfl | hx
      · exact Or.inr List.mem_cons_self
      · exact (ih x hx).imp_right (List.mem_cons_of_mem _)

theorem coreAddStats_locs (loc : Option Text) : ∀ (st : List (StatKey × Nat)) (c : Core),
    ∀ x ∈ (coreAddStats c loc st).1.map (·.1), x = loc ∨ x ∈ c.1.map (·.1)
  | [], _, _, hx => Or.inr hx
  | (k, v) :: rest, c, x, hx => (coreAddStats_locs loc rest _ x hx).elim Or.inl (bump_locs c.1 loc k v x)

theorem coreEv_locs (ign : Ev → Bool) (c : Core) (ev : Ev) :
    ∀ x ∈ (coreEv ign c ev).1.map (·.1), x = ev.file.locale ∨ x ∈ c.1.map (·.1) := by
  intro x hx
  cases ev with
  | notify cat f d =>
    simp only [coreEv, coreNotify] at hx
    split at hx
    · exact Or.inr hx
    · simp only [bumpCat] at hx
      split at hx
      · exact bump_locs _ _ _ _ x hx
      · exact Or.inr hx
  | stats f st =>
    simp only [coreEv] at hx
    split at hx
    · exact Or.inr hx
    · exact coreAddStats_locs f.locale st c x hx

theorem coreRun_locs (ign : Ev → Bool) : ∀ (h : List Ev) (c : Core),
    ∀ x ∈ (coreRun ign c h).1.map (·.1), (∃ ev ∈ h, ev.file.locale = x) ∨ x ∈ c.1.map (·.1)
  | [], _, _, hx => Or.inr hx
  | ev :: rest, c, x, hx => by
    rcases coreRun_locs ign rest (coreEv ign c ev) x hx with ⟨e, he, hl⟩ | hx'
    · exact Or.inl ⟨e, List.mem_cons_of_mem _ he, hl⟩
    · exact (coreEv_locs ign c ev x hx').imp_left fun h => ⟨ev, List.mem_cons_self, h.symm⟩

/-- an `errors` entry in a stats dict has a positive value -/
def ErrStatsPos (h : List Ev) : Prop :=
  ∀ ev ∈ h, match ev with
    | .stats _ st => ∀ kv ∈ st, kv.1 = StatKey.errors → 0 < kv.2
    | _ => True

theorem statSum_pos {st : List (StatKey × Nat)} (hp : ∀ kv ∈ st, kv.1 = StatKey.errors → 0 < kv.2) :
    (st.any (·.1 == .errors) = true ↔ 0 < statSum st .errors) := by
  induction st with
  | nil => simp [statSum]
  | cons kv rest ih =>
    have ih' := ih (fun x hx => hp x (by simp [hx]))
    by_cases hk : kv.1 = StatKey.errors
    · have := hp kv (by simp) hk
      simp [statSum, hk]; omega
    · have hb : (kv.1 == StatKey.errors) = false := by simpa using hk
      simp only [List.any_cons, hb, Bool.false_or, statSum, List.filter_cons, Bool.false_eq_true, ↓reduceIte]
      exact ih'

theorem totalErrors_bumpCat (s : Summary) (loc : Option Text) (cat : Cat) :
    totalErrors (bumpCat s loc cat) = totalErrors s + (if cat.isError then 1 else 0) := by
  cases cat <;> simp [bumpCat, countKey, totalErrors_bump, Cat.isError]

theorem Obs.run_cons_ok {o o' : Obs} {ev : Ev} {rest : List Ev} :
    o.run (ev :: rest) = .ok o' ↔ ∃ o1, o.step ev = .ok o1 ∧ o1.run rest = .ok o' := by
  simp only [Obs.run, bind, Except.bind]
  cases o.step ev <;> simp

theorem Obs.run_core : ∀ (h : List Ev) (o o' : Obs), o.run h = .ok o' →
    o'.core = coreRun (ignObs o.filter) o.core h ∧ o'.filter = o.filter ∧ o'.quiet = o.quiet
  | [], o, o', hr => by cases hr; exact ⟨rfl, rfl, rfl⟩
  | ev :: rest, o, o', hr => by
    obtain ⟨o1, hs, hr⟩ := Obs.run_cons_ok.1 hr
    obtain ⟨h1, h2, h3⟩ := Obs.run_core rest o1 o' hr
    obtain ⟨s1, s2, s3⟩ := Obs.step_core hs
    refine ⟨?_, by rw [h2, s2], by rw [h3, s3]⟩
    rw [h1, s2, s1]
    rfl

theorem Obs.run_counts {h : List Ev} {o o' : Obs} (hr : o.run h = .ok o') (loc : Option Text) (key : StatKey) :
    getCount o'.summary loc key = getCount o.summary loc key + countSpec (ignObs o.filter) loc key h := by
  have hc := (Obs.run_core h o o' hr).1
  exact (congrArg (fun c : Core => getCount c.1 loc key) hc).trans ((coreRun_spec _ h o.core).1 loc key)

theorem Obs.run_error {h : List Ev} {o o' : Obs} (hr : o.run h = .ok o') :
    o'.error = (o.error || h.any fun ev => !ignObs o.filter ev && isErrEv ev) :=
  (congrArg Prod.snd (Obs.run_core h o o' hr).1).trans (coreRun_spec _ h o.core).2

/-- a `File` that has a (non-empty) module also has a locale, without `/` -/
def Modelled (f : File) : Prop :=
  ∀ m, f.module = some m → m ≠ [] → ∃ loc, f.locale = some loc ∧ 47 ∉ loc

theorem splitSlash_aux (s : Text) : ∀ (cur : List Nat) (acc : List Part),
    47 ∉ cur → (∀ x ∈ acc, 47 ∉ x) →
    let r := s.foldl (fun (p : List Nat × List Part) c =>
      if c == 47 then ([], p.1.reverse :: p.2) else (c :: p.1, p.2)) (cur, acc)
    47 ∉ r.1 ∧ ∀ x ∈ r.2, 47 ∉ x := by
  induction s with
  | nil => intro cur acc h1 h2; exact ⟨h1, h2⟩
  | cons c cs ih =>
    intro cur acc h1 h2
    simp only [List.foldl_cons]
    by_cases hc : c = 47
    · subst hc
      simp only [beq_self_eq_true, ↓reduceIte]
      apply ih
      · simp
      · intro x hx
        simp only [List.mem_cons] at hx
        cases hx with
        | inl h => subst h; simpa using h1
        | inr h => exact h2 x h
    · have : (c == 47) = false := by simpa using hc
      simp only [this, Bool.false_eq_true, ↓reduceIte]
      apply ih
      · simp only [List.mem_cons, not_or]; exact ⟨fun h => hc h.symm, h1⟩
      · exact h2

theorem splitSlash_spec (s : Text) : splitSlash s ≠ [] ∧ ∀ x ∈ splitSlash s, 47 ∉ x := by
  have := splitSlash_aux s [] [] (by simp) (by simp)
  simp only at this
  unfold splitSlash
  generalize s.foldl (fun (p : List Nat × List Part) c =>
      if c == 47 then ([], p.1.reverse :: p.2) else (c :: p.1, p.2)) ([], []) = r at this
  obtain ⟨cur, acc⟩ := r
  simp only at this ⊢
  refine ⟨by simp, ?_⟩
  intro x hx
  simp only [List.reverse_cons, List.mem_append, List.mem_reverse, List.mem_singleton] at hx
  cases hx with
  | inl h => exact this.2 x h
  | inr h => subst h; simpa using this.1

theorem partsOf_ok {f : File} (hm : Modelled f) :
    ∃ parts, partsOf f = .ok parts ∧ parts ≠ [] ∧ ∀ s ∈ parts, 47 ∉ s := by
  unfold partsOf
  have hfile := splitSlash_spec f.file
  cases hmod : f.module with
  | none => exact ⟨_, rfl, hfile.1, hfile.2⟩
  | some m =>
    by_cases hme : m = []
    · subst hme; exact ⟨_, rfl, hfile.1, hfile.2⟩
    · have : m.isEmpty = false := by cases m <;> simp_all
      obtain ⟨loc, hl, hls⟩ := hm m hmod hme
      simp only [this, Bool.not_false, ↓reduceIte, hl]
      refine ⟨_, rfl, by simp, ?_⟩
      intro s hs
      simp only [List.cons_append, List.nil_append, List.mem_cons, List.mem_append] at hs
      have hmsp := splitSlash_spec m
      rcases hs with h | h | h
      · subst h; exact hls
      · exact hmsp.2 s h
      · exact hfile.2 s h

def hasParts (f : File) (p : List Part) : Bool :=
  match partsOf f with
  | .ok p' => p' == p
  | .error _ => false

/-- the details item an event leaves at path `p` (if any) -/
def evDetail (q : Nat) (flt : Option Filter) (p : List Part) : Ev → Option Detail
  | .notify cat f d =>
    if rvOf flt cat f d ≠ .ignore ∧ shows q cat = true ∧ hasParts f p = true
    then some (detailOf cat (rvOf flt cat f d) d) else none
  | .stats _ _ => none

/-- the non-ignored, non-hidden notifications raised for files with path `p`, in order -/
def detailsSpec (q : Nat) (flt : Option Filter) (h : List Ev) (p : List Part) : List Detail :=
  h.filterMap (evDetail q flt p)

theorem getMod_spec_of_ok {t t1 : Tree Detail} {parts : List Part} {f} (hinv : Inv t) (hp : parts ≠ [])
    (h : getMod t parts f = .ok t1) :
    Inv t1 ∧ (NoSlash t → (∀ s ∈ parts, 47 ∉ s) → NoSlash t1) ∧
      ∀ p, find t1 p = if p = parts then some (f ((find t parts).getD [])) else find t p := by
  obtain ⟨t', e, h1, h2, h3⟩ := getMod_spec f t parts hinv hp
  rw [e] at h
  injection h with h
  subst h
  exact ⟨h1, h2, h3⟩

theorem partsOf_ne_nil {f : File} {parts : List Part} (h : partsOf f = .ok parts) : parts ≠ [] := by
  unfold partsOf at h
  have hfile := (splitSlash_spec f.file).1
  split at h
  · split at h
    · split at h
      · cases h; simp
      · cases h
    · cases h; exact hfile
  · cases h; exact hfile

theorem detStep_spec {o : Obs} {ev : Ev} {t : Tree Detail} (hinv : Inv o.details) (h : detStep o ev = .ok t) :
    Inv t ∧
      (∀ p, find t p = match evDetail o.quiet o.filter p ev with
        | none => find o.details p
        | some item => some ((find o.details p).getD [] ++ [item])) ∧
      (Modelled ev.file → NoSlash o.details → NoSlash t) := by
  cases ev with
  | stats f st => cases h; exact ⟨hinv, fun p => rfl, fun _ h => h⟩
  | notify cat f d =>
    simp only [detStep] at h
    split at h
    · rename_i hcond
      simp only [appendDetail, bind, Except.bind] at h
      cases hpo : partsOf f with
      | error e => rw [hpo] at h; cases h
      | ok parts =>
        rw [hpo] at h
        obtain ⟨i1, i2, i3⟩ := getMod_spec_of_ok hinv (partsOf_ne_nil hpo) h
        refine ⟨i1, fun p => ?_, fun hm hns => ?_⟩
        · rw [i3 p]
          simp only [evDetail, hcond, true_and, hasParts, hpo]
          by_cases hp : p = parts
          · subst hp; simp [hcond.1]
          · have : ¬ parts = p := fun h => hp h.symm
            simp [hp, this]
        · obtain ⟨parts', e', _, hsl⟩ := partsOf_ok hm
          cases hpo.symm.trans e'
          exact i2 hns hsl
    · rename_i hcond
      cases h
      refine ⟨hinv, fun p => ?_, fun _ h => h⟩
      have : ¬ (rvOf o.filter cat f d ≠ Ret.ignore ∧ shows o.quiet cat = true ∧ hasParts f p = true) :=
        fun h => hcond ⟨h.1, h.2.1⟩
      simp [evDetail, this]

theorem step_details {o o1 : Obs} {ev : Ev} (hinv : Inv o.details) (hs : o.step ev = .ok o1) :
    Inv o1.details ∧ o1.filter = o.filter ∧ o1.quiet = o.quiet ∧
      (∀ p, find o1.details p = match evDetail o.quiet o.filter p ev with
        | none => find o.details p
        | some item => some ((find o.details p).getD [] ++ [item])) ∧
      (Modelled ev.file → NoSlash o.details → NoSlash o1.details) := by
  obtain ⟨t, ht, rfl⟩ := Obs.step_iff.1 hs
  obtain ⟨a, b, c⟩ := detStep_spec hinv ht
  exact ⟨a, rfl, rfl, b, c⟩

theorem detailsSpec_cons_none {q flt p ev} (rest : List Ev) (h : evDetail q flt p ev = none) :
    detailsSpec q flt (ev :: rest) p = detailsSpec q flt rest p := List.filterMap_cons_none h

theorem detailsSpec_cons_some {q flt p ev item} (rest : List Ev) (h : evDetail q flt p ev = some item) :
    detailsSpec q flt (ev :: rest) p = item :: detailsSpec q flt rest p := List.filterMap_cons_some h

theorem combine_details {D : Type} (a : Option (List D)) (x : Option D) (r : List D) :
    (if r.isEmpty then (match x with | none => a | some item => some (a.getD [] ++ [item]))
      else some ((match x with | none => a | some item => some (a.getD [] ++ [item])).getD [] ++ r))
    = if (match x with | none => r | some b => b :: r).isEmpty then a
      else some (a.getD [] ++ (match x with | none => r | some b => b :: r)) := by
  cases x <;> cases r <;> simp

theorem Obs.run_details : ∀ (h : List Ev) (o o' : Obs), Inv o.details → o.run h = .ok o' →
    Inv o'.details ∧
      (∀ p, find o'.details p =
        if (detailsSpec o.quiet o.filter h p).isEmpty then find o.details p
        else some ((find o.details p).getD [] ++ detailsSpec o.quiet o.filter h p)) ∧
      ((∀ ev ∈ h, Modelled ev.file) → NoSlash o.details → NoSlash o'.details)
  | [], o, o', hinv, hr => by
    cases hr
    exact ⟨hinv, fun p => by simp [detailsSpec], fun _ h => h⟩
  | ev :: rest, o, o', hinv, hr => by
    obtain ⟨o1, hs, hr⟩ := Obs.run_cons_ok.1 hr
    obtain ⟨i1, hf, hq, hfind1, hns1⟩ := step_details hinv hs
    obtain ⟨i2, hfind2, hns2⟩ := Obs.run_details rest o1 o' i1 hr
    refine ⟨i2, ?_, ?_⟩
    · intro p
      rw [hfind2 p, hfind1 p, hf, hq]
      cases hx : evDetail o.quiet o.filter p ev with
      | none => simp [detailsSpec_cons_none rest hx]
      | some item =>
        simp only [detailsSpec_cons_some rest hx]
        by_cases he : (detailsSpec o.quiet o.filter rest p).isEmpty = true
        · have hnil : detailsSpec o.quiet o.filter rest p = [] := List.isEmpty_iff.1 he
          simp [hnil]
        · simp [he]
    · intro hm hns
      exact hns2 (fun e he => hm e (by simp [he])) (hns1 (hm ev (by simp)) hns)

theorem Obs.step_ok {o : Obs} {ev : Ev} (hinv : Inv o.details) (hm : Modelled ev.file) :
    ∃ o1, o.step ev = .ok o1 ∧ Inv o1.details := by
  have : ∃ t, detStep o ev = .ok t := by
    cases ev with
    | stats f st => exact ⟨_, rfl⟩
    | notify cat f d =>
      simp only [detStep]
      split
      · obtain ⟨parts, e, hne, _⟩ := partsOf_ok hm
        obtain ⟨t', e', _⟩ := getMod_spec (fun l => l ++ [detailOf cat (rvOf o.filter cat f d) d])
          o.details parts hinv hne
        exact ⟨t', by simp only [appendDetail, show partsOf f = .ok parts from e, bind, Except.bind, e']⟩
      · exact ⟨_, rfl⟩
  obtain ⟨t, ht⟩ := this
  exact ⟨_, Obs.step_iff.2 ⟨t, ht, rfl⟩, (detStep_spec hinv ht).1⟩

theorem Obs.run_ok : ∀ (h : List Ev) (o : Obs), Inv o.details → (∀ ev ∈ h, Modelled ev.file) →
    ∃ o', o.run h = .ok o'
  | [], o, _, _ => ⟨o, rfl⟩
  | ev :: rest, o, hinv, hm => by
    obtain ⟨o1, hs, i1⟩ := Obs.step_ok hinv (hm ev (by simp))
    obtain ⟨o', hr⟩ := Obs.run_ok rest o1 i1 (fun e he => hm e (by simp [he]))
    exact ⟨o', Obs.run_cons_ok.2 ⟨o1, hs, hr⟩⟩

theorem eraseDups_filter_single {α : Type} [BEq α] [LawfulBEq α] (p : α → Bool) (w : α) (l : List α)
    (hall : ∀ x ∈ l, p x = true → x = w) (hex : ∃ x ∈ l, p x = true) : l.eraseDups.filter p = [w] := by
  -- `eraseDups` recurses on a filtered tail: induction on the length
  induction hn : l.length using Nat.strongRecOn generalizing l with
  | ind n ih =>
    subst hn
    cases l with
    | nil => obtain ⟨x, hx, _⟩ := hex; cases hx
    | cons a as =>
      rw [List.eraseDups_cons]
      have hlen : (as.filter (fun b => !b == a)).length < (a :: as).length :=
        Nat.lt_succ_of_le (List.length_filter_le _ as)
      by_cases hpa : p a = true
      · have haw : a = w := hall a (by simp) hpa
        simp only [List.filter_cons, hpa, ↓reduceIte]
        have : (List.filter (fun b => !b == a) as).eraseDups.filter p = [] := by
          rw [List.filter_eq_nil_iff]
          intro x hx hpx
          rw [List.mem_eraseDups] at hx
          simp only [List.mem_filter, Bool.not_eq_eq_eq_not, Bool.not_true, beq_eq_false_iff_ne, ne_eq] at hx
          exact hx.2 ((hall x (by simp [hx.1]) hpx).trans haw.symm)
        rw [this, haw]
      · have hpa' : p a = false := by simpa using hpa
        simp only [List.filter_cons, hpa', Bool.false_eq_true, ↓reduceIte]
        apply ih _ hlen _ _ _ rfl
        · intro x hx hpx
          simp only [List.mem_filter] at hx
          exact hall x (by simp [hx.1]) hpx
        · obtain ⟨x, hx, hpx⟩ := hex
          have hxa : x ≠ a := by intro h; subst h; rw [hpx] at hpa'; cases hpa'
          simp only [List.mem_cons] at hx
          cases hx with
          | inl h => exact absurd h hxa
          | inr h => exact ⟨x, by simp [List.mem_filter, h, hxa], hpx⟩

/-- what `ObserverList.notify` returns for the given return values of the project observers -/
def listRet (rvl : List Ret) : Ret :=
  if rvl.all (· == .ignore) then .ignore else if rvl.contains .error then .error else .warning

theorem listRet_eq_ignore {rvl : List Ret} : listRet rvl = .ignore ↔ ∀ r ∈ rvl, r = .ignore := by
  unfold listRet
  by_cases h : rvl.all (· == .ignore) = true
  · simp only [h, ↓reduceIte, true_iff]; simpa using h
  · have : ¬ ∀ r ∈ rvl, r = .ignore := fun hh => h (by simpa using hh)
    simp only [h, Bool.false_eq_true, ↓reduceIte]
    split <;> simp [this]

theorem listRet_eq_error {rvl : List Ret} : listRet rvl = .error ↔ .error ∈ rvl := by
  unfold listRet
  by_cases h : rvl.all (· == .ignore) = true
  · have hh : ∀ r ∈ rvl, r = .ignore := by simpa using h
    simp only [h, ↓reduceIte]
    exact ⟨nofun, fun he => nomatch hh _ he⟩
  · by_cases hc : rvl.contains .error = true <;> simp [h] <;> simpa using hc

theorem ret_set (rvl : List Ret) (hna : rvl.all (· == .ignore) = false) :
    (rvl.eraseDups.all (· == .ignore) = false) ∧
      ((rvl.eraseDups.filter (· != .ignore)).contains .error = rvl.contains .error) ∧
      (rvl.contains .error = false → rvl.eraseDups.filter (· != .ignore) = [.warning]) := by
  refine ⟨?_, ?_, ?_⟩
  · rw [List.all_eq_false] at hna ⊢
    obtain ⟨x, hx, hx2⟩ := hna
    exact ⟨x, List.mem_eraseDups.2 hx, hx2⟩
  · cases hc : rvl.contains .error
    · rw [List.contains_eq_mem, decide_eq_false_iff_not] at hc
      rw [List.contains_eq_mem, decide_eq_false_iff_not, List.mem_filter, List.mem_eraseDups]
      exact fun h => hc h.1
    · rw [List.contains_eq_mem, decide_eq_true_eq] at hc
      rw [List.contains_eq_mem, decide_eq_true_eq, List.mem_filter, List.mem_eraseDups]
      exact ⟨hc, by decide⟩
  · intro hc
    rw [List.contains_eq_mem, decide_eq_false_iff_not] at hc
    apply eraseDups_filter_single _ _ rvl
    · intro x hx hpx
      cases x with
      | error => exact absurd hx hc
      | warning => rfl
      | ignore => simp at hpx
    · rw [List.all_eq_false] at hna
      obtain ⟨x, hx, hx2⟩ := hna
      exact ⟨x, hx, by cases x <;> simp_all⟩

inductive All₂ {α β : Type} (R : α → β → Prop) : List α → List β → Prop
  | nil : All₂ R [] []
  | cons {a b as bs} : R a b → All₂ R as bs → All₂ R (a :: as) (b :: bs)

theorem All₂.imp {α β : Type} {R S : α → β → Prop} (hrs : ∀ a b, R a b → S a b) :
    ∀ {l : List α} {l' : List β}, All₂ R l l' → All₂ S l l'
  | _, _, .nil => .nil
  | _, _, .cons h t => .cons (hrs _ _ h) (All₂.imp hrs t)

theorem All₂.comp {α : Type} {R S T : α → α → Prop} (hrst : ∀ a b c, R a b → S b c → T a c) :
    ∀ {l l' l'' : List α}, All₂ R l l' → All₂ S l' l'' → All₂ T l l''
  | _, _, _, .nil, .nil => .nil
  | _, _, _, .cons h t, .cons h' t' => .cons (hrst _ _ _ h h') (All₂.comp hrst t t')

theorem All₂.refl_of {α : Type} {R : α → α → Prop} (h : ∀ a, R a a) : ∀ (l : List α), All₂ R l l
  | [] => .nil
  | a :: as => .cons (h a) (All₂.refl_of h as)

theorem All₂.map_eq {α β γ : Type} {R : α → β → Prop} (f : α → γ) (g : β → γ) (h : ∀ a b, R a b → f a = g b) :
    ∀ {l : List α} {l' : List β}, All₂ R l l' → l.map f = l'.map g
  | _, _, .nil => rfl
  | _, _, .cons hd tl => by simp [h _ _ hd, All₂.map_eq f g h tl]

theorem All₂.mem_right {α β : Type} {R : α → β → Prop} :
    ∀ {l : List α} {l' : List β}, All₂ R l l' → ∀ b ∈ l', ∃ a ∈ l, R a b
  | _, _, .nil, b, hb => by cases hb
  | _, _, .cons hd tl, b, hb => by
    cases hb with
    | head => exact ⟨_, by simp, hd⟩
    | tail _ hm =>
      obtain ⟨a, ha, hr⟩ := All₂.mem_right tl b hm
      exact ⟨a, by simp [ha], hr⟩

theorem All₂.mem_left {α β : Type} {R : α → β → Prop} :
    ∀ {l : List α} {l' : List β}, All₂ R l l' → ∀ a ∈ l, ∃ b ∈ l', R a b
  | _, _, .nil, a, ha => by cases ha
  | _, _, .cons hd tl, a, ha => by
    cases ha with
    | head => exact ⟨_, by simp, hd⟩
    | tail _ hm =>
      obtain ⟨b, hb, hr⟩ := All₂.mem_left tl a hm
      exact ⟨b, by simp [hb], hr⟩

theorem All₂.mapM {α β ε : Type} {f : α → Except ε β} : ∀ {l : List α} {l' : List β},
    All₂ (fun a b => f a = .ok b) l l' → l.mapM f = .ok l'
  | _, _, .nil => rfl
  | _, _, .cons h t => by rw [List.mapM_cons, h, All₂.mapM t]; rfl

theorem All₂.of_mapM {α β ε : Type} {f : α → Except ε β} : ∀ {l : List α} {l' : List β},
    l.mapM f = .ok l' → All₂ (fun a b => f a = .ok b) l l'
  | [], _, h => by cases h; exact .nil
  | a :: l, l', h => by
    rw [List.mapM_cons] at h
    cases ha : f a with
    | error e => rw [ha] at h; cases h
    | ok b =>
      cases hl : l.mapM f with
      | error e => rw [ha, hl] at h; cases h
      | ok bs => rw [ha, hl] at h; cases h; exact .cons ha (All₂.of_mapM hl)

theorem All₂.exists {α β : Type} {R : α → β → Prop} : ∀ {l : List α}, (∀ a ∈ l, ∃ b, R a b) → ∃ l', All₂ R l l'
  | [], _ => ⟨[], .nil⟩
  | a :: l, h => by
    obtain ⟨b, hb⟩ := h a (by simp)
    obtain ⟨l', hl⟩ := All₂.exists (l := l) (fun x hx => h x (by simp [hx]))
    exact ⟨b :: l', .cons hb hl⟩

theorem All₂.nil_iff {α β : Type} {R : α → β → Prop} {a : List α} {b : List β} (h : All₂ R a b) :
    a = [] ↔ b = [] := by
  cases h <;> simp

theorem All₂.of_map_left {α β γ : Type} {R : β → γ → Prop} (f : α → β) :
    ∀ {l : List α} {l' : List γ}, All₂ R (l.map f) l' → All₂ (fun a c => R (f a) c) l l'
  | [], _, h => by cases h; exact All₂.nil
  | a :: as, _, h => by
    cases h with
    | cons h1 h2 => exact All₂.cons h1 (All₂.of_map_left f h2)

theorem All₂.join {α β γ : Type} {R : α → β → Prop} {S : α → γ → Prop} :
    ∀ {l : List α} {a : List β} {b : List γ}, All₂ R l a → All₂ S l b → All₂ (fun x y => ∃ z, R z x ∧ S z y) a b
  | [], _, _, h1, h2 => by cases h1; cases h2; exact All₂.nil
  | z :: zs, _, _, h1, h2 => by
    cases h1 with
    | cons r1 t1 =>
      cases h2 with
      | cons r2 t2 => exact All₂.cons ⟨z, r1, r2⟩ (All₂.join t1 t2)

theorem All₂.getElem? {α β : Type} {R : α → β → Prop} : ∀ {l : List α} {l' : List β}, All₂ R l l' →
    ∀ (i : Nat) (b : β), l'[i]? = some b → ∃ a, l[i]? = some a ∧ R a b
  | _, _, .nil, i, b, h => by simp at h
  | _, _, .cons hd tl, 0, b, h => by
    simp only [List.getElem?_cons_zero, Option.some.injEq] at h
    subst h
    exact ⟨_, rfl, hd⟩
  | _, _, .cons _ tl, i + 1, b, h => by
    simp only [List.getElem?_cons_succ] at h ⊢
    exact All₂.getElem? tl i b h

theorem notifyAll_eq (cat : Cat) (f : File) (d : Data) : ∀ (obs : List Obs),
    notifyAll cat f d obs =
      (obs.mapM (Obs.step · (.notify cat f d))).map fun obs' => (obs', obs.map fun o => rvOf o.filter cat f d)
  | [] => rfl
  | o :: rest => by
    rw [notifyAll, List.mapM_cons, notify_eq_step, notifyAll_eq cat f d rest]
    cases o.step (.notify cat f d) with
    | error e => rfl
    | ok o1 => cases rest.mapM (Obs.step · (.notify cat f d)) <;> rfl

/-- `ObserverList.notify` in one formula: the assert never fails -/
theorem list_notify_eq (l : ObsList) (cat : Cat) (f : File) (d : Data) :
    l.notify cat f d =
      (match notifyAll cat f d l.observers with
       | .error e => .error e
       | .ok (obs', rvl) =>
         if rvl.all (· == .ignore) then .ok ({ l with observers := obs' }, .ignore)
         else match l.own.notify cat f d with
           | .error e => .error e
           | .ok (own', _) => .ok ({ own := own', observers := obs' }, listRet rvl)) := by
  unfold ObsList.notify
  simp only [bind, Except.bind, pure, Except.pure]
  cases hn : notifyAll cat f d l.observers with
  | error e => rfl
  | ok r =>
    obtain ⟨obs', rvl⟩ := r
    simp only
    cases hall : rvl.all (· == .ignore)
    · obtain ⟨s1, s2, s3⟩ := ret_set rvl hall
      simp only [s1, Bool.false_eq_true, ↓reduceIte]
      cases ho : l.own.notify cat f d with
      | error e => rfl
      | ok r2 =>
        obtain ⟨own', rv'⟩ := r2
        simp only [s2, listRet, hall, Bool.false_eq_true, ↓reduceIte]
        cases hc : rvl.contains .error
        · simp [s3 hc]
        · simp
    · have : rvl.eraseDups.all (· == .ignore) = true := by
        rw [List.all_eq_true] at hall ⊢
        intro x hx
        exact hall x (List.mem_eraseDups.1 hx)
      simp [this]



def ObsList.filters (l : ObsList) : List (Option Filter) := l.observers.map (·.filter)

theorem ignList_notify (l : ObsList) (cat : Cat) (f : File) (d : Data) :
    (l.observers.map (fun o => rvOf o.filter cat f d)).all (· == .ignore)
      = ignList l.filters (.notify cat f d) := by
  simp only [ignList, ObsList.filters, List.all_map]
  rfl

theorem list_step_eq (l : ObsList) (ev : Ev) :
    l.step ev = (do
      let obs' ← l.observers.mapM (Obs.step · ev)
      let own' ← if ignList l.filters ev then pure l.own else l.own.step ev
      pure { own := own', observers := obs' }) := by
  cases ev with
  | stats f st =>
    simp only [ObsList.step, ObsList.updateStats, ignList, Obs.step]
    rw [List.mapM_pure]
    rfl
  | notify cat f d =>
    simp only [ObsList.step, list_notify_eq, notifyAll_eq, ← ignList_notify, notify_eq_step, bind, Except.bind]
    cases l.observers.mapM (Obs.step · (.notify cat f d)) with
    | error e => rfl
    | ok obs' =>
      simp only [Except.map]
      cases (l.observers.map fun o => rvOf o.filter cat f d).all (· == .ignore) with
      | true => rfl
      | false => cases l.own.step (.notify cat f d) <;> rfl


theorem list_step_iff {l l' : ObsList} {ev : Ev} : l.step ev = .ok l' ↔
    (if ignList l.filters ev then l'.own = l.own else l.own.step ev = .ok l'.own) ∧
      All₂ (fun o o' => o.step ev = .ok o') l.observers l'.observers := by
  obtain ⟨own', obs'⟩ := l'
  rw [list_step_eq]
  simp only [bind, Except.bind, pure, Except.pure]
  constructor
  · intro h
    cases hm : l.observers.mapM (Obs.step · ev) with
    | error e => rw [hm] at h; cases h
    | ok obs1 =>
      rw [hm] at h
      cases hi : ignList l.filters ev with
      | true => rw [hi] at h; cases h; exact ⟨rfl, All₂.of_mapM hm⟩
      | false =>
        rw [hi] at h
        cases ho : l.own.step ev with
        | error e => rw [ho] at h; cases h
        | ok o1 => rw [ho] at h; cases h; exact ⟨rfl, All₂.of_mapM hm⟩
  · rintro ⟨h1, h2⟩
    rw [All₂.mapM h2]
    cases hi : ignList l.filters ev <;> rw [hi] at h1 <;> simp only at h1 ⊢ <;> rw [h1] <;> rfl

theorem list_notify_rv {l l' : ObsList} {cat f d rv} (h : l.notify cat f d = .ok (l', rv)) :
    rv = listRet (l.observers.map (fun o => rvOf o.filter cat f d)) ∧ l.step (.notify cat f d) = .ok l' := by
  refine ⟨?_, by simp [ObsList.step, h, bind, Except.bind, pure, Except.pure]⟩
  rw [list_notify_eq, notifyAll_eq] at h
  cases hm : l.observers.mapM (Obs.step · (.notify cat f d)) with
  | error e => rw [hm] at h; cases h
  | ok obs' =>
    rw [hm] at h
    simp only [Except.map] at h
    split at h
    · rename_i hall
      cases h
      exact (listRet_eq_ignore.2 (by simpa using hall)).symm
    · split at h
      · cases h
      · cases h; rfl

theorem list_notify_spec {l l' : ObsList} {cat f d rv} (h : l.notify cat f d = .ok (l', rv)) :
    rv = listRet (l.observers.map (fun o => rvOf o.filter cat f d)) ∧
      All₂ (fun o o' => o.notify cat f d = .ok (o', rvOf o.filter cat f d)) l.observers l'.observers ∧
      (if rv = .ignore then l'.own = l.own else ∃ r, l.own.notify cat f d = .ok (l'.own, r)) := by
  obtain ⟨hrv, hs⟩ := list_notify_rv h
  obtain ⟨s1, s2⟩ := list_step_iff.1 hs
  refine ⟨hrv, All₂.imp (fun _ _ => notify_of_step) s2, ?_⟩
  have hi : rv = .ignore ↔ ignList l.filters (.notify cat f d) = true := by
    rw [hrv, listRet_eq_ignore, ← ignList_notify]; simp
  split at s1
  · rw [if_pos (hi.2 ‹_›)]; exact s1
  · rw [if_neg (fun h => ‹¬ _› (hi.1 h))]; exact ⟨_, notify_of_step s1⟩

theorem list_step_ok {l : ObsList} {ev : Ev} (hown : TreeM.Inv l.own.details)
    (hobs : ∀ o ∈ l.observers, TreeM.Inv o.details) (hm : Modelled ev.file) :
    ∃ l1, l.step ev = .ok l1 ∧ TreeM.Inv l1.own.details ∧ ∀ o ∈ l1.observers, TreeM.Inv o.details := by
  obtain ⟨obs', h2⟩ := All₂.exists (R := fun o o' => o.step ev = .ok o' ∧ TreeM.Inv o'.details)
    (fun o ho => Obs.step_ok (hobs o ho) hm)
  obtain ⟨own', h1, i1⟩ : ∃ own', (if ignList l.filters ev then own' = l.own else l.own.step ev = .ok own') ∧
      TreeM.Inv own'.details := by
    split
    · exact ⟨_, rfl, hown⟩
    · exact Obs.step_ok hown hm
  refine ⟨⟨own', obs'⟩, list_step_iff.2 ⟨h1, All₂.imp (fun _ _ h => h.1) h2⟩, i1, fun o' ho' => ?_⟩
  obtain ⟨_, _, h⟩ := All₂.mem_right h2 o' ho'
  exact h.2

theorem ObsList.run_cons_ok {l l' : ObsList} {ev : Ev} {rest : List Ev} :
    l.run (ev :: rest) = .ok l' ↔ ∃ l1, l.step ev = .ok l1 ∧ l1.run rest = .ok l' := by
  simp only [ObsList.run, bind, Except.bind]
  cases l.step ev <;> simp

theorem list_run_spec : ∀ (h : List Ev) (l l' : ObsList), l.run h = .ok l' → l.own.filter = none →
    l.own.run (h.filter (fun ev => !ignList l.filters ev)) = .ok l'.own ∧
      All₂ (fun o o' => o.run h = .ok o') l.observers l'.observers ∧ l'.filters = l.filters
  | [], l, l', hr, _ => by
    cases hr
    exact ⟨rfl, All₂.refl_of (R := fun (o o' : Obs) => Obs.run o [] = Except.ok o') (fun _ => rfl) _, rfl⟩
  | ev :: rest, l, l', hr, hown => by
    obtain ⟨l1, hs, hr⟩ := ObsList.run_cons_ok.1 hr
    obtain ⟨s1, s2⟩ := list_step_iff.1 hs
    have hfil : l1.filters = l.filters := by
      unfold ObsList.filters
      exact (All₂.map_eq (·.filter) (·.filter) (fun a b hab => ((Obs.step_core hab).2.1).symm) s2).symm
    have hown1 : l1.own.filter = none := by
      cases hi : ignList l.filters ev
      · rw [hi] at s1
        simp only [Bool.false_eq_true, ↓reduceIte] at s1
        rw [(Obs.step_core s1).2.1, hown]
      · rw [hi] at s1
        simp only [↓reduceIte] at s1
        rw [s1, hown]
    obtain ⟨r1, r2, r3⟩ := list_run_spec rest l1 l' hr hown1
    refine ⟨?_, ?_, by rw [r3, hfil]⟩
    · rw [hfil] at r1
      simp only [List.filter_cons]
      cases hi : ignList l.filters ev
      · rw [hi] at s1
        simp only [Bool.false_eq_true, ↓reduceIte] at s1
        simp [Obs.run, s1, bind, Except.bind, r1]
      · rw [hi] at s1
        simp only [↓reduceIte] at s1
        rw [s1] at r1
        simpa using r1
    · exact All₂.comp (fun a b c hab hbc => by simp [Obs.run, hab, bind, Except.bind, hbc]) s2 r2

theorem coreRun_filter (ign : Ev → Bool) : ∀ (h : List Ev) (c : Core),
    coreRun (ignObs none) c (h.filter (fun ev => !ign ev)) = coreRun ign c h
  | [], _ => rfl
  | ev :: rest, c => by
    have hn : ignObs none ev = false := by cases ev <;> rfl
    rw [List.filter_cons]
    cases hi : ign ev
    · simp only [Bool.not_false, ↓reduceIte, coreRun, List.foldl_cons]
      have : coreEv (ignObs none) c ev = coreEv ign c ev := by cases ev <;> simp only [coreEv, hn, hi]
      rw [this]
      exact coreRun_filter ign rest _
    · simp only [Bool.not_true, Bool.false_eq_true, ↓reduceIte, coreRun, List.foldl_cons]
      have : coreEv ign c ev = c := by cases ev <;> simp [coreEv, coreNotify, hi]
      rw [this]
      exact coreRun_filter ign rest c

theorem list_run_core {h : List Ev} {l l' : ObsList} (hr : l.run h = .ok l') (hown : l.own.filter = none) :
    l'.own.core = coreRun (ignList l.filters) l.own.core h := by
  rw [(Obs.run_core _ _ _ (list_run_spec h l l' hr hown).1).1, hown, coreRun_filter]

theorem list_run_counts {h : List Ev} {l l' : ObsList} (hr : l.run h = .ok l') (hown : l.own.filter = none)
    (loc : Option Text) (key : StatKey) :
    getCount l'.own.summary loc key = getCount l.own.summary loc key + countSpec (ignList l.filters) loc key h :=
  (congrArg (fun c : Core => getCount c.1 loc key) (list_run_core hr hown)).trans ((coreRun_spec _ h l.own.core).1 loc key)

theorem list_run_error {h : List Ev} {l l' : ObsList} (hr : l.run h = .ok l') (hown : l.own.filter = none) :
    l'.own.error = (l.own.error || h.any fun ev => !ignList l.filters ev && isErrEv ev) :=
  (congrArg Prod.snd (list_run_core hr hown)).trans (coreRun_spec _ h l.own.core).2

theorem shows_mono {q q' : Nat} (hq : q ≤ q') (cat : Cat) (h : shows q' cat = true) : shows q cat = true := by
  cases cat <;> simp only [shows, decide_eq_true_eq, beq_iff_eq] at h ⊢ <;> omega

theorem filterMap_sublist_of_imp {α β : Type} (f g : α → Option β) (h : ∀ a b, f a = some b → g a = some b) :
    ∀ (l : List α), (l.filterMap f).Sublist (l.filterMap g)
  | [] => List.Sublist.slnil
  | a :: l => by
    have ih := filterMap_sublist_of_imp f g h l
    cases hf : f a with
    | none =>
      rw [List.filterMap_cons_none hf]
      cases hg : g a with
      | none => rw [List.filterMap_cons_none hg]; exact ih
      | some c => rw [List.filterMap_cons_some hg]; exact List.Sublist.cons _ ih
    | some b =>
      rw [List.filterMap_cons_some hf, List.filterMap_cons_some (h a b hf)]
      exact List.Sublist.cons_cons _ ih

theorem detailsSpec_mono {q q' : Nat} (hq : q ≤ q') (flt : Option Filter) (h : List Ev) (p : List Part) :
    (detailsSpec q' flt h p).Sublist (detailsSpec q flt h p) := by
  apply filterMap_sublist_of_imp
  intro ev item hev
  cases ev with
  | stats f st => simp [evDetail] at hev
  | notify cat f d =>
    simp only [evDetail] at hev ⊢
    split at hev
    · rename_i hc
      have : rvOf flt cat f d ≠ .ignore ∧ shows q cat = true ∧ hasParts f p = true :=
        ⟨hc.1, shows_mono hq cat hc.2.1, hc.2.2⟩
      rw [if_pos this]; exact hev
    · cases hev

theorem find_empty (p : List Part) : find (Tree.empty : Tree Detail) p = none := by
  cases p <;> simp [Tree.empty, find, findBr]

theorem inv_empty : TreeM.Inv (Tree.empty : Tree Detail) := by simp [Tree.empty, TreeM.Inv, InvBr]

theorem noslash_empty : NoSlash (Tree.empty : Tree Detail) := by simp [Tree.empty, NoSlash, NoSlashBr]

theorem init_details {q : Nat} {flt : Option Filter} {h : List Ev} {o' : Obs}
    (hr : (Obs.init q flt).run h = .ok o') (p : List Part) :
    find o'.details p = if (detailsSpec q flt h p).isEmpty then none else some (detailsSpec q flt h p) := by
  obtain ⟨_, hf, _⟩ := Obs.run_details h (Obs.init q flt) o' inv_empty hr
  rw [hf p]
  simp [Obs.init, find_empty]

theorem init_find {q : Nat} {flt : Option Filter} {h : List Ev} {o' : Obs}
    (hr : (Obs.init q flt).run h = .ok o') (p : List Part) (l : List Detail) :
    find o'.details p = some l ↔ l = detailsSpec q flt h p ∧ l ≠ [] := by
  rw [init_details hr p]
  cases detailsSpec q flt h p with
  | nil => simp
  | cons a as => simpa [eq_comm] using fun e : l = a :: as => e ▸ List.cons_ne_nil a as

theorem mem_detailsSpec {q flt h p item} (hm : item ∈ detailsSpec q flt h p) :
    ∃ ev ∈ h, partsOf ev.file = .ok p := by
  simp only [detailsSpec, List.mem_filterMap] at hm
  obtain ⟨ev, hev, hd⟩ := hm
  refine ⟨ev, hev, ?_⟩
  cases ev with
  | stats f st => simp [evDetail] at hd
  | notify cat f d =>
    simp only [evDetail] at hd
    split at hd
    · rename_i hc
      have := hc.2.2
      simp only [hasParts] at this
      simp only [Ev.file]
      cases hp : partsOf f with
      | error e => rw [hp] at this; cases this
      | ok p' => rw [hp] at this; simp at this; rw [this]
    · cases hd

/-- no stats dict has an `errors` entry (what every caller of `updateStats` guarantees) -/
def NoErrStats (h : List Ev) : Prop :=
  ∀ ev ∈ h, match ev with
    | .stats _ st => ∀ kv ∈ st, kv.1 ≠ StatKey.errors
    | _ => True

theorem NoErrStats.pos {h : List Ev} (hn : NoErrStats h) : ErrStatsPos h := by
  intro ev hev
  have := hn ev hev
  cases ev with
  | notify _ _ _ => trivial
  | stats f st => exact fun kv hkv hk => absurd hk (this kv hkv)

theorem any_err_notify {h : List Ev} (hn : NoErrStats h) (ign : Ev → Bool) :
    h.any (fun ev => !ign ev && isErrEv ev) = true ↔
      ∃ cat f d, Ev.notify cat f d ∈ h ∧ cat.isError = true ∧ ign (.notify cat f d) = false := by
  simp only [List.any_eq_true, Bool.and_eq_true, Bool.not_eq_eq_eq_not, Bool.not_true]
  constructor
  · rintro ⟨ev, hev, hi, he⟩
    cases ev with
    | notify cat f d => exact ⟨cat, f, d, hev, he, hi⟩
    | stats f st =>
      have := hn _ hev
      simp only [isErrEv, List.any_eq_true, beq_iff_eq] at he
      obtain ⟨kv, hkv, hk⟩ := he
      exact absurd hk (this kv hkv)
  · rintro ⟨cat, f, d, hev, he, hi⟩
    exact ⟨_, hev, hi, he⟩



theorem list_run_ok : ∀ (h : List Ev) (l : ObsList), TreeM.Inv l.own.details →
    (∀ o ∈ l.observers, TreeM.Inv o.details) → (∀ ev ∈ h, Modelled ev.file) → ∃ l', l.run h = .ok l'
  | [], l, _, _, _ => ⟨l, rfl⟩
  | ev :: rest, l, hown, hobs, hm => by
    obtain ⟨l1, hs, i1, i2⟩ := list_step_ok hown hobs (hm ev (by simp))
    obtain ⟨l', hr⟩ := list_run_ok rest l1 i1 i2 (fun e he => hm e (by simp [he]))
    exact ⟨l', ObsList.run_cons_ok.2 ⟨l1, hs, hr⟩⟩

theorem toJSON_paths {V : Type} (t : Tree V) (hinv : TreeM.Inv t) (hns : NoSlash t)
    (hpf : PrefixFree ((flatten t).map (·.1))) :
    (toJSON t).leaves.map (fun kv => (joinSlash kv.1, kv.2))
      = (flatten t).map (fun pv => (joinSlash pv.1, pv.2)) := by
  rw [toJSON_leaves t hinv hns hpf, flatten_eq_flattenK, List.map_map, List.map_map]
  apply List.map_congr_left
  intro ksv hksv
  simp only [Function.comp]
  rw [joinSlash_isJoin.map_join _ (flattenK_keys_ne_nil t hinv ksv hksv)]

theorem init_run_total (q : Nat) (flt : Option Filter) (h : List Ev) (hm : ∀ ev ∈ h, Modelled ev.file) :
    ∃ o', (Obs.init q flt).run h = .ok o' ∧ TreeM.Inv o'.details := by
  obtain ⟨o', hr⟩ := Obs.run_ok h (Obs.init q flt) inv_empty hm
  exact ⟨o', hr, (Obs.run_details h _ o' inv_empty hr).1⟩

theorem init_tojson (q : Nat) (flt : Option Filter) (h : List Ev) (o' : Obs)
    (hr : (Obs.init q flt).run h = .ok o') (hm : ∀ ev ∈ h, Modelled ev.file)
    (hpf : ∀ e1 ∈ h, ∀ e2 ∈ h, ∀ p1 p2, partsOf e1.file = .ok p1 → partsOf e2.file = .ok p2 → p1 <+: p2 → p1 = p2) :
    (toJSON o'.details).leaves.map (fun kv => (joinSlash kv.1, kv.2))
      = (flatten o'.details).map (fun pv => (joinSlash pv.1, pv.2)) := by
  obtain ⟨hinv, _, hns⟩ := Obs.run_details h (Obs.init q flt) o' inv_empty hr
  apply toJSON_paths _ hinv (hns hm noslash_empty)
  have hsrc : ∀ p ∈ (flatten o'.details).map (·.1), ∃ ev ∈ h, partsOf ev.file = .ok p := by
    intro p hp
    obtain ⟨pv, hpv, rfl⟩ := List.mem_map.1 hp
    have hf := (mem_flatten_iff_find o'.details hinv pv.1 pv.2).1 hpv
    rw [init_details hr pv.1] at hf
    cases hd : detailsSpec q flt h pv.1 with
    | nil => rw [hd] at hf; simp at hf
    | cons item rest => exact mem_detailsSpec (item := item) (by rw [hd]; simp)
  intro a ha b hb hab
  obtain ⟨e1, he1, hp1⟩ := hsrc a ha
  obtain ⟨e2, he2, hp2⟩ := hsrc b hb
  exact hpf e1 he1 e2 he2 a b hp1 hp2 hab

theorem init_summary_counts (q : Nat) (flt : Option Filter) (h : List Ev) (o' : Obs)
    (hr : (Obs.init q flt).run h = .ok o') (loc : Option Text) (key : StatKey) :
    getCount o'.summary loc key = countSpec (ignObs flt) loc key h := by
  rw [Obs.run_counts hr]
  simp [Obs.init, getCount]

theorem own_as_observer (q : Nat) (obs : List Obs) (h : List Ev) (l' : ObsList)
    (hr : (ObsList.init q obs).run h = .ok l') :
    (Obs.init q none).run (h.filter (fun ev => !ignList (obs.map (·.filter)) ev)) = .ok l'.own ∧
      All₂ (fun o o' => o.run h = .ok o') obs l'.observers := by
  obtain ⟨a, b, _⟩ := list_run_spec h (ObsList.init q obs) l' hr rfl
  exact ⟨a, b⟩

end ObsM
