/- Every model of `ContentComparer` talks to its `ObserverList` through `notify` and `updateStats` only, and what `notify`
   RETURNS is a function of the project observers' filters (`verdict`), which no event changes.  So such a function is a
   `Plan`: the events it hands to the observers, in order, and the value or exception it ends with, both computed from the
   filters alone; the function itself is `Plan.exec` (run the events, then return).  One history, the same history from two
   lists with the same filters, no raise on addressable files, where an event comes from: all are facts about the plan.
   Before that: runs of events (`run_append`, `run_induction`, …), two lists through the same events (`Sim`), and the
   invariant of the details trees (`ObsList.Inv`, `init_inv`, `Inv.run`). -/
import CLModel.Proofs.C10Obs
namespace ObsM

theorem ObsList.run_cons (l : ObsList) (ev : Ev) (h : List Ev) : l.run (ev :: h) = l.step ev >>= (·.run h) := rfl

theorem ObsList.run_single (l : ObsList) (ev : Ev) : l.run [ev] = l.step ev := by
  rw [ObsList.run_cons]; cases l.step ev <;> rfl

theorem ObsList.run_append (l : ObsList) (a b : List Ev) : l.run (a ++ b) = l.run a >>= (·.run b) := by
  induction a generalizing l with
  | nil => rfl
  | cons ev a ih =>
    rw [List.cons_append, ObsList.run_cons, ObsList.run_cons]
    cases l.step ev with
    | error e => rfl
    | ok l1 => exact ih l1

theorem ObsList.run_trans {a b : List Ev} {l l1 l2 : ObsList} (h1 : l.run a = .ok l1) (h2 : l1.run b = .ok l2) :
    l.run (a ++ b) = .ok l2 := by
  rw [ObsList.run_append, h1]; exact h2

theorem ObsList.notify_run {l l' : ObsList} {cat f d rv} (h : l.notify cat f d = .ok (l', rv)) :
    l.run [.notify cat f d] = .ok l' := by
  simp [ObsList.run, ObsList.step, h, bind, Except.bind, pure, Except.pure]

theorem ObsList.stats_run (l : ObsList) (f : File) (s : List (StatKey × Nat)) :
    l.run [.stats f s] = .ok (l.updateStats f s) := rfl

/-- the same events, of shape `P`, lead from `a` to `a'` and from `b` to `b'` -/
def Sim (P : List Ev → Prop) (a a' b b' : ObsList) : Prop := ∃ evs, P evs ∧ a.run evs = .ok a' ∧ b.run evs = .ok b'

theorem Sim.refl {P : List Ev → Prop} (h : P []) (a b : ObsList) : Sim P a a b b := ⟨[], h, rfl, rfl⟩

theorem Sim.trans {P Q R : List Ev → Prop} {a a' a'' b b' b'' : ObsList} (h1 : Sim P a a' b b') (h2 : Sim Q a' a'' b' b'')
    (hR : ∀ e1 e2, P e1 → Q e2 → R (e1 ++ e2)) : Sim R a a'' b b'' := by
  obtain ⟨e1, p1, t1, u1⟩ := h1
  obtain ⟨e2, p2, t2, u2⟩ := h2
  exact ⟨e1 ++ e2, hR e1 e2 p1 p2, ObsList.run_trans t1 t2, ObsList.run_trans u1 u2⟩

theorem Sim.mono {P Q : List Ev → Prop} {a a' b b' : ObsList} (h : Sim P a a' b b') (hPQ : ∀ e, P e → Q e) : Sim Q a a' b b' := by
  obtain ⟨e, p, t, u⟩ := h
  exact ⟨e, hPQ e p, t, u⟩

theorem Sim.tr {P : List Ev → Prop} {a a' b b' : ObsList} (h : Sim P a a' b b') : ∃ evs, a.run evs = .ok a' ∧ P evs := by
  obtain ⟨evs, p, t, _⟩ := h
  exact ⟨evs, t, p⟩

theorem ObsList.run_induction {P : ObsList → Prop} : ∀ (h : List Ev) {l l' : ObsList},
    (∀ l l' ev, ev ∈ h → P l → l.step ev = .ok l' → P l') → l.run h = .ok l' → P l → P l'
  | [], l, l', _, hr, hp => by cases hr; exact hp
  | ev :: rest, _, _, hstep, hr, hp => by
    obtain ⟨l1, hs, hr⟩ := ObsList.run_cons_ok.1 hr
    exact ObsList.run_induction rest (fun a b e he => hstep a b e (by simp [he])) hr (hstep _ _ ev (by simp) hp hs)

theorem Obs.run_induction {P : Obs → Prop} : ∀ (h : List Ev) {o o' : Obs},
    (∀ o o' ev, ev ∈ h → P o → o.step ev = .ok o' → P o') → o.run h = .ok o' → P o → P o'
  | [], o, o', _, hr, hp => by cases hr; exact hp
  | ev :: rest, _, _, hstep, hr, hp => by
    obtain ⟨o1, hs, hr⟩ := Obs.run_cons_ok.1 hr
    exact Obs.run_induction rest (fun a b e he => hstep a b e (by simp [he])) hr (hstep _ _ ev (by simp) hp hs)

theorem ObsList.run_all {I : Obs → Prop} (h : List Ev) {l l' : ObsList}
    (hI : ∀ o o' ev, ev ∈ h → I o → o.step ev = .ok o' → I o') (hr : l.run h = .ok l')
    (hown : I l.own) (hobs : ∀ o ∈ l.observers, I o) : I l'.own ∧ ∀ o ∈ l'.observers, I o := by
  refine ObsList.run_induction (P := fun x => I x.own ∧ ∀ o ∈ x.observers, I o) h ?_ hr ⟨hown, hobs⟩
  intro a b ev hev hp hs
  obtain ⟨s1, s2⟩ := list_step_iff.1 hs
  refine ⟨?_, fun o' ho' => ?_⟩
  · split at s1
    · rw [s1]; exact hp.1
    · exact hI _ _ ev hev hp.1 s1
  · obtain ⟨o, ho, hso⟩ := All₂.mem_right s2 o' ho'
    exact hI _ _ ev hev (hp.2 o ho) hso

theorem ObsList.init_filters (q : Nat) (flts : List (Option Filter)) :
    (ObsList.init q (flts.map (Obs.init q))).filters = flts := by
  simp only [ObsList.filters, ObsList.init, List.map_map]
  exact (List.map_congr_left (fun _ _ => rfl)).trans (List.map_id _)

/-- the invariant of the observers' details trees.  The initial lists have it (`init_inv`) and every event keeps it (`Inv.run`),
    so it holds of whatever list a session has reached, not only of the list a comparison starts from. -/
def ObsList.Inv (l : ObsList) : Prop :=
  TreeM.Inv l.own.details ∧ ∀ o ∈ l.observers, TreeM.Inv o.details

theorem ObsList.init_inv (q : Nat) (flts : List (Option Filter)) : (ObsList.init q (flts.map (Obs.init q))).Inv := by
  refine ⟨inv_empty, fun o ho => ?_⟩
  obtain ⟨flt, _, rfl⟩ := List.mem_map.1 ho
  exact inv_empty

theorem ObsList.Inv.run {l l' : ObsList} {h : List Ev} (hi : l.Inv) (hr : l.run h = .ok l') : l'.Inv :=
  ObsList.run_all (I := fun o => TreeM.Inv o.details) h (fun _ _ _ _ hi hs => (step_details hi hs).1) hr hi.1 hi.2

theorem ObsList.step_filters {l l' : ObsList} {ev : Ev} (h : l.step ev = .ok l') :
    l'.filters = l.filters ∧ l'.own.filter = l.own.filter := by
  obtain ⟨s1, s2⟩ := list_step_iff.1 h
  refine ⟨?_, ?_⟩
  · unfold ObsList.filters
    exact (All₂.map_eq (·.filter) (·.filter) (fun a b hab => ((Obs.step_core hab).2.1).symm) s2).symm
  · split at s1
    · rw [s1]
    · exact (Obs.step_core s1).2.1

theorem ObsList.run_filters (h : List Ev) {l l' : ObsList} (hr : l.run h = .ok l') :
    l'.filters = l.filters ∧ l'.own.filter = l.own.filter :=
  ObsList.run_induction (P := fun x => x.filters = l.filters ∧ x.own.filter = l.own.filter) h
    (fun _ _ _ _ hp hs => ⟨(ObsList.step_filters hs).1.trans hp.1, (ObsList.step_filters hs).2.trans hp.2⟩) hr ⟨rfl, rfl⟩

/-- what `ObserverList.notify` returns -/
def verdict (F : List (Option Filter)) (cat : Cat) (f : File) (d : Data) : Ret :=
  listRet (F.map fun flt => rvOf flt cat f d)

theorem ObsList.notify_rv {l l' : ObsList} {cat f d rv} (h : l.notify cat f d = .ok (l', rv)) :
    rv = verdict l.filters cat f d := by
  rw [(list_notify_rv h).1, verdict, ObsList.filters, List.map_map]
  rfl

theorem ObsList.notify_eq_step (l : ObsList) (cat : Cat) (f : File) (d : Data) :
    l.notify cat f d = (l.step (.notify cat f d)).map fun l' => (l', verdict l.filters cat f d) := by
  simp only [ObsList.step, bind, Except.bind]
  cases h : l.notify cat f d with
  | error e => rfl
  | ok r => exact congrArg (fun x => Except.ok (r.1, x)) (ObsList.notify_rv h)

/-- what a computation does as the observers see it: the events, then the value or the exception -/
structure Plan (ε α : Type) where
  evs : List Ev
  res : Except ε α

namespace Plan
variable {ε α β : Type}

def ret (a : α) : Plan ε α := ⟨[], .ok a⟩
def fail (e : ε) : Plan ε α := ⟨[], .error e⟩
/-- a step that may raise and tells the observers nothing -/
def lift (r : Except ε α) : Plan ε α := ⟨[], r⟩
/-- `self.observers.notify(cat, f, d)` -/
def tell (F : List (Option Filter)) (cat : Cat) (f : File) (d : Data) : Plan ε Ret := ⟨[.notify cat f d], .ok (verdict F cat f d)⟩
/-- `self.observers.updateStats(f, st)` -/
def push (f : File) (st : List (StatKey × Nat)) : Plan ε Unit := ⟨[.stats f st], .ok ()⟩

def bind (p : Plan ε α) (k : α → Plan ε β) : Plan ε β :=
  match p.res with
  | .error e => ⟨p.evs, .error e⟩
  | .ok a => ⟨p.evs ++ (k a).evs, (k a).res⟩

instance : Monad (Plan ε) where
  pure := ret
  bind := bind

/-- the computation on the observers `l`; `emb` wraps an exception of the observers -/
def exec (emb : TreeM.PyErr → ε) (p : Plan ε α) (l : ObsList) : Except ε (ObsList × α) :=
  match l.run p.evs with
  | .error e => .error (emb e)
  | .ok l' => p.res.map fun a => (l', a)

theorem exec_lift (emb : TreeM.PyErr → ε) (r : Except ε α) (l : ObsList) : (lift r).exec emb l = r.map fun a => (l, a) := rfl

theorem exec_tell (emb : TreeM.PyErr → ε) (l : ObsList) (cat : Cat) (f : File) (d : Data) :
    (tell l.filters cat f d : Plan ε Ret).exec emb l =
      match l.notify cat f d with
      | .error e => .error (emb e)
      | .ok r => .ok r := by
  rw [ObsList.notify_eq_step]
  simp only [exec, tell, ObsList.run_single]
  cases l.step (.notify cat f d) <;> rfl

theorem exec_bind (emb : TreeM.PyErr → ε) (p : Plan ε α) (k : α → Plan ε β) (l : ObsList) :
    (p.bind k).exec emb l = p.exec emb l >>= fun r => (k r.2).exec emb r.1 := by
  unfold exec bind
  cases hr : p.res with
  | error e => cases l.run p.evs <;> rfl
  | ok a =>
    simp only [ObsList.run_append]
    cases l.run p.evs <;> rfl

theorem exec_ok {emb : TreeM.PyErr → ε} {p : Plan ε α} {l l' : ObsList} {a : α} :
    p.exec emb l = .ok (l', a) ↔ l.run p.evs = .ok l' ∧ p.res = .ok a := by
  unfold exec
  cases l.run p.evs with
  | error e => simp
  | ok l1 => cases p.res <;> simp [Except.map]

theorem exec_filters {emb : TreeM.PyErr → ε} {p : Plan ε α} {l l' : ObsList} {a : α} (h : p.exec emb l = .ok (l', a)) :
    l'.filters = l.filters := (ObsList.run_filters _ (exec_ok.1 h).1).1

theorem exec_total {emb : TreeM.PyErr → ε} {p : Plan ε α} {l : ObsList} {a : α} (hi : l.Inv)
    (hm : ∀ ev ∈ p.evs, Modelled ev.file) (hr : p.res = .ok a) : ∃ l', p.exec emb l = .ok (l', a) := by
  obtain ⟨l', h⟩ := list_run_ok p.evs l hi.1 hi.2 hm
  exact ⟨l', exec_ok.2 ⟨h, hr⟩⟩

theorem mem_bind {p : Plan ε α} {k : α → Plan ε β} {ev : Ev} (h : ev ∈ (p.bind k).evs) :
    ev ∈ p.evs ∨ ∃ a, p.res = .ok a ∧ ev ∈ (k a).evs := by
  unfold bind at h
  cases hr : p.res with
  | error e => rw [hr] at h; exact Or.inl h
  | ok a =>
    rw [hr] at h
    rcases List.mem_append.1 h with h | h
    · exact Or.inl h
    · exact Or.inr ⟨a, rfl, h⟩

theorem bind_ok {p : Plan ε α} {k : α → Plan ε β} {b : β} (h : (p.bind k).res = .ok b) :
    ∃ a, p.res = .ok a ∧ (k a).res = .ok b ∧ (p.bind k).evs = p.evs ++ (k a).evs := by
  unfold bind at h ⊢
  cases hr : p.res with
  | error e => rw [hr] at h; cases h
  | ok a => rw [hr] at h; exact ⟨a, rfl, h, rfl⟩

end Plan
end ObsM
