/- Generator objects of one parser object (`C01M.stepG`): what `next(g)` and `list(g)` show is the front of what remained of
   `g` (`remaining`, `Shows`), what an operation on a generator cannot change (`Frame`, `Touch`), and hence a complete pass
   after any history shows the fresh parse of the text last read (`complete_pass`). -/
import CLModel.Parser.C01Gen
import CLModel.Proofs.C01Sess
import CLModel.Proofs.ParserProgress
import CLModel.Proofs.WalkFmt
import CLModel.Proofs.ListLemmas
namespace C01P
open P C01M C02P

def prepend (es : List Entry) (r : WalkResult) : WalkResult := es.foldr WalkResult.cons r

@[simp] theorem prepend_nil (r : WalkResult) : prepend [] r = r := rfl
@[simp] theorem prepend_cons (e : Entry) (es : List Entry) (r : WalkResult) :
    prepend (e :: es) r = (prepend es r).cons e := rfl

theorem prepend_done (es es' : List Entry) : prepend es (.done es') = .done (es ++ es') := by
  induction es with
  | nil => rfl
  | cons e es ih => simp [ih, WalkResult.cons]

theorem pull_walks (nx : Bool → Nat → Entry × Bool) (size : Nat) (loc : Bool) (hp : Prog nx size) :
    ∀ fuel fel off, size - off < fuel →
      ∃ sk fel1 off1, Walks nx size fel off sk fel1 off1 ∧ sk.filter (fun e => !loc || e.localizable) = [] ∧
        ((size ≤ off1 ∧ pull nx size loc fuel fel off = (.stop, fel1, off1)) ∨
         (off1 < size ∧ (!loc || (nx fel1 off1).1.localizable) = true ∧
           pull nx size loc fuel fel off = (.yield (nx fel1 off1).1, (nx fel1 off1).2, (nx fel1 off1).1.e))) := by
  intro fuel
  induction fuel with
  | zero => intro fel off h; omega
  | succ n ih =>
    intro fel off h
    by_cases hge : off ≥ size
    · exact ⟨[], fel, off, .nil _ _, rfl, .inl ⟨hge, by simp only [pull, hge, if_true]⟩⟩
    · have hlt : off < size := by omega
      obtain ⟨p1, p2⟩ := hp fel off hlt
      by_cases hy : (!loc || (nx fel off).1.localizable) = true
      · exact ⟨[], fel, off, .nil _ _, rfl, .inr ⟨hlt, hy, by simp only [pull, hge, if_false, hy, if_true]⟩⟩
      · obtain ⟨sk, fel1, off1, hw, hs, hr⟩ := ih (nx fel off).2 (nx fel off).1.e (by omega)
        have hpull : pull nx size loc (n + 1) fel off = pull nx size loc n (nx fel off).2 (nx fel off).1.e := by
          simp only [pull, hge, if_false, hy]; simp
        exact ⟨_ :: sk, fel1, off1, .cons hlt p1 rfl hw, by rw [List.filter_cons, if_neg hy, hs], hpull ▸ hr⟩

theorem prog_nextOf (f : Fmt) (s : Array Nat) : Prog (nextOf f s) s.size := Prog.of_progress (progress_nextOf f s)

/-- only `DefinesParser.getNext` writes the flag -/
theorem nextOf_fel (f : Fmt) (hf : f ≠ .inc) (s : Array Nat) (fel : Bool) (off : Nat) :
    (nextOf f s fel off).2 = fel := by
  cases f <;> first | exact absurd rfl hf | rfl

theorem pull_fel (nx : Bool → Nat → Entry × Bool) (hnx : ∀ fel off, (nx fel off).2 = fel) (size : Nat) (loc : Bool) :
    ∀ fuel fel off, (pull nx size loc fuel fel off).2.1 = fel := by
  intro fuel
  induction fuel with
  | zero => intro fel off; simp only [pull]
  | succ n ih =>
    intro fel off
    simp only [pull]
    split
    · rfl
    · split
      · exact hnx fel off
      · rw [ih, hnx]

/-- the flag a walk of format `f` starts with: `DefinesParser.walk` resets it, the others never read it -/
def startFel (f : Fmt) (fel : Bool) : Bool :=
  match f with
  | .inc => false
  | _ => fel

/-- the view `only_localizable = loc` of a fresh parse -/
def view (f : Fmt) (s : Array Nat) (loc : Bool) : WalkResult :=
  if loc then (walk f s).filterLoc else walk f s

theorem walkFromSt_passthrough (gn : Nat → Entry) (size : Nat) (loc : Bool) :
    ∀ fuel (b : Bool) off,
      walkFromSt (fun (b : Bool) off => (gn off, b)) size loc fuel b off =
        ((walkFromSt (fun (_ : Unit) off => (gn off, ())) size loc fuel () off).1, b) := by
  intro fuel
  induction fuel with
  | zero => intro b off; simp only [walkFromSt]
  | succ n ih =>
    intro b off
    simp only [walkFromSt]
    split
    · rfl
    · simp only [ih]

theorem walkFromSt_nextOf (f : Fmt) (s : Array Nat) (loc fel : Bool) :
    walkFromSt (nextOf f s) s.size loc (s.size + 1) fel 0 = walkSt f s loc fel := by
  cases f <;> simp only [walkSt]
  · exact walkFromSt_passthrough (propsGetNext s) _ _ _ _ _
  · exact walkFromSt_passthrough (dtdGetNext s) _ _ _ _ _
  · exact walkFromSt_passthrough (iniGetNext s) _ _ _ _ _
  · rfl
  · exact walkFromSt_passthrough (poGetNext s) _ _ _ _ _

theorem walkSt_start (f : Fmt) (s : Array Nat) (loc fel : Bool) :
    (walkSt f s loc (startFel f fel)).1 = view f s loc := by
  have h0 : (walkSt f s loc (startFel f fel)).1 = (walkSt f s loc false).1 := by
    by_cases hf : f = .inc
    · subst hf; rfl
    · exact walkSt_fst_stateless f hf s loc _
  rw [h0]
  cases loc
  · simp only [view, Bool.false_eq_true, if_false]; exact walkSt_fresh f s
  · simp only [view, if_true]
    rw [(walkSt_filter f s false).1, walkSt_fresh f s]

theorem sess_walks_fresh (f : Fmt) (t : Array Nat) : ∀ (ls : List Bool) (fel : Bool),
    C01M.run f (some (t, fel)) (ls.map .walk) = ls.map (view f t)
  | [], _ => rfl
  | l :: ls, fel => by
    simp only [List.map_cons, C01M.run, step]
    rw [← walkSt_start f t l fel, sess_walks_fresh f t ls]
    rfl

/-- what generator `g` of `σ` will still show if it is consumed to the end from now on, nothing else happening
    in between -/
def remaining (f : Fmt) (σ : Obj) (g : Nat) : WalkResult :=
  match σ.gens[g]? with
  | some ⟨loc, .running cid off⟩ =>
    (match σ.heap[cid]? with
     | some c => (walkFromSt (nextOf f c.s) c.s.size loc (c.s.size + 1) c.fel off).1
     | none => .done [])
  | some ⟨loc, .fresh⟩ =>
    (match σ.cur with
     | some cid =>
       (match σ.heap[cid]? with
        | some c => (walkFromSt (nextOf f c.s) c.s.size loc (c.s.size + 1) (startFel f c.fel) 0).1
        | none => .done [])
     | none => .done [])
  | _ => .done []

/-- what one `next(g)` shows of a walk of which `before` remained, leaving `after`: StopIteration exactly when nothing
    remained, otherwise the first remaining entry; never stuck -/
def _root_.C01M.Pull.Shows (p : Pull) (before after : WalkResult) : Prop :=
  match p with
  | .stuck => False
  | .stop => before = .done [] ∧ after = .done []
  | .yield e => before = after.cons e

theorem resume_spec (f : Fmt) (σ : Obj) (g : Nat) (go : GenO) (loc : Bool) (cid off : Nat) (c : CtxO)
    (hg : σ.gens[g]? = some go) (hc : σ.heap[cid]? = some c) :
    (resume f σ g loc cid off).2.Shows (walkFromSt (nextOf f c.s) c.s.size loc (c.s.size + 1) c.fel off).1
      (remaining f (resume f σ g loc cid off).1 g) := by
  have hgl := Txt.getElem?_some_lt hg
  have hcl := Txt.getElem?_some_lt hc
  obtain ⟨sk, fel1, off1, hw, hs, hr⟩ :=
    pull_walks (nextOf f c.s) c.s.size loc (prog_nextOf f c.s) (c.s.size + 1) c.fel off (by omega)
  rcases hr with ⟨hend, hpl⟩ | ⟨hlt, hy, hpl⟩
  · have hW := hw.doneSt hend loc (c.s.size + 1) (by have := hw.len_le_size; omega)
    simp [resume, hc, hpl, hW, hs, remaining, List.getElem?_set_self hgl, Pull.Shows]
  · obtain ⟨es, c', off', hw', hend⟩ := Walks.to_end (prog_nextOf f c.s) (nextOf f c.s fel1 off1).2
      (nextOf f c.s fel1 off1).1.e
    have hall := hw.append (.cons hlt ((prog_nextOf f c.s) fel1 off1 hlt).1 rfl hw')
    have hW := hall.doneSt hend loc (c.s.size + 1) (by have := hall.len_le_size; omega)
    have hW' := hw'.doneSt hend loc (c.s.size + 1) (by have := hw'.len_le_size; omega)
    rw [List.filter_append, hs, List.nil_append, List.filter_cons, if_pos hy] at hW
    simp [resume, hc, hpl, hW, remaining, List.getElem?_set_self hgl, List.getElem?_set_self hcl, hW', WalkResult.cons,
      Pull.Shows]

theorem startHeap_get (f : Fmt) (heap : List CtxO) (cid : Nat) :
    (startHeap f heap cid)[cid]? = (heap[cid]?).map fun c => { c with fel := startFel f c.fel } := by
  cases hc : heap[cid]? with
  | none => cases f <;> simp [startHeap, resetFel, hc]
  | some c => cases f <;> simp [startHeap, resetFel, hc, startFel, List.getElem?_set_self (Txt.getElem?_some_lt hc)]

theorem next1_spec (f : Fmt) (σ : Obj) (g : Nat) :
    (next1 f σ g).2.Shows (remaining f σ g) (remaining f (next1 f σ g).1 g) := by
  unfold next1
  cases hg : σ.gens[g]? with
  | none => simp [Pull.Shows, remaining, hg]
  | some go =>
    obtain ⟨loc, st⟩ := go
    cases st with
    | finished => simp [Pull.Shows, remaining, hg]
    | running cid off =>
      cases hc : σ.heap[cid]? with
      | none => simp [Pull.Shows, resume, hc, remaining, hg]
      | some c => simpa only [remaining, hg, hc] using resume_spec f σ g _ loc cid off c hg hc
    | fresh =>
      cases hcur : σ.cur with
      | none => simp [Pull.Shows, remaining, hg, hcur, List.getElem?_set_self (Txt.getElem?_some_lt hg)]
      | some cid =>
        have hh := startHeap_get f σ.heap cid
        cases hc : σ.heap[cid]? with
        | none => rw [hc] at hh; simp [Pull.Shows, resume, hh, remaining, hg, hcur, hc]
        | some c =>
          rw [hc] at hh
          simpa only [remaining, hg, hcur, hc] using
            resume_spec f { σ with heap := startHeap f σ.heap cid } g _ loc cid 0 _ hg hh

/-- what up to `k` × `next(g)` show of a walk of which `before` remained, leaving `after`: `k` entries, the front of
    `before`; or, when StopIteration was reached, all of it -/
def _root_.C01M.Out.Shows (o : Out) (k : Nat) (before after : WalkResult) : Prop :=
  match o with
  | .part es => es.length = k ∧ before = prepend es after
  | .full r => r = before ∧ after = .done []

theorem nextK_shows (f : Fmt) : ∀ k σ g, (nextK f k σ g).2.Shows k (remaining f σ g) (remaining f (nextK f k σ g).1 g)
  | 0, _, _ => ⟨rfl, rfl⟩
  | k + 1, σ, g => by
    have n := next1_spec f σ g
    simp only [nextK]
    generalize next1 f σ g = nr at n
    obtain ⟨σ', r⟩ := nr
    cases r with
    | stuck => exact n.elim
    | stop => exact ⟨n.1.symm, n.2⟩
    | yield e =>
      simp only [Pull.Shows] at n ⊢
      have i := nextK_shows f k σ' g
      generalize nextK f k σ' g = kr at i ⊢
      obtain ⟨σ'', o⟩ := kr
      cases o with
      | part es => exact ⟨by simp [i.1], by rw [n, i.2]; rfl⟩
      | full r => exact ⟨by rw [n, i.1], i.2⟩

/-- a progressing walk ends, with at most one entry per remaining character -/
theorem remaining_done (f : Fmt) (σ : Obj) (g : Nat) :
    ∃ es, remaining f σ g = .done es ∧ es.length ≤ genSize σ g := by
  have key (c : CtxO) (loc fel : Bool) (off : Nat) :
      ∃ es, (walkFromSt (nextOf f c.s) c.s.size loc (c.s.size + 1) fel off).1 = .done es ∧ es.length ≤ c.s.size := by
    obtain ⟨es, c', off', hw, h1⟩ := Walks.to_end (prog_nextOf f c.s) fel off
    have hl := hw.len_le_size
    exact ⟨_, by rw [hw.doneSt h1 loc _ (by omega)], Nat.le_trans (List.length_filter_le _ _) (by omega)⟩
  unfold remaining genSize genCtx
  cases hg : σ.gens[g]? with
  | none => exact ⟨[], rfl, Nat.zero_le _⟩
  | some go =>
    obtain ⟨loc, st⟩ := go
    cases st with
    | finished => exact ⟨[], rfl, Nat.zero_le _⟩
    | running cid off =>
      simp only
      cases hc : σ.heap[cid]? with
      | none => exact ⟨[], rfl, Nat.zero_le _⟩
      | some c => exact key c loc c.fel off
    | fresh =>
      simp only
      cases hcur : σ.cur with
      | none => exact ⟨[], rfl, Nat.zero_le _⟩
      | some cid =>
        simp only
        cases hc : σ.heap[cid]? with
        | none => exact ⟨[], rfl, Nat.zero_le _⟩
        | some c => exact key c loc _ 0

theorem drainG_spec (f : Fmt) (σ : Obj) (g : Nat) :
    (drainG f σ g).2 = .full (remaining f σ g) ∧ remaining f (drainG f σ g).1 g = .done [] := by
  have k := nextK_shows f (genSize σ g + 1) σ g
  unfold drainG
  generalize nextK f (genSize σ g + 1) σ g = kr at k
  obtain ⟨σ', o⟩ := kr
  cases o with
  | part es =>
    exfalso
    obtain ⟨es', h1, h2⟩ := remaining_done f σ g
    obtain ⟨es'', h3, _⟩ := remaining_done f σ' g
    obtain ⟨l, h⟩ := k
    rw [h1, h3, prepend_done] at h
    cases h
    rw [List.length_append] at h2
    omega
  | full r => exact ⟨by rw [k.1], k.2⟩

/-- the part of the object a generator operation must leave alone: which Context the parser holds, the contents of
    every Context ever created and — for the formats whose walk keeps no per-walk state — the Context objects altogether -/
structure Frame (f : Fmt) (σ σ' : Obj) : Prop where
  cur : σ'.cur = σ.cur
  contents : σ'.heap.map CtxO.s = σ.heap.map CtxO.s
  heap : f ≠ .inc → σ'.heap = σ.heap
  ngens : σ'.gens.length = σ.gens.length

theorem Frame.refl (f : Fmt) (σ : Obj) : Frame f σ σ := ⟨rfl, rfl, fun _ => rfl, rfl⟩

theorem Frame.trans {f : Fmt} {a b c : Obj} (h1 : Frame f a b) (h2 : Frame f b c) : Frame f a c :=
  ⟨h2.cur.trans h1.cur, h2.contents.trans h1.contents, fun hf => (h2.heap hf).trans (h1.heap hf),
   h2.ngens.trans h1.ngens⟩

/-- what an operation on generator `g` may change: within the frame, and no other generator object -/
structure Touch (f : Fmt) (g : Nat) (σ σ' : Obj) : Prop where
  frame : Frame f σ σ'
  others : ∀ g', g ≠ g' → σ'.gens[g']? = σ.gens[g']?

theorem Touch.refl (f : Fmt) (g : Nat) (σ : Obj) : Touch f g σ σ := ⟨Frame.refl f σ, fun _ _ => rfl⟩

theorem Touch.trans {f : Fmt} {g : Nat} {a b c : Obj} (h1 : Touch f g a b) (h2 : Touch f g b c) : Touch f g a c :=
  ⟨h1.frame.trans h2.frame, fun g' h => (h2.others g' h).trans (h1.others g' h)⟩

theorem resume_touch (f : Fmt) (σ : Obj) (g : Nat) (loc : Bool) (cid off : Nat) :
    Touch f g σ (resume f σ g loc cid off).1 := by
  unfold resume
  cases hc : σ.heap[cid]? with
  | none => exact Touch.refl f g σ
  | some c =>
    refine ⟨⟨rfl, Txt.set_map_same _ _ _ c _ hc rfl, fun hf => ?_, by simp⟩, fun g' h => by simp [h]⟩
    have := pull_fel (nextOf f c.s) (nextOf_fel f hf c.s) c.s.size loc (c.s.size + 1) c.fel off
    simp only [this]
    exact Txt.set_self _ _ _ hc

theorem startHeap_touch (f : Fmt) (g : Nat) (σ : Obj) (cid : Nat) :
    Touch f g σ { σ with heap := startHeap f σ.heap cid } := by
  refine ⟨⟨rfl, ?_, fun hf => ?_, rfl⟩, fun _ _ => rfl⟩
  · cases f <;> simp only [startHeap]
    simp only [resetFel]
    cases hc : σ.heap[cid]? with
    | none => rfl
    | some c => exact Txt.set_map_same _ _ _ c _ hc rfl
  · cases f <;> first | exact absurd rfl hf | rfl

theorem next1_touch (f : Fmt) (σ : Obj) (g : Nat) : Touch f g σ (next1 f σ g).1 := by
  unfold next1
  cases hg : σ.gens[g]? with
  | none => exact Touch.refl f g σ
  | some go =>
    obtain ⟨loc, st⟩ := go
    cases st with
    | finished => exact Touch.refl f g σ
    | running cid off => exact resume_touch f σ g loc cid off
    | fresh =>
      cases hcur : σ.cur with
      | none => exact ⟨⟨by simp [hcur], rfl, fun _ => rfl, by simp⟩, fun g' h => by simp [h]⟩
      | some cid =>
        have h1 := startHeap_touch f g σ cid
        rw [hcur] at h1
        exact h1.trans (resume_touch f _ g loc cid 0)

theorem nextK_touch (f : Fmt) (g : Nat) : ∀ k σ, Touch f g σ (nextK f k σ g).1
  | 0, σ => Touch.refl f g σ
  | k + 1, σ => by
    have h1 := next1_touch f σ g
    simp only [nextK]
    generalize next1 f σ g = nr at h1
    obtain ⟨σ', r⟩ := nr
    cases r with
    | stuck => exact h1
    | stop => exact h1
    | yield e => exact h1.trans (nextK_touch f g k σ')

theorem drainG_touch (f : Fmt) (σ : Obj) (g : Nat) : Touch f g σ (drainG f σ g).1 := by
  have h := nextK_touch f g (genSize σ g + 1) σ
  unfold drainG
  generalize nextK f (genSize σ g + 1) σ g = kr at h
  obtain ⟨σ', o⟩ := kr
  cases o <;> exact h

theorem closeG_touch (f : Fmt) (σ : Obj) (g : Nat) : Touch f g σ (closeG σ g) := by
  unfold closeG
  cases hg : σ.gens[g]? with
  | none => exact Touch.refl f g σ
  | some go => exact ⟨⟨rfl, rfl, fun _ => rfl, by simp⟩, fun g' h => by simp [h]⟩

theorem remaining_congr (f : Fmt) (σ σ' : Obj) (g : Nat) (hg : σ'.gens[g]? = σ.gens[g]?) (hc : σ'.cur = σ.cur)
    (hh : σ'.heap = σ.heap) : remaining f σ' g = remaining f σ g := by
  unfold remaining
  rw [hg, hc, hh]

/-- `Frame` without the count of generator objects (`mk` adds one) -/
structure Frame' (f : Fmt) (σ σ' : Obj) : Prop where
  cur : σ'.cur = σ.cur
  contents : σ'.heap.map CtxO.s = σ.heap.map CtxO.s
  heap : f ≠ .inc → σ'.heap = σ.heap

theorem Frame.weaken {f : Fmt} {σ σ' : Obj} (h : Frame f σ σ') : Frame' f σ σ' := ⟨h.cur, h.contents, h.heap⟩

theorem Frame'.refl (f : Fmt) (σ : Obj) : Frame' f σ σ := ⟨rfl, rfl, fun _ => rfl⟩

theorem Frame'.trans {f : Fmt} {a b c : Obj} (h1 : Frame' f a b) (h2 : Frame' f b c) : Frame' f a c :=
  ⟨h2.cur.trans h1.cur, h2.contents.trans h1.contents, fun hf => (h2.heap hf).trans (h1.heap hf)⟩

theorem stepG_frame (f : Fmt) (σ : Obj) (op : Op) (h : ∀ t, op ≠ .read t) : Frame' f σ (stepG f σ op).1 := by
  cases op with
  | read t => exact absurd rfl (h t)
  | mk loc => exact ⟨rfl, rfl, fun _ => rfl⟩
  | next g k => exact (nextK_touch f g k σ).frame.weaken
  | drain g => exact (drainG_touch f σ g).frame.weaken
  | close g => exact (closeG_touch f σ g).frame.weaken

theorem execG_frame (f : Fmt) : ∀ (ops : List Op) (σ : Obj), (∀ op ∈ ops, ∀ t, op ≠ .read t) →
    Frame' f σ (execG f σ ops) := by
  intro ops
  induction ops with
  | nil => intro σ _; exact Frame'.refl f σ
  | cons op ops ih =>
    intro σ h
    simp only [execG]
    exact (stepG_frame f σ op (h op (by simp))).trans (ih _ (fun o ho => h o (by simp [ho])))

/-- number of generator objects a history creates -/
def countMk : List Op → Nat
  | [] => 0
  | .mk _ :: ops => countMk ops + 1
  | _ :: ops => countMk ops

theorem stepG_ngens (f : Fmt) (σ : Obj) (op : Op) :
    (stepG f σ op).1.gens.length = σ.gens.length + countMk [op] := by
  cases op with
  | read t => rfl
  | mk loc => simp [stepG, countMk]
  | next g k => exact (nextK_touch f g k σ).frame.ngens
  | drain g => exact (drainG_touch f σ g).frame.ngens
  | close g => exact (closeG_touch f σ g).frame.ngens

theorem execG_ngens (f : Fmt) : ∀ (ops : List Op) (σ : Obj),
    (execG f σ ops).gens.length = σ.gens.length + countMk ops := by
  intro ops
  induction ops with
  | nil => intro σ; rfl
  | cons op ops ih =>
    intro σ
    simp only [execG]
    rw [ih, stepG_ngens]
    cases op <;> simp [countMk] <;> omega

/-- the text of the last `readUnicode` of a history (`init` if there is none) -/
def lastRead : List Op → Option (Array Nat) → Option (Array Nat)
  | [], init => init
  | .read t :: ops, _ => lastRead ops (some t)
  | _ :: ops, init => lastRead ops init

theorem curText_of_frame {f : Fmt} {σ σ' : Obj} (h : Frame' f σ σ') : curText σ' = curText σ := by
  unfold curText
  rw [h.cur]
  cases σ.cur with
  | none => rfl
  | some cid =>
    simp only
    have := congrArg (fun l => l[cid]?) h.contents
    simpa [List.getElem?_map] using this

theorem stepG_cur (f : Fmt) (σ : Obj) (op : Op) : curText (stepG f σ op).1 = lastRead [op] (curText σ) := by
  by_cases hr : ∃ t, op = .read t
  · obtain ⟨t, rfl⟩ := hr
    simp [stepG, curText, lastRead]
  · have hn : ∀ t, op ≠ .read t := fun t h => hr ⟨t, h⟩
    rw [curText_of_frame (stepG_frame f σ op hn)]
    cases op with
    | read t => exact absurd rfl (hn t)
    | _ => rfl

theorem execG_cur (f : Fmt) : ∀ (ops : List Op) (σ : Obj), curText (execG f σ ops) = lastRead ops (curText σ)
  | [], _ => rfl
  | op :: ops, σ => by
    rw [execG, execG_cur f ops, stepG_cur]
    cases op <;> rfl

/-- a complete pass (a new generator consumed to the end) on an object in ANY state -/
theorem fresh_pass (f : Fmt) (σ : Obj) (loc : Bool) :
    runG f σ [.mk loc, .drain σ.gens.length] =
      [.full (match curText σ with | some t => view f t loc | none => .done [])] := by
  simp only [runG, stepG]
  obtain ⟨d1, _⟩ := drainG_spec f { σ with gens := σ.gens ++ [{ loc := loc, st := .fresh }] } σ.gens.length
  generalize hd : drainG f { σ with gens := σ.gens ++ [{ loc := loc, st := .fresh }] } σ.gens.length = dr at d1
  obtain ⟨σ', o⟩ := dr
  simp only at d1 ⊢
  rw [d1]
  congr 2
  simp only [remaining, List.getElem?_concat_length, curText]
  cases σ.cur with
  | none => rfl
  | some cid =>
    simp only
    cases σ.heap[cid]? with
    | none => rfl
    | some c =>
      simp only [Option.map_some]
      rw [walkFromSt_nextOf, walkSt_start]

/-- the generator an operation consumes or closes -/
def target : Op → Option Nat
  | .next g _ => some g
  | .drain g => some g
  | .close g => some g
  | _ => none

theorem complete_pass (f : Fmt) (h : List Op) (loc : Bool) :
    runG f (execG f {} h) [.mk loc, .drain (countMk h)] =
      [.full (match lastRead h none with | some t => view f t loc | none => .done [])] := by
  have hn := execG_ngens f h {}
  simp only [List.length_nil, Nat.zero_add] at hn
  rw [← hn, fresh_pass, execG_cur]
  rfl

end C01P

namespace C02H
open C01M C01P

theorem lastRead_append (a b : List Op) : ∀ init, lastRead (a ++ b) init = lastRead b (lastRead a init) := by
  induction a with
  | nil => intro init; rfl
  | cons op a ih =>
    intro init
    cases op <;> simp only [List.cons_append, lastRead, ih]

theorem lastRead_noread (a : List Op) (h : ∀ op ∈ a, ∀ t, op ≠ .read t) : ∀ init, lastRead a init = init := by
  induction a with
  | nil => intro init; rfl
  | cons op a ih =>
    intro init
    have ht := ih (fun o ho => h o (by simp [ho]))
    cases op with
    | read t => exact absurd rfl (h (.read t) (by simp) t)
    | _ => simp only [lastRead, ht]

end C02H
