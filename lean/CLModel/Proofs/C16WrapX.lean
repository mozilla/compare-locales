/-
Helpers for the theorems of Props/C16.lean on the format-specific `wrap` methods (Fluent, Android): `split("\n")` and
`"\n".join` are inverse to each other, reading a printed Fluent comment back (`commentContent`), the entry-level Fluent walk
has the texts of the C01 walk model, and the decoding of what `_write_data` escapes (`xmlUnescape`).
-/
import CLModel.Serialize.Fluent
import CLModel.Serialize.Android
namespace C16W
open Ser

theorem splitNl_ne_nil : ∀ t : List Nat, splitNl t ≠ [] := by
  intro t
  induction t with
  | nil => simp [splitNl]
  | cons c cs ih =>
    unfold splitNl
    cases h : splitNl cs with
    | nil => exact absurd h ih
    | cons l ls => simp only; split <;> simp

theorem splitNl_no_nl : ∀ t : List Nat, ∀ l ∈ splitNl t, 10 ∉ l := by
  intro t
  induction t with
  | nil => intro l hl; simp [splitNl] at hl; subst hl; simp
  | cons c cs ih =>
    intro l hl
    unfold splitNl at hl
    cases h : splitNl cs with
    | nil => exact absurd h (splitNl_ne_nil cs)
    | cons l0 ls =>
      rw [h] at hl ih
      simp only at hl
      split at hl
      · rename_i hc
        simp only [List.mem_cons] at hl
        rcases hl with rfl | rfl | hl
        · simp
        · exact ih _ (by simp)
        · exact ih _ (by simp [hl])
      · rename_i hc
        simp only [List.mem_cons] at hl
        rcases hl with rfl | hl
        · intro hm
          simp only [List.mem_cons] at hm
          rcases hm with hm | hm
          · exact hc (by simp [← hm])
          · exact ih l0 (by simp) hm
        · exact ih _ (by simp [hl])

theorem joinNl_splitNl : ∀ t : List Nat, joinNl (splitNl t) = t := by
  intro t
  induction t with
  | nil => rfl
  | cons c cs ih =>
    unfold splitNl
    cases h : splitNl cs with
    | nil => exact absurd h (splitNl_ne_nil cs)
    | cons l ls =>
      rw [h] at ih
      simp only
      split
      · rename_i hc
        have : c = 10 := by simpa using hc
        subst this
        rw [joinNl]
        · rw [ih]; rfl
        · exact fun h => by cases h
      · cases ls with
        | nil => simp only [joinNl] at ih ⊢; rw [ih]
        | cons l' ls' => simp only [joinNl] at ih ⊢; rw [← ih]; rfl

theorem splitNl_line : ∀ l : List Nat, 10 ∉ l → splitNl l = [l] := by
  intro l
  induction l with
  | nil => intro _; rfl
  | cons c cs ih =>
    intro hl
    have hc : c ≠ 10 := fun h => hl (by simp [h])
    unfold splitNl
    rw [ih (fun h => hl (by simp [h]))]
    simp [hc]

theorem splitNl_append_nl : ∀ (l t : List Nat), 10 ∉ l → splitNl (l ++ 10 :: t) = l :: splitNl t := by
  intro l t
  induction l with
  | nil =>
    intro _
    simp only [List.nil_append]
    rw [splitNl]
    cases h : splitNl t with
    | nil => exact absurd h (splitNl_ne_nil t)
    | cons a as => simp
  | cons c cs ih =>
    intro hl
    have hc : c ≠ 10 := fun h => hl (by simp [h])
    simp only [List.cons_append]
    rw [splitNl, ih (fun h => hl (by simp [h]))]
    simp [hc]

theorem splitNl_joinNl : ∀ ls : List (List Nat), ls ≠ [] → (∀ l ∈ ls, 10 ∉ l) → splitNl (joinNl ls) = ls := by
  intro ls
  induction ls with
  | nil => intro h; exact absurd rfl h
  | cons l rest ih =>
    intro _ hno
    have hl : 10 ∉ l := hno l (by simp)
    cases rest with
    | nil => simp only [joinNl]; exact splitNl_line l hl
    | cons l' rest' =>
      have ihr := ih (by simp) (fun x hx => hno x (by simp [hx]))
      simp only [joinNl] at ihr ⊢
      rw [splitNl_append_nl l _ hl]
      congr 1

def unprefix (line : List Nat) : List Nat := if line == [35] then [] else line.drop 2

/-- reading a printed comment back: drop the final line break, split into lines, drop `#` / `# ` from each -/
def commentContent (printed : List Nat) : List Nat := joinNl ((splitNl printed.dropLast).map unprefix)

def prefixLine (line : List Nat) : List Nat := if line.isEmpty then [35] else 35 :: 32 :: line

theorem unprefix_prefixLine (line : List Nat) : unprefix (prefixLine line) = line := by
  unfold prefixLine unprefix
  cases line with
  | nil => simp
  | cons c cs => simp

theorem prefixLine_no_nl {line : List Nat} (h : 10 ∉ line) : 10 ∉ prefixLine line := by
  unfold prefixLine
  split
  · simp
  · intro hm
    simp only [List.mem_cons] at hm
    rcases hm with hm | hm | hm
    · cases hm
    · cases hm
    · exact h hm

theorem fluentToEnt_all (s : Array Nat) (b : FBody) (e : P.Entry) : (fluentToEnt s b e).all = e.all s := by
  unfold fluentToEnt
  cases e.kind <;> rfl

theorem fluentWalkEntsFrom_alls (s : Array Nat) : ∀ (body : List FBody) (last : Nat),
    (fluentWalkEntsFrom s body last).map (·.all) = (P.fluentWalkFrom s false (body.map (·.entry)) last).map (fun e => e.all s) := by
  intro body
  induction body with
  | nil =>
    intro last
    simp only [fluentWalkEntsFrom, P.fluentWalkFrom, List.map_nil, Bool.not_false, Bool.true_and]
    by_cases h : s.size > last <;> simp [h, wsEnt, P.Entry.all]
  | cons b rest ih =>
    intro last
    simp only [fluentWalkEntsFrom, P.fluentWalkFrom, List.map_cons, List.map_append, Bool.not_false, Bool.true_and]
    rw [ih]
    congr 1
    congr 1
    · by_cases h : b.entry.s > last <;> simp [h, wsEnt, P.Entry.all]
    · rw [List.map_map]
      apply List.map_congr_left
      intro e _
      exact fluentToEnt_all s b e

/-- standard decoding of the four entities `_write_data` produces -/
def xmlUnescape : List Nat → List Nat
  | 38 :: 97 :: 109 :: 112 :: 59 :: rest => 38 :: xmlUnescape rest
  | 38 :: 108 :: 116 :: 59 :: rest => 60 :: xmlUnescape rest
  | 38 :: 113 :: 117 :: 111 :: 116 :: 59 :: rest => 34 :: xmlUnescape rest
  | 38 :: 103 :: 116 :: 59 :: rest => 62 :: xmlUnescape rest
  | c :: rest => c :: xmlUnescape rest
  | [] => []

theorem xmlEscape_cons (c : Nat) (cs : List Nat) :
    xmlEscape (c :: cs) =
      (if c == 38 then [38, 97, 109, 112, 59] else if c == 60 then [38, 108, 116, 59]
       else if c == 34 then [38, 113, 117, 111, 116, 59] else if c == 62 then [38, 103, 116, 59] else [c]) ++ xmlEscape cs := rfl

end C16W
