/- The language a capture-free regex ACCEPTS: `Den s r L` says that `r`, in front of any continuation, succeeds exactly
   when a text of `L` stands at the position and the continuation succeeds behind it.  Closed under `seq`
   (concatenation), `alt` (union), `eps`, `lit`; a greedy `{mn,}` of a one-character body accepts the runs of its class.
   For iff-statements about acceptance only: nothing is said about captures or about which match is found. -/
import CLModel.Proofs.RxStar
namespace Rx
open Txt (At)

theorem isSome_orElse {α} (a : Option α) (f : Unit → Option α) :
    (a.orElse f).isSome = true ↔ a.isSome = true ∨ (f ()).isSome = true := by
  cases a <;> simp

/-- `r`, in front of any continuation, accepts exactly the texts of `L`, and leaves the captures alone -/
def Den (s : Array Nat) (r : Re) (L : List Nat → Prop) : Prop :=
  ∀ (p : Nat) (caps : List (Nat × Nat × Nat)) (k : K), p ≤ s.size →
    ((m s r ⟨p, caps⟩ k).isSome = true ↔ ∃ w, L w ∧ At s p w ∧ (k ⟨p + w.length, caps⟩).isSome = true)

def Cat (A B : List Nat → Prop) (w : List Nat) : Prop := ∃ u v, A u ∧ B v ∧ w = u ++ v

/-- at least `mn` characters, all of class `P` -/
def Stretch (P : Nat → Bool) (mn : Nat) (w : List Nat) : Prop := mn ≤ w.length ∧ ∀ c ∈ w, P c = true

theorem den_eps (s : Array Nat) : Den s .eps (· = []) := fun p _ _ _ =>
  ⟨fun h => ⟨[], rfl, Txt.at_nil s p, h⟩, fun ⟨_, hw, _, h⟩ => by subst hw; exact h⟩

theorem den_lit (s : Array Nat) (c : Nat) : Den s (.lit c) (· = [c]) := by
  intro p caps k _
  rw [m_lit_def]
  constructor
  · intro h
    split at h
    · rename_i hc
      exact ⟨[c], rfl, Txt.at_cons.mpr ⟨by simpa using hc, Txt.at_nil _ _⟩, h⟩
    · cases h
  · rintro ⟨_, rfl, hw, h⟩
    rw [if_pos (by simpa using (Txt.at_cons.mp hw).1)]
    exact h

theorem den_seq {s : Array Nat} {a b : Re} {A B : List Nat → Prop} (ha : Den s a A) (hb : Den s b B) :
    Den s (.seq a b) (Cat A B) := by
  intro p caps k hp
  rw [m_seq_def, ha p caps _ hp]
  constructor
  · rintro ⟨u, hu, hat, h⟩
    obtain ⟨v, hv, hat', h'⟩ := (hb _ caps k (hat.le_size hp)).mp h
    exact ⟨u ++ v, ⟨u, v, hu, hv, rfl⟩, Txt.at_append.mpr ⟨hat, hat'⟩, by rwa [List.length_append, ← Nat.add_assoc]⟩
  · rintro ⟨_, ⟨u, v, hu, hv, rfl⟩, hat, h⟩
    obtain ⟨h1, h2⟩ := Txt.at_append.mp hat
    rw [List.length_append, ← Nat.add_assoc] at h
    exact ⟨u, hu, h1, (hb _ caps k (h1.le_size hp)).mpr ⟨v, hv, h2, h⟩⟩

theorem den_alt {s : Array Nat} {a b : Re} {A B : List Nat → Prop} (ha : Den s a A) (hb : Den s b B) :
    Den s (.alt a b) (fun w => A w ∨ B w) := by
  intro p caps k hp
  rw [m_alt_def, isSome_orElse, ha p caps k hp, hb p caps k hp]
  constructor
  · rintro (⟨w, h1, h2⟩ | ⟨w, h1, h2⟩)
    · exact ⟨w, .inl h1, h2⟩
    · exact ⟨w, .inr h1, h2⟩
  · rintro ⟨w, h1 | h1, h2⟩
    · exact .inl ⟨w, h1, h2⟩
    · exact .inr ⟨w, h1, h2⟩

theorem den_rep {s : Array Nat} {b : Re} {P : Nat → Bool} (hb : ∀ st, ends s b st = stepIf s P st) (mn : Nat) :
    Den s (.rep mn none true b) (Stretch P mn) := by
  intro p caps k hp
  rw [m_rep_greedy hb mn hp]
  have hle := runAt_le s P p
  constructor
  · intro h
    split at h
    · obtain ⟨j, hj, hk⟩ := (firstSome_isSome_iff _ _).mp h
      obtain ⟨hj1, hj2⟩ := mem_downFrom_iff.mp hj
      obtain ⟨hat, hlen⟩ := Txt.at_extract (s := s) (a := p) (b := j) (by omega) (by omega)
      refine ⟨_, ⟨by omega, fun c hc => ?_⟩, hat, by rw [hlen, show p + (j - p) = j by omega]; exact hk⟩
      obtain ⟨i, hi1, hi2, hi3⟩ := Txt.mem_extract hc
      obtain ⟨d, hd, hP⟩ := runAt_all s P p (i - p) (by omega)
      rw [show p + (i - p) = i by omega, hi3] at hd
      cases hd; exact hP
    · cases h
  · rintro ⟨w, ⟨hmn, hP⟩, hat, h⟩
    have hwl := hat.le_size hp
    have := runAt_ge s P p w.length (fun q hq => ⟨w[q], hat.get hq, hP _ (List.getElem_mem hq)⟩)
    rw [if_pos (by omega), firstSome_isSome_iff]
    exact ⟨p + w.length, mem_downFrom_iff.mpr ⟨by omega, by omega⟩, h⟩

end Rx
