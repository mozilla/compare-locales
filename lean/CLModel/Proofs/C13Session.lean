/-
Parser sessions (Paths/TomlSession.lean): what one step does to the state and returns, and the generic memo table used to say which caches on a
parser object would be safe (`Memo`): a cache is transparent iff its key determines the result.
-/
import CLModel.Paths.TomlSession
import CLModel.Proofs.C13TomlExample
namespace C13S
open TS TC PF

theorem parse_fst (p : TParser) (a : ParseArgs) : (p.parse a).1 = p := rfl

theorem parse_snd (p : TParser) (a : ParseArgs) : (p.parse a).2 = TC.parse a.w (ctxEnv a.env) a.ignore a.path := rfl

theorem step_parse_out (s : State) (a : ParseArgs) :
    (step s (.parse a)).2 = .parsed (TC.parse a.w (ctxEnv a.env) a.ignore a.path) := by
  simp only [step, parse_snd]
  split <;> simp_all

theorem step_parse_live_ok (s : State) (a : ParseArgs) (pc : PC)
    (h : TC.parse a.w (ctxEnv a.env) a.ignore a.path = .ok pc) : (step s (.parse a)).1.live = s.live ++ [pc] := by
  simp only [step, parse_snd, h]

theorem step_parse_live_err (s : State) (a : ParseArgs) (e : TC.Err)
    (h : TC.parse a.w (ctxEnv a.env) a.ignore a.path = .error e) : (step s (.parse a)).1.live = s.live := by
  simp only [step, parse_snd, h]

theorem step_parser (s : State) (op : Op) : (step s op).1.parser = s.parser := rfl

theorem step_files_state (s : State) (is : List Nat) (loc : Option Loc) (mb : Option Text) (cwd : Text) (fs : FS)
    (looks : List Path) : (step s (.files is loc mb cwd fs looks)).1 = s := by
  simp only [step]; split <;> rfl

theorem step_files_out (s : State) (is : List Nat) (loc : Option Loc) (mb : Option Text) (cwd : Text) (fs : FS)
    (looks : List Path) (pcs : List PC) (h : is.mapM (fun i => s.live[i]?) = some pcs) :
    (step s (.files is loc mb cwd fs looks)).2 = .listed (listOf cwd pcs loc mb fs looks) := by
  simp only [step, h]

theorem run_nil (s : State) : run s [] = (s, []) := rfl

theorem run_cons (s : State) (op : Op) (ops : List Op) :
    run s (op :: ops) = ((run (step s op).1 ops).1, (step s op).2 :: (run (step s op).1 ops).2) := rfl

theorem stateAt_zero (s : State) (ops : List Op) : stateAt s ops 0 = s := by
  simp [stateAt, run_nil]

theorem stateAt_succ (s : State) (op : Op) (ops : List Op) (n : Nat) :
    stateAt s (op :: ops) (n + 1) = stateAt (step s op).1 ops n := by
  simp [stateAt, run_cons]

theorem run_length (s : State) (ops : List Op) : (run s ops).2.length = ops.length := by
  induction ops generalizing s with
  | nil => rfl
  | cons op ops ih => simp [run_cons, ih]

theorem run_get (s : State) (ops : List Op) (n : Nat) :
    (run s ops).2[n]? = (ops[n]?).map fun op => (step (stateAt s ops n) op).2 := by
  induction ops generalizing s n with
  | nil => simp [run_nil]
  | cons op ops ih =>
    cases n with
    | zero => simp [run_cons, stateAt_zero]
    | succ n => simp only [run_cons, List.getElem?_cons_succ, stateAt_succ]; exact ih _ n

theorem run_parser (s : State) (ops : List Op) : (run s ops).1.parser = s.parser := rfl

theorem step_live_stable (s : State) (op : Op) (i : Nat) (hi : i < s.live.length) (hop : ∀ ls, op ≠ .deep i ls) :
    (step s op).1.live[i]? = s.live[i]? ∧ i < (step s op).1.live.length := by
  cases op with
  | parse a =>
    simp only [step, parse_snd]
    split
    · simp only [List.length_append, List.length_cons, List.length_nil]
      exact ⟨List.getElem?_append_left hi, by omega⟩
    · exact ⟨rfl, hi⟩
  | deep j ls =>
    simp only [step]
    split
    · exact ⟨rfl, hi⟩
    · have hne : j ≠ i := fun h => hop ls (by rw [h])
      simp only [List.length_set]
      exact ⟨List.getElem?_set_ne hne, hi⟩
  | files is loc mb cwd fs looks =>
    rw [step_files_state]; exact ⟨rfl, hi⟩

theorem projectFiles_eq_filesOf (w : World) (env : Env) (ig : Bool) (configs : List Text) (locale : Option Loc)
    (mb : Option Text) :
    TC.projectFiles w env ig configs locale mb =
      match parseAll w env ig configs with
      | .error (i, e) => .error (.parse i e)
      | .ok pcs => filesOf w.cwd pcs locale mb := by
  unfold TC.projectFiles filesOf
  cases parseAll w env ig configs with
  | error x => rfl
  | ok pcs => rfl

theorem listOf_items {cwd : Text} {pcs : List PC} {locale : Option Loc} {mb : Option Text} {fs : FS} {looks : List Path}
    {r : List Item × List (Option Item)} (h : listOf cwd pcs locale mb fs looks = .ok r) :
    ∃ o, filesOf cwd pcs locale mb = .ok o ∧ o.iterM fs = .ok r.1 := by
  unfold listOf at h
  split at h
  · cases h
  · rename_i o ho
    split at h
    · cases h
    · rename_i its hits
      split at h
      · cases h
      · simp only [Except.ok.injEq] at h
        subst h
        exact ⟨o, ho, hits⟩

theorem eapp_fst (app : EApp) (w : TI.IniWorld) : (app.asConfig w).1 = app := rfl

theorem eapp_new_ok {w : TI.IniWorld} {fl : TI.Flavour} {inipath l10nbase : Text} {app : EApp}
    (h : EApp.new w fl inipath l10nbase = .ok app) :
    TI.load w fl inipath = .ok app.config ∧ app.l10nbase = abspath w.cwd l10nbase := by
  unfold EApp.new at h
  split at h
  · cases h
  · rename_i cfg hcfg
    simp only [Except.ok.injEq] at h
    subst h
    exact ⟨hcfg, rfl⟩

/-- a function `f` with a cache keyed by `key` in front of it -/
structure Memo (A K R : Type) where
  key : A → K
  f : A → R

/-- the calls `as` in turn, starting with the cache `c`: a hit returns the stored result, a miss computes and stores -/
def Memo.run {A K R : Type} [DecidableEq K] (m : Memo A K R) : List (K × R) → List A → List R
  | _, [] => []
  | c, a :: as =>
    match c.lookup (m.key a) with
    | some r => r :: m.run c as
    | none => m.f a :: m.run ((m.key a, m.f a) :: c) as

/-- every stored result is the result of every call with that key -/
def Memo.Sound {A K R : Type} [DecidableEq K] (m : Memo A K R) (c : List (K × R)) : Prop :=
  ∀ a r, c.lookup (m.key a) = some r → r = m.f a

theorem memo_run_eq {A K R : Type} [DecidableEq K] (m : Memo A K R) (hk : ∀ a b, m.key a = m.key b → m.f a = m.f b) :
    ∀ (as : List A) (c : List (K × R)), m.Sound c → m.run c as = as.map m.f
  | [], _, _ => rfl
  | a :: as, c, hc => by
    simp only [Memo.run, List.map_cons]
    split
    · rename_i r hr
      rw [hc a r hr, memo_run_eq m hk as c hc]
    · rw [memo_run_eq m hk as _ ?_]
      intro b r hb
      rw [List.lookup_cons] at hb
      split at hb
      · rename_i heq
        simp only [Option.some.injEq] at hb
        rw [← hb]
        have hkb : m.key b = m.key a := by simpa using heq
        exact hk a b hkb.symm
      · rename_i hr _
        exact hc b r hb

theorem memo_second_call_stale {A K R : Type} [DecidableEq K] (m : Memo A K R) (a b : A) (hkey : m.key a = m.key b) :
    m.run [] [a, b] = [m.f a, m.f a] := by
  simp [Memo.run, List.lookup, hkey]

/-- the key the regressed `_processChild` used: normalised path and the sorted variable names, not their values -/
def namesKey (a : ParseArgs) : Text × List Text := (normpath a.path, sortedSet ((ctxEnv a.env).map (·.1)))

/-- `self.parse(p, env=ctx.env, …)` of an included file, behind that cache -/
def namesMemo : Memo ParseArgs (Text × List Text) (Except TC.Err PC) :=
  { key := namesKey, f := fun a => TC.parse a.w (ctxEnv a.env) a.ignore a.path }

/-- the included file of the example world parsed for the checkout `/l` … -/
def exCallA : ParseArgs := { w := C13T.exWorld, env := some [(T "l10n_base", T "/l")], ignore := false, path := T "/r/cfg/a.toml" }
/-- … and for the checkout `/other`: same variable names, another value -/
def exCallB : ParseArgs := { w := C13T.exWorld, env := some [(T "l10n_base", T "/other")], ignore := false, path := T "/r/cfg/a.toml" }

end C13S
