/- C02, ini: a section header followed by `key=value⏎` records.  The records are blocks of the full grammar (no comment, a
   single newline behind each); the header is stepped over by hand, because its name may contain `=`, which the block grammar
   excludes. -/
import CLModel.Proofs.C02PIni
import CLModel.Proofs.C02Roundtrip
namespace C02X
open P C02P

/-- `[sec]⏎` then `key=value⏎` … -/
def printIni (sec : List Nat) (rs : List PRec) : List Nat := 91 :: (sec ++ 93 :: 10 :: printProps rs)

def iniSectionEntry (n : Nat) : Entry :=
  { kind := .section, full := 0, s := 0, e := n + 2, ks := (1 : Nat), ke := (n + 1 : Nat), vs := (1 : Nat), ve := (n + 1 : Nat) }

def iniRecEntries : Nat → List PRec → List Entry
  | _, [] => []
  | off, r :: rs =>
    iniEntity off r.1.length r.2.length :: wsEntry (off + r.1.length + 1 + r.2.length) ::
      iniRecEntries (off + r.1.length + 1 + r.2.length + 1) rs

def iniExpEntries (sec : List Nat) (rs : List PRec) : List Entry :=
  iniSectionEntry sec.length :: wsEntry (sec.length + 2) :: iniRecEntries (sec.length + 3) rs

theorem printRec_ini_end (off : Nat) (r : PRec) :
    off + (printRec r).length = (iniEntity off r.1.length r.2.length).e + 1 := by
  rw [printRec_length]
  show _ = off + r.1.length + 1 + r.2.length + 1
  omega

theorem iniEmbeds : Embeds iniSpec (fun r => IBlock.record [] [] r [10]) printRec
    (fun off r => iniEntity off r.1.length r.2.length) iniRecEntries expectedView SafeIniRec where
  nil := fun _ => rfl
  cons := fun _ _ _ => rfl
  len := printRec_ini_end
  pr := fun _ _ => rfl
  en := fun off _ r _ => by
    simp [iniSpec, IBlock.entries, iniRecEntity, iniEntity, printCLines, wsEntryN, wsEntry]
  tr := fun _ _ => rfl
  vw := fun _ _ => rfl
  good := fun _ _ hs => ⟨(fun _ h => nomatch h), (fun _ => rfl), (fun h => absurd rfl h), hs,
    ⟨fun c hc => by obtain rfl := List.mem_singleton.mp hc; rfl, rfl, rfl⟩⟩

theorem printIni_parts (sec : List Nat) (rs : List PRec) :
    At (printIni sec rs).toArray 0 (91 :: (sec ++ 93 :: ([10] ++ ((rs.map printRec).flatten ++ [])))) := by
  simp [At, printIni, printProps]

theorem walk_ini_printed (sec : List Nat) (rs : List PRec) (hsec : ∀ c ∈ sec, c ≠ 93 ∧ c ≠ 10)
    (h : ∀ r ∈ rs, SafeIniRec r) :
    walk .ini (printIni sec rs).toArray = .done (iniExpEntries sec rs) := by
  have h0 := printIni_parts sec rs
  generalize (printIni sec rs).toArray = s at h0 ⊢
  have h1 : At s (sec.length + 2) ([10] ++ ((rs.map printRec).flatten ++ [])) :=
    h0.tail.app.tail.cast (by omega)
  have h2 : At s (sec.length + 3) ((rs.map printRec).flatten ++ []) := h1.app
  have hfo : IFollow ((rs.map printRec).flatten ++ []) := by
    cases rs with
    | nil => intro c hc; cases hc
    | cons r rs => rw [List.map_cons, List.flatten_cons, List.append_assoc, printRec, List.append_assoc]
                   exact (safeIni_head r (h r List.mem_cons_self) _).2.2
  have e1 : iniGetNext s 0 = iniSectionEntry sec.length := by
    rw [ini_section_at_p s 0 sec _ hsec h0]
    simp [iniSecEntry, iniSectionEntry]
  have e2 : iniGetNext s (sec.length + 2) = wsEntry (sec.length + 2) :=
    ini_ws_at_n s _ [10] _ (List.cons_ne_nil _ _) (fun c hc => by obtain rfl := List.mem_singleton.mp hc; rfl) hfo h1
  have w3 := (iniEmbeds.walks iniSpec_laws rs h s (sec.length + 3) () [] h2 iniSpec_laws.follow_nil (lineStart_after h1)
    fun _ _ _ => rfl).1
  have w : Walks (iniNext s) s.size () 0 (iniExpEntries sec rs) () _ :=
    .cons (h0.pos_lt (List.cons_ne_nil _ _)) (Nat.succ_pos _) (congrArg (·, ()) e1)
      (.cons (h1.pos_lt (List.cons_ne_nil _ _)) (Nat.lt_succ_self _) (congrArg (·, ()) e2) w3)
  refine w.done_walk ?_
  have := h2.len
  rw [List.append_nil] at this
  omega

theorem entitiesOf_iniExpEntries (sec : List Nat) (rs : List PRec) (h : ∀ r ∈ rs, SafeIniRec r) :
    entitiesOf .ini (printIni sec rs).toArray (iniExpEntries sec rs) = rs.map expectedView ∧
      junkOf (printIni sec rs).toArray (iniExpEntries sec rs) = [] := by
  have h2 : At (printIni sec rs).toArray (sec.length + 3) ((rs.map printRec).flatten ++ []) :=
    (printIni_parts sec rs).tail.app.tail.app.cast (by simp; omega)
  obtain ⟨v1, v2⟩ := iniEmbeds.views_at iniSpec_laws rs h _ _ [] h2 iniSpec_laws.follow_nil
  rw [iniExpEntries, entitiesOf_cons_other _ _ _ _ (by simp [iniSectionEntry]), entitiesOf_cons_other _ _ _ _ (by simp [wsEntry]),
    junkOf_cons_other _ _ _ (by simp [iniSectionEntry]), junkOf_cons_other _ _ _ (by simp [wsEntry])]
  exact ⟨v1, v2⟩

end C02X
