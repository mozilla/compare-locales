/-
Ordered dicts, `pairs`, `parseResource`, well-formedness of a
version's dict.
-/
import CLModel.Merge.Channels
import CLModel.Proofs.AddRemove
namespace Merge
open AR

/-- a dict entry is stored under a key of the right sort -/
def KeyOK (p : Key × Ent) : Prop :=
  (p.2.isWs = true → p.1 = Key.obj p.2.oid.1 p.2.oid.2) ∧ (p.2.isWs = false → p.1.isObj = false)

theorem keyOK_isObj {p : Key × Ent} (h : KeyOK p) : p.1.isObj = p.2.isWs := by
  cases hw : p.2.isWs
  · exact h.2 hw
  · rw [h.1 hw]; rfl

theorem getKeyValue_snd (e : Ent) (c : List (List Nat × Nat)) : (getKeyValue e c).1.2 = e := by
  unfold getKeyValue
  split
  · rfl
  · split <;> rfl

theorem getKeyValue_keyOK (e : Ent) (c : List (List Nat × Nat)) : KeyOK (getKeyValue e c).1 := by
  unfold getKeyValue KeyOK Ent.isWs
  by_cases h1 : e.kind = .comment
  · simp [h1, Key.isObj]
  · by_cases h2 : e.kind = .whitespace
    · simp [h2, Key.isObj]
    · simp [h1, h2, Key.isObj]

theorem pairs_map_snd (es : List Ent) (c : List (List Nat × Nat)) : (pairs es c).map (·.2) = es := by
  induction es generalizing c with
  | nil => rfl
  | cons e es ih =>
    simp only [pairs, List.map_cons, getKeyValue_snd, ih]

theorem pairs_keyOK (es : List Ent) (c : List (List Nat × Nat)) : ∀ p ∈ pairs es c, KeyOK p := by
  induction es generalizing c with
  | nil => simp [pairs]
  | cons e es ih =>
    intro p hp
    simp only [pairs, List.mem_cons] at hp
    rcases hp with rfl | hp
    · exact getKeyValue_keyOK e c
    · exact ih _ p hp

theorem pairs_snd_mem (es : List Ent) (c : List (List Nat × Nat)) : ∀ p ∈ pairs es c, p.2 ∈ es := by
  intro p hp
  rw [← pairs_map_snd es c]
  exact List.mem_map.2 ⟨p, hp, rfl⟩

theorem pairs_ent_mem (es : List Ent) (c : List (List Nat × Nat)) (ek : EKey) :
    Key.ent ek ∈ (pairs es c).map (·.1) ↔ ∃ e ∈ es, e.keyed = true ∧ e.ekey = ek := by
  induction es generalizing c with
  | nil => simp [pairs]
  | cons e es ih =>
    simp only [pairs, List.map_cons, List.mem_cons, ih]
    have hk : Key.ent ek = (getKeyValue e c).1.1 ↔ (e.keyed = true ∧ e.ekey = ek) := by
      unfold getKeyValue Ent.keyed
      by_cases h1 : e.kind = .comment
      · simp [h1]
      · by_cases h2 : e.kind = .whitespace
        · simp [h2]
        · simp [h1, h2]; exact eq_comm
    rw [hk]
    constructor
    · rintro (h | ⟨e', he', h⟩)
      · exact ⟨e, .inl rfl, h⟩
      · exact ⟨e', .inr he', h⟩
    · rintro ⟨e', (rfl | he'), h⟩
      · exact .inl h
      · exact .inr ⟨e', he', h⟩

/-- what `parse_resource` guarantees of a version's dict and `merge_two` keeps: every key once, every entry under a key of
    its sort -/
structure WF (d : Dict) : Prop where
  nodup : (d.map (·.1)).Nodup
  ok : ∀ p ∈ d, KeyOK p

/-- all Whitespace objects of the dict were created while parsing version `j` -/
def VerEq (j : Nat) (d : Dict) : Prop := ∀ p ∈ d, p.2.isWs = true → p.2.oid.1 = j
/-- all Whitespace objects of the dict come from versions before `j` -/
def VerLt (j : Nat) (d : Dict) : Prop := ∀ p ∈ d, p.2.isWs = true → p.2.oid.1 < j

theorem parseResource_mem (es : List Ent) : ∀ p ∈ parseResource es, p ∈ pairs es [] := by
  intro p hp
  exact (mem_foldl_dset hp).resolve_left (List.not_mem_nil)

theorem parseResource_wf (es : List Ent) : WF (parseResource es) := by
  constructor
  · exact foldl_dset_nodup _ List.nodup_nil
  · intro p hp
    exact pairs_keyOK es [] p (parseResource_mem es p hp)

theorem parseResource_mem_keys (es : List Ent) (k : Key) :
    k ∈ (parseResource es).map (·.1) ↔ k ∈ (pairs es []).map (·.1) := by
  rw [parseResource, orderedDict, keys_foldl_dset, mem_foldl_ins]
  simp

theorem stamp_oid (v : Nat) (es : List Ent) : ∀ e ∈ stamp v es, e.oid.1 = v := by
  intro e he
  simp only [stamp, List.mem_map] at he
  obtain ⟨p, _, rfl⟩ := he
  rfl

theorem parseResource_verEq (v : Nat) (es : List Ent) : VerEq v (parseResource (stamp v es)) := by
  intro p hp _
  exact stamp_oid v es _ (pairs_snd_mem _ _ p (parseResource_mem _ p hp))

end Merge
