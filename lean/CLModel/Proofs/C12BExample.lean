/- Concrete matchers with a repeated variable as non-vacuity examples of the wildcard theorems. -/
import CLModel.Proofs.C12BFill
import CLModel.Proofs.C12RExample
namespace C12B
open PM C11R

theorem wellSepB_nowild {vs : Nat → Text} {env : Env} : ∀ {ns : List Node},
    (∀ n ∈ ns, (∀ k, n ≠ .star k) ∧ (∀ k sfx, n ≠ .starstar k sfx)) → WellSepB vs env ns
  | [], _ => trivial
  | c :: cs, h => by
    have ih := wellSepB_nowild (vs := vs) (env := env) (ns := cs) (fun n hn => h n (by simp [hn]))
    have hc := h c (by simp)
    unfold WellSepB at ih ⊢
    cases c with
    | lit t => exact ih
    | star k => exact absurd rfl (hc.1 k)
    | starstar k sfx => exact absurd rfl (hc.2 k sfx)
    | android r => exact ih
    | var name rep => cases rep <;> exact ih

/-- `Matcher("{l}a/{l}b/*.ftl", {"l": "l10n/"})` written out: the second `{l}` is a repeated variable -/
def repMatcher : Matcher :=
  { pattern := { nodes := [.var (T "l") false, .lit (T "a/"), .var (T "l") true, .lit (T "b/"), .star 1, .lit (T ".ftl")],
                 root := none, prefixLen := 4 },
    env := [(T "l", .pat { nodes := [.lit (T "l10n/")], root := none, prefixLen := 1 })] }

/-- `Matcher("l10n/{locale}/x/{locale}.ftl", {"locale": "de"})` written out -/
def locMatcher : Matcher :=
  { pattern := { nodes := [.lit (T "l10n/"), .var localeName false, .lit (T "/x/"), .var localeName true, .lit (T ".ftl")],
                 root := none, prefixLen := 5 },
    env := [(localeName, .pat { nodes := [.lit (T "de")], root := none, prefixLen := 1 })] }

def repVals : Nat → Text
  | 1 => T "c.d"
  | _ => []

theorem repMatcher_is : matcherOf "{l}a/{l}b/*.ftl" [("l", "l10n/")] none = .ok repMatcher :=
  matcherOf_is (by decide +kernel)

theorem locMatcher_is : matcherOf "l10n/{locale}/x/{locale}.ftl" [("locale", "de")] none = .ok locMatcher :=
  matcherOf_is (by decide +kernel)

theorem repMatcher_l (r : Bool) : expandNode (expandVal (fuelFor repMatcher.env)) (.var (T "l") r) repMatcher.env true =
    .ok (T "l10n/") := by cases r <;> exact okEq_spec (by decide +kernel)

theorem rep_varText (r : Bool) : varText repMatcher.env (.var (T "l") r) = T "l10n/" := by
  unfold varText; rw [repMatcher_l]

theorem rep_pieces : repMatcher.pattern.nodes.map (pieceOfB repVals repMatcher.env) =
    [Piece.grp (T "l10n/"), Piece.lit (T "a/"), Piece.lit (T "l10n/"), Piece.lit (T "b/"), Piece.star (T "c.d"),
      Piece.lit (T ".ftl")] := by
  have h1 := rep_varText false
  have h2 := rep_varText true
  simp only [repMatcher] at h1 h2
  simp only [repMatcher, List.map_cons, List.map_nil, pieceOfB, pieceOf, h1, h2]
  rfl

theorem repMatcher_ok : (∃ names, FillableB repVals repMatcher names []) ∧ Expandable repMatcher := by
  obtain ⟨re, names, hre, hna⟩ := regexOf_ok_of androidName (m := repMatcher) (by decide +kernel)
  refine ⟨⟨names, ?_, ?_, ⟨re, hre⟩, hna, rfl, ?_⟩, ?_, keysOnce_of_nodup (by decide), ?_⟩
  · intro k v hm
    simp only [repMatcher, List.mem_singleton, Prod.mk.injEq] at hm
    obtain ⟨_, rfl⟩ := hm
    exact ⟨rfl, fun n hn => by simp only [List.mem_singleton] at hn; subst hn; trivial⟩
  · exact ⟨⟨_, repMatcher_l false⟩, by simp, trivial⟩
  · show PSep _
    rw [rep_pieces]
    refine ⟨?_, ?_, trivial⟩
    · decide
    · exact noLaterHit_of_first (by decide) (by decide)
  · intro k p hm n hn r
    simp only [repMatcher, List.mem_singleton, Prod.mk.injEq, Val.pat.injEq] at hm
    obtain ⟨_, rfl⟩ := hm
    simp only [List.mem_singleton] at hn
    subst hn; simp
  · intro k
    simp [repMatcher, List.lookup, sname, T]

theorem rep_fill : [] ++ fillN repVals repMatcher.env repMatcher.pattern.nodes = T "l10n/a/l10n/b/c.d.ftl" := by
  rw [← fillB_eq, rep_pieces]
  decide +kernel

theorem locMatcher_loc (r : Bool) : expandNode (expandVal (fuelFor locMatcher.env)) (.var localeName r) locMatcher.env true =
    .ok (T "de") := by cases r <;> exact okEq_spec (by decide +kernel)

theorem locMatcher_ok : (∃ names, FillableB repVals locMatcher names []) ∧ Expandable locMatcher := by
  obtain ⟨re, names, hre, hna⟩ := regexOf_ok_of androidName (m := locMatcher) (by decide +kernel)
  refine ⟨⟨names, ?_, ?_, ⟨re, hre⟩, hna, rfl, ?_⟩, ?_, keysOnce_of_nodup (by decide), ?_⟩
  · intro k v hm
    simp only [locMatcher, List.mem_singleton, Prod.mk.injEq] at hm
    obtain ⟨_, rfl⟩ := hm
    exact ⟨rfl, fun n hn => by simp only [List.mem_singleton] at hn; subst hn; trivial⟩
  · exact ⟨⟨_, locMatcher_loc false⟩, by simp, trivial⟩
  · apply wellSepB_nowild
    intro n hn
    simp only [locMatcher, List.mem_cons, List.not_mem_nil, or_false] at hn
    rcases hn with rfl | rfl | rfl | rfl | rfl <;> exact ⟨fun _ h => (by cases h), fun _ _ h => (by cases h)⟩
  · intro k p hm n hn r
    simp only [locMatcher, List.mem_singleton, Prod.mk.injEq, Val.pat.injEq] at hm
    obtain ⟨_, rfl⟩ := hm
    simp only [List.mem_singleton] at hn
    subst hn; simp
  · intro k
    simp [locMatcher, List.lookup, sname, localeName]

theorem loc_fill : [] ++ fillN repVals locMatcher.env locMatcher.pattern.nodes = T "l10n/de/x/de.ftl" := by
  have h1 : varText locMatcher.env (.var localeName false) = T "de" := by unfold varText; rw [locMatcher_loc]
  have h2 : varText locMatcher.env (.var localeName true) = T "de" := by unfold varText; rw [locMatcher_loc]
  simp only [fillN, locMatcher, List.map_cons, List.map_nil, pieceOf] at *
  rw [h1, h2]
  decide +kernel

end C12B
