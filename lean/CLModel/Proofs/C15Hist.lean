/-
C15H: `merge_channels` inside a process that also compares, lints, serialises and looks parsers up (model:
CLModel/Merge/History.lean over CLModel/History/Machine.lean).  The merge step reads no component of the state
(`chan_out_any` is `rfl`); the entry points never change (`step_ep`), so without plugins the parser lookup is
`getParserClass` in every state (`getParser_noPlugins`); that the other operations keep the state reachable is C18's
`C18M.safe_of_frozen`.
-/
import CLModel.Merge.History
import CLModel.Proofs.C18MStep
namespace C15H
open HistM Merge MergeH

theorem step_ep (s : S) (op : HistM.Op) : (HistM.step s op).1.ep = s.ep := by
  cases op <;> simp only [HistM.step, doRewalk] <;> (repeat' split) <;> rfl

theorem reachable_ep (ep : EpEnv) (s : S) (h : Reachable ep s) : s.ep = ep := by
  induction h with
  | init => rfl
  | step s op _ _ ih => rw [step_ep]; exact ih

theorem getParser_noPlugins (ep : EpEnv) (hep : NoPlugins ep) (path : Text) :
    HistM.getParser ep path = (getParserClass path).map (fun cls => (cls, true)) := by
  unfold HistM.getParser getParserClass
  cases hf : Gen.Pat.parserConstructors.find? (fun item => (Rx.search path.toArray item.1 0).isSome) with
  | some item => rfl
  | none =>
    cases ep with
    | unavailable => rfl
    | plugins ps =>
      have : ps = [] := hep
      subst this
      rfl

theorem chan_out_any (s : S) (f : P.Fmt) (texts : List (Array Nat)) :
    (HistM.step s (.mergeChannels f texts)).2 = .chan (mergeTexts f texts) := rfl

/-- `h` is not used: the merge step reads no component of the state (`chan_out_any`) -/
theorem chan_out (ep : EpEnv) (s : S) (h : Reachable ep s) (f : P.Fmt) (texts : List (Array Nat)) :
    (HistM.step s (.mergeChannels f texts)).2 = .chan (mergeTexts f texts) :=
  chan_out_any s f texts

theorem mergeNamed_out (s : S) (hep : NoPlugins s.ep) (name : Text) (texts : List (Array Nat)) :
    (mergeNamed s name texts).2 = mergeChannels name texts := by
  unfold mergeNamed mergeChannels
  rw [getParser_noPlugins s.ep hep]
  cases getParserClass name with
  | none => rfl
  | some cls =>
    simp only [Option.map_some]
    cases hp : parserOfClass cls with
    | none => rfl
    | some pid =>
      cases pid with
      | regex f => simp only [chan_out_any s f texts, chanOf]
      | fluent => rfl
      | android => rfl

theorem mergeNamed_ep (s : S) (name : Text) (texts : List (Array Nat)) : (mergeNamed s name texts).1.ep = s.ep := by
  unfold mergeNamed
  split
  · rfl
  · split
    · exact step_ep s _
    · rfl

theorem mergeNamed_reachable (ep : EpEnv) (s : S) (h : Reachable ep s) (name : Text) (texts : List (Array Nat)) :
    Reachable ep (mergeNamed s name texts).1 := by
  unfold mergeNamed
  split
  · exact h
  · split
    · exact Reachable.step s (.mergeChannels _ texts) h trivial
    · exact h

theorem step_reachable (ep : EpEnv) (s : S) (h : Reachable ep s) (op : MergeH.Op) (hp : op.plain) :
    Reachable ep (MergeH.step s op).1 := by
  cases op with
  | merge name texts => exact mergeNamed_reachable ep s h name texts
  | other o => exact Reachable.step s o h (C18M.safe_of_frozen s o hp)

theorem mstep_ep (s : S) (op : MergeH.Op) : (MergeH.step s op).1.ep = s.ep := by
  cases op with
  | merge name texts => exact mergeNamed_ep s name texts
  | other o => exact step_ep s o

theorem step_promised (s : S) (hep : NoPlugins s.ep) (op : MergeH.Op) :
    observed op (MergeH.step s op).2 = promised op := by
  cases op with
  | merge name texts => simp only [MergeH.step, observed, promised, mergeNamed_out s hep name texts]
  | other o => rfl

theorem run_reachable (ep : EpEnv) (ops : List MergeH.Op) :
    ∀ (s : S), Reachable ep s → (∀ op ∈ ops, op.plain) → Reachable ep (MergeH.run s ops).1 := by
  induction ops with
  | nil => intro s h _; exact h
  | cons op ops ih =>
    intro s h hp
    exact ih _ (step_reachable ep s h op (hp op (by simp))) (fun o ho => hp o (by simp [ho]))

theorem refused_state (s : S) (name : Text) (texts : List (Array Nat)) (h : HistM.getParser s.ep name = none) :
    mergeNamed s name texts = (s, .error .mergeNotSupported) := by
  unfold mergeNamed
  rw [h]

end C15H
