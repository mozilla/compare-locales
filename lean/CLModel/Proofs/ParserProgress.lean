/- What every result of a per-format `getNext` satisfies (`EOK`: it starts at the offset, ends later and inside the text, and
   the key and value spans of an entity lie inside it, the value span up to the format's degenerate encoding `VNormal` /
   `VDtd` / `VInc`), read off `skel_cases` from what the format's parts guarantee (`CfgOK`, `CreateOK`).  `dtdInner` and
   `poTail` are the second halves of `dtdGetNext` and `poCreate`; `getJunk_end`, `getNext_end` serve a DTD that is only a
   byte-order mark. -/
import CLModel.Parser.Formats
import CLModel.Proofs.RxLemmas
import CLModel.Proofs.RxSearch
import CLModel.Proofs.Captures
import CLModel.Proofs.Walk
import CLModel.Proofs.Skel
namespace P
open Rx Gen.Pat

/-- shape of the relation between an entity's span `[s, e)` and its value span `v` -/
abbrev VPred := Nat → Int × Int → Nat → Prop

/-- the value span lies inside the entity span -/
def VNormal : VPred := fun s v e => (s : Int) ≤ v.1 ∧ v.1 ≤ v.2 ∧ v.2 ≤ (e : Int)

/-- DTD: inside, or the trimmed span `(p+1, p)` of a value that is a lone apostrophe -/
def VDtd : VPred := fun s v e => VNormal s v e ∨ (v.2 + 1 = v.1 ∧ (s : Int) ≤ v.2 ∧ v.1 ≤ (e : Int))

/-- defines: inside, or `(-1, -1)` when the optional `val` group did not take part in the match -/
def VInc : VPred := fun s v e => VNormal s v e ∨ (v.1 = -1 ∧ v.2 = -1)

def KeyIn (e : Entry) : Prop :=
  e.kind = .entity → (e.s : Int) ≤ e.ks ∧ e.ks ≤ e.ke ∧ e.ke ≤ (e.e : Int)

def ValIn (V : VPred) (e : Entry) : Prop := e.kind = .entity → V e.s (e.vs, e.ve) e.e

def DtdIn (e : Entry) : Prop := KeyIn e ∧ ValIn VDtd e

/-- what every `getNext` result at offset `off` satisfies: it starts (including the attached
    pre-comment) at `off`, ends strictly later and inside the text; an entity's key span lies
    inside the entity span and its value span satisfies `V`. -/
def EOK (V : VPred) (size off : Nat) (e : Entry) : Prop :=
  e.full = off ∧ off < e.e ∧ e.e ≤ size ∧ KeyIn e ∧ ValIn V e

theorem EOK.keyIn {V : VPred} {size off : Nat} {e : Entry} (h : EOK V size off e) : KeyIn e := h.2.2.2.1
theorem EOK.valIn {V : VPred} {size off : Nat} {e : Entry} (h : EOK V size off e) : ValIn V e := h.2.2.2.2

theorem EOK.of_ne {V : VPred} {size off : Nat} {e : Entry} (h1 : e.full = off) (h2 : off < e.e) (h3 : e.e ≤ size)
    (hk : e.kind ≠ .entity) : EOK V size off e := ⟨h1, h2, h3, fun h => absurd h hk, fun h => absurd h hk⟩

/-- `EOK` for a walk whose entry found at offset 0 may start at `b` (the DTD parser skips a byte-order mark): what
    `P.Progress` asks of one call, and the key and value spans -/
structure NextOK (V : VPred) (size b off : Nat) (e : Entry) : Prop where
  full : e.full = (if off = 0 then b else off)
  full_le : e.full ≤ e.e
  lt : off < e.e
  le : e.e ≤ size
  keyIn : KeyIn e
  valIn : ValIn V e

theorem EOK.nextOK {V : VPred} {size off : Nat} {e : Entry} (h : EOK V size off e) : NextOK V size 0 off e :=
  ⟨by rw [h.1]; split <;> omega, by have := h.1; have := h.2.1; omega, h.2.1, h.2.2.1, h.keyIn, h.valIn⟩

/-- what `createEntity` guarantees for a key match at `o2` when it does not raise (`r`: end, key span, value span, as
    `Stages.create` returns them): the entity ends after `o2` and inside the text, the key span lies inside it and the value
    span satisfies `V` -/
def CreateOK (V : VPred) (size o2 : Nat) (r : Nat × (Int × Int) × (Int × Int)) : Prop :=
  o2 < r.1 ∧ r.1 ≤ size ∧ ((o2 : Int) ≤ r.2.1.1 ∧ r.2.1.1 ≤ r.2.1.2 ∧ r.2.1.2 ≤ (r.1 : Int)) ∧ V o2 r.2.2 r.1

structure CfgOK (c : BaseCfg) (V : VPred) : Prop where
  comment_ne : 1 ≤ minLen c.reComment
  white_ne : 1 ≤ minLen c.reWhitespace
  key_ne : 1 ≤ minLen c.reKey
  /-- `CreateOK V s.size off (e, k, v)` -/
  create_ok : ∀ s off km e k v, off ≤ s.size → matchAt s c.reKey off = some km →
    c.create s off km = some (e, k, v) →
      off < e ∧ e ≤ s.size ∧ ((off : Int) ≤ k.1 ∧ k.1 ≤ k.2 ∧ k.2 ≤ (e : Int)) ∧ V off v e

theorem getJunk_eok (V : VPred) (s : Array Nat) (off : Nat) (exps : List Re) (hoff : off < s.size) :
    EOK V s.size off (getJunk s off exps) := by
  obtain ⟨h1, _, h3, h4, h5⟩ := getJunk_progress s off exps hoff
  exact EOK.of_ne h1 h3 h4 (by rw [h5]; decide)

theorem skel_eok (K : Stages) (V : VPred) (s : Array Nat) (off : Nat) (hoff : off < s.size)
    (hc : 1 ≤ minLen K.reComment) (hw : 1 ≤ minLen K.reWhitespace)
    (hearly : ∀ o1 b w e, ((b = false ∧ o1 = off) ∨ (b = true ∧ off < o1 ∧ o1 ≤ s.size)) → o1 < w → w ≤ s.size →
      K.early b off o1 w = some e → EOK V s.size off e)
    (hcreate : ∀ o2 km r, o2 ≤ s.size → matchAt s K.reKey o2 = some km → K.create o2 km = some r →
      CreateOK V s.size o2 r)
    (hother : EOK V s.size off (K.other off)) : EOK V s.size off (skel K s off) := by
  apply skel_cases
  · intro cst h
    have := matchAt_span h (by omega)
    exact EOK.of_ne rfl (by simp only [commentE]; omega) this.2 (by simp [commentE])
  · intro w _ h
    have := matchAt_span h (by omega)
    exact EOK.of_ne rfl (by simp only [wsE]; omega) this.2 (by simp [wsE])
  · intro o1 b w e hp hm he
    have hb := hp.bounds hc (by omega)
    have := matchAt_span hm (by rcases hb with ⟨_, rfl⟩ | ⟨_, _, h⟩ <;> omega)
    exact hearly o1 b w.pos e hb (by omega) this.2 he
  · intro o1 o2 b km r hp hg _ hk hr
    have ho1 : off ≤ o1 ∧ o1 ≤ s.size := by rcases hp.bounds hc (by omega) with ⟨_, rfl⟩ | ⟨_, h1, h2⟩ <;> omega
    have hg' := hg.bounds ho1.2
    obtain ⟨h1, h2, h3, h4⟩ := hcreate o2 km r hg'.2 hk hr
    exact ⟨rfl, by simp only [entityE]; omega, h2, fun _ => h3, fun _ => h4⟩
  · intro _ _; exact hother

theorem getNext_eok (c : BaseCfg) (V : VPred) (hc : CfgOK c V) (s : Array Nat) (off : Nat) (hoff : off < s.size) :
    EOK V s.size off (getNext c s off) :=
  getNext_eq_skel c s off ▸ skel_eok (baseK c s) V s off hoff hc.comment_ne hc.white_ne
    (fun _ _ _ _ _ _ _ h => by cases h) (fun o2 km r h2 hk hr => hc.create_ok s o2 km r.1 r.2.1 r.2.2 h2 hk hr)
    (getJunk_eok V s off _ hoff)

theorem spanI_of_group {st : St} {g a b : Nat} (h : st.group g = some (a, b)) :
    spanI st g = ((a : Int), (b : Int)) := by
  simp [spanI, h]

theorem spanI_of_none {st : St} {g : Nat} (h : st.group g = none) : spanI st g = (-1, -1) := by
  simp [spanI, h]

theorem iniCfg_ok : CfgOK iniCfg VNormal where
  comment_ne := by decide
  white_ne := by decide
  key_ne := by decide
  create_ok := by
    intro s off km e k v hle hm hcr
    simp only [iniCfg, Option.some.injEq, Prod.mk.injEq] at hcr
    obtain ⟨rfl, rfl, rfl⟩ := hcr
    have hs := matchAt_span hm hle
    have hne : 1 ≤ minLen iniCfg.reKey := by decide
    obtain ⟨a, b, hg, h1, h2, h3⟩ :=
      matchAt_group IniParser_reKey_g_key hm (by decide) (by decide)
    obtain ⟨a', b', hg', h1', h2', h3'⟩ :=
      matchAt_group IniParser_reKey_g_val hm (by decide) (by decide)
    rw [spanI_of_group hg, spanI_of_group hg']
    simp only [VNormal]
    omega

theorem iniGetNext_eok (s : Array Nat) (off : Nat) (hoff : off < s.size) :
    EOK VNormal s.size off (iniGetNext s off) := by
  unfold iniGetNext
  split
  · rename_i st hm
    have hs := matchAt_span hm (by omega)
    have hne : 1 ≤ minLen IniParser_reSection := by decide
    exact EOK.of_ne rfl (by simp; omega) hs.2 (by simp)
  · exact getNext_eok iniCfg _ iniCfg_ok s off hoff

/- At the very end of the text: needed for a DTD that is just a byte-order mark. -/

theorem getJunk_end (s : Array Nat) (exps : List Re) :
    getJunk s s.size exps = { kind := .junk, full := s.size, s := s.size, e := s.size } := by
  simp only [getJunk]
  rw [Txt.foldl_fix _ none (by intro x; simp only [search_gt _ _ _ (Nat.lt_succ_self _)])]

theorem getNext_end (c : BaseCfg) {V : VPred} (hc : CfgOK c V) (s : Array Nat) :
    getNext c s s.size = { kind := .junk, full := s.size, s := s.size, e := s.size } := by
  simp only [getNext, matchAt_end_none hc.comment_ne, matchAt_end_none hc.white_ne,
    matchAt_end_none hc.key_ne, Option.isSome_none, Bool.false_eq_true, if_false]
  exact getJunk_end s _

theorem dtdCfg_ok : CfgOK dtdCfg VDtd where
  comment_ne := by decide
  white_ne := by decide
  key_ne := by decide
  create_ok := by
    intro s off km e k v hle hm hcr
    simp only [dtdCfg, Option.some.injEq, Prod.mk.injEq] at hcr
    obtain ⟨rfl, rfl, rfl⟩ := hcr
    have hs := matchAt_span hm hle
    have hne : 1 ≤ minLen dtdCfg.reKey := by decide
    obtain ⟨a, b, hg, h1, h2, h3⟩ :=
      matchAt_group DTDParser_reKey_g_key hm (by decide) (by decide)
    obtain ⟨a', b', hg', _, _, _⟩ :=
      matchAt_group DTDParser_reKey_g_val hm (by decide) (by decide)
    -- the value group starts with a quote character, so it is at least one character long
    obtain ⟨h1', h2', h3'⟩ :=
      matchAt_group_opt DTDParser_reKey_g_val 1 hm (by decide) (by decide) hg'
    rw [spanI_of_group hg, spanI_of_group hg']
    refine ⟨by omega, hs.2, by simp only; omega, ?_⟩
    by_cases hlen : a' + 2 ≤ b'
    · exact Or.inl (by simp only [VNormal]; omega)
    · exact Or.inr (by simp only; omega)

theorem dtd_header_iff (s : Array Nat) :
    (matchAt s DTDParser_reHeader 0).isSome = true ↔ s[0]? = some 0xFEFF := by
  simp [matchAt, DTDParser_reHeader, m]

/-- the part of `DTDParser.getNext` after the byte-order-mark skip -/
def dtdInner (s : Array Nat) (off : Nat) : Entry :=
  let e := getNext dtdCfg s off
  if e.kind == .junk then
    match matchAt s DTDParser_rePE off with
    | some st =>
      let k := spanI st DTDParser_rePE_g_key
      let v := spanI st DTDParser_rePE_g_val
      { kind := .entity, full := off, s := off, e := st.pos, ks := k.1, ke := k.2, vs := v.1, ve := v.2 }
    | none => e
  else e

theorem dtdGetNext_eq (s : Array Nat) (off0 : Nat) :
    dtdGetNext s off0 =
      dtdInner s (if off0 == 0 && (matchAt s DTDParser_reHeader 0).isSome then off0 + 1 else off0) := rfl

theorem dtdInner_ok (s : Array Nat) (off : Nat) (hle : off ≤ s.size) :
    (dtdInner s off).full = off ∧ off ≤ (dtdInner s off).e ∧ (off < s.size → off < (dtdInner s off).e) ∧
      (dtdInner s off).e ≤ s.size ∧ DtdIn (dtdInner s off) := by
  have hbase : (getNext dtdCfg s off).full = off ∧ off ≤ (getNext dtdCfg s off).e ∧
      (off < s.size → off < (getNext dtdCfg s off).e) ∧ (getNext dtdCfg s off).e ≤ s.size ∧
      DtdIn (getNext dtdCfg s off) := by
    by_cases hlt : off < s.size
    · obtain ⟨h1, h2, h3, h4⟩ := getNext_eok dtdCfg _ dtdCfg_ok s off hlt
      exact ⟨h1, by omega, fun _ => h2, h3, h4⟩
    · have : off = s.size := by omega
      subst this
      rw [getNext_end dtdCfg dtdCfg_ok s]
      exact ⟨rfl, Nat.le_refl _, fun h => absurd h (Nat.lt_irrefl _), Nat.le_refl _, ⟨fun h => (by cases h), fun h => (by cases h)⟩⟩
  unfold dtdInner
  simp only
  split
  · split
    · rename_i st hm
      have hs := matchAt_span hm hle
      have hne : 1 ≤ minLen DTDParser_rePE := by decide
      obtain ⟨a, b, hg, h1, h2, h3⟩ :=
        matchAt_group DTDParser_rePE_g_key hm (by decide) (by decide)
      obtain ⟨a', b', hg', h1', h2', h3'⟩ :=
        matchAt_group DTDParser_rePE_g_val hm (by decide) (by decide)
      refine ⟨rfl, by simp only; omega, fun _ => by simp only; omega, hs.2, ⟨fun _ => ?_, fun _ => Or.inl ?_⟩⟩
      · rw [spanI_of_group hg]
        simp only
        omega
      · rw [spanI_of_group hg']
        simp only [VNormal]
        omega
    · exact hbase
  · exact hbase

theorem dtdGetNext_ok (s : Array Nat) (off0 : Nat) (hoff : off0 < s.size) :
    NextOK VDtd s.size (if s[0]? = some 0xFEFF then 1 else 0) off0 (dtdGetNext s off0) := by
  suffices h : (dtdGetNext s off0).full = (if off0 = 0 then (if s[0]? = some 0xFEFF then 1 else 0) else off0) ∧
      (dtdGetNext s off0).full ≤ (dtdGetNext s off0).e ∧ off0 < (dtdGetNext s off0).e ∧
      (dtdGetNext s off0).e ≤ s.size ∧ DtdIn (dtdGetNext s off0) from
    ⟨h.1, h.2.1, h.2.2.1, h.2.2.2.1, h.2.2.2.2.1, h.2.2.2.2.2⟩
  rw [dtdGetNext_eq]
  by_cases h0 : off0 = 0
  · subst h0
    by_cases hb : s[0]? = some 0xFEFF
    · have hh := (dtd_header_iff s).mpr hb
      simp only [hh, beq_self_eq_true, Bool.and_self, if_true, hb]
      obtain ⟨h1, h2, _, h4, h5⟩ := dtdInner_ok s (0 + 1) (by omega)
      exact ⟨h1, by omega, by omega, h4, h5⟩
    · have hh : (matchAt s DTDParser_reHeader 0).isSome = false := by
        cases hx : (matchAt s DTDParser_reHeader 0).isSome with
        | false => rfl
        | true => exact absurd ((dtd_header_iff s).mp hx) hb
      simp only [hh, Bool.and_false, Bool.false_eq_true, if_false, hb, if_true]
      obtain ⟨h1, h2, h3, h4, h5⟩ := dtdInner_ok s 0 (by omega)
      exact ⟨h1, by omega, h3 hoff, h4, h5⟩
  · have hne : (off0 == 0) = false := by simp [h0]
    simp only [hne, Bool.false_and, Bool.false_eq_true, if_false, h0]
    obtain ⟨h1, h2, h3, h4, h5⟩ := dtdInner_ok s off0 (by omega)
    exact ⟨h1, by omega, h3 hoff, h4, h5⟩

theorem startsWithAt_le {s : Array Nat} {key : List Nat} {cursor : Nat}
    (h : startsWithAt s key cursor = true) (hk : 0 < key.length) : cursor + key.length ≤ s.size := by
  unfold startsWithAt slice at h
  have := congrArg List.length (beq_iff_eq.mp h)
  simp at this
  omega

theorem poFrags_ok (s : Array Nat) : ∀ fuel cursor, cursor ≤ s.size →
    cursor ≤ (poFrags s fuel cursor).2 ∧ (poFrags s fuel cursor).2 ≤ s.size ∧
      ((poFrags s fuel cursor).1 ≠ [] → cursor < (poFrags s fuel cursor).2) := by
  intro fuel
  induction fuel with
  | zero => intro cursor h; simp [poFrags, h]
  | succ fuel ih =>
    intro cursor h
    simp only [poFrags]
    split
    · simp [h]
    · rename_i st hm
      have hs := matchAt_span hm h
      split
      · simp [h]
      · obtain ⟨h1, h2, _⟩ := ih st.pos hs.2
        simp only
        exact ⟨by omega, h2, fun _ => by omega⟩

theorem poStringList_ok {s : Array Nat} {cursor : Nat} {key : List Nat} {fr : List (Nat × Nat)} {c : Nat}
    (h : poStringList s cursor key = some (fr, c)) (hk : 0 < key.length) :
    cursor + key.length < c ∧ c ≤ s.size := by
  unfold poStringList at h
  split at h
  · cases h
  · rename_i hsw
    have hle := startsWithAt_le (by simpa using hsw) hk
    obtain ⟨h1, h2, h3⟩ := poFrags_ok s (s.size + 1) (cursor + key.length) hle
    simp only at h
    split at h
    · cases h
    · rename_i hne
      simp only [Option.some.injEq, Prod.mk.injEq] at h
      obtain ⟨hfr, rfl⟩ := h
      exact ⟨h3 (by intro h0; simp [h0] at hne), h2⟩

theorem wsSkip_ok (s : Array Nat) (c : Nat) (h : c ≤ s.size) :
    c ≤ (match matchAt s Parser_reWhitespace c with | some w => w.pos | none => c) ∧
      (match matchAt s Parser_reWhitespace c with | some w => w.pos | none => c) ≤ s.size := by
  split
  · rename_i w hw
    have := matchAt_span hw h
    omega
  · omega

/-- the msgid / msgstr part of `PoParser.createEntity` -/
def poTail (s : Array Nat) (start : Nat) (msgctxt : Option (List (Nat × Nat))) (cursor : Nat) : Option PoParts :=
  match poStringList s cursor kwMsgid with
  | none => none
  | some (idfr, c1) =>
    let c2 := match matchAt s Parser_reWhitespace c1 with | some w => w.pos | none => c1
    match poStringList s c2 kwMsgstr with
    | none => none
    | some (strfr, c3) =>
      some { e := c3, idS := start, idE := c1, valS := c2, msgctxt := msgctxt, msgid := idfr, msgstr := strfr }

theorem poTail_ok {s : Array Nat} {start cursor : Nat} {mc : Option (List (Nat × Nat))} {p : PoParts}
    (h : poTail s start mc cursor = some p) (h0 : start ≤ cursor) :
    p.idS = start ∧ start ≤ p.idE ∧ p.idE ≤ p.valS ∧ p.valS ≤ p.e ∧ start < p.e ∧ p.e ≤ s.size := by
  unfold poTail at h
  split at h
  · cases h
  · rename_i idfr c1 hid
    have h1 := poStringList_ok hid (by decide)
    have hc2b := wsSkip_ok s c1 h1.2
    simp only at h
    split at h
    · cases h
    · rename_i strfr c3 hstr
      have h3 := poStringList_ok hstr (by decide)
      simp only [Option.some.injEq] at h
      subst h
      refine ⟨rfl, ?_, ?_, ?_, ?_, ?_⟩ <;> simp only <;> omega

theorem poCreate_ok {s : Array Nat} {start : Nat} {p : PoParts} (h : poCreate s start = some p) :
    p.idS = start ∧ start ≤ p.idE ∧ p.idE ≤ p.valS ∧ p.valS ≤ p.e ∧ start < p.e ∧ p.e ≤ s.size := by
  rcases hsl : poStringList s start kwMsgctxt with _ | ⟨fr, c⟩
  · have : poCreate s start = poTail s start none start := by
      simp only [poCreate, hsl, poTail]
      rfl
    rw [this] at h
    exact poTail_ok h (Nat.le_refl _)
  · have h1 := poStringList_ok hsl (by decide)
    have h2 := wsSkip_ok s c h1.2
    have : poCreate s start = poTail s start (some fr)
        (match matchAt s Parser_reWhitespace c with | some w => w.pos | none => c) := by
      simp only [poCreate, hsl, poTail]
      rfl
    rw [this] at h
    exact poTail_ok h (by omega)

theorem poCfg_ok : CfgOK poCfg VNormal where
  comment_ne := by decide
  white_ne := by decide
  key_ne := by decide
  create_ok := by
    intro s off km e k v hle hm hcr
    simp only [poCfg] at hcr
    cases hp : poCreate s off with
    | none => simp [hp] at hcr
    | some p =>
      simp only [hp, Option.map_some, Option.some.injEq, Prod.mk.injEq] at hcr
      obtain ⟨rfl, rfl, rfl⟩ := hcr
      obtain ⟨h1, h2, h3, h4, h5, h6⟩ := poCreate_ok hp
      simp only [h1, VNormal]
      omega

theorem findNl_ok {s : Array Nat} {off nl : Nat} (h : findNl s off = some nl) : off ≤ nl ∧ nl < s.size := by
  unfold findNl at h
  obtain ⟨i, hi, hf⟩ := List.exists_of_findSome?_eq_some h
  simp only [List.mem_range] at hi
  split at hf
  · simp only [Option.some.injEq] at hf; omega
  · cases hf

theorem propsLines_ok (s : Array Nat) (lo : Nat) : ∀ fuel off sl, lo ≤ off → off ≤ s.size → lo ≤ sl → sl ≤ s.size →
    lo ≤ (propsLines s fuel off sl).1 ∧ (propsLines s fuel off sl).1 ≤ s.size ∧
    lo ≤ (propsLines s fuel off sl).2 ∧ (propsLines s fuel off sl).2 ≤ s.size := by
  intro fuel
  induction fuel with
  | zero => intro off sl h1 h2 h3 h4; simp [propsLines]; omega
  | succ fuel ih =>
    intro off sl h1 h2 h3 h4
    simp only [propsLines]
    split
    · simp only; omega
    · rename_i nl hnl
      have := findNl_ok hnl
      split
      · simp only; omega
      · split
        · simp only; omega
        · exact ih (nl + 1) (nl + 1) (by omega) (by omega) (by omega) (by omega)

theorem propsEnd_ok (s : Array Nat) (p ev sl : Nat) (hp : p ≤ s.size)
    (hpl : propsLines s (s.size + 1) p p = (ev, sl)) :
    p ≤ (match search s PropertiesParser__trailingWS sl with | some (q, _) => q | none => ev) ∧
      (match search s PropertiesParser__trailingWS sl with | some (q, _) => q | none => ev) ≤ s.size := by
  have := propsLines_ok s p (s.size + 1) p p (Nat.le_refl _) hp (Nat.le_refl _) hp
  rw [hpl] at this
  simp only at this
  split
  · rename_i q st hs
    have := search_spec hs
    omega
  · omega

theorem propsCreate_ok (s : Array Nat) (o2 : Nat) (km : St) (h2 : o2 ≤ s.size)
    (hm : matchAt s PropertiesParser_reKey o2 = some km) : CreateOK VNormal s.size o2 (propsCreate s km) := by
  unfold CreateOK
  have hs := matchAt_span hm h2
  have hne : 1 ≤ minLen PropertiesParser_reKey := by decide
  obtain ⟨a, b, hg, h1, h3, h4⟩ :=
    matchAt_group PropertiesParser_reKey_g_key hm (by decide) (by decide)
  rcases hpl : propsLines s (s.size + 1) km.pos km.pos with ⟨ev, sl⟩
  have he : km.pos ≤ (propsCreate s km).1 ∧ (propsCreate s km).1 ≤ s.size := by
    unfold propsCreate; rw [hpl]; exact propsEnd_ok s km.pos ev sl hs.2 hpl
  rw [show (propsCreate s km).2.1 = spanI km PropertiesParser_reKey_g_key from rfl,
    show (propsCreate s km).2.2 = ((km.pos : Int), ((propsCreate s km).1 : Int)) from rfl, spanI_of_group hg]
  simp only [VNormal]
  omega

theorem propsGetNext_eok (s : Array Nat) (off : Nat) (hoff : off < s.size) :
    EOK VNormal s.size off (propsGetNext s off) :=
  propsGetNext_eq_skel s off ▸ skel_eok (propsK s) VNormal s off hoff
    (show 1 ≤ minLen PropertiesParser_reComment by decide) (show 1 ≤ minLen Parser_reWhitespace by decide)
    (fun _ _ _ _ _ _ _ h => by cases h)
    (fun o2 km r h2 hk hr => by cases hr; exact propsCreate_ok s o2 km h2 hk)
    (getJunk_eok _ s off _ hoff)

theorem definesGetNext_eok (s : Array Nat) (fel : Bool) (off : Nat) (hoff : off < s.size) :
    EOK VInc s.size off (definesGetNext s fel off).1 := by
  rw [definesGetNext_eq_skel]
  refine skel_eok (definesK s fel) VInc s off hoff (show 1 ≤ minLen DefinesParser_reComment by decide)
    (show 1 ≤ minLen DefinesParser_reWhitespace by decide) ?_ ?_ ?_
  · intro o1 b w e hb h1 h2 he
    simp only [definesK] at he
    split at he
    · rcases hb with ⟨rfl, rfl⟩ | ⟨rfl, h3, h4⟩ <;> cases he
      · exact EOK.of_ne rfl h1 h2 (by simp)
      · exact EOK.of_ne rfl h3 h4 (by simp [commentE])
    · cases he
  · intro o2 km r h2 hm hr
    cases hr
    change matchAt s DefinesParser_reKey o2 = some km at hm
    have hs := matchAt_span hm h2
    have hne : 1 ≤ minLen DefinesParser_reKey := by decide
    obtain ⟨a, b, hg, h1, h3, h4⟩ :=
      matchAt_group DefinesParser_reKey_g_key hm (by decide) (by decide)
    refine ⟨by omega, hs.2, by simp only [spanI_of_group hg]; omega, ?_⟩
    rcases hv : km.group DefinesParser_reKey_g_val with _ | ⟨a', b'⟩
    · exact Or.inr (by simp [spanI_of_none hv])
    · obtain ⟨h1', h2', h3'⟩ :=
        matchAt_group_opt DefinesParser_reKey_g_val 0 hm (by decide) (by decide) hv
      exact Or.inl (by simp only [spanI_of_group hv, VNormal]; omega)
  · unfold definesK definesOther
    simp only
    split
    · rename_i st hpi
      have := matchAt_span hpi (by omega)
      have hne : 1 ≤ minLen DefinesParser_rePI := by decide
      exact EOK.of_ne rfl (by simp only; omega) this.2 (by simp)
    · exact getJunk_eok _ s off _ hoff

end P
