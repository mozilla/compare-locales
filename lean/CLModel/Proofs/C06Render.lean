/- values assembled from a token alphabet (the generator's view)
   and the token list they are expected to lex to. -/
import CLModel.Proofs.C06Specs
namespace PropCk

/-- generator-side token: text, `%%`, a lone `%`, or `%[n$]<fmt>c` -/
inductive RTok
  | text (t : Text)
  | pct
  | lone
  | arg (num : Option Nat) (fmt : Text) (spec : Nat)
  deriving DecidableEq, Repr

def renderTok : RTok → Text
  | .text t => t
  | .pct => [37, 37]
  | .lone => [37]
  | .arg none fmt c => [37] ++ fmt ++ [c]
  | .arg (some n) fmt c => [37] ++ decimal n ++ [36] ++ fmt ++ [c]

def render (ts : List RTok) : Text := ts.flatMap renderTok

/-- the token list (with offsets) the value is expected to lex to -/
def expectedFrom : Nat → List RTok → List (Nat × ATok)
  | _, [] => []
  | off, t :: ts =>
    let rest := expectedFrom (off + (renderTok t).length) ts
    match t with
    | .text _ => rest
    | .pct => (off, .pct) :: rest
    | .lone => (off, .lone) :: rest
    | .arg num _ c => (off, .arg num [c]) :: rest

/-- a lone `%` must be followed by a text token or by the end of the value -/
def wfR : List RTok → Bool
  | [] => true
  | .lone :: .text t :: rest => wfR (.text t :: rest)
  | [.lone] => true
  | .lone :: _ => false
  | _ :: rest => wfR rest

/-- "a ", "é", %%, %, %S, %d, %1$S, %2$d, %3$S, %5.2f, %12$*x -/
def alphaFull : List RTok :=
  [.text [97, 32], .text [233], .pct, .lone, .arg none [] 83, .arg none [] 100, .arg (some 1) [] 83,
   .arg (some 2) [] 100, .arg (some 3) [] 83, .arg none [53, 46, 50] 102, .arg (some 12) [42] 120]

/-- "a ", %%, %, %S, %1$S, %2$d, %5.2f -/
def alphaSmall : List RTok :=
  [.text [97, 32], .pct, .lone, .arg none [] 83, .arg (some 1) [] 83, .arg (some 2) [] 100,
   .arg none [53, 46, 50] 102]

def listsUpTo (a : List RTok) : Nat → List (List RTok)
  | 0 => [[]]
  | n + 1 => [[]] ++ (a.flatMap fun t => (listsUpTo a n).map (t :: ·))

/-- the bounded family: up to 2 tokens over the full alphabet, up to 3 over the small one -/
def boundedFamily : List (List RTok) :=
  (listsUpTo alphaFull 2 ++ listsUpTo alphaSmall 3).filter wfR

end PropCk
