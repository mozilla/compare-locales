/- C02, PO: LISTS of records — several fragments per string list, escapes, optional msgctxt, attached `#` comment
   lines, any white-space between the parts — are recovered exactly. -/
import CLModel.Proofs.C02PCore
import CLModel.Proofs.C02PLine
import CLModel.Proofs.C02Po
namespace C02X
open Rx

theorem none_orElse' {α} (f : Unit → Option α) : (none : Option α).orElse f = f () := rfl

/-- body of `(?:\\[\\trn"]|[^"\n\\])*` -/
def poItemBody : Re :=
  Re.alt (Re.seq (Re.lit 92) (Re.cls false [.ch 92, .ch 116, .ch 114, .ch 110, .ch 34])) (Re.cls true [.ch 34, .ch 10, .ch 92])

theorem poItemBody_step (s : Array Nat) (p c : Nat) (caps) (h : s[p]? = some c) (h1 : c ≠ 34) (h2 : c ≠ 10) (h3 : c ≠ 92) (k' : K) :
    m s poItemBody ⟨p, caps⟩ k' = k' ⟨p + 1, caps⟩ := by
  unfold poItemBody
  rw [m_alt_def, m_seq_def, m_lit_fail (p := p) (c := 92) (by rw [h]; simp [h3]) caps]
  simp only [none_orElse']
  rw [m_cls_charStep, charStep_ok s _ p c caps h (by simp [inC, ClsItem.has, h1, h2, h3])]

theorem poItemBody_fail (s : Array Nat) (p : Nat) (caps) (h : s[p]? = some 34) (k' : K) :
    m s poItemBody ⟨p, caps⟩ k' = none := by
  unfold poItemBody
  rw [m_alt_def, m_seq_def, m_lit_fail (p := p) (c := 92) (by rw [h]; decide) caps]
  simp only [none_orElse']
  rw [m_cls_charStep, charStep_fail s _ p caps (Or.inr ⟨34, h, by decide⟩)]

end C02X

namespace C02P
open Rx P Gen.Pat C02X

/-- one fragment of a string list: the white-space in front of the opening quote and the tokens between the quotes -/
structure PoFrag where
  ws : List Nat
  toks : List PoTok

def PoFrag.print (f : PoFrag) : List Nat := f.ws ++ 34 :: (poRender f.toks ++ [34])

def PoFrag.Good (f : PoFrag) : Prop := (∀ c ∈ f.ws, isWs c = true) ∧ ∀ t ∈ f.toks, t.wf = true

def printFrags (fs : List PoFrag) : List Nat := (fs.map PoFrag.print).flatten

@[simp] theorem printFrags_nil : printFrags [] = [] := rfl
@[simp] theorem printFrags_cons (f : PoFrag) (fs : List PoFrag) : printFrags (f :: fs) = f.print ++ printFrags fs := by
  simp [printFrags]

theorem PoFrag.print_length (f : PoFrag) : f.print.length = f.ws.length + (poRender f.toks).length + 2 := by
  simp [PoFrag.print]; omega

/-- the group-1 spans of the fragments printed at `p` -/
def fragSpans : Nat → List PoFrag → List (Nat × Nat)
  | _, [] => []
  | p, f :: fs => (p + f.ws.length + 1, p + f.ws.length + 1 + (poRender f.toks).length) :: fragSpans (p + f.print.length) fs

/-- what may follow a string list: white-space and then the end of the text or something that is neither white-space nor
    a quote (so that no further list item starts) -/
def NoItem (l : List Nat) : Prop :=
  ∃ w rest, l = w ++ rest ∧ (∀ c ∈ w, isWs c = true) ∧ ∀ c, rest.head? = some c → isWs c = false ∧ c ≠ 34

theorem poItemBody_esc (s : Array Nat) (p c : Nat) (l : List Nat) (caps) (h : At s p (92 :: c :: l))
    (hc : (PoTok.esc c).wf = true) (k' : K) : m s poItemBody ⟨p, caps⟩ k' = k' ⟨p + 2, caps⟩ := by
  unfold poItemBody
  rw [m_alt_def, m_seq_def, lit_at h, m_cls_charStep, step_at _ h.tail (by simpa [PoTok.wf, inC, ClsItem.has, or_assoc] using hc),
    m_cls_charStep, step_at_fail _ h (by intro d hd; simp at hd; subst hd; decide)]
  cases k' ⟨p + 1 + 1, caps⟩ <;> rfl

theorem poItemBody_plain (s : Array Nat) (p c : Nat) (l : List Nat) (caps) (h : At s p (c :: l))
    (hc : (PoTok.plain c).wf = true) (k' : K) : m s poItemBody ⟨p, caps⟩ k' = k' ⟨p + 1, caps⟩ := by
  simp only [PoTok.wf, Bool.and_eq_true, bne_iff_ne, ne_eq] at hc
  exact poItemBody_step s p c caps h.hd hc.1.1 hc.1.2 hc.2 k'

theorem poItemBody_tok (s : Array Nat) (p : Nat) (t : PoTok) (l : List Nat) (caps) (h : At s p (t.render ++ l))
    (hc : t.wf = true) (k' : K) : m s poItemBody ⟨p, caps⟩ k' = k' ⟨p + t.render.length, caps⟩ := by
  cases t with
  | esc c => exact poItemBody_esc s p c l caps h hc k'
  | plain c => exact poItemBody_plain s p c l caps h hc k'

theorem render_ne (t : PoTok) : t.render ≠ [] := by cases t <;> simp [PoTok.render]

@[simp] theorem poRender_nil : poRender [] = [] := rfl
@[simp] theorem poRender_cons (t : PoTok) (ts : List PoTok) : poRender (t :: ts) = t.render ++ poRender ts := by
  simp [poRender]

theorem po_item_at (s : Array Nat) (p : Nat) (f : PoFrag) (rest : List Nat) (hg : f.Good)
    (h : At s p (f.print ++ rest)) :
    matchAt s PoParser_reListItem p =
      some ⟨p + f.print.length, [(1, p + f.ws.length + 1, p + f.ws.length + 1 + (poRender f.toks).length)]⟩ := by
  have h1 : At s p (f.ws ++ (34 :: (poRender f.toks ++ 34 :: rest))) := by simpa [At, PoFrag.print] using h
  have hp : p < s.size := h.pos_lt (by simp [PoFrag.print])
  have h2 := h1.app
  have h3 : At s (p + f.ws.length + 1) (poRender f.toks ++ 34 :: rest) := h2.tail
  have h4 := h3.app
  have hsz : p + f.ws.length + 1 + (poRender f.toks).length < s.size := h4.pos_lt (by simp)
  simp only [matchAt, PoParser_reListItem, m_seq_def, m_group_def, m_rep_def, m_cls_charStep]
  apply greedy_at _ [] _ _ 0 h1 (fun c hc => by rw [inC_ws]; exact hg.1 c hc) (by intro c hc; simp at hc; subst hc; decide)
    (by omega) (by omega)
  rw [lit_at h2]
  apply greedy_items PoTok.render (m s poItemBody) [] _ _ (fun q k' hq => poItemBody_fail s q [] hq.hd k') f.toks _ _ 0 h3
    (fun t ht => ⟨render_ne t, fun q l k' hq => poItemBody_tok s q t l [] hq (hg.2 t ht) k'⟩)
    (by show (poRender f.toks).length < s.size + 2 - (p + f.ws.length + 1); omega) (Nat.zero_le _)
  rw [show (f.toks.map PoTok.render).flatten = poRender f.toks from rfl, lit_at h4]
  simp [PoFrag.print_length]
  omega

theorem po_item_none_at (s : Array Nat) (p : Nat) (l : List Nat) (hn : NoItem l) (h : At s p l) :
    matchAt s PoParser_reListItem p = none := by
  obtain ⟨w, rest, rfl, hw, hr⟩ := hn
  simp only [matchAt, PoParser_reListItem, m_seq_def, m_group_def, m_rep_def, m_cls_charStep]
  apply loop_at_none _ true [] _ 0 h (fun c hc => by rw [inC_ws]; exact (hr c hc).1)
  intro j hj
  apply m_lit_fail
  by_cases hjl : j < w.length
  · rw [h.left j hjl]
    have := hw _ (List.getElem_mem hjl)
    intro heq
    simp only [Option.some.injEq] at heq
    rw [heq] at this
    exact absurd this (by decide)
  · have : j = w.length := by omega
    subst this
    rw [h.app.head]
    cases hh : rest.head? with
    | none => simp
    | some c => simp [(hr c hh).2]

theorem fragSpans_len (fs : List PoFrag) (p : Nat) : (fragSpans p fs).length = fs.length := by
  induction fs generalizing p with
  | nil => rfl
  | cons f fs ih => simp [fragSpans, ih]

theorem poFrags_at (s : Array Nat) : ∀ (fs : List PoFrag) (p fuel : Nat) (tail : List Nat), (∀ f ∈ fs, f.Good) →
    NoItem tail → At s p (printFrags fs ++ tail) → (printFrags fs).length < fuel →
    poFrags s fuel p = (fragSpans p fs, p + (printFrags fs).length) := by
  intro fs
  induction fs with
  | nil =>
    intro p fuel tail _ hn h hf
    obtain ⟨f, rfl⟩ : ∃ f, fuel = f + 1 := ⟨fuel - 1, by simp at hf; omega⟩
    rw [poFrags, po_item_none_at s p tail hn (by simpa using h)]
    simp [fragSpans]
  | cons f fs ih =>
    intro p fuel tail hg hn h hf
    obtain ⟨fu, rfl⟩ : ∃ fu, fuel = fu + 1 := ⟨fuel - 1, by omega⟩
    have h' : At s p (f.print ++ (printFrags fs ++ tail)) := by simpa [At] using h
    have hlen := f.print_length
    simp only [printFrags_cons, List.length_append] at hf
    rw [poFrags, po_item_at s p f _ (hg f (by simp)) h']
    simp only [show ¬ (p + f.print.length ≤ p) by omega, if_false]
    rw [ih (p + f.print.length) fu tail (fun g hg' => hg g (by simp [hg'])) hn h'.app (by omega)]
    simp [St.group, capOf, fragSpans, Nat.add_assoc]

theorem poStringList_at (s : Array Nat) (p : Nat) (kw : List Nat) (fs : List PoFrag) (tail : List Nat)
    (hne : fs ≠ []) (hg : ∀ f ∈ fs, f.Good) (hn : NoItem tail) (h : At s p (kw ++ (printFrags fs ++ tail))) :
    poStringList s p kw = some (fragSpans (p + kw.length) fs, p + kw.length + (printFrags fs).length) := by
  have h1 := h.app.len
  simp only [List.length_append] at h1
  unfold poStringList startsWithAt
  rw [h.slice]
  simp only [beq_self_eq_true, Bool.not_true, Bool.false_eq_true, if_false]
  rw [poFrags_at s fs _ _ tail hg hn h.app (by omega)]
  cases fs with
  | nil => exact absurd rfl hne
  | cons f fs => simp [fragSpans]

theorem poStringList_none (s : Array Nat) (p : Nat) (kw l : List Nat) (h : At s p l)
    (hne : l.take kw.length ≠ kw) : poStringList s p kw = none := by
  unfold poStringList startsWithAt
  have : slice s p (p + kw.length) = l.take kw.length := slice_take s p kw.length l h
  rw [this]
  simp [hne]

theorem poEval_frags (s : Array Nat) : ∀ (fs : List PoFrag) (p : Nat) (tail : List Nat), (∀ f ∈ fs, f.Good) →
    At s p (printFrags fs ++ tail) → poEval s (fragSpans p fs) = some ((fs.map (fun f => poOnePass f.toks)).flatten) := by
  intro fs
  induction fs with
  | nil => intro p tail _ _; simp [poEval, fragSpans]
  | cons f fs ih =>
    intro p tail hg h
    have h' : At s p (f.print ++ (printFrags fs ++ tail)) := by simpa [At] using h
    have h1 : At s p (f.ws ++ (34 :: (poRender f.toks ++ 34 :: (printFrags fs ++ tail)))) := by
      simpa [At, PoFrag.print] using h'
    have h3 : At s (p + f.ws.length + 1) (poRender f.toks ++ 34 :: (printFrags fs ++ tail)) := h1.app.tail
    have ihh := ih (p + f.print.length) tail (fun g hg' => hg g (by simp [hg'])) h'.app
    unfold poEval at ihh ⊢
    simp only [fragSpans, List.mapM_cons, h3.slice, poUnescape_render f.toks (hg f (by simp)).2]
    cases hm : List.mapM (fun x => poUnescape (slice s x.1 x.2)) (fragSpans (p + f.print.length) fs) with
    | none => simp [hm] at ihh
    | some l =>
      simp only [hm, Option.map_some, Option.some.injEq] at ihh
      simp [ihh]

/-- `#text⏎` per line -/
def printComment (cs : List (List Nat)) : List Nat := (cs.map (fun c => 35 :: (c ++ [10]))).flatten

@[simp] theorem printComment_nil : printComment [] = [] := rfl
@[simp] theorem printComment_cons (c : List Nat) (cs : List (List Nat)) :
    printComment (c :: cs) = 35 :: (c ++ 10 :: printComment cs) := by simp [printComment]

def poCommentBody : Re := Re.seq (Re.lit 35) (Re.seq (Re.rep 0 none false (Re.any false)) (Re.lit 10))

theorem poComment_eq : PoParser_reComment = Re.rep 1 none true poCommentBody := rfl

theorem poCommentBody_line (s : Array Nat) (p : Nat) (c l : List Nat) (caps) (h : At s p (35 :: (c ++ [10]) ++ l))
    (hc : ∀ x ∈ c, x ≠ 10) (k' : K) : m s poCommentBody ⟨p, caps⟩ k' = k' ⟨p + (35 :: (c ++ [10])).length, caps⟩ := by
  have h0 : At s p (35 :: (c ++ 10 :: l)) := by simpa [At] using h
  rw [poCommentBody, m_seq_def, lit_at h0, line_nl (m_any_charStep s false) (fun _ => Bool.false_or _) false caps k' h0.tail hc,
    show p + 1 + c.length + 1 = p + (35 :: (c ++ [10])).length by simp; omega]

theorem poCommentBody_fail (s : Array Nat) (p : Nat) (l : List Nat) (caps) (h : At s p l) (hl : l.head? ≠ some 35)
    (k' : K) : m s poCommentBody ⟨p, caps⟩ k' = none := by
  unfold poCommentBody
  rw [m_seq_def, lit_at_fail h hl]

theorem printComment_length_ge (cs : List (List Nat)) : 2 * cs.length ≤ (printComment cs).length := by
  induction cs with
  | nil => simp
  | cons c cs ih => simp only [printComment_cons, List.length_cons, List.length_append]; omega

theorem po_comment_at (s : Array Nat) (p : Nat) (cs : List (List Nat)) (rest : List Nat) (hne : cs ≠ [])
    (hc : ∀ c ∈ cs, ∀ x ∈ c, x ≠ 10) (hr : rest.head? ≠ some 35) (h : At s p (printComment cs ++ rest)) :
    matchAt s PoParser_reComment p = some ⟨p + (printComment cs).length, []⟩ := by
  have hl := h.len
  have hge := printComment_length_ge cs
  have hpos : 0 < cs.length := List.length_pos_iff.mpr hne
  simp only [List.length_append] at hl
  rw [poComment_eq]
  simp only [matchAt, m_rep_def]
  exact greedy_items (fun c => 35 :: (c ++ [10])) (m s poCommentBody) [] some _
    (fun q k' hq => poCommentBody_fail s q rest [] hq hr k') cs p _ 1 h
    (fun c hc' => ⟨by simp, fun q l k' hq => poCommentBody_line s q c l [] hq (hc c hc') k'⟩)
    (by show (printComment cs).length < _; omega) hpos rfl

theorem po_comment_none_at (s : Array Nat) (p : Nat) (l : List Nat) (hr : l.head? ≠ some 35) (h : At s p l) :
    matchAt s PoParser_reComment p = none := by
  rw [poComment_eq]
  simp only [matchAt, m_rep_def]
  cases hf : s.size + 2 - p with
  | zero => rw [loop]
  | succ f => exact loop_fail_min _ _ _ _ _ _ _ (fun k' => poCommentBody_fail s p l [] h hr k') (by omega)

theorem po_key_msgid (s : Array Nat) (p : Nat) (l : List Nat) (h : At s p (kwMsgid ++ l)) :
    matchAt s PoParser_reKey p = some ⟨p + 5, []⟩ := by
  have h0 : At s p (109 :: 115 :: 103 :: 105 :: 100 :: l) := h
  simp only [matchAt, PoParser_reKey, m_seq_def, m_alt_def]
  rw [lit_at h0, lit_at h0.tail, lit_at h0.tail.tail, lit_at_fail h0.tail.tail.tail (by simp)]
  simp only [none_orElse']
  rw [lit_at h0.tail.tail.tail, lit_at h0.tail.tail.tail.tail]

theorem po_key_msgctxt (s : Array Nat) (p : Nat) (l : List Nat) (h : At s p (kwMsgctxt ++ l)) :
    matchAt s PoParser_reKey p = some ⟨p + 7, []⟩ := by
  have h0 : At s p (109 :: 115 :: 103 :: 99 :: 116 :: 120 :: 116 :: l) := h
  simp only [matchAt, PoParser_reKey, m_seq_def, m_alt_def]
  rw [lit_at h0, lit_at h0.tail, lit_at h0.tail.tail, lit_at h0.tail.tail.tail, lit_at h0.tail.tail.tail.tail,
    lit_at h0.tail.tail.tail.tail.tail, lit_at h0.tail.tail.tail.tail.tail.tail]
  rfl

structure PoRec where
  /-- comment lines (the text after `#`, without the newline) directly in front of the record -/
  comment : List (List Nat)
  /-- white-space between the comment block and the record (at most one newline; empty when there is no comment) -/
  cgap : List Nat
  /-- `msgctxt` fragments and the white-space after them -/
  ctxt : Option (List PoFrag × List Nat)
  msgid : List PoFrag
  /-- white-space between the msgid list and `msgstr` -/
  sep : List Nat
  msgstr : List PoFrag
  /-- white-space after the record -/
  gap : List Nat

def PoRec.ctxtText (r : PoRec) : List Nat :=
  match r.ctxt with
  | none => []
  | some (fs, w) => kwMsgctxt ++ (printFrags fs ++ w)

def PoRec.body (r : PoRec) : List Nat :=
  r.ctxtText ++ (kwMsgid ++ (printFrags r.msgid ++ (r.sep ++ (kwMsgstr ++ printFrags r.msgstr))))

def PoRec.print (r : PoRec) : List Nat := printComment r.comment ++ (r.cgap ++ (r.body ++ r.gap))

structure PoRec.Good (r : PoRec) : Prop where
  comment : ∀ c ∈ r.comment, ∀ x ∈ c, x ≠ 10
  cgap : ∀ c ∈ r.cgap, isWs c = true
  cgap_nl : (r.cgap.filter (· == 10)).length ≤ 1
  cgap_nil : r.comment = [] → r.cgap = []
  ctxt : ∀ fs w, r.ctxt = some (fs, w) → fs ≠ [] ∧ (∀ f ∈ fs, f.Good) ∧ ∀ c ∈ w, isWs c = true
  msgid_ne : r.msgid ≠ []
  msgid : ∀ f ∈ r.msgid, f.Good
  sep : ∀ c ∈ r.sep, isWs c = true
  msgstr_ne : r.msgstr ≠ []
  msgstr : ∀ f ∈ r.msgstr, f.Good
  gap : ∀ c ∈ r.gap, isWs c = true

/-- what may follow a record: the end of the text, or something that is neither white-space nor a quote -/
def PoFollow (rest : List Nat) : Prop := ∀ c, rest.head? = some c → isWs c = false ∧ c ≠ 34

/-- `5`, `6`, `7`: the lengths of `msgid`, `msgstr`, `msgctxt` -/
def PoRec.parts (r : PoRec) (st : Nat) : PoParts :=
  { e := st + r.body.length, idS := st,
    idE := st + r.ctxtText.length + 5 + (printFrags r.msgid).length,
    valS := st + r.ctxtText.length + 5 + (printFrags r.msgid).length + r.sep.length,
    msgctxt := r.ctxt.map (fun x => fragSpans (st + 7) x.1),
    msgid := fragSpans (st + r.ctxtText.length + 5) r.msgid,
    msgstr := fragSpans (st + r.ctxtText.length + 5 + (printFrags r.msgid).length + r.sep.length + 6) r.msgstr }

theorem noItem_ws_kw (w kw rest : List Nat) (hw : ∀ c ∈ w, isWs c = true) (c0 : Nat) (hkw : kw.head? = some c0)
    (h0 : isWs c0 = false ∧ c0 ≠ 34) : NoItem (w ++ (kw ++ rest)) := by
  refine ⟨w, kw ++ rest, rfl, hw, ?_⟩
  intro c hc
  cases kw with
  | nil => simp at hkw
  | cons a t => simp at hkw hc; subst hkw; subst hc; exact h0

theorem isWs_m : isWs 109 = false ∧ (109 : Nat) ≠ 34 := by decide

/-- `m = reWhitespace.match(text, cursor); if m: cursor = m.end()` -/
def wsSkip (s : Array Nat) (p : Nat) : Nat :=
  match matchAt s Parser_reWhitespace p with | some w => w.pos | none => p

theorem wsSkip_at {s : Array Nat} {p : Nat} {w rest : List Nat} (h : At s p (w ++ rest))
    (hw : ∀ c ∈ w, isWs c = true) (hr : ∀ c, rest.head? = some c → isWs c = false) : wsSkip s p = p + w.length := by
  unfold wsSkip
  rcases ws_opt_at h hw hr with e | ⟨e, e0⟩
  · rw [e]
  · rw [e, e0]; rfl

theorem poCreate_eq (s : Array Nat) (st : Nat) : poCreate s st =
    let (msgctxt, cursor) := match poStringList s st kwMsgctxt with
      | some (fr, c) => (some fr, wsSkip s c)
      | none => (none, st)
    match poStringList s cursor kwMsgid with
    | none => none
    | some (idfr, c1) =>
      match poStringList s (wsSkip s c1) kwMsgstr with
      | none => none
      | some (strfr, c3) =>
        some { e := c3, idS := st, idE := c1, valS := wsSkip s c1, msgctxt := msgctxt, msgid := idfr, msgstr := strfr } := by
  unfold poCreate wsSkip
  rfl

theorem PoRec.body_end (r : PoRec) (st : Nat) : st + r.body.length =
    st + r.ctxtText.length + 5 + (printFrags r.msgid).length + r.sep.length + 6 + (printFrags r.msgstr).length := by
  simp [PoRec.body, kwMsgid, kwMsgstr]; omega

theorem PoRec.body_at {r : PoRec} {s : Array Nat} {st : Nat} {l : List Nat} (h : At s st (r.body ++ l)) :
    At s st (r.ctxtText ++ (kwMsgid ++ (printFrags r.msgid ++ (r.sep ++ (kwMsgstr ++ (printFrags r.msgstr ++ l)))))) := by
  simpa [At, PoRec.body] using h

theorem PoRec.ctxt_at {r : PoRec} {fs : List PoFrag} {w : List Nat} (hcx : r.ctxt = some (fs, w)) {s : Array Nat} {st : Nat}
    {l : List Nat} (h : At s st (r.ctxtText ++ l)) : At s st (kwMsgctxt ++ (printFrags fs ++ (w ++ l))) := by
  simpa [At, PoRec.ctxtText, hcx] using h

theorem po_create_at (s : Array Nat) (st : Nat) (r : PoRec) (rest : List Nat) (hg : r.Good) (hfo : PoFollow rest)
    (h : At s st (r.body ++ (r.gap ++ rest))) : poCreate s st = some (r.parts st) := by
  have hb := r.body_at h
  have hm := hb.app
  have e2 := poStringList_at s _ kwMsgid r.msgid _ hg.msgid_ne hg.msgid
    (noItem_ws_kw r.sep kwMsgstr _ hg.sep 109 rfl isWs_m) hm
  have hs := hm.app.app
  have e3 := wsSkip_at hs hg.sep (by intro c hc; simp [kwMsgstr] at hc; subst hc; decide)
  have e4 := poStringList_at s _ kwMsgstr r.msgstr _ hg.msgstr_ne hg.msgstr ⟨r.gap, rest, rfl, hg.gap, hfo⟩ hs.app
  rw [show kwMsgid.length = 5 from rfl] at e2 hs e3 e4
  rw [show kwMsgstr.length = 6 from rfl] at e4
  rw [poCreate_eq]
  cases hcx : r.ctxt with
  | none =>
    have hc0 : r.ctxtText = [] := by simp [PoRec.ctxtText, hcx]
    rw [hc0] at hb
    have e0 := poStringList_none s st kwMsgctxt _ hb (by simp [kwMsgid, kwMsgctxt])
    simp only [hc0, List.length_nil, Nat.add_zero] at e2 e3 e4
    simp only [e0, e2, e3, e4, PoRec.parts, r.body_end, hc0, hcx, List.length_nil, Nat.add_zero, Option.map_none]
  | some x =>
    obtain ⟨fs, w⟩ := x
    obtain ⟨g1, g2, g3⟩ := hg.ctxt fs w hcx
    have hc0 : r.ctxtText = kwMsgctxt ++ (printFrags fs ++ w) := by simp [PoRec.ctxtText, hcx]
    have hb' := r.ctxt_at hcx hb
    have e0 := poStringList_at s st kwMsgctxt fs _ g1 g2 (noItem_ws_kw w kwMsgid _ g3 109 rfl isWs_m) hb'
    have e1 := wsSkip_at hb'.app.app g3 (by intro c hc; simp [kwMsgid] at hc; subst hc; decide)
    have hl : st + kwMsgctxt.length + (printFrags fs).length + w.length = st + r.ctxtText.length := by
      simp [hc0]; omega
    rw [hl] at e1
    simp only [e0, e1, e2, e3, e4, PoRec.parts, r.body_end, hcx, Option.map_some]
    rfl

def PoRec.start (off : Nat) (r : PoRec) : Nat := off + (printComment r.comment).length + r.cgap.length

def PoRec.entity (off : Nat) (r : PoRec) : Entry :=
  { kind := .entity, full := off, s := r.start off,
    e := r.start off + r.body.length,
    ks := (r.start off : Nat),
    ke := (r.start off + r.ctxtText.length + 5 + (printFrags r.msgid).length : Nat),
    vs := (r.start off + r.ctxtText.length + 5 + (printFrags r.msgid).length + r.sep.length : Nat),
    ve := (r.start off + r.body.length : Nat),
    pc := if r.comment.isEmpty then none else some (off, off + (printComment r.comment).length) }

/-- the License rule of the base `getNext` (offset < 2) does not fire -/
def PoRec.NoLicense (off : Nat) (r : PoRec) : Prop := off < 2 → isInfix licenseWord (printComment r.comment) = false

theorem PoRec.body_cases (r : PoRec) : (∃ l, r.body = kwMsgid ++ l) ∨ (∃ l, r.body = kwMsgctxt ++ l) := by
  unfold PoRec.body PoRec.ctxtText
  cases r.ctxt with
  | none => left; exact ⟨printFrags r.msgid ++ (r.sep ++ (kwMsgstr ++ printFrags r.msgstr)), by simp⟩
  | some x =>
    right
    exact ⟨(printFrags x.1 ++ x.2) ++ (kwMsgid ++ (printFrags r.msgid ++ (r.sep ++ (kwMsgstr ++ printFrags r.msgstr)))), by simp⟩

theorem PoRec.body_head (r : PoRec) (l : List Nat) : (r.body ++ l).head? = some 109 := by
  rcases r.body_cases with ⟨x, hx⟩ | ⟨x, hx⟩ <;> rw [hx] <;> rfl

theorem PoRec.body_len (r : PoRec) : 5 ≤ r.body.length := by
  simp [PoRec.body, kwMsgid]; omega

theorem po_key_body (s : Array Nat) (st : Nat) (r : PoRec) (l : List Nat) (h : At s st (r.body ++ l)) :
    ∃ km, matchAt s PoParser_reKey st = some km := by
  rcases r.body_cases with ⟨x, hx⟩ | ⟨x, hx⟩
  · exact ⟨_, po_key_msgid s st (x ++ l) (by rw [hx] at h; simpa [At] using h)⟩
  · exact ⟨_, po_key_msgctxt s st (x ++ l) (by rw [hx] at h; simpa [At] using h)⟩

theorem head?_ws_ne {w rest : List Nat} {c : Nat} (hc : isWs c = false) (hw : ∀ x ∈ w, isWs x = true)
    (hr : w = [] → rest.head? ≠ some c) : (w ++ rest).head? ≠ some c := by
  cases w with
  | nil => exact hr rfl
  | cons a t =>
    intro h
    cases h
    rw [hw c (by simp)] at hc
    cases hc

theorem poCfg_create {s : Array Nat} {st : Nat} {p : PoParts} (km : St) (h : poCreate s st = some p) :
    (baseK poCfg s).create st km = some (p.e, ((p.idS : Int), (p.idE : Int)), ((p.valS : Int), (p.e : Int))) := by
  simp [baseK, poCfg, h]

theorem poGetNext_eq_skel (s : Array Nat) (off : Nat) : poGetNext s off = skel (baseK poCfg s) s off :=
  getNext_eq_skel poCfg s off

theorem PoRec.at_parts {s : Array Nat} {off : Nat} (r : PoRec) {rest : List Nat} (h : At s off (r.print ++ rest)) :
    At s off (printComment r.comment ++ (r.cgap ++ (r.body ++ (r.gap ++ rest)))) := by
  simpa [At, PoRec.print] using h

theorem po_entity_rec (s : Array Nat) (off : Nat) (r : PoRec) (rest : List Nat) (hg : r.Good) (hlic : r.NoLicense off)
    (hfo : PoFollow rest) (h : At s off (r.print ++ rest)) : poGetNext s off = r.entity off := by
  have h1 := r.at_parts h
  have h3 : At s (r.start off) (r.body ++ (r.gap ++ rest)) := h1.app.app
  have hbw : ∀ c, (r.body ++ (r.gap ++ rest)).head? = some c → isWs c = false := by
    intro c hc; rw [r.body_head] at hc; cases hc; decide
  obtain ⟨km, hkm⟩ := po_key_body s (r.start off) r _ h3
  have hcr := poCfg_create km (po_create_at s _ r rest hg hfo h3)
  rw [poGetNext_eq_skel]
  by_cases hne : r.comment = []
  · have hst : r.start off = off := by simp [PoRec.start, hne, hg.cgap_nil hne]
    rw [hst] at h3 hkm hcr
    rw [skel_plain (K := baseK poCfg s) (po_comment_none_at s off _ (by rw [r.body_head]; simp) h3) (ws_none_at h3 hbw) hkm hcr]
    simp [entityE, PoRec.entity, PoRec.parts, hst, hne]
  · have hcm := po_comment_at s off r.comment _ hne hg.comment
      (head?_ws_ne rfl hg.cgap (fun _ => by rw [r.body_head]; simp)) h1
    have hl : (decide (off < 2) && isInfix licenseWord (commentVal poCfg.commentStyle
        (slice s off (off + (printComment r.comment).length)))) = false := by
      rw [h1.slice]
      by_cases ho : off < 2
      · simp [commentVal, poCfg, hlic ho]
      · simp [ho]
    rw [skel_commented (K := baseK poCfg s) (o2 := r.start off) hcm hl (attach_at (baseK_plainWs poCfg rfl s) h1.app hg.cgap hg.cgap_nl hbw) hkm hcr]
    simp [entityE, PoRec.entity, PoRec.parts, PoRec.start, isEmpty_false_of_ne hne]

theorem po_gap_entry (s : Array Nat) (p : Nat) (w rest : List Nat) (hne : w ≠ []) (hw : ∀ c ∈ w, isWs c = true)
    (hfo : PoFollow rest) (h : At s p (w ++ rest)) : poGetNext s p = wsEntryN p w.length :=
  (poGetNext_eq_skel s p).trans (skel_ws_at (baseK_plainWs poCfg rfl s)
    (po_comment_none_at s p _ (head?_ws_ne rfl hw (fun e => absurd e hne)) h) h hne hw (fun c hc => (hfo c hc).1))

def PoRec.entries (off : Nat) (r : PoRec) : List Entry :=
  r.entity off :: (if r.gap.isEmpty then [] else [wsEntryN (r.start off + r.body.length) r.gap.length])

abbrev poNext (s : Array Nat) : Unit → Nat → Entry × Unit := fun _ off => (poGetNext s off, ())

theorem PoRec.print_length (r : PoRec) :
    r.print.length = (printComment r.comment).length + r.cgap.length + r.body.length + r.gap.length := by
  simp [PoRec.print]; omega

theorem po_walks_rec (s : Array Nat) (off : Nat) (r : PoRec) (rest : List Nat) (hg : r.Good) (hlic : r.NoLicense off)
    (hfo : PoFollow rest) (h : At s off (r.print ++ rest)) :
    Walks (poNext s) s.size () off (r.entries off) () (off + r.print.length) := by
  have h1 := r.at_parts h
  have h3 : At s (r.start off) (r.body ++ (r.gap ++ rest)) := h1.app.app
  have hb := r.body_len
  have hlt : off < r.start off + r.body.length := by simp only [PoRec.start]; omega
  have e1 : poNext s () off = (r.entity off, ()) := by rw [poNext, po_entity_rec s off r rest hg hlic hfo h]
  rw [show off + r.print.length = r.start off + r.body.length + r.gap.length by rw [r.print_length, PoRec.start]; omega]
  exact walks_entry_wsOpt rfl hlt (by have := h3.left_le (List.ne_nil_of_length_pos (by omega)); omega) h3.app e1
    fun hgap => by rw [poNext, po_gap_entry s _ r.gap rest hgap hg.gap hfo h3.app]

def evalFrags (fs : List PoFrag) : List Nat := (fs.map (fun f => poOnePass f.toks)).flatten

/-- key (msgid), context, raw value (`msgstr` + its printed fragments), value (msgstr, or msgid when msgstr is empty),
    attached comment (the whole comment block, every line with its `#` and newline) -/
def PoRec.view (r : PoRec) : Option EntView :=
  some { key := evalFrags r.msgid, ctxt := some (r.ctxt.map (fun x => evalFrags x.1)),
         raw := kwMsgstr ++ printFrags r.msgstr,
         val := some (if (evalFrags r.msgstr).isEmpty then evalFrags r.msgid else evalFrags r.msgstr),
         comment := if r.comment.isEmpty then none else some (printComment r.comment) }

theorem po_view_rec (s : Array Nat) (off : Nat) (r : PoRec) (rest : List Nat) (hg : r.Good)
    (hfo : PoFollow rest) (h : At s off (r.print ++ rest)) : entView .po s (r.entity off) = r.view := by
  have h1 := r.at_parts h
  have h2 : At s (r.start off) (r.body ++ (r.gap ++ rest)) := h1.app.app
  have hb := r.body_at h2
  have hid := hb.app.app
  have hstr := hid.app.app
  have hraw : pySlice s (r.start off + r.ctxtText.length + 5 + (printFrags r.msgid).length + r.sep.length : Nat)
      (r.start off + r.body.length : Nat) = kwMsgstr ++ printFrags r.msgstr := by
    have h5 : At s (r.start off + r.ctxtText.length + 5 + (printFrags r.msgid).length + r.sep.length)
        ((kwMsgstr ++ printFrags r.msgstr) ++ (r.gap ++ rest)) := by simpa [At, kwMsgid] using hstr
    exact h5.pySlice (by rw [r.body_end]; simp [kwMsgstr]; omega)
  have e1 := poEval_frags s r.msgid _ _ hg.msgid hid
  have e2 := poEval_frags s r.msgstr _ _ hg.msgstr hstr.app
  rw [show kwMsgid.length = 5 from rfl] at e1 e2
  rw [show kwMsgstr.length = 6 from rfl] at e2
  have hcv : Option.map (fun x => commentVal (commentStyleOf Fmt.po) (slice s x.fst x.snd))
      (if r.comment.isEmpty = true then none else some (off, off + (printComment r.comment).length)) =
      if r.comment.isEmpty then none else some (printComment r.comment) := by
    cases hce : r.comment.isEmpty <;> simp [commentStyleOf, commentVal, h1.slice]
  simp only [entView, PoRec.entity, po_create_at s _ r rest hg hfo h2, PoRec.parts, e1, e2, hcv, hraw]
  cases hcx : r.ctxt with
  | none => simp [PoRec.view, evalFrags, hcx]
  | some x =>
    obtain ⟨fs, w⟩ := x
    have := poEval_frags s fs _ _ (hg.ctxt fs w hcx).2.1 (r.ctxt_at hcx hb).app
    rw [show kwMsgctxt.length = 7 from rfl] at this
    simp [PoRec.view, evalFrags, hcx, this]

/-- no License hypothesis: whether or not the rule fires, the entry is the same -/
theorem po_free_comment (s : Array Nat) (off : Nat) (cs : List (List Nat)) (gap rest : List Nat) (hne : cs ≠ [])
    (hc : ∀ c ∈ cs, ∀ x ∈ c, x ≠ 10) (hw : ∀ c ∈ gap, isWs c = true) (hnl : 2 ≤ (gap.filter (· == 10)).length)
    (hfo : PoFollow rest) (h : At s off (printComment cs ++ (gap ++ rest))) :
    poGetNext s off = commentEntry off (off + (printComment cs).length) :=
  (poGetNext_eq_skel s off).trans (skel_free_at (baseK_plainWs poCfg rfl s)
    (po_comment_at s off cs _ hne hc (head?_ws_ne rfl hw (fun e => by rw [e] at hnl; simp at hnl)) h) rfl h.app hw hnl
    (fun c hc => (hfo c hc).1))

/-- a printed block: a record (with its attached comment), or a stand-alone comment block with the white-space behind it -/
inductive PoBlock
  | record (r : PoRec)
  | free (cs : List (List Nat)) (gap : List Nat)

def PoBlock.print : PoBlock → List Nat
  | .record r => r.print
  | .free cs gap => printComment cs ++ gap

def PoBlock.entries (off : Nat) : PoBlock → List Entry
  | .record r => r.entries off
  | .free cs gap => [commentEntry off (off + (printComment cs).length), wsEntryN (off + (printComment cs).length) gap.length]

def PoBlock.views : PoBlock → List (Option EntView)
  | .record r => [r.view]
  | .free _ _ => []

def PoBlock.Good' : PoBlock → Prop
  | .record r => r.Good
  | .free cs gap => cs ≠ [] ∧ (∀ c ∈ cs, ∀ x ∈ c, x ≠ 10) ∧ (∀ c ∈ gap, isWs c = true) ∧ 2 ≤ (gap.filter (· == 10)).length

def PoBlock.Lic (off : Nat) (b : PoBlock) : Prop := ∀ r, b = .record r → r.NoLicense off

def printPo (bs : List PoBlock) : List Nat := printBlocks PoBlock.print bs

def poExpEntries (bs : List PoBlock) : List Entry :=
  blockEntries PoBlock.print (fun off (_ : Unit) b => PoBlock.entries off b) (fun c _ => c) 0 () bs

def poExpViews (bs : List PoBlock) : List (Option EntView) := (bs.map PoBlock.views).flatten

theorem po_walks_block (s : Array Nat) (off : Nat) (b : PoBlock) (rest : List Nat) (hg : b.Good') (hl : b.Lic off)
    (hfo : PoFollow rest) (h : At s off (b.print ++ rest)) :
    Walks (poNext s) s.size () off (b.entries off) () (off + b.print.length) := by
  cases b with
  | record r => exact po_walks_rec s off r rest hg (hl r rfl) hfo h
  | free cs gap =>
    obtain ⟨g1, g2, g3, g4⟩ := hg
    have h' : At s off (printComment cs ++ (gap ++ rest)) := by simpa [At, PoBlock.print] using h
    have hgne : gap ≠ [] := by rintro rfl; simp at g4
    have hcs := printComment_length_ge cs
    have : 0 < cs.length := List.length_pos_iff.mpr g1
    have := walks_entry_ws (next := poNext s) (c := ()) (off := off) (e := commentEntry off (off + (printComment cs).length))
      (q := off + (printComment cs).length) rfl (by omega) (List.length_pos_iff.mpr hgne) (h'.app.left_le hgne)
      (by rw [poNext, po_free_comment s off cs gap rest g1 g2 g3 g4 hfo h'])
      (by rw [poNext, po_gap_entry s _ gap rest hgne g3 hfo h'.app])
    simpa [PoBlock.print, PoBlock.entries, Nat.add_assoc] using this

theorem po_views_block (s : Array Nat) (off : Nat) (b : PoBlock) (rest : List Nat) (hg : b.Good') (hfo : PoFollow rest)
    (h : At s off (b.print ++ rest)) :
    entitiesOf .po s (b.entries off) = b.views ∧ junkOf s (b.entries off) = [] := by
  cases b with
  | record r =>
    rw [PoBlock.views, ← po_view_rec s off r rest hg hfo h, PoBlock.entries, PoRec.entries]
    split
    · simp [entitiesOf, junkOf, PoRec.entity]
    · exact views_entity_ws .po s _ _ rfl
  | free cs gap => exact views_other_ws .po s _ _ (by simp [commentEntry]) (by simp [commentEntry])

theorem poFollow_block (b : PoBlock) (hg : b.Good') (l : List Nat) : PoFollow (b.print ++ l) := by
  have hh : (b.print ++ l).head? = some 35 ∨ (b.print ++ l).head? = some 109 := by
    cases b with
    | record r =>
      have hg' : r.Good := hg
      show (r.print ++ l).head? = _ ∨ (r.print ++ l).head? = _
      unfold PoRec.print
      cases hc : r.comment with
      | nil => right; rw [hg'.cgap_nil hc]; simp [r.body_head]
      | cons c cs => left; simp
    | free cs gap =>
      cases cs with
      | nil => exact absurd rfl hg.1
      | cons a t => left; simp [PoBlock.print]
  intro c hc
  rcases hh with h | h
  · rw [h] at hc; cases hc; decide
  · rw [h] at hc; cases hc; decide

theorem PoBlock.print_len (b : PoBlock) (hg : b.Good') : 2 ≤ b.print.length := by
  cases b with
  | record r => have := r.body_len; simp only [PoBlock.print, r.print_length]; omega
  | free cs gap =>
    have := printComment_length_ge cs
    have : 0 < cs.length := List.length_pos_iff.mpr hg.1
    simp only [PoBlock.print, List.length_append]; omega

/-- `# c⏎⏎⏎#. x⏎msgctxt "c"⏎msgid ""⏎"a\n"⏎msgstr "b"⏎` -/
def poDemo : List PoBlock :=
  [.free [[32, 99]] [10, 10],
   .record { comment := [[46, 32, 120]], cgap := [], ctxt := some ([⟨[32], [.plain 99]⟩], [10]),
             msgid := [⟨[32], []⟩, ⟨[10], [.plain 97, .esc 110]⟩], sep := [10], msgstr := [⟨[32], [.plain 98]⟩], gap := [10] }]

theorem poDemo_good : ∀ b ∈ poDemo, b.Good' := by
  intro b hb
  simp only [poDemo, List.mem_cons, List.not_mem_nil, or_false] at hb
  rcases hb with rfl | rfl
  · exact ⟨by simp, by decide, by decide, by decide⟩
  · refine { comment := by decide, cgap := by decide, cgap_nl := by decide, cgap_nil := by simp, ctxt := ?_,
             msgid_ne := by simp, msgid := ?_, sep := by decide, msgstr_ne := by simp, msgstr := ?_, gap := by decide }
    · intro fs w h
      simp only [Option.some.injEq, Prod.mk.injEq] at h
      obtain ⟨rfl, rfl⟩ := h
      refine ⟨by simp, ?_, by decide⟩
      intro f hf
      simp only [List.mem_cons, List.not_mem_nil, or_false] at hf
      subst hf
      exact ⟨by decide, by decide⟩
    · intro f hf
      simp only [List.mem_cons, List.not_mem_nil, or_false] at hf
      rcases hf with rfl | rfl <;> exact ⟨by decide, by decide⟩
    · intro f hf
      simp only [List.mem_cons, List.not_mem_nil, or_false] at hf
      subst hf
      exact ⟨by decide, by decide⟩

theorem poDemo_lic : ∀ r, poDemo.head? = some (.record r) → r.NoLicense 0 := by
  intro r h; simp [poDemo] at h

end C02P
