/-
Complexity guard: the tie between the cost model `steps` and the engine.  `mT` is `Rx.m` with a step counter: the same
function clause by clause, every call returning (number of calls of `mT`/`loopT` made, result); continuations return their
own cost.  Its result is that of `m` (`mT_result`), its cost at most `steps` plus the cost of the continuation on every
outcome (`mT_cost`); so a match attempt with a `Safe` regex makes at most `cC r * (n+2)^(dC r)` calls (`matchAtT_poly`).
-/
import CLModel.Proofs.C01Cost
namespace C01P
open Rx

abbrev KT := St → Nat × Option St

def tick (p : Nat × Option St) : Nat × Option St := (p.1 + 1, p.2)

/-- `a.orElse b` with cost: `b` runs only when `a` failed -/
def orElseT (a : Nat × Option St) (b : Unit → Nat × Option St) : Nat × Option St :=
  match a.2 with
  | some r => (a.1, some r)
  | none => (a.1 + (b ()).1, (b ()).2)

def loopT (body : St → KT → Nat × Option St) (greedy : Bool) :
    Nat → Nat → Option Nat → St → KT → Nat × Option St
  | 0, _, _, _, _ => (1, none)
  | fuel + 1, mn, mx, st, k =>
      let more : Unit → Nat × Option St := fun _ =>
        if mx == some 0 then (0, none) else
        body st (fun st' =>
          if st'.pos ≤ st.pos then (1, none) else
          loopT body greedy fuel (mn - 1) (mx.map (· - 1)) st' k)
      tick (if mn > 0 then more ()
            else if greedy then orElseT (more ()) (fun _ => k st)
            else orElseT (k st) more)

def mT (s : Array Nat) : Re → St → KT → Nat × Option St
  | .eps, st, k => tick (k st)
  | .lit c, st, k => if s[st.pos]? == some c then tick (k { st with pos := st.pos + 1 }) else (1, none)
  | .notLit c, st, k =>
      match s[st.pos]? with
      | some d => if d != c then tick (k { st with pos := st.pos + 1 }) else (1, none)
      | none => (1, none)
  | .any dotall, st, k =>
      match s[st.pos]? with
      | some d => if dotall || d != 10 then tick (k { st with pos := st.pos + 1 }) else (1, none)
      | none => (1, none)
  | .cls neg items, st, k =>
      match s[st.pos]? with
      | some c => if (items.any (·.has c)) != neg then tick (k { st with pos := st.pos + 1 }) else (1, none)
      | none => (1, none)
  | .seq a b, st, k => tick (mT s a st (fun st' => mT s b st' k))
  | .alt a b, st, k => tick (orElseT (mT s a st k) (fun _ => mT s b st k))
  | .group i r, st, k =>
      tick (mT s r st (fun st' => k { st' with caps := (i, st.pos, st'.pos) :: st'.caps }))
  | .backref i, st, k =>
      match capOf st.caps i with
      | some (a, b) =>
          let n := b - a
          if (List.range n).all (fun j => s[a + j]? == s[st.pos + j]? && (st.pos + j < s.size)) then
            tick (k { st with pos := st.pos + n }) else (1, none)
      | none => (1, none)
  | .bol ml, st, k =>
      if st.pos == 0 || (ml && s[st.pos - 1]? == some 10) then tick (k st) else (1, none)
  | .eol ml, st, k =>
      if st.pos == s.size || (ml && s[st.pos]? == some 10) ||
         (!ml && st.pos + 1 == s.size && s[st.pos]? == some 10) then tick (k st) else (1, none)
  | .eos, st, k => if st.pos == s.size then tick (k st) else (1, none)
  | .look true neg r, st, k =>
      let p := mT s r st (fun x => (0, some x))
      match p.2 with
      | some st' => if neg then (p.1 + 1, none) else ((k { st with caps := st'.caps }).1 + (p.1 + 1), (k { st with caps := st'.caps }).2)
      | none => if neg then ((k st).1 + (p.1 + 1), (k st).2) else (p.1 + 1, none)
  | .look false neg r, st, k =>
      let p := if st.pos == 0 then (0, none) else
        mT s r { st with pos := st.pos - 1 } (fun st' => if st'.pos == st.pos then (0, some st') else (0, none))
      match p.2 with
      | some _ => if neg then (p.1 + 1, none) else ((k st).1 + (p.1 + 1), (k st).2)
      | none => if neg then ((k st).1 + (p.1 + 1), (k st).2) else (p.1 + 1, none)
  | .rep mn mx greedy r, st, k =>
      loopT (mT s r) greedy (s.size + 2 - st.pos) mn mx st k

theorem orElseT_snd (a : Nat × Option St) (b : Unit → Nat × Option St) :
    (orElseT a b).2 = a.2.orElse (fun _ => (b ()).2) := by
  unfold orElseT
  cases a.2 <;> rfl

theorem loopT_step_snd (mn : Nat) (g : Bool) (more kst : Nat × Option St) :
    (tick (if mn > 0 then more else if g then orElseT more (fun _ => kst) else orElseT kst (fun _ => more))).2 =
      if mn > 0 then more.2 else if g then more.2.orElse (fun _ => kst.2) else kst.2.orElse (fun _ => more.2) := by
  by_cases h : mn > 0
  · rw [if_pos h, if_pos h]; rfl
  · rw [if_neg h, if_neg h]
    cases g <;> simp only [tick, Bool.false_eq_true, if_true, if_false, orElseT_snd]

theorem loopT_result (body : St → KT → Nat × Option St) (body' : St → K → Option St) (g : Bool)
    (hb : ∀ st k, (body st k).2 = body' st (fun x => (k x).2)) :
    ∀ fuel mn mx st k, (loopT body g fuel mn mx st k).2 = loop body' g fuel mn mx st (fun x => (k x).2) := by
  intro fuel
  induction fuel with
  | zero => intro mn mx st k; rfl
  | succ fuel ih =>
    intro mn mx st k
    have hmore : ((if mx == some 0 then ((0 : Nat), (none : Option St)) else
          body st (fun st' => if st'.pos ≤ st.pos then (1, none) else
            loopT body g fuel (mn - 1) (mx.map (· - 1)) st' k))).2 =
        (if mx == some 0 then none else
          body' st (fun st' => if st'.pos ≤ st.pos then none else
            loop body' g fuel (mn - 1) (mx.map (· - 1)) st' (fun x => (k x).2))) := by
      split
      · rfl
      · rw [hb]
        congr 1
        funext st'
        split
        · rfl
        · exact ih _ _ _ _
    rw [loop_succ_def body' g fuel mn mx st _ _ hmore, loopT]
    exact loopT_step_snd mn g _ (k st)

theorem lookT_snd (p : Nat × Option St) (neg : Bool) (f : St → Nat × Option St) (kst : Nat × Option St) :
    (match p.2 with
      | some st' => if neg then (p.1 + 1, none) else ((f st').1 + (p.1 + 1), (f st').2)
      | none => if neg then (kst.1 + (p.1 + 1), kst.2) else (p.1 + 1, none)).2 =
    match p.2 with
      | some st' => if neg then none else (f st').2
      | none => if neg then kst.2 else none := by
  cases p.2 <;> cases neg <;> rfl

theorem mT_result (s : Array Nat) : ∀ (r : Re) (st : St) (k : KT),
    (mT s r st k).2 = m s r st (fun x => (k x).2) := by
  intro r
  induction r with
  | eps => intro st k; rfl
  | lit c => intro st k; rw [mT, m_lit_def]; split <;> rfl
  | notLit _ | any _ | cls _ _ =>
    intro st k
    simp only [mT, m_notLit_def, m_any_def, m_cls_def]
    cases s[st.pos]? with
    | none => rfl
    | some d => simp only []; split <;> rfl
  | seq a b iha ihb =>
    intro st k
    rw [mT, m_seq_def, tick]
    rw [iha]
    congr 1
    funext st'
    exact ihb st' k
  | alt a b iha ihb =>
    intro st k
    rw [mT, m_alt_def, tick]
    rw [orElseT_snd, iha, ihb]
  | group i r ih =>
    intro st k
    rw [mT, m_group_def, tick]
    rw [ih]
  | backref i =>
    intro st k
    rw [mT, m_backref_def]
    cases capOf st.caps i with
    | none => rfl
    | some ab => simp only []; split <;> rfl
  | bol _ | eol _ | eos => intro st k; simp only [mT, m_bol_def, m_eol_def, m_eos_def]; split <;> rfl
  | look ahead neg r ih =>
    intro st k
    cases ahead with
    | true =>
      have hp : (mT s r st (fun x => (0, some x))).2 = m s r st some := ih st _
      rw [mT, m_lookahead_def, ← hp]
      exact lookT_snd _ neg (fun st' => k { st with caps := st'.caps }) (k st)
    | false =>
      have hp : ((if st.pos == 0 then ((0 : Nat), (none : Option St)) else
            mT s r { st with pos := st.pos - 1 }
              (fun st' => if st'.pos == st.pos then (0, some st') else (0, none)))).2 =
          (if st.pos == 0 then none else
            m s r { st with pos := st.pos - 1 } (fun st' => if st'.pos == st.pos then some st' else none)) := by
        split
        · rfl
        · rw [ih]
          congr 1
          funext st'
          split <;> rfl
      rw [mT, m_lookbehind_def, ← hp]
      exact lookT_snd _ neg (fun _ => k st) (k st)
  | rep mn mx g r ih =>
    intro st k
    rw [mT, m_rep_def]
    exact loopT_result (mT s r) (m s r) g (fun st k => ih st k) _ _ _ _ _

def ksum (k : KT) (l : List St) : Nat := (l.map (fun x => (k x).1)).sum

theorem ksum_nil (k : KT) : ksum k [] = 0 := rfl
theorem ksum_cons (k : KT) (x : St) (l : List St) : ksum k (x :: l) = (k x).1 + ksum k l := by
  simp [ksum]
theorem ksum_append (k : KT) (a b : List St) : ksum k (a ++ b) = ksum k a + ksum k b := by
  simp [ksum]
theorem ksum_single (k : KT) (x : St) : ksum k [x] = (k x).1 := by simp [ksum]

theorem ksum_flatMap (k : KT) (l : List St) (f : St → List St) :
    ksum k (l.flatMap f) = (l.map (fun x => ksum k (f x))).sum := by
  induction l with
  | nil => rfl
  | cons x xs ih => simp only [List.flatMap_cons, ksum_append, List.map_cons, List.sum_cons, ih]

theorem orElseT_fst (a : Nat × Option St) (b : Unit → Nat × Option St) :
    (orElseT a b).1 ≤ a.1 + (b ()).1 := by
  unfold orElseT
  cases a.2 <;> simp

theorem ksum_eq_zero (k : KT) (l : List St) (h : ∀ x, (k x).1 = 0) : ksum k l = 0 := by
  induction l with
  | nil => rfl
  | cons x xs ih => rw [ksum_cons, h, ih]

theorem lookT_fst (k : KT) (p : Nat × Option St) (neg : Bool) (f : St → St) (st : St) :
    (match p.2 with
      | some st' => if neg then (p.1 + 1, none) else ((k (f st')).1 + (p.1 + 1), (k (f st')).2)
      | none => if neg then ((k st).1 + (p.1 + 1), (k st).2) else (p.1 + 1, none)).1 =
    p.1 + 1 + ksum k (match p.2 with
      | some st' => if neg then [] else [f st']
      | none => if neg then [st] else []) := by
  cases p.2 <;> cases neg <;> simp [ksum_single, ksum_nil, Nat.add_comm]

theorem loopT_step_fst (k : KT) (mn : Nat) (g : Bool) (st : St) (more : Nat × Option St) (S : Nat)
    (moreE : List St) (h : more.1 ≤ S + ksum k moreE) :
    (tick (if mn > 0 then more else if g then orElseT more (fun _ => k st)
        else orElseT (k st) (fun _ => more))).1 ≤
      1 + S + ksum k (if mn > 0 then moreE else if g then moreE ++ [st] else st :: moreE) := by
  by_cases hmn : mn > 0
  · rw [if_pos hmn, if_pos hmn, tick]; omega
  · rw [if_neg hmn, if_neg hmn, tick]
    cases g
    · have := orElseT_fst (k st) (fun _ => more)
      simp only [Bool.false_eq_true, if_false, ksum_cons]
      omega
    · have := orElseT_fst more (fun _ => k st)
      simp only [if_true, ksum_append, ksum_single]
      omega

theorem loopT_cost (body : St → KT → Nat × Option St) (bodyE : St → List St) (bodyS : St → Nat) (g : Bool)
    (hb : ∀ st k, (body st k).1 ≤ bodyS st + ksum k (bodyE st)) :
    ∀ fuel mn mx st k,
      (loopT body g fuel mn mx st k).1 ≤ loopS bodyE bodyS fuel mn mx st + ksum k (loopE bodyE g fuel mn mx st) := by
  intro fuel
  induction fuel with
  | zero => intro mn mx st k; simp [loopT, loopS, loopE, ksum]
  | succ fuel ih =>
    intro mn mx st k
    have hmore : ((if mx == some 0 then ((0 : Nat), (none : Option St)) else
          body st (fun st' => if st'.pos ≤ st.pos then (1, none) else
            loopT body g fuel (mn - 1) (mx.map (· - 1)) st' k))).1 ≤
        (if mx == some 0 then 0 else
          bodyS st + ((bodyE st).map (fun st' =>
            if st'.pos ≤ st.pos then 1 else loopS bodyE bodyS fuel (mn - 1) (mx.map (· - 1)) st')).sum) +
        ksum k (if mx == some 0 then [] else
          (bodyE st).flatMap (fun st' =>
            if st'.pos ≤ st.pos then [] else loopE bodyE g fuel (mn - 1) (mx.map (· - 1)) st')) := by
      split
      · simp [ksum]
      · refine Nat.le_trans (hb _ _) ?_
        rw [ksum_flatMap]
        have := Txt.sum_map_add_le (bodyE st)
          (fun x => ((fun st' => if st'.pos ≤ st.pos then ((1 : Nat), (none : Option St)) else
            loopT body g fuel (mn - 1) (mx.map (· - 1)) st' k) x).1)
          (fun st' => if st'.pos ≤ st.pos then 1 else loopS bodyE bodyS fuel (mn - 1) (mx.map (· - 1)) st')
          (fun x => ksum k (if x.pos ≤ st.pos then [] else loopE bodyE g fuel (mn - 1) (mx.map (· - 1)) x))
          (fun x _ => by
            by_cases hx : x.pos ≤ st.pos
            · simp [hx, ksum]
            · simp only [hx, if_false]
              exact ih _ _ _ _)
        unfold ksum at this ⊢
        omega
    rw [loopT, loopS, loopE]
    exact loopT_step_fst k mn g st _ _ _ hmore

theorem atomT_cost (k : KT) (st' : St) (c : Prop) [Decidable c] :
    (if c then tick (k st') else ((1 : Nat), (none : Option St))).1 ≤ 1 + ksum k (if c then [st'] else []) := by
  split
  · simp [tick, ksum_single]; omega
  · simp [ksum]

theorem mT_cost (s : Array Nat) : ∀ (r : Re) (st : St) (k : KT),
    (mT s r st k).1 ≤ steps s r st + ksum k (ends s r st) := by
  intro r
  induction r with
  | eps => intro st k; simp [mT, steps, ends, tick, ksum_single]; omega
  | lit c => intro st k; simp only [mT, steps, ends]; exact atomT_cost k _ _
  | notLit _ | any _ | cls _ _ =>
    intro st k
    simp only [mT, steps, ends]
    cases s[st.pos]? with
    | none => simp [ksum]
    | some d => exact atomT_cost k _ _
  | seq a b iha ihb =>
    intro st k
    simp only [mT, steps, ends, tick]
    have h1 := iha st (fun st' => mT s b st' k)
    rw [ksum_flatMap]
    have h2 := Txt.sum_map_add_le (ends s a st) (fun x => (mT s b x k).1) (fun st' => steps s b st')
      (fun x => ksum k (ends s b x)) (fun x _ => ihb x k)
    simp only [ksum] at h1 h2 ⊢
    omega
  | alt a b iha ihb =>
    intro st k
    simp only [mT, steps, ends, tick]
    have h0 := orElseT_fst (mT s a st k) (fun _ => mT s b st k)
    have h1 := iha st k
    have h2 := ihb st k
    rw [ksum_append]
    omega
  | group i r ih =>
    intro st k
    simp only [mT, steps, ends, tick]
    have h1 := ih st (fun st' => k { st' with caps := (i, st.pos, st'.pos) :: st'.caps })
    have e : ksum k ((ends s r st).map (fun st' => { st' with caps := (i, st.pos, st'.pos) :: st'.caps })) =
        ksum (fun st' => k { st' with caps := (i, st.pos, st'.pos) :: st'.caps }) (ends s r st) := by
      simp [ksum, List.map_map, Function.comp_def]
    rw [e]
    omega
  | backref i =>
    intro st k
    simp only [mT, steps, ends]
    cases capOf st.caps i with
    | none => simp [ksum]
    | some ab => exact atomT_cost k _ _
  | bol _ | eol _ | eos => intro st k; simp only [mT, steps, ends]; exact atomT_cost k _ _
  | look ahead neg r ih =>
    intro st k
    cases ahead with
    | true =>
      have hc := ih st (fun x => (0, some x))
      have hr : (mT s r st (fun x => (0, some x))).2 = (ends s r st).head? := by
        rw [mT_result]; exact (m_eq_ends ..).trans (Txt.findSome?_some_eq_head? _)
      rw [ksum_eq_zero _ _ (fun _ => rfl)] at hc
      rw [mT, steps, ends, ← hr, lookT_fst k _ neg (fun st' => { st with caps := st'.caps }) st]
      exact Nat.add_le_add (by omega) (Nat.le_refl _)
    | false =>
      have hp : ((if st.pos == 0 then ((0 : Nat), (none : Option St)) else
            mT s r { st with pos := st.pos - 1 }
              (fun st' => if st'.pos == st.pos then (0, some st') else (0, none)))).1 ≤
          steps s r { st with pos := st.pos - 1 } := by
        split
        · omega
        · have hc := ih { st with pos := st.pos - 1 }
            (fun st' => if st'.pos == st.pos then (0, some st') else (0, none))
          rw [ksum_eq_zero _ _ (fun x => by split <;> rfl)] at hc
          exact hc
      have hq : ((if st.pos == 0 then ((0 : Nat), (none : Option St)) else
            mT s r { st with pos := st.pos - 1 }
              (fun st' => if st'.pos == st.pos then (0, some st') else (0, none)))).2 =
          (if st.pos == 0 then none else
            ((ends s r { st with pos := st.pos - 1 }).filter (fun st' => st'.pos == st.pos)).head?) := by
        split
        · rfl
        · rw [mT_result, m_eq_ends, List.head?_filter]
          exact (congrArg (fun f => List.findSome? f _) (funext fun x => by simp only [Option.guard]; split <;> rfl)).trans
            List.findSome?_guard
      rw [mT, steps, ends, ← hq, lookT_fst k _ neg (fun _ => st) st]
      exact Nat.add_le_add (by omega) (Nat.le_refl _)
  | rep mn mx g r ih =>
    intro st k
    simp only [mT, steps, ends]
    exact loopT_cost (mT s r) (fun st' => ends s r st') (fun st' => steps s r st') g
      (fun st k => ih st k) _ _ _ _ _

/-- `matchAt` (`Pattern.match(s, pos)`) on the instrumented engine -/
def matchAtT (s : Array Nat) (r : Re) (pos : Nat) : Nat × Option St := mT s r ⟨pos, []⟩ (fun x => (0, some x))

theorem matchAtT_result (s : Array Nat) (r : Re) (pos : Nat) : (matchAtT s r pos).2 = matchAt s r pos := by
  unfold matchAtT matchAt
  rw [mT_result]

theorem matchAtT_poly (s : Array Nat) (r : Re) (h : Safe r = true) (pos : Nat) :
    (matchAtT s r pos).1 ≤ cC r * (s.size + 2) ^ dC r := by
  unfold matchAtT
  have h1 := mT_cost s r ⟨pos, []⟩ (fun x => (0, some x))
  have hz := ksum_eq_zero (fun x => ((0 : Nat), some x)) (ends s r ⟨pos, []⟩) (fun _ => rfl)
  have h2 := steps_poly s r h ⟨pos, []⟩
  omega

end C01P
