/-
C06, plural strings:
 * `LexP v ns` — an independent inductive grammar of the `#n` variables of a text; the regex-based `pluralVars` of
   `check_plural` is EXACTLY it, for every text (`pluralVars_of_lexP`, `lexP_total`, `lexP_of_pluralVars`);
   the variables of `;`-joined forms are the concatenation of the variables of the forms (`lexP_semicolon`, `C06.plural_vars_per_form`);
 * the locale → plural rule lookup, generically over ANY table: `ruleOf tbl` (full tag first, then the language
   subtag), its laws, the well-formedness predicate `TableWf`, and what it implies for `get_plural`.
-/
import CLModel.Proofs.C06RPluralLex
import CLModel.Proofs.C06Plural
import CLModel.Proofs.Dict
namespace C06P
open Rx PropCk
open C06R (IsDig NoDigAt valOf rePlural)
open Txt (At at_cons at_append)

abbrev Text := List Nat

def NoDigHead (v : Text) : Prop := ∀ c, v.head? = some c → ¬ IsDig c

/-- `LexP v ns`: reading `v` from the left, the `#`+digits occurrences (longest digit run) have the values `ns` -/
inductive LexP : Text → List Nat → Prop
  | nil : LexP [] []
  | char {c : Nat} {v : Text} {ns : List Nat} : c ≠ 35 → LexP v ns → LexP (c :: v) ns
  | hash {v : Text} {ns : List Nat} : NoDigHead v → LexP v ns → LexP (35 :: v) ns
  | var {ds v : Text} {ns : List Nat} : ds ≠ [] → (∀ d ∈ ds, IsDig d) → NoDigHead v → LexP v ns →
      LexP (35 :: (ds ++ v)) (valOf ds 0 :: ns)

theorem lexP_walk {v : Text} {ns : List Nat} (hl : LexP v ns) :
    ∀ (s : Array Nat) (p : Nat), s.toList.drop p = v → ∃ ms, Matches s rePlural p ms ∧
      mapOpt (fun m => match groupText s m.2 1 with
        | some t => intOf t
        | none => none) ms = some ns := by
  induction hl with
  | nil =>
    intro s p htl
    have hp : s.size ≤ p := by have := Txt.length_of_drop htl; rw [List.length_nil] at this; omega
    exact ⟨[], .nil fun q h1 h2 => C06R.plural_nomatch (by rw [Array.getElem?_eq_none (by omega)]; simp), rfl⟩
  | @char c v ns hc _ ih =>
    intro s p htl
    have h0 := Txt.head_of_drop htl
    have htl' := Txt.drop_succ_of_cons htl
    obtain ⟨ms, hms, hmap⟩ := ih s (p + 1) htl'
    exact ⟨ms, hms.step (C06R.plural_nomatch (by rw [h0]; simpa using hc)), hmap⟩
  | @hash v ns hnd _ ih =>
    intro s p htl
    have h0 := Txt.head_of_drop htl
    have htl' := Txt.drop_succ_of_cons htl
    obtain ⟨ms, hms, hmap⟩ := ih s (p + 1) htl'
    refine ⟨ms, hms.step (C06R.plural_nomatch_hash h0 fun c hc => ?_), hmap⟩
    rw [Txt.head?_of_drop htl'] at hc
    exact hnd c hc
  | @var ds v ns hne hds hnd _ ih =>
    intro s p htl
    have htl2 : s.toList.drop p = (35 :: ds) ++ v := htl
    have hat := Txt.at_of_drop htl2
    have htl' := Txt.drop_add_of_append htl2
    have hlen : p + (35 :: ds).length = p + 1 + ds.length := by simp; omega
    rw [hlen] at htl'
    have hstop : NoDigAt s (p + 1 + ds.length) := by
      intro c hc
      rw [Txt.head?_of_drop htl'] at hc
      exact hnd c hc
    have hm := C06R.plural_match hat hne hds hstop
    obtain ⟨ms, hms, hmap⟩ := ih s (p + 1 + ds.length) htl'
    refine ⟨_ :: ms, .cons (Nat.le_refl _) (Nat.le_of_lt (getElem?_some_lt (Txt.head_of_drop htl))) (fun q' h1 h2 => by omega) hm hms, ?_⟩
    have hsl : slice s (p + 1, p + 1 + ds.length) = ds := C06R.slice_of_at (at_cons.mp hat).2
    rw [mapOpt, hmap]
    simp only [groupText, St.group, capOf_cons, if_true, Option.map_some, hsl, C06R.intOf_val hne hds]

/-- the variables of the grammar are what both `re.finditer("#([0-9]+)", …)` of `check_plural` find -/
theorem pluralVars_of_lexP {v : Text} {ns : List Nat} (h : LexP v ns) : pluralVars rePlural v = some ns := by
  obtain ⟨ms, hms, hmap⟩ := lexP_walk h v.toArray 0 rfl
  unfold pluralVars
  simp only
  rw [(finditer_matches _ rePlural (by decide)).det hms]
  exact hmap

theorem lexP_text {t v : Text} {ns : List Nat} (ht : 35 ∉ t) (h : LexP v ns) : LexP (t ++ v) ns := by
  induction t with
  | nil => exact h
  | cons c t ih => exact .char (fun hc => ht (by simp [hc])) (ih (fun hm => ht (List.mem_cons_of_mem _ hm)))

open C06R (PTok renderP varsOf WfPTok SeparatedP renderP_cons) in
theorem lexP_renderP : ∀ ts : List PTok, (∀ t ∈ ts, WfPTok t) → SeparatedP ts → LexP (renderP ts) (varsOf ts)
  | [], _, _ => .nil
  | .text t :: rest, hwf, hsep => by
    rw [renderP_cons]
    exact lexP_text (hwf (.text t) (by simp)) (lexP_renderP rest (fun t ht => hwf t (by simp [ht])) hsep)
  | .var n :: rest, hwf, hsep => by
    obtain ⟨hne, hds, hint⟩ := C06R.decimal_any n
    have hv : valOf (decimal n) 0 = n := Option.some.inj ((C06R.intOf_val hne hds).symm.trans hint)
    have := LexP.var hne hds hsep.1 (lexP_renderP rest (fun t ht => hwf t (by simp [ht])) hsep.2)
    rw [hv] at this
    rw [renderP_cons]
    exact this

/-- **the variables of an assembled plural value are exactly the `#n` tokens it was assembled from** -/
theorem _root_.C06R.pluralVars_render (ts : List C06R.PTok) (h : C06R.WfRenderP ts) :
    pluralVars rePlural (C06R.renderP ts) = some (C06R.varsOf ts) :=
  pluralVars_of_lexP (lexP_renderP ts h.1 h.2)

theorem digits_split (v : Text) : ∃ ds r, v = ds ++ r ∧ (∀ d ∈ ds, IsDig d) ∧ NoDigHead r := by
  induction v with
  | nil => exact ⟨[], [], rfl, by simp, by intro c hc; simp at hc⟩
  | cons c v ih =>
    by_cases hc : IsDig c
    · obtain ⟨ds, r, hv, hds, hr⟩ := ih
      refine ⟨c :: ds, r, by rw [hv]; rfl, ?_, hr⟩
      intro d hd
      rcases List.mem_cons.mp hd with rfl | hd
      · exact hc
      · exact hds d hd
    · refine ⟨[], c :: v, rfl, by simp, ?_⟩
      intro c' hc'
      simp only [List.head?_cons, Option.some.injEq] at hc'
      subst hc'
      exact hc

theorem lexP_total (v : Text) : ∃ ns, LexP v ns := by
  have aux : ∀ (n : Nat) (v : Text), v.length ≤ n → ∃ ns, LexP v ns := by
    intro n
    induction n with
    | zero =>
      intro v hv
      have : v = [] := List.eq_nil_of_length_eq_zero (by omega)
      subst this
      exact ⟨[], LexP.nil⟩
    | succ n ih =>
      intro v hv
      cases v with
      | nil => exact ⟨[], LexP.nil⟩
      | cons c v' =>
        simp only [List.length_cons] at hv
        by_cases hc : c = 35
        · subst hc
          obtain ⟨ds, r, hv', hds, hr⟩ := digits_split v'
          by_cases hne : ds = []
          · subst hne
            obtain ⟨ns, hns⟩ := ih v' (by omega)
            exact ⟨ns, LexP.hash (by simpa [hv'] using hr) hns⟩
          · have hrl : r.length ≤ n := by
              have := congrArg List.length hv'
              simp only [List.length_append] at this
              omega
            obtain ⟨ns, hns⟩ := ih r hrl
            exact ⟨_, by rw [hv']; exact LexP.var hne hds hr hns⟩
        · obtain ⟨ns, hns⟩ := ih v' (by omega)
          exact ⟨ns, LexP.char hc hns⟩
  exact aux v.length v (Nat.le_refl _)

/-- what the regex finds is the variable list of the grammar -/
theorem lexP_of_pluralVars {v : Text} {ns : List Nat} (h : pluralVars rePlural v = some ns) : LexP v ns := by
  obtain ⟨ns', h'⟩ := lexP_total v
  have := pluralVars_of_lexP h'
  rw [h] at this
  cases this
  exact h'

/-- the variable regex `#([0-9]+)` always captures a decimal numeral -/
theorem _root_.PropCk.pluralVars_total (v : Text) : ∃ l, pluralVars rePlural v = some l :=
  (lexP_total v).imp fun _ => pluralVars_of_lexP

theorem lexP_unique {v : Text} {ns ns' : List Nat} (h : LexP v ns) (h' : LexP v ns') : ns = ns' := by
  have h1 := pluralVars_of_lexP h
  rw [pluralVars_of_lexP h'] at h1
  cases h1
  rfl

theorem noDigHead_append {v w : Text} (hv : NoDigHead v) (hw : NoDigHead w) : NoDigHead (v ++ w) := by
  cases v with
  | nil => simpa using hw
  | cons c v => intro c' hc'; exact hv c' (by simpa using hc')

/-- the variables of `a ; b` are those of `a` followed by those of `b` (a `;` ends every digit run) -/
theorem lexP_semicolon {a b : Text} {ns ms : List Nat} (ha : LexP a ns) (hb : LexP b ms) :
    LexP (a ++ 59 :: b) (ns ++ ms) := by
  have h59 : NoDigHead (59 :: b) := by
    intro c hc
    simp only [List.head?_cons, Option.some.injEq] at hc
    subst hc
    unfold IsDig; omega
  induction ha with
  | nil => exact LexP.char (by decide) hb
  | char hc _ ih => exact LexP.char hc ih
  | hash hnd _ ih => exact LexP.hash (noDigHead_append hnd h59) ih
  | @var ds v ns hne hds hnd _ ih =>
    have : 35 :: (ds ++ v) ++ 59 :: b = 35 :: (ds ++ (v ++ 59 :: b)) := by simp
    rw [this]
    exact LexP.var hne hds (noDigHead_append hnd h59) ih

/-- `";".join(forms)` -/
def joinForms : List Text → Text
  | [] => []
  | [f] => f
  | f :: g :: rest => f ++ 59 :: joinForms (g :: rest)

/-- the language subtag: `locale.split("-", 1)[0]` -/
def langOf (l : Text) : Text := l.takeWhile (· ≠ 45)

/-- `get_plural_rule` over a table `tbl` -/
def ruleOf (tbl : List (Text × Nat)) : Option Text → Option Nat
  | none => none
  | some l =>
    match tbl.lookup l with
    | some i => some i
    | none => tbl.lookup (langOf l)

/-- the key of the entry that decides the rule of `l` -/
def sourceKey (tbl : List (Text × Nat)) (l : Text) : Option Text :=
  if (tbl.lookup l).isSome then some l
  else if (tbl.lookup (langOf l)).isSome then some (langOf l) else none

theorem langOf_no_hyphen (l : Text) : 45 ∉ langOf l := by
  unfold langOf
  induction l with
  | nil => simp
  | cons c l ih =>
    by_cases hc : c = 45
    · simp [List.takeWhile_cons, hc]
    · simp only [List.takeWhile_cons, ne_eq, hc, not_false_eq_true, decide_true, if_true, List.mem_cons, not_or]
      exact ⟨fun e => hc e.symm, ih⟩

theorem langOf_self {l : Text} (h : 45 ∉ l) : langOf l = l := by
  unfold langOf
  induction l with
  | nil => rfl
  | cons c l ih =>
    have hc : c ≠ 45 := by intro e; exact h (by simp [e])
    simp only [List.takeWhile_cons, ne_eq, hc, not_false_eq_true, decide_true, if_true]
    rw [ih (fun hm => h (by simp [hm]))]

theorem langOf_region (lang rest : Text) (h : 45 ∉ lang) : langOf (lang ++ 45 :: rest) = lang := by
  unfold langOf
  induction lang with
  | nil => simp
  | cons c lang ih =>
    have hc : c ≠ 45 := by intro e; exact h (by simp [e])
    simp only [List.cons_append, List.takeWhile_cons, ne_eq, hc, not_false_eq_true, decide_true, if_true]
    rw [ih (fun hm => h (by simp [hm]))]

theorem rule_full (tbl : List (Text × Nat)) {l : Text} {i : Nat} (h : tbl.lookup l = some i) :
    ruleOf tbl (some l) = some i := by simp [ruleOf, h]

theorem rule_lang (tbl : List (Text × Nat)) {l : Text} (h : tbl.lookup l = none) :
    ruleOf tbl (some l) = tbl.lookup (langOf l) := by simp [ruleOf, h]

theorem rule_plain (tbl : List (Text × Nat)) {l : Text} (h : 45 ∉ l) : ruleOf tbl (some l) = tbl.lookup l := by
  cases hl : tbl.lookup l with
  | some i => exact rule_full tbl hl
  | none => rw [rule_lang tbl hl, langOf_self h, hl]

/-- a key that contains `-` (`zh-CN`, `zh-TW`) decides for the identical tag only -/
theorem hyphen_key_exact (tbl : List (Text × Nat)) {l k : Text} (h : sourceKey tbl l = some k) (hk : 45 ∈ k) :
    l = k := by
  unfold sourceKey at h
  split at h
  · cases h; rfl
  · split at h
    · cases h; exact absurd hk (langOf_no_hyphen l)
    · cases h

theorem rule_of_source (tbl : List (Text × Nat)) (l : Text) :
    ruleOf tbl (some l) = (sourceKey tbl l).bind (fun k => tbl.lookup k) := by
  unfold ruleOf sourceKey
  cases h1 : tbl.lookup l with
  | some i => simp [h1]
  | none =>
    cases h2 : tbl.lookup (langOf l) with
    | some i => simp [h1, h2]
    | none => simp [h1, h2]

theorem lookup_none_iff (tbl : List (Text × Nat)) (k : Text) : tbl.lookup k = none ↔ ∀ v, (k, v) ∉ tbl := by
  rw [AR.lookup_eq_dget, AR.dget_eq_none_iff, List.mem_map]
  exact ⟨fun h v hv => h ⟨(k, v), hv, rfl⟩, fun h ⟨p, hp, hk⟩ => h p.2 (hk ▸ hp)⟩

theorem mem_lookup (tbl : List (Text × Nat)) (hnd : (tbl.map (·.1)).Nodup) (k : Text) (v : Nat)
    (h : (k, v) ∈ tbl) : tbl.lookup k = some v :=
  (AR.lookup_eq_dget tbl k).trans (AR.dget_of_mem hnd h)

theorem rule_iff (tbl : List (Text × Nat)) (hnd : (tbl.map (·.1)).Nodup) (l : Text) (i : Nat) :
    ruleOf tbl (some l) = some i ↔ (l, i) ∈ tbl ∨ ((∀ j, (l, j) ∉ tbl) ∧ (langOf l, i) ∈ tbl) := by
  constructor
  · intro h
    cases hl : tbl.lookup l with
    | some j =>
      rw [rule_full tbl hl] at h
      cases h
      exact Or.inl (AR.lookup_mem hl)
    | none =>
      rw [rule_lang tbl hl] at h
      exact Or.inr ⟨(lookup_none_iff tbl l).mp hl, AR.lookup_mem h⟩
  · rintro (h | ⟨h1, h2⟩)
    · exact rule_full tbl (mem_lookup tbl hnd l i h)
    · rw [rule_lang tbl ((lookup_none_iff tbl l).mpr h1)]
      exact mem_lookup tbl hnd _ i h2

/-- `get_plural` over a locale table and a category table; outer `none` = IndexError -/
def pluralOf (tbl : List (Text × Nat)) (idx : List (List Text)) (locale : Option Text) : Option (Option (List Text)) :=
  match ruleOf tbl locale with
  | none => some none
  | some i =>
    match idx[i]? with
    | some cats => some (some cats)
    | none => none

theorem getPlural_eq (locale : Option Text) :
    getPlural locale = pluralOf Gen.Tables.categoriesByLocale Gen.Tables.categoriesByIndex locale := by
  cases locale <;> rfl

def TableWf (tbl : List (Text × Nat)) (idx : List (List Text)) : Prop :=
  (tbl.map (·.1)).Nodup ∧ (∀ e ∈ tbl, e.2 < idx.length) ∧ (∀ cats ∈ idx, cats ≠ [])

def increasing : List Text → Bool
  | a :: b :: l => decide (a < b) && increasing (b :: l)
  | _ => true

theorem lt_of_increasing : ∀ (l : List Text) (a : Text), increasing (a :: l) = true → ∀ x ∈ l, a < x
  | [], _, _, x, hx => nomatch hx
  | b :: l, a, h, x, hx => by
    simp only [increasing, Bool.and_eq_true, decide_eq_true_eq] at h
    rcases List.mem_cons.mp hx with rfl | hx
    · exact h.1
    · exact List.lt_trans h.1 (lt_of_increasing l b h.2 x hx)

/-- a strictly increasing list of keys has no duplicates: a check linear in the table, where deciding `Nodup`
    directly compares every pair of keys -/
theorem nodup_of_increasing : ∀ l : List Text, increasing l = true → l.Nodup
  | [], _ => List.nodup_nil
  | [_], _ => by simp
  | a :: b :: l, h => by
    have hlt := lt_of_increasing (b :: l) a h
    simp only [increasing, Bool.and_eq_true] at h
    exact List.nodup_cons.mpr ⟨fun hm => List.lt_irrefl a (hlt a hm), nodup_of_increasing (b :: l) h.2⟩

theorem rule_in_range {tbl : List (Text × Nat)} {idx : List (List Text)} (hwf : TableWf tbl idx)
    {locale : Option Text} {i : Nat} (h : ruleOf tbl locale = some i) : i < idx.length := by
  cases locale with
  | none => cases h
  | some l =>
    cases hl : tbl.lookup l with
    | some j =>
      rw [rule_full tbl hl] at h
      cases h
      exact hwf.2.1 _ (AR.lookup_mem hl)
    | none =>
      rw [rule_lang tbl hl] at h
      exact hwf.2.1 _ (AR.lookup_mem h)

/-- number of plural forms of a locale: `len(get_plural(locale))`, `none` when there is no rule -/
def formCountOf (tbl : List (Text × Nat)) (idx : List (List Text)) (locale : Option Text) : Option Nat :=
  (ruleOf tbl locale).bind (fun i => (idx[i]?).map List.length)

/-- **over a well-formed table `get_plural` never raises**, is `None` exactly for tags without a rule, and a
    known rule has `formCountOf ≥ 1` forms -/
theorem pluralOf_wf {tbl : List (Text × Nat)} {idx : List (List Text)} (hwf : TableWf tbl idx)
    (locale : Option Text) :
    ∃ known, pluralOf tbl idx locale = some known ∧ known.map List.length = formCountOf tbl idx locale ∧
      (known = none ↔ ruleOf tbl locale = none) ∧ (∀ cats, known = some cats → cats ≠ []) := by
  unfold pluralOf formCountOf
  cases hr : ruleOf tbl locale with
  | none => exact ⟨none, rfl, rfl, by simp, by intro c h; cases h⟩
  | some i =>
    have hi := rule_in_range hwf hr
    refine ⟨some idx[i], by simp [List.getElem?_eq_getElem hi], by simp [List.getElem?_eq_getElem hi], by simp, ?_⟩
    intro cats h
    cases h
    exact hwf.2.2 _ (List.getElem_mem hi)

def formsVerdictN (n : Option Nat) (semicolons : Nat) : List Finding :=
  match n with
  | some (k + 1) =>
    if k + 1 ≠ semicolons + 1 then
      [⟨.warning, .val 0, sExpecting ++ decimal (k + 1) ++ sPluralsFound ++ decimal (semicolons + 1), .plural⟩]
    else []
  | _ => []

theorem formsVerdict_eq (known : Option (List Text)) (semicolons : Nat) :
    formsVerdict known semicolons = formsVerdictN (known.map List.length) semicolons := by
  cases known with
  | none => rfl
  | some l =>
    cases l with
    | nil => rfl
    | cons c cs => simp [formsVerdict, formsVerdictN]

end C06P
