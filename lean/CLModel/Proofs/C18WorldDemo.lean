/-
C18: evaluated `Hist.step` reports of two small `.ini` pairs, for `C18.compare_sees_the_current_files` and the non-vacuity witness of
`C18.compare_after_rewrite`
(`AR.addRemove` sorts with `List.mergeSort`, which the kernel does not unfold: it is evaluated through its closed form
`C20M.specD`, the two reports are then computed as in `C18.collision_fresh`).
-/
import CLModel.Proofs.C18State
import CLModel.Proofs.AddRemove
namespace C18W
open Hist

/-- "a=1\nb=2\n" -/
def refAB : Array Nat := #[97, 61, 49, 10, 98, 61, 50, 10]
/-- "a=1\n" -/
def refA1 : Array Nat := #[97, 61, 49, 10]

theorem arAB_A : AR.addRemove [[97], [98]] [[97]] = [(.equal, [97]), (.delete, [98])] := by
  rw [C20P.addRemove_eq_specD]
  decide +kernel

theorem arA_A : AR.addRemove [[97]] [[97]] = [(.equal, [97])] := by
  rw [C20P.addRemove_eq_specD]
  decide +kernel

def kA : KEnt (List Nat) := { key := [97], junk := false, val := [49], s := 0, e := 3, words := 1, moch := [] }
def kB : KEnt (List Nat) := { key := [98], junk := false, val := [50], s := 4, e := 7, words := 1, moch := [] }

theorem parseAB : (kents .ini refAB (doParse G.init .ini refAB).2.2).map (KEnt.mapKey Key.render) = [kA, kB] := by
  decide +kernel

theorem parseA1_afterAB :
    (kents .ini refA1 (doParse (doParse G.init .ini refAB).1 .ini refA1).2.2).map (KEnt.mapKey Key.render) = [kA] := by
  decide +kernel

theorem parseA1 : (kents .ini refA1 (doParse G.init .ini refA1).2.2).map (KEnt.mapKey Key.render) = [kA] := by
  decide +kernel

theorem parseA1_afterA1 :
    (kents .ini refA1 (doParse (doParse G.init .ini refA1).1 .ini refA1).2.2).map (KEnt.mapKey Key.render) = [kA] := by
  decide +kernel

theorem cmp_AB_A :
    (Hist.step G.init (.compare .ini refAB refA1)).2
      = .report (.ok ([.missing [98]], { missing := 1, missing_w := 1, unchanged := 1, unchanged_w := 1 })) := by
  simp only [Hist.step]
  refine congrArg Out.report ?_
  unfold reportStr
  rw [parseAB, parseA1_afterAB]
  have h1 : [kA, kB].map (·.key) = [[97], [98]] := rfl
  have h2 : [kA].map (·.key) = [[97]] := rfl
  have d1 : findDuplicates [[97], [98]] = ([] : List (List Nat × Nat)) := by decide
  have d2 : findDuplicates [[97]] = ([] : List (List Nat × Nat)) := by decide
  simp only [compareG, h1, h2, arAB_A, d1, d2]
  rfl

theorem cmp_A_A :
    (Hist.step G.init (.compare .ini refA1 refA1)).2 = .report (.ok ([], { unchanged := 1, unchanged_w := 1 })) := by
  simp only [Hist.step]
  refine congrArg Out.report ?_
  unfold reportStr
  rw [parseA1, parseA1_afterA1]
  have h2 : [kA].map (·.key) = [[97]] := rfl
  have d2 : findDuplicates [[97]] = ([] : List (List Nat × Nat)) := by decide
  simp only [compareG, h2, arA_A, d2]
  rfl

theorem keysA_A : (refK .ini refA1).map (·.key) ++ (l10nK .ini refA1 refA1).map (·.key) = [.real [97], .real [97]] := by
  decide +kernel

theorem keysAB_A : (refK .ini refAB).map (·.key) ++ (l10nK .ini refAB refA1).map (·.key)
    = [.real [97], .real [98], .real [97]] := by
  decide +kernel

theorem noJunkLikeA_A : NoJunkLikeKeys .ini refA1 refA1 := by
  intro t ht hs
  rw [keysA_A] at ht
  have hh := junkShaped_head t hs
  simp at ht
  subst ht
  simp at hh

theorem noJunkLikeAB_A : NoJunkLikeKeys .ini refAB refA1 := by
  intro t ht hs
  rw [keysAB_A] at ht
  have hh := junkShaped_head t hs
  simp at ht
  rcases ht with rfl | rfl | rfl <;> simp at hh

end C18W
