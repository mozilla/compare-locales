/- when one of the two sequences is a proper prefix of the other, `get_opcodes` is
   one `equal` block followed by one trailing `delete` (`b` prefix of `a`) or `insert` (`a` prefix of `b`) —
   for sequences of ANY length, the autojunk heuristic included: popularity is counted in `b`, the best match
   stays on the diagonal and the extension loops complete it.  Both cases are one development over two
   sequences that agree wherever both are defined (`Agree`). -/
import CLModel.Checks.Difflib
import CLModel.Proofs.C06Blocks
namespace Difflib
variable {α : Type} [DecidableEq α]

/-- position `j` of `b` holds an element that autojunk keeps (not popular) -/
def npB (b : List α) (j : Nat) : Bool :=
  match b[j]? with
  | some x => !decide (popular b x)
  | none => false

/-- length of the run of non-popular elements of `b` ending at `j` -/
def nprun (b : List α) : Nat → Nat
  | 0 => if npB b 0 then 1 else 0
  | j + 1 => if npB b (j + 1) then nprun b j + 1 else 0

theorem Mrel_chainB (a b : List α) (i j : Nat) :
    Mrel a (chainB b) i j = true ↔ ∃ x, a[i]? = some x ∧ b[j]? = some x ∧ ¬ popular b x := by
  unfold Mrel
  cases h : a[i]? with
  | none => simp
  | some x =>
    simp only [decide_eq_true_eq, chainB_get]
    constructor
    · intro hm
      split at hm
      · simp at hm
      · rename_i hp
        exact ⟨x, rfl, mem_idxFrom_zero.mp hm, hp⟩
    · rintro ⟨y, hy, hb, hp⟩
      cases hy
      simp only [hp, if_false]
      exact mem_idxFrom_zero.mpr hb

/-- `a` and `b` agree wherever both are defined: one of them is a prefix of the other -/
def Agree (a b : List α) : Prop := ∀ i, i < a.length → i < b.length → a[i]? = b[i]?

theorem agree_append_left (b t : List α) : Agree (b ++ t) b := fun _ _ hb => List.getElem?_append_left hb
theorem agree_append_right (a t : List α) : Agree a (a ++ t) := fun _ ha _ => (List.getElem?_append_left ha).symm

omit [DecidableEq α] in
/-- `js` is ascending, so the diagonal entry `n` is met before every `j > n`, and it dominates them: `best` stays on
    the diagonal. -/
theorem diag_fold (n : Nat) (val : Nat → Nat) :
    ∀ (js : List Nat) (c : Block), c.i = c.j → js.Pairwise (· < ·) →
      (∀ j ∈ js, j < n → val j ≤ c.k) →
      (∀ j ∈ js, n < j → (n ∈ js ∨ val n ≤ c.k) ∧ val j ≤ val n) →
      (js.foldl (rowStep n val) c).i =
        (js.foldl (rowStep n val) c).j ∧
      c.k ≤ (js.foldl (rowStep n val) c).k ∧
      (n ∈ js → val n ≤ (js.foldl (rowStep n val) c).k) := by
  intro js
  induction js with
  | nil => intro c hd _ _ _; simp [hd]
  | cons j rest ih =>
    intro c hd hasc hlow hhigh
    have hgt := (List.pairwise_cons.mp hasc).1
    have hasc' := (List.pairwise_cons.mp hasc).2
    simp only [List.foldl_cons, rowStep]
    rcases Nat.lt_trichotomy j n with hjn | hjn | hjn
    · -- below the diagonal: no update
      have hv := hlow j (by simp) hjn
      have hne : ¬ val j > c.k := by omega
      simp only [hne, if_false]
      obtain ⟨r1, r2, r3⟩ := ih c hd hasc' (fun j' hj' => hlow j' (by simp [hj']))
        (by
          intro j' hj' hn
          obtain ⟨h1, h2⟩ := hhigh j' (by simp [hj']) hn
          refine ⟨?_, h2⟩
          rcases h1 with h1 | h1
          · rcases List.mem_cons.mp h1 with h1 | h1
            · omega
            · left; exact h1
          · right; exact h1)
      refine ⟨r1, r2, ?_⟩
      intro hn
      rcases List.mem_cons.mp hn with hn | hn
      · omega
      · exact r3 hn
    · -- on the diagonal
      subst hjn
      have hrest : ∀ j' ∈ rest, j < j' := hgt
      obtain ⟨r1, r2, r3⟩ := ih (if val j > c.k then ⟨j + 1 - val j, j + 1 - val j, val j⟩ else c)
        (by split <;> simp [hd]) hasc'
        (by intro j' hj' hlt; have := hrest j' hj'; omega)
        (by
          intro j' hj' hn
          obtain ⟨_, h2⟩ := hhigh j' (by simp [hj']) hn
          refine ⟨?_, h2⟩
          right
          split <;> (try simp only) <;> omega)
      refine ⟨r1, ?_, ?_⟩
      · have : c.k ≤ (if val j > c.k then (⟨j + 1 - val j, j + 1 - val j, val j⟩ : Block) else c).k := by
          split <;> (try simp only) <;> omega
        omega
      · intro _
        have : val j ≤ (if val j > c.k then (⟨j + 1 - val j, j + 1 - val j, val j⟩ : Block) else c).k := by
          split <;> (try simp only) <;> omega
        omega
    · -- above the diagonal: the diagonal entry was processed before
      obtain ⟨h1, h2⟩ := hhigh j (by simp) hjn
      have hvn : val n ≤ c.k := by
        rcases h1 with h1 | h1
        · rcases List.mem_cons.mp h1 with h1 | h1
          · omega
          · have := hgt n h1; omega
        · exact h1
      have hne : ¬ val j > c.k := by omega
      simp only [hne, if_false]
      obtain ⟨r1, r2, r3⟩ := ih c hd hasc' (fun j' hj' => hlow j' (by simp [hj']))
        (by
          intro j' hj' hn
          obtain ⟨_, h2'⟩ := hhigh j' (by simp [hj']) hn
          exact ⟨Or.inr hvn, h2'⟩)
      refine ⟨r1, r2, ?_⟩
      intro hn
      rcases List.mem_cons.mp hn with hn | hn
      · omega
      · exact r3 hn

section agree
variable {a b : List α}

theorem M_np {i j : Nat} (h : Mrel a (chainB b) i j = true) : npB b j = true := by
  obtain ⟨x, _, hb, hp⟩ := (Mrel_chainB _ _ _ _).mp h
  simp [npB, hb, hp]

theorem M_diag (H : Agree a b) {i : Nat} (ha : i < a.length) (hb : i < b.length) :
    Mrel a (chainB b) i i = npB b i := by
  rw [Bool.eq_iff_iff, Mrel_chainB, H i ha hb]
  simp only [npB]
  rw [List.getElem?_eq_getElem hb]
  simp

theorem M_to_diag (H : Agree a b) {i j : Nat} (ha : i < a.length) (hb : i < b.length)
    (hm : Mrel a (chainB b) i j = true) : Mrel a (chainB b) i i = true := by
  obtain ⟨x, hxa, _, hp⟩ := (Mrel_chainB _ _ _ _).mp hm
  rw [Mrel_chainB]
  exact ⟨x, hxa, by rw [← H i ha hb]; exact hxa, hp⟩

variable (a b) in
/-- the run table of `find_longest_match` over the whole of both sequences -/
abbrev runTable (n j : Nat) : Nat := rowv (Mrel a (chainB b)) 0 b.length 0 n j

theorem runTable_succ (n j : Nat) :
    runTable a b (n + 1) j = if Mrel a (chainB b) n j = true ∧ j < b.length then
      (if j = 0 then 0 else runTable a b n (j - 1)) + 1 else 0 := by
  simp [runTable, rowv]

theorem runTable_le_nprun : ∀ n j, runTable a b n j ≤ nprun b j := by
  intro n
  induction n with
  | zero => intro j; simp [runTable, rowv]
  | succ n ih =>
    intro j
    rw [runTable_succ]
    split
    · rename_i hc
      have hnp := M_np hc.1
      cases j with
      | zero => simp [nprun, hnp]
      | succ j =>
        simp only [Nat.add_one_ne_zero, if_false, Nat.add_sub_cancel, nprun, hnp, if_true]
        have := ih j
        omega
    · omega

theorem runTable_diag (H : Agree a b) : ∀ i, i < a.length → i < b.length → runTable a b (i + 1) i = nprun b i := by
  intro i
  induction i with
  | zero =>
    intro ha hb
    rw [runTable_succ, M_diag H ha hb]
    simp [nprun, hb]
  | succ i ih =>
    intro ha hb
    rw [runTable_succ, M_diag H ha hb]
    simp only [hb, and_true, Nat.add_one_ne_zero, if_false, Nat.add_sub_cancel, nprun]
    rw [ih (by omega) (by omega)]

theorem runTable_off_le (H : Agree a b) :
    ∀ i j, i < j → i < a.length → j < b.length → runTable a b (i + 1) j ≤ runTable a b (i + 1) i := by
  intro i
  induction i with
  | zero =>
    intro j hij hi hj
    rw [runTable_succ, runTable_succ]
    split
    · rename_i hc
      have := M_to_diag H hi (by omega) hc.1
      have h0 : 0 < b.length := by omega
      simp only [this, h0, and_self, if_true]
      have : j ≠ 0 := by omega
      simp [this, runTable, rowv]
    · omega
  | succ i ih =>
    intro j hij hi hj
    rw [runTable_succ (j := j), runTable_succ (j := i + 1)]
    split
    · rename_i hc
      have hd := M_to_diag H hi (by omega) hc.1
      have h0 : i + 1 < b.length := by omega
      have hj0 : j ≠ 0 := by omega
      simp only [hd, h0, and_self, if_true, hj0, if_false, Nat.add_one_ne_zero, Nat.add_sub_cancel]
      have := ih (j - 1) (by omega) (by omega) (by omega)
      omega
    · omega

theorem mem_b2j_iff_Mrel (a : List α) (b2j : List (α × List Nat)) {n : Nat} {x : α}
    (hx : a[n]? = some x) (j : Nat) : j ∈ b2jGet b2j x ↔ Mrel a b2j n j = true := by
  simp [Mrel, hx]

/-- the outer loop over the whole box ends with `best` on the diagonal.  Carried along, not concluded: `best` is at least
    as long as every run of non-popular elements that ends inside the common part, which is what keeps it there. -/
theorem outerLoop_agree (H : Agree a b) :
    ∃ x, outerLoop a (chainB b) 0 b.length (a.length - 0) 0 [] ⟨0, 0, 0⟩ = some x ∧
      x.i = x.j ∧ InBox 0 a.length 0 b.length x ∧ IsMatch a b x := by
  have := outerLoop_inv a (chainB b) 0 b.length 0 (chainB_sorted b)
    (fun n best => (InBox 0 (0 + n) 0 b.length best ∧ IsMatch a b best) ∧ best.i = best.j ∧
      ∀ j, j < n → j < b.length → nprun b j ≤ best.k)
    (by
      intro n best x hx hinv
      obtain ⟨hv, hd, hbound⟩ := hinv
      have hx' : a[n]? = some x := by simpa using hx
      have hna : n < a.length := by
        apply Classical.byContradiction
        intro hge
        rw [List.getElem?_eq_none (by omega)] at hx'
        cases hx'
      refine ⟨step_valid a b (chainB b) (chainB_sound b) 0 0 b.length n best _ hv, ?_⟩
      have hmemf : ∀ j, j ∈ (b2jGet (chainB b) x).filter (fun j => decide (0 ≤ j ∧ j < b.length)) ↔
          Mrel a (chainB b) n j = true ∧ j < b.length := by
        intro j
        rw [List.mem_filter, mem_b2j_iff_Mrel a (chainB b) hx' j]
        simp
      have key := diag_fold n (fun j => runTable a b (n + 1) j)
        ((b2jGet (chainB b) x).filter (fun j => decide (0 ≤ j ∧ j < b.length))) best hd
        ((chainB_sorted b x).filter _)
        (by
          intro j hj hjn
          exact Nat.le_trans (runTable_le_nprun (n + 1) j) (hbound j hjn ((hmemf j).mp hj).2))
        (by
          intro j hj hnj
          obtain ⟨hm, hjb⟩ := (hmemf j).mp hj
          have hnb : n < b.length := by omega
          exact ⟨Or.inl ((hmemf n).mpr ⟨M_to_diag H hna hnb hm, hnb⟩), runTable_off_le H n j hnj hna hjb⟩)
      simp only [Nat.zero_add]
      refine ⟨key.1, ?_⟩
      intro j hj hjb
      by_cases hjn : j < n
      · exact Nat.le_trans (hbound j hjn hjb) key.2.1
      · have : j = n := by omega
        subst this
        rw [← runTable_diag H j hna hjb]
        by_cases hm : Mrel a (chainB b) j j = true
        · exact key.2.2 ((hmemf j).mpr ⟨hm, hjb⟩)
        · rw [runTable_succ]
          simp [hm])
    (a.length - 0) 0 [] ⟨0, 0, 0⟩ (by omega) (by intro j; simp [getK, rowv])
    ⟨⟨⟨by simp, by simp, by simp, by simp⟩, by intro t ht; simp at ht⟩, rfl, by intro j hj; omega⟩
  obtain ⟨x, hx1, hx2⟩ := this
  refine ⟨x, by simpa using hx1, hx2.2.1, ?_, hx2.1.2⟩
  have e : 0 + (0 + (a.length - 0)) = a.length := by omega
  have := hx2.1.1
  rw [e] at this
  exact this

theorem extendBack_agree (H : Agree a b) :
    ∀ d k, d ≤ a.length → d ≤ b.length → extendBack a b 0 0 d d k = some ⟨0, 0, k + d⟩ := by
  intro d
  induction d with
  | zero => intro k _ _; simp [extendBack]
  | succ d ih =>
    intro k hda hdb
    simp only [extendBack, Nat.add_sub_cancel]
    have h1 : b[d]? = some b[d] := List.getElem?_eq_getElem (by omega)
    have h2 : a[d]? = some b[d] := by rw [H d (by omega) (by omega), h1]
    simp only [h1, h2]
    simp only [gt_iff_lt, Nat.zero_lt_succ, and_self, if_true]
    rw [ih (k + 1) (by omega) (by omega)]
    congr 2; omega

theorem extendFwd_agree (H : Agree a b) :
    ∀ fuel k, k ≤ min a.length b.length → fuel ≥ min a.length b.length - k →
      extendFwd a b a.length b.length 0 0 fuel k = some ⟨0, 0, min a.length b.length⟩ := by
  intro fuel
  induction fuel with
  | zero =>
    intro k hk hf
    have : k = min a.length b.length := by omega
    simp [extendFwd, this]
  | succ fuel ih =>
    intro k hk hf
    simp only [extendFwd, Nat.zero_add]
    by_cases hlt : k < a.length ∧ k < b.length
    · have h1 : b[k]? = some b[k] := List.getElem?_eq_getElem hlt.2
      have h2 : a[k]? = some b[k] := by rw [H k hlt.1 hlt.2, h1]
      simp only [hlt, and_self, if_true, h1, h2]
      exact ih (k + 1) (by omega) (by omega)
    · have : k = min a.length b.length := by omega
      rw [if_neg hlt, this]

theorem flm_agree (H : Agree a b) :
    findLongestMatch a b (chainB b) 0 a.length 0 b.length = some ⟨0, 0, min a.length b.length⟩ := by
  obtain ⟨x, hx, hd, hb, _⟩ := outerLoop_agree H
  have h2 := hb.h2
  have h4 := hb.h4
  unfold findLongestMatch
  rw [hx]
  simp only
  rw [hd, extendBack_agree H x.j x.k (by omega) (by omega)]
  simp only
  exact extendFwd_agree H _ _ (by omega) (by omega)

end agree

/-- **`get_opcodes` when one sequence is a proper prefix of the other**: one `equal` block over the common part (absent
    if it is empty) followed by one trailing `delete` (`b` shorter) or `insert` (`a` shorter).  No bound on the lengths. -/
theorem opcodes_agree {a b : List α} (H : Agree a b) (hne : a.length ≠ b.length) :
    opcodes a b = some
      ((if min a.length b.length ≠ 0 then
          [(⟨.equal, 0, min a.length b.length, 0, min a.length b.length⟩ : Opcode)] else []) ++
        [if b.length < a.length then ⟨.delete, min a.length b.length, a.length, min a.length b.length, min a.length b.length⟩
         else ⟨.insert, min a.length b.length, min a.length b.length, min a.length b.length, b.length⟩]) := by
  generalize hm : min a.length b.length = m at *
  -- the common part is the only block: neither sub-box is pushed
  have hmb : mbLoop a b (chainB b) (2 * a.length + 2) [⟨0, a.length, 0, b.length⟩] [] =
      some (if m ≠ 0 then [⟨0, 0, m⟩] else []) := by
    have h1 : ¬ (m < a.length ∧ m < b.length) := by omega
    simp only [mbLoop, flm_agree H, hm]
    by_cases h0 : m = 0
    · simp [h0]
    · simp [h0, h1, mbLoop_nil]
  unfold opcodes matchingBlocks
  simp only [hmb]
  by_cases h0 : m = 0
  · subst h0
    simp only [ne_eq, not_true_eq_false, if_false, List.mergeSort_nil, collapse, List.nil_append]
    by_cases hlt : b.length < a.length
    · have hb : b.length = 0 := by omega
      have ha : 0 < a.length := by omega
      simp [opcodesGo, hb, ha]
    · have ha : a.length = 0 := by omega
      have hb : 0 < b.length := by omega
      simp [opcodesGo, ha, hb]
  · simp only [ne_eq, h0, not_false_eq_true, if_true, List.mergeSort_singleton, collapse]
    simp only [Nat.add_zero, and_self, if_true, Nat.zero_add, collapse, ne_eq, h0, not_false_eq_true]
    by_cases hlt : b.length < a.length
    · obtain rfl : m = b.length := by omega
      simp [opcodesGo, h0, hlt]
    · obtain rfl : m = a.length := by omega
      have hab : a.length < b.length := by omega
      simp [opcodesGo, h0, hlt, hab]

theorem opcodes_prefix (b t : List α) (ht : t ≠ []) :
    opcodes (b ++ t) b = some
      ((if b.length ≠ 0 then [(⟨.equal, 0, b.length, 0, b.length⟩ : Opcode)] else []) ++
        [⟨.delete, b.length, (b ++ t).length, b.length, b.length⟩]) := by
  have hlen : 0 < t.length := List.length_pos_iff.mpr ht
  rw [opcodes_agree (agree_append_left b t) (by simp; omega)]
  simp [hlen]

theorem opcodes_ext (a t : List α) (ht : t ≠ []) :
    opcodes a (a ++ t) = some
      ((if a.length ≠ 0 then [(⟨.equal, 0, a.length, 0, a.length⟩ : Opcode)] else []) ++
        [⟨.insert, a.length, a.length, a.length, (a ++ t).length⟩]) := by
  have hlen : 0 < t.length := List.length_pos_iff.mpr ht
  rw [opcodes_agree (agree_append_right a t) (by simp; omega)]
  simp

end Difflib
