/- C06, the plural branch of `PropertiesChecker.check`: `checkPlural` is `formsVerdict` (a function of the number of
   `;` in the localized value) followed by `varsVerdict` (a function of the two sets of variable numbers).  Also two facts about
   the rest of `check`: `contains` is the infix relation, and base and escape findings are warnings outside both categories. -/
import CLModel.Checks.Properties
namespace PropCk

/-- verdict on the variables: a function of the two *sets* of variable numbers -/
def varsVerdict (pats lpats : List Nat) : List Finding :=
  if pats.length = 0 then []
  else if pats.any (fun x => !lpats.contains x) then [⟨.warning, .val 0, sNotAllVars, .plural⟩]
  else if lpats.any (fun x => !pats.contains x) then [⟨.error, .val 0, sUnreplaced, .plural⟩]
  else []

def formsVerdict (known : Option (List Text)) (semicolons : Nat) : List Finding :=
  match known with
  | some (c :: cs) =>
    if (c :: cs).length ≠ semicolons + 1 then
      [⟨.warning, .val 0, sExpecting ++ decimal (c :: cs).length ++ sPluralsFound ++ decimal (semicolons + 1), .plural⟩]
    else []
  | _ => []

theorem forms_eq (known : Option (List Text)) (l10nValue : Text) :
    formsFindings known l10nValue = formsVerdict known (l10nValue.count 59) := by
  cases known with
  | none => rfl
  | some l =>
    cases l with
    | nil => rfl
    | cons c cs =>
      simp only [formsVerdict, formsFindings]
      by_cases h1 : (c :: cs).length > l10nValue.count 59 + 1
      · have h2 : ¬ (c :: cs).length < l10nValue.count 59 + 1 := by omega
        have h3 : (c :: cs).length ≠ l10nValue.count 59 + 1 := by omega
        simp only [h1, h2, h3, if_true, if_false, ne_eq, not_false_eq_true, List.append_nil]
      · by_cases h2 : (c :: cs).length < l10nValue.count 59 + 1
        · have h3 : (c :: cs).length ≠ l10nValue.count 59 + 1 := by omega
          simp only [h1, h2, h3, if_true, if_false, ne_eq, not_false_eq_true, List.nil_append]
        · have h3 : ¬ ((c :: cs).length ≠ l10nValue.count 59 + 1) := by omega
          simp only [h1, h2, h3, if_false, List.append_nil]

theorem checkPlural_eq (locale : Option Text) (refValue l10nValue : Text) (known : Option (List Text))
    (pats lpats : List Nat) (hk : getPlural locale = some known)
    (hp : pluralVars Gen.Pat.checks_properties_PropertiesChecker_check_plural_0 refValue = some pats)
    (hl : pluralVars Gen.Pat.checks_properties_PropertiesChecker_check_plural_1 l10nValue = some lpats) :
    checkPlural locale refValue l10nValue =
      some (formsVerdict known (l10nValue.count 59) ++ varsVerdict pats lpats) := by
  have hforms := forms_eq known l10nValue
  unfold checkPlural
  simp only [hk, hp, hl]
  rw [hforms]
  unfold varsVerdict
  split
  · simp
  · split
    · rfl
    · split
      · rfl
      · simp

theorem varsVerdict_spec (pats lpats : List Nat) :
    varsVerdict pats lpats =
      if pats = [] then []
      else if ∃ x ∈ pats, x ∉ lpats then [⟨.warning, .val 0, sNotAllVars, .plural⟩]
      else if ∃ x ∈ lpats, x ∉ pats then [⟨.error, .val 0, sUnreplaced, .plural⟩]
      else [] := by
  unfold varsVerdict
  have e0 : (pats.length = 0) ↔ pats = [] := List.length_eq_zero_iff
  have e1 : pats.any (fun x => !lpats.contains x) = true ↔ ∃ x ∈ pats, x ∉ lpats := by simp
  have e2 : lpats.any (fun x => !pats.contains x) = true ↔ ∃ x ∈ lpats, x ∉ pats := by simp
  simp only [e0, e1, e2]

theorem contains_iff (needle hay : Text) : contains needle hay = true ↔ needle <:+: hay := by
  induction hay with
  | nil =>
    simp only [contains]
    constructor
    · intro h
      have := List.isPrefixOf_iff_prefix.mp h
      exact this.isInfix
    · intro h
      have : needle = [] := List.eq_nil_of_infix_nil h
      subst this; rfl
  | cons c hay ih =>
    simp only [contains, Bool.or_eq_true, ih]
    constructor
    · rintro (h | h)
      · exact (List.isPrefixOf_iff_prefix.mp h).isInfix
      · obtain ⟨s, t, hst⟩ := h
        exact ⟨c :: s, t, by simp [← hst]⟩
    · rintro ⟨s, t, hst⟩
      cases s with
      | nil =>
        left
        exact List.isPrefixOf_iff_prefix.mpr ⟨t, by simpa using hst⟩
      | cons x xs =>
        right
        simp only [List.cons_append, List.cons.injEq] at hst
        exact ⟨xs, t, by simpa using hst.2⟩

theorem base_esc_warnings (e : Ents) :
    ∀ f ∈ baseCheck e ++ escapeWarnings e.l10nRaw, f.sev = .warning ∧ f.cat ≠ .printf ∧ f.cat ≠ .plural := by
  intro f hf
  rcases List.mem_append.mp hf with hf | hf
  · simp only [baseCheck, List.mem_map] at hf
    obtain ⟨m, _, rfl⟩ := hf
    simp
  · simp only [escapeWarnings, List.mem_filterMap] at hf
    obtain ⟨m, _, hm⟩ := hf
    cases hs : groupText e.l10nRaw.toArray m.2 Gen.Pat.PropertiesEntityMixin_escape_g_single with
    | none => simp [hs] at hm
    | some t =>
      cases t with
      | nil => simp [hs] at hm
      | cons c cs =>
        simp only [hs] at hm
        by_cases hk : isKnownEscape (c :: cs) = true
        · simp [hk] at hm
        · simp only [hk, Bool.not_false, Bool.false_eq_true, not_false_eq_true, if_true, Option.some.injEq,
            Bool.not_eq_true] at hm
          subst hm; simp

end PropCk
