/- C04: what `merge` stages for printed `.properties` texts (text level), and the decidable stability predicates
   whose negations are the known findings F4 and F14. -/
import CLModel.Proofs.C04Reparse
import CLModel.Proofs.C04Multi
namespace C04R
open P

/-- a garbage line: non-empty, without `= : # !` and newline, not starting with a blank -/
structure GarbageLine (G : List Nat) : Prop where
  ne : G ≠ []
  chars : ∀ c ∈ G, c ≠ 61 ∧ c ≠ 58 ∧ c ≠ 10 ∧ c ≠ 35 ∧ c ≠ 33
  head : ∀ c, G.head? = some c → c ≠ 32 ∧ c ≠ 9 ∧ c ≠ 13

def withGarbage (rs1 : List PRec) (G : List Nat) (rs2 : List PRec) : List Nat :=
  printProps rs1 ++ (G ++ 10 :: printProps rs2)

/-- for closed test vectors (the examples of the property file); no theorem evaluates the class -/
instance (G : List Nat) : Decidable (GarbageLine G) :=
  decidable_of_iff (_ ∧ _ ∧ _) ⟨fun h => ⟨h.1, h.2.1, h.2.2⟩, fun h => ⟨h.1, h.2, h.3⟩⟩

open Merge Gen.Tables

/-- the text at `merge_file` after the merge, given the text of the l10n file (`none`: nothing staged from the
    l10n text: no file, a copy of the reference, or an exception) -/
def staged (contents : List Nat) : Outcome → Option (List Nat)
  | .copyL10n => some contents
  | .copyL10nPlus tr => some (contents ++ tr)
  | .written t => some t
  | _ => none

/-- the localized text: printed records, the last one with or without its final newline -/
def l10nText (rs : List PRec) (finalNl : Bool) : List Nat :=
  if finalNl then printProps rs else (printProps rs).dropLast

/-- properties: the text does not end in an odd run of backslashes (else an appended newline is a line continuation) -/
def evenBackslashTail (t : List Nat) : Bool := (t.reverse.takeWhile (· == 92)).length % 2 == 0

/-- a cut `[a, b)` does not fuse two lines: it starts at a line start, or it does not end in a newline, or it
    reaches the end of the text -/
def cutKeepsLines (contents : List Nat) (a b : Nat) : Bool :=
  a == 0 || decide (b ≤ a) || contents[a - 1]? == some 10 || contents[b - 1]? != some 10 || decide (contents.length ≤ b)

/-- stability of a `.properties`/`.ini` splice: every cut keeps the line structure, and — if reference entries are
    appended — the kept text does not end in an odd run of backslashes -/
def SpliceStable (contents : List Nat) (sorted : List Skip) (missingAlls : List (List Nat)) : Bool :=
  sorted.all (fun sk => match sk.span with | some (a, b) => cutKeepsLines contents a b | none => false) &&
  ((missingAlls.isEmpty && sorted.all (·.junk)) || evenBackslashTail (chunks contents sorted none))

theorem evenBackslashTail_of_last (t : List Nat) (h : ∀ c, t.getLast? = some c → c ≠ 92) :
    evenBackslashTail t = true := by
  unfold evenBackslashTail
  cases hr : t.reverse with
  | nil => simp
  | cons c rest =>
    have : t.getLast? = some c := by
      rw [List.getLast?_eq_head?_reverse, hr]; rfl
    have hc := h c this
    have hb : (c == 92) = false := by simp [hc]
    simp [List.takeWhile, hb]

theorem printRec_getLast (r : PRec) : (printRec r).getLast? = some 10 := by
  simp [printRec, List.getLast?_append, List.getLast?_cons]

theorem printProps_getLast (rs : List PRec) : ∀ c, (printProps rs).getLast? = some c → c = 10 := by
  induction rs with
  | nil => intro c h; simp [printProps] at h
  | cons r rs ih =>
    intro c h
    have e : printProps (r :: rs) = printRec r ++ printProps rs := by simp [printProps]
    rw [e, List.getLast?_append] at h
    cases hl : (printProps rs).getLast? with
    | none =>
      rw [hl, printRec_getLast] at h
      simpa using h.symm
    | some d =>
      rw [hl] at h
      simp at h
      subst h
      exact ih d hl

theorem printProps_dropLast (rs : List PRec) (h : rs ≠ []) : (printProps rs).dropLast ++ [10] = printProps rs := by
  have hne : printProps rs ≠ [] := by
    cases rs with
    | nil => exact absurd rfl h
    | cons r rs' => simp [printProps, printRec]
  have h1 := List.dropLast_concat_getLast hne
  have h2 : (printProps rs).getLast hne = 10 := printProps_getLast rs _ (List.getLast?_eq_some_getLast hne)
  rw [h2] at h1
  exact h1

theorem last_sep_val (v : List Nat) (h : ∀ c ∈ v, c ≠ 92) : (61 :: v).getLast (by simp) ≠ 92 := by
  have hm := List.getLast_mem (l := 61 :: v) (by simp)
  rcases List.mem_cons.mp hm with e | e
  · rw [e]; decide
  · exact h _ e

/-- the last character of a printed list without its final newline is a value character or `=` -/
theorem l10nText_last (rs : List PRec) (finalNl : Bool) (hrs : ∀ r ∈ rs, SafeRec r) :
    ∀ c, (l10nText rs finalNl).getLast? = some c → c ≠ 92 := by
  intro c hc
  unfold l10nText at hc
  cases finalNl with
  | true =>
    simp only [if_true] at hc
    have := printProps_getLast rs c hc
    omega
  | false =>
    simp only [Bool.false_eq_true, if_false] at hc
    rcases List.eq_nil_or_concat rs with rfl | ⟨init, r, rfl⟩
    · simp [printProps] at hc
    · rw [List.concat_eq_append] at hc hrs
      have hs := hrs r (by simp)
      have e : printProps (init ++ [r]) = (printProps init ++ (r.1 ++ 61 :: r.2)) ++ [10] := by
        simp [printProps, printRec]
      rw [e, List.dropLast_concat, List.getLast?_append] at hc
      have e2 : (r.1 ++ 61 :: r.2).getLast? = some ((61 :: r.2).getLast (by simp)) := by
        rw [List.getLast?_append]
        simp [List.getLast?_eq_some_getLast]
      rw [e2] at hc
      simp only [Option.some_or, Option.some.injEq] at hc
      subst hc
      exact last_sep_val r.2 (fun c hc => (hs.val c hc).1)

theorem ensureNewline_printRec (r : PRec) : ensureNewline (printRec r) = printRec r := by
  simp [ensureNewline, printRec_getLast]

/-- entries that end in a newline are appended as they are -/
theorem flatten_ensure {R : Type} (pr : R → List Nat) (h : ∀ r, ensureNewline (pr r) = pr r) (ms : List R) :
    ((ms.map pr).map ensureNewline).flatten = (ms.map pr).flatten := by
  rw [List.map_map]
  exact congrArg List.flatten (List.map_congr_left fun r _ => h r)

/-- the appended block for entries of one printer: a newline, the missing entries, then the reference entries of the skips -/
theorem trailing_of {R : Type} (pr : R → List Nat) (h : ∀ r, ensureNewline (pr r) = pr r) (ms refs : List R) (skips : List Skip)
    (hs : (skips.filter (fun s => !s.junk)).map (·.refAll) = refs.map pr) :
    trailing (ms.map pr) skips = 10 :: ((ms ++ refs).map pr).flatten := by
  rw [trailing, hs, List.cons_append, ← List.map_append, List.map_cons, List.flatten_cons, flatten_ensure pr h]
  rfl

theorem flatten_ensure_printed (ms : List PRec) : ((ms.map printRec).map ensureNewline).flatten = printProps ms :=
  flatten_ensure printRec ensureNewline_printRec ms

theorem printProps_append (a b : List PRec) : printProps (a ++ b) = printProps a ++ printProps b := by
  simp [printProps]

theorem trailing_printed (ms : List PRec) : trailing (ms.map printRec) [] = 10 :: printProps ms := by
  rw [trailing_of printRec ensureNewline_printRec ms [] [] rfl, List.append_nil]; rfl

theorem chunks_one (A X B : List Nat) (sk : Skip) (h : sk.span = some (A.length, A.length + X.length)) :
    chunks (A ++ (X ++ B)) [sk] none = A ++ B := by
  simp only [chunks, h, List.drop_zero, Nat.sub_zero]
  rw [List.take_left' rfl, ← List.append_assoc, List.drop_left' (by simp)]

theorem staged_append (contents : List Nat) (m : List Nat) (ms : List (List Nat)) :
    staged contents (merge true cap_properties contents [] (m :: ms)) = some (contents ++ trailing (m :: ms) []) := by
  rw [show cap_properties = CAN_SKIP + CAN_MERGE from rfl, C04M.merge_append]; rfl

theorem toks_two (rs ms : List PRec) :
    printProps rs ++ 10 :: printProps ms = printToks (rs.map .record ++ .nl :: ms.map .record) ∧
      recsOf (rs.map .record ++ .nl :: ms.map .record) = rs ++ ms := by
  constructor
  · rw [printToks_append, printToks_recs]
    simp [printToks, printToks_recs]
  · rw [recsOf_append, recsOf_recs]
    simp [recsOf, recsOf_recs]

theorem l10nText_append_toks (rs ms : List PRec) (finalNl : Bool) :
    ∃ toks, l10nText rs finalNl ++ 10 :: printProps ms = printToks toks ∧ recsOf toks = rs ++ ms := by
  cases finalNl with
  | true => exact ⟨_, by simpa [l10nText] using (toks_two rs ms).1, (toks_two rs ms).2⟩
  | false =>
    by_cases h : rs = []
    · subst h
      exact ⟨_, by simpa [l10nText, printProps] using (toks_two [] ms).1, (toks_two [] ms).2⟩
    · refine ⟨(rs ++ ms).map .record, ?_, recsOf_recs _⟩
      rw [printToks_recs, printProps_append, ← printProps_dropLast rs h]
      simp [l10nText]

theorem reparse_toks (t : List Nat) (toks : List Tok) (recs : List PRec) (ht : t = printToks toks)
    (hr : recsOf toks = recs) (hs : ∀ r ∈ recs, SafeRec r) :
    ∃ es, walk .properties t.toArray = .done es ∧
      entitiesOf .properties t.toArray es = recs.map expectedView ∧ junkOf t.toArray es = [] := by
  subst ht; subst hr
  exact walk_toks toks hs

theorem printProps_ne_nil (rs : List PRec) (h : rs ≠ []) : printProps rs ≠ [] := by
  cases rs with
  | nil => exact absurd rfl h
  | cons r rs' => simp [printProps, printRec]

theorem printProps_last_elem (rs : List PRec) (h : rs ≠ []) :
    (printProps rs)[(printProps rs).length - 1]? = some 10 := by
  have hne := printProps_ne_nil rs h
  rw [← List.getLast?_eq_getElem?, List.getLast?_eq_some_getLast hne]
  congr 1
  exact printProps_getLast rs _ (List.getLast?_eq_some_getLast hne)

theorem cutKeepsLines_after_printed (rs : List PRec) (rest : List Nat) (b : Nat) :
    cutKeepsLines (printProps rs ++ rest) (printProps rs).length b = true := by
  unfold cutKeepsLines
  by_cases h : rs = []
  · subst h; simp [printProps]
  · have hne := printProps_ne_nil rs h
    have hl : 0 < (printProps rs).length := List.length_pos_iff.mpr hne
    rw [List.getElem?_append_left (by omega), printProps_last_elem rs h]
    simp

theorem last_printed_two (X : List Nat) (rs : List PRec) :
    ∀ c, (X ++ 10 :: printProps rs).getLast? = some c → c ≠ 92 := by
  intro c hc
  rw [show X ++ 10 :: printProps rs = (X ++ [10]) ++ printProps rs by simp, List.getLast?_append] at hc
  cases hl : (printProps rs).getLast? with
  | none =>
    rw [hl] at hc
    simp at hc
    omega
  | some d =>
    rw [hl] at hc
    simp at hc
    have := printProps_getLast rs d hl
    omega

theorem append_stable (rs ms : List PRec) (finalNl : Bool) (hrs : ∀ r ∈ rs, SafeRec r) :
    SpliceStable (l10nText rs finalNl) [] (ms.map printRec) = true := by
  have : chunks (l10nText rs finalNl) [] none = l10nText rs finalNl := by simp [chunks]
  simp [SpliceStable, this, evenBackslashTail_of_last _ (l10nText_last rs finalNl hrs)]

theorem cut_stable (rs1 rs2 : List PRec) (G : List Nat) (missingAlls : List (List Nat)) (jk : Bool) (ra : List Nat) :
    SpliceStable (withGarbage rs1 G rs2)
      [{ span := some ((printProps rs1).length, (printProps rs1).length + G.length + 1), junk := jk, refAll := ra }]
      missingAlls = true := by
  have e : withGarbage rs1 G rs2 = printProps rs1 ++ ((G ++ [10]) ++ printProps rs2) := by simp [withGarbage]
  have hc : chunks (withGarbage rs1 G rs2)
      [{ span := some ((printProps rs1).length, (printProps rs1).length + G.length + 1), junk := jk, refAll := ra }] none =
      printProps (rs1 ++ rs2) := by
    rw [e, chunks_one _ _ _ _ (by simp; omega), printProps_append]
  have hk := cutKeepsLines_after_printed rs1 ((G ++ [10]) ++ printProps rs2) ((printProps rs1).length + G.length + 1)
  rw [← e] at hk
  have hl : evenBackslashTail (printProps (rs1 ++ rs2)) = true :=
    evenBackslashTail_of_last _ (fun c hc => by have := printProps_getLast _ c hc; omega)
  simp [SpliceStable, hc, hk, hl]

theorem skip_entity_stable (rs1 rs2 : List PRec) (rb : PRec) (missingAlls : List (List Nat)) (jk : Bool) (ra : List Nat) :
    SpliceStable (printProps (rs1 ++ rb :: rs2))
      [{ span := some ((printProps rs1).length, (printProps rs1).length + rb.1.length + 1 + rb.2.length), junk := jk, refAll := ra }]
      missingAlls = true := by
  have e : printProps (rs1 ++ rb :: rs2) = printProps rs1 ++ ((rb.1 ++ 61 :: rb.2) ++ 10 :: printProps rs2) := by
    simp [printProps, printRec]
  have hc : chunks (printProps (rs1 ++ rb :: rs2))
      [{ span := some ((printProps rs1).length, (printProps rs1).length + rb.1.length + 1 + rb.2.length), junk := jk, refAll := ra }] none =
      printProps rs1 ++ 10 :: printProps rs2 := by
    rw [e, chunks_one _ _ _ _ (by simp; omega)]
  have hk := cutKeepsLines_after_printed rs1 ((rb.1 ++ 61 :: rb.2) ++ 10 :: printProps rs2)
    ((printProps rs1).length + rb.1.length + 1 + rb.2.length)
  rw [← e] at hk
  have hl : evenBackslashTail (printProps rs1 ++ 10 :: printProps rs2) = true :=
    evenBackslashTail_of_last _ (last_printed_two _ rs2)
  simp [SpliceStable, hc, hk, hl]

end C04R
