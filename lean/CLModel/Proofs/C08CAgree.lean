/- C08/C07 CSS: the two models of `CSSCheckMixin.parse_css_spec`
   (`Ftl.parseCssSpec` in Checks/Fluent.lean, `Dtd.parseCssSpec` in Checks/Dtd.lean) agree on every text,
   so theorems about one transfer to the other.  They differ in representation only (unit as `Option`,
   errors as an inductive vs. a record, `dictSet` vs. `dset`, `a != b` vs. `a < b` for "prop is non-empty");
   the differences vanish on what the regex engine can return for `_css_spec`: whenever group `prop` is set it
   is non-empty and group `unit` is set too. -/
import CLModel.Checks.Dtd
import CLModel.Checks.Fluent
import CLModel.Proofs.Captures
import CLModel.Proofs.RxSearch
import CLModel.Proofs.C07Model
import CLModel.Proofs.C08CGrammar
namespace C08C
open Rx

def toFtlMap (m : List (Text × Text)) : Ftl.CssMap := m.map (fun p => (p.1, some p.2))

def toFtlErr (e : Dtd.CssErr) : Ftl.CssErr :=
  match e.code with
  | .badContent => .badContent e.pos
  | .missingSemicolon => .missingSemicolon e.pos

/-- group `prop`, if set, is non-empty and comes with group `unit` -/
def PropGroupOk (st : St) : Prop :=
  match st.group Gen.Pat.CSSCheckMixin__css_spec_g_prop with
  | none => True
  | some (a, b) => a < b ∧ (st.group Gen.Pat.CSSCheckMixin__css_spec_g_unit).isSome = true

theorem spec_caps (s : Array Nat) (p : Nat) (k : K) (hk : ∀ x r, k x = some r → r = x) (st : St)
    (h : m s Gen.Pat.CSSCheckMixin__css_spec ⟨p, []⟩ k = some st) : PropGroupOk st := by
  -- one run of the engine: group 3 is set, group 1 is set, and whatever group 1 holds is non-empty
  obtain ⟨st', hrun, hk'⟩ := m_run h
  cases hk _ _ hk'
  rw [spec_shape] at hrun
  cases hrun with
  | altL hA =>
    obtain ⟨_, new3, e3, _, m3⟩ := hA.ext 3 0 (by decide) (grpMin_zero ..)
    obtain ⟨_, new1, e1, c1, m1⟩ := hA.ext 1 1 (by decide) (by decide)
    simp only [List.append_nil] at e1 e3
    obtain ⟨a, b, hg1, hm1⟩ := capOf_new (g := 1) (m1 (by decide))
    obtain ⟨c, d, hg3, _⟩ := capOf_new (g := 3) (m3 (by decide))
    have hlen : a + 1 ≤ b := (c1 _ hm1).2.2.2 rfl
    simp only [PropGroupOk, St.group, Gen.Pat.CSSCheckMixin__css_spec_g_prop, Gen.Pat.CSSCheckMixin__css_spec_g_unit]
    rw [e1, hg1]
    exact ⟨by omega, by rw [← e1, e3, hg3]; rfl⟩
  | altR hB => cases hB; simp [PropGroupOk, St.group, capOf]

theorem finditer_propGroupOk (s : Array Nat) : ∀ p ∈ finditer s Gen.Pat.CSSCheckMixin__css_spec, PropGroupOk p.2 := by
  intro p hp
  rcases (finditer_sound s _ p hp).2 with h | h
  · exact spec_caps s p.1 some (by intro x r h; cases h; rfl) p.2 h
  · refine spec_caps s p.1 _ ?_ p.2 h
    intro x r h
    split at h
    · cases h
    · cases h; rfl

theorem dset_cons_eq (k v v' : Text) (r : List (Text × Text)) (hn : k ∉ r.map Prod.fst) :
    Dtd.dset ((k, v') :: r) k v = (k, v) :: r := by
  have hnot : ∀ p ∈ r, (p.1 == k) = false := by
    intro p hp
    simp only [beq_eq_false_iff_ne, ne_eq]
    intro he
    exact hn (List.mem_map.mpr ⟨p, hp, he⟩)
  have hmap : r.map (fun p => if (p.1 == k) = true then (k, v) else p) = r := by
    conv => rhs; rw [← List.map_id r]
    apply List.map_congr_left
    intro p hp
    rw [hnot p hp]; rfl
  unfold Dtd.dset
  rw [if_pos (by simp)]
  rw [List.map_cons, hmap]
  simp

theorem dset_cons_ne (k k' v v' : Text) (r : List (Text × Text)) (hne : (k' == k) = false) :
    Dtd.dset ((k', v') :: r) k v = (k', v') :: Dtd.dset r k v := by
  unfold Dtd.dset
  by_cases h : r.any (·.1 == k) = true
  · rw [if_pos (by simp only [List.any_cons, hne, Bool.false_or]; exact h), if_pos h, List.map_cons]
    simp only [hne, Bool.false_eq_true, if_false]
  · rw [if_neg (by simp only [List.any_cons, hne, Bool.false_or]; exact h), if_neg h]
    rfl

theorem dictSet_toFtl : ∀ (d : List (Text × Text)) (k v : Text), (d.map Prod.fst).Nodup →
    Ftl.dictSet (toFtlMap d) k (some v) = toFtlMap (Dtd.dset d k v)
  | [], k, v, _ => by simp [toFtlMap, Ftl.dictSet, Dtd.dset]
  | (k', v') :: r, k, v, hn => by
    simp only [List.map_cons, List.nodup_cons] at hn
    have ih := dictSet_toFtl r k v hn.2
    by_cases hk : k' = k
    · subst hk
      rw [dset_cons_eq k' v v' r hn.1]
      simp [toFtlMap, Ftl.dictSet]
    · have hne : (k' == k) = false := by simpa using hk
      rw [dset_cons_ne k k' v v' r hne]
      simp only [toFtlMap, List.map_cons, Ftl.dictSet, hne, Bool.false_eq_true, if_false]
      simp only [toFtlMap] at ih
      rw [ih]

def resOf (r : Option Dtd.CssState) : Option Ftl.CssMap × Option (List Ftl.CssErr) :=
  match r with
  | some stt => (stt.refMap.map toFtlMap, stt.errors.map (·.map toFtlErr))
  | none => (none, none)

theorem slice_eq (s : Array Nat) (a b : Nat) : Ftl.slice s a b = Dtd.slice s a b := rfl

theorem step_agree (s : Array Nat) (q : Nat) (st : St) (rest : List (Nat × St)) (endp : Nat)
    (dm : Option (List (Text × Text))) (de : Option (List Dtd.CssErr)) (hst : PropGroupOk st) (hnd : Dtd.mapNodup dm) :
    Ftl.cssLoop s ((q, st) :: rest) endp (dm.map toFtlMap) (de.map (·.map toFtlErr)) =
      match Dtd.cssStep s ⟨dm, de, endp⟩ (q, st) with
      | none => (none, none)
      | some stt' => Ftl.cssLoop s rest stt'.end_ (stt'.refMap.map toFtlMap) (stt'.errors.map (·.map toFtlErr)) := by
  conv => lhs; unfold Ftl.cssLoop
  unfold Dtd.cssStep
  simp only []
  generalize matchAt (s.extract 0 q) Gen.Pat.CSSCheckMixin__css_sep endp = msep
  by_cases h0 : (endp == 0 && q == st.pos) = true
  · simp [h0]
  · simp only [h0, Bool.false_eq_true, if_false]
    cases hg1 : st.group Gen.Pat.CSSCheckMixin__css_spec_g_prop with
    | none =>
      simp only [Bool.and_false, Bool.or_false]
      cases msep <;> cases de <;> by_cases hq : q > endp <;> simp [hq, toFtlErr]
    | some ab =>
      obtain ⟨a, b⟩ := ab
      simp only [PropGroupOk, hg1] at hst
      obtain ⟨hab, hu⟩ := hst
      cases hg3 : st.group Gen.Pat.CSSCheckMixin__css_spec_g_unit with
      | none => rw [hg3] at hu; cases hu
      | some cd =>
        obtain ⟨c, d⟩ := cd
        have hne : (a != b) = true := by simp; omega
        have heq : (a == b) = false := by simp; omega
        simp only [hne, hab, decide_true, Bool.and_true, heq, Bool.false_eq_true, if_false, if_true, Option.map_some,
          slice_eq]
        -- `hfin`: the two `errors` computations (written out as the goal shows them) agree through `toFtlErr`, for any
        -- pair of maps that agree through `toFtlMap`
        have hfin : ∀ (fm : Ftl.CssMap) (dmap : List (Text × Text)), fm = toFtlMap dmap →
            Ftl.cssLoop s rest st.pos (some fm)
              (if (decide (q > endp) || decide (endp > 0)) = true then
                match msep with
                | none => some ((match Option.map (fun x => List.map toFtlErr x) de with | some l => l | none => []) ++
                    [Ftl.CssErr.badContent endp])
                | some sp =>
                  if (decide (endp > 0) && (sp.group Gen.Pat.CSSCheckMixin__css_sep_g_semi).isNone) = true then
                    some ((match Option.map (fun x => List.map toFtlErr x) de with | some l => l | none => []) ++
                      [Ftl.CssErr.missingSemicolon endp])
                  else Option.map (fun x => List.map toFtlErr x) de
              else Option.map (fun x => List.map toFtlErr x) de) =
            Ftl.cssLoop s rest st.pos (some (toFtlMap dmap))
              (Option.map (fun x => List.map toFtlErr x)
                (if (decide (q > endp) || decide (endp > 0)) = true then
                  match msep with
                  | none => some ((match de with | some l => l | none => []) ++ [⟨endp, Dtd.CssCode.badContent⟩])
                  | some sp =>
                    if (decide (endp > 0) && (sp.group Gen.Pat.CSSCheckMixin__css_sep_g_semi).isNone) = true then
                      some ((match de with | some l => l | none => []) ++ [⟨endp, Dtd.CssCode.missingSemicolon⟩])
                    else de
                else de)) := by
          intro fm dmap hfm
          subst hfm
          cases msep with
          | none => cases de <;> by_cases hq : (decide (q > endp) || decide (endp > 0)) = true <;> simp [hq, toFtlErr]
          | some sp =>
            cases de <;> by_cases hq : (decide (q > endp) || decide (endp > 0)) = true <;>
              by_cases hs : (decide (endp > 0) && (sp.group Gen.Pat.CSSCheckMixin__css_sep_g_semi).isNone) = true <;>
              simp [hq, hs, toFtlErr]
        cases dm with
        | none =>
          simp only [Option.map_none]
          exact hfin _ _ (by simp [toFtlMap, Ftl.dictSet, Dtd.dset])
        | some l =>
          simp only [Option.map_some]
          exact hfin _ _ (dictSet_toFtl l _ _ (by simpa [Dtd.mapNodup] using hnd))

theorem cssLoop_agree (s : Array Nat) : ∀ (ms : List (Nat × St)) (endp : Nat) (dm : Option (List (Text × Text)))
    (de : Option (List Dtd.CssErr)), (∀ p ∈ ms, PropGroupOk p.2) → Dtd.mapNodup dm →
    Ftl.cssLoop s ms endp (dm.map toFtlMap) (de.map (·.map toFtlErr)) = resOf (Dtd.cssLoop s ms ⟨dm, de, endp⟩)
  | [], endp, dm, de, _, _ => by simp [Ftl.cssLoop, Dtd.cssLoop, resOf]
  | (q, st) :: rest, endp, dm, de, hok, hnd => by
    have hst : PropGroupOk st := hok (q, st) (by simp)
    have hrest : ∀ p ∈ rest, PropGroupOk p.2 := fun p hp => hok p (by simp [hp])
    rw [step_agree s q st rest endp dm de hst hnd]
    conv => rhs; unfold Dtd.cssLoop
    cases hstep : Dtd.cssStep s ⟨dm, de, endp⟩ (q, st) with
    | none => simp [resOf]
    | some stt' =>
      simp only []
      have hnd' := Dtd.cssStep_nodup s _ stt' _ hstep hnd
      exact cssLoop_agree s rest stt'.end_ stt'.refMap stt'.errors hrest hnd'

theorem css_models_agree (v : Text) :
    Ftl.parseCssSpec v =
      ((Dtd.parseCssSpec v).1.map toFtlMap, (Dtd.parseCssSpec v).2.map (·.map toFtlErr)) := by
  unfold Ftl.parseCssSpec Dtd.parseCssSpec
  simp only []
  have := cssLoop_agree v.toArray (finditer v.toArray Gen.Pat.CSSCheckMixin__css_spec) 0 none none
    (finditer_propGroupOk v.toArray) (by simp [Dtd.mapNodup])
  simp only [Option.map_none] at this
  rw [this]
  cases Dtd.cssLoop v.toArray (finditer v.toArray Gen.Pat.CSSCheckMixin__css_spec) ⟨none, none, 0⟩ <;> rfl

theorem dset_ne_nil (d : List (Text × Text)) (k v : Text) : Dtd.dset d k v ≠ [] := by
  unfold Dtd.dset
  split
  · rename_i h
    intro hc
    have : d = [] := by simpa using hc
    subst this
    simp at h
  · simp

theorem foldDecls_ne_nil : ∀ (ds : List Decl) (mp : List (Text × Text)), mp ≠ [] → foldDecls mp ds ≠ []
  | [], mp, h => h
  | d :: ds, mp, _ => by
    simp only [foldDecls, List.foldl_cons]
    exact foldDecls_ne_nil ds _ (dset_ne_nil _ _ _)

theorem declMap_ne_nil {ds : List Decl} (h : ds ≠ []) : declMap ds ≠ [] := by
  cases ds with
  | nil => exact absurd rfl h
  | cons d ds =>
    simp only [declMap, List.foldl_cons]
    exact foldDecls_ne_nil ds _ (dset_ne_nil _ _ _)

theorem declsText_ne_nil {ds : List Decl} {t : Text} (h : DeclsText ds t) : ds ≠ [] := by
  cases h <;> simp

theorem cssSpec_ne_nil {ds : List Decl} {v : Text} (h : CssSpec ds v) : ds ≠ [] := by
  cases h with
  | mk lead t trail ds _ hdt _ => exact declsText_ne_nil hdt

end C08C
