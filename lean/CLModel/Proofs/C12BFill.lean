/- The classes without `{android_locale}` are parts of the class with it: expand -> match with repeated variables
   (`match_fillB`) is `C12AC.run_fillA` on an android-free pattern, `sub` between two such matchers (`sub_fillB`) follows, and
   the class without repeated variables (`C11R.Fillable`) is part of the one with them (`fillableB_of_fillable`). -/
import CLModel.Proofs.C12AClass
import CLModel.Proofs.C12RSep
namespace C12AC
open PM C11R C12B

theorem ofB_node (vs : Nat → Text) (env : Env) {n : Node} (h : ∀ r, n ≠ .android r) :
    pieceOfA vs env n = pieceOfB vs env n ∧ nameOfA n = nameOfB n ∧ valOfA vs env n = valOf vs env n := by
  cases n with
  | android r => exact absurd rfl (h r)
  | _ => exact ⟨rfl, rfl, rfl⟩

theorem inClassB_noAndroid {env : Env} {ns : List Node} {kn : List Text} (h : InClassB env kn ns) :
    ∀ n ∈ ns, ∀ r, n ≠ .android r := by
  rintro _ hn r rfl
  rcases (inClassB_iff.1 h).2 _ hn with ⟨_, h⟩ | h <;> cases h

theorem inClassA_of_B {env : Env} : ∀ {ns : List Node} {kn : List Text} {Kn : List (Nat × Text)}, InClassB env kn ns →
    KnOK env kn Kn → InClassA env Kn ns
  | [], _, _, _, _ => trivial
  | c :: cs, kn, Kn, h, hk => by
    cases c with
    | lit t => exact inClassA_of_B (ns := cs) h hk
    | star k => exact inClassA_of_B (ns := cs) h hk
    | starstar k sfx => exact ⟨h.1, inClassA_of_B (ns := cs) h.2 hk⟩
    | android r => exact absurd h id
    | var nm rep =>
      cases rep with
      | true => exact ⟨hk nm h.1, inClassA_of_B (ns := cs) h.2 hk⟩
      | false =>
        refine ⟨h.1, inClassA_of_B (ns := cs) h.2 ?_⟩
        intro name hn
        rcases List.mem_cons.mp hn with rfl | hn
        · exact List.mem_cons_self ..
        · exact List.mem_cons_of_mem _ (hk name hn)

end C12AC

namespace C12B
open PM C11R C12AC

/-- What `C12.expand_match_backref_partial` asks of a matcher `m`, wildcard values `vs`, the group names `names` of its
    regular expression and the root text `rt` (as `C11R.Fillable`, with repeated variables allowed). -/
structure FillableB (vs : Nat → Text) (m : Matcher) (names : List Text) (rt : Text) : Prop where
  /-- the environment has the shape `Matcher(...)` builds: parsed unrooted patterns, no variable twice in one value -/
  env : EnvOK m.env
  /-- top-level nodes: literal, `*`, `**/`, final `**`, a fully bound variable, and further occurrences of such a variable -/
  cls : InClassB m.env [] m.pattern.nodes
  /-- `re.compile` accepts the pattern (distinct group names, F12); `names` are its group names -/
  compiles : ∃ re, m.regexOf = .ok (re, names)
  /-- the pattern does not use `{android_locale}` -/
  noAndroidGroup : androidName ∉ names
  /-- the root decision succeeds (F11) and gives `rt` -/
  root : rootOf (expandVal (fuelFor m.env)) m.pattern m.env = .ok rt
  /-- the filling is well separated (a repeated variable counts as the literal text of its expansion) -/
  sep : WellSepB vs m.env m.pattern.nodes

theorem match_fillB {m : Matcher} {vs : Nat → Text} {names : List Text} {rt : Text} (h : FillableB vs m names rt) :
    ∃ g : Text → Option Text,
      m.match (rt ++ fillN vs m.env m.pattern.nodes) = .ok (some (names.map (fun nm => (nm, g nm)))) ∧
      ∀ n ∈ m.pattern.nodes, ∀ nm ∈ nameOfN n, nm ∈ names ∧ g nm = valOf vs m.env n := by
  obtain ⟨henv, hcls, ⟨re, hre⟩, hna, hroot, hsep⟩ := h
  have hno := inClassB_noAndroid hcls
  have hmap : m.pattern.nodes.map (pieceOfA vs m.env) = m.pattern.nodes.map (pieceOfB vs m.env) :=
    List.map_congr_left fun n hn => (ofB_node vs m.env (hno n hn)).1
  obtain ⟨st, hst, hg⟩ := run_fillA (vs := vs) henv (inClassA_of_B hcls (by intro nm h; cases h)) hre hroot
    (by unfold WellSepA; rw [hmap]; exact hsep)
  rw [fillA, hmap, fillB_eq] at hst hg
  refine ⟨fun nm => groupText (rt ++ fillN vs m.env m.pattern.nodes).toArray st (encName nm),
    match_of_matchAt hre hst hna, ?_⟩
  have hdef : ∀ n ∈ m.pattern.nodes, ∀ nm ∈ nameOfB n, nm ∈ names ∧
      groupText (rt ++ fillN vs m.env m.pattern.nodes).toArray st (encName nm) = valOf vs m.env n := by
    intro n hn nm hnm
    obtain ⟨_, h2, h3⟩ := ofB_node vs m.env (hno n hn)
    rw [← h3]; exact hg n hn nm (h2 ▸ hnm)
  intro n hn nm hnmem
  cases n with
  | var name rep =>
    cases rep with
    | false => exact hdef _ hn nm (by simpa [nameOfB] using hnmem)
    | true =>
      simp only [nameOfN, List.mem_singleton] at hnmem; subst hnmem
      rcases first_occ hcls hn with h | h
      · cases h
      · exact hdef _ h nm (by simp [nameOfB, nameOfN])
  | lit t => exact hdef _ hn nm (by simpa [nameOfB] using hnmem)
  | star k => exact hdef _ hn nm (by simpa [nameOfB] using hnmem)
  | starstar k sfx => exact hdef _ hn nm (by simpa [nameOfB] using hnmem)
  | android r => exact hdef _ hn nm (by simpa [nameOfB] using hnmem)

theorem sub_fillB {a b : Matcher} {vs : Nat → Text} {namesa namesb : List Text} {rta rtb : Text}
    (ha : FillableB vs a namesa rta) (hb : FillableB vs b namesb rtb) (heb : Expandable b)
    (hsame : ∀ k, k ∈ b.pattern.nodes.filterMap wildNum → k ∈ a.pattern.nodes.filterMap wildNum) :
    a.sub b (rta ++ fillN vs a.env a.pattern.nodes) = .ok (some (rtb ++ fillN vs b.env b.pattern.nodes)) := by
  obtain ⟨g, hmatch, hg⟩ := match_fillB ha
  have hcb := inClassB_expOK hb.cls
  have hkb := heb.keys
  have hwb := heb.noWildKey
  have hlk := fun k => subEnv_lookup_rev (d := namesa.map (fun nm => (nm, g nm))) (env := b.env) hkb k
  have hwild : ∀ n ∈ b.pattern.nodes, ∀ k, wildNum n = some k →
      StandsFor b.env (subEnv (namesa.map (fun nm => (nm, g nm))) b.env) n (pieceOf vs b.env n).text := by
    intro n hn k hk
    obtain ⟨n', hn', hk'⟩ := List.mem_filterMap.mp (hsame k (List.mem_filterMap.mpr ⟨n, hn, hk⟩))
    obtain ⟨hmem, hval⟩ := hg n' hn' (sname k) (by rw [nameOfN_wild hk']; simp)
    refine Or.inr (Or.inr ⟨sname k, keyOf_wild hk, hwb k, ?_⟩)
    rw [hlk (sname k), hwb k]
    simp only
    rw [← List.map_reverse, lookup_map_mem (fun nm => g nm) (sname k) namesa.reverse (by simpa using hmem)]
    simp only [Option.map_some, hval, capsVal_wildN hk', pieceText_wild hk]
  rw [PM.sub_of_match hmatch, expandTop_below hlk (goodEnv_of hb.env heb.noAndroid) hb.root (pc := fun n => (pieceOf vs b.env n).text), fillN_eq]
  · simp only [Except.map]
  intro n hn
  have hc := hcb n hn
  cases n with
  | lit t => exact Or.inl rfl
  | star k => exact hwild _ hn k rfl
  | starstar k sfx => exact hwild _ hn k rfl
  | var name rep =>
    obtain ⟨t, ht⟩ := hc
    exact Or.inr (Or.inl ⟨name, rep, rfl, by simp only [pieceOf, Piece.text, varText, ht]⟩)
  | android r => exact absurd hc (by simp [ExpOK])

theorem inClassB_of_N {env : Env} {ns : List Node} (kn : List Text) (h : ∀ n ∈ ns, InClassN env n) : InClassB env kn ns :=
  inClassB_iff.2 ⟨C11X.repN_of_noRep kn (fun n hn name e => nomatch (e ▸ h n hn).1), fun n hn => .inr (h n hn)⟩

theorem pieceOfB_of_N {vs : Nat → Text} {env : Env} : ∀ {ns : List Node}, (∀ n ∈ ns, InClassN env n) →
    ns.map (pieceOfB vs env) = ns.map (pieceOf vs env)
  | [], _ => rfl
  | c :: cs, h => by
    simp only [List.map_cons, pieceOfB_of_N (ns := cs) (fun n hn => h n (by simp [hn]))]
    congr 1
    cases c with
    | var name rep =>
      have hv : InClassN env (.var name rep) := h _ (by simp)
      obtain ⟨hrep, _⟩ := hv
      subst hrep
      rfl
    | _ => rfl

theorem fillableB_of_fillable {vs : Nat → Text} {m : Matcher} {names : List Text} {rt : Text}
    (h : Fillable vs m names rt) : FillableB vs m names rt :=
  ⟨h.env, inClassB_of_N [] h.cls, h.compiles, h.noAndroidGroup, h.root, by
    unfold WellSepB; rw [pieceOfB_of_N h.cls]; exact h.sep⟩

end C12B

namespace C11R
open PM

theorem sub_fillN {a b : Matcher} {vs : Nat → Text} {namesa namesb : List Text} {rta rtb : Text}
    (ha : Fillable vs a namesa rta) (hb : Fillable vs b namesb rtb) (heb : Expandable b)
    (hsame : ∀ k, k ∈ b.pattern.nodes.filterMap wildNum → k ∈ a.pattern.nodes.filterMap wildNum) :
    a.sub b (rta ++ fillN vs a.env a.pattern.nodes) = .ok (some (rtb ++ fillN vs b.env b.pattern.nodes)) :=
  C12B.sub_fillB (C12B.fillableB_of_fillable ha) (C12B.fillableB_of_fillable hb) heb hsame

end C11R
