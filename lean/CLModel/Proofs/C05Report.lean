/-
C05 pipeline: from the history of notifications to what `observers.toJSON()` shows.  `details_from_history` (any quiet level,
any filters) and `has_detail` (the one unfiltered observer `stdObs`) are stated for a history over files whose paths are not
prefixes of each other; `report_details_from_history` and `report_has_detail` are the case of one file.  Both go the same way: the
list's own observer is a single unfiltered observer run on the history without the events the project observers have it ignore
(`ObsM.own_as_observer`), and `ObsM.init_tojson` / `init_details` say what the tree of such an observer holds.
-/
import CLModel.Proofs.C05Pipe
import CLModel.Proofs.C10Obs
namespace Pipe
open ObsM (Ev ObsList Obs)
open TreeM

/-- no path of a file of the history is a proper prefix of another one -/
def PrefixFreeH (h : List Ev) : Prop :=
  ∀ e1 ∈ h, ∀ e2 ∈ h, ∀ p1 p2, ObsM.partsOf e1.file = .ok p1 → ObsM.partsOf e2.file = .ok p2 → p1 <+: p2 → p1 = p2

theorem history_prefix_free {h : List Ev} {file : ObsM.File} (hf : ∀ ev ∈ h, ev.file = file) : PrefixFreeH h := by
  intro e1 h1 e2 h2 p1 p2 hp1 hp2 _
  rw [hf e1 h1] at hp1
  rw [hf e2 h2] at hp2
  rw [hp1] at hp2
  cases hp2
  rfl

/-- Every item `toJSON()["details"]` shows was put there by one notification of the history, as `{category: data}`
    (file categories: `{category: filter result}`): any quiet level, any filters, several files. -/
theorem details_from_history (q : Nat) (flts : List (Option ObsM.Filter)) (h : List Ev) (obs' : ObsList)
    (hrun : (ObsList.init q (flts.map (Obs.init q))).run h = .ok obs') (hmod : ∀ ev ∈ h, ObsM.Modelled ev.file)
    (hpf : PrefixFreeH h) (m : Merge.Outcome) :
    ∀ leaf ∈ (reportOf obs' m).details, ∀ d ∈ leaf.2,
      ∃ cat f data rv, Ev.notify cat f data ∈ h ∧ d = ObsM.detailOf cat rv data := by
  intro leaf hleaf d hd
  obtain ⟨hown, _⟩ := ObsM.own_as_observer q _ h obs' hrun
  generalize hh' : h.filter (fun ev => !ObsM.ignList ((flts.map (Obs.init q)).map (·.filter)) ev) = h' at hown
  have hsub : ∀ ev ∈ h', ev ∈ h := by
    intro ev hev; rw [← hh'] at hev; exact (List.mem_filter.1 hev).1
  have hmod' : ∀ ev ∈ h', ObsM.Modelled ev.file := fun ev hev => hmod ev (hsub ev hev)
  have hjson := ObsM.init_tojson q none h' obs'.own hown hmod'
    (fun e1 h1 e2 h2 => hpf e1 (hsub e1 h1) e2 (hsub e2 h2))
  obtain ⟨o2, ho2, hinv2⟩ := ObsM.init_run_total q none h' hmod'
  rw [hown] at ho2
  cases ho2
  have hmem : (joinSlash leaf.1, leaf.2) ∈ (flatten obs'.own.details).map (fun pv => (joinSlash pv.1, pv.2)) := by
    rw [← hjson]
    exact List.mem_map.2 ⟨leaf, hleaf, rfl⟩
  obtain ⟨pv, hpv, hpeq⟩ := List.mem_map.1 hmem
  have hv : pv.2 = leaf.2 := by
    have := congrArg Prod.snd hpeq
    simpa using this
  have hfind := (mem_flatten_iff_find obs'.own.details hinv2 pv.1 pv.2).1 hpv
  rw [ObsM.init_details hown pv.1] at hfind
  split at hfind
  · cases hfind
  · simp only [Option.some.injEq] at hfind
    rw [← hv, ← hfind] at hd
    simp only [ObsM.detailsSpec, List.mem_filterMap] at hd
    obtain ⟨ev, hev, hde⟩ := hd
    cases ev with
    | stats f st => simp [ObsM.evDetail] at hde
    | notify cat f data =>
      simp only [ObsM.evDetail] at hde
      split at hde
      · simp only [Option.some.injEq] at hde
        exact ⟨cat, f, data, _, hsub _ hev, hde.symm⟩
      · cases hde

theorem report_details_from_history (q : Nat) (flts : List (Option ObsM.Filter)) (file : ObsM.File)
    (hm : ObsM.Modelled file) (h : List Ev) (obs' : ObsList)
    (hr : Reach (ObsList.init q (flts.map (Obs.init q))) file h obs') (m : Merge.Outcome) :
    ∀ leaf ∈ (reportOf obs' m).details, ∀ d ∈ leaf.2,
      ∃ cat f data rv, Ev.notify cat f data ∈ h ∧ d = ObsM.detailOf cat rv data :=
  details_from_history q flts h obs' hr.run (fun ev hev => (hr.files ev hev) ▸ hm) (history_prefix_free hr.files) m

theorem stdObs_eq : stdObs = ObsList.init 0 ([none].map (Obs.init 0)) := rfl

/-- With the one unfiltered observer nothing is ignored or hidden: every notification of an entity or message category raised
    for `file` is an item of the leaf of `toJSON()["details"]` whose path is the path of `file`. -/
theorem has_detail (h : List Ev) (obs' : ObsList) (hrun : stdObs.run h = .ok obs') (hmod : ∀ ev ∈ h, ObsM.Modelled ev.file)
    (hpf : PrefixFreeH h) (m : Merge.Outcome) (file : ObsM.File) (cat : ObsM.Cat) (data : ObsM.Data)
    (hev : Ev.notify cat file data ∈ h)
    (hcat : cat = .error ∨ cat = .warning ∨ cat = .missingEntity ∨ cat = .obsoleteEntity) :
    ∃ parts, ObsM.partsOf file = .ok parts ∧
      ∃ leaf ∈ (reportOf obs' m).details, joinSlash leaf.1 = joinSlash parts ∧ (cat, ObsM.DVal.data data) ∈ leaf.2 := by
  obtain ⟨hown, _⟩ := ObsM.own_as_observer 0 _ h obs' hrun
  have hfilt : h.filter (fun ev => !ObsM.ignList ((([none] : List (Option ObsM.Filter)).map (Obs.init 0)).map (·.filter)) ev) = h := by
    apply List.filter_eq_self.2
    intro ev _
    cases ev with
    | stats f st => simp [ObsM.ignList]
    | notify c f d => simp [ObsM.ignList, ObsM.Obs.init, ObsM.rvOf]
  have hfilt' : h.filter (fun ev => !ObsM.ignList (List.map (fun x => x.filter) [Obs.init 0 none]) ev) = h := hfilt
  rw [hfilt'] at hown
  have hjson := ObsM.init_tojson 0 none h obs'.own hown hmod hpf
  obtain ⟨o2, ho2, hinv2⟩ := ObsM.init_run_total 0 none h hmod
  rw [hown] at ho2
  cases ho2
  have hm : ObsM.Modelled file := hmod _ hev
  obtain ⟨parts, hparts, _, _⟩ := ObsM.partsOf_ok hm
  have hd : (cat, ObsM.DVal.data data) ∈ ObsM.detailsSpec 0 none h parts := by
    simp only [ObsM.detailsSpec, List.mem_filterMap]
    refine ⟨_, hev, ?_⟩
    have hshow : ObsM.shows 0 cat = true := by rcases hcat with rfl | rfl | rfl | rfl <;> rfl
    have hnf : cat.isFile = false := by rcases hcat with rfl | rfl | rfl | rfl <;> rfl
    simp [ObsM.evDetail, ObsM.rvOf, hshow, ObsM.hasParts, hparts, ObsM.detailOf, hnf]
  have hfind := ObsM.init_details hown parts
  have hne : (ObsM.detailsSpec 0 none h parts).isEmpty = false := by
    cases hds : ObsM.detailsSpec 0 none h parts with
    | nil => rw [hds] at hd; cases hd
    | cons _ _ => rfl
  rw [hne] at hfind
  simp only [Bool.false_eq_true, if_false] at hfind
  have hflat := (mem_flatten_iff_find obs'.own.details hinv2 parts _).2 hfind
  have hmem : (joinSlash parts, ObsM.detailsSpec 0 none h parts) ∈
      (toJSON obs'.own.details).leaves.map (fun kv => (joinSlash kv.1, kv.2)) := by
    rw [hjson]
    exact List.mem_map.2 ⟨_, hflat, rfl⟩
  obtain ⟨leaf, hleaf, hleq⟩ := List.mem_map.1 hmem
  refine ⟨parts, hparts, leaf, hleaf, ?_, ?_⟩
  · have := congrArg Prod.fst hleq
    simpa using this
  · have : leaf.2 = ObsM.detailsSpec 0 none h parts := by
      have := congrArg Prod.snd hleq
      simpa using this
    rw [this]
    exact hd

theorem report_has_detail (file : ObsM.File) (hm : ObsM.Modelled file) (h : List Ev) (obs' : ObsList)
    (hr : Reach stdObs file h obs') (m : Merge.Outcome) (cat : ObsM.Cat) (data : ObsM.Data)
    (hev : Ev.notify cat file data ∈ h)
    (hcat : cat = .error ∨ cat = .warning ∨ cat = .missingEntity ∨ cat = .obsoleteEntity) :
    ∃ leaf ∈ (reportOf obs' m).details, (cat, ObsM.DVal.data data) ∈ leaf.2 := by
  obtain ⟨_, _, leaf, hl, _, hd⟩ := has_detail h obs' hr.run (fun ev hev => (hr.files ev hev) ▸ hm)
    (history_prefix_free hr.files) m file cat data hev hcat
  exact ⟨leaf, hl, hd⟩

end Pipe
