/- A tiny project given as pattern TEXTS — two rules, one excluded config, four files — evaluated once (`tiny_evaluated`), and
   the hypotheses of the restated C13M theorems checked on it (`tiny_built`, `tiny_rooted`, `tiny_literalBound`,
   `tiny_subClass`): the non-vacuity examples of Props/C13.lean (namespace `C13M`) rest on these. -/
import CLModel.Proofs.C13MContracts
import CLModel.Proofs.C12RExample
namespace PFM
open PF PM

/-- equality test for matcher tables inside `tiny_evaluated` (`Matcher` derives no `DecidableEq`; pattern and environment are
    all its fields) -/
def sameMs : List Matcher → List Matcher → Bool
  | [], [] => true
  | a :: as, b :: bs => a.pattern == b.pattern && a.env == b.env && sameMs as bs
  | _, _ => false

theorem sameMs_eq : ∀ {l1 l2 : List Matcher}, sameMs l1 l2 = true → l1 = l2
  | [], [], _ => rfl
  | a :: as, b :: bs, h => by
    simp only [sameMs, Bool.and_eq_true, beq_iff_eq] at h
    obtain ⟨⟨h1, h2⟩, h3⟩ := h
    rw [sameMs_eq h3]
    cases a; cases b
    simp only at h1 h2
    subst h1; subst h2; rfl
  | [], _ :: _, h => by simp [sameMs] at h
  | _ :: _, [], h => by simp [sameMs] at h

theorem buildAll_is {specs : List MSpec} {ms : List Matcher}
    (h : (match buildAll specs with | .ok l => sameMs l ms | .error _ => false) = true) : buildAll specs = .ok ms := by
  split at h
  · rename_i l hl; rw [hl, sameMs_eq h]
  · cases h

/-- `a.match(q)` is a dictionary -/
def matchesB (a : Matcher) (q : Text) : Bool :=
  match a.match q with
  | .ok (some _) => true
  | _ => false

theorem matchesB_false {a : Matcher} {q : Text} {d : GroupDict} (h : matchesB a q = false)
    (hm : a.match q = .ok (some d)) : False := by
  simp [matchesB, hm] at h

/-- result of an operation on the constructed object, `none` if the constructor raised -/
def onOkM (r : Except MErr Obj) (f : Obj → α) : Option α :=
  match r with
  | .ok o => some (f o)
  | .error _ => none

def okOf : Except MErr α → Option α
  | .ok a => some a
  | .error _ => none

def de : Loc := T "de"

/-- matcher table as texts:
    0 `Matcher("{l}browser/**/*.ftl", {l: "{l10n_base}/{locale}/", l10n_base: "/l10n"}).with_env({locale: "de"})`,
    1 `Matcher("browser/locales/en-US/**/*.ftl")` (its reference),
    2 `Matcher("{l10n_base}/de/README", {l10n_base: "/l10n"})` (wildcard-free),
    3 `Matcher("/l10n/de/browser/x/*.ftl")` (rule of the excluded config) -/
def tinySpecs : List MSpec := [
  { pattern := T "{l}browser/**/*.ftl", env := [(T "l", T "{l10n_base}/{locale}/"), (T "l10n_base", T "/l10n")],
    root := none, withEnv := some [(localeName, T "de")] },
  { pattern := T "browser/locales/en-US/**/*.ftl", env := [], root := none, withEnv := none },
  { pattern := T "{l10n_base}/de/README", env := [(T "l10n_base", T "/l10n")], root := none, withEnv := none },
  { pattern := T "/l10n/de/browser/x/*.ftl", env := [], root := none, withEnv := none }]

def litMatcher : Matcher :=
  { pattern := { nodes := [.var (T "l10n_base") false, .lit (T "/de/README")], root := none, prefixLen := 2 },
    env := [(T "l10n_base", .pat { nodes := [.lit (T "/l10n")], root := none, prefixLen := 1 })] }

def exMatcher : Matcher :=
  { pattern := { nodes := [.lit (T "/l10n/de/browser/x/"), .star 1, .lit (T ".ftl")], root := none, prefixLen := 1 },
    env := [] }

def tinyMs : List Matcher := [C11R.wildMatcher, C11R.refMatcher, litMatcher, exMatcher]

/-- main config: rule A (`l10n` 0, `reference` 1, test 7), then rule B (`l10n` 2, no reference); it excludes a config
    with the rule `l10n` 3 -/
def tinyCfg : Config :=
  .mk 0 (some [de]) [
    { l10n := 0, reference := some 1, merge := 0, test := some [7], locales := none },
    { l10n := 2, reference := none, merge := 2, test := none, locales := none }] []
    [.mk 1 (some [de]) [{ l10n := 3, reference := none, merge := 3, test := none, locales := none }] [] []]

def fRef : Path := T "browser/locales/en-US/a/b/c.d.ftl"
def fL10n : Path := T "/l10n/de/browser/a/b/c.d.ftl"
def fLit : Path := T "/l10n/de/README"
def fExcl : Path := T "/l10n/de/browser/x/y.ftl"

def tinyFS : FS := { files := [fRef, fL10n, fLit, fExcl] }

/-- The tiny project evaluated in one go: the table built from the texts is `tinyMs`, all of it usable, and what
    `ProjectFilesM` enumerates and looks up on the four files, for the locale and in validation mode.  The four facts build
    the same matchers and compile the same regular expressions, so they are checked together. -/
theorem tiny_evaluated :
    (match buildAll tinySpecs with | .ok l => sameMs l tinyMs | .error _ => false) = true ∧
    tinyMs.all usable = true ∧
    decide (onOkM (newM tinySpecs (some de) [tinyCfg] false) (fun o =>
        (o.pf.matchers, okOf (o.iterM tinyFS), [fRef, fL10n, fLit, fExcl].map (fun p => okOf (o.matchM p)))) = some (
      [⟨2, none, none, []⟩, ⟨0, some 1, none, [7]⟩],
      some [{ path := fLit, reference := none, merge := none, test := [] },
            { path := fL10n, reference := some fRef, merge := none, test := [7] }],
      [some (some { path := fL10n, reference := some fRef, merge := none, test := [7] }),
       some (some { path := fL10n, reference := some fRef, merge := none, test := [7] }),
       some (some { path := fLit, reference := none, merge := none, test := [] }),
       some none])) = true ∧
    decide (onOkM (newM tinySpecs none [tinyCfg] false) (fun o => okOf (o.iterM tinyFS)) =
      some (some [{ path := fRef, reference := some fRef, merge := none, test := [7] }])) = true ∧
    matchesB C11R.refMatcher fL10n = false ∧ matchesB C11R.refMatcher fLit = false ∧
    matchesB C11R.refMatcher fExcl = false := by decide +kernel

theorem tiny_built : Built tinySpecs tinyMs :=
  ⟨buildAll_is tiny_evaluated.1, tiny_evaluated.2.1⟩

theorem tiny_ref_fill : [] ++ C11R.fillN C11R.wildVals C11R.refMatcher.env C11R.refMatcher.pattern.nodes = fRef :=
  C11R.ref_fill
theorem tiny_wild_fill : [] ++ C11R.fillN C11R.wildVals C11R.wildMatcher.env C11R.wildMatcher.pattern.nodes = fL10n :=
  C11R.wild_fill

theorem tiny_get0 : tinyMs[0]? = some C11R.wildMatcher := rfl
theorem tiny_get1 : tinyMs[1]? = some C11R.refMatcher := rfl
theorem tiny_get2 : tinyMs[2]? = some litMatcher := rfl
theorem tiny_get3 : tinyMs[3]? = some exMatcher := rfl

theorem tiny_cases {m : MId} {a : Matcher} (h : tinyMs[m]? = some a) :
    (m = 0 ∧ a = C11R.wildMatcher) ∨ (m = 1 ∧ a = C11R.refMatcher) ∨ (m = 2 ∧ a = litMatcher) ∨ (m = 3 ∧ a = exMatcher) := by
  match m, h with
  | 0, h => left; exact ⟨rfl, by simpa [tinyMs] using h.symm⟩
  | 1, h => right; left; exact ⟨rfl, by simpa [tinyMs] using h.symm⟩
  | 2, h => right; right; left; exact ⟨rfl, by simpa [tinyMs] using h.symm⟩
  | 3, h => right; right; right; exact ⟨rfl, by simpa [tinyMs] using h.symm⟩
  | n + 4, h => simp [tinyMs] at h

theorem tiny_rooted (m : MId) (hm : m < 4) : Rooted tinyMs m := by
  have h : ∀ m < 4, ((menv tinyMs).pfx m).contains 47 = true := by decide +kernel
  unfold Rooted
  simpa using h m hm

theorem tiny_literalBound (m : MId) : LiteralBound tinyMs m := by
  intro a ha hlen
  rcases tiny_cases ha with ⟨_, rfl⟩ | ⟨_, rfl⟩ | ⟨_, rfl⟩ | ⟨_, rfl⟩
  · simp [C11R.wildMatcher] at hlen
  · simp [C11R.refMatcher] at hlen
  · exact fullyBound_spec (by decide +kernel)
  · simp [exMatcher] at hlen

/-- rule A is in the pattern class for `sub` on the tiny tree: the only reference file its reference matcher matches is
    `fRef`, the pattern filled with `**/` = "a/b/", `*` = "c.d" (`C11R.refMatcher_ok`, `C11R.wildMatcher_ok`) -/
theorem tiny_subClass : SubClassOn tinyMs tinyFS { l10n := 0, reference := some 1, merge := none, test := [7] } := by
  intro rm a q d hrr ha hq hm
  simp only [Option.some.injEq] at hrr
  subst hrr
  have : a = C11R.refMatcher := by simpa [tinyMs] using ha.symm
  subst this
  simp only [tinyFS, List.mem_cons, List.not_mem_nil, or_false] at hq
  obtain ⟨⟨na, fa⟩, _⟩ := C11R.refMatcher_ok
  obtain ⟨⟨nb, fb⟩, eb⟩ := C11R.wildMatcher_ok
  obtain ⟨h1, h2, h3⟩ := tiny_evaluated.2.2.2.2
  rcases hq with h | h | h | h
  · exact ⟨C11R.wildMatcher, C11R.wildVals, na, nb, [], [], rfl, fa, fb, eb, fun k hk => (C11R.wild_same k).mpr hk,
      h.trans C11R.ref_fill.symm⟩
  · exact (matchesB_false h1 (h ▸ hm)).elim
  · exact (matchesB_false h2 (h ▸ hm)).elim
  · exact (matchesB_false h3 (h ▸ hm)).elim

end PFM
