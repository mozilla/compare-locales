/- the verdict of `checkPrintf` as ONE decision over the two specifier lists:
   `specsVerdict R L` (= the code after `l10nSpecs = self.getPrintfSpecs(l10nValue)`) is a function of the difflib
   opcodes (`specsVerdict_eq`: the messages `opMsgs` of every opcode joined into one error, the warning `opWarn` of a
   delete that ends at `len(refSpecs)`).  Read off it: error ⇔ some replace / insert / non-trailing delete, warning ⇔
   such a delete; and the closed forms: equal → nothing, `L` proper prefix of `R` → one warning, `R` proper prefix of
   `L` → one "obsolete" error, error ⇔ `L` is not a prefix of `R`. -/
import CLModel.Proofs.C06Printf
import CLModel.Proofs.C06Grammar
import CLModel.Proofs.C06Prefix
namespace PropCk
open Difflib

def hasWarning (fs : List Finding) : Prop := ∃ f ∈ fs, f.sev = Sev.warning

/-- the part of `checkPrintf` that follows the (successful) computation of `l10nSpecs` -/
def specsVerdict (R L : List Spec) : Option (List Finding) :=
  if R ≠ L then
    match Difflib.opcodes R L with
    | none => none
    | some ops =>
      match opcodeFold R L ops ([], none) with
      | none => none
      | some (msgs, warn) =>
        some ((if !msgs.isEmpty then [⟨.error, .val 0, join sCommaSp msgs, .printf⟩] else []) ++
              (match warn with
               | some w => [⟨.warning, .val 0, w, .printf⟩]
               | none => []))
  else some []

theorem checkPrintf_ok (R L : List Spec) (val : Text) (h : getPrintfSpecs val = .ok L) :
    checkPrintf R val = specsVerdict R L := by
  unfold checkPrintf specsVerdict
  rw [h]
  rfl

/-- the last lines of `checkPrintf`: one error when there are messages, then the warning if set -/
def verdictOf (msgs : List Text) (warn : Option Text) : List Finding :=
  (if !msgs.isEmpty then [(⟨.error, .val 0, join sCommaSp msgs, .printf⟩ : Finding)] else []) ++
    (match warn with
     | some w => [⟨.warning, .val 0, w, .printf⟩]
     | none => [])

/-- the severities `checkPrintf` reports, as a function of the opcodes -/
def sevsOf (R L : List Spec) (ops : List Opcode) : List Sev :=
  if R ≠ L then
    (if ops.any (isBad R) then [Sev.error] else []) ++ (if ops.any (isWarn R) then [Sev.warning] else [])
  else []

/-- never raises; should two deletes end at `len(refSpecs)` the last one's warning stands (the fold), as in the loop -/
theorem specsVerdict_eq (R L : List Spec) :
    ∃ ops, Difflib.opcodes R L = some ops ∧ ValidOpcodes R L ops ∧
      specsVerdict R L = some (if R ≠ L then
        verdictOf (ops.flatMap (opMsgs R L)) (ops.foldl (fun w op => (opWarn R op).or w) none) else []) := by
  obtain ⟨ops, ho, hv⟩ := opcodes_valid R L
  refine ⟨ops, ho, hv, ?_⟩
  unfold specsVerdict
  split
  · simp only [ho, opcodeFold_eq R L ops [] none (validFrom_opOK hv), List.nil_append, verdictOf]
  · rfl

/-- the findings `fs` of `specsVerdict R L` in terms of the opcodes: the reported severities are `sevsOf` (at most one error
    followed by at most one warning), everything at offset 0 in category `printf`; hence
    error ⇔ the lists differ and some opcode is a replace, an insert or a non-trailing delete;
    warning ⇔ the lists differ and some opcode is a delete ending at `len(refSpecs)`. -/
structure OpcodeVerdict (R L : List Spec) (ops : List Opcode) (fs : List Finding) : Prop where
  opcodes : Difflib.opcodes R L = some ops
  valid : ValidOpcodes R L ops
  eq : specsVerdict R L = some fs
  sevs : fs.map (·.sev) = sevsOf R L ops
  pos : ∀ f ∈ fs, f.pos = .val 0 ∧ f.cat = .printf
  error_iff : hasError fs ↔ R ≠ L ∧ ∃ op ∈ ops, isBad R op = true
  warning_iff : hasWarning fs ↔ R ≠ L ∧ ∃ op ∈ ops, isWarn R op = true

theorem specsVerdict_opcodes (R L : List Spec) : ∃ ops fs, OpcodeVerdict R L ops fs := by
  obtain ⟨ops, ho, hv, hs⟩ := specsVerdict_eq R L
  suffices h : _ ∧ _ ∧ _ ∧ _ from ⟨ops, _, ho, hv, hs, h.1, h.2.1, h.2.2.1, h.2.2.2⟩
  by_cases hne : R = L
  · simp [hne, sevsOf, hasError, hasWarning]
  · have hm' : ops.flatMap (opMsgs R L) ≠ [] ↔ ∃ op ∈ ops, isBad R op = true := by
      rw [ne_eq, List.flatMap_eq_nil_iff]
      constructor
      · intro h
        apply Classical.byContradiction
        intro hno
        exact h fun op hop => Classical.byContradiction fun hn =>
          hno ⟨op, hop, (opMsgs_ne_nil (validFrom_opOK hv op hop)).mp hn⟩
      · rintro ⟨op, hop, hb⟩ h
        exact (opMsgs_ne_nil (validFrom_opOK hv op hop)).mpr hb (h op hop)
    have hw' := foldl_opWarn_isSome R ops none
    simp only [Option.isSome_none, Bool.false_eq_true, false_or] at hw'
    generalize ops.flatMap (opMsgs R L) = msgs at hm' ⊢
    generalize ops.foldl (fun w op => (opWarn R op).or w) none = warn at hw' ⊢
    have hb : ops.any (isBad R) = !msgs.isEmpty := by
      rw [Bool.eq_iff_iff]
      simp only [List.any_eq_true, Bool.not_eq_true', List.isEmpty_eq_false_iff, ← hm']
    have hwb : ops.any (isWarn R) = warn.isSome := by
      rw [Bool.eq_iff_iff]
      simp only [List.any_eq_true, hw']
    simp only [ne_eq, hne, not_false_eq_true, if_true, true_and]
    refine ⟨?_, ?_, ?_, ?_⟩
    · simp only [sevsOf, ne_eq, hne, not_false_eq_true, if_true, hb, hwb]
      cases msgs <;> cases warn <;> simp [verdictOf]
    · intro f hf'
      cases msgs <;> cases warn <;> simp [verdictOf] at hf' <;> (try rcases hf' with rfl | rfl) <;>
        (try subst hf') <;> simp
    · rw [← hm']
      cases msgs <;> cases warn <;> simp [hasError, verdictOf]
    · rw [← hw']
      cases msgs <;> cases warn <;> simp [hasWarning, verdictOf]

theorem specsVerdict_equal (R : List Spec) : specsVerdict R R = some [] := by
  simp [specsVerdict]

/-- `L` is a proper prefix of `R` (only trailing arguments dropped): exactly one warning naming them -/
theorem specsVerdict_trailing (L t : List Spec) (ht : t ≠ []) :
    specsVerdict (L ++ t) L = some [⟨.warning, .val 0, trailingMsg (L ++ t) L.length, .printf⟩] := by
  have hne : L ++ t ≠ L := by
    intro he
    have := congrArg List.length he
    simp at this
    exact ht this
  obtain ⟨ops, ho, -, hs⟩ := specsVerdict_eq (L ++ t) L
  obtain rfl := Option.some.inj ((opcodes_prefix L t ht).symm.trans ho)
  rw [hs, if_pos hne]
  by_cases hL : L = [] <;> simp [hL, verdictOf, opMsgs, opWarn]

/-- the error text for arguments `n+1 … |L|` of the localization that the reference does not have -/
def obsoleteListMsg (L : List Spec) (n : Nat) : Text :=
  join sCommaSp ((List.range' n (L.length - n)).map (fun i =>
    sArgument ++ decimal (i + 1) ++ sSpBt ++ showSpec (L[i]?).join ++ sBtObsolete))

/-- `R` is a proper prefix of `L` (the localization has additional arguments): exactly one error that lists
    every additional argument as obsolete — in particular NOT silent -/
theorem specsVerdict_obsolete (R t : List Spec) (ht : t ≠ []) :
    specsVerdict R (R ++ t) = some [⟨.error, .val 0, obsoleteListMsg (R ++ t) R.length, .printf⟩] := by
  have hne : R ≠ R ++ t := by
    intro he
    have := congrArg List.length he
    simp at this
    exact ht this
  obtain ⟨ops, ho, -, hs⟩ := specsVerdict_eq R (R ++ t)
  obtain rfl := Option.some.inj ((opcodes_ext R t ht).symm.trans ho)
  obtain ⟨x, t', rfl⟩ := List.exists_cons_of_ne_nil ht
  rw [hs, if_pos hne]
  by_cases hR : R = [] <;> simp [hR, verdictOf, opMsgs, opWarn, obsoleteListMsg, List.range'_succ]

/-- **closed form of the error verdict**: an error is reported iff `L` is not a prefix of `R` -/
theorem specsVerdict_error_iff (R L : List Spec) :
    ∃ fs, specsVerdict R L = some fs ∧ (hasError fs ↔ ¬ L <+: R) := by
  by_cases hp : L <+: R
  · obtain ⟨t, rfl⟩ := hp
    by_cases ht : t = []
    · subst ht
      simp only [List.append_nil]
      refine ⟨[], specsVerdict_equal L, ?_⟩
      simp [hasError]
    · refine ⟨_, specsVerdict_trailing L t ht, ?_⟩
      simp [hasError]
  · obtain ⟨ops, fs, hf⟩ := specsVerdict_opcodes R L
    have hv := hf.valid
    refine ⟨fs, hf.eq, ?_⟩
    have hne : R ≠ L := by
      intro he; apply hp; rw [he]; exact List.prefix_refl _
    have hbad : ∃ op ∈ ops, isBad R op = true := by
      apply Classical.byContradiction
      intro hno
      apply hp
      apply noBad_prefix R L ops 0 hv
      · intro op hop
        cases hb : isBad R op
        · rfl
        · exact absurd ⟨op, hop, hb⟩ hno
      · omega
      · omega
      · simp
    constructor
    · intro _; exact hp
    · intro _; exact hf.error_iff.mpr ⟨hne, hbad⟩

theorem checkPrintf_nonprefix (R L : List Spec) (val : Text) (h : getPrintfSpecs val = .ok L) (hn : ¬ L <+: R) :
    ∃ msg rest, checkPrintf R val = some (⟨.error, .val 0, msg, .printf⟩ :: rest) := by
  obtain ⟨ops, fs, ⟨_, _, hs, hsev, hpos, hE, _⟩⟩ := specsVerdict_opcodes R L
  obtain ⟨fs', hs', hE'⟩ := specsVerdict_error_iff R L
  obtain rfl : fs = fs' := Option.some.inj (hs.symm.trans hs')
  obtain ⟨hne, hbad⟩ := hE.mp (hE'.mpr hn)
  have hany : ops.any (isBad R) = true := List.any_eq_true.mpr hbad
  simp only [sevsOf, ne_eq, hne, not_false_eq_true, if_true, hany, List.singleton_append] at hsev
  cases fs with
  | nil => cases hsev
  | cons f rest =>
    obtain ⟨sev, pos, msg, cat⟩ := f
    obtain ⟨rfl, rfl⟩ := hpos _ List.mem_cons_self
    obtain rfl : sev = .error := (List.cons.inj hsev).1
    exact ⟨msg, rest, (checkPrintf_ok R L val h).trans hs⟩

/-- `checkPrintf` does not raise; an error is reported iff the value is malformed or its specifier list is no prefix of `R` -/
theorem checkPrintf_error_iff (R : List Spec) (val : Text) :
    ∃ fs, checkPrintf R val = some fs ∧
      (hasError fs ↔ (∃ msg pos, getPrintfSpecs val = .error (.printf msg pos)) ∨
        (∃ L, getPrintfSpecs val = .ok L ∧ ¬ L <+: R)) := by
  cases h : getPrintfSpecs val with
  | error e =>
    cases e with
    | other => exact absurd h (getPrintfSpecs_not_other val)
    | printf msg pos =>
      refine ⟨_, checkPrintf_malformed R val msg pos h, ?_⟩
      constructor
      · intro _; left; exact ⟨msg, pos, rfl⟩
      · intro _; exact ⟨⟨.error, .val pos, msg, .printf⟩, by simp, rfl⟩
  | ok L =>
    obtain ⟨fs, hs, hE⟩ := specsVerdict_error_iff R L
    refine ⟨fs, (checkPrintf_ok R L val h).trans hs, hE.trans ⟨fun hp => Or.inr ⟨L, rfl, hp⟩, ?_⟩⟩
    rintro (⟨_, _, h'⟩ | ⟨L', h', hn⟩)
    · cases h'
    · cases h'; exact hn

end PropCk
