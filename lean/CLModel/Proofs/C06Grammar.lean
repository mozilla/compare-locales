/-
C06, exact characterisation of the lexer of `getPrintfSpecs`.

`Lex p v ts` is an INDEPENDENT inductive grammar of printf text: the value `v` (standing at offset `p`)
is a sequence of
  * characters other than `%`                                   (no token),
  * tokens `Tokn`: `%%`, or `%[n$][width][.prec]c` with `n = [1-9][0-9]*`, width `\*|[0-9]+`,
    precision `\.(\*|[0-9]+)?`, `c` one of `duxXosScpfg`,
  * a lone `%` — only where NO token starts (`¬ HasTok`).
No regular expression and no part of the model occurs in the grammar.  On every text `atoks v = some ts ↔ Lex 0 v ts`,
and the tokenisation exists and is unique.

The case of a `%` where no token starts: the `printf` regex is evaluated on every text (`C06R.printf_eval`), and at a
`%` it either matches the `%` alone, or `%%` or an argument of the grammar stands there (`C06R.printf_lone_or`).

Read off the grammar, for every value: `PropCk.atoks_total`, `atoks_wf`, `getPrintfSpecs_eq_spec` (the closed form of C06Specs
without its well-formedness hypothesis), `getPrintfSpecs_not_other`.
-/
import CLModel.Proofs.C06RLex
import CLModel.Proofs.C06SpecsCor
namespace C06G
open Rx PropCk
open C06R (IsDig IsSpec WShape PShape valOf)
open Txt (At at_cons at_append)

abbrev Text := List Nat

/-- the optional argument number `[1-9][0-9]*\$`; its value is the Horner value of the digits -/
inductive NumPart : Text → Option Nat → Prop
  | none : NumPart [] none
  | some (d : Nat) (ds : Text) : 49 ≤ d ∧ d ≤ 57 → (∀ x ∈ ds, IsDig x) →
      NumPart (d :: ds ++ [36]) (some (valOf (d :: ds) 0))

inductive Tokn : Text → ATok → Prop
  | pct : Tokn [37, 37] .pct
  | arg {N W P : Text} {c : Nat} {num : Option Nat} : NumPart N num → WShape W → PShape P → IsSpec c →
      Tokn (37 :: (N ++ (W ++ (P ++ [c])))) (.arg num [c])

def HasTok (v : Text) : Prop := ∃ w a r, Tokn w a ∧ v = w ++ r

inductive Lex : Nat → Text → List (Nat × ATok) → Prop
  | nil (p : Nat) : Lex p [] []
  | char {p c : Nat} {v : Text} {ts : List (Nat × ATok)} : c ≠ 37 → Lex (p + 1) v ts → Lex p (c :: v) ts
  | tok {p : Nat} {w : Text} {a : ATok} {v : Text} {ts : List (Nat × ATok)} :
      Tokn w a → Lex (p + w.length) v ts → Lex p (w ++ v) ((p, a) :: ts)
  | lone {p : Nat} {v : Text} {ts : List (Nat × ATok)} :
      ¬ HasTok (37 :: v) → Lex (p + 1) v ts → Lex p (37 :: v) ((p, .lone) :: ts)

theorem tokn_len {w : Text} {a : ATok} (h : Tokn w a) : w.length ≥ 2 := by
  cases h with
  | pct => simp
  | arg _ _ _ _ => simp; omega

theorem tokn_head {w : Text} {a : ATok} (h : Tokn w a) : ∃ w', w = 37 :: w' := by
  cases h with
  | pct => exact ⟨_, rfl⟩
  | arg _ _ _ _ => exact ⟨_, rfl⟩

theorem at_tail_prefix {s : Array Nat} (w : Text) (p : Nat) (v : Text) (h : s.toList.drop p = v) (hat : At s p w) : ∃ r, v = w ++ r :=
  ⟨_, h.symm.trans hat.drop_eq⟩

theorem printf_lone_exact {s : Array Nat} {q : Nat} (h0 : s[q]? = some 37)
    (hno : ∀ w a, Tokn w a → ¬ At s q w) :
    matchAt s Gen.Pat.PropertiesChecker_printf q = some ⟨q + 1, []⟩ := by
  rcases C06R.printf_lone_or h0 with h | h | ⟨N, W, P, c, hN, hW, hP, hc, hat⟩
  · exact h
  · exact absurd h (hno _ _ Tokn.pct)
  · rcases hN with rfl | ⟨d, ds, rfl, hd, hds⟩
    · exact absurd hat (hno _ _ (Tokn.arg .none hW hP hc))
    · exact absurd hat (hno _ _ (Tokn.arg (.some d ds hd hds) hW hP hc))

theorem intOf_num {d : Nat} {ds : Text} (hd : 49 ≤ d ∧ d ≤ 57) (hds : ∀ x ∈ ds, IsDig x) :
    intOf (d :: ds) = some (valOf (d :: ds) 0) ∧ valOf (d :: ds) 0 ≥ 1 := by
  refine ⟨C06R.intOf_val (by simp) fun c hc => ?_, Nat.le_trans (by omega) (C06R.le_valOf ds (0 * 10 + (d - 48)))⟩
  rcases List.mem_cons.mp hc with rfl | hc
  · unfold IsDig; omega
  · exact hds c hc

theorem tokn_match {s : Array Nat} {p : Nat} {w : Text} {a : ATok} (R : Text) (ht : Tokn w a)
    (h : s.toList.drop p = w ++ R) :
    ∃ st, matchAt s Gen.Pat.PropertiesChecker_printf p = some st ∧ st.pos = p + w.length ∧
      atokOf s (p, st) = some a := by
  have hat := Txt.at_of_drop h
  cases ht with
  | pct =>
    refine ⟨_, C06R.printf_pct hat, rfl, ?_⟩
    have h1 : s[p + 1]? = some 37 := (at_cons.mp (at_cons.mp hat).2).1
    have hsl : slice s (p + 1, p + 2) = [37] := slice_single h1
    simp [atokOf, groupText, St.group, Gen.Pat.PropertiesChecker_printf_g_good, capOf_cons, hsl]
  | @arg N W P c num hN hW hP hs =>
    obtain ⟨_, h37, _, _, _⟩ := C06R.spec_facts hs
    have hshape : C06R.NShape N := by
      cases hN with
      | none => exact .inl rfl
      | some d ds hd hds => exact .inr ⟨d, ds, rfl, hd, hds⟩
    refine ⟨_, C06R.printf_arg hshape hW hP hs hat, by simp; omega, ?_⟩
    have hbody : At s (p + 1) ((N ++ (W ++ P)) ++ [c]) := by
      simpa [List.append_assoc] using (at_cons.mp hat).2
    refine C06R.atokOf_arg hbody (by simp; omega) h37 num ?_
    -- the number group is what the number part put there
    rw [C06R.capOf_prec _ _ _ _ (by omega), C06R.capOf_width _ _ _ _ (by omega)]
    cases hN with
    | none => rfl
    | some d ds hd hds =>
      obtain ⟨hint, hn1⟩ := intOf_num hd hds
      have hdn : At s (p + 1) (d :: ds) := by
        have := (at_append.mp (at_append.mp hbody).1).1
        rw [List.cons_append] at this
        exact (at_append.mp (by simpa using this)).1
      have hsl : slice s (p + 1, p + 1 + ds.length + 1) = d :: ds := by
        have := C06R.slice_of_at hdn
        rw [show p + 1 + (d :: ds).length = p + 1 + ds.length + 1 by simp; omega] at this
        exact this
      exact ⟨p + 1, p + 1 + ds.length + 1, by simp [C06R.numCaps, capOf_cons]; omega, by rw [hsl]; exact hint, hn1⟩

theorem lex_walk {p : Nat} {v : Text} {ts : List (Nat × ATok)} (hl : Lex p v ts) :
    ∀ (s : Array Nat), s.toList.drop p = v → ∃ ms, Matches s Gen.Pat.PropertiesChecker_printf p ms ∧
      mapOpt (fun m => (atokOf s m).map (fun t => (m.1, t))) ms = some ts := by
  induction hl with
  | nil p =>
    intro s htl
    have hp : s.size ≤ p := by have := Txt.length_of_drop htl; rw [List.length_nil] at this; omega
    exact ⟨[], .nil fun q h1 h2 => C06R.printf_nomatch (by rw [Array.getElem?_eq_none (by omega)]; simp), rfl⟩
  | @char p c v ts hc _ ih =>
    intro s htl
    have h0 := Txt.head_of_drop htl
    have htl' := Txt.drop_succ_of_cons htl
    obtain ⟨ms, hms, hmap⟩ := ih s htl'
    exact ⟨ms, hms.step (C06R.printf_nomatch (by rw [h0]; simpa using hc)), hmap⟩
  | @tok p w a v ts ht _ ih =>
    intro s htl
    obtain ⟨st, hm, hpos, hatok⟩ := tokn_match v ht htl
    obtain ⟨ms, hms, hmap⟩ := ih s (Txt.drop_add_of_append htl)
    rw [← hpos] at hms
    obtain ⟨w', rfl⟩ := tokn_head ht
    refine ⟨_ :: ms, .cons (Nat.le_refl _) (Nat.le_of_lt (getElem?_some_lt (Txt.head_of_drop htl))) (fun q' h1 h2 => by omega) hm hms, ?_⟩
    simp only [mapOpt, hatok, Option.map_some, hmap]
  | @lone p v ts hno _ ih =>
    intro s htl
    have h0 := Txt.head_of_drop htl
    have htl' := Txt.drop_succ_of_cons htl
    have hm := printf_lone_exact h0 (fun w a hw hat => by
      obtain ⟨r, hr⟩ := at_tail_prefix w p (37 :: v) htl hat
      exact hno ⟨w, a, r, hw, hr⟩)
    obtain ⟨ms, hms, hmap⟩ := ih s htl'
    refine ⟨_ :: ms, .cons (Nat.le_refl _) (Nat.le_of_lt (getElem?_some_lt h0)) (fun q' h1 h2 => by omega) hm hms, ?_⟩
    have hatok : atokOf s (p, ⟨p + 1, []⟩) = some ATok.lone := by
      simp [atokOf, groupText, St.group, Gen.Pat.PropertiesChecker_printf_g_good, capOf]
    simp only [mapOpt, hatok, Option.map_some, hmap]

/-- every tokenisation by the grammar is what `finditer(printf)` finds -/
theorem atoks_of_lex {v : Text} {ts : List (Nat × ATok)} (h : Lex 0 v ts) : atoks v = some ts := by
  obtain ⟨ms, hms, hmap⟩ := lex_walk h v.toArray rfl
  unfold atoks
  simp only
  rw [(finditer_matches _ _ (by decide)).det hms]
  exact hmap

theorem lex_total (v : Text) (p : Nat) : ∃ ts, Lex p v ts := by
  have aux : ∀ (n : Nat) (v : Text), v.length ≤ n → ∀ p, ∃ ts, Lex p v ts := by
    intro n
    induction n with
    | zero =>
      intro v hv p
      have : v = [] := List.eq_nil_of_length_eq_zero (by omega)
      subst this
      exact ⟨[], Lex.nil p⟩
    | succ n ih =>
      intro v hv p
      cases v with
      | nil => exact ⟨[], Lex.nil p⟩
      | cons c v' =>
        by_cases hc : c = 37
        · subst hc
          by_cases ht : HasTok (37 :: v')
          · obtain ⟨w, a, r, hw, hr⟩ := ht
            have hlen := tokn_len hw
            have hrl : r.length ≤ n := by
              have := congrArg List.length hr
              simp only [List.length_cons, List.length_append] at this hv
              omega
            obtain ⟨ts, hts⟩ := ih r hrl (p + w.length)
            exact ⟨(p, a) :: ts, by rw [hr]; exact Lex.tok hw hts⟩
          · obtain ⟨ts, hts⟩ := ih v' (by simp only [List.length_cons] at hv; omega) (p + 1)
            exact ⟨(p, .lone) :: ts, Lex.lone ht hts⟩
        · obtain ⟨ts, hts⟩ := ih v' (by simp only [List.length_cons] at hv; omega) (p + 1)
          exact ⟨ts, Lex.char hc hts⟩
  exact aux v.length v (Nat.le_refl _) p

/-- what `finditer(printf)` finds is a tokenisation by the grammar -/
theorem lex_of_atoks {v : Text} {ts : List (Nat × ATok)} (h : atoks v = some ts) : Lex 0 v ts := by
  obtain ⟨ts', hts'⟩ := lex_total v 0
  have := atoks_of_lex hts'
  rw [h] at this
  cases this
  exact hts'

theorem lex_wf {p : Nat} {v : Text} {ts : List (Nat × ATok)} (h : Lex p v ts) : WFToks ts := by
  induction h with
  | nil => intro q num spec hm; cases hm
  | char _ _ ih => exact ih
  | tok ht _ ih =>
    intro q num spec hm
    rcases List.mem_cons.mp hm with he | hm
    · cases ht with
      | pct => cases he
      | arg hN _ _ _ =>
        cases he
        refine ⟨by simp, fun n hn => ?_⟩
        cases hN with
        | none => cases hn
        | some d ds hd hds => cases hn; exact (intOf_num hd hds).2
    · exact ih q num spec hm
  | lone _ _ ih =>
    intro q num spec hm
    rcases List.mem_cons.mp hm with he | hm
    · cases he
    · exact ih q num spec hm

theorem lex_unique {v : Text} {ts ts' : List (Nat × ATok)} (h : Lex 0 v ts) (h' : Lex 0 v ts') : ts = ts' := by
  have h1 := atoks_of_lex h
  have h2 := atoks_of_lex h'
  rw [h1] at h2
  cases h2
  rfl

theorem lex_pos {p : Nat} {v : Text} {ts : List (Nat × ATok)} (h : Lex p v ts) :
    ∀ x ∈ ts, ∃ t, x.1 = p + t ∧ v[t]? = some 37 := by
  induction h with
  | nil => intro x hx; simp at hx
  | @char p c v ts _ _ ih =>
    intro x hx
    obtain ⟨t, h1, h3⟩ := ih x hx
    exact ⟨t + 1, by omega, h3⟩
  | @tok p w a v ts ht _ ih =>
    intro x hx
    obtain ⟨w', rfl⟩ := tokn_head ht
    rcases List.mem_cons.mp hx with rfl | hx
    · exact ⟨0, rfl, rfl⟩
    · obtain ⟨t, h1, h3⟩ := ih x hx
      refine ⟨(37 :: w').length + t, by omega, ?_⟩
      rw [List.getElem?_append_right (Nat.le_add_right _ _), Nat.add_sub_cancel_left]
      exact h3
  | @lone p v ts _ _ ih =>
    intro x hx
    rcases List.mem_cons.mp hx with rfl | hx
    · exact ⟨0, rfl, rfl⟩
    · obtain ⟨t, h1, h3⟩ := ih x hx
      exact ⟨t + 1, by omega, h3⟩

section rendered
open C06R (WfTok Separated LoneOk render_cons)

theorem lex_text {t v : Text} {ts : List (Nat × ATok)} (ht : 37 ∉ t) :
    ∀ {p : Nat}, Lex (p + t.length) v ts → Lex p (t ++ v) ts := by
  induction t with
  | nil => intro p h; simpa using h
  | cons c t ih =>
    intro p h
    refine .char (fun hc => ht (by simp [hc])) (ih (fun hm => ht (List.mem_cons_of_mem _ hm)) ?_)
    rw [show p + 1 + t.length = p + (c :: t).length by simp; omega]
    exact h

theorem tokn_second {w : Text} {a : ATok} (h : Tokn w a) :
    ∃ x w', w = 37 :: x :: w' ∧ (x = 37 ∨ IsDig x ∨ x = 42 ∨ x = 46 ∨ IsSpec x) := by
  cases h with
  | pct => exact ⟨37, [], rfl, .inl rfl⟩
  | @arg N W P c num hN hW hP hc =>
    cases hN with
    | some d ds hd _ => exact ⟨d, _, rfl, .inr (.inl ⟨by omega, hd.2⟩)⟩
    | none =>
      rcases hW with rfl | rfl | ⟨hne, hdig⟩
      · rcases hP with rfl | rfl | rfl | ⟨ds, _, _, rfl⟩
        · exact ⟨c, [], rfl, .inr (.inr (.inr (.inr hc)))⟩
        · exact ⟨46, _, rfl, .inr (.inr (.inr (.inl rfl)))⟩
        · exact ⟨46, _, rfl, .inr (.inr (.inr (.inl rfl)))⟩
        · exact ⟨46, _, rfl, .inr (.inr (.inr (.inl rfl)))⟩
      · exact ⟨42, _, rfl, .inr (.inr (.inl rfl))⟩
      · obtain ⟨d, W', rfl⟩ := List.exists_cons_of_ne_nil hne
        exact ⟨d, _, rfl, .inr (.inl (hdig d (by simp)))⟩

theorem noTok_of_loneOk {v : Text} (h : LoneOk v) : ¬ HasTok (37 :: v) := by
  rintro ⟨w, a, r, hw, hv⟩
  obtain ⟨x, w', rfl, hx⟩ := tokn_second hw
  simp only [List.cons_append, List.cons.injEq, true_and] at hv
  obtain ⟨h1, h2, h3, h4, h5⟩ := h x (by rw [hv]; rfl)
  rcases hx with hx | hx | hx | hx | hx
  · exact h1 hx
  · exact h2 hx
  · exact h3 hx
  · exact h4 hx
  · exact h5 hx

theorem Lex.tok_of_length {p n : Nat} {w : Text} {a : ATok} {v : Text} {ts : List (Nat × ATok)} (hw : Tokn w a)
    (hn : n = w.length) (h : Lex (p + n) v ts) : Lex p (w ++ v) ((p, a) :: ts) := by
  subst hn; exact .tok hw h

theorem lex_render : ∀ (ts : List RTok) (p : Nat), (∀ t ∈ ts, WfTok t) → Separated ts →
    Lex p (render ts) (expectedFrom p ts)
  | [], p, _, _ => .nil p
  | tok :: rest, p, hwf, hsep => by
    have hwfr : ∀ t ∈ rest, WfTok t := fun t ht => hwf t (by simp [ht])
    rw [render_cons]
    cases tok with
    | text t => exact lex_text (hwf (.text t) (by simp)) (lex_render rest _ hwfr hsep)
    | pct => exact .tok .pct (lex_render rest _ hwfr hsep)
    | lone => exact .lone (noTok_of_loneOk hsep.1) (lex_render rest _ hwfr hsep.2)
    | arg num fmt c =>
      obtain ⟨hnum, ⟨W, P, rfl, hW, hP⟩, hs⟩ := hwf (.arg num fmt c) (by simp)
      -- the number part written by `"%d" % n` is a `NumPart` with value `n`
      have key : ∃ N, NumPart N num ∧ renderTok (.arg num (W ++ P) c) = 37 :: (N ++ (W ++ (P ++ [c]))) := by
        cases num with
        | none => exact ⟨[], .none, by simp [renderTok]⟩
        | some n =>
          obtain ⟨d, ds, hdec, hd, hds, hint⟩ := C06R.decimal_pos (hnum n rfl)
          rw [hdec] at hint
          obtain rfl : n = valOf (d :: ds) 0 := Option.some.inj (hint.symm.trans (intOf_num hd hds).1)
          exact ⟨d :: ds ++ [36], .some d ds hd hds, by simp [renderTok, hdec]⟩
      obtain ⟨N, hN, hr⟩ := key
      rw [hr]
      exact Lex.tok_of_length (.arg hN hW hP hs) (by rw [hr]) (lex_render rest _ hwfr hsep)

end rendered

end C06G

namespace PropCk
open C06G

theorem atoks_wf (val : Text) (ts : List (Nat × ATok)) (h : atoks val = some ts) : WFToks ts :=
  lex_wf (lex_of_atoks h)

theorem getPrintfSpecs_eq_spec (val : Text) (ts : List (Nat × ATok)) (h : atoks val = some ts) :
    getPrintfSpecs val = specsSpec ts :=
  getPrintfSpecs_eq_spec_of_wf val ts h (atoks_wf val ts h)

theorem atoks_total (val : Text) : ∃ ts, atoks val = some ts :=
  (lex_total val 0).imp fun _ => atoks_of_lex

/-- `getPrintfSpecs` raises nothing but `PrintfException` -/
theorem getPrintfSpecs_not_other (val : Text) : getPrintfSpecs val ≠ .error .other := by
  obtain ⟨ts, hts⟩ := atoks_total val
  rw [getPrintfSpecs_eq_spec val ts hts]
  intro h
  rcases specsSpec_error h with ⟨_, _, -, h | h⟩ | h <;> cases h

end PropCk

namespace C06R
open PropCk

theorem atoks_render (ts : List RTok) (h : WfRender ts) : atoks (render ts) = some (expectedFrom 0 ts) :=
  C06G.atoks_of_lex (C06G.lex_render ts 0 h.1 h.2)

end C06R
