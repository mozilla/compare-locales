/-
the unescape model of the checker (`PropCk.unescape`, = `PropertiesEntityMixin.val` as the
checker reads it) IS the C02 model `P.propsVal`, hence total and equal to the documented specification
`P.propsUnescapeSpec` on every raw text (C05 quotes it under the names `Pipe.unescape_eq_propsVal`,
`Pipe.unescape_total` of Proofs/C05Props).
-/
import CLModel.Checks.Properties
import CLModel.Parser.Values
import CLModel.Proofs.Captures
import CLModel.Proofs.C02Props
import CLModel.Proofs.RxSearch
import CLModel.Proofs.Dict
namespace C06U
open Rx

theorem hexVal_eq (c : Nat) : PropCk.hexVal c = P.hexDigitVal c := by
  unfold PropCk.hexVal P.hexDigitVal
  by_cases h1 : 48 ≤ c ∧ c ≤ 57
  · simp [h1]
  · by_cases h2 : 97 ≤ c ∧ c ≤ 102
    · simp [h1, h2]
    · by_cases h3 : 65 ≤ c ∧ c ≤ 70
      · simp [h1, h2, h3]
      · simp [h1, h2, h3]

theorem hexFold_bind (f : Option Nat → Nat → Option Nat)
    (hf : ∀ acc c, f acc c = acc.bind (fun n => (P.hexDigitVal c).map (fun d => n * 16 + d))) (t : List Nat) :
    ∀ (acc : Option Nat), t.foldl f acc
      = acc.bind (fun a => t.foldlM (fun acc c => (P.hexDigitVal c).map (fun d => acc * 16 + d)) a) := by
  induction t with
  | nil => intro acc; cases acc <;> rfl
  | cons c cs ih =>
    intro acc
    simp only [List.foldl_cons, List.foldlM_cons]
    rw [ih, hf]
    cases acc with
    | none => rfl
    | some a =>
      cases P.hexDigitVal c <;> rfl

theorem hexOf_eq (t : List Nat) : PropCk.hexOf t = P.intBase16 t := by
  unfold PropCk.hexOf P.intBase16
  split
  · rfl
  · rw [hexFold_bind]
    · rfl
    · intro acc c
      rw [hexVal_eq]
      cases acc <;> cases P.hexDigitVal c <;> rfl

theorem known_eq (c : Nat) : (match Gen.Tables.knownEscapes.lookup c with
         | some r => some [r]
         | none => some [c]) = some (P.knownEscape [c]) := by
  unfold P.knownEscape
  simp only
  rw [AR.lookup_eq_dget, AR.dget]
  cases Gen.Tables.knownEscapes.find? (·.1 == c) with
  | none => rfl
  | some p => rfl

theorem extract_cons (s : Array Nat) (a b : Nat) (h1 : a < b) (h2 : b ≤ s.size) :
    ∃ c, (s.extract a b).toList = c :: (s.extract (a + 1) b).toList := by
  have ha : a < s.toList.length := by simp; omega
  refine ⟨s.toList[a], ?_⟩
  rw [Array.toList_extract, Array.toList_extract]
  simp only [List.extract_eq_take_drop]
  have : b - a = (b - (a + 1)) + 1 := by omega
  rw [this, List.drop_eq_getElem_cons ha, List.take_succ_cons]

theorem extract_nil (s : Array Nat) (a : Nat) : (s.extract a a).toList = [] := by
  rw [Array.toList_extract]; simp [List.extract_eq_take_drop]

open Gen.Pat in
theorem unescapeOne_eq (s : Array Nat) (q : Nat) (st : St)
    (hu : ∀ a b, st.group PropertiesEntityMixin_escape_g_uni = some (a, b) → a ≤ b ∧ b ≤ s.size)
    (hn : ∀ a b, st.group PropertiesEntityMixin_escape_g_nl = some (a, b) → a ≤ b ∧ b ≤ s.size) :
    PropCk.unescapeOne s st = P.propsUnescapeCb s q st := by
  -- the Python tests `if found["uni"]`, so an empty capture counts as an absent one; `hu`, `hn` bound the groups so that the
  -- slice is empty exactly when `a = b`
  unfold PropCk.unescapeOne P.propsUnescapeCb PropCk.groupText
  simp only
  -- the `single` stage, whatever came before
  have single : ∀ (o : Option (Nat × Nat)), st.group PropertiesEntityMixin_escape_g_single = o →
      (match Option.map (PropCk.slice s) o with
        | some [c] => (match Gen.Tables.knownEscapes.lookup c with
                        | some r => some [r]
                        | none => some [c])
        | some t => some t
        | none => none) =
      (match o with
        | some (a, b) => some (P.knownEscape (P.slice s a b))
        | none => none) := by
    intro o _
    cases o with
    | none => rfl
    | some ab =>
      obtain ⟨a, b⟩ := ab
      simp only [Option.map_some, PropCk.slice, P.slice]
      cases hsl : (s.extract a b).toList with
      | nil => rfl
      | cons c t =>
        cases t with
        | nil => exact known_eq c
        | cons d t' => rfl
  have hsg := single _ rfl
  cases hs1 : st.group PropertiesEntityMixin_escape_g_uni with
  | some ab =>
    obtain ⟨a, b⟩ := ab
    obtain ⟨h1, h2⟩ := hu a b hs1
    by_cases hab : a = b
    · subst hab
      simp only [Option.map_some, PropCk.slice, extract_nil, bne_self_eq_false, Bool.false_eq_true, if_false]
      cases hs2 : st.group PropertiesEntityMixin_escape_g_nl with
      | some cd =>
        obtain ⟨c, d⟩ := cd
        obtain ⟨h3, h4⟩ := hn c d hs2
        by_cases hcd : c = d
        · subst hcd
          simp only [Option.map_some, PropCk.slice, extract_nil, bne_self_eq_false, Bool.false_eq_true, if_false]
          exact hsg
        · obtain ⟨x, hx⟩ := extract_cons s c d (by omega) h4
          have hne : (c != d) = true := by simpa using hcd
          simp only [Option.map_some, PropCk.slice, hx, hne, if_true]
      | none =>
        simp only [Option.map_none]
        exact hsg
    · obtain ⟨x, hx⟩ := extract_cons s a b (by omega) h2
      have hne : (a != b) = true := by simpa using hab
      simp only [Option.map_some, PropCk.slice, hx, hne, if_true, hexOf_eq, P.slice]
  | none =>
    simp only [Option.map_none]
    cases hs2 : st.group PropertiesEntityMixin_escape_g_nl with
    | some cd =>
      obtain ⟨c, d⟩ := cd
      obtain ⟨h3, h4⟩ := hn c d hs2
      by_cases hcd : c = d
      · subst hcd
        simp only [Option.map_some, PropCk.slice, extract_nil, bne_self_eq_false, Bool.false_eq_true, if_false]
        exact hsg
      · obtain ⟨x, hx⟩ := extract_cons s c d (by omega) h4
        have hne : (c != d) = true := by simpa using hcd
        simp only [Option.map_some, PropCk.slice, hx, hne, if_true]
    | none =>
      simp only [Option.map_none]
      exact hsg

theorem group_bounds {s : Array Nat} {r : Re} {p : Nat} {st : St} (g : Nat) {a b : Nat}
    (h : matchAt s r p = some st ∨ matchAtNE s r p = some st) (hp : p ≤ s.size)
    (hn : noLook r = true) (hg : st.group g = some (a, b)) : a ≤ b ∧ b ≤ s.size := by
  -- one run of the engine gives both the span and the place of the captures
  have hrun : Run s r ⟨p, []⟩ st := by
    rcases h with h | h <;> obtain ⟨st', h1, h3⟩ := m_run h
    · cases h3; exact h1
    · split at h3 <;> cases h3; exact h1
  obtain ⟨_, new, e1, c1, _⟩ := hrun.ext g 0 hn (grpMin_zero g r)
  rw [List.append_nil] at e1
  rw [St.group, e1] at hg
  have := c1 _ (capOf_mem hg)
  have hsz := hrun.span.2 hp
  simp only at this
  omega

theorem go_eq (s : Array Nat) : ∀ (ms : List (Nat × St)) (last : Nat),
    (∀ p ∈ ms, PropCk.unescapeOne s p.2 = P.propsUnescapeCb s p.1 p.2) →
    PropCk.unescape.go s ms last = P.subGo s (P.propsUnescapeCb s) ms last := by
  intro ms
  induction ms with
  | nil => intro last _; rfl
  | cons p ps ih =>
    intro last h
    obtain ⟨q, st⟩ := p
    simp only [PropCk.unescape.go, P.subGo]
    rw [h (q, st) (by simp), ih st.pos (fun p hp => h p (by simp [hp]))]
    rfl

theorem unescape_eq_propsVal (raw : List Nat) : PropCk.unescape raw = P.propsVal raw := by
  unfold PropCk.unescape P.propsVal P.subWithOpt
  simp only
  apply go_eq
  intro p hp
  obtain ⟨hle, hm⟩ := finditer_sound _ _ p hp
  apply unescapeOne_eq
  · intro a b hg
    exact group_bounds _ hm hle (by decide) hg
  · intro a b hg
    exact group_bounds _ hm hle (by decide) hg

/-- **the value the checker reads is the documented unescaping of the raw value** — for every raw text -/
theorem unescape_eq_spec (raw : List Nat) : PropCk.unescape raw = some (P.propsUnescapeSpec raw) :=
  (unescape_eq_propsVal raw).trans (P.propsVal_eq_spec raw)

theorem spec_length_le (l : List Nat) : (P.propsUnescapeSpec l).length ≤ l.length := by
  have aux : ∀ (n : Nat) (l : List Nat), l.length ≤ n → (P.propsUnescapeSpec l).length ≤ l.length := by
    intro n
    induction n with
    | zero =>
      intro l hl
      have : l = [] := List.eq_nil_of_length_eq_zero (by omega)
      subst this
      simp [P.spec_nil]
    | succ n ih =>
      intro l hl
      cases l with
      | nil => simp [P.spec_nil]
      | cons c rest =>
        simp only [List.length_cons] at hl
        by_cases hc : c = 92
        · subst hc
          cases rest with
          | nil => simp [P.spec_lone]
          | cons d rest' =>
            simp only [List.length_cons] at hl
            rw [P.spec_esc]
            split
            · split
              · have := ih rest' (by omega)
                simp only [List.length_cons]; omega
              · have := ih (rest'.drop (P.takeHex 4 rest').length) (by simp; omega)
                simp only [List.length_cons, List.length_drop] at this ⊢; omega
            · split
              · have := ih (P.dropBlank rest') (by have := P.dropBlank_length rest'; omega)
                have := P.dropBlank_length rest'
                simp only [List.length_cons]; omega
              · have := ih rest' (by omega)
                simp only [List.length_cons]; omega
        · rw [P.spec_cons_ne c rest hc]
          have := ih rest (by omega)
          simp only [List.length_cons]; omega
  exact aux l.length l (Nat.le_refl _)

theorem unescape_length_le (raw v : List Nat) (h : PropCk.unescape raw = some v) : v.length ≤ raw.length := by
  rw [unescape_eq_spec] at h
  cases h
  exact spec_length_le raw

end C06U
