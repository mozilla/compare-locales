/- Laws of the pure mozpath helpers (model: Paths/MozPath.lean): split/join round trips, associativity of join,
   dirname/basename/splitext decompositions, commonprefix = longest common prefix (through min and max),
   basedir = the deepest containing base. -/
import CLModel.Paths.MozPath
import CLModel.Proofs.Sorting
namespace C12MP
open MP

theorem split_ne_nil : ∀ p : Text, split p ≠ []
  | [] => by simp [split]
  | c :: cs => by
    simp only [split]
    split
    · simp
    · split <;> simp

theorem split_single : ∀ {p : Text}, 47 ∉ p → split p = [p]
  | [], _ => rfl
  | c :: cs, h => by
    have hc : c ≠ 47 := fun e => h (by simp [e])
    have := split_single (p := cs) (fun e => h (by simp [e]))
    simp [split, hc, this]

theorem split_append_slash : ∀ (a b : Text), 47 ∉ a → split (a ++ 47 :: b) = a :: split b
  | [], b, _ => by simp [split]
  | c :: cs, b, h => by
    have hc : c ≠ 47 := fun e => h (by simp [e])
    have ih := split_append_slash cs b (fun e => h (by simp [e]))
    simp [split, hc, ih]

theorem split_joinSlash : ∀ (cs : List Text), cs ≠ [] → (∀ c ∈ cs, 47 ∉ c) → split (joinSlash cs) = cs
  | [], h, _ => absurd rfl h
  | [a], _, h => by simpa [joinSlash] using split_single (h a (by simp))
  | a :: b :: r, _, h => by
    have ih := split_joinSlash (b :: r) (by simp) (fun c hc => h c (by simp [hc]))
    show split (a ++ 47 :: joinSlash (b :: r)) = _
    rw [split_append_slash a _ (h a (by simp)), ih]

theorem split_append : ∀ (a b : Text), split (a ++ 47 :: b) = split a ++ split b
  | [], b => by simp [split]
  | c :: cs, b => by
    have ih := split_append cs b
    by_cases hc : c = 47
    · subst hc; simp [split, ih]
    · simp only [List.cons_append, split, hc, if_false, ih]
      cases hs : split cs with
      | nil => exact absurd hs (split_ne_nil cs)
      | cons x t => simp

theorem split_no_slash : ∀ (p : Text), ∀ c ∈ split p, 47 ∉ c
  | [], c, h => by simp [split] at h; subst h; simp
  | x :: xs, c, h => by
    have ih := split_no_slash xs
    simp only [split] at h
    by_cases hx : x = 47
    · subst hx
      simp only [if_true, List.mem_cons] at h
      rcases h with rfl | h
      · simp
      · exact ih c h
    · simp only [hx, if_false] at h
      cases hs : split xs with
      | nil => exact absurd hs (split_ne_nil xs)
      | cons y t =>
        rw [hs] at h ih
        simp only [List.mem_cons] at h
        rcases h with rfl | h
        · have := ih y (by simp)
          simp [hx, this]
          exact fun e => hx e.symm
        · exact ih c (by simp [h])

theorem joinSlash_cons_cons (a b : Text) (r : List Text) : joinSlash (a :: b :: r) = a ++ 47 :: joinSlash (b :: r) := rfl

theorem joinSlash_split : ∀ p : Text, joinSlash (split p) = p
  | [] => rfl
  | c :: cs => by
    have ih := joinSlash_split cs
    simp only [split]
    by_cases h : c = 47
    · subst h
      simp only [if_true]
      cases hs : split cs with
      | nil => exact absurd hs (split_ne_nil cs)
      | cons h t => rw [joinSlash_cons_cons, ← hs, ih]; rfl
    · simp only [h, if_false]
      cases hs : split cs with
      | nil => exact absurd hs (split_ne_nil cs)
      | cons x t =>
        rw [hs] at ih
        cases t with
        | nil => simp only [joinSlash] at ih ⊢; rw [ih]
        | cons y t' =>
          rw [joinSlash_cons_cons] at ih ⊢
          rw [← ih]; rfl

def sep (a : Text) : Text := if a.isEmpty || endsSlash a then [] else [47]

theorem join2_abs {a b : Text} (h : startsSlash b = true) : join2 a b = b := by simp [join2, h]

theorem join2_rel {a b : Text} (h : startsSlash b = false) : join2 a b = a ++ sep a ++ b := by
  simp only [join2, h, Bool.false_eq_true, if_false, sep]
  split <;> simp

theorem startsSlash_append {a b : Text} (h : a ≠ []) : startsSlash (a ++ b) = startsSlash a := by
  cases a with
  | nil => exact absurd rfl h
  | cons x xs => rfl

theorem endsSlash_append {a b : Text} (h : b ≠ []) : endsSlash (a ++ b) = endsSlash b := by
  unfold endsSlash
  rw [List.getLast?_append, List.getLast?_eq_some_getLast h]
  rfl

theorem sep_append {a b : Text} (h : b ≠ []) : sep (a ++ b) = sep b := by
  have h1 : (a ++ b).isEmpty = false := by cases a <;> cases b <;> simp_all
  have h2 : b.isEmpty = false := by cases b <;> simp_all
  simp [sep, h1, h2, endsSlash_append h]

theorem sep_self (a : Text) : sep (a ++ sep a) = [] := by
  by_cases h : (a.isEmpty || endsSlash a) = true
  · have : sep a = [] := by simp only [sep, h, if_true]
    rw [this, List.append_nil]; exact this
  · have hs : sep a = [47] := by simp only [sep, h]; rfl
    rw [hs]
    have : endsSlash (a ++ [47]) = true := by rw [endsSlash_append (by simp)]; rfl
    simp [sep, this]

theorem join2_assoc (a b c : Text) : join2 (join2 a b) c = join2 a (join2 b c) := by
  cases hc : startsSlash c with
  | true => rw [join2_abs hc, join2_abs hc, join2_abs hc]
  | false =>
    cases hb : startsSlash b with
    | true =>
      have hbne : b ≠ [] := by intro e; subst e; simp [startsSlash] at hb
      rw [join2_abs hb, join2_rel hc]
      rw [join2_abs]
      rw [List.append_assoc, startsSlash_append hbne]; exact hb
    | false =>
      rw [join2_rel hb, join2_rel hc, join2_rel hc]
      by_cases hbe : b = []
      · subst hbe
        simp only [List.append_nil]
        rw [sep_self]
        have : sep ([] : Text) = [] := rfl
        rw [this]
        simp only [List.append_nil, List.nil_append]
        rw [join2_rel hc]
      · rw [sep_append hbe]
        have hrel : startsSlash (b ++ sep b ++ c) = false := by
          rw [List.append_assoc, startsSlash_append hbe]; exact hb
        rw [join2_rel hrel]
        simp [List.append_assoc]

theorem join_assoc3 (a b c : Text) : join [a, b, c] = .ok (join2 a (join2 b c)) := by
  simp [join, pure, Except.pure, join2_assoc]

theorem afterLast_le (c : Nat) : ∀ p : Text, afterLast c p ≤ p.length
  | [] => by simp [afterLast]
  | x :: xs => by
    have := afterLast_le c xs
    simp only [afterLast, List.length_cons]
    split
    · omega
    · split <;> omega

theorem not_mem_drop_afterLast (c : Nat) : ∀ p : Text, c ∉ p.drop (afterLast c p)
  | [] => by simp [afterLast]
  | x :: xs => by
    have ih := not_mem_drop_afterLast c xs
    simp only [afterLast]
    split
    · simpa using ih
    · rename_i h0
      have h0' : afterLast c xs = 0 := by omega
      rw [h0'] at ih
      simp only [List.drop_zero] at ih
      split
      · simpa using ih
      · rename_i hx
        simp only [List.drop_zero, List.mem_cons, not_or]
        exact ⟨fun e => hx e.symm, ih⟩

theorem getElem_afterLast (c : Nat) : ∀ p : Text, 0 < afterLast c p → p[afterLast c p - 1]? = some c
  | [], h => by simp [afterLast] at h
  | x :: xs, h => by
    have ih := getElem_afterLast c xs
    simp only [afterLast] at h ⊢
    split
    · rename_i hpos
      have := ih hpos
      have e : afterLast c xs + 1 - 1 = (afterLast c xs - 1) + 1 := by omega
      rw [e, List.getElem?_cons_succ]; exact this
    · split
      · rename_i hx; simp [hx]
      · rename_i h1 h2; simp [h1, h2] at h

theorem basename_no_slash (p : Text) : 47 ∉ basename p := not_mem_drop_afterLast 47 p

theorem head_basename (p : Text) : p.take (afterLast 47 p) ++ basename p = p := List.take_append_drop _ _

theorem head_ends_slash (p : Text) (h : 0 < afterLast 47 p) : (p.take (afterLast 47 p)).getLast? = some 47 := by
  have hle := afterLast_le 47 p
  rw [List.getLast?_eq_getElem?, List.length_take, Nat.min_eq_left hle, List.getElem?_take]
  simp only [show afterLast 47 p - 1 < afterLast 47 p by omega, if_true]
  exact getElem_afterLast 47 p h

theorem rstripSlash_prefix (s : Text) : rstripSlash s <+: s := by
  unfold rstripSlash
  have h : s.reverse.dropWhile (· == 47) <:+ s.reverse := List.dropWhile_suffix _
  have := List.reverse_prefix.mpr h
  simpa using this

theorem dirname_prefix (p : Text) : dirname p <+: p := by
  unfold dirname
  simp only
  split
  · exact (rstripSlash_prefix _).trans (List.take_prefix _ _)
  · exact List.take_prefix _ _

theorem splitext_concat (p : Text) : (splitext p).1 ++ (splitext p).2 = p := by
  unfold splitext
  simp only
  split
  · split
    · exact List.take_append_drop _ _
    · simp
  · simp

theorem splitext_ext (p : Text) : (splitext p).2 = [] ∨
    ∃ e, (splitext p).2 = 46 :: e ∧ 46 ∉ e ∧ 47 ∉ e := by
  unfold splitext
  simp only
  split
  · rename_i hji
    split
    · right
      have hj : 0 < afterLast 46 p := by omega
      have hc := getElem_afterLast 46 p hj
      have hlt : afterLast 46 p - 1 < p.length := by have := afterLast_le 46 p; omega
      refine ⟨p.drop (afterLast 46 p), ?_, not_mem_drop_afterLast 46 p, ?_⟩
      · rw [List.getElem?_eq_getElem hlt] at hc
        simp only [Option.some.injEq] at hc
        have := List.drop_eq_getElem_cons hlt
        have e : afterLast 46 p - 1 + 1 = afterLast 46 p := by omega
        rw [this, hc, e]
      · intro hm
        have h1 := not_mem_drop_afterLast 47 p
        apply h1
        have : p.drop (afterLast 46 p) <:+ p.drop (afterLast 47 p) := by
          have e : afterLast 46 p = afterLast 47 p + (afterLast 46 p - afterLast 47 p) := by omega
          rw [e, ← List.drop_drop]
          exact List.drop_suffix _ _
        exact this.subset hm
    · left; rfl
  · left; rfl

def lexLe (a b : Text) : Prop := lexLt b a = false

theorem lexLt_iff : ∀ a b : Text, lexLt a b = true ↔ a < b
  | [], [] => by simp [lexLt]
  | [], _ :: _ => by simp [lexLt]
  | _ :: _, [] => by simp [lexLt]
  | x :: xs, y :: ys => by
    rw [lexLt, List.cons_lt_cons_iff, ← lexLt_iff xs ys]
    split
    · simp [*]
    · split
      · simp; omega
      · have : x = y := by omega
        simp [*]

theorem lexLe_iff (a b : Text) : lexLe a b ↔ a ≤ b := by
  rw [lexLe, ← Bool.not_eq_true, lexLt_iff, List.not_lt]

theorem lexLt_irrefl (a : Text) : lexLt a a = false := (lexLe_iff a a).2 (List.le_refl a)

theorem lexLt_asymm {a b : Text} (h : lexLt a b = true) : lexLt b a = false :=
  (lexLe_iff a b).2 (List.le_of_lt ((lexLt_iff a b).1 h))

theorem lexLe_trans {a b c : Text} (h1 : lexLe a b) (h2 : lexLe b c) : lexLe a c := by
  rw [lexLe_iff] at *; exact List.le_trans h1 h2

/-- the one of two texts that a strict order `lt` puts first: `min` for `lexLt`, `max` for its converse -/
def sel (lt : Text → Text → Bool) (a b : Text) : Text := if lt b a then b else a

theorem foldl_sel_spec (lt : Text → Text → Bool) (hirr : ∀ a, lt a a = false) (hasym : ∀ {a b}, lt a b = true → lt b a = false)
    (htrans : ∀ {a b c}, lt b a = false → lt c b = false → lt c a = false) : ∀ (ps : List Text) (p : Text),
    (ps.foldl (sel lt) p ∈ p :: ps) ∧ lt p (ps.foldl (sel lt) p) = false ∧ ∀ x ∈ ps, lt x (ps.foldl (sel lt) p) = false
  | [], p => ⟨by simp, hirr p, by simp⟩
  | q :: qs, p => by
    obtain ⟨h1, h2, h3⟩ := foldl_sel_spec lt hirr hasym htrans qs (sel lt p q)
    have hmem : sel lt p q = p ∨ sel lt p q = q := by unfold sel; split <;> simp
    have hl : lt p (sel lt p q) = false := by
      unfold sel; split
      · exact hasym ‹_›
      · exact hirr p
    have hr : lt q (sel lt p q) = false := by
      unfold sel; split
      · exact hirr q
      · simpa using ‹¬ lt q p = true›
    simp only [List.foldl_cons]
    refine ⟨?_, htrans h2 hl, ?_⟩
    · simp only [List.mem_cons] at h1 ⊢
      rcases h1 with h1 | h1
      · rcases hmem with e | e
        · left; rw [h1, e]
        · right; left; rw [h1, e]
      · right; right; exact h1
    · intro x hx
      simp only [List.mem_cons] at hx
      rcases hx with rfl | hx
      · exact htrans h2 hr
      · exact h3 x hx

theorem foldl_min_spec (ps : List Text) (p : Text) :
    (ps.foldl minText p ∈ p :: ps) ∧ lexLe (ps.foldl minText p) p ∧ ∀ x ∈ ps, lexLe (ps.foldl minText p) x :=
  foldl_sel_spec lexLt lexLt_irrefl lexLt_asymm lexLe_trans ps p

theorem foldl_max_spec (ps : List Text) (p : Text) :
    (ps.foldl maxText p ∈ p :: ps) ∧ lexLe p (ps.foldl maxText p) ∧ ∀ x ∈ ps, lexLe x (ps.foldl maxText p) :=
  foldl_sel_spec (fun a b => lexLt b a) lexLt_irrefl lexLt_asymm (fun h1 h2 => lexLe_trans h2 h1) ps p

theorem prefixUpTo_prefix_left : ∀ (a b : Text), prefixUpTo a b <+: a
  | [], _ => by simp [prefixUpTo]
  | _ :: _, [] => by simp [prefixUpTo]
  | x :: xs, y :: ys => by
    simp only [prefixUpTo]
    split
    · exact List.cons_prefix_cons.mpr ⟨rfl, prefixUpTo_prefix_left xs ys⟩
    · exact List.nil_prefix

/-- why `commonprefix` may look at `min` and `max` only: their common prefix is a prefix of everything in between -/
theorem prefixUpTo_between : ∀ (a x b : Text), lexLe a x → lexLe x b → prefixUpTo a b <+: x
  | [], _, _, _, _ => by simp [prefixUpTo]
  | _ :: _, _, [], _, _ => by simp [prefixUpTo]
  | a0 :: a', x, b0 :: b', h1, h2 => by
    simp only [prefixUpTo]
    split
    · rename_i hab
      subst hab
      cases x with
      | nil => simp [lexLe, lexLt] at h1
      | cons x0 x' =>
        simp only [lexLe, lexLt] at h1 h2
        by_cases c1 : x0 < a0
        · simp [c1] at h1
        · by_cases c2 : a0 < x0
          · simp [c2] at h2
          · simp only [c1, c2, if_false] at h1 h2
            have : x0 = a0 := by omega
            subst this
            exact List.cons_prefix_cons.mpr ⟨rfl, prefixUpTo_between a' x' b' h1 h2⟩
    · exact List.nil_prefix

theorem prefix_prefixUpTo : ∀ (q a b : Text), q <+: a → q <+: b → q <+: prefixUpTo a b
  | [], _, _, _, _ => List.nil_prefix
  | q0 :: q', [], _, h, _ => by simp at h
  | q0 :: q', _ :: _, [], _, h => by simp at h
  | q0 :: q', a0 :: a', b0 :: b', h1, h2 => by
    obtain ⟨e1, h1'⟩ := List.cons_prefix_cons.mp h1
    obtain ⟨e2, h2'⟩ := List.cons_prefix_cons.mp h2
    subst e1; subst e2
    simp only [prefixUpTo, if_true]
    exact List.cons_prefix_cons.mpr ⟨rfl, prefix_prefixUpTo q' a' b' h1' h2'⟩

theorem commonprefix_prefix (ps : List Text) : ∀ p ∈ ps, commonprefix ps <+: p := by
  intro p hp
  cases ps with
  | nil => cases hp
  | cons p0 rest =>
    obtain ⟨_, m2, m3⟩ := foldl_min_spec rest p0
    obtain ⟨_, x2, x3⟩ := foldl_max_spec rest p0
    simp only [commonprefix]
    apply prefixUpTo_between
    · rcases List.mem_cons.mp hp with rfl | h
      · exact m2
      · exact m3 p h
    · rcases List.mem_cons.mp hp with rfl | h
      · exact x2
      · exact x3 p h

theorem commonprefix_greatest (ps : List Text) (q : Text) (hne : ps ≠ []) (h : ∀ p ∈ ps, q <+: p) :
    q <+: commonprefix ps := by
  cases ps with
  | nil => exact absurd rfl hne
  | cons p0 rest =>
    obtain ⟨m1, _, _⟩ := foldl_min_spec rest p0
    obtain ⟨x1, _, _⟩ := foldl_max_spec rest p0
    simp only [commonprefix]
    exact prefix_prefixUpTo _ _ _ (h _ m1) (h _ x1)

theorem insertDesc_eq (x : Text) : ∀ l : List Text, insertDesc x l = Sorting.ins (fun a b => !lexLt a b) x l
  | [] => rfl
  | y :: ys => by
    simp only [insertDesc, Sorting.ins, insertDesc_eq x ys]
    by_cases h : lexLt x y = true <;> simp [h]

theorem sortDesc_eq : ∀ l : List Text, sortDesc l = Sorting.sort (fun a b => !lexLt a b) l
  | [] => rfl
  | x :: xs => by rw [sortDesc, sortDesc_eq xs, insertDesc_eq]; rfl

theorem mem_sortDesc {y : Text} {l : List Text} : y ∈ sortDesc l ↔ y ∈ l := sortDesc_eq l ▸ Sorting.mem_sort

theorem desc_sortDesc (l : List Text) : (sortDesc l).Pairwise (fun a b => lexLe b a) := by
  rw [sortDesc_eq]
  refine (Sorting.sorted_sort (fun a b => ?_) (fun a b c => ?_) l).imp (by simp [lexLe])
  · simp only [Bool.not_eq_true', ← Bool.not_eq_true, lexLt_iff, List.not_lt]; exact List.le_total b a
  · simp only [Bool.not_eq_true', ← Bool.not_eq_true, lexLt_iff, List.not_lt]; exact fun h1 h2 => List.le_trans h2 h1

/-- what "contains" means for a base directory -/
def Contains (b path : Text) : Prop := b = [] ∨ (b ++ [47]) <+: path

theorem pred_iff (b path : Text) : (b.isEmpty || (b ++ [47]).isPrefixOf path) = true ↔ Contains b path := by
  simp [Contains, List.isEmpty_iff]

theorem lexLt_of_proper_prefix : ∀ {a b : Text}, a <+: b → a.length < b.length → lexLt a b = true
  | [], [], _, h => by simp at h
  | [], _ :: _, _, _ => rfl
  | x :: xs, [], h, _ => by simp at h
  | x :: xs, y :: ys, h, hl => by
    obtain ⟨e, h'⟩ := List.cons_prefix_cons.mp h
    subst e
    simp only [lexLt, Nat.lt_irrefl, if_false]
    exact lexLt_of_proper_prefix h' (by simpa using hl)

theorem basedir_sound {path : Text} {bases : List Text} {b : Text} (h : basedir path bases = some b) :
    b ∈ bases ∧ (b = path ∨ Contains b path) := by
  unfold basedir at h
  split at h
  · rename_i hc
    simp only [Option.some.injEq] at h; subst h
    exact ⟨by simpa using hc, Or.inl rfl⟩
  · have hm := List.mem_of_find?_eq_some h
    have hp := List.find?_some h
    exact ⟨mem_sortDesc.mp hm, Or.inr ((pred_iff b path).mp hp)⟩

theorem basedir_none {path : Text} {bases : List Text} (h : basedir path bases = none) :
    path ∉ bases ∧ ∀ b ∈ bases, ¬ Contains b path := by
  unfold basedir at h
  split at h
  · cases h
  · rename_i hc
    refine ⟨by simpa using hc, ?_⟩
    intro b hb hcon
    have := List.find?_eq_none.mp h b (mem_sortDesc.mpr hb)
    exact this ((pred_iff b path).mpr hcon)

theorem basedir_deepest {path : Text} {bases : List Text} {b : Text} (h : basedir path bases = some b)
    (hnot : path ∉ bases) : ∀ b' ∈ bases, Contains b' path → b'.length ≤ b.length := by
  unfold basedir at h
  have hc : bases.contains path = false := by simpa using hnot
  simp only [hc, Bool.false_eq_true, if_false] at h
  intro b' hb' hcon'
  obtain ⟨hpb, l1, l2, hl, hbefore⟩ := List.find?_eq_some_iff_append.mp h
  have hcon : Contains b path := (pred_iff b path).mp hpb
  have hmem : b' ∈ l1 ++ b :: l2 := by rw [← hl]; exact mem_sortDesc.mpr hb'
  have hdesc : (l1 ++ b :: l2).Pairwise (fun a b => lexLe b a) := by rw [← hl]; exact desc_sortDesc bases
  rcases List.mem_append.mp hmem with h1 | h2
  · have hb := hbefore b' h1
    rw [(pred_iff b' path).mpr hcon'] at hb
    simp at hb
  · rcases List.mem_cons.mp h2 with rfl | h3
    · exact Nat.le_refl _
    · have hle : lexLe b' b := by
        have := (List.pairwise_append.mp hdesc).2.1
        exact (List.pairwise_cons.mp this).1 b' h3
      rcases hcon' with rfl | hp'
      · simp
      · rcases hcon with rfl | hp
        · -- b = []: b' ≤ [] forces b' = []
          cases b' with
          | nil => simp
          | cons x xs => simp [lexLe, lexLt] at hle
        · by_cases hlen : b'.length ≤ b.length
          · exact hlen
          · exfalso
            have hpre : (b ++ [47]) <+: (b' ++ [47]) :=
              List.prefix_of_prefix_length_le hp hp' (by simp; omega)
            have hpre2 : (b ++ [47]) <+: b' :=
              List.prefix_of_prefix_length_le hpre (List.prefix_append b' [47]) (by simp; omega)
            have hbb : b <+: b' := (List.prefix_append b [47]).trans hpre2
            have := lexLt_of_proper_prefix hbb (by omega)
            rw [hle] at this; cases this

end C12MP
