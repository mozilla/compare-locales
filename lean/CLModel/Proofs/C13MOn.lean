/- `C13.iter_eq_match` and `C13.last_rule_wins_partial` from the `sub` round trip on the reference FILES of the tree only
   (`SubMatchesOn`: all that `_files` ever feeds into `sub`).  Any `MEnv`; nothing about the `Matcher` model yet. -/
import CLModel.Proofs.C13Iter
import CLModel.Proofs.C13Build
import CLModel.Proofs.C13Wins
namespace PF

theorem iter_eq_match_on {env : MEnv} {fs : FS} {pf : PF} {p : Path} {it : Item}
    (hloc : truthy pf.locale = true) (hp : p ∈ fs.files)
    (hdir : ∀ r ∈ pf.matchers, PrefixOK env r.l10n) (hrt : ∀ r ∈ pf.matchers, SubMatchesOn env fs r)
    (hnr : ∀ r ∈ pf.matchers, ∀ rm, r.reference = some rm → env.mtch rm p = none) :
    (it ∈ pf.iter env fs ∧ it.path = p) ↔ pf.matchPath env p = some it := by
  rw [iter_of_locale hloc, iterLocale_eq, mem_sorted_items]
  obtain ⟨locale, ms, exclude⟩ := pf
  simp only [PF.matchers, PF.locale, PF.exclude] at hdir hrt hnr hloc ⊢
  rw [matchPath_eq, isSome_of_truthy hloc]
  cases hex : excludedBy env exclude p with
  | true =>
    simp only [Bool.and_self, if_true]
    constructor
    · rintro ⟨⟨e, hf, _⟩, hpath⟩
      rw [hpath, find_claims_excluded hex] at hf
      exact absurd hf (by simp)
    · intro h; exact absurd h (by simp)
  | false =>
    simp only [Bool.and_false, Bool.false_eq_true, if_false]
    have key := find_claims_eq_matchRules (env := env) (fs := fs) (ex := excludedBy env exclude) hp hex hdir hrt hnr
    constructor
    · rintro ⟨⟨e, hf, hit⟩, hpath⟩
      rw [hpath, key] at hf
      cases hmr : matchRules env true (excludedBy env exclude) p ms with
      | none => simp [hmr] at hf
      | some it' =>
        simp only [hmr, Option.map_some, Option.some.injEq, Prod.mk.injEq, true_and] at hf
        have hp' := matchRules_path hnr hmr
        rw [hit, hpath, ← hf]
        simp only [toItem]
        rw [← hp']
    · intro hmr
      have hp' := matchRules_path hnr hmr
      refine ⟨⟨{ reference := it.reference, merge := it.merge, test := it.test }, ?_, ?_⟩, hp'⟩
      · rw [hp', key, hmr]; rfl
      · simp [toItem]

/-- no rule after `r` has `r`'s key: a later rule with that key would have to match `p`, and none does -/
theorem no_later_dup {env : MEnv} {after : List Rule} {r : Rule} {p : Path}
    (hlast : ∀ x ∈ after, env.mtch x.l10n p = none)
    (hdup : ∀ x ∈ after, sameKey env x r = true → (env.mtch x.l10n p).isSome = true) :
    ∀ x ∈ after, sameKey env x r = false := by
  intro x hx
  cases hk : sameKey env x r with
  | false => rfl
  | true =>
    have := hdup x hx hk
    rw [hlast x hx] at this
    cases this

/-- `build` reverses the rules, so the matcher list begins with `after.reverse`.  None of these has `r`'s key, so the
    duplicate scan keeps `r` — with the tests of its duplicates in `before.reverse` — behind matchers that are still
    l10n matchers of rules in `after`, none of which claims `p`: `r` is the first matcher to claim it. -/
theorem last_rule_wins_on {env : MEnv} {fs : FS} {fuel : Nat} {locale : Option Loc} {projects : List Config}
    {mb : Bool} {pf : PF} (hb : build env fuel locale projects mb = .ok pf) (hloc : truthy locale = true)
    {before after : List Rule} {r : Rule} {p : Path} {g : GId}
    (hrs : mkRules locale mb (gated locale (collect locale projects).1) = .ok (before ++ r :: after))
    (hlast : ∀ x ∈ after, env.mtch x.l10n p = none) (hm : env.mtch r.l10n p = some g)
    (hp : p ∈ fs.files) (hex : excludedBy env pf.exclude p = false)
    (hdir : PrefixOK env r.l10n) (hrt : ∀ x ∈ after, SubMatchesOn env fs x)
    (hkey : ∀ x ∈ after, sameKey env x r = false) :
    ({ path := p, reference := r.reference.map (env.expand · g), merge := r.merge.map (env.expand · g),
       test := mergedTests env r before.reverse } : Item) ∈ pf.iter env fs := by
  obtain ⟨rs, hrs', hms, hl⟩ := build_ok hb
  rw [hrs] at hrs'
  simp only [Except.ok.injEq] at hrs'
  subst hrs'
  have hkeys : ∀ x ∈ after.reverse, keyOf env x ≠ keyOf env r := by
    intro x hx e
    have := hkey x (List.mem_reverse.1 hx)
    rw [sameKey_iff.2 e] at this
    cases this
  obtain ⟨pre', post', hsplit, hpre'⟩ := specGo_split (env := env) (r := r) (post := before.reverse) (K := [])
    hkeys (by simp)
  have hms' : pf.matchers = pre' ++ { r with test := mergedTests env r before.reverse } :: post' := by
    rw [hms, dedupSpec, List.reverse_append, List.reverse_cons, List.append_assoc, List.singleton_append]
    exact hsplit
  have h1 : ∀ x ∈ pre', env.mtch x.l10n p = none := by
    intro x hx
    obtain ⟨y, hy, e1, _⟩ := hpre' x hx
    rw [e1]
    exact hlast y (List.mem_reverse.1 hy)
  have h2 : ∀ x ∈ pre', SubMatchesOn env fs x := by
    intro x hx
    obtain ⟨y, hy, e1, e2⟩ := hpre' x hx
    intro rm q g' hr hq
    rw [e1]
    exact hrt y (List.mem_reverse.1 hy) rm q g' (e2 ▸ hr) hq
  have hf : (p, g) ∈ files env fs (excludedBy env pf.exclude) r.l10n :=
    mem_files_of hdir hp hex hm
  have := first_rule_wins (pf := pf) (r := { r with test := mergedTests env r before.reverse }) hms' h1 h2 hf
  rw [iter_of_locale (hl.symm ▸ hloc)]
  exact this

end PF
