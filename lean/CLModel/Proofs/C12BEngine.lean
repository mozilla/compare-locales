/- Back-references in the engine lemma: a token list with back-references runs exactly like the same list with the
   literal texts in their place, as long as the referenced groups have been captured (`Known`). -/
import CLModel.Proofs.C12RNest
namespace C12B
open Rx PM C11R

/-- the groups in `K` have been captured: index ↦ text, found in the subject where the capture says -/
def Known (s : Array Nat) (caps : List (Nat × Nat × Nat)) (Kn : List (Nat × Text)) : Prop :=
  ∀ e ∈ Kn, ∃ a, capOf caps e.1 = some (a, a + e.2.length) ∧ TextAt s a e.2

theorem m_backref (s : Array Nat) {i a : Nat} {t : Text} {pos : Nat} {caps : List (Nat × Nat × Nat)} (k : K)
    (hc : capOf caps i = some (a, a + t.length)) (ht : TextAt s a t) :
    (TextAt s pos t → m s (.backref i) ⟨pos, caps⟩ k = k ⟨pos + t.length, caps⟩) ∧
    (¬ TextAt s pos t → m s (.backref i) ⟨pos, caps⟩ k = none) := by
  simp only [m, hc, Nat.add_sub_cancel_left]
  refine ⟨fun hp => ?_, fun hp => ?_⟩
  · have hall : (List.range t.length).all (fun j => s[a + j]? == s[pos + j]? && decide (pos + j < s.size)) = true := by
      apply List.all_eq_true.mpr
      intro j hj
      have hj' : j < t.length := by simpa using hj
      have h1 := ht j hj'
      have h2 := hp j hj'
      have hlt : pos + j < s.size := by
        rw [List.getElem?_eq_getElem hj'] at h2
        exact getElem?_some_lt h2
      simp only [h1, h2, beq_self_eq_true, hlt, decide_true, Bool.and_self]
    simp only [hall, if_true]
  · have hall : (List.range t.length).all (fun j => s[a + j]? == s[pos + j]? && decide (pos + j < s.size)) = false := by
      apply Bool.eq_false_iff.mpr
      intro hc'
      apply hp
      intro j hj
      have := List.all_eq_true.mp hc' j (by simpa using hj)
      simp only [Bool.and_eq_true, beq_iff_eq, decide_eq_true_eq] at this
      rw [← this.1]; exact ht j hj
    simp only [hall, Bool.false_eq_true, if_false]

theorem m_backref_lits (s : Array Nat) {i a : Nat} {t : Text} {pos : Nat} {caps : List (Nat × Nat × Nat)}
    (rest : List Re) (k : K) (hc : capOf caps i = some (a, a + t.length)) (ht : TextAt s a t) :
    m s (seqOf (Re.backref i :: rest)) ⟨pos, caps⟩ k = m s (seqOf (t.map Re.lit ++ rest)) ⟨pos, caps⟩ k := by
  rw [m_seqOf_cons]
  by_cases hp : TextAt s pos t
  · rw [(m_backref s _ hc ht).1 hp, m_lits_ok s t rest ⟨pos, caps⟩ k hp]
  · rw [(m_backref s _ hc ht).2 hp, m_lits_fail s t rest ⟨pos, caps⟩ k hp]

inductive BTok where
  | base (t : Tok)
  | bref (i : Nat) (t : Text)

/-- the same list with every back-reference replaced by the literal text it stands for -/
def BTok.plain : BTok → Tok
  | .base t => t
  | .bref _ t => .lit t

def BTok.items : BTok → List Re
  | .base t => t.items
  | .bref i _ => [Re.backref i]

def itemsB (ts : List BTok) : List Re := ts.flatMap BTok.items

theorem itemsB_cons (t : BTok) (r : List BTok) : itemsB (t :: r) = t.items ++ itemsB r := by simp [itemsB]

/-- every back-reference refers to a group captured by an earlier literal-like group token (or already known) -/
def BrefOK : List (Nat × Text) → List BTok → Prop
  | _, [] => True
  | K, .base (.gl i _ t _) :: r => BrefOK ((i, t) :: K) r
  | K, .base _ :: r => BrefOK K r
  | K, .bref i t :: r => (i, t) ∈ K ∧ BrefOK K r

theorem firstSome_congr (k1 k2 : Nat → Option St) : ∀ (l : List Nat), (∀ j ∈ l, k1 j = k2 j) → firstSome k1 l = firstSome k2 l
  | [], _ => rfl
  | x :: xs, h => by
    simp only [firstSome, h x (by simp), firstSome_congr k1 k2 xs (fun j hj => h j (by simp [hj]))]

theorem known_append {s : Array Nat} {caps new : List (Nat × Nat × Nat)} {Kn : List (Nat × Text)} (h : Known s caps Kn)
    (hn : ∀ e ∈ Kn, ∀ x ∈ new, x.1 ≠ e.1) : Known s (new ++ caps) Kn := by
  intro e he
  obtain ⟨a', h1, h2⟩ := h e he
  exact ⟨a', by rw [capOf_append_of_not_mem (fun x hx => hn e he x hx)]; exact h1, h2⟩

theorem plain_map_cons (t : BTok) (r : List BTok) : (t :: r).map BTok.plain = t.plain :: r.map BTok.plain := rfl

theorem sim (s : Array Nat) : ∀ (ts : List BTok) (Kn : List (Nat × Text)) (st : St) (tl : List Re) (k : K),
    Sep (ts.map BTok.plain) → Known s st.caps Kn → BrefOK Kn ts → st.pos ≤ s.size →
    (∀ e ∈ Kn, e.1 ∉ toksAll (ts.map BTok.plain)) → (∀ i, (toksAll (ts.map BTok.plain)).count i ≤ 1) →
    m s (seqOf (itemsB ts ++ tl)) st k = m s (seqOf (toksItems (ts.map BTok.plain) ++ tl)) st k
  | [], _, _, _, _, _, _, _, _, _, _ => rfl
  | .bref i t :: r, Kn, ⟨pos, caps⟩, tl, k, hsep, hkn, hbr, hpos, hfr, hcnt => by
    have hpos : pos ≤ s.size := hpos
    obtain ⟨hmem, hbr'⟩ := hbr
    obtain ⟨a, hc, hta⟩ := hkn (i, t) hmem
    rw [itemsB_cons, plain_map_cons, toksItems_cons]
    simp only [BTok.items, BTok.plain, Tok.items, List.cons_append, List.nil_append]
    rw [m_backref_lits s _ k hc hta, List.append_assoc]
    rw [plain_map_cons, toksAll_cons] at hfr hcnt
    refine m_seqOf_congr_tail _ hpos fun st' hb ⟨new, hcaps, hnew⟩ => ?_
    rw [flatMap_gidx_lits] at hnew
    exact sim s r Kn st' tl k hsep (hcaps ▸ known_append hkn fun _ _ x hx => absurd (hnew x hx) List.not_mem_nil) hbr' hb
      (fun e he hc' => hfr e he (List.mem_append.mpr (Or.inr hc')))
      (Txt.once_right hcnt)
  | .base tok :: r, Kn, ⟨pos, caps⟩, tl, k, hsep, hkn, hbr, hpos, hfr, hcnt => by
    have hpos : pos ≤ s.size := hpos
    rw [itemsB_cons, plain_map_cons, toksItems_cons]
    simp only [BTok.items, BTok.plain]
    rw [List.append_assoc, List.append_assoc]
    rw [plain_map_cons, toksAll_cons] at hfr hcnt
    simp only [BTok.plain] at hfr hcnt hsep
    have hfr' : ∀ e ∈ Kn, e.1 ∉ toksAll (r.map BTok.plain) := fun e he hc' => hfr e he (List.mem_append.mpr (Or.inr hc'))
    have hcnt' : ∀ j, (toksAll (r.map BTok.plain)).count j ≤ 1 := Txt.once_right hcnt
    have hown : ∀ j ∈ tok.all, j ∉ toksAll (r.map BTok.plain) := fun _ => Txt.not_mem_right_of_once hcnt
    have hKtok : ∀ e ∈ Kn, e.1 ∉ tok.all := fun e he hc' => hfr e he (List.mem_append.mpr (Or.inl hc'))
    cases tok with
    | gl i body t F =>
      have hpush := push_idx hsep pos
      obtain ⟨hrun, _, hsep'⟩ := hsep
      simp only [Tok.items, List.cons_append, List.nil_append]
      rw [m_seqOf_cons, m_seqOf_cons]
      simp only [m]
      by_cases hp : TextAt s pos t
      · rw [(hrun s ⟨pos, caps⟩ _).1 hp, (hrun s ⟨pos, caps⟩ _).1 hp]
        refine sim s r ((i, t) :: Kn) _ tl k hsep' ?_ hbr (Txt.At.le_size hp hpos) ?_ hcnt'
        · intro e he
          rcases List.mem_cons.mp he with rfl | he
          · exact ⟨pos, capOf_cons_self, hp⟩
          · exact known_append (new := (Tok.gl i body t F).push pos) hkn
              (fun e' he' x hx hc' => hKtok e' he' (hc' ▸ hpush x hx)) e he
        · intro e he
          rcases List.mem_cons.mp he with rfl | he
          · exact hown i (by simp [Tok.all, Tok.idx])
          · exact hfr' e he
      · rw [(hrun s ⟨pos, caps⟩ _).2 hp, (hrun s ⟨pos, caps⟩ _).2 hp]
    | _ =>
      -- a token without a promise about its text: whatever it does, it leaves `Kn` known
      refine m_seqOf_congr_tail _ hpos fun st' hb ⟨new, hcaps, hnew⟩ => ?_
      rw [tok_items_gidx] at hnew
      exact sim s r Kn st' tl k hsep.tail
        (hcaps ▸ known_append hkn fun e he x hx hc' => hKtok e he (hc' ▸ hnew x hx)) hbr hb hfr' hcnt'
end C12B
