/-
The duplicate scan of `ProjectFiles.__init__` has a closed form: keep the first matcher of every (prefix, pattern) key, with
the tests of all its later duplicates (`dedupSpec`, `dedup_eq_spec`).
-/
import CLModel.Paths.ProjectFiles
import CLModel.Proofs.C13Env
namespace PF

/-- what the duplicate scan compares -/
def keyOf (env : MEnv) (m : Rule) : Path × Nat := (env.realpfx m.l10n, env.pat m.l10n)

theorem sameKey_iff {env : MEnv} {a b : Rule} : sameKey env a b = true ↔ keyOf env a = keyOf env b := by
  simp [sameKey, keyOf, Prod.ext_iff]

/-- `m["test"] |= m_["test"]` for every later matcher with the same key -/
def mergedFrom (env : MEnv) (m : Rule) (rest : List Rule) (t : List Nat) : List Nat :=
  rest.foldl (fun t m_ => if sameKey env m m_ then setUnion t m_.test else t) t

/-- the tests of `m` after the scan from `m`: its own and those of every matcher in `rest` with `m`'s key -/
def mergedTests (env : MEnv) (m : Rule) (rest : List Rule) : List Nat := mergedFrom env m rest m.test

/-- closed form: keep the first matcher of every key, with the tests of all its later duplicates -/
def specGo (env : MEnv) (seen : List (Path × Nat)) : List Rule → List Rule
  | [] => []
  | m :: rest =>
    if seen.contains (keyOf env m) then specGo env seen rest
    else { m with test := mergedTests env m rest } :: specGo env (keyOf env m :: seen) rest

/-- `self.matchers` after the scan, as a function of the list scanned (`dedup_eq_spec`) -/
def dedupSpec (env : MEnv) (ms : List Rule) : List Rule := specGo env [] ms

theorem mem_setInsert {x y : Nat} : ∀ {l : List Nat}, x ∈ setInsert y l ↔ x = y ∨ x ∈ l
  | [] => by simp [setInsert]
  | z :: zs => by
    simp only [setInsert]
    split
    · simp
    · split
      · rename_i h
        simp only [beq_iff_eq] at h
        subst h
        simp
      · simp only [List.mem_cons, mem_setInsert (l := zs)]
        exact or_left_comm

theorem mem_setUnion {x : Nat} {b a : List Nat} : x ∈ setUnion a b ↔ x ∈ a ∨ x ∈ b :=
  mem_foldl_insert fun _ _ _ => mem_setInsert

theorem mem_mergedFrom {env : MEnv} {m : Rule} {x : Nat} : ∀ {rest : List Rule} {t : List Nat},
    x ∈ mergedFrom env m rest t ↔ x ∈ t ∨ ∃ m_ ∈ rest, sameKey env m m_ = true ∧ x ∈ m_.test
  | [], t => by simp [mergedFrom]
  | y :: ys, t => by
    have ih := fun t' => mem_mergedFrom (env := env) (m := m) (x := x) (rest := ys) (t := t')
    simp only [mergedFrom, List.foldl_cons] at ih ⊢
    rw [ih]
    by_cases hk : sameKey env m y = true
    · simp only [hk, if_true, mem_setUnion, List.mem_cons, exists_eq_or_imp, true_and]
      exact or_assoc
    · simp [hk]

theorem test_sub_mergedTests {env : MEnv} {m : Rule} {rest : List Rule} {x : Nat} (h : x ∈ m.test) :
    x ∈ mergedTests env m rest :=
  mem_mergedFrom.2 (Or.inl h)

theorem mergedFrom_of_no_dup {env : MEnv} {m : Rule} : ∀ {rest : List Rule} {t : List Nat},
    (∀ m_ ∈ rest, sameKey env m m_ = false) → mergedFrom env m rest t = t
  | [], _, _ => rfl
  | y :: ys, t, h => by
    simp only [mergedFrom, List.foldl_cons, h y List.mem_cons_self]
    exact mergedFrom_of_no_dup (rest := ys) (fun m_ hm => h m_ (List.mem_cons_of_mem _ hm))

theorem scan_cons_ne {env : MEnv} {m m_ : Rule} (d : Bool) (rest : List (Rule × Bool)) (hk : sameKey env m m_ = false) :
    scan env m ((m_, d) :: rest) = (scan env m rest).map fun (m', r) => (m', (m_, d) :: r) := by
  rw [scan]
  by_cases h1 : env.realpfx m.l10n = env.realpfx m_.l10n
  · have h2 : env.pat m.l10n ≠ env.pat m_.l10n := by simpa [sameKey, h1] using hk
    simp [h1, h2]
  · simp [h1]

theorem scan_cons_eq {env : MEnv} {m m_ : Rule} (d : Bool) (rest : List (Rule × Bool)) (hk : sameKey env m m_ = true) :
    scan env m ((m_, d) :: rest) = .error .attributeNone ∨ scan env m ((m_, d) :: rest) = .error .runtimeMismatch ∨
    scan env m ((m_, d) :: rest) =
      (scan env { m with test := setUnion m.test m_.test } rest).map fun (m', r) => (m', (m_, true) :: r) := by
  simp only [sameKey, Bool.and_eq_true, beq_iff_eq] at hk
  rw [scan]
  simp only [hk.1, hk.2, bne_self_eq_false, Bool.false_eq_true, if_false]
  cases m.reference with
  | none => exact Or.inr (Or.inr rfl)
  | some mr =>
    cases m_.reference with
    | none => exact Or.inl rfl
    | some mr_ =>
      by_cases h : env.realpfx mr = env.realpfx mr_
      · simp [h]
      · simp [h]

theorem scan_ok {env : MEnv} : ∀ {rest : List (Rule × Bool)} {m m' : Rule} {rest' : List (Rule × Bool)},
    scan env m rest = .ok (m', rest') →
      m' = { m with test := mergedFrom env m (rest.map (·.1)) m.test } ∧
      rest' = rest.map (fun x => (x.1, x.2 || sameKey env m x.1))
  | [], m, m', rest', h => by
    simp only [scan, Except.ok.injEq, Prod.mk.injEq] at h
    obtain ⟨rfl, rfl⟩ := h
    exact ⟨rfl, rfl⟩
  | (m_, d) :: rest, m, m', rest', h => by
    cases hk : sameKey env m m_ with
    | false =>
      rw [scan_cons_ne d rest hk] at h
      obtain ⟨⟨a, b⟩, hs, e⟩ := map_eq_ok h
      simp only [Prod.mk.injEq] at e
      obtain ⟨rfl, rfl⟩ := e
      obtain ⟨h1, h2⟩ := scan_ok hs
      exact ⟨by rw [h1]; simp [mergedFrom, hk], by rw [h2]; simp [hk]⟩
    | true =>
      rcases scan_cons_eq d rest hk with h' | h' | h'
      · rw [h'] at h; cases h
      · rw [h'] at h; cases h
      · rw [h'] at h
        obtain ⟨⟨a, b⟩, hs, e⟩ := map_eq_ok h
        simp only [Prod.mk.injEq] at e
        obtain ⟨rfl, rfl⟩ := e
        obtain ⟨h1, h2⟩ := scan_ok hs
        -- `sameKey` does not look at `test`: the rule with the merged tests has the keys of `m`
        refine ⟨?_, ?_⟩
        · rw [h1]
          simp only [mergedFrom, List.map_cons, List.foldl_cons, hk, if_true]
          rfl
        · rw [h2]
          simp only [List.map_cons, hk, Bool.or_true]
          rfl

theorem specGo_cons_seen {env : MEnv} {K : List (Path × Nat)} {m : Rule} {rest : List Rule}
    (h : keyOf env m ∈ K) : specGo env K (m :: rest) = specGo env K rest := by
  simp [specGo, h]

theorem specGo_cons_new {env : MEnv} {K : List (Path × Nat)} {m : Rule} {rest : List Rule}
    (h : keyOf env m ∉ K) :
    specGo env K (m :: rest) = { m with test := mergedTests env m rest } :: specGo env (keyOf env m :: K) rest := by
  simp [specGo, h]

/-- The scan against its closed form.  Invariant: the flag kept with each remaining matcher says whether its key is among
    the keys `K` of the matchers kept so far. -/
theorem dedupGo_eq_spec {env : MEnv} : ∀ (n : Nat) (l : List (Rule × Bool)) (K : List (Path × Nat)) (out : List Rule),
    (∀ x ∈ l, x.2 = K.contains (keyOf env x.1)) → l.length ≤ n → dedupGo env n l = .ok out →
    out = specGo env K (l.map (·.1))
  | _, [], K, out, _, _, h => by
    simp only [dedupGo, Except.ok.injEq] at h
    simp [← h, specGo]
  | _, [(m, d)], K, out, hf, _, h => by
    simp only [dedupGo, Except.ok.injEq] at h
    have := hf (m, d) (by simp)
    simp only at this
    subst h
    cases d with
    | true =>
      have hm : keyOf env m ∈ K := by simpa using this.symm
      rw [List.map_cons, specGo_cons_seen hm]
      simp [specGo]
    | false =>
      have hm : keyOf env m ∉ K := by simpa using this.symm
      rw [List.map_cons, specGo_cons_new hm]
      simp [specGo, mergedTests, mergedFrom]
  | 0, _ :: _ :: _, _, _, _, hn, _ => by simp at hn
  | n + 1, (m, d) :: x2 :: rest, K, out, hf, hn, h => by
    have hd := hf (m, d) (by simp)
    simp only at hd
    simp only [dedupGo] at h
    cases d with
    | true =>
      simp only [if_true] at h
      have := dedupGo_eq_spec n (x2 :: rest) K out (fun x hx => hf x (List.mem_cons_of_mem _ hx))
        (by simp at hn ⊢; omega) h
      have hm : keyOf env m ∈ K := by simpa using hd.symm
      rw [this, List.map_cons (l := x2 :: rest), specGo_cons_seen hm]
    | false =>
      simp only [Bool.false_eq_true, if_false] at h
      cases hs : scan env m (x2 :: rest) with
      | error e => simp [hs] at h
      | ok v =>
        obtain ⟨m', rest'⟩ := v
        simp only [hs] at h
        obtain ⟨out', hg, h⟩ := map_eq_ok h
        obtain ⟨h1, h2⟩ := scan_ok hs
        have hlen : rest'.length ≤ n := by
          rw [h2]; simp at hn ⊢; omega
        have hflags : ∀ x ∈ rest', x.2 = (keyOf env m :: K).contains (keyOf env x.1) := by
          intro x hx
          rw [h2] at hx
          simp only [List.mem_map] at hx
          obtain ⟨y, hy, rfl⟩ := hx
          simp only [List.contains_cons]
          rw [hf y (List.mem_cons_of_mem _ hy)]
          have : sameKey env m y.1 = (keyOf env y.1 == keyOf env m) := by
            rw [Bool.eq_iff_iff, sameKey_iff, beq_iff_eq]
            exact eq_comm
          rw [this, Bool.or_comm]
        have := dedupGo_eq_spec n rest' (keyOf env m :: K) out' hflags hlen hg
        have hm : keyOf env m ∉ K := by simpa using hd.symm
        have e : rest'.map (·.1) = (x2 :: rest).map (·.1) := by
          rw [h2, List.map_map]; rfl
        rw [← h, this, h1, e, List.map_cons (l := x2 :: rest), specGo_cons_new hm]
        rfl

theorem dedup_eq_spec {env : MEnv} {ms out : List Rule} (h : dedup env ms = .ok out) : out = dedupSpec env ms := by
  unfold dedup at h
  have := dedupGo_eq_spec ms.length (ms.map (·, false)) [] out (by simp) (by simp) h
  rw [this]
  simp [dedupSpec, List.map_map, Function.comp_def]

theorem specGo_sound {env : MEnv} : ∀ {ms : List Rule} {K : List (Path × Nat)} {r' : Rule}, r' ∈ specGo env K ms →
    ∃ r ∈ ms, ∃ rest, (∀ x ∈ rest, x ∈ ms) ∧ r' = { r with test := mergedTests env r rest }
  | [], _, _, h => by simp [specGo] at h
  | m :: ms, K, r', h => by
    simp only [specGo] at h
    split at h
    · obtain ⟨r, hr, rest, h1, h2⟩ := specGo_sound h
      exact ⟨r, List.mem_cons_of_mem _ hr, rest, fun x hx => List.mem_cons_of_mem _ (h1 x hx), h2⟩
    · rcases List.mem_cons.1 h with rfl | h
      · exact ⟨m, List.mem_cons_self, ms, fun x hx => List.mem_cons_of_mem _ hx, rfl⟩
      · obtain ⟨r, hr, rest, h1, h2⟩ := specGo_sound h
        exact ⟨r, List.mem_cons_of_mem _ hr, rest, fun x hx => List.mem_cons_of_mem _ (h1 x hx), h2⟩

theorem specGo_covers {env : MEnv} : ∀ {ms : List Rule} {K : List (Path × Nat)} {r : Rule}, r ∈ ms →
    keyOf env r ∉ K → ∃ r' ∈ specGo env K ms, keyOf env r' = keyOf env r
  | [], _, _, h, _ => by simp at h
  | m :: ms, K, r, h, hK => by
    simp only [specGo]
    by_cases hm : keyOf env m = keyOf env r
    · have : K.contains (keyOf env m) = false := by
        rw [hm]; simpa using hK
      simp only [this, Bool.false_eq_true, if_false]
      exact ⟨_, List.mem_cons_self, hm⟩
    · rcases List.mem_cons.1 h with rfl | h
      · exact absurd rfl hm
      · split
        · exact specGo_covers h hK
        · obtain ⟨r', hr', hk⟩ := specGo_covers (K := keyOf env m :: K) h
            (by simp only [List.mem_cons, not_or]; exact ⟨fun e => hm e.symm, hK⟩)
          exact ⟨r', List.mem_cons_of_mem _ hr', hk⟩

theorem specGo_split {env : MEnv} {r : Rule} {post : List Rule} : ∀ {pre : List Rule} {K : List (Path × Nat)},
    (∀ x ∈ pre, keyOf env x ≠ keyOf env r) → keyOf env r ∉ K →
    ∃ pre' post', specGo env K (pre ++ r :: post) = pre' ++ { r with test := mergedTests env r post } :: post' ∧
      ∀ x ∈ pre', ∃ y ∈ pre, x.l10n = y.l10n ∧ x.reference = y.reference
  | [], K, _, hK => by
    refine ⟨[], specGo env (keyOf env r :: K) post, ?_, by simp⟩
    rw [List.nil_append, specGo_cons_new hK, List.nil_append]
  | y :: ys, K, hpre, hK => by
    simp only [List.cons_append, specGo]
    split
    · obtain ⟨pre', post', h1, h2⟩ := specGo_split (pre := ys) (K := K)
        (fun x hx => hpre x (List.mem_cons_of_mem _ hx)) hK
      exact ⟨pre', post', h1, fun x hx => by
        obtain ⟨z, hz, h⟩ := h2 x hx
        exact ⟨z, List.mem_cons_of_mem _ hz, h⟩⟩
    · obtain ⟨pre', post', h1, h2⟩ := specGo_split (pre := ys) (K := keyOf env y :: K)
        (fun x hx => hpre x (List.mem_cons_of_mem _ hx))
        (by simp only [List.mem_cons, not_or]; exact ⟨fun e => hpre y List.mem_cons_self e.symm, hK⟩)
      refine ⟨_ :: pre', post', by rw [h1]; rfl, ?_⟩
      intro x hx
      rcases List.mem_cons.1 hx with rfl | hx
      · exact ⟨y, List.mem_cons_self, rfl, rfl⟩
      · obtain ⟨z, hz, h⟩ := h2 x hx
        exact ⟨z, List.mem_cons_of_mem _ hz, h⟩

end PF
