/- Capture invariant of the regex engine: for a regex without look-around, every capture recorded
   during a successful match lies inside the matched region, and a group that sits on every
   path through the regex (`mustCap`) is recorded.  Both are inductions over `Run`. -/
import CLModel.Rx.Basic
import CLModel.Proofs.RxLemmas
namespace Rx

def noLook : Re → Bool
  | .seq a b | .alt a b => noLook a && noLook b
  | .rep _ _ _ r | .group _ r => noLook r
  | .look _ _ _ => false
  | _ => true

/-- group `g` is recorded by every successful match -/
def mustCap (g : Nat) : Re → Bool
  | .seq a b => mustCap g a || mustCap g b
  | .alt a b => mustCap g a && mustCap g b
  | .group i r => i == g || mustCap g r
  | .rep mn _ _ r => decide (0 < mn) && mustCap g r
  | _ => false

/-- every `group g` node of the regex has a body of minimal length at least `L` -/
def grpMin (g L : Nat) : Re → Bool
  | .seq a b | .alt a b => grpMin g L a && grpMin g L b
  | .rep _ _ _ r | .look _ _ r => grpMin g L r
  | .group i r => (i != g || decide (L ≤ minLen r)) && grpMin g L r
  | _ => true

theorem grpMin_zero (g : Nat) : ∀ r, grpMin g 0 r = true
  | .seq a b | .alt a b => by rw [grpMin, grpMin_zero g a, grpMin_zero g b]; rfl
  | .rep _ _ _ r | .look _ _ r => by rw [grpMin, grpMin_zero g r]
  | .group i r => by simp [grpMin, grpMin_zero g r]
  | .eps | .lit _ | .notLit _ | .any _ | .cls _ _ | .backref _ | .bol _ | .eol _ | .eos => rfl

/-- `st'` extends `st` by at least `n` characters; the captures are `new ++ old` with the new ones inside
    `[st.pos, st'.pos]`, those of group `g` at least `L` long; if `must`, one of the new ones is group `g` -/
def Ext (g L n : Nat) (must : Bool) (st st' : St) : Prop :=
  st.pos + n ≤ st'.pos ∧ ∃ new, st'.caps = new ++ st.caps ∧
    (∀ c ∈ new, st.pos ≤ c.2.1 ∧ c.2.1 ≤ c.2.2 ∧ c.2.2 ≤ st'.pos ∧ (c.1 = g → c.2.1 + L ≤ c.2.2)) ∧
    (must = true → ∃ c ∈ new, c.1 = g)

theorem Ext.step (g L : Nat) (st : St) (n : Nat) : Ext g L n false st { st with pos := st.pos + n } :=
  ⟨by simp, [], by simp, by simp, by simp⟩

theorem Ext.refl (g L : Nat) (st : St) : Ext g L 0 false st st := Ext.step g L st 0

theorem Ext.trans {g L n1 n2 b1 b2 st st1 st2} (h1 : Ext g L n1 b1 st st1) (h2 : Ext g L n2 b2 st1 st2) :
    Ext g L (n1 + n2) (b1 || b2) st st2 := by
  obtain ⟨p1, l1, e1, c1, m1⟩ := h1
  obtain ⟨p2, l2, e2, c2, m2⟩ := h2
  refine ⟨by omega, l2 ++ l1, by rw [e2, e1, List.append_assoc], ?_, ?_⟩
  · intro c hc
    rcases List.mem_append.mp hc with hc | hc
    · have := c2 c hc; exact ⟨by omega, this.2.1, this.2.2.1, this.2.2.2⟩
    · have := c1 c hc; exact ⟨this.1, this.2.1, by omega, this.2.2.2⟩
  · intro hb
    rcases Bool.or_eq_true_iff.mp hb with hb | hb
    · obtain ⟨c, hc, hg⟩ := m1 hb
      exact ⟨c, List.mem_append.mpr (Or.inr hc), hg⟩
    · obtain ⟨c, hc, hg⟩ := m2 hb
      exact ⟨c, List.mem_append.mpr (Or.inl hc), hg⟩

theorem Ext.weaken {g L n n' b b' st st'} (h : Ext g L n b st st') (hn : n' ≤ n) (hb : b' = true → b = true) :
    Ext g L n' b' st st' := by
  obtain ⟨p1, l1, e1, c1, m1⟩ := h
  exact ⟨by omega, l1, e1, c1, fun h => m1 (hb h)⟩

theorem Run.ext {s : Array Nat} {r : Re} {st st' : St} (g L : Nat) (h : Run s r st st') :
    noLook r = true → grpMin g L r = true → Ext g L (minLen r) (mustCap g r) st st' := by
  induction h with
  | seq _ _ iha ihb =>
    intro hn hg; simp only [noLook, grpMin, Bool.and_eq_true] at hn hg
    exact (iha hn.1 hg.1).trans (ihb hn.2 hg.2)
  | altL _ ih =>
    intro hn hg; simp only [noLook, grpMin, Bool.and_eq_true] at hn hg
    exact (ih hn.1 hg.1).weaken (Nat.min_le_left ..) (by simp [mustCap]; intro x _; exact x)
  | altR _ ih =>
    intro hn hg; simp only [noLook, grpMin, Bool.and_eq_true] at hn hg
    exact (ih hn.2 hg.2).weaken (Nat.min_le_right ..) (by simp [mustCap])
  | @group i r st st1 _ ih =>
    intro hn hg
    simp only [grpMin, Bool.and_eq_true, Bool.or_eq_true, bne_iff_ne, decide_eq_true_eq] at hg
    obtain ⟨p1, n1, e1, c1, m1⟩ := ih hn hg.2
    refine ⟨p1, (i, st.pos, st1.pos) :: n1, by simp [e1], ?_, ?_⟩
    · intro c hc
      rcases List.mem_cons.mp hc with rfl | hc
      · refine ⟨Nat.le_refl _, by simp only; omega, Nat.le_refl _, fun hi => ?_⟩
        simp only at hi ⊢
        rcases hg.1 with hne | hle
        · exact absurd hi hne
        · omega
      · exact c1 c hc
    · intro hm
      simp only [mustCap, Bool.or_eq_true, beq_iff_eq] at hm
      rcases hm with rfl | hm
      · exact ⟨_, List.mem_cons_self .., rfl⟩
      · obtain ⟨c, hc, hg⟩ := m1 hm
        exact ⟨c, List.mem_cons_of_mem _ hc, hg⟩
  | lit _ | notLit _ _ | any _ _ | cls _ _ => intro _ _; exact Ext.step g L _ 1
  | backref _ _ => intro _ _; exact (Ext.step g L _ _).weaken (Nat.zero_le _) id
  | lookPos _ _ | lookOther _ => intro hn; cases hn
  | @repCons mn _ _ _ _ _ _ _ _ _ iha ihb =>
    intro hn hg
    refine ((iha hn hg).trans (ihb hn hg)).weaken ?_ (by simp [mustCap]; intro _ h; exact .inl h)
    simp only [minLen]
    cases mn with
    | zero => simp
    | succ m => simp [Nat.succ_mul, Nat.add_comm]
  | repNil => intro _ _; simpa [minLen, mustCap] using Ext.refl g L _
  | _ => intro _ _; exact Ext.refl g L _

theorem capOf_new {new : List (Nat × Nat × Nat)} {g : Nat} (h : ∃ c ∈ new, c.1 = g) :
    ∃ a b, capOf new g = some (a, b) ∧ (g, a, b) ∈ new := by
  obtain ⟨c, hc, hg⟩ := h
  cases hf : new.find? (·.1 == g) with
  | none => simpa [hg] using List.find?_eq_none.mp hf c hc
  | some c' =>
    obtain ⟨i, a, b⟩ := c'
    obtain rfl : i = g := by simpa using List.find?_some hf
    exact ⟨a, b, by simp [capOf, hf], List.mem_of_find?_eq_some hf⟩

theorem matchAt_group {s : Array Nat} {r : Re} {p : Nat} {st : St} (g : Nat)
    (h : matchAt s r p = some st) (hn : noLook r = true) (hm : mustCap g r = true) :
    ∃ a b, st.group g = some (a, b) ∧ p ≤ a ∧ a ≤ b ∧ b ≤ st.pos := by
  obtain ⟨_, new, e1, c1, m1⟩ := (matchAt_run h).ext g 0 hn (grpMin_zero g r)
  rw [List.append_nil] at e1
  obtain ⟨a, b, hf, hmem⟩ := capOf_new (m1 hm)
  have := c1 _ hmem
  exact ⟨a, b, by rw [St.group, e1, hf], this.1, this.2.1, this.2.2.1⟩

/-- `L = 0` with `grpMin_zero` gives the bare position fact. -/
theorem matchAt_group_opt {s : Array Nat} {r : Re} {p : Nat} {st : St} (g L : Nat) {a b : Nat}
    (h : matchAt s r p = some st) (hn : noLook r = true) (hl : grpMin g L r = true)
    (hg : st.group g = some (a, b)) : p ≤ a ∧ a + L ≤ b ∧ b ≤ st.pos := by
  obtain ⟨_, new, e1, c1, _⟩ := (matchAt_run h).ext g L hn hl
  rw [List.append_nil] at e1
  rw [St.group, e1] at hg
  have := c1 _ (capOf_mem hg)
  exact ⟨this.1, this.2.2.2 rfl, this.2.2.1⟩

end Rx
