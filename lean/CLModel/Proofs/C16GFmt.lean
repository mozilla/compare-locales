/-
Files printed as `pre(key) ++ value ++ post ++ ⏎` per record (`RFmt`).
What `serialize` returns for two such files, as TEXT: an optional leading newline followed by the printed expected
records (`out_text`; `out_text_oldOK` for any old entry list that is `OldOKF`).  The instances are `propsF` (`k=v`), `dtdF`
(`<!ENTITY k "v">`) in `C16GInst` and `incF` (`#define k v`) in `C16GInc`.
-/
import CLModel.Proofs.C16RProps
import CLModel.Proofs.C16GNoAdj
namespace C16G
open AR Ser C16L C16R
open P (PRec)

/-- the syntax of one record: the text before the value (a function of the key) and the text after it -/
structure RFmt where
  pre : List Nat → List Nat
  post : List Nat

/-- the entry-level view of the entity parsed from a printed record -/
def entF (F : RFmt) (r : PRec) : Ent :=
  { kind := .entity, key := r.1, val := r.2, all := F.pre r.1 ++ r.2 ++ F.post, pre := F.pre r.1, post := F.post }

/-- entries of a printed file: per record the entity and the white-space entry of its newline -/
def entsF (F : RFmt) (rs : List PRec) : List Ent := mkList (entF F) rs

def recText (F : RFmt) (r : PRec) : List Nat := F.pre r.1 ++ r.2 ++ F.post

def printF (F : RFmt) (rs : List PRec) : List Nat := (rs.map (fun r => recText F r ++ [10])).flatten

theorem ofEntry_rec (f : P.Fmt) (s : Array Nat) (off : Nat) (A B C : List Nat) (r : PRec) (rest : List Nat)
    (h : s.toList.drop off = A ++ (r.1 ++ (B ++ (r.2 ++ (C ++ 10 :: rest))))) :
    ofEntry f s { kind := .entity, full := off, s := off,
                  e := off + A.length + r.1.length + B.length + r.2.length + C.length,
                  ks := (off + A.length : Nat), ke := (off + A.length + r.1.length : Nat),
                  vs := (off + A.length + r.1.length + B.length : Nat),
                  ve := (off + A.length + r.1.length + B.length + r.2.length : Nat) }
      = entF { pre := fun k => A ++ k ++ B, post := C } r := by
  obtain ⟨hsz, hk, hv, hall, hpre, hpost⟩ := fields_slices s off A r.1 B r.2 C rest h
  unfold ofEntry entF
  simp only [P.Entry.all]
  rw [C16L.pySlice_nat s _ _ (by omega) (by omega), C16L.pySlice_nat s _ _ (by omega) (by omega),
    C16L.pySlice_nat s _ _ (by omega) (by omega), C16L.pySlice_nat s _ _ (by omega) (by omega),
    hk, hv, hall, hpre, hpost]

theorem entsF_cons (F : RFmt) (r : PRec) (rs : List PRec) : entsF F (r :: rs) = entF F r :: entW :: entsF F rs :=
  mkList_cons _ r rs

theorem map_ofEntry_records {σ β : Type} {S : C02P.GSpec σ β} {g : PRec → β} {pr : PRec → List Nat}
    {ent : Nat → PRec → P.Entry} {exp : Nat → List PRec → List P.Entry} {view : PRec → Option P.EntView} {Safe : PRec → Prop}
    (E : C02P.Embeds S g pr ent exp view Safe) (f : P.Fmt) (s : Array Nat) (F : RFmt)
    (Sf : PRec → Prop) (hpr : ∀ r, Sf r → pr r = recText F r ++ [10])
    (hr : ∀ off r rest, Sf r → s.toList.drop off = pr r ++ rest → ofEntry f s (ent off r) = entF F r) :
    ∀ (rs : List PRec) (off : Nat), (∀ r ∈ rs, Sf r) → s.toList.drop off = (rs.map pr).flatten →
      (exp off rs).map (ofEntry f s) = entsF F rs
  | [], off, _, _ => by rw [E.nil]; rfl
  | r :: rs, off, hs, h => by
    rw [List.map_cons, List.flatten_cons] at h
    have hl := E.len off r
    rw [hpr r (hs r (by simp))] at h hl
    obtain ⟨hnl, hd⟩ := record_step h hl
    rw [← hpr r (hs r (by simp))] at h
    rw [E.cons, List.map_cons, List.map_cons, entsF_cons, hr off r _ (hs r (by simp)) h, ofEntry_ws f s _ hnl,
      map_ofEntry_records E f s F Sf hpr hr rs _ (fun r' hr' => hs r' (by simp [hr'])) hd]

theorem mem_entsF {F : RFmt} {rs : List PRec} {e : Ent} (h : e ∈ entsF F rs) : e = entW ∨ ∃ r ∈ rs, e = entF F r := by
  unfold entsF mkList at h
  rw [List.mem_flatMap] at h
  obtain ⟨r, hr, he⟩ := h
  simp only [List.mem_cons, List.not_mem_nil, or_false] at he
  rcases he with rfl | rfl
  · exact .inr ⟨r, hr, rfl⟩
  · exact .inl rfl

theorem mem_entsF_of {F : RFmt} {rs : List PRec} {r : PRec} (h : r ∈ rs) : entF F r ∈ entsF F rs := by
  unfold entsF mkList
  rw [List.mem_flatMap]
  exact ⟨r, h, by simp⟩

theorem map_entsF (F : RFmt) (g : Ent → Ent) (hg : g entW = entW) (rs : List PRec) :
    ((entsF F rs).filter (fun e => !e.isJunk)).map g = mkList (fun r => g (entF F r)) rs := by
  induction rs with
  | nil => rfl
  | cons r rs ih =>
    rw [entsF_cons, mkList_cons]
    have h1 : (fun e : Ent => !e.isJunk) (entF F r) = true := rfl
    have h2 : (fun e : Ent => !e.isJunk) entW = true := rfl
    simp only [List.filter_cons, h1, h2, if_true, List.map_cons, hg]
    rw [ih]

theorem d0F_eq (F : RFmt) (rs : List PRec) (hn : (rs.map (·.1)).Nodup) :
    d0Of (entsF F rs) = recPairs 0 (fun r => placeholder (entF F r)) 0 rs := by
  unfold d0Of plOf
  rw [map_entsF F placeholder rfl]
  apply parseResource_mkList _ _ _ rs hn
  intro r
  exact ⟨rfl, rfl, rfl⟩

theorem alt_d0F (F : RFmt) (rs : List PRec) (hn : (rs.map (·.1)).Nodup) : Alt wsKey (dkeys (d0Of (entsF F rs))) := by
  rw [d0F_eq F rs hn]
  exact alt_recPairs 0 _ rs 0

theorem sanOf_entF (F : RFmt) (ref : List Ent) (nd : NewData) (r : PRec) :
    sanOf ref nd (entF F r) = entF F r ∨ sanOf ref nd (entF F r) = mkPlaceholder r.1 := by
  unfold sanOf
  split
  · exact .inr rfl
  · exact .inl rfl

theorem sanOf_entW (ref : List Ent) (nd : NewData) : sanOf ref nd entW = entW := by
  unfold sanOf shouldPlaceholder; rfl

theorem d1F_eq (F : RFmt) (ref : List Ent) (nd : NewData) (rs : List PRec) (hn : (rs.map (·.1)).Nodup) :
    d1Of ref (entsF F rs) nd = recPairs 1 (fun r => sanOf ref nd (entF F r)) 0 rs := by
  unfold d1Of
  rw [osOf_eq, map_entsF F (sanOf ref nd) (sanOf_entW ref nd)]
  apply parseResource_mkList _ _ _ rs hn
  intro r
  rcases sanOf_entF F ref nd r with h | h <;> rw [h] <;> exact ⟨rfl, rfl, rfl⟩

theorem alt_d1F (F : RFmt) (ref : List Ent) (rs : List PRec) (nd : NewData) (hn : (rs.map (·.1)).Nodup) :
    Alt wsKey (dkeys (d1Of ref (entsF F rs) nd)) := by
  rw [d1F_eq F ref nd rs hn]
  exact alt_recPairs 1 _ rs 0

/-- what the proofs need of the OLD entry list `oldE` holding the records `oldRecs` (instances: a printed file; a printed
    file after one leading newline) -/
structure OldOKF (F : RFmt) (ref : List Ent) (nd : NewData) (oldE : List Ent) (oldRecs : List PRec) : Prop where
  alt : Alt wsKey (dkeys (d1Of ref oldE nd))
  mem : ∀ e ∈ oldE, e = entW ∨ ∃ r ∈ oldRecs, e = entF F r
  entry : ∀ s, oldEntry oldE s = (oldRecs.find? (fun o => o.1 == s)).map (entF F)

theorem alt_outF (F : RFmt) (refRecs : List PRec) (nd : NewData) (oldE : List Ent) (oldRecs : List PRec)
    (hrk : (refRecs.map (·.1)).Nodup) (ho : OldOKF F (entsF F refRecs) nd oldE oldRecs) :
    Alt Ent.isWs (serializeEnts (entsF F refRecs) oldE nd) :=
  serializeEnts_alt _ _ _ (alt_d0F F refRecs hrk) ho.alt

/-- a one-newline white-space entry, or an entity whose text is the printed record of its key and value -/
def GoodF (F : RFmt) (Sf : PRec → Prop) (e : Ent) : Prop :=
  (e.isWs = true ∧ e.all = [10]) ∨
  (e.isWs = false ∧ e.isReal = true ∧ Sf (recOf e) ∧ e.all = recText F (recOf e))

/-- every entry of the output is good, or one of the other entries `Oth` of the reference or the old list (none for the formats
    of this file; the section header for `.ini`): an output entry is a wrapped new value, an old entry or a reference entry
    that is no entity (`nothing_foreign`) -/
theorem good_out (F : RFmt) (Sf : PRec → Prop) (Oth : Ent → Prop) (ref oldE : List Ent) (refRecs oldRecs : List PRec)
    (nd : NewData) (hoth : ∀ e, Oth e → e.isEntity = false)
    (href : ∀ e ∈ ref, Oth e ∨ e = entW ∨ ∃ r ∈ refRecs, e = entF F r)
    (hmem : ∀ e ∈ oldE, Oth e ∨ e = entW ∨ ∃ r ∈ oldRecs, e = entF F r)
    (hold : ∀ r ∈ oldRecs, Sf r)
    (hv : ∀ r ∈ refRecs, ∀ v, (r.1, some v) ∈ nd → Sf (r.1, v)) :
    ∀ e ∈ serializeEnts ref oldE nd, Oth e ∨ GoodF F Sf e := by
  intro e he
  obtain ⟨_, _, h⟩ := C16L.nothing_foreign _ _ nd e he
  rcases h with h | ⟨h, _⟩ | ⟨h, hne⟩
  · right
    obtain ⟨_, _, v, r, hm, hr, rfl⟩ := mem_nl (ref := ref) h
    obtain ⟨hrm, hre, hrk⟩ := refMapping_some hr
    rcases href r hrm with ho | rfl | ⟨r', hr', rfl⟩
    · rw [hoth r ho] at hre; cases hre
    · exact absurd hre (by decide)
    · have hk : (wrap (entF F r') v).key = r'.1 := rfl
      rw [hk] at hm
      exact .inr ⟨rfl, rfl, hv r' hr' v hm, rfl⟩
  · rcases hmem _ h with ho | rfl | ⟨r', hr', rfl⟩
    · exact .inl ho
    · exact .inr (.inl ⟨rfl, rfl⟩)
    · exact .inr (.inr ⟨rfl, rfl, hold r' hr', rfl⟩)
  · rcases href _ h with ho | rfl | ⟨r', _, rfl⟩
    · exact .inl ho
    · exact .inr (.inl ⟨rfl, rfl⟩)
    · exact absurd hne (by simp [entF, Ent.isEntity])

theorem good_outF (F : RFmt) (Sf : PRec → Prop) (refRecs : List PRec) (nd : NewData) (oldE : List Ent) (oldRecs : List PRec)
    (ho : OldOKF F (entsF F refRecs) nd oldE oldRecs)
    (hold : ∀ r ∈ oldRecs, Sf r)
    (hv : ∀ r ∈ refRecs, ∀ v, (r.1, some v) ∈ nd → Sf (r.1, v)) :
    ∀ e ∈ serializeEnts (entsF F refRecs) oldE nd, GoodF F Sf e := fun e he =>
  (good_out F Sf (fun _ => False) _ oldE refRecs oldRecs nd (fun _ h => h.elim) (fun _ h => .inr (mem_entsF h))
    (fun e h => .inr (ho.mem e h)) hold hv e he).resolve_left id

theorem safe_recordsF (F : RFmt) (Sf : PRec → Prop) (out : List Ent) (hg : ∀ e ∈ out, GoodF F Sf e) :
    ∀ r ∈ (out.filter Ent.isReal).map recOf, Sf r := by
  intro r hr
  rw [List.mem_map] at hr
  obtain ⟨e, he, rfl⟩ := hr
  rw [List.mem_filter] at he
  rcases hg e he.1 with ⟨hw1, _⟩ | ⟨_, _, hs, _⟩
  · rw [isWs_not_real hw1] at he; exact absurd he.2 (by simp)
  · exact hs

theorem strKeys_entsF (F : RFmt) (rs : List PRec) :
    (((entsF F rs).filter (fun e => !e.isJunk)).filter strKeyed).map (·.key) = rs.map (·.1) := by
  induction rs with
  | nil => rfl
  | cons r rs ih =>
    rw [entsF_cons]
    have h1 : (fun e : Ent => !e.isJunk) (entF F r) = true := rfl
    have h2 : (fun e : Ent => !e.isJunk) entW = true := rfl
    have h3 : strKeyed (entF F r) = true := rfl
    have h4 : strKeyed entW = false := rfl
    simp only [List.filter_cons, h1, h2, h3, h4, if_true, Bool.false_eq_true, if_false, List.map_cons]
    rw [ih]
    rfl

theorem refKeys_entsF (F : RFmt) (rs : List PRec) (hn : (rs.map (·.1)).Nodup) : refKeys (entsF F rs) = rs.map (·.1) := by
  unfold refKeys
  rw [strKeys_entsF, firstOcc_of_nodup _ hn]

theorem entities_entsF (F : RFmt) (rs : List PRec) : (entsF F rs).filter Ent.isEntity = rs.map (entF F) := by
  induction rs with
  | nil => rfl
  | cons r rs ih =>
    rw [entsF_cons]
    have h1 : (entF F r).isEntity = true := rfl
    have h2 : entW.isEntity = false := rfl
    simp only [List.filter_cons, h1, h2, if_true, Bool.false_eq_true, if_false, List.map_cons, ih]

theorem refMapping_entsF (F : RFmt) (rs : List PRec) (hn : (rs.map (·.1)).Nodup) (r : PRec) (hr : r ∈ rs) :
    dget (refMapping (entsF F rs)) r.1 = some (entF F r) := by
  rw [refMapping_get, entities_entsF]
  apply lastMatch_unique (List.mem_map.2 ⟨r, hr, rfl⟩) (by simp [entF])
  intro y hy hk
  rw [List.mem_map] at hy
  obtain ⟨r', hr', rfl⟩ := hy
  have : r'.1 = r.1 := by simpa [entF] using hk
  rw [Txt.eq_of_nodup_map hn hr' hr this]

theorem oldEntry_entsF (F : RFmt) (rs : List PRec) (hn : (rs.map (·.1)).Nodup) (s : List Nat) :
    oldEntry (entsF F rs) s = (rs.find? (fun o => o.1 == s)).map (entF F) := by
  unfold oldEntry
  cases hf : rs.find? (fun o => o.1 == s) with
  | none =>
    rw [Option.map_none, lastMatch_eq_none_iff]
    intro e he
    rcases mem_entsF (List.mem_filter.1 he).1 with rfl | ⟨r', hr', rfl⟩
    · rfl
    · have := List.find?_eq_none.1 hf r' hr'
      simp only [beq_iff_eq] at this
      simp [strKeyed, entF, Ent.isComment, Ent.isWs, this]
  | some o =>
    have ho := List.mem_of_find?_eq_some hf
    have hk : o.1 = s := by simpa using List.find?_some hf
    rw [Option.map_some]
    apply lastMatch_unique
    · rw [List.mem_filter]
      exact ⟨mem_entsF_of ho, rfl⟩
    · simp [strKeyed, entF, Ent.isComment, Ent.isWs, hk]
    · intro y hy hp
      rcases mem_entsF (List.mem_filter.1 hy).1 with rfl | ⟨r', hr', rfl⟩
      · simp [strKeyed, entW, Ent.isComment, Ent.isWs] at hp
      · have : r'.1 = s := by simpa [strKeyed, entF, Ent.isComment, Ent.isWs] using hp
        rw [Txt.eq_of_nodup_map hn hr' ho (this.trans hk.symm)]

theorem chosen_entsF (F : RFmt) (refRecs : List PRec) (nd : NewData) (oldE : List Ent) (oldRecs : List PRec)
    (hrk : (refRecs.map (·.1)).Nodup) (ho : OldOKF F (entsF F refRecs) nd oldE oldRecs) (r : PRec) (hr : r ∈ refRecs) :
    (chosen (entsF F refRecs) oldE nd r.1).map recOf = expectedRec oldRecs nd r := by
  have hrm := refMapping_entsF F refRecs hrk r hr
  have hkn : known (entsF F refRecs) r.1 = true := by rw [known_iff, hrm]; rfl
  unfold chosen newValue expectedRec removed
  rw [hrm, ho.entry, hkn]
  cases hd : dget nd r.1 with
  | none =>
    simp only
    cases hf : oldRecs.find? (fun o => o.1 == r.1) with
    | none => rfl
    | some o =>
      have hk : o.1 = r.1 := by simpa using List.find?_some hf
      simp [entF, Ent.isReal, recOf]
  | some ov =>
    cases ov with
    | none =>
      simp only
      cases oldRecs.find? (fun o => o.1 == r.1) <;> simp
    | some v => simp [wrap, entF, recOf]

theorem out_recordsF (F : RFmt) (refRecs : List PRec) (nd : NewData) (oldE : List Ent) (oldRecs : List PRec)
    (hrk : (refRecs.map (·.1)).Nodup) (ho : OldOKF F (entsF F refRecs) nd oldE oldRecs) (hnd : (nd.map (·.1)).Nodup) :
    ((serializeEnts (entsF F refRecs) oldE nd).filter Ent.isReal).map recOf
      = expectedRecs refRecs oldRecs nd := by
  rw [C16L.serialized_entities _ _ _ hnd, refKeys_entsF F refRecs hrk, List.map_filterMap, List.filterMap_map]
  unfold expectedRecs
  apply Txt.filterMap_congr'
  intro r hr
  exact chosen_entsF F refRecs nd oldE oldRecs hrk ho r hr

theorem oldOK_entsF (F : RFmt) (ref : List Ent) (nd : NewData) (oldRecs : List PRec) (hok : (oldRecs.map (·.1)).Nodup) :
    OldOKF F ref nd (entsF F oldRecs) oldRecs where
  alt := alt_d1F F ref oldRecs nd hok
  mem := fun _ he => mem_entsF he
  entry := oldEntry_entsF F oldRecs hok

theorem d1_lead (F : RFmt) (ref : List Ent) (nd : NewData) (rs : List PRec) (hn : (rs.map (·.1)).Nodup) :
    d1Of ref (entW :: entsF F rs) nd = (MKey.ws 1 0, entW) :: recPairs 1 (fun r => sanOf ref nd (entF F r)) 1 rs := by
  have hX : ∀ r, (sanOf ref nd (entF F r)).isComment = false ∧ (sanOf ref nd (entF F r)).isWs = false ∧
      (sanOf ref nd (entF F r)).key = r.1 := by
    intro r
    rcases sanOf_entF F ref nd r with h | h <;> rw [h] <;> exact ⟨rfl, rfl, rfl⟩
  unfold d1Of
  rw [osOf_eq]
  have h2 : (fun e : Ent => !e.isJunk) entW = true := rfl
  simp only [List.filter_cons, h2, if_true]
  rw [List.map_cons, sanOf_entW, map_entsF F (sanOf ref nd) (sanOf_entW ref nd)]
  unfold parseResource mkDict
  rw [pairsOf_entW, pairsOf_mkList 1 _ hX]
  apply mkDict_of_nodup
  simp only [List.map_cons, List.nodup_cons, Nat.zero_add]
  exact ⟨ws_not_mem_recPairs 1 _ rs 1 (by omega), recPairs_keys_nodup 1 _ rs 1 hn⟩

/-- a printed old file after one leading newline (what re-parsing an output with a leading blank line yields) -/
theorem oldOK_lead (F : RFmt) (ref : List Ent) (nd : NewData) (oldRecs : List PRec) (hok : (oldRecs.map (·.1)).Nodup) :
    OldOKF F ref nd (entW :: entsF F oldRecs) oldRecs where
  alt := by
    rw [d1_lead F ref nd oldRecs hok]
    exact alt_cons_ws rfl (alt_recPairs 1 _ oldRecs 1)
  mem := by
    intro e he
    rcases List.mem_cons.1 he with rfl | he
    · exact .inl rfl
    · exact mem_entsF he
  entry := by
    intro s
    rw [← oldEntry_entsF F oldRecs hok s]
    unfold oldEntry
    have h2 : (fun e : Ent => !e.isJunk) entW = true := rfl
    simp only [List.filter_cons, h2, if_true]
    exact lastMatch_cons_false _ _ _ rfl

theorem text_of_alt (F : RFmt) (Sf : PRec → Prop) : ∀ out : List Ent, Alt Ent.isWs out → NoAdj Ent.isWs out →
    (∀ e ∈ out, GoodF F Sf e) →
    serializeLegacy out = (if hw Ent.isWs out then [10] else []) ++ printF F ((out.filter Ent.isReal).map recOf) := by
  intro out
  induction out with
  | nil => intro _ _ _; rfl
  | cons e rest ih =>
    intro ha hn hg
    obtain ⟨hn1, hn2⟩ := (noAdj_cons _ _ _).1 hn
    have ih' := ih (alt_tail ha) hn2 (fun x hx => hg x (List.mem_cons_of_mem _ hx))
    have hsl : serializeLegacy (e :: rest) = e.all ++ serializeLegacy rest := by simp [serializeLegacy]
    rcases hg e List.mem_cons_self with ⟨hw1, hall⟩ | ⟨hw1, hr, _, hall⟩
    · -- a newline; the next entry is not white space
      have hrest : hw Ent.isWs rest = false := by
        cases rest with
        | nil => rfl
        | cons y t =>
          cases hy : y.isWs with
          | false => simpa [hw] using hy
          | true => exact absurd ⟨hw1, hy⟩ (hn1 y rfl)
      rw [hsl, hall, ih', hrest, List.filter_cons_of_neg (by simp [isWs_not_real hw1])]
      simp [hw, hw1]
    · have hh := hw_of_alt ha hw1
      rw [hsl, hall, ih', hh, List.filter_cons_of_pos hr, List.map_cons]
      simp [hw, hw1, printF]

theorem out_text_oldOK (F : RFmt) (Sf : PRec → Prop) (refRecs : List PRec) (nd : NewData) (oldE : List Ent) (oldRecs : List PRec)
    (ho : OldOKF F (entsF F refRecs) nd oldE oldRecs)
    (hold : ∀ r ∈ oldRecs, Sf r)
    (hrk : (refRecs.map (·.1)).Nodup) (hnd : (nd.map (·.1)).Nodup)
    (hv : ∀ r ∈ refRecs, ∀ v, (r.1, some v) ∈ nd → Sf (r.1, v)) :
    serializeOut (entsF F refRecs) oldE nd
      = (if hw Ent.isWs (serializeEnts (entsF F refRecs) oldE nd) then [10] else [])
        ++ printF F (expectedRecs refRecs oldRecs nd) ∧
    ∀ r ∈ expectedRecs refRecs oldRecs nd, Sf r := by
  have hg := good_outF F Sf refRecs nd oldE oldRecs ho hold hv
  have ha := alt_outF F refRecs nd oldE oldRecs hrk ho
  have hn := noAdj_serializeEnts (entsF F refRecs) oldE nd
  have ht := text_of_alt F Sf _ ha hn hg
  have hs := safe_recordsF F Sf _ hg
  rw [out_recordsF F refRecs nd oldE oldRecs hrk ho hnd] at ht hs
  exact ⟨ht, hs⟩

theorem out_text (F : RFmt) (Sf : PRec → Prop) (refRecs oldRecs : List PRec) (nd : NewData)
    (hold : ∀ r ∈ oldRecs, Sf r)
    (hrk : (refRecs.map (·.1)).Nodup) (hok : (oldRecs.map (·.1)).Nodup) (hnd : (nd.map (·.1)).Nodup)
    (hv : ∀ r ∈ refRecs, ∀ v, (r.1, some v) ∈ nd → Sf (r.1, v)) :
    serializeOut (entsF F refRecs) (entsF F oldRecs) nd
      = (if hw Ent.isWs (serializeEnts (entsF F refRecs) (entsF F oldRecs) nd) then [10] else [])
        ++ printF F (expectedRecs refRecs oldRecs nd) ∧
    ∀ r ∈ expectedRecs refRecs oldRecs nd, Sf r :=
  out_text_oldOK F Sf refRecs nd _ oldRecs (oldOK_entsF F _ nd oldRecs hok) hold hrk hnd hv

end C16G
