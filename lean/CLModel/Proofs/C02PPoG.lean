/- C02, PO: garbage locality — garbage lines in front of any block (also a comment whose text contains `msgid …`,
   e.g. the previous-source lines `#| msgid "old"`) and at the end of the file. -/
import CLModel.Proofs.C02PPo
import CLModel.Proofs.C02PGen
namespace C02P
open Rx P Gen.Pat C02X

/-- an inert garbage line and the white-space after it: the line is non-empty, without `m` (so that `msgid` / `msgctxt` start
    nowhere inside), without `#` and newline, not starting with white-space or a quote (a quoted text would continue the
    string list before it); non-empty white-space follows -/
structure PoGarbage (g gap : List Nat) : Prop where
  ne : g ≠ []
  chars : ∀ c ∈ g, c ≠ 109 ∧ c ≠ 35 ∧ c ≠ 10
  head : ∀ c, g.head? = some c → isWs c = false ∧ c ≠ 34
  gap_ne : gap ≠ []
  gap : ∀ c ∈ gap, isWs c = true

theorem po_key_none_at (s : Array Nat) (p : Nat) (l : List Nat) (h : At s p l) (hl : l.head? ≠ some 109) :
    matchAt s PoParser_reKey p = none := by
  simp only [matchAt, PoParser_reKey, m_seq_def]
  exact lit_at_fail h hl [] _

theorem po_start_match (s : Array Nat) (e : Nat) (b : PoBlock) (rest : List Nat) (hg : b.Good')
    (h : At s e (b.print ++ rest)) : ∃ r ∈ poCfg.junkExps, (matchAt s r e).isSome := by
  cases b with
  | record r =>
    have hg' : r.Good := hg
    have h1 : At s e (printComment r.comment ++ (r.cgap ++ (r.body ++ (r.gap ++ rest)))) := by
      simpa [At, PoBlock.print, PoRec.print] using h
    by_cases hne : r.comment = []
    · have h3 : At s e (r.body ++ (r.gap ++ rest)) := by simpa [At, hne, hg'.cgap_nil hne] using h1
      obtain ⟨km, hkm⟩ := po_key_body s e r _ h3
      exact ⟨PoParser_reKey, by simp [poCfg], by rw [hkm]; rfl⟩
    · exact ⟨PoParser_reComment, by simp [poCfg], by
        rw [po_comment_at s e r.comment _ hne hg'.comment (head?_ws_ne rfl hg'.cgap (fun _ => by rw [r.body_head]; simp)) h1]
        rfl⟩
  | free cs gap =>
    obtain ⟨g1, g2, g3, g4⟩ := hg
    have h' : At s e (printComment cs ++ (gap ++ rest)) := by simpa [At, PoBlock.print] using h
    exact ⟨PoParser_reComment, by simp [poCfg], by
      rw [po_comment_at s e cs _ g1 g2 (head?_ws_ne rfl g3 (fun e => by rw [e] at g4; simp at g4)) h']
      rfl⟩

theorem po_junk_at (s : Array Nat) (p : Nat) (g gap rest : List Nat) (hg : PoGarbage g gap)
    (hnext : rest = [] ∨ ∃ r ∈ poCfg.junkExps, (matchAt s r (p + g.length + gap.length)).isSome)
    (h : At s p (g ++ (gap ++ rest))) : poGetNext s p = junkEntry p (p + g.length + gap.length) := by
  have h' : At s p ((g ++ gap) ++ rest) := by simpa [At] using h
  -- neither `m` nor `#` on the line or in the white-space, so neither expression starts there
  have hno : ∀ r ∈ poCfg.junkExps, ∀ q, p ≤ q → q < p + (g ++ gap).length → matchAt s r q = none := by
    intro r hr q h1 h2
    obtain ⟨a, t, ha, hat⟩ := h'.inside h1 h2
    have hm : a ≠ 109 ∧ a ≠ 35 := by
      rcases List.mem_append.mp ha with hm | hm
      · exact ⟨(hg.chars a hm).1, (hg.chars a hm).2.1⟩
      · have := hg.gap a hm
        exact ⟨by rintro rfl; exact absurd this (by decide), by rintro rfl; exact absurd this (by decide)⟩
    simp only [poCfg, List.mem_cons, List.not_mem_nil, or_false] at hr
    rcases hr with rfl | rfl
    · exact po_key_none_at s q _ hat (by simp [hm.1])
    · exact po_comment_none_at s q _ (by simp [hm.2]) hat
  have hgl : 0 < g.length := List.length_pos_iff.mpr hg.ne
  have hp : p < p + (g ++ gap).length := by simp; omega
  have hj := getJunk_over poCfg.junkExps (by decide) (by simp [hg.ne]) (fun r hr q h1 h2 => hno r hr q (by omega) h2)
    (by simpa [Nat.add_assoc] using hnext) h'
  rw [poGetNext_eq_skel, skel_other (hno PoParser_reComment (by simp [poCfg]) p (Nat.le_refl _) hp)
    (ws_none_at h (fun c hc => (hg.head c (by rwa [head?_app_ne hg.ne] at hc)).1))
    (hno PoParser_reKey (by simp [poCfg]) p (Nat.le_refl _) hp)]
  exact hj.trans (by rw [List.length_append, Nat.add_assoc])

def poSpec : GSpec Unit PoBlock where
  f := .po
  next := fun s _ off => (poGetNext s off, ())
  c0 := ()
  pr := PoBlock.print
  en := fun off _ b => b.entries off
  tr := fun c _ => c
  vw := PoBlock.views
  Good' := fun _ b => b.Good'
  Lic := fun off b => match b with | .record r => r.NoLicense off | .free _ _ => True
  Garb := fun _ g gap => PoGarbage g gap
  JOk := fun _ => True
  Follow := PoFollow
  Inv := fun _ _ => True

theorem poSpec_laws : poSpec.Laws where
  walk_def := fun _ => rfl
  inv0 := fun _ => trivial
  follow_nil := by intro c hc; cases hc
  block_walk := fun s b _ off rest hg hl h hfo _ =>
    ⟨po_walks_block s off b rest hg (fun r e => by subst e; exact hl) hfo h, trivial⟩
  block_follow := fun _ b rest hg => poFollow_block b hg rest
  block_views := fun s b _ off rest hg h hfo => po_views_block s off b rest hg hfo h
  junk_at := by
    intro s _ p g gap rest hg h _ hnext
    refine ⟨?_, trivial⟩
    have : poGetNext s p = junkEntry p (p + g.length + gap.length) := by
      apply po_junk_at s p g gap rest hg _ h
      rcases hnext with rfl | ⟨b, rest', rfl, hb, _, _⟩
      · exact Or.inl rfl
      · exact Or.inr (po_start_match s _ b rest' hb h.app.app)
    show (poGetNext s p, ()) = _
    rw [this]
  garb_follow := by
    intro _ g gap rest hg c hc
    cases hgg : g with
    | nil => exact absurd hgg hg.ne
    | cons a t =>
      rw [hgg] at hc; simp at hc; subst hc
      exact hg.head a (by rw [hgg]; rfl)
  garb_pos := fun _ g gap hg => List.length_pos_iff.mpr hg.ne
  gap_pos := fun _ g gap hg => List.length_pos_iff.mpr hg.gap_ne
  len2 := fun _ b hb => b.print_len hb
  lic2 := fun off b h => by
    cases b with
    | record r => intro hlt; omega
    | free cs gap => trivial

end C02P
