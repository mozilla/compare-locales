/-
The serializer keeps the shape "every entry that is not whitespace is directly followed by a whitespace
entry" — the flat sequence along the key diff has it, and the white-space fold keeps it (`serializeEnts_alt`); the last fold
leaves no two white-space entries side by side (`noAdj_serializeEnts`).  And when both
dicts start with the same entry, so does the output (`serializeEnts_head`: the section header of `.ini`).
-/
import CLModel.Proofs.C16RAlt
import CLModel.Proofs.C16Ser
import CLModel.Proofs.C16Cor
import CLModel.Proofs.C16GNoAdj
namespace C16R
open AR Ser C16L C16G

def wsKey : MKey → Bool
  | .ws _ _ => true
  | _ => false

theorem keyOK_wsKey {p : MKey × Ent} (h : keyOK p = true) : wsKey p.1 = p.2.isWs := by
  obtain ⟨k, e⟩ := p
  cases k with
  | str s =>
    simp only [keyOK, Bool.and_eq_true, strKeyed, Bool.not_eq_true'] at h
    simp [wsKey, h.1.2]
  | cmt v n =>
    simp only [keyOK, Bool.and_eq_true] at h
    simp [wsKey, isComment_not_ws h.1]
  | ws a b =>
    simp only [keyOK] at h
    simp [wsKey, h]

theorem mem_dkeys {d : Dict} {k : MKey} (h : k ∈ dkeys d) : ∃ e, (k, e) ∈ d := by
  rw [List.mem_map] at h
  obtain ⟨p, hp, rfl⟩ := h
  exact ⟨p.2, hp⟩

theorem alt_olderPairs (N O : Dict) (hN : (dkeys N).Nodup) (hO : (dkeys O).Nodup)
    (hNok : ∀ p ∈ N, keyOK p = true) (hOok : ∀ p ∈ O, keyOK p = true)
    (hdis : ∀ k ∈ dkeys O, k ∈ dkeys N → wsKey k = false)
    (hNa : Alt wsKey (dkeys N)) (hOa : Alt wsKey (dkeys O)) : Alt pIsWs (olderPairs N O) := by
  unfold olderPairs
  apply alt_filterMap (w := wsKey)
  · intro k hk hwk
    have hmem : k ∈ dkeys N ∨ k ∈ dkeys O := by
      have := (addRemove_keys_perm _ _ hN hO).mem_iff.1 hk
      rw [List.mem_append] at this
      rcases this with h | h
      · exact .inl h
      · exact .inr (List.mem_filter.1 h).1
    have hsome : ∃ e, getOlder N O k = some e := by
      rcases hmem with h | h
      · exact getOlder_of_left h
      · obtain ⟨e, he⟩ := mem_dkeys h
        have hg : dget O k = some e := dget_of_mem hO he
        have hws : e.isWs = true := by rw [← keyOK_wsKey (hOok _ he)]; exact hwk
        exact ⟨e, by simp [getOlder, hg, isWs_not_sticky hws]⟩
    obtain ⟨e, he⟩ := hsome
    refine ⟨(k, e), by rw [he]; rfl, ?_⟩
    have hok : keyOK (k, e) = true := by
      rcases getOlder_mem he with h | h
      · exact hNok _ h
      · exact hOok _ h
    show e.isWs = true
    rw [← keyOK_wsKey hok]; exact hwk
  · exact alt_addRemove wsKey _ _ hN hO hdis hNa hOa

theorem alt_dkeys (d : Dict) (hok : ∀ p ∈ d, keyOK p = true) (h : Alt pIsWs d) : Alt wsKey (dkeys d) := by
  apply alt_map (w := pIsWs) _ _ _ h
  intro p hp hws
  rw [keyOK_wsKey (hok p hp)]; exact hws

theorem pairsOf_ws_src (src : Nat) (cnt : List (List Nat × Nat)) (i : Nat) (es : List Ent) :
    ∀ p ∈ pairsOf src cnt i es, ∀ a b, p.1 = MKey.ws a b → a = src := by
  induction es generalizing cnt i with
  | nil => simp [pairsOf]
  | cons e es ih =>
    intro p hp a b hk
    unfold pairsOf at hp
    split at hp
    · rw [List.mem_cons] at hp
      rcases hp with rfl | hp
      · simp at hk
      · exact ih _ _ p hp a b hk
    · split at hp
      · rw [List.mem_cons] at hp
        rcases hp with rfl | hp
        · simp only [MKey.ws.injEq] at hk; exact hk.1.symm
        · exact ih _ _ p hp a b hk
      · rw [List.mem_cons] at hp
        rcases hp with rfl | hp
        · simp at hk
        · exact ih _ _ p hp a b hk

theorem parseResource_ws_src (src : Nat) (es : List Ent) :
    ∀ k ∈ dkeys (parseResource src es), ∀ a b, k = MKey.ws a b → a = src := by
  intro k hk a b e
  obtain ⟨x, hx⟩ := mem_dkeys hk
  unfold parseResource mkDict at hx
  rcases mem_foldl_dset hx with h | h
  · simp at h
  · exact pairsOf_ws_src src [] 0 es _ h a b e

theorem serializeEnts_alt (ref old : List Ent) (nd : NewData)
    (h0 : Alt wsKey (dkeys (d0Of ref))) (h1 : Alt wsKey (dkeys (d1Of ref old nd))) :
    Alt Ent.isWs (serializeEnts ref old nd) := by
  have hop : Alt pIsWs (olderPairs (d0Of ref) (d1Of ref old nd)) := by
    apply alt_olderPairs _ _ (d0_nodup ref) (d1_nodup ref old nd) (d0_keyOK ref) (d1_keyOK ref old nd) _ h0 h1
    intro k hk1 hk0
    cases k with
    | str s => rfl
    | cmt v n => rfl
    | ws a b =>
      have e0 := parseResource_ws_src 0 _ _ hk0 a b rfl
      have e1 := parseResource_ws_src 1 _ _ hk1 a b rfl
      omega
  rw [serializeEnts_fold]
  apply alt_fold_none
  -- the override leaves white space alone, and no white space is a placeholder
  refine alt_filter _ _ (fun e _ hws => by simp [isWs_not_ph hws]) (alt_map (w := pIsWs) _ _ ?_ hop)
  intro p hp hws
  show (pick (d2Of ref nd) p.1 p.2).isWs = true
  unfold pick
  rw [d2_get_nonstr ref nd _ (keyOK_ws (olderPairs01_keyOK ref old nd p hp) hws)]
  exact hws

theorem noAdj_prunePlaceholders (es : List Ent) : NoAdj Ent.isWs (prunePlaceholders es) := by
  rw [prunePlaceholders_fold]
  exact noAdj_fold _ _ _ none

theorem noAdj_serializeEnts (ref old : List Ent) (nd : NewData) :
    NoAdj Ent.isWs (serializeEnts ref old nd) := by
  rw [serializeEnts_eq]
  exact noAdj_prunePlaceholders _

theorem serializeEnts_head (ref old : List Ent) (nd : NewData) (k : MKey) (S : Ent) (d0' : Dict)
    (h0 : d0Of ref = (k, S) :: d0')
    (h1 : d1Of ref old nd = [] ∨ ∃ d1', d1Of ref old nd = (k, S) :: d1')
    (hnw : S.isWs = false) (hst : S.isSticky = false) (hph : S.isPlaceholder = false)
    (h2 : dget (d2Of ref nd) k = none) :
    ∃ P rest, olderPairs (d0Of ref) (d1Of ref old nd) = (k, S) :: P ∧ serializeEnts ref old nd = S :: rest ∧
      rest.Sublist (P.map (pickPair (d2Of ref nd))) := by
  have hD0 := d0_nodup ref
  have hD1 := d1_nodup ref old nd
  obtain ⟨K, hK⟩ : ∃ K, (addRemove (dkeys (d0Of ref)) (dkeys (d1Of ref old nd))).map (·.2) = k :: K := by
    have hn : (k :: dkeys d0').Nodup := by
      have := hD0
      rw [h0] at this
      exact this
    have hd : dkeys (d0Of ref) = k :: dkeys d0' := by rw [h0]; rfl
    rw [hd]
    apply addRemove_head k _ _ hn hD1
    intro x hx
    rcases h1 with h1 | ⟨d1', h1⟩
    · rw [h1] at hx; simp [dkeys] at hx
    · rw [h1] at hx
      simp only [dkeys, List.map_cons, List.head?_cons, Option.some.injEq] at hx
      subst hx
      simp
  have hget : getOlder (d0Of ref) (d1Of ref old nd) k = some S := by
    unfold getOlder
    rcases h1 with h1 | ⟨d1', h1⟩
    · rw [h1, h0]; simp [dget]
    · rw [h1]; simp [dget, hst]
  obtain ⟨P, hP⟩ : ∃ P, olderPairs (d0Of ref) (d1Of ref old nd) = (k, S) :: P := by
    unfold olderPairs
    rw [hK, List.filterMap_cons, hget]
    exact ⟨_, rfl⟩
  have hS : pickPair (d2Of ref nd) (k, S) = S := by unfold pickPair pick; rw [h2]
  refine ⟨P, fold Ent.isWs aLen none ((P.map (pickPair (d2Of ref nd))).filter (fun e => !e.isPlaceholder)), hP, ?_,
    (fold_sub Ent.isWs aLen _).trans List.filter_sublist⟩
  rw [serializeEnts_fold, flatOut, hP, List.map_cons, hS, List.filter_cons_of_pos (by simp [hph])]
  exact fold_nws Ent.isWs aLen none S _ hnw

end C16R
