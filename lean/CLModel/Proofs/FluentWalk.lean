/- Facts about the model of `FluentParser.walk`: junk trimming stays inside the junk span,
   the localizable view is a filter. -/
import CLModel.Parser.Fluent
import CLModel.Proofs.RxLemmas
import CLModel.Proofs.RxStar
import CLModel.Proofs.Walk
namespace P
open Rx Gen.Pat

/-- the class `[ \t\r\n]` of the two junk-trimming regexes `parser_fluent_FluentParser_walk_0` / `_1` -/
def wsItems : List ClsItem := [.ch 32, .ch 9, .ch 13, .ch 10]

theorem inC_ws (c : Nat) : inC false wsItems c = (c == 32 || c == 9 || c == 13 || c == 10) := by
  simp [inC, wsItems, ClsItem.has, Bool.or_assoc]

theorem lead_le (content : Array Nat) (p c : Nat) (hp : content[p]? = some c)
    (hc : inC false wsItems c = false) :
    (match matchAt content parser_fluent_FluentParser_walk_0 0 with | some st => st.pos | none => 0) ≤ p := by
  split
  · rename_i st hm
    obtain ⟨j, _, h2, h3⟩ := star_cls_some content false wsItems 0 some st (by omega) hm
    have := run_stop content false wsItems p c hp hc (content.size + 2 - 0) 0 (by omega)
    simp at h3; subst h3
    simp only
    omega
  · omega

theorem trail_le (content : Array Nat) (p c : Nat) (hp : content[p]? = some c)
    (hc : inC false wsItems c = false) :
    (match search content parser_fluent_FluentParser_walk_1 0 with | some (q, st) => st.pos - q | none => 0)
      + p < content.size := by
  have hplt := getElem?_some_lt hp
  split
  · rename_i q st hs
    obtain ⟨_, hq, hm, _⟩ := search_spec hs
    have hm' : m content (.rep 0 none true (.cls false wsItems)) ⟨q, []⟩
        (fun st' => m content (.eol false) st' some) = some st := hm
    obtain ⟨j, h1, h2, h3⟩ := star_cls_some content false wsItems q _ st hq hm'
    have hr := run_le content false wsItems (content.size + 2 - q) q
    simp only [m] at h3
    split at h3
    · rename_i hcond
      simp only [Option.some.injEq] at h3
      subst h3
      simp only
      by_cases hqp : q ≤ p
      · have hstop := run_stop content false wsItems p c hp hc (content.size + 2 - q) q hqp
        -- the match would end at or before p < size, so it ends on a final "\n" at p: contradiction
        exfalso
        simp only [Bool.false_and, Bool.or_false, Bool.not_false, Bool.true_and, Bool.or_eq_true,
          beq_iff_eq, Bool.and_eq_true] at hcond
        rcases hcond with hcond | ⟨h4, h5⟩
        · omega
        · have : j = p := by omega
          subst this
          rw [hp] at h5
          simp only [Option.some.injEq] at h5
          subst h5
          rw [inC_ws] at hc
          simp at hc
      · have h5 : j - q ≤ content.size - q := by omega
        omega
    · cases h3
  · omega

theorem exists_nonws (l : List Nat)
    (h : ¬ (l.all (fun c => c == 32 || c == 9 || c == 13 || c == 10)) = true) :
    ∃ p c : Nat, l.toArray[p]? = some c ∧ inC false wsItems c = false := by
  rw [Bool.not_eq_true, List.all_eq_false] at h
  obtain ⟨c, hc, hn⟩ := h
  obtain ⟨p, hp, rfl⟩ := List.mem_iff_getElem.mp hc
  refine ⟨p, l[p], by simp [hp], ?_⟩
  rw [inC_ws]
  simpa using hn

theorem junk_trim (l : List Nat)
    (h : ¬ (l.all (fun c => c == 32 || c == 9 || c == 13 || c == 10)) = true) :
    (match matchAt l.toArray parser_fluent_FluentParser_walk_0 0 with | some st => st.pos | none => 0) +
    (match search l.toArray parser_fluent_FluentParser_walk_1 0 with | some (q, st) => st.pos - q | none => 0)
      ≤ l.length := by
  obtain ⟨p, c, hp, hc⟩ := exists_nonws l h
  have h1 := lead_le l.toArray p c hp hc
  have h2 := trail_le l.toArray p c hp hc
  simp only [List.size_toArray] at h2
  omega

theorem filter_pieces (c1 c2 : Prop) [Decidable c1] [Decidable c2] (w1 w2 j : Entry)
    (h1 : w1.localizable = false) (h2 : w2.localizable = false) (hj : j.localizable = true) :
    ((if c1 then [w1] else []) ++ [j] ++ (if c2 then [w2] else [])).filter Entry.localizable = [j] := by
  by_cases hc1 : c1 <;> by_cases hc2 : c2 <;> simp [hc1, hc2, h1, h2, hj]

theorem fluentEntry_filter (s : Array Nat) (b : FEntry) :
    fluentEntry s true b = (fluentEntry s false b).filter Entry.localizable := by
  unfold fluentEntry
  split
  · simp [Entry.localizable]
  · simp [Entry.localizable]
  · simp only
    split
    · simp [Entry.localizable]
    · rw [filter_pieces _ _ _ _ _ rfl rfl rfl]
      simp
  · simp [Entry.localizable]
  · simp

theorem fluentWalkFrom_filter (s : Array Nat) : ∀ body last,
    fluentWalkFrom s true body last = (fluentWalkFrom s false body last).filter Entry.localizable := by
  intro body
  induction body with
  | nil =>
    intro last
    simp only [fluentWalkFrom]
    by_cases h : s.size > last <;> simp [h, Entry.localizable]
  | cons b rest ih =>
    intro last
    simp only [fluentWalkFrom, List.filter_append, ← ih, ← fluentEntry_filter]
    by_cases h : b.s > last <;> simp [h, Entry.localizable]

end P
