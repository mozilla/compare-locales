/- C14 composed: the vocabulary in which last-rule-wins / error-by-default / not-covered are read on the pattern TEXTS of a
   configuration (`RuleApplies`, `Covered`, `namesLocale`), its link to the abstract `applies`/`covered` of an instantiated
   configuration (`applies_iff`, `covered_iff`), and the verdict of a leaf (`leaf_filter`, `leaf_filterM`) — all under the
   hypothesis that the eager `instantiate` returns (every `Matcher(...)`, `with_env` and `match` of the tree); the statements
   without that hypothesis are in C14LLazy.  At the end the Bool tests `isOk`/`errIs` for the evaluated examples of Props/C14. -/
import CLModel.Proofs.C14MTexts
import CLModel.Proofs.C14Filter
namespace C14M
open Filt FiltM Filt.Spec

/-- the rule (given by its path TEXT) applies to the query: its bound matcher returns a dictionary for the file's
    full path, and the key part fits -/
def RuleApplies (environ : Environ) (root : Option (List Nat)) (r : RuleM) (file : File) (entity : Option (List Nat)) :
    Prop :=
  patMatches environ root r.path file.locale file.fullpath = .ok true ∧ keyOK r.key entity = true

/-- the file is covered by one of the `l10n` pattern TEXTS enabled for its locale -/
def Covered (environ : Environ) (root : Option (List Nat)) (paths : List PathEntryM) (file : File) : Prop :=
  ∃ p ∈ paths, allows p.locales file.locale = true ∧
    patMatches environ root p.l10n file.locale file.fullpath = .ok true

/-- the configuration itself (its `locales` or one of its `paths`) names the locale -/
def namesLocale (locales : Option (List (List Nat))) (paths : List PathEntryM) (l : List Nat) : Bool :=
  names locales l || paths.any (fun p => names p.locales l)

theorem applies_iff {environ : Environ} {root : Option (List Nat)} {file : File} {entity : Option (List Nat)}
    {a : RuleM} {b : Rule} (h : RuleRel environ root file.locale file.fullpath a b) :
    applies b file entity = true ↔ RuleApplies environ root a file entity := by
  obtain ⟨h1, h2, _⟩ := h
  rw [applies_eq, RuleApplies, h1, h2]
  simp

theorem covered_iff {environ : Environ} {root : Option (List Nat)} {file : File}
    {lp : List (PathEntryM × PathEntry)} (h : ∀ p ∈ lp, PathRel environ root file.locale file.fullpath p.1 p.2) :
    covered (lp.map (·.2)) file = true ↔ Covered environ root (lp.map (·.1)) file := by
  unfold covered Covered
  simp only [List.any_eq_true, List.mem_map, Bool.and_eq_true]
  constructor
  · rintro ⟨_, ⟨p, hp, rfl⟩, h1, h2⟩
    obtain ⟨ha, hb⟩ := h p hp
    exact ⟨p.1, ⟨p, hp, rfl⟩, by rw [hb]; exact h1, by rw [ha, h2]⟩
  · rintro ⟨_, ⟨p, hp, rfl⟩, h1, h2⟩
    obtain ⟨ha, hb⟩ := h p hp
    refine ⟨p.2, ⟨p, hp, rfl⟩, by rw [← hb]; exact h1, ?_⟩
    rw [ha] at h2
    exact Except.ok.inj h2

theorem names_paths_eq {environ : Environ} {root : Option (List Nat)} {loc fp : List Nat}
    {lp : List (PathEntryM × PathEntry)} (h : ∀ p ∈ lp, PathRel environ root loc fp p.1 p.2) (l : List Nat) :
    (lp.map (·.2)).any (fun p => names p.locales l) = (lp.map (·.1)).any (fun p => names p.locales l) := by
  induction lp with
  | nil => rfl
  | cons p rest ih =>
    simp only [List.map_cons, List.any_cons]
    rw [ih (fun q hq => h q (by simp [hq])), (h p (by simp)).2]

theorem leaf_filter (locales : Option (List (List Nat))) (ps : List PathEntry) (rs : List Rule) (file : File)
    (entity : Option (List Nat)) :
    filter (.mk locales ps rs [] []) file entity =
      if names locales file.locale || ps.any (fun p => names p.locales file.locale) then
        (match own ps rs file entity with
         | some a => a
         | none => .ignore)
      else .ignore := by
  rw [filter_eq_verdict, verdict, hasLocale, hasLocaleAny, Bool.or_false, inner, excluded]
  simp only [Bool.false_eq_true, if_false, innerAll, mostSevere, List.foldr_cons, List.foldr_nil]
  have : worse (own ps rs file entity) none = own ps rs file entity := by
    unfold worse; simp [sev]
  rw [this]
  cases (names locales file.locale || ps.any fun p => names p.locales file.locale) with
  | false => rfl
  | true => cases own ps rs file entity <;> rfl

theorem leaf_filterM {locales : Option (List (List Nat))} {environ : Environ} {root : Option (List Nat)}
    {paths : List PathEntryM} {rules : List RuleM} {file : File} {c : Config} (entity : Option (List Nat))
    (hc : instantiate (.mk locales environ root paths rules [] []) file.locale file.fullpath = .ok c) :
    filterM (.mk locales environ root paths rules [] []) file entity = .ok
      (if namesLocale locales paths file.locale then
        (match own c.paths c.rules file entity with
         | some a => a
         | none => .ignore)
       else .ignore) := by
  obtain ⟨lp', lr', lc, le, rfl, h1, h2, h3, h4, h5, h6, _, _⟩ := instantiate_inv hc
  rw [filterM_eq entity hc]
  have hlc : lc = [] := by simpa using h3.symm
  have hle : le = [] := by simpa using h4.symm
  subst hlc hle
  simp only [List.map_nil, Config.paths, Config.rules]
  rw [leaf_filter, namesLocale, h1, names_paths_eq h5]

theorem patMatches_ok_inv {environ : Environ} {root : Option (List Nat)} {pat L path : List Nat} {r : Bool}
    (h : patMatches environ root pat L path = .ok r) :
    ∃ b mres, boundMatcher environ root pat L = .ok b ∧ b.match path = .ok mres ∧ r = mres.isSome := by
  unfold patMatches at h
  obtain ⟨b, hb, h⟩ := bind_ok h
  unfold matchesS at h
  obtain ⟨mres, hm, h⟩ := bind_ok h
  simp only [pure, Except.pure, Except.ok.injEq] at h
  exact ⟨b, mres, hb, hm, h.symm⟩

theorem instantiate_rule_returns {locales : Option (List (List Nat))} {environ : Environ} {root : Option (List Nat)}
    {paths : List PathEntryM} {rules : List RuleM} {children excludes : List ConfigM} {loc fp : List Nat} {c : Config}
    (h : instantiate (.mk locales environ root paths rules children excludes) loc fp = .ok c) :
    ∀ r ∈ rules, ∃ x, patMatches environ root r.path loc fp = .ok x := by
  obtain ⟨lp, lr, lc, le, _, _, h2, _, _, _, h6, _, _⟩ := instantiate_inv h
  intro r hr
  rw [h2] at hr
  obtain ⟨p, hp, rfl⟩ := List.mem_map.mp hr
  exact ⟨_, (h6 p hp).1⟩

end C14M

deriving instance DecidableEq for Except

namespace C14M

def isOk {ε α : Type} : Except ε α → Bool
  | .ok _ => true
  | .error _ => false

/-- the result is the exception `e`; a Bool, for `decide` in the examples -/
def errIs {α : Type} (r : Except PM.PyErr α) (e : PM.PyErr) : Bool :=
  match r with
  | .error e' => e' == e
  | .ok _ => false

end C14M
