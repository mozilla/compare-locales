/- What a match says about the path, repeated variables included.  `SpellsRe G r t`: the regex `r` can only match `t`,
   back-references to groups of the compiled pattern `G` included; sound for the engine under the invariant that every
   capture of such a group spans its text (`spellsRe_sound`).  `match_spells`: a matched path begins with the root and the
   expansion of every initial part of the nodes (hence `prefix_of_match`).  In between, what the parser guarantees:
   `ParserInv`, `parsePattern_inv` (a repeated variable stands after its first occurrence), `mkMatcher_shape`, `withEnv_shape`. -/
import CLModel.Proofs.C12Prefix
import CLModel.Proofs.C12Star
namespace PM
open Rx

inductive SpellsRe (G : List (Nat × Re)) : Re → Text → Prop
  | eps : SpellsRe G .eps []
  | lit {c} : SpellsRe G (.lit c) [c]
  | seq {a b ta tb} : SpellsRe G a ta → SpellsRe G b tb → SpellsRe G (.seq a b) (ta ++ tb)
  | group {i r t} : SpellsRe G r t → SpellsRe G (.group i r) t
  | backref {i r t} : (i, r) ∈ G → SpellsRe G r t → SpellsRe G (.backref i) t

inductive SpellsL (G : List (Nat × Re)) : List Re → Text → Prop
  | nil : SpellsL G [] []
  | cons {x rest tx t} : SpellsRe G x tx → SpellsL G rest t → SpellsL G (x :: rest) (tx ++ t)

def UniqueG (G : List (Nat × Re)) : Prop := ∀ i, (G.map (·.1)).count i ≤ 1

theorem SpellsRe.functional {G : List (Nat × Re)} (hU : UniqueG G) {r : Re} {t : Text} (h : SpellsRe G r t) :
    ∀ {t'}, SpellsRe G r t' → t = t' := by
  induction h with
  | eps => intro t' h'; cases h'; rfl
  | lit => intro t' h'; cases h'; rfl
  | seq _ _ iha ihb =>
    intro t' h'
    cases h' with
    | seq ha hb => rw [iha ha, ihb hb]
  | group _ ih => intro t' h'; cases h' with | group hr => exact ih hr
  | backref hm _ ih =>
    intro t' h'
    cases h' with
    | backref hm' hr' =>
      have := body_unique hU hm hm'
      subst this
      exact ih hr'

theorem SpellsL.append {G : List (Nat × Re)} {a b : List Re} {ta tb : Text} (ha : SpellsL G a ta) (hb : SpellsL G b tb) :
    SpellsL G (a ++ b) (ta ++ tb) := by
  induction ha with
  | nil => simpa using hb
  | cons hx _ ih => simpa [List.append_assoc] using SpellsL.cons hx ih

theorem SpellsL.toRe {G : List (Nat × Re)} : ∀ {l : List Re} {t : Text}, SpellsL G l t → SpellsRe G (seqOf l) t
  | [], _, h => by cases h; exact SpellsRe.eps
  | [x], _, h => by
    cases h with
    | cons hx hr => cases hr; simpa [seqOf] using hx
  | x :: y :: rest, _, h => by
    cases h with
    | cons hx hr => exact SpellsRe.seq hx (SpellsL.toRe hr)

theorem spellsL_lits {G : List (Nat × Re)} : ∀ (t : Text), SpellsL G (t.map Re.lit) t
  | [] => SpellsL.nil
  | c :: t => by simpa using SpellsL.cons (SpellsRe.lit (c := c)) (spellsL_lits t)

/-- "group `i` of the compiled pattern stands for the text `t`" -/
def Stands (G : List (Nat × Re)) (i : Nat) (t : Text) : Prop := ∃ r, (i, r) ∈ G ∧ SpellsRe G r t

theorem Stands.functional {G : List (Nat × Re)} (hU : UniqueG G) {i : Nat} {t t' : Text}
    (h : Stands G i t) (h' : Stands G i t') : t = t' := by
  obtain ⟨r, hm, hs⟩ := h
  obtain ⟨r', hm', hs'⟩ := h'
  have := body_unique hU hm hm'
  subst this
  exact hs.functional hU hs'

/-- every capture of a group that stands for a text spans that text -/
def CapInv (s : Array Nat) (G : List (Nat × Re)) (C : List (Nat × Nat × Nat)) : Prop :=
  ∀ e ∈ C, ∀ t, Stands G e.1 t → TextAt s e.2.1 t ∧ e.2.2 = e.2.1 + t.length

theorem spellsRe_sound {s : Array Nat} {G : List (Nat × Re)} (hU : UniqueG G) {r : Re} {t : Text}
    (h : SpellsRe G r t) : (∀ p ∈ groups r, p ∈ G) → ∀ {st st' : St}, CapInv s G st.caps → BSem s r st st' →
      TextAt s st.pos t ∧ st'.pos = st.pos + t.length ∧ CapInv s G st'.caps := by
  induction h with
  | eps =>
    intro _ st st' hi hs
    cases hs
    exact ⟨fun j hj => by simp at hj, by simp, hi⟩
  | @lit c =>
    intro _ st st' hi hs
    cases hs with
    | lit hc =>
      refine ⟨?_, by simp, hi⟩
      intro j hj
      have : j = 0 := by simpa using hj
      subst this; simpa using hc
  | seq _ _ iha ihb =>
    intro hg st st' hi hs
    cases hs with
    | seq h1 h2 =>
      obtain ⟨t1, p1, i1⟩ := iha (fun p hp => hg p (by simp [groups, hp])) hi h1
      obtain ⟨t2, p2, i2⟩ := ihb (fun p hp => hg p (by simp [groups, hp])) i1 h2
      exact ⟨TextAt.append t1 (by rw [← p1]; exact t2), by simp [p2, p1]; omega, i2⟩
  | @group i r t hr ih =>
    intro hg st st' hi hs
    cases hs with
    | @group _ _ _ st0 h1 =>
      obtain ⟨t1, p1, i1⟩ := ih (fun p hp => hg p (by simp [groups, hp])) hi h1
      refine ⟨t1, p1, ?_⟩
      intro e he t' hst
      simp only [List.mem_cons] at he
      rcases he with rfl | he
      · have hthis : Stands G i t := ⟨r, hg _ (by simp [groups]), hr⟩
        have := Stands.functional hU hst hthis
        subst this
        exact ⟨t1, p1⟩
      · exact i1 e he t' hst
  | @backref i r t hm hr _ =>
    intro _ st st' hi hs
    cases hs with
    | @backref _ a b _ hcap hall =>
      obtain ⟨hta, hb⟩ := hi _ (capOf_mem hcap) t ⟨r, hm, hr⟩
      simp only at hta hb
      have hlen : b - a = t.length := by omega
      refine ⟨?_, by simp [hlen], hi⟩
      intro j hj
      rw [← (hall j (by omega)).1]
      exact hta j hj

theorem spellsL_sound {s : Array Nat} {G : List (Nat × Re)} (hU : UniqueG G) :
    ∀ {items : List Re} {t : Text}, SpellsL G items t → (∀ x ∈ items, ∀ p ∈ groups x, p ∈ G) →
      ∀ {rest : List Re} {st st' : St}, CapInv s G st.caps → SemL s (items ++ rest) st st' →
        TextAt s st.pos t ∧ ∃ mid, mid.pos = st.pos + t.length ∧ CapInv s G mid.caps ∧ SemL s rest mid st' := by
  intro items t h
  induction h with
  | nil =>
    intro _ rest st st' hi hs
    exact ⟨fun j hj => by simp at hj, st, by simp, hi, by simpa using hs⟩
  | @cons x xs tx t hx _ ih =>
    intro hg rest st st' hi hs
    cases hs with
    | cons h1 h2 =>
      obtain ⟨t1, p1, i1⟩ := spellsRe_sound hU hx (hg x (by simp)) hi h1
      obtain ⟨t2, mid, p2, i2, h3⟩ := ih (fun y hy => hg y (by simp [hy])) i1 h2
      exact ⟨TextAt.append t1 (by rw [← p1]; exact t2), mid, by simp [p2, p1]; omega, i2, h3⟩

/-- every repeated occurrence has a first occurrence among its siblings (what `PatternParser` produces) -/
def RepOK (ns : List Node) : Prop :=
  (∀ name, Node.var name true ∈ ns → Node.var name false ∈ ns) ∧
  (Node.android true ∈ ns → Node.android false ∈ ns)

/-- as `ValOK` (C12Prefix), but a value may repeat a variable as long as every repetition has a first occurrence (`RepOK`):
    the wider class, and the one every `Matcher(pattern, env, root)` has (`mkMatcher_shape`) -/
def ValOK' : Val → Prop
  | .str _ => False
  | .pat p => p.root = none ∧ RepOK p.nodes

def EnvOK' (env : Env) : Prop := ∀ k v, (k, v) ∈ env → ValOK' v

theorem EnvOK'.derase {env : Env} (h : EnvOK' env) (k : Text) : EnvOK' (derase env k) :=
  fun k' v hm => h k' v (List.mem_filter.mp hm).1

theorem EnvOK'.lookup {env : Env} (h : EnvOK' env) {k : Text} {v : Val} (hl : env.lookup k = some v) : ValOK' v :=
  h k v (AR.lookup_mem hl)

/-- `HR` for values with repeated variables: the items spell `t` relative to the groups `G` of the whole pattern -/
def HS (G : List (Nat × Re)) (fE fR : Nat) : Prop :=
  ∀ v env t items names, ValOK' v → EnvOK' env → expandVal fE v env true = .ok t →
    rxVal fR v env = .ok (items, names) → (∀ x ∈ items, ∀ p ∈ groups x, p ∈ G) → SpellsL G items t

theorem groups_sub_of_group {G : List (Nat × Re)} {i : Nat} {body : List Re}
    (h : ∀ p ∈ groups (Re.group i (seqOf body)), p ∈ G) : ∀ x ∈ body, ∀ p ∈ groups x, p ∈ G := by
  intro x hx p hp
  apply h
  simp only [groups, List.mem_cons]
  right
  rw [groups_seqOf]
  exact List.mem_flatMap.mpr ⟨x, hx, hp⟩

theorem spells_node {G : List (Nat × Re)} {fE fR : Nat} (ih : HS G fE fR) {env : Env} (henv : EnvOK' env)
    {all : List Node} {allItems : List Re} {allNames : List Text} (hrep : RepOK all)
    (hall : rxChildren (rxVal fR) all env = .ok (allItems, allNames))
    (hG : ∀ x ∈ allItems, ∀ p ∈ groups x, p ∈ G)
    {c : Node} (hc : c ∈ all) {t : Text} {items names}
    (he : expandNode (expandVal fE) c env true = .ok t)
    (hr : rxNode (rxVal fR) c env = .ok (items, names)) : SpellsL G items t := by
  have hitems : ∀ x ∈ items, ∀ p ∈ groups x, p ∈ G := by
    obtain ⟨a, na, h1, h2, _⟩ := rxChildren_mem hall hc
    rw [hr] at h1
    simp only [Except.ok.injEq, Prod.mk.injEq] at h1
    obtain ⟨rfl, _⟩ := h1
    exact fun x hx => hG x (h2 x hx)
  cases c with
  | lit s =>
    simp only [expandNode, rxNode, pure, Except.pure, Except.ok.injEq, Prod.mk.injEq] at he hr
    obtain ⟨rfl, _⟩ := hr
    subst he
    exact spellsL_lits _
  | var name rep =>
    simp only [expandNode] at he
    cases hl : env.lookup name with
    | none => simp [hl] at he
    | some v =>
      simp only [hl] at he
      cases rep with
      | false =>
        simp only [rxNode, hl, Bool.false_eq_true, if_false, bind, Except.bind] at hr
        split at hr
        · cases hr
        · rename_i w hw
          obtain ⟨body, ns⟩ := w
          simp only [pure, Except.pure, Except.ok.injEq, Prod.mk.injEq] at hr
          obtain ⟨rfl, _⟩ := hr
          have hb := ih v _ t body ns (henv.lookup hl) (henv.derase name) he hw
            (groups_sub_of_group (hitems _ (List.mem_singleton.mpr rfl)))
          simpa using SpellsL.cons (SpellsRe.group (i := encName name) hb.toRe) SpellsL.nil
      | true =>
        simp only [rxNode, if_true, pure, Except.pure, Except.ok.injEq, Prod.mk.injEq] at hr
        obtain ⟨rfl, _⟩ := hr
        -- the first occurrence among the siblings
        have hfirst := hrep.1 name hc
        obtain ⟨a, na, h1, h2, _⟩ := rxChildren_mem hall hfirst
        simp only [rxNode, hl, Bool.false_eq_true, if_false, bind, Except.bind] at h1
        split at h1
        · cases h1
        · rename_i w hw
          obtain ⟨body, ns⟩ := w
          simp only [pure, Except.pure, Except.ok.injEq, Prod.mk.injEq] at h1
          obtain ⟨rfl, _⟩ := h1
          have hgin : ∀ p ∈ groups (Re.group (encName name) (seqOf body)), p ∈ G :=
            hG _ (h2 _ (List.mem_singleton.mpr rfl))
          have hb := ih v _ t body ns (henv.lookup hl) (henv.derase name) he hw (groups_sub_of_group hgin)
          have hm : (encName name, seqOf body) ∈ G := hgin _ (by simp [groups])
          simpa using SpellsL.cons (SpellsRe.backref hm hb.toRe) SpellsL.nil
  | android rep =>
    simp only [expandNode, bind, Except.bind] at he
    cases hg : getAndroidLocale (expandVal fE) env with
    | error e => simp [hg] at he
    | ok oa =>
      cases oa with
      | none => simp [hg] at he
      | some a =>
        simp only [hg, pure, Except.pure, Except.ok.injEq] at he
        subst he
        -- the regex of the first occurrence is built from the same Android code
        have hfirst : ∀ {its nms}, rxNode (rxVal fR) (Node.android false) env = .ok (its, nms) →
            its = [Re.group (encName androidName) (seqOf (a.map Re.lit))] := by
          intro its nms h1
          simp only [rxNode, Bool.false_eq_true, if_false, bind, Except.bind] at h1
          have hne : getAndroidLocale (expandVal (fuelFor env)) env ≠ .error .recursion := by
            intro hcn
            simp [hcn] at h1
          have := android_same hg rfl hne
          simp only [this, pure, Except.pure, Except.ok.injEq, Prod.mk.injEq] at h1
          exact h1.1.symm
        have hlit : SpellsRe G (seqOf (a.map Re.lit)) a := (spellsL_lits a).toRe
        cases rep with
        | false =>
          have := hfirst hr
          subst this
          simpa using SpellsL.cons (SpellsRe.group (i := encName androidName) hlit) SpellsL.nil
        | true =>
          simp only [rxNode, if_true, pure, Except.pure, Except.ok.injEq, Prod.mk.injEq] at hr
          obtain ⟨rfl, _⟩ := hr
          obtain ⟨a', na, h1, h2, _⟩ := rxChildren_mem hall (hrep.2 hc)
          have := hfirst h1
          subst this
          have hm : (encName androidName, seqOf (a.map Re.lit)) ∈ G :=
            hG _ (h2 _ (List.mem_singleton.mpr rfl)) _ (by simp [groups])
          simpa using SpellsL.cons (SpellsRe.backref hm hlit) SpellsL.nil
  | star n =>
    simp only [expandNode] at he
    split at he
    · cases he
    · rename_i s hs
      exact absurd (henv.lookup hs) (by simp [ValOK'])
    · cases he
  | starstar n sfx =>
    simp only [expandNode] at he
    split at he
    · cases he
    · rename_i s hs
      exact absurd (henv.lookup hs) (by simp [ValOK'])
    · cases he

/-- an initial part of the items spells the expansion (which `raise_missing=False` cuts off at the first unbound
    variable; nothing is cut off with `raise_missing=True`) -/
theorem spells_children {G : List (Nat × Re)} {fE fR : Nat} (ih : HS G fE fR) {env : Env} (henv : EnvOK' env)
    {all : List Node} {allItems : List Re} {allNames : List Text} (hrep : RepOK all)
    (hall : rxChildren (rxVal fR) all env = .ok (allItems, allNames))
    (hG : ∀ x ∈ allItems, ∀ p ∈ groups x, p ∈ G) {rm : Bool} :
    ∀ {ns : List Node} {t : Text} {items names}, (∀ n ∈ ns, n ∈ all) →
      expandChildren (expandVal fE) ns env rm = .ok t →
      rxChildren (rxVal fR) ns env = .ok (items, names) →
      ∃ a b, items = a ++ b ∧ SpellsL G a t ∧ (∀ x ∈ a, x ∈ allItems) ∧ (rm = true → b = [])
  | [], t, items, names, _, he, hr => by
    simp only [expandChildren, rxChildren, pure, Except.pure, Except.ok.injEq, Prod.mk.injEq] at he hr
    subst he
    exact ⟨[], items, rfl, SpellsL.nil, (fun x hx => by cases hx), fun _ => hr.1.symm⟩
  | c :: cs, t, items, names, hsub, he, hr => by
    obtain ⟨a, na, b, nb, h1, h2, rfl, rfl⟩ := rxChildren_cons hr
    rcases expandChildren_cons_ok he with ⟨_, hrm, rfl⟩ | ⟨ta, tb, h3, h4, rfl⟩
    · exact ⟨[], a ++ b, rfl, SpellsL.nil, (fun x hx => by cases hx), fun e => by rw [e] at hrm; cases hrm⟩
    · obtain ⟨a', b', rfl, hsp, hga, hb⟩ := spells_children ih henv hrep hall hG (fun n hn => hsub n (by simp [hn])) h4 h2
      obtain ⟨a0, na0, h10, h20, _⟩ := rxChildren_mem hall (hsub c (by simp))
      obtain ⟨rfl, _⟩ := Prod.mk.inj (Except.ok.inj (h1.symm.trans h10))
      refine ⟨a ++ a', b', by simp, (spells_node ih henv hrep hall hG (hsub c (by simp)) h3 h1).append hsp, ?_, hb⟩
      intro x hx
      rcases List.mem_append.mp hx with hx | hx
      · exact h20 x hx
      · exact hga x hx

theorem spells_val {G : List (Nat × Re)} : ∀ fR fE, HS G fE fR
  | 0, _ => by
    intro v env t items names hv _ _ hr _
    cases v with
    | str s => exact absurd hv (by simp [ValOK'])
    | pat p => simp [rxVal] at hr
  | fR + 1, 0 => by
    intro v env t items names hv _ he _ _
    cases v with
    | str s => exact absurd hv (by simp [ValOK'])
    | pat p => simp [expandVal] at he
  | fR + 1, fE + 1 => by
    intro v env t items names hv henv he hr hG
    cases v with
    | str s => exact absurd hv (by simp [ValOK'])
    | pat p =>
      obtain ⟨hroot, hrep⟩ := hv
      simp only [expandVal, rxVal] at he hr
      obtain ⟨root, citems, h1, h2, rfl⟩ := rxPat_inv hr
      cases (rootOf_none hroot).symm.trans h1
      obtain ⟨_, body, hr0, hb, rfl⟩ := expandPat_ok he
      cases (rootOf_none hroot).symm.trans hr0
      have hG' : ∀ x ∈ citems, ∀ p ∈ groups x, p ∈ G := by simpa using hG
      obtain ⟨a, b, rfl, hsp, _, hb'⟩ := spells_children (spells_val fR fE) henv hrep h2 hG' (fun n hn => hn) hb h2
      simpa [hb' rfl] using hsp

/-- an invariant of the pattern parser, on the nodes made so far and the variable names seen so far: it survives appending
    a node that is not a variable, and `PatternParser.variable` -/
structure ParserInv (I : List Node → List Text → Prop) : Prop where
  other : ∀ {ns kn} (n : Node), (∀ name r, n ≠ .var name r) → (∀ r, n ≠ .android r) → I ns kn → I (ns ++ [n]) kn
  var : ∀ {s st ps ps'}, I ps.nodes ps.known → stepVariable s st ps = .ok ps' → I ps'.nodes ps'.known

theorem ParserInv.wildcard {I} (hI : ParserInv I) {s : Array Nat} {st : St} {ps ps' : PState} (h : I ps.nodes ps.known)
    (hs : stepWildcard s st ps = .ok ps') : I ps'.nodes ps'.known := by
  unfold stepWildcard at hs
  have h1 : I (markPrefix ps).nodes (markPrefix ps).known := by
    unfold markPrefix
    split <;> exact h
  generalize markPrefix ps = psw at h1 hs
  simp only at hs
  split at hs
  · simp only [pure, Except.pure, Except.ok.injEq] at hs
    subst hs
    exact hI.other _ (fun _ _ hc => Node.noConfusion hc) (fun _ hc => Node.noConfusion hc) h1
  · split at hs
    · simp only [pure, Except.pure, Except.ok.injEq] at hs
      subst hs
      exact hI.other _ (fun _ _ hc => Node.noConfusion hc) (fun _ hc => Node.noConfusion hc) h1
    · cases hs

theorem ParserInv.step {I} (hI : ParserInv I) {s : Array Nat} {ps ps' : PState} {q : Nat} {st : St}
    (h : I ps.nodes ps.known) (hs : parseStep s ps q st = .ok ps') : I ps'.nodes ps'.known := by
  have h0 : I (if q > ps.cursor then { ps with nodes := ps.nodes ++ [.lit (slice s ps.cursor q)] } else ps).nodes
      (if q > ps.cursor then { ps with nodes := ps.nodes ++ [.lit (slice s ps.cursor q)] } else ps).known := by
    split
    · exact hI.other _ (fun _ _ hc => Node.noConfusion hc) (fun _ hc => Node.noConfusion hc) h
    · exact h
  simp only [parseStep, bind, Except.bind] at hs
  generalize (if q > ps.cursor then { ps with nodes := ps.nodes ++ [.lit (slice s ps.cursor q)] } else ps) = ps0 at h0 hs
  by_cases hvar : truthy (groupText s st gVariable) = true
  · simp only [hvar, if_true] at hs
    cases hsv : stepVariable s st ps0 with
    | error e => simp [hsv] at hs
    | ok ps1 =>
      simp only [hsv, pure, Except.pure, Except.ok.injEq] at hs
      subst hs
      exact (hI.var h0 hsv : I ps1.nodes ps1.known)
  · simp only [hvar, Bool.false_eq_true, if_false] at hs
    cases hsv : stepWildcard s st ps0 with
    | error e => simp [hsv] at hs
    | ok ps1 =>
      simp only [hsv, pure, Except.pure, Except.ok.injEq] at hs
      subst hs
      exact (hI.wildcard h0 hsv : I ps1.nodes ps1.known)

theorem ParserInv.loop {I} (hI : ParserInv I) {s : Array Nat} : ∀ (ms : List (Nat × St)) {ps ps' : PState},
    I ps.nodes ps.known → parseLoop s ms ps = .ok ps' → I ps'.nodes ps'.known
  | [], ps, ps', h, hs => by
    simp only [parseLoop, pure, Except.pure, Except.ok.injEq] at hs
    subst hs; exact h
  | (q, st) :: rest, ps, ps', h, hs => by
    simp only [parseLoop, bind, Except.bind] at hs
    split at hs
    · cases hs
    · rename_i ps1 h1
      exact hI.loop rest (hI.step h h1) hs

theorem ParserInv.parsePattern {I} (hI : ParserInv I) (h0 : I [] []) {t : Text} {p : Pattern}
    (h : parsePattern t = .ok p) : ∃ kn, I p.nodes kn := by
  simp only [PM.parsePattern, bind, Except.bind] at h
  split at h
  · cases h
  · rename_i ps hps
    simp only [pure, Except.pure, Except.ok.injEq] at h
    subst h
    exact ⟨ps.known, hI.other _ (fun _ _ hc => Node.noConfusion hc) (fun _ hc => Node.noConfusion hc) (hI.loop _ h0 hps)⟩

end PM

namespace C11X
open PM

theorem repN_snoc : ∀ {ns : List Node} {kn : List Text} (n : Node), RepN kn ns →
    (∀ name, n = .var name true → name ∈ kn ∨ Node.var name false ∈ ns) → RepN kn (ns ++ [n])
  | [], kn, n, _, hn => by
    cases n with
    | var name rep =>
      cases rep with
      | true =>
        rcases hn name rfl with h | h
        · exact ⟨h, trivial⟩
        · cases h
      | false => trivial
    | _ => trivial
  | c :: cs, kn, n, h, hn => by
    cases c with
    | var nm rep =>
      cases rep with
      | false =>
        refine repN_snoc (ns := cs) (kn := nm :: kn) n h ?_
        intro name e
        rcases hn name e with h' | h'
        · exact Or.inl (List.mem_cons_of_mem _ h')
        · rcases List.mem_cons.mp h' with e' | h'
          · cases e'; exact Or.inl (by simp)
          · exact Or.inr h'
      | true =>
        refine ⟨h.1, repN_snoc (ns := cs) n h.2 ?_⟩
        intro name e
        rcases hn name e with h' | h'
        · exact Or.inl h'
        · rcases List.mem_cons.mp h' with e' | h'
          · cases e'
          · exact Or.inr h'
    | _ =>
      refine repN_snoc (ns := cs) n h ?_
      intro name e
      rcases hn name e with h' | h'
      · exact Or.inl h'
      · rcases List.mem_cons.mp h' with e' | h'
        · cases e'
        · exact Or.inr h'

/-- the node `PatternParser.variable` makes of a name -/
def mkVar (name : Text) (rep : Bool) : Node := if name == androidName then .android rep else .var name rep

/-- what the parser maintains: the nodes so far are in order, a repeated `{android_locale}` has a first occurrence, and
    every known name has its first occurrence among them -/
def PInv (ns : List Node) (kn : List Text) : Prop :=
  RepN [] ns ∧ (Node.android true ∈ ns → Node.android false ∈ ns) ∧ ∀ name ∈ kn, mkVar name false ∈ ns

theorem PInv.parserInv : ParserInv PInv where
  other := fun n hn ha h =>
    ⟨repN_snoc n h.1 (fun name e => absurd e (hn name true)),
     fun hm => List.mem_append_left _ (h.2.1 ((List.mem_append.mp hm).resolve_right
       (fun e => ha true (List.mem_singleton.mp e).symm))),
     fun name hk => List.mem_append_left _ (h.2.2 name hk)⟩
  var := by
    intro s st ps ps' h hs
    unfold stepVariable at hs
    split at hs
    · cases hs
    · rename_i name _
      simp only [pure, Except.pure, Except.ok.injEq] at hs
      subst hs
      -- a repetition (`name` is known) has its first occurrence already
      have hold : ps.known.contains name = true → mkVar name false ∈ ps.nodes := fun hc => h.2.2 name (by simpa using hc)
      refine ⟨repN_snoc _ h.1 ?_, ?_, ?_⟩
      · intro nm e
        right
        have := hold
        unfold mkVar at this
        split at e
        · cases e
        · rename_i hand
          simp only [Node.var.injEq] at e
          obtain ⟨rfl, hc⟩ := e
          simpa [hand] using this hc
      · intro hm
        rcases List.mem_append.mp hm with hm | hm
        · exact List.mem_append_left _ (h.2.1 hm)
        · have := hold
          unfold mkVar at this
          simp only [List.mem_singleton] at hm
          split at hm
          · rename_i hand
            simp only [Node.android.injEq] at hm
            exact List.mem_append_left _ (by simpa [hand] using this hm.symm)
          · cases hm
      · intro nm hk
        rcases List.mem_cons.mp hk with rfl | hk
        · cases hc : ps.known.contains nm with
          | true => exact List.mem_append_left _ (hold hc)
          | false => exact List.mem_append_right _ (List.mem_singleton.mpr rfl)
        · exact List.mem_append_left _ (h.2.2 nm hk)

theorem parsePattern_inv {t : Text} {p : Pattern} (h : parsePattern t = .ok p) : RepN [] p.nodes ∧ RepOK p.nodes := by
  obtain ⟨_, hr, ha, _⟩ := PInv.parserInv.parsePattern ⟨trivial, fun hm => by simp at hm, fun _ hm => by simp at hm⟩ h
  exact ⟨hr, fun name hm => (repN_first hr hm).resolve_left (by simp), ha⟩

theorem parsePattern_repN {t : Text} {p : Pattern} (h : parsePattern t = .ok p) : RepN [] p.nodes := (parsePattern_inv h).1

end C11X

namespace PM
open Rx

theorem parsePattern_repOK {t : Text} {p : Pattern} (h : parsePattern t = .ok p) : RepOK p.nodes := (C11X.parsePattern_inv h).2

theorem realEnv_ok' {env : List (Text × Text)} {e : Env} (h : realEnv env = .ok e) : EnvOK' e := fun k v hm =>
  let ⟨_, hv, hp⟩ := realEnv_all (P := fun p => p.root = none ∧ RepOK p.nodes)
    (fun _ _ hp => ⟨parsePattern_root hp, parsePattern_repOK hp⟩) h k v hm
  hv ▸ hp

theorem mkMatcher_shape {pat : Text} {env : List (Text × Text)} {root : Option Text} {m : Matcher}
    (h : mkMatcher pat env root = .ok m) : EnvOK' m.env ∧ RepOK m.pattern.nodes :=
  let ⟨p, hp, he, hm⟩ := mkMatcher_inv h
  ⟨realEnv_ok' he, by rw [hm]; exact (parsePattern_repOK hp : RepOK p.nodes)⟩

theorem textAt_eq_of_length {path t : Text} (h : TextAt path.toArray 0 t) (hl : path.length = t.length) : path = t := by
  have hp : t <+: path := by simpa using h.prefix
  exact (hp.eq_of_length hl.symm).symm

/-- **what a matched path starts with**: the root, then the expansion of any initial part of the top-level nodes
    (`raise_missing=False` cuts it off at the first unbound variable); with `raise_missing=True` and all the nodes
    it is the whole path -/
theorem match_spells {m : Matcher} {path : Text} {d : GroupDict} (henv : EnvOK' m.env) (hrep : RepOK m.pattern.nodes)
    (h : m.match path = .ok (some d)) {root body : Text} {k : Nat} {rm : Bool}
    (hroot : rootOf (expandVal (fuelFor m.env)) m.pattern m.env = .ok root)
    (hbody : expandChildren (expandVal (fuelFor m.env)) (m.pattern.nodes.take k) m.env rm = .ok body) :
    (root ++ body) <+: path ∧ (rm = true → m.pattern.nodes.length ≤ k → path = root ++ body) := by
  obtain ⟨re, names, st, hre, hst, _⟩ := match_inv h
  obtain ⟨items, hrx, hreq, hwf⟩ := regexOf_inv hre
  obtain ⟨root', citems, hroot', hch, hitems⟩ := rxPat_inv hrx
  obtain rfl := Except.ok.inj (hroot.symm.trans hroot')
  have hG : ∀ x ∈ citems, ∀ p ∈ groups x, p ∈ groups re := by
    intro x hx p hp'
    rw [hreq, groups_seqOf, hitems]
    exact List.mem_flatMap.mpr ⟨x, by simp [hx], hp'⟩
  have hch2 := hch
  rw [← List.take_append_drop k m.pattern.nodes] at hch2
  obtain ⟨ia, na, ib, nb, hA, hB, hcit, _⟩ := rxChildren_append hch2
  obtain ⟨a, b, rfl, hsp, hga, hb⟩ := spells_children (G := groups re) (spells_val _ _) henv hrep hch hG
    (fun n hn => List.mem_of_mem_take hn) hbody hA
  have hsem := sem_seqOf _ (hreq ▸ matchAt_sem hst)
  rw [hitems, hcit] at hsem
  have hsem' : SemL path.toArray (root.map Re.lit ++ (a ++ (b ++ ib ++ [Gen.Pat.matcher_frag_anchor]))) ⟨0, []⟩ st := by
    simpa [List.append_assoc] using hsem
  obtain ⟨h1, h2⟩ := semL_lits root hsem'
  obtain ⟨h3, mid, hmid, _, hrest⟩ := spellsL_sound (wfRe_unique hwf) hsp (fun x hx => hG x (hga x hx))
    (s := path.toArray) (fun e he => by cases he) h2
  have hta : TextAt path.toArray 0 (root ++ body) := TextAt.append h1 (by simpa using h3)
  refine ⟨by simpa using hta.prefix, fun hrm hk => ?_⟩
  -- nothing is left of the pattern but the anchor: the path ends here
  rw [List.drop_of_length_le hk] at hB
  rw [hb hrm] at hrest
  simp only [rxChildren, pure, Except.pure, Except.ok.injEq, Prod.mk.injEq] at hB
  rw [← hB.1] at hrest
  cases hrest with
  | cons ha hn =>
    cases hn
    cases (show Gen.Pat.matcher_frag_anchor = Re.eos from rfl) ▸ ha with
    | eos hc =>
      exact textAt_eq_of_length hta (by simp only [List.length_append]; simp only at hmid; simpa [hmid] using hc.symm)

theorem rootOf_prefix {rec : ExpRec} {m : Matcher} {r : Text} (h : rootOf rec m.prefixPattern m.env = .ok r) :
    rootOf rec m.pattern m.env = .ok r := by
  by_cases hk : m.pattern.nodes.take m.pattern.prefixLen = []
  · cases hrt : m.pattern.root with
    | none => rwa [rootOf_none hrt, ← rootOf_none (p := m.prefixPattern) (by exact hrt)]
    | some r' => simp [rootOf, Matcher.prefixPattern, hrt, hk] at h
  · rwa [rootOf_append (p := m.prefixPattern) (q := m.pattern) rfl hk ⟨_, (List.take_append_drop _ _).symm⟩]

theorem prefix_of_match {m : Matcher} {path : Text} {d : GroupDict} {pre : Text}
    (henv : EnvOK' m.env) (hrep : RepOK m.pattern.nodes)
    (h : m.match path = .ok (some d)) (hp : m.prefix = .ok pre) : pre <+: path := by
  obtain ⟨root, body, hroot, hbody, rfl⟩ := expandPat_ok hp
  exact (match_spells henv hrep h (rootOf_prefix hroot) hbody).1

theorem EnvOK'.dupdate {d : Env} (hd : EnvOK' d) : ∀ {other : Env}, EnvOK' other → EnvOK' (dupdate d other) := by
  intro other
  induction other generalizing d with
  | nil => intro _; simpa [PM.dupdate] using hd
  | cons x xs ih =>
    intro ho
    have hstep : PM.dupdate d (x :: xs) = PM.dupdate (dset d x.1 x.2) xs := by simp [PM.dupdate]
    rw [hstep]
    apply ih
    · intro k v hm
      rcases AR.mem_dset hm with hm | hm
      · exact hd k v hm
      · simp only [Prod.mk.injEq] at hm
        obtain ⟨rfl, rfl⟩ := hm
        exact ho x.1 x.2 (by simp)
    · exact fun k v hm => ho k v (by simp [hm])

theorem withEnv_shape {m m' : Matcher} {env : List (Text × Text)} (hs : EnvOK' m.env ∧ RepOK m.pattern.nodes)
    (h : m.withEnv env = .ok m') : EnvOK' m'.env ∧ RepOK m'.pattern.nodes := by
  simp only [Matcher.withEnv, bind, Except.bind] at h
  split at h
  · cases h
  · rename_i e he
    simp only [pure, Except.pure, Except.ok.injEq] at h
    subst h
    exact ⟨hs.1.dupdate (realEnv_ok' he), hs.2⟩

end PM
