/- `AndroidParser.walk`, the loop and the whole function: induction over the loop, its fuel, the
   `only_localizable` filter, totality, and the shape of the result for a document whose root is `<resources>`. -/
import CLModel.Proofs.C09Walk
namespace C09P
open AndroidP

theorem walkStep_rest_length {ol : Bool} {n : DNode} {r : List DNode} {s : Step} (h : walkStep ol n r = some s) :
    s.rest.length ≤ r.length := by
  obtain ⟨pre, hf⟩ := walkStep_facts h
  have h1 := hf.split
  have h2 := hf.ne_nil
  have := congrArg List.length h1
  cases pre with
  | nil => exact absurd rfl h2
  | cons x xs => simp at this; omega

theorem walkLoop_succ (ol : Bool) {f : Nat} (n : DNode) (r : List DNode) (hf : 0 < f) :
    walkLoop ol (f + 1) (n :: r) =
      (walkStep ol n r).bind (fun s => (walkLoop ol f s.rest).map (s.out ++ ·)) := by
  obtain ⟨f', rfl⟩ : ∃ f', f = f' + 1 := ⟨f - 1, by omega⟩
  rw [walkLoop]
  cases h : walkStep ol n r with
  | none => simp
  | some s =>
    cases s with
    | stop out => simp [Step.rest, Step.out, walkLoop]
    | cont out rest => simp [Step.rest, Step.out]

theorem walkLoop_induct {ol : Bool} (P : List DNode → List Entry → Prop) (hnil : P [] [])
    (hstep : ∀ n r s es, walkStep ol n r = some s → P s.rest es → P (n :: r) (s.out ++ es)) :
    ∀ f cs es, cs.length < f → walkLoop ol f cs = some es → P cs es := by
  intro f
  induction f with
  | zero => intro cs es h; omega
  | succ f ih =>
    intro cs es hlen h
    cases cs with
    | nil => simp [walkLoop] at h; subst h; exact hnil
    | cons n r =>
      simp at hlen
      rw [walkLoop_succ ol n r (by omega)] at h
      cases hs : walkStep ol n r with
      | none => simp [hs] at h
      | some s =>
        simp [hs] at h
        obtain ⟨es', h1, rfl⟩ := h
        exact hstep n r s es' hs (ih s.rest es' (by have := walkStep_rest_length hs; omega) h1)

theorem walkLoop_fuel (ol : Bool) : ∀ f g cs, cs.length < f → cs.length < g → walkLoop ol f cs = walkLoop ol g cs := by
  intro f
  induction f with
  | zero => intro g cs h; omega
  | succ f ih =>
    intro g cs hf hg
    obtain ⟨g', rfl⟩ : ∃ g', g = g' + 1 := ⟨g - 1, by omega⟩
    cases cs with
    | nil => simp [walkLoop]
    | cons n r =>
      simp at hf hg
      rw [walkLoop_succ ol n r (by omega), walkLoop_succ ol n r (by omega)]
      cases hs : walkStep ol n r with
      | none => simp
      | some s =>
        have := walkStep_rest_length hs
        simp [ih g' s.rest (by omega) (by omega)]

theorem walkLoop_elements {ol : Bool} {f : Nat} {cs : List DNode} {es : List Entry} (hlen : cs.length < f)
    (h : walkLoop ol f cs = some es) :
    (es.filter isLoc).map core = (cs.filter DNode.isElement).map (elemEntry none none) := by
  refine walkLoop_induct (ol := ol) (fun cs es => (es.filter isLoc).map core = (cs.filter DNode.isElement).map (elemEntry none none))
    rfl ?_ f cs es hlen h
  intro n r s es hs ih
  obtain ⟨pre, hf⟩ := walkStep_facts hs
  have h1 := hf.split
  have h3 := hf.loc
  rw [h1]
  simp [List.filter_append, h3, ih]

theorem walkLoop_sublist {f : Nat} {cs : List DNode} {es : List Entry} (hlen : cs.length < f)
    (h : walkLoop false f cs = some es) :
    ∃ ks, ks.Sublist cs ∧ allText es = toxmlList ks := by
  refine walkLoop_induct (ol := false) (fun cs es => ∃ ks, ks.Sublist cs ∧ allText es = toxmlList ks)
    ⟨[], List.Sublist.refl _, rfl⟩ ?_ f cs es hlen h
  intro n r s es hs ⟨ks2, hsub2, hall2⟩
  obtain ⟨pre, hf⟩ := walkStep_facts hs
  have h1 := hf.split
  obtain ⟨ks1, hsub1, hall1, _⟩ := hf.text rfl
  refine ⟨ks1 ++ ks2, ?_, ?_⟩
  · rw [h1]; exact List.Sublist.append hsub1 hsub2
  · simp only [allText] at hall1 hall2 ⊢
    simp [List.flatMap_append, hall1, hall2, toxmlList_append]

theorem walkLoop_clean {f : Nat} {cs : List DNode} {es : List Entry} (hlen : cs.length < f)
    (h : walkLoop false f cs = some es) (hcl : Clean cs) : allText es = toxmlList cs := by
  refine walkLoop_induct (ol := false) (fun cs es => Clean cs → allText es = toxmlList cs)
    (fun _ => rfl) ?_ f cs es hlen h hcl
  intro n r s es hs ih hcl
  obtain ⟨pre, hf⟩ := walkStep_facts hs
  have h1 := hf.split
  obtain ⟨ks1, _, hall1, heq⟩ := hf.text rfl
  have hk := heq hcl
  subst hk
  have hcl2 : Clean s.rest := by rw [h1] at hcl; exact clean_suffix hcl
  rw [h1]
  simp only [allText] at hall1 ⊢
  have := ih hcl2
  simp only [allText] at this
  simp [List.flatMap_append, hall1, this, toxmlList_append]

def Step.mapOut (g : List Entry → List Entry) : Step → Step
  | .stop o => .stop (g o)
  | .cont o r => .cont (g o) r

theorem extras_true (cc ws : Option Lit) : extras true cc ws = [] := rfl

theorem stepElem_ol (cc ws : Option Lit) (n : DNode) (r : List DNode) :
    stepElem true cc ws n r = (stepElem false cc ws n r).map (Step.mapOut (List.filter isLoc)) := by
  unfold stepElem
  by_cases he : n.isElement = true
  · simp only [he, if_true]
    cases n <;> simp [DNode.isElement] at he
    rw [handleElement_eq]
    split
    · simp [Step.mapOut, isLoc_elemEntry]
    · simp
  · simp [he, Step.mapOut, extras_noLoc, extras_true]

theorem stepWhiteBody_ol (cc : Option Lit) (n : DNode) (d : List Nat) (r : List DNode) :
    stepWhiteBody true cc n d r = (stepWhiteBody false cc n d r).map (Step.mapOut (List.filter isLoc)) := by
  unfold stepWhiteBody
  cases n.toxml? with
  | none => simp
  | some wx =>
    cases cc with
    | none => simp [Step.mapOut, extras_noLoc, extras_true]
    | some c =>
      simp only
      split
      · simp [Step.mapOut, extras_noLoc, extras_true]
      · cases r with
        | nil => simp [Step.mapOut, extras_noLoc, extras_true]
        | cons n2 r2 => simp [stepElem_ol]

theorem stepWhite_ol (cc : Option Lit) (n : DNode) (r : List DNode) :
    stepWhite true cc n r = (stepWhite false cc n r).map (Step.mapOut (List.filter isLoc)) := by
  cases n <;> simp [stepWhite, stepWhiteBody_ol, stepElem_ol]

theorem walkStep_ol (n : DNode) (r : List DNode) :
    walkStep true n r = (walkStep false n r).map (Step.mapOut (List.filter isLoc)) := by
  cases n <;> simp [walkStep, stepWhite_ol]
  rename_i c
  cases handleComment c r with
  | none => simp
  | some p =>
    obtain ⟨cc, rem⟩ := p
    cases rem with
    | nil => simp [Step.mapOut, extras_noLoc, extras_true]
    | cons n1 r1 => simp [stepWhite_ol]

theorem mapOut_rest (g : List Entry → List Entry) (s : Step) : (Step.mapOut g s).rest = s.rest := by
  cases s <;> rfl
theorem mapOut_out (g : List Entry → List Entry) (s : Step) : (Step.mapOut g s).out = g s.out := by
  cases s <;> rfl

theorem walkLoop_ol : ∀ f cs, cs.length < f →
    walkLoop true f cs = (walkLoop false f cs).map (List.filter isLoc) := by
  intro f
  induction f with
  | zero => intro cs h; omega
  | succ f ih =>
    intro cs hlen
    cases cs with
    | nil => simp [walkLoop]
    | cons n r =>
      simp at hlen
      rw [walkLoop_succ true n r (by omega), walkLoop_succ false n r (by omega), walkStep_ol]
      cases hs : walkStep false n r with
      | none => simp
      | some s =>
        have := walkStep_rest_length hs
        simp [mapOut_rest, mapOut_out, ih s.rest (by omega)]
        cases walkLoop false f s.rest <;> simp

theorem printableList_append (a b : List DNode) : printableList (a ++ b) = (printableList a && printableList b) := by
  induction a with
  | nil => simp [printableList]
  | cons x xs ih => simp [printableList, ih, Bool.and_assoc]

theorem toxml?_of_printable {n : DNode} (h : n.printable = true) : n.toxml? = some n.toxml := by
  simp [DNode.toxml?, h]

theorem commentLoop_total (a v : List Nat) (l : List DNode) (hp : printableList l = true) :
    (commentLoop a v l).isSome = true := by
  fun_induction commentLoop a v l
  all_goals (try simp)
  · rename_i d c rest hs hx
    simp [printableList] at hp
    rw [toxml?_of_printable hp.2.1] at hx; cases hx
  · rename_i d c rest hs xml hx ih
    simp [printableList] at hp
    simpa [List.append_assoc] using ih hp.2.2
  · rename_i c rest hx
    simp [printableList] at hp
    rw [toxml?_of_printable hp.1] at hx; cases hx
  · rename_i c rest xml hx ih
    simp [printableList] at hp
    exact ih hp.2

theorem handleComment_total (c : List Nat) (r : List DNode) (hp : printableList (.comment c :: r) = true) :
    ∃ cc rem, handleComment c r = some (cc, rem) := by
  simp [printableList] at hp
  unfold handleComment
  rw [toxml?_of_printable hp.1]
  have := commentLoop_total (DNode.comment c).toxml (normalize c) r hp.2
  simp only
  cases h : commentLoop (DNode.comment c).toxml (normalize c) r with
  | none => simp [h] at this
  | some p => obtain ⟨a, v, rem⟩ := p; exact ⟨⟨a, v⟩, rem, by simp⟩

theorem stepElem_total (ol : Bool) (cc ws : Option Lit) (n : DNode) (r : List DNode) (hp : n.printable = true) :
    ∃ s, stepElem ol cc ws n r = some s := by
  unfold stepElem
  by_cases he : n.isElement = true
  · cases n <;> simp [DNode.isElement] at he
    simp [DNode.isElement, handleElement_eq, hp]
  · simp [he]

theorem stepWhiteBody_total (ol : Bool) (cc : Option Lit) (n : DNode) (d : List Nat) (r : List DNode)
    (hp : printableList (n :: r) = true) : ∃ s, stepWhiteBody ol cc n d r = some s := by
  simp [printableList] at hp
  unfold stepWhiteBody
  rw [toxml?_of_printable hp.1]
  cases cc with
  | none => simp
  | some c =>
    simp only
    split
    · simp
    · cases r with
      | nil => simp
      | cons n2 r2 =>
        simp [printableList] at hp
        exact stepElem_total ol _ _ n2 r2 hp.2.1

theorem stepWhite_total (ol : Bool) (cc : Option Lit) (n : DNode) (r : List DNode)
    (hp : printableList (n :: r) = true) : ∃ s, stepWhite ol cc n r = some s := by
  have hp1 : n.printable = true := by simp [printableList] at hp; exact hp.1
  cases n
  case text d => exact stepWhiteBody_total ol cc _ d r hp
  case cdata d => exact stepWhiteBody_total ol cc _ d r hp
  all_goals (simp only [stepWhite]; exact stepElem_total ol cc none _ r hp1)

theorem walkStep_total (ol : Bool) (n : DNode) (r : List DNode) (hp : printableList (n :: r) = true) :
    ∃ s, walkStep ol n r = some s := by
  cases n
  case comment c =>
    obtain ⟨cc, rem, hh⟩ := handleComment_total c r hp
    obtain ⟨_, ⟨⟨pre, ks, h1, _⟩, _, _⟩⟩ := handleComment_spec hh
    simp only [walkStep, hh]
    cases rem with
    | nil => simp
    | cons n1 r1 =>
      simp only
      apply stepWhite_total
      simp [printableList] at hp
      have := hp.2
      rw [h1, printableList_append] at this
      simp at this
      exact this.2
  all_goals (simp only [walkStep]; exact stepWhite_total ol none _ r hp)

theorem walkLoop_total (ol : Bool) : ∀ f cs, cs.length < f → printableList cs = true →
    ∃ es, walkLoop ol f cs = some es := by
  intro f
  induction f with
  | zero => intro cs h; omega
  | succ f ih =>
    intro cs hlen hp
    cases cs with
    | nil => exact ⟨[], by simp [walkLoop]⟩
    | cons n r =>
      simp at hlen
      obtain ⟨s, hs⟩ := walkStep_total ol n r hp
      have hl := walkStep_rest_length hs
      obtain ⟨pre, hf⟩ := walkStep_facts hs
      have h1 := hf.split
      have hp2 : printableList s.rest = true := by
        rw [h1, printableList_append] at hp
        simp at hp; exact hp.2
      obtain ⟨es, he⟩ := ih s.rest (by omega) hp2
      exact ⟨s.out ++ es, by rw [walkLoop_succ ol n r (by omega), hs]; simp [he]⟩

theorem documentElement?_mem {l : List DNode} {n : DNode} (h : documentElement? l = some n) :
    n ∈ l ∧ n.isElement = true := by
  induction l with
  | nil => simp [documentElement?] at h
  | cons x xs ih =>
    unfold documentElement? at h
    split at h
    · simp at h; subst h; simp_all
    · obtain ⟨h1, h2⟩ := ih h; exact ⟨by simp [h1], h2⟩

theorem printable_of_mem {l : List DNode} (hp : printableList l = true) {n : DNode} (hn : n ∈ l) :
    n.printable = true := by
  induction l with
  | nil => cases hn
  | cons x xs ih =>
    simp [printableList] at hp
    rcases List.mem_cons.mp hn with rfl | h
    · exact hp.1
    · exact ih hp.2 h

theorem entityKV_core (e : Entry) : entityKV (core e) = entityKV e := by
  cases e <;> rfl

theorem entityKV_notLoc {e : Entry} (h : isLoc e = false) : entityKV e = none := by
  cases e <;> simp [isLoc, Entry.isEntity, Entry.isJunk] at h <;> rfl

theorem filterMap_entityKV (es : List Entry) :
    es.filterMap entityKV = ((es.filter isLoc).map core).filterMap entityKV := by
  induction es with
  | nil => rfl
  | cons e es ih =>
    by_cases h : isLoc e = true
    · simp [h, entityKV_core, List.filterMap_cons, ih]
    · have h' : isLoc e = false := by simpa using h
      simp [h', List.filterMap_cons, entityKV_notLoc h', ih]

theorem entityKV_elemEntry (n : DNode) (he : n.isElement = true) :
    entityKV (elemEntry none none n) = if isStringElem n then some (nameOf n, rawOf n) else none := by
  cases n <;> simp [DNode.isElement] at he
  rename_i name attrs cs
  by_cases hs : isStringElem (.element name attrs cs) = true <;> simp [elemEntry, hs, entityKV, rawOf]

theorem filterMap_elems (cs : List DNode) :
    ((cs.filter DNode.isElement).map (elemEntry none none)).filterMap entityKV =
      (cs.filter isStringElem).map (fun n => (nameOf n, rawOf n)) := by
  induction cs with
  | nil => rfl
  | cons n cs ih =>
    by_cases he : n.isElement = true
    · by_cases hs : isStringElem n = true
      · simp [he, hs, entityKV_elemEntry n he, ih]
      · simp [he, hs, entityKV_elemEntry n he, ih]
    · have hs : isStringElem n = false := by
        cases n <;> simp [DNode.isElement, isStringElem] at he ⊢
      simp [he, hs, ih]

theorem isLoc_attrWrapper (a : List Nat × List Nat) : isLoc (attrWrapper a) = false := rfl

theorem filterLoc_wrappers (attrs : List (List Nat × List Nat)) : (attrs.map attrWrapper).filter isLoc = [] := by
  rw [List.filter_eq_nil_iff]
  intro e he
  obtain ⟨a, _, rfl⟩ := List.mem_map.mp he
  simp [isLoc_attrWrapper]

theorem allText_append (a b : List Entry) : allText (a ++ b) = allText a ++ allText b := by
  simp [allText]

theorem allText_wrappers (attrs : List (List Nat × List Nat)) :
    allText (attrs.map attrWrapper) = attrs.flatMap rawAttr := by
  induction attrs with
  | nil => rfl
  | cons a as ih =>
    simp only [allText] at ih
    simp [allText, rawAttr, ih]

theorem walk_resources {contents : List Nat} {docChildren : List DNode} {name : List Nat}
    {attrs : List (List Nat × List Nat)} {children : List DNode} (ol : Bool)
    (hroot : documentElement? docChildren = some (.element name attrs children))
    (hname : name = Gen.TablesAndroid.resources_tag) :
    walk (some (contents, .doc docChildren)) ol =
      (walkLoop ol (children.length + 1) children).map (fun body =>
        (if ol then [] else
          [Entry.wrapper Gen.TablesAndroid.open_key Gen.TablesAndroid.open_all] ++ attrs.map attrWrapper ++
          [Entry.wrapper Gen.TablesAndroid.gt_key Gen.TablesAndroid.gt_all]) ++ body ++
        (if ol then [] else [Entry.wrapper Gen.TablesAndroid.close_key Gen.TablesAndroid.close_all])) := by
  simp [walk, hroot, hname]

end C09P
