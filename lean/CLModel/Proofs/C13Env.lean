/-
`Except.map` inverted (the list loops of the model end in `(loop rest).map (x :: ·)`), `find?` when one element only has the
property, membership in a fold of set insertions
(`sorted(set(..))`, `|=`), and what `dictGet` reads after `PF.dictSet`/`dictUpdate` (Python's `d[k] = v` and `dict.update` on
association lists).
-/
import CLModel.Paths.ProjectFiles
import CLModel.Proofs.Dict
namespace PF

theorem map_eq_error {ε α β} {f : α → β} {x : Except ε α} {e : ε} (h : x.map f = .error e) : x = .error e := by
  cases x with
  | error _ => cases h; rfl
  | ok _ => cases h

theorem map_eq_ok {ε α β} {f : α → β} {x : Except ε α} {b : β} (h : x.map f = .ok b) : ∃ a, x = .ok a ∧ f a = b := by
  cases x with
  | error _ => cases h
  | ok a => exact ⟨a, rfl, Except.ok.inj h⟩

theorem find?_of_unique {α} {l : List α} {p : α → Bool} {x : α} (hx : x ∈ l) (hp : p x = true)
    (hu : ∀ y ∈ l, p y = true → y = x) : l.find? p = some x := by
  cases hf : l.find? p with
  | none => exact absurd hp (List.find?_eq_none.1 hf x hx)
  | some y => rw [hu y (List.mem_of_find?_eq_some hf) (List.find?_some hf)]

/-- a loop of insertions into a set, whatever the order the set is kept in -/
theorem mem_foldl_insert {α} {ins : α → List α → List α} (h : ∀ x y l, y ∈ ins x l ↔ y = x ∨ y ∈ l) {y : α} :
    ∀ {l s : List α}, y ∈ l.foldl (fun s x => ins x s) s ↔ y ∈ s ∨ y ∈ l
  | [], s => by simp
  | x :: xs, s => by
    rw [List.foldl_cons, mem_foldl_insert h (l := xs), h, List.mem_cons, or_comm (a := y = x), or_assoc]

theorem dictGet_set (d : List (Nat × Nat)) (k' v k : Nat) :
    dictGet (dictSet d k' v) k = if k' = k then some v else dictGet d k :=
  (AR.dget_dset d k' k v).trans (by simp only [beq_iff_eq]; rfl)

theorem dictGet_update (o d : List (Nat × Nat)) (k : Nat) :
    dictGet (dictUpdate d o) k = (dictGet o.reverse k).or (dictGet d k) :=
  AR.dget_foldl_dset o d k

end PF
