/- `Parser.getNext`, `PropertiesParser.getNext` and `DefinesParser.getNext` are one function: try a comment, then
   white-space, then the key expression, and fall back.  `skel` is that function over the parts in which the three differ
   (`Stages`); each model function is proved equal to its instance once (for `DefinesParser` the entry only: the
   `filter_empty_lines` flag it also returns is not part of `skel`), and `skel_cases` is the one case analysis
   ("what a call of `getNext` can return, and from which matches") that progress, span shape and the white-space facts
   are read off; `skel_plain` … `skel_comment_nokey` are the converse rules (which matches give which entry). -/
import CLModel.Parser.Formats
import CLModel.Proofs.RxLemmas
namespace P
open Rx Gen.Pat

/-- the parts in which the `getNext` functions differ -/
structure Stages where
  reComment : Re
  reWhitespace : Re
  reKey : Re
  /-- the License test on a comment `[off0, e)` -/
  lic : Nat → Nat → Bool
  /-- a result decided as soon as white-space `[off1, e)` matched (defines: the blank-line rule); arguments: a comment
      matched, `off0`, `off1`, `e` -/
  early : Bool → Nat → Nat → Nat → Option Entry
  /-- `createEntity` for a key match at `off2`: end, key span, value span (`none`: it raised) -/
  create : Nat → St → Option (Nat × (Int × Int) × (Int × Int))
  /-- nothing matched at `off0` -/
  other : Nat → Entry

def commentE (a b : Nat) : Entry := { kind := .comment, full := a, s := a, e := b }

def wsE (a b : Nat) : Entry := { kind := .whitespace, full := a, s := a, e := b, ks := a, ke := b, vs := a, ve := b }

/-- the entity for a key match at `off2` behind an optional comment `[off0, off1)` (`b`: there is one) -/
def entityE (off0 off1 off2 : Nat) (b : Bool) (r : Nat × (Int × Int) × (Int × Int)) : Entry :=
  { kind := .entity, full := off0, s := off2, e := r.1, ks := r.2.1.1, ke := r.2.1.2, vs := r.2.2.1, ve := r.2.2.2,
    pc := if b then some (off0, off1) else none }

/-- the last stage: the key expression at `o2`, behind an optional comment `[off, o1)` (`b`) -/
def keyStage (K : Stages) (s : Array Nat) (off o1 o2 : Nat) (b : Bool) : Entry :=
  match (matchAt s K.reKey o2).bind fun km => (K.create o2 km).map (entityE off o1 o2 b) with
  | some e => e
  | none => if b then commentE off o1 else K.other off

/-- the middle stage: white-space at `o1` -/
def wsStage (K : Stages) (s : Array Nat) (off o1 : Nat) (b : Bool) : Entry :=
  match matchAt s K.reWhitespace o1 with
  | none => keyStage K s off o1 o1 b
  | some w =>
    match K.early b off o1 w.pos with
    | some e => e
    | none =>
      if b then (if countNl s o1 w.pos > 1 then commentE off o1 else keyStage K s off o1 w.pos true)
      else wsE o1 w.pos

def skel (K : Stages) (s : Array Nat) (off : Nat) : Entry :=
  match matchAt s K.reComment off with
  | none => wsStage K s off off false
  | some cst => if K.lic off cst.pos then commentE off cst.pos else wsStage K s off cst.pos true

/-- where the search for white-space and the key starts: at `off`, or behind a comment `[off, o1)` -/
def Pre (K : Stages) (s : Array Nat) (off o1 : Nat) (b : Bool) : Prop :=
  (matchAt s K.reComment off = none ∧ o1 = off ∧ b = false) ∨
  (∃ cst, matchAt s K.reComment off = some cst ∧ o1 = cst.pos ∧ b = true)

/-- where the key is looked for: at `o1`, or behind white-space `[o1, o2)` -/
def Gap (K : Stages) (s : Array Nat) (o1 o2 : Nat) : Prop :=
  (matchAt s K.reWhitespace o1 = none ∧ o2 = o1) ∨ (∃ w, matchAt s K.reWhitespace o1 = some w ∧ o2 = w.pos)

/-- `b = false → o2 = o1` in `hentity`: white-space is skipped in front of a key only behind a comment; where no comment
    starts it is returned as an entry of its own (`hws`) -/
theorem skel_cases (K : Stages) (s : Array Nat) (off : Nat) (Q : Entry → Prop)
    (hcomment : ∀ cst, matchAt s K.reComment off = some cst → Q (commentE off cst.pos))
    (hws : ∀ w, matchAt s K.reComment off = none → matchAt s K.reWhitespace off = some w → Q (wsE off w.pos))
    (hearly : ∀ o1 b w e, Pre K s off o1 b → matchAt s K.reWhitespace o1 = some w → K.early b off o1 w.pos = some e → Q e)
    (hentity : ∀ o1 o2 b km r, Pre K s off o1 b → Gap K s o1 o2 → (b = false → o2 = o1) → matchAt s K.reKey o2 = some km →
      K.create o2 km = some r → Q (entityE off o1 o2 b r))
    (hother : matchAt s K.reComment off = none → matchAt s K.reWhitespace off = none → Q (K.other off)) :
    Q (skel K s off) := by
  have key : ∀ o1 o2 b, Pre K s off o1 b → Gap K s o1 o2 → (b = false → o2 = o1) →
      Q (if b then commentE off o1 else K.other off) → Q (keyStage K s off o1 o2 b) := by
    intro o1 o2 b hp hg h0 hlast
    unfold keyStage
    cases hk : matchAt s K.reKey o2 with
    | none => exact hlast
    | some km =>
      cases hr : K.create o2 km with
      | none => simpa [hr] using hlast
      | some r => simpa [hr] using hentity o1 o2 b km r hp hg h0 hk hr
  have stage2 : ∀ o1 b, Pre K s off o1 b → (b = true → Q (commentE off o1)) → (b = false → o1 = off) →
      Q (wsStage K s off o1 b) := by
    intro o1 b hp hcm h0
    unfold wsStage
    cases hw : matchAt s K.reWhitespace o1 with
    | none =>
      refine key o1 o1 b hp (.inl ⟨hw, rfl⟩) (fun _ => rfl) ?_
      cases b with
      | true => exact hcm rfl
      | false =>
        rcases hp with ⟨h1, _, _⟩ | ⟨_, _, _, hb⟩
        · exact (h0 rfl) ▸ hother h1 ((h0 rfl) ▸ hw)
        · cases hb
    | some w =>
      simp only []
      cases he : K.early b off o1 w.pos with
      | some e => exact hearly o1 b w e hp hw he
      | none =>
        cases b with
        | true =>
          simp only [if_true]
          split
          · exact hcm rfl
          · exact key o1 w.pos true hp (.inr ⟨w, hw, rfl⟩) (fun h => by cases h) (hcm rfl)
        | false =>
          rcases hp with ⟨h1, _, _⟩ | ⟨_, _, _, hb⟩
          · have := hws w h1 ((h0 rfl) ▸ hw)
            simpa [h0 rfl] using this
          · cases hb
  unfold skel
  cases hcm : matchAt s K.reComment off with
  | none => exact stage2 off false (.inl ⟨hcm, rfl, rfl⟩) (fun h => by cases h) (fun _ => rfl)
  | some cst =>
    simp only
    split
    · exact hcomment cst hcm
    · exact stage2 cst.pos true (.inr ⟨cst, hcm, rfl, rfl⟩) (fun _ => hcomment cst hcm) (fun h => by cases h)

section
variable {K : Stages} {s : Array Nat} {off : Nat}

theorem skel_plain {km : St} {r : Nat × (Int × Int) × (Int × Int)} (hcm : matchAt s K.reComment off = none)
    (hws : matchAt s K.reWhitespace off = none) (hkm : matchAt s K.reKey off = some km) (hcr : K.create off km = some r) :
    skel K s off = entityE off off off false r := by
  simp [skel, wsStage, keyStage, hcm, hws, hkm, hcr]

theorem skel_white {w : St} (hcm : matchAt s K.reComment off = none) (hws : matchAt s K.reWhitespace off = some w)
    (he : K.early false off off w.pos = none) : skel K s off = wsE off w.pos := by
  simp [skel, wsStage, hcm, hws, he]

theorem skel_other (hcm : matchAt s K.reComment off = none) (hws : matchAt s K.reWhitespace off = none)
    (hkm : matchAt s K.reKey off = none) : skel K s off = K.other off := by
  simp [skel, wsStage, keyStage, hcm, hws, hkm]

/-- the gap between a comment that ends at `o1` and a key at `o2` that leaves the comment attached: nothing, or
    white-space with at most one newline -/
def Attach (K : Stages) (s : Array Nat) (off o1 o2 : Nat) : Prop :=
  (matchAt s K.reWhitespace o1 = none ∧ o2 = o1) ∨
    ∃ w, matchAt s K.reWhitespace o1 = some w ∧ w.pos = o2 ∧ K.early true off o1 o2 = none ∧ ¬ countNl s o1 o2 > 1

theorem skel_commented {stc km : St} {o2 : Nat} {r : Nat × (Int × Int) × (Int × Int)}
    (hcm : matchAt s K.reComment off = some stc) (hlic : K.lic off stc.pos = false) (hgap : Attach K s off stc.pos o2)
    (hkm : matchAt s K.reKey o2 = some km) (hcr : K.create o2 km = some r) :
    skel K s off = entityE off stc.pos o2 true r := by
  rcases hgap with ⟨hws, rfl⟩ | ⟨w, hws, rfl, he, hn⟩
  · simp [skel, wsStage, keyStage, hcm, hlic, hws, hkm, hcr]
  · simp [skel, wsStage, keyStage, hcm, hlic, hws, he, hn, hkm, hcr]

theorem skel_free_comment {stc w : St} (hcm : matchAt s K.reComment off = some stc)
    (hws : matchAt s K.reWhitespace stc.pos = some w) (he : K.early true off stc.pos w.pos = none)
    (hn : countNl s stc.pos w.pos > 1) : skel K s off = commentE off stc.pos := by
  cases hl : K.lic off stc.pos <;> simp [skel, wsStage, hcm, hl, hws, he, hn]

theorem skel_comment_nokey {stc : St} {o2 : Nat} (hcm : matchAt s K.reComment off = some stc)
    (hgap : (matchAt s K.reWhitespace stc.pos = none ∧ o2 = stc.pos) ∨
      ∃ w, matchAt s K.reWhitespace stc.pos = some w ∧ w.pos = o2 ∧ K.early true off stc.pos o2 = none)
    (hkm : matchAt s K.reKey o2 = none) : skel K s off = commentE off stc.pos := by
  cases hl : K.lic off stc.pos
  · rcases hgap with ⟨hws, rfl⟩ | ⟨w, hws, rfl, he⟩
    · simp [skel, wsStage, keyStage, hcm, hl, hws, hkm]
    · by_cases hn : countNl s stc.pos w.pos > 1 <;> simp [skel, wsStage, keyStage, hcm, hl, hws, he, hn, hkm]
  · simp [skel, hcm, hl]

end

theorem Pre.bounds {K : Stages} {s : Array Nat} {off o1 : Nat} {b : Bool} (h : Pre K s off o1 b)
    (hc : 1 ≤ minLen K.reComment) (hoff : off ≤ s.size) :
    (b = false ∧ o1 = off) ∨ (b = true ∧ off < o1 ∧ o1 ≤ s.size) := by
  rcases h with ⟨_, h1, h2⟩ | ⟨cst, h0, h1, h2⟩
  · exact .inl ⟨h2, h1⟩
  · have := matchAt_span h0 hoff
    exact .inr ⟨h2, by omega, by omega⟩

theorem Gap.bounds {K : Stages} {s : Array Nat} {o1 o2 : Nat} (h : Gap K s o1 o2) (ho : o1 ≤ s.size) :
    o1 ≤ o2 ∧ o2 ≤ s.size := by
  rcases h with ⟨_, rfl⟩ | ⟨w, h0, rfl⟩
  · exact ⟨Nat.le_refl _, ho⟩
  · have := matchAt_span h0 ho
    omega

def baseK (c : BaseCfg) (s : Array Nat) : Stages where
  reComment := c.reComment
  reWhitespace := c.reWhitespace
  reKey := c.reKey
  lic := fun off e => off < 2 && isInfix licenseWord (commentVal c.commentStyle (slice s off e))
  early := fun _ _ _ _ => none
  create := c.create s
  other := fun off => getJunk s off c.junkExps

theorem getNext_eq_skel (c : BaseCfg) (s : Array Nat) (off : Nat) : getNext c s off = skel (baseK c s) s off := by
  unfold getNext skel wsStage keyStage
  rcases hcm : matchAt s c.reComment off with _ | cst
  · rcases hws : matchAt s c.reWhitespace off with _ | w
    · rcases hk : matchAt s c.reKey off with _ | km
      · simp [baseK, hcm, hws, hk]
      · rcases hr : c.create s off km with _ | r <;> simp [baseK, hcm, hws, hk, hr, entityE]
    · simp [baseK, hcm, hws, wsE]
  · by_cases hl : (decide (off < 2) && isInfix licenseWord (commentVal c.commentStyle (slice s off cst.pos))) = true
    · simp [baseK, hcm, hl, commentE]
    · rcases hws : matchAt s c.reWhitespace cst.pos with _ | w
      · rcases hk : matchAt s c.reKey cst.pos with _ | km
        · simp [baseK, hcm, hl, hws, hk, commentE]
        · rcases hr : c.create s cst.pos km with _ | r <;> simp [baseK, hcm, hl, hws, hk, hr, commentE, entityE]
      · by_cases hn : countNl s cst.pos w.pos > 1
        · simp [baseK, hcm, hl, hws, hn, commentE]
        · rcases hk : matchAt s c.reKey w.pos with _ | km
          · simp [baseK, hcm, hl, hws, hn, hk, commentE]
          · rcases hr : c.create s w.pos km with _ | r <;> simp [baseK, hcm, hl, hws, hn, hk, hr, commentE, entityE]

theorem getNext_entity (c : BaseCfg) (s : Array Nat) (off : Nat) (h : (getNext c s off).kind = .entity) :
    ∃ km r, c.create s (getNext c s off).s km = some r := by
  rw [getNext_eq_skel] at h ⊢
  revert h
  apply skel_cases (baseK c s) s off (fun e => e.kind = .entity → ∃ km r, c.create s e.s km = some r)
  · intro _ _ h; cases h
  · intro _ _ _ h; cases h
  · intro _ _ _ _ _ _ h; cases h
  · intro _ o2 _ km r _ _ _ _ hcr _; exact ⟨km, r, hcr⟩
  · intro _ _ h; cases h

/-- end, key span and value span of the entity `PropertiesParser.getNext` builds for a key match -/
def propsCreate (s : Array Nat) (km : St) : Nat × (Int × Int) × (Int × Int) :=
  let (endval0, startline) := propsLines s (s.size + 1) km.pos km.pos
  let endval := match search s PropertiesParser__trailingWS startline with
    | some (q, _) => q
    | none => endval0
  (endval, spanI km PropertiesParser_reKey_g_key, (km.pos, endval))

def propsK (s : Array Nat) : Stages where
  reComment := PropertiesParser_reComment
  reWhitespace := Parser_reWhitespace
  reKey := PropertiesParser_reKey
  lic := fun off e => off == 0 && isInfix licenseWord (commentVal (.offset Gen.Tables.offsetCommentDefault) (slice s off e))
  early := fun _ _ _ _ => none
  create := fun _ km => some (propsCreate s km)
  other := fun off => getJunk s off [PropertiesParser_reKey, PropertiesParser_reComment]

theorem propsGetNext_eq_skel (s : Array Nat) (off : Nat) : propsGetNext s off = skel (propsK s) s off := by
  rcases hcm : matchAt s PropertiesParser_reComment off with _ | cst
  · rcases hws : matchAt s Parser_reWhitespace off with _ | w
    · rcases hk : matchAt s PropertiesParser_reKey off with _ | km
      · simp [propsGetNext, skel, wsStage, keyStage, propsK, hcm, hws, hk]
      · simp only [propsGetNext, skel, wsStage, keyStage, propsK, hcm, hws, hk]; rfl
    · simp [propsGetNext, skel, wsStage, keyStage, propsK, hcm, hws, wsE]
  · by_cases hl : (off == 0 && isInfix licenseWord (commentVal (.offset Gen.Tables.offsetCommentDefault)
        (slice s off cst.pos))) = true
    · simp [propsGetNext, skel, wsStage, keyStage, propsK, hcm, hl, commentE]
    · rcases hws : matchAt s Parser_reWhitespace cst.pos with _ | w
      · rcases hk : matchAt s PropertiesParser_reKey cst.pos with _ | km
        · simp [propsGetNext, skel, wsStage, keyStage, propsK, hcm, hl, hws, hk, commentE]
        · simp only [propsGetNext, skel, wsStage, keyStage, propsK, hcm, hl, hws, hk]; rfl
      · by_cases hn : countNl s cst.pos w.pos > 1
        · simp [propsGetNext, skel, wsStage, keyStage, propsK, hcm, hl, hws, hn, commentE]
        · rcases hk : matchAt s PropertiesParser_reKey w.pos with _ | km
          · simp [propsGetNext, skel, wsStage, keyStage, propsK, hcm, hl, hws, hn, hk, commentE]
          · simp [propsGetNext, skel, wsStage, keyStage, propsK, hcm, hl, hws, hn, hk, propsCreate, entityE]
            exact ⟨rfl, rfl⟩

/-- what `DefinesParser.getNext` returns where neither a comment nor a newline nor a key starts -/
def definesOther (s : Array Nat) (off : Nat) : Entry :=
  match matchAt s DefinesParser_rePI off with
  | some st =>
    let v := spanI st DefinesParser_rePI_g_val
    { kind := .instruction, full := off, s := off, e := st.pos, ks := v.1, ke := v.2, vs := v.1, ve := v.2 }
  | none => getJunk s off [DefinesParser_reComment, DefinesParser_reKey, DefinesParser_rePI]

def definesK (s : Array Nat) (fel : Bool) : Stages where
  reComment := DefinesParser_reComment
  reWhitespace := DefinesParser_reWhitespace
  reKey := DefinesParser_reKey
  lic := fun _ _ => false
  early := fun b off0 off1 e =>
    if off1 == 0 || !(e - off1 == 1 || fel) then
      if b then some (commentE off0 off1) else some { kind := .junk, full := off1, s := off1, e := e }
    else none
  create := fun _ km => some (km.pos, spanI km DefinesParser_reKey_g_key, spanI km DefinesParser_reKey_g_val)
  other := definesOther s

theorem definesGetNext_eq_skel (s : Array Nat) (fel : Bool) (off : Nat) :
    (definesGetNext s fel off).1 = skel (definesK s fel) s off := by
  rcases hcm : matchAt s DefinesParser_reComment off with _ | cst
  · rcases hws : matchAt s DefinesParser_reWhitespace off with _ | w
    · rcases hk : matchAt s DefinesParser_reKey off with _ | km
      · simp only [definesGetNext, skel, wsStage, keyStage, definesK, definesOther, hcm, hws, hk]
        rcases matchAt s DefinesParser_rePI off with _ | st <;> rfl
      · simp [definesGetNext, skel, wsStage, keyStage, definesK, hcm, hws, hk, entityE]
    · cases he : (off == 0 || !(w.pos - off == 1 || fel))
      · simp only [definesGetNext, skel, wsStage, keyStage, definesK, hcm, hws, he]; rfl
      · simp only [definesGetNext, skel, wsStage, keyStage, definesK, hcm, hws, he]; rfl
  · rcases hws : matchAt s DefinesParser_reWhitespace cst.pos with _ | w
    · rcases hk : matchAt s DefinesParser_reKey cst.pos with _ | km <;>
        simp [definesGetNext, skel, wsStage, keyStage, definesK, hcm, hws, hk, commentE, entityE]
    · cases he : (cst.pos == 0 || !(w.pos - cst.pos == 1 || fel))
      case true => simp only [definesGetNext, skel, wsStage, keyStage, definesK, hcm, hws, he]; rfl
      case false =>
        by_cases hn : countNl s cst.pos w.pos > 1
        · simp only [definesGetNext, skel, wsStage, keyStage, definesK, hcm, hws, he]
          simp [hn, commentE]
        · rcases hk : matchAt s DefinesParser_reKey w.pos with _ | km <;>
            simp only [definesGetNext, skel, wsStage, keyStage, definesK, hcm, hws, he, hk] <;> simp [hn, commentE, entityE]

end P
