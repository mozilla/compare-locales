/-
C18: `multi_file_union` for the Observer's aggregation (details tree and summaries), on the C10 models
(`ObsM.Obs.run`, `TreeM.find`, `ObsM.getCount`).  A multi-file run hands the observer one block of events per file
pair; the closed forms of C10 (`ObsM.init_details`, `ObsM.init_summary_counts`) make the result per path / per counter a
function of the blocks: the details at a path do not depend on the order of the blocks (`detailsSpec_flat_perm`; the
permutation theorem itself is `C18.multi_file_union_observer_order`), and the run stores what the single-file runs store
(`observer_union`).
-/
import CLModel.Proofs.C10Obs
namespace C18M
open TreeM ObsM

/-- the event history of a multi-file run: the blocks one after the other -/
def flat (bs : List (File × List Ev)) : List Ev := (bs.map (·.2)).flatten

/-- every block reports on its own file -/
def OwnFile (bs : List (File × List Ev)) : Prop := ∀ b ∈ bs, ∀ ev ∈ b.2, ev.file = b.1

/-- the files of two blocks have different tree paths -/
def SepPath (a b : File × List Ev) : Prop := ∀ p, ¬ (hasParts a.1 p = true ∧ hasParts b.1 p = true)

theorem detailsSpec_other (q : Nat) (flt : Option Filter) (b : File × List Ev) (hown : ∀ ev ∈ b.2, ev.file = b.1)
    (p : List Part) (hp : hasParts b.1 p = false) : detailsSpec q flt b.2 p = [] := by
  unfold detailsSpec
  rw [List.filterMap_eq_nil_iff]
  intro ev hev
  have hf := hown ev hev
  cases ev with
  | notify cat f d =>
    simp only [Ev.file] at hf
    subst hf
    simp [evDetail, hp]
  | stats f st => rfl

theorem detailsSpec_flat (q : Nat) (flt : Option Filter) (bs : List (File × List Ev)) (p : List Part) :
    detailsSpec q flt (flat bs) p = (bs.map (fun b => detailsSpec q flt b.2 p)).flatten := by
  unfold detailsSpec flat
  rw [List.filterMap_flatten, List.map_map]
  rfl

theorem flatten_perm_eq {α β : Type} (g : α → List β) {l l' : List α} (hp : l.Perm l')
    (hs : l.Pairwise (fun a b => g a = [] ∨ g b = [])) : (l.map g).flatten = (l'.map g).flatten := by
  induction hp with
  | nil => rfl
  | cons x _ ih =>
    simp only [List.map_cons, List.flatten_cons]
    rw [ih (List.pairwise_cons.mp hs).2]
  | swap x y l =>
    simp only [List.map_cons, List.flatten_cons]
    have hyx := (List.pairwise_cons.mp hs).1 x (by simp)
    rcases hyx with h | h <;> simp [h]
  | trans h1 _ ih1 ih2 =>
    have hsym : ∀ a b : α, (g a = [] ∨ g b = []) → (g b = [] ∨ g a = []) := fun _ _ h => h.symm
    rw [ih1 hs, ih2 ((h1.pairwise_iff (fun {a b} h => hsym a b h)).mp hs)]

theorem detailsSpec_sep (q : Nat) (flt : Option Filter) {bs : List (File × List Ev)} (hown : OwnFile bs)
    (hsep : bs.Pairwise SepPath) (p : List Part) :
    bs.Pairwise (fun a c => detailsSpec q flt a.2 p = [] ∨ detailsSpec q flt c.2 p = []) := by
  refine List.Pairwise.imp_of_mem (fun {a c} ha hc hac => ?_) hsep
  cases hpa : hasParts a.1 p with
  | false => exact Or.inl (detailsSpec_other q flt a (hown a ha) p hpa)
  | true =>
    cases hpc : hasParts c.1 p with
    | false => exact Or.inr (detailsSpec_other q flt c (hown c hc) p hpc)
    | true => exact absurd ⟨hpa, hpc⟩ (hac p)

theorem detailsSpec_flat_perm (q : Nat) (flt : Option Filter) {bs bs' : List (File × List Ev)} (hown : OwnFile bs)
    (hsep : bs.Pairwise SepPath) (hperm : bs.Perm bs') (p : List Part) :
    detailsSpec q flt (flat bs) p = detailsSpec q flt (flat bs') p := by
  rw [detailsSpec_flat, detailsSpec_flat]
  exact flatten_perm_eq (fun b => detailsSpec q flt b.2 p) hperm (detailsSpec_sep q flt hown hsep p)

theorem countSpec_flat (ign : Ev → Bool) (loc : Option Text) (key : StatKey) (bs : List (File × List Ev)) :
    countSpec ign loc key (flat bs) = (bs.map (fun b => countSpec ign loc key b.2)).sum := by
  unfold countSpec flat
  induction bs with
  | nil => rfl
  | cons b t ih => simp only [List.map_cons, List.flatten_cons, List.map_append, List.sum_append, List.sum_cons, ih]

theorem single_counts (q : Nat) (flt : Option Filter) (bs : List (File × List Ev)) (obOf : File × List Ev → Obs)
    (hf : ∀ b ∈ bs, (Obs.init q flt).run b.2 = .ok (obOf b)) (loc : Option Text) (key : StatKey) :
    bs.map (fun b => countSpec (ignObs flt) loc key b.2) = bs.map (fun b => getCount (obOf b).summary loc key) := by
  apply List.map_congr_left
  intro b hb
  exact (ObsM.init_summary_counts q flt b.2 (obOf b) (hf b hb) loc key).symm

theorem observer_union (q : Nat) (flt : Option Filter) (bs : List (File × List Ev))
    (hown : OwnFile bs) (hsep : bs.Pairwise SepPath) (o : Obs) (hr : (Obs.init q flt).run (flat bs) = .ok o) :
    (∀ b ∈ bs, ∀ ob, (Obs.init q flt).run b.2 = .ok ob → ∀ p, hasParts b.1 p = true →
        find o.details p = find ob.details p) ∧
    (∀ (obOf : File × List Ev → Obs), (∀ b ∈ bs, (Obs.init q flt).run b.2 = .ok (obOf b)) →
        ∀ loc key, getCount o.summary loc key = (bs.map (fun b => getCount (obOf b).summary loc key)).sum) := by
  constructor
  · intro b hb ob hrb p hp
    -- move the block to the front
    obtain ⟨rest, hperm⟩ : ∃ rest, bs.Perm (b :: rest) := by
      obtain ⟨l1, l2, rfl⟩ := List.append_of_mem hb
      exact ⟨l1 ++ l2, List.perm_middle⟩
    have hrest : ((rest.map (fun b => detailsSpec q flt b.2 p)).flatten) = [] := by
      rw [List.flatten_eq_nil_iff]
      intro l hl
      rw [List.mem_map] at hl
      obtain ⟨c, hc, rfl⟩ := hl
      have hcbs : c ∈ bs := hperm.symm.subset (List.mem_cons_of_mem _ hc)
      have hsep' : (b :: rest).Pairwise SepPath :=
        (hperm.pairwise_iff (fun {x y} (h : SepPath x y) => (fun p hh => h p ⟨hh.2, hh.1⟩ : SepPath y x))).mp hsep
      have hbc := (List.pairwise_cons.mp hsep').1 c hc
      cases hpc : hasParts c.1 p with
      | false => exact detailsSpec_other q flt c (hown c hcbs) p hpc
      | true => exact absurd ⟨hp, hpc⟩ (hbc p)
    rw [ObsM.init_details hr p, ObsM.init_details hrb p, detailsSpec_flat_perm q flt hown hsep hperm p, detailsSpec_flat,
      List.map_cons, List.flatten_cons, hrest, List.append_nil]
  · intro obOf hf loc key
    rw [ObsM.init_summary_counts q flt (flat bs) o hr loc key, countSpec_flat, single_counts q flt bs obOf hf loc key]

end C18M
