/-
Two runs of `compareProjects` that differ only in the quiet level go through the same history of events: the calls, the
printed lines and the junk counter coincide, and the two `ObserverList`s are runs of one common event sequence, so every
summary number, the error flag and the exit status coincide and the details only shrink (CLModel/Props/C10.lean).  The
control flow never looks at anything quiet-dependent: a return value of `notify` is a function of the filters alone.
-/
import CLModel.Compare.ProjectsPipe
import CLModel.Proofs.C10Proj
import CLModel.Proofs.C10ProjPipe
namespace C10P
open TreeM ObsM ProjM

def SameFilters (l1 l2 : ObsList) : Prop := l1.filters = l2.filters

def SyncRun (l1 l2 l1' l2' : ObsList) (evs : List Ev) : Prop :=
  l1.run evs = .ok l1' ∧ l2.run evs = .ok l2'

theorem SyncRun.filters {l1 l2 l1' l2' : ObsList} {evs : List Ev} (hs : SameFilters l1 l2)
    (h : SyncRun l1 l2 l1' l2' evs) : SameFilters l1' l2' := by
  unfold SameFilters at hs ⊢
  rw [(ObsList.run_filters _ h.1).1, (ObsList.run_filters _ h.2).1, hs]

theorem SyncRun.trans {l1 l2 m1 m2 n1 n2 : ObsList} {a b : List Ev}
    (h1 : SyncRun l1 l2 m1 m2 a) (h2 : SyncRun m1 m2 n1 n2 b) : SyncRun l1 l2 n1 n2 (a ++ b) :=
  ⟨ObsList.run_trans h1.1 h2.1, ObsList.run_trans h1.2 h2.2⟩

/-- `ContentComparer.compare` never looks at anything but the return values of `notify`: started on two observer lists
    with the same project filters it raises the same events, prints the same lines and spends the same junk ids -/
def CompareSync (w : World) : Prop :=
  ∀ c junk l1 l2 r1 r2, SameFilters l1 l2 → w.compareBody c junk l1 = .ok r1 → w.compareBody c junk l2 = .ok r2 →
    r1.2 = r2.2 ∧ ∃ evs, SyncRun l1 l2 r1.1 r2.1 evs

structure SimSt (st1 st2 : St) : Prop where
  filters : SameFilters st1.obs st2.obs
  out : st1.out = st2.out
  calls : st1.calls = st2.calls
  junk : st1.junk = st2.junk

theorem mergeCopy_sim {w : World} {m : Option Path} {miss : List (List Nat)} {st1 st2 st1' st2' : St}
    (hs : SimSt st1 st2) (h1 : mergeCopy w m miss st1 = .ok st1') (h2 : mergeCopy w m miss st2 = .ok st2') :
    SimSt st1' st2' ∧ st1'.obs = st1.obs ∧ st2'.obs = st2.obs := by
  obtain ⟨printed, hp⟩ := mergeCopy_out w m miss
  rw [hp _ _ h1, hp _ _ h2]
  exact ⟨⟨hs.filters, by simp [hs.out], hs.calls, hs.junk⟩, rfl, rfl⟩

def SyncSt (st1 st2 st1' st2' : St) : Prop :=
  SimSt st1' st2' ∧ ∃ evs, SyncRun st1.obs st2.obs st1'.obs st2'.obs evs

theorem SyncSt.trans {a1 a2 b1 b2 c1 c2 : St} (h1 : SyncSt a1 a2 b1 b2) (h2 : SyncSt b1 b2 c1 c2) : SyncSt a1 a2 c1 c2 := by
  obtain ⟨_, e1, r1⟩ := h1
  obtain ⟨s2, e2, r2⟩ := h2
  exact ⟨s2, e1 ++ e2, r1.trans r2⟩

theorem SyncSt.of_eq_obs {st1 st2 st1' st2' : St} (hs : SimSt st1' st2') (e1 : st1'.obs = st1.obs) (e2 : st2'.obs = st2.obs) :
    SyncSt st1 st2 st1' st2' :=
  ⟨hs, [], by rw [e1, e2]; exact ⟨rfl, rfl⟩⟩

theorem SyncSt.of_runs {st1 st2 st1' st2' : St} (hs : SimSt st1 st2) {printed : List Text} {evs : List Ev}
    (ho1 : st1'.out = st1.out ++ printed) (ho2 : st2'.out = st2.out ++ printed)
    (hc1 : st1'.calls = st1.calls) (hc2 : st2'.calls = st2.calls) (hj : st1'.junk = st2'.junk)
    (r1 : st1.obs.run evs = .ok st1'.obs) (r2 : st2.obs.run evs = .ok st2'.obs) : SyncSt st1 st2 st1' st2' :=
  ⟨⟨SyncRun.filters hs.filters ⟨r1, r2⟩, by rw [ho1, ho2, hs.out], by rw [hc1, hc2, hs.calls], hj⟩, evs, r1, r2⟩

theorem ccRemove_sync {w : World} {c : Call} {st1 st2 st1' st2' : St} (hs : SimSt st1 st2)
    (h1 : ccRemove w c st1 = .ok st1') (h2 : ccRemove w c st2 = .ok st2') : SyncSt st1 st2 st1' st2' := by
  obtain ⟨_, hp⟩ := ccRemove_run w c
  obtain ⟨o1, c1, j1, r1⟩ := hp _ _ h1
  obtain ⟨o2, c2, j2, r2⟩ := hp _ _ h2
  exact SyncSt.of_runs hs o1 o2 c1 c2 (by rw [j1, j2, hs.junk]) r1 r2

theorem ccAdd_sync {w : World} {c : Call} {st1 st2 st1' st2' : St} (hs : SimSt st1 st2)
    (h1 : ccAdd w c st1 = .ok st1') (h2 : ccAdd w c st2 = .ok st2') : SyncSt st1 st2 st1' st2' := by
  obtain ⟨_, hp⟩ := ccAdd_run w c
  obtain ⟨o1, c1, j1, r1⟩ := hp _ _ h1
  obtain ⟨o2, c2, j2, r2⟩ := hp _ _ h2
  have hf : st1.obs.filters = st2.obs.filters := hs.filters
  rw [hf, hs.junk] at r1 j1
  exact SyncSt.of_runs hs o1 o2 c1 c2 (by rw [j1, j2]) r1 r2

theorem ccCompare_sync {w : World} (hw : CompareSync w) {c : Call} {st1 st2 st1' st2' : St} (hs : SimSt st1 st2)
    (h1 : ccCompare w c st1 = .ok st1') (h2 : ccCompare w c st2 = .ok st2') : SyncSt st1 st2 st1' st2' := by
  unfold ccCompare at h1 h2
  cases hp : w.parserCaps c.ref.file with
  | none =>
    simp only [hp] at h1 h2
    obtain ⟨hsim, e1, e2⟩ := mergeCopy_sim hs h1 h2
    exact SyncSt.of_eq_obs hsim e1 e2
  | some caps =>
    simp only [hp] at h1 h2
    rw [hs.junk] at h1
    cases hb1 : w.compareBody c st2.junk st1.obs with
    | error e => rw [hb1] at h1; simp [fail] at h1
    | ok r1 =>
      cases hb2 : w.compareBody c st2.junk st2.obs with
      | error e => rw [hb2] at h2; simp [fail] at h2
      | ok r2 =>
        rw [hb1] at h1; rw [hb2] at h2
        obtain ⟨o1, p1, j1⟩ := r1
        obtain ⟨o2, p2, j2⟩ := r2
        simp only at h1 h2
        injection h1 with h1; injection h2 with h2
        subst h1; subst h2
        obtain ⟨heq, evs, hrun⟩ := hw c st2.junk st1.obs st2.obs _ _ hs.filters hb1 hb2
        simp only [Prod.mk.injEq] at heq
        obtain ⟨hp', hj'⟩ := heq
        exact ⟨⟨hrun.filters hs.filters, by simp [hs.out, hp'], hs.calls, hj'⟩, evs, hrun⟩

theorem runCall_sync {w : World} (hw : CompareSync w) {c : Call} {st1 st2 st1' st2' : St} (hs : SimSt st1 st2)
    (h1 : runCall w c st1 = .ok st1') (h2 : runCall w c st2 = .ok st2') : SyncSt st1 st2 st1' st2' := by
  unfold runCall at h1 h2
  simp only at h1 h2
  have hs' : SimSt { st1 with calls := st1.calls ++ [c] } { st2 with calls := st2.calls ++ [c] } :=
    ⟨hs.filters, hs.out, by simp [hs.calls], hs.junk⟩
  cases hk : c.kind with
  | add => simp only [hk] at h1 h2; have r := ccAdd_sync hs' h1 h2; exact r
  | remove => simp only [hk] at h1 h2; have r := ccRemove_sync hs' h1 h2; exact r
  | compare => simp only [hk] at h1 h2; have r := ccCompare_sync hw hs' h1 h2; exact r

theorem runCalls_sync {w : World} (hw : CompareSync w) : ∀ {cs : List Call} {st1 st2 st1' st2' : St}, SimSt st1 st2 →
    runCalls w cs st1 = .ok st1' → runCalls w cs st2 = .ok st2' → SyncSt st1 st2 st1' st2'
  | [], _, _, _, _, hs, h1, h2 => by cases h1; cases h2; exact SyncSt.of_eq_obs hs rfl rfl
  | c :: cs, _, _, _, _, hs, h1, h2 => by
    simp only [runCalls] at h1 h2
    split at h1
    · cases h1
    split at h2
    · cases h2
    rename_i _ m1 hr1 _ m2 hr2
    have s1 := runCall_sync hw hs hr1 hr2
    exact s1.trans (runCalls_sync hw s1.1 h1 h2)

def Sync (l1 l2 l1' l2' : ObsList) : Prop := ∃ evs, SyncRun l1 l2 l1' l2' evs

theorem Sync.filters {a1 a2 b1 b2 : ObsList} (hs : SameFilters a1 a2) (h : Sync a1 a2 b1 b2) : SameFilters b1 b2 := by
  obtain ⟨e, r⟩ := h
  exact r.filters hs

structure SimLoop (s1 s2 : Pipe.LoopSt) : Prop where
  filters : SameFilters s1.obs s2.obs
  stats : s1.stats = s2.stats
  missings : s1.missings = s2.missings
  skips : s1.skips = s2.skips

theorem compareBodyOf_sync (ext : Pipe.Ext) (cs : List (Path × ProjPipe.Content)) (md : List (Path × Text)) (c : Call)
    (junk : Nat) (l1 l2 : ObsList) (r1 r2 : ObsList × List Text × Nat) (hs : SameFilters l1 l2)
    (h1 : ProjPipe.compareBodyOf ext cs md c junk l1 = .ok r1) (h2 : ProjPipe.compareBodyOf ext cs md c junk l2 = .ok r2) :
    r1.2 = r2.2 ∧ ∃ evs, SyncRun l1 l2 r1.1 r2.1 evs :=
  let ⟨e, evs, _, r⟩ := compareBodyOf_sim ext cs md c junk hs h1 h2
  ⟨e, evs, r⟩

theorem mkObservers_quiet (projects : List Project) (a : Args) (q : Nat) :
    mkObservers projects { a with quiet := q } = (filtersOf projects a).map (Obs.init q) := by
  simp [mkObservers, filtersOf, List.map_map, Function.comp_def]

theorem compareProjects_sync {w : World} (hw : CompareSync w) (projects : List Project) (a : Args) (q q' : Nat)
    (junk : Nat) (st1 st2 : St)
    (h1 : compareProjects w projects { a with quiet := q } junk = .ok st1)
    (h2 : compareProjects w projects { a with quiet := q' } junk = .ok st2) :
    SimSt st1 st2 ∧ ∃ evs,
      (ObsList.init q ((filtersOf projects a).map (Obs.init q))).run evs = .ok st1.obs ∧
      (ObsList.init q' ((filtersOf projects a).map (Obs.init q'))).run evs = .ok st2.obs := by
  unfold compareProjects at h1 h2
  simp only at h1 h2
  have hal : allLocales projects { a with quiet := q } = allLocales projects { a with quiet := q' } := rfl
  rw [hal] at h1
  cases hs : sortedLocales (allLocales projects { a with quiet := q' }) with
  | error e => rw [hs] at h1; simp [fail] at h1
  | ok locales =>
    rw [hs] at h1 h2
    simp only at h1 h2
    rw [mkObservers_quiet] at h1 h2
    have h0 : SimSt { obs := ObsList.init q ((filtersOf projects a).map (Obs.init q)), junk := junk }
        { obs := ObsList.init q' ((filtersOf projects a).map (Obs.init q')), junk := junk } := by
      refine ⟨?_, rfl, rfl, rfl⟩
      unfold SameFilters ObsList.filters ObsList.init
      simp only [List.map_map]
      apply List.map_congr_left
      intro x _
      rfl
    -- both runs make the calls the first one determines
    obtain ⟨cs, _, _, hf⟩ := localeLoop_fold _ locales _ st1 h1
    exact runCalls_sync hw h0 (hf _ _ _ rfl h1) (hf { a with quiet := q' } _ _ rfl h2)

end C10P
