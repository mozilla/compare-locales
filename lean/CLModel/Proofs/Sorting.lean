/- Python's `sorted` / `list.sort` are modelled, model file by model file, as an insertion sort of their own.  Here is one,
   `sort le`; each of the others is an instance by one equation for its inserter.  Order is stated for a relation `R` that
   the test `le` merely decides (`if le a b then R a b else R b a`): that covers `≤` tests, `<` tests, negated tests and
   strict results under distinct keys alike.  Also: a `foldl` loop sorts the reversed list (`foldl_ins`), the sorted list is
   unique (`sort_eq_of_perm`, `eq_of_mem_iff`), `sort_map`, stability (`filter_ins`, `filter_sort`, `sort_of_pairwise`). -/
namespace Sorting
variable {α : Type _} {β : Type _}

/-- `x` goes before the first element `y` with `le x y` -/
def ins (le : α → α → Bool) (x : α) : List α → List α
  | [] => [x]
  | y :: r => if le x y then x :: y :: r else y :: ins le x r

def sort (le : α → α → Bool) (l : List α) : List α := l.foldr (ins le) []

@[simp] theorem sort_cons (le : α → α → Bool) (x : α) (l : List α) : sort le (x :: l) = ins le x (sort le l) := rfl

theorem foldl_ins (le : α → α → Bool) (l : List α) : l.foldl (fun s x => ins le x s) [] = sort le l.reverse :=
  List.foldl_eq_foldr_reverse

theorem perm_ins (le : α → α → Bool) (x : α) : ∀ l, (ins le x l).Perm (x :: l)
  | [] => .refl _
  | y :: r => by
    unfold ins
    split
    · exact .refl _
    · exact ((perm_ins le x r).cons y).trans (.swap x y r)

theorem perm_sort (le : α → α → Bool) : ∀ l, (sort le l).Perm l
  | [] => .refl _
  | x :: l => (perm_ins le x _).trans ((perm_sort le l).cons x)

theorem mem_ins {le : α → α → Bool} {x y : α} {l : List α} : y ∈ ins le x l ↔ y = x ∨ y ∈ l :=
  (perm_ins le x l).mem_iff.trans List.mem_cons

theorem mem_sort {le : α → α → Bool} {y : α} {l : List α} : y ∈ sort le l ↔ y ∈ l := (perm_sort le l).mem_iff

theorem pairwise_ins {le : α → α → Bool} {R : α → α → Prop} (tr : ∀ a b c, R a b → R b c → R a c) {x : α} :
    ∀ {l : List α}, (∀ y ∈ l, if le x y then R x y else R y x) → l.Pairwise R → (ins le x l).Pairwise R
  | [], _, _ => List.pairwise_singleton R x
  | y :: r, hx, hl => by
    have hy := hx y List.mem_cons_self
    rw [List.pairwise_cons] at hl
    unfold ins
    split <;> rename_i h <;> simp only [h, if_true, Bool.false_eq_true, if_false] at hy
    · exact List.pairwise_cons.2 ⟨fun z hz => (List.mem_cons.1 hz).elim (· ▸ hy) (fun hz => tr _ _ _ hy (hl.1 z hz)),
        List.pairwise_cons.2 hl⟩
    · exact List.pairwise_cons.2 ⟨fun z hz => (mem_ins.1 hz).elim (· ▸ hy) (hl.1 z),
        pairwise_ins tr (fun z hz => hx z (List.mem_cons_of_mem _ hz)) hl.2⟩

theorem pairwise_sort {le : α → α → Bool} {R : α → α → Prop} (tr : ∀ a b c, R a b → R b c → R a c) :
    ∀ {l : List α}, l.Pairwise (fun a b => if le a b then R a b else R b a) → (sort le l).Pairwise R
  | [], _ => .nil
  | x :: l, h => by
    rw [List.pairwise_cons] at h
    exact pairwise_ins tr (fun y hy => h.1 y (mem_sort.1 hy)) (pairwise_sort tr h.2)

theorem sorted_sort {le : α → α → Bool} (total : ∀ a b, le a b = true ∨ le b a = true)
    (trans : ∀ a b c, le a b = true → le b c = true → le a c = true) (l : List α) :
    (sort le l).Pairwise (fun a b => le a b = true) :=
  pairwise_sort (R := fun a b => le a b = true) trans (List.pairwise_of_forall fun a b => by
    split
    · assumption
    · exact (total a b).resolve_left ‹_›)

theorem sort_eq_of_perm {le : α → α → Bool} {R : α → α → Prop} (tr : ∀ a b c, R a b → R b c → R a c) {l s : List α}
    (anti : ∀ a b, a ∈ l → b ∈ l → R a b → R b a → a = b)
    (hl : l.Pairwise (fun a b => if le a b then R a b else R b a)) (hp : l.Perm s) (hs : s.Pairwise R) :
    sort le l = s :=
  ((perm_sort le l).trans hp).eq_of_pairwise (fun a b ha hb => anti a b (mem_sort.1 ha) (hp.mem_iff.2 hb))
    (pairwise_sort tr hl) hs

theorem eq_of_mem_iff {R : α → α → Prop} (asymm : ∀ a b, R a b → R b a → False) {l l' : List α}
    (hl : l.Pairwise R) (hl' : l'.Pairwise R) (h : ∀ x, x ∈ l ↔ x ∈ l') : l = l' :=
  have nd {l : List α} (hl : l.Pairwise R) : l.Nodup := hl.imp fun {a b} hab (e : a = b) => asymm _ _ hab (e ▸ hab)
  ((List.perm_ext_iff_of_nodup (nd hl) (nd hl')).2 h).eq_of_pairwise (fun a b _ _ hab hba => (asymm a b hab hba).elim) hl hl'

theorem ins_map {le : α → α → Bool} {le' : β → β → Bool} (f : α → β) (hf : ∀ a b, le' (f a) (f b) = le a b) (x : α) :
    ∀ l, ins le' (f x) (l.map f) = (ins le x l).map f
  | [] => rfl
  | y :: r => by
    simp only [List.map_cons, ins, hf, ins_map f hf x r]
    split <;> rfl

theorem sort_map {le : α → α → Bool} {le' : β → β → Bool} (f : α → β) (hf : ∀ a b, le' (f a) (f b) = le a b) :
    ∀ l, sort le' (l.map f) = (sort le l).map f
  | [] => rfl
  | x :: l => by rw [List.map_cons, sort_cons, sort_map f hf l, ins_map f hf, sort_cons]

theorem ins_of_forall_le {le : α → α → Bool} {x : α} : ∀ {l : List α}, (∀ y ∈ l, le x y = true) → ins le x l = x :: l
  | [], _ => rfl
  | y :: r, h => by simp [ins, h y List.mem_cons_self]

theorem sort_of_pairwise {le : α → α → Bool} : ∀ {l : List α}, l.Pairwise (fun a b => le a b = true) → sort le l = l
  | [], _ => rfl
  | x :: l, h => by
    rw [List.pairwise_cons] at h
    rw [sort_cons, sort_of_pairwise h.2, ins_of_forall_le h.1]

/-- stability: the elements selected by `p` keep their relative places -/
theorem filter_ins {le : α → α → Bool} (trans : ∀ a b c, le a b = true → le b c = true → le a c = true)
    (p : α → Bool) (x : α) : ∀ {l : List α}, l.Pairwise (fun a b => le a b = true) →
      (ins le x l).filter p = if p x then ins le x (l.filter p) else l.filter p
  | [], _ => by cases hx : p x <;> simp [hx, ins]
  | y :: r, hs => by
    rw [List.pairwise_cons] at hs
    by_cases hxy : le x y = true
    · have h1 : ins le x (y :: r) = x :: y :: r := if_pos hxy
      have h2 : ins le x ((y :: r).filter p) = x :: (y :: r).filter p :=
        ins_of_forall_le fun z hz => (List.mem_cons.1 (List.mem_filter.1 hz).1).elim (· ▸ hxy)
          (fun hz => trans _ _ _ hxy (hs.1 z hz))
      rw [h1, h2, List.filter_cons]
    · have h1 : ins le x (y :: r) = y :: ins le x r := if_neg hxy
      rw [h1, List.filter_cons, filter_ins trans p x hs.2, List.filter_cons]
      cases hy : p y <;> cases hx : p x <;> simp [ins, hxy]

theorem filter_sort {le : α → α → Bool} (total : ∀ a b, le a b = true ∨ le b a = true)
    (trans : ∀ a b c, le a b = true → le b c = true → le a c = true) (p : α → Bool) :
    ∀ l, (sort le l).filter p = sort le (l.filter p)
  | [] => rfl
  | x :: l => by
    rw [sort_cons, filter_ins trans p x (sorted_sort total trans l), filter_sort total trans p l, List.filter_cons]
    split <;> rfl

end Sorting
