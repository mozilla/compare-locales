/- `Checker.check` of checks/base.py (`Checks.baseCheck`, the `mochibake` scan every checker starts with): the regex is the
   one character U+FFFD, so the scan reports exactly the positions of that character — at least one warning for a text that
   contains it, and every warning at one. -/
import CLModel.Checks.Base
import CLModel.Proofs.RxSearch
namespace Checks
open Rx

theorem mochibake_match (all : Array Nat) (i : Nat) :
    (matchAt all Gen.Pat.checks_base_mochibake i).isSome ↔ all[i]? = some 0xFFFD := by
  simp [matchAt, m, Gen.Pat.checks_base_mochibake]

theorem mochibake_at (all : Array Nat) : ∀ p ∈ finditer all Gen.Pat.checks_base_mochibake, all[p.1]? = some 0xFFFD := by
  intro p hp
  rcases (finditer_sound all _ p hp).2 with hm | hm
  · exact (mochibake_match all p.1).mp (by simp [hm])
  · simp only [matchAtNE, m, Gen.Pat.checks_base_mochibake] at hm
    split at hm
    · rename_i h; simpa using h
    · cases hm

theorem baseCheck_results (all : Array Nat) :
    ∀ r ∈ baseCheck all, r.severity = .warning ∧ r.category = "encodings" ∧ all[r.pos]? = some 0xFFFD := by
  intro r hr
  simp only [baseCheck, List.mem_map] at hr
  obtain ⟨p, hp, rfl⟩ := hr
  exact ⟨rfl, rfl, mochibake_at all p hp⟩

theorem baseCheck_warns (all : Array Nat) (h : 0xFFFD ∈ all.toList) :
    ∃ r ∈ baseCheck all, r.severity = .warning ∧ r.category = "encodings" := by
  obtain ⟨i, hi, hget⟩ := List.getElem_of_mem h
  have hsome : (matchAt all Gen.Pat.checks_base_mochibake i).isSome := by
    rw [mochibake_match]; simp at hi; simp [hi, ← hget]
  obtain ⟨st, hst⟩ := Option.isSome_iff_exists.mp hsome
  have hne := Rx.finditer_nonempty hst (by simp at hi; omega)
  unfold baseCheck
  cases hf : finditer all Gen.Pat.checks_base_mochibake with
  | nil => exact absurd hf hne
  | cons p ps =>
    exact ⟨{ severity := .warning, pos := p.1, category := "encodings" }, by simp, rfl, rfl⟩

end Checks
