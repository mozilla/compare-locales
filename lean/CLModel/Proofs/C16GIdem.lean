/-
Printed files — when the output starts with a blank line (`no_lead_printed`, `lead_printed`), and TEXT-LEVEL IDEMPOTENCE
(`out_text_again`): serializing the re-parsed output once more with no new data returns the same text.  Section `printed`
then takes a format by its printer and the walk of a printed file and concludes for the texts: the output re-parses to the
expected records (`serialize_reparses_printed`) and is reproduced by a second run (`idempotent_text_printed`).
-/
import CLModel.Proofs.C16GLead
namespace C16G
open AR Ser C16L C16R
open P (PRec)

theorem tri_entW : Tri entW := .inl rfl

theorem tri_d0F (F : RFmt) (rs : List PRec) : ∀ p ∈ d0Of (entsF F rs), Tri p.2 := by
  intro p hp
  have hm := parseResource_mem hp
  simp only [plOf, List.mem_map, List.mem_filter] at hm
  obtain ⟨e, ⟨he, _⟩, hpe⟩ := hm
  rw [← hpe]
  rcases mem_entsF he with rfl | ⟨r, _, rfl⟩
  · exact .inl rfl
  · exact .inr (.inr rfl)

theorem tri_d1F (F : RFmt) (ref : List Ent) (nd : NewData) (oldE : List Ent) (oldRecs : List PRec)
    (hmem : ∀ e ∈ oldE, e = entW ∨ ∃ r ∈ oldRecs, e = entF F r) : ∀ p ∈ d1Of ref oldE nd, Tri p.2 := by
  intro p hp
  have hm := parseResource_mem hp
  simp only [osOf_eq, List.mem_map, List.mem_filter] at hm
  obtain ⟨e, ⟨he, _⟩, hpe⟩ := hm
  rw [← hpe]
  rcases hmem e he with rfl | ⟨r, _, rfl⟩
  · rw [sanOf_entW]; exact .inl rfl
  · rcases sanOf_entF F ref nd r with h | h <;> rw [h]
    · exact .inr (.inl rfl)
    · exact .inr (.inr rfl)

theorem str_mem_d0F (F : RFmt) (rs : List PRec) (hn : (rs.map (·.1)).Nodup) (r : PRec) (hr : r ∈ rs) :
    MKey.str r.1 ∈ dkeys (d0Of (entsF F rs)) := by
  apply known_mem_d0
  rw [known_iff, refMapping_entsF F rs hn r hr]
  rfl

theorem emitted_entsF (F : RFmt) (refRecs : List PRec) (nd : NewData) (oldE : List Ent)
    (hrk : (refRecs.map (·.1)).Nodup) (hnd : (nd.map (·.1)).Nodup) (r : PRec) (hr : r ∈ refRecs) :
    emitted (entsF F refRecs) oldE nd (MKey.str r.1) = chosen (entsF F refRecs) oldE nd r.1 :=
  emitted_str _ _ _ hnd _ (str_mem_d0F F refRecs hrk r hr)

theorem no_lead_printed (F : RFmt) (r0 : PRec) (rs : List PRec) (nd : NewData) (oldRecs : List PRec)
    (hrk : ((r0 :: rs).map (·.1)).Nodup) (hok : (oldRecs.map (·.1)).Nodup) (hnd : (nd.map (·.1)).Nodup)
    (hfirst : (expectedRec oldRecs nd r0).isSome = true)
    (hohead : ∀ o, oldRecs.head? = some o → o.1 ∈ (r0 :: rs).map (·.1)) :
    hw Ent.isWs (serializeEnts (entsF F (r0 :: rs)) (entsF F oldRecs) nd) = false := by
  have ho := oldOK_entsF F (entsF F (r0 :: rs)) nd oldRecs hok
  have hch := chosen_entsF F (r0 :: rs) nd _ oldRecs hrk ho r0 (by simp)
  cases hc : chosen (entsF F (r0 :: rs)) (entsF F oldRecs) nd r0.1 with
  | none => rw [hc] at hch; rw [← hch] at hfirst; simp at hfirst
  | some E =>
    have h0 := d0F_eq F (r0 :: rs) hrk
    rw [recPairs] at h0
    apply no_lead_of_head _ _ _ r0.1 _ _ E h0
    · intro x hx
      rw [d1F_eq F _ nd oldRecs hok] at hx
      cases oldRecs with
      | nil => simp [recPairs, dkeys] at hx
      | cons o os =>
        simp only [recPairs, dkeys, List.map_cons, List.head?_cons, Option.some.injEq] at hx
        subst hx
        have := hohead o rfl
        rw [List.mem_map] at this
        obtain ⟨r, hr, hk⟩ := this
        rw [← hk]
        exact str_mem_d0F F (r0 :: rs) hrk r hr
    · rw [emitted_entsF F (r0 :: rs) nd _ hrk hnd r0 (by simp), hc]

theorem lead_printed (F : RFmt) (r0 : PRec) (rs : List PRec) (nd : NewData) (oldE : List Ent) (oldRecs : List PRec)
    (ho : OldOKF F (entsF F (r0 :: rs)) nd oldE oldRecs)
    (hrk : ((r0 :: rs).map (·.1)).Nodup) (hnd : (nd.map (·.1)).Nodup)
    (hfirst : expectedRec oldRecs nd r0 = none) :
    hw Ent.isWs (serializeEnts (entsF F (r0 :: rs)) oldE nd) = true := by
  have hch := chosen_entsF F (r0 :: rs) nd oldE oldRecs hrk ho r0 (by simp)
  rw [hfirst] at hch
  have hc : chosen (entsF F (r0 :: rs)) oldE nd r0.1 = none := by
    cases h : chosen (entsF F (r0 :: rs)) oldE nd r0.1 with
    | none => rfl
    | some E => rw [h] at hch; simp at hch
  have h0 := d0F_eq F (r0 :: rs) hrk
  rw [recPairs] at h0
  apply lead_of_not_chosen _ _ _ r0.1 _ _ h0 (alt_d0F F (r0 :: rs) hrk) (tri_d0F F (r0 :: rs))
    (tri_d1F F _ nd oldE oldRecs ho.mem)
  rw [emitted_entsF F (r0 :: rs) nd _ hrk hnd r0 (by simp), hc]

/-- the entries a re-parse of the output yields: the printed expected records, after one white-space entry if the output
    starts with a blank line -/
def reparsed (F : RFmt) (lead : Bool) (recs : List PRec) : List Ent := (if lead then [entW] else []) ++ entsF F recs

/-- `addRemove` sorts by well-founded recursion, so this is not `rfl`: `hw_out` and the closed form on two empty key lists -/
theorem hw_empty : hw Ent.isWs (serializeEnts [] [] []) = false := by
  rw [hw_out]
  have h0 : d0Of [] = [] := rfl
  have h1 : d1Of [] [] [] = [] := rfl
  rw [h0, h1]
  unfold olderPairs
  have : addRemove (dkeys ([] : Dict)) (dkeys ([] : Dict)) = [] := by
    show addRemove ([] : List MKey) [] = []
    rw [addRemove_eq_spec [] [] (by simp) (by simp)]
    rfl
  rw [this]
  rfl

theorem reparsed_true (F : RFmt) (recs : List PRec) : reparsed F true recs = entW :: entsF F recs := rfl
theorem reparsed_false (F : RFmt) (recs : List PRec) : reparsed F false recs = entsF F recs := rfl

theorem oldOK_reparsed (F : RFmt) (ref : List Ent) (lead : Bool) (recs : List PRec) (hrn : (recs.map (·.1)).Nodup) :
    OldOKF F ref [] (reparsed F lead recs) recs := by
  cases lead with
  | false => rw [reparsed_false]; exact oldOK_entsF F _ [] _ hrn
  | true => rw [reparsed_true]; exact oldOK_lead F _ [] _ hrn

theorem lead_again (F : RFmt) (refRecs oldRecs : List PRec) (nd : NewData)
    (hrk : (refRecs.map (·.1)).Nodup) (hok : (oldRecs.map (·.1)).Nodup) (hnd : (nd.map (·.1)).Nodup)
    (lead : Bool) (hlead : hw Ent.isWs (serializeEnts (entsF F refRecs) (entsF F oldRecs) nd) = lead) :
    hw Ent.isWs (serializeEnts (entsF F refRecs) (reparsed F lead (expectedRecs refRecs oldRecs nd)) []) = lead := by
  have hrn : ((expectedRecs refRecs oldRecs nd).map (·.1)).Nodup := expectedRecs_nodup refRecs oldRecs nd hrk
  have hnil : (([] : NewData).map (·.1)).Nodup := by simp
  -- with a leading newline the re-parsed old file starts with white space, so the second output does (`lead_of_old_ws`);
  -- without one the first reference record was emitted, so it heads the expected records, which are the old file of the
  -- second run, and is expected again (`find_expected`): `no_lead_printed` applies to the second run
  cases lead with
  | true =>
    have hd1 := d1_lead F (entsF F refRecs) [] (expectedRecs refRecs oldRecs nd) hrn
    rw [reparsed_true]
    exact lead_of_old_ws (entsF F refRecs) (entW :: entsF F (expectedRecs refRecs oldRecs nd)) [] 0 entW _ hd1 rfl
  | false =>
    rw [reparsed_false]
    cases refRecs with
    | nil =>
      have h1 : expectedRecs [] oldRecs nd = [] := rfl
      have h2 : entsF F ([] : List PRec) = [] := rfl
      rw [h1, h2]
      exact hw_empty
    | cons r0 rs =>
      -- the first run has no leading blank line: the first reference record is expected
      have hexp : (expectedRec oldRecs nd r0).isSome = true := by
        cases he : expectedRec oldRecs nd r0 with
        | some x => rfl
        | none =>
          have := lead_printed F r0 rs nd (entsF F oldRecs) oldRecs (oldOK_entsF F _ nd oldRecs hok) hrk hnd he
          rw [hlead] at this
          exact absurd this (by simp)
      obtain ⟨x, hx⟩ := Option.isSome_iff_exists.1 hexp
      have hrecs : expectedRecs (r0 :: rs) oldRecs nd = x :: expectedRecs rs oldRecs nd := by
        unfold expectedRecs
        rw [List.filterMap_cons, hx]
      apply no_lead_printed F r0 rs [] _ hrk hrn hnil
      · have := find_expected oldRecs nd (r0 :: rs) hrk r0 (by simp)
        have e2 : expectedRec (expectedRecs (r0 :: rs) oldRecs nd) [] r0
            = (expectedRecs (r0 :: rs) oldRecs nd).find? (fun o => o.1 == r0.1) := by
          unfold expectedRec
          simp [dget]
        rw [e2, this, hx]
        rfl
      · intro o ho
        rw [hrecs] at ho
        simp only [List.head?_cons, Option.some.injEq] at ho
        subst ho
        rw [expectedRec_key hx]
        simp

theorem out_text_again (F : RFmt) (Sf : PRec → Prop) (refRecs oldRecs : List PRec) (nd : NewData)
    (hold : ∀ r ∈ oldRecs, Sf r)
    (hrk : (refRecs.map (·.1)).Nodup) (hok : (oldRecs.map (·.1)).Nodup) (hnd : (nd.map (·.1)).Nodup)
    (hv : ∀ r ∈ refRecs, ∀ v, (r.1, some v) ∈ nd → Sf (r.1, v))
    (lead : Bool) (hlead : hw Ent.isWs (serializeEnts (entsF F refRecs) (entsF F oldRecs) nd) = lead) :
    serializeOut (entsF F refRecs) (entsF F oldRecs) nd
      = (if lead then [10] else []) ++ printF F (expectedRecs refRecs oldRecs nd) ∧
    (∀ r ∈ expectedRecs refRecs oldRecs nd, Sf r) ∧
    serializeOut (entsF F refRecs) (reparsed F lead (expectedRecs refRecs oldRecs nd)) []
      = serializeOut (entsF F refRecs) (entsF F oldRecs) nd := by
  obtain ⟨ht1, hsafe⟩ := out_text F Sf refRecs oldRecs nd hold hrk hok hnd hv
  rw [hlead] at ht1
  refine ⟨ht1, hsafe, ?_⟩
  have hrn : ((expectedRecs refRecs oldRecs nd).map (·.1)).Nodup := expectedRecs_nodup refRecs oldRecs nd hrk
  have hnil : (([] : NewData).map (·.1)).Nodup := by simp
  have hv2 : ∀ r ∈ refRecs, ∀ v, (r.1, some v) ∈ ([] : NewData) → Sf (r.1, v) := by intro _ _ _ h; simp at h
  have ho2 := oldOK_reparsed F (entsF F refRecs) lead (expectedRecs refRecs oldRecs nd) hrn
  obtain ⟨ht2, _⟩ := out_text_oldOK F Sf refRecs [] _ _ ho2 hsafe hrk hnil hv2
  rw [ht2, ht1, expectedRecs_again refRecs oldRecs nd hrk, lead_again F refRecs oldRecs nd hrk hok hnd lead hlead]

/-! A format given by its printer, its expected entries and the walk of a printed file:
`print` prints a record list; `exp off rs` lists the entries the parser yields for records printed from `off` on.  The one fact
asked of the parser is `hwalk`: a printed file, possibly after one leading newline, walks to a white-space entry for that
newline and the expected entries.  `lead` is whether THIS output starts with a blank line (`hlead`); `hwalk` is asked for a
leading newline only if `lead = true`, so `.inc`, where that newline is Junk, is an instance at `lead := false`, and
`.properties`, `.dtd` are instances at whatever `hw … ` is (`hlead := rfl`).  From it: what `serialize` returns re-parses to the expected records, and serializing the re-parsed output again
returns the same text. -/
section printed
variable (f : P.Fmt) (F : RFmt) (Sf : PRec → Prop) (print : List PRec → List Nat) (exp : Nat → List PRec → List P.Entry)
  (lead : Bool)
  (hprint : ∀ rs, (∀ r ∈ rs, Sf r) → printF F rs = print rs)
  (hwalk : ∀ l : Bool, (l = true → lead = true) → ∀ rs, (∀ r ∈ rs, Sf r) →
    P.walk f ((if l then [10] else []) ++ print rs).toArray
      = .done ((if l then [P.wsEntry 0] else []) ++ exp (if l then 1 else 0) rs))
  (hmap : ∀ (s : Array Nat) rs off, s.toList.drop off = print rs → (∀ r ∈ rs, Sf r) →
    (exp off rs).map (ofEntry f s) = entsF F rs)
  (hent : ∀ (s : Array Nat) rs off, s.toList.drop off = print rs → (∀ r ∈ rs, Sf r) →
    P.entitiesOf f s (exp off rs) = rs.map P.expectedView ∧ P.junkOf s (exp off rs) = [])
include hwalk hmap

theorem walkEnts_lead (l : Bool) (hl : l = true → lead = true) (rs : List PRec) (hs : ∀ r ∈ rs, Sf r) :
    walkEnts f ((if l then [10] else []) ++ print rs).toArray = some (reparsed F l rs) := by
  unfold walkEnts
  rw [hwalk l hl rs hs]
  cases l with
  | false => exact congrArg some (hmap _ rs 0 rfl hs)
  | true =>
    show some (ofEntry f _ (P.wsEntry 0) :: (exp 1 rs).map (ofEntry f _)) = _
    rw [ofEntry_ws f _ 0 (by simp), hmap _ rs 1 (by simp) hs]
    rfl

theorem serializeText_printed (refRecs oldRecs : List PRec) (nd : NewData)
    (href : ∀ r ∈ refRecs, Sf r) (hold : ∀ r ∈ oldRecs, Sf r) :
    serializeText f (print refRecs).toArray (print oldRecs).toArray nd
      = some (serializeOut (entsF F refRecs) (entsF F oldRecs) nd) := by
  have h1 := walkEnts_lead f F Sf print exp lead hwalk hmap false (fun h => by cases h) refRecs href
  have h2 := walkEnts_lead f F Sf print exp lead hwalk hmap false (fun h => by cases h) oldRecs hold
  simp only [Bool.false_eq_true, if_false, List.nil_append, reparsed_false] at h1 h2
  unfold serializeText
  rw [h1, h2]

include hprint in
theorem idempotent_text_printed (refRecs oldRecs : List PRec) (nd : NewData)
    (href : ∀ r ∈ refRecs, Sf r) (hold : ∀ r ∈ oldRecs, Sf r)
    (hrk : (refRecs.map (·.1)).Nodup) (hok : (oldRecs.map (·.1)).Nodup) (hnd : (nd.map (·.1)).Nodup)
    (hv : ∀ r ∈ refRecs, ∀ v, (r.1, some v) ∈ nd → Sf (r.1, v))
    (hlead : hw Ent.isWs (serializeEnts (entsF F refRecs) (entsF F oldRecs) nd) = lead) :
    ∃ t, serializeText f (print refRecs).toArray (print oldRecs).toArray nd = some t ∧
      serializeText f (print refRecs).toArray t.toArray [] = some t := by
  obtain ⟨ht, hsafe, hagain⟩ := out_text_again F Sf refRecs oldRecs nd hold hrk hok hnd hv lead hlead
  rw [hprint _ hsafe] at ht
  refine ⟨_, serializeText_printed f F Sf print exp lead hwalk hmap refRecs oldRecs nd href hold, ?_⟩
  have h1 := walkEnts_lead f F Sf print exp lead hwalk hmap false (fun h => by cases h) refRecs href
  simp only [Bool.false_eq_true, if_false, List.nil_append, reparsed_false] at h1
  unfold serializeText
  rw [h1]
  conv => lhs; rw [ht]
  rw [walkEnts_lead f F Sf print exp lead hwalk hmap lead id _ hsafe]
  exact congrArg some hagain

omit hwalk hmap in
include hent in
theorem entitiesOf_lead (l : Bool) (rs : List PRec) (hs : ∀ r ∈ rs, Sf r) :
    P.entitiesOf f ((if l then [10] else []) ++ print rs).toArray ((if l then [P.wsEntry 0] else []) ++ exp (if l then 1 else 0) rs)
      = rs.map P.expectedView ∧
    P.junkOf ((if l then [10] else []) ++ print rs).toArray ((if l then [P.wsEntry 0] else []) ++ exp (if l then 1 else 0) rs)
      = [] := by
  cases l with
  | false => exact hent _ rs 0 rfl hs
  | true =>
    obtain ⟨h1, h2⟩ := hent (10 :: print rs).toArray rs 1 rfl hs
    show P.entitiesOf f (10 :: print rs).toArray (P.wsEntry 0 :: exp 1 rs) = _ ∧
      P.junkOf (10 :: print rs).toArray (P.wsEntry 0 :: exp 1 rs) = _
    unfold P.entitiesOf at h1 ⊢
    unfold P.junkOf at h2 ⊢
    rw [List.filter_cons_of_neg (by simp [P.wsEntry]), List.filter_cons_of_neg (by simp [P.wsEntry])]
    exact ⟨h1, h2⟩

include hprint hent in
theorem serialize_reparses_printed (refRecs oldRecs : List PRec) (nd : NewData)
    (href : ∀ r ∈ refRecs, Sf r) (hold : ∀ r ∈ oldRecs, Sf r)
    (hrk : (refRecs.map (·.1)).Nodup) (hok : (oldRecs.map (·.1)).Nodup) (hnd : (nd.map (·.1)).Nodup)
    (hv : ∀ r ∈ refRecs, ∀ v, (r.1, some v) ∈ nd → Sf (r.1, v))
    (hlead : hw Ent.isWs (serializeEnts (entsF F refRecs) (entsF F oldRecs) nd) = lead) :
    ∃ t es, serializeText f (print refRecs).toArray (print oldRecs).toArray nd = some t ∧
      P.walk f t.toArray = .done es ∧
      P.entitiesOf f t.toArray es = (expectedRecs refRecs oldRecs nd).map P.expectedView ∧
      P.junkOf t.toArray es = [] := by
  obtain ⟨ht, hsafe⟩ := out_text F Sf refRecs oldRecs nd hold hrk hok hnd hv
  rw [hlead, hprint _ hsafe] at ht
  obtain ⟨h2, h3⟩ := entitiesOf_lead f Sf print exp hent lead _ hsafe
  refine ⟨_, (if lead then [P.wsEntry 0] else []) ++ exp (if lead then 1 else 0) (expectedRecs refRecs oldRecs nd),
    serializeText_printed f F Sf print exp lead hwalk hmap refRecs oldRecs nd href hold, ?_, ?_, ?_⟩
  · rw [ht]; exact hwalk lead id _ hsafe
  · rw [ht]; exact h2
  · rw [ht]; exact h3

end printed

end C16G
