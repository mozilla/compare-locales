/- C02, ini: several sections, `;` / `#` comment blocks (attached, stand-alone, before a section), blank lines,
   and inert garbage lines anywhere (garbage locality). -/
import CLModel.Proofs.C02PGen
import CLModel.Proofs.C02PLine
import CLModel.Proofs.C02Ini
namespace C02P
open Rx P Gen.Pat C02X

/-- `;` or `#` -/
def isIniMark (c : Nat) : Bool := c == 59 || c == 35

theorem inC_inimark (c : Nat) : inC false [.ch 59, .ch 35] c = isIniMark c := by simp [inC, ClsItem.has, isIniMark]

def CLine.GoodI (l : CLine) : Prop := isIniMark l.1 = true ∧ ∀ x ∈ l.2, x ≠ 10

theorem iniComment_eq : IniParser_reComment = Re.seq (Re.rep 0 none true (Re.seq (Re.bol true) (clsBody [.ch 59, .ch 35])))
    (Re.seq (Re.bol true) (clsLast [.ch 59, .ch 35])) := rfl

theorem iniLineRx (s : Array Nat) : LineRx s (Re.seq (Re.bol true) (clsBody [.ch 59, .ch 35]))
    (Re.seq (Re.bol true) (clsLast [.ch 59, .ch 35])) CLine.GoodI (LineStart s) (NoMark isIniMark) :=
  (clsLineRx s _ isIniMark inC_inimark).bol

theorem ini_comment_at (s : Array Nat) (p : Nat) (ls : List CLine) (rest : List Nat) (hne : ls ≠ [])
    (hls : LineStart s p) (hg : ∀ x ∈ ls, CLine.GoodI x) (hr : After (NoMark isIniMark) rest)
    (h : At s p (printCLines ls ++ rest)) :
    matchAt s IniParser_reComment p = some ⟨p + (printCLines ls).length, []⟩ := by
  rw [iniComment_eq]; exact (iniLineRx s).comment_at p ls rest hne hls hg hr h

theorem ini_comment_none_at (s : Array Nat) (p : Nat) (l : List Nat) (hl : NoMark isIniMark l) (h : At s p l) :
    matchAt s IniParser_reComment p = none := by
  rw [iniComment_eq]; exact (iniLineRx s).comment_none p l hl h

theorem ini_comment_none_mid (s : Array Nat) (p : Nat) (h : ¬ LineStart s p) : matchAt s IniParser_reComment p = none := by
  rw [iniComment_eq]; exact matchAt_bol_mid s _ _ p h

theorem iniMark_facts {c : Nat} (h : isIniMark c = true) : c ≠ 91 ∧ isWs c = false ∧ isLineBreak c = false := by
  simp [isIniMark] at h; rcases h with h | h <;> subst h <;> decide

theorem iniMark_ws {c : Nat} (h : isWs c = true) : isIniMark c = false := by
  cases hm : isIniMark c with
  | false => rfl
  | true => rw [(iniMark_facts hm).2.1] at h; cases h

theorem ini_key_none_line (s : Array Nat) (q : Nat) (x rest : List Nat) (hx : ∀ c ∈ x, c ≠ 61 ∧ c ≠ 10)
    (hr : ∀ c, rest.head? = some c → c = 10) (h : At s q (x ++ rest)) : matchAt s IniParser_reKey q = none := by
  simp only [matchAt, IniParser_reKey, m_seq_def, m_group_def, m_rep_def, m_any_charStep]
  -- `=` stands nowhere on the line, and `.+?` does not get past its end
  apply loop_at_none (fun d => false || d != 10) false _ _ 1 h (by intro d hd; simp [hr d hd])
  intro j hj
  apply m_lit_fail
  by_cases hjl : j < x.length
  · rw [h.left j hjl]
    have := (hx x[j] (List.getElem_mem hjl)).1
    simp [this]
  · obtain rfl : j = x.length := by omega
    rw [h.app.head]
    cases hh : rest.head? with
    | none => simp
    | some d => simp [hr d hh]

/-- white-space between blocks: it starts with the newline that ends the line before and ends with a newline (so that the
    next block starts a line) -/
structure IGap (gap : List Nat) : Prop where
  ws : ∀ c ∈ gap, isWs c = true
  head : gap.head? = some 10
  last : gap.getLast? = some 10

theorem IGap.ne {gap : List Nat} (h : IGap gap) : gap ≠ [] := by
  intro hh; have := h.head; rw [hh] at this; simp at this

theorem igap_cons {gap : List Nat} (h : IGap gap) : ∃ w, gap = 10 :: w := by
  cases hgg : gap with
  | nil => exact absurd hgg h.ne
  | cons a t => have := h.head; rw [hgg] at this; simp at this; subst this; exact ⟨t, rfl⟩

inductive IBlock
  /-- `key=value`, optionally with an attached comment block (then a newline and possibly indentation before the key) -/
  | record (cm : List CLine) (cgap : List Nat) (r : PRec) (gap : List Nat)
  /-- `[name]`, optionally with comment lines directly before it (they are a stand-alone comment for the parser) -/
  | section (pre : List CLine) (name : List Nat) (gap : List Nat)
  /-- a comment block followed by white-space with at least two newlines -/
  | free (ls : List CLine) (gap : List Nat)

def preText (pre : List CLine) : List Nat := if pre.isEmpty then [] else printCLines pre ++ [10]

def IBlock.print : IBlock → List Nat
  | .record cm cgap r gap => printCLines cm ++ (cgap ++ (r.1 ++ 61 :: (r.2 ++ gap)))
  | .section pre name gap => preText pre ++ (91 :: (name ++ 93 :: gap))
  | .free ls gap => printCLines ls ++ gap

def iniSecEntry (p n : Nat) : Entry :=
  { kind := .section, full := p, s := p, e := p + n + 2, ks := (p + 1 : Nat), ke := (p + n + 1 : Nat),
    vs := (p + 1 : Nat), ve := (p + n + 1 : Nat) }

def iniRecEntity (off clen cglen klen vlen : Nat) (hasC : Bool) : Entry :=
  { kind := .entity, full := off, s := off + clen + cglen, e := off + clen + cglen + klen + 1 + vlen,
    ks := (off + clen + cglen : Nat), ke := (off + clen + cglen + klen : Nat),
    vs := (off + clen + cglen + klen + 1 : Nat), ve := (off + clen + cglen + klen + 1 + vlen : Nat),
    pc := if hasC then some (off, off + clen) else none }

def IBlock.entries (off : Nat) : IBlock → List Entry
  | .record cm cgap r gap =>
    [iniRecEntity off (printCLines cm).length cgap.length r.1.length r.2.length (!cm.isEmpty),
     wsEntryN (off + (printCLines cm).length + cgap.length + r.1.length + 1 + r.2.length) gap.length]
  | .section pre name gap =>
    (if pre.isEmpty then [] else [commentEntry off (off + (printCLines pre).length), wsEntryN (off + (printCLines pre).length) 1]) ++
    [iniSecEntry (off + (preText pre).length) name.length, wsEntryN (off + (preText pre).length + name.length + 2) gap.length]
  | .free ls gap => [commentEntry off (off + (printCLines ls).length), wsEntryN (off + (printCLines ls).length) gap.length]

def IBlock.Good' : IBlock → Prop
  | .record cm cgap r gap =>
    (∀ l ∈ cm, CLine.GoodI l ∧ CLine.NoBreak l) ∧ (cm = [] → cgap = []) ∧
    (cm ≠ [] → ∃ w, cgap = 10 :: w ∧ ∀ c ∈ w, isWs c = true ∧ c ≠ 10) ∧ SafeIniRec r ∧ IGap gap
  | .section pre name gap => (∀ l ∈ pre, CLine.GoodI l) ∧ (∀ c ∈ name, c ≠ 93 ∧ c ≠ 10 ∧ c ≠ 61) ∧ IGap gap
  | .free ls gap => ls ≠ [] ∧ (∀ l ∈ ls, CLine.GoodI l) ∧ IGap gap ∧ 2 ≤ (gap.filter (· == 10)).length

/-- the License rule of the base `getNext` (offset < 2) does not fire on an ATTACHED comment -/
def IBlock.NoLicense (off : Nat) : IBlock → Prop
  | .record cm _ _ _ => off < 2 → isInfix licenseWord (offsetCommentVal 1 (printCLines cm)) = false
  | _ => True

def IBlock.Good (off : Nat) (b : IBlock) : Prop := b.Good' ∧ b.NoLicense off

def IBlock.views : IBlock → List (Option EntView)
  | .record cm _ r _ => [some { key := r.1, raw := r.2, val := some r.2,
                                comment := if cm.isEmpty then none else some (cvalLines cm) }]
  | _ => []

abbrev iniNext (s : Array Nat) : Unit → Nat → Entry × Unit := fun _ off => (iniGetNext s off, ())

def IFollow (rest : List Nat) : Prop := ∀ c, rest.head? = some c → isWs c = false

theorem IBlock.print_app (b : IBlock) (rest : List Nat) : b.print ++ rest = match b with
    | .record cm cgap r gap => printCLines cm ++ (cgap ++ (r.1 ++ 61 :: (r.2 ++ (gap ++ rest))))
    | .section pre name gap => preText pre ++ (91 :: (name ++ 93 :: (gap ++ rest)))
    | .free ls gap => printCLines ls ++ (gap ++ rest) := by
  cases b with
  | record cm cgap r gap => simp [IBlock.print]
  | «section» pre name gap => simp [IBlock.print]
  | free ls gap => simp [IBlock.print]

theorem IBlock.at_print {s : Array Nat} {off : Nat} (b : IBlock) {rest : List Nat} (h : At s off (b.print ++ rest)) :
    At s off (match (generalizing := false) b with
      | .record cm cgap r gap => printCLines cm ++ (cgap ++ (r.1 ++ 61 :: (r.2 ++ (gap ++ rest))))
      | .section pre name gap => preText pre ++ (91 :: (name ++ 93 :: (gap ++ rest)))
      | .free ls gap => printCLines ls ++ (gap ++ rest)) := by
  rw [← b.print_app]; exact h

theorem cblock_head {ls : List CLine} (hne : ls ≠ []) (hg : ∀ l ∈ ls, CLine.GoodI l) (x : List Nat) :
    (printCLines ls ++ x).head? ≠ some 91 ∧ IFollow (printCLines ls ++ x) := by
  obtain ⟨l, t, rfl⟩ := List.exists_cons_of_ne_nil hne
  have hm := iniMark_facts (hg l (by simp)).1
  unfold IFollow
  rw [printCLines_head]
  exact ⟨fun h => hm.1 (Option.some.inj h), fun c hc => Option.some.inj hc ▸ hm.2.1⟩

theorem plain_head {a : Nat} (t : List Nat) (h91 : a ≠ 91) (hmk : isIniMark a = false) (hws : isWs a = false) :
    (a :: t).head? ≠ some 91 ∧ NoMark isIniMark (a :: t) ∧ IFollow (a :: t) :=
  ⟨fun h => h91 (Option.some.inj h), fun _ hc => Option.some.inj hc ▸ hmk, fun _ hc => Option.some.inj hc ▸ hws⟩

theorem safeIni_head (r : PRec) (hs : SafeIniRec r) (l : List Nat) :
    (r.1 ++ l).head? ≠ some 91 ∧ NoMark isIniMark (r.1 ++ l) ∧ IFollow (r.1 ++ l) := by
  obtain ⟨a, t, hk⟩ := List.exists_cons_of_ne_nil hs.key_ne
  have := hs.key_head a (by rw [hk]; rfl)
  have h10 := (hs.key a (by rw [hk]; simp)).1
  rw [hk]
  exact plain_head _ this.1 (by simp [isIniMark, this.2.1, this.2.2.1]) (by simp [isWs, this.2.2.2, h10])

/-- how the text of a good block begins: with a record, with comment lines, or with a section header -/
inductive IStart : List Nat → Prop
  | key (r : PRec) (gap rest : List Nat) : SafeIniRec r → IGap gap → IStart (r.1 ++ 61 :: (r.2 ++ (gap ++ rest)))
  | comment (ls : List CLine) (x : List Nat) : ls ≠ [] → (∀ l ∈ ls, CLine.GoodI l) → After (NoMark isIniMark) x →
      IStart (printCLines ls ++ x)
  | sec (name x : List Nat) : (∀ c ∈ name, c ≠ 93 ∧ c ≠ 10) → IStart (91 :: (name ++ 93 :: x))

theorem istart_block (b : IBlock) (hg : b.Good') (rest : List Nat) : IStart (b.print ++ rest) := by
  rw [b.print_app]
  cases b with
  | record cm cgap r gap =>
    obtain ⟨hcm, hcg0, hcg1, hsafe, hgap⟩ := hg
    by_cases hne : cm = []
    · rw [hne, hcg0 hne]; exact .key r gap rest hsafe hgap
    · obtain ⟨w, hcg, hw⟩ := hcg1 hne
      exact .comment cm _ hne (fun x hx => (hcm x hx).1)
        (After.of_cgap hcg (fun c hc => iniMark_ws (hw c hc).1) (safeIni_head r hsafe _).2.1)
  | «section» pre name gap =>
    obtain ⟨hpre, hname, hgap⟩ := hg
    by_cases hne : pre = []
    · subst hne; exact .sec name _ (fun c hc => ⟨(hname c hc).1, (hname c hc).2.1⟩)
    · simp only [preText, isEmpty_false_of_ne hne, Bool.false_eq_true, if_false, List.append_assoc, List.singleton_append]
      exact .comment pre _ hne hpre (After.cons (fun c hc => by cases hc; decide))
  | free ls gap =>
    exact .comment ls _ hg.1 hg.2.1 (After.of_gap rest (fun c hc => iniMark_ws (hg.2.2.1.ws c hc)) hg.2.2.1.head hg.2.2.2)

theorem IStart.follow {l : List Nat} (h : IStart l) : IFollow l := by
  cases h with
  | key r gap rest hs _ => exact (safeIni_head r hs _).2.2
  | comment ls x hne hgl _ => exact (cblock_head hne hgl x).2
  | sec name x _ => intro c hc; cases hc; decide

theorem ifollow_block (b : IBlock) (hg : b.Good') (l : List Nat) : IFollow (b.print ++ l) := (istart_block b hg l).follow

theorem ini_section_none_at (s : Array Nat) (p : Nat) (l : List Nat) (h : At s p l) (hl : l.head? ≠ some 91) :
    matchAt s IniParser_reSection p = none := by
  simp only [matchAt, IniParser_reSection, m_seq_def]
  exact lit_at_fail h hl [] _

theorem iniGetNext_eq {s : Array Nat} {off : Nat} {l : List Nat} (h : At s off l) (hl : l.head? ≠ some 91) :
    iniGetNext s off = skel (baseK iniCfg s) s off := by
  unfold iniGetNext
  rw [ini_section_none_at s off l h hl, getNext_eq_skel]

theorem _root_.P.ini_entity_at (s : Array Nat) (off klen vlen : Nat) (h : IniRecAt s off klen vlen) :
    iniGetNext s off = iniEntity off klen vlen := by
  obtain ⟨c0, hc0, a1, a2, a3, a4, a5, a6, a7⟩ := h.first
  have hat : At s off (s.toList.drop off) := rfl
  have hhd : (s.toList.drop off).head? = some c0 := (Txt.head?_of_drop rfl).symm.trans hc0
  rw [iniGetNext_eq hat (by rw [hhd]; simp [a1]),
    skel_plain (K := baseK iniCfg s)
      (ini_comment_none_at s off _ (fun c hc => by rw [hhd] at hc; cases hc; simp [isIniMark, a2, a3]) hat)
      (ws_none_at hat fun c hc => by rw [hhd] at hc; cases hc; simp [isWs, a4, a5, a6, a7]) (ini_key_match s off klen vlen h) rfl]
  simp [entityE, iniEntity, spanI, St.group, capOf, IniParser_reKey_g_key, IniParser_reKey_g_val]

/-- `license_standalone_ini` needs it: `IniParser.getNext` tests for a section first, and a comment never starts with `[` -/
theorem ini_comment_head (s : Array Nat) (off : Nat) (st : St) (hm : matchAt s IniParser_reComment off = some st) :
    s[off]? = some 59 ∨ s[off]? = some 35 := by
  refine Decidable.by_contra fun hn => ?_
  rw [ini_comment_none_at s off _ (fun c hc => by
    rw [← Txt.head?_of_drop rfl] at hc
    have : c ≠ 59 ∧ c ≠ 35 := ⟨fun e => hn (Or.inl (e ▸ hc)), fun e => hn (Or.inr (e ▸ hc))⟩
    simp [isIniMark, this]) rfl] at hm
  cases hm

theorem ini_comment_not_section (s : Array Nat) (off : Nat) (st : St)
    (hm : matchAt s IniParser_reComment off = some st) : s[off]? ≠ some 91 := by
  rcases ini_comment_head s off st hm with h | h <;> rw [h] <;> decide

theorem ini_section_match (s : Array Nat) (p : Nat) (name rest : List Nat) (hn : ∀ c ∈ name, c ≠ 93 ∧ c ≠ 10)
    (h : At s p (91 :: (name ++ 93 :: rest))) :
    matchAt s IniParser_reSection p = some ⟨p + name.length + 2, [(1, p + 1, p + 1 + name.length)]⟩ := by
  have h1 := h.tail
  have hp : p < s.size := h.pos_lt (by simp)
  simp only [matchAt, IniParser_reSection, m_seq_def, m_group_def, m_rep_def, m_any_charStep]
  rw [lit_at h]
  apply lazy_at _ [] _ _ h1 (fun c hc => by simp [(hn c hc).2])
    (fun j hj => m_lit_fail (c := 93) (by rw [h1.left j hj]; simp [(hn _ (List.getElem_mem hj)).1]) _ _) (by omega)
  rw [lit_at h1.app]
  simp; omega

theorem ini_section_at_p (s : Array Nat) (p : Nat) (name rest : List Nat) (hn : ∀ c ∈ name, c ≠ 93 ∧ c ≠ 10)
    (h : At s p (91 :: (name ++ 93 :: rest))) : iniGetNext s p = iniSecEntry p name.length := by
  have hm := ini_section_match s p name rest hn h
  unfold iniGetNext
  simp only [hm]
  simp [iniSecEntry, spanI, St.group, capOf, IniParser_reSection_g_val]
  omega

theorem ini_ws_at_n (s : Array Nat) (p : Nat) (w rest : List Nat) (hne : w ≠ []) (hw : ∀ c ∈ w, isWs c = true)
    (hr : ∀ c, rest.head? = some c → isWs c = false) (h : At s p (w ++ rest)) : iniGetNext s p = wsEntryN p w.length := by
  obtain ⟨a, t, rfl⟩ := List.exists_cons_of_ne_nil hne
  have ha := hw a (by simp)
  rw [iniGetNext_eq h (by intro hh; cases hh; revert ha; decide)]
  exact skel_ws_at (baseK_plainWs iniCfg rfl s) (ini_comment_none_at s p _ (fun c hc => by cases hc; exact iniMark_ws ha) h) h hne hw hr

theorem ini_key_at (s : Array Nat) (p : Nat) (r : PRec) (gap rest : List Nat) (hs : SafeIniRec r) (hgap : IGap gap)
    (h : At s p (r.1 ++ 61 :: (r.2 ++ (gap ++ rest)))) :
    matchAt s IniParser_reKey p = some ⟨p + r.1.length + 1 + r.2.length,
      [(2, p + r.1.length + 1, p + r.1.length + 1 + r.2.length), (1, p, p + r.1.length)]⟩ := by
  obtain ⟨g0, rfl⟩ := igap_cons hgap
  exact ini_key_match s _ _ _ (iniRecAt_of_drop s p r (g0 ++ rest) hs (by simpa [At, printRec] using h))

theorem ini_record_at (s : Array Nat) (off : Nat) (cm : List CLine) (cgap : List Nat) (r : PRec) (gap rest : List Nat)
    (hg : (IBlock.record cm cgap r gap).Good off) (hls : LineStart s off)
    (h : At s off ((IBlock.record cm cgap r gap).print ++ rest)) :
    iniGetNext s off = iniRecEntity off (printCLines cm).length cgap.length r.1.length r.2.length (!cm.isEmpty) := by
  obtain ⟨⟨hcm, hcg0, hcg1, hsafe, hgap⟩, hlic⟩ := hg
  have h1 : At s off (printCLines cm ++ (cgap ++ (r.1 ++ 61 :: (r.2 ++ (gap ++ rest))))) :=
    IBlock.at_print _ h
  have hkm := ini_key_at s _ r gap rest hsafe hgap h1.app.app
  obtain ⟨h91, hmk, hws⟩ := safeIni_head r hsafe (61 :: (r.2 ++ (gap ++ rest)))
  by_cases hne : cm = []
  · obtain rfl := hne
    obtain rfl := hcg0 rfl
    have h3 : At s off (r.1 ++ 61 :: (r.2 ++ (gap ++ rest))) := h1
    refine ((iniGetNext_eq h3 h91).trans (skel_plain (ini_comment_none_at s off _ hmk h3) (ws_none_at h3 hws)
      hkm rfl)).trans ?_
    simp [entityE, iniRecEntity, printCLines, spanI, St.group, capOf, IniParser_reKey_g_key, IniParser_reKey_g_val]
  · obtain ⟨w, rfl, hw⟩ := hcg1 hne
    have hcmm := ini_comment_at s off cm _ hne hls (fun x hx => (hcm x hx).1)
      (After.of_cgap rfl (fun c hc => iniMark_ws (hw c hc).1) hmk) h1
    have hl : (decide (off < 2) && isInfix licenseWord (commentVal iniCfg.commentStyle
        (slice s off (off + (printCLines cm).length)))) = false := by
      rw [h1.slice]
      by_cases ho : off < 2
      · simp [iniCfg, commentVal, Gen.Tables.offsetCommentDefault, hlic ho]
      · simp [ho]
    -- the gap behind the comment: one newline, then indentation
    have hnl : ((10 :: w).filter (· == 10)).length ≤ 1 := by
      simpa using fun a ha => (hw a ha).2
    refine ((iniGetNext_eq h1 (cblock_head hne (fun x hx => (hcm x hx).1) _).1).trans (skel_commented hcmm hl
      (attach_at (baseK_plainWs iniCfg rfl s) h1.app
        (fun c hc => (List.mem_cons.mp hc).elim (fun e => e ▸ rfl) fun hc => (hw c hc).1) hnl hws) hkm rfl)).trans ?_
    simp [entityE, iniRecEntity, isEmpty_false_of_ne hne, spanI, St.group, capOf, IniParser_reKey_g_key, IniParser_reKey_g_val]

/-- a comment block that is directly followed (after ONE newline) by a line without `=` — a section header, a garbage line —
    is a stand-alone comment -/
theorem ini_comment_before (s : Array Nat) (off : Nat) (ls : List CLine) (x rest : List Nat) (hne : ls ≠ [])
    (hg : ∀ l ∈ ls, CLine.GoodI l) (hls : LineStart s off) (hx : ∀ c ∈ x, c ≠ 61 ∧ c ≠ 10)
    (hxh : ∀ c, (x ++ rest).head? = some c → isWs c = false ∧ isIniMark c = false)
    (hr : ∀ c, rest.head? = some c → c = 10)
    (h : At s off (printCLines ls ++ (10 :: (x ++ rest)))) :
    iniGetNext s off = commentEntry off (off + (printCLines ls).length) := by
  have h2 : At s (off + (printCLines ls).length) ([10] ++ (x ++ rest)) := h.app
  rw [iniGetNext_eq h (cblock_head hne hg _).1]
  have hcm := ini_comment_at s off ls _ hne hls hg (After.cons fun c hc => (hxh c hc).2) h
  exact skel_comment_nokey (K := baseK iniCfg s) hcm
    (.inr ⟨⟨_, []⟩, ws_at h2 (by simp) (by decide) (fun c hc => (hxh c hc).1), rfl, rfl⟩)
    (ini_key_none_line s _ x rest hx hr h2.app)

theorem ini_free_comment (s : Array Nat) (off : Nat) (ls : List CLine) (gap rest : List Nat) (hne : ls ≠ [])
    (hg : ∀ l ∈ ls, CLine.GoodI l) (hls : LineStart s off) (hgap : IGap gap) (hnl : 2 ≤ (gap.filter (· == 10)).length)
    (hfo : ∀ c, rest.head? = some c → isWs c = false) (h : At s off (printCLines ls ++ (gap ++ rest))) :
    iniGetNext s off = commentEntry off (off + (printCLines ls).length) := by
  rw [iniGetNext_eq h (cblock_head hne hg _).1]
  exact skel_free_at (baseK_plainWs iniCfg rfl s) (ini_comment_at s off ls _ hne hls hg
    (After.of_gap rest (fun c hc => iniMark_ws (hgap.ws c hc)) hgap.head hnl) h) rfl h.app hgap.ws hnl hfo

theorem ini_entry_gap {s : Array Nat} {o off q : Nat} {e : Entry} {x gap rest : List Nat} (h : At s o (x ++ rest))
    (hat : At s q (gap ++ rest)) (hn : iniGetNext s off = e) (he : e.e = q) (ho : o ≤ off) (h1 : off < q) (hgap : IGap gap)
    (hfo : IFollow rest) :
    Walks (iniNext s) s.size () off [e, wsEntryN q gap.length] () (o + x.length) ∧ LineStart s (o + x.length) := by
  rw [h.end_eq hat hgap.ne (Nat.le_trans ho (Nat.le_of_lt h1))]
  exact walks_entry_gap he h1 hat hgap.ne hgap.last (congrArg (·, ()) hn)
    (congrArg (·, ()) (ini_ws_at_n s _ gap rest hgap.ne hgap.ws hfo hat))

theorem ini_walks_block (s : Array Nat) (off : Nat) (b : IBlock) (rest : List Nat) (hg : b.Good off) (hfo : IFollow rest)
    (hls : LineStart s off) (h : At s off (b.print ++ rest)) :
    Walks (iniNext s) s.size () off (b.entries off) () (off + b.print.length) ∧ LineStart s (off + b.print.length) := by
  cases b with
  | record cm cgap r gap =>
    have h1 : At s off (printCLines cm ++ (cgap ++ (r.1 ++ 61 :: (r.2 ++ (gap ++ rest))))) := IBlock.at_print _ h
    exact ini_entry_gap h h1.app.app.app.tail.app (ini_record_at s off cm cgap r gap rest hg hls h) rfl (Nat.le_refl _)
      (by omega) hg.1.2.2.2.2 hfo
  | «section» pre name gap =>
    obtain ⟨⟨hpre, hname, hgap⟩, _⟩ := hg
    have h0 : At s off (preText pre ++ (91 :: (name ++ 93 :: (gap ++ rest)))) := IBlock.at_print _ h
    have hp := h0.app
    have sec := ini_entry_gap (q := off + (preText pre).length + name.length + 2) h
      (hp.tail.app.tail.cast (congrArg (· + 1) (Nat.add_right_comm _ 1 _)))
      (ini_section_at_p s _ name _ (fun c hc => ⟨(hname c hc).1, (hname c hc).2.1⟩) hp) rfl (Nat.le_add_right _ _) (by omega)
      hgap hfo
    by_cases hne : pre = []
    · subst hne; exact sec
    · -- the comment lines are a stand-alone comment, the newline behind them a white-space entry of its own
      have hemp := isEmpty_false_of_ne hne
      have hpl : (preText pre).length = (printCLines pre).length + 1 := by
        simp only [preText, hemp, Bool.false_eq_true, if_false, List.length_append, List.length_singleton]
      have h1 : At s off (printCLines pre ++ (10 :: ((91 :: (name ++ [93])) ++ (gap ++ rest)))) := by
        simpa [At, preText, hemp] using h0
      have ec := ini_comment_before s off pre (91 :: (name ++ [93])) (gap ++ rest) hne hpre hls
        (by intro c hc; simp at hc; rcases hc with rfl | hc | rfl
            · decide
            · exact ⟨(hname c hc).2.2, (hname c hc).2.1⟩
            · decide)
        (by intro c hc; cases hc; decide) (by obtain ⟨gw, rfl⟩ := igap_cons hgap; intro c hc; cases hc; rfl) h1
      have h2 : At s (off + (printCLines pre).length) ([10] ++ (91 :: (name ++ 93 :: (gap ++ rest)))) := by
        simpa [At] using h1.app
      have w0 := (walks_entry_ws (next := iniNext s) (c := ()) (q := off + (printCLines pre).length) (n := [10].length) rfl
        (by have := printCLines_pos hne; omega) (by decide) (h2.left_le (by simp)) (congrArg (·, ()) ec)
        (congrArg (·, ()) (ini_ws_at_n s _ [10] _ (by simp) (by decide) (by intro c hc; cases hc; decide) h2))).cast_end
        (show off + (printCLines pre).length + [10].length = off + (preText pre).length by rw [hpl]; rfl)
      refine ⟨?_, sec.2⟩
      simp only [IBlock.entries, hemp, Bool.false_eq_true, if_false]
      exact w0.append sec.1
  | free ls gap =>
    obtain ⟨⟨g1, g2, g3, g4⟩, _⟩ := hg
    have h' : At s off (printCLines ls ++ (gap ++ rest)) := IBlock.at_print _ h
    exact ini_entry_gap h h'.app (ini_free_comment s off ls gap rest g1 g2 hls g3 g4 hfo h') rfl (Nat.le_refl _)
      (Nat.lt_add_of_pos_right (printCLines_pos g1)) g3 hfo

theorem ini_views_block (s : Array Nat) (off : Nat) (b : IBlock) (rest : List Nat) (hg : b.Good')
    (h : At s off (b.print ++ rest)) :
    entitiesOf .ini s (b.entries off) = b.views ∧ junkOf s (b.entries off) = [] := by
  cases b with
  | record cm cgap r gap =>
    have h1 : At s off (printCLines cm ++ (cgap ++ (r.1 ++ 61 :: (r.2 ++ (gap ++ rest))))) :=
      IBlock.at_print _ h
    have h3 := h1.app.app
    have hv : entView .ini s (iniRecEntity off (printCLines cm).length cgap.length r.1.length r.2.length (!cm.isEmpty)) =
        some { key := r.1, raw := r.2, val := some r.2, comment := if cm.isEmpty then none else some (cvalLines cm) } := by
      simp only [entView, iniRecEntity, h3.pySlice rfl, h3.app.tail.pySlice rfl]
      cases hce : cm.isEmpty with
      | true => simp
      | false =>
        simp [commentStyleOf, commentVal, h1.slice, Gen.Tables.offsetCommentDefault,
          offsetVal1_lines cm (fun l hl => ⟨(iniMark_facts (hg.1 l hl).1.1).2.2, (hg.1 l hl).2⟩)]
    have := views_entity_ws .ini s (off + (printCLines cm).length + cgap.length + r.1.length + 1 + r.2.length) gap.length
      (e := iniRecEntity off (printCLines cm).length cgap.length r.1.length r.2.length (!cm.isEmpty)) rfl
    rw [hv] at this
    exact this
  | «section» pre name gap =>
    have v2 := views_other_ws .ini s (e := iniSecEntry (off + (preText pre).length) name.length)
      (off + (preText pre).length + name.length + 2) gap.length (by simp [iniSecEntry]) (by simp [iniSecEntry])
    cases hp : pre.isEmpty with
    | true => simpa [IBlock.entries, IBlock.views, hp] using v2
    | false =>
      have v1 := views_other_ws .ini s (e := commentEntry off (off + (printCLines pre).length))
        (off + (printCLines pre).length) 1 (by simp [commentEntry]) (by simp [commentEntry])
      simp only [IBlock.entries, IBlock.views, hp, Bool.false_eq_true, if_false, entitiesOf_append, junkOf_append, v1, v2]
      exact ⟨rfl, rfl⟩
  | free ls gap => exact views_other_ws .ini s _ _ (by simp [commentEntry]) (by simp [commentEntry])

/-- an inert garbage line and the newlines after it: the line is non-empty, has no `=`, no `[` and no newline, does not start
    with white-space or a comment marker; after it come newlines only (white-space before the next record would belong
    to that record's key: the key regex is `.+?=`) -/
structure IGarbage (g gap : List Nat) : Prop where
  ne : g ≠ []
  chars : ∀ c ∈ g, c ≠ 61 ∧ c ≠ 10 ∧ c ≠ 91
  head : ∀ c, g.head? = some c → isWs c = false ∧ isIniMark c = false
  gap_ne : gap ≠ []
  gap : ∀ c ∈ gap, c = 10

theorem igarb_head (g gap : List Nat) (hg : IGarbage g gap) (l : List Nat) :
    (g ++ l).head? ≠ some 91 ∧ NoMark isIniMark (g ++ l) ∧ IFollow (g ++ l) := by
  obtain ⟨a, t, hgg⟩ := List.exists_cons_of_ne_nil hg.ne
  have h1 := hg.head a (by rw [hgg]; rfl)
  rw [hgg]
  exact plain_head _ (hg.chars a (by rw [hgg]; simp)).2.2 h1.2 h1.1

theorem IStart.junkExp {l : List Nat} (hl : IStart l) {s : Array Nat} {e : Nat} (hls : LineStart s e) (h : At s e l) :
    ∃ r ∈ iniCfg.junkExps, (matchAt s r e).isSome := by
  cases hl with
  | key r gap rest hs hgap => exact ⟨IniParser_reKey, by simp [iniCfg], by rw [ini_key_at s e r gap rest hs hgap h]; rfl⟩
  | comment ls x hne hgl hac =>
    exact ⟨IniParser_reComment, by simp [iniCfg], by rw [ini_comment_at s e ls x hne hls hgl hac h]; rfl⟩
  | sec name x hn => exact ⟨IniParser_reSection, by simp [iniCfg], by rw [ini_section_match s e name x hn h]; rfl⟩

theorem ini_junk_at (s : Array Nat) (p : Nat) (g gap rest : List Nat) (hg : IGarbage g gap)
    (hnext : rest = [] ∨ ∃ r ∈ iniCfg.junkExps, (matchAt s r (p + g.length + gap.length)).isSome)
    (h : At s p (g ++ (gap ++ rest))) : iniGetNext s p = junkEntry p (p + g.length + gap.length) := by
  have h' : At s p ((g ++ gap) ++ rest) := by simpa [At] using h
  obtain ⟨h91, hmk, hws⟩ := igarb_head g gap hg (gap ++ rest)
  -- from no position of the line on is there a `=` before the newline
  have hkey : ∀ q, p ≤ q → q ≤ p + g.length → matchAt s IniParser_reKey q = none := fun q h1 h2 =>
    ini_key_none_line s q (g.drop (q - p)) (gap ++ rest)
      (fun c hc => ⟨(hg.chars c (List.mem_of_mem_drop hc)).1, (hg.chars c (List.mem_of_mem_drop hc)).2.1⟩)
      (by obtain ⟨a, t, hgp⟩ := List.exists_cons_of_ne_nil hg.gap_ne
          rw [hgp]; intro c hc; cases hc; exact hg.gap _ (by rw [hgp]; simp))
      ((h.drop_at (q - p) (Nat.sub_le_iff_le_add'.mpr h2)).cast (Nat.add_sub_cancel' h1))
  have hgp : At s (p + g.length) (gap ++ rest) := h.app
  have hj := getJunk_over iniCfg.junkExps (by decide) (by simp [hg.ne])
    (fun r hr q h1 h2 => by
      rw [List.length_append, ← Nat.add_assoc] at h2
      simp only [iniCfg, List.mem_cons, List.not_mem_nil, or_false] at hr
      by_cases hq : q < p + g.length
      · -- inside the line: no `[` here, and no newline before
        obtain ⟨a, t, ha, hat⟩ := h.inside (Nat.le_of_lt h1) hq
        rcases hr with rfl | rfl | rfl
        · exact hkey q (Nat.le_of_lt h1) (Nat.le_of_lt hq)
        · exact ini_comment_none_mid s q (not_lineStart_inside h (fun c hc => (hg.chars c hc).2.1) h1 (Nat.le_of_lt hq))
        · exact ini_section_none_at s q _ hat (fun hh => (hg.chars a ha).2.2 (Option.some.inj hh))
      · -- inside the newlines
        obtain ⟨a, t, ha, hat⟩ := hgp.inside (Nat.le_of_not_lt hq) h2
        obtain rfl := hg.gap a ha
        rcases hr with rfl | rfl | rfl
        · exact ini_key_none_line s q [] _ (by simp) (by intro c hc; cases hc; rfl) hat
        · exact ini_comment_none_at s q _ (by intro c hc; cases hc; decide) hat
        · exact ini_section_none_at s q _ hat (by simp))
    (by simpa [Nat.add_assoc] using hnext) h'
  rw [iniGetNext_eq h h91, skel_other (ini_comment_none_at s p _ hmk h) (ws_none_at h hws)
    (hkey p (Nat.le_refl _) (Nat.le_add_right _ _))]
  exact hj.trans (by rw [List.length_append, Nat.add_assoc])

def iniSpec : GSpec Unit IBlock where
  f := .ini
  next := fun s _ off => (iniGetNext s off, ())
  c0 := ()
  pr := IBlock.print
  en := fun off _ b => b.entries off
  tr := fun c _ => c
  vw := IBlock.views
  Good' := fun _ b => b.Good'
  Lic := fun off b => b.NoLicense off
  Garb := fun _ g gap => IGarbage g gap
  JOk := fun _ => True
  Follow := IFollow
  Inv := LineStart

theorem IBlock.print_len2 (b : IBlock) (hg : b.Good') : 2 ≤ b.print.length := by
  cases b with
  | record cm cgap r gap =>
    have := List.length_pos_iff.mpr hg.2.2.2.1.key_ne
    simp only [IBlock.print, List.length_append, List.length_cons]; omega
  | «section» pre name gap => simp only [IBlock.print, List.length_append, List.length_cons]; omega
  | free ls gap =>
    have h1 := printCLines_pos hg.1
    have h2 : 0 < gap.length := List.length_pos_iff.mpr hg.2.2.1.ne
    simp only [IBlock.print, List.length_append]; omega

theorem IBlock.lic2 (off : Nat) (b : IBlock) (h : 2 ≤ off) : b.NoLicense off := by
  cases b with
  | record cm cgap r gap => intro hlt; omega
  | «section» pre name gap => trivial
  | free ls gap => trivial

theorem iniSpec_laws : iniSpec.Laws where
  walk_def := fun _ => rfl
  inv0 := fun _ => Or.inl rfl
  follow_nil := by intro c hc; cases hc
  block_walk := fun s b _ off rest hg hl h hfo hi => ini_walks_block s off b rest ⟨hg, hl⟩ hfo hi h
  block_follow := fun _ b rest hg => ifollow_block b hg rest
  block_views := fun s b _ off rest hg h _ => ini_views_block s off b rest hg h
  junk_at := by
    intro s _ p g gap rest hg h hi hnext
    have hls : LineStart s (p + g.length + gap.length) := lineStart_of_last h.app hg.gap_ne
      (by rw [List.getLast?_eq_some_getLast hg.gap_ne, hg.gap _ (List.getLast_mem _)])
    refine ⟨congrArg (·, ()) (ini_junk_at s p g gap rest hg ?_ h), hls⟩
    rcases hnext with rfl | ⟨b, rest', rfl, hb, _, hfo⟩
    · exact Or.inl rfl
    · exact Or.inr ((istart_block b hb rest').junkExp hls h.app.app)
  garb_follow := fun _ g gap rest hg => (igarb_head g gap hg (gap ++ rest)).2.2
  garb_pos := fun _ g gap hg => List.length_pos_iff.mpr hg.ne
  gap_pos := fun _ g gap hg => List.length_pos_iff.mpr hg.gap_ne
  len2 := fun _ b hb => b.print_len2 hb
  lic2 := IBlock.lic2

end C02P
