/- C14 composed: what `PatternParser.parse` makes of a text without `*` and `{`, and of `pre ++ "*" ++ post` with both parts such
   texts and `pre` not empty. -/
import CLModel.Paths.Matcher
import CLModel.Proofs.RxSearch
namespace C14M
open Rx PM

/-- a text without `*` and without `{`: `PatternParser` finds nothing special in it -/
def Plain (t : Text) : Prop := 42 ∉ t ∧ 123 ∉ t

instance (t : Text) : Decidable (Plain t) := inferInstanceAs (Decidable (42 ∉ t ∧ 123 ∉ t))

theorem special_none (s : Array Nat) (st : St) (k : K) (h42 : s[st.pos]? ≠ some 42) (h123 : s[st.pos]? ≠ some 123) :
    m s Gen.Pat.paths_matcher_PATH_SPECIAL st k = none := by
  simp only [Gen.Pat.paths_matcher_PATH_SPECIAL, m]
  simp [h42, h123]
  split <;> simp

/-- from position `p` on there is neither `*` nor `{` -/
def PlainFrom (s : Array Nat) (p : Nat) : Prop := ∀ j, p ≤ j → s[j]? ≠ some 42 ∧ s[j]? ≠ some 123

theorem matches_plain {s : Array Nat} {pos : Nat} (h : PlainFrom s pos) :
    Matches s Gen.Pat.paths_matcher_PATH_SPECIAL pos [] :=
  .nil fun q hq _ => special_none s ⟨q, []⟩ _ (h q hq).1 (h q hq).2

theorem finditer_plain {s : Array Nat} (h : PlainFrom s 0) : finditer s Gen.Pat.paths_matcher_PATH_SPECIAL = [] :=
  (finditer_matches s _ (by decide)).det (matches_plain h)

theorem plainFrom_of_plain {pre t : Text} (h : Plain t) : PlainFrom (pre ++ t).toArray pre.length := by
  intro j hj
  simp only [List.getElem?_toArray]
  rw [List.getElem?_append_right hj]
  constructor
  · intro hc; exact h.1 (List.mem_of_getElem? hc)
  · intro hc; exact h.2 (List.mem_of_getElem? hc)

theorem slice_all (t : Text) : slice t.toArray 0 t.toArray.size = t := by
  simp [slice]

theorem parsePattern_plain {t : Text} (h : Plain t) : parsePattern t = .ok ⟨[.lit t], none, 1⟩ := by
  have hp : PlainFrom t.toArray 0 := by simpa using plainFrom_of_plain (pre := []) h
  simp only [parsePattern, finditer_plain hp, parseLoop, bind, Except.bind, pure, Except.pure,
    List.nil_append, slice_all]
  rfl


/-- `PATH_SPECIAL` at a `*` that no second `*` follows: the alternative `(?P<starstar>…\*\*…)` fails, `(?P<star>\*)` — group 3 of
    the compiled pattern — captures the one character -/
theorem special_star (s : Array Nat) (q : Nat) (h : s[q]? = some 42) (h2 : s[q + 1]? ≠ some 42) :
    matchAt s Gen.Pat.paths_matcher_PATH_SPECIAL q = some ⟨q + 1, [(3, q, q + 1)]⟩ := by
  simp only [matchAt, Gen.Pat.paths_matcher_PATH_SPECIAL, m]
  simp [h, h2]
  split <;> simp

theorem finditer_one (s : Array Nat) (q : Nat) (st : St) (hq : q ≤ s.size)
    (hbefore : ∀ j, j < q → s[j]? ≠ some 42 ∧ s[j]? ≠ some 123)
    (hm : matchAt s Gen.Pat.paths_matcher_PATH_SPECIAL q = some st) (hpos : st.pos = q + 1)
    (hafter : PlainFrom s (q + 1)) :
    finditer s Gen.Pat.paths_matcher_PATH_SPECIAL = [(q, st)] :=
  (finditer_matches s _ (by decide)).det (.cons (Nat.zero_le _) hq
    (fun j _ hj => special_none s ⟨j, []⟩ _ (hbefore j hj).1 (hbefore j hj).2) hm (hpos ▸ matches_plain hafter))

/- `PATH_SPECIAL` matches in `pre ++ "*" ++ post` once, at the star (`finditer_one`: nothing special before it by `hpre`, none
behind it by `hpost`); the one step of the loop then yields the literal before, the wildcard numbered 1, and the rest. -/
theorem parsePattern_star {pre post : Text} (hpre : Plain pre) (hne : pre ≠ []) (hpost : Plain post) :
    parsePattern (pre ++ 42 :: post) = .ok ⟨[.lit pre, .star 1, .lit post], none, 1⟩ := by
  have hs42 : (pre ++ 42 :: post).toArray[pre.length]? = some 42 := by simp
  have hnext : (pre ++ 42 :: post).toArray[pre.length + 1]? ≠ some 42 := by
    simp only [List.getElem?_toArray]
    rw [List.getElem?_append_right (by omega)]
    simp only [Nat.add_sub_cancel_left, List.getElem?_cons_succ]
    intro hc
    have : 42 ∈ post := List.mem_of_getElem? hc
    exact hpost.1 this
  have hm := special_star _ _ hs42 hnext
  have hbefore : ∀ j, j < pre.length → (pre ++ 42 :: post).toArray[j]? ≠ some 42 ∧
      (pre ++ 42 :: post).toArray[j]? ≠ some 123 := by
    intro j hj
    simp only [List.getElem?_toArray]
    rw [List.getElem?_append_left hj]
    exact ⟨fun hc => hpre.1 (List.mem_of_getElem? hc), fun hc => hpre.2 (List.mem_of_getElem? hc)⟩
  have hafter : PlainFrom (pre ++ 42 :: post).toArray (pre.length + 1) := by
    have := plainFrom_of_plain (pre := pre ++ [42]) hpost
    simpa using this
  have hfi := finditer_one _ pre.length _ (by simp) hbefore hm rfl hafter
  have hpos : pre.length > 0 := List.length_pos_iff.mpr hne
  have hgv : groupText (pre ++ 42 :: post).toArray ⟨pre.length + 1, [(3, pre.length, pre.length + 1)]⟩ gVariable = none := by
    simp [groupText, St.group, capOf, gVariable, Gen.Pat.paths_matcher_PATH_SPECIAL_g_variable]
  have hgs : groupText (pre ++ 42 :: post).toArray ⟨pre.length + 1, [(3, pre.length, pre.length + 1)]⟩ gStar = some [42] := by
    simp [groupText, St.group, capOf, gStar, Gen.Pat.paths_matcher_PATH_SPECIAL_g_star, slice]
  have hs1 : slice (pre ++ 42 :: post).toArray 0 pre.length = pre := by
    simp [slice]
  have hs2 : slice (pre ++ 42 :: post).toArray (pre.length + 1) (pre.length + (post.length + 1)) = post := by
    simp only [slice, List.extract_toArray, List.extract_eq_take_drop]
    simp only [List.drop_append, List.drop_of_length_le (Nat.le_succ _), List.nil_append,
      Nat.add_sub_cancel_left, List.drop_succ_cons, List.drop_zero]
    exact List.take_of_length_le (by omega)
  simp only [parsePattern, hfi, parseLoop, parseStep, bind, Except.bind, pure, Except.pure, hgv, hgs, truthy,
    hpos, if_true, stepWildcard, markPrefix, hs1]
  simp [hs2]

end C14M
