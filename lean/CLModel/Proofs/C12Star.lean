/- Group indices of a compiled matcher regex are unique; what star and double star groups capture. -/
import CLModel.Proofs.C11Shape
namespace PM
open Rx

def gidx (r : Re) : List Nat := (groups r).map (·.1)

theorem gidx_group (i r) : gidx (.group i r) = i :: gidx r := by simp [gidx, groups]
theorem gidx_seq (a b) : gidx (.seq a b) = gidx a ++ gidx b := by simp [gidx, groups]
theorem gidx_alt (a b) : gidx (.alt a b) = gidx a ++ gidx b := by simp [gidx, groups]
theorem gidx_rep (a b c r) : gidx (.rep a b c r) = gidx r := by simp [gidx, groups]
theorem gidx_look (a b r) : gidx (.look a b r) = gidx r := by simp [gidx, groups]

theorem wfRe_defs (r : Re) : ∀ {s s' : List Nat × List Nat}, wfRe r s = some s' →
    s'.1 = (gidx r).reverse ++ s.1 ∧ (s.1.Nodup → s'.1.Nodup) := by
  induction r with
  | group i r ih =>
    intro s s' h
    simp only [wfRe] at h
    split at h
    · cases h
    · rename_i hc
      split at h
      · rename_i h1
        cases h
        obtain ⟨e, hn⟩ := ih h1
        exact ⟨by simpa [gidx, groups] using e, fun hd => hn (List.nodup_cons.2 ⟨by simpa using hc, hd⟩)⟩
      · cases h
  | backref i =>
    intro s s' h
    simp only [wfRe] at h
    split at h
    · cases h; exact ⟨by simp [gidx, groups], id⟩
    · cases h
  | seq a b iha ihb | alt a b iha ihb =>
    intro s s' h
    simp only [wfRe] at h
    split at h
    · obtain ⟨e1, n1⟩ := iha ‹_›
      obtain ⟨e2, n2⟩ := ihb h
      exact ⟨by simp [e2, e1, gidx, groups], n2 ∘ n1⟩
    · cases h
  | rep mn mx g r ih | look a n r ih => intro s s' h; simpa [gidx, groups] using ih h
  | _ => intro s s' h; cases h; exact ⟨by simp [gidx, groups], id⟩

theorem wfRe_unique {re : Re} (h : (wfRe re ([], [])).isSome = true) : ∀ j, (gidx re).count j ≤ 1 := by
  obtain ⟨s', hs⟩ := Option.isSome_iff_exists.mp h
  obtain ⟨e, hn⟩ := wfRe_defs re hs
  intro j
  have := List.nodup_iff_count.mp (hn List.nodup_nil) j
  rwa [e, List.append_nil, List.count_reverse] at this

theorem body_unique {l : List (Nat × Re)} (h : ∀ j, (l.map (·.1)).count j ≤ 1) {i : Nat} {b1 b2 : Re}
    (h1 : (i, b1) ∈ l) (h2 : (i, b2) ∈ l) : b1 = b2 :=
  (Prod.mk.inj (Txt.eq_of_nodup_map (List.nodup_iff_count.mpr h) h1 h2 rfl)).2

theorem sem_rep_all {s : Array Nat} {P : Nat → Prop} {body : Re}
    (hbody : ∀ x y, BSem s body x y → ∀ j, x.pos ≤ j → j < y.pos → P j) :
    ∀ {r x y}, BSem s r x y → ∀ {mn mx g}, r = Re.rep mn mx g body → ∀ j, x.pos ≤ j → j < y.pos → P j := by
  intro r x y h
  induction h with
  | repNil => intro _ _ _ _ j h1 h2; omega
  | @repCons mn mx mn' mx' g r st st1 st2 h1 _ _ ih2 =>
    intro mn0 mx0 g0 hr j hj1 hj2
    injection hr with _ _ _ hb
    subst hb
    by_cases hlt : j < st1.pos
    · exact hbody _ _ h1 j hj1 hlt
    · exact ih2 (mn := mn') (mx := mx') (g := g) rfl j (by omega) hj2
  | _ => intro _ _ _ hr; cases hr

theorem sem_notLit {s : Array Nat} {c : Nat} {x y : St} (h : BSem s (.notLit c) x y) :
    y.pos = x.pos + 1 ∧ ∃ d, s[x.pos]? = some d ∧ d ≠ c := by
  cases h with
  | notLit hd hne => exact ⟨rfl, _, hd, hne⟩

theorem mem_slice {s : Array Nat} {a b x : Nat} (h : x ∈ slice s a b) :
    ∃ j, a ≤ j ∧ j < b ∧ s[j]? = some x := Txt.mem_extract h

theorem cap_of_group {m : Matcher} {path : Text} {re names st} (hre : m.regexOf = .ok (re, names))
    (hst : matchAt path.toArray re 0 = some st) {i : Nat} {body : Re} {a b : Nat}
    (hg : (i, body) ∈ groups re) (hc : capOf st.caps i = some (a, b)) :
    ∃ x y, BSem path.toArray body x y ∧ x.pos = a ∧ y.pos = b := by
  obtain ⟨items, _, _, hwf⟩ := regexOf_inv hre
  have hsem := matchAt_sem hst
  have hcf := hsem.capsFrom (G := groups re) (fun p hp => hp) (capsFrom_nil _ _)
  obtain ⟨body', hb', x, y, hxy, hx, hy⟩ := hcf _ (capOf_mem hc)
  have : body' = body := body_unique (wfRe_unique hwf) hb' hg
  subst this
  exact ⟨x, y, hxy, hx, hy⟩

theorem node_item_groups {m : Matcher} {re names} (hre : m.regexOf = .ok (re, names)) {n : Node}
    (hn : n ∈ m.pattern.nodes) :
    ∃ a na, rxNode (rxVal (fuelFor m.env)) n m.env = .ok (a, na) ∧ ∀ x ∈ a, ∀ p ∈ groups x, p ∈ groups re := by
  obtain ⟨items, hrx, rfl, _⟩ := regexOf_inv hre
  obtain ⟨root, citems, _, hch, rfl⟩ := rxPat_inv hrx
  obtain ⟨a, na, h1, h2, _⟩ := rxChildren_mem hch hn
  refine ⟨a, na, h1, ?_⟩
  intro x hx p hp
  rw [groups_seqOf]
  apply List.mem_flatMap.mpr
  exact ⟨x, by simp [h2 x hx], hp⟩

theorem star_group_mem {m : Matcher} {re names} (hre : m.regexOf = .ok (re, names)) {n : Nat}
    (hn : Node.star n ∈ m.pattern.nodes) :
    (encName (sname n), Gen.Pat.matcher_frag_star) ∈ groups re := by
  obtain ⟨a, na, h1, h2⟩ := node_item_groups hre hn
  simp only [rxNode, pure, Except.pure, Except.ok.injEq, Prod.mk.injEq] at h1
  obtain ⟨rfl, _⟩ := h1
  exact h2 (Re.group (encName (sname n)) Gen.Pat.matcher_frag_star) (List.mem_singleton.mpr rfl) _
    (by simp [groups])

theorem starstar_group_mem {m : Matcher} {re names} (hre : m.regexOf = .ok (re, names)) {n : Nat} {sfx : Text}
    (hn : Node.starstar n sfx ∈ m.pattern.nodes) :
    (encName (sname n), seqOf (Gen.Pat.matcher_frag_starstar :: sfx.map Re.lit)) ∈ groups re := by
  obtain ⟨a, na, h1, h2⟩ := node_item_groups hre hn
  simp only [rxNode, pure, Except.pure, Except.ok.injEq, Prod.mk.injEq] at h1
  obtain ⟨rfl, _⟩ := h1
  exact h2 (Re.alt (Re.group (encName (sname n)) (seqOf (Gen.Pat.matcher_frag_starstar :: sfx.map Re.lit))) Re.eps)
    (List.mem_singleton.mpr rfl) _ (by simp [groups])

theorem groupText_some {s : Array Nat} {st : St} {i : Nat} {v : Text} (h : groupText s st i = some v) :
    ∃ a b, capOf st.caps i = some (a, b) ∧ v = slice s a b := by
  unfold groupText St.group at h
  split at h
  · rename_i a b hc
    simp at h
    exact ⟨a, b, hc, h.symm⟩
  · cases h

end PM
