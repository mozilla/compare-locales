/- C02, properties: files of `key=value⏎` records.  Such a record — also with one `# comment` line in front — is a record of the
   full grammar (no blanks around `=`, one physical line, a single newline behind it); what is stated about these files is
   read off the record lemmas and the document theorem of C02PProps / C02PGarbage. -/
import CLModel.Proofs.C02PGarbage
namespace P
open Rx Gen.Pat C02X C02P

/-- the entity the code must produce for a record at `off` -/
def propsEntity_c02 (off klen vlen : Nat) : Entry :=
  { kind := .entity, full := off, s := off, e := off + klen + 1 + vlen, ks := off, ke := (off + klen : Nat),
    vs := (off + klen + 1 : Nat), ve := (off + klen + 1 + vlen : Nat), pc := none }

def printProps (rs : List PRec) : List Nat := (rs.map printRec).flatten

/-- non-empty key of safe characters; value without backslash and newline that neither starts nor ends in a blank
    (nor ends in a carriage return) -/
structure SafeRec (r : PRec) : Prop where
  key_ne : r.1 ≠ []
  key : ∀ c ∈ r.1, propsKeyChar c = true
  val : ∀ c ∈ r.2, c ≠ 92 ∧ c ≠ 10
  val_head : ∀ c, r.2.head? = some c → c ≠ 32 ∧ c ≠ 9
  val_last : ∀ c, r.2.getLast? = some c → c ≠ 32 ∧ c ≠ 9 ∧ c ≠ 13

def expEntries : Nat → List PRec → List Entry
  | _, [] => []
  | off, r :: rs =>
    propsEntity_c02 off r.1.length r.2.length :: wsEntry (off + r.1.length + 1 + r.2.length) ::
      expEntries (off + r.1.length + 1 + r.2.length + 1) rs

theorem spec_id : ∀ (l : List Nat), (∀ c ∈ l, c ≠ 92) → propsUnescapeSpec l = l := by
  intro l
  induction l with
  | nil => intro _; exact spec_nil
  | cons c t ih =>
    intro h
    rw [spec_cons_ne c t (h c (by simp)), ih (fun d hd => h d (by simp [hd]))]

/-- `# c⏎key=value⏎` (the comment line optional) -/
def crecFull (c : Option (List Nat)) (k0 : Nat) (kt v : List Nat) : PRecord where
  comment := match c with | some c => [(35, 32 :: c)] | none => []
  cgap := match c with | some _ => [10] | none => []
  key := ⟨k0, kt, [], 61, []⟩
  lines := []
  last := ⟨v, 0⟩
  gap := [10]

theorem crecFull_good (c : Option (List Nat)) (k0 : Nat) (kt v : List Nat) (hs : SafeRec (k0 :: kt, v))
    (hc : ∀ t, c = some t → ∀ ch ∈ t, isLineBreak ch = false) : (crecFull c k0 kt v).Good := by
  have hv10 : ∀ x ∈ v, x ≠ 10 := fun x hx => (hs.val x hx).2
  have hcl : ∀ l ∈ (crecFull c k0 kt v).comment, CLine.Good l ∧ CLine.NoBreak l := by
    intro l hl
    cases c with
    | none => cases hl
    | some t =>
      obtain rfl : l = (35, 32 :: t) := by simpa [crecFull] using hl
      have hb : ∀ ch ∈ 32 :: t, isLineBreak ch = false := fun ch h =>
        (List.mem_cons.mp h).elim (fun e => e ▸ rfl) (hc t rfl ch)
      exact ⟨⟨rfl, fun x hx h10 => absurd (hb x hx) (by rw [h10]; decide)⟩, hb⟩
  refine { comment := fun l hl => (hcl l hl).1, nobreak := fun l hl => (hcl l hl).2, cgap_nil := ?_, cgap := ?_,
           key := ⟨hs.key k0 (by simp), fun x hx => ?_, (fun _ h => nomatch h), Or.inl rfl, (fun _ h => nomatch h)⟩,
           lines := by simp [crecFull], last := ⟨hv10, ?_⟩, last_even := rfl, val_head := ?_, val_last := ?_,
           gap := ⟨[], rfl, by simp⟩ }
  · cases c <;> simp [crecFull]
  · cases c <;> simp [crecFull]
  · have f := keyChar_facts (hs.key x (List.mem_cons_of_mem _ hx))
    exact ⟨f.2.2.2.2.2.2.1, f.2.2.2.2.2.2.2, f.2.2.2.2.2.1, f.2.2.1, f.2.2.2.1⟩
  · intro h; exact (hs.val 92 (List.mem_of_getLast? h)).1 rfl
  · intro x hx
    have := hs.val_head x (by simpa [crecFull, PRecord.value, valueText, VLine.text] using hx)
    simp [isBlank, this]
  · intro x hx
    have hx' : v.getLast? = some x := by simpa [crecFull, VLine.text] using hx
    have := hs.val_last x hx'
    simp [isWs, this, hv10 x (List.mem_of_getLast? hx')]

theorem crecFull_print (c : Option (List Nat)) (k0 : Nat) (kt v : List Nat) :
    (crecFull c k0 kt v).print = (match c with | some c => 35 :: 32 :: (c ++ [10]) | none => []) ++ printRec (k0 :: kt, v) := by
  cases c <;> simp [printRec, PRecord.print, crecFull, PKey.print, PRecord.value, valueText, VLine.text, printCLines]

theorem crecFull_noLicense (c : Option (List Nat)) (k0 : Nat) (kt v : List Nat) (off : Nat)
    (hc : ∀ t, c = some t → ∀ ch ∈ t, isLineBreak ch = false)
    (hl : off = 0 → ∀ t, c = some t → isInfix licenseWord t = false) : (crecFull c k0 kt v).NoLicense off := by
  intro h0
  cases c with
  | none => rfl
  | some t =>
    have := commentVal_oneLine t (hc t rfl)
    simp only [commentVal, Gen.Tables.offsetCommentDefault] at this
    simp only [crecFull, printCLines, this, isInfix_license_blank]
    exact hl h0 t rfl

theorem crecFull_entity (k0 : Nat) (kt v : List Nat) (off : Nat) :
    (crecFull none k0 kt v).entity off = propsEntity_c02 off (kt.length + 1) v.length := by
  simp [PRecord.entity, crecFull, propsEntity_c02, PRecord.kstart, PRecord.vstart, PKey.print, PRecord.value, valueText,
    VLine.text, printCLines]
  omega

theorem crecFull_value (c : Option (List Nat)) (k0 : Nat) (kt v : List Nat) : (crecFull c k0 kt v).value = v := by
  simp [crecFull, PRecord.value, valueText, VLine.text]

def propsBlock (r : PRec) : PBlock := .record (crecFull none (r.1.headD 0) r.1.tail r.2)

theorem props_entity_drop (s : Array Nat) (off : Nat) (r : PRec) (rest : List Nat) (hs : SafeRec r)
    (h : s.toList.drop off = printRec r ++ rest) : propsGetNext s off = propsEntity_c02 off r.1.length r.2.length := by
  obtain ⟨k, v⟩ := r
  obtain ⟨k0, kt, rfl⟩ := List.exists_cons_of_ne_nil hs.key_ne
  rw [props_entity_rec s off (crecFull none k0 kt v) rest (crecFull_good _ _ _ _ hs fun _ h => nomatch h)
    (crecFull_noLicense _ _ _ _ _ (fun _ h => nomatch h) fun _ _ h => nomatch h) (by rw [crecFull_print]; exact h),
    crecFull_entity]
  rfl

theorem propsEmbeds : Embeds propsSpec propsBlock printRec (fun off r => propsEntity_c02 off r.1.length r.2.length) expEntries
    expectedView SafeRec where
  nil := fun _ => rfl
  cons := fun _ _ _ => rfl
  len := fun off r => by rw [printRec_length]; show _ = off + r.1.length + 1 + r.2.length + 1; omega
  pr := fun r hs => by
    obtain ⟨k, v⟩ := r
    obtain ⟨k0, kt, rfl⟩ := List.exists_cons_of_ne_nil hs.key_ne
    exact crecFull_print none k0 kt v
  en := fun off _ r hs => by
    obtain ⟨k, v⟩ := r
    obtain ⟨k0, kt, rfl⟩ := List.exists_cons_of_ne_nil hs.key_ne
    show [(crecFull none k0 kt v).entity off, _] = _
    rw [crecFull_entity, crecFull_value]
    simp [propsEntity_c02, crecFull, PRecord.vstart, PRecord.kstart, PKey.print, printCLines, wsEntryN, wsEntry]
    omega
  tr := fun _ _ => rfl
  vw := fun r hs => by
    obtain ⟨k, v⟩ := r
    obtain ⟨k0, kt, rfl⟩ := List.exists_cons_of_ne_nil hs.key_ne
    show [(crecFull none k0 kt v).view] = _
    rw [PRecord.view, crecFull_value, spec_id v fun c hc => (hs.val c hc).1]
    rfl
  good := fun _ r hs => by
    obtain ⟨k, v⟩ := r
    obtain ⟨k0, kt, rfl⟩ := List.exists_cons_of_ne_nil hs.key_ne
    exact crecFull_good _ _ _ _ hs fun _ h => nomatch h

theorem entView_propsEntity (s : Array Nat) (off : Nat) (r : PRec) (rest : List Nat) (hs : SafeRec r)
    (h : s.toList.drop off = printRec r ++ rest) :
    entView .properties s (propsEntity_c02 off r.1.length r.2.length) = expectedView r :=
  propsEmbeds.entView (c := ()) hs rfl
    (props_views_block s off (propsBlock r) rest (propsEmbeds.good () r hs) (by rw [← propsEmbeds.pr r hs] at h; exact h)).1

theorem propsBlock_lic (off : Nat) (r : PRec) : propsSpec.Lic off (propsBlock r) := fun r' hr => by
  obtain rfl := PBlock.record.inj hr
  exact crecFull_noLicense _ _ _ _ _ (fun _ h => nomatch h) fun _ _ h => nomatch h

theorem walk_props_printed (rs : List PRec) (h : ∀ r ∈ rs, SafeRec r) :
    walk .properties (printProps rs).toArray = .done (expEntries 0 rs) :=
  (propsEmbeds.doc propsSpec_laws rs h fun r _ => propsBlock_lic 0 r).1

theorem entitiesOf_expEntries (s : Array Nat) :
    ∀ (rs : List PRec) (off : Nat), s.toList.drop off = printProps rs → (∀ r ∈ rs, SafeRec r) →
      entitiesOf .properties s (expEntries off rs) = rs.map expectedView ∧ junkOf s (expEntries off rs) = [] :=
  fun rs off h hsafe =>
    propsEmbeds.views_at propsSpec_laws rs hsafe s off [] (by rw [List.append_nil]; exact h) propsSpec_laws.follow_nil

end P
