/- Dictionary lemmas for the environment `sub` builds, and the unfolding of `sub`. -/
import CLModel.Paths.Matcher
import CLModel.Proofs.Dict
namespace PM

theorem lookup_dset {β} (k k' : Text) (v : β) (d : List (Text × β)) :
    (dset d k v).lookup k' = if k' == k then some v else d.lookup k' := by
  rw [AR.lookup_eq_dget, AR.lookup_eq_dget, BEq.comm]
  exact AR.dget_dset d k k' v

theorem lookup_dupdate {β} (k : Text) (other d : List (Text × β)) :
    (dupdate d other).lookup k = match other.reverse.lookup k with
      | some v => some v
      | none => d.lookup k := by
  rw [AR.lookup_eq_dget, AR.lookup_eq_dget, AR.lookup_eq_dget]
  exact (AR.dget_foldl_dset other d k).trans (by cases AR.dget other.reverse k <;> rfl)

theorem sub_eq (self other : Matcher) (path : Text) :
    self.sub other path =
      (match self.match path with
       | .error e => .error e
       | .ok none => .ok none
       | .ok (some d) =>
         match expandTop other.pattern (subEnv d other.env) with
         | .error e => .error e
         | .ok r => .ok (some r)) := by
  unfold Matcher.sub
  cases self.match path with
  | error e => rfl
  | ok od =>
    cases od with
    | none => rfl
    | some d =>
      simp only [bind, Except.bind]
      cases expandTop other.pattern (subEnv d other.env) <;> rfl

theorem sub_of_match {a b : Matcher} {path : Text} {d : GroupDict} (h : a.match path = .ok (some d)) :
    a.sub b path = (expandTop b.pattern (subEnv d b.env)).map some := by
  unfold Matcher.sub
  simp only [bind, Except.bind, h]
  cases expandTop b.pattern (subEnv d b.env) <;> simp [pure, Except.pure, Except.map]

end PM
