/-
The STRICT shape "entity, white-space, entity, white-space, …" of the merged dict.
Besides `C16R.Alt` (every entry that is not white-space is directly followed by a white-space entry, `C15R.merged_alt`):
  * `prune` never leaves two neighbouring white-space entries (`noAdj_mergeTwo`), whatever it is fed with;
  * the merge starts with an entry that is not white-space when every version does (`head_mergeTwo`).
Together: the merged dict alternates strictly (`Strict`), so the merged text of printed versions is itself a PRINTED file
and the C02 round trips apply to it.
-/
import CLModel.Proofs.C15RMerge
import CLModel.Proofs.C16GNoAdj
namespace C15S
open AR Merge C16R C15R
open C16G (NoAdj noAdj_nil noAdj_cons noAdj_head noAdj_tail)

theorem noAdj_mergeTwo (n o : Dict) (hn : WF n) (ho : WF o) : NoAdj pws (mergeTwo n o) := by
  rw [mergeTwo_gen n o hn ho]
  exact C16G.noAdj_fold _ _ _ none

section spec
variable {α : Type} [BEq α] [LawfulBEq α]

theorem specKeys_head (l r : List α) :
    (specKeys l r = [] ∧ l = []) ∨
    (∃ k K l', specKeys l r = k :: K ∧ l = k :: l') ∨
    (∃ k K r', specKeys l r = k :: K ∧ r = k :: r' ∧ l.contains k = false) := by
  cases r with
  | nil =>
    cases l with
    | nil => left; exact ⟨by simp [specKeys, spec, anchors], rfl⟩
    | cons k l' =>
      right; left
      obtain ⟨K, hK⟩ := spec_head k l' [] (by intro x hx; simp at hx)
      exact ⟨k, K, l', hK, rfl⟩
  | cons y ys =>
    by_cases hy : l.contains y = true
    · cases l with
      | nil => simp at hy
      | cons k l' =>
        right; left
        obtain ⟨K, hK⟩ := spec_head k l' (y :: ys) (by intro x hx; simp at hx; subst hx; exact hy)
        exact ⟨k, K, l', hK, rfl⟩
    · have hy' : l.contains y = false := by simpa using hy
      right; right
      obtain ⟨K, hK⟩ := spec_add_head l y ys hy'
      exact ⟨y, K, ys, hK, rfl, hy'⟩

end spec

theorem dget_head (d : Dict) (k : Key) (S : Ent) (d' : Dict) (h : d = (k, S) :: d') : dget d k = some S := by
  subst h; exact dget_cons_self k S d'

theorem head_mergeTwo (n o : Dict) (hn : WF n) (ho : WF o) (h1 : hw pws n = false) (h2 : hw pws o = false) :
    hw pws (mergeTwo n o) = false := by
  rw [mergeTwo_gen n o hn ho, hw_fold, somes_contents]
  rcases specKeys_head (keysOf n) (keysOf o) with ⟨he, _⟩ | ⟨k, K, l', hK, hl⟩ | ⟨k, K, r', hK, hr, hc⟩
  · rw [he]
    rfl
  · -- the first key of the newer dict
    cases n with
    | nil => simp [keysOf] at hl
    | cons p n' =>
      obtain ⟨pk, S⟩ := p
      have hpk : pk = k := by simp [keysOf] at hl; exact hl.1
      subst hpk
      have hw : S.isWs = false := h1
      have hget : getNewerEntity ((pk, S) :: n') o pk = some S := by simp [getNewerEntity, dget]
      rw [hK, List.filterMap_cons_some (b := (pk, S)) (by rw [hget]; rfl)]
      exact hw
  · -- the first key of the older dict, which the newer dict does not have
    cases o with
    | nil => simp [keysOf] at hr
    | cons p o' =>
      obtain ⟨pk, S⟩ := p
      have hpk : pk = k := by simp [keysOf] at hr; exact hr.1
      subst hpk
      have hw : S.isWs = false := h2
      have hnot : pk ∉ keysOf n := by
        intro hm
        have : (keysOf n).contains pk = true := by simpa using hm
        rw [this] at hc; cases hc
      have hget : getNewerEntity n ((pk, S) :: o') pk = some S := by
        rw [getNewer_right n _ pk hnot]
        simp [dget]
      rw [hK, List.filterMap_cons_some (b := (pk, S)) (by rw [hget]; rfl)]
      exact hw

/-- entity, white-space, entity, white-space, … -/
def Strict : List (Key × Ent) → Prop
  | [] => True
  | [_] => False
  | p :: q :: r => p.2.isWs = false ∧ q.2.isWs = true ∧ Strict r

theorem strict_of : ∀ (d : List (Key × Ent)), Alt pws d → NoAdj pws d → hw pws d = false → Strict d
  | [], _, _, _ => trivial
  | [p], ha, _, hh => by
    have h := hw_of_alt ha hh
    simp [hw] at h
  | p :: q :: r, ha, hn, hh => by
    have hq : q.2.isWs = true := hw_of_alt ha hh
    refine ⟨hh, hq, strict_of r (alt_tail (alt_tail ha)) (noAdj_tail (noAdj_tail hn)) ?_⟩
    cases r with
    | nil => rfl
    | cons y r' =>
      cases hy : y.2.isWs
      · exact hy
      · exact absurd ⟨hq, hy⟩ (noAdj_head (noAdj_tail hn))

theorem strict_parts : ∀ (d : List (Key × Ent)), Strict d → Alt pws d ∧ NoAdj pws d ∧ hw pws d = false
  | [], _ => ⟨alt_nil, noAdj_nil _, rfl⟩
  | [_], h => by simp [Strict] at h
  | p :: q :: r, h => by
    obtain ⟨hp, hq, hr⟩ := h
    obtain ⟨ih1, ih2, ih3⟩ := strict_parts r hr
    refine ⟨alt_cons_cons hq ih1, ?_, hp⟩
    refine (noAdj_cons _ _ _).2 ⟨fun _ _ hh => (by rw [show pws p = false from hp] at hh; cases hh.1), ?_⟩
    refine (noAdj_cons _ _ _).2 ⟨fun y hy hh => ?_, ih2⟩
    cases r with
    | nil => cases hy
    | cons x r' =>
      injection hy with hy
      rw [← hy, show pws x = false from ih3] at hh
      cases hh.2

theorem merged_strict (rs : List (List Ent)) (d : Dict) (h : mergeResources rs = some d)
    (hall : ∀ dv ∈ versionDicts rs, Strict dv) : Strict d := by
  have hA : Alt pws d := alt_merged rs d h (fun dv hdv => (strict_parts dv (hall dv hdv)).1)
  have := merged_induct (P := fun vs d => (∀ dv ∈ vs, Strict dv) → NoAdj pws d ∧ hw pws d = false) ?_ ?_ h hall
  · exact strict_of _ hA this.1 this.2
  · exact fun d0 _ h => (strict_parts d0 (h d0 (by simp))).2
  · intro d0 ds acc dv ha hd _ ih hall
    exact ⟨noAdj_mergeTwo acc dv ha hd, head_mergeTwo acc dv ha hd (ih fun v hv => hall v (mem_snoc hv)).2
      (strict_parts dv (hall dv (by simp))).2.2⟩

end C15S
