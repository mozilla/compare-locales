/- Repeats.  One theorem describes every repeat whose body is deterministic along the way (`loopE_chain`: greedy or
   lazy, any `{mn,mx}`, bodies of any width); a one-character test over a stretch of the text is such a body
   (`chain_stepIf`), which gives the outcomes of `[C]{mn,mx}` and what a regex does behind it. -/
import CLModel.Proofs.RxEnds
namespace Rx

/-- the body steps from each state of the list to the next, moving forward, and has no outcome at the last one -/
inductive Chain (body : St → List St) : List St → Prop
  | last {st} : body st = [] → Chain body [st]
  | cons {st st' rest} : body st = [st'] → st.pos < st'.pos → Chain body (st' :: rest) → Chain body (st :: st' :: rest)

/-- at most `mx` iterations: the first `mx + 1` states -/
def cut : Option Nat → List St → List St
  | none, l => l
  | some M, l => l.take (M + 1)

theorem cut_length_pos (mx : Option Nat) (st : St) (l : List St) : 0 < (cut mx (st :: l)).length := by
  cases mx <;> simp [cut]

theorem loopE_chain {body : St → List St} (g : Bool) : ∀ {sts : List St}, Chain body sts → ∀ fuel mn mx st rest,
    sts = st :: rest → (cut mx sts).length ≤ fuel →
    loopE body g fuel mn mx st = if g then ((cut mx sts).drop mn).reverse else (cut mx sts).drop mn := by
  intro sts h
  induction h with
  | @last st0 hb =>
    intro fuel mn mx st rest e hf
    cases e
    have hc : cut mx [st0] = [st0] := by cases mx <;> simp [cut]
    rw [hc] at hf ⊢
    obtain ⟨f, rfl⟩ : ∃ f, fuel = f + 1 := ⟨fuel - 1, by simp at hf; omega⟩
    rw [loopE, hb]
    cases mn <;> cases g <;> simp
  | @cons st0 st' rest' hb hlt _ ih =>
    intro fuel mn mx st rest e hf
    cases e
    obtain ⟨f, rfl⟩ : ∃ f, fuel = f + 1 := ⟨fuel - 1, by have := cut_length_pos mx st0 (st' :: rest'); omega⟩
    rw [loopE, hb]
    by_cases h0 : mx = some 0
    · subst h0
      cases mn <;> cases g <;> simp [cut]
    · have hmx : (mx == some 0) = false := by
        cases mx with
        | none => rfl
        | some n => simpa using h0
      -- one iteration used up: the rest of the chain under the bounds `mn - 1`, `mx - 1`
      have hc : cut mx (st0 :: st' :: rest') = st0 :: cut (mx.map (· - 1)) (st' :: rest') := by
        rcases mx with _ | _ | M
        · rfl
        · exact absurd rfl h0
        · simp [cut]
      rw [hc] at hf ⊢
      simp only [hmx, Bool.false_eq_true, if_false, List.flatMap_singleton, show ¬ st'.pos ≤ st0.pos by omega,
        ih f (mn - 1) (mx.map (· - 1)) st' rest' rfl (by simpa using hf)]
      cases mn <;> cases g <;> simp

theorem chain_stepIf (s : Array Nat) (P : Nat → Bool) (caps) : ∀ (x : List Nat) (pos : Nat) (rest : List Nat),
    s.toList.drop pos = x ++ rest → (∀ d ∈ x, P d = true) → (∀ d, rest.head? = some d → P d = false) →
    Chain (stepIf s P) (runSts caps pos (x.length + 1))
  | [], pos, rest, h, _, hr => .last (stepIf_fail (fun c hc => hr c (by rw [← hc, Txt.head?_of_drop h]; rfl)) caps)
  | c :: x, pos, rest, h, hx, hr => by
    rw [List.length_cons, runSts_succ, runSts_succ]
    exact .cons (stepIf_ok (Txt.head_of_drop h) (hx c List.mem_cons_self) caps) (Nat.lt_succ_self pos)
      (runSts_succ caps _ _ ▸ chain_stepIf s P caps x (pos + 1) rest (Txt.drop_succ_of_cons h)
        (fun d hd => hx d (List.mem_cons_of_mem _ hd)) hr)

theorem loopE_stepIf_at {s : Array Nat} (P : Nat → Bool) (mn : Nat) (mx : Option Nat) (g : Bool) {pos : Nat}
    {x rest : List Nat} (caps) (h : s.toList.drop pos = x ++ rest) (hx : ∀ d ∈ x, P d = true)
    (hr : ∀ d, rest.head? = some d → P d = false) {fuel : Nat}
    (hf : mx.elim (x.length + 1) (fun M => min (M + 1) (x.length + 1)) ≤ fuel) :
    loopE (stepIf s P) g fuel mn mx ⟨pos, caps⟩ =
      if g then (runSts caps (pos + mn) (mx.elim (x.length + 1) (fun M => min (M + 1) (x.length + 1)) - mn)).reverse
      else runSts caps (pos + mn) (mx.elim (x.length + 1) (fun M => min (M + 1) (x.length + 1)) - mn) := by
  have hcut : cut mx (runSts caps pos (x.length + 1)) =
      runSts caps pos (mx.elim (x.length + 1) (fun M => min (M + 1) (x.length + 1))) := by
    cases mx with
    | none => rfl
    | some M => exact runSts_take caps pos _ _
  rw [loopE_chain g (chain_stepIf s P caps x pos rest h hx hr) _ mn mx ⟨pos, caps⟩ _
    (runSts_succ caps pos x.length) (by rw [hcut]; simpa [runSts] using hf), hcut, runSts, ← List.map_drop,
    List.drop_range', Nat.mul_one]
  rfl

section
variable {s : Array Nat} {b : Re} {P : Nat → Bool} (hb : ∀ st, ends s b st = stepIf s P st)
include hb

theorem ends_rep_at_max (mn : Nat) (mx : Option Nat) (g : Bool) {pos : Nat} {x rest : List Nat} (caps)
    (h : s.toList.drop pos = x ++ rest) (hx : ∀ d ∈ x, P d = true) (hr : ∀ d, rest.head? = some d → P d = false)
    (hpos : pos ≤ s.size) :
    ends s (.rep mn mx g b) ⟨pos, caps⟩ =
      if g then (runSts caps (pos + mn) (mx.elim (x.length + 1) (fun M => min (M + 1) (x.length + 1)) - mn)).reverse
      else runSts caps (pos + mn) (mx.elim (x.length + 1) (fun M => min (M + 1) (x.length + 1)) - mn) := by
  have hl := Txt.length_of_drop h
  rw [List.length_append] at hl
  rw [ends_rep, funext hb]
  exact loopE_stepIf_at P mn mx g caps h hx hr (by cases mx <;> simp only [Option.elim] <;> omega)

theorem ends_rep_exact (n : Nat) (g : Bool) {pos : Nat} (hpos : pos ≤ s.size) (caps) :
    ends s (.rep n (some n) g b) ⟨pos, caps⟩ = if n ≤ runAt s P pos then [⟨pos + n, caps⟩] else [] := by
  obtain ⟨x, rest, h, hx, hr, hl⟩ := runAt_split s P pos
  rw [ends_rep_at_max hb n (some n) g caps h hx hr hpos, Option.elim, hl]
  by_cases hn : n ≤ runAt s P pos
  · rw [if_pos hn, show min (n + 1) (runAt s P pos + 1) - n = 1 by omega]; cases g <;> rfl
  · rw [if_neg hn, show min (n + 1) (runAt s P pos + 1) - n = 0 by omega]; cases g <;> rfl

theorem ends_rep_at (mn : Nat) (g : Bool) {pos : Nat} {x rest : List Nat} (caps) (h : s.toList.drop pos = x ++ rest)
    (hx : ∀ d ∈ x, P d = true) (hr : ∀ d, rest.head? = some d → P d = false) (hpos : pos ≤ s.size) :
    ends s (.rep mn none g b) ⟨pos, caps⟩ =
      if g then (runSts caps (pos + mn) (x.length + 1 - mn)).reverse else runSts caps (pos + mn) (x.length + 1 - mn) :=
  ends_rep_at_max hb mn none g caps h hx hr hpos

/-- `F`: the rest of the regex, possibly behind a group's bookkeeping, or a continuation. -/
theorem flatMap_rep_at_max {β} (mn : Nat) (mx : Option Nat) (g : Bool) {pos : Nat} {x rest : List Nat} (caps)
    (h : s.toList.drop pos = x ++ rest) (hx : ∀ d ∈ x, P d = true) (hr : ∀ d, rest.head? = some d → P d = false)
    (hpos : pos ≤ s.size) (F : St → List β) (hF : ∀ j d, s[j]? = some d → P d = true → F ⟨j, caps⟩ = []) :
    (ends s (.rep mn mx g b) ⟨pos, caps⟩).flatMap F =
      if mn ≤ x.length ∧ ∀ M, mx = some M → x.length ≤ M then F ⟨pos + x.length, caps⟩ else [] := by
  rw [ends_rep_at_max hb mn mx g caps h hx hr hpos]
  have hnil : ∀ j, pos ≤ j → j < pos + x.length → F ⟨j, caps⟩ = [] := fun j h1 h2 => by
    have hj : j - pos < x.length := by omega
    refine hF j x[j - pos] ?_ (hx _ (List.getElem_mem hj))
    rw [← List.getElem?_eq_getElem hj, ← List.getElem?_append_left (l₂ := rest) hj, ← Txt.get_of_drop h,
      show pos + (j - pos) = j by omega]
  generalize hN : mx.elim (x.length + 1) (fun M => min (M + 1) (x.length + 1)) = N
  have hNeq : (∀ M, mx = some M → x.length ≤ M) ↔ N = x.length + 1 := by
    subst hN
    cases mx <;> simp only [Option.elim, reduceCtorEq, false_imp_iff, implies_true, Option.some.injEq, forall_eq'] <;> omega
  by_cases hc : mn ≤ x.length ∧ ∀ M, mx = some M → x.length ≤ M
  · obtain rfl := hNeq.mp hc.2
    rw [if_pos hc, show x.length + 1 - mn = (x.length - mn) + 1 by omega]
    have e : pos + mn + (x.length - mn) = pos + x.length := by omega
    have hnil' : ∀ j, pos + mn ≤ j → j < pos + mn + (x.length - mn) → F ⟨j, caps⟩ = [] := fun j h1 h2 =>
      hnil j (by omega) (by omega)
    cases g
    · rw [if_neg (by simp), flatMap_runSts_last hnil', e]
    · rw [if_pos rfl, flatMap_runSts_rev_last hnil', e]
  · -- the repeat stops inside the run, where `F` has no outcome
    have hNle : N ≤ x.length + 1 := by subst hN; cases mx <;> simp only [Option.elim] <;> omega
    have : ∀ st ∈ runSts caps (pos + mn) (N - mn), F st = [] := fun st hst => by
      obtain ⟨rfl, h1, h2⟩ := mem_runSts.mp hst
      exact hnil _ (by omega) (by rw [hNeq] at hc; omega)
    rw [if_neg hc]
    cases g
    · rw [if_neg (by simp)]; exact List.flatMap_eq_nil_iff.mpr this
    · rw [if_pos rfl]; exact List.flatMap_eq_nil_iff.mpr fun st hst => this st (List.mem_reverse.mp hst)

theorem flatMap_rep_at {β} (mn : Nat) (g : Bool) {pos : Nat} {x rest : List Nat} (caps) (h : s.toList.drop pos = x ++ rest)
    (hx : ∀ d ∈ x, P d = true) (hr : ∀ d, rest.head? = some d → P d = false) (hpos : pos ≤ s.size) (F : St → List β)
    (hF : ∀ j d, s[j]? = some d → P d = true → F ⟨j, caps⟩ = []) :
    (ends s (.rep mn none g b) ⟨pos, caps⟩).flatMap F = if mn ≤ x.length then F ⟨pos + x.length, caps⟩ else [] := by
  rw [flatMap_rep_at_max hb mn none g caps h hx hr hpos F hF]
  simp only [reduceCtorEq, false_imp_iff, implies_true, and_true]

theorem head?_rep_at (mn : Nat) {pos : Nat} {x rest : List Nat} (caps) (h : s.toList.drop pos = x ++ rest)
    (hx : ∀ d ∈ x, P d = true) (hr : ∀ d, rest.head? = some d → P d = false) (hpos : pos ≤ s.size) (hmn : mn ≤ x.length) :
    (ends s (.rep mn none true b) ⟨pos, caps⟩).head? = some ⟨pos + x.length, caps⟩ := by
  rw [ends_rep_at hb mn true caps h hx hr hpos, if_pos rfl, show x.length + 1 - mn = (x.length - mn) + 1 by omega, runSts,
    List.range'_1_concat, List.map_append, List.reverse_append, show pos + mn + (x.length - mn) = pos + x.length by omega]
  rfl

theorem head?_flatMap_rep_at {β} (mn : Nat) {pos : Nat} {x rest : List Nat} (caps) (h : s.toList.drop pos = x ++ rest)
    (hx : ∀ d ∈ x, P d = true) (hr : ∀ d, rest.head? = some d → P d = false) (hpos : pos ≤ s.size) (hmn : mn ≤ x.length)
    {F : St → List β} {y : β} (hy : (F ⟨pos + x.length, caps⟩).head? = some y) :
    ((ends s (.rep mn none true b) ⟨pos, caps⟩).flatMap F).head? = some y := by
  obtain ⟨tl, e⟩ := List.head?_eq_some_iff.mp (head?_rep_at hb mn caps h hx hr hpos hmn)
  rw [e, List.flatMap_cons, List.head?_append, hy]
  rfl

theorem ends_rep_step (mn : Nat) (g : Bool) {pos : Nat} (hpos : pos ≤ s.size) (caps) :
    ends s (.rep mn none g b) ⟨pos, caps⟩ =
      if g then (runSts caps (pos + mn) (((s.toList.drop pos).takeWhile P).length + 1 - mn)).reverse
      else runSts caps (pos + mn) (((s.toList.drop pos).takeWhile P).length + 1 - mn) := by
  obtain ⟨x, rest, h, hx, hr, hl⟩ := runAt_split s P pos
  rw [ends_rep_at hb mn g caps h hx hr hpos, hl, runAt]

theorem flatMap_rep_step {β} (mn : Nat) (g : Bool) {pos : Nat} (hpos : pos ≤ s.size) (caps) (F : St → List β)
    (hF : ∀ j d, s[j]? = some d → P d = true → F ⟨j, caps⟩ = []) :
    (ends s (.rep mn none g b) ⟨pos, caps⟩).flatMap F =
      if mn ≤ ((s.toList.drop pos).takeWhile P).length then
        F ⟨pos + ((s.toList.drop pos).takeWhile P).length, caps⟩ else [] := by
  obtain ⟨x, rest, h, hx, hr, hl⟩ := runAt_split s P pos
  rw [flatMap_rep_at hb mn g caps h hx hr hpos F hF, hl, runAt]

theorem ends_rep_then {c : Re} (mn : Nat) (g : Bool) {pos : Nat} (hpos : pos ≤ s.size) (caps)
    (hc : ∀ j d, s[j]? = some d → P d = true → ends s c ⟨j, caps⟩ = []) :
    ends s (.seq (.rep mn none g b) c) ⟨pos, caps⟩ =
      if mn ≤ ((s.toList.drop pos).takeWhile P).length then
        ends s c ⟨pos + ((s.toList.drop pos).takeWhile P).length, caps⟩ else [] :=
  flatMap_rep_step hb mn g hpos caps _ hc

end

end Rx
