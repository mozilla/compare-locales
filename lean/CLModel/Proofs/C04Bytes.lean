/- C04, bytes: the decoder / encoder of `CLModel/Compare/MergeBytes.lean` ARE the ones of C05 and C07.
   `MergeB.readFile` (an automaton that looks at one byte at a time) is `Pipe.decode` (which looks ahead), `MergeB.encodeUtf8` is
   `Dtd.utf8`; so what C05 proves about `Parser.readFile` (scalar values only, no CR, decode ∘ encode = id) holds for the text
   `merge` splices. -/
import CLModel.Compare.MergeBytes
import CLModel.Proofs.C05Decode
namespace C04B
open MergeB Pipe

def Scalar (c : Nat) : Prop := c < 55296 ∨ (57344 ≤ c ∧ c < 1114112)

instance (c : Nat) : Decidable (Scalar c) := by unfold Scalar; infer_instance

theorem encodeCp_eq (c : Nat) : encodeCp c = Dtd.utf8Char c := by
  unfold encodeCp Dtd.utf8Char
  by_cases hs : 55296 ≤ c ∧ c ≤ 57343
  · have : ¬ c < 128 ∧ ¬ c < 2048 ∧ c < 65536 := by omega
    simp [this, hs]
  · by_cases h3 : c < 65536 <;> simp [hs, h3]

theorem scalar_iff (c : Nat) : Scalar c ↔ C05Dtd.Scalar c := by
  unfold Scalar C05Dtd.Scalar; omega

theorem encodeCp_isSome_iff (c : Nat) : (encodeCp c).isSome = true ↔ Scalar c := by
  rw [encodeCp_eq, Option.isSome_iff_exists, scalar_iff]
  exact ⟨fun ⟨_, h⟩ => Utf8.utf8Char_scalar h, fun h => (Utf8.Seq.exists_of_scalar h.1 h.2).imp fun _ hs => hs.utf8Char⟩

theorem encodeUtf8_append (a b : List Nat) :
    encodeUtf8 (a ++ b) =
      (match encodeUtf8 a, encodeUtf8 b with
       | some x, some y => some (x ++ y)
       | _, _ => none) := by
  induction a with
  | nil => cases h : encodeUtf8 b <;> simp [encodeUtf8, h]
  | cons c a ih =>
    simp only [List.cons_append, encodeUtf8, ih]
    cases encodeCp c <;> cases encodeUtf8 a <;> cases encodeUtf8 b <;> simp

theorem encodeUtf8_append_some {a b x y : List Nat} (ha : encodeUtf8 a = some x) (hb : encodeUtf8 b = some y) :
    encodeUtf8 (a ++ b) = some (x ++ y) := by
  rw [encodeUtf8_append, ha, hb]

theorem encodeUtf8_eq : ∀ t : List Nat, encodeUtf8 t = Dtd.utf8 t
  | [] => rfl
  | c :: r => by rw [encodeUtf8, Dtd.utf8, encodeCp_eq, encodeUtf8_eq r]; rfl

/-- what is decoded after a lead byte when `n + 1` continuation bytes are still to come: `cp` holds the payload so far, the
    next byte must lie in `[lo, hi]`; a byte outside, or the end of the data, ends the sequence with ONE U+FFFD, and the byte
    is looked at again.  Both decoders are this function: the automaton in an open state (`decodeFrom_pending`), the
    look-ahead decoder after a lead byte (`utf8Decode_lead`). -/
def pending : Nat → Nat → Nat → Nat → List Nat → List Nat
  | _, _, _, _, [] => [REPL]
  | n, cp, lo, hi, b :: t =>
    if lo ≤ b ∧ b ≤ hi then
      (match n with
       | 0 => (cp * 64 + (b - 128)) :: utf8Decode t
       | n + 1 => pending n (cp * 64 + (b - 128)) 128 191 t)
    else REPL :: utf8Decode (b :: t)

theorem decodeFrom_refused {n cp lo hi b : Nat} (t : List Nat) (hb : ¬ (lo ≤ b ∧ b ≤ hi)) :
    decodeFrom ⟨n + 1, cp, lo, hi⟩ (b :: t) = REPL :: decodeFrom .fresh (b :: t) := by
  rw [decodeFrom, decodeFrom]
  simp [MergeB.step, hb, DSt.fresh]

theorem decodeFrom_pending : ∀ (n cp lo hi : Nat) (r : List Nat),
    (∀ r', r'.length ≤ r.length → decodeFrom .fresh r' = utf8Decode r') →
    decodeFrom ⟨n + 1, cp, lo, hi⟩ r = pending n cp lo hi r
  | _, _, _, _, [], _ => by simp [decodeFrom, pending]
  | n, cp, lo, hi, b :: t, ih => by
    unfold pending
    by_cases hb : lo ≤ b ∧ b ≤ hi
    · rw [if_pos hb, decodeFrom]
      cases n with
      | zero => simp [MergeB.step, hb, ih t (by simp)]
      | succ n =>
        simp only [MergeB.step, hb, decide_true, Bool.and_self, if_true]
        simp [decodeFrom_pending n _ 128 191 t (fun r' h => ih r' (by simp; omega))]
    · rw [if_neg hb, decodeFrom_refused t hb, ih (b :: t) (Nat.le_refl _)]

theorem cont_iff (b : Nat) : isCont b = true ↔ 128 ≤ b ∧ b ≤ 191 := by simp [isCont]

/-- the second byte after the first (`L`: E0, F0) and the last (`L + K`: ED, F4) lead byte of a length class: the look-ahead
    test is the narrowed range of the automaton (`t = 32` for three bytes, `t = 16` for four) -/
theorem second_range (L K t b b2 : Nat) (hK : 0 < K) (ht : t ≤ 64) :
    (!isCont b2 || (if b2 < 128 + t then b == L else b == L + K)) = true ↔
      ¬ ((if b = L then 128 + t else 128) ≤ b2 ∧ b2 ≤ (if b = L + K then 127 + t else 191)) := by
  simp only [isCont, Bool.or_eq_true, Bool.not_eq_true', Bool.and_eq_false_iff, decide_eq_false_iff_not]
  by_cases h : b2 < 128 + t <;> simp only [h, if_true, if_false, beq_iff_eq] <;> split <;> split <;> omega

theorem utf8Decode_lead (b : Nat) (rest : List Nat) (h1 : ¬ b < 0x80) :
    utf8Decode (b :: rest) =
      if 194 ≤ b ∧ b ≤ 223 then pending 0 (b - 192) 128 191 rest
      else if 224 ≤ b ∧ b ≤ 239 then pending 1 (b - 224) (if b = 224 then 160 else 128) (if b = 237 then 159 else 191) rest
      else if 240 ≤ b ∧ b ≤ 244 then pending 2 (b - 240) (if b = 240 then 144 else 128) (if b = 244 then 143 else 191) rest
      else REPL :: utf8Decode rest := by
  conv => lhs; unfold utf8Decode
  rw [if_neg h1]
  by_cases h2 : b < 0xC2
  · rw [if_pos h2, if_neg (show ¬ (194 ≤ b ∧ b ≤ 223) by omega), if_neg (show ¬ (224 ≤ b ∧ b ≤ 239) by omega),
      if_neg (show ¬ (240 ≤ b ∧ b ≤ 244) by omega)]; rfl
  rw [if_neg h2]
  by_cases h3 : b < 0xE0
  · rw [if_pos h3, if_pos (show 194 ≤ b ∧ b ≤ 223 by omega)]
    cases rest with
    | nil => rfl
    | cons b2 r2 => simp only [pending, ← cont_iff]; rfl
  rw [if_neg h3, if_neg (show ¬ (194 ≤ b ∧ b ≤ 223) by omega)]
  by_cases h4 : b < 0xF0
  · rw [if_pos h4, if_pos (show 224 ≤ b ∧ b ≤ 239 by omega)]
    cases rest with
    | nil => rfl
    | cons b2 r2 =>
      have hr : _ ↔ ¬ ((if b = 224 then 160 else 128) ≤ b2 ∧ b2 ≤ (if b = 237 then 159 else 191)) :=
        second_range 224 13 32 b b2 (by decide) (by decide)
      simp only [pending]
      by_cases hbad : (!isCont b2 || (if b2 < 0xA0 then b == 0xE0 else b == 0xED)) = true
      · rw [if_pos hbad, if_neg (hr.1 hbad)]; rfl
      · rw [if_neg hbad, if_pos (Classical.not_not.1 (mt hr.2 hbad))]
        cases r2 with
        | nil => rfl
        | cons b3 r3 =>
          simp only [pending, ← cont_iff]
          split
          · exact congrArg (· :: utf8Decode r3) (by omega)
          · rfl
  rw [if_neg h4, if_neg (show ¬ (224 ≤ b ∧ b ≤ 239) by omega)]
  by_cases h5 : b < 0xF5
  · rw [if_pos h5, if_pos (show 240 ≤ b ∧ b ≤ 244 by omega)]
    cases rest with
    | nil => rfl
    | cons b2 r2 =>
      have hr : _ ↔ ¬ ((if b = 240 then 144 else 128) ≤ b2 ∧ b2 ≤ (if b = 244 then 143 else 191)) :=
        second_range 240 4 16 b b2 (by decide) (by decide)
      simp only [pending]
      by_cases hbad : (!isCont b2 || (if b2 < 0x90 then b == 0xF0 else b == 0xF4)) = true
      · rw [if_pos hbad, if_neg (hr.1 hbad)]; rfl
      · rw [if_neg hbad, if_pos (Classical.not_not.1 (mt hr.2 hbad))]
        cases r2 with
        | nil => rfl
        | cons b3 r3 =>
          simp only [pending, ← cont_iff]
          by_cases hc3 : isCont b3 = true
          · rw [if_neg (by simp [hc3]), if_pos hc3]
            cases r3 with
            | nil => rfl
            | cons b4 r4 =>
              simp only [pending, ← cont_iff]
              split
              · exact congrArg (· :: utf8Decode r4) (by omega)
              · rfl
          · rw [if_pos (by simp [hc3]), if_neg hc3]; rfl
  · rw [if_neg h5, if_neg (show ¬ (240 ≤ b ∧ b ≤ 244) by omega)]; rfl

theorem start_eq (b : Nat) (h1 : ¬ b < 128) :
    start b =
      if 194 ≤ b ∧ b ≤ 223 then (⟨1, b - 192, 128, 191⟩, [])
      else if 224 ≤ b ∧ b ≤ 239 then (⟨2, b - 224, if b = 224 then 160 else 128, if b = 237 then 159 else 191⟩, [])
      else if 240 ≤ b ∧ b ≤ 244 then (⟨3, b - 240, if b = 240 then 144 else 128, if b = 244 then 143 else 191⟩, [])
      else (.fresh, [REPL]) := by
  simp only [start, if_neg h1, Bool.and_eq_true, decide_eq_true_eq, beq_iff_eq]

theorem decodeFrom_fresh (b : Nat) (rest : List Nat) :
    decodeFrom .fresh (b :: rest) = (start b).2 ++ decodeFrom (start b).1 rest := by
  rw [decodeFrom]; rfl

theorem decodeUtf8_eq (bs : List Nat) : decodeUtf8 bs = utf8Decode bs := by
  have key : ∀ (n : Nat) (bs : List Nat), bs.length ≤ n → decodeFrom .fresh bs = utf8Decode bs := by
    intro n
    induction n with
    | zero =>
      intro bs h
      obtain rfl := List.length_eq_zero_iff.1 (Nat.le_zero.1 h)
      rw [decodeFrom, utf8Decode]; rfl
    | succ n ih =>
      intro bs hlen
      cases bs with
      | nil => rw [decodeFrom, utf8Decode]; rfl
      | cons b rest =>
        have ih' : ∀ r' : List Nat, r'.length ≤ rest.length → decodeFrom .fresh r' = utf8Decode r' :=
          fun r' h => ih r' (Nat.le_trans h (Nat.le_of_succ_le_succ hlen))
        rw [decodeFrom_fresh]
        by_cases h1 : b < 128
        · conv => rhs; unfold utf8Decode
          rw [if_pos h1, start, if_pos h1]
          exact congrArg (b :: ·) (ih' rest (Nat.le_refl _))
        rw [utf8Decode_lead b rest h1, start_eq b h1]
        by_cases h2 : 194 ≤ b ∧ b ≤ 223
        · rw [if_pos h2, if_pos h2]; exact decodeFrom_pending 0 _ _ _ rest ih'
        rw [if_neg h2, if_neg h2]
        by_cases h3 : 224 ≤ b ∧ b ≤ 239
        · rw [if_pos h3, if_pos h3]; exact decodeFrom_pending 1 _ _ _ rest ih'
        rw [if_neg h3, if_neg h3]
        by_cases h4 : 240 ≤ b ∧ b ≤ 244
        · rw [if_pos h4, if_pos h4]; exact decodeFrom_pending 2 _ _ _ rest ih'
        · rw [if_neg h4, if_neg h4]; exact congrArg (REPL :: ·) (ih' rest (Nat.le_refl _))
  exact key bs.length bs (Nat.le_refl _)

theorem univFrom_true (t : List Nat) : univFrom true t = univFrom false (match t with | 10 :: r => r | _ => t) := by
  cases t with
  | nil => rfl
  | cons c r =>
    by_cases h10 : c = 10
    · subst h10; simp [univFrom]
    · by_cases h13 : c = 13
      · subst h13; simp [univFrom]
      · have : (match c :: r with | 10 :: r => r | _ => c :: r) = c :: r := by
          split
          · rename_i h; exact absurd (List.cons.inj h).1 h10
          · rfl
        rw [this]; simp [univFrom, h10, h13]

theorem univFrom_eq (t : List Nat) : univFrom false t = universalNewlines t := by
  fun_induction universalNewlines t with
  | case1 => rfl
  | case2 rest ih => rw [univFrom, if_pos (by rfl), univFrom_true]; exact congrArg (10 :: ·) ih
  | case3 rest h ih =>
    rw [univFrom, if_pos (by rfl), univFrom_true, ← ih]
    split
    · rename_i r; exact absurd rfl (h r)
    · rfl
  | case4 c rest h1 h13 ih =>
    rw [univFrom, if_neg (by simpa using h13), if_neg (by simp), ih]

theorem readFile_eq (bytes : List Nat) : readFile bytes = decode bytes := by
  rw [readFile, univNewlines, univFrom_eq, decodeUtf8_eq]; rfl

theorem decode_encode (t b : List Nat) (h : encodeUtf8 t = some b) : decodeUtf8 b = t := by
  rw [decodeUtf8_eq, C05Dec.decode_encode t b (encodeUtf8_eq t ▸ h)]

theorem univFrom_id (t : List Nat) (h : 13 ∉ t) : univFrom false t = t := by
  rw [univFrom_eq, C05Dec.universalNewlines_id t h]

theorem readFile_no13 (b : List Nat) : 13 ∉ readFile b := readFile_eq b ▸ C05Dec.decode_no_cr b

theorem readFile_scalar (b : List Nat) : ∀ c ∈ readFile b, Scalar c :=
  fun c hc => (scalar_iff c).2 (C05Dec.decode_scalar b c (readFile_eq b ▸ hc))

theorem encodeUtf8_total (t : List Nat) (h : ∀ c ∈ t, Scalar c) : ∃ b, encodeUtf8 t = some b :=
  encodeUtf8_eq t ▸ C05Dtd.utf8_some t (fun c hc => (scalar_iff c).1 (h c hc))

theorem encodeUtf8_sublist_total {t u : List Nat} (h : u.Sublist t) (ht : ∀ c ∈ t, Scalar c) :
    ∃ b, encodeUtf8 u = some b :=
  encodeUtf8_total u (fun c hc => ht c (h.subset hc))

end C04B
