/- About the `Matcher` model alone: a fully bound pattern matches nothing but its own expansion, and that expansion is its
   prefix when the pattern is wildcard-free (the "literal" contract of `ProjectFiles._files`). -/
import CLModel.Paths.ProjectFilesM
import CLModel.Proofs.C12PrefixFull
namespace PM
open Rx

theorem expandChildren_true_false {rec : ExpRec} {env : Env} : ∀ {ns : List Node} {t : Text},
    expandChildren rec ns env true = .ok t → expandChildren rec ns env false = .ok t
  | [], t, h => by simpa [expandChildren] using h
  | c :: cs, t, h => by
    rcases expandChildren_cons_ok h with ⟨_, hrm, _⟩ | ⟨a, b, h1, h2, rfl⟩
    · cases hrm
    · have ih := expandChildren_true_false h2
      simp only [expandChildren, h1, ih, bind, Except.bind, pure, Except.pure]

/-- `hfull`: `pattern.expand(env, raise_missing=True)` returns, i.e. every variable is bound and there is no wildcard (a
    wildcard cannot be expanded in a `Matcher` environment).  Holds for every matcher of the shape `Matcher(...)` /
    `with_env` build (`henv`, `hrep`): nested values, repeated variables, `{android_locale}`, any root. -/
theorem bound_matches_only_expansion {m : Matcher} {path : Text} {d : GroupDict} {t : Text}
    (henv : EnvOK' m.env) (hrep : RepOK m.pattern.nodes)
    (hfull : expandPat (expandVal (fuelFor m.env)) m.pattern m.env true = .ok t)
    (h : m.match path = .ok (some d)) : path = t := by
  obtain ⟨root, body, hroot, hbody, rfl⟩ := expandPat_ok hfull
  exact (match_spells henv hrep h hroot (k := m.pattern.nodes.length) (by rwa [List.take_length])).2 rfl (Nat.le_refl _)

theorem bound_literal_prefix {m : Matcher} {t : Text}
    (hlit : m.pattern.nodes.length ≤ m.pattern.prefixLen)
    (hfull : expandPat (expandVal (fuelFor m.env)) m.pattern m.env true = .ok t) : m.prefix = .ok t := by
  obtain ⟨root, body, hroot, hbody, rfl⟩ := expandPat_ok hfull
  have htake : m.pattern.nodes.take m.pattern.prefixLen = m.pattern.nodes := List.take_of_length_le hlit
  have hr : rootOf (expandVal (fuelFor m.env)) m.prefixPattern m.env = .ok root := by
    rw [← hroot]; simp only [rootOf, Matcher.prefixPattern, htake]
  have hb : expandChildren (expandVal (fuelFor m.env)) m.prefixPattern.nodes m.env false = .ok body := by
    simp only [Matcher.prefixPattern, htake]; exact expandChildren_true_false hbody
  simp only [Matcher.prefix, expandTop, expandPat, hr, hb, bind, Except.bind, pure, Except.pure]

end PM
