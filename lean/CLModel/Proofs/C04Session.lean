/- C04: ONE comparer, a sequence of jobs.  What a job stages is a function of the job and the project filters;
   the stage is the fold of these outcomes; a memory of parser lookups is invisible if its key determines the lookup
   (`crun_eq_run`; a key that does not, and a session that shows it: `C04.ext_key_insufficient_witness`). -/
import CLModel.Compare.MergeSession
import CLModel.Proofs.C04Quiet
import CLModel.Proofs.C08Basic
namespace C04S
open MergeS MergeB Merge ObsM Gen.Tables

abbrev Text := List Nat
abbrev Bytes := List Nat

/-- the project filters of the comparer's observers — never changed by a notification or `updateStats` -/
def filtersOf (s : St) : List (Option Filter) := s.obs.observers.map (·.filter)

theorem verdictOf_eq (filters : List (Option Filter)) (file : File) (key : Data) :
    verdictOf filters file key = C04Q.verdict filters file key := by
  have hf : (fun f : Option Filter => askFilter f file key) = fun f => rvOf f .missingEntity file key := by
    funext f; cases f <;> simp [askFilter, rvOf, Cat.isFile]
  simp only [verdictOf, C04Q.verdict, listRet]
  rw [hf]

theorem mergedEnts_eq (filters : List (Option Filter)) (file : File) :
    ∀ ents : List (Data × Text), mergedEnts filters file ents = (C04Q.missSpec filters file ents).1
  | [] => rfl
  | (key, refAll) :: rest => by
    have ih := mergedEnts_eq filters file rest
    simp only [mergedEnts] at ih
    simp only [mergedEnts, List.filter_cons, C04Q.missSpec, verdictOf_eq] at ih ⊢
    cases hv : C04Q.verdict filters file key <;> simp [ih]

theorem mergeBytes_none (l10n ref : Bytes) (skips : List Skip) (ms : List Text) :
    mergeBytes true CAN_NONE l10n ref skips ms = .noFile := by
  simp [mergeBytes, merge, CAN_NONE]

theorem mergeBytes_nofile (caps : Nat) (l10n ref : Bytes) (skips : List Skip) (ms : List Text) :
    mergeBytes false caps l10n ref skips ms = .noFile := by
  simp [mergeBytes, merge]

/-- a staging call on the comparer `s`, whatever observers `l` it holds: it returns `o`, leaves `l` alone and writes `o`
    at `path` (`d`: the directories it made) -/
def Staged (s : St) (path : Option Text) (o : FileOut) (f : ObsList → St × FileOut) : Prop :=
  ∃ d, ∀ l, f l = ({ obs := l, files := stageOf s.files [(path, o)], dirs := d }, o)

theorem callMerge_staged (s : St) (path : Option Text) (caps : Nat) (l10n ref : Bytes) (skips : List Skip) (ms : List Text) :
    Staged s path (mergeBytes path.isSome caps l10n ref skips ms)
      fun l => callMerge { s with obs := l } path caps l10n ref skips ms := by
  cases path with
  | none => exact ⟨s.dirs, fun l => rfl⟩
  | some p =>
    by_cases hc : caps = CAN_NONE
    · subst hc
      exact ⟨s.dirs, fun l => by simp [callMerge, mergeBytes_none, stageOf]⟩
    · have hc' : (caps == CAN_NONE) = false := by simpa using hc
      refine ⟨(ancestors p).foldl addDir s.dirs, fun l => ?_⟩
      simp only [callMerge, hc', Option.isSome_some, Bool.false_eq_true, ↓reduceIte]
      cases mergeBytes true caps l10n ref skips ms <;> rfl

theorem addMerge_staged (pc : Option Nat) (s : St) (j : Job) :
    Staged s j.mergePath (if addStages pc then mergeBytes j.mergePath.isSome CAN_COPY [] j.ref [] [triggerCopy] else .noFile)
      fun l => addMerge pc { s with obs := l } j := by
  unfold addMerge
  split
  · exact callMerge_staged ..
  · exact ⟨s.dirs, fun l => by cases j.mergePath <;> rfl⟩

/-- what `compare` stages for the missing entries `ms` -/
def compareOut (caps : Nat) (j : Job) (ms : List Text) : FileOut :=
  match j.mergePath with
  | none => .noFile
  | some _ => mergeBytes true caps j.l10n j.ref j.skips ms

theorem compareMergeCall_staged (s : St) (j : Job) (caps : Nat) (ms : List Text) :
    Staged s j.mergePath (compareOut caps j ms) fun l => compareMergeCall { s with obs := l } j caps ms := by
  unfold compareMergeCall compareOut
  cases hmp : j.mergePath with
  | none => exact ⟨s.dirs, fun l => rfl⟩
  | some p => exact callMerge_staged s (some p) caps j.l10n j.ref j.skips ms

/-- what one job tells the observers, computed from the filters: `remove` / `add` notify the file (and `add` counts the
    missing strings unless the file is ignored or has no parser), `compare` runs the missing-entity loop and, unless `merge`
    raised, books the counters -/
def jobEvs (pc : Option Nat) (F : List (Option Filter)) (j : Job) : List Ev :=
  match j.kind, pc with
  | .remove, _ => [.notify .obsoleteFile (fileOf j) .none]
  | .add, pc =>
    .notify .missingFile (fileOf j) .none ::
      (if verdict F .missingFile (fileOf j) .none == .ignore || pc.isNone then [] else [.stats (fileOf j) [(.missing, j.nref)]])
  | .compare, none => []
  | .compare, some caps =>
    (j.ents.map fun e => Ev.notify .missingEntity (fileOf j) e.1) ++
      (if compareOut caps j (mergedEnts F (fileOf j) j.ents) = .typeError then []
       else [.stats (fileOf j) [(.missing, (C04Q.missSpec F (fileOf j) j.ents).2.1), (.report, (C04Q.missSpec F (fileOf j) j.ents).2.2)]])

theorem jobEvs_file {pc : Option Nat} {F : List (Option Filter)} {j : Job} : ∀ ev ∈ jobEvs pc F j, ev.file = fileOf j := by
  intro ev hev
  unfold jobEvs at hev
  split at hev
  · cases List.mem_singleton.1 hev; rfl
  · rcases List.mem_cons.1 hev with rfl | hev
    · rfl
    · split at hev
      · cases hev
      · cases List.mem_singleton.1 hev; rfl
  · cases hev
  · rcases List.mem_append.1 hev with hev | hev
    · obtain ⟨e, _, rfl⟩ := List.mem_map.1 hev; rfl
    · split at hev
      · cases hev
      · cases List.mem_singleton.1 hev; rfl

/-- one job as the observers see it (Proofs/ObsProg.lean): the events `jobEvs`, then the outcome -/
def jobPlan (pc : Option Nat) (F : List (Option Filter)) (j : Job) : Plan TreeM.PyErr FileOut :=
  ⟨jobEvs pc F j, .ok (jobOutWith pc F j)⟩

/-- `d`: the directories the job made, which no theorem describes -/
theorem stepWith_eq (pc : Option Nat) (s : St) (j : Job) :
    ∃ d, stepWith pc s j = ((jobPlan pc (filtersOf s) j).exec id s.obs).map fun r =>
      ({ obs := r.1, files := stageOf s.files [(j.mergePath, r.2)], dirs := d }, r.2) := by
  suffices h : ∃ d, stepWith pc s j = (s.obs.run (jobEvs pc (filtersOf s) j)).map fun l =>
      ({ obs := l, files := stageOf s.files [(j.mergePath, jobOutWith pc (filtersOf s) j)], dirs := d },
        jobOutWith pc (filtersOf s) j) by
    obtain ⟨d, hd⟩ := h
    refine ⟨d, hd.trans ?_⟩
    unfold jobPlan Plan.exec
    cases s.obs.run (jobEvs pc (filtersOf s) j) <;> rfl
  have hF : filtersOf s = s.obs.filters := rfl
  unfold stepWith jobEvs
  cases hk : j.kind with
  | remove =>
    obtain ⟨d, hd⟩ := callMerge_staged s j.mergePath CAN_COPY j.l10n j.ref [] []
    have ho : jobOutWith pc (filtersOf s) j = mergeBytes j.mergePath.isSome CAN_COPY j.l10n j.ref [] [] := by
      unfold jobOutWith; rw [hk]
    refine ⟨d, ?_⟩
    simp only [ho, ObsList.run_single, ObsList.notify_eq_step, bind, Except.bind, Except.map, pure, Except.pure]
    cases s.obs.step (.notify .obsoleteFile (fileOf j) .none) with
    | error e => rfl
    | ok l => exact congrArg Except.ok (hd l)
  | add =>
    obtain ⟨d, hd⟩ := addMerge_staged pc s j
    have ho : jobOutWith pc (filtersOf s) j =
        if addStages pc then mergeBytes j.mergePath.isSome CAN_COPY [] j.ref [] [triggerCopy] else .noFile := by
      unfold jobOutWith; rw [hk]
    refine ⟨d, ?_⟩
    have h0 : addMerge pc s j = _ := hd s.obs
    simp only [ho, h0, ObsList.run_cons, ObsList.notify_eq_step, bind, Except.bind, Except.map, pure, Except.pure, ← hF]
    cases s.obs.step (.notify .missingFile (fileOf j) .none) with
    | error e => rfl
    | ok l =>
      simp only
      cases verdict (filtersOf s) .missingFile (fileOf j) .none == .ignore with
      | true => rfl
      | false => cases pc <;> rfl
  | compare =>
    cases pc with
    | none =>
      obtain ⟨d, hd⟩ := callMerge_staged s j.mergePath CAN_COPY j.l10n j.ref [] []
      have ho : jobOutWith none (filtersOf s) j = mergeBytes j.mergePath.isSome CAN_COPY j.l10n j.ref [] [] := by
        unfold jobOutWith; rw [hk]
      exact ⟨d, by rw [ho]; exact congrArg Except.ok (hd s.obs)⟩
    | some caps =>
      obtain ⟨d, hd⟩ := compareMergeCall_staged s j caps (mergedEnts (filtersOf s) (fileOf j) j.ents)
      have ho : jobOutWith (some caps) (filtersOf s) j = compareOut caps j (mergedEnts (filtersOf s) (fileOf j) j.ents) := by
        unfold jobOutWith; rw [hk]; rfl
      refine ⟨d, ?_⟩
      simp only [ho, C04Q.missingLoop_eq, C04Q.missPlan, Plan.exec, ObsList.run_append, bind, Except.bind, Except.map, pure,
        Except.pure, ← hF]
      cases s.obs.run (j.ents.map fun e => Ev.notify .missingEntity (fileOf j) e.1) with
      | error e => rfl
      | ok l =>
        simp only [compareFinish, ← mergedEnts_eq, hd l]
        cases compareOut caps j (mergedEnts (filtersOf s) (fileOf j) j.ents) <;> rfl

theorem stepWith_spec {pc : Option Nat} {s s' : St} {j : Job} {out : FileOut} (h : stepWith pc s j = .ok (s', out)) :
    out = jobOutWith pc (filtersOf s) j ∧ filtersOf s' = filtersOf s ∧ s'.files = stageOf s.files [(j.mergePath, out)] := by
  obtain ⟨d, hd⟩ := stepWith_eq pc s j
  rw [hd] at h
  cases hx : (jobPlan pc (filtersOf s) j).exec id s.obs with
  | error e => rw [hx] at h; cases h
  | ok r =>
    rw [hx] at h
    cases h
    exact ⟨(Except.ok.inj (Plan.exec_ok.1 hx).2).symm, Plan.exec_filters hx, rfl⟩

theorem stageOf_append (fs : List (Text × Bytes)) (a b : List (Option Text × FileOut)) :
    stageOf fs (a ++ b) = stageOf (stageOf fs a) b := by
  induction a generalizing fs with
  | nil => rfl
  | cons x rest ih =>
    obtain ⟨p, o⟩ := x
    cases p with
    | none => simp only [List.cons_append, stageOf]; exact ih fs
    | some p =>
      cases o <;> simp only [List.cons_append, stageOf] <;> exact ih _

theorem run_cons_ok {s s' : St} {j : Job} {rest : List Job} {outs : List FileOut} :
    run s (j :: rest) = .ok (s', outs) ↔
      ∃ s1 o os, step s j = .ok (s1, o) ∧ run s1 rest = .ok (s', os) ∧ outs = o :: os := by
  constructor
  · intro h
    simp only [run, bind, Except.bind] at h
    split at h
    · cases h
    · rename_i p hp
      split at h
      · cases h
      · rename_i q hq
        cases h
        exact ⟨p.1, p.2, q.2, hp, hq, rfl⟩
  · rintro ⟨s1, o, os, hs, hr, rfl⟩
    simp only [run, bind, Except.bind, hs, hr]; rfl

theorem run_spec : ∀ (jobs : List Job) (s s' : St) (outs : List FileOut), run s jobs = .ok (s', outs) →
    outs = jobs.map (jobOut (filtersOf s)) ∧ filtersOf s' = filtersOf s ∧
      s'.files = stageOf s.files (jobs.map (fun j => (j.mergePath, jobOut (filtersOf s) j)))
  | [], s, s', outs, h => by cases h; exact ⟨rfl, rfl, rfl⟩
  | j :: rest, s, s', outs, h => by
    obtain ⟨s1, o, os, hs, hr, rfl⟩ := run_cons_ok.1 h
    obtain ⟨rfl, hf, hfiles⟩ := stepWith_spec hs
    obtain ⟨rfl, ih2, ih3⟩ := run_spec rest s1 s' os hr
    rw [hf] at ih2 ih3 ⊢
    exact ⟨rfl, ih2, by rw [ih3, hfiles]; exact (stageOf_append s.files [_] _).symm⟩

theorem setFile_eq (fs : List (Text × Bytes)) (p : Text) (b : Bytes) : setFile fs p b = Ftl.dictSet fs p b := by
  induction fs with
  | nil => rfl
  | cons x rest ih => obtain ⟨q, c⟩ := x; simp only [setFile, Ftl.dictSet, ih]

theorem getFile_setFile (fs : List (Text × Bytes)) (p q : Text) (b : Bytes) :
    getFile (setFile fs p b) q = if q = p then some b else getFile fs q := by
  show AR.dget _ q = if q = p then some b else AR.dget fs q
  rw [setFile_eq, ← Ftl.dictGet?_eq_dget, ← Ftl.dictGet?_eq_dget, Ftl.dictGet?_dictSet]
  by_cases h : q = p
  · rw [if_pos h, if_pos (by simp [h])]
  · rw [if_neg h, if_neg (by simpa using fun e => h e.symm)]

/-- what an entry of a stage list writes -/
def wr : Option Text × FileOut → Option (Text × Bytes)
  | (some p, .bytes b) => some (p, b)
  | _ => none

theorem mem_wr {l : List (Option Text × FileOut)} {p : Text} {b : Bytes} :
    (p, b) ∈ l.filterMap wr ↔ (some p, FileOut.bytes b) ∈ l := by
  rw [List.mem_filterMap]
  constructor
  · rintro ⟨⟨q, o⟩, hm, h⟩
    cases q <;> cases o <;> cases h
    exact hm
  · exact fun h => ⟨_, h, rfl⟩

/-- the stage is a dictionary, a list of outcomes a list of assignments: at `p` stands what the last of them wrote there,
    or what stood there before -/
theorem getFile_stageOf (p : Text) : ∀ (l : List (Option Text × FileOut)) (fs : List (Text × Bytes)),
    getFile (stageOf fs l) p = (AR.dget (l.filterMap wr).reverse p).or (getFile fs p)
  | [], fs => rfl
  | (some q, .bytes b) :: rest, fs => by
    rw [stageOf, getFile_stageOf p rest, getFile_setFile, List.filterMap_cons_some (f := wr) (a := (some q, .bytes b)) rfl, List.reverse_cons,
      AR.dget_append, Option.or_assoc]
    congr 1
    by_cases h : p = q
    · subst h; simp [AR.dget]
    · have : ¬ q = p := fun e => h e.symm
      simp [AR.dget, h, this]
  | (none, o) :: rest, fs => by simp only [stageOf, wr, List.filterMap_cons]; exact getFile_stageOf p rest fs
  | (some q, .noFile) :: rest, fs => by simp only [stageOf, wr, List.filterMap_cons]; exact getFile_stageOf p rest fs
  | (some q, .typeError) :: rest, fs => by simp only [stageOf, wr, List.filterMap_cons]; exact getFile_stageOf p rest fs
  | (some q, .encodeError) :: rest, fs => by simp only [stageOf, wr, List.filterMap_cons]; exact getFile_stageOf p rest fs

theorem getFile_stageOf_not_mem {l : List (Option Text × FileOut)} {p : Text} (h : ∀ o, (some p, o) ∉ l)
    (fs : List (Text × Bytes)) : getFile (stageOf fs l) p = getFile fs p := by
  rw [getFile_stageOf, AR.dget_eq_none_iff.2, Option.none_or]
  intro hk
  obtain ⟨⟨_, b⟩, hm, rfl⟩ := List.mem_map.1 hk
  exact h _ (mem_wr.1 (List.mem_reverse.1 hm))

/-- with pairwise distinct paths the entry for `p` alone decides what stands at `p` -/
theorem getFile_stageOf_mem {l : List (Option Text × FileOut)} (hd : (l.filterMap (·.1)).Nodup) {p : Text} {o : FileOut}
    (hm : (some p, o) ∈ l) (fs : List (Text × Bytes)) :
    getFile (stageOf fs l) p = match (generalizing := false) o with | .bytes b => some b | _ => getFile fs p := by
  rw [getFile_stageOf]
  cases hg : AR.dget (l.filterMap wr).reverse p with
  | some b =>
    have := Txt.eq_of_nodup_filterMap hd hm (mem_wr.1 (List.mem_reverse.1 (AR.mem_of_dget hg))) rfl rfl
    cases this; rfl
  | none =>
    have hno : ∀ b, o ≠ .bytes b := fun b e =>
      AR.dget_eq_none_iff.1 hg (List.mem_map.2 ⟨(p, b), List.mem_reverse.2 (mem_wr.2 (e ▸ hm)), rfl⟩)
    cases o with
    | bytes b => exact absurd rfl (hno b)
    | _ => rfl

theorem getFile_stageOf_perm {l1 l2 : List (Option Text × FileOut)} (hp : l1.Perm l2)
    (hd : (l1.filterMap (·.1)).Nodup) (fs : List (Text × Bytes)) (p : Text) :
    getFile (stageOf fs l1) p = getFile (stageOf fs l2) p := by
  have hd2 : (l2.filterMap (·.1)).Nodup := (hp.filterMap _).nodup_iff.mp hd
  by_cases hex : ∃ o, (some p, o) ∈ l1
  · obtain ⟨o, ho⟩ := hex
    rw [getFile_stageOf_mem hd ho, getFile_stageOf_mem hd2 (hp.mem_iff.mp ho)]
  · rw [getFile_stageOf_not_mem (fun o ho => hex ⟨o, ho⟩), getFile_stageOf_not_mem (fun o ho => hex ⟨o, hp.mem_iff.mpr ho⟩)]

theorem fileOf_modelled (j : Job) : Modelled (fileOf j) := by
  intro m hmod; simp [fileOf] at hmod

theorem stepWith_total (pc : Option Nat) {s : St} (h : s.obs.Inv) (j : Job) :
    ∃ s' out, stepWith pc s j = .ok (s', out) ∧ s'.obs.Inv := by
  obtain ⟨d, hd⟩ := stepWith_eq pc s j
  obtain ⟨l, hl⟩ := Plan.exec_total (emb := id) (p := jobPlan pc (filtersOf s) j) h
    (fun ev hev => jobEvs_file ev hev ▸ fileOf_modelled j) rfl
  exact ⟨_, _, by rw [hd, hl]; rfl, h.run (Plan.exec_ok.1 hl).1⟩

theorem run_total : ∀ (jobs : List Job) (s : St), s.obs.Inv → ∃ s' outs, run s jobs = .ok (s', outs)
  | [], s, _ => ⟨s, [], rfl⟩
  | j :: rest, s, h => by
    obtain ⟨s1, o, hs, h1⟩ := stepWith_total (capsOfName j.name) h j
    obtain ⟨s2, os, hr⟩ := run_total rest s1 h1
    exact ⟨s2, o :: os, run_cons_ok.2 ⟨s1, o, os, hs, hr, rfl⟩⟩

theorem init_filters (q : Nat) (filters : List (Option Filter)) : filtersOf (St.init q filters) = filters :=
  ObsList.init_filters q filters

/-- the key determines what `getParser` answers -/
def KeySufficient {K : Type} (key : Text → K) : Prop := ∀ a b, key a = key b → capsOfName a = capsOfName b

/-- every remembered answer is the answer for every name with that key -/
def CacheOK {K : Type} (key : Text → K) (cache : List (K × Option Nat)) : Prop :=
  ∀ e ∈ cache, ∀ n, key n = e.1 → capsOfName n = e.2

theorem lookupCaps_sound {K : Type} [BEq K] [LawfulBEq K] {key : Text → K} (hk : KeySufficient key)
    {cache : List (K × Option Nat)} (hc : CacheOK key cache) (name : Text) :
    (lookupCaps key cache name).2 = capsOfName name ∧ CacheOK key (lookupCaps key cache name).1 := by
  unfold lookupCaps
  cases hf : cache.find? (·.1 == key name) with
  | some e =>
    have hmem := List.mem_of_find?_eq_some hf
    have hkey : e.1 = key name := by simpa using List.find?_some hf
    exact ⟨(hc e hmem name hkey.symm).symm, hc⟩
  | none =>
    refine ⟨rfl, ?_⟩
    intro e he n hn
    simp only [List.mem_append, List.mem_singleton] at he
    cases he with
    | inl h => exact hc e h n hn
    | inr h => subst h; exact hk _ _ hn

/-- what the remembering comparer gets from its memory for a job, and the memory afterwards: `remove` asks nothing -/
def look {K : Type} [BEq K] (key : Text → K) (cache : List (K × Option Nat)) (j : Job) : List (K × Option Nat) × Option Nat :=
  match j.kind with
  | .remove => (cache, none)
  | _ => lookupCaps key cache j.name

theorem cstep_eq {K : Type} [BEq K] (key : Text → K) (cs : CSt K) (j : Job) :
    cstep key cs j = (stepWith (look key cs.cache j).2 cs.st j).map fun r => ({ st := r.1, cache := (look key cs.cache j).1 }, r.2) := by
  unfold cstep look
  cases j.kind <;> simp only [bind, Except.bind, Except.map, pure, Except.pure] <;> split <;> rfl

theorem cachedOuts_cons {K : Type} [BEq K] (key : Text → K) (F : List (Option Filter)) (cache : List (K × Option Nat))
    (j : Job) (rest : List Job) :
    cachedOuts key F cache (j :: rest) = jobOutWith (look key cache j).2 F j :: cachedOuts key F (look key cache j).1 rest := by
  unfold look
  cases hk : j.kind <;> simp only [cachedOuts, hk]

theorem crun_cons_ok {K : Type} [BEq K] {key : Text → K} {cs cs' : CSt K} {j : Job} {rest : List Job} {outs : List FileOut} :
    crun key cs (j :: rest) = .ok (cs', outs) ↔
      ∃ c1 o os, cstep key cs j = .ok (c1, o) ∧ crun key c1 rest = .ok (cs', os) ∧ outs = o :: os := by
  constructor
  · intro h
    simp only [crun, bind, Except.bind] at h
    split at h
    · cases h
    · rename_i p hp
      split at h
      · cases h
      · rename_i q hq
        cases h
        exact ⟨p.1, p.2, q.2, hp, hq, rfl⟩
  · rintro ⟨c1, o, os, hs, hr, rfl⟩
    simp only [crun, bind, Except.bind, hs, hr]; rfl

theorem stepWith_remove (pc pc' : Option Nat) (s : St) (j : Job) (hk : j.kind = .remove) :
    stepWith pc s j = stepWith pc' s j := by
  unfold stepWith; simp only [hk]

theorem cstep_ok {K : Type} [BEq K] {key : Text → K} {cs c1 : CSt K} {j : Job} {o : FileOut} (h : cstep key cs j = .ok (c1, o)) :
    stepWith (look key cs.cache j).2 cs.st j = .ok (c1.st, o) ∧ c1.cache = (look key cs.cache j).1 := by
  rw [cstep_eq] at h
  cases hs : stepWith (look key cs.cache j).2 cs.st j with
  | error e => rw [hs] at h; cases h
  | ok r => rw [hs] at h; cases h; exact ⟨rfl, rfl⟩

theorem look_sound {K : Type} [BEq K] [LawfulBEq K] {key : Text → K} (hk : KeySufficient key)
    {cache : List (K × Option Nat)} (hc : CacheOK key cache) (s : St) (j : Job) :
    stepWith (look key cache j).2 s j = step s j ∧ CacheOK key (look key cache j).1 := by
  unfold look
  cases hkind : j.kind with
  | remove => exact ⟨stepWith_remove _ _ _ _ hkind, hc⟩
  | add => exact ⟨by rw [(lookupCaps_sound hk hc j.name).1]; rfl, (lookupCaps_sound hk hc j.name).2⟩
  | compare => exact ⟨by rw [(lookupCaps_sound hk hc j.name).1]; rfl, (lookupCaps_sound hk hc j.name).2⟩

theorem crun_eq_run {K : Type} [BEq K] [LawfulBEq K] {key : Text → K} (hk : KeySufficient key) :
    ∀ (jobs : List Job) (cs cs' : CSt K) (outs : List FileOut), CacheOK key cs.cache →
      crun key cs jobs = .ok (cs', outs) → run cs.st jobs = .ok (cs'.st, outs)
  | [], cs, cs', outs, _, h => by cases h; rfl
  | j :: rest, cs, cs', outs, hc, h => by
    obtain ⟨c1, o, os, hs, hr, rfl⟩ := crun_cons_ok.1 h
    obtain ⟨hst, hca⟩ := cstep_ok hs
    obtain ⟨h1, h2⟩ := look_sound hk hc cs.st j
    exact run_cons_ok.2 ⟨c1.st, o, os, h1 ▸ hst, crun_eq_run hk rest c1 cs' os (hca ▸ h2) hr, rfl⟩

theorem crun_spec {K : Type} [BEq K] {key : Text → K} : ∀ (jobs : List Job) (cs cs' : CSt K) (outs : List FileOut),
    crun key cs jobs = .ok (cs', outs) → outs = cachedOuts key (filtersOf cs.st) cs.cache jobs
  | [], cs, cs', outs, h => by cases h; rfl
  | j :: rest, cs, cs', outs, h => by
    obtain ⟨c1, o, os, hs, hr, rfl⟩ := crun_cons_ok.1 h
    obtain ⟨hst, hca⟩ := cstep_ok hs
    obtain ⟨rfl, hf, _⟩ := stepWith_spec hst
    rw [cachedOuts_cons, crun_spec rest c1 cs' os hr, hf, hca]

end C04S
