/- C02, properties: records that carry a preceding one-line `# comment`, as records of the full grammar. -/
import CLModel.Proofs.C02Roundtrip
namespace C02X
open P C02P

/-- the entity for a record with an attached one-line comment of `clen` characters starting at `off`:
    `pre_comment` span = the comment line WITHOUT its newline; the entity proper starts after the newline -/
def propsCEntity (off clen klen vlen : Nat) : Entry :=
  { kind := .entity, full := off, s := off + clen + 1, e := off + clen + 1 + klen + 1 + vlen,
    ks := (off + clen + 1 : Nat), ke := (off + clen + 1 + klen : Nat),
    vs := (off + clen + 1 + klen + 1 : Nat), ve := (off + clen + 1 + klen + 1 + vlen : Nat), pc := some (off, off + clen) }

/-- (comment text, record) -/
abbrev CRec := Option (List Nat) × PRec

/-- `# comment⏎` (if any) then `key=value⏎` -/
def printCRec (r : CRec) : List Nat :=
  (match r.1 with | some c => 35 :: 32 :: (c ++ [10]) | none => []) ++ printRec r.2

def printCProps (rs : List CRec) : List Nat := (rs.map printCRec).flatten

/-- the record is safe; the comment text contains no line boundary (newline, CR, VT, FF, FS, GS, RS, NEL, LS, PS:
    `str.splitlines` would split there) -/
structure SafeCRec (r : CRec) : Prop where
  safe : SafeRec r.2
  com : ∀ c, r.1 = some c → ∀ ch ∈ c, isLineBreak ch = false

/-- length of the comment line with its newline (`# ` + text + `⏎`), or nothing -/
def comLen (r : CRec) : Nat := match r.1 with | some c => c.length + 2 + 1 | none => 0

def crecEntity (off : Nat) (r : CRec) : Entry :=
  match r.1 with
  | some c => propsCEntity off (c.length + 2) r.2.1.length r.2.2.length
  | none => propsEntity_c02 off r.2.1.length r.2.2.length

def crecEnd (off : Nat) (r : CRec) : Nat := off + comLen r + r.2.1.length + 1 + r.2.2.length

theorem crecEntity_e (off : Nat) (r : CRec) : (crecEntity off r).e = crecEnd off r := by
  unfold crecEntity crecEnd comLen
  cases r.1 <;> simp [propsCEntity, propsEntity_c02]
  omega

def expCEntries : Nat → List CRec → List Entry
  | _, [] => []
  | off, r :: rs => crecEntity off r :: wsEntry (crecEnd off r) :: expCEntries (crecEnd off r + 1) rs

theorem printCRec_length (r : CRec) : (printCRec r).length = comLen r + r.2.1.length + 1 + r.2.2.length + 1 := by
  unfold printCRec comLen
  cases r.1 <;> simp [printRec_length] <;> omega

theorem printCRec_end (off : Nat) (r : CRec) : off + (printCRec r).length = (crecEntity off r).e + 1 := by
  rw [crecEntity_e, printCRec_length]
  unfold crecEnd
  omega

theorem expCEntries_cons (off : Nat) (r : CRec) (rs : List CRec) :
    expCEntries off (r :: rs) =
      crecEntity off r :: wsEntry (crecEntity off r).e :: expCEntries ((crecEntity off r).e + 1) rs := by
  rw [crecEntity_e]
  rfl

/-- what the entity must evaluate to: key, raw value, value = raw value, and the comment's value = the comment line
    without its first character (` ` + text) -/
def expectedCView (r : CRec) : Option EntView :=
  some { key := r.2.1, raw := r.2.2, val := some r.2.2, comment := r.1.map (fun c => 32 :: c) }

def cpropsBlock (r : CRec) : PBlock := .record (crecFull r.1 (r.2.1.headD 0) r.2.1.tail r.2.2)

theorem cpropsEmbeds : Embeds propsSpec cpropsBlock printCRec crecEntity expCEntries expectedCView SafeCRec where
  nil := fun _ => rfl
  cons := expCEntries_cons
  len := printCRec_end
  pr := fun r hs => by
    obtain ⟨c, k, v⟩ := r
    obtain ⟨k0, kt, rfl⟩ := List.exists_cons_of_ne_nil hs.safe.key_ne
    exact crecFull_print c k0 kt v
  en := fun off _ r hs => by
    obtain ⟨c, k, v⟩ := r
    obtain ⟨k0, kt, rfl⟩ := List.exists_cons_of_ne_nil hs.safe.key_ne
    show [(crecFull c k0 kt v).entity off, wsEntryN _ _] = _
    rw [crecFull_value]
    cases c
    · simp [crecEntity, PRecord.entity, crecFull, propsEntity_c02, PRecord.kstart, PRecord.vstart, PKey.print, PRecord.value,
        valueText, VLine.text, printCLines, wsEntryN, wsEntry]
      omega
    · simp [crecEntity, PRecord.entity, crecFull, propsCEntity, PRecord.kstart, PRecord.vstart, PKey.print, PRecord.value,
        valueText, VLine.text, printCLines, wsEntryN, wsEntry]
      omega
  tr := fun _ _ => rfl
  vw := fun r hs => by
    obtain ⟨c, k, v⟩ := r
    obtain ⟨k0, kt, rfl⟩ := List.exists_cons_of_ne_nil hs.safe.key_ne
    show [(crecFull c k0 kt v).view] = _
    rw [PRecord.view, crecFull_value, spec_id v fun x hx => (hs.safe.val x hx).1]
    cases c <;> rfl
  good := fun _ r hs => by
    obtain ⟨c, k, v⟩ := r
    obtain ⟨k0, kt, rfl⟩ := List.exists_cons_of_ne_nil hs.safe.key_ne
    exact crecFull_good _ _ _ _ hs.safe hs.com

theorem walk_cprops_printed (rs : List CRec) (h : ∀ r ∈ rs, SafeCRec r)
    (hlic : ∀ r c, rs.head? = some r → r.1 = some c → isInfix licenseWord c = false) :
    walk .properties (printCProps rs).toArray = .done (expCEntries 0 rs) :=
  (cpropsEmbeds.doc propsSpec_laws rs h fun r hr r' hr' => by
    obtain rfl := PBlock.record.inj hr'
    exact crecFull_noLicense _ _ _ _ _ (h r (List.mem_of_mem_head? hr)).com fun _ c hc => hlic r c hr hc).1

theorem entitiesOf_expCEntries (s : Array Nat) :
    ∀ (rs : List CRec) (off : Nat), s.toList.drop off = printCProps rs → (∀ r ∈ rs, SafeCRec r) →
      entitiesOf .properties s (expCEntries off rs) = rs.map expectedCView ∧ junkOf s (expCEntries off rs) = [] :=
  fun rs off h hsafe =>
    cpropsEmbeds.views_at propsSpec_laws rs hsafe s off [] (by rw [List.append_nil]; exact h) propsSpec_laws.follow_nil

end C02X
