/-
C08: text-blindness of the whole Fluent checker.

`mapMsg f g` replaces the value of EVERY TextElement by `f` of it and the value of every StringLiteral (also of named
arguments) by `g` of it — everywhere in a message: value, attributes, variants, selectors, call arguments — except in a
`style` attribute whose value is one single TextElement (there the text is the CSS spec that is checked).  Spans, identifiers,
numbers, variant keys, the element structure stay.  `check_message` and `check_term` give the same messages (`entryMsgs_map`).
-/
import CLModel.Proofs.C08Plural
namespace C08T
open Ftl

def mapNamed (g : Str → Str) (n : NamedArg) : NamedArg := if n.isNum then n else { n with value := g n.value }

mutual
  def mapP (f g : Str → Str) : Pattern → Pattern
    | .mk s els => .mk s (mapEls f g els)
  def mapEls (f g : Str → Str) : List Elem → List Elem
    | [] => []
    | e :: r => mapEl f g e :: mapEls f g r
  def mapEl (f g : Str → Str) : Elem → Elem
    | .text v => .text (f v)
    | .placeable e => .placeable (mapE f g e)
  def mapE (f g : Str → Str) : Expr → Expr
    | .strLit v => .strLit (g v)
    | .numLit v => .numLit v
    | .varRef i => .varRef i
    | .msgRef s i a => .msgRef s i a
    | .termRef s i a args => .termRef s i a (match args with | some c => some (mapArgs f g c) | none => none)
    | .funRef i args => .funRef i (mapArgs f g args)
    | .select sel vs => .select (mapE f g sel) (mapVs f g vs)
    | .placeable e => .placeable (mapE f g e)
  def mapVs (f g : Str → Str) : List Variant → List Variant
    | [] => []
    | v :: r => mapV f g v :: mapVs f g r
  def mapV (f g : Str → Str) : Variant → Variant
    | .mk k value d => .mk k (mapP f g value) d
  def mapArgs (f g : Str → Str) : CallArgs → CallArgs
    | .mk pos named => .mk (mapEs f g pos) (named.map (mapNamed g))
  def mapEs (f g : Str → Str) : List Expr → List Expr
    | [] => []
    | e :: r => mapE f g e :: mapEs f g r
end

theorem mapVs_keys (f g : Str → Str) (vs : List Variant) : (mapVs f g vs).map Variant.key = vs.map Variant.key := by
  induction vs with
  | nil => rfl
  | cons v r ih =>
    cases v with
    | mk k p d =>
      show Variant.key (mapV f g (.mk k p d)) :: (mapVs f g r).map Variant.key = _
      rw [ih]; rfl

mutual
  theorem ev_mapP (d : Bool) (f g : Str → Str) : ∀ p : Pattern, evPattern d (mapP f g p) = evPattern d p
    | .mk s els => by
      show evElems d (mapEls f g els) = evElems d els
      exact ev_mapEls d f g els
  theorem ev_mapEls (d : Bool) (f g : Str → Str) : ∀ els : List Elem, evElems d (mapEls f g els) = evElems d els
    | [] => rfl
    | e :: r => by
      show evElem d (mapEl f g e) ++ evElems d (mapEls f g r) = evElem d e ++ evElems d r
      rw [ev_mapEl d f g e, ev_mapEls d f g r]
  theorem ev_mapEl (d : Bool) (f g : Str → Str) : ∀ e : Elem, evElem d (mapEl f g e) = evElem d e
    | .text v => rfl
    | .placeable e => by
      show evExpr d (mapE f g e) = evExpr d e
      exact ev_mapE d f g e
  theorem ev_mapE (d : Bool) (f g : Str → Str) : ∀ e : Expr, evExpr d (mapE f g e) = evExpr d e
    | .strLit v => rfl
    | .numLit v => rfl
    | .varRef i => rfl
    | .msgRef s i a => rfl
    | .termRef s i a none => by cases d <;> rfl
    | .termRef s i a (some c) => by
      have h := ev_mapArgs d f g c
      cases d
      · rfl
      · show Ev.termRef s i a :: evArgs true (mapArgs f g c) = Ev.termRef s i a :: evArgs true c
        rw [h]
    | .funRef i args => by
      show evArgs d (mapArgs f g args) = evArgs d args
      exact ev_mapArgs d f g args
    | .select sel vs => by
      have h1 := ev_mapE d f g sel
      have h2 := ev_mapVs d f g vs
      have h3 := mapVs_keys f g vs
      cases d
      · show [] ++ evVariants false (mapVs f g vs) ++ [Ev.select ((mapVs f g vs).map Variant.key)] =
          [] ++ evVariants false vs ++ [Ev.select (vs.map Variant.key)]
        rw [h2, h3]
      · show evExpr true (mapE f g sel) ++ evVariants true (mapVs f g vs) ++ [Ev.select ((mapVs f g vs).map Variant.key)] =
          evExpr true sel ++ evVariants true vs ++ [Ev.select (vs.map Variant.key)]
        rw [h1, h2, h3]
    | .placeable e => by
      show evExpr d (mapE f g e) = evExpr d e
      exact ev_mapE d f g e
  theorem ev_mapVs (d : Bool) (f g : Str → Str) : ∀ vs : List Variant, evVariants d (mapVs f g vs) = evVariants d vs
    | [] => rfl
    | v :: r => by
      show evVariant d (mapV f g v) ++ evVariants d (mapVs f g r) = evVariant d v ++ evVariants d r
      rw [ev_mapV d f g v, ev_mapVs d f g r]
  theorem ev_mapV (d : Bool) (f g : Str → Str) : ∀ v : Variant, evVariant d (mapV f g v) = evVariant d v
    | .mk k value dflt => by
      show evPattern d (mapP f g value) = evPattern d value
      exact ev_mapP d f g value
  theorem ev_mapArgs (d : Bool) (f g : Str → Str) : ∀ c : CallArgs, evArgs d (mapArgs f g c) = evArgs d c
    | .mk pos named => by
      show evExprs d (mapEs f g pos) = evExprs d pos
      exact ev_mapEs d f g pos
  theorem ev_mapEs (d : Bool) (f g : Str → Str) : ∀ es : List Expr, evExprs d (mapEs f g es) = evExprs d es
    | [] => rfl
    | e :: r => by
      show evExpr d (mapE f g e) ++ evExprs d (mapEs f g r) = evExpr d e ++ evExprs d r
      rw [ev_mapE d f g e, ev_mapEs d f g r]
end

theorem mapP_start (f g : Str → Str) (p : Pattern) : (mapP f g p).start = p.start := by
  cases p; rfl

theorem mapP_elements (f g : Str → Str) (p : Pattern) : (mapP f g p).elements = mapEls f g p.elements := by
  cases p; rfl

/-- the value of a `style` attribute that consists of exactly one TextElement: the CSS spec the checker parses -/
def isCssText (a : Attribute) : Bool :=
  a.name == sStyle && (match a.value.elements with | [Elem.text _] => true | _ => false)

def mapAttr (f g : Str → Str) (a : Attribute) : Attribute :=
  if isCssText a then a else { a with value := mapP f g a.value }

def mapMsg (f g : Str → Str) (m : Message) : Message :=
  { m with value := m.value.map (mapP f g), attributes := m.attributes.map (mapAttr f g) }

/-- a term is checked on its own and never for CSS: every text may change -/
def mapTerm (f g : Str → Str) (t : Term) : Term :=
  { t with value := mapP f g t.value, attributes := t.attributes.map (fun a => { a with value := mapP f g a.value }) }

/-- as a REFERENCE entry a term is visited like a message (style included) -/
def mapRefEntry (f g : Str → Str) : Entry → Entry
  | .message m => .message (mapMsg f g m)
  | .term t => .term { t with value := mapP f g t.value, attributes := t.attributes.map (mapAttr f g) }

def mapL10nEntry (f g : Str → Str) : Entry → Entry
  | .message m => .message (mapMsg f g m)
  | .term t => .term (mapTerm f g t)

theorem mapAttr_name (f g : Str → Str) (a : Attribute) : (mapAttr f g a).name = a.name := by
  unfold mapAttr; split <;> rfl

theorem mapAttr_start (f g : Str → Str) (a : Attribute) : (mapAttr f g a).start = a.start := by
  unfold mapAttr; split <;> rfl

theorem mapAttr_ev (d : Bool) (f g : Str → Str) (a : Attribute) :
    evPattern d (mapAttr f g a).value = evPattern d a.value := by
  unfold mapAttr; split
  · rfl
  · exact ev_mapP d f g a.value

theorem patternVariants_mapP (f g : Str → Str) (p : Pattern)
    (h : (match p.elements with | [Elem.text _] => true | _ => false) = false) :
    patternVariants (mapP f g p) = [] ∧ patternVariants p = [] := by
  unfold patternVariants
  rw [mapP_elements]
  cases hp : p.elements with
  | nil => exact ⟨rfl, rfl⟩
  | cons e r =>
    rw [hp] at h
    cases e with
    | text v =>
      cases r with
      | nil => simp at h
      | cons e2 r2 => exact ⟨rfl, rfl⟩
    | placeable e =>
      cases r with
      | nil => exact ⟨rfl, rfl⟩
      | cons e2 r2 => exact ⟨rfl, rfl⟩

theorem mapAttr_styleOf (f g : Str → Str) (a : Attribute) (h : a.name = sStyle) (x : CssVal × Option (List CssErr)) :
    styleOf (mapAttr f g a).value x = styleOf a.value x := by
  unfold mapAttr
  split
  · rfl
  · rename_i hc
    have hc' : (match a.value.elements with | [Elem.text _] => true | _ => false) = false := by
      simp only [isCssText, h, BEq.rfl, Bool.true_and] at hc
      simpa using hc
    obtain ⟨h1, h2⟩ := patternVariants_mapP f g a.value hc'
    obtain ⟨c, e⟩ := x
    simp only [styleOf, h1, h2]

theorem l10nVisitAttribute_map (kp : Option (List Str)) (f g : Str → Str) (st : L10nState) (a : Attribute) :
    l10nVisitAttribute kp st (mapAttr f g a) = l10nVisitAttribute kp st a := by
  unfold l10nVisitAttribute l10nVisitPattern
  simp only [mapAttr_name, mapAttr_start, mapAttr_ev]
  by_cases hn : (a.name != sStyle) = true
  · simp only [hn, if_true]
  · have hs : a.name = sStyle := by simpa using hn
    simp only [hn, Bool.false_eq_true, if_false]
    rw [mapAttr_styleOf f g a hs]

theorem refVisitAttribute_map (f g : Str → Str) (st : RefState) (a : Attribute) :
    refVisitAttribute st (mapAttr f g a) = refVisitAttribute st a := by
  unfold refVisitAttribute
  simp only [mapAttr_name, mapAttr_start, mapAttr_ev]
  by_cases hn : (a.name != sStyle) = true
  · simp only [hn, if_true]
  · have hs : a.name = sStyle := by simpa using hn
    simp only [hn, Bool.false_eq_true, if_false]
    rw [mapAttr_styleOf f g a hs]

theorem foldl_map_eq {α β : Type} (step : β → α → β) (h : α → α) (hh : ∀ s a, step s (h a) = step s a)
    (l : List α) (s : β) : (l.map h).foldl step s = l.foldl step s := by
  rw [List.foldl_map, funext fun s => funext (hh s)]

theorem checkDuplicateAttributes_congr (h : Attribute → Attribute) (hn : ∀ a, (h a).name = a.name)
    (hs : ∀ a, (h a).start = a.start) (attrs : List Attribute) :
    checkDuplicateAttributes (attrs.map h) = checkDuplicateAttributes attrs := by
  unfold checkDuplicateAttributes
  have := dupLoop_map (fun a b : Attribute => a.name == b.name) (fun a b => a.name == b.name) h
    (by intro a b; simp [hn]) [] attrs
  simp only [List.map_nil] at this
  rw [this, List.map_map]
  apply List.map_congr_left
  intro a _
  simp [hn, hs]

theorem checkDuplicateAttributes_map (f g : Str → Str) (attrs : List Attribute) :
    checkDuplicateAttributes (attrs.map (mapAttr f g)) = checkDuplicateAttributes attrs :=
  checkDuplicateAttributes_congr _ (mapAttr_name f g) (mapAttr_start f g) attrs

theorem attrsPos_map (f g : Str → Str) (attrs : List Attribute) (d : List (Str × Nat)) :
    attrsPos d (attrs.map (mapAttr f g)) = attrsPos d attrs := by
  unfold attrsPos
  exact foldl_map_eq _ _ (by intro s a; simp [mapAttr_name, mapAttr_start]) attrs d

theorem l10nVisitMessage_map (kp : Option (List Str)) (f g : Str → Str) (ref : RefState) (m : Message) :
    l10nVisitMessage kp ref (mapMsg f g m) = l10nVisitMessage kp ref m := by
  unfold l10nVisitMessage
  simp only [mapMsg, checkDuplicateAttributes_map,
    foldl_map_eq (l10nVisitAttribute kp) (mapAttr f g) (l10nVisitAttribute_map kp f g)]
  cases hv : m.value with
  | none => simp
  | some p =>
    simp only [Option.map_some, Option.isSome_some]
    unfold l10nVisitPattern
    simp only [ev_mapP, mapP_start]

theorem refVisit_map (f g : Str → Str) (hv : Bool) (value : Option Pattern) (attrs : List Attribute) :
    refVisit hv (value.map (mapP f g)) (attrs.map (mapAttr f g)) = refVisit hv value attrs := by
  unfold refVisit
  simp only [foldl_map_eq refVisitAttribute (mapAttr f g) (refVisitAttribute_map f g)]
  cases value with
  | none => rfl
  | some p => simp only [Option.map_some, ev_mapP]

theorem refVisitEntry_map (f g : Str → Str) (ref : Entry) : refVisitEntry (mapRefEntry f g ref) = refVisitEntry ref := by
  cases ref with
  | message m =>
    simp only [mapRefEntry, refVisitEntry, mapMsg]
    have := refVisit_map f g m.value.isSome m.value m.attributes
    simpa using this
  | term t =>
    simp only [mapRefEntry, refVisitEntry]
    exact refVisit_map f g false (some t.value) t.attributes

theorem checkMessage_map (kp : Option (List Str)) (f g f' g' : Str → Str) (ref : Entry) (m : Message) :
    checkMessage kp (mapRefEntry f' g' ref) (mapMsg f g m) = checkMessage kp ref m := by
  unfold checkMessage
  simp only [refVisitEntry_map, l10nVisitMessage_map]

theorem checkMessage_map_l10n (kp : Option (List Str)) (f g : Str → Str) (ref : Entry) (m : Message) :
    checkMessage kp ref (mapMsg f g m) = checkMessage kp ref m := by
  unfold checkMessage
  simp only [l10nVisitMessage_map]

theorem checkMessage_map_ref (kp : Option (List Str)) (f g : Str → Str) (ref : Entry) (m : Message) :
    checkMessage kp (mapRefEntry f g ref) m = checkMessage kp ref m := by
  unfold checkMessage
  simp only [refVisitEntry_map]

theorem checkTerm_map (kp : Option (List Str)) (f g : Str → Str) (t : Term) : checkTerm kp (mapTerm f g t) = checkTerm kp t := by
  unfold checkTerm
  have hd := checkDuplicateAttributes_congr (fun a => ({ a with value := mapP f g a.value } : Attribute))
    (fun _ => rfl) (fun _ => rfl) t.attributes
  simp only [mapTerm, hd, ev_mapP]
  exact foldl_map_eq (fun msgs (a : Attribute) => (evPattern true a.value).foldl (termStep kp) msgs)
    (fun a => ({ a with value := mapP f g a.value } : Attribute)) (by intro s a; simp only [ev_mapP]) t.attributes _

theorem hasSelect_map (f g : Str → Str) (l10n : Entry) : hasSelect (mapL10nEntry f g l10n) = hasSelect l10n := by
  cases l10n with
  | message m =>
    simp only [mapL10nEntry, hasSelect, mapMsg]
    congr 1
    · cases m.value <;> simp [ev_mapP]
    · simp [List.any_map, Function.comp_def, mapAttr_ev]
  | term t =>
    simp only [mapL10nEntry, hasSelect, mapTerm, ev_mapP]
    simp [List.any_map, Function.comp_def, ev_mapP]

theorem mapL10nEntry_start (f g : Str → Str) (l10n : Entry) : (mapL10nEntry f g l10n).start = l10n.start := by
  cases l10n <;> rfl

theorem entryMsgs_map (kp : Option (List Str)) (f g f' g' : Str → Str) (ref l10n : Entry) :
    entryMsgs kp (mapRefEntry f' g' ref) (mapL10nEntry f g l10n) = entryMsgs kp ref l10n := by
  cases l10n with
  | message m => exact checkMessage_map kp f g f' g' ref m
  | term t => exact checkTerm_map kp f g t

end C08T
