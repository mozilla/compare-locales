/- C04, quiet levels: the entries handed to `merge` by the missing-entity loop of `ContentComparer.compare` are a function of
   the filters' verdicts only — the quiet level of the observers decides what is LISTED, never what is merged. -/
import CLModel.Compare.MergeBytes
import CLModel.Proofs.ObsProg
namespace C04Q
open MergeB ObsM

/-- the verdict `ObserverList.notify("missingEntity", file, key)` returns, from the filters alone -/
def verdict (filters : List (Option Filter)) (file : File) (key : Data) : Ret :=
  listRet (filters.map (fun f => rvOf f .missingEntity file key))

/-- the entries merged / counted, from the filters alone: only `error` verdicts are merged, `warning` is counted as
    `report`, `ignore` is dropped -/
def missSpec (filters : List (Option Filter)) (file : File) : List (Data × List Nat) → List (List Nat) × Nat × Nat
  | [] => ([], 0, 0)
  | (key, refAll) :: rest =>
    let r := missSpec filters file rest
    match verdict filters file key with
    | .ignore => r
    | .error => (refAll :: r.1, r.2.1 + 1, r.2.2)
    | .warning => (r.1, r.2.1, r.2.2 + 1)

theorem verdict_eq (F : List (Option Filter)) (file : File) (key : Data) :
    verdict F file key = ObsM.verdict F .missingEntity file key := rfl

/-- the missing-entity loop as a plan (Proofs/ObsProg.lean): one notification per entity, whatever is answered; what is
    merged and counted follows the filters -/
def missPlan (F : List (Option Filter)) (file : File) (ents : List (Data × List Nat)) :
    Plan TreeM.PyErr (List (List Nat) × Nat × Nat) :=
  ⟨ents.map fun e => .notify .missingEntity file e.1, .ok (missSpec F file ents)⟩

theorem missingLoop_eq (file : File) : ∀ (ents : List (Data × List Nat)) (l : ObsList),
    missingLoop l file ents = (missPlan l.filters file ents).exec id l
  | [], _ => rfl
  | (key, refAll) :: rest, l => by
    simp only [missingLoop, missPlan, Plan.exec, List.map_cons, ObsList.run_cons, ObsList.notify_eq_step, missSpec, verdict_eq]
    cases h : l.step (.notify .missingEntity file key) with
    | error e => rfl
    | ok l1 =>
      simp only [Except.map, bind, Except.bind, missingLoop_eq file rest l1, missPlan, Plan.exec, (ObsList.step_filters h).1]
      cases l1.run (rest.map fun e => .notify .missingEntity file e.1) with
      | error e => rfl
      | ok l2 =>
        cases ObsM.verdict l.filters .missingEntity file key <;> rfl

theorem compareMerge_spec {q : Nat} {filters : List (Option Filter)} {file : File} {ents : List (Data × List Nat)}
    {caps : Nat} {l10n ref : List Nat} {skips : List Merge.Skip} {out : FileOut × Nat × Nat}
    (h : compareMerge q filters file ents caps l10n ref skips = .ok out) :
    out = (mergeBytes true caps l10n ref skips (missSpec filters file ents).1,
           (missSpec filters file ents).2.1, (missSpec filters file ents).2.2) := by
  simp only [compareMerge, bind, Except.bind] at h
  cases hl : missingLoop (ObsList.init q (filters.map (Obs.init q))) file ents with
  | error e => rw [hl] at h; cases h
  | ok p =>
    obtain ⟨l', a⟩ := p
    rw [hl] at h
    rw [missingLoop_eq, ObsList.init_filters] at hl
    cases Except.ok.inj (Plan.exec_ok.1 hl).2
    exact (Except.ok.inj h).symm

/-- no notification makes the observers raise (files without a legacy module) -/
theorem compareMerge_total (q : Nat) (filters : List (Option Filter)) (file : File) (ents : List (Data × List Nat))
    (caps : Nat) (l10n ref : List Nat) (skips : List Merge.Skip) (hm : Modelled file) :
    ∃ out, compareMerge q filters file ents caps l10n ref skips = .ok out := by
  obtain ⟨l', h⟩ := Plan.exec_total (emb := id) (p := missPlan filters file ents)
    (ObsList.init_inv q filters) (fun ev hev => by obtain ⟨e, _, rfl⟩ := List.mem_map.1 hev; exact hm) rfl
  have hl : missingLoop (ObsList.init q (filters.map (Obs.init q))) file ents = .ok (l', missSpec filters file ents) := by
    rw [missingLoop_eq, ObsList.init_filters]; exact h
  exact ⟨_, by simp only [compareMerge, bind, Except.bind, hl]; rfl⟩

end C04Q
