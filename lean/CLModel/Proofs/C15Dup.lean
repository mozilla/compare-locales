/-
C15D: versions WITH a repeated key.  `OrderedDict(pairs)` collapses a repeated key before `AddRemove` ever sees the
key lists: closed form of the dict of one version for arbitrary entry lists (keys = first occurrences in order, value =
the LAST entry with the key).
-/
import CLModel.Proofs.C15Text
namespace C15D
open AR Merge

section dict
variable {α : Type} [BEq α] [LawfulBEq α] {β : Type}

/-- the first occurrences of the keys of a list, in order, skipping keys already `seen` -/
def firstOcc (seen : List α) : List α → List α
  | [] => []
  | a :: l => if seen.contains a then firstOcc seen l else a :: firstOcc (seen ++ [a]) l

def lastVal : List (α × β) → α → Option β
  | [], _ => none
  | p :: ps, k =>
    match lastVal ps k with
    | some v => some v
    | none => if p.1 == k then some p.2 else none

theorem foldl_ins_eq (ks xs : List α) : xs.foldl ins ks = ks ++ firstOcc ks xs := by
  induction xs generalizing ks with
  | nil => simp [firstOcc]
  | cons x xs ih =>
    rw [List.foldl_cons, ih, ins, firstOcc]
    split <;> simp

theorem lastVal_eq (ps : List (α × β)) (k : α) : lastVal ps k = dget ps.reverse k := by
  induction ps with
  | nil => rfl
  | cons p ps ih =>
    rw [lastVal, ih, List.reverse_cons, dget_append, dget_cons]
    cases dget ps.reverse k <;> rfl

end dict

/-- the last entry of a version that is stored under `entity.key = ek` -/
def lastEnt (ek : EKey) : List Ent → Option Ent
  | [] => none
  | e :: es =>
    match lastEnt ek es with
    | some x => some x
    | none => if e.keyed && e.ekey == ek then some e else none

theorem lastVal_pairs_ent (ek : EKey) : ∀ (es : List Ent) (c : List (List Nat × Nat)),
    lastVal (pairs es c) (Key.ent ek) = lastEnt ek es := by
  intro es
  induction es with
  | nil => intro _; rfl
  | cons e es ih =>
    intro c
    by_cases h1 : e.kind = .comment
    · simp only [pairs, getKeyValue_comment e c h1, lastVal, lastEnt, ih]
      cases lastEnt ek es with
      | some x => rfl
      | none => simp [Ent.keyed, h1]
    · by_cases h2 : e.kind = .whitespace
      · simp only [pairs, getKeyValue_ws e c h2, lastVal, lastEnt, ih]
        cases lastEnt ek es with
        | some x => rfl
        | none => simp [Ent.keyed, h2]
      · simp only [pairs, getKeyValue_ent e c h1 h2, lastVal, lastEnt, ih]
        cases lastEnt ek es with
        | some x => rfl
        | none =>
          have hk : e.keyed = true := by simp [Ent.keyed, h1, h2]
          by_cases he : e.ekey = ek
          · subst he; simp [hk]
          · have : (Key.ent e.ekey == Key.ent ek) = false := by
              simp only [beq_eq_false_iff_ne, ne_eq, Key.ent.injEq]; exact he
            simp [hk, he, this]

/-- CLOSED FORM of the dict `parse_resource` builds for ANY entry list (repeated keys allowed):
    the keys are the first occurrences of the `get_key_value` keys, in file order; under a key the LAST entry
    with that key is stored; in particular under an `entity.key` the last entry of the file that has it. -/
theorem versionDict_closed (v : Nat) (es : List Ent) :
    keysOf (versionDict v es) = firstOcc [] ((pairs (stamp v es) []).map (·.1)) ∧
    (∀ k, dget (versionDict v es) k = lastVal (pairs (stamp v es) []) k) ∧
    (∀ ek, dget (versionDict v es) (Key.ent ek) = lastEnt ek (stamp v es)) := by
  have hk : keysOf (versionDict v es) = firstOcc [] ((pairs (stamp v es) []).map (·.1)) := by
    unfold keysOf versionDict parseResource
    rw [orderedDict, keys_foldl_dset, foldl_ins_eq]
    rfl
  have hv : ∀ k, dget (versionDict v es) k = lastVal (pairs (stamp v es) []) k := by
    intro k
    unfold versionDict parseResource
    rw [orderedDict, dget_foldl_dset, lastVal_eq]
    cases dget (pairs (stamp v es) []).reverse k <;> rfl
  exact ⟨hk, hv, fun ek => by rw [hv, lastVal_pairs_ent]⟩

end C15D
