/- `decode` inverts the code `encode : List Nat → Nat` of Paths/ProjectFilesM.lean (`decode_encode`): this is how `menv`
   recovers the call `ms[m].match(p)` from the id it handed out for it.  Hence `encode` is injective. -/
import CLModel.Paths.ProjectFilesM
namespace PFM

theorem lt_pow_bitsF : ∀ (f n : Nat), n ≤ f → n < 2 ^ bitsF f n
  | 0, n, h => by
    have : n = 0 := by omega
    subst this; simp [bitsF]
  | f + 1, n, h => by
    unfold bitsF
    by_cases hn : n = 0
    · subst hn; simp
    · have hne : (n == 0) = false := by simpa using hn
      simp only [hne, Bool.false_eq_true, if_false]
      have ih := lt_pow_bitsF f (n / 2) (by omega)
      rw [Nat.pow_succ]
      omega

theorem lt_pow_bits (n : Nat) : n < 2 ^ bits n := lt_pow_bitsF n n (Nat.le_refl _)

theorem tzF_pow : ∀ (k f x : Nat), k < f → tzF f (2 ^ k * (2 * x + 1)) = k
  | 0, f, x, h => by
    obtain ⟨f', rfl⟩ : ∃ f', f = f' + 1 := ⟨f - 1, by omega⟩
    unfold tzF
    have : (2 ^ 0 * (2 * x + 1)) % 2 = 1 := by rw [Nat.pow_zero, Nat.one_mul]; omega
    rw [this]; rfl
  | k + 1, f, x, h => by
    obtain ⟨f', rfl⟩ : ∃ f', f = f' + 1 := ⟨f - 1, by omega⟩
    unfold tzF
    have he : 2 ^ (k + 1) * (2 * x + 1) = 2 * (2 ^ k * (2 * x + 1)) := by
      rw [Nat.pow_succ, Nat.mul_comm (2 ^ k) 2, Nat.mul_assoc]
    rw [he]
    have h1 : (2 * (2 ^ k * (2 * x + 1))) % 2 = 0 := by omega
    have h2 : (2 * (2 ^ k * (2 * x + 1))) / 2 = 2 ^ k * (2 * x + 1) := by omega
    simp only [h1, h2]
    have ih := tzF_pow k f' x (by omega)
    simp [ih]

theorem le_maxOf : ∀ {l : List Nat} {c : Nat}, c ∈ l → c ≤ maxOf l
  | a :: as, c, h => by
    simp only [List.mem_cons] at h
    unfold maxOf
    rcases h with rfl | h
    · exact Nat.le_max_left _ _
    · exact Nat.le_trans (le_maxOf h) (Nat.le_max_right _ _)

theorem length_le_encBody {B : Nat} (hB : 1 ≤ B) : ∀ (l : List Nat), l.length ≤ encBody B l
  | [] => by simp [encBody]
  | c :: cs => by
    have ih := length_le_encBody hB cs
    have : encBody B cs ≤ B * encBody B cs := Nat.le_mul_of_pos_left _ hB
    simp only [encBody, List.length_cons]
    omega

theorem decBody_encBody {B : Nat} : ∀ (l : List Nat) (f : Nat), (∀ c ∈ l, c + 1 < B) → l.length ≤ f →
    decBody B f (encBody B l) = l
  | [], f, _, _ => by
    cases f <;> simp [decBody, encBody]
  | c :: cs, f, hc, hf => by
    obtain ⟨f', rfl⟩ : ∃ f', f = f' + 1 := ⟨f - 1, by simp at hf; omega⟩
    have hcB : c + 1 < B := hc c (by simp)
    have hpos : 0 < B := by omega
    have hne : ((c + 1 + B * encBody B cs) == 0) = false := by
      simp only [beq_eq_false_iff_ne]; omega
    have hmod : (c + 1 + B * encBody B cs) % B = c + 1 := by
      rw [Nat.add_mul_mod_self_left, Nat.mod_eq_of_lt hcB]
    have hdiv : (c + 1 + B * encBody B cs) / B = encBody B cs := by
      rw [Nat.add_mul_div_left _ _ hpos, Nat.div_eq_of_lt hcB, Nat.zero_add]
    simp only [encBody, decBody, hne, Bool.false_eq_true, if_false, hmod, hdiv]
    rw [decBody_encBody cs f' (fun c' h' => hc c' (by simp [h'])) (by simp at hf; omega)]
    simp

theorem decode_encode (l : List Nat) : decode (encode l) = l := by
  have hB := lt_pow_bits (maxOf l + 2)
  generalize hk : bits (maxOf l + 2) = k at hB
  generalize hBd : maxOf l + 2 = B at hB hk
  have hB2 : 2 ≤ B := by omega
  have hpow : 0 < 2 ^ k := Nat.pos_of_ne_zero (by simp)
  have hg : encode l = 2 ^ k * (2 * (encBody B l * 2 ^ k + B) + 1) := by
    unfold encode
    rw [hBd, hk, Nat.mul_comm _ (2 ^ k), Nat.mul_comm _ 2]
  have hlt : k < encode l := by
    rw [hg]
    calc k < 2 ^ k := Nat.lt_two_pow_self
      _ ≤ 2 ^ k * (2 * (encBody B l * 2 ^ k + B) + 1) := Nat.le_mul_of_pos_right _ (by omega)
  unfold decode
  have htz : tzF (encode l) (encode l) = k := by
    conv => lhs; arg 2; rw [hg]
    exact tzF_pow k _ _ hlt
  simp only [htz]
  have h1 : encode l / 2 ^ k / 2 = encBody B l * 2 ^ k + B := by
    rw [hg, Nat.mul_div_cancel_left _ hpow]; omega
  rw [h1]
  have h2 : (encBody B l * 2 ^ k + B) % 2 ^ k = B := by
    rw [Nat.add_comm, Nat.add_mul_mod_self_right, Nat.mod_eq_of_lt hB]
  have h3 : (encBody B l * 2 ^ k + B) / 2 ^ k = encBody B l := by
    rw [Nat.add_comm, Nat.add_mul_div_right _ _ hpow, Nat.div_eq_of_lt hB, Nat.zero_add]
  rw [h2, h3]
  apply decBody_encBody
  · intro c hc
    have := le_maxOf hc
    omega
  · exact length_le_encBody (by omega) l

theorem encode_injective {a b : List Nat} (h : encode a = encode b) : a = b := by
  rw [← decode_encode a, ← decode_encode b, h]

end PFM
