/- C02, .inc (DefinesParser): one printed `#define KEY value` record — `\w` on ASCII, the key regex on the record, the
   entity and its view. -/
import CLModel.Proofs.C02PCore
namespace C02X
open Rx P Gen.Pat C02P

def asciiWord (c : Nat) : Bool := (48 ≤ c && c ≤ 57) || (65 ≤ c && c ≤ 90) || c == 95 || (97 ≤ c && c ≤ 122)

theorem wordRanges_head :
    Gen.Unicode.wordRanges = (48, 57) :: (65, 90) :: (95, 95) :: (97, 122) :: Gen.Unicode.wordRanges.drop 4 := by rfl

theorem isWord_of_ascii (c : Nat) (h : asciiWord c = true) : isWord c = true := by
  unfold isWord inRanges
  rw [wordRanges_head]
  simp only [List.any_cons]
  simp only [asciiWord, Bool.or_eq_true, Bool.and_eq_true, decide_eq_true_eq, beq_iff_eq] at h
  simp only [Bool.or_eq_true, Bool.and_eq_true, decide_eq_true_eq]
  rcases h with ((h | h) | h) | h
  · exact Or.inl h
  · exact Or.inr (Or.inl h)
  · exact Or.inr (Or.inr (Or.inl ⟨by omega, by omega⟩))
  · exact Or.inr (Or.inr (Or.inr (Or.inl h)))

theorem isWord_10 : isWord 10 = false := by decide +kernel

theorem isWord_32 : isWord 32 = false := by decide +kernel

theorem inC_word (c : Nat) : inC false [ClsItem.word] c = isWord c := by
  simp [inC, ClsItem.has]

/-- `#define ` -/
def defPrefix : List Nat := [35, 100, 101, 102, 105, 110, 101, 32]

abbrev IRec := List Nat × List Nat

/-- `#define KEY⏎` for an empty value, `#define KEY value⏎` otherwise -/
def printIncRec (r : IRec) : List Nat :=
  defPrefix ++ (r.1 ++ ((if r.2.isEmpty then [] else 32 :: r.2) ++ [10]))

structure SafeIncRec (r : IRec) : Prop where
  key_ne : r.1 ≠ []
  key : ∀ c ∈ r.1, asciiWord c = true
  val : ∀ c ∈ r.2, c ≠ 10

/-- length of a record without its newline: `#define ` (8), the key, and for a non-empty value a blank and the value -/
def incLen (klen vlen : Nat) : Nat := 8 + klen + (if vlen = 0 then 0 else 1 + vlen)

/-- the entity `DefinesParser.getNext` must produce; an empty value means the `val` group did not take part in
    the match: its span is Python's `(-1, -1)` -/
def incEntity (off klen vlen : Nat) : Entry :=
  if vlen = 0 then
    { kind := .entity, full := off, s := off, e := off + 8 + klen, ks := (off + 8 : Nat), ke := (off + 8 + klen : Nat),
      vs := -1, ve := -1, pc := none }
  else
    { kind := .entity, full := off, s := off, e := off + 8 + klen + 1 + vlen, ks := (off + 8 : Nat), ke := (off + 8 + klen : Nat),
      vs := (off + 8 + klen + 1 : Nat), ve := (off + 8 + klen + 1 + vlen : Nat), pc := none }

theorem incEntity_e (off klen vlen : Nat) : (incEntity off klen vlen).e = off + incLen klen vlen := by
  unfold incEntity incLen
  split <;> simp <;> omega

theorem printIncRec_length (r : IRec) : (printIncRec r).length = incLen r.1.length r.2.length + 1 := by
  unfold printIncRec incLen
  by_cases hv : r.2 = []
  · simp [hv, defPrefix]; omega
  · have : r.2.length ≠ 0 := by simpa using hv
    simp [hv, defPrefix, this]; omega

theorem printIncRec_parts {s : Array Nat} {p : Nat} {r : IRec} {rest : List Nat} (h : At s p (printIncRec r ++ rest)) :
    At s p ([35, 100, 101, 102, 105, 110, 101] ++ ([32] ++ (r.1 ++ ((if r.2.isEmpty then [] else 32 :: r.2) ++ 10 :: rest)))) := by
  simpa [At, printIncRec, defPrefix] using h

/-- the key regex on a printed record: `#define`, `[ \t]+` over the one blank, `\w+` over exactly the key, then either the
    newline (the optional `val` group takes no part) or the blank and `[^\n]*` over the value -/
theorem inc_key_at (s : Array Nat) (p : Nat) (r : IRec) (rest : List Nat) (hs : SafeIncRec r)
    (h : At s p (printIncRec r ++ rest)) :
    matchAt s DefinesParser_reKey p =
      some (if r.2.length = 0 then ⟨p + 8 + r.1.length, [(1, p + 8, p + 8 + r.1.length)]⟩
            else ⟨p + 8 + r.1.length + 1 + r.2.length,
              [(2, p + 8 + r.1.length + 1, p + 8 + r.1.length + 1 + r.2.length), (1, p + 8, p + 8 + r.1.length)]⟩) := by
  have h0 := printIncRec_parts h
  have h1 : At s (p + 7) _ := h0.app
  have h2 : At s (p + 8) _ := h1.app
  have h3 := h2.app
  obtain ⟨k0, kt, hk⟩ := List.exists_cons_of_ne_nil hs.key_ne
  have hk0 := hs.key k0 (by rw [hk]; exact List.mem_cons_self)
  have hsz : p + 8 + r.1.length < s.size := h3.pos_lt (by simp)
  rw [matchAt]
  show m s (litsThen [35, 100, 101, 102, 105, 110, 101]
    (Re.seq (Re.rep 1 none true (Re.cls false [.ch 32, .ch 9])) _)) ⟨p, []⟩ some = _
  rw [m_seqLits s _ _ p _ [] some h0, m_seq_def, m_rep_def, m_cls_charStep]
  apply greedy_at _ [] _ _ 1 h1 (fun c hc => by obtain rfl := List.mem_singleton.mp hc; decide)
    (by
      intro c hc
      rw [hk] at hc; cases hc
      have : k0 ≠ 32 ∧ k0 ≠ 9 := by
        constructor <;> intro hh <;> subst hh <;> revert hk0 <;> decide
      simp [inC, ClsItem.has, this])
    (Nat.le_refl 1) (by omega)
  show m s _ ⟨p + 8, []⟩ some = _
  simp only [m_seq_def, m_group_def, m_rep_def, m_alt_def, m_eps_def, m_cls_charStep, m_notLit_charStep]
  apply greedy_at _ [] _ _ 1 h2 (fun c hc => by rw [inC_word]; exact isWord_of_ascii c (hs.key c hc))
    (by
      intro c hc
      rw [inC_word]
      cases hv : r.2 with
      | nil => rw [hv] at hc; cases hc; exact isWord_10
      | cons a t => rw [hv] at hc; cases hc; exact isWord_32)
    (List.length_pos_iff.mpr hs.key_ne) (by omega)
  by_cases hv : r.2 = []
  · have h3' : At s (p + 8 + r.1.length) (10 :: rest) := by simpa [hv] using h3
    rw [step_at_fail _ h3' (by intro c hc; cases hc; decide)]
    simp [hv]
  · have h3' : At s (p + 8 + r.1.length) (32 :: (r.2 ++ 10 :: rest)) := by simpa [hv] using h3
    have hvl : r.2.length ≠ 0 := fun h0 => hv (List.length_eq_zero_iff.mp h0)
    rw [step_at _ h3' (by decide)]
    simp only []
    rw [greedy_at (fun d => d != 10) _ _
      ⟨p + 8 + r.1.length + 1 + r.2.length,
        [(2, p + 8 + r.1.length + 1, p + 8 + r.1.length + 1 + r.2.length), (1, p + 8, p + 8 + r.1.length)]⟩
      0 h3'.tail (fun c hc => by simp [hs.val c hc]) (by intro c hc; cases hc; decide) (Nat.zero_le _) (by omega) (by simp)]
    simp [hvl]

theorem entView_incEntity (s : Array Nat) (off : Nat) (r : IRec) (rest : List Nat)
    (h : s.toList.drop off = printIncRec r ++ rest) :
    entView .inc s (incEntity off r.1.length r.2.length) = expectedView r := by
  have h2 : At s (off + 8) _ := (printIncRec_parts h).app.app
  unfold incEntity
  by_cases hv : r.2 = []
  · rw [if_pos (by rw [hv]; rfl)]
    simp only [entView, expectedView, h2.pySlice rfl]
    rw [show pySlice s (-1) (-1) = [] from slice_self s _, hv]
    rfl
  · have hV : At s (off + 8 + r.1.length + 1) (r.2 ++ 10 :: rest) := by
      have := h2.app
      rw [if_neg (by simpa using hv)] at this
      exact this.tail
    rw [if_neg (by simpa using hv)]
    simp only [entView, expectedView, h2.pySlice rfl, hV.pySlice rfl]
    rfl

end C02X
