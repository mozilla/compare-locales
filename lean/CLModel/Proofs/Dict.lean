/-
Python's insertion-ordered `dict` as an association list: what `d[k] = v` (`AR.dset`), `d.get(k)` (`AR.dget`),
`d.update(pairs)` (a fold of `dset`) and `del d[k]` (a filter) do to the key list, to the entries and to `get`.
`List.lookup` is `dget` (`lookup_eq_dget`, `lookup_mem`, at the end); the other copies in the model (`TreeM`, `Dtd`, `PM`,
`PF`: same definitions; `Android.dget_eq`, `Ftl.dictGet?_eq_dget`) are linked next to their users.  `Ftl.dictSet` is not `dset`: it rewrites
only the first entry with the key; its own laws stand in Proofs/C08Basic.
-/
import CLModel.Compare.AddRemove
namespace AR

universe v w
variable {α : Type} [BEq α] [LawfulBEq α] {β : Type v}

def ins (ks : List α) (x : α) : List α := if ks.contains x then ks else ks ++ [x]

theorem mem_ins (ks : List α) (x y : α) : y ∈ ins ks x ↔ y ∈ ks ∨ y = x := by
  unfold ins
  split
  · rename_i hx
    exact ⟨.inl, fun h => h.elim id (· ▸ List.contains_iff_mem.1 hx)⟩
  · simp

theorem ins_nodup (ks : List α) (x : α) (h : ks.Nodup) : (ins ks x).Nodup := by
  unfold ins
  split
  · exact h
  · rename_i hx
    refine List.nodup_append.2 ⟨h, by simp, ?_⟩
    intro a ha b hb e
    rw [List.mem_singleton.1 hb] at e
    exact hx (List.contains_iff_mem.2 (e ▸ ha))

theorem ins_of_not_mem {ks : List α} {x : α} (h : x ∉ ks) : ins ks x = ks ++ [x] := by
  simp [ins, h]

theorem mem_foldl_ins (xs ks : List α) (y : α) : y ∈ xs.foldl ins ks ↔ y ∈ ks ∨ y ∈ xs := by
  induction xs generalizing ks with
  | nil => simp
  | cons x xs ih => rw [List.foldl_cons, ih, mem_ins, List.mem_cons, or_assoc, @eq_comm _ y]

theorem foldl_ins_nodup (xs ks : List α) (h : ks.Nodup) : (xs.foldl ins ks).Nodup := by
  induction xs generalizing ks with
  | nil => exact h
  | cons x xs ih => exact ih _ (ins_nodup ks x h)

theorem foldl_ins_of_nodup (xs ks : List α) (h : (ks ++ xs).Nodup) : xs.foldl ins ks = ks ++ xs := by
  induction xs generalizing ks with
  | nil => simp
  | cons x xs ih =>
    have hx : x ∉ ks := fun hx => (List.nodup_append.1 h).2.2 x hx x List.mem_cons_self rfl
    rw [List.foldl_cons, ins_of_not_mem hx, ih _ (by simpa using h), List.append_assoc, List.singleton_append]

theorem foldl_ins_filter (xs ks : List α) (h : xs.Nodup) :
    xs.foldl ins ks = ks ++ xs.filter (fun x => !ks.contains x) := by
  induction xs generalizing ks with
  | nil => simp
  | cons x xs ih =>
    rw [List.nodup_cons] at h
    rw [List.foldl_cons, ih _ h.2, List.filter_cons, ins]
    cases hx : ks.contains x with
    | true => simp
    | false =>
      simp only [Bool.false_eq_true, if_false, Bool.not_false, if_true, List.append_assoc, List.singleton_append]
      congr 2
      apply List.filter_congr
      intro y hy
      have : y ≠ x := fun e => h.1 (e ▸ hy)
      simp [this]

theorem foldl_ins_filterMap {γ : Type} [BEq γ] [LawfulBEq γ] (f : α → Option γ)
    (hinj : ∀ a a' b, f a = some b → f a' = some b → a = a') (l acc : List α) :
    (l.filterMap f).foldl ins (acc.filterMap f) = (l.foldl ins acc).filterMap f := by
  delta ins
  induction l generalizing acc with
  | nil => rfl
  | cons x xs ih =>
    rw [List.foldl_cons, List.filterMap_cons]
    cases hf : f x with
    | none =>
      simp only
      rw [← ih]
      congr 1
      by_cases hx : x ∈ acc
      · simp [hx]
      · simp [hx, List.filterMap_append, hf]
    | some b =>
      simp only
      rw [List.foldl_cons]
      have hc : (acc.filterMap f).contains b = acc.contains x := by
        rw [Bool.eq_iff_iff]
        simp only [List.contains_eq_mem, decide_eq_true_eq, List.mem_filterMap]
        constructor
        · rintro ⟨a, ha, hab⟩
          rw [← hinj a x b hab hf]; exact ha
        · intro hx; exact ⟨x, hx, hf⟩
      rw [hc]
      by_cases hx : acc.contains x = true
      · simp only [hx, if_true]; exact ih acc
      · simp only [hx, Bool.false_eq_true, if_false]
        rw [← ih]
        congr 1
        simp [List.filterMap_append, hf]

theorem any_key_iff (d : List (α × β)) (k : α) : d.any (·.1 == k) = true ↔ k ∈ d.map (·.1) := by
  rw [List.any_eq_true, List.mem_map]
  exact ⟨fun ⟨p, hp, h⟩ => ⟨p, hp, eq_of_beq h⟩, fun ⟨p, hp, h⟩ => ⟨p, hp, beq_of_eq h⟩⟩

omit [LawfulBEq α] in
theorem dget_cons (p : α × β) (d : List (α × β)) (k : α) :
    dget (p :: d) k = if p.1 == k then some p.2 else dget d k := by
  simp only [dget, List.find?_cons]
  cases p.1 == k <;> rfl

theorem dget_cons_self (k : α) (v : β) (d : List (α × β)) : dget ((k, v) :: d) k = some v := by
  simp [dget]

omit [LawfulBEq α] in
theorem dget_append (a b : List (α × β)) (k : α) : dget (a ++ b) k = (dget a k).or (dget b k) := by
  simp only [dget, List.find?_append]
  cases a.find? (·.1 == k) <;> rfl

omit [LawfulBEq α] in
theorem dget_map_val {γ : Type w} (g : β → γ) (d : List (α × β)) (k : α) :
    dget (d.map (fun p => (p.1, g p.2))) k = (dget d k).map g := by
  simp only [dget, List.find?_map, Function.comp_def, Option.map_map]

theorem dget_eq_none_iff {d : List (α × β)} {k : α} : dget d k = none ↔ k ∉ d.map (·.1) := by
  rw [← any_key_iff, dget, Option.map_eq_none_iff, List.find?_eq_none, List.any_eq_true]
  exact ⟨fun h ⟨p, hp, hk⟩ => h p hp hk, fun h p hp hk => h ⟨p, hp, hk⟩⟩

theorem dget_isSome_iff {d : List (α × β)} {k : α} : (dget d k).isSome ↔ k ∈ d.map (·.1) := by
  have := dget_eq_none_iff (d := d) (k := k)
  cases h : dget d k <;> simp_all

theorem mem_of_dget {d : List (α × β)} {k : α} {v : β} (h : dget d k = some v) : (k, v) ∈ d := by
  obtain ⟨p, hp, rfl⟩ := Option.map_eq_some_iff.1 h
  have hk : p.1 = k := eq_of_beq (List.find?_some (p := fun q : α × β => q.1 == k) hp)
  exact hk ▸ List.mem_of_find?_eq_some hp

theorem dget_of_mem {d : List (α × β)} (hd : (d.map (·.1)).Nodup) {k : α} {v : β} (h : (k, v) ∈ d) :
    dget d k = some v := by
  induction d with
  | nil => cases h
  | cons q d ih =>
    rw [List.map_cons, List.nodup_cons] at hd
    rw [dget_cons]
    rcases List.mem_cons.1 h with rfl | h
    · simp
    · have : ¬ q.1 = k := fun e => hd.1 (e ▸ List.mem_map_of_mem (f := (·.1)) h)
      rw [if_neg (mt eq_of_beq this), ih hd.2 h]

theorem dget_eq_some_iff {d : List (α × β)} (hd : (d.map (·.1)).Nodup) {k : α} {v : β} :
    dget d k = some v ↔ (k, v) ∈ d :=
  ⟨mem_of_dget, dget_of_mem hd⟩

theorem dget_reverse {d : List (α × β)} (hd : (d.map (·.1)).Nodup) (k : α) : dget d.reverse k = dget d k := by
  have hr : (d.reverse.map (·.1)).Nodup := by
    rw [List.map_reverse]; exact (List.reverse_perm _).nodup_iff.2 hd
  cases h : dget d k with
  | some v => exact dget_of_mem hr (List.mem_reverse.2 (mem_of_dget h))
  | none =>
    rw [dget_eq_none_iff] at h ⊢
    rwa [List.map_reverse, List.mem_reverse]

theorem filter_ne_of_not_mem {d : List (α × β)} {k : α} (h : k ∉ d.map (·.1)) :
    d.filter (fun p => !(p.1 == k)) = d := by
  refine List.filter_eq_self.2 (fun p hp => ?_)
  have : ¬ p.1 = k := fun e => h (e ▸ List.mem_map_of_mem (f := (·.1)) hp)
  rw [beq_false_of_ne this]; rfl

theorem dget_filter_ne (d : List (α × β)) (k k' : α) :
    dget (d.filter (fun p => !(p.1 == k))) k' = if k == k' then none else dget d k' := by
  induction d with
  | nil => simp [dget]
  | cons p d ih =>
    rw [List.filter_cons]
    by_cases hp : p.1 = k
    · subst hp
      simp only [beq_self_eq_true, Bool.not_true, Bool.false_eq_true, if_false, ih, dget_cons]
      split <;> rfl
    · have : (p.1 == k) = false := beq_false_of_ne hp
      simp only [this, Bool.not_false, if_true, dget_cons, ih]
      by_cases hk : k = k'
      · subst hk; simp [this]
      · simp [hk]

theorem dset_of_not_mem {d : List (α × β)} {k : α} (v : β) (h : k ∉ d.map (·.1)) : dset d k v = d ++ [(k, v)] := by
  rw [dset, if_neg (mt (any_key_iff d k).1 h)]

theorem dset_of_mem {d : List (α × β)} {k : α} (v : β) (h : k ∈ d.map (·.1)) :
    dset d k v = d.map (fun p => if p.1 == k then (k, v) else p) := by
  rw [dset, if_pos ((any_key_iff d k).2 h)]

theorem keys_dset (d : List (α × β)) (k : α) (v : β) : (dset d k v).map (·.1) = ins (d.map (·.1)) k := by
  unfold ins
  split
  · rename_i h
    rw [dset_of_mem v (List.contains_iff_mem.1 h), List.map_map]
    apply List.map_congr_left
    intro p _
    simp only [Function.comp]
    split
    · rename_i hk; exact (eq_of_beq hk).symm
    · rfl
  · rename_i h
    rw [dset_of_not_mem v (mt List.contains_iff_mem.2 h), List.map_append, List.map_singleton]

omit [LawfulBEq α] in
theorem mem_dset {d : List (α × β)} {k : α} {v : β} {p : α × β} (hp : p ∈ dset d k v) : p ∈ d ∨ p = (k, v) := by
  unfold dset at hp
  split at hp
  · obtain ⟨q, hq, rfl⟩ := List.mem_map.1 hp
    split
    · exact .inr rfl
    · exact .inl hq
  · simpa using hp

theorem dset_nodup {d : List (α × β)} (k : α) (v : β) (h : (d.map (·.1)).Nodup) : ((dset d k v).map (·.1)).Nodup :=
  keys_dset d k v ▸ ins_nodup _ k h

theorem dget_map_upd (d : List (α × β)) (k k' : α) (v : β) :
    dget (d.map (fun p => if p.1 == k then (k, v) else p)) k'
      = if k == k' then (dget d k').map (fun _ => v) else dget d k' := by
  induction d with
  | nil => simp [dget]
  | cons p d ih =>
    rw [List.map_cons, dget_cons, dget_cons, ih]
    by_cases hp : p.1 = k
    · subst hp
      by_cases hk : (p.1 == k') = true <;> simp [hk]
    · rw [if_neg (mt eq_of_beq hp)]
      by_cases hk : k = k'
      · subst hk; simp [hp]
      · simp [hk]

theorem dget_dset (d : List (α × β)) (k k' : α) (v : β) :
    dget (dset d k v) k' = if k == k' then some v else dget d k' := by
  by_cases h : k ∈ d.map (·.1)
  · rw [dset_of_mem v h, dget_map_upd]
    split
    · rename_i hk
      rw [← eq_of_beq hk]
      obtain ⟨w, hw⟩ := Option.isSome_iff_exists.1 (dget_isSome_iff.2 h)
      rw [hw]; rfl
    · rfl
  · rw [dset_of_not_mem v h, dget_append, dget_cons]
    by_cases hk : k = k'
    · subst hk; simp [dget_eq_none_iff.2 h]
    · cases dget d k' <;> simp [hk, dget]

theorem keys_foldl_dset (ps d : List (α × β)) :
    (ps.foldl (fun d p => dset d p.1 p.2) d).map (·.1) = (ps.map (·.1)).foldl ins (d.map (·.1)) := by
  induction ps generalizing d with
  | nil => rfl
  | cons p ps ih => rw [List.foldl_cons, ih, keys_dset, List.map_cons, List.foldl_cons]

theorem foldl_dset_nodup (ps : List (α × β)) {d : List (α × β)} (h : (d.map (·.1)).Nodup) :
    ((ps.foldl (fun d p => dset d p.1 p.2) d).map (·.1)).Nodup :=
  keys_foldl_dset ps d ▸ foldl_ins_nodup _ _ h

omit [LawfulBEq α] in
theorem mem_foldl_dset {ps d : List (α × β)} {q : α × β} (h : q ∈ ps.foldl (fun d p => dset d p.1 p.2) d) :
    q ∈ d ∨ q ∈ ps := by
  induction ps generalizing d with
  | nil => exact .inl h
  | cons p ps ih =>
    rcases ih h with h | h
    · exact (mem_dset h).imp_right (fun (e : q = _) => e ▸ List.mem_cons_self)
    · exact .inr (List.mem_cons_of_mem _ h)

theorem foldl_dset_of_nodup (ps d : List (α × β)) (h : ((d ++ ps).map (·.1)).Nodup) :
    ps.foldl (fun d p => dset d p.1 p.2) d = d ++ ps := by
  induction ps generalizing d with
  | nil => simp
  | cons p ps ih =>
    have hp : p.1 ∉ d.map (·.1) := fun hx =>
      (List.nodup_append.1 (List.map_append ▸ h)).2.2 _ hx _ (by simp) rfl
    rw [List.foldl_cons, dset_of_not_mem _ hp, ih _ (by simpa using h), List.append_assoc, List.singleton_append]

theorem dget_foldl_dset (ps d : List (α × β)) (k : α) :
    dget (ps.foldl (fun d p => dset d p.1 p.2) d) k = (dget ps.reverse k).or (dget d k) := by
  induction ps generalizing d with
  | nil => rfl
  | cons p ps ih =>
    rw [List.foldl_cons, ih, dget_dset, List.reverse_cons, dget_append, dget_cons]
    cases dget ps.reverse k with
    | some v => rfl
    | none => by_cases h : p.1 == k <;> simp [h, dget]

theorem lookup_eq_dget (d : List (α × β)) (k : α) : d.lookup k = dget d k := by
  induction d with
  | nil => rfl
  | cons p d ih =>
    obtain ⟨a, b⟩ := p
    rw [List.lookup_cons, dget_cons, ih, BEq.comm]
    cases a == k <;> rfl

theorem lookup_mem {d : List (α × β)} {k : α} {v : β} (h : d.lookup k = some v) : (k, v) ∈ d :=
  mem_of_dget ((lookup_eq_dget d k).symm.trans h)

end AR
