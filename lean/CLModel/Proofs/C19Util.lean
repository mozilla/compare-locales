/-
C19: the callables of lint/util.py (Lint/Util.lean) and the result side of lint/cli.py `main` (Lint/Cli.lean).  The mirror
callable passes over `Skipped` entries (`mirrorGo_*`) and re-roots the first hit (`expandTop_rooted`); the exit status
(`exitCode_*`); `main`'s loop is `lint` on the resolved files (`runFiles_eq_lint`, `exists_resolved`).
-/
import CLModel.Lint.Util
import CLModel.Lint.Cli
import CLModel.Proofs.C19Run
namespace C19Util
open LintUtil PM

/-- an entry the mirror callable passes over for `path`: it has no reference, or its reference matcher does not match -/
def Skipped (path : Text) (r : Rule) : Prop :=
  r.reference = none ∨ ∃ m, r.reference = some m ∧ m.match path = .ok none

theorem mirrorGo_skip (root path : Text) (r : Rule) (rest : List Rule) (h : Skipped path r) :
    mirrorGo root path (r :: rest) = mirrorGo root path rest := by
  rcases h with h | ⟨m, hm, hn⟩
  · simp [mirrorGo, h]
  · simp [mirrorGo, hm, hn]

theorem mirrorGo_skip_prefix (root path : Text) (pre rest : List Rule) (h : ∀ x ∈ pre, Skipped path x) :
    mirrorGo root path (pre ++ rest) = mirrorGo root path rest := by
  induction pre with
  | nil => rfl
  | cons x pre ih =>
    rw [List.cons_append, mirrorGo_skip _ _ _ _ (h x List.mem_cons_self)]
    exact ih (fun y hy => h y (List.mem_cons_of_mem _ hy))

theorem mirrorGo_insert (root path : Text) (pre post : List Rule) (r : Rule) (h : r.reference = none) :
    mirrorGo root path (pre ++ r :: post) = mirrorGo root path (pre ++ post) := by
  induction pre with
  | nil => exact mirrorGo_skip _ _ _ _ (Or.inl h)
  | cons x pre ih =>
    simp only [List.cons_append, mirrorGo]
    cases hx : x.reference with
    | none => exact ih
    | some m =>
      simp only
      cases m.match path with
      | error e => rfl
      | ok d =>
        cases d with
        | none => exact ih
        | some _ => rfl

theorem mirrorGo_filter (root path : Text) (ms : List Rule) :
    mirrorGo root path ms = mirrorGo root path (ms.filter (fun r => r.reference.isSome)) := by
  induction ms with
  | nil => rfl
  | cons x ms ih =>
    cases hx : x.reference with
    | none =>
      rw [mirrorGo_skip _ _ _ _ (Or.inl hx), List.filter_cons]
      simp [hx, ih]
    | some m =>
      rw [List.filter_cons]
      simp only [hx, Option.isSome_some, if_true, mirrorGo]
      cases m.match path with
      | error e => rfl
      | ok d =>
        cases d with
        | none => exact ih
        | some _ => rfl

theorem mirrorGo_hit (root path : Text) (r : Rule) (rest : List Rule) (m : Matcher) (d : GroupDict)
    (hr : r.reference = some m) (hm : m.match path = .ok (some d)) :
    mirrorGo root path (r :: rest) =
      (match m.sub (reroot m root) path with
       | .error e => .error e
       | .ok ref => .ok (ref, r.test)) := by
  simp only [mirrorGo, hr, hm]
  cases m.sub (reroot m root) path <;> rfl

theorem mirrorGo_none (root path : Text) (ms : List Rule) (h : ∀ x ∈ ms, Skipped path x) :
    mirrorGo root path ms = .ok (none, none) := by
  have := mirrorGo_skip_prefix root path ms [] h
  rw [List.append_nil] at this
  rw [this]
  rfl

theorem reroot_env (m : Matcher) (root : Text) : (reroot m root).env = m.env := rfl

theorem reroot_nodes (m : Matcher) (root : Text) : (reroot m root).pattern.nodes = m.pattern.nodes := rfl

theorem reroot_root (m : Matcher) (root : Text) : (reroot m root).pattern.root = some root := rfl

/-- `Pattern.expand` of a rooted pattern = the root (unless the first segment is absolute) followed by the expansion
    of the same pattern without a root -/
theorem expandTop_rooted (p : Pattern) (root : Text) (env : Env) (t : Text)
    (h : expandTop { p with root := some root } env = .ok t) :
    ∃ body, expandTop { p with root := none } env = .ok body ∧ (t = root ++ body ∨ t = body) := by
  unfold expandTop expandPat at h ⊢
  simp only [rootOf] at h ⊢
  cases hn : p.nodes with
  | nil => simp [hn, bind, Except.bind] at h
  | cons n0 rest =>
    simp only [hn] at h ⊢
    cases h0 : expandNode (expandVal (fuelFor env)) n0 env false with
    | error e =>
      rw [h0] at h
      cases e <;> simp [bind, Except.bind, throw, throwThe, MonadExceptOf.throw] at h
    | ok seg =>
      rw [h0] at h
      simp only [bind, Except.bind, pure, Except.pure] at h ⊢
      cases hb : expandChildren (expandVal (fuelFor env)) (n0 :: rest) env false with
      | error e => rw [hb] at h; cases h
      | ok body =>
        rw [hb] at h
        simp only at h
        cases h
        refine ⟨body, rfl, ?_⟩
        by_cases ha : isabs seg = true
        · right; simp [ha]
        · left; simp [ha]

open Lint LintCli Gen.Tables

theorem exitCode_nil (w : Bool) : exitCode [] w = 0 := rfl

theorem exitCode_le_one (rs : List PResult) (w : Bool) : exitCode rs w ≤ 1 := by
  unfold exitCode
  split
  · omega
  · split <;> omega

theorem exitCode_zero_iff (rs : List PResult) (w : Bool) :
    exitCode rs w = 0 ↔ rs = [] ∨ (w = false ∧ ∀ r ∈ rs, r.2.level = lintCliWarningLevel) := by
  unfold exitCode
  cases rs with
  | nil => simp
  | cons r rs =>
    simp only [List.isEmpty_cons, Bool.false_eq_true, if_false, reduceCtorEq, false_or]
    cases w with
    | true => simp
    | false =>
      simp only [Bool.not_false, Bool.and_true, true_and]
      by_cases h : (r :: rs).all (fun r => r.2.level == lintCliWarningLevel) = true
      · simp only [h, if_true, true_iff]
        intro x hx
        have := List.all_eq_true.1 h x hx
        simpa using this
      · simp only [h, Bool.false_eq_true, if_false]
        constructor
        · intro h1; cases h1
        · intro hall
          exfalso
          apply h
          rw [List.all_eq_true]
          intro x hx
          simpa using hall x hx

theorem exitCode_one_iff (rs : List PResult) (w : Bool) :
    exitCode rs w = 1 ↔ rs ≠ [] ∧ (w = true ∨ ∃ r ∈ rs, r.2.level ≠ lintCliWarningLevel) := by
  have h0 := exitCode_zero_iff rs w
  have hle := exitCode_le_one rs w
  constructor
  · intro h1
    have hne : ¬ exitCode rs w = 0 := by omega
    rw [h0] at hne
    refine ⟨fun e => hne (Or.inl e), ?_⟩
    cases w with
    | true => exact Or.inl rfl
    | false =>
      right
      apply Classical.byContradiction
      intro hc
      apply hne
      right
      refine ⟨rfl, ?_⟩
      intro r hr
      apply Classical.byContradiction
      intro hl
      exact hc ⟨r, hr, hl⟩
  · rintro ⟨hne, hw⟩
    have : ¬ exitCode rs w = 0 := by
      rw [h0]
      rintro (e | ⟨hwf, hall⟩)
      · exact hne e
      · rcases hw with hw | ⟨r, hr, hl⟩
        · rw [hw] at hwf; cases hwf
        · exact hl (hall r hr)
    omega

theorem runFiles_eq_lint (inp : MainIn) (ls : List Linted) (rs : List PResult)
    (tr : List (Lint.Text × LintUtil.RefTests)) (h : runFiles inp ls = .ok (rs, tr)) :
    ∃ fis, resolve inp ls = .ok (fis, tr) ∧ lint fis = .ok rs := by
  induction ls generalizing rs tr with
  | nil =>
    simp only [runFiles] at h
    cases h
    exact ⟨[], rfl, rfl⟩
  | cons f ls ih =>
    simp only [runFiles] at h
    simp only [resolve]
    by_cases hp : hasParser f.path = true
    · simp only [hp, Bool.not_true, Bool.false_eq_true, if_false] at h ⊢
      cases hg : LintUtil.getRefTests (modeOf inp) (duringIteration inp.files) inp.refRoot f.path with
      | error e => rw [hg] at h; cases h
      | ok rt =>
        rw [hg] at h
        simp only at h ⊢
        cases hl : lintFile { path := f.path, contents := f.contents, cur := f.cur, ref := referenceOf inp.fs rt.1 } with
        | error e => rw [hl] at h; cases h
        | ok a =>
          rw [hl] at h
          simp only at h
          cases hr : runFiles inp ls with
          | error e => rw [hr] at h; cases h
          | ok bt =>
            rw [hr] at h
            obtain ⟨b, t⟩ := bt
            simp only at h
            cases h
            obtain ⟨fis, hres, hlint⟩ := ih b t hr
            rw [hres]
            refine ⟨_, rfl, ?_⟩
            rw [C19Run.lint_cons]
            simp only [fileResults, hp, Bool.not_true, Bool.false_eq_true, if_false, hl, hlint]
    · have hp' : hasParser f.path = false := by simpa using hp
      simp only [hp', Bool.not_false, if_true] at h ⊢
      exact ih rs tr h

theorem resolve_files (inp : MainIn) (ls : List Linted) (fis : List FileIn)
    (tr : List (Lint.Text × LintUtil.RefTests)) (h : resolve inp ls = .ok (fis, tr)) :
    fis.map (fun f => (f.path, f.contents, f.cur)) =
      (ls.filter (fun f => hasParser f.path)).map (fun f => (f.path, f.contents, f.cur)) := by
  induction ls generalizing fis tr with
  | nil => simp only [resolve] at h; cases h; rfl
  | cons f ls ih =>
    simp only [resolve] at h
    by_cases hp : hasParser f.path = true
    · simp only [hp, Bool.not_true, Bool.false_eq_true, if_false] at h
      cases hg : LintUtil.getRefTests (modeOf inp) (duringIteration inp.files) inp.refRoot f.path with
      | error e => rw [hg] at h; cases h
      | ok rt =>
        rw [hg] at h
        simp only at h
        cases hr : resolve inp ls with
        | error e => rw [hr] at h; cases h
        | ok bt =>
          rw [hr] at h
          obtain ⟨b, t⟩ := bt
          simp only at h
          cases h
          simp [hp, ih b t hr]
    · have hp' : hasParser f.path = false := by simpa using hp
      simp only [hp', Bool.not_false, if_true] at h
      simp [hp', ih fis tr h]

theorem exists_resolved (inp : MainIn) (ls : List Linted) (fis : List FileIn)
    (tr : List (Lint.Text × LintUtil.RefTests)) (h : resolve inp ls = .ok (fis, tr))
    (f : Linted) (hf : f ∈ ls) (hp : hasParser f.path = true) :
    ∃ fi ∈ fis, fi.path = f.path ∧ fi.contents = f.contents ∧ fi.cur = f.cur := by
  have hm := resolve_files inp ls fis tr h
  have : (f.path, f.contents, f.cur) ∈ (ls.filter (fun f => hasParser f.path)).map (fun f => (f.path, f.contents, f.cur)) :=
    List.mem_map.2 ⟨f, List.mem_filter.2 ⟨hf, hp⟩, rfl⟩
  rw [← hm] at this
  obtain ⟨fi, hfi, he⟩ := List.mem_map.1 this
  simp only [Prod.mk.injEq] at he
  exact ⟨fi, hfi, he.1, he.2.1, he.2.2⟩

end C19Util
