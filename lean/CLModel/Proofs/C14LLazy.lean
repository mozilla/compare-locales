/-
C14: the laziness of `ProjectConfig._filter` / `cache`, exactly.  `Paths/FilterM.lean` keeps the raise sites and the evaluation
order of the Python; here that order is characterised declaratively, by equations with no hypothesis that anything returns: an
`any(...)` over a generator is the first answer that is not `ok false` (`firstD`), the reverse rule scan is decided by the first
rule (from the end) whose test, path first and then key, is not `ok false`, and the included configurations and the two loops of
`cache` are eager (`mapM`, in order).  From `RelC` on the file ties this to pattern texts: `leaf_eval` evaluates a leaf
configuration assuming only that every `Matcher(...)` is built and every `with_env` of `cache` returns, `CoveredLazy` and
`RuleSkipped` are the lazy readings of "covered" and "does not apply".
-/
import CLModel.Paths.FilterM
import CLModel.Proofs.C14MCompose
import CLModel.Proofs.C14MCor
namespace C14L
open Filt FiltM C14M Filt.Spec

/-- the first element that is not `ok false` (a `true`, or an exception); `ok false` if there is none -/
def firstD {ε : Type} : List (Except ε Bool) → Except ε Bool
  | [] => .ok false
  | .ok false :: rest => firstD rest
  | x :: _ => x

/-- the answers at which an `any(...)` over a generator stops: `True`, or an exception -/
def decisive {ε : Type} : Except ε Bool → Bool
  | .ok false => false
  | _ => true

theorem firstD_cons {ε : Type} (x : Except ε Bool) (rest : List (Except ε Bool)) :
    firstD (x :: rest) = if decisive x then x else firstD rest := by
  cases x with
  | error e => rfl
  | ok b => cases b <;> rfl

theorem firstD_eq_find {ε : Type} (l : List (Except ε Bool)) :
    firstD l = match l.find? decisive with | some x => x | none => .ok false := by
  induction l with
  | nil => rfl
  | cons x rest ih =>
    rw [firstD_cons, List.find?_cons]
    cases hd : decisive x <;> simp [ih]

theorem decisive_eq_false {ε : Type} {x : Except ε Bool} : decisive x = false ↔ x = .ok false := by
  cases x with
  | error e => simp [decisive]
  | ok b => cases b <;> simp [decisive]

theorem firstD_ok_false_iff {ε : Type} (l : List (Except ε Bool)) :
    firstD l = .ok false ↔ ∀ x ∈ l, x = .ok false := by
  rw [firstD_eq_find]
  cases h : l.find? decisive with
  | none => simpa [decisive_eq_false] using h
  | some y =>
    have hy : decisive y = true := List.find?_some h
    refine ⟨fun (e : y = .ok false) => ?_, fun hall => hall y (List.mem_of_find?_eq_some h)⟩
    rw [e] at hy
    exact absurd hy Bool.false_ne_true

theorem firstD_eq_iff {ε : Type} (l : List (Except ε Bool)) (x : Except ε Bool) (hx : decisive x = true) :
    firstD l = x ↔ ∃ pre post, l = pre ++ x :: post ∧ ∀ y ∈ pre, y = .ok false := by
  have hfind : firstD l = x ↔ l.find? decisive = some x := by
    rw [firstD_eq_find]
    cases l.find? decisive with
    | none => exact ⟨fun (e : .ok false = x) => by subst e; exact absurd hx Bool.false_ne_true, nofun⟩
    | some y => exact ⟨congrArg some, Option.some.inj⟩
  simp only [hfind, List.find?_eq_some_iff_append, hx, true_and, Bool.not_eq_true', decisive_eq_false]

theorem firstD_of_prefix {ε : Type} (pre : List (Except ε Bool)) (x : Except ε Bool) (post : List (Except ε Bool))
    (hpre : ∀ y ∈ pre, y = .ok false) (hx : decisive x = true) : firstD (pre ++ x :: post) = x :=
  (firstD_eq_iff _ x hx).2 ⟨pre, post, rfl, hpre⟩

theorem firstD_ok_true_iff {ε : Type} (l : List (Except ε Bool)) :
    firstD l = .ok true ↔ ∃ pre post, l = pre ++ .ok true :: post ∧ ∀ y ∈ pre, y = .ok false :=
  firstD_eq_iff l (.ok true) rfl

theorem firstD_error_iff {ε : Type} (l : List (Except ε Bool)) (e : ε) :
    firstD l = .error e ↔ ∃ pre post, l = pre ++ .error e :: post ∧ ∀ y ∈ pre, y = .ok false :=
  firstD_eq_iff l (.error e) rfl

theorem anyMatchS_eq (fp : Text) : ∀ (ps : List PM.Matcher), anyMatchS fp ps = firstD (ps.map (matchesS · fp))
  | [] => rfl
  | p :: ps => by
    rw [anyMatchS, List.map_cons, firstD_cons, ← anyMatchS_eq fp ps]
    cases h : matchesS p fp with
    | error e => rfl
    | ok b => cases b <;> rfl

theorem exists_split_cons {α : Type} {P Q : α → Prop} (x : α) (l : List α) :
    (∃ pre y post, x :: l = pre ++ y :: post ∧ (∀ q ∈ pre, P q) ∧ Q y) ↔
      Q x ∨ (P x ∧ ∃ pre y post, l = pre ++ y :: post ∧ (∀ q ∈ pre, P q) ∧ Q y) := by
  constructor
  · rintro ⟨pre, y, post, h, hp, hq⟩
    cases pre with
    | nil =>
      simp only [List.nil_append, List.cons.injEq] at h
      exact Or.inl (h.1 ▸ hq)
    | cons p pre' =>
      simp only [List.cons_append, List.cons.injEq] at h
      exact Or.inr ⟨h.1 ▸ hp p List.mem_cons_self, pre', y, post, h.2, fun q hq' => hp q (List.mem_cons_of_mem _ hq'), hq⟩
  · rintro (hq | ⟨hx, pre, y, post, rfl, hp, hq⟩)
    · exact ⟨[], x, l, rfl, (fun _ h => by cases h), hq⟩
    · refine ⟨x :: pre, y, post, rfl, fun q h => ?_, hq⟩
      rcases List.mem_cons.1 h with rfl | h
      · exact hx
      · exact hp q h

/-- `rs` is in scan order, the reverse of the configuration's; nothing is asked of the rules behind the decisive one -/
theorem scan_ok_iff (fp : Text) (entity : Option Text) (rs : List CachedRuleS) (a : Action) :
    scanRulesS fp entity rs = .ok a ↔
      (∃ pre r post, rs = pre ++ r :: post ∧ (∀ q ∈ pre, ruleTestS fp entity q = .ok false) ∧
        ruleTestS fp entity r = .ok true ∧ a = r.action) ∨
      ((∀ q ∈ rs, ruleTestS fp entity q = .ok false) ∧ a = .error) := by
  induction rs with
  | nil =>
    simp only [scanRulesS, pure, Except.pure, Except.ok.injEq, List.not_mem_nil, false_imp_iff, implies_true, true_and]
    constructor
    · intro h; exact Or.inr h.symm
    · rintro (⟨pre, r, post, h, _⟩ | h)
      · cases pre <;> cases h
      · exact h.symm
  | cons r rest ih =>
    rw [scanRulesS_cons, exists_split_cons (P := fun q => ruleTestS fp entity q = .ok false)
      (Q := fun y => ruleTestS fp entity y = .ok true ∧ a = y.action), List.forall_mem_cons]
    cases ht : ruleTestS fp entity r with
    | error e => simp only [reduceCtorEq, false_and, exists_and_right, or_self]
    | ok b =>
      cases b with
      | true => simp only [eq_comm, Except.ok.injEq, true_and, Bool.false_eq_true, exists_and_right, false_and, or_false]
      | false => simp only [ih, exists_and_right, Except.ok.injEq, Bool.false_eq_true, false_and, true_and, false_or]

theorem scan_error_iff (fp : Text) (entity : Option Text) (rs : List CachedRuleS) (e : PyErr) :
    scanRulesS fp entity rs = .error e ↔
      ∃ pre r post, rs = pre ++ r :: post ∧ (∀ q ∈ pre, ruleTestS fp entity q = .ok false) ∧
        ruleTestS fp entity r = .error e := by
  induction rs with
  | nil =>
    simp only [scanRulesS, pure, Except.pure, reduceCtorEq, false_iff, not_exists, not_and]
    intro pre r post h
    cases pre <;> cases h
  | cons r rest ih =>
    rw [scanRulesS_cons, exists_split_cons (P := fun q => ruleTestS fp entity q = .ok false)
      (Q := fun y => ruleTestS fp entity y = .error e)]
    cases ht : ruleTestS fp entity r with
    | error e' => simp only [Except.error.injEq, reduceCtorEq, exists_and_right, false_and, or_false]
    | ok b =>
      cases b with
      | true => simp only [reduceCtorEq, Except.ok.injEq, Bool.true_eq_false, exists_and_right, false_and, or_self]
      | false => simp only [ih, exists_and_right, reduceCtorEq, true_and, false_or]

theorem cachePaths_eq (loc : Text) : ∀ (ps : List PathEntryS),
    cachePaths loc ps = (ps.filter (fun p => enabledFor p.locales loc)).mapM (fun p => p.l10n.withEnv (localeEnv loc))
  | [] => rfl
  | p :: ps => by
    rw [cachePaths, List.filter_cons]
    cases he : enabledFor p.locales loc
    · simp only [Bool.not_false, ↓reduceIte, Bool.false_eq_true]
      exact cachePaths_eq loc ps
    · simp only [Bool.not_true, Bool.false_eq_true, ↓reduceIte, List.mapM_cons]
      rw [cachePaths_eq loc ps]

theorem cacheRules_eq (loc : Text) : ∀ (rs : List RuleS),
    cacheRules loc rs = rs.mapM (fun r => do
      let m ← r.path.withEnv (localeEnv loc)
      pure (⟨m, r.key, r.action⟩ : CachedRuleS))
  | [] => rfl
  | r :: rs => by
    rw [cacheRules, List.mapM_cons, cacheRules_eq loc rs]
    simp only [bind_assoc, pure_bind]

theorem childActionsS_eq_mapM (file : File) (entity : Option Text) : ∀ (cs : List ConfigS),
    childActionsS cs file entity = cs.mapM (fun c => filterInnerS c file entity)
  | [] => rfl
  | c :: cs => by
    rw [childActionsS, List.mapM_cons, childActionsS_eq_mapM file entity cs]

/-- `exclude.filter(l10n_file) == "error"` -/
def excludeHitS (file : File) (ex : ConfigS) : Except PyErr Bool :=
  match filterS ex file none with
  | .ok a => .ok (a == Action.error)
  | .error e => .error e

theorem anyExcludeErrorS_eq_firstD (file : File) : ∀ (exs : List ConfigS),
    anyExcludeErrorS exs file = firstD (exs.map (excludeHitS file))
  | [] => rfl
  | ex :: exs => by
    rw [anyExcludeErrorS, List.map_cons, firstD_cons, ← anyExcludeErrorS_eq_firstD file exs]
    simp only [excludeHitS, filterS]
    by_cases hl : (allLocalesS ex).contains file.locale = true
    · simp only [hl, Bool.not_true, Bool.false_eq_true, ↓reduceIte, bind, Except.bind, pure, Except.pure]
      cases hi : filterInnerS ex file none with
      | error e => simp [decisive]
      | ok r =>
        cases r with
        | none => simp +decide [decisive]
        | some a => cases a <;> simp +decide [decisive]
    · have hl' : (allLocalesS ex).contains file.locale = false := by simpa using hl
      have hl'' : file.locale ∉ allLocalesS ex := by simpa using hl
      simp +decide [hl', hl'', bind, Except.bind, pure, Except.pure, decisive]

/-- a cached rule stands for a rule text: same key and action, and its matcher answers as `patMatches` of the text -/
def RelC (environ : Environ) (root : Option Text) (loc : Text) (q : RuleM) (c : CachedRuleS) : Prop :=
  c.key = q.key ∧ c.action = q.action ∧ ∀ fp, patMatches environ root q.path loc fp = matchesS c.path fp

theorem patMatches_of_parts {environ : Environ} {root : Option Text} {pat loc : Text} {m b : PM.Matcher}
    (hm : PM.mkMatcher pat environ root = .ok m) (hb : m.withEnv (localeEnv loc) = .ok b) (fp : Text) :
    patMatches environ root pat loc fp = matchesS b fp := by
  simp only [patMatches, boundMatcher, hm, hb, bind, Except.bind]

theorem bound_of_parts {environ : Environ} {root : Option Text} {pat loc : Text} {m : PM.Matcher}
    (hm : PM.mkMatcher pat environ root = .ok m) :
    boundMatcher environ root pat loc = m.withEnv (localeEnv loc) := by
  simp only [boundMatcher, hm, bind, Except.bind]

theorem cacheRules_pairs {environ : Environ} {root : Option Text} (loc : Text) :
    ∀ {rules : List RuleM} {rs : List RuleS}, buildRules environ root rules = .ok rs →
      (∀ q ∈ rules, ∃ b, boundMatcher environ root q.path loc = .ok b) →
      ∃ l : List (RuleM × CachedRuleS), rules = l.map (·.1) ∧ cacheRules loc rs = .ok (l.map (·.2)) ∧
        ∀ p ∈ l, RelC environ root loc p.1 p.2
  | [], rs, hb, _ => by
    simp only [buildRules, pure, Except.pure, Except.ok.injEq] at hb
    subst hb
    exact ⟨[], rfl, rfl, fun p hp => by cases hp⟩
  | q :: rest, rs, hb, hall => by
    simp only [buildRules] at hb
    obtain ⟨m, hm, hb⟩ := bind_ok hb
    obtain ⟨rs', hrs', hb⟩ := bind_ok hb
    simp only [pure, Except.pure, Except.ok.injEq] at hb
    subst hb
    obtain ⟨b, hbq⟩ := hall q (by simp)
    rw [bound_of_parts hm] at hbq
    obtain ⟨l, h1, h2, h3⟩ := cacheRules_pairs loc hrs' (fun x hx => hall x (by simp [hx]))
    refine ⟨(q, ⟨b, q.key, q.action⟩) :: l, by simp [h1], ?_, ?_⟩
    · simp only [cacheRules, hbq, h2, bind, Except.bind, pure, Except.pure, List.map_cons]
    · intro p hp
      rcases List.mem_cons.mp hp with rfl | hp
      · exact ⟨rfl, rfl, patMatches_of_parts hm hbq⟩
      · exact h3 p hp

theorem cachePaths_pairs {environ : Environ} {root : Option Text} (loc : Text) :
    ∀ {paths : List PathEntryM} {ps : List PathEntryS}, buildPaths environ root paths = .ok ps →
      (∀ p ∈ paths, enabledFor p.locales loc = true → ∃ b, boundMatcher environ root p.l10n loc = .ok b) →
      ∃ l : List (PathEntryM × PM.Matcher),
        paths.filter (fun p => enabledFor p.locales loc) = l.map (·.1) ∧ cachePaths loc ps = .ok (l.map (·.2)) ∧
        ∀ p ∈ l, ∀ fp, patMatches environ root p.1.l10n loc fp = matchesS p.2 fp
  | [], ps, hb, _ => by
    simp only [buildPaths, pure, Except.pure, Except.ok.injEq] at hb
    subst hb
    exact ⟨[], rfl, rfl, fun p hp => by cases hp⟩
  | q :: rest, ps, hb, hall => by
    simp only [buildPaths] at hb
    obtain ⟨m, hm, hb⟩ := bind_ok hb
    obtain ⟨ps', hps', hb⟩ := bind_ok hb
    simp only [pure, Except.pure, Except.ok.injEq] at hb
    subst hb
    obtain ⟨l, h1, h2, h3⟩ := cachePaths_pairs loc hps' (fun x hx => hall x (by simp [hx]))
    cases he : enabledFor q.locales loc with
    | false =>
      refine ⟨l, by simp [List.filter_cons, he, h1], ?_, h3⟩
      simp only [cachePaths, he, Bool.not_false, ↓reduceIte, h2]
    | true =>
      obtain ⟨b, hbq⟩ := hall q (by simp) he
      rw [bound_of_parts hm] at hbq
      refine ⟨(q, b) :: l, by simp [List.filter_cons, he, h1], ?_, ?_⟩
      · simp only [cachePaths, he, Bool.not_true, Bool.false_eq_true, ↓reduceIte, hbq, h2, bind, Except.bind, pure,
          Except.pure, List.map_cons]
      · intro p hp
        rcases List.mem_cons.mp hp with rfl | hp
        · exact patMatches_of_parts hm hbq
        · exact h3 p hp

theorem buildPaths_locales {environ : Environ} {root : Option Text} : ∀ {paths : List PathEntryM} {ps : List PathEntryS},
    buildPaths environ root paths = .ok ps → ps.map (·.locales) = paths.map (·.locales)
  | [], ps, hb => by
    simp only [buildPaths, pure, Except.pure, Except.ok.injEq] at hb
    subst hb; rfl
  | q :: rest, ps, hb => by
    simp only [buildPaths] at hb
    obtain ⟨m, _, hb⟩ := bind_ok hb
    obtain ⟨ps', hps', hb⟩ := bind_ok hb
    simp only [pure, Except.pure, Except.ok.injEq] at hb
    subst hb
    simp [buildPaths_locales hps']

theorem leaf_locales {environ : Environ} {root : Option Text} {paths : List PathEntryM} {ps : List PathEntryS}
    (locales : Option (List Text)) (rs : List RuleS) (hb : buildPaths environ root paths = .ok ps) (l : Text) :
    (allLocalesS (.mk locales ps rs [] [])).contains l = namesLocale locales paths l := by
  have hm := buildPaths_locales hb
  have h1 : ∀ (xs : List (Option (List Text))),
      (xs.flatMap optLocales).contains l = xs.any (fun o => names o l) := by
    intro xs
    induction xs with
    | nil => rfl
    | cons x xs ih =>
      rw [List.flatMap_cons, List.any_cons, ← ih, ← contains_optLocales]
      rw [Bool.eq_iff_iff]; simp
  have h2 : ps.flatMap (fun p => optLocales p.locales) = (ps.map (·.locales)).flatMap optLocales := by
    rw [List.flatMap_map]
  have h3 : paths.any (fun p => names p.locales l) = (paths.map (·.locales)).any (fun o => names o l) := by
    rw [List.any_map]; rfl
  simp only [allLocalesS, allLocalesListS, ownLocalesS, List.append_nil, namesLocale]
  rw [h2, hm, h3, ← h1, ← contains_optLocales]
  rw [Bool.eq_iff_iff]; simp

/-- The hypotheses ask that every `Matcher(...)` is constructed (`build`) and that every `with_env` of `cache` returns; no
    `match` call is assumed to return. -/
theorem leaf_eval {locales : Option (List Text)} {environ : Environ} {root : Option Text}
    {paths : List PathEntryM} {rules : List RuleM} {s : ConfigS} {file : File} (entity : Option Text)
    (hb : build (.mk locales environ root paths rules [] []) = .ok s)
    (hloc : namesLocale locales paths file.locale = true)
    (hbindp : ∀ p ∈ paths, enabledFor p.locales file.locale = true →
      ∃ b, boundMatcher environ root p.l10n file.locale = .ok b)
    (hbindr : ∀ q ∈ rules, ∃ b, boundMatcher environ root q.path file.locale = .ok b) :
    ∃ (lp : List (PathEntryM × PM.Matcher)) (lr : List (RuleM × CachedRuleS)),
      paths.filter (fun p => enabledFor p.locales file.locale) = lp.map (·.1) ∧ rules = lr.map (·.1) ∧
      (∀ p ∈ lr, RelC environ root file.locale p.1 p.2) ∧
      filterM (.mk locales environ root paths rules [] []) file entity =
        (match firstD (lp.map (fun p => patMatches environ root p.1.l10n file.locale file.fullpath)) with
         | .ok true => scanRulesS file.fullpath entity (lr.map (·.2)).reverse
         | .ok false => .ok .ignore
         | .error e => .error e) := by
  have hb0 := hb
  rw [build] at hb
  obtain ⟨ps, hps, hb⟩ := bind_ok hb
  obtain ⟨rs, hrs, hb⟩ := bind_ok hb
  simp only [buildList, bind, Except.bind, pure, Except.pure, Except.ok.injEq] at hb
  subst hb
  obtain ⟨lp, p1, p2, p3⟩ := cachePaths_pairs file.locale hps hbindp
  obtain ⟨lr, r1, r2, r3⟩ := cacheRules_pairs file.locale hrs hbindr
  refine ⟨lp, lr, p1, r1, r3, ?_⟩
  have hmap : lp.map (fun p => patMatches environ root p.1.l10n file.locale file.fullpath)
      = (lp.map (·.2)).map (matchesS · file.fullpath) := by
    rw [List.map_map]
    apply List.map_congr_left
    intro p hp
    exact p3 p hp file.fullpath
  rw [hmap, ← anyMatchS_eq]
  simp only [filterM, hb0, bind, Except.bind, filterS, leaf_locales locales rs hps, hloc, Bool.not_true,
    Bool.false_eq_true, ↓reduceIte, filterInnerS, anyExcludeErrorS, childActionsS, pure, Except.pure,
    List.contains_nil, ownStepS, cacheS, p2, r2, List.nil_append]
  cases ha : anyMatchS file.fullpath (lp.map (·.2)) with
  | error e => rfl
  | ok b =>
    cases b with
    | false => simp [pick]
    | true =>
      simp only [↓reduceIte]
      cases hs : scanRulesS file.fullpath entity (lr.map (·.2)).reverse with
      | error e => rfl
      | ok a => cases a <;> simp [pick]

theorem ruleTest_text {environ : Environ} {root : Option Text} {loc : Text} {q : RuleM} {c : CachedRuleS}
    (h : RelC environ root loc q c) (fp : Text) (entity : Option Text) :
    ruleTestS fp entity c =
      (match patMatches environ root q.path loc fp with
       | .ok b => .ok (b && keyOK q.key entity)
       | .error e => .error e) := by
  obtain ⟨h1, _, h3⟩ := h
  rw [ruleTestS, h3 fp, h1]
  rfl

/-- the rule text tests `ok false` on the query: its matcher returns and (no match, or the key part does not fit) -/
def RuleSkipped (environ : Environ) (root : Option Text) (q : RuleM) (file : File) (entity : Option Text) : Prop :=
  ∃ b, patMatches environ root q.path file.locale file.fullpath = .ok b ∧ (b && keyOK q.key entity) = false

/-- the enabled `l10n` texts cover the file LAZILY: one of them matches and all enabled ones BEFORE it return
    "no match" (nothing is asked of the ones after it) -/
def CoveredLazy (environ : Environ) (root : Option Text) (paths : List PathEntryM) (file : File) : Prop :=
  ∃ p0 p p1, paths.filter (fun q => enabledFor q.locales file.locale) = p0 ++ p :: p1 ∧
    (∀ q ∈ p0, patMatches environ root q.l10n file.locale file.fullpath = .ok false) ∧
    patMatches environ root p.l10n file.locale file.fullpath = .ok true

theorem firstD_covered {environ : Environ} {root : Option Text} {paths : List PathEntryM} {file : File}
    {lp : List (PathEntryM × PM.Matcher)}
    (hlp : paths.filter (fun p => enabledFor p.locales file.locale) = lp.map (·.1))
    (hcov : CoveredLazy environ root paths file) :
    firstD (lp.map (fun p => patMatches environ root p.1.l10n file.locale file.fullpath)) = .ok true := by
  obtain ⟨p0, p, p1, hsplit, h0, hp⟩ := hcov
  rw [hlp] at hsplit
  obtain ⟨l0, l1', rfl, hl0, hl1'⟩ := List.map_eq_append_iff.mp hsplit
  obtain ⟨x, l1, rfl, hx, _⟩ := List.map_eq_cons_iff.mp hl1'
  rw [List.map_append, List.map_cons]
  have : patMatches environ root x.1.l10n file.locale file.fullpath = .ok true := by rw [hx]; exact hp
  rw [this]
  apply firstD_of_prefix _ _ _ _ rfl
  intro y hy
  obtain ⟨q, hq, rfl⟩ := List.mem_map.mp hy
  exact h0 q.1 (hl0 ▸ List.mem_map.mpr ⟨q, hq, rfl⟩)

theorem scan_split {environ : Environ} {root : Option Text} {pre post : List RuleM} {r : RuleM} {file : File}
    {entity : Option Text} {lr : List (RuleM × CachedRuleS)}
    (hlr : pre ++ r :: post = lr.map (·.1)) (hrel : ∀ p ∈ lr, RelC environ root file.locale p.1 p.2)
    (hpost : ∀ q ∈ post, RuleSkipped environ root q file entity) :
    ∃ (c : CachedRuleS) (lpre : List (RuleM × CachedRuleS)), RelC environ root file.locale r c ∧ pre = lpre.map (·.1) ∧
      (∀ p ∈ lpre, RelC environ root file.locale p.1 p.2) ∧
      scanRulesS file.fullpath entity (lr.map (·.2)).reverse =
        (match ruleTestS file.fullpath entity c with
         | .ok false => scanRulesS file.fullpath entity (lpre.map (·.2)).reverse
         | .ok true => .ok c.action
         | .error e => .error e) := by
  obtain ⟨a, b', rfl, ha, hb'⟩ := List.map_eq_append_iff.mp hlr.symm
  obtain ⟨y, b, rfl, hy, hb⟩ := List.map_eq_cons_iff.mp hb'
  refine ⟨y.2, a, hy ▸ hrel y (by simp), ha.symm, fun p hp => hrel p (by simp [hp]), ?_⟩
  rw [List.map_append, List.map_cons, List.reverse_append, List.reverse_cons, List.append_assoc, List.singleton_append]
  have hskip : ∀ c ∈ (b.map (·.2)).reverse, ruleTestS file.fullpath entity c = .ok false := by
    intro c hc
    rw [List.mem_reverse] at hc
    obtain ⟨p, hp, rfl⟩ := List.mem_map.mp hc
    obtain ⟨bb, h1, h2⟩ := hpost p.1 (hb ▸ List.mem_map.mpr ⟨p, hp, rfl⟩)
    rw [ruleTest_text (hrel p (by simp [hp])), h1]
    simp only [h2]
  generalize (b.map (·.2)).reverse = skipped at hskip
  induction skipped with
  | nil => exact scanRulesS_cons _ _ _ _
  | cons c cs ih =>
    rw [List.cons_append, scanRulesS_cons, hskip c (by simp)]
    exact ih (fun d hd => hskip d (by simp [hd]))

end C14L
