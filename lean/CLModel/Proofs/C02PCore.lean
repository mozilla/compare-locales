/- C02: list-based ("the text from `p` on reads `l`") regex lemmas, repeats over bodies of variable width, the rules of
   `P.skel` on a printed text for the parsers that skip white-space with `Parser.reWhitespace` (`PlainWs`: all but
   `DefinesParser`, which C02PInc treats by its own rules), and the views of a printed block list. -/
import CLModel.Proofs.C02Base
import CLModel.Proofs.WalkRel
import CLModel.Proofs.Skel
namespace C02P
open Rx P Gen.Pat C02X

theorem At.get {s : Array Nat} {p : Nat} {l : List Nat} (h : At s p l) (i : Nat) : s[p + i]? = l[i]? :=
  Txt.get_of_drop h i

theorem At.head {s : Array Nat} {p : Nat} {l : List Nat} (h : At s p l) : s[p]? = l.head? :=
  Txt.head?_of_drop h

theorem At.tail {s : Array Nat} {p c : Nat} {l : List Nat} (h : At s p (c :: l)) : At s (p + 1) l := by
  have : At s p ([c] ++ l) := h
  simpa using this.app

theorem At.hd {s : Array Nat} {p c : Nat} {l : List Nat} (h : At s p (c :: l)) : s[p]? = some c := by
  simpa using h.head

theorem At.left {s : Array Nat} {p : Nat} {a b : List Nat} (h : At s p (a ++ b)) (i : Nat) (hi : i < a.length) :
    s[p + i]? = some a[i] := by
  rw [h.get, List.getElem?_append_left hi, List.getElem?_eq_getElem hi]

theorem At.len {s : Array Nat} {p : Nat} {l : List Nat} (h : At s p l) : l.length = s.size - p := by
  rw [← h]; simp

theorem At.size_eq {s : Array Nat} {p : Nat} {l : List Nat} (h : At s p l) (hl : l ≠ []) : p + l.length = s.size := by
  have := h.len
  have := List.length_pos_iff.mpr hl
  omega

theorem At.size_ge {s : Array Nat} {p : Nat} {l : List Nat} (h : At s p l) (hl : l ≠ []) : p + l.length ≤ s.size := by
  have := h.size_eq hl; omega

theorem At.pos_lt {s : Array Nat} {p : Nat} {l : List Nat} (h : At s p l) (hl : l ≠ []) : p < s.size := by
  have := h.size_eq hl
  have : 0 < l.length := List.length_pos_iff.mpr hl
  omega

theorem At.nil_size {s : Array Nat} {p : Nat} (h : At s p []) : s.size ≤ p := by
  simpa using List.drop_eq_nil_iff.mp h

theorem At.slice {s : Array Nat} {p : Nat} {a b : List Nat} (h : At s p (a ++ b)) : slice s p (p + a.length) = a := by
  rw [slice_take s p a.length _ h]
  simp

theorem At.pySlice {s : Array Nat} {p : Nat} {a b : List Nat} (h : At s p (a ++ b)) {q : Nat} (hq : q = p + a.length) :
    pySlice s (p : Nat) (q : Nat) = a :=
  hq ▸ pySlice_of_drop s h

theorem At.drop_at {s : Array Nat} {p : Nat} {x rest : List Nat} (h : At s p (x ++ rest)) (j : Nat) (hj : j ≤ x.length) :
    At s (p + j) (x.drop j ++ rest) := by
  have h' : At s p (x.take j ++ (x.drop j ++ rest)) := by
    rw [← List.append_assoc, List.take_append_drop]; exact h
  have := h'.app
  rw [List.length_take, Nat.min_eq_left hj] at this
  exact this

theorem At.inside {s : Array Nat} {p q : Nat} {x rest : List Nat} (h : At s p (x ++ rest)) (h1 : p ≤ q)
    (h2 : q < p + x.length) : ∃ a t, a ∈ x ∧ At s q (a :: t) := by
  have hat := h.drop_at (q - p) (by omega)
  rw [show p + (q - p) = q by omega] at hat
  cases hd : x.drop (q - p) with
  | nil => have := congrArg List.length hd; simp at this; omega
  | cons a t => exact ⟨a, t ++ rest, List.mem_of_mem_drop (by rw [hd]; simp), by rw [hd] at hat; exact hat⟩

theorem At.end_eq {s : Array Nat} {p q : Nat} {x y rest : List Nat} (h : At s p (x ++ rest)) (h' : At s q (y ++ rest))
    (hy : y ≠ []) (hpq : p ≤ q) : p + x.length = q + y.length := by
  have h1 := h.len
  have h2 := h'.size_eq (by simp [hy])
  simp only [List.length_append] at h1 h2
  omega

theorem At.cast {s : Array Nat} {p q : Nat} {l : List Nat} (h : At s p l) (e : p = q) : At s q l := e ▸ h

theorem At.after_line {s : Array Nat} {p c : Nat} {t rest : List Nat} (h : At s p (c :: (t ++ 10 :: rest))) :
    At s (p + t.length + 2) rest := by
  have := h.tail.app.tail
  rwa [show p + 1 + t.length + 1 = p + t.length + 2 by omega] at this

theorem At.left_le {s : Array Nat} {p : Nat} {a b : List Nat} (h : At s p (a ++ b)) (ha : a ≠ []) :
    p + a.length ≤ s.size := by
  have := h.size_ge (by simp [ha])
  simp only [List.length_append] at this
  omega

theorem at_extract {s : Array Nat} {p : Nat} {a b : List Nat} (h : At s p (a ++ b)) :
    At (s.extract 0 (p + a.length)) p a := by
  unfold At at h ⊢
  rw [Array.toList_extract, List.extract_eq_drop_take]
  simp only [Nat.sub_zero, List.drop_zero, List.drop_take, Nat.add_sub_cancel_left, h, List.take_left]

theorem extract_size {s : Array Nat} {p : Nat} {a b : List Nat} (h : At s p (a ++ b)) (hb : b ≠ []) :
    (s.extract 0 (p + a.length)).size = p + a.length := by
  have := h.size_ge (by simp [hb])
  simp only [List.length_append] at this
  simp; omega

theorem at_zero (l : List Nat) : At l.toArray 0 l := by simp [At]

theorem head?_app_ne {a b : List Nat} (h : a ≠ []) : (a ++ b).head? = a.head? := by
  cases a with
  | nil => exact absurd rfl h
  | cons c t => rfl

theorem lit_at {s : Array Nat} {p c : Nat} {l : List Nat} (h : At s p (c :: l)) (caps) (k : K) :
    m s (.lit c) ⟨p, caps⟩ k = k ⟨p + 1, caps⟩ := m_lit_ok h.hd caps k

theorem lit_at_fail {s : Array Nat} {p c : Nat} {l : List Nat} (h : At s p l) (hne : l.head? ≠ some c) (caps) (k : K) :
    m s (.lit c) ⟨p, caps⟩ k = none := m_lit_fail (by rw [h.head]; exact hne) caps k

theorem step_at {s : Array Nat} {p c : Nat} {l : List Nat} (P : Nat → Bool) (h : At s p (c :: l)) (hp : P c = true)
    (caps) (k : K) : charStep s P ⟨p, caps⟩ k = k ⟨p + 1, caps⟩ := charStep_ok s P p c caps h.hd hp k

theorem step_at_fail {s : Array Nat} {p : Nat} {l : List Nat} (P : Nat → Bool) (h : At s p l)
    (hne : ∀ c, l.head? = some c → P c = false) (caps) (k : K) : charStep s P ⟨p, caps⟩ k = none := by
  apply charStep_fail
  cases hl : l.head? with
  | none => left; rw [h.head, hl]
  | some c => right; exact ⟨c, by rw [h.head, hl], hne c hl⟩

theorem m_seqLits (s : Array Nat) (r : Re) (cs : List Nat) (p : Nat) (l : List Nat) (caps) (k : K) (h : At s p (cs ++ l)) :
    m s (litsThen cs r) ⟨p, caps⟩ k = m s r ⟨p + cs.length, caps⟩ k :=
  litsThen_ok s r cs p caps k (fun i hi => h.left i hi)

theorem lit2_fail {s : Array Nat} {p : Nat} {l : List Nat} (c d : Nat) (h : At s p l) (hl : ∀ t, l ≠ c :: d :: t)
    (r : Re) (caps) (k : K) : m s (Re.seq (Re.lit c) (Re.seq (Re.lit d) r)) ⟨p, caps⟩ k = none := by
  rw [m_seq_def]
  cases l with
  | nil => exact lit_at_fail h (by simp) caps _
  | cons a l' =>
    by_cases hc : a = c
    · subst hc
      rw [lit_at h, m_seq_def]
      refine lit_at_fail h.tail (fun hd => ?_) caps _
      obtain ⟨t, rfl⟩ := List.head?_eq_some_iff.mp hd
      exact hl t rfl
    · exact lit_at_fail h (by simp [hc]) caps _

theorem run_hyps {s : Array Nat} {p : Nat} {x rest : List Nat} (P : Nat → Bool) (h : At s p (x ++ rest))
    (hx : ∀ c ∈ x, P c = true) : ∀ j, j < x.length → ∃ c, s[p + j]? = some c ∧ P c = true :=
  fun j hj => ⟨x[j], h.left j hj, hx _ (List.getElem_mem hj)⟩

theorem stop_hyps {s : Array Nat} {p : Nat} {x rest : List Nat} (P : Nat → Bool) (h : At s p (x ++ rest))
    (hrest : ∀ c, rest.head? = some c → P c = false) : ∀ c, s[p + x.length]? = some c → P c = false :=
  fun c hc => hrest c (by rw [← h.app.head]; exact hc)

theorem runLen_at {s : Array Nat} {p : Nat} {x rest : List Nat} (P : Nat → Bool) (h : At s p (x ++ rest))
    (hx : ∀ c ∈ x, P c = true) (hrest : ∀ c, rest.head? = some c → P c = false) :
    runLen P none (s.toList.drop p) = x.length := by
  have h1 := runAt_ge s P p x.length (run_hyps P h hx)
  have h2 := runAt_stop s P (stop_hyps P h hrest) (Nat.le_add_right p x.length)
  rw [runLen_none]; omega

theorem greedy_at {s : Array Nat} {p : Nat} {x rest : List Nat} (P : Nat → Bool) (caps) (k : K) (r : St) (mn : Nat)
    (h : At s p (x ++ rest)) (hx : ∀ c ∈ x, P c = true) (hrest : ∀ c, rest.head? = some c → P c = false)
    (hmn : mn ≤ x.length) (hp : p ≤ s.size) (hk : k ⟨p + x.length, caps⟩ = some r) :
    loop (charStep s P) true (s.size + 2 - p) mn none ⟨p, caps⟩ k = some r := by
  have hl := h.len
  simp only [List.length_append] at hl
  exact charLoop_hit s P caps k r x.length (s.size + 2 - p) p mn (by omega) hmn (run_hyps P h hx) (stop_hyps P h hrest) hk

theorem loop_at_none {s : Array Nat} {p : Nat} {x rest : List Nat} (P : Nat → Bool) (g : Bool) (caps) (k : K) (mn : Nat)
    (h : At s p (x ++ rest)) (hrest : ∀ c, rest.head? = some c → P c = false)
    (hk : ∀ j, j ≤ x.length → k ⟨p + j, caps⟩ = none) :
    loop (charStep s P) g (s.size + 2 - p) mn none ⟨p, caps⟩ k = none :=
  charLoop_none s P g caps k (stop_hyps P h hrest) mn (Nat.le_add_right p x.length) fun j h1 h2 => by
    have := hk (j - p) (by omega)
    rwa [show p + (j - p) = j by omega] at this

theorem loop_body_fail_pos (body : St → K → Option St) (g : Bool) (fuel : Nat) (mx : Option Nat) (st : St) (k : K)
    (hf : 0 < fuel) (h : ∀ k', body st k' = none) : loop body g fuel 0 mx st k = k st := by
  obtain ⟨f, rfl⟩ : ∃ f, fuel = f + 1 := ⟨fuel - 1, by omega⟩
  exact loop_body_fail body g f mx st k h

theorem loop_at_short {s : Array Nat} {p : Nat} {l : List Nat} (P : Nat → Bool) (g : Bool) (caps) (k : K) (fuel mn : Nat)
    (h : At s p l) (hl : ∀ c, l.head? = some c → P c = false) (hmn : 0 < mn) :
    loop (charStep s P) g fuel mn none ⟨p, caps⟩ k = none := by
  cases fuel with
  | zero => rw [loop]
  | succ f => exact loop_fail_min _ _ _ _ _ _ _ (fun k' => step_at_fail P h hl caps k') hmn

theorem lazy_at {s : Array Nat} {p : Nat} {x rest : List Nat} (P : Nat → Bool) (caps) (k : K) (r : St)
    (h : At s p (x ++ rest)) (hx : ∀ c ∈ x, P c = true)
    (hk0 : ∀ j, j < x.length → k ⟨p + j, caps⟩ = none) (hp : p ≤ s.size) (hk : k ⟨p + x.length, caps⟩ = some r) :
    loop (charStep s P) false (s.size + 2 - p) 0 none ⟨p, caps⟩ k = some r := by
  have hl := h.len
  simp only [List.length_append] at hl
  rw [show s.size + 2 - p = (s.size + 1 - p - x.length + 1) + x.length by omega,
    loop_lazy_skip_step s P caps k x.length _ p (fun j hj => ⟨run_hyps P h hx j hj, hk0 j hj⟩)]
  exact loop_lazy_stop _ _ _ _ _ hk

theorem loop_at_exact {s : Array Nat} {p : Nat} {x rest : List Nat} (P : Nat → Bool) (g : Bool) (caps) (k : K)
    (h : At s p (x ++ rest)) (hx : ∀ c ∈ x, P c = true) (hrest : ∀ c, rest.head? = some c → P c = false)
    (hk0 : ∀ j, j < x.length → k ⟨p + j, caps⟩ = none) (hp : p ≤ s.size) :
    loop (charStep s P) g (s.size + 2 - p) 0 none ⟨p, caps⟩ k = k ⟨p + x.length, caps⟩ := by
  have hn := runLen_at P h hx hrest
  have hl := h.len
  simp only [List.length_append] at hl
  rw [charLoop_eq s P g caps k _ 0 none p (by omega), hn, Nat.add_zero, Nat.sub_zero]
  exact findSome?_runSts_last g fun j h1 h2 => by
    have := hk0 (j - p) (by omega)
    rwa [show p + (j - p) = j by omega] at this

/-- `[ \t\r\n]` -/
def isWs (c : Nat) : Bool := c == 32 || c == 9 || c == 13 || c == 10

theorem inC_ws (c : Nat) : inC false [.ch 32, .ch 9, .ch 13, .ch 10] c = isWs c := by
  simp [inC, ClsItem.has, isWs, Bool.or_assoc]

theorem isWs_false {c : Nat} (h : isWs c = false) : c ≠ 32 ∧ c ≠ 9 ∧ c ≠ 13 ∧ c ≠ 10 := by
  simp [isWs] at h; exact ⟨h.1.1.1, h.1.1.2, h.1.2, h.2⟩

/-- what may follow a block: the end of the text, or something that is not white-space -/
def DFollow (rest : List Nat) : Prop := ∀ c, rest.head? = some c → isWs c = false

/-- `[ \t]` -/
def isBlank (c : Nat) : Bool := c == 32 || c == 9

theorem inC_blank (c : Nat) : inC false [.ch 32, .ch 9] c = isBlank c := by simp [inC, ClsItem.has, isBlank]

def wsEntryN (p n : Nat) : Entry :=
  { kind := .whitespace, full := p, s := p, e := p + n, ks := (p : Nat), ke := (p + n : Nat), vs := (p : Nat), ve := (p + n : Nat) }

def commentEntry (a b : Nat) : Entry := { kind := .comment, full := a, s := a, e := b }

theorem ws_at {s : Array Nat} {p : Nat} {w rest : List Nat} (h : At s p (w ++ rest)) (hne : w ≠ [])
    (hw : ∀ c ∈ w, isWs c = true) (hr : ∀ c, rest.head? = some c → isWs c = false) :
    matchAt s Parser_reWhitespace p = some ⟨p + w.length, []⟩ := by
  have hp : p < s.size := h.pos_lt (by simp [hne])
  simp only [matchAt, Parser_reWhitespace, m_rep_def, m_cls_charStep]
  exact greedy_at _ [] some _ 1 h (fun c hc => by rw [inC_ws]; exact hw c hc) (fun c hc => by rw [inC_ws]; exact hr c hc)
    (by have := List.length_pos_iff.mpr hne; omega) (by omega) rfl

theorem ws_none_at {s : Array Nat} {p : Nat} {l : List Nat} (h : At s p l) (hr : ∀ c, l.head? = some c → isWs c = false) :
    matchAt s Parser_reWhitespace p = none := by
  simp only [matchAt, Parser_reWhitespace, m_rep_def, m_cls_charStep]
  exact loop_at_short _ true [] some _ 1 h (fun c hc => by rw [inC_ws]; exact hr c hc) (by omega)

/-- `m = reWhitespace.match(...); if m: cursor = m.end()` on a possibly empty white-space stretch -/
theorem ws_opt_at {s : Array Nat} {p : Nat} {w rest : List Nat} (h : At s p (w ++ rest))
    (hw : ∀ c ∈ w, isWs c = true) (hr : ∀ c, rest.head? = some c → isWs c = false) :
    matchAt s Parser_reWhitespace p = some ⟨p + w.length, []⟩ ∨ (matchAt s Parser_reWhitespace p = none ∧ w.length = 0) := by
  by_cases hne : w = []
  · subst hne
    right
    exact ⟨ws_none_at h (by simpa using hr), rfl⟩
  · left; exact ws_at h hne hw hr

theorem countNl_at {s : Array Nat} {p : Nat} {w rest : List Nat} (h : At s p (w ++ rest)) :
    countNl s p (p + w.length) = (w.filter (· == 10)).length := by
  unfold countNl
  rw [h.slice]

/-- `K` looks for white-space with `Parser.reWhitespace` and decides nothing early (every parser but `DefinesParser`) -/
structure PlainWs (K : Stages) : Prop where
  ws : K.reWhitespace = Parser_reWhitespace
  early : ∀ b a o e, K.early b a o e = none

theorem baseK_plainWs (c : BaseCfg) (hws : c.reWhitespace = Parser_reWhitespace) (s : Array Nat) : PlainWs (baseK c s) :=
  ⟨hws, fun _ _ _ _ => rfl⟩

section
variable {K : Stages} {s : Array Nat} {off : Nat}

theorem attach_at (hK : PlainWs K) {o1 : Nat} {gap rest : List Nat} (h : At s o1 (gap ++ rest))
    (hgap : ∀ x ∈ gap, isWs x = true) (hnl : (gap.filter (· == 10)).length ≤ 1)
    (hrest : ∀ x, rest.head? = some x → isWs x = false) : Attach K s off o1 (o1 + gap.length) := by
  unfold Attach
  rw [hK.ws, hK.early, countNl_at h]
  rcases ws_opt_at h hgap hrest with hws | ⟨hws, h0⟩
  · exact .inr ⟨_, hws, rfl, rfl, by omega⟩
  · exact .inl ⟨hws, by omega⟩

theorem skel_ws_at (hK : PlainWs K) {w rest : List Nat} (hcm : matchAt s K.reComment off = none) (h : At s off (w ++ rest))
    (hne : w ≠ []) (hw : ∀ c ∈ w, isWs c = true) (hr : ∀ c, rest.head? = some c → isWs c = false) :
    skel K s off = wsEntryN off w.length :=
  (skel_white hcm (hK.ws ▸ ws_at h hne hw hr) (hK.early ..)).trans (by simp [wsE, wsEntryN])

theorem skel_free_at (hK : PlainWs K) {cl : Nat} {gap rest : List Nat} {stc : St} (hcm : matchAt s K.reComment off = some stc)
    (hpos : stc.pos = off + cl) (h : At s (off + cl) (gap ++ rest)) (hgap : ∀ x ∈ gap, isWs x = true)
    (hnl : 2 ≤ (gap.filter (· == 10)).length) (hrest : ∀ x, rest.head? = some x → isWs x = false) :
    skel K s off = commentEntry off (off + cl) := by
  have hgne : gap ≠ [] := by rintro rfl; simp at hnl
  rw [skel_free_comment hcm (w := ⟨off + cl + gap.length, []⟩) (by rw [hpos, hK.ws]; exact ws_at h hgne hgap hrest) (hK.early ..)
    (by rw [hpos, countNl_at h]; omega), hpos]
  rfl

end

theorem isEmpty_false_of_ne {α} {l : List α} (h : l ≠ []) : l.isEmpty = false := by
  cases l with
  | nil => exact absurd rfl h
  | cons _ _ => rfl

theorem greedy_steps (body : St → K → Option St) (caps) (k : K) (r : St) :
    ∀ (lens : List Nat) (fuel pos : Nat), lens.length < fuel → (∀ n ∈ lens, 0 < n) →
      (∀ i, i < lens.length → ∀ k', body ⟨pos + (lens.take i).sum, caps⟩ k' = k' ⟨pos + (lens.take (i + 1)).sum, caps⟩) →
      (∀ k', body ⟨pos + lens.sum, caps⟩ k' = none) →
      k ⟨pos + lens.sum, caps⟩ = some r →
      loop body true fuel 0 none ⟨pos, caps⟩ k = some r := by
  intro lens fuel pos hf hpos hstep hfail hk
  have hend : lens.take lens.length = lens := List.take_length
  have := loop_greedy_path body caps k r (fun i => pos + (lens.take i).sum) lens.length
    (by rw [hend]; exact hfail) (by rw [hend]; exact hk) lens.length fuel 0 0 (Nat.zero_add _) hf (Nat.zero_le _)
    (fun j _ hj => ⟨by
      have := hpos lens[j] (List.getElem_mem hj)
      simp only [List.take_succ, List.getElem?_eq_getElem hj, List.sum_append, Option.toList_some, List.sum_cons,
        List.sum_nil]
      omega, hstep j hj⟩)
  simpa using this

theorem entitiesOf_append (f : Fmt) (s : Array Nat) (a b : List Entry) :
    entitiesOf f s (a ++ b) = entitiesOf f s a ++ entitiesOf f s b := by simp [entitiesOf]

theorem junkOf_append (s : Array Nat) (a b : List Entry) : junkOf s (a ++ b) = junkOf s a ++ junkOf s b := by
  simp [junkOf]

@[simp] theorem entitiesOf_nil (f : Fmt) (s : Array Nat) : entitiesOf f s [] = [] := rfl
@[simp] theorem junkOf_nil (s : Array Nat) : junkOf s [] = [] := rfl

theorem entitiesOf_cons_entity (f : Fmt) (s : Array Nat) (e : Entry) (es : List Entry) (h : e.kind = .entity) :
    entitiesOf f s (e :: es) = entView f s e :: entitiesOf f s es := by
  simp [entitiesOf, List.filter_cons, h]

theorem entitiesOf_cons_other (f : Fmt) (s : Array Nat) (e : Entry) (es : List Entry) (h : e.kind ≠ .entity) :
    entitiesOf f s (e :: es) = entitiesOf f s es := by
  simp [entitiesOf, List.filter_cons, h]

theorem junkOf_cons_junk (s : Array Nat) (e : Entry) (es : List Entry) (h : e.kind = .junk) :
    junkOf s (e :: es) = slice s e.s e.e :: junkOf s es := by
  simp [junkOf, List.filter_cons, h]

theorem junkOf_cons_other (s : Array Nat) (e : Entry) (es : List Entry) (h : e.kind ≠ .junk) :
    junkOf s (e :: es) = junkOf s es := by
  simp [junkOf, List.filter_cons, h]

theorem flatten_map_singleton {α γ : Type} (g : α → γ) (l : List α) : (l.map (fun a => [g a])).flatten = l.map g := by
  induction l with
  | nil => rfl
  | cons a l ih => simp [ih]

theorem flatten_map_nil {α γ : Type} (l : List α) : (l.map (fun _ => ([] : List γ))).flatten = [] := by
  induction l with
  | nil => rfl
  | cons a l ih => simp [ih]

section Blocks
variable {σ β : Type}

theorem views_blocks (f : Fmt) (s : Array Nat) (pr : β → List Nat)
    (en : Nat → σ → β → List Entry) (tr : σ → β → σ) (Good : Nat → σ → β → Prop) (Follow : List Nat → Prop)
    (vw : β → List (Option EntView)) (jk : β → List (List Nat))
    (hv : ∀ b c off rest, Good off c b → At s off (pr b ++ rest) → Follow rest →
      entitiesOf f s (en off c b) = vw b ∧ junkOf s (en off c b) = jk b)
    (hf : ∀ b c off rest, Good off c b → Follow rest → Follow (pr b ++ rest)) :
    ∀ (bs : List β) (c : σ) (off : Nat) (rest : List Nat), GoodAll pr tr Good off c bs →
      At s off (printBlocks pr bs ++ rest) → Follow rest →
      (entitiesOf f s (blockEntries pr en tr off c bs) = (bs.map vw).flatten ∧
        junkOf s (blockEntries pr en tr off c bs) = (bs.map jk).flatten) ∧ Follow (printBlocks pr bs ++ rest) :=
  blocks_ind s pr tr Good Follow hf
    (fun off c bs => entitiesOf f s (blockEntries pr en tr off c bs) = (bs.map vw).flatten ∧
      junkOf s (blockEntries pr en tr off c bs) = (bs.map jk).flatten)
    (fun _ _ => ⟨rfl, rfl⟩)
    (fun b bs c off rest hg h hfo i => by
      obtain ⟨v1, v2⟩ := hv b c off rest hg h hfo
      simp only [blockEntries, entitiesOf_append, junkOf_append, List.map_cons, List.flatten_cons, i.1, i.2, v1, v2]
      exact ⟨trivial, trivial⟩)

end Blocks

theorem walks_entry_ws {σ : Type} {next : σ → Nat → Entry × σ} {size : Nat} {c c' : σ} {off q n : Nat} {e : Entry}
    (he : e.e = q) (h1 : off < q) (h2 : 0 < n) (hsz : q + n ≤ size) (hn1 : next c off = (e, c'))
    (hn2 : next c' q = (wsEntryN q n, c')) : Walks next size c off [e, wsEntryN q n] c' (q + n) := by
  subst he
  exact .cons (by omega) h1 hn1 (.cons (by omega) (by show e.e < e.e + n; omega) hn2 (.nil _ _))

def wsOpt (p : Nat) (gap : List Nat) : List Entry := if gap.isEmpty then [] else [wsEntryN p gap.length]

/-- an entry and the white-space entry behind it, if there is white-space (DTD, PO: a block may end without) -/
theorem walks_entry_wsOpt {σ : Type} {next : σ → Nat → Entry × σ} {s : Array Nat} {c c' : σ} {off q : Nat} {e : Entry}
    {gap rest : List Nat} (he : e.e = q) (h1 : off < q) (hsz : off < s.size) (hat : At s q (gap ++ rest))
    (hn1 : next c off = (e, c')) (hn2 : gap ≠ [] → next c' q = (wsEntryN q gap.length, c')) :
    Walks next s.size c off (e :: wsOpt q gap) c' (q + gap.length) := by
  by_cases hg : gap = []
  · subst hg
    simpa [wsOpt, he] using Walks.one hsz (he ▸ h1) hn1
  · simpa [wsOpt, isEmpty_false_of_ne hg] using
      walks_entry_ws he h1 (List.length_pos_iff.mpr hg) (hat.left_le hg) hn1 (hn2 hg)

theorem Walks.cast_end {σ : Type} {next : σ → Nat → Entry × σ} {size : Nat} {c c' : σ} {off off' off'' : Nat}
    {es : List Entry} (h : Walks next size c off es c' off') (e : off' = off'') : Walks next size c off es c' off'' := by
  subst e; exact h

theorem Walks.shift_start {σ : Type} {next : σ → Nat → Entry × σ} {size : Nat} {c c' : σ} {off' : Nat} {es : List Entry}
    (h : Walks next size c 1 es c' off') (hne : es ≠ []) (h01 : next c 0 = next c 1) : Walks next size c 0 es c' off' := by
  cases h with
  | nil => exact absurd rfl hne
  | cons a b d r => exact .cons (by omega) (by omega) (h01.trans d) r

theorem views_entity_ws (f : Fmt) (s : Array Nat) {e : Entry} (q n : Nat) (he : e.kind = .entity) :
    entitiesOf f s [e, wsEntryN q n] = [entView f s e] ∧ junkOf s [e, wsEntryN q n] = [] := by
  simp [entitiesOf, junkOf, he, wsEntryN]

theorem views_other_ws (f : Fmt) (s : Array Nat) {e : Entry} (q n : Nat) (h1 : e.kind ≠ .entity) (h2 : e.kind ≠ .junk) :
    entitiesOf f s [e, wsEntryN q n] = [] ∧ junkOf s [e, wsEntryN q n] = [] := by
  simp [entitiesOf, junkOf, h1, h2, wsEntryN]

theorem greedy_items {α : Type} (pr : α → List Nat) {s : Array Nat} (body : St → K → Option St) (caps) (k : K) (r : St)
    {rest : List Nat} (hfail : ∀ p k', At s p rest → body ⟨p, caps⟩ k' = none) :
    ∀ (xs : List α) (p fuel mn : Nat), At s p ((xs.map pr).flatten ++ rest) →
      (∀ x ∈ xs, pr x ≠ [] ∧ ∀ p l k', At s p (pr x ++ l) → body ⟨p, caps⟩ k' = k' ⟨p + (pr x).length, caps⟩) →
      ((xs.map pr).flatten).length < fuel → mn ≤ xs.length → k ⟨p + ((xs.map pr).flatten).length, caps⟩ = some r →
      loop body true fuel mn none ⟨p, caps⟩ k = some r := by
  intro xs
  induction xs with
  | nil =>
    intro p fuel mn h _ hf hmn hk
    obtain rfl : mn = 0 := by simpa using hmn
    rw [loop_body_fail_pos body true fuel none _ k (by omega) (fun k' => hfail p k' (by simpa using h))]
    simpa using hk
  | cons x xs ih =>
    intro p fuel mn h hx hf hmn hk
    obtain ⟨f, rfl⟩ : ∃ f, fuel = f + 1 := ⟨fuel - 1, by omega⟩
    have h' : At s p (pr x ++ ((xs.map pr).flatten ++ rest)) := by simpa [At] using h
    obtain ⟨hne, hstep⟩ := hx x (by simp)
    have hpos := List.length_pos_iff.mpr hne
    simp only [List.map_cons, List.flatten_cons, List.length_append, List.length_cons] at hf hmn hk
    have ihh := ih (p + (pr x).length) f (mn - 1) h'.app (fun y hy => hx y (by simp [hy])) (by omega) (by omega)
      (by rw [Nat.add_assoc]; exact hk)
    rw [loop_step body true f mn ⟨p, caps⟩ ⟨p + (pr x).length, caps⟩ k (by simp only []; omega) (fun k' => hstep p _ k' h')]
    by_cases h0 : mn > 0
    · rw [if_pos h0]; exact ihh
    · obtain rfl : mn = 0 := by omega
      simp [ihh]

end C02P
