/-
The contracts `C10P.CompareRuns` and `C10P.CompareSync` (C10ProjQuiet) hold for the world the driver uses
(CLModel/Compare/ProjectsPipe.lean).  `ProjPipe.compareBodyOf` is inverted once, for two observer lists with the same project
filters: they get the same printed lines and junk ids through the same events (`Sim`), which are about the two files of the
call, none a file notification, no `errors` stats (`CallEvs`); one run is the case of twice the same list.  `Pipe.compareParsed`
(C05) enters through its plan (Proofs/PipePlanFacts.lean): notifications for the localized file, then one `updateStats`.
-/
import CLModel.Compare.ProjectsPipe
import CLModel.Proofs.C10Proj
import CLModel.Proofs.PipePlanFacts
namespace C10P
open TreeM ObsM ProjM

def EvsFor (f : File) (evs : List Ev) : Prop := ∀ ev ∈ evs, ev.file = f ∧ isFileEv ev = false

theorem EvsFor.append {f : File} {a b : List Ev} (ha : EvsFor f a) (hb : EvsFor f b) : EvsFor f (a ++ b) := by
  intro ev hev
  rcases List.mem_append.1 hev with h | h
  · exact ha ev h
  · exact hb ev h

theorem EvsFor.single {f : File} {cat : Cat} {d : Data} (hc : cat.isFile = false) : EvsFor f [.notify cat f d] := by
  intro ev hev
  simp only [List.mem_singleton] at hev
  subst hev
  exact ⟨rfl, hc⟩

def NotifyOnly (evs : List Ev) : Prop := ∀ ev ∈ evs, ∃ c f d, ev = .notify c f d

theorem NotifyOnly.noErrStats {evs : List Ev} (h : NotifyOnly evs) : NoErrStats evs := by
  intro ev hev
  obtain ⟨c, f, d, rfl⟩ := h ev hev
  trivial

theorem NotifyOnly.append {a b : List Ev} (ha : NotifyOnly a) (hb : NotifyOnly b) : NotifyOnly (a ++ b) := by
  intro ev hev
  rcases List.mem_append.1 hev with h | h
  · exact ha ev h
  · exact hb ev h

theorem NotifyOnly.single (c : Cat) (f : File) (d : Data) : NotifyOnly [.notify c f d] := by
  intro ev hev
  simp only [List.mem_singleton] at hev
  exact ⟨c, f, d, hev⟩

theorem statsList_noErrors (s : Cmp.Stats) : ∀ kv ∈ Pipe.statsList s, kv.1 ≠ StatKey.errors := by
  intro kv hkv
  simp only [Pipe.statsList, Cmp.Stats.toDict, List.filterMap_cons, List.filterMap_nil] at hkv
  simp +decide [Pipe.statKeyOf, StatKey.all, StatKey.name] at hkv
  rcases hkv with rfl | rfl | rfl | rfl | rfl | rfl | rfl | rfl | rfl <;> simp

theorem notify_sim {P : List Ev → Prop} {a b a' b' : ObsList} {c : Cat} {f : File} {d : Data} {r1 r2 : Ret}
    (hab : a.filters = b.filters) (hP : P [.notify c f d])
    (h1 : a.notify c f d = .ok (a', r1)) (h2 : b.notify c f d = .ok (b', r2)) : r1 = r2 ∧ Sim P a a' b b' :=
  ⟨by rw [ObsList.notify_rv h1, ObsList.notify_rv h2, hab], _, hP, ObsList.notify_run h1, ObsList.notify_run h2⟩

theorem compareParsed_sim {env : Pipe.Env} {ref l10n : List Pipe.PEnt} {a1 a2 b1 b2 : ObsList} {o1 o2 : Merge.Outcome}
    (hs : a1.filters = a2.filters) (h1 : Pipe.compareParsed env ref l10n a1 = .ok (b1, o1))
    (h2 : Pipe.compareParsed env ref l10n a2 = .ok (b2, o2)) :
    o1 = o2 ∧ Sim (fun e => EvsFor env.file e ∧ NoErrStats e) a1 b1 a2 b2 := by
  rw [Pipe.compareParsed_eq] at h1 h2
  rw [← hs] at h2
  obtain ⟨r1, e1⟩ := Plan.exec_ok.1 h1
  obtain ⟨r2, e2⟩ := Plan.exec_ok.1 h2
  refine ⟨Except.ok.inj (e1.symm.trans e2), _, ?_, r1, r2⟩
  obtain ⟨s, he⟩ := Pipe.comparePlan_ok e1
  rw [he]
  have hx := Pipe.compareEvs_expl a1.filters env ref l10n
  refine ⟨fun ev hev => ?_, fun ev hev => ?_⟩ <;> rcases List.mem_append.1 hev with hev | hev
  · obtain ⟨c, d, rfl, hc⟩ := Pipe.expl_notify (hx ev hev)
    exact ⟨rfl, hc⟩
  · cases List.mem_singleton.1 hev
    exact ⟨rfl, rfl⟩
  · obtain ⟨c, d, rfl, _⟩ := Pipe.expl_notify (hx ev hev)
    trivial
  · cases List.mem_singleton.1 hev
    exact statsList_noErrors _

theorem CallEvs.error {c : Call} {f : File} (hf : f = c.l10n ∨ f = c.ref) (d : Data) : CallEvs c [.notify .error f d] :=
  ⟨fun ev hev => by cases List.mem_singleton.1 hev; exact ⟨hf, rfl⟩, (NotifyOnly.single _ _ _).noErrStats⟩

theorem CallEvs.l10n {c : Call} {evs : List Ev} (h : EvsFor c.l10n evs) (hn : NoErrStats evs) : CallEvs c evs :=
  ⟨fun ev hev => ⟨Or.inl (h ev hev).1, (h ev hev).2⟩, hn⟩

theorem compareBodyOf_sim (ext : Pipe.Ext) (cs : List (Path × ProjPipe.Content)) (md : List (Path × Text)) (c : Call)
    (junk : Nat) {l1 l2 : ObsList} {r1 r2 : ObsList × List Text × Nat} (hs : l1.filters = l2.filters)
    (h1 : ProjPipe.compareBodyOf ext cs md c junk l1 = .ok r1) (h2 : ProjPipe.compareBodyOf ext cs md c junk l2 = .ok r2) :
    r1.2 = r2.2 ∧ Sim (CallEvs c) l1 r1.1 l2 r2.1 := by
  unfold ProjPipe.compareBodyOf at h1 h2
  simp only at h1 h2
  cases hfm : ProjPipe.fmtOfName c.ref.file with
  | none => rw [hfm] at h1; cases h1
  | some fmt =>
    simp only [hfm] at h1 h2
    cases hck : Pipe.plainFmt fmt with
    | false => rw [hck] at h1; cases h1
    | true =>
      simp only [hck] at h1 h2
      cases hrc : ProjPipe.lookupContent cs c.refFull with
      | none => rw [hrc] at h1; cases h1
      | some rc =>
        simp only [hrc] at h1 h2
        cases rc with
        | error msg =>
          simp only at h1 h2
          split at h1
          · cases h1
          · rename_i m1 rv1 hn1
            split at h2
            · cases h2
            · rename_i m2 rv2 hn2
              injection h1 with h1; injection h2 with h2
              subst h1; subst h2
              exact ⟨rfl, (notify_sim hs (CallEvs.error (Or.inr rfl) _) hn1 hn2).2⟩
        | text rt =>
          simp only at h1 h2
          cases hpr : Pipe.parseFile ext fmt rt.toArray junk with
          | error e => rw [hpr] at h1; cases h1
          | ok pr =>
            obtain ⟨ref, junk1⟩ := pr
            simp only [hpr] at h1 h2
            cases hlc : ProjPipe.lookupContent cs (some c.l10nFull) with
            | none => rw [hlc] at h1; cases h1
            | some lc =>
              simp only [hlc] at h1 h2
              cases lc with
              | error msg =>
                simp only at h1 h2
                split at h1
                · cases h1
                · rename_i m1 rv1 hn1
                  split at h2
                  · cases h2
                  · rename_i m2 rv2 hn2
                    injection h1 with h1; injection h2 with h2
                    subst h1; subst h2
                    exact ⟨rfl, (notify_sim hs (CallEvs.error (Or.inl rfl) _) hn1 hn2).2⟩
              | text lt =>
                simp only at h1 h2
                cases hpl : Pipe.parseFile ext fmt lt.toArray junk1 with
                | error e => rw [hpl] at h1; cases h1
                | ok pl =>
                  obtain ⟨l10n, junk2⟩ := pl
                  simp only [hpl] at h1 h2
                  split at h1
                  · cases h1
                  · rename_i b1 o1 hc1
                    split at h2
                    · cases h2
                    · rename_i b2 o2 hc2
                      obtain ⟨ho, sy⟩ := compareParsed_sim hs hc1 hc2
                      subst ho
                      replace sy := sy.mono (fun _ h => CallEvs.l10n (c := c) h.1 h.2)
                      cases hmg : c.merge with
                      | none =>
                        simp only [hmg] at h1 h2
                        injection h1 with h1; injection h2 with h2
                        subst h1; subst h2
                        exact ⟨rfl, sy⟩
                      | some mf =>
                        simp only [hmg] at h1 h2
                        by_cases hcap : (Pipe.capsOf fmt != Gen.Tables.CAN_NONE) = true
                        · simp only [hcap, ↓reduceIte] at h1 h2
                          cases hmd : List.find? (fun x => x.fst == mf) md with
                          | some e => rw [hmd] at h1; cases h1
                          | none =>
                            simp only [hmd] at h1 h2
                            injection h1 with h1; injection h2 with h2
                            subst h1; subst h2
                            exact ⟨rfl, sy⟩
                        · simp only [hcap, Bool.false_eq_true, ↓reduceIte] at h1 h2
                          injection h1 with h1; injection h2 with h2
                          subst h1; subst h2
                          exact ⟨rfl, sy⟩

/-- `CompareRuns` for the composed model (`CallEvs` is the conjunction `CompareRuns` spells out) -/
theorem compareBodyOf_runs (ext : Pipe.Ext) (cs : List (Path × ProjPipe.Content)) (md : List (Path × Text)) (c : Call)
    (junk : Nat) (l : ObsList) (r : ObsList × List Text × Nat) (h : ProjPipe.compareBodyOf ext cs md c junk l = .ok r) :
    ∃ evs, l.run evs = .ok r.1 ∧ CallEvs c evs :=
  (compareBodyOf_sim ext cs md c junk rfl h h).2.tr

end C10P
