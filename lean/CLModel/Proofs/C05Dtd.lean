/-
C05 pipeline, DTD files: `DTDChecker.check` (the model of C07, Checks/Dtd.lean) never raises inside the pipeline, for
EVERY verdict function of the external XML parser, provided the texts hold Unicode scalar values only (what
`Parser.readFile` guarantees: `Pipe.decode` never produces a surrogate) — the only `raise` left in the model is the
`UnicodeEncodeError` of `str.encode("utf-8")` on a lone surrogate.  The `IndexError` of `lines[lnr - 1]` on an empty
value (fixed by f80b06f) is ruled out by `Dtd.errorPos_isSome` (C07Model), on which `Dtd.xmlError_eq` and through it
`check_no_exc` below rest: with the fix reverted in the model they fail.
-/
import CLModel.Proofs.C05Pipe
import CLModel.Proofs.C05Lint
import CLModel.Proofs.C07Model
import CLModel.Proofs.RxSearch
import CLModel.Proofs.C05Utf8
namespace C05Dtd
open Dtd

theorem mem_slice {s : Array Nat} {a b c : Nat} (h : c ∈ (s.extract a b).toList) : c ∈ s.toList := by
  obtain ⟨j, _, _, hj⟩ := Txt.mem_extract h
  exact List.mem_of_getElem? (by simpa using hj)

theorem erefNames_sub (v : Text) : ∀ n ∈ erefNames v, ∀ c ∈ n, c ∈ v := by
  intro n hn c hc
  unfold erefNames at hn
  simp only [List.mem_filterMap] at hn
  obtain ⟨p, _, hp⟩ := hn
  split at hp
  · simp only [Option.some.injEq] at hp
    subst hp
    simpa using mem_slice hc
  · cases hp

/-- the texts whose pieces end up in the documents built for one pair of entities -/
def InpScalar (i : Inp) : Prop :=
  (∀ v ∈ Dtd.refValsOf i, ScalarText v) ∧
  ScalarText i.ref.key ∧ ScalarText i.ref.all ∧ ScalarText i.ref.val ∧
  ScalarText i.l10n.key ∧ ScalarText i.l10n.all ∧ ScalarText i.l10n.val

theorem entityDecls_scalar (names : List Text) (h : ∀ n ∈ names, ScalarText n) : ScalarText (entityDecls names) := by
  intro c hc
  simp only [entityDecls, List.mem_flatten, List.mem_map] at hc
  obtain ⟨l, ⟨n, hn, rfl⟩, hcl⟩ := hc
  simp only [List.mem_append] at hcl
  rcases hcl with (hcl | hcl) | hcl
  · revert c; decide
  · exact h n hn c hcl
  · revert c; decide

theorem known_scalar (i : Inp) (h : InpScalar i) : ∀ n ∈ knownEntities i, ScalarText n := by
  intro n hn
  obtain ⟨v, hv, hnv, _⟩ := Dtd.mem_knownEntities.1 hn
  exact (h.1 v hv).sub (erefNames_sub v n hnv)

theorem missing_scalar (i : Inp) (h : InpScalar i) : ∀ n ∈ missingOf i, ScalarText n := by
  intro n hn
  obtain ⟨hnv, _, _⟩ := Dtd.mem_missingOf.1 hn
  exact h.2.2.2.2.2.2.sub (erefNames_sub _ n hnv)

theorem refDecls_scalar (i : Inp) (h : InpScalar i) : ScalarText (refDecls i) :=
  entityDecls_scalar _ (known_scalar i h)

theorem l10nDecls_scalar (i : Inp) (h : InpScalar i) : ScalarText (l10nDecls i) :=
  (refDecls_scalar i h).append (entityDecls_scalar _ (missing_scalar i h))

theorem docValue_some (e v : Text) (he : ScalarText e) (hv : ScalarText v) : ∃ d, docValue e v = some d := by
  obtain ⟨a, ha⟩ := utf8_some e he
  obtain ⟨b, hb⟩ := utf8_some v hv
  exact ⟨tmpl a b, by simp [docValue, ha, hb]⟩

theorem docDecl_some (e : Text) (x : Dtd.Ent) (he : ScalarText e) (hk : ScalarText x.key) (ha : ScalarText x.all) :
    ∃ d, docDecl e x = some d := by
  obtain ⟨a, ha'⟩ := utf8_some (x.all ++ e) (ha.append he)
  obtain ⟨b, hb⟩ := utf8_some x.key hk
  exact ⟨tmpl a (38 :: b ++ [59]), by simp [docDecl, ha', hb]⟩

theorem andThen_exc (a : Out) (f : Unit → Out) (ha : a.exc = none) (hf : (f ()).exc = none) : (a.andThen f).exc = none := by
  unfold Out.andThen
  simp [ha, hf]

theorem refSection_no_exc (xml : Bytes → ParseRes) (i : Inp) (h : InpScalar i) : (refSection xml i).exc = none := by
  obtain ⟨d1, h1⟩ := docValue_some (refDecls i) i.ref.val (refDecls_scalar i h) h.2.2.2.1
  obtain ⟨d2, h2⟩ := docDecl_some (refDecls i) i.ref (refDecls_scalar i h) h.2.1 h.2.2.1
  unfold refSection
  simp only [h1, h2]
  repeat' split
  all_goals rfl

theorem xmlError_no_exc (v : Text) (e : Nat × Nat × Text) : (xmlError v e).exc = none := by
  rw [(Dtd.xmlError_eq v e).1]; rfl

theorem l10nSection_no_exc (xml : Bytes → ParseRes) (i : Inp) (h : InpScalar i) : (l10nSection xml i).1.exc = none := by
  obtain ⟨d3, h3⟩ := docValue_some (l10nDecls i) i.l10n.val (l10nDecls_scalar i h) h.2.2.2.2.2.2
  obtain ⟨d4, h4⟩ := docDecl_some (l10nDecls i) i.l10n (l10nDecls_scalar i h) h.2.2.2.2.1 h.2.2.2.2.2.1
  unfold l10nSection
  simp only [h3, h4]
  repeat' split
  all_goals first | rfl | exact xmlError_no_exc _ _

/-- **the DTD checker never raises** on scalar texts without "android-dtd", whatever expat answers -/
theorem check_no_exc (xml : Bytes → ParseRes) (i : Inp) (ha : i.android = false) (h : InpScalar i) :
    (check xml i).exc = none := by
  unfold check
  refine andThen_exc _ _ rfl ?_
  refine andThen_exc _ _ (refSection_no_exc xml i h) ?_
  refine andThen_exc _ _ (l10nSection_no_exc xml i h) ?_
  refine andThen_exc _ _ rfl ?_
  simp [ha, Out.ok]

end C05Dtd
