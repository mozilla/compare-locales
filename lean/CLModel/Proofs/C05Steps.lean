/-
C05 — the step-counting engine `Rx.mS` (Rx/Steps.lean) explores the same search as `Rx.m`: whenever it finishes
within its budget, its verdict (the match state, or no match) is the verdict of `Rx.m`.  So the step counts the regex
guard of the C05 check reads are step counts of the engine all parser / checker models run on.
`C01P.mT` (Proofs/C01Engine.lean) is a second counted copy of `Rx.m`, for another purpose: it counts every call of the engine,
without a budget, for the complexity bound of C01 (`C01P.loopS` there is a cost function, not `Rx.loopS`).  Neither is derived
from the other.
-/
import CLModel.Rx.Steps
namespace C05Steps
open Rx

/-- the outcome `r` of the counted engine agrees with the outcome `o` of the plain one -/
def Agree (r : SR) (o : Option St) : Prop :=
  match r with
  | .ok st _ => o = some st
  | .no _ => o = none
  | .over => True

/-- a counted continuation simulates a plain one -/
def SimK (k : K) (ks : KS) : Prop := ∀ st n, Agree (ks st n) (k st)

theorem agree_orElse {a : SR} {oa : Option St} {f : Nat → SR} {g : Unit → Option St}
    (ha : Agree a oa) (hf : ∀ n, Agree (f n) (g ())) : Agree (a.orElse f) (oa.orElse g) := by
  cases a with
  | ok st n => simp only [Agree] at ha; subst ha; simp [SR.orElse, Agree]
  | no n => simp only [Agree] at ha; subst ha; simpa [SR.orElse] using hf n
  | over => simp [SR.orElse, Agree]

/-- a guard that fails in both engines -/
theorem agree_guard (c : Prop) [Decidable c] (n : Nat) {a : SR} {oa : Option St} (h : ¬c → Agree a oa) :
    Agree (if c then .no n else a) (if c then none else oa) := by
  split
  · rfl
  · exact h ‹_›

/-- one round of a repetition: `more` is one more copy of the body, `kn` the continuation after the loop -/
theorem agree_round {more kn : Nat → SR} {om ok : Option St} (hm : ∀ n, Agree (more n) om) (hk : ∀ n, Agree (kn n) ok)
    (mn : Nat) (g : Bool) (n : Nat) :
    Agree (if mn > 0 then more n else if g then (more n).orElse kn else (kn n).orElse more)
      (if mn > 0 then om else if g then om.orElse (fun _ => ok) else ok.orElse (fun _ => om)) := by
  split
  · exact hm n
  · split
    · exact agree_orElse (hm n) hk
    · exact agree_orElse (hk n) hm

theorem loopS_sim (body : St → K → Option St) (bodyS : St → KS → Nat → SR)
    (hb : ∀ st k ks n, SimK k ks → Agree (bodyS st ks n) (body st k)) (greedy : Bool) :
    ∀ (fuel mn : Nat) (mx : Option Nat) (st : St) (k : K) (ks : KS) (n : Nat), SimK k ks →
      Agree (loopS bodyS greedy fuel mn mx st ks n) (loop body greedy fuel mn mx st k) := by
  intro fuel
  induction fuel with
  | zero => intro mn mx st k ks n _; rfl
  | succ fuel ih =>
    intro mn mx st k ks n hk
    -- both loops unfold to the shape of `agree_round`; `more` is the body behind the two guards (bound reached, no progress)
    exact agree_round (fun n => agree_guard (mx == some 0) n fun _ => hb _ _ _ _ fun st' n' =>
      agree_guard (st'.pos ≤ st.pos) n' fun _ => ih _ _ st' k ks n' hk) (hk st) mn greedy n

/-- an atom of the counted engine: out of budget, or the test of the plain engine with the counter moved on -/
theorem agree_atom {k : K} {ks : KS} (hk : SimK k ks) (budget n n1 n2 : Nat) (c : Prop) [Decidable c] (st' : St) :
    Agree (if n ≥ budget then .over else if c then ks st' n1 else .no n2) (if c then k st' else none) := by
  split
  · trivial
  · split
    · exact hk _ _
    · rfl

/-- a look-around: the verdict of the inner search decides -/
theorem agree_look {k : K} {ks : KS} (hk : SimK k ks) {a : SR} {oa : Option St} (neg : Bool) (st : St) (f : St → St) :
    Agree a oa → Agree (match a with
        | .ok st' n' => if neg then .no n' else ks (f st') n'
        | .no n' => if neg then ks st n' else .no n'
        | .over => .over)
      (match oa with
        | some st' => if neg then none else k (f st')
        | none => if neg then k st else none) := by
  intro h
  cases a with
  | ok st' n' =>
    cases h
    cases neg
    · exact hk _ _
    · rfl
  | no n' =>
    cases h
    cases neg
    · rfl
    · exact hk _ _
  | over => trivial

theorem mS_sim (s : Array Nat) (budget : Nat) : ∀ (r : Re) (st : St) (k : K) (ks : KS) (n : Nat), SimK k ks →
    Agree (mS s budget r st ks n) (m s r st k) := by
  intro r
  induction r with
  | eps => intro st k ks n hk; exact hk st n
  | lit c => intro st k ks n hk; exact agree_atom hk ..
  | notLit c =>
    intro st k ks n hk
    simp only [mS, m]
    cases s[st.pos]? with
    | none => exact agree_atom hk budget n 0 _ False st
    | some d => exact agree_atom hk ..
  | any dotall =>
    intro st k ks n hk
    simp only [mS, m]
    cases s[st.pos]? with
    | none => exact agree_atom hk budget n 0 _ False st
    | some d => exact agree_atom hk ..
  | cls neg items =>
    intro st k ks n hk
    simp only [mS, m]
    cases s[st.pos]? with
    | none => exact agree_atom hk budget n 0 _ False st
    | some d => exact agree_atom hk ..
  | seq a b iha ihb => intro st k ks n hk; exact iha st _ _ n (fun st' n' => ihb st' k ks n' hk)
  | alt a b iha ihb => intro st k ks n hk; exact agree_orElse (iha st k ks n hk) (fun n' => ihb st k ks n' hk)
  | group i r ih => intro st k ks n hk; exact ih st _ _ n (fun st' n' => hk _ _)
  | backref i =>
    intro st k ks n hk
    simp only [mS, m]
    cases capOf st.caps i with
    | none => exact agree_atom hk budget n 0 _ False st
    | some ab => exact agree_atom hk ..
  | bol ml => intro st k ks n hk; exact agree_atom hk ..
  | eol ml => intro st k ks n hk; exact agree_atom hk ..
  | eos => intro st k ks n hk; exact agree_atom hk ..
  | look ahead neg r ih =>
    intro st k ks n hk
    cases ahead with
    | true => exact agree_look hk neg st (fun st' => { st with caps := st'.caps }) (ih st some (fun st' n' => .ok st' n') n fun _ _ => rfl)
    | false =>
      simp only [mS, m]
      refine agree_look hk neg st (fun _ => st) ?_
      split
      · rfl
      · exact ih _ _ _ n fun st' n' => by split <;> rfl
  | rep mn mx greedy r ih =>
    intro st k ks n hk
    exact loopS_sim (m s r) (mS s budget r) (fun st k ks n hk => ih st k ks n hk) greedy _ mn mx st k ks n hk

/-- a count is the number of atoms the model engine tried for `Pattern.match(s, pos)` -/
theorem matchSteps_sound (s : Array Nat) (r : Re) (pos budget n : Nat) (h : matchSteps s r pos budget = some n) :
    (∃ st, mS s budget r ⟨pos, []⟩ (fun st n => .ok st n) 0 = .ok st n ∧ matchAt s r pos = some st) ∨
    (mS s budget r ⟨pos, []⟩ (fun st n => .ok st n) 0 = .no n ∧ matchAt s r pos = none) := by
  have hs := mS_sim s budget r ⟨pos, []⟩ some (fun st n => .ok st n) 0 (fun st n => by simp [Agree])
  unfold matchSteps at h
  cases hr : mS s budget r ⟨pos, []⟩ (fun st n => SR.ok st n) 0 with
  | ok st n' =>
    rw [hr] at h hs
    simp only [Option.some.injEq] at h
    subst h
    exact Or.inl ⟨st, rfl, hs⟩
  | no n' =>
    rw [hr] at h hs
    simp only [Option.some.injEq] at h
    subst h
    exact Or.inr ⟨rfl, hs⟩
  | over => rw [hr] at h; cases h

end C05Steps
