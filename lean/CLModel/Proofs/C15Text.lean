/-
From the walk of a text to the entry lists (`toEnts`, `walkAll`, `mergeTexts`): the entries carry the texts of the walk
(`toEnts_all`); the version number only shows in the object ids, which the merge result does not depend on
(`toEnts_ver`, `mergeResources_congr`, `walkAll_replicate`); the only errors are `internal` and `hang`
(`mergeTexts_not_refused`).
-/
import CLModel.Proofs.C15Single
namespace Merge
open P
open Txt (All2)

theorem toEnts_cons_ok (f : Fmt) (s : Array Nat) (v : Nat) (e : Entry) (i : Nat) (rest : List (Entry × Nat))
    (ents : List Ent) (h : toEnts f s v ((e, i) :: rest) = .ok ents) :
    ∃ x xs, toEnt f s v i e = .ok x ∧ toEnts f s v rest = .ok xs ∧ ents = x :: xs := by
  rw [toEnts] at h
  cases h1 : toEnt f s v i e with
  | error err => rw [h1] at h; simp at h
  | ok x =>
    cases h2 : toEnts f s v rest with
    | error err => rw [h1, h2] at h; simp at h
    | ok xs =>
      rw [h1, h2] at h
      simp only [Except.ok.injEq] at h
      exact ⟨x, xs, rfl, rfl, h.symm⟩

theorem toEnt_all (f : Fmt) (s : Array Nat) (v i : Nat) (e : Entry) (x : Ent) (h : toEnt f s v i e = .ok x) :
    x.all = e.all s := by
  unfold toEnt at h
  split at h
  · simp at h
  · simp only [Except.ok.injEq] at h
    rw [← h]

theorem toEnts_all (f : Fmt) (s : Array Nat) (v : Nat) (l : List (Entry × Nat)) (ents : List Ent)
    (h : toEnts f s v l = .ok ents) : ents.map (·.all) = l.map (fun p => p.1.all s) := by
  induction l generalizing ents with
  | nil =>
    rw [toEnts] at h
    simp only [Except.ok.injEq] at h
    rw [← h]; rfl
  | cons p rest ih =>
    obtain ⟨e, i⟩ := p
    obtain ⟨x, xs, h1, h2, rfl⟩ := toEnts_cons_ok f s v e i rest ents h
    rw [List.map_cons, List.map_cons, ih xs h2, toEnt_all f s v i e x h1]

theorem toEnt_ver (f : Fmt) (s : Array Nat) (v v' i : Nat) (e : Entry) (x : Ent) (hj : e.kind ≠ .junk)
    (h : toEnt f s v i e = .ok x) : ∃ x', toEnt f s v' i e = .ok x' ∧ SameBut x' x := by
  have hk : ekeyOf f s v' i e = ekeyOf f s v i e := by
    unfold ekeyOf
    cases hkind : e.kind <;> simp_all
  unfold toEnt at h ⊢
  rw [hk]
  split at h
  · simp at h
  · rename_i k hk'
    simp only [Except.ok.injEq] at h
    exact ⟨_, rfl, by rw [← h]; exact ⟨rfl, rfl, rfl, rfl⟩⟩

theorem toEnts_ver (f : Fmt) (s : Array Nat) (v v' : Nat) (l : List (Entry × Nat)) (ents : List Ent)
    (hj : ∀ p ∈ l, p.1.kind ≠ .junk) (h : toEnts f s v l = .ok ents) :
    ∃ ents', toEnts f s v' l = .ok ents' ∧ All2 SameBut ents' ents := by
  induction l generalizing ents with
  | nil =>
    rw [toEnts] at h
    simp only [Except.ok.injEq] at h
    exact ⟨[], by rw [toEnts], by rw [← h]; exact .nil⟩
  | cons p rest ih =>
    obtain ⟨e, i⟩ := p
    obtain ⟨x, xs, h1, h2, rfl⟩ := toEnts_cons_ok f s v e i rest ents h
    obtain ⟨x', hx', hs⟩ := toEnt_ver f s v v' i e x (hj (e, i) (by simp)) h1
    obtain ⟨xs', hxs', hss⟩ := ih xs (fun p hp => hj p (List.mem_cons_of_mem _ hp)) h2
    refine ⟨x' :: xs', ?_, .cons hs hss⟩
    rw [toEnts, hx', hxs']

theorem stampFrom_congr (v n : Nat) (es es' : List Ent) (h : All2 SameBut es es') :
    stampFrom v n es = stampFrom v n es' := by
  induction h generalizing n with
  | nil => rfl
  | @cons a b _ _ hab _ ih =>
    rw [stampFrom_cons, stampFrom_cons, ih]
    congr 1
    obtain ⟨h1, h2, h3, h4⟩ := hab
    cases a; cases b
    simp_all

theorem versionDicts_congr (rs rs' : List (List Ent)) (h : All2 (All2 SameBut) rs rs') (j : Nat) :
    (rs.zipIdx j).map (fun p => versionDict p.2 p.1) = (rs'.zipIdx j).map (fun p => versionDict p.2 p.1) := by
  induction h generalizing j with
  | nil => rfl
  | @cons a b _ _ hab _ ih =>
    rw [List.zipIdx_cons, List.zipIdx_cons, List.map_cons, List.map_cons, ih]
    congr 1
    simp only [versionDict, stamp_eq]
    rw [stampFrom_congr _ _ _ _ hab]

theorem mergeResources_congr (rs rs' : List (List Ent)) (h : All2 (All2 SameBut) rs rs') :
    mergeResources rs = mergeResources rs' := by
  rw [mergeResources_eq, mergeResources_eq, versionDicts, versionDicts, versionDicts_congr rs rs' h 0]

theorem walkAll_replicate (f : Fmt) (s : Array Nat) (es : List Entry) (ents : List Ent)
    (hw : walk f s = .done es) (he : toEnts f s 0 es.zipIdx = .ok ents) (hj : ∀ e ∈ es, e.kind ≠ .junk) :
    ∀ (m j : Nat), ∃ vs, walkAll f ((List.replicate m s).zipIdx j) = .ok vs ∧
      All2 (All2 SameBut) vs (List.replicate m ents) := by
  intro m
  induction m with
  | zero => intro j; exact ⟨[], by simp [walkAll], .nil⟩
  | succ m ih =>
    intro j
    obtain ⟨vs, hvs, hall⟩ := ih (j + 1)
    have hj' : ∀ p ∈ es.zipIdx, p.1.kind ≠ .junk := by
      intro p hp
      have : p.1 ∈ es := by
        have := List.mem_map_of_mem (f := Prod.fst) hp
        rwa [List.zipIdx_map_fst] at this
      exact hj _ this
    obtain ⟨ents', he', hs⟩ := toEnts_ver f s 0 j es.zipIdx ents hj' he
    refine ⟨ents' :: vs, ?_, ?_⟩
    · rw [List.replicate_succ, List.zipIdx_cons, walkAll, hvs]
      simp only [walkEnts, hw, he']
    · rw [List.replicate_succ]
      exact .cons hs hall

theorem ekeyOf_err (f : Fmt) (s : Array Nat) (v i : Nat) (e : Entry) (x : Err) (h : ekeyOf f s v i e = .error x) :
    x = .internal := by
  unfold ekeyOf at h
  split at h
  · simp at h
  · simp at h
  · split at h
    · split at h
      · simp at h
      · simp only [Except.error.injEq] at h; exact h.symm
    · simp at h

theorem toEnt_err (f : Fmt) (s : Array Nat) (v i : Nat) (e : Entry) (x : Err) (h : toEnt f s v i e = .error x) :
    x = .internal := by
  unfold toEnt at h
  split at h
  · rename_i y hy
    simp only [Except.error.injEq] at h
    subst h
    exact ekeyOf_err f s v i e _ hy
  · simp at h

theorem toEnts_err (f : Fmt) (s : Array Nat) (v : Nat) (l : List (Entry × Nat)) (x : Err)
    (h : toEnts f s v l = .error x) : x = .internal := by
  induction l with
  | nil => simp [toEnts] at h
  | cons p rest ih =>
    obtain ⟨e, i⟩ := p
    rw [toEnts] at h
    cases h1 : toEnt f s v i e with
    | error y =>
      rw [h1] at h
      simp only [Except.error.injEq] at h
      subst h
      exact toEnt_err f s v i e _ h1
    | ok y =>
      cases h2 : toEnts f s v rest with
      | error z =>
        rw [h1, h2] at h
        simp only [Except.error.injEq] at h
        subst h
        exact ih h2
      | ok zs => rw [h1, h2] at h; simp at h

theorem walkEnts_err (f : Fmt) (v : Nat) (s : Array Nat) (x : Err) (h : walkEnts f v s = .error x) :
    x = .internal ∨ x = .hang := by
  unfold walkEnts at h
  split at h
  · exact .inl (toEnts_err f s v _ x h)
  · simp only [Except.error.injEq] at h; exact .inr h.symm

theorem walkAll_err (f : Fmt) (l : List (Array Nat × Nat)) (x : Err) (h : walkAll f l = .error x) :
    x = .internal ∨ x = .hang := by
  induction l with
  | nil => simp [walkAll] at h
  | cons p rest ih =>
    obtain ⟨s, v⟩ := p
    rw [walkAll] at h
    cases h1 : walkEnts f v s with
    | error y =>
      rw [h1] at h
      simp only [Except.error.injEq] at h
      subst h
      exact walkEnts_err f v s _ h1
    | ok y =>
      cases h2 : walkAll f rest with
      | error z =>
        rw [h1, h2] at h
        simp only [Except.error.injEq] at h
        subst h
        exact ih h2
      | ok zs => rw [h1, h2] at h; simp at h

theorem mergeTexts_not_refused (f : Fmt) (texts : List (Array Nat)) :
    mergeTexts f texts ≠ .error .mergeNotSupported := by
  intro h
  unfold mergeTexts at h
  split at h
  · rename_i x hx
    simp only [Except.error.injEq] at h
    subst h
    rcases walkAll_err f _ _ hx with e | e <;> cases e
  · split at h
    · simp at h
    · simp at h

end Merge
