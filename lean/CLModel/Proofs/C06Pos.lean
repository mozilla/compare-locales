/- where the findings of `PropertiesChecker.check` point.
   * a `PrintfException` offset is the offset of a `%` of the value (lone `%`, first argument of the other style)
     or 0 ("Ordered argument missing");
   * every other printf / plural finding is at offset 0;
   * escape warnings point at a backslash of the raw value, encoding warnings (EntityPos) at a U+FFFD of `all`. -/
import CLModel.Proofs.C06Grammar
import CLModel.Proofs.C06Verdict
import CLModel.Proofs.C06Plural
namespace C06Pos
open Rx PropCk

abbrev Text := List Nat


theorem specs_error_pos (v msg : Text) (pos : Nat) (h : getPrintfSpecs v = .error (.printf msg pos)) :
    (pos < v.length ∧ v[pos]? = some 37 ∧ (msg = sFoundSingle ∨ msg = sMixed)) ∨
    (pos = 0 ∧ msg = sOrderedMissing) := by
  obtain ⟨ts, hts⟩ := atoks_total v
  rw [getPrintfSpecs_eq_spec v ts hts] at h
  rcases specsSpec_error h with ⟨p, a, ha, he⟩ | he
  · obtain ⟨t, ht, h3⟩ := C06G.lex_pos (C06G.lex_of_atoks hts) _ ha
    obtain rfl : p = t := ht.trans (Nat.zero_add t)
    have h2 := (List.getElem?_eq_some_iff.mp h3).1
    rcases he with he | he <;> cases he
    · exact .inl ⟨h2, h3, .inl rfl⟩
    · exact .inl ⟨h2, h3, .inr rfl⟩
  · cases he
    exact .inr ⟨rfl, rfl⟩

theorem checkPrintf_pos (R : List Spec) (v : Text) (fs : List Finding) (h : checkPrintf R v = some fs) :
    ∀ f ∈ fs, f.cat = .printf ∧ ∃ n, f.pos = .val n ∧ (n = 0 ∨ (n < v.length ∧ v[n]? = some 37)) := by
  cases hg : getPrintfSpecs v with
  | error e =>
    cases e with
    | other => exact absurd hg (getPrintfSpecs_not_other v)
    | printf msg pos =>
      rw [checkPrintf_malformed R v msg pos hg] at h
      cases h
      intro f hf
      simp only [List.mem_singleton] at hf
      subst hf
      refine ⟨rfl, pos, rfl, ?_⟩
      rcases specs_error_pos v msg pos hg with ⟨h1, h2, _⟩ | ⟨h1, _⟩
      · exact Or.inr ⟨h1, h2⟩
      · exact Or.inl h1
  | ok L =>
    rw [checkPrintf_ok R L v hg] at h
    obtain ⟨ops, fs', hv⟩ := specsVerdict_opcodes R L
    rw [hv.eq] at h
    cases h
    intro f hf
    obtain ⟨h1, h2⟩ := hv.pos f hf
    exact ⟨h2, 0, h1, Or.inl rfl⟩

theorem base_pos (e : Ents) : ∀ f ∈ baseCheck e, ∃ n, f.pos = .ent n ∧ e.l10nAll[n]? = some 65533 := by
  intro f hf
  simp only [baseCheck, List.mem_map] at hf
  obtain ⟨m, hm, rfl⟩ := hf
  have hsem := finditer_sem e.l10nAll.toArray _ m hm
  unfold Gen.Pat.checks_base_mochibake at hsem
  obtain ⟨hc, _⟩ := sem_lit_inv hsem
  exact ⟨m.1, rfl, by simpa using hc⟩

theorem esc_pos (raw : Text) : ∀ f ∈ escapeWarnings raw, f.cat = .escape ∧ ∃ n, f.pos = .val n ∧ raw[n]? = some 92 := by
  intro f hf
  simp only [escapeWarnings, List.mem_filterMap] at hf
  obtain ⟨m, hm, hfm⟩ := hf
  have hsem := finditer_sem raw.toArray _ m hm
  unfold Gen.Pat.PropertiesEntityMixin_escape at hsem
  obtain ⟨st1, h1, _⟩ := sem_seq_inv hsem
  obtain ⟨hc, _⟩ := sem_lit_inv h1
  have hc' : raw[m.1]? = some 92 := by simpa using hc
  cases hs : groupText raw.toArray m.2 Gen.Pat.PropertiesEntityMixin_escape_g_single with
  | none => simp [hs] at hfm
  | some t =>
    cases t with
    | nil => simp [hs] at hfm
    | cons c cs =>
      simp only [hs] at hfm
      by_cases hk : isKnownEscape (c :: cs) = true
      · simp [hk] at hfm
      · simp only [hk, Bool.not_false, Bool.false_eq_true, not_false_eq_true, if_true, Option.some.injEq,
          Bool.not_eq_true] at hfm
        subst hfm
        exact ⟨rfl, m.1, rfl, hc'⟩

theorem plural_pos (known : Option (List Text)) (semis : Nat) (pats lpats : List Nat) :
    ∀ f ∈ formsVerdict known semis ++ varsVerdict pats lpats, f.pos = .val 0 ∧ f.cat = .plural := by
  intro f hf
  rcases List.mem_append.mp hf with hf | hf
  · unfold formsVerdict at hf
    split at hf
    · split at hf
      · simp only [List.mem_singleton] at hf; subst hf; exact ⟨rfl, rfl⟩
      · simp at hf
    · simp at hf
  · unfold varsVerdict at hf
    split at hf
    · simp at hf
    · split at hf
      · simp only [List.mem_singleton] at hf; subst hf; exact ⟨rfl, rfl⟩
      · split at hf
        · simp only [List.mem_singleton] at hf; subst hf; exact ⟨rfl, rfl⟩
        · simp at hf

end C06Pos
