/-
C14: the filter → Observer → ContentComparer composition at every quiet level (`Compare/FilterObserver.lean`).  `compare` is a
run of the `ObserverList` over a history that the filters determine (`compareQ_eq`, a plan of Proofs/ObsProg.lean), and its
counters are the closed form `accSpec` of the filters' answers (`Counts`).  `listRv`, `missRv`, `obsRv`, `fileRv` are
`ObsM.verdict` (Proofs/ObsProg.lean) at the category and data of the iteration; the statements of Props/C14 are written with them.
-/
import CLModel.Compare.FilterObserver
import CLModel.Compare.MissingFilter
import CLModel.Proofs.ObsProg
import CLModel.Proofs.C14Compare
namespace C14Q
open ObsM FiltObs

/-- what `ObserverList.notify` returns for the notification of an iteration: the most severe answer of the
    project observers' filters ("error" for an observer without filter), "ignore" iff all of them ignore -/
def listRv (flts : List (Option Filter)) (file : File) (e : KeyEv) : Ret :=
  listRet (flts.map (fun flt => rvOf flt e.cat file e.data))

/-- the counters after one iteration, as a function of the filters' answers only -/
def accStep (flts : List (Option Filter)) (file : File) (acc : CmpAcc) (e : KeyEv) : CmpAcc :=
  let rv := listRv flts file e
  let acc := { acc with rvs := acc.rvs ++ [rv] }
  match e with
  | .missing key words =>
    if rv == .ignore then acc
    else if rv == .error then
      { acc with missings := acc.missings ++ [key], missing := acc.missing + 1, missingW := acc.missingW + words }
    else { acc with report := acc.report + 1 }
  | .obsolete _ => if rv != .ignore then { acc with obsolete := acc.obsolete + 1 } else acc
  | _ => acc

/-- the counters `compare` returns, as a fold over the iterations of the filters' answers alone (`compareQ_eq`) -/
def accSpec (flts : List (Option Filter)) (file : File) (evs : List KeyEv) (acc : CmpAcc) : CmpAcc :=
  evs.foldl (accStep flts file) acc

/-- the history of the `ObserverList` that `compare` produces -/
def historyOf (flts : List (Option Filter)) (file : File) (evs : List KeyEv) (b : BothCounts) : List Ev :=
  evs.map (KeyEv.toEv file) ++ [.stats file (statsOf (accSpec flts file evs CmpAcc.zero) b)]

/-- the counters after an iteration whose notification returned `rv` -/
def accWith (acc : CmpAcc) (e : KeyEv) (rv : Ret) : CmpAcc :=
  let acc := { acc with rvs := acc.rvs ++ [rv] }
  match e with
  | .missing key words =>
    if rv == .ignore then acc
    else if rv == .error then
      { acc with missings := acc.missings ++ [key], missing := acc.missing + 1, missingW := acc.missingW + words }
    else { acc with report := acc.report + 1 }
  | .obsolete _ => if rv != .ignore then { acc with obsolete := acc.obsolete + 1 } else acc
  | _ => acc

theorem cmpStep_eq (l : ObsList) (file : File) (acc : CmpAcc) (e : KeyEv) :
    cmpStep l file acc e = (l.notify e.cat file e.data).map fun r => (r.1, accWith acc e r.2) := by
  cases e with
  | missing k w =>
    simp only [cmpStep, KeyEv.cat, KeyEv.data, accWith, bind, Except.bind, Except.map, pure, Except.pure]
    cases l.notify .missingEntity file (.str k) with
    | error _ => rfl
    | ok r =>
      dsimp only
      cases r.2 == Ret.ignore <;> cases r.2 == Ret.error <;> rfl
  | obsolete k =>
    simp only [cmpStep, KeyEv.cat, KeyEv.data, accWith, bind, Except.bind, Except.map, pure, Except.pure]
    cases l.notify .obsoleteEntity file (.str k) with
    | error _ => rfl
    | ok r =>
      dsimp only
      cases r.2 != Ret.ignore <;> rfl
  | refJunk m => cases h : l.notify .warning file (.str m) <;> simp [cmpStep, KeyEv.cat, KeyEv.data, accWith, bind, Except.bind, Except.map, pure, Except.pure, h]
  | l10nJunk m => cases h : l.notify .error file (.str m) <;> simp [cmpStep, KeyEv.cat, KeyEv.data, accWith, bind, Except.bind, Except.map, pure, Except.pure, h]
  | note c m => cases h : l.notify c file (.str m) <;> simp [cmpStep, KeyEv.cat, KeyEv.data, accWith, bind, Except.bind, Except.map, pure, Except.pure, h]

theorem cmpLoop_eq (file : File) : ∀ (evs : List KeyEv) (l : ObsList) (acc : CmpAcc),
    cmpLoop file evs l acc =
      (⟨evs.map (KeyEv.toEv file), .ok (accSpec l.filters file evs acc)⟩ : Plan TreeM.PyErr CmpAcc).exec id l
  | [], _, _ => rfl
  | e :: rest, l, acc => by
    simp only [cmpLoop, cmpStep_eq, ObsList.notify_eq_step, Plan.exec, List.map_cons, ObsList.run_cons, KeyEv.toEv, accSpec,
      List.foldl_cons]
    cases h : l.step (.notify e.cat file e.data) with
    | error err => rfl
    | ok l1 =>
      simp only [Except.map, bind, Except.bind, cmpLoop_eq file rest l1, Plan.exec, (ObsList.step_filters h).1, accSpec]
      rfl

theorem fresh_filters (q : Nat) (flts : List (Option Filter)) : (fresh q flts).filters = flts :=
  ObsList.init_filters q flts

theorem compareQ_eq (l : ObsList) (file : File) (evs : List KeyEv) (b : BothCounts) :
    compareQ l file evs b =
      (⟨historyOf l.filters file evs b, .ok (accSpec l.filters file evs CmpAcc.zero)⟩ : Plan TreeM.PyErr CmpAcc).exec id l := by
  simp only [compareQ, cmpLoop_eq, Plan.exec, historyOf, ObsList.run_append, ObsList.run_single]
  cases l.run (evs.map (KeyEv.toEv file)) <;> rfl

theorem compareQ_spec {l l' : ObsList} {file : File} {evs : List KeyEv} {b : BothCounts} {acc : CmpAcc}
    (h : compareQ l file evs b = .ok (l', acc)) :
    acc = accSpec l.filters file evs CmpAcc.zero ∧ l.run (historyOf l.filters file evs b) = .ok l' := by
  rw [compareQ_eq] at h
  exact ⟨(Except.ok.inj (Plan.exec_ok.1 h).2).symm, (Plan.exec_ok.1 h).1⟩

theorem compareQ_of_run {l l' : ObsList} {file : File} {evs : List KeyEv} {b : BothCounts}
    (h : l.run (historyOf l.filters file evs b) = .ok l') :
    compareQ l file evs b = .ok (l', accSpec l.filters file evs CmpAcc.zero) :=
  (compareQ_eq l file evs b).trans (Plan.exec_ok.2 ⟨h, rfl⟩)

/-- the list's answer for a missing key / an obsolete key -/
def missRv (flts : List (Option Filter)) (file : File) (k : List Nat) : Ret :=
  listRet (flts.map (fun flt => rvOf flt .missingEntity file (.str k)))
def obsRv (flts : List (Option Filter)) (file : File) (k : List Nat) : Ret :=
  listRet (flts.map (fun flt => rvOf flt .obsoleteEntity file (.str k)))

/-- the missing keys (with the word count of the reference entity) / the obsolete keys of a comparison, in order -/
def missKeys (evs : List KeyEv) : List (List Nat × Nat) :=
  evs.filterMap (fun e => match e with | .missing k w => some (k, w) | _ => none)
def obsKeys (evs : List KeyEv) : List (List Nat) :=
  evs.filterMap (fun e => match e with | .obsolete k => some k | _ => none)

/-- `r` is `acc` after the iterations `evs`, field by field in closed form: what is counted are the missing keys whose combined
    verdict is "error" (merged too) or "warning" (`report`), and the obsolete keys that are not ignored -/
structure Counts (flts : List (Option Filter)) (file : File) (evs : List KeyEv) (acc r : CmpAcc) : Prop where
  missing : r.missing = acc.missing + ((missKeys evs).filter (fun kw => missRv flts file kw.1 == .error)).length
  missings : r.missings = acc.missings ++ ((missKeys evs).filter (fun kw => missRv flts file kw.1 == .error)).map (·.1)
  missingW : r.missingW = acc.missingW + (((missKeys evs).filter (fun kw => missRv flts file kw.1 == .error)).map (·.2)).sum
  report : r.report = acc.report + ((missKeys evs).filter (fun kw => missRv flts file kw.1 == .warning)).length
  obsolete : r.obsolete = acc.obsolete + ((obsKeys evs).filter (fun k => obsRv flts file k != .ignore)).length
  rvs : r.rvs = acc.rvs ++ evs.map (listRv flts file)

theorem Counts.append {flts : List (Option Filter)} {file : File} {evs₁ evs₂ : List KeyEv} {acc r r' : CmpAcc}
    (h₁ : Counts flts file evs₁ acc r) (h₂ : Counts flts file evs₂ r r') : Counts flts file (evs₁ ++ evs₂) acc r' := by
  constructor <;>
    simp [h₂.missing, h₂.missings, h₂.missingW, h₂.report, h₂.obsolete, h₂.rvs, h₁.missing, h₁.missings, h₁.missingW,
      h₁.report, h₁.obsolete, h₁.rvs, missKeys, obsKeys, List.filterMap_append, Nat.add_assoc]

theorem Counts.step (flts : List (Option Filter)) (file : File) (acc : CmpAcc) (e : KeyEv) :
    Counts flts file [e] acc (accStep flts file acc e) := by
  cases e with
  | missing k w =>
    have hrv : listRv flts file (.missing k w) = missRv flts file k := rfl
    cases hv : missRv flts file k <;> constructor <;> simp [accStep, missKeys, obsKeys, hrv, hv]
  | obsolete k =>
    have hrv : listRv flts file (.obsolete k) = obsRv flts file k := rfl
    cases hv : obsRv flts file k <;> constructor <;> simp [accStep, missKeys, obsKeys, hrv, hv]
  | refJunk m => exact ⟨rfl, (List.append_nil _).symm, rfl, rfl, rfl, rfl⟩
  | l10nJunk m => exact ⟨rfl, (List.append_nil _).symm, rfl, rfl, rfl, rfl⟩
  | note c m => exact ⟨rfl, (List.append_nil _).symm, rfl, rfl, rfl, rfl⟩

theorem accSpec_counts (flts : List (Option Filter)) (file : File) : ∀ (evs : List KeyEv) (acc : CmpAcc),
    Counts flts file evs acc (accSpec flts file evs acc)
  | [], acc => by constructor <;> simp [accSpec, missKeys, obsKeys]
  | e :: rest, acc => (Counts.step flts file acc e).append (accSpec_counts flts file rest (accStep flts file acc e))

theorem missKeys_map : ∀ (keys : List (List Nat)),
    missKeys (keys.map (fun k => KeyEv.missing k 0)) = keys.map (fun k => (k, 0))
  | [] => rfl
  | k :: ks => by
    have ih := missKeys_map ks
    simp only [missKeys, List.map_cons, List.filterMap_cons] at ih ⊢
    rw [ih]

/-- `toRet` keeps the three tests the comparison makes of a verdict -/
@[simp] theorem toRet_beq_error (a : Filt.Action) : (toRet a == Ret.error) = (a == Filt.Action.error) := by cases a <;> rfl
@[simp] theorem toRet_beq_warning (a : Filt.Action) : (toRet a == Ret.warning) = (a == Filt.Action.warning) := by cases a <;> rfl
@[simp] theorem toRet_bne_ignore (a : Filt.Action) : (toRet a != Ret.ignore) = (a != Filt.Action.ignore) := by cases a <;> rfl

theorem listRet_single (r : Ret) : listRet [r] = r := by cases r <;> rfl

theorem missRv_project (cfg : Filt.Config) (fp : File → List Nat) (file : File) (loc : List Nat)
    (hl : file.locale = some loc) (k : List Nat) :
    missRv [some (projectFilter cfg fp)] file k = toRet (Filt.filter cfg ⟨fp file, loc⟩ (some k)) := by
  simp [missRv, listRet_single, rvOf, Cat.isFile, projectFilter, hl]

theorem obsRv_project (cfg : Filt.Config) (fp : File → List Nat) (file : File) (loc : List Nat)
    (hl : file.locale = some loc) (k : List Nat) :
    obsRv [some (projectFilter cfg fp)] file k = toRet (Filt.filter cfg ⟨fp file, loc⟩ (some k)) := by
  simp [obsRv, listRet_single, rvOf, Cat.isFile, projectFilter, hl]

theorem toRet_eq_iff (a : Filt.Action) (r : Filt.Action) : (toRet a == toRet r) = (a == r) := by
  cases a <;> cases r <;> rfl

theorem fresh_own_core (q : Nat) (flts : List (Option Filter)) : (fresh q flts).own.core = ([], false) := rfl

theorem fresh_own_filter (q : Nat) (flts : List (Option Filter)) : (fresh q flts).own.filter = none := rfl

theorem fresh_observers_core {q : Nat} {flts : List (Option Filter)} {h : List Ev} {l' : ObsList}
    (hr : (fresh q flts).run h = .ok l') :
    l'.observers.map Obs.core = flts.map (fun flt => coreRun (ignObs flt) ([], false) h) := by
  obtain ⟨_, b, _⟩ := list_run_spec h (fresh q flts) l' hr rfl
  have : (flts.map (Obs.init q)).map (fun o => coreRun (ignObs o.filter) o.core h) = l'.observers.map Obs.core :=
    All₂.map_eq _ _ (fun o o' hoo => ((Obs.run_core h o o' hoo).1).symm) b
  rw [← this]
  exact List.map_map

theorem fresh_own_core_run {q : Nat} {flts : List (Option Filter)} {h : List Ev} {l' : ObsList}
    (hr : (fresh q flts).run h = .ok l') :
    l'.own.core = coreRun (ignList flts) ([], false) h := by
  have := list_run_core hr rfl
  rw [fresh_filters, fresh_own_core] at this
  exact this


theorem fresh_observer_run {q : Nat} {flts : List (Option Filter)} {h : List Ev} {l' : ObsList}
    (hr : (fresh q flts).run h = .ok l') (i : Nat) (o' : Obs) (hi : l'.observers[i]? = some o') :
    ∃ flt, flts[i]? = some flt ∧ (Obs.init q flt).run h = .ok o' := by
  obtain ⟨_, b, _⟩ := list_run_spec h (fresh q flts) l' hr rfl
  obtain ⟨o, ho, hrun⟩ := All₂.getElem? b i o' hi
  simp only [fresh, ObsList.init, List.getElem?_map, Option.map_eq_some_iff] at ho
  obtain ⟨flt, hflt, rfl⟩ := ho
  exact ⟨flt, hflt, hrun⟩

theorem fresh_own_run {q : Nat} {flts : List (Option Filter)} {h : List Ev} {l' : ObsList}
    (hr : (fresh q flts).run h = .ok l') :
    (Obs.init q none).run (h.filter (fun ev => !ignList flts ev)) = .ok l'.own := by
  obtain ⟨a, _, _⟩ := list_run_spec h (fresh q flts) l' hr rfl
  rw [fresh_filters] at a
  exact a


/-- the list's answer for a file notification: the most severe of the filters' FILE verdicts -/
def fileRv (flts : List (Option Filter)) (cat : Cat) (file : File) : Ret :=
  listRet (flts.map (fun flt => rvOf flt cat file .none))

def addFileHistory (flts : List (Option Filter)) (file : File) (n w : Nat) : List Ev :=
  .notify .missingFile file .none ::
    (if fileRv flts .missingFile file == .ignore then []
     else [.stats file [(.missing, n)], .stats file [(.missing_w, w)]])

theorem addFileQ_spec {l l' : ObsList} {file : File} {n w : Nat} {rv : Ret}
    (h : addFileQ l file n w = .ok (l', rv)) :
    rv = fileRv l.filters .missingFile file ∧ l.run (addFileHistory l.filters file n w) = .ok l' := by
  simp only [addFileQ, bind, Except.bind] at h
  cases hn : l.notify .missingFile file .none with
  | error e => rw [hn] at h; cases h
  | ok r =>
    obtain ⟨l1, rv1⟩ := r
    rw [hn] at h
    have hrv : rv1 = fileRv l.filters .missingFile file := ObsList.notify_rv hn
    have hrun := ObsList.notify_run hn
    by_cases hi : (rv1 == Ret.ignore) = true
    · simp only [hi, ↓reduceIte, pure, Except.pure, Except.ok.injEq, Prod.mk.injEq] at h
      obtain ⟨rfl, rfl⟩ := h
      refine ⟨hrv, ?_⟩
      simp only [addFileHistory, ← hrv, hi, ↓reduceIte]
      exact hrun
    · simp only [hi, Bool.false_eq_true, ↓reduceIte, pure, Except.pure, Except.ok.injEq, Prod.mk.injEq] at h
      obtain ⟨rfl, rfl⟩ := h
      refine ⟨hrv, ?_⟩
      simp only [addFileHistory, ← hrv, hi, Bool.false_eq_true, ↓reduceIte]
      exact ObsList.run_trans hrun rfl

theorem removeFileQ_spec {l l' : ObsList} {file : File} {rv : Ret} (h : removeFileQ l file = .ok (l', rv)) :
    rv = fileRv l.filters .obsoleteFile file ∧ l.run [.notify .obsoleteFile file .none] = .ok l' :=
  ⟨ObsList.notify_rv h, ObsList.notify_run h⟩

def toAction : Ret → Filt.Action
  | .error => .error
  | .warning => .warning
  | .ignore => .ignore

theorem toRet_toAction (a : Filt.Action) : toAction (toRet a) = a := by cases a <;> rfl

/-- an observer of `MissingFilter.lean` (its filter restricted to one file) as an `ObsM` filter -/
def liftObs (file : File) : Filt.Obs → Option Filter
  | none => none
  | some v => some (fun f d => match d with
      | .str k => if f = file then toRet (v k) else .ignore
      | _ => .ignore)

theorem rvOf_liftObs (file : File) (o : Filt.Obs) (k : List Nat) :
    rvOf (liftObs file o) .missingEntity file (.str k) = toRet (Filt.obsVerdict o k) := by
  cases o with
  | none => rfl
  | some v => simp [liftObs, rvOf, Cat.isFile, Filt.obsVerdict]

theorem contains_map_toRet : ∀ (as : List Filt.Action),
    (as.map toRet).contains Ret.error = as.contains .error
  | [] => rfl
  | a :: t => by
    rw [List.map_cons, List.contains_cons, List.contains_cons, contains_map_toRet t]
    cases a <;> rfl

theorem all_map_toRet : ∀ (as : List Filt.Action),
    (as.map toRet).all (· == Ret.ignore) = as.all (· == Filt.Action.ignore)
  | [] => rfl
  | a :: t => by
    rw [List.map_cons, List.all_cons, List.all_cons, all_map_toRet t]
    cases a <;> rfl

theorem listRet_map_toRet (as : List Filt.Action) : listRet (as.map toRet) = toRet (Filt.worst as) := by
  unfold listRet
  rw [contains_map_toRet, all_map_toRet]
  by_cases h1 : as.all (· == Filt.Action.ignore) = true
  · rw [if_pos h1, (Filt.all_ignore_iff as).1 h1]; rfl
  · have hw : Filt.worst as ≠ .ignore := fun h => h1 ((Filt.all_ignore_iff as).2 h)
    rw [if_neg h1]
    unfold Filt.worst at hw ⊢
    split
    · rfl
    · split
      · rfl
      · simp_all

end C14Q
