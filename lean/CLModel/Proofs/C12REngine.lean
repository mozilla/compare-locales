/- Completeness and uniqueness of the backtracking engine on "filled" wildcard patterns.
   A token list is a pattern of the restricted class together with the values put into its wildcards
   (literal text, group that runs like a literal text = fully bound variable, `*` group, `**/` group, final `**`).
   If the filling is well separated (`Sep`), the engine, run on the concatenated text, ends at the end of the subject
   with exactly the captures of the filling (`run_toks`): the greedy star first takes the longest run, every
   longer candidate is refuted by the literal that follows, the intended one succeeds. -/
import CLModel.Proofs.C12Bound
import CLModel.Proofs.C11Sound
import CLModel.Proofs.RxStar
namespace C11R
open Rx PM

/-- `b` consumes exactly one character satisfying `P` -/
abbrev OneChar (s : Array Nat) (b : Re) (P : Nat → Bool) : Prop := ∀ st, ends s b st = stepIf s P st

theorem oneChar_notLit (s : Array Nat) (c : Nat) : OneChar s (.notLit c) (fun d => d != c) := fun _ => rfl

theorem oneChar_any (s : Array Nat) : OneChar s (.any false) (fun d => d != 10) := fun _ => rfl

theorem oneChar_range (s : Array Nat) (lo hi : Nat) :
    OneChar s (.cls false [.range lo hi]) (fun c => decide (lo ≤ c) && decide (c ≤ hi)) := fun st => by
  rw [ends_cls, show inC false [.range lo hi] = _ from funext fun c => inC_range]

theorem m_rep_exact (s : Array Nat) (b : Re) (P : Nat → Bool) (hb : OneChar s b P) (n pos : Nat) (hpos : pos ≤ s.size)
    (caps : List (Nat × Nat × Nat)) (k : K) :
    m s (Re.rep n (some n) true b) ⟨pos, caps⟩ k = if n ≤ runAt s P pos then k ⟨pos + n, caps⟩ else none := by
  rw [m_eq_ends, ends_rep_exact hb n true hpos caps]
  split
  · cases h : k ⟨pos + n, caps⟩ <;> simp [h]
  · rfl

theorem m_lits_ok (s : Array Nat) : ∀ (t : Text) (r : List Re) (st : St) (k : K), TextAt s st.pos t →
    m s (seqOf (t.map Re.lit ++ r)) st k = m s (seqOf r) { st with pos := st.pos + t.length } k
  | [], r, st, k, _ => by simp
  | c :: t, r, st, k, h => by
    obtain ⟨hc, htl⟩ := h.tail
    simp only [List.map_cons, List.cons_append]
    rw [m_seqOf_cons]
    simp only [m, hc, beq_self_eq_true, if_true]
    rw [m_lits_ok s t r _ k htl]
    simp only [List.length_cons]
    congr 2; omega

theorem m_lits_fail (s : Array Nat) : ∀ (t : Text) (r : List Re) (st : St) (k : K), ¬ TextAt s st.pos t →
    m s (seqOf (t.map Re.lit ++ r)) st k = none
  | [], r, st, k, h => by exfalso; apply h; intro j hj; simp at hj
  | c :: t, r, st, k, h => by
    simp only [List.map_cons, List.cons_append]
    rw [m_seqOf_cons]
    simp only [m]
    split
    · rename_i hc
      have hc' : s[st.pos]? = some c := by simpa using hc
      exact m_lits_fail s t r _ k (fun ht => h (Txt.at_cons.mpr ⟨hc', ht⟩))
    · rfl

theorem m_star_group (s : Array Nat) (i : Nat) (b : Re) (P : Nat → Bool) (hb : OneChar s b P)
    (pos : Nat) (hpos : pos ≤ s.size) (caps : List (Nat × Nat × Nat)) (k : K) :
    m s (Re.group i (Re.rep 0 none true b)) ⟨pos, caps⟩ k =
      firstSome (fun j => k ⟨j, (i, pos, j) :: caps⟩) (downFrom pos (runAt s P pos)) := by
  rw [m_group_def, m_rep_greedy hb 0 hpos]
  simp

theorem m_plus (s : Array Nat) (b : Re) (P : Nat → Bool) (hb : OneChar s b P)
    (pos : Nat) (hpos : pos ≤ s.size) (caps : List (Nat × Nat × Nat)) (k : K) :
    m s (Re.rep 1 none true b) ⟨pos, caps⟩ k =
      match s[pos]? with
      | some c => if P c then firstSome (fun j => k ⟨j, caps⟩) (downFrom (pos + 1) (runAt s P (pos + 1))) else none
      | none => none := by
  rw [m_rep_greedy hb 1 hpos, runAt]
  rcases Txt.drop_cases s pos with ⟨h0, _, hd⟩ | ⟨c, h0, _, hd⟩
  · rw [h0, hd]; rfl
  · rw [h0, hd, List.takeWhile_cons]
    by_cases hp : P c = true
    · simp only [hp, if_true, List.length_cons, Nat.le_add_left, Nat.add_sub_cancel, runAt]
    · simp [hp]

/-- exact behaviour of the `(?P<i>.+/)?` item -/
theorem m_sstar_item (s : Array Nat) (i pos : Nat) (hpos : pos ≤ s.size) (caps : List (Nat × Nat × Nat)) (k : K) :
    m s (Re.alt (Re.group i (Re.seq (Re.rep 1 none true (Re.any false)) (Re.lit 47))) Re.eps) ⟨pos, caps⟩ k =
      (match s[pos]? with
        | some c => if (c != 10) = true then
            firstSome (fun j => if s[j]? == some 47 then k ⟨j + 1, (i, pos, j + 1) :: caps⟩ else none)
              (downFrom (pos + 1) (runAt s (fun d => d != 10) (pos + 1)))
          else none
        | none => none).orElse (fun _ => k ⟨pos, caps⟩) := by
  rw [m_alt_def, m_group_def, m_seq_def, m_plus s _ _ (oneChar_any s) pos hpos]
  simp only [m]

/-- exact behaviour of the `(?P<i>.+)?` item -/
theorem m_send_item (s : Array Nat) (i pos : Nat) (hpos : pos ≤ s.size) (caps : List (Nat × Nat × Nat)) (k : K) :
    m s (Re.alt (Re.group i (Re.rep 1 none true (Re.any false))) Re.eps) ⟨pos, caps⟩ k =
      (match s[pos]? with
        | some c => if (c != 10) = true then
            firstSome (fun j => k ⟨j, (i, pos, j) :: caps⟩)
              (downFrom (pos + 1) (runAt s (fun d => d != 10) (pos + 1)))
          else none
        | none => none).orElse (fun _ => k ⟨pos, caps⟩) := by
  rw [m_alt_def, m_group_def, m_plus s _ _ (oneChar_any s) pos hpos]
  simp only [m]

/-- a pattern item together with the text put in its place: literal text, a group `i` around items `body` that
    behave like the literal text `t` and record the captures `F pos` (a bound variable, possibly with nested
    variables inside: `GlRun`), a `*` group with its value, a `**/` group with its value (`[]` = no directory),
    a `**` at the end of the pattern with its value (`[]` = nothing) -/
inductive Tok where
  | lit (t : Text)
  | gl (i : Nat) (body : List Re) (t : Text) (F : Nat → List (Nat × Nat × Nat))
  | star (i : Nat) (v : Text)
  | sstar (i : Nat) (w : Text)
  | send (i : Nat) (w : Text)

def Tok.items : Tok → List Re
  | .lit t => t.map Re.lit
  | .gl i body _ _ => [Re.group i (seqOf body)]
  | .star i _ => [Re.group i Gen.Pat.matcher_frag_star]
  | .sstar i _ => [Re.alt (Re.group i (seqOf (Gen.Pat.matcher_frag_starstar :: [47].map Re.lit))) Re.eps]
  | .send i _ => [Re.alt (Re.group i (seqOf (Gen.Pat.matcher_frag_starstar :: ([] : Text).map Re.lit))) Re.eps]

def Tok.text : Tok → Text
  | .lit t => t
  | .gl _ _ t _ => t
  | .star _ v => v
  | .sstar _ w => w
  | .send _ w => w

def toksText (ts : List Tok) : Text := ts.flatMap Tok.text
def toksItems (ts : List Tok) : List Re := ts.flatMap Tok.items

/-- the literal text a token list begins with (`[]` if it begins with a wildcard or is empty) -/
def headText : List Tok → Text
  | .lit t :: _ => t
  | .gl _ _ t _ :: _ => t
  | _ => []

/-- `L` (the literal after a star) does not occur again at a later position of the `/`-free run that `R`
    (everything after the star's value) begins with -/
def NoLaterHit (L R : Text) : Prop :=
  ∀ j, 0 < j → j ≤ (R.takeWhile (fun c => c != 47)).length → ¬ L <+: R.drop j

/-- value of a `**/`: nothing, or a non-empty text without newline followed by `/` -/
def DirsOK (w : Text) : Prop := w = [] ∨ ∃ w', w = w' ++ [47] ∧ w' ≠ [] ∧ 10 ∉ w'

/-- the items `body` run like the literal text `t`: where `t` is found they consume it and record exactly the
    captures `F pos` on top of the old ones, elsewhere they fail (for every subject and continuation) -/
def GlRun (body : List Re) (t : Text) (F : Nat → List (Nat × Nat × Nat)) : Prop :=
  ∀ (s : Array Nat) (st : St) (k : K),
    (TextAt s st.pos t → m s (seqOf body) st k = k ⟨st.pos + t.length, F st.pos ++ st.caps⟩) ∧
    (¬ TextAt s st.pos t → m s (seqOf body) st k = none)

/-- the captures recorded inside belong to groups of `body` -/
def GlIdx (body : List Re) (F : Nat → List (Nat × Nat × Nat)) : Prop :=
  ∀ p, ∀ e ∈ F p, e.1 ∈ body.flatMap gidx

/-- no double star among the tokens -/
def Plain (ts : List Tok) : Prop := ∀ tok ∈ ts, (∀ i w, tok ≠ Tok.sstar i w) ∧ (∀ i w, tok ≠ Tok.send i w)

/-- the filling is well separated (and the literal-like groups are what they claim to be) -/
def Sep : List Tok → Prop
  | [] => True
  | .lit _ :: r => Sep r
  | .gl _ body t F :: r => GlRun body t F ∧ GlIdx body F ∧ Sep r
  | .star _ v :: r => 47 ∉ v ∧ NoLaterHit (headText r) (toksText r) ∧ Sep r
  | .sstar _ w :: r => DirsOK w ∧ Plain r ∧ Sep r
  | .send _ w :: r => 10 ∉ w ∧ (∀ t ∈ r, t = Tok.lit []) ∧ Sep r

/-- the captures the engine has recorded after running through the tokens from `pos` (most recent first) -/
def capsAfter : Nat → List Tok → List (Nat × Nat × Nat) → List (Nat × Nat × Nat)
  | _, [], acc => acc
  | pos, .lit t :: r, acc => capsAfter (pos + t.length) r acc
  | pos, .gl i _ t F :: r, acc => capsAfter (pos + t.length) r ((i, pos, pos + t.length) :: (F pos ++ acc))
  | pos, .star i v :: r, acc => capsAfter (pos + v.length) r ((i, pos, pos + v.length) :: acc)
  | pos, .sstar i w :: r, acc =>
    capsAfter (pos + w.length) r (if w = [] then acc else (i, pos, pos + w.length) :: acc)
  | pos, .send i w :: r, acc =>
    capsAfter (pos + w.length) r (if w = [] then acc else (i, pos, pos + w.length) :: acc)

theorem toksText_cons (t : Tok) (r : List Tok) : toksText (t :: r) = t.text ++ toksText r := by
  simp [toksText]

theorem toksItems_cons (t : Tok) (r : List Tok) : toksItems (t :: r) = t.items ++ toksItems r := by
  simp [toksItems]

theorem bne_of_not_mem {c : Nat} {w : Text} (h : c ∉ w) : ∀ d ∈ w, (d != c) = true :=
  fun _ hd => bne_iff_ne.mpr fun e => h (e ▸ hd)

theorem runAt_covers {s : Array Nat} {p : Nat} {w : Text} {P : Nat → Bool} (h : TextAt s p w)
    (hw : ∀ c ∈ w, P c = true) : w.length ≤ runAt s P p :=
  runAt_ge s P p w.length (fun q hq => ⟨w[q], Txt.At.get h hq, hw _ (List.getElem_mem hq)⟩)

theorem toks_fail_head (s : Array Nat) (r : List Tok) (tl : List Re) (st : St) (k : K) (hsep : Sep r)
    (h : ¬ TextAt s st.pos (headText r)) : m s (seqOf (toksItems r ++ tl)) st k = none := by
  cases r with
  | nil => exfalso; apply h; intro j hj; simp [headText] at hj
  | cons t r =>
    cases t with
    | lit t =>
      rw [toksItems_cons, List.append_assoc]
      exact m_lits_fail s t _ st k h
    | gl i body t F =>
      rw [toksItems_cons, List.append_assoc]
      simp only [Tok.items, List.cons_append, List.nil_append]
      rw [m_seqOf_cons]
      simp only [m]
      exact (hsep.1 s st _).2 h
    | star i v => exfalso; apply h; intro j hj; simp [headText] at hj
    | sstar i w => exfalso; apply h; intro j hj; simp [headText] at hj
    | send i w => exfalso; apply h; intro j hj; simp [headText] at hj

theorem le_takeWhile_length (P : Nat → Bool) (R : Text) (n : Nat)
    (h : ∀ q, q < n → ∃ c, R[q]? = some c ∧ P c = true) : n ≤ (R.takeWhile P).length :=
  runAt_ge R.toArray P 0 n fun q hq => by simpa using h q hq

theorem prefix_drop_of_textAt {s : Array Nat} {p j : Nat} {R L : Text} (hR : TextAt s p R)
    (hend : p + R.length = s.size) (hpj : p ≤ j) (hL : TextAt s j L) : L <+: R.drop (j - p) := by
  rw [List.prefix_iff_getElem?]
  intro q hq
  have h1 := Txt.At.get hL hq
  have hlt := getElem?_some_lt h1
  have h2 := hR ((j - p) + q) (by omega)
  rw [List.getElem?_drop, ← h2, ← h1]
  congr 1; omega

/-- number of `/` in the subject from position `p` on -/
def sl (s : Array Nat) (p : Nat) : Nat := (s.toList.drop p).count 47

theorem sl_step {s : Array Nat} {p c : Nat} (h : s[p]? = some c) :
    sl s p = (if c = 47 then 1 else 0) + sl s (p + 1) := by
  rcases Txt.drop_cases s p with ⟨h0, _⟩ | ⟨c', hc', _, hd⟩
  · rw [h0] at h; cases h
  · obtain rfl : c' = c := Option.some.inj (hc'.symm.trans h)
    unfold sl
    rw [hd, List.count_cons, Nat.add_comm]
    simp only [beq_iff_eq]

theorem sl_mono (s : Array Nat) {p q : Nat} (h : p ≤ q) : sl s q ≤ sl s p :=
  List.Sublist.count_le 47 (List.drop_sublist_drop_left s.toList h)

theorem sl_textAt {s : Array Nat} {t : Text} {p : Nat} (h : TextAt s p t) : sl s p = t.count 47 + sl s (p + t.length) := by
  unfold sl
  rw [Txt.At.drop_eq h, List.count_append]

theorem sl_run {s : Array Nat} : ∀ (n p : Nat), (∀ q, q < n → ∃ c, s[p + q]? = some c ∧ (c != 47) = true) →
    sl s p = sl s (p + n)
  | 0, p, _ => rfl
  | n + 1, p, h => by
    obtain ⟨c, hc, hne⟩ := h 0 (by omega)
    simp only [Nat.add_zero] at hc
    have hne' : c ≠ 47 := by simpa using hne
    rw [sl_step hc, if_neg hne', Nat.zero_add, sl_run n (p + 1) (by
      intro q hq
      obtain ⟨d, hd, hdn⟩ := h (q + 1) (by omega)
      exact ⟨d, by rw [← hd]; congr 1; omega, hdn⟩)]
    congr 1; omega

theorem sl_end (s : Array Nat) : sl s s.size = 0 := by
  unfold sl
  rw [List.drop_eq_nil_of_le (by simp)]
  rfl

theorem sl_lt_of_slash {s : Array Nat} {p j : Nat} (hpj : p ≤ j) (hj : s[j]? = some 47) : sl s (j + 1) < sl s p := by
  have h1 := sl_step hj
  have h2 := sl_mono s hpj
  simp at h1
  omega

/-- How the candidates of a `**/` that end at a later "/" are refuted: after a `**/` no further double star follows
    (`Plain`), and literals, literal-like groups and `*` consume exactly the "/" of their text (a `*` none), so a run of the
    rest that reaches `$` has consumed as many "/" as the rest's text has; from a later "/" on the subject has fewer. -/
theorem run_toks_slash_fail (s : Array Nat) : ∀ (r : List Tok) (st : St) (k : K), Plain r → Sep r → st.pos ≤ s.size →
    sl s st.pos ≠ (toksText r).count 47 → m s (seqOf (toksItems r ++ [Re.eos])) st k = none
  | [], st, k, _, _, hpos, hne => by
    simp only [toksItems, List.flatMap_nil, List.nil_append, seqOf, m]
    split
    · rename_i he
      have he' : st.pos = s.size := by simpa using he
      rw [he', sl_end] at hne
      exact absurd rfl hne
    · rfl
  | .lit t :: r, st, k, hpl, hsep, hpos, hne => by
    rw [toksItems_cons, List.append_assoc]
    simp only [Tok.items]
    by_cases ht : TextAt s st.pos t
    · rw [m_lits_ok s t _ st k ht]
      have hlen : st.pos + t.length ≤ s.size := Txt.At.le_size ht hpos
      refine run_toks_slash_fail s r _ k (fun tok h => hpl tok (List.mem_cons_of_mem _ h)) hsep hlen ?_
      intro hc
      apply hne
      rw [toksText_cons, List.count_append, sl_textAt ht]
      simp only [Tok.text] at hc ⊢
      omega
    · exact m_lits_fail s t _ st k ht
  | .gl i body t F :: r, st, k, hpl, hsep, hpos, hne => by
    rw [toksItems_cons, List.append_assoc]
    simp only [Tok.items, List.cons_append, List.nil_append]
    rw [m_seqOf_cons]
    simp only [m]
    by_cases ht : TextAt s st.pos t
    · rw [(hsep.1 s st _).1 ht]
      have hlen : st.pos + t.length ≤ s.size := Txt.At.le_size ht hpos
      refine run_toks_slash_fail s r _ k (fun tok h => hpl tok (List.mem_cons_of_mem _ h)) hsep.2.2 hlen ?_
      intro hc
      apply hne
      rw [toksText_cons, List.count_append, sl_textAt ht]
      simp only [Tok.text] at hc ⊢
      omega
    · exact (hsep.1 s st _).2 ht
  | .star i v :: r, ⟨pos, caps⟩, k, hpl, hsep, hpos, hne => by
    have hpos : pos ≤ s.size := hpos
    have hne : sl s pos ≠ (toksText (Tok.star i v :: r)).count 47 := hne
    rw [toksItems_cons, List.append_assoc]
    simp only [Tok.items, List.cons_append, List.nil_append, Gen.Pat.matcher_frag_star]
    rw [m_seqOf_cons, m_star_group s i _ _ (oneChar_notLit s 47) pos hpos]
    apply firstSome_eq_none.mpr
    intro j hj
    obtain ⟨hj1, hj2⟩ := mem_downFrom_iff.mp hj
    have hle := runAt_le s (fun d => d != 47) pos
    have hrun : sl s pos = sl s (pos + (j - pos)) := sl_run (j - pos) pos (by
      intro q hq
      exact runAt_all s (fun d => d != 47) pos q (by omega))
    have e : pos + (j - pos) = j := by omega
    rw [e] at hrun
    refine run_toks_slash_fail s r ⟨j, (i, pos, j) :: caps⟩ k (fun tok h => hpl tok (List.mem_cons_of_mem _ h)) hsep.2.2
      (by simp only; omega) ?_
    intro hc
    apply hne
    have hv : v.count 47 = 0 := List.count_eq_zero.mpr hsep.1
    rw [toksText_cons, List.count_append]
    simp only [Tok.text, hv, Nat.zero_add] at hc ⊢
    omega
  | .sstar i w :: r, st, k, hpl, _, _, _ => absurd rfl ((hpl _ (by simp)).1 i w)
  | .send i w :: r, st, k, hpl, _, _, _ => absurd rfl ((hpl _ (by simp)).2 i w)

theorem sl_of_text {s : Array Nat} {p : Nat} {r : List Tok} (h : TextAt s p (toksText r))
    (hend : p + (toksText r).length = s.size) : sl s p = (toksText r).count 47 := by
  rw [sl_textAt h, hend, sl_end]; omega

theorem toks_all_empty : ∀ (r : List Tok), (∀ t ∈ r, t = Tok.lit []) → toksText r = [] ∧ toksItems r = []
  | [], _ => ⟨rfl, rfl⟩
  | t :: r, h => by
    obtain ⟨h1, h2⟩ := toks_all_empty r (fun t ht => h t (by simp [ht]))
    rw [toksText_cons, toksItems_cons, h1, h2, h t (by simp)]
    exact ⟨rfl, rfl⟩

theorem run_toks (s : Array Nat) : ∀ (ts : List Tok) (st : St), Sep ts → TextAt s st.pos (toksText ts) →
    st.pos + (toksText ts).length = s.size →
    m s (seqOf (toksItems ts ++ [Re.eos])) st some = some ⟨s.size, capsAfter st.pos ts st.caps⟩
  | [], st, _, _, hend => by
    simp only [toksText, List.flatMap_nil, List.length_nil, Nat.add_zero] at hend
    simp only [toksItems, List.flatMap_nil, List.nil_append, seqOf, m, hend, beq_self_eq_true, if_true,
      capsAfter]
    cases st; simp only at hend; subst hend; rfl
  | .lit t :: r, st, hsep, htext, hend => by
    rw [toksText_cons] at htext hend
    obtain ⟨h1, h2⟩ := htext.split
    rw [toksItems_cons, List.append_assoc]
    simp only [Tok.items, Tok.text] at h1 h2 hend ⊢
    rw [m_lits_ok s t _ st some h1]
    have := run_toks s r { st with pos := st.pos + t.length } hsep h2
      (by simp only [List.length_append] at hend; simp only; omega)
    rw [this]; rfl
  | .gl i body t F :: r, st, hsep, htext, hend => by
    obtain ⟨hrun, _, hsep'⟩ := hsep
    rw [toksText_cons] at htext hend
    obtain ⟨h1, h2⟩ := htext.split
    rw [toksItems_cons, List.append_assoc]
    simp only [Tok.items, Tok.text, List.cons_append, List.nil_append] at h1 h2 hend ⊢
    rw [m_seqOf_cons]
    simp only [m]
    rw [(hrun s st _).1 h1]
    have := run_toks s r ⟨st.pos + t.length, (i, st.pos, st.pos + t.length) :: (F st.pos ++ st.caps)⟩ hsep' h2
      (by simp only [List.length_append] at hend; simp only; omega)
    rw [this]; rfl
  | .star i v :: r, ⟨pos, caps⟩, hsep, htext, hend => by
    obtain ⟨hv, hno, hsep'⟩ := hsep
    rw [toksText_cons] at htext hend
    obtain ⟨h1, h2⟩ := htext.split
    simp only [Tok.text, List.length_append] at h1 h2 hend
    rw [toksItems_cons, List.append_assoc]
    simp only [Tok.items, List.cons_append, List.nil_append, Gen.Pat.matcher_frag_star]
    rw [m_seqOf_cons, m_star_group s i _ _ (oneChar_notLit s 47) pos (by omega)]
    have ih := run_toks s r ⟨pos + v.length, (i, pos, pos + v.length) :: caps⟩ hsep' h2 (by simp only; omega)
    apply firstSome_downFrom_some (a := pos) (i := v.length) (r := ⟨s.size, capsAfter pos (.star i v :: r) caps⟩)
    · simpa [capsAfter] using ih
    · exact runAt_covers h1 (bne_of_not_mem hv)
    · intro j hj1 hj2
      apply toks_fail_head _ _ _ _ _ hsep'
      intro hL
      have hL' : TextAt s j (headText r) := hL
      have hpre := prefix_drop_of_textAt h2 (by omega) (by omega) hL'
      refine hno (j - (pos + v.length)) (by omega) ?_ hpre
      apply le_takeWhile_length
      intro q hq
      obtain ⟨c, hc, hpc⟩ := runAt_all s (fun d => d != 47) pos (v.length + q) (by omega)
      have hlt := getElem?_some_lt hc
      have h3 := h2 q (by omega)
      refine ⟨c, ?_, hpc⟩
      rw [← h3, ← hc]; congr 1; omega
  | .sstar i w :: r, ⟨pos, caps⟩, hsep, htext, hend => by
    obtain ⟨hw, hno, hsep'⟩ := hsep
    rw [toksText_cons] at htext hend
    obtain ⟨h1, h2⟩ := htext.split
    simp only [Tok.text, List.length_append] at h1 h2 hend
    -- from the end of the value on, the rest of the pattern fails after every further '/'
    have hcnt : sl s (pos + w.length) = (toksText r).count 47 := sl_of_text h2 (by omega)
    rw [toksItems_cons, List.append_assoc]
    simp only [Tok.items, List.cons_append, List.nil_append, List.map_cons, List.map_nil, seqOf,
      Gen.Pat.matcher_frag_starstar]
    rw [m_seqOf_cons, m_sstar_item s i pos (by omega)]
    have hG : ∀ j, pos + w.length ≤ j →
        (fun j => if s[j]? == some 47 then
          m s (seqOf (toksItems r ++ [Re.eos])) ⟨j + 1, (i, pos, j + 1) :: caps⟩ some else none) j = none := by
      intro j hj
      simp only
      by_cases hc : s[j]? = some 47
      · rw [if_pos (by simpa using hc)]
        have hlt := getElem?_some_lt hc
        have := sl_lt_of_slash hj hc
        exact run_toks_slash_fail s r _ some hno hsep' (by simp only; omega) (by simp only; omega)
      · rw [if_neg (by simpa using hc)]
    rcases hw with rfl | ⟨w', rfl, hne, hnl⟩
    · -- no directory: the group alternative fails everywhere, the empty alternative goes on
      simp only [List.length_nil, Nat.add_zero] at h2 hend hG
      have ih := run_toks s r ⟨pos, caps⟩ hsep' h2 (by simp only; omega)
      have hfirst : (match s[pos]? with
          | some c => if (c != 10) = true then
              firstSome (fun j => if s[j]? == some 47 then
                m s (seqOf (toksItems r ++ [Re.eos])) ⟨j + 1, (i, pos, j + 1) :: caps⟩ some else none)
                (downFrom (pos + 1) (runAt s (fun d => d != 10) (pos + 1)))
            else none
          | none => none) = none := by
        split
        · split
          · apply firstSome_eq_none.mpr
            intro j hj
            exact hG j (by have := (mem_downFrom_iff.mp hj).1; omega)
          · rfl
        · rfl
      rw [hfirst]
      simpa [capsAfter] using ih
    · -- directories `w' ++ "/"`
      obtain ⟨c0, w'', rfl⟩ : ∃ c0 w'', w' = c0 :: w'' := by
        cases w' with
        | nil => exact absurd rfl hne
        | cons c0 w'' => exact ⟨c0, w'', rfl⟩
      simp only [List.length_append, List.length_cons, List.length_nil] at h2 hend hG
      simp only [h1.tail.1, bne_of_not_mem hnl c0 List.mem_cons_self, if_true]
      have ih := run_toks s r ⟨pos + (w''.length + 1 + 1), (i, pos, pos + (w''.length + 1 + 1)) :: caps⟩ hsep' h2
        (by simp only; omega)
      have hslash : s[pos + 1 + w''.length]? = some 47 := by
        have := Txt.At.get h1 (j := w''.length + 1) (by simp)
        rw [show pos + 1 + w''.length = pos + (w''.length + 1) by omega, this]
        simp
      have hhit := firstSome_downFrom_some
        (k := fun j => if s[j]? == some 47 then
          m s (seqOf (toksItems r ++ [Re.eos])) ⟨j + 1, (i, pos, j + 1) :: caps⟩ some else none) (a := pos + 1) (i := w''.length)
        (r := ⟨s.size, capsAfter pos (.sstar i (c0 :: w'' ++ [47]) :: r) caps⟩)
        (by
          simp only [hslash, beq_self_eq_true, if_true]
          have e : pos + 1 + w''.length + 1 = pos + (w''.length + 1 + 1) := by omega
          rw [e, ih]
          simp [capsAfter])
        (runAt s (fun d => d != 10) (pos + 1))
        (runAt_covers (Txt.at_append.mp (Txt.at_cons.mp h1).2).1
          (bne_of_not_mem fun hc => hnl (List.mem_cons_of_mem _ hc)))
        (by
          intro j hj1 _
          exact hG j (by omega))
      rw [hhit]; rfl

  | .send i w :: r, ⟨pos, caps⟩, hsep, htext, hend => by
    obtain ⟨hnl, hr, hsep'⟩ := hsep
    obtain ⟨hrt, hri⟩ := toks_all_empty r hr
    rw [toksText_cons] at htext hend
    obtain ⟨h1, h2⟩ := htext.split
    simp only [Tok.text, List.length_append, hrt, List.length_nil, Nat.add_zero] at h1 h2 hend
    rw [toksItems_cons, List.append_assoc]
    simp only [Tok.items, List.cons_append, List.nil_append, List.map_nil, seqOf, Gen.Pat.matcher_frag_starstar]
    rw [m_seqOf_cons, m_send_item s i pos (by omega)]
    cases w with
    | nil =>
      simp only [List.length_nil, Nat.add_zero] at h2 hend
      have ih := run_toks s r ⟨pos, caps⟩ hsep' (by rw [hrt]; exact h2) (by rw [hrt]; simpa using hend)
      have hnone : s[pos]? = none := by
        rw [hend]; simp
      simp only [hnone]
      simpa [capsAfter] using ih
    | cons c0 w'' =>
      simp only [List.length_cons] at h2 hend
      have ih := run_toks s r ⟨pos + (w''.length + 1), (i, pos, pos + (w''.length + 1)) :: caps⟩ hsep'
        (by rw [hrt]; exact h2) (by rw [hrt]; simpa using hend)
      simp only [h1.tail.1, bne_of_not_mem hnl c0 List.mem_cons_self, if_true]
      have hle := runAt_le s (fun d => d != 10) (pos + 1)
      have hhit := firstSome_downFrom_some
        (k := fun j => m s (seqOf (toksItems r ++ [Re.eos])) ⟨j, (i, pos, j) :: caps⟩ some) (a := pos + 1) (i := w''.length)
        (r := ⟨s.size, capsAfter pos (.send i (c0 :: w'') :: r) caps⟩)
        (by
          have e : pos + 1 + w''.length = pos + (w''.length + 1) := by omega
          simp only [e, ih]
          simp [capsAfter])
        (runAt s (fun d => d != 10) (pos + 1))
        (runAt_covers (Txt.at_cons.mp h1).2
          (bne_of_not_mem fun hc => hnl (List.mem_cons_of_mem _ hc)))
        (by intro j hj1 hj2; omega)
      rw [hhit]; rfl

def Tok.idx : Tok → List Nat
  | .lit _ => []
  | .gl i _ _ _ => [i]
  | .star i _ => [i]
  | .sstar i _ => [i]
  | .send i _ => [i]

def Tok.inner : Tok → List Nat
  | .gl _ body _ _ => body.flatMap gidx
  | _ => []

def Tok.all (t : Tok) : List Nat := t.idx ++ t.inner

/-- what `match.group(i)` is for the token's group (`None` for a `**` that took nothing) -/
def Tok.val : Tok → Option Text
  | .lit _ => none
  | .gl _ _ t _ => some t
  | .star _ v => some v
  | .sstar _ w => if w = [] then none else some w
  | .send _ w => if w = [] then none else some w

def toksIdx (ts : List Tok) : List Nat := ts.flatMap Tok.idx
def toksAll (ts : List Tok) : List Nat := ts.flatMap Tok.all

theorem toksIdx_cons (t : Tok) (r : List Tok) : toksIdx (t :: r) = t.idx ++ toksIdx r := by
  simp [toksIdx]

theorem toksAll_cons (t : Tok) (r : List Tok) : toksAll (t :: r) = t.all ++ toksAll r := by
  simp [toksAll]

theorem toksIdx_sub_all {ts : List Tok} {i : Nat} (h : i ∈ toksIdx ts) : i ∈ toksAll ts := by
  obtain ⟨t, ht, hi⟩ := List.mem_flatMap.mp h
  exact List.mem_flatMap.mpr ⟨t, ht, List.mem_append.mpr (Or.inl hi)⟩

theorem capOf_cons_ne {j i a b : Nat} {acc : List (Nat × Nat × Nat)} (h : j ≠ i) :
    capOf ((j, a, b) :: acc) i = capOf acc i := by
  unfold capOf
  rw [List.find?_cons_of_neg (by simpa using h)]

theorem capOf_cons_self {i a b : Nat} {acc : List (Nat × Nat × Nat)} :
    capOf ((i, a, b) :: acc) i = some (a, b) := by
  simp [capOf]

/-- what running through the token at `pos` puts on the capture list -/
def Tok.push (pos : Nat) : Tok → List (Nat × Nat × Nat)
  | .lit _ => []
  | .gl i _ t F => (i, pos, pos + t.length) :: F pos
  | .star i v => [(i, pos, pos + v.length)]
  | .sstar i w => if w = [] then [] else [(i, pos, pos + w.length)]
  | .send i w => if w = [] then [] else [(i, pos, pos + w.length)]

theorem capsAfter_cons (pos : Nat) (t : Tok) (r : List Tok) (acc : List (Nat × Nat × Nat)) :
    capsAfter pos (t :: r) acc = capsAfter (pos + t.text.length) r (t.push pos ++ acc) := by
  cases t with
  | sstar i w => simp only [capsAfter, Tok.push, Tok.text]; split <;> rfl
  | send i w => simp only [capsAfter, Tok.push, Tok.text]; split <;> rfl
  | _ => rfl

theorem Sep.tail : ∀ {t : Tok} {r : List Tok}, Sep (t :: r) → Sep r
  | .lit _, _, h => h
  | .gl .., _, h => h.2.2
  | .star .., _, h => h.2.2
  | .sstar .., _, h => h.2.2
  | .send .., _, h => h.2.2

theorem push_idx {t : Tok} {r : List Tok} (hs : Sep (t :: r)) (pos : Nat) : ∀ e ∈ t.push pos, e.1 ∈ t.all := by
  intro e he
  cases t with
  | lit _ => cases he
  | gl i body tx F =>
    rcases List.mem_cons.mp he with rfl | he
    · simp [Tok.all, Tok.idx]
    · exact List.mem_append.mpr (Or.inr (hs.2.1 pos e he))
  | star i v => simp only [Tok.push, List.mem_singleton] at he; subst he; simp [Tok.all, Tok.idx]
  | sstar i w =>
    simp only [Tok.push] at he
    split at he
    · cases he
    · simp only [List.mem_singleton] at he; subst he; simp [Tok.all, Tok.idx]
  | send i w =>
    simp only [Tok.push] at he
    split at he
    · cases he
    · simp only [List.mem_singleton] at he; subst he; simp [Tok.all, Tok.idx]

theorem push_own {t : Tok} {i : Nat} (hi : i ∈ t.idx) (pos : Nat) (acc : List (Nat × Nat × Nat)) :
    (t.val = none ∧ capOf (t.push pos ++ acc) i = capOf acc i) ∨
    (t.val = some t.text ∧ capOf (t.push pos ++ acc) i = some (pos, pos + t.text.length)) := by
  cases t with
  | lit _ => cases hi
  | gl j body tx F => simp only [Tok.idx, List.mem_singleton] at hi; subst hi; exact Or.inr ⟨rfl, capOf_cons_self⟩
  | star j v => simp only [Tok.idx, List.mem_singleton] at hi; subst hi; exact Or.inr ⟨rfl, capOf_cons_self⟩
  | sstar j w =>
    simp only [Tok.idx, List.mem_singleton] at hi; subst hi
    by_cases hw : w = []
    · exact Or.inl ⟨by simp [Tok.val, hw], by simp [Tok.push, hw]⟩
    · exact Or.inr ⟨by simp [Tok.val, Tok.text, hw], by simp only [Tok.push, hw, if_false]; exact capOf_cons_self⟩
  | send j w =>
    simp only [Tok.idx, List.mem_singleton] at hi; subst hi
    by_cases hw : w = []
    · exact Or.inl ⟨by simp [Tok.val, hw], by simp [Tok.push, hw]⟩
    · exact Or.inr ⟨by simp [Tok.val, Tok.text, hw], by simp only [Tok.push, hw, if_false]; exact capOf_cons_self⟩

theorem capOf_capsAfter_frame {i : Nat} : ∀ (r : List Tok) (pos : Nat) (acc : List (Nat × Nat × Nat)),
    Sep r → i ∉ toksAll r → capOf (capsAfter pos r acc) i = capOf acc i
  | [], _, _, _, _ => rfl
  | t :: r, pos, acc, hs, h => by
    rw [toksAll_cons] at h
    rw [capsAfter_cons, capOf_capsAfter_frame r _ _ hs.tail (fun hc => h (List.mem_append.mpr (Or.inr hc)))]
    exact capOf_append_of_not_mem fun e he hc => h (List.mem_append.mpr (Or.inl (hc ▸ push_idx hs pos e he)))

theorem groupText_capsAfter (s : Array Nat) (p : Nat) : ∀ (ts : List Tok) (pos : Nat) (acc : List (Nat × Nat × Nat)),
    Sep ts → TextAt s pos (toksText ts) → (∀ i, (toksAll ts).count i ≤ 1) → (∀ i ∈ toksIdx ts, capOf acc i = none) →
    ∀ tok ∈ ts, ∀ i ∈ tok.idx, groupText s ⟨p, capsAfter pos ts acc⟩ i = tok.val
  | [], _, _, _, _, _, _, tok, hm, _, _ => by cases hm
  | hd :: r, pos, acc, hsep, htext, hcount, hnone, tok, hm, i, hi => by
    rw [toksText_cons] at htext
    obtain ⟨h1, h2⟩ := htext.split
    rw [toksAll_cons] at hcount
    rw [toksIdx_cons] at hnone
    have hdisj : ∀ j ∈ hd.all, j ∉ toksAll r := fun _ => Txt.not_mem_right_of_once hcount
    rw [capsAfter_cons]
    rcases List.mem_cons.mp hm with rfl | hmr
    · -- the head token itself: the rest does not touch its group
      simp only [groupText, St.group]
      rw [capOf_capsAfter_frame r _ _ hsep.tail (hdisj i (List.mem_append.mpr (Or.inl hi)))]
      rcases push_own hi pos acc with ⟨hv, hc⟩ | ⟨hv, hc⟩
      · rw [hc, hv, hnone i (List.mem_append.mpr (Or.inl hi))]
      · simp only [hc, hv, slice_textAt h1]
    · -- a later token: what the head pushes does not concern the indices of the rest
      refine groupText_capsAfter s p r _ _ hsep.tail h2
        (Txt.once_right hcount) ?_ tok hmr i hi
      intro i' hi'
      rw [capOf_append_of_not_mem fun e he hc => hdisj _ (push_idx hsep pos e he) (hc ▸ toksIdx_sub_all hi')]
      exact hnone i' (List.mem_append.mpr (Or.inr hi'))
theorem glRun_lits (t : Text) : GlRun (t.map Re.lit) t (fun _ => []) := by
  intro s st k
  refine ⟨fun h => ?_, fun h => ?_⟩
  · have := m_lits_ok s t [] st k h
    simp only [List.append_nil] at this
    rw [this]
    simp [seqOf, m]
  · have := m_lits_fail s t [] st k h
    simpa only [List.append_nil] using this

theorem glIdx_lits (t : Text) : GlIdx (t.map Re.lit) (fun _ => []) := by
  intro p e he; cases he

/-- a group around a plain literal text (a variable bound to a plain text) -/
def Tok.glit (i : Nat) (t : Text) : Tok := .gl i (t.map Re.lit) t (fun _ => [])

end C11R
