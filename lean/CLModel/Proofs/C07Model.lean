/-
Facts about the model `Dtd.check` of `DTDChecker.check` that the C07 theorems share: membership in its sets (sorted
lists), the result list as the sections in program order (`check_results`, by category `check_results_cat`), when the
CSS comparison is silent (`styleMsgs_nil_iff`), that the position of an expat error is always defined
(`errorPos_isSome`), and that `parse_css_spec` returns a map with distinct keys (`parseCssSpec_nodup`).
-/
import CLModel.Checks.Dtd
import CLModel.Proofs.Sorting
import CLModel.Proofs.Dict
namespace Dtd

theorem insSorted_eq (x : Text) : ∀ l : List Text, insSorted x l = Sorting.ins tlt x l
  | [] => rfl
  | y :: ys => by simp only [insSorted, Sorting.ins, insSorted_eq x ys]

theorem mem_insSorted {x y : Text} {l : List Text} : y ∈ insSorted x l ↔ y = x ∨ y ∈ l :=
  insSorted_eq x l ▸ Sorting.mem_ins

theorem mem_sadd {x y : Text} {s : List Text} : y ∈ sadd x s ↔ y = x ∨ y ∈ s := by
  unfold sadd
  split
  · rename_i h
    have : x ∈ s := by simpa using h
    constructor
    · exact Or.inr
    · rintro (rfl | h) <;> assumption
  · exact mem_insSorted

theorem nodup_insSorted {x : Text} {l : List Text} (hx : x ∉ l) (hl : l.Nodup) : (insSorted x l).Nodup :=
  insSorted_eq x l ▸ (Sorting.perm_ins tlt x l).nodup_iff.2 (List.nodup_cons.2 ⟨hx, hl⟩)

theorem nodup_sadd {x : Text} {s : List Text} (hs : s.Nodup) : (sadd x s).Nodup := by
  unfold sadd
  split
  · exact hs
  · rename_i h
    exact nodup_insSorted (by simpa using h) hs

theorem mem_foldl_sadd {y : Text} (l : List Text) (s : List Text) :
    y ∈ l.foldl (fun s x => sadd x s) s ↔ y ∈ l ∨ y ∈ s := by
  induction l generalizing s with
  | nil => simp
  | cons a as ih => simp only [List.foldl_cons, ih, mem_sadd, List.mem_cons]; grind

theorem nodup_foldl_sadd (l : List Text) (s : List Text) (hs : s.Nodup) :
    (l.foldl (fun s x => sadd x s) s).Nodup := by
  induction l generalizing s with
  | nil => simpa
  | cons a as ih => exact ih _ (nodup_sadd hs)

theorem mem_sOfList {y : Text} {l : List Text} : y ∈ sOfList l ↔ y ∈ l := by
  simp [sOfList, mem_foldl_sadd]

theorem nodup_sOfList (l : List Text) : (sOfList l).Nodup := nodup_foldl_sadd l [] List.nodup_nil

theorem mem_sunion {y : Text} {a b : List Text} : y ∈ sunion a b ↔ y ∈ a ∨ y ∈ b := by
  simp [sunion, mem_foldl_sadd]; grind

theorem mem_sdiff {y : Text} {a b : List Text} : y ∈ sdiff a b ↔ y ∈ a ∧ y ∉ b := by
  simp [sdiff]

theorem nodup_sdiff {a b : List Text} (h : a.Nodup) : (sdiff a b).Nodup := h.filter _

theorem mem_entitiesForValue {n v : Text} :
    n ∈ entitiesForValue v ↔ n ∈ erefNames v ∧ n ∉ Gen.Tables.xmllist := by
  simp [entitiesForValue, mem_sdiff, mem_sOfList]

theorem nodup_entitiesForValue (v : Text) : (entitiesForValue v).Nodup := nodup_sdiff (nodup_sOfList _)

theorem mem_foldl_sunion {n : Text} (vals : List Text) (acc : List Text) :
    n ∈ vals.foldl (fun acc v => sunion acc (entitiesForValue v)) acc ↔
      n ∈ acc ∨ ∃ v ∈ vals, n ∈ entitiesForValue v := by
  induction vals generalizing acc with
  | nil => simp
  | cons a as ih =>
    simp only [List.foldl_cons, ih, mem_sunion, List.mem_cons, exists_eq_or_imp]; grind

/-- the reference values whose entity references are "known": all of the reference file if a
    reference is set (`needs_reference`), otherwise just the reference entity's value -/
def refValsOf (i : Inp) : List Text :=
  match i.reference with
  | some vals => vals
  | none => [i.ref.val]

theorem mem_knownEntities {n : Text} {i : Inp} :
    n ∈ knownEntities i ↔ ∃ v ∈ refValsOf i, n ∈ erefNames v ∧ n ∉ Gen.Tables.xmllist := by
  unfold knownEntities refValsOf
  cases i.reference with
  | none => simp [mem_entitiesForValue]
  | some vals => simp [mem_foldl_sunion, mem_entitiesForValue]

theorem mem_missingOf {n : Text} {i : Inp} :
    n ∈ missingOf i ↔ n ∈ erefNames i.l10n.val ∧ n ∉ Gen.Tables.xmllist ∧ n ∉ knownEntities i := by
  simp [missingOf, mem_sdiff, l10nlistOf, reflistOf, mem_entitiesForValue, and_assoc]

theorem nodup_missingOf (i : Inp) : (missingOf i).Nodup := nodup_sdiff (nodup_entitiesForValue _)

theorem entityDecls_append (a b : List Text) : entityDecls (a ++ b) = entityDecls a ++ entityDecls b := by
  simp [entityDecls]

theorem l10nDecls_eq (i : Inp) : l10nDecls i = entityDecls (declaredNames i) := by
  simp [l10nDecls, declaredNames, refDecls, entityDecls_append]

theorem andThen_ok {a : Out} {f : Unit → Out} (h : (a.andThen f).exc = none) :
    a.exc = none ∧ (f ()).exc = none ∧ (a.andThen f).results = a.results ++ (f ()).results := by
  unfold Out.andThen at h ⊢
  cases ha : a.exc with
  | some e => simp [ha] at h
  | none => simp [ha] at h ⊢; exact h

theorem andThen_exc_some (a : Out) (f : Unit → Out) (e : Exc) (h : a.exc = some e) : a.andThen f = a := by
  unfold Out.andThen; rw [h]

theorem mem_andThen {a : Out} {f : Unit → Out} {r : Result} (h : r ∈ (a.andThen f).results) :
    r ∈ a.results ∨ r ∈ (f ()).results := by
  unfold Out.andThen at h
  split at h
  · exact Or.inl h
  · exact List.mem_append.mp h

/-- the fixed part of the result list after the two parses -/
def staticSections (i : Inp) : List Result :=
  unknownSection i ++ mismatchSection i ++ numberSection i.ref.val i.l10n.val ++
    lengthSection i.ref.val i.l10n.val ++ maybeStyle i.ref.val i.l10n.val

def androidResults (xmlParse : Bytes → ParseRes) (i : Inp) : List Result :=
  if i.android then (androidSection (l10nSection xmlParse i).2).results else []

theorem check_results (xmlParse : Bytes → ParseRes) (i : Inp) (h : (check xmlParse i).exc = none) :
    (check xmlParse i).results =
      baseCheck i.l10n ++ (refSection xmlParse i).results ++ (l10nSection xmlParse i).1.results ++
        staticSections i ++ androidResults xmlParse i := by
  unfold check at h ⊢
  obtain ⟨_, h1, e1⟩ := andThen_ok h
  obtain ⟨_, h2, e2⟩ := andThen_ok h1
  obtain ⟨_, h3, e3⟩ := andThen_ok h2
  obtain ⟨_, h4, e4⟩ := andThen_ok h3
  rw [e1, e2, e3, e4, apply_ite Out.results]
  simp only [Out.ok, staticSections, androidResults, List.append_assoc]

theorem cat_baseCheck (l : Ent) : ∀ r ∈ baseCheck l, r.cat = .encodings := by
  intro r hr
  simp only [baseCheck, List.mem_map] at hr
  obtain ⟨_, _, rfl⟩ := hr
  rfl

theorem refSection_results (xmlParse : Bytes → ParseRes) (i : Inp) :
    ∀ r ∈ (refSection xmlParse i).results, r = ⟨.warning, .lc 0 0, msgCantParse, .xmlparse⟩ := by
  unfold refSection
  split
  · simp
  · split
    · simp [Out.ok]
    · split
      · simp
      · split <;> simp [Out.ok]

/-- the `IndexError` branch of `errorPos` (`lines[lnr - 1]` on a line number clamped to the number of lines) is dead -/
theorem errorPos_isSome (v : Text) (line col : Nat) : (errorPos v line col).isSome = true := by
  unfold errorPos
  simp only
  split
  · split
    · rfl
    · rename_i hne
      have hlen : 0 < (splitLines v).length := by
        cases h : splitLines v with
        | nil => simp [h] at hne
        | cons a as => simp
      have : pyGet (splitLines v) ((splitLines v).length - 1 : Int) = (splitLines v)[(splitLines v).length - 1]? := by
        unfold pyGet
        have h1 : ¬ (((splitLines v).length : Int) - 1 < 0) := by omega
        simp only [h1, if_false]
        congr 1
        omega
      rw [this]
      have : (splitLines v)[(splitLines v).length - 1]? = some ((splitLines v)[(splitLines v).length - 1]'(by omega)) :=
        List.getElem?_eq_getElem (by omega)
      rw [this]
      rfl
  · split
    · rfl
    · split <;> rfl

/-- expat's verdict on the localized value: the first error among the two documents, in program order -/
def l10nVerdict (xmlParse : Bytes → ParseRes) (i : Inp) : Option (Nat × Nat × Text) :=
  match docValue (l10nDecls i) i.l10n.val with
  | none => none
  | some d3 =>
    match (xmlParse d3).err with
    | some e => some e
    | none =>
      match docDecl (l10nDecls i) i.l10n with
      | none => none
      | some d4 => (xmlParse d4).err

def xmlErrorResult (l10nVal : Text) (e : Nat × Nat × Text) : List Result :=
  match errorPos l10nVal e.1 e.2.1 with
  | some p => [⟨.error, .lc p.1 p.2, e.2.2, .xmlparse⟩]
  | none => []

def verdictResults (l10nVal : Text) : Option (Nat × Nat × Text) → List Result
  | some e => xmlErrorResult l10nVal e
  | none => []

theorem xmlError_eq (v : Text) (e : Nat × Nat × Text) :
    xmlError v e = .ok (xmlErrorResult v e) ∧ (xmlErrorResult v e).length = 1 := by
  have h := errorPos_isSome v e.1 e.2.1
  unfold xmlError xmlErrorResult
  cases hp : errorPos v e.1 e.2.1 with
  | none => simp [hp] at h
  | some p => simp

theorem l10nSection_results (xmlParse : Bytes → ParseRes) (i : Inp)
    (h : (l10nSection xmlParse i).1.exc = none) :
    (l10nSection xmlParse i).1.results = verdictResults i.l10n.val (l10nVerdict xmlParse i) := by
  unfold l10nSection at h ⊢
  unfold l10nVerdict verdictResults
  cases h3 : docValue (l10nDecls i) i.l10n.val with
  | none => simp [h3] at h
  | some d3 =>
    simp only [h3] at h ⊢
    cases e3 : (xmlParse d3).err with
    | some e => simp only [(xmlError_eq i.l10n.val e).1, Out.ok]
    | none =>
      simp only [e3] at h ⊢
      cases h4 : docDecl (l10nDecls i) i.l10n with
      | none => simp [h4] at h
      | some d4 =>
        simp only [h4] at h ⊢
        cases e4 : (xmlParse d4).err with
        | some e => simp only [(xmlError_eq i.l10n.val e).1, Out.ok]
        | none => simp [Out.ok]

def isXmlError (r : Result) : Bool := r.level == .error && r.cat == .xmlparse

theorem xmlErrorResult_all (v : Text) (e : Nat × Nat × Text) : ∀ r ∈ xmlErrorResult v e, isXmlError r = true := by
  intro r hr
  unfold xmlErrorResult at hr
  split at hr
  · simp at hr; subst hr; rfl
  · simp at hr

theorem level_unknownSection (i : Inp) : ∀ r ∈ unknownSection i, r.level = .warning ∧ r.cat = .xmlparse := by
  intro r hr
  simp only [unknownSection, List.mem_map] at hr
  obtain ⟨_, _, rfl⟩ := hr
  exact ⟨rfl, rfl⟩

/-- `69` is the `E` of "Entity …": the text cannot begin with `msgRefUnknown` ("Referencing unknown entity") -/
theorem level_mismatchSection (i : Inp) : ∀ r ∈ mismatchSection i, r.level = .warning ∧ r.cat = .xmlparse ∧
    ∃ t, r.msg = 69 :: t := by
  intro r hr
  unfold mismatchSection at hr
  simp only at hr
  split at hr
  · simp only [List.mem_map] at hr
    obtain ⟨_, _, rfl⟩ := hr
    exact ⟨rfl, rfl, _, rfl⟩
  · simp at hr

theorem forall_ite_singleton {α} {P : α → Prop} {c : Prop} [Decidable c] {a : α} (h : P a) :
    ∀ r ∈ (if c then [a] else []), P r := by
  split <;> simp [h]

theorem cat_numberSection (a b : Text) : ∀ r ∈ numberSection a b, r.cat = .number :=
  forall_ite_singleton rfl

theorem cat_lengthSection (a b : Text) : ∀ r ∈ lengthSection a b, r.cat = .css :=
  forall_ite_singleton rfl

theorem cat_checkStyle (rm : List (Text × Text)) (lm : Option (List (Text × Text))) (er : Option (List CssErr)) :
    ∀ r ∈ checkStyle rm lm er, r.cat = .css := by
  unfold checkStyle
  split
  · simp [specError]
  · simp [specError]
  · split
    · simp [specError]
    · exact forall_ite_singleton rfl

theorem cat_maybeStyle (a b : Text) : ∀ r ∈ maybeStyle a b, r.cat = .css := by
  unfold maybeStyle
  split
  · simp
  · simp
  · exact cat_checkStyle _ _ _

theorem cat_androidSection (v : Text) : ∀ r ∈ (androidSection v).results, r.cat = .android := by
  intro r hr
  unfold androidSection at hr
  simp only at hr
  rcases mem_andThen hr with hr | hr
  · split at hr <;> simp [Out.ok] at hr
    subst hr; rfl
  · simp only [Out.ok, List.mem_filterMap] at hr
    obtain ⟨x, _, hx⟩ := hr
    split at hx
    · split at hx
      · simp at hx; subst hx; rfl
      · simp at hx
    · simp at hx

theorem l10nSection_ok {xmlParse : Bytes → ParseRes} {i : Inp} (h : (check xmlParse i).exc = none) :
    (l10nSection xmlParse i).1.exc = none := by
  unfold check at h
  exact (andThen_ok (andThen_ok (andThen_ok h).2.1).2.1).1

theorem cat_l10nSection (xmlParse : Bytes → ParseRes) (i : Inp) (h : (check xmlParse i).exc = none) :
    ∀ r ∈ (l10nSection xmlParse i).1.results, isXmlError r = true := by
  rw [l10nSection_results xmlParse i (l10nSection_ok h)]
  unfold verdictResults
  split
  · exact xmlErrorResult_all _ _
  · simp

theorem cat_androidResults (xmlParse : Bytes → ParseRes) (i : Inp) : ∀ r ∈ androidResults xmlParse i, r.cat = .android := by
  unfold androidResults
  split
  · exact cat_androidSection _
  · simp

theorem filter_cat {l : List Result} {c : Cat} (hl : ∀ r ∈ l, r.cat = c) (c' : Cat) :
    l.filter (fun r => r.cat == c') = if c = c' then l else [] := by
  split
  · rename_i h; exact List.filter_eq_self.mpr fun r hr => by rw [hl r hr, h]; exact beq_self_eq_true _
  · rename_i h; exact List.filter_eq_nil_iff.mpr fun r hr => by rw [hl r hr]; simpa using h

theorem check_results_cat (xmlParse : Bytes → ParseRes) (i : Inp) (h : (check xmlParse i).exc = none) (c : Cat) :
    (check xmlParse i).results.filter (fun r => r.cat == c) =
      match c with
      | .encodings => baseCheck i.l10n
      | .xmlparse => (refSection xmlParse i).results ++ (l10nSection xmlParse i).1.results ++
          unknownSection i ++ mismatchSection i
      | .number => numberSection i.ref.val i.l10n.val
      | .css => lengthSection i.ref.val i.l10n.val ++ maybeStyle i.ref.val i.l10n.val
      | .android => androidResults xmlParse i := by
  have hl : ∀ r ∈ (l10nSection xmlParse i).1.results, r.cat = .xmlparse := fun r hr => by
    have := cat_l10nSection xmlParse i h r hr
    simp only [isXmlError, Bool.and_eq_true, beq_iff_eq] at this
    exact this.2
  rw [check_results xmlParse i h]
  simp only [List.filter_append, staticSections]
  rw [filter_cat (cat_baseCheck _), filter_cat (c := .xmlparse) fun r hr => by rw [refSection_results xmlParse i r hr],
    filter_cat hl, filter_cat fun r hr => (level_unknownSection i r hr).2, filter_cat fun r hr => (level_mismatchSection i r hr).2.1,
    filter_cat (cat_numberSection _ _), filter_cat (cat_lengthSection _ _), filter_cat (cat_maybeStyle _ _),
    filter_cat (cat_androidResults _ _)]
  cases c <;> simp

theorem dget_dpop_ne (rm : List (Text × Text)) {p q : Text} (h : q ≠ p) : dget (dpop rm p) q = dget rm q :=
  (AR.dget_filter_ne rm p q).trans (if_neg (fun e => h (eq_of_beq e).symm))

theorem dpop_eq_filter (rm : List (Text × Text)) (p : Text) : dpop rm p = rm.filter (fun q => !(q.1 == p)) := rfl

theorem styleStep_fst (st : List (Text × Text) × List Text) (a : Text × Text) : (styleStep st a).1 = dpop st.1 a.1 := by
  unfold styleStep
  split
  · rename_i hnone
    exact (AR.filter_ne_of_not_mem (AR.dget_eq_none_iff.1 hnone)).symm
  · split <;> rfl

theorem styleStep_snd_nil_iff (st : List (Text × Text) × List Text) (a : Text × Text) :
    (styleStep st a).2 = [] ↔ st.2 = [] ∧ dget st.1 a.1 = some a.2 := by
  unfold styleStep
  cases hg : dget st.1 a.1 with
  | none => simp
  | some ru =>
    by_cases hu : a.2 = ru
    · subst hu; simp
    · simp [hu, Ne.symm hu]

theorem foldl_styleStep_fst (lm : List (Text × Text)) (st : List (Text × Text) × List Text) :
    (lm.foldl styleStep st).1 = st.1.filter (fun q => !(lm.map Prod.fst).contains q.1) := by
  induction lm generalizing st with
  | nil =>
    simp only [List.foldl_nil, List.map_nil, List.contains_nil, Bool.not_false]
    exact (List.filter_eq_self.mpr (fun _ _ => rfl)).symm
  | cons a as ih =>
    rw [List.foldl_cons, ih, styleStep_fst, dpop_eq_filter, List.filter_filter]
    congr 1
    funext q
    simp only [List.map_cons, List.contains_cons, Bool.not_or, Bool.and_comm]

theorem foldl_styleStep_nil_iff (lm : List (Text × Text)) (hnd : (lm.map Prod.fst).Nodup)
    (st : List (Text × Text) × List Text) :
    (lm.foldl styleStep st).2 = [] ↔ st.2 = [] ∧ ∀ pu ∈ lm, dget st.1 pu.1 = some pu.2 := by
  induction lm generalizing st with
  | nil => simp
  | cons a as ih =>
    simp only [List.map_cons, List.nodup_cons] at hnd
    -- a later property is another key: popping `a` does not change its lookup
    have hpop : ∀ pu ∈ as, dget (styleStep st a).1 pu.1 = dget st.1 pu.1 := fun pu hmem => by
      rw [styleStep_fst]
      exact dget_dpop_ne st.1 fun he => hnd.1 (he ▸ List.mem_map_of_mem hmem)
    rw [List.foldl_cons, ih hnd.2, styleStep_snd_nil_iff, List.forall_mem_cons, and_assoc]
    exact and_congr_right fun _ => and_congr_right fun _ =>
      ⟨fun h pu hm => hpop pu hm ▸ h pu hm, fun h pu hm => (hpop pu hm).symm ▸ h pu hm⟩

theorem styleMsgs_nil_iff (refMap lm : List (Text × Text)) (hnd : (lm.map Prod.fst).Nodup) :
    styleMsgs refMap lm = [] ↔
      (∀ pu ∈ lm, dget refMap pu.1 = some pu.2) ∧ (∀ q ∈ refMap, q.1 ∈ lm.map Prod.fst) := by
  unfold styleMsgs
  simp only
  rw [List.foldl_flip_cons_eq_append, List.append_eq_nil_iff, List.reverse_eq_nil_iff, List.map_eq_nil_iff,
    foldl_styleStep_fst, foldl_styleStep_nil_iff lm hnd, List.filter_eq_nil_iff, and_comm]
  simp

def mapNodup (m : Option (List (Text × Text))) : Prop :=
  match m with
  | some l => (l.map Prod.fst).Nodup
  | none => True

theorem cssStep_nodup (s : Array Nat) (stt stt' : CssState) (m : Nat × Rx.St)
    (h : cssStep s stt m = some stt') (hn : mapNodup stt.refMap) : mapNodup stt'.refMap := by
  unfold cssStep at h
  simp only at h
  split at h
  · simp at h
  · simp only [Option.some.injEq] at h
    subst h
    simp only
    split
    · split
      · apply AR.dset_nodup
        cases hr : stt.refMap with
        | none => simp
        | some l => simpa [mapNodup, hr] using hn
      · exact hn
    · exact hn

theorem cssLoop_nodup (s : Array Nat) (ms : List (Nat × Rx.St)) (stt stt' : CssState)
    (h : cssLoop s ms stt = some stt') (hn : mapNodup stt.refMap) : mapNodup stt'.refMap := by
  induction ms generalizing stt with
  | nil => simp [cssLoop] at h; subst h; exact hn
  | cons m rest ih =>
    unfold cssLoop at h
    split at h
    · rename_i st1 hst
      exact ih st1 h (cssStep_nodup s stt st1 m hst hn)
    · simp at h

theorem parseCssSpec_nodup (v : Text) (lm : List (Text × Text)) (h : (parseCssSpec v).1 = some lm) :
    (lm.map Prod.fst).Nodup := by
  unfold parseCssSpec at h
  simp only at h
  split at h
  · rename_i stt hstt
    have := cssLoop_nodup _ _ _ stt hstt (by simp [mapNodup])
    simp only at h
    rw [h] at this
    exact this
  · simp at h

end Dtd
