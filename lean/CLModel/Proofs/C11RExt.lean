/- Expansion of a fully bound, android-free value does not depend on anything the environment binds in
   addition (the captures `sub` adds below the other matcher's environment), nor on `raise_missing`, nor on
   the nesting bound. -/
import CLModel.Proofs.C11Sound
import CLModel.Proofs.C12Term
namespace C11R
open PM

def Ext (env env' : Env) : Prop := ∀ k v, env.lookup k = some v → env'.lookup k = some v

theorem Ext.derase {env env' : Env} (h : Ext env env') (k : Text) : Ext (derase env k) (derase env' k) := by
  intro k' v hl
  cases hk : (k' == k) with
  | true =>
    have : k' = k := by simpa using hk
    subst this
    rw [lookup_derase_self] at hl
    cases hl
  | false =>
    rw [lookup_derase_ne k k' hk] at hl ⊢
    exact h k' v hl

/-- values whose expansion we transport: plain texts, or unrooted patterns without `{android_locale}` -/
def GoodVal : Val → Prop
  | .str _ => True
  | .pat p => p.root = none ∧ NoAndroid p

def GoodEnv (env : Env) : Prop := ∀ k v, (k, v) ∈ env → GoodVal v

theorem GoodEnv.derase {env : Env} (h : GoodEnv env) (k : Text) : GoodEnv (derase env k) :=
  fun k' v hm => h k' v (List.mem_filter.mp hm).1

theorem GoodEnv.lookup {env : Env} (h : GoodEnv env) {k : Text} {v : Val} (hl : env.lookup k = some v) : GoodVal v :=
  h k v (AR.lookup_mem hl)

theorem expandVal_ext : ∀ (f : Nat) (v : Val) (env env' : Env) (t : Text) (rm' : Bool),
    Ext env env' → GoodEnv env → GoodVal v → expandVal f v env true = .ok t → expandVal f v env' rm' = .ok t
  | 0, v, env, env', t, rm', _, _, _, h => by
    cases v with
    | str s => simpa [expandVal] using h
    | pat p => simp [expandVal] at h
  | f + 1, v, env, env', t, rm', hext, hgood, hv, h => by
    cases v with
    | str s => simpa [expandVal] using h
    | pat p =>
      obtain ⟨hroot, hna⟩ := hv
      simp only [expandVal, expandPat, rootOf_none hroot, bind, Except.bind] at h ⊢
      have hch : ∀ (ns : List Node) (t : Text), (∀ n ∈ ns, ∀ r, n ≠ Node.android r) →
          expandChildren (expandVal f) ns env true = .ok t →
          expandChildren (expandVal f) ns env' rm' = .ok t := by
        intro ns
        induction ns with
        | nil => intro t _ h; simpa [expandChildren] using h
        | cons c cs ih =>
          intro t hnc h
          rcases expandChildren_cons_ok h with ⟨_, hrm, _⟩ | ⟨ta, tb, h3, h4, rfl⟩
          · cases hrm
          · have htl := ih tb (fun n hn => hnc n (by simp [hn])) h4
            have hnode : expandNode (expandVal f) c env' true = .ok ta := by
              cases c with
              | lit s => exact h3
              | var name rep =>
                simp only [expandNode] at h3 ⊢
                cases hl : env.lookup name with
                | none => simp [hl] at h3
                | some w =>
                  simp only [hl] at h3
                  simp only [hext name w hl]
                  exact expandVal_ext f w _ _ ta true (hext.derase name) (hgood.derase name) (hgood.lookup hl) h3
              | android r => exact absurd rfl (hnc _ (by simp) r)
              | star n =>
                simp only [expandNode] at h3 ⊢
                cases hl : env.lookup (sname n) with
                | none => simp [hl] at h3
                | some w => simpa [hl, hext _ w hl] using h3
              | starstar n sfx =>
                simp only [expandNode] at h3 ⊢
                cases hl : env.lookup (sname n) with
                | none => simp [hl] at h3
                | some w => simpa [hl, hext _ w hl] using h3
            simp only [expandChildren, hnode, htl, bind, Except.bind, pure, Except.pure]
      split at h
      · cases h
      · rename_i body hb
        rw [hch p.nodes body hna hb]
        exact h

theorem expandVal_fuel {f f' : Nat} {v : Val} {env : Env} {rm : Bool} {t : Text}
    (h : expandVal f v env rm = .ok t) (hn : expandVal f' v env rm ≠ .error .recursion) :
    expandVal f' v env rm = .ok t := by
  rcases Nat.le_total f f' with hle | hle
  · exact expandVal_mono hle h (by intro hc; cases hc)
  · have := expandVal_mono hle (r := expandVal f' v env rm) rfl hn
    rw [← this]; exact h

end C11R
