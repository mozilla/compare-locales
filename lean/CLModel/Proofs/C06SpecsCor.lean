/- consequences of the closed form of `getPrintfSpecs`, read through the style of the argument list (all ordered or
   all unordered, which is what a scan without error guarantees): exactly three malformed cases; `%%` is ignored;
   ordered arguments may be reordered. -/
import CLModel.Proofs.C06Specs
namespace PropCk

def notPct (t : Nat × ATok) : Bool :=
  match t.2 with
  | .pct => false
  | _ => true

def HasLone (ts : List (Nat × ATok)) : Prop := ∃ p, (p, ATok.lone) ∈ ts

/-- ordered and unordered arguments both occur -/
def Mixed (ts : List (Nat × ATok)) : Prop :=
  (∃ a ∈ argsOf ts, a.1.isSome = true) ∧ (∃ a ∈ argsOf ts, a.1.isSome = false)

/-- all arguments are ordered, and some number below the highest one is not used -/
def Gap (ts : List (Nat × ATok)) : Prop :=
  (∀ a ∈ argsOf ts, a.1.isSome = true) ∧
  ∃ p, p < maxNum (argsOf ts) ∧ ∀ a ∈ argsOf ts, a.1 ≠ some (p + 1)

theorem argsOf_eq_filterMap (ts : List (Nat × ATok)) :
    argsOf ts = ts.filterMap (fun t => match t.2 with
      | .arg num spec => some (num, spec)
      | _ => none) := by
  induction ts with
  | nil => rfl
  | cons t ts ih =>
    obtain ⟨p, tok⟩ := t
    cases tok <;> simp [argsOf, ih]

theorem scanErr_none_iff (ts : List (Nat × ATok)) : ∀ mode,
    scanErr ts mode = none ↔ ¬ HasLone ts ∧ ∃ b, mode ≠ some (!b) ∧ ∀ a ∈ argsOf ts, a.1.isSome = b := by
  induction ts with
  | nil => intro mode; cases mode <;> simp [scanErr, HasLone, argsOf]
  | cons t ts ih =>
    intro mode
    obtain ⟨p, tok⟩ := t
    cases tok with
    | lone => simp [scanErr, HasLone]
    | pct => simp [scanErr, ih mode, argsOf, HasLone]
    | arg num spec =>
      simp only [scanErr, argsOf, List.mem_cons, forall_eq_or_imp]
      split
      · rename_i hm
        simp only [reduceCtorEq, false_iff, not_and, not_exists]
        rintro _ b hb rfl _
        exact hb hm
      · rename_i hm
        rw [ih]
        simp only [HasLone, List.mem_cons, Prod.mk.injEq, reduceCtorEq, and_false, false_or, ne_eq,
          Option.some.injEq]
        refine and_congr_right fun _ => ⟨?_, ?_⟩
        · rintro ⟨b, hb, hall⟩
          obtain rfl : num.isSome = b := Bool.not_eq_not.mp hb
          exact ⟨_, hm, rfl, hall⟩
        · rintro ⟨b, _, rfl, hall⟩
          exact ⟨_, Bool.not_eq_not.mpr rfl, hall⟩

theorem scanErr_some {ts : List (Nat × ATok)} {mode : Option Bool} {e : PErr} (h : scanErr ts mode = some e) :
    ∃ p a, (p, a) ∈ ts ∧ (e = .printf sFoundSingle p ∨ e = .printf sMixed p) := by
  induction ts generalizing mode with
  | nil => cases h
  | cons t ts ih =>
    obtain ⟨q, tok⟩ := t
    have tl : (∃ p a, (p, a) ∈ ts ∧ (e = .printf sFoundSingle p ∨ e = .printf sMixed p)) →
        ∃ p a, (p, a) ∈ (q, tok) :: ts ∧ (e = .printf sFoundSingle p ∨ e = .printf sMixed p) :=
      fun ⟨p, a, ha, he⟩ => ⟨p, a, List.mem_cons_of_mem _ ha, he⟩
    cases tok with
    | lone => exact ⟨q, _, List.mem_cons_self, .inl (Option.some.inj h).symm⟩
    | pct => exact tl (ih h)
    | arg num spec =>
      simp only [scanErr] at h
      split at h
      · exact ⟨q, _, List.mem_cons_self, .inr (Option.some.inj h).symm⟩
      · exact tl (ih h)

theorem not_mixed_iff {ts : List (Nat × ATok)} : ¬ Mixed ts ↔ ∃ b, ∀ a ∈ argsOf ts, a.1.isSome = b := by
  constructor
  · intro h
    by_cases ho : ∃ a ∈ argsOf ts, a.1.isSome = true
    · exact ⟨true, fun a ha => Classical.byContradiction fun hs => h ⟨ho, a, ha, by simpa using hs⟩⟩
    · exact ⟨false, fun a ha => Bool.eq_false_iff.mpr fun hs => ho ⟨a, ha, hs⟩⟩
  · rintro ⟨b, hb⟩ ⟨⟨a, ha, h1⟩, ⟨a', ha', h2⟩⟩
    rw [hb a ha] at h1; rw [hb a' ha'] at h2
    exact absurd (h1.symm.trans h2) (by simp)

theorem scan_clean_iff {ts : List (Nat × ATok)} : scanErr ts none = none ↔ ¬ HasLone ts ∧ ¬ Mixed ts := by
  simp [scanErr_none_iff, not_mixed_iff]

theorem specsSpec_unordered {ts : List (Nat × ATok)} (hl : ¬ HasLone ts)
    (hb : ∀ a ∈ argsOf ts, a.1.isSome = false) : specsSpec ts = .ok ((argsOf ts).map fun a => some a.2) := by
  unfold specsSpec
  rw [(scanErr_none_iff ts none).mpr ⟨hl, false, by simp, hb⟩]
  cases ha : argsOf ts with
  | nil => rfl
  | cons a as =>
    obtain ⟨an, asp⟩ := a
    have := hb (an, asp) (by rw [ha]; simp)
    cases an <;> simp_all

theorem specsSpec_ordered {ts : List (Nat × ATok)} (hl : ¬ HasLone ts)
    (hb : ∀ a ∈ argsOf ts, a.1.isSome = true) :
    specsSpec ts =
      if (positional (argsOf ts)).all Option.isSome then .ok (positional (argsOf ts))
      else .error (.printf sOrderedMissing 0) := by
  unfold specsSpec
  rw [(scanErr_none_iff ts none).mpr ⟨hl, true, by simp, hb⟩]
  cases ha : argsOf ts with
  | nil => simp [positional, maxNum]
  | cons a as =>
    obtain ⟨an, asp⟩ := a
    have := hb (an, asp) (by rw [ha]; simp)
    cases an <;> simp_all

theorem specsSpec_error {ts : List (Nat × ATok)} {e : PErr} (h : specsSpec ts = .error e) :
    (∃ p a, (p, a) ∈ ts ∧ (e = .printf sFoundSingle p ∨ e = .printf sMixed p)) ∨ e = .printf sOrderedMissing 0 := by
  cases hs : scanErr ts none with
  | some e' =>
    rw [specsSpec, hs] at h
    cases h
    exact .inl (scanErr_some hs)
  | none =>
    obtain ⟨hl, b, -, hb⟩ := (scanErr_none_iff ts none).mp hs
    cases b with
    | false => rw [specsSpec_unordered hl hb] at h; cases h
    | true =>
      rw [specsSpec_ordered hl hb] at h
      split at h <;> cases h
      exact .inr rfl

/-- the closed form `specsSpec` fails exactly in the three malformed cases (for `getPrintfSpecs` itself: `C06.specs_error_iff`) -/
theorem specsSpec_error_iff (ts : List (Nat × ATok)) (hwf : WFToks ts) :
    (∃ e, specsSpec ts = .error e) ↔ HasLone ts ∨ Mixed ts ∨ Gap ts := by
  cases hs : scanErr ts none with
  | some e =>
    have : HasLone ts ∨ Mixed ts := by
      apply Classical.byContradiction
      intro h
      rw [scan_clean_iff.mpr ⟨fun hl => h (.inl hl), fun hm => h (.inr hm)⟩] at hs
      cases hs
    simp only [specsSpec, hs, Except.error.injEq, exists_eq', true_iff]
    exact this.elim .inl (.inr ∘ .inl)
  | none =>
    obtain ⟨hl, hm⟩ := scan_clean_iff.mp hs
    obtain ⟨b, hb⟩ := not_mixed_iff.mp hm
    simp only [hl, hm, false_or]
    cases b with
    | false =>
      simp only [specsSpec_unordered hl hb, reduceCtorEq, exists_false, false_iff]
      rintro ⟨hall, p, hp, _⟩
      cases ha : argsOf ts with
      | nil => simp [ha, maxNum] at hp
      | cons a as => have := hall a (by simp [ha]); simp [hb a (by simp [ha])] at this
    | true =>
      have hnum : ∀ a ∈ argsOf ts, ∀ p, a.1.getD 0 - 1 = p ↔ a.1 = some (p + 1) := by
        intro a ha p
        obtain ⟨n, hn⟩ := Option.isSome_iff_exists.mp (hb a ha)
        obtain ⟨q, hq⟩ := mem_argsOf.mp ha
        have := (hwf q _ _ hq).2 n hn
        simp only [hn, Option.getD_some, Option.some.injEq]
        omega
      have : (positional (argsOf ts)).all Option.isSome = false ↔ Gap ts := by
        rw [positional, List.all_map, List.all_eq_false]
        simp only [Gap, List.mem_range, Function.comp_apply, Bool.not_eq_true, Option.isSome_eq_false_iff,
          Option.isNone_iff_eq_none, lastSpecAt_none_iff]
        exact ⟨fun ⟨p, hp, h⟩ => ⟨hb, p, hp, fun a ha => mt (hnum a ha p).mpr (h a ha)⟩,
          fun ⟨_, p, hp, h⟩ => ⟨p, hp, fun a ha => mt (hnum a ha p).mp (h a ha)⟩⟩
      rw [specsSpec_ordered hl hb, ← this]
      cases (positional (argsOf ts)).all Option.isSome <;> simp

theorem argsOf_filter_notPct (ts : List (Nat × ATok)) : argsOf (ts.filter notPct) = argsOf ts := by
  induction ts with
  | nil => rfl
  | cons t ts ih =>
    obtain ⟨p, tok⟩ := t
    cases tok <;> simp [List.filter_cons, argsOf, ih, notPct]

theorem scanErr_filter_notPct (ts : List (Nat × ATok)) :
    ∀ mode, scanErr (ts.filter notPct) mode = scanErr ts mode := by
  induction ts with
  | nil => intro mode; rfl
  | cons t ts ih =>
    intro mode
    obtain ⟨p, tok⟩ := t
    cases tok with
    | lone => simp [List.filter_cons, scanErr, notPct]
    | pct => simp [List.filter_cons, scanErr, ih, notPct]
    | arg num spec =>
      simp only [List.filter_cons, notPct, if_true, scanErr]
      split
      · rfl
      · exact ih _

/-- **`%%` (and therefore any surrounding text, which is not a token at all) is ignored.** -/
theorem specsSpec_ignores_pct (ts : List (Nat × ATok)) :
    specsSpec (ts.filter notPct) = specsSpec ts := by
  unfold specsSpec
  rw [scanErr_filter_notPct, argsOf_filter_notPct]

end PropCk

namespace PropCk

def argOfTok : ATok → Option (Option Nat × Text)
  | .arg num spec => some (num, spec)
  | _ => none

theorem argsOf_eq_filterMap' (ts : List (Nat × ATok)) :
    argsOf ts = (ts.map (·.2)).filterMap argOfTok := by
  induction ts with
  | nil => rfl
  | cons t ts ih =>
    obtain ⟨p, tok⟩ := t
    cases tok <;> simp only [argsOf, List.map_cons, List.filterMap_cons, argOfTok, ih]

theorem maxNum_perm {as as' : List (Option Nat × Text)} (h : as.Perm as') : maxNum as = maxNum as' :=
  Nat.le_antisymm (maxNum_le_iff.mpr fun _ ha => le_maxNum (h.subset ha))
    (maxNum_le_iff.mpr fun _ ha => le_maxNum (h.symm.subset ha))

def Consistent (as : List (Option Nat × Text)) : Prop :=
  ∀ a ∈ as, ∀ a' ∈ as, a.1 = a'.1 → a.2 = a'.2

theorem lastSpecAt_perm {as as' : List (Option Nat × Text)} (hp : as.Perm as')
    (hc : Consistent as) (hord : ∀ a ∈ as, ∃ n, a.1 = some n ∧ n ≥ 1) (p : Nat) :
    lastSpecAt as p = lastSpecAt as' p := by
  cases h : lastSpecAt as p with
  | none =>
    symm
    rw [lastSpecAt_none_iff] at h ⊢
    intro a ha
    exact h a (hp.symm.subset ha)
  | some t =>
    obtain ⟨a, ha, hk, hat⟩ := lastSpecAt_some h
    cases h' : lastSpecAt as' p with
    | none =>
      rw [lastSpecAt_none_iff] at h'
      exact absurd hk (h' a (hp.subset ha))
    | some t' =>
      obtain ⟨a', ha', hk', hat'⟩ := lastSpecAt_some h'
      have ha'' := hp.symm.subset ha'
      obtain ⟨n, hn, hn1⟩ := hord a ha
      obtain ⟨n', hn', hn1'⟩ := hord a' ha''
      have : a.1 = a'.1 := by
        rw [hn, hn']
        rw [hn] at hk; rw [hn'] at hk'
        simp only [Option.getD_some] at hk hk'
        congr 1; omega
      rw [← hat, ← hat', hc a ha a' ha'' this]

/-- **Ordered arguments may be reordered**: two token lists with the same multiset of tokens
    (offsets ignored), consisting of `%%` and ordered arguments only, the same number always
    carrying the same type, have the same specifier list. -/
theorem specsSpec_reorder (ts ts' : List (Nat × ATok)) (hwf : WFToks ts)
    (hperm : (ts.map (·.2)).Perm (ts'.map (·.2)))
    (hord : ∀ t ∈ ts, t.2 = ATok.pct ∨ ∃ n sp, t.2 = ATok.arg (some n) sp)
    (hcons : Consistent (argsOf ts)) :
    specsSpec ts = specsSpec ts' := by
  have hargs : (argsOf ts).Perm (argsOf ts') := by
    rw [argsOf_eq_filterMap', argsOf_eq_filterMap']
    exact hperm.filterMap _
  have hord' : ∀ t ∈ ts', t.2 = ATok.pct ∨ ∃ n sp, t.2 = ATok.arg (some n) sp := by
    intro t ht
    have : t.2 ∈ ts.map (·.2) := hperm.symm.subset (List.mem_map_of_mem ht)
    obtain ⟨t0, ht0, he⟩ := List.mem_map.mp this
    rw [← he]; exact hord t0 ht0
  have key : ∀ {l : List (Nat × ATok)}, (∀ t ∈ l, t.2 = ATok.pct ∨ ∃ n sp, t.2 = ATok.arg (some n) sp) →
      ¬ HasLone l ∧ ∀ a ∈ argsOf l, a.1.isSome = true := by
    intro l hl
    have hb : ∀ a ∈ argsOf l, a.1.isSome = true := fun a ha => by
      obtain ⟨p, hp⟩ := mem_argsOf.mp ha
      rcases hl _ hp with h | ⟨n, sp, h⟩
      · cases h
      · rw [(ATok.arg.inj h).1]; rfl
    refine ⟨fun ⟨p, hp⟩ => ?_, hb⟩
    rcases hl _ hp with h | ⟨_, _, h⟩ <;> cases h
  have hordArgs : ∀ a ∈ argsOf ts, ∃ n, a.1 = some n ∧ n ≥ 1 := by
    intro a ha
    obtain ⟨n, hn⟩ := Option.isSome_iff_exists.mp ((key hord).2 a ha)
    obtain ⟨p, hp⟩ := mem_argsOf.mp ha
    exact ⟨n, hn, (hwf p _ _ hp).2 n hn⟩
  have hpos : positional (argsOf ts) = positional (argsOf ts') := by
    unfold positional
    rw [maxNum_perm hargs]
    apply List.map_congr_left
    intro p _
    exact lastSpecAt_perm hargs hcons hordArgs p
  rw [specsSpec_ordered (key hord).1 (key hord).2, specsSpec_ordered (key hord').1 (key hord').2, hpos]

end PropCk
