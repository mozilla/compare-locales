/-
C17: the checker models composed with the position resolution of
`ContentComparer.compare` / `EntityLinter.lint_value` on the entries of the parse stage:
what the (line, column) attached to a checker result points at.
-/
import CLModel.Proofs.C17Ents
namespace C17P
open Pos Pipe

/-- what the pair reported for a checker result denotes, for an entry `e` of the text `s`:
    * `ufffd`  — the offset `p` of a U+FFFD inside the entry (base `Checker.check`, entries without pre-comment);
    * `value`  — the offset `p = val_span[0] + n` inside the value span (properties): the value start, a backslash of
                 an unknown escape, or — when the raw value has no backslash, so that offsets into `val` and `raw_val`
                 coincide — a `%`;
    * `shifted` — KNOWN FINDING C17-entitypos-counts-from-precomment: the U+FFFD is at offset `a + k` (counted from the
                 start `a` of the attached pre-comment), the code reports the pair of `span[0] + k`. -/
inductive Target (s : Array Nat) (e : P.Entry) (lc : Int × Int) : Prop
  | ufffd (p : Nat) (h1 : e.s ≤ p) (h2 : p < e.e) (h3 : s[p]? = some 0xFFFD) (h4 : lc = castLC (cursor s p))
  | value (vs ve p : Nat) (hvs : e.vs = (vs : Int)) (hve : e.ve = (ve : Int)) (h0 : e.s ≤ vs) (h1 : vs ≤ p) (h2 : p ≤ ve)
      (h3 : ve ≤ e.e)
      (hch : p = vs ∨ s[p]? = some 92 ∨ ((∀ j, vs ≤ j → j < ve → s[j]? ≠ some 92) → s[p]? = some 37))
      (h4 : lc = castLC (cursor s p))
  | shifted (a b k : Nat) (hpc : e.pc = some (a, b)) (h1 : s[a + k]? = some 0xFFFD) (h2 : a + k < e.e) (h3 : a ≤ e.s)
      (h4 : lc = castLC (cursor s (e.s + k)))

theorem entityPos_target (fmt : P.Fmt) (s : Array Nat) (l : PEnt) (hl : EntFacts fmt s l) (k : Nat)
    (hk : l.all[k]? = some 0xFFFD) (lc : Int × Int)
    (hres : resolveCheckPos s .plain l.entry (.entityPos (k : Int)) = some lc) : Target s l.entry lc := by
  have hlc : lc = castLC (cursor s (l.entry.s + k)) := by
    have hres' : position s l.entry (k : Int) = some lc := hres
    rw [C17.position_spec, if_neg (by omega), Int.toNat_natCast] at hres'
    exact (Option.some.inj hres').symm
  rw [hl.all_eq] at hk
  obtain ⟨hget, hlt⟩ := P.slice_get hk
  obtain ⟨hfs, hj, hent, hpc⟩ := hl.shape
  cases hpcv : l.entry.pc with
  | none =>
    have hsf : l.entry.s = l.entry.full := by
      rcases hl.kind with ⟨_, hkj⟩ | ⟨_, hke⟩
      · exact hj hkj
      · exact hent hke hpcv
    exact .ufffd (l.entry.s + k) (by omega) (by omega) (by rw [hsf]; exact hget) hlc
  | some ab =>
    obtain ⟨a, b⟩ := ab
    obtain ⟨ha, hb⟩ := hpc a b hpcv
    exact .shifted a b k hpcv (by rw [ha]; exact hget) (by omega) (by omega) hlc

/-- the position of a result of the base or the properties checker, in terms of the localized entity alone: an
    `EntityPos` at a U+FFFD of `all`; or (`PropertiesChecker` only) an int `n ≤ len(raw_val)` that is 0, at a backslash
    of `raw_val`, or at a `%` of `val`, which is `raw_val` when that has no backslash -/
theorem runChecker_pos (fmt : P.Fmt) (hfd : fmt ≠ .dtd) (ck : CkCtx) (hck : ck.kind = checkerOf fmt) (r l : PEnt)
    (rs : List CheckRes) (hrun : runChecker ck r l = .ok rs) (c : CheckRes) (hc : c ∈ rs) :
    (∃ k : Nat, c.pos = .entityPos (k : Int) ∧ l.all[k]? = some 0xFFFD) ∨
    ∃ n : Nat, fmt = .properties ∧ c.pos = .offset (n : Int) ∧ n ≤ l.raw.length ∧
      (n = 0 ∨ l.raw[n]? = some 92 ∨ ((∀ ch ∈ l.raw, ch ≠ 92) → l.raw[n]? = some 37)) := by
  have hk : ck.kind = .base ∨ (ck.kind = .properties ∧ fmt = .properties) := by
    cases fmt <;> simp_all [checkerOf]
  rcases hk with hb | ⟨hp, hfmt⟩
  · simp only [runChecker, hb, Except.ok.injEq] at hrun
    subst hrun
    simp only [runBase, List.mem_map] at hc
    obtain ⟨x, hx, rfl⟩ := hc
    exact .inl ⟨x.pos, rfl, by simpa using baseCheck_pos l.all.toArray x hx⟩
  · simp only [runChecker, hp, runProps] at hrun
    split at hrun
    · cases hrun
    · split at hrun
      · split at hrun
        · cases hrun
        · rename_i fs hfs
          cases hrun
          simp only [List.mem_map] at hc
          obtain ⟨f, hf, rfl⟩ := hc
          obtain ⟨v, hv⟩ := Pipe.unescape_total l.raw
          have hpos := props_check_pos _ fs v hfs hv f hf
          have hbound := props_check_pos_bound _ fs hfs f hf
          unfold PropsPosOK at hpos
          cases hp : f.pos with
          | ent n =>
            simp only [hp] at hpos
            exact .inl ⟨n, by simp [ofFinding, hp], hpos⟩
          | val n =>
            simp only [hp] at hpos hbound
            refine .inr ⟨n, hfmt, by simp [ofFinding, hp], hbound, ?_⟩
            rcases hpos with h0 | ⟨_, h92⟩ | ⟨_, h37⟩
            · exact .inl h0
            · exact .inr (.inl h92)
            · exact .inr (.inr fun hnb => by rw [← unescape_id _ _ hv hnb]; exact h37)
      · cases hrun

/-- an int position `n ≤ len(raw_val)` on an entry of a properties file is resolved to the pair of `val_span[0] + n`,
    which lies inside the value span; `raw_val` is the text of that span -/
theorem offset_resolved (s : Array Nat) (l : PEnt) (hl : EntFacts .properties s l) (n : Nat)
    (hn : n ≤ l.raw.length) (lc : Int × Int)
    (hres : resolveCheckPos s .plain l.entry (.offset (n : Int)) = some lc) :
    ∃ vs ve : Nat, l.entry.vs = (vs : Int) ∧ l.entry.ve = (ve : Int) ∧ l.entry.s ≤ vs ∧ vs + n ≤ ve ∧ ve ≤ l.entry.e ∧
      l.raw = P.slice s vs ve ∧ lc = castLC (cursor s (vs + n)) := by
  have hres' : valuePosition s (valSpan false l.entry) (n : Int) = some lc := hres
  -- the entry is an Entity: a Junk has no value span
  have hkind : l.junk = false ∧ l.entry.kind = .entity := by
    rcases hl.kind with ⟨_, hkj⟩ | h
    · simp [valSpan, hkj, valuePosition] at hres'
    · exact h
  have hvin := hl.val_in hkind.1
  simp only [P.Vof, P.VNormal] at hvin
  obtain ⟨vs, hvs⟩ := Int.eq_ofNat_of_zero_le (show 0 ≤ l.entry.vs by omega)
  obtain ⟨ve, hve⟩ := Int.eq_ofNat_of_zero_le (show 0 ≤ l.entry.ve by omega)
  have hle := hl.e_le
  have hraw : l.raw = P.slice s vs ve := by
    rw [hl.raw_eq hkind.1, hvs, hve]
    exact P.pySlice_nat s vs ve (by omega) (by omega)
  have hrl : l.raw.length = ve - vs := by rw [hraw]; exact P.slice_length _ _ _ (by omega)
  refine ⟨vs, ve, hvs, hve, by omega, by omega, by omega, hraw, ?_⟩
  simp only [valSpan, hkind.2, hvs, hve, Bool.false_and, Bool.false_eq_true, if_false] at hres'
  rw [C17.value_position_spec, if_neg (by omega), Int.toNat_natCast] at hres'
  exact (Option.some.inj hres').symm

/-- the pair attached to a result of the checker of the format (base `Checker`, `PropertiesChecker`) on an entry of the
    parse is a `Target` of that entry -/
theorem resolve_target (fmt : P.Fmt) (hfd : fmt ≠ .dtd) (ck : CkCtx) (hck : ck.kind = checkerOf fmt) (s : Array Nat)
    (r l : PEnt) (hl : EntFacts fmt s l) (rs : List CheckRes)
    (hrun : runChecker ck r l = .ok rs) (c : CheckRes) (hc : c ∈ rs) (lc : Int × Int)
    (hres : resolveCheckPos s .plain l.entry c.pos = some lc) : Target s l.entry lc := by
  rcases runChecker_pos fmt hfd ck hck r l rs hrun c hc with ⟨k, hk, hu⟩ | ⟨n, rfl, hn, hlen, hch⟩
  · rw [hk] at hres
    exact entityPos_target fmt s l hl k hu lc hres
  · rw [hn] at hres
    obtain ⟨vs, ve, hvs, hve, h1, h2, h3, hraw, hlc⟩ := offset_resolved s l hl n hlen lc hres
    refine .value vs ve (vs + n) hvs hve h1 (by omega) h2 h3 ?_ hlc
    rw [hraw] at hch
    rcases hch with h0 | h92 | h37
    · exact .inl (by omega)
    · exact .inr (.inl (P.slice_get h92).1)
    · refine .inr (.inr fun hno => (P.slice_get (h37 fun ch hch => ?_)).1)
      -- no backslash in `[vs, ve)` of the text, hence none in the slice
      obtain ⟨j, hj⟩ := List.getElem?_of_mem hch
      obtain ⟨hget, hlt⟩ := P.slice_get hj
      rintro rfl
      exact hno (vs + j) (by omega) hlt hget

/-- `Target` does not record which constructor answers which kind of position.  An int position is never the `shifted`
    shape: its pair is that of an offset inside the entry also when the entry has a pre-comment. -/
theorem resolve_offset_inside (fmt : P.Fmt) (hfd : fmt ≠ .dtd) (ck : CkCtx) (hck : ck.kind = checkerOf fmt) (s : Array Nat)
    (r l : PEnt) (hl : EntFacts fmt s l) (rs : List CheckRes)
    (hrun : runChecker ck r l = .ok rs) (c : CheckRes) (hc : c ∈ rs) (lc : Int × Int)
    (hres : resolveCheckPos s .plain l.entry c.pos = some lc) (hoff : ∃ n, c.pos = .offset n) :
    ∃ p, l.entry.s ≤ p ∧ p ≤ l.entry.e ∧ lc = castLC (cursor s p) := by
  rcases runChecker_pos fmt hfd ck hck r l rs hrun c hc with ⟨k, hk, _⟩ | ⟨n, rfl, hn, hlen, _⟩
  · obtain ⟨m, hm⟩ := hoff
    rw [hk] at hm; cases hm
  · rw [hn] at hres
    obtain ⟨vs, ve, _, _, h1, h2, h3, _, hlc⟩ := offset_resolved s l hl n hlen lc hres
    exact ⟨vs + n, by omega, by omega, hlc⟩

theorem Target.inside_or_shifted {s : Array Nat} {e : P.Entry} {lc : Int × Int} (h : Target s e lc) :
    (∃ p, e.s ≤ p ∧ p ≤ e.e ∧ lc = castLC (cursor s p)) ∨
    ∃ a b k, e.pc = some (a, b) ∧ s[a + k]? = some 0xFFFD ∧ a ≤ e.s ∧ lc = castLC (cursor s (e.s + k)) := by
  cases h with
  | ufffd p h1 h2 _ h4 => exact .inl ⟨p, h1, by omega, h4⟩
  | value vs ve p _ _ h0 h1 h2 h3 _ h4 => exact .inl ⟨p, by omega, by omega, h4⟩
  | shifted a b k hpc h1 _ h3 h4 => exact .inr ⟨a, b, k, hpc, h1, h3, h4⟩

theorem Target.inside {s : Array Nat} {e : P.Entry} {lc : Int × Int} (h : Target s e lc) (he : e.e ≤ s.size)
    (hno : e.pc = none) : ∃ p, e.s ≤ p ∧ p ≤ e.e ∧ p ≤ s.size ∧ lc = castLC (cursor s p) := by
  rcases h.inside_or_shifted with ⟨p, h1, h2, h4⟩ | ⟨a, b, _, hpc, _⟩
  · exact ⟨p, h1, h2, by omega, h4⟩
  · rw [hno] at hpc; cases hpc

end C17P
