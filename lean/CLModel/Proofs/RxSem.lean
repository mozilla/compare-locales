/- A declarative (big-step, over-approximating: it forgets the bounds of a repeat) semantics of the regex engine.
   The matcher is sound for it: every `Run` (RxRun) is a `BSem` derivation, so whenever `m` succeeds the
   continuation was entered in a `BSem`-reachable state (`m_run`, `Run.bsem`).  Everything the matcher *accepts*
   can thus be analysed by inversion on `BSem`; nothing is claimed about what it rejects. -/
import CLModel.Proofs.RxRun
namespace Rx

inductive BSem (s : Array Nat) : Re → St → St → Prop
  | eps {st} : BSem s .eps st st
  | lit {c st} : s[st.pos]? = some c → BSem s (.lit c) st { st with pos := st.pos + 1 }
  | notLit {c d st} : s[st.pos]? = some d → d ≠ c → BSem s (.notLit c) st { st with pos := st.pos + 1 }
  | any {da d st} : s[st.pos]? = some d → (da = true ∨ d ≠ 10) → BSem s (.any da) st { st with pos := st.pos + 1 }
  | cls {neg items c st} : s[st.pos]? = some c → inC neg items c = true →
      BSem s (.cls neg items) st { st with pos := st.pos + 1 }
  | seq {a b st st1 st2} : BSem s a st st1 → BSem s b st1 st2 → BSem s (.seq a b) st st2
  | altL {a b st st'} : BSem s a st st' → BSem s (.alt a b) st st'
  | altR {a b st st'} : BSem s b st st' → BSem s (.alt a b) st st'
  | group {i r st st'} : BSem s r st st' →
      BSem s (.group i r) st { st' with caps := (i, st.pos, st'.pos) :: st'.caps }
  | backref {i a b st} : capOf st.caps i = some (a, b) →
      (∀ j, j < b - a → s[a + j]? = s[st.pos + j]? ∧ st.pos + j < s.size) →
      BSem s (.backref i) st { st with pos := st.pos + (b - a) }
  | bol {ml st} : BSem s (.bol ml) st st
  | eol {ml st} : (st.pos = s.size ∨ (ml = true ∧ s[st.pos]? = some 10) ∨
        (ml = false ∧ st.pos + 1 = s.size ∧ s[st.pos]? = some 10)) → BSem s (.eol ml) st st
  | eos {st} : st.pos = s.size → BSem s .eos st st
  | lookPos {r st st'} : BSem s r st st' → BSem s (.look true false r) st { st with caps := st'.caps }
  | lookOther {ahead neg r st} : (ahead = false ∨ neg = true) → BSem s (.look ahead neg r) st st
  | repNil {mn mx g r st} : BSem s (.rep mn mx g r) st st
  | repCons {mn mx mn' mx' g r st st1 st2} : BSem s r st st1 → BSem s (.rep mn' mx' g r) st1 st2 →
      BSem s (.rep mn mx g r) st st2

theorem Run.bsem {s : Array Nat} {r : Re} {st st' : St} (h : Run s r st st') : BSem s r st st' := by
  induction h with
  | eps => exact .eps
  | lit h => exact .lit h
  | notLit h h' => exact .notLit h h'
  | any h h' => exact .any h h'
  | cls h h' => exact .cls h h'
  | seq _ _ iha ihb => exact .seq iha ihb
  | altL _ ih => exact .altL ih
  | altR _ ih => exact .altR ih
  | group _ ih => exact .group ih
  | backref h h' => exact .backref h h'
  | bol => exact .bol
  | eol h => exact .eol h
  | eos h => exact .eos h
  | lookPos _ ih => exact .lookPos ih
  | lookOther h => exact .lookOther h
  | repNil => exact .repNil
  | repCons _ _ _ iha ihb => exact .repCons iha ihb

theorem matchAt_sem {s : Array Nat} {r : Re} {p : Nat} {st : St} (h : matchAt s r p = some st) :
    BSem s r ⟨p, []⟩ st := (matchAt_run h).bsem

/-- the engine consults its continuation only at outcomes of `r` -/
theorem m_congr {s : Array Nat} {r : Re} {st : St} {k1 k2 : K} (h : ∀ st', BSem s r st st' → k1 st' = k2 st') :
    m s r st k1 = m s r st k2 := by
  rw [m_eq_ends, m_eq_ends]
  exact Txt.findSome?_congr' fun st' hm => h st' (run_of_mem_ends s r st st' hm).bsem

theorem sem_seq_inv {s : Array Nat} {a b : Re} {st st2 : St} (h : BSem s (.seq a b) st st2) :
    ∃ st1, BSem s a st st1 ∧ BSem s b st1 st2 := by
  cases h with
  | seq h1 h2 => exact ⟨_, h1, h2⟩

theorem sem_lit_inv {s : Array Nat} {c : Nat} {st st' : St} (h : BSem s (.lit c) st st') :
    s[st.pos]? = some c ∧ st' = { st with pos := st.pos + 1 } := by
  cases h with
  | lit hc => exact ⟨hc, rfl⟩

theorem BSem.pos_le {s : Array Nat} {r : Re} {st st' : St} (h : BSem s r st st') : st.pos ≤ st'.pos := by
  induction h with
  | seq _ _ iha ihb => exact Nat.le_trans iha ihb
  | repCons _ _ iha ihb => exact Nat.le_trans iha ihb
  | group _ ih => exact ih
  | altL _ ih => exact ih
  | altR _ ih => exact ih
  | lit _ => exact Nat.le_succ _
  | notLit _ _ => exact Nat.le_succ _
  | any _ _ => exact Nat.le_succ _
  | cls _ _ => exact Nat.le_succ _
  | backref _ _ => exact Nat.le_add_right _ _
  | _ => exact Nat.le_refl _

theorem BSem.pos_bound {s : Array Nat} {r : Re} {st st' : St} (h : BSem s r st st') :
    st.pos ≤ s.size → st'.pos ≤ s.size := by
  induction h with
  | seq _ _ iha ihb => exact fun hl => ihb (iha hl)
  | repCons _ _ iha ihb => exact fun hl => ihb (iha hl)
  | group _ ih => exact ih
  | altL _ ih => exact ih
  | altR _ ih => exact ih
  | lit hc => intro _; have := getElem?_some_lt hc; simp; omega
  | notLit hc _ => intro _; have := getElem?_some_lt hc; simp; omega
  | any hc _ => intro _; have := getElem?_some_lt hc; simp; omega
  | cls hc _ => intro _; have := getElem?_some_lt hc; simp; omega
  | @backref i a b st _ hall =>
    intro hl
    simp only
    by_cases hn : b - a = 0
    · omega
    · have := (hall (b - a - 1) (by omega)).2
      omega
  | _ => exact fun hl => hl

/-- all `(index, body)` of the capturing groups of a regex, in pre-order -/
def groups : Re → List (Nat × Re)
  | .group i r => (i, r) :: groups r
  | .seq a b => groups a ++ groups b
  | .alt a b => groups a ++ groups b
  | .rep _ _ _ r => groups r
  | .look _ _ r => groups r
  | _ => []

/-- every recorded capture is the span of a `BSem`-match of the body of a group of `G` with that index -/
def CapsFrom (s : Array Nat) (G : List (Nat × Re)) (caps : List (Nat × Nat × Nat)) : Prop :=
  ∀ e ∈ caps, ∃ body, (e.1, body) ∈ G ∧ ∃ x y, BSem s body x y ∧ x.pos = e.2.1 ∧ y.pos = e.2.2

theorem BSem.capsFrom {s : Array Nat} {G : List (Nat × Re)} {r : Re} {st st' : St} (h : BSem s r st st') :
    (∀ p ∈ groups r, p ∈ G) → CapsFrom s G st.caps → CapsFrom s G st'.caps := by
  induction h with
  | seq _ _ iha ihb =>
    intro hg hc
    exact ihb (fun p hp => hg p (by simp [groups, hp])) (iha (fun p hp => hg p (by simp [groups, hp])) hc)
  | altL _ ih => intro hg hc; exact ih (fun p hp => hg p (by simp [groups, hp])) hc
  | altR _ ih => intro hg hc; exact ih (fun p hp => hg p (by simp [groups, hp])) hc
  | @group i r st st' hr ih =>
    intro hg hc
    have hin := ih (fun p hp => hg p (by simp [groups, hp])) hc
    intro e he
    simp only [List.mem_cons] at he
    rcases he with rfl | he
    · exact ⟨r, hg _ (by simp [groups]), st, st', hr, rfl, rfl⟩
    · exact hin e he
  | lookPos _ ih => intro hg hc; exact ih (fun p hp => hg p (by simp [groups, hp])) hc
  | repCons _ _ iha ihb =>
    intro hg hc
    exact ihb (fun p hp => hg p (by simpa [groups] using hp)) (iha (fun p hp => hg p (by simpa [groups] using hp)) hc)
  | _ => intro _ hc; exact hc

theorem capsFrom_nil (s : Array Nat) (G) : CapsFrom s G [] := by
  intro e he; cases he

end Rx
