/-
C16: `Entity.wrap` replaces exactly the value span.
-/
import CLModel.Serialize.Serializer
import CLModel.Proofs.Walk
namespace C16L
open Ser

theorem pyIdx_nat (n a : Nat) (h : a ≤ n) : pyIdx n (a : Int) = a := by
  unfold pyIdx
  have : ¬ ((a : Int) < 0) := by omega
  simp only [this, if_false, Int.toNat_natCast]
  omega

theorem pySlice_nat (s : Array Nat) (a b : Nat) (ha : a ≤ s.size) (hb : b ≤ s.size) :
    pySlice s (a : Int) (b : Int) = P.slice s a b := by
  unfold pySlice
  rw [pyIdx_nat _ _ ha, pyIdx_nat _ _ hb]

theorem wrap_spec (f : P.Fmt) (s : Array Nat) (e : P.Entry) (v : List Nat) (a b : Nat)
    (hk : e.kind = .entity) (hvs : e.vs = (a : Int)) (hve : e.ve = (b : Int))
    (h1 : e.full ≤ a) (h2 : a ≤ b) (h3 : b ≤ e.e) (h4 : e.e ≤ s.size) :
    (ofEntry f s e).all = P.slice s e.full a ++ P.slice s a b ++ P.slice s b e.e ∧
    (ofEntry f s e).val = P.slice s a b ∧
    (wrap (ofEntry f s e) v).all = P.slice s e.full a ++ v ++ P.slice s b e.e ∧
    (wrap (ofEntry f s e) v).val = v ∧
    (wrap (ofEntry f s e) v).key = (ofEntry f s e).key ∧
    (wrap (ofEntry f s e) v).isReal = true := by
  have hall : (ofEntry f s e).all = P.slice s e.full e.e := by
    unfold ofEntry; rw [hk]; rfl
  have hval : (ofEntry f s e).val = P.slice s a b := by
    unfold ofEntry; rw [hk]; simp only; rw [hvs, hve, pySlice_nat s a b (by omega) (by omega)]
  have hpre : (ofEntry f s e).pre = P.slice s e.full a := by
    unfold ofEntry; rw [hk]; simp only; rw [hvs, pySlice_nat s e.full a (by omega) (by omega)]
  have hpost : (ofEntry f s e).post = P.slice s b e.e := by
    unfold ofEntry; rw [hk]; simp only; rw [hve, pySlice_nat s b e.e (by omega) (by omega)]
  refine ⟨?_, hval, ?_, rfl, rfl, rfl⟩
  · rw [hall, P.slice_append s e.full a b h1 h2, P.slice_append s e.full b e.e (by omega) h3]
  · unfold wrap
    simp only [hpre, hpost]

end C16L
