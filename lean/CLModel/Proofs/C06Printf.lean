/- The opcode loop of `checkPrintf`: what one opcode contributes (`opMsgs`, `opWarn`; `opcodeStep_eq`, `opcodeFold_eq`), which
   opcodes make an error or the warning (`isBad`, `isWarn`), and that a valid script without a bad opcode means the localized
   list is a prefix of the reference's (`noBad_prefix`).  The verdict as a whole is in C06Verdict. -/
import CLModel.Checks.Properties
import CLModel.Proofs.C06Blocks
import CLModel.Proofs.C06Specs
namespace PropCk
open Difflib

def hasError (fs : List Finding) : Prop := ∃ f ∈ fs, f.sev = Sev.error

abbrev Spec := Option Text

/-- an opcode that makes `checkPrintf` add an error message -/
def isBad (R : List Spec) (op : Opcode) : Bool :=
  match op.tag with
  | .equal => false
  | .delete => decide (op.i2 ≠ R.length)
  | .insert => true
  | .replace => true

/-- the shape conditions `ValidFrom` gives for one opcode -/
def OpOK (R L : List Spec) (op : Opcode) : Prop :=
  op.i1 ≤ op.i2 ∧ op.i2 ≤ R.length ∧ op.j1 ≤ op.j2 ∧ op.j2 ≤ L.length ∧
  (match op.tag with
   | .equal => True
   | .delete => op.i1 < op.i2
   | .insert => op.j1 < op.j2
   | .replace => op.i1 < op.i2 ∧ op.j1 < op.j2)

/-- an opcode that makes `checkPrintf` set the warning: a delete that ends at the end of the reference list -/
def isWarn (R : List Spec) (op : Opcode) : Bool :=
  match op.tag with
  | .delete => decide (op.i2 = R.length)
  | _ => false

/-- the warning text for arguments `n+1 … |R|` of the reference that the localization dropped -/
def trailingMsg (R : List Spec) (n : Nat) : Text :=
  join sCommaSp ((List.range' n (R.length - n)).map (fun i =>
    sTrailingArg ++ decimal (i + 1) ++ sSpBt ++ showSpec (R[i]?).join ++ sBtMissing))

/-- the messages `checkPrintf` adds for one opcode -/
def opMsgs (R L : List Spec) (op : Opcode) : List Text :=
  match op.tag with
  | .equal => []
  | .delete =>
    if op.i2 = R.length then []
    else (List.range' op.i1 (op.i2 - op.i1)).map fun i =>
      sArgument ++ decimal (i + 1) ++ sSpBt ++ showSpec (R[i]?).join ++ sBtMissing
  | .insert => (List.range' op.j1 (op.j2 - op.j1)).map fun i =>
      sArgument ++ decimal (i + 1) ++ sSpBt ++ showSpec (L[i]?).join ++ sBtObsolete
  | .replace => ((List.range' op.i1 (op.i2 - op.i1)).zip (List.range' op.j1 (op.j2 - op.j1))).map fun p =>
      sArgument ++ decimal (p.2 + 1) ++ sSpBt ++ showSpec (L[p.2]?).join ++ sBtShouldBe ++ showSpec (R[p.1]?).join ++ sBt

/-- the warning it sets: a delete that ends at the end of the reference names the dropped arguments -/
def opWarn (R : List Spec) (op : Opcode) : Option Text :=
  if op.tag = .delete ∧ op.i2 = R.length then some (trailingMsg R op.i1) else none

theorem missingMsg_lt {pre : Text} {R : List Spec} {i : Nat} (h : i < R.length) :
    missingMsg pre R i = some (pre ++ decimal (i + 1) ++ sSpBt ++ showSpec (R[i]?).join ++ sBtMissing) := by
  simp [missingMsg, List.getElem?_eq_getElem h]

theorem obsoleteMsg_lt {L : List Spec} {i : Nat} (h : i < L.length) :
    obsoleteMsg L i = some (sArgument ++ decimal (i + 1) ++ sSpBt ++ showSpec (L[i]?).join ++ sBtObsolete) := by
  simp [obsoleteMsg, List.getElem?_eq_getElem h]

theorem replaceMsg_lt {R L : List Spec} {p : Nat × Nat} (h1 : p.1 < R.length) (h2 : p.2 < L.length) :
    replaceMsg R L p = some (sArgument ++ decimal (p.2 + 1) ++ sSpBt ++ showSpec (L[p.2]?).join ++ sBtShouldBe ++
      showSpec (R[p.1]?).join ++ sBt) := by
  simp [replaceMsg, List.getElem?_eq_getElem h1, List.getElem?_eq_getElem h2]

theorem opcodeStep_eq (R L : List Spec) (msgs : List Text) (warn : Option Text) (op : Opcode)
    (h2 : op.i2 ≤ R.length) (h4 : op.j2 ≤ L.length) :
    opcodeStep R L (msgs, warn) op = some (msgs ++ opMsgs R L op, (opWarn R op).or warn) := by
  have hR : ∀ i ∈ List.range' op.i1 (op.i2 - op.i1), i < R.length := fun i hi => by
    have := List.mem_range'_1.mp hi; omega
  have hL : ∀ j ∈ List.range' op.j1 (op.j2 - op.j1), j < L.length := fun j hj => by
    have := List.mem_range'_1.mp hj; omega
  unfold opcodeStep opMsgs opWarn
  cases htag : op.tag with
  | equal => simp
  | delete =>
    by_cases hlast : op.i2 = R.length
    · simp only [hlast, if_true, and_self, trailingMsg]
      rw [mapOpt_eq_map _ _ _ fun i hi => missingMsg_lt (hR i (hlast ▸ hi))]
      simp
    · simp only [hlast, if_false, and_false]
      rw [mapOpt_eq_map _ _ _ fun i hi => missingMsg_lt (hR i hi)]
      simp
  | insert =>
    simp only [reduceCtorEq, false_and, if_false]
    rw [mapOpt_eq_map _ _ _ fun i hi => obsoleteMsg_lt (hL i hi)]
    simp
  | replace =>
    simp only [reduceCtorEq, false_and, if_false]
    rw [mapOpt_eq_map _ _ _ fun p hp => replaceMsg_lt (hR _ (List.of_mem_zip hp).1) (hL _ (List.of_mem_zip hp).2)]
    simp

theorem opMsgs_ne_nil {R L : List Spec} {op : Opcode} (hok : OpOK R L op) : opMsgs R L op ≠ [] ↔ isBad R op = true := by
  obtain ⟨-, -, -, -, h5⟩ := hok
  unfold opMsgs isBad
  cases htag : op.tag <;> rw [htag] at h5 <;> simp only at h5 ⊢
  · simp; omega
  · split <;> simp [*]; omega
  · simp; omega
  · simp

theorem opWarn_isSome (R : List Spec) (op : Opcode) : (opWarn R op).isSome = isWarn R op := by
  unfold opWarn isWarn
  cases op.tag <;> simp
  split <;> simp [*]

theorem validFrom_opOK {R L : List Spec} : ∀ {ops : List Opcode} {i j : Nat}, ValidFrom R L i j ops →
    ∀ op ∈ ops, OpOK R L op
  | [], _, _, _, _, h => nomatch h
  | o :: rest, _, _, hv, op, hm => by
    rw [validFrom_cons] at hv
    obtain ⟨_, _, h3, h4, h5, h6, h7, h8⟩ := hv
    rcases List.mem_cons.mp hm with rfl | hm
    · refine ⟨h3, h4, h5, h6, ?_⟩
      cases htag : op.tag <;> rw [htag] at h7 <;> simp only at h7 ⊢
      · exact h7
      · exact h7.1
      · exact h7.2
    · exact validFrom_opOK h8 op hm

theorem opcodeFold_eq (R L : List Spec) : ∀ (ops : List Opcode) (msgs : List Text) (warn : Option Text),
    (∀ op ∈ ops, OpOK R L op) →
    opcodeFold R L ops (msgs, warn) =
      some (msgs ++ ops.flatMap (opMsgs R L), ops.foldl (fun w op => (opWarn R op).or w) warn)
  | [], msgs, warn, _ => by simp [opcodeFold]
  | op :: rest, msgs, warn, h => by
    have hok := h op List.mem_cons_self
    rw [opcodeFold, opcodeStep_eq R L msgs warn op hok.2.1 hok.2.2.2.1]
    simp [opcodeFold_eq R L rest _ _ fun o ho => h o (List.mem_cons_of_mem _ ho)]

theorem foldl_opWarn_isSome (R : List Spec) : ∀ (ops : List Opcode) (w : Option Text),
    (ops.foldl (fun w op => (opWarn R op).or w) w).isSome = true ↔ w.isSome = true ∨ ∃ op ∈ ops, isWarn R op = true
  | [], w => by simp
  | op :: rest, w => by
    rw [List.foldl_cons, foldl_opWarn_isSome R rest, Option.isSome_or, opWarn_isSome]
    simp only [Bool.or_eq_true, List.mem_cons, exists_eq_or_imp]
    constructor
    · rintro ((h | h) | h)
      · exact .inr (.inl h)
      · exact .inl h
      · exact .inr (.inr h)
    · rintro (h | h | h)
      · exact .inl (.inr h)
      · exact .inl (.inl h)
      · exact .inr h

theorem validFrom_at_end {R L : List Spec} {j : Nat} {ops : List Opcode}
    (h : ValidFrom R L R.length j ops) (hn : ∀ op ∈ ops, isBad R op = false) : ops = [] := by
  cases ops with
  | nil => rfl
  | cons op rest =>
    rw [validFrom_cons] at h
    obtain ⟨h1, _, h3, h4, _, _, h7, _⟩ := h
    have hb := hn op (by simp)
    cases htag : op.tag <;> rw [htag] at h7 <;> simp only at h7 <;> simp [isBad, htag] at hb <;> omega

theorem noBad_prefix (R L : List Spec) :
    ∀ (ops : List Opcode) (i : Nat), ValidFrom R L i i ops → (∀ op ∈ ops, isBad R op = false) →
      i ≤ R.length → i ≤ L.length → L.take i = R.take i → L <+: R := by
  -- only `equal` opcodes so far, so both cursors stand at `i` and the lists agree up to `i`; a delete that is not bad ends
  -- at `R.length`, and nothing can follow it (`validFrom_at_end`)
  intro ops
  induction ops with
  | nil =>
    intro i hv _ _ _ ht
    obtain ⟨h1, h2⟩ := hv
    rw [h1] at ht
    rw [h1] at h2
    have : L = R := by
      rw [← List.take_length (l := L), ← List.take_length (l := R), ← h2]; exact ht
    rw [this]
    exact List.prefix_refl _
  | cons op rest ih =>
    intro i hv hn hiR hiL ht
    have hb := hn op (by simp)
    have hv' := hv
    rw [validFrom_cons] at hv
    obtain ⟨h1, h2, h3, h4, h5, h6, h7, h8⟩ := hv
    cases htag : op.tag with
    | replace => simp [isBad, htag] at hb
    | insert => simp [isBad, htag] at hb
    | delete =>
      rw [htag] at h7
      simp only at h7
      have hlast : op.i2 = R.length := by simpa [isBad, htag] using hb
      rw [hlast] at h8
      have hnil := validFrom_at_end h8 (fun o ho => hn o (by simp [ho]))
      rw [hnil] at h8
      obtain ⟨_, hj⟩ := h8
      have : L = R.take i := by
        have : L.take i = L := by
          apply List.take_of_length_le; omega
        rw [← this]; exact ht
      rw [this]
      exact List.take_prefix i R
    | equal =>
      rw [htag] at h7
      simp only at h7
      obtain ⟨hlt, hlen, heq⟩ := h7
      have hj2 : op.j2 = op.i2 := by omega
      rw [hj2] at h8 h6
      apply ih op.i2 h8 (fun o ho => hn o (by simp [ho])) h4 h6
      apply List.ext_getElem?
      intro t
      by_cases htt : t < op.i2
      · rw [List.getElem?_take_of_lt htt, List.getElem?_take_of_lt htt]
        by_cases hti : t < i
        · have := congrArg (fun l => l[t]?) ht
          simpa [List.getElem?_take_of_lt hti] using this
        · have := heq (t - i) (by omega)
          rw [h1, h2] at this
          have e : i + (t - i) = t := by omega
          rw [e] at this
          exact this.symm
      · simp [List.getElem?_take, htt]

end PropCk

namespace PropCk

theorem checkPrintf_malformed (R : List Spec) (val msg : Text) (pos : Nat)
    (h : getPrintfSpecs val = .error (.printf msg pos)) :
    checkPrintf R val = some [⟨.error, .val pos, msg, .printf⟩] := by
  simp [checkPrintf, h]

end PropCk
