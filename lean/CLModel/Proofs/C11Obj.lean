/- Matcher OBJECTS whose environment dict is mutable state (`Paths/MatcherObj.lean`).  Every call of the alphabet but
   `env[k] = v` has one of three effects (`Effect`, `step_effect`): it only allocates; it fills the cache of the matcher
   `match`/`sub` is called on; it creates one object whose env lives at a FRESH address.  Hence every object keeps its
   pattern, environment and root, and the caches stay valid (`effect_keeps`). -/
import CLModel.Proofs.C12Heap
import CLModel.Proofs.C11Cache
namespace C11O
open Rx PM C12H

/-- every object's `env` is a dict that exists -/
def WF (s : Store) : Prop := ∀ ob ∈ s.objs, ob.env < s.heap.length

def NoAlias (s : Store) : Prop := s.objs.Pairwise (fun x y => x.env ≠ y.env)

def OnlyAllocates (s s' : Store) : Prop := s'.objs = s.objs ∧ ∃ ex, s'.heap = s.heap ++ ex

theorem view_eq {s : Store} {o : Nat} {ob : MObj} {env : Env} (ho : s.objs[o]? = some ob) (he : s.heap[ob.env]? = some env) :
    s.view o = some { m := { pattern := ob.pattern, env := env }, cache := ob.cache } := by
  simp [Store.view, ho, he]

theorem view_inv {s : Store} {o : Nat} {c : CMatcher} (h : s.view o = some c) :
    ∃ ob env, s.objs[o]? = some ob ∧ s.heap[ob.env]? = some env ∧
      c = { m := { pattern := ob.pattern, env := env }, cache := ob.cache } := by
  unfold Store.view at h
  cases ho : s.objs[o]? with
  | none => simp [ho] at h
  | some ob =>
    simp only [ho] at h
    cases he : s.heap[ob.env]? with
    | none => simp [he] at h
    | some env =>
      simp only [he, Option.some.injEq] at h
      exact ⟨ob, env, rfl, he, h.symm⟩

theorem view_lt {s : Store} {o : Nat} {c : CMatcher} (h : s.view o = some c) : o < s.objs.length := by
  obtain ⟨_, _, ho, _⟩ := view_inv h
  exact Txt.getElem?_some_lt ho

theorem view_of_WF {s : Store} (hw : WF s) {o : Nat} (ho : o < s.objs.length) : ∃ c, s.view o = some c := by
  have hob : s.objs[o]? = some s.objs[o] := List.getElem?_eq_getElem ho
  have hlt := hw s.objs[o] (List.getElem_mem ho)
  exact ⟨_, view_eq hob (List.getElem?_eq_getElem hlt)⟩

theorem view_frame {s s' : Store} {o : Nat} {c : CMatcher} (hv : s.view o = some c) (ho : s'.objs[o]? = s.objs[o]?)
    (he : ∀ ob env, s.objs[o]? = some ob → s.heap[ob.env]? = some env → s'.heap[ob.env]? = some env) :
    s'.view o = some c := by
  obtain ⟨ob, env, ho', he', rfl⟩ := view_inv hv
  exact view_eq (ho.trans ho') (he ob env ho' he')

theorem view_onlyAllocates {s s' : Store} (h : OnlyAllocates s s') {o : Nat} {c : CMatcher} (hv : s.view o = some c) :
    s'.view o = some c := by
  obtain ⟨h1, ex, h2⟩ := h
  exact view_frame hv (by rw [h1]) (fun _ _ _ he => by rw [h2]; exact read_ext ex he)

theorem onlyAllocates_refl (s : Store) : OnlyAllocates s s := ⟨rfl, [], by simp⟩

theorem onlyAllocates_heap (s : Store) (ex : Heap) : OnlyAllocates s { s with heap := s.heap ++ ex } := ⟨rfl, ex, rfl⟩

theorem expandOwn_spec (p : MObj → Pattern) (rm : Bool) {s : Store} {o : Nat} {ob : MObj} {env : Env}
    (ho : s.objs[o]? = some ob) (he : s.heap[ob.env]? = some env) :
    ∃ s', Store.expandOwn p rm o s = some (liftX (expandPat (expandVal (fuelFor env)) (p ob) env rm), s') ∧
      OnlyAllocates s s' := by
  obtain ⟨ex, hx⟩ := expandTopH_spec (p ob) rm he
  unfold Store.expandOwn
  simp only [ho, hx]
  refine ⟨{ s with heap := s.heap ++ ex }, ?_, onlyAllocates_heap s ex⟩
  cases expandPat (expandVal (fuelFor env)) (p ob) env rm <;> rfl

theorem prefix_spec {s : Store} {o : Nat} {c : CMatcher} (hv : s.view o = some c) :
    ∃ s', Store.prefix o s = some (liftX c.m.prefix, s') ∧ OnlyAllocates s s' := by
  obtain ⟨ob, env, ho, he, rfl⟩ := view_inv hv
  exact expandOwn_spec (fun ob => prefixPatternOf ob.pattern) false ho he

theorem str_spec {s : Store} {o : Nat} {c : CMatcher} (hv : s.view o = some c) :
    ∃ s', Store.str o s = some (liftX c.m.str, s') ∧ OnlyAllocates s s' := by
  obtain ⟨ob, env, ho, he, rfl⟩ := view_inv hv
  exact expandOwn_spec (fun ob => ob.pattern) false ho he

theorem expandRaise_spec {s : Store} {o : Nat} {c : CMatcher} (hv : s.view o = some c) :
    ∃ s', Store.expandRaise o s =
        some (liftX (expandPat (expandVal (fuelFor c.m.env)) c.m.pattern c.m.env true), s') ∧ OnlyAllocates s s' := by
  obtain ⟨ob, env, ho, he, rfl⟩ := view_inv hv
  exact expandOwn_spec (fun ob => ob.pattern) true ho he

/-- the calls of the alphabet that only look at their operands -/
inductive Looks : Op → Prop
  | pre (o) : Looks (.prefix o)
  | str (o) : Looks (.str o)
  | raise (o) : Looks (.expandRaise o)
  | repr (o) : Looks (.repr o)
  | eq (a b) : Looks (.eq a b)

theorem mapOut_some {α} {f : α → Out} {x : Option (Except XErr α × Store)} {r : Except XErr Out} {s' : Store}
    (h : mapOut f x = some (r, s')) : ∃ r0, x = some (r0, s') := by
  cases x with
  | none => simp [mapOut] at h
  | some p =>
    obtain ⟨r0, s0⟩ := p
    cases r0 with
    | error e => simp only [mapOut, Option.some.injEq, Prod.mk.injEq] at h; exact ⟨_, by rw [h.2]⟩
    | ok a => simp only [mapOut, Option.some.injEq, Prod.mk.injEq] at h; exact ⟨_, by rw [h.2]⟩

theorem expandOwn_onlyAllocates {p : MObj → Pattern} {rm : Bool} {o : Nat} {s s' : Store} {r}
    (h : Store.expandOwn p rm o s = some (r, s')) : OnlyAllocates s s' := by
  cases ho : s.objs[o]? with
  | none => simp [Store.expandOwn, ho] at h
  | some ob =>
    cases he : s.heap[ob.env]? with
    | none => simp [Store.expandOwn, ho, expandTopH, he] at h
    | some env =>
      obtain ⟨s'', h1, h2⟩ := expandOwn_spec p rm ho he
      rw [h1] at h
      cases h; exact h2

theorem looks_onlyAllocates {op : Op} (hq : Looks op) {s s' : Store} {r} (h : s.step op = some (r, s')) :
    OnlyAllocates s s' := by
  cases hq with
  | pre o =>
    obtain ⟨r0, h0⟩ := mapOut_some h
    exact expandOwn_onlyAllocates h0
  | str o =>
    obtain ⟨r0, h0⟩ := mapOut_some h
    exact expandOwn_onlyAllocates h0
  | raise o =>
    obtain ⟨r0, h0⟩ := mapOut_some h
    exact expandOwn_onlyAllocates h0
  | repr o =>
    obtain ⟨r0, h0⟩ := mapOut_some h
    unfold Store.repr at h0
    cases hv : s.view o with
    | none => simp [hv] at h0
    | some c =>
      simp only [hv, Option.some.injEq, Prod.mk.injEq] at h0
      rw [← h0.2]; exact onlyAllocates_refl s
  | eq a b =>
    obtain ⟨r0, h0⟩ := mapOut_some h
    unfold Store.eq at h0
    cases hva : s.view a with
    | none => simp [hva] at h0
    | some ca =>
      cases hvb : s.view b with
      | none => simp [hva, hvb] at h0
      | some cb =>
        simp only [hva, hvb, Option.some.injEq, Prod.mk.injEq] at h0
        rw [← h0.2]; exact onlyAllocates_refl s

/-- what `s'` is after `match`/`sub` on object `o`: the dicts of `s` plus new ones, the objects of `s` with only the
    cache field of `o` possibly different -/
def OnlyCaches (s s' : Store) (o : Nat) (cache : Option (Re × List Text)) : Prop :=
  (∃ ex, s'.heap = s.heap ++ ex) ∧
  ∃ ob, s.objs[o]? = some ob ∧ s'.objs = s.objs.set o { ob with cache := cache }

theorem view_onlyCaches_self {s s' : Store} {o : Nat} {cache} (h : OnlyCaches s s' o cache) {c : CMatcher}
    (hv : s.view o = some c) : s'.view o = some { c with cache := cache } := by
  obtain ⟨⟨ex, hh⟩, ob, ho, hobjs⟩ := h
  obtain ⟨ob', env, ho', he, rfl⟩ := view_inv hv
  rw [ho] at ho'; cases ho'
  exact view_eq (by rw [hobjs, List.getElem?_set_self (Txt.getElem?_some_lt ho)]) (by rw [hh]; exact read_ext ex he)

theorem view_onlyCaches_other {s s' : Store} {o : Nat} {cache} (h : OnlyCaches s s' o cache) {o' : Nat} (hne : o' ≠ o)
    {c : CMatcher} (hv : s.view o' = some c) : s'.view o' = some c := by
  obtain ⟨⟨ex, hh⟩, ob, ho, hobjs⟩ := h
  exact view_frame hv (by rw [hobjs, List.getElem?_set_ne (Ne.symm hne)]) (fun _ _ _ he => by rw [hh]; exact read_ext ex he)

theorem cacheRegex_spec {s : Store} {o : Nat} {c : CMatcher} (hv : s.view o = some c) :
    ∃ s', Store.cacheRegex o s = some (liftX (c.cacheRegex.map (·.2)), s') ∧
      OnlyCaches s s' o (match c.cacheRegex with | .ok (c', _) => c'.cache | .error _ => c.cache) := by
  obtain ⟨ob, env, ho, he, rfl⟩ := view_inv hv
  unfold Store.cacheRegex CMatcher.cacheRegex
  simp only [ho]
  cases hcache : ob.cache with
  | some rn =>
    refine ⟨s, rfl, ⟨[], by simp⟩, ob, ho, ?_⟩
    simp only [pure, Except.pure]
    rw [← hcache]
    exact (Txt.set_self _ _ _ ho).symm
  | none =>
    obtain ⟨ex, hx⟩ := regexOfH_spec ob.pattern he
    simp only [hx]
    cases hr : Matcher.regexOf { pattern := ob.pattern, env := env } with
    | error e =>
      refine ⟨{ s with heap := s.heap ++ ex }, rfl, ⟨ex, rfl⟩, ob, ho, ?_⟩
      simp only [bind, Except.bind, hr]
      rw [← hcache]
      exact (Txt.set_self _ _ _ ho).symm
    | ok rn =>
      refine ⟨{ heap := s.heap ++ ex, objs := s.objs.set o { ob with cache := some rn } }, rfl, ⟨ex, rfl⟩, ob, ho, ?_⟩
      simp [bind, Except.bind, pure, Except.pure, hr]

theorem match_spec {s : Store} {o : Nat} {c : CMatcher} (hv : s.view o = some c) (path : Text) :
    ∃ s', Store.match o path s = some (liftX (c.match path).1, s') ∧ OnlyCaches s s' o (c.match path).2.cache := by
  obtain ⟨s', h1, h2⟩ := cacheRegex_spec hv
  unfold Store.match CMatcher.match
  simp only [h1]
  cases hr : c.cacheRegex with
  | error e =>
    simp only [hr] at h2
    exact ⟨s', rfl, h2⟩
  | ok p =>
    obtain ⟨c', rn⟩ := p
    simp only [hr] at h2
    exact ⟨s', rfl, h2⟩

theorem onlyCaches_heap {s s1 : Store} {o : Nat} {cache} (h : OnlyCaches s s1 o cache) (ex : Heap) :
    OnlyCaches s { s1 with heap := s1.heap ++ ex } o cache := by
  obtain ⟨⟨ex0, hh⟩, hobjs⟩ := h
  exact ⟨⟨ex0 ++ ex, by simp [hh, List.append_assoc]⟩, hobjs⟩

theorem sub_cache (c oc : CMatcher) (path : Text) : (c.sub oc path).2 = (c.match path).2 := by
  unfold CMatcher.sub
  cases hm : c.match path with
  | mk r c' =>
    cases r with
    | error e => rfl
    | ok o => cases o <;> rfl

/-- only the cache of `self` may change: the dict `env = {}` that `sub` fills and expands against is a new one -/
theorem sub_spec {s : Store} {o other : Nat} {c oc : CMatcher} (hv : s.view o = some c) (hvo : s.view other = some oc)
    (path : Text) :
    ∃ s', Store.sub o other path s = some (liftX (c.sub oc path).1, s') ∧ OnlyCaches s s' o (c.sub oc path).2.cache := by
  obtain ⟨s1, h1, h2⟩ := match_spec hv path
  rw [sub_cache]
  unfold Store.sub CMatcher.sub
  simp only [h1]
  cases hm : c.match path with
  | mk r c' =>
    simp only [hm] at h2
    cases r with
    | error e => exact ⟨s1, rfl, h2⟩
    | ok od =>
      cases od with
      | none => exact ⟨s1, rfl, h2⟩
      | some d =>
        simp only [liftX]
        -- the view of `other` after the match: the same matcher value (at most its cache differs, when other = o)
        have hov : ∃ ov, s1.view other = some ov ∧ ov.m = oc.m := by
          by_cases hoo : other = o
          · subst hoo
            rw [hv] at hvo; cases hvo
            exact ⟨_, view_onlyCaches_self h2 hv, rfl⟩
          · exact ⟨oc, view_onlyCaches_other h2 hoo hvo, rfl⟩
        obtain ⟨ov, hov1, hov2⟩ := hov
        simp only [hov1, hov2]
        obtain ⟨ex, hx⟩ := expandTopH_spec oc.m.pattern false (read_new s1.heap (subEnv d oc.m.env))
        simp only [hx]
        refine ⟨{ s1 with heap := s1.heap ++ ([subEnv d oc.m.env] ++ ex) }, ?_, onlyCaches_heap h2 _⟩
        unfold expandTop
        rw [← List.append_assoc]
        cases expandPat (expandVal (fuelFor (subEnv d oc.m.env))) oc.m.pattern (subEnv d oc.m.env) false <;> rfl

/-- `s'` = `s` plus ONE object whose env dict is new as well (nothing that existed is touched) -/
def Derives (s s' : Store) (nb : MObj) (nenv : Env) : Prop :=
  s'.objs = s.objs ++ [nb] ∧ nb.env = s.heap.length ∧ s'.heap = s.heap ++ [nenv]

theorem view_derives_old {s s' : Store} {nb : MObj} {nenv : Env} (h : Derives s s' nb nenv) {o : Nat} {c : CMatcher}
    (hv : s.view o = some c) : s'.view o = some c := by
  obtain ⟨h1, _, h3⟩ := h
  exact view_frame hv (by rw [h1, List.getElem?_append_left (view_lt hv)]) (fun _ _ _ he => by rw [h3]; exact read_ext _ he)

theorem view_derives_new {s s' : Store} {nb : MObj} {nenv : Env} (h : Derives s s' nb nenv) :
    s'.view s.objs.length = some { m := { pattern := nb.pattern, env := nenv }, cache := nb.cache } := by
  obtain ⟨h1, h2, h3⟩ := h
  exact view_eq (by rw [h1]; simp) (by rw [h3, h2]; exact read_new _ _)

theorem set_last {α} (h : List α) (x y : α) : (h ++ [y]).set h.length x = h ++ [x] := by
  induction h with
  | nil => rfl
  | cons a t ih => simp [ih]

/-- `Matcher(m, env, root)` / `with_env` copy the environment: the new object's env is a NEW dict -/
theorem rebuild_spec {s : Store} {o : Nat} {c : CMatcher} (hv : s.view o = some c) (env : List (Text × Text))
    (root : Option Text) :
    (∀ e, realEnv env = .error e → Store.rebuild o env root s = some (.error (.py e), s)) ∧
    (∀ d, c.rebuild env root = .ok d →
      ∃ s' nb, Store.rebuild o env root s = some (.ok s.objs.length, s') ∧ Derives s s' nb d.m.env ∧
        nb.pattern = d.m.pattern ∧ nb.cache = none ∧ d.cache = none) := by
  obtain ⟨ob, oenv, ho, he, rfl⟩ := view_inv hv
  refine ⟨?_, ?_⟩
  · intro e hre
    simp [Store.rebuild, hre]
  · intro d hd
    unfold CMatcher.rebuild Matcher.rebuild at hd
    cases hre : realEnv env with
    | error e => simp [hre, bind, Except.bind] at hd
    | ok e =>
      simp only [hre, bind, Except.bind, pure, Except.pure, Except.ok.injEq] at hd
      subst hd
      unfold Store.rebuild
      simp only [hre, ho, he, set_last]
      exact ⟨_, _, rfl, ⟨rfl, rfl, rfl⟩, rfl, rfl, rfl⟩

theorem envSet_spec {s : Store} {o : Nat} {ob : MObj} {env : Env} (ho : s.objs[o]? = some ob)
    (he : s.heap[ob.env]? = some env) (k v : Text) (p : Pattern) (hp : parsePattern v = .ok p) :
    Store.envSet o k v s = some (.ok (), { s with heap := s.heap.set ob.env (dset env k (.pat p)) }) := by
  simp [Store.envSet, hp, ho, he]

theorem pairwise_ne {s : Store} (hn : NoAlias s) {i j : Nat} {x y : MObj} (hi : s.objs[i]? = some x)
    (hj : s.objs[j]? = some y) (hij : i ≠ j) : x.env ≠ y.env := by
  obtain ⟨hil, hx⟩ := List.getElem?_eq_some_iff.mp hi
  obtain ⟨hjl, hy⟩ := List.getElem?_eq_some_iff.mp hj
  have hp := List.pairwise_iff_getElem.mp hn
  rcases Nat.lt_or_gt_of_ne hij with h | h
  · have := hp i j hil hjl h; rw [hx, hy] at this; exact this
  · have := hp j i hjl hil h; rw [hx, hy] at this; exact fun e => this e.symm

/-- `WF` and `NoAlias` look only at the env addresses of the objects and the size of the heap -/
theorem keeps_of_envs {s s' : Store} (hw : WF s) (hn : NoAlias s) (hx : ∃ ex, s'.heap = s.heap ++ ex)
    (he : s'.objs.map (·.env) = s.objs.map (·.env) ∨
      (s'.objs.map (·.env) = s.objs.map (·.env) ++ [s.heap.length] ∧ s.heap.length < s'.heap.length)) :
    WF s' ∧ NoAlias s' := by
  have hl : s.heap.length ≤ s'.heap.length := by
    obtain ⟨ex, hx⟩ := hx
    rw [hx, List.length_append]; exact Nat.le_add_right _ _
  have hw' : ∀ a ∈ s.objs.map (·.env), a < s.heap.length := fun a ha =>
    let ⟨ob, hob, e⟩ := List.mem_map.mp ha; e ▸ hw ob hob
  have hn' : (s.objs.map (·.env)).Pairwise (· ≠ ·) := List.pairwise_map.mpr hn
  suffices h : (∀ a ∈ s'.objs.map (·.env), a < s'.heap.length) ∧ (s'.objs.map (·.env)).Pairwise (· ≠ ·) from
    ⟨fun ob hob => h.1 _ (List.mem_map_of_mem hob), List.pairwise_map.mp h.2⟩
  rcases he with he | ⟨he, hlt⟩
  · rw [he]; exact ⟨fun a ha => Nat.lt_of_lt_of_le (hw' a ha) hl, hn'⟩
  · rw [he]
    refine ⟨fun a ha => ?_, List.pairwise_append.mpr ⟨hn', List.pairwise_singleton _ _, fun a ha b hb => ?_⟩⟩
    · rcases List.mem_append.mp ha with ha | ha
      · exact Nat.lt_of_lt_of_le (hw' a ha) hl
      · rw [List.mem_singleton.mp ha]; exact hlt
    · rw [List.mem_singleton.mp hb]; exact Nat.ne_of_lt (hw' a ha)

theorem envs_set_cache {l : List MObj} {o : Nat} {ob : MObj} {cache : Option (Re × List Text)} (ho : l[o]? = some ob) :
    (l.set o { ob with cache := cache }).map (·.env) = l.map (·.env) := by
  rw [List.map_set]
  exact Txt.set_self _ _ _ (by rw [List.getElem?_map, ho]; rfl)

/-- `concat` copies the environment as well; a ValueError (rooted other) or an error of parsing the text changes nothing -/
theorem concat_spec {s : Store} {o : Nat} {c : CMatcher} (hv : s.view o = some c) (other : ConcatObj) {arg : ConcatArg}
    (ha : s.argOf other = some arg) :
    (∀ e, c.concat arg = .error e → Store.concat o other s = some (.error e, s)) ∧
    (∀ d, c.concat arg = .ok d →
      ∃ s' nb, Store.concat o other s = some (.ok s.objs.length, s') ∧ Derives s s' nb d.m.env ∧
        nb.pattern = d.m.pattern ∧ nb.cache = none ∧ d.cache = none) := by
  obtain ⟨ob, oenv, ho, he, rfl⟩ := view_inv hv
  unfold Store.concat CMatcher.concat Matcher.concat
  simp only [ha]
  cases hm : arg.toMatcher with
  | error e =>
    refine ⟨?_, ?_⟩
    · intro e' h; simp [liftX, bind, Except.bind] at h; subst h; rfl
    · intro d h; simp [liftX, bind, Except.bind] at h
  | ok om =>
    simp only [liftX, bind, Except.bind]
    unfold Store.concatWith
    cases hroot : om.pattern.root.isSome with
    | true =>
      refine ⟨?_, ?_⟩
      · intro e' h; simp [throw, throwThe, MonadExceptOf.throw] at h; subst h; simp
      · intro d h; simp [throw, throwThe, MonadExceptOf.throw] at h
    | false =>
      refine ⟨?_, ?_⟩
      · intro e' h; simp [pure, Except.pure] at h
      · intro d h
        simp only [Bool.false_eq_true, if_false, pure, Except.pure, Except.ok.injEq] at h
        subst h
        have hre : realEnv [] = .ok [] := rfl
        simp only [Store.rebuild, hre, ho, he, set_last, Bool.false_eq_true, if_false]
        have h1 : (s.objs ++ [({ pattern := ob.pattern, env := s.heap.length, cache := none } : MObj)])[s.objs.length]? =
            some { pattern := ob.pattern, env := s.heap.length, cache := none } := by simp
        have h2 : (s.heap ++ [dupdate oenv []])[s.heap.length]? = some (dupdate oenv []) := read_new _ _
        simp only [h1, h2, set_last]
        exact ⟨_, _, rfl, ⟨rfl, rfl, rfl⟩, rfl, rfl, rfl⟩

/-- what a call that does not write may do to the store -/
inductive Effect (s s' : Store) : Prop
  | looks (h : OnlyAllocates s s')
  | caches (o : Nat) (c : CMatcher) (hv : s.view o = some c) (path : Text) (h : OnlyCaches s s' o (c.match path).2.cache)
  | derives (nb : MObj) (nenv : Env) (h : Derives s s' nb nenv) (hc : nb.cache = none)

/-- the calls of the alphabet that do not write to an environment: all but `env[k] = v` -/
def Quiet : Op → Prop
  | .envSet _ _ _ => False
  | _ => True

theorem view_none_of_objs {s : Store} {o : Nat} (h : s.objs[o]? = none) : s.view o = none := by
  simp [Store.view, h]

theorem objs_of_lt {s : Store} {o : Nat} (h : o < s.objs.length) : ∃ ob, s.objs[o]? = some ob :=
  ⟨_, List.getElem?_eq_getElem h⟩

theorem match_stuck {s : Store} {o : Nat} (path : Text) (h : s.objs[o]? = none) : Store.match o path s = none := by
  simp [Store.match, Store.cacheRegex, h]

theorem step_effect {s : Store} (hw : WF s) {op : Op} (hq : Quiet op) {r s'} (h : s.step op = some (r, s')) :
    Effect s s' := by
  cases op with
  | envSet o k v => exact absurd hq (by simp [Quiet])
  | «prefix» o => exact .looks (looks_onlyAllocates (.pre o) h)
  | str o => exact .looks (looks_onlyAllocates (.str o) h)
  | expandRaise o => exact .looks (looks_onlyAllocates (.raise o) h)
  | repr o => exact .looks (looks_onlyAllocates (.repr o) h)
  | eq a b => exact .looks (looks_onlyAllocates (.eq a b) h)
  | new cwd p env root =>
    obtain ⟨r0, h0⟩ := mapOut_some h
    unfold Store.new at h0
    cases hm : mkMatcherAt cwd p env root with
    | error e =>
      simp only [hm, Option.some.injEq, Prod.mk.injEq] at h0
      rw [← h0.2]; exact .looks (onlyAllocates_refl s)
    | ok m =>
      simp only [hm, Option.some.injEq, Prod.mk.injEq] at h0
      rw [← h0.2]
      exact .derives { pattern := m.pattern, env := s.heap.length, cache := none } m.env ⟨rfl, rfl, rfl⟩ rfl
  | matchP o path =>
    obtain ⟨r0, h0⟩ := mapOut_some h
    by_cases hlt : o < s.objs.length
    · obtain ⟨c, hv⟩ := view_of_WF hw hlt
      obtain ⟨s1, h1, h2⟩ := match_spec hv path
      rw [h1] at h0
      simp only [Option.some.injEq, Prod.mk.injEq] at h0
      rw [← h0.2]
      exact .caches o c hv path h2
    · rw [match_stuck path (List.getElem?_eq_none (Nat.le_of_not_lt hlt))] at h0; cases h0
  | sub o other path =>
    obtain ⟨r0, h0⟩ := mapOut_some h
    by_cases hlt : o < s.objs.length
    · obtain ⟨c, hv⟩ := view_of_WF hw hlt
      obtain ⟨s1, h1, h2⟩ := match_spec hv path
      unfold Store.sub at h0
      rw [h1] at h0
      -- after the match, `sub` only allocates: the dict it fills, and what expanding against it allocates
      split at h0
      · cases h0
      · next heq =>
        obtain ⟨_, rfl⟩ := Prod.mk.inj (Option.some.inj heq)
        cases h0; exact .caches o c hv path h2
      · next heq =>
        obtain ⟨_, rfl⟩ := Prod.mk.inj (Option.some.inj heq)
        cases h0; exact .caches o c hv path h2
      · next d _ heq =>
        obtain ⟨_, rfl⟩ := Prod.mk.inj (Option.some.inj heq)
        split at h0
        · cases h0
        · next ov _ =>
          obtain ⟨ex, hx⟩ := expandTopH_spec ov.m.pattern false (read_new s1.heap (subEnv d ov.m.env))
          simp only [hx] at h0
          have hs' : s' = { s1 with heap := s1.heap ++ ([subEnv d ov.m.env] ++ ex) } := by
            generalize expandPat (expandVal (fuelFor (subEnv d ov.m.env))) ov.m.pattern (subEnv d ov.m.env) false = E at h0
            cases E <;> (simp only [Option.some.injEq, Prod.mk.injEq] at h0; rw [← h0.2, List.append_assoc])
          rw [hs']; exact .caches o c hv path (onlyCaches_heap h2 _)
    · unfold Store.sub at h0
      rw [match_stuck path (List.getElem?_eq_none (Nat.le_of_not_lt hlt))] at h0; cases h0
  | rebuild o env root =>
    -- every outcome of the copy constructor is spelt out in its definition: the store itself, or one more object
    obtain ⟨r0, h0⟩ := mapOut_some h
    unfold Store.rebuild at h0
    split at h0
    · cases h0; exact .looks (onlyAllocates_refl s)
    · split at h0
      · cases h0
      · split at h0
        · cases h0
        · cases h0
          exact .derives _ _ ⟨rfl, rfl, set_last _ _ _⟩ rfl
  | concat o other =>
    obtain ⟨r0, h0⟩ := mapOut_some h
    unfold Store.concat at h0
    split at h0
    · cases h0
    · split at h0
      · cases h0; exact .looks (onlyAllocates_refl s)
      · unfold Store.concatWith at h0
        split at h0
        · cases h0; exact .looks (onlyAllocates_refl s)
        · have hre : realEnv [] = .ok [] := rfl
          cases ho : s.objs[o]? with
          | none => simp [Store.rebuild, hre, ho] at h0
          | some ob =>
            cases he : s.heap[ob.env]? with
            | none => simp [Store.rebuild, hre, ho, he] at h0
            | some oenv =>
              have h1 : (s.objs ++ [({ pattern := ob.pattern, env := s.heap.length, cache := none } : MObj)])[s.objs.length]? =
                  some { pattern := ob.pattern, env := s.heap.length, cache := none } := by simp
              simp only [Store.rebuild, hre, ho, he, set_last, h1, read_new, Option.some.injEq, Prod.mk.injEq] at h0
              rw [← h0.2]
              exact .derives _ _ ⟨rfl, rfl, rfl⟩ rfl

/-- a view of `s'` is the image of a view of `s` (`hf`), or new (`hnew`) -/
theorem allOK_of_forward {s s' : Store} (hw : WF s)
    (hf : ∀ o c, s.view o = some c → ∃ c', s'.view o = some c' ∧ c'.m = c.m ∧ (C11C.CacheOK c → C11C.CacheOK c'))
    (hnew : ∀ o c, s.objs.length ≤ o → s'.view o = some c → c.cache = none)
    (hall : ∀ o c, s.view o = some c → C11C.CacheOK c) : ∀ o c, s'.view o = some c → C11C.CacheOK c := by
  intro o c hv
  rcases Nat.lt_or_ge o s.objs.length with hlt | hge
  · obtain ⟨c0, hv0⟩ := view_of_WF hw hlt
    obtain ⟨c', hv', _, hok⟩ := hf o c0 hv0
    rw [hv] at hv'; cases hv'
    exact hok (hall o c0 hv0)
  · intro rn hrn
    rw [hnew o c hge hv] at hrn; cases hrn

theorem effect_keeps {s s' : Store} (hw : WF s) (hn : NoAlias s) (he : Effect s s') :
    WF s' ∧ NoAlias s' ∧
    (∀ o c, s.view o = some c → ∃ c', s'.view o = some c' ∧ c'.m = c.m ∧ (C11C.CacheOK c → C11C.CacheOK c')) ∧
    ((∀ o c, s.view o = some c → C11C.CacheOK c) → ∀ o c, s'.view o = some c → C11C.CacheOK c) := by
  cases he with
  | looks h =>
    have hf : ∀ o c, s.view o = some c → ∃ c', s'.view o = some c' ∧ c'.m = c.m ∧ (C11C.CacheOK c → C11C.CacheOK c') :=
      fun o c hv => ⟨c, view_onlyAllocates h hv, rfl, id⟩
    have hk := keeps_of_envs hw hn h.2 (Or.inl (by rw [h.1]))
    exact ⟨hk.1, hk.2, hf, allOK_of_forward hw hf fun o c hge hv => by
      have := view_lt hv
      rw [h.1] at this; omega⟩
  | caches o0 c0 hv0 path h =>
    have hf : ∀ o c, s.view o = some c → ∃ c', s'.view o = some c' ∧ c'.m = c.m ∧ (C11C.CacheOK c → C11C.CacheOK c') := by
      intro o c hv
      by_cases hoo : o = o0
      · subst hoo
        rw [hv0] at hv; cases hv
        refine ⟨_, view_onlyCaches_self h hv0, rfl, fun hc rn hrn => ?_⟩
        -- the cache `match` leaves is that of `CMatcher.match`, which is valid for the unchanged matcher
        obtain ⟨_, h2, h3⟩ := C11C.match_refines hc path
        have := h3 rn hrn
        rw [h2] at this; exact this
      · exact ⟨c, view_onlyCaches_other h hoo hv, rfl, id⟩
    have hk := keeps_of_envs hw hn h.1 (Or.inl (let ⟨_, ho, hobjs⟩ := h.2; by rw [hobjs, envs_set_cache ho]))
    exact ⟨hk.1, hk.2, hf, allOK_of_forward hw hf fun o c hge hv => by
      have := view_lt hv
      obtain ⟨_, _, _, hobjs⟩ := h
      rw [hobjs, List.length_set] at this; omega⟩
  | derives nb nenv h hc =>
    have hf : ∀ o c, s.view o = some c → ∃ c', s'.view o = some c' ∧ c'.m = c.m ∧ (C11C.CacheOK c → C11C.CacheOK c') :=
      fun o c hv => ⟨c, view_derives_old h hv, rfl, id⟩
    have hk := keeps_of_envs hw hn ⟨_, h.2.2⟩ (Or.inr ⟨by rw [h.1, List.map_append, ← h.2.1]; rfl, by rw [h.2.2]; simp⟩)
    exact ⟨hk.1, hk.2, hf, allOK_of_forward hw hf fun o c hge hv => by
      have hlt := view_lt hv
      rw [h.1, List.length_append] at hlt
      obtain rfl : o = s.objs.length := by simp at hlt; omega
      rw [view_derives_new h] at hv; cases hv
      exact hc⟩

end C11O
