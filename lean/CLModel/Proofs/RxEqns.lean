/- The defining equations of the regex engine `m` and of its repeat loop, one per clause (`loop_succ_def` names the
   recursive call, so that a proof can rewrite it first); what `capOf` finds; the two cases of `Option.orElse`. -/
import CLModel.Rx.Basic
namespace Rx

theorem m_eps_def (s : Array Nat) (st : St) (k : K) : m s .eps st k = k st := rfl

theorem m_lit_def (s : Array Nat) (c : Nat) (st : St) (k : K) :
    m s (.lit c) st k = if s[st.pos]? == some c then k { st with pos := st.pos + 1 } else none := rfl

theorem m_notLit_def (s : Array Nat) (c : Nat) (st : St) (k : K) :
    m s (.notLit c) st k =
      match s[st.pos]? with
      | some d => if d != c then k { st with pos := st.pos + 1 } else none
      | none => none := rfl

theorem m_any_def (s : Array Nat) (dotall : Bool) (st : St) (k : K) :
    m s (.any dotall) st k =
      match s[st.pos]? with
      | some d => if dotall || d != 10 then k { st with pos := st.pos + 1 } else none
      | none => none := rfl

theorem m_cls_def (s : Array Nat) (neg : Bool) (items : List ClsItem) (st : St) (k : K) :
    m s (.cls neg items) st k =
      match s[st.pos]? with
      | some c => if (items.any (·.has c)) != neg then k { st with pos := st.pos + 1 } else none
      | none => none := rfl

theorem m_seq_def (s : Array Nat) (a b : Re) (st : St) (k : K) :
    m s (.seq a b) st k = m s a st (fun st' => m s b st' k) := rfl

theorem m_alt_def (s : Array Nat) (a b : Re) (st : St) (k : K) :
    m s (.alt a b) st k = (m s a st k).orElse (fun _ => m s b st k) := rfl

theorem m_group_def (s : Array Nat) (i : Nat) (r : Re) (st : St) (k : K) :
    m s (.group i r) st k =
      m s r st (fun st' => k { st' with caps := (i, st.pos, st'.pos) :: st'.caps }) := rfl

theorem m_backref_def (s : Array Nat) (i : Nat) (st : St) (k : K) :
    m s (.backref i) st k =
      match capOf st.caps i with
      | some (a, b) =>
          if (List.range (b - a)).all (fun j => s[a + j]? == s[st.pos + j]? && (st.pos + j < s.size)) then
            k { st with pos := st.pos + (b - a) } else none
      | none => none := rfl

theorem m_bol_def (s : Array Nat) (ml : Bool) (st : St) (k : K) :
    m s (.bol ml) st k = if st.pos == 0 || (ml && s[st.pos - 1]? == some 10) then k st else none := rfl

theorem m_eol_def (s : Array Nat) (ml : Bool) (st : St) (k : K) :
    m s (.eol ml) st k =
      if st.pos == s.size || (ml && s[st.pos]? == some 10) ||
         (!ml && st.pos + 1 == s.size && s[st.pos]? == some 10) then k st else none := rfl

theorem m_eos_def (s : Array Nat) (st : St) (k : K) :
    m s .eos st k = if st.pos == s.size then k st else none := rfl

theorem m_lookahead_def (s : Array Nat) (neg : Bool) (r : Re) (st : St) (k : K) :
    m s (.look true neg r) st k =
      match m s r st some with
      | some st' => if neg then none else k { st with caps := st'.caps }
      | none => if neg then k st else none := rfl

theorem m_lookbehind_def (s : Array Nat) (neg : Bool) (r : Re) (st : St) (k : K) :
    m s (.look false neg r) st k =
      match (if st.pos == 0 then none else
        m s r { st with pos := st.pos - 1 } (fun st' => if st'.pos == st.pos then some st' else none)) with
      | some _ => if neg then none else k st
      | none => if neg then k st else none := rfl

theorem m_rep_def (s : Array Nat) (mn : Nat) (mx : Option Nat) (g : Bool) (r : Re) (st : St) (k : K) :
    m s (.rep mn mx g r) st k = loop (m s r) g (s.size + 2 - st.pos) mn mx st k := rfl

theorem loop_zero_def (body : St → K → Option St) (g : Bool) (mn : Nat) (mx : Option Nat) (st : St) (k : K) :
    loop body g 0 mn mx st k = none := rfl

theorem loop_succ_def (body : St → K → Option St) (g : Bool) (fuel mn : Nat) (mx : Option Nat) (st : St)
    (k : K) (more : Option St)
    (hmore : more = if mx == some 0 then none else
      body st (fun st' => if st'.pos ≤ st.pos then none else
        loop body g fuel (mn - 1) (mx.map (· - 1)) st' k)) :
    loop body g (fuel + 1) mn mx st k =
      if mn > 0 then more else if g then more.orElse (fun _ => k st) else (k st).orElse (fun _ => more) := by
  subst hmore; rfl

theorem capOf_cons (i a b : Nat) (caps : List (Nat × Nat × Nat)) (j : Nat) :
    capOf ((i, a, b) :: caps) j = if i = j then some (a, b) else capOf caps j := by
  by_cases h : i = j
  · subst h; simp [capOf]
  · have : (i == j) = false := by simp [h]
    simp [capOf, List.find?_cons, this, h]

theorem capOf_mem {caps : List (Nat × Nat × Nat)} {i a b : Nat} (h : capOf caps i = some (a, b)) :
    (i, a, b) ∈ caps := by
  unfold capOf at h
  split at h
  · rename_i j a' b' hf
    simp at h
    obtain ⟨rfl, rfl⟩ := h
    have h1 := List.find?_some hf
    have h2 := List.mem_of_find?_eq_some hf
    simp at h1
    subst h1
    exact h2
  · cases h

theorem orElse_some {α} {a : Option α} {f : Unit → Option α} {r : α}
    (h : a.orElse f = some r) : a = some r ∨ (a = none ∧ f () = some r) := by
  cases a with
  | none => right; simpa using h
  | some x => left; simpa using h

theorem getElem?_some_lt {s : Array Nat} {i c} (h : s[i]? = some c) : i < s.size := by
  have := Array.getElem?_eq_some_iff.mp h
  exact this.1

end Rx
