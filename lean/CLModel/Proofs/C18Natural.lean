/-
C18 helper lemmas: `AddRemove`, `Counter`, `KeyedTuple` lookups and the compare loop commute with every injective
renaming of keys (`*_inj`: no side condition anywhere).  A renaming that is injective only ON the keys involved
(`InjOn`) is an injective renaming of the subtype of those keys (`lift_keys`, `lift_list`): that gives the `*_nat`
statements.  `AddRemove.__iter__` is renamed through its closed form `C20M.specD`.
-/
import CLModel.History.State
import CLModel.Proofs.AddRemove
namespace Hist
open AR

set_option linter.unusedSectionVars false
variable {κ κ' : Type} [BEq κ] [LawfulBEq κ] [BEq κ'] [LawfulBEq κ']

def InjOn (f : κ → κ') (ks : List κ) : Prop := ∀ a ∈ ks, ∀ b ∈ ks, f a = f b → a = b

def onKey {β : Type} (f : κ → κ') (p : κ × β) : κ' × β := (f p.1, p.2)

def counterStep (d : List (κ × Nat)) (k : κ) : List (κ × Nat) :=
  dset d k (match dget d k with | some c => c + 1 | none => 1)

theorem counter_eq (keys : List κ) : counter keys = keys.foldl counterStep [] := rfl

def onAnchor (f : κ → κ') (p : Option κ × κ) : Option κ' × κ' := (p.1.map f, f p.2)

def accMap (f : κ → κ') (a : Acc κ) : Acc κ' := (a.1.map (Msg.mapKey f), a.2)

theorem keys_map (f : κ → κ') (es : List (KEnt κ)) :
    (es.map (KEnt.mapKey f)).map (·.key) = (es.map (·.key)).map f := by
  simp [List.map_map, KEnt.mapKey, Function.comp_def]

section inj
variable {f : κ → κ'} (hf : Function.Injective f)
include hf

theorem beq_inj (a b : κ) : (f a == f b) = (a == b) := by
  rw [Bool.eq_iff_iff, beq_iff_eq, beq_iff_eq]
  exact ⟨fun e => hf e, congrArg f⟩

theorem contains_inj (l : List κ) (x : κ) : (l.map f).contains (f x) = l.contains x := by
  induction l with
  | nil => rfl
  | cons y t ih => simp only [List.map_cons, List.contains_cons, ih, beq_inj hf]

theorem dget_inj {β : Type} (d : List (κ × β)) (k : κ) : dget (d.map (onKey f)) (f k) = dget d k := by
  induction d with
  | nil => rfl
  | cons p t ih =>
    rw [List.map_cons, dget_cons, dget_cons, ih]
    show (if (f p.1 == f k) then _ else _) = _
    rw [beq_inj hf]
    rfl

theorem dset_inj {β : Type} (d : List (κ × β)) (k : κ) (v : β) :
    dset (d.map (onKey f)) (f k) v = (dset d k v).map (onKey f) := by
  have hany : (d.map (onKey f)).any (·.1 == f k) = d.any (·.1 == k) := by
    rw [List.any_map]
    congr 1
    funext p
    exact beq_inj hf p.1 k
  unfold dset
  rw [hany]
  split
  · rw [List.map_map, List.map_map]
    apply List.map_congr_left
    intro p _
    simp only [Function.comp, onKey, beq_inj hf]
    split <;> rfl
  · simp [onKey]

theorem findDuplicates_inj (keys : List κ) :
    findDuplicates (keys.map f) = (findDuplicates keys).map (onKey f) := by
  have h : ∀ (xs : List κ) (d : List (κ × Nat)),
      (xs.map f).foldl counterStep (d.map (onKey f)) = (xs.foldl counterStep d).map (onKey f) := by
    intro xs
    induction xs with
    | nil => intro d; rfl
    | cons x t ih =>
      intro d
      rw [List.map_cons, List.foldl_cons, List.foldl_cons, ← ih]
      unfold counterStep
      rw [dget_inj hf, dset_inj hf]
  unfold findDuplicates
  rw [counter_eq, counter_eq, ← List.map_nil (f := onKey f), h, List.filter_map]
  rfl

theorem keyedIndex_inj (l : List κ) (x : κ) : keyedIndex (l.map f) (f x) = keyedIndex l x := by
  have h : ∀ (xs : List (κ × Nat)) (d : List (κ × Nat)),
      (xs.map (onKey f)).foldl (fun d (k, i) => dset d k i) (d.map (onKey f))
        = (xs.foldl (fun d (k, i) => dset d k i) d).map (onKey f) := by
    intro xs
    induction xs with
    | nil => intro d; rfl
    | cons x t ih =>
      intro d
      rw [List.map_cons, List.foldl_cons, List.foldl_cons, ← ih]
      show List.foldl _ (dset (d.map (onKey f)) (f x.1) x.2) _ = _
      rw [dset_inj hf]
  unfold keyedIndex keyedMap
  rw [List.zipIdx_map, ← dget_inj hf, ← h]
  rfl

theorem lookup_inj (ents : List (KEnt κ)) (k : κ) :
    lookup (ents.map (KEnt.mapKey f)) (f k) = (lookup ents k).map (KEnt.mapKey f) := by
  unfold lookup
  rw [keys_map, keyedIndex_inj hf]
  cases keyedIndex (ents.map (·.key)) k with
  | none => rfl
  | some i => simp [List.getElem?_map]

theorem dedupLast_inj (l : List κ) : C20M.dedupLast (l.map f) = (C20M.dedupLast l).map f := by
  induction l with
  | nil => rfl
  | cons x t ih =>
    simp only [List.map_cons, C20M.dedupLast, contains_inj hf, ih]
    split <;> rfl

theorem anchorsD_inj (l r : List κ) (cur : Option κ) (acc : List (Option κ × κ)) :
    C20M.anchorsD (l.map f) (r.map f) (cur.map f) (acc.map (onAnchor f)) = (C20M.anchorsD l r cur acc).map (onAnchor f) := by
  induction r generalizing cur acc with
  | nil => rfl
  | cons x t ih =>
    simp only [List.map_cons, C20M.anchorsD, contains_inj hf]
    split
    · exact ih (some x) acc
    · rw [List.find?_map]
      have : ((fun p : Option κ' × κ' => p.2 == f x) ∘ onAnchor f) = fun p => p.2 == x := by
        funext p
        exact beq_inj hf p.2 x
      rw [this]
      cases acc.find? (fun p => p.2 == x) with
      | some p => exact ih p.1 acc
      | none =>
        have := ih cur (acc ++ [(cur, x)])
        rw [List.map_append] at this
        exact this

theorem specD_inj (l r : List κ) : C20M.specD (l.map f) (r.map f) = (C20M.specD l r).map (fun p => (p.1, f p.2)) := by
  have ha := anchorsD_inj hf l r none []
  have hadds : ∀ a : Option κ,
      (((C20M.anchorsD l r none []).map (onAnchor f)).filter (fun p => p.1 == a.map f)).map (fun p => (Label.add, p.2))
        = (((C20M.anchorsD l r none []).filter (fun p => p.1 == a)).map (fun p => (Label.add, p.2))).map
            (fun p => (p.1, f p.2)) := by
    intro a
    rw [List.filter_map, List.map_map, List.map_map]
    have : ((fun p : Option κ' × κ' => p.1 == a.map f) ∘ onAnchor f) = fun p => p.1 == a := by
      funext p
      have hinj : Function.Injective (Option.map f) := Option.map_injective hf
      exact beq_inj hinj p.1 a
    rw [this]
    rfl
  unfold C20M.specD
  simp only
  rw [show ([] : List (Option κ' × κ')) = ([] : List (Option κ × κ)).map (onAnchor f) from rfl,
    show (none : Option κ') = (none : Option κ).map f from rfl, ha, dedupLast_inj hf, List.map_append,
    hadds none, List.flatMap_map, List.map_flatMap]
  congr 1
  apply Txt.flatMap_congr'
  intro x _
  rw [List.map_cons, contains_inj hf, ← hadds (some x)]
  rfl

theorem addRemove_inj (l r : List κ) :
    addRemove (l.map f) (r.map f) = (addRemove l r).map (fun p => (p.1, f p.2)) := by
  rw [C20P.addRemove_eq_specD, C20P.addRemove_eq_specD, specD_inj hf]

theorem compareStep_inj (isKey : κ → Bool) (isKey' : κ' → Bool) (hkey : ∀ k, isKey' (f k) = isKey k)
    (lc : Nat → Nat × Nat) (ref l10n : List (KEnt κ)) (acc : Acc κ) (act : Label × κ) :
    compareStep isKey' lc (ref.map (KEnt.mapKey f)) (l10n.map (KEnt.mapKey f)) (accMap f acc) (act.1, f act.2)
      = (compareStep isKey lc ref l10n acc act).map (accMap f) := by
  obtain ⟨msgs, st⟩ := acc
  obtain ⟨lab, k⟩ := act
  unfold compareStep
  simp only [accMap, lookup_inj hf, hkey]
  cases lab
  · cases lookup ref k with
    | none => cases lookup l10n k <;> rfl
    | some r =>
      cases lookup l10n k with
      | none => rfl
      | some l =>
        simp only [Option.map_some, KEnt.mapKey]
        split
        · rfl
        · simp [accMap, Except.map, List.map_append, List.map_map, Msg.mapKey, Function.comp_def]
  · cases lookup ref k with
    | none => rfl
    | some r =>
      simp only [Option.map_some, KEnt.mapKey]
      split <;> simp [accMap, Except.map, List.map_append, Msg.mapKey]
  · cases lookup l10n k with
    | none => rfl
    | some l =>
      simp only [Option.map_some, KEnt.mapKey]
      split <;> simp [accMap, Except.map, List.map_append, Msg.mapKey]

end inj

theorem foldlM_map {α α' β β' ε : Type} (g : β → β') (h : α → α') (step : β → α → Except ε β)
    (step' : β' → α' → Except ε β') (hs : ∀ b a, step' (g b) (h a) = (step b a).map g) :
    ∀ (xs : List α) (b : β), (xs.map h).foldlM step' (g b) = (xs.foldlM step b).map g := by
  intro xs
  induction xs with
  | nil => intro b; rfl
  | cons x t ih =>
    intro b
    simp only [List.map_cons, List.foldlM_cons, hs]
    cases step b x with
    | error e => rfl
    | ok a => simpa [Except.map, bind, Except.bind] using ih a

theorem compareG_inj {f : κ → κ'} (hf : Function.Injective f) (isKey : κ → Bool) (isKey' : κ' → Bool)
    (hkey : ∀ k, isKey' (f k) = isKey k) (lc : Nat → Nat × Nat) (ref l10n : List (KEnt κ)) :
    compareG isKey' lc (ref.map (KEnt.mapKey f)) (l10n.map (KEnt.mapKey f))
      = (compareG isKey lc ref l10n).map (accMap f) := by
  unfold compareG
  simp only [keys_map]
  rw [addRemove_inj hf, findDuplicates_inj hf, findDuplicates_inj hf,
    ← foldlM_map (accMap f) (fun p : Label × κ => (p.1, f p.2)) _ _ (compareStep_inj hf isKey isKey' hkey lc ref l10n)]
  congr 1
  simp [accMap, List.map_append, List.map_map, Msg.mapKey, onKey, Function.comp_def]

theorem lift_keys {ks : List κ} (es : List (KEnt κ)) (h : ∀ e ∈ es, e.key ∈ ks) :
    ∃ es' : List (KEnt {k // k ∈ ks}), es'.map (KEnt.mapKey Subtype.val) = es := by
  induction es with
  | nil => exact ⟨[], rfl⟩
  | cons e t ih =>
    obtain ⟨t', ht⟩ := ih (fun x hx => h x (List.mem_cons_of_mem _ hx))
    exact ⟨KEnt.mapKey (fun _ => ⟨e.key, h e List.mem_cons_self⟩) e :: t', by rw [List.map_cons, ht]; rfl⟩

theorem InjOn.comp_val {f : κ → κ'} {ks : List κ} (hf : InjOn f ks) :
    Function.Injective (fun s : {k // k ∈ ks} => f s.1) :=
  fun a b e => Subtype.ext (hf a.1 a.2 b.1 b.2 e)

theorem lift_list {ks : List κ} (l : List κ) (h : ∀ x ∈ l, x ∈ ks) :
    ∃ l' : List {k // k ∈ ks}, l'.map Subtype.val = l := by
  induction l with
  | nil => exact ⟨[], rfl⟩
  | cons x t ih =>
    obtain ⟨t', ht⟩ := ih (fun y hy => h y (List.mem_cons_of_mem _ hy))
    exact ⟨⟨x, h x List.mem_cons_self⟩ :: t', by rw [List.map_cons, ht]⟩

theorem addRemove_nat {f : κ → κ'} {ks : List κ} (hf : InjOn f ks) (l r : List κ)
    (hl : ∀ x ∈ l, x ∈ ks) (hr : ∀ x ∈ r, x ∈ ks) :
    addRemove (l.map f) (r.map f) = (addRemove l r).map (fun p => (p.1, f p.2)) := by
  obtain ⟨l', rfl⟩ := lift_list l hl
  obtain ⟨r', rfl⟩ := lift_list r hr
  rw [addRemove_inj (fun _ _ => Subtype.ext), List.map_map, List.map_map, List.map_map]
  exact addRemove_inj hf.comp_val l' r'

theorem compareG_nat {f : κ → κ'} {ks : List κ} (hf : InjOn f ks) (isKey : κ → Bool) (isKey' : κ' → Bool)
    (hkey : ∀ k ∈ ks, isKey' (f k) = isKey k) (lc : Nat → Nat × Nat) (ref l10n : List (KEnt κ))
    (href : ∀ e ∈ ref, e.key ∈ ks) (hl10n : ∀ e ∈ l10n, e.key ∈ ks) :
    compareG isKey' lc (ref.map (KEnt.mapKey f)) (l10n.map (KEnt.mapKey f))
      = (compareG isKey lc ref l10n).map (accMap f) := by
  obtain ⟨ref', rfl⟩ := lift_keys ref href
  obtain ⟨l10n', rfl⟩ := lift_keys l10n hl10n
  rw [compareG_inj (fun _ _ => Subtype.ext) (fun s => isKey s.1) isKey (fun _ => rfl), List.map_map, List.map_map]
  exact (compareG_inj hf.comp_val (fun s => isKey s.1) isKey' (fun s => hkey s.1 s.2) lc ref' l10n').trans (by
    cases compareG (fun s : {k // k ∈ ks} => isKey s.1) lc ref' l10n' with
    | error e => rfl
    | ok a =>
      refine congrArg (fun l => Except.ok (l, a.2)) ?_
      rw [accMap, List.map_map]
      exact List.map_congr_left fun m _ => by cases m <;> rfl)

end Hist
