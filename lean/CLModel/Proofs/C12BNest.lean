/- The class with repeated variables (`InClassB`): a repeated variable compiles to a back-reference, which by `C12B.sim` the
   engine treats like the literal text of the group; the class is the one without repetitions node by node plus the order
   `C11X.RepN` of the parser invariant (`inClassB_iff`).  The theorems about it (`match_fillB`, `sub_fillB`) are in `C12BFill`. -/
import CLModel.Proofs.C12BEngine
namespace C12B
open Rx PM C11R

/-- a node with what is put in its place; a REPEATED variable is the literal text of its expansion (the regex refers back
    to the group of the first occurrence) -/
def pieceOfB (vs : Nat → Text) (env : Env) : Node → Piece
  | .var name true => .lit (varText env (.var name true))
  | n => pieceOf vs env n

theorem pieceOfB_text (vs : Nat → Text) (env : Env) (n : Node) : (pieceOfB vs env n).text = (pieceOf vs env n).text := by
  cases n with
  | var name rep => cases rep <;> rfl
  | _ => rfl

/-- the filling is well separated (a repeated variable counts as a literal text) -/
def WellSepB (vs : Nat → Text) (env : Env) (ns : List Node) : Prop := PSep (ns.map (pieceOfB vs env))

theorem fillB_eq (vs : Nat → Text) (env : Env) (ns : List Node) :
    piecesText (ns.map (pieceOfB vs env)) = fillN vs env ns := by
  unfold fillN piecesText
  induction ns with
  | nil => rfl
  | cons c cs ih => simp only [List.map_cons, List.flatMap_cons, ih, pieceOfB_text]

theorem varText_rep (env : Env) (name : Text) (r r' : Bool) : varText env (.var name r) = varText env (.var name r') := rfl

/-- **the class with repeated variables**: as `InClassN`, and a variable may occur again once its first occurrence has
    been seen (`kn` = the variable names seen so far) -/
def InClassB (env : Env) : List Text → List Node → Prop
  | _, [] => True
  | kn, .lit _ :: r => InClassB env kn r
  | kn, .star _ :: r => InClassB env kn r
  | kn, .starstar _ sfx :: r => (sfx = [47] ∨ sfx = []) ∧ InClassB env kn r
  | kn, .var name false :: r =>
    (∃ t, expandNode (expandVal (fuelFor env)) (.var name false) env true = .ok t) ∧ InClassB env (name :: kn) r
  | kn, .var name true :: r => name ∈ kn ∧ InClassB env kn r
  | _, .android _ :: _ => False

/-- group name a node DEFINES (a repeated variable defines none) -/
def nameOfB : Node → List Text
  | .var _ true => []
  | n => nameOfN n

/-- the names seen so far are captured groups with the variable's expansion as text -/
def KnOK (env : Env) (kn : List Text) (Kn : List (Nat × Text)) : Prop :=
  ∀ name ∈ kn, (encName name, varText env (.var name false)) ∈ Kn

theorem brefOK_base_nongl {Kn : List (Nat × Text)} {tok : Tok} {r : List BTok}
    (h : ∀ i b t F, tok ≠ .gl i b t F) : BrefOK Kn (.base tok :: r) ↔ BrefOK Kn r := by
  cases tok with
  | gl i b t F => exact absurd rfl (h i b t F)
  | lit t => exact Iff.rfl
  | star i v => exact Iff.rfl
  | sstar i w => exact Iff.rfl
  | send i w => exact Iff.rfl

theorem piece_grp_gl {tok : Tok} {t : Text} (h : tok.piece = .grp t) : ∃ i b F, tok = .gl i b t F := by
  cases tok with
  | gl i b t' F => simp only [Tok.piece, Piece.grp.injEq] at h; subst h; exact ⟨i, b, F, rfl⟩
  | lit t' => simp [Tok.piece] at h
  | star i v => simp [Tok.piece] at h
  | sstar i w => simp [Tok.piece] at h
  | send i w => simp [Tok.piece] at h

theorem piece_nongrp {tok : Tok} (h : ∀ t, tok.piece ≠ .grp t) : ∀ i b t F, tok ≠ .gl i b t F := by
  intro i b t F e; subst e; exact h t rfl

theorem itemsB_gidx : ∀ (ts : List BTok), (itemsB ts).flatMap gidx = toksAll (ts.map BTok.plain)
  | [] => rfl
  | t :: r => by
    rw [itemsB_cons, plain_map_cons, toksAll_cons, List.flatMap_append, itemsB_gidx r]
    cases t with
    | base tok => simp only [BTok.items, BTok.plain, tok_items_gidx]
    | bref i t => simp [BTok.items, BTok.plain, Tok.all, Tok.idx, Tok.inner, gidx, groups]

theorem inClassB_iff {env : Env} : ∀ {ns : List Node} {kn : List Text},
    InClassB env kn ns ↔ C11X.RepN kn ns ∧ ∀ n ∈ ns, (∃ name, n = .var name true) ∨ InClassN env n
  | [], _ => ⟨fun _ => ⟨trivial, nofun⟩, fun _ => trivial⟩
  | c :: cs, kn => by
    have ih := fun kn' => inClassB_iff (env := env) (ns := cs) (kn := kn')
    rw [List.forall_mem_cons]
    cases c with
    | var name rep =>
      cases rep with
      | true =>
        simp only [InClassB, C11X.RepN, ih]
        exact ⟨fun ⟨a, b, c⟩ => ⟨⟨a, b⟩, .inl ⟨_, rfl⟩, c⟩, fun ⟨⟨a, b⟩, _, c⟩ => ⟨a, b, c⟩⟩
      | false =>
        simp only [InClassB, C11X.RepN, ih]
        exact ⟨fun ⟨a, b, c⟩ => ⟨b, .inr ⟨rfl, a⟩, c⟩, fun ⟨b, a, c⟩ => ⟨(a.resolve_left (by simp)).2, b, c⟩⟩
    | lit t | star k =>
      simp only [InClassB, C11X.RepN, ih]
      exact ⟨fun ⟨b, c⟩ => ⟨b, .inr trivial, c⟩, fun ⟨b, _, c⟩ => ⟨b, c⟩⟩
    | starstar k sfx =>
      simp only [InClassB, C11X.RepN, ih]
      exact ⟨fun ⟨a, b, c⟩ => ⟨b, .inr a, c⟩, fun ⟨b, a, c⟩ => ⟨a.resolve_left (by simp), b, c⟩⟩
    | android r =>
      rw [InClassB]
      exact ⟨False.elim, fun ⟨_, a, _⟩ => a.elim (by simp) id⟩

theorem first_occ {env : Env} {name : Text} {ns : List Node} {kn : List Text} (h : InClassB env kn ns)
    (hm : Node.var name true ∈ ns) : name ∈ kn ∨ Node.var name false ∈ ns := C11X.repN_first (inClassB_iff.1 h).1 hm

/-- what the expansion side needs of a node: a variable (first or repeated occurrence) is fully bound -/
def ExpOK (env : Env) : Node → Prop
  | .lit _ => True
  | .star _ => True
  | .starstar _ _ => True
  | .var name rep => ∃ t, expandNode (expandVal (fuelFor env)) (.var name rep) env true = .ok t
  | .android _ => False

theorem inClassB_expOK {env : Env} {ns : List Node} (h : InClassB env [] ns) : ∀ n ∈ ns, ExpOK env n := by
  intro n hn
  have hcl := (inClassB_iff.1 h).2
  rcases hcl n hn with ⟨name, rfl⟩ | hc
  · rcases first_occ h hn with h' | h'
    · cases h'
    · rcases hcl _ h' with ⟨_, h⟩ | h
      · cases h
      · exact h.2
  · cases n with
    | var name rep => exact hc.2
    | android r => exact hc
    | _ => trivial

end C12B
