/-
C17: the explicit formula of `linecol`: line = 1 + number of "\n" before `o`, column = 1 + `o` − `nlEndBefore`
(Python: `text.rfind("\n", 0, o) + 1`); a pair computed from an offset inside the text lies inside the text and
denotes that offset again (`cursor_in_text`); the line-table cache of `Parser.Context`.
-/
import CLModel.Proofs.C17
import CLModel.Parser.PositionCache
namespace C17P
open Pos

/-- `text.rfind("\n", 0, p) + 1`: the index just after the last newline among the first `p` characters
    (0 when there is none) -/
def nlEndBefore (l : List Nat) (p : Nat) : Nat :=
  (l.take p).length - ((l.take p).reverse.takeWhile (· != 10)).length

theorem split_last_failing {α : Type} (q : α → Bool) (t : List α) :
    ∃ pre suf, t = pre ++ suf ∧ suf.length = (t.reverse.takeWhile q).length ∧ (∀ x ∈ suf, q x = true) ∧
      (pre = [] ∨ ∃ pre' x, pre = pre' ++ [x] ∧ q x = false) := by
  refine ⟨(t.reverse.dropWhile q).reverse, (t.reverse.takeWhile q).reverse, ?_, by simp, ?_, ?_⟩
  · have := List.takeWhile_append_dropWhile (p := q) (l := t.reverse)
    have h2 := congrArg List.reverse this
    simp only [List.reverse_append, List.reverse_reverse] at h2
    exact h2.symm
  · intro x hx
    exact List.all_eq_true.mp List.all_takeWhile x (List.mem_reverse.mp hx)
  · cases hd : t.reverse.dropWhile q with
    | nil => left; simp
    | cons x xs =>
      right
      refine ⟨xs.reverse, x, by simp, ?_⟩
      have := List.head_dropWhile_not q (l := t.reverse) (by simp [hd])
      simpa [hd] using this

theorem nlEndBefore_le (l : List Nat) (p : Nat) : nlEndBefore l p ≤ p := by
  unfold nlEndBefore
  have : (l.take p).length ≤ p := by simp; omega
  omega

theorem nlEndBefore_isLineStart (l : List Nat) (p : Nat) (hp : p ≤ l.length) :
    IsLineStart l p (nlEndBefore l p) := by
  obtain ⟨pre, suf, hsplit, hlen, hall, hpre⟩ := split_last_failing (· != 10) (l.take p)
  have htl : (l.take p).length = p := by simp [hp]
  have hsum : (l.take p).length = pre.length + suf.length := by rw [hsplit]; simp
  have hb : nlEndBefore l p = pre.length := by
    unfold nlEndBefore
    rw [← hlen]
    omega
  have hpl : pre.length + suf.length = p := by omega
  have hget : ∀ j, j < p → l[j]? = (pre ++ suf)[j]? := by
    intro j hj
    rw [← hsplit, List.getElem?_take]
    simp [hj]
  rw [hb]
  refine ⟨by omega, ?_, ?_⟩
  · rcases hpre with h | ⟨pre', x, h, hx⟩
    · left; simp [h]
    · right
      have hx10 : x = 10 := by simpa using hx
      have hl : pre.length = pre'.length + 1 := by rw [h]; simp
      rw [hget _ (by omega), hl, h]
      simp [hx10]
  · intro j hj1 hj2
    rw [hget j hj2]
    rw [List.getElem?_append_right hj1]
    intro h
    have hmem : (10 : Nat) ∈ suf := List.mem_of_getElem? h
    have := hall 10 hmem
    simp at this

theorem cursor_formula (s : Array Nat) (p : Nat) (hp : p ≤ s.size) :
    cursor s p = (1 + (s.toList.take p).count 10, 1 + (p - nlEndBefore s.toList p)) := by
  obtain ⟨b, hb, hc⟩ := cursor_spec s p
  have hb' := nlEndBefore_isLineStart s.toList p (by simpa using hp)
  have : b = nlEndBefore s.toList p := isLineStart_unique _ _ _ _ hb hb'
  subst this
  rw [hc]
  congr 1
  omega

theorem lineStartOfLine_take : ∀ (l : List Nat) (m n o : Nat), lineStartOfLine (l.take m) n = some o → lineStartOfLine l n = some o := by
  intro l
  induction l with
  | nil => intro m n o h; simpa using h
  | cons c t ih =>
    intro m n o h
    cases m with
    | zero =>
      simp only [List.take_zero] at h
      cases n with
      | zero => simpa [lineStartOfLine] using h
      | succ n => simp [lineStartOfLine] at h
    | succ m =>
      cases n with
      | zero => simpa [lineStartOfLine] using h
      | succ n =>
        simp only [List.take_succ_cons, lineStartOfLine, Option.map_eq_some_iff] at h ⊢
        obtain ⟨o', ho', rfl⟩ := h
        refine ⟨o', ?_, rfl⟩
        split at ho'
        · rename_i hc; simp only [hc, if_true]; exact ih m n o' ho'
        · rename_i hc; simp only [hc, if_false]; exact ih m (n + 1) o' ho'

theorem lineStartOfLine_of_offset (l : List Nat) (q : Nat) (hq : q ≤ l.length) :
    lineStartOfLine l ((l.take q).count 10) = some (nlEndBefore l q) := by
  have h := offsetOf_cursor l.toArray q
  rw [cursor_formula l.toArray q (by simpa using hq)] at h
  simp only [offsetOf, Nat.add_sub_cancel_left, Option.map_eq_some_iff] at h
  obtain ⟨o, ho, hoq⟩ := h
  have := nlEndBefore_le l q
  have : o = nlEndBefore l q := by omega
  rw [← this]; exact ho

/-- the number of characters of line `n` (0-based) of `l`, without its newline; `none` if there is no such line -/
def lineLen : List Nat → Nat → Option Nat
  | l, 0 => some (l.takeWhile (· != 10)).length
  | [], _ + 1 => none
  | c :: t, n + 1 => if c = 10 then lineLen t n else lineLen t (n + 1)

/-- number of lines of a text in the sense of `linecol`: one more than the number of newlines
    (a final newline opens a last, empty line: the end of the file is reported there) -/
def numLines (l : List Nat) : Nat := 1 + l.count 10

theorem walkLC_in_text (l : List Nat) (p line col : Nat) (hp : p ≤ l.length) :
    ∃ n len, (walkLC l p line col).1 = line + n ∧ n ≤ l.count 10 ∧ lineLen l n = some len ∧
      (if n = 0 then (walkLC l p line col).2 ≤ col + len ∧ col ≤ (walkLC l p line col).2
       else 1 ≤ (walkLC l p line col).2 ∧ (walkLC l p line col).2 ≤ len + 1) := by
  fun_induction walkLC l p line col with
  | case1 t line col => exact ⟨0, _, rfl, Nat.zero_le _, by unfold lineLen; rfl, by simp⟩
  | case2 => simp at hp
  | case3 t p line col ih =>
    obtain ⟨n, len, h1, h2, h3, h4⟩ := ih (by simpa using hp)
    refine ⟨n + 1, len, by omega, by simp; omega, by simp [lineLen, h3], ?_⟩
    simp only [Nat.add_eq_zero_iff, Nat.one_ne_zero, and_false, if_false]
    split at h4 <;> omega
  | case4 c t p line col hc ih =>
    obtain ⟨n, len, h1, h2, h3, h4⟩ := ih (by simpa using hp)
    cases n with
    | zero =>
      refine ⟨0, len + 1, h1, by simp, ?_, by simp only [if_true] at h4 ⊢; omega⟩
      simp only [lineLen, Option.some.injEq] at h3 ⊢
      simp [hc, h3]
    | succ n =>
      exact ⟨n + 1, len, h1, by rw [List.count_cons]; omega, by simp [lineLen, hc, h3], by simpa using h4⟩

theorem cursor_in_text (s : Array Nat) (p : Nat) (hp : p ≤ s.size) :
    1 ≤ (cursor s p).1 ∧ (cursor s p).1 ≤ numLines s.toList ∧ 1 ≤ (cursor s p).2 ∧
      (∃ len, lineLen s.toList ((cursor s p).1 - 1) = some len ∧ (cursor s p).2 ≤ len + 1) ∧
      offsetOf s (cursor s p) = some p := by
  obtain ⟨n, len, h1, h2, h3, h4⟩ := walkLC_in_text s.toList p 1 1 (by simpa using hp)
  have hone := cursor_one_based s p
  unfold cursor at hone ⊢
  refine ⟨hone.1, by unfold numLines; omega, hone.2, ⟨len, ?_, ?_⟩, offsetOf_cursor s p⟩
  · rw [h1]; simpa using h3
  · split at h4 <;> omega

/-- the invariant of `Parser.Context._lines`: not built yet, or the line ends of the contents -/
def CacheOK (c : Ctx) : Prop := c.lines = none ∨ c.lines = some (lineEnds c.contents)

theorem ctx_linecol (c : Ctx) (h : CacheOK c) (x : Int) :
    (c.linecol x).1 = linecol c.contents x ∧ CacheOK (c.linecol x).2 ∧ (c.linecol x).2.contents = c.contents := by
  have hw : linecol c.contents x = linecolWith (lineEnds c.contents) x := rfl
  rcases h with h | h
  · simp [Ctx.linecol, h, hw, CacheOK]
  · simp [Ctx.linecol, h, hw, CacheOK]

theorem ctx_linecolSeq (xs : List Int) : ∀ (c : Ctx), CacheOK c →
    (c.linecolSeq xs).1 = xs.map (linecol c.contents) ∧ CacheOK (c.linecolSeq xs).2 := by
  induction xs with
  | nil => intro c h; exact ⟨rfl, h⟩
  | cons x xs ih =>
    intro c h
    obtain ⟨h1, h2, h3⟩ := ctx_linecol c h x
    obtain ⟨h4, h5⟩ := ih _ h2
    simp only [Ctx.linecolSeq, List.map_cons]
    rw [h1, h4, h3]
    exact ⟨rfl, h5⟩

end C17P
