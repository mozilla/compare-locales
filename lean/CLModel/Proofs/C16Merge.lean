/-
`Ser.mergeTwo` with `keep_newer=False` is the white-space fold of `olderPairs`, the pairs `get_older_entity` finds along the key
diff (`mergeTwo_fold`); `prune_placeholders` is the same fold after a filter (`prunePlaceholders_fold`).  The other model of
`merge_two`, `Merge.mergeTwo` of C15, has its own such lemma, `Merge.mergeTwo_gen` (`Proofs/C15Merge`).
-/
import CLModel.Serialize.Serializer
import CLModel.Proofs.C16Fold
namespace C16L
open AR Ser

def pIsWs (p : MKey × Ent) : Bool := p.2.isWs
def pLen (p : MKey × Ent) : Nat := p.2.all.length

theorem pruneStep_some (racc : List (MKey × Ent)) (k : MKey) (e : Ent) :
    pruneStep racc (k, some e) = genStep pIsWs pLen racc (k, e) := by
  cases racc with
  | nil => rfl
  | cons p rest => cases p; rfl

theorem pruneFold_eq (cs : List (MKey × Option Ent)) (racc : List (MKey × Ent)) :
    cs.foldl pruneStep racc = (strip cs).foldl (genStep pIsWs pLen) racc := by
  induction cs generalizing racc with
  | nil => rfl
  | cons c cs ih =>
    obtain ⟨k, oe⟩ := c
    cases oe with
    | none =>
      have : pruneStep racc (k, none) = racc := rfl
      rw [List.foldl_cons, this, ih]
      rfl
    | some e =>
      rw [List.foldl_cons, pruneStep_some, ih]
      rfl

def aLen (e : Ent) : Nat := e.all.length

theorem pruneWsStep_eq (racc : List Ent) (e : Ent) : pruneWsStep racc e = genStep Ent.isWs aLen racc e := by
  cases racc with
  | nil => rfl
  | cons p rest => rfl

theorem prunePlaceholders_fold (es : List Ent) :
    prunePlaceholders es = fold Ent.isWs aLen none (es.filter (fun e => !e.isPlaceholder)) := by
  have : pruneWsStep = genStep Ent.isWs aLen := by
    funext racc e; exact pruneWsStep_eq racc e
  rw [prunePlaceholders, this, genFold_nil]

theorem prunePlaceholders_sublist (es : List Ent) : (prunePlaceholders es).Sublist es := by
  rw [prunePlaceholders_fold]
  exact (fold_sub _ _ _).trans List.filter_sublist

theorem prunePlaceholders_nonws (es : List Ent) :
    (prunePlaceholders es).filter (fun e => !e.isWs) = es.filter (fun e => !e.isPlaceholder && !e.isWs) := by
  rw [prunePlaceholders_fold, fold_nonws _ _ _ none (none_ws _), List.filter_filter]
  apply List.filter_congr
  intro e _
  rw [Bool.and_comm]

def dkeys (d : Dict) : List MKey := d.map (·.1)
attribute [reducible] dkeys

/-- the pairs `(key, get_older_entity(newer, older, key))` that are not `None`, in diff order -/
def olderPairs (N O : Dict) : List (MKey × Ent) :=
  ((addRemove (dkeys N) (dkeys O)).map (·.2)).filterMap (fun k => (getOlder N O k).map (fun e => (k, e)))

theorem strip_contents (N O : Dict) :
    strip ((addRemove (dkeys N) (dkeys O)).map (fun p => (p.2, getOlder N O p.2))) = olderPairs N O := by
  unfold strip olderPairs
  rw [List.filterMap_map, List.filterMap_map]
  rfl

theorem olderPairs_keys_nodup (N O : Dict) : ((olderPairs N O).map (·.1)).Nodup := by
  unfold olderPairs
  rw [Txt.filterMap_pair_keys]
  exact (addRemove_keys_nodup_gen _ _).filter _

theorem mergeTwo_fold (N O : Dict) :
    mergeTwo N O false = fold pIsWs pLen none (olderPairs N O) := by
  unfold mergeTwo
  simp only [Bool.false_eq_true, if_false]
  rw [pruneFold_eq, genFold_nil]
  have := strip_contents N O
  rw [this]
  apply mkDict_of_nodup
  exact (olderPairs_keys_nodup N O).sublist ((fold_sub pIsWs pLen (olderPairs N O)).map _)

theorem mergeTwo_sublist (N O : Dict) :
    (mergeTwo N O false).Sublist (olderPairs N O) := by
  rw [mergeTwo_fold N O]
  exact fold_sub pIsWs pLen (olderPairs N O)

theorem mergeTwo_keys_nodup (N O : Dict) (kn : Bool) : (dkeys (mergeTwo N O kn)).Nodup := by
  unfold mergeTwo
  exact foldl_dset_nodup _ List.nodup_nil

theorem mergeTwo_nonws (N O : Dict) :
    (mergeTwo N O false).filter (fun p => !p.2.isWs) = (olderPairs N O).filter (fun p => !p.2.isWs) := by
  rw [mergeTwo_fold N O]
  exact fold_nonws pIsWs pLen (olderPairs N O) none (none_ws _)

theorem mem_olderPairs {N O : Dict} {p : MKey × Ent} (h : p ∈ olderPairs N O) : getOlder N O p.1 = some p.2 := by
  unfold olderPairs at h
  rw [List.mem_filterMap] at h
  obtain ⟨k, _, hk⟩ := h
  cases hg : getOlder N O k with
  | none => rw [hg] at hk; simp at hk
  | some e =>
    rw [hg] at hk
    simp only [Option.map_some, Option.some.injEq] at hk
    subst hk
    exact hg

theorem getOlder_mem {N O : Dict} {k : MKey} {e : Ent} (h : getOlder N O k = some e) :
    (k, e) ∈ N ∨ (k, e) ∈ O := by
  unfold getOlder at h
  cases ho : dget O k with
  | none => rw [ho] at h; exact .inl (mem_of_dget h)
  | some e' =>
    rw [ho] at h
    simp only at h
    split at h
    · exact .inl (mem_of_dget h)
    · simp only [Option.some.injEq] at h
      subst h
      exact .inr (mem_of_dget ho)

theorem mem_mergeTwo {N O : Dict} {p : MKey × Ent} (h : p ∈ mergeTwo N O false) : p ∈ N ∨ p ∈ O := by
  have := (mergeTwo_sublist N O).subset h
  exact getOlder_mem (mem_olderPairs this)

end C16L
