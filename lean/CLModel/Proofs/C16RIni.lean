/-
`.ini` — a section header followed by printed records (`C02X.printIni`): the text the serializer produces for two such
files with the same section is `C02X.printIni sec` of the expected records, so it re-parses to exactly them, without junk.
-/
import CLModel.Proofs.C16GInst
import CLModel.Proofs.C02XIni
namespace C16R
open AR Ser C16L C16G
open P (PRec printRec printProps)

/-- the entry-level view of the section header `[sec]` (an `IniSection`: neither Entity nor Comment nor Whitespace) -/
def entS (sec : List Nat) : Ent := { kind := .other, key := sec, val := sec, all := 91 :: (sec ++ [93]) }

def iniEnts (sec : List Nat) (rs : List PRec) : List Ent := entS sec :: entW :: entsF propsF rs

theorem iniRecEntries_eq : ∀ (rs : List PRec) (off : Nat), C02X.iniRecEntries off rs = P.expEntries off rs := by
  intro rs
  induction rs with
  | nil => intro _; rfl
  | cons r rs ih =>
    intro off
    simp only [C02X.iniRecEntries, P.expEntries, ih]
    rfl

theorem printIni_facts (sec : List Nat) (rs : List PRec) (s : Array Nat) (hs : (C02X.printIni sec rs).toArray = s) :
    sec.length + 3 ≤ s.size ∧
    P.slice s 1 (sec.length + 1) = sec ∧
    P.slice s 0 (sec.length + 2) = 91 :: (sec ++ [93]) ∧
    s[sec.length + 2]? = some 10 ∧
    s.toList.drop (sec.length + 3) = printProps rs := by
  have hl : s.toList.drop 0 = 91 :: (sec ++ 93 :: 10 :: printProps rs) := by rw [← hs]; rfl
  have hlen := Txt.length_of_drop hl
  simp only [List.length_cons, List.length_append] at hlen
  have h1 : s.toList.drop (0 + 1) = sec ++ 93 :: 10 :: printProps rs := Txt.drop_succ_of_cons hl
  have ha : s.toList.drop 0 = (91 :: (sec ++ [93])) ++ 10 :: printProps rs := by simp [hl]
  have hn : s.toList.drop (0 + (91 :: (sec ++ [93])).length) = 10 :: printProps rs := Txt.drop_add_of_append ha
  have e2 : 0 + (91 :: (sec ++ [93])).length = sec.length + 2 := by simp
  rw [e2] at hn
  refine ⟨by omega, ?_, ?_, Txt.head_of_drop hn, Txt.drop_succ_of_cons hn⟩
  · have := Txt.extract_of_drop_append h1
    rwa [Nat.zero_add, Nat.add_comm] at this
  · have := Txt.extract_of_drop_append ha
    rwa [e2] at this

theorem walkEnts_printIni (sec : List Nat) (rs : List PRec) (hsec : ∀ c ∈ sec, c ≠ 93 ∧ c ≠ 10)
    (h : ∀ r ∈ rs, C02X.SafeIniRec r) :
    walkEnts .ini (C02X.printIni sec rs).toArray = some (iniEnts sec rs) := by
  unfold walkEnts
  rw [C02X.walk_ini_printed sec rs hsec h]
  simp only
  generalize hs : (C02X.printIni sec rs).toArray = s
  obtain ⟨hlen, ename, eall, hnl, hdrop⟩ := printIni_facts sec rs s hs
  have e1 : ofEntry .ini s (C02X.iniSectionEntry sec.length) = entS sec := by
    unfold ofEntry C02X.iniSectionEntry entS
    simp only [P.Entry.all]
    rw [C16L.pySlice_nat s 1 (sec.length + 1) (by omega) (by omega), ename, eall]
  simp only [C02X.iniExpEntries, List.map_cons, iniEnts]
  rw [e1, ofEntry_ws .ini s _ hnl, iniRecEntries_eq, map_ofEntry_expEntries .ini s rs _ hdrop]

theorem pairsOf_headed (src : Nat) (H : Ent) (X : PRec → Ent) (hH : H.isComment = false ∧ H.isWs = false)
    (hX : ∀ r, (X r).isComment = false ∧ (X r).isWs = false ∧ (X r).key = r.1) (rs : List PRec) :
    pairsOf src [] 0 (H :: entW :: mkList X rs) = (MKey.str H.key, H) :: (MKey.ws src 1, entW) :: recPairs src X 2 rs := by
  rw [pairsOf_strKeyed src [] 0 hH.1 hH.2, pairsOf_entW, pairsOf_mkList src X hX]

theorem parseResource_headed (src : Nat) (H : Ent) (X : PRec → Ent) (hH : H.isComment = false ∧ H.isWs = false)
    (hX : ∀ r, (X r).isComment = false ∧ (X r).isWs = false ∧ (X r).key = r.1) (rs : List PRec)
    (hn : (H.key :: rs.map (·.1)).Nodup) :
    parseResource src (H :: entW :: mkList X rs)
      = (MKey.str H.key, H) :: (MKey.ws src 1, entW) :: recPairs src X 2 rs := by
  unfold parseResource mkDict
  rw [pairsOf_headed src H X hH hX]
  apply mkDict_of_nodup
  rw [List.nodup_cons] at hn
  simp only [List.map_cons, List.nodup_cons, List.mem_cons, not_or]
  exact ⟨⟨by simp, str_not_mem_recPairs src X rs 2 hn.1⟩, ws_not_mem_recPairs src X rs 2 (by omega),
    recPairs_keys_nodup src X rs 2 hn.2⟩

theorem map_iniEnts (g : Ent → Ent) (hg : g entW = entW) (sec : List Nat) (rs : List PRec) :
    ((iniEnts sec rs).filter (fun e => !e.isJunk)).map g = g (entS sec) :: entW :: mkList (fun r => g (entF propsF r)) rs := by
  unfold iniEnts
  have h1 : (fun e : Ent => !e.isJunk) (entS sec) = true := rfl
  have h2 : (fun e : Ent => !e.isJunk) entW = true := rfl
  simp only [List.filter_cons, h1, h2, if_true, List.map_cons, hg]
  rw [map_entsF propsF g hg]

theorem d0_ini (sec : List Nat) (rs : List PRec) (hn : (sec :: rs.map (·.1)).Nodup) :
    d0Of (iniEnts sec rs)
      = (MKey.str sec, entS sec) :: (MKey.ws 0 1, entW) :: recPairs 0 (fun r => placeholder (entF propsF r)) 2 rs := by
  unfold d0Of plOf
  rw [map_iniEnts placeholder rfl]
  exact parseResource_headed 0 (entS sec) _ ⟨rfl, rfl⟩ (fun r => ⟨rfl, rfl, rfl⟩) rs hn

theorem sanOf_entS (ref : List Ent) (nd : NewData) (sec : List Nat) : sanOf ref nd (entS sec) = entS sec := by
  unfold sanOf shouldPlaceholder
  rfl

theorem d1_ini (ref : List Ent) (nd : NewData) (sec : List Nat) (rs : List PRec) (hn : (sec :: rs.map (·.1)).Nodup) :
    d1Of ref (iniEnts sec rs) nd
      = (MKey.str sec, entS sec) :: (MKey.ws 1 1, entW) :: recPairs 1 (fun r => sanOf ref nd (entF propsF r)) 2 rs := by
  unfold d1Of
  rw [osOf_eq, map_iniEnts (sanOf ref nd) (sanOf_entW ref nd), sanOf_entS]
  apply parseResource_headed 1 (entS sec) _ ⟨rfl, rfl⟩ _ rs hn
  intro r
  rcases sanOf_entF propsF ref nd r with h | h <;> rw [h] <;> exact ⟨rfl, rfl, rfl⟩

theorem mem_iniEnts {sec : List Nat} {rs : List PRec} {e : Ent} (h : e ∈ iniEnts sec rs) :
    e = entS sec ∨ e = entW ∨ ∃ r ∈ rs, e = entF propsF r := by
  unfold iniEnts at h
  rcases List.mem_cons.1 h with rfl | h
  · exact .inl rfl
  · rcases List.mem_cons.1 h with rfl | h
    · exact .inr (.inl rfl)
    · rcases mem_entsF h with rfl | h
      · exact .inr (.inl rfl)
      · exact .inr (.inr h)

theorem entities_iniEnts (sec : List Nat) (rs : List PRec) :
    (iniEnts sec rs).filter Ent.isEntity = (entsF propsF rs).filter Ent.isEntity := by
  unfold iniEnts
  have h1 : (entS sec).isEntity = false := rfl
  have h2 : entW.isEntity = false := rfl
  simp only [List.filter_cons, h1, h2, Bool.false_eq_true, if_false]

theorem refMapping_ini (sec : List Nat) (rs : List PRec) (s : List Nat) :
    dget (refMapping (iniEnts sec rs)) s = dget (refMapping (entsF propsF rs)) s := by
  rw [refMapping_get, refMapping_get, entities_iniEnts]

theorem known_ini (sec : List Nat) (rs : List PRec) (s : List Nat) :
    known (iniEnts sec rs) s = known (entsF propsF rs) s := by
  rw [Bool.eq_iff_iff, known_iff, known_iff, refMapping_ini]

theorem newValue_ini (sec : List Nat) (rs : List PRec) (nd : NewData) (s : List Nat) :
    newValue (iniEnts sec rs) nd s = newValue (entsF propsF rs) nd s := by
  unfold newValue
  rw [refMapping_ini]

theorem oldEntry_ini (sec : List Nat) (rs : List PRec) (s : List Nat) (hs : s ≠ sec) :
    oldEntry (iniEnts sec rs) s = oldEntry (entsF propsF rs) s := by
  unfold oldEntry iniEnts
  have h1 : (fun e : Ent => !e.isJunk) (entS sec) = true := rfl
  have h2 : (fun e : Ent => !e.isJunk) entW = true := rfl
  have p1 : (fun e : Ent => strKeyed e && e.key == s) (entS sec) = false := by
    have : ((entS sec).key == s) = false := by
      simp only [entS, beq_eq_false_iff_ne, ne_eq]
      exact fun e => hs e.symm
    simp only [this, Bool.and_false]
  have p2 : (fun e : Ent => strKeyed e && e.key == s) entW = false := rfl
  simp only [List.filter_cons, h1, h2, if_true, lastMatch, p1, p2, Bool.false_eq_true, if_false]
  cases lastMatch (fun e => strKeyed e && e.key == s) ((entsF propsF rs).filter (fun e => !e.isJunk)) <;> rfl

/-- what the proof needs of the old localization's entry list `oldE`, standing for the records `oldRecs` -/
structure OldOK (sec : List Nat) (ref : List Ent) (nd : NewData) (oldE : List Ent) (oldRecs : List PRec) : Prop where
  /-- its dict is empty or starts with the section header -/
  head : d1Of ref oldE nd = [] ∨ ∃ d1', d1Of ref oldE nd = (MKey.str sec, entS sec) :: d1'
  alt : Alt wsKey (dkeys (d1Of ref oldE nd))
  mem : ∀ e ∈ oldE, e = entS sec ∨ e = entW ∨ ∃ r ∈ oldRecs, e = entF propsF r
  entry : ∀ s, s ≠ sec → oldEntry oldE s = oldEntry (entsF propsF oldRecs) s
  nosec : sec ∉ oldRecs.map (·.1)
  nodup : (oldRecs.map (·.1)).Nodup

theorem oldOK_ini (sec : List Nat) (ref : List Ent) (nd : NewData) (oldRecs : List PRec)
    (hok : (sec :: oldRecs.map (·.1)).Nodup) : OldOK sec ref nd (iniEnts sec oldRecs) oldRecs where
  head := .inr ⟨_, d1_ini ref nd sec oldRecs hok⟩
  alt := by rw [d1_ini ref nd sec oldRecs hok]; exact alt_cons_cons rfl (alt_recPairs 1 _ oldRecs 2)
  mem := fun _ he => mem_iniEnts he
  entry := fun s hs => oldEntry_ini sec oldRecs s hs
  nosec := (List.nodup_cons.1 hok).1
  nodup := (List.nodup_cons.1 hok).2

theorem oldOK_nil (sec : List Nat) (ref : List Ent) (nd : NewData) : OldOK sec ref nd [] [] where
  head := .inl rfl
  alt := alt_nil
  mem := fun _ he => by simp at he
  entry := fun _ _ => rfl
  nosec := by simp
  nodup := by simp

theorem alt_out_ini (sec : List Nat) (refRecs : List PRec) (nd : NewData) (oldE : List Ent) (oldRecs : List PRec)
    (hrk : (sec :: refRecs.map (·.1)).Nodup) (ho : OldOK sec (iniEnts sec refRecs) nd oldE oldRecs) :
    Alt Ent.isWs (serializeEnts (iniEnts sec refRecs) oldE nd) := by
  apply serializeEnts_alt
  · rw [d0_ini sec refRecs hrk]
    exact alt_cons_cons rfl (alt_recPairs 0 _ refRecs 2)
  · exact ho.alt

theorem chosen_ini (sec : List Nat) (refRecs : List PRec) (nd : NewData) (oldE : List Ent) (oldRecs : List PRec)
    (ho : OldOK sec (iniEnts sec refRecs) nd oldE oldRecs) (s : List Nat) (hs : s ≠ sec) :
    chosen (iniEnts sec refRecs) oldE nd s = chosen (entsF propsF refRecs) (entsF propsF oldRecs) nd s := by
  unfold chosen
  rw [newValue_ini, ho.entry s hs, known_ini]

theorem refMapping_sec (sec : List Nat) (rs : List PRec) (hr : sec ∉ rs.map (·.1)) :
    dget (refMapping (iniEnts sec rs)) sec = none := by
  rw [refMapping_ini]
  cases hg : dget (refMapping (entsF propsF rs)) sec with
  | none => rfl
  | some r =>
    exfalso
    obtain ⟨hm, he, hk⟩ := refMapping_some hg
    rcases mem_entsF hm with rfl | ⟨r', hr', rfl⟩
    · exact absurd he (by decide)
    · exact hr (List.mem_map.2 ⟨r', hr', hk⟩)

/-- the section name gets no entity: no new value, since it is no key of a reference entity, and the old entry under it is the
    section header or missing, never a real entity -/
theorem chosen_sec (sec : List Nat) (refRecs : List PRec) (nd : NewData) (oldE : List Ent) (oldRecs : List PRec)
    (ho : OldOK sec (iniEnts sec refRecs) nd oldE oldRecs) (hr : sec ∉ refRecs.map (·.1)) :
    chosen (iniEnts sec refRecs) oldE nd sec = none := by
  have hnv : newValue (iniEnts sec refRecs) nd sec = none := by
    unfold newValue
    rw [refMapping_sec sec refRecs hr]
    cases dget nd sec with
    | none => rfl
    | some ov => cases ov <;> rfl
  unfold chosen
  rw [hnv]
  simp only
  cases ho' : oldEntry oldE sec with
  | none => rfl
  | some e =>
    simp only
    have hm := lastMatch_some ho'
    have hk : e.key = sec := by
      have := hm.2
      simp only [Bool.and_eq_true, beq_iff_eq] at this
      exact this.2
    have hreal : e.isReal = false := by
      rcases ho.mem e (List.mem_filter.1 hm.1).1 with rfl | rfl | ⟨r', hr', rfl⟩
      · rfl
      · rfl
      · exact absurd (List.mem_map.2 ⟨r', hr', hk⟩) ho.nosec
    simp [hreal]

theorem refKeys_iniEnts (sec : List Nat) (rs : List PRec) (hn : (sec :: rs.map (·.1)).Nodup) :
    refKeys (iniEnts sec rs) = sec :: rs.map (·.1) := by
  unfold refKeys
  have : (((iniEnts sec rs).filter (fun e => !e.isJunk)).filter strKeyed).map (·.key) = sec :: rs.map (·.1) := by
    unfold iniEnts
    have h1 : (fun e : Ent => !e.isJunk) (entS sec) = true := rfl
    have h2 : (fun e : Ent => !e.isJunk) entW = true := rfl
    have h3 : strKeyed (entS sec) = true := rfl
    have h4 : strKeyed entW = false := rfl
    simp only [List.filter_cons, h1, h2, h3, h4, if_true, Bool.false_eq_true, if_false, List.map_cons]
    rw [strKeys_entsF]
    rfl
  rw [this, firstOcc_of_nodup _ hn]

theorem out_records_ini (sec : List Nat) (refRecs : List PRec) (nd : NewData) (oldE : List Ent) (oldRecs : List PRec)
    (hrk : (sec :: refRecs.map (·.1)).Nodup) (ho : OldOK sec (iniEnts sec refRecs) nd oldE oldRecs)
    (hnd : (nd.map (·.1)).Nodup) :
    ((serializeEnts (iniEnts sec refRecs) oldE nd).filter Ent.isReal).map recOf
      = expectedRecs refRecs oldRecs nd := by
  have hrk' := List.nodup_cons.1 hrk
  rw [C16L.serialized_entities _ _ _ hnd, refKeys_iniEnts sec refRecs hrk, List.filterMap_cons,
    chosen_sec sec refRecs nd oldE oldRecs ho hrk'.1]
  simp only
  rw [List.map_filterMap, List.filterMap_map]
  unfold expectedRecs
  apply Txt.filterMap_congr'
  intro r hr
  have hne : r.1 ≠ sec := by
    intro e
    exact hrk'.1 (List.mem_map.2 ⟨r, hr, e⟩)
  show (chosen (iniEnts sec refRecs) oldE nd r.1).map recOf = _
  rw [chosen_ini sec refRecs nd oldE oldRecs ho r.1 hne]
  exact chosen_entsF propsF refRecs nd _ oldRecs hrk'.2 (oldOK_entsF propsF _ nd oldRecs ho.nodup) r hr

theorem good_out_ini (sec : List Nat) (refRecs : List PRec) (nd : NewData) (oldE : List Ent) (oldRecs : List PRec)
    (ho : OldOK sec (iniEnts sec refRecs) nd oldE oldRecs)
    (href : ∀ r ∈ refRecs, C02X.SafeIniRec r) (hold : ∀ r ∈ oldRecs, C02X.SafeIniRec r)
    (hv : ∀ r ∈ refRecs, ∀ v, (r.1, some v) ∈ nd → ∀ c ∈ v, c ≠ 10) :
    ∀ e ∈ serializeEnts (iniEnts sec refRecs) oldE nd, e = entS sec ∨ GoodF propsF C02X.SafeIniRec e :=
  good_out propsF C02X.SafeIniRec (· = entS sec) _ oldE refRecs oldRecs nd (fun _ h => by rw [h]; rfl)
    (fun _ h => mem_iniEnts h) ho.mem hold
    (fun r hr v hm => ⟨(href r hr).key_ne, (href r hr).key, (href r hr).key_head, hv r hr v hm⟩)

/-- the text `serialize` returns for a reference `[sec]` file and an old list `oldE` standing for `oldRecs`: the printed `.ini`
    file of the expected records.  The output starts with the section entry (`serializeEnts_head`) and holds no second one
    (dict keys are distinct); the rest is read as text by `text_of_alt`, as for the formats of `C16GFmt`. -/
theorem out_text_ini (sec : List Nat) (refRecs : List PRec) (nd : NewData) (oldE : List Ent)
    (oldRecs : List PRec)
    (href : ∀ r ∈ refRecs, C02X.SafeIniRec r) (hold : ∀ r ∈ oldRecs, C02X.SafeIniRec r)
    (hrk : (sec :: refRecs.map (·.1)).Nodup) (ho : OldOK sec (iniEnts sec refRecs) nd oldE oldRecs)
    (hnd : (nd.map (·.1)).Nodup)
    (hv : ∀ r ∈ refRecs, ∀ v, (r.1, some v) ∈ nd → ∀ c ∈ v, c ≠ 10) :
    serializeOut (iniEnts sec refRecs) oldE nd = C02X.printIni sec (expectedRecs refRecs oldRecs nd) ∧
    ∀ r ∈ expectedRecs refRecs oldRecs nd, C02X.SafeIniRec r := by
  have hrk' := List.nodup_cons.1 hrk
  have h2 : dget (d2Of (iniEnts sec refRecs) nd) (MKey.str sec) = none := by
    cases hg : dget (d2Of (iniEnts sec refRecs) nd) (MKey.str sec) with
    | none => rfl
    | some l =>
      exfalso
      obtain ⟨_, hk, hkn⟩ := d2_some hg
      have hls : l.key = sec := by injection hk with hk; exact hk.symm
      rw [hls, known_iff, refMapping_sec sec refRecs hrk'.1] at hkn
      cases hkn
  obtain ⟨P, rest, hP, hout, hsub⟩ := serializeEnts_head (iniEnts sec refRecs) oldE nd
    (MKey.str sec) (entS sec) _ (d0_ini sec refRecs hrk) ho.head rfl rfl rfl h2
  have hgood := good_out_ini sec refRecs nd oldE oldRecs ho href hold hv
  have halt := alt_out_ini sec refRecs nd oldE oldRecs hrk ho
  rw [hout] at hgood halt
  have hrest : ∀ e ∈ rest, GoodF propsF C02X.SafeIniRec e := by
    intro e he
    rcases hgood e (List.mem_cons_of_mem _ he) with rfl | h
    · exfalso
      obtain ⟨p, hp, hpe⟩ := List.mem_map.1 (hsub.subset he)
      have hk : p.1 = MKey.str sec := by
        have := keyOK_str (pickPair_keyOK (nd := nd) (by rw [hP]; exact List.mem_cons_of_mem _ hp)) (by rw [hpe]; rfl)
        rw [this, hpe]; rfl
      have hnd2 := olderPairs_keys_nodup (d0Of (iniEnts sec refRecs)) (d1Of (iniEnts sec refRecs) oldE nd)
      rw [hP, List.map_cons, List.nodup_cons] at hnd2
      exact hnd2.1 (List.mem_map.2 ⟨p, hp, hk⟩)
    · exact h
  have hn := noAdj_serializeEnts (iniEnts sec refRecs) oldE nd
  rw [hout] at hn
  have ht := text_of_alt propsF C02X.SafeIniRec rest (alt_tail halt) ((noAdj_cons _ _ _).1 hn).2 hrest
  have hrecs : (rest.filter Ent.isReal).map recOf = expectedRecs refRecs oldRecs nd := by
    rw [← out_records_ini sec refRecs nd oldE oldRecs hrk ho hnd, hout,
      List.filter_cons_of_neg (by simp [entS, Ent.isReal])]
  have hsafe := safe_recordsF propsF _ rest hrest
  rw [hrecs] at ht hsafe
  refine ⟨?_, hsafe⟩
  have : serializeLegacy (entS sec :: rest) = (entS sec).all ++ serializeLegacy rest := by simp [serializeLegacy]
  rw [serializeOut, hout, this, ht, hw_of_alt halt rfl, printF_props]
  simp [entS, C02X.printIni]

theorem serialize_reparses_ini_core (sec : List Nat) (refRecs : List PRec) (nd : NewData) (oldE : List Ent)
    (oldRecs : List PRec) (hsec : ∀ c ∈ sec, c ≠ 93 ∧ c ≠ 10)
    (href : ∀ r ∈ refRecs, C02X.SafeIniRec r) (hold : ∀ r ∈ oldRecs, C02X.SafeIniRec r)
    (hrk : (sec :: refRecs.map (·.1)).Nodup) (ho : OldOK sec (iniEnts sec refRecs) nd oldE oldRecs)
    (hnd : (nd.map (·.1)).Nodup)
    (hv : ∀ r ∈ refRecs, ∀ v, (r.1, some v) ∈ nd → ∀ c ∈ v, c ≠ 10) :
    ∃ es, P.walk .ini (serializeOut (iniEnts sec refRecs) oldE nd).toArray = .done es ∧
      P.entitiesOf .ini (serializeOut (iniEnts sec refRecs) oldE nd).toArray es
        = (expectedRecs refRecs oldRecs nd).map P.expectedView ∧
      P.junkOf (serializeOut (iniEnts sec refRecs) oldE nd).toArray es = [] := by
  obtain ⟨htext, hsafe⟩ := out_text_ini sec refRecs nd oldE oldRecs href hold hrk ho hnd hv
  obtain ⟨he1, he2⟩ := C02X.entitiesOf_iniExpEntries sec _ hsafe
  rw [htext]
  exact ⟨_, C02X.walk_ini_printed sec _ hsec hsafe, he1, he2⟩

end C16R
