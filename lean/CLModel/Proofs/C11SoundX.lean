/- match_sound for nested environment values and repeated variables: the soundness walk (`walkX`) over arbitrary
   group bodies and back-references, and `sub` onto the same matcher (`sub_selfX`). -/
import CLModel.Proofs.C12RSep
import CLModel.Proofs.C12PrefixFull
namespace C11X
open Rx PM C11R

/-- the hypothesis about values for `names_gidx_node`: the names a value compiles to are the group indices of its items -/
def HN (rec : RxRec) : Prop := ∀ v env items names, rec v env = .ok (items, names) → names.map encName = items.flatMap gidx

theorem gidx_starstar_item (i : Nat) (sfx : Text) :
    gidx (Re.alt (Re.group i (seqOf (Gen.Pat.matcher_frag_starstar :: sfx.map Re.lit))) Re.eps) = [i] := by
  rw [gidx_alt, gidx_group, gidx_seqOf, List.flatMap_cons, flatMap_gidx_lits]
  rfl

theorem names_gidx_node {rec : RxRec} (hr : HN rec) {n : Node} {env : Env} {a : List Re} {na : List Text}
    (h : rxNode rec n env = .ok (a, na)) : na.map encName = a.flatMap gidx := by
  cases n with
  | lit t =>
    simp only [rxNode, pure, Except.pure, Except.ok.injEq, Prod.mk.injEq] at h
    obtain ⟨rfl, rfl⟩ := h
    rw [flatMap_gidx_lits]; rfl
  | var name rep =>
    cases rep with
    | true =>
      simp only [rxNode, if_true, pure, Except.pure, Except.ok.injEq, Prod.mk.injEq] at h
      obtain ⟨rfl, rfl⟩ := h
      simp [gidx, groups]
    | false =>
      simp only [rxNode, Bool.false_eq_true, if_false] at h
      cases hl : env.lookup name with
      | some v =>
        simp only [hl, bind, Except.bind] at h
        cases hv : rec v (derase env name) with
        | error e => simp [hv] at h
        | ok w =>
          obtain ⟨body, ns⟩ := w
          simp only [hv, pure, Except.pure, Except.ok.injEq, Prod.mk.injEq] at h
          obtain ⟨rfl, rfl⟩ := h
          simp [gidx_group, gidx_seqOf, hr _ _ _ _ hv]
      | none =>
        simp only [hl, pure, Except.pure, Except.ok.injEq, Prod.mk.injEq] at h
        obtain ⟨rfl, rfl⟩ := h
        simp [gidx, groups, Gen.Pat.matcher_frag_var]
  | android rep =>
    cases rep with
    | true =>
      simp only [rxNode, if_true, pure, Except.pure, Except.ok.injEq, Prod.mk.injEq] at h
      obtain ⟨rfl, rfl⟩ := h
      simp [gidx, groups]
    | false =>
      simp only [rxNode, Bool.false_eq_true, if_false, bind, Except.bind] at h
      cases hg : getAndroidLocale (expandVal (fuelFor env)) env with
      | error e => simp [hg] at h
      | ok o =>
        cases o with
        | some al =>
          simp only [hg, pure, Except.pure, Except.ok.injEq, Prod.mk.injEq] at h
          obtain ⟨rfl, rfl⟩ := h
          simp [gidx_group, gidx_seqOf, flatMap_gidx_lits]
        | none =>
          simp only [hg, pure, Except.pure, Except.ok.injEq, Prod.mk.injEq] at h
          obtain ⟨rfl, rfl⟩ := h
          simp [gidx, groups, Gen.Pat.matcher_frag_var]
  | star k =>
    simp only [rxNode, pure, Except.pure, Except.ok.injEq, Prod.mk.injEq] at h
    obtain ⟨rfl, rfl⟩ := h
    simp [gidx, groups, Gen.Pat.matcher_frag_star]
  | starstar k sfx =>
    simp only [rxNode, pure, Except.pure, Except.ok.injEq, Prod.mk.injEq] at h
    obtain ⟨rfl, rfl⟩ := h
    simp [gidx_starstar_item]

theorem names_gidx_children {rec : RxRec} (hr : HN rec) {env : Env} : ∀ {ns : List Node} {items names},
    rxChildren rec ns env = .ok (items, names) → names.map encName = items.flatMap gidx
  | [], items, names, h => by
    simp only [rxChildren, pure, Except.pure, Except.ok.injEq, Prod.mk.injEq] at h
    obtain ⟨rfl, rfl⟩ := h; rfl
  | c :: cs, items, names, h => by
    obtain ⟨a, na, b, nb, h1, h2, rfl, rfl⟩ := rxChildren_cons h
    simp [List.map_append, names_gidx_node hr h1, names_gidx_children hr h2]

theorem names_gidx_val : ∀ f, HN (rxVal f)
  | 0 => by
    intro v env items names h
    cases v with
    | str s =>
      simp only [rxVal, pure, Except.pure, Except.ok.injEq, Prod.mk.injEq] at h
      obtain ⟨rfl, rfl⟩ := h
      rw [flatMap_gidx_lits]; rfl
    | pat p => simp [rxVal] at h
  | f + 1 => by
    intro v env items names h
    cases v with
    | str s =>
      simp only [rxVal, pure, Except.pure, Except.ok.injEq, Prod.mk.injEq] at h
      obtain ⟨rfl, rfl⟩ := h
      rw [flatMap_gidx_lits]; rfl
    | pat p =>
      simp only [rxVal] at h
      obtain ⟨root, citems, _, hch, rfl⟩ := rxPat_inv h
      simp [List.flatMap_append, flatMap_gidx_lits, names_gidx_children (names_gidx_val f) hch]

/-- the part of the path a top-level node stands for, read off the final captures -/
def pieceX (s : Array Nat) (C : List (Nat × Nat × Nat)) : Node → Text
  | .lit t => t
  | .var name _ => capText s C (encName name)
  | .star k => capText s C (encName (sname k))
  | .starstar k _ => capText s C (encName (sname k))
  | .android _ => []

/-- the group the piece of a node is read from -/
def depIdx : Node → List Nat
  | .var name _ => [encName name]
  | .star k => [encName (sname k)]
  | .starstar k _ => [encName (sname k)]
  | _ => []

theorem pieceX_congr {s : Array Nat} {C C' : List (Nat × Nat × Nat)} {c : Node}
    (h : ∀ i ∈ depIdx c, capOf C i = capOf C' i) : pieceX s C c = pieceX s C' c := by
  cases c with
  | lit t => rfl
  | var name r =>
    have := h (encName name) (by simp [depIdx])
    simp only [pieceX, capText, this]
  | star k =>
    have := h (encName (sname k)) (by simp [depIdx])
    simp only [pieceX, capText, this]
  | starstar k sfx =>
    have := h (encName (sname k)) (by simp [depIdx])
    simp only [pieceX, capText, this]
  | android r => rfl

/-- no `{android_locale}` at top level -/
def NoAndroidNode : Node → Prop
  | .android _ => False
  | _ => True

/-- a repeated variable (compiled to a back-reference); every other node reads its piece from a group it defines itself -/
def IsRep : Node → Prop
  | .var _ true => True
  | _ => False

theorem backref_text {s : Array Nat} {x y pos : Nat}
    (hall : ∀ j, j < y - x → s[x + j]? = s[pos + j]? ∧ pos + j < s.size) :
    TextAt s pos (slice s x y) ∧ (slice s x y).length = y - x := by
  by_cases h0 : y ≤ x
  · rw [show slice s x y = _ from Txt.extract_eq s x y, Nat.sub_eq_zero_of_le h0]
    exact ⟨Txt.at_nil s pos, rfl⟩
  · -- the last character compared lies inside the subject, so the whole span does
    have hy : y ≤ s.size := by
      obtain ⟨h1, h2⟩ := hall (y - x - 1) (by omega)
      rw [Array.getElem?_eq_getElem h2] at h1
      have := getElem?_some_lt h1
      omega
    obtain ⟨hat, hlen⟩ := textAt_slice (by omega : x ≤ y) hy
    exact ⟨fun j hj => by rw [← hat j hj]; exact (hall j (hlen ▸ hj)).1.symm, hlen⟩

theorem stepX {s : Array Nat} {env : Env} {rec : RxRec} {c : Node} (hc : NoAndroidNode c)
    {a : List Re} {na : List Text} (hr : rxNode rec c env = .ok (a, na))
    {st m1 : St} (h : SemL s a st m1) (hpos : st.pos ≤ s.size)
    (hnone : ∀ i ∈ a.flatMap gidx, capOf st.caps i = none) :
    (¬ IsRep c → ∀ i ∈ depIdx c, i ∈ a.flatMap gidx) ∧
    TextAt s st.pos (pieceX s m1.caps c) ∧ m1.pos = st.pos + (pieceX s m1.caps c).length := by
  -- a single capturing group: the piece is the span of the group
  have hgroup : ∀ {i : Nat} {B : Re}, SemL s [Re.group i B] st m1 → (∀ C, pieceX s C c = capText s C i) →
      TextAt s st.pos (pieceX s m1.caps c) ∧ m1.pos = st.pos + (pieceX s m1.caps c).length := by
    intro i B hg hp
    obtain ⟨m, h1, h2, h3, h4, _⟩ := step_group hg hpos
    cases h1
    obtain ⟨hta, hlen⟩ := textAt_slice h2 h3
    refine ⟨?_, ?_⟩
    · simpa [hp, capText, h4] using hta
    · simp [hp, capText, h4, hlen]; omega
  cases c with
  | lit t =>
    simp only [rxNode, pure, Except.pure, Except.ok.injEq, Prod.mk.injEq] at hr
    obtain ⟨rfl, _⟩ := hr
    obtain ⟨h1, h2⟩ := semL_lits t (rest := []) (by simpa using h)
    cases h2
    exact ⟨by intro _ i hi; simp [depIdx] at hi, h1, rfl⟩
  | var name rep =>
    cases rep with
    | false =>
      have hB : ∃ B, a = [Re.group (encName name) B] := by
        simp only [rxNode, Bool.false_eq_true, if_false] at hr
        cases hl : env.lookup name with
        | some v =>
          simp only [hl, bind, Except.bind] at hr
          cases hv : rec v (derase env name) with
          | error e => simp [hv] at hr
          | ok w =>
            obtain ⟨body, ns⟩ := w
            simp only [hv, pure, Except.pure, Except.ok.injEq, Prod.mk.injEq] at hr
            exact ⟨_, hr.1.symm⟩
        | none =>
          simp only [hl, pure, Except.pure, Except.ok.injEq, Prod.mk.injEq] at hr
          exact ⟨_, hr.1.symm⟩
      obtain ⟨B, rfl⟩ := hB
      refine ⟨?_, hgroup h (fun _ => rfl)⟩
      intro _ i hi
      simp only [depIdx, List.mem_singleton] at hi
      subst hi
      simp [gidx_group]
    | true =>
      simp only [rxNode, if_true, pure, Except.pure, Except.ok.injEq, Prod.mk.injEq] at hr
      obtain ⟨rfl, _⟩ := hr
      refine ⟨by intro hh; exact absurd trivial hh, ?_⟩
      cases h with
      | cons hx hrest =>
        cases hrest
        cases hx with
        | @backref _ x y _ hcap hall =>
          obtain ⟨hta, hlen⟩ := backref_text hall
          refine ⟨?_, ?_⟩
          · simpa [pieceX, capText, hcap] using hta
          · simp [pieceX, capText, hcap, hlen]
  | star k =>
    simp only [rxNode, pure, Except.pure, Except.ok.injEq, Prod.mk.injEq] at hr
    obtain ⟨rfl, _⟩ := hr
    refine ⟨?_, hgroup h (fun _ => rfl)⟩
    intro _ i hi
    simp only [depIdx, List.mem_singleton] at hi
    subst hi
    simp [gidx_group]
  | starstar k sfx =>
    simp only [rxNode, pure, Except.pure, Except.ok.injEq, Prod.mk.injEq] at hr
    obtain ⟨rfl, _⟩ := hr
    rw [List.flatMap_singleton, gidx_starstar_item] at hnone ⊢
    refine ⟨fun _ i hi => hi, ?_⟩
    cases h with
    | cons hx hrest =>
      cases hrest
      cases hx with
      | altL hg => exact hgroup (SemL.cons hg SemL.nil) (fun _ => rfl)
      | altR he =>
        cases he
        have hn := hnone (encName (sname k)) (by simp)
        refine ⟨?_, ?_⟩
        · simp [pieceX, capText, hn]; intro j hj; simp at hj
        · simp [pieceX, capText, hn]
  | android r => exact absurd hc (by simp [NoAndroidNode])

theorem repN_cons {kn : List Text} {c : Node} {cs : List Node} (h : RepN kn (c :: cs)) :
    (IsRep c → ∀ i ∈ depIdx c, i ∈ kn.map encName) ∧
    ∃ kn', RepN kn' cs ∧ ∀ name ∈ kn', name ∈ kn ∨ c = .var name false := by
  cases c with
  | var name rep =>
    cases rep with
    | false =>
      refine ⟨fun hh => absurd hh (by simp [IsRep]), name :: kn, h, fun nm hn => ?_⟩
      rcases List.mem_cons.mp hn with rfl | hn
      · exact Or.inr rfl
      · exact Or.inl hn
    | true =>
      refine ⟨fun _ i hi => ?_, kn, h.2, fun _ hn => Or.inl hn⟩
      simp only [depIdx, List.mem_singleton] at hi
      exact hi ▸ List.mem_map_of_mem h.1
  | lit t => exact ⟨fun hh => absurd hh (by simp [IsRep]), kn, h, fun _ hn => Or.inl hn⟩
  | star k => exact ⟨fun hh => absurd hh (by simp [IsRep]), kn, h, fun _ hn => Or.inl hn⟩
  | starstar k sfx => exact ⟨fun hh => absurd hh (by simp [IsRep]), kn, h, fun _ hn => Or.inl hn⟩
  | android r => exact ⟨fun hh => absurd hh (by simp [IsRep]), kn, h, fun _ hn => Or.inl hn⟩

theorem walkX {s : Array Nat} {env : Env} {rec : RxRec} :
    ∀ {ns : List Node} {items : List Re} {names : List Text} {kn : List Text}, (∀ n ∈ ns, NoAndroidNode n) → RepN kn ns →
      rxChildren rec ns env = .ok (items, names) →
      (∀ i, (items.flatMap gidx).count i ≤ 1) → (∀ name ∈ kn, encName name ∉ items.flatMap gidx) →
      ∀ {st mid : St}, SemL s items st mid → st.pos ≤ s.size →
        (∀ i ∈ items.flatMap gidx, capOf st.caps i = none) →
        TextAt s st.pos (ns.flatMap (pieceX s mid.caps)) ∧
          mid.pos = st.pos + (ns.flatMap (pieceX s mid.caps)).length
  | [], items, names, kn, _, _, hr, _, _, st, mid, h, _, _ => by
    simp only [rxChildren, pure, Except.pure, Except.ok.injEq, Prod.mk.injEq] at hr
    obtain ⟨rfl, _⟩ := hr
    cases h
    exact ⟨fun j hj => by simp at hj, by simp⟩
  | c :: cs, items, names, kn, hs, hrep, hr, hcount, hkn, st, mid, h, hpos, hnone => by
    obtain ⟨a, na, b, nb, h1, h2, rfl, rfl⟩ := rxChildren_cons hr
    have hfm : (a ++ b).flatMap gidx = a.flatMap gidx ++ b.flatMap gidx := by simp
    rw [hfm] at hcount hnone hkn
    -- the captures outside an item's groups and the bound on the position come with every derivation
    obtain ⟨m1, ha, hb⟩ := h.append
    obtain ⟨hown, hta, hp1⟩ := stepX (hs c (by simp)) h1 ha hpos
      (fun i hi => hnone i (List.mem_append.mpr (Or.inl hi)))
    have hdisjab : ∀ i, i ∈ a.flatMap gidx → i ∉ b.flatMap gidx := fun _ => Txt.not_mem_right_of_once hcount
    obtain ⟨hknown, kn', hrep', hkn'c⟩ := repN_cons hrep
    -- the group the head's piece is read from is not touched by the rest
    have hdep : ∀ i ∈ depIdx c, i ∉ b.flatMap gidx := by
      intro i hi hib
      by_cases hr' : IsRep c
      · obtain ⟨name, hk, rfl⟩ := List.mem_map.mp (hknown hr' i hi)
        exact hkn name hk (List.mem_append.mpr (Or.inr hib))
      · exact hdisjab i (hown hr' i hi) hib
    have hkn' : ∀ name ∈ kn', encName name ∉ b.flatMap gidx := by
      intro name hn hib
      rcases hkn'c name hn with hk | rfl
      · exact hkn name hk (List.mem_append.mpr (Or.inr hib))
      · exact hdisjab _ (hown (by simp [IsRep]) _ (by simp [depIdx])) hib
    obtain ⟨htb, hp2⟩ := walkX (fun n hn => hs n (by simp [hn])) hrep' h2
      (Txt.once_right hcount) hkn' hb (ha.pos_bound hpos)
      (fun i hi => by
        rw [ha.frame (fun hia => hdisjab i hia hi)]
        exact hnone i (List.mem_append.mpr (Or.inr hi)))
    have hpc : pieceX s mid.caps c = pieceX s m1.caps c :=
      pieceX_congr fun i hi => hb.frame (hdep i hi)
    refine ⟨?_, ?_⟩
    · simp only [List.flatMap_cons, hpc]
      exact TextAt.append hta (by rw [← hp1]; exact htb)
    · simp only [List.flatMap_cons, hpc, List.length_append]
      rw [hp2, hp1]; omega

/-- the last conjunct is the point: the path is the root followed by the pieces of the top-level nodes -/
theorem match_piecesX {m : Matcher} {path : Text} {d : GroupDict}
    (hs : ∀ n ∈ m.pattern.nodes, NoAndroidNode n) (hrep : RepN [] m.pattern.nodes) (h : m.match path = .ok (some d)) :
    ∃ re names st root citems, m.regexOf = .ok (re, names) ∧ matchAt path.toArray re 0 = some st ∧
      rootOf (expandVal (fuelFor m.env)) m.pattern m.env = .ok root ∧
      rxChildren (rxVal (fuelFor m.env)) m.pattern.nodes m.env = .ok (citems, names) ∧
      (∀ i, (citems.flatMap gidx).count i ≤ 1) ∧
      (d = groupDict path.toArray st names ∨
       ∃ l, d = groupDict path.toArray st names ++ [(localeName, some l)] ∧
         (groupDict path.toArray st names).any (·.1 == localeName) = false) ∧
      path = root ++ m.pattern.nodes.flatMap (pieceX path.toArray st.caps) := by
  obtain ⟨re, names, st, hre, hst, hd⟩ := match_inv_dict h
  obtain ⟨items, hrx, hreq, hwf⟩ := regexOf_inv hre
  obtain ⟨root, citems, hroot, hch, hitems⟩ := rxPat_inv hrx
  have hcount : ∀ i, (citems.flatMap gidx).count i ≤ 1 := by
    intro i
    have := wfRe_unique hwf i
    rw [hreq, gidx_seqOf, hitems] at this
    simp only [List.flatMap_append, List.count_append] at this
    omega
  refine ⟨re, names, st, root, citems, hre, hst, hroot, hch, hcount, hd, ?_⟩
  have hsem := sem_seqOf _ (hreq ▸ matchAt_sem hst)
  rw [hitems, List.append_assoc] at hsem
  obtain ⟨htr, hrest⟩ := semL_lits root hsem
  have hfin : st.pos ≤ path.toArray.size := (matchAt_sem hst).pos_bound (Nat.zero_le _)
  have hp1 : (0 : Nat) + root.length ≤ path.toArray.size := Nat.le_trans hrest.pos_le hfin
  obtain ⟨mid, hcit, hmid⟩ := hrest.append
  obtain ⟨hta, hpm⟩ := walkX (s := path.toArray) hs hrep hch hcount
    (by intro i hi; cases hi) hcit hp1 (fun i _ => by simp [capOf])
  cases hmid with
  | cons ha hn =>
    cases hn
    have hanchor : Gen.Pat.matcher_frag_anchor = Re.eos := rfl
    rw [hanchor] at ha
    cases ha with
    | eos hc =>
      have hall := TextAt.append htr (by simpa using hta)
      simp only at hpm
      have := textAt_all hall (by simp only [List.length_append]; omega)
      simpa using this

theorem capText_of_groupText {s : Array Nat} {st : St} {i : Nat} {t : Text} (h : groupText s st i = some t) :
    capText s st.caps i = t := by
  unfold groupText St.group at h
  unfold capText
  cases hc : capOf st.caps i with
  | none => simp [hc] at h
  | some p => obtain ⟨a, b⟩ := p; simpa [hc] using h

/-- the variables a pattern uses directly are unbound (captured from the path) or bound to a fully bound value -/
def BoundOK (m : Matcher) : Prop :=
  ∀ name rep v, Node.var name rep ∈ m.pattern.nodes → m.env.lookup name = some v →
    ∃ t, expandVal (fuelFor m.env) v (derase m.env name) true = .ok t

/-- The path is the root followed by the pieces of the top-level nodes (`match_piecesX`); in the environment `sub` builds
    every node stands for its piece (a bound variable by `bound_capture`, an unbound one and a wildcard by the entry `match`
    returned), so the pattern expands to the path again (`expandTop_below`). -/
theorem sub_selfX {m : Matcher} {path : Text} {d : GroupDict} (henv : EnvOK m.env) (heb : Expandable m)
    (hs : ∀ n ∈ m.pattern.nodes, NoAndroidNode n) (hrep : RepN [] m.pattern.nodes) (hb : BoundOK m)
    (h : m.match path = .ok (some d)) :
    expandTop m.pattern (subEnv d m.env) = .ok path := by
  have hw := heb.noWildKey
  obtain ⟨re, names, st, root, citems, hre, hst, hroot, hch, hcount, hd, hpath⟩ := match_piecesX hs hrep h
  have hnames := names_gidx_children (names_gidx_val (fuelFor m.env)) hch
  have hnonce : ∀ k, names.count k ≤ 1 := names_once (by rw [hnames]; exact hcount)
  have hdk : KeysOnce d ∧ ∀ k ∈ names, d.lookup k = some (groupText path.toArray st (encName k)) := by
    rcases hd with rfl | ⟨l, rfl, hany⟩
    · refine ⟨?_, fun k hk => lookup_map_mem _ k names hk⟩
      intro k; rw [keys_groupDict]; exact hnonce k
    · refine ⟨?_, fun k hk => lookup_append_left _ _ _ (lookup_map_mem _ k names hk)⟩
      intro k
      rw [List.map_append, keys_groupDict, List.count_append]
      simp only [List.map_cons, List.map_nil, List.count_cons, List.count_nil]
      by_cases hkl : (localeName == k) = true
      · have : localeName = k := by simpa using hkl
        subst this
        have : names.count localeName = 0 :=
          List.count_eq_zero.mpr fun hmem => Bool.false_ne_true (hany ▸ any_key_groupDict.mpr hmem)
        simp [this]
      · simp [hkl]; exact hnonce k
  obtain ⟨hdonce, hdl⟩ := hdk
  have hlk := fun k => subEnv_lookup (d := d) (env := m.env) hdonce heb.keys k
  have hfirst : ∀ name rep, Node.var name rep ∈ m.pattern.nodes → Node.var name false ∈ m.pattern.nodes := by
    intro name rep hn
    cases rep with
    | false => exact hn
    | true =>
      rcases repN_first hrep hn with h' | h'
      · cases h'
      · exact h'
  have hdef : ∀ n ∈ m.pattern.nodes, ∀ nm, keyOf n = some nm → (∀ nm', n ≠ .var nm' true) → m.env.lookup nm = none →
      nm ∈ names := by
    intro n hn nm hk hnr hl
    obtain ⟨a, na, hrn, _, hsub⟩ := rxChildren_mem hch hn
    refine hsub nm ?_
    cases n with
    | var name rep =>
      cases hk
      cases rep with
      | true => exact absurd rfl (hnr _)
      | false =>
        simp only [rxNode, hl, Bool.false_eq_true, if_false, pure, Except.pure, Except.ok.injEq, Prod.mk.injEq] at hrn
        rw [← hrn.2]; simp
    | star k => cases hk; simp only [rxNode, pure, Except.pure, Except.ok.injEq, Prod.mk.injEq] at hrn; rw [← hrn.2]; simp
    | starstar k sfx => cases hk; simp only [rxNode, pure, Except.pure, Except.ok.injEq, Prod.mk.injEq] at hrn; rw [← hrn.2]; simp
    | lit t => cases hk
    | android r => cases hk
  have hcap : ∀ n nm, keyOf n = some nm → nm ∈ names → m.env.lookup nm = none →
      StandsFor m.env (subEnv d m.env) n (capText path.toArray st.caps (encName nm)) := fun n nm hk hmem hl =>
    Or.inr (Or.inr ⟨nm, hk, hl, by rw [hlk nm, hl, hdl nm hmem]; simp only [Option.map_some, capsVal_groupText]⟩)
  rw [hpath]
  refine expandTop_below hlk (goodEnv_of henv heb.noAndroid) hroot (pc := pieceX path.toArray st.caps) ?_
  intro n hn
  have hsn := hs n hn
  cases n with
  | lit t => exact Or.inl rfl
  | var name rep =>
    cases hl : m.env.lookup name with
    | some v =>
      obtain ⟨t, ht⟩ := hb name rep v hn hl
      have ht' : expandNode (expandVal (fuelFor m.env)) (.var name rep) m.env true = .ok t := by
        simp only [expandNode, hl]; exact ht
      have := bound_capture henv hre hst (hfirst name rep hn) hl ht
      exact Or.inr (Or.inl ⟨name, rep, rfl, by simp only [pieceX, capText_of_groupText this]; exact ht'⟩)
    | none => exact hcap _ name rfl (hdef _ (hfirst name rep hn) name rfl (fun _ e => by cases e) hl) hl
  | star k => exact hcap _ _ rfl (hdef _ hn _ rfl (fun _ e => by cases e) (hw k)) (hw k)
  | starstar k sfx => exact hcap _ _ rfl (hdef _ hn _ rfl (fun _ e => by cases e) (hw k)) (hw k)
  | android r => exact absurd hsn (by simp [NoAndroidNode])

/-- the simple matchers are among those of `sub_selfX`: plain-text values are unrooted patterns of literals, a
    non-repeated variable is its own first occurrence, and a plain-text value expands to its text -/
theorem _root_.PM.sub_self_pieces {m : Matcher} {path : Text} {d : GroupDict} (henv : FlatEnv m.env)
    (hko : KeysOnce m.env) (hs : ∀ n ∈ m.pattern.nodes, SimpleNode n) (hw : ∀ k, m.env.lookup (sname k) = none)
    (h : m.match path = .ok (some d)) : expandTop m.pattern (subEnv d m.env) = .ok path := by
  have hok : EnvOK m.env := by
    intro k v hm
    obtain ⟨p, rfl, hroot, hlit⟩ := henv k v hm
    exact ⟨hroot, fun n hn => by obtain ⟨t, rfl⟩ := hlit n hn; trivial⟩
  have hna : ∀ k p, (k, Val.pat p) ∈ m.env → NoAndroid p := by
    intro k p hm n hn r
    obtain ⟨q, hq, _, hlit⟩ := henv k _ hm
    cases hq
    obtain ⟨t, rfl⟩ := hlit n hn
    exact fun e => by cases e
  have hb : BoundOK m := by
    intro name rep v _ hl
    obtain ⟨p, rfl, hp⟩ := henv.lookup hl
    exact ⟨textOf p, expandPat_flat hp⟩
  exact sub_selfX hok ⟨hna, hko, hw⟩
    (fun n hn => by have := hs n hn; cases n <;> trivial)
    (repN_of_noRep _ fun n hn name e => nomatch (e ▸ hs n hn : SimpleNode (.var name true))) hb h

end C11X
