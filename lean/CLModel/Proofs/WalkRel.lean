/- A stretch of `Parser.walk` as a relation: `Walks next size c off es c' off'` is the reflexive-transitive closure of
   one step of the loop, carrying the entries yielded.  What the clusters say about a walk — it ends, its entries come from
   `next`, they tile the text, the fuel does not matter, a printed block document walks to its blocks' entries — is said
   about this relation; `walkFrom` (here) and `walkFromSt` (C01Sess) are tied to it once.
   `At`: the rest of the text from a position; at the end, in `P`: `walk_total_tiles`, `walk_lossless`. -/
import CLModel.Proofs.Walk
import CLModel.Proofs.ListLemmas
namespace C02P
open P

/-- conjuncts 3 and 4 of `P.Progress` (`Prog.of_progress`): what totality of the walk needs -/
def Prog {σ : Type} (next : σ → Nat → Entry × σ) (size : Nat) : Prop :=
  ∀ c off, off < size → off < (next c off).1.e ∧ (next c off).1.e ≤ size

theorem Prog.of_progress {σ : Type} {next : σ → Nat → Entry × σ} {size b : Nat} (h : Progress next size b) :
    Prog next size := fun c off ho => ⟨(h c off ho).2.2.1, (h c off ho).2.2.2⟩

/-- `Walks next size c off es c' off'`: starting at offset `off` with context `c`, the loop of `Parser.walk` yields the
    entries `es` one after the other (each strictly advancing) and arrives at offset `off'` with context `c'` -/
inductive Walks {σ : Type} (next : σ → Nat → Entry × σ) (size : Nat) : σ → Nat → List Entry → σ → Nat → Prop
  | nil (c : σ) (off : Nat) : Walks next size c off [] c off
  | cons {c c' c'' : σ} {off off'' : Nat} {e : Entry} {es : List Entry} :
      off < size → off < e.e → next c off = (e, c') → Walks next size c' e.e es c'' off'' →
      Walks next size c off (e :: es) c'' off''

theorem Walks.one {σ : Type} {next : σ → Nat → Entry × σ} {size : Nat} {c c' : σ} {off : Nat} {e : Entry}
    (h1 : off < size) (h2 : off < e.e) (h3 : next c off = (e, c')) : Walks next size c off [e] c' e.e :=
  .cons h1 h2 h3 (.nil _ _)

theorem Walks.append {σ : Type} {next : σ → Nat → Entry × σ} {size : Nat} {c c' c'' : σ} {off off' off'' : Nat}
    {es es' : List Entry} (h : Walks next size c off es c' off') (h' : Walks next size c' off' es' c'' off'') :
    Walks next size c off (es ++ es') c'' off'' := by
  induction h with
  | nil => exact h'
  | cons a b d _ ih => exact .cons a b d (ih h')

theorem Walks.len_le_size {σ : Type} {next : σ → Nat → Entry × σ} {size : Nat} {c c' : σ} {off off' : Nat}
    {es : List Entry} (h : Walks next size c off es c' off') : es.length ≤ size - off := by
  induction h with
  | nil => exact Nat.zero_le _
  | cons a b _ _ ih => rw [List.length_cons]; omega

theorem Walks.done {σ : Type} {next : σ → Nat → Entry × σ} {size : Nat} {c c' : σ} {off off' : Nat}
    {es : List Entry} (h : Walks next size c off es c' off') (hend : size ≤ off') (fuel : Nat) (hf : es.length ≤ fuel) :
    walkFrom next size fuel c off = .done es := by
  induction h generalizing fuel with
  | nil => cases fuel <;> simp [walkFrom, hend]
  | cons a _ d _ ih =>
    obtain ⟨f, rfl⟩ : ∃ f, fuel = f + 1 := ⟨fuel - 1, by simp at hf; omega⟩
    rw [walkFrom, if_neg (by omega), d]
    simp only [ih hend f (by simpa using hf), WalkResult.cons]

section
variable {σ : Type} {next : σ → Nat → Entry × σ} {size : Nat} {c c' : σ} {off off' : Nat} {es : List Entry}

/-- `size + 1` is the fuel `Parser.walk` is modelled with -/
theorem Walks.done_walk (h : Walks next size c 0 es c' off') (hend : size ≤ off') :
    walkFrom next size (size + 1) c 0 = .done es :=
  h.done hend _ (Nat.le_trans h.len_le_size (Nat.le_succ _))

theorem Walks.all (Q : Entry → Prop) (hq : ∀ c off, off < size → Q (next c off).1)
    (h : Walks next size c off es c' off') : ∀ e ∈ es, Q e := by
  induction h with
  | nil => intro _ h; cases h
  | @cons c _ _ off _ _ _ a _ d _ ih =>
    intro x hx
    rcases List.mem_cons.mp hx with rfl | hx
    · have := hq c off a; rwa [d] at this
    · exact ih x hx

/-- `R` holds between every entry and its successor -/
def Adj (R : Entry → Entry → Prop) : List Entry → Prop
  | a :: b :: rest => R a b ∧ Adj R (b :: rest)
  | _ => True

theorem Walks.head {x : Entry} {rest : List Entry} (h : Walks next size c off (x :: rest) c' off') :
    x = (next c off).1 ∧ off < size := by
  cases h with
  | cons a _ d _ => exact ⟨by rw [d], a⟩

theorem Walks.adjacent (R : Entry → Entry → Prop)
    (hr : ∀ c off c', off < size → R (next c off).1 (next c' (next c off).1.e).1)
    (h : Walks next size c off es c' off') : Adj R es := by
  induction h with
  | nil => trivial
  | @cons c c1 _ off _ e es a _ d w ih =>
    cases es with
    | nil => trivial
    | cons y rest =>
      obtain ⟨rfl, _⟩ := w.head
      obtain rfl : e = (next c off).1 := by rw [d]
      exact ⟨hr c off _ a, ih⟩

theorem Walks.to_end (hp : Prog next size) (c : σ) (off : Nat) :
    ∃ es c' off', Walks next size c off es c' off' ∧ size ≤ off' := by
  generalize hn : size - off = n
  induction n using Nat.strongRecOn generalizing c off with
  | ind n ih =>
    by_cases hlt : off < size
    · obtain ⟨p1, p2⟩ := hp c off hlt
      obtain ⟨es, c', off', hw, h1⟩ := ih _ (by omega) (next c off).2 (next c off).1.e rfl
      exact ⟨_ :: es, c', off', .cons hlt p1 rfl hw, h1⟩
    · exact ⟨[], c, off, .nil _ _, by omega⟩

theorem walkFrom_done (hp : Prog next size) (c : σ) (off fuel : Nat) (hf : size - off ≤ fuel) :
    ∃ es c' off', Walks next size c off es c' off' ∧ size ≤ off' ∧ walkFrom next size fuel c off = .done es := by
  obtain ⟨es, c', off', hw, h1⟩ := Walks.to_end hp c off
  exact ⟨es, c', off', hw, h1, hw.done h1 fuel (Nat.le_trans hw.len_le_size hf)⟩

theorem Walks.tiles {b : Nat} (hp : Progress next size b) (h : Walks next size c off es c' off') (hend : size ≤ off') :
    Tiles size b off es := by
  induction h with
  | nil => exact .nil hend
  | cons a _ d _ ih =>
    obtain ⟨h1, h2, h3, h4⟩ := hp _ _ a
    rw [d] at h1 h2 h3 h4
    exact .cons h1 h2 h3 h4 (ih hend)

end

/-- the rest of the text from `p` on reads `l`.  NOT `Txt.At`, which says a prefix stands at `p`; `Txt.at_of_drop` leads
    from here to there.  `At.app` here; `At.get`, `At.head`, `At.tail`, `At.hd`, `At.left`, `At.len` in C02PCore. -/
abbrev At (s : Array Nat) (p : Nat) (l : List Nat) : Prop := s.toList.drop p = l

theorem At.app {s : Array Nat} {p : Nat} {a b : List Nat} (h : At s p (a ++ b)) : At s (p + a.length) b :=
  Txt.drop_add_of_append h

section Blocks
variable {σ β : Type}

/-- the text of a block list -/
def printBlocks (pr : β → List Nat) (bs : List β) : List Nat := (bs.map pr).flatten

/-- the entries of a block list printed at `off`, walked with context `c` -/
def blockEntries (pr : β → List Nat) (en : Nat → σ → β → List Entry) (tr : σ → β → σ) : Nat → σ → List β → List Entry
  | _, _, [] => []
  | off, c, b :: bs => en off c b ++ blockEntries pr en tr (off + (pr b).length) (tr c b) bs

def blockCtx (tr : σ → β → σ) : σ → List β → σ
  | c, [] => c
  | c, b :: bs => blockCtx tr (tr c b) bs

/-- every block is good at the offset and in the context where it is printed -/
def GoodAll (pr : β → List Nat) (tr : σ → β → σ) (Good : Nat → σ → β → Prop) : Nat → σ → List β → Prop
  | _, _, [] => True
  | off, c, b :: bs => Good off c b ∧ GoodAll pr tr Good (off + (pr b).length) (tr c b) bs

@[simp] theorem printBlocks_nil (pr : β → List Nat) : printBlocks pr [] = [] := rfl
@[simp] theorem printBlocks_cons (pr : β → List Nat) (b : β) (bs : List β) :
    printBlocks pr (b :: bs) = pr b ++ printBlocks pr bs := by simp [printBlocks]

theorem printBlocks_map {α : Type} (g : α → β) (pr : β → List Nat) (xs : List α) :
    printBlocks pr (xs.map g) = printBlocks (fun a => pr (g a)) xs := by
  simp [printBlocks, List.map_map, Function.comp_def]

theorem blockEntries_map {α : Type} (g : α → β) (pr : β → List Nat) (en : Nat → σ → β → List Entry) (tr : σ → β → σ) :
    ∀ (xs : List α) (off : Nat) (c : σ), blockEntries pr en tr off c (xs.map g) =
      blockEntries (fun a => pr (g a)) (fun off c a => en off c (g a)) (fun c a => tr c (g a)) off c xs := by
  intro xs
  induction xs with
  | nil => intro _ _; rfl
  | cons x xs ih => intro off c; simp only [List.map_cons, blockEntries, ih]

/-- The one induction over a printed block list.  `Follow` is what a block needs of the text BEHIND it; it is established
    from the end of the list backwards (`hf`), which is why the conclusion hands it back for the whole list.  `F` is the
    fact wanted of the list at an offset and a context (`walks_blocks_inv`: its blocks' entries are walked). -/
theorem blocks_ind (s : Array Nat) (pr : β → List Nat) (tr : σ → β → σ) (Good : Nat → σ → β → Prop)
    (Follow : List Nat → Prop) (hf : ∀ b c off rest, Good off c b → Follow rest → Follow (pr b ++ rest))
    (F : Nat → σ → List β → Prop) (hnil : ∀ off c, F off c [])
    (step : ∀ b bs c off rest, Good off c b → At s off (pr b ++ rest) → Follow rest →
      F (off + (pr b).length) (tr c b) bs → F off c (b :: bs)) :
    ∀ (bs : List β) (c : σ) (off : Nat) (rest : List Nat), GoodAll pr tr Good off c bs →
      At s off (printBlocks pr bs ++ rest) → Follow rest → F off c bs ∧ Follow (printBlocks pr bs ++ rest) := by
  intro bs
  induction bs with
  | nil => intro c off rest _ _ hfo; exact ⟨hnil off c, by simpa using hfo⟩
  | cons b bs ih =>
    intro c off rest hg h hfo
    have h' : At s off (pr b ++ (printBlocks pr bs ++ rest)) := by simpa [At] using h
    obtain ⟨i1, f2⟩ := ih (tr c b) (off + (pr b).length) rest hg.2 h'.app hfo
    exact ⟨step b bs c off _ hg.1 h' f2 i1, by simpa using hf b c off _ hg.1 f2⟩

/-- `Follow` speaks of the text behind a block; `Inv` is an invariant about the text BEFORE a block (e.g. "at the start of a
    line", needed by `^` in the comment regexes of ini and inc) that every good block preserves. -/
theorem walks_blocks_inv (next : σ → Nat → Entry × σ) (s : Array Nat) (pr : β → List Nat)
    (en : Nat → σ → β → List Entry) (tr : σ → β → σ) (Good : Nat → σ → β → Prop) (Follow : List Nat → Prop)
    (Inv : Nat → Prop)
    (hb : ∀ b c off rest, Good off c b → At s off (pr b ++ rest) → Follow rest → Inv off →
      Walks next s.size c off (en off c b) (tr c b) (off + (pr b).length) ∧ Inv (off + (pr b).length))
    (hf : ∀ b c off rest, Good off c b → Follow rest → Follow (pr b ++ rest)) :
    ∀ (bs : List β) (c : σ) (off : Nat) (rest : List Nat), GoodAll pr tr Good off c bs →
      At s off (printBlocks pr bs ++ rest) → Follow rest → Inv off →
      Walks next s.size c off (blockEntries pr en tr off c bs) (blockCtx tr c bs) (off + (printBlocks pr bs).length) ∧
        Follow (printBlocks pr bs ++ rest) ∧ Inv (off + (printBlocks pr bs).length) := by
  intro bs c off rest hg h hfo hi
  -- the fact carried along the list is an implication: the invariant travels forwards, `Follow` backwards
  obtain ⟨hF, hfo'⟩ := blocks_ind s pr tr Good Follow hf
    (fun off c bs => Inv off → Walks next s.size c off (blockEntries pr en tr off c bs) (blockCtx tr c bs)
      (off + (printBlocks pr bs).length) ∧ Inv (off + (printBlocks pr bs).length))
    (fun off c hi => ⟨Walks.nil _ _, hi⟩)
    (fun b bs c off rest hg h hfo F2 hi => by
      obtain ⟨w1, i1⟩ := hb b c off rest hg h hfo hi
      obtain ⟨w2, i2⟩ := F2 i1
      simp only [blockEntries, blockCtx, printBlocks_cons, List.length_append, ← Nat.add_assoc]
      exact ⟨w1.append w2, i2⟩) bs c off rest hg h hfo
  exact ⟨(hF hi).1, hfo', (hF hi).2⟩

end Blocks

end C02P

namespace P
open C02P

theorem walk_total_tiles {σ : Type} (next : σ → Nat → Entry × σ) (size b : Nat) (hp : Progress next size b) :
    ∀ fuel c off, size - off < fuel + 1 → off ≤ size →
      ∃ es, walkFrom next size fuel c off = .done es ∧ Tiles size b off es := by
  intro fuel c off h _
  obtain ⟨es, c', off', hw, h1, h2⟩ := walkFrom_done (Prog.of_progress hp) c off fuel (by omega)
  exact ⟨es, h2, hw.tiles hp h1⟩

/-- C01 for any step function: `Progress` is all a format's `getNext` has to provide (`walk_lossless_fmt`, WalkFmt). -/
theorem walk_lossless {σ : Type} (next : σ → Nat → Entry × σ) (s : Array Nat) (b : Nat) (c : σ)
    (hp : Progress next s.size b) :
    ∃ es, walkFrom next s.size (s.size + 1) c 0 = .done es ∧ Tiles s.size b 0 es ∧
      (es.map (Entry.all s)).flatten = s.toList.drop b := by
  obtain ⟨es, h1, h2⟩ := walk_total_tiles next s.size b hp (s.size + 1) c 0 (by omega) (by omega)
  exact ⟨es, h1, h2, by simpa using tiles_lossless s b es 0 h2⟩

end P
