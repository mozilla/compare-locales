/- the grammar of render tokens and the token read off an argument match.
   * `PrintfCaps` states what the captures of a `printf` match are (a definition; nothing here proves it of the regex);
   * `int()` of an ASCII digit string; `decimal n` is a digit string without leading zero whose `int()` is `n`;
   * `WfTok` / `Separated` / `WfRender`: the token grammar and the one side condition (what follows a lone `%`);
   * `atokOf_arg`: the abstract token read off the captures of an argument match.
   That such a value lexes back to its tokens (`atoks_render`) is proved in C06Grammar. -/
import CLModel.Checks.Properties
import CLModel.Proofs.C06Render
import CLModel.Proofs.RxSearch
import CLModel.Proofs.C06RPrintf
namespace PropCk
open Rx

theorem slice_single {s : Array Nat} {a c : Nat} (h : s[a]? = some c) : slice s (a, a + 1) = [c] :=
  Txt.extract_one h

def isDig (c : Nat) : Prop := 48 ≤ c ∧ c ≤ 57

/-- `s[a:b]` is a non-empty digit string whose first character is in `lo..57` -/
def DigitsFrom (lo : Nat) (s : Array Nat) (a b : Nat) : Prop :=
  a < b ∧ (∃ c, s[a]? = some c ∧ lo ≤ c ∧ c ≤ 57) ∧ ∀ p, a < p → p < b → ∃ c, s[p]? = some c ∧ isDig c

/-- facts about the captures of a `printf` match -/
structure PrintfCaps (s : Array Nat) (caps : List (Nat × Nat × Nat)) : Prop where
  number : ∀ a b, capOf caps 2 = some (a, b) → DigitsFrom 49 s a b
  spec : ∀ a b, capOf caps 1 = some (a, b) → slice s (a, b) ≠ [37] →
    ∃ c ch, capOf caps 5 = some (c, c + 1) ∧ s[c]? = some ch

end PropCk

namespace C06R
open Rx PropCk
open Txt (At at_cons at_append)

/-- value of a digit string read after the value `a` -/
def valOf (t : Text) (a : Nat) : Nat := t.foldl (fun a c => a * 10 + (c - 48)) a

theorem valOf_append (t u : Text) (a : Nat) : valOf (t ++ u) a = valOf u (valOf t a) := by
  simp [valOf, List.foldl_append]

theorem le_valOf (t : Text) : ∀ a, a ≤ valOf t a := by
  induction t with
  | nil => intro a; exact Nat.le_refl _
  | cons c t ih => intro a; exact Nat.le_trans (by omega) (ih (a * 10 + (c - 48)))

theorem intOf_fold_val (t : Text) (ht : ∀ c ∈ t, IsDig c) : ∀ a,
    t.foldl (fun acc c => match acc with
      | some n => if 48 ≤ c ∧ c ≤ 57 then some (n * 10 + (c - 48)) else none
      | none => none) (some a) = some (valOf t a) := by
  induction t with
  | nil => intro a; rfl
  | cons c t ih =>
    intro a
    have hc : 48 ≤ c ∧ c ≤ 57 := ht c (by simp)
    simp only [List.foldl_cons, hc, and_self, if_true]
    rw [ih (fun d hd => ht d (by simp [hd]))]
    rfl

theorem intOf_val {t : Text} (hne : t ≠ []) (ht : ∀ c ∈ t, IsDig c) : intOf t = some (valOf t 0) := by
  unfold intOf
  cases t with
  | nil => exact absurd rfl hne
  | cons c t =>
    simp only [List.isEmpty_cons, Bool.false_eq_true, if_false]
    exact intOf_fold_val _ ht 0

theorem decimalAux_spec : ∀ (f n : Nat) (acc : Text), n < f →
    ∃ D, decimalAux f n acc = D ++ acc ∧ (∀ c ∈ D, IsDig c) ∧
      (∃ d D', D = d :: D' ∧ (n ≥ 1 → 49 ≤ d)) ∧ ∀ a, valOf D a = a * 10 ^ D.length + n := by
  intro f
  induction f with
  | zero => intro n acc h; omega
  | succ f ih =>
    intro n acc hn
    rw [decimalAux]
    by_cases h10 : n < 10
    · simp only [h10, if_true]
      refine ⟨[48 + n], rfl, ?_, ⟨48 + n, [], rfl, by omega⟩, ?_⟩
      · intro c hc
        simp only [List.mem_singleton] at hc
        subst hc; unfold IsDig; omega
      · intro a
        simp [valOf]
    · simp only [h10, if_false]
      obtain ⟨D, hD, hdig, ⟨d, D', hhead, hd⟩, hval⟩ := ih (n / 10) ((48 + n % 10) :: acc) (by omega)
      refine ⟨D ++ [48 + n % 10], by rw [hD]; simp, ?_, ⟨d, D' ++ [48 + n % 10], by rw [hhead]; simp, ?_⟩, ?_⟩
      · intro c hc
        rcases List.mem_append.mp hc with hc | hc
        · exact hdig c hc
        · simp only [List.mem_singleton] at hc
          subst hc; unfold IsDig; omega
      · intro _; exact hd (by omega)
      · intro a
        rw [valOf_append, hval a]
        simp only [valOf, List.foldl_cons, List.foldl_nil, List.length_append, List.length_cons,
          List.length_nil, Nat.zero_add, Nat.pow_succ]
        rw [← Nat.mul_assoc]
        generalize a * 10 ^ D.length = X
        omega

theorem decimal_pos {n : Nat} (hn : n ≥ 1) :
    ∃ d ds, decimal n = d :: ds ∧ (49 ≤ d ∧ d ≤ 57) ∧ (∀ c ∈ ds, IsDig c) ∧ intOf (decimal n) = some n := by
  obtain ⟨D, hD, hdig, ⟨d, D', hhead, hd⟩, hval⟩ := decimalAux_spec (n + 1) n [] (by omega)
  have hdec : decimal n = D := by simpa [decimal] using hD
  subst hhead
  have hd' := hdig d (by simp)
  refine ⟨d, D', hdec, ⟨hd hn, hd'.2⟩, fun c hc => hdig c (by simp [hc]), ?_⟩
  rw [hdec, intOf_val (by simp) hdig, hval 0]
  simp

theorem decimal_any (n : Nat) :
    decimal n ≠ [] ∧ (∀ c ∈ decimal n, IsDig c) ∧ intOf (decimal n) = some n := by
  obtain ⟨D, hD, hdig, ⟨d, D', hhead, _⟩, hval⟩ := decimalAux_spec (n + 1) n [] (by omega)
  have hdec : decimal n = D := by simpa [decimal] using hD
  refine ⟨by rw [hdec, hhead]; simp, by rw [hdec]; exact hdig, ?_⟩
  rw [hdec, intOf_val (by rw [hhead]; simp) hdig, hval 0]
  simp

/-- `(\*|[0-9]+)?(\.(\*|[0-9]+)?)?` -/
def WfFmt (fmt : Text) : Prop := ∃ W P, fmt = W ++ P ∧ WShape W ∧ PShape P

/-- a well-formed render token: text without `%`; `%%`; a lone `%`; `%[n$][width][.prec]c` with
    `n ≥ 1` (written by `"%d" % n`, so without leading zero) and `c` one of `duxXosScpfg` -/
def WfTok : RTok → Prop
  | .text t => 37 ∉ t
  | .pct => True
  | .lone => True
  | .arg num fmt c => (∀ n, num = some n → n ≥ 1) ∧ WfFmt fmt ∧ IsSpec c

/-- what may follow a lone `%`: the end of the value, or a character that neither is `%` nor starts
    an argument (digit, `*`, `.`, conversion character) -/
def LoneOk (rest : Text) : Prop :=
  ∀ c, rest.head? = some c → c ≠ 37 ∧ ¬ IsDig c ∧ c ≠ 42 ∧ c ≠ 46 ∧ ¬ IsSpec c

/-- the one side condition on the token *sequence*: every lone `%` is followed by `LoneOk` text.
    (Nothing is needed after `%%` or after an argument: both end with a character that closes the match.) -/
def Separated : List RTok → Prop
  | [] => True
  | .lone :: rest => LoneOk (render rest) ∧ Separated rest
  | _ :: rest => Separated rest

def WfRender (ts : List RTok) : Prop := (∀ t ∈ ts, WfTok t) ∧ Separated ts

theorem render_cons (t : RTok) (ts : List RTok) : render (t :: ts) = renderTok t ++ render ts := by
  simp [render]

theorem slice_of_at {s : Array Nat} {p : Nat} {t : Text} (h : At s p t) : slice s (p, p + t.length) = t :=
  Txt.extract_at h

theorem capOf_prec (p : Nat) (P : Text) (X : List (Nat × Nat × Nat)) (i : Nat) (hi : i ≠ 4) :
    capOf (precCaps p P ++ X) i = capOf X i := by
  unfold precCaps
  split
  · rfl
  · simp only [List.cons_append, List.nil_append, capOf_cons]
    simp [show ¬ 4 = i from fun h => hi h.symm]

theorem capOf_width (p : Nat) (W : Text) (X : List (Nat × Nat × Nat)) (i : Nat) (hi : i ≠ 3) :
    capOf (widthCaps p W ++ X) i = capOf X i := by
  unfold widthCaps
  split
  · rfl
  · simp only [List.cons_append, List.nil_append, capOf_cons]
    simp [show ¬ 3 = i from fun h => hi h.symm]

theorem body_ne_pct {X : Text} {c : Nat} (hc : c ≠ 37) : X ++ [c] ≠ [37] := by
  intro h
  cases X with
  | nil => simp at h; exact hc h
  | cons x X =>
    have := congrArg List.length h
    simp at this

/-- the abstraction of an argument match: `good` is the token without its `%`, `spec` the type -/
theorem atokOf_arg {s : Array Nat} {q e : Nat} {body : Text} {c : Nat} {rest : List (Nat × Nat × Nat)}
    (hbody : At s (q + 1) (body ++ [c])) (he : e = q + 1 + body.length + 1) (hc : c ≠ 37)
    (num : Option Nat)
    (hnum : match num with
      | none => capOf rest 2 = none
      | some n => ∃ a b, capOf rest 2 = some (a, b) ∧ intOf (slice s (a, b)) = some n ∧ n ≥ 1) :
    atokOf s (q, ⟨e, (1, q + 1, e) :: (5, e - 1, e) :: rest⟩) = some (.arg num [c]) := by
  have hgood : slice s (q + 1, e) = body ++ [c] := by
    have := slice_of_at hbody
    rw [show q + 1 + (body ++ [c]).length = e by simp; omega] at this
    exact this
  have hcat : s[e - 1]? = some c := by
    have := (at_cons.mp (at_append.mp hbody).2).1
    rw [show q + 1 + body.length = e - 1 by omega] at this
    exact this
  have hspec : slice s (e - 1, e) = [c] := by
    have := slice_single hcat
    rw [show e - 1 + 1 = e by omega] at this
    exact this
  have hne : ¬ ((some (body ++ [c]) == some [37]) = true) := by
    simpa using body_ne_pct hc
  unfold atokOf
  simp only [groupText, St.group, Gen.Pat.PropertiesChecker_printf_g_good,
    Gen.Pat.PropertiesChecker_printf_g_number, Gen.Pat.PropertiesChecker_printf_g_spec, capOf_cons,
    if_true, show ¬ (1 = 5) by omega, show ¬ (1 = 2) by omega, show ¬ (5 = 2) by omega, if_false,
    Option.map_some, Option.isNone_some, Bool.false_eq_true, hgood, hne, hspec]
  cases num with
  | none =>
    simp only at hnum
    simp [hnum]
  | some n =>
    obtain ⟨a, b, h2, hint, hn1⟩ := hnum
    simp [h2, hint, hn1]

end C06R
