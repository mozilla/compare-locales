/-
Which references the two message visitors record per slot (value / attribute name), the `Missing … reference` loop of
check_message, and with them the messages of `check_message` and `check_term` as sums of their parts
(`checkMessage_structure`, `checkTerm_structure`).
-/
import CLModel.Proofs.C08
namespace Ftl
open Gen.Tables

/-- the patterns that belong to a slot: the value, or the values of ALL attributes with that name -/
def slotPatterns (value : Option Pattern) (attrs : List Attribute) : Slot → List Pattern
  | none => value.toList
  | some n => (attrs.filter (fun a => a.name == n)).map (·.value)

/-- the references (recorded text, kind) the message visitors meet in a slot, in traversal order -/
def slotRefs (value : Option Pattern) (attrs : List Attribute) (slot : Slot) : List (Str × RefType) :=
  (slotPatterns value attrs slot).flatMap (fun p => (evPattern false p).filterMap Ev.refKey)

def slotRefNames (value : Option Pattern) (attrs : List Attribute) (slot : Slot) : List Str :=
  (slotRefs value attrs slot).map (·.1)

theorem foldl_evRefs_eq (evs : List Ev) (s : List Str) :
    evs.foldl evRefs s = ((evs.filterMap Ev.refKey).map (·.1)).foldl setAdd s := by
  induction evs generalizing s with
  | nil => rfl
  | cons e rest ih =>
    rw [List.foldl_cons, ih, evRefs, List.filterMap_cons]
    cases e.refKey <;> rfl

theorem mem_foldl_evRefs (evs : List Ev) (s : List Str) (r : Str) :
    r ∈ evs.foldl evRefs s ↔ r ∈ s ∨ r ∈ (evs.filterMap Ev.refKey).map (·.1) := by
  rw [foldl_evRefs_eq]; exact AR.mem_foldl_ins _ _ r

theorem keys_foldl_refStep (evs : List Ev) (d : RefDict) : dictKeys (evs.foldl refStep d) = evs.foldl evRefs (dictKeys d) := by
  induction evs generalizing d with
  | nil => rfl
  | cons e rest ih =>
    rw [List.foldl_cons, List.foldl_cons, ih, refStep, evRefs]
    cases e.refKey with
    | none => rfl
    | some p => rw [dictKeys_dictSet]

theorem mem_foldl_refStep (evs : List Ev) (d : RefDict) (p : Str × RefType) (h : p ∈ evs.foldl refStep d) :
    p ∈ d ∨ p ∈ evs.filterMap Ev.refKey := by
  induction evs generalizing d with
  | nil => exact Or.inl h
  | cons e rest ih =>
    simp only [List.foldl_cons] at h
    rcases ih _ h with h1 | h1
    · unfold refStep at h1
      cases hk : e.refKey with
      | none => rw [hk] at h1; exact Or.inl h1
      | some q =>
        rw [hk] at h1
        simp only at h1
        rcases mem_dictSet h1 with h2 | h2
        · exact Or.inl h2
        · right; simp [hk, h2]
    · right
      cases hk : e.refKey <;> simp [hk, h1]

theorem refVisitAttribute_entryRefs (st : RefState) (a : Attribute) :
    (refVisitAttribute st a).entryRefs = dictSet st.entryRefs (some a.name)
      ((evPattern false a.value).foldl refStep (ddGet st.entryRefs (some a.name))) := by
  unfold refVisitAttribute
  simp only
  split <;> rfl

theorem ddGet_foldl_slot {ν : Type} (g : List ν → Pattern → List ν) (attrs : List Attribute) (er : List (Slot × List ν))
    (slot : Slot) :
    ddGet (attrs.foldl (fun er a => dictSet er (some a.name) (g (ddGet er (some a.name)) a.value)) er) slot =
      match slot with
      | none => ddGet er none
      | some n => ((attrs.filter (fun a => a.name == n)).map (·.value)).foldl g (ddGet er (some n)) := by
  induction attrs generalizing er with
  | nil => cases slot <;> rfl
  | cons a r ih =>
    rw [List.foldl_cons, ih]
    cases slot with
    | none => simp [ddGet_dictSet]
    | some n =>
      simp only [ddGet_dictSet]
      by_cases hn : (a.name == n) = true
      · have : a.name = n := by simpa using hn
        subst this
        simp
      · have hne : ¬ a.name = n := by simpa using hn
        simp [hn]

theorem entryRefs_foldl_refVisitAttribute (attrs : List Attribute) (st : RefState) :
    (attrs.foldl refVisitAttribute st).entryRefs = attrs.foldl (fun er a => dictSet er (some a.name)
      ((evPattern false a.value).foldl refStep (ddGet er (some a.name)))) st.entryRefs := by
  induction attrs generalizing st with
  | nil => rfl
  | cons a r ih => rw [List.foldl_cons, ih, refVisitAttribute_entryRefs]; rfl

def refSlotDict (ref : Message) (slot : Slot) : RefDict := ddGet (refVisitEntry (.message ref)).entryRefs slot

theorem refSlotDict_eq (ref : Message) (slot : Slot) :
    refSlotDict ref slot = (slotPatterns ref.value ref.attributes slot).foldl
      (fun d p => (evPattern false p).foldl refStep d) [] := by
  unfold refSlotDict refVisitEntry refVisit
  rw [entryRefs_foldl_refVisitAttribute, ddGet_foldl_slot (fun d p => (evPattern false p).foldl refStep d)]
  cases slot with
  | none => cases hv : ref.value <;> simp [slotPatterns, refInit, ddGet, dictGet?, dictSet]
  | some n => cases hv : ref.value <;> simp [slotPatterns, refInit, ddGet, dictGet?, dictSet]

theorem mem_rrOf_ref (ref : Message) (slot : Slot) (r : Str) :
    r ∈ rrOf (refVisitEntry (.message ref)).entryRefs slot ↔ r ∈ slotRefNames ref.value ref.attributes slot := by
  have : rrOf (refVisitEntry (.message ref)).entryRefs slot = dictKeys (refSlotDict ref slot) := rfl
  rw [this, refSlotDict_eq, ← List.foldl_flatMap, keys_foldl_refStep, mem_foldl_evRefs]
  simp [slotRefNames, slotRefs, dictKeys, List.filterMap_flatMap]

theorem mem_refSlotDict (ref : Message) (slot : Slot) (q : Str × RefType) (h : q ∈ refSlotDict ref slot) :
    q ∈ slotRefs ref.value ref.attributes slot := by
  rw [refSlotDict_eq, ← List.foldl_flatMap] at h
  rcases mem_foldl_refStep _ _ _ h with h1 | h1
  · simp at h1
  · simpa [slotRefs, List.filterMap_flatMap] using h1

theorem l10nVisitMessage_entryRefs (kp : Option (List Str)) (ref : RefState) (m : Message) :
    (l10nVisitMessage kp ref m).entryRefs =
      attrsRefs (match m.value with
        | some p => dictSet [(none, [])] none ((evPattern false p).foldl evRefs [])
        | none => [(none, [])]) m.attributes := by
  unfold l10nVisitMessage
  cases hv : m.value with
  | none =>
    simp only [l10nInit]
    exact (foldl_l10nVisitAttribute kp m.attributes _).2.2.2.1
  | some p =>
    simp only [l10nInit, l10nVisitPattern_eq]
    rw [(foldl_l10nVisitAttribute kp m.attributes _).2.2.2.1]
    simp [ddGet, dictGet?]

theorem l10nVisitMessage_refEntryRefs (kp : Option (List Str)) (ref : RefState) (m : Message) :
    (l10nVisitMessage kp ref m).refEntryRefs =
      touch ref.entryRefs ((m.value.toList.map fun _ => none) ++ m.attributes.map (fun a => some a.name)) := by
  unfold l10nVisitMessage
  cases hv : m.value with
  | none =>
    simp only [l10nInit]
    exact (foldl_l10nVisitAttribute kp m.attributes _).2.2.2.2
  | some p =>
    simp only [l10nInit, l10nVisitPattern_eq]
    rw [(foldl_l10nVisitAttribute kp m.attributes _).2.2.2.2]
    simp [touch]

def l10nSlotSet (kp : Option (List Str)) (ref : RefState) (m : Message) (slot : Slot) : List Str :=
  ddGet (l10nVisitMessage kp ref m).entryRefs slot

theorem mem_l10nSlotSet (kp : Option (List Str)) (ref : RefState) (m : Message) (slot : Slot) (r : Str) :
    r ∈ l10nSlotSet kp ref m slot ↔ r ∈ slotRefNames m.value m.attributes slot := by
  unfold l10nSlotSet
  rw [l10nVisitMessage_entryRefs, attrsRefs, ddGet_foldl_slot (fun s p => (evPattern false p).foldl evRefs s)]
  cases slot with
  | none =>
    cases hv : m.value with
    | none => simp [slotRefNames, slotRefs, slotPatterns, ddGet, dictGet?]
    | some p =>
      simp only [ddGet_dictSet, BEq.rfl, if_true, mem_foldl_evRefs]
      simp [slotRefNames, slotRefs, slotPatterns]
  | some n =>
    have h0 : ddGet (match m.value with
        | some p => dictSet [(none, [])] none ((evPattern false p).foldl evRefs [])
        | none => [(none, [])]) (some n) = ([] : List Str) := by
      cases m.value <;> simp [ddGet, dictGet?, dictSet]
    simp only
    rw [h0, ← List.foldl_flatMap, mem_foldl_evRefs]
    simp [slotRefNames, slotRefs, slotPatterns, List.filterMap_flatMap]

theorem missingRefs_append_empty (d : List (Slot × RefDict)) (s : Slot) (ler : List (Slot × List Str)) :
    missingRefs (d ++ [(s, [])]) ler = missingRefs d ler := by
  simp [missingRefs]

theorem missingRefs_touch (d : List (Slot × RefDict)) (slots : List Slot) (ler : List (Slot × List Str)) :
    missingRefs (touch d slots) ler = missingRefs d ler := by
  induction slots generalizing d with
  | nil => rfl
  | cons s r ih =>
    simp only [touch, List.foldl_cons] at ih ⊢
    rw [ih]
    rcases dictSet_self_cases d s with h | h
    · rw [h]
    · rw [h, missingRefs_append_empty]

/-- the text of a `Missing … reference` warning -/
def missingRefMsg (r : Str) (t : RefType) : Msg :=
  ⟨sevWarning, 0, match t with
    | .msg => fmt fluentMsg_missing_msg_ref [r]
    | .term => fmt fluentMsg_missing_term_ref [r]⟩

theorem mem_missingRefs (rer : List (Slot × RefDict)) (ler : List (Slot × List Str)) (m : Msg) :
    m ∈ missingRefs rer ler ↔
      ∃ slot refs r t, (slot, refs) ∈ rer ∧ (r, t) ∈ refs ∧ r ∉ ddGet ler slot ∧ m = missingRefMsg r t := by
  simp only [missingRefs, List.mem_flatMap, List.mem_map, List.mem_filter, missingRefMsg]
  constructor
  · rintro ⟨⟨slot, refs⟩, h1, ⟨r, t⟩, ⟨h2, h3⟩, rfl⟩
    exact ⟨slot, refs, r, t, h1, h2, by simpa using h3, rfl⟩
  · rintro ⟨slot, refs, r, t, h1, h2, h3, rfl⟩
    exact ⟨(slot, refs), h1, (r, t), ⟨h2, by simpa using h3⟩, rfl⟩

theorem nodup_keys_foldl_refVisitAttribute (attrs : List Attribute) (st : RefState)
    (h : (dictKeys st.entryRefs).Nodup) : (dictKeys (attrs.foldl refVisitAttribute st).entryRefs).Nodup := by
  rw [entryRefs_foldl_refVisitAttribute, keys_foldl_dictSet (fun a : Attribute => some a.name)
    (fun er a => (evPattern false a.value).foldl refStep (ddGet er (some a.name)))]
  exact AR.foldl_ins_nodup _ _ h

theorem nodup_keys_refVisitEntry (ref : Message) : (dictKeys (refVisitEntry (.message ref)).entryRefs).Nodup := by
  unfold refVisitEntry refVisit
  apply nodup_keys_foldl_refVisitAttribute
  cases ref.value with
  | none => simp [refInit, dictKeys]
  | some p =>
    simp only [refInit]
    rw [dictKeys_dictSet]
    exact nodup_setAdd _ _ (by simp [dictKeys])

theorem mem_entryRefs_iff (ref : Message) (slot : Slot) (refs : RefDict) (hne : refs ≠ []) :
    (slot, refs) ∈ (refVisitEntry (.message ref)).entryRefs ↔ refs = refSlotDict ref slot := by
  rw [mem_dict_iff _ (nodup_keys_refVisitEntry ref)]
  unfold refSlotDict ddGet
  cases h : dictGet? (refVisitEntry (Entry.message ref)).entryRefs slot with
  | none =>
    simp only
    constructor
    · intro h'; cases h'
    · intro h'; exact absurd h' hne
  | some v =>
    simp only [Option.some.injEq]
    exact ⟨fun h' => h'.symm, fun h' => h'.symm⟩

theorem checkMessage_structure (kp : Option (List Str)) (ref l10n : Message) :
    checkMessage kp (.message ref) l10n =
      checkDuplicateAttributes l10n.attributes
      ++ valueMsgs kp (rrOf (refVisitEntry (.message ref)).entryRefs) l10n.value
      ++ attrsMsgs kp (rrOf (refVisitEntry (.message ref)).entryRefs) (refVisitEntry (.message ref)).css l10n.attributes
      ++ valueErrs ref.value.isSome l10n.value
      ++ missingAttrErrs (dictKeys (attrsPos [] ref.attributes)) (dictKeys (attrsPos [] l10n.attributes))
      ++ obsoleteAttrErrs (dictKeys (attrsPos [] ref.attributes)) (attrsPos [] l10n.attributes)
      ++ missingRefs (refVisitEntry (.message ref)).entryRefs
          (l10nVisitMessage kp (refVisitEntry (.message ref)) l10n).entryRefs := by
  unfold checkMessage
  simp only
  rw [l10nVisitMessage_refEntryRefs, missingRefs_touch, l10nVisitMessage_messages, refVisitEntry_message_hasValue, refVisitEntry_message_attrPos]

theorem nodup_foldl_evRefs (evs : List Ev) (s : List Str) (h : s.Nodup) : (evs.foldl evRefs s).Nodup := by
  rw [foldl_evRefs_eq]; exact AR.foldl_ins_nodup _ _ h

theorem nodup_keys_refSlotDict (ref : Message) (slot : Slot) : (dictKeys (refSlotDict ref slot)).Nodup := by
  rw [refSlotDict_eq, ← List.foldl_flatMap, keys_foldl_refStep]
  exact nodup_foldl_evRefs _ _ (by simp [dictKeys])

/-- what the TermVisitor appends when it visits a node -/
def termMsgs (kp : Option (List Str)) (e : Ev) : List Msg :=
  match e with
  | .select keys => checkVariants kp keys
  | _ => []

theorem foldl_termStep (kp : Option (List Str)) (evs : List Ev) (msgs : List Msg) :
    evs.foldl (termStep kp) msgs = msgs ++ evs.flatMap (termMsgs kp) := by
  induction evs generalizing msgs with
  | nil => simp
  | cons e r ih =>
    simp only [List.foldl_cons, List.flatMap_cons, ih]
    cases e <;> simp [termStep, termMsgs]

theorem checkTerm_structure (kp : Option (List Str)) (t : Term) :
    checkTerm kp t = checkDuplicateAttributes t.attributes
      ++ ((t.value :: t.attributes.map (·.value)).flatMap (evPattern true)).flatMap (termMsgs kp) := by
  unfold checkTerm
  simp only [foldl_termStep]
  have : ∀ (as : List Attribute) (m : List Msg),
      as.foldl (fun msgs a => msgs ++ (evPattern true a.value).flatMap (termMsgs kp)) m =
        m ++ ((as.map (·.value)).flatMap (evPattern true)).flatMap (termMsgs kp) := by
    intro as
    induction as with
    | nil => intro m; simp
    | cons a r ih => intro m; simp [ih, List.append_assoc]
  simp [this, List.append_assoc]

theorem checkTerm_warn (kp : Option (List Str)) (t : Term) : AllWarn (checkTerm kp t) := by
  rw [checkTerm_structure]
  refine (checkDuplicateAttributes_warn _).append (allWarn_flatMap _ _ fun e _ => ?_)
  cases e with
  | select keys => exact checkVariants_warn kp keys
  | _ => exact allWarn_nil

end Ftl
