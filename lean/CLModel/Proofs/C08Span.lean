/-
C08: verdicts do not depend on spans.  Two localizations that `FluentEntity.equals` calls equal (same AST up to
spans and comments — e.g. a copy that differs in white space / comments only, or the verbatim copy of the reference)
get the same messages up to positions.
-/
import CLModel.Proofs.C08Refs
import CLModel.Proofs.C08Plural
import CLModel.Checks.FluentExt
namespace C08E
open Ftl Gen.Tables

/-- a message without its position -/
def pf (m : Msg) : Str × Str := (m.sev, m.text)

def VKey.np : VKey → VKey
  | .ident _ n => .ident 0 n
  | .num _ v => .num 0 v

/-- a visited node without its positions -/
def Ev.np : Ev → Ev
  | .msgRef _ i a => .msgRef 0 i a
  | .termRef _ i a => .termRef 0 i a
  | .select keys => .select (keys.map VKey.np)

theorem vkey_eqv_np (a b : VKey) (h : VKey.eqv a b = true) : VKey.np a = VKey.np b := by
  cases a <;> cases b <;> simp [VKey.eqv, VKey.equals] at h <;> simp [VKey.np, h]

theorem optStrEq_eq (a b : Option Str) (h : optStrEq a b = true) : a = b := by
  cases a <;> cases b <;> simp [optStrEq] at h <;> simp [h]

theorem evExpr_termRef_none (d : Bool) (s : Nat) (i : Str) (a : Option Str) :
    evExpr d (.termRef s i a none) = [Ev.termRef s i a] := by cases d <;> rfl
theorem evExpr_termRef_some (d : Bool) (s : Nat) (i : Str) (a : Option Str) (c : CallArgs) :
    evExpr d (.termRef s i a (some c)) = Ev.termRef s i a :: (if d then evArgs d c else []) := by cases d <;> rfl
theorem evExpr_select (d : Bool) (sel : Expr) (vs : List Variant) :
    evExpr d (.select sel vs) = (if d then evExpr d sel else []) ++ evVariants d vs ++ [Ev.select (vs.map Variant.key)] := by
  cases d <;> rfl

/- Structural recursion on the FIRST tree (the second is taken apart by `cases`, as the `eqv` functions do).  The two
   variant lemmas also give the keys without positions: the `.select` event stores them. -/
mutual
  theorem ev_eqv_P (d : Bool) : ∀ p q : Pattern, p.eqv q = true → (evPattern d p).map Ev.np = (evPattern d q).map Ev.np
    | .mk s1 e1, .mk s2 e2, h => by
      simp only [Pattern.eqv] at h
      show (evElems d e1).map Ev.np = (evElems d e2).map Ev.np
      exact ev_eqv_Els d e1 e2 h
  termination_by structural a => a
  theorem ev_eqv_Els (d : Bool) : ∀ a b : List Elem, elemsEqv a b = true → (evElems d a).map Ev.np = (evElems d b).map Ev.np
    | [], b, h => by
      cases b with
      | nil => rfl
      | cons y s => simp [elemsEqv] at h
    | x :: r, b, h => by
      cases b with
      | nil => simp [elemsEqv] at h
      | cons y s =>
        simp only [elemsEqv, Bool.and_eq_true] at h
        show (evElem d x ++ evElems d r).map Ev.np = (evElem d y ++ evElems d s).map Ev.np
        rw [List.map_append, List.map_append, ev_eqv_El d x y h.1, ev_eqv_Els d r s h.2]
  termination_by structural a => a
  theorem ev_eqv_El (d : Bool) : ∀ a b : Elem, a.eqv b = true → (evElem d a).map Ev.np = (evElem d b).map Ev.np
    | .text v, b, h => by
      cases b with
      | text w => rfl
      | placeable e => simp [Elem.eqv] at h
    | .placeable e, b, h => by
      cases b with
      | text w => simp [Elem.eqv] at h
      | placeable e2 =>
        simp only [Elem.eqv] at h
        show (evExpr d e).map Ev.np = (evExpr d e2).map Ev.np
        exact ev_eqv_E d e e2 h
  termination_by structural a => a
  theorem ev_eqv_E (d : Bool) : ∀ a b : Expr, a.eqv b = true → (evExpr d a).map Ev.np = (evExpr d b).map Ev.np
    | .strLit v, b, h => by cases b <;> simp [Expr.eqv] at h <;> rfl
    | .numLit v, b, h => by cases b <;> simp [Expr.eqv] at h <;> rfl
    | .varRef v, b, h => by cases b <;> simp [Expr.eqv] at h <;> rfl
    | .msgRef s i a, b, h => by
      cases b with
      | msgRef s2 i2 a2 =>
        simp only [Expr.eqv, Bool.and_eq_true] at h
        have h1 : i = i2 := by simpa using h.1
        have h2 := optStrEq_eq a a2 h.2
        subst h1; subst h2
        rfl
      | _ => simp [Expr.eqv] at h
    | .termRef s i a none, b, h => by
      cases b with
      | termRef s2 i2 a2 x2 =>
        cases x2 with
        | none =>
          simp only [Expr.eqv, Bool.and_eq_true] at h
          have h1 : i = i2 := by simpa using h.1.1
          have h2 := optStrEq_eq a a2 h.1.2
          subst h1; subst h2
          rw [evExpr_termRef_none, evExpr_termRef_none]; rfl
        | some c2 => simp [Expr.eqv, optArgsEqv] at h
      | _ => simp [Expr.eqv] at h
    | .termRef s i a (some c), b, h => by
      cases b with
      | termRef s2 i2 a2 x2 =>
        cases x2 with
        | none => simp [Expr.eqv, optArgsEqv] at h
        | some c2 =>
          simp only [Expr.eqv, optArgsEqv, Bool.and_eq_true] at h
          have h1 : i = i2 := by simpa using h.1.1
          have h2 := optStrEq_eq a a2 h.1.2
          subst h1; subst h2
          have h3 := ev_eqv_Args d c c2 h.2
          rw [evExpr_termRef_some, evExpr_termRef_some]
          cases d
          · rfl
          · simp only [if_true, List.map_cons]
            rw [h3]; rfl
      | _ => simp [Expr.eqv] at h
    | .funRef i c, b, h => by
      cases b with
      | funRef i2 c2 =>
        simp only [Expr.eqv, Bool.and_eq_true] at h
        show (evArgs d c).map Ev.np = (evArgs d c2).map Ev.np
        exact ev_eqv_Args d c c2 h.2
      | _ => simp [Expr.eqv] at h
    | .select sel vs, b, h => by
      cases b with
      | select sel2 vs2 =>
        simp only [Expr.eqv, Bool.and_eq_true] at h
        have h1 := ev_eqv_E d sel sel2 h.1
        have h2 := ev_eqv_Vs d vs vs2 h.2
        rw [evExpr_select, evExpr_select]
        simp only [List.map_append, List.map_cons, List.map_nil]
        rw [h2.1]
        have hk : Ev.np (Ev.select (vs.map Variant.key)) = Ev.np (Ev.select (vs2.map Variant.key)) := by
          simp only [Ev.np]; rw [h2.2]
        rw [hk]
        cases d
        · rfl
        · simp only [if_true]; rw [h1]
      | _ => simp [Expr.eqv] at h
    | .placeable e, b, h => by
      cases b with
      | placeable e2 =>
        simp only [Expr.eqv] at h
        show (evExpr d e).map Ev.np = (evExpr d e2).map Ev.np
        exact ev_eqv_E d e e2 h
      | _ => simp [Expr.eqv] at h
  termination_by structural a => a
  theorem ev_eqv_Vs (d : Bool) : ∀ a b : List Variant, variantsEqv a b = true →
      (evVariants d a).map Ev.np = (evVariants d b).map Ev.np ∧
      (a.map Variant.key).map VKey.np = (b.map Variant.key).map VKey.np
    | [], b, h => by
      cases b with
      | nil => exact ⟨rfl, rfl⟩
      | cons y s => simp [variantsEqv] at h
    | x :: r, b, h => by
      cases b with
      | nil => simp [variantsEqv] at h
      | cons y s =>
        simp only [variantsEqv, Bool.and_eq_true] at h
        have h1 := ev_eqv_V d x y h.1
        have h2 := ev_eqv_Vs d r s h.2
        constructor
        · show (evVariant d x ++ evVariants d r).map Ev.np = (evVariant d y ++ evVariants d s).map Ev.np
          rw [List.map_append, List.map_append, h1.1, h2.1]
        · simp only [List.map_cons]
          rw [h1.2, h2.2]
  termination_by structural a => a
  theorem ev_eqv_V (d : Bool) : ∀ a b : Variant, a.eqv b = true →
      (evVariant d a).map Ev.np = (evVariant d b).map Ev.np ∧ VKey.np a.key = VKey.np b.key
    | .mk k1 p1 d1, .mk k2 p2 d2, h => by
      simp only [Variant.eqv, Bool.and_eq_true] at h
      refine ⟨?_, vkey_eqv_np k1 k2 h.1.1⟩
      show (evPattern d p1).map Ev.np = (evPattern d p2).map Ev.np
      exact ev_eqv_P d p1 p2 h.1.2
  termination_by structural a => a
  theorem ev_eqv_Args (d : Bool) : ∀ a b : CallArgs, a.eqv b = true → (evArgs d a).map Ev.np = (evArgs d b).map Ev.np
    | .mk p1 n1, .mk p2 n2, h => by
      simp only [CallArgs.eqv, Bool.and_eq_true] at h
      show (evExprs d p1).map Ev.np = (evExprs d p2).map Ev.np
      exact ev_eqv_Es d p1 p2 h.1
  termination_by structural a => a
  theorem ev_eqv_Es (d : Bool) : ∀ a b : List Expr, exprsEqv a b = true → (evExprs d a).map Ev.np = (evExprs d b).map Ev.np
    | [], b, h => by
      cases b with
      | nil => rfl
      | cons y s => simp [exprsEqv] at h
    | x :: r, b, h => by
      cases b with
      | nil => simp [exprsEqv] at h
      | cons y s =>
        simp only [exprsEqv, Bool.and_eq_true] at h
        show (evExpr d x ++ evExprs d r).map Ev.np = (evExpr d y ++ evExprs d s).map Ev.np
        rw [List.map_append, List.map_append, ev_eqv_E d x y h.1, ev_eqv_Es d r s h.2]
  termination_by structural a => a
end

theorem refKey_np (e : Ev) : (Ev.np e).refKey = e.refKey := by
  cases e <;> rfl

theorem evRefs_np (refs : List Str) (e : Ev) : evRefs refs (Ev.np e) = evRefs refs e := by
  simp only [evRefs, refKey_np]

theorem vkey_equals_np (a b : VKey) : VKey.equals (VKey.np a) (VKey.np b) = VKey.equals a b := by
  cases a <;> cases b <;> rfl

theorem vkey_str_np (k : VKey) : (VKey.np k).str = k.str := by cases k <;> rfl

theorem checkPlurals_pf (kp : Option (List Str)) (keys keys' : List VKey) (h : keys.map VKey.str = keys'.map VKey.str) :
    (checkPlurals kp keys).map pf = (checkPlurals kp keys').map pf := by
  cases kp with
  | none => rfl
  | some cats =>
    cases keys with
    | nil =>
      cases keys' with
      | nil => rfl
      | cons k r => simp at h
    | cons k0 r0 =>
      cases keys' with
      | nil => simp at h
      | cons k1 r1 =>
        simp only [checkPlurals, h]
        split
        · rfl
        · split
          · split
            · rfl
            · rfl
          · rfl

theorem checkVariants_np (kp : Option (List Str)) (keys : List VKey) :
    (checkVariants kp (keys.map VKey.np)).map pf = (checkVariants kp keys).map pf := by
  unfold checkVariants
  rw [List.map_append, List.map_append]
  congr 1
  · have := dupLoop_map VKey.equals VKey.equals VKey.np vkey_equals_np [] keys
    simp only [List.map_nil] at this
    rw [this, List.map_map, List.map_map, List.map_map]
    apply List.map_congr_left
    intro k _
    simp [pf, vkey_str_np]
  · apply checkPlurals_pf
    rw [List.map_map]
    apply List.map_congr_left
    intro k _
    simp [vkey_str_np]

theorem evMsgs_np (kp : Option (List Str)) (rr : List Str) (e : Ev) :
    (evMsgs kp rr (Ev.np e)).map pf = (evMsgs kp rr e).map pf := by
  cases e with
  | select keys => exact checkVariants_np kp keys
  | msgRef s i a =>
    simp only [Ev.np, evMsgs, Ev.refKey]
    split <;> (split <;> rfl)
  | termRef s i a =>
    simp only [Ev.np, evMsgs, Ev.refKey]
    cases a with
    | none => simp only [Option.isSome_none]; split <;> (try split) <;> rfl
    | some x => rfl

theorem termMsgs_np (kp : Option (List Str)) (e : Ev) : (termMsgs kp (Ev.np e)).map pf = (termMsgs kp e).map pf := by
  cases e with
  | select keys => exact checkVariants_np kp keys
  | msgRef s i a => rfl
  | termRef s i a => rfl

theorem flatMap_pf_np (f : Ev → List Msg) (hf : ∀ e, (f (Ev.np e)).map pf = (f e).map pf) (evs evs' : List Ev)
    (h : evs.map Ev.np = evs'.map Ev.np) : (evs.flatMap f).map pf = (evs'.flatMap f).map pf := by
  have key : ∀ l : List Ev, (l.flatMap f).map pf = (l.map Ev.np).flatMap (fun e => (f e).map pf) := by
    intro l
    induction l with
    | nil => rfl
    | cons e r ih => simp only [List.flatMap_cons, List.map_append, List.map_cons, ih, hf]
  rw [key, key, h]

theorem foldl_evRefs_np (evs evs' : List Ev) (s : List Str) (h : evs.map Ev.np = evs'.map Ev.np) :
    evs.foldl evRefs s = evs'.foldl evRefs s := by
  have key : ∀ (l : List Ev) (s : List Str), l.foldl evRefs s = (l.map Ev.np).foldl evRefs s := by
    intro l
    induction l with
    | nil => intro s; rfl
    | cons e r ih => intro s; simp only [List.foldl_cons, List.map_cons, evRefs_np]; exact ih _
  rw [key, key evs', h]

theorem patternVariants_eqv (p q : Pattern) (h : p.eqv q = true) : patternVariants p = patternVariants q := by
  cases p with
  | mk s1 e1 =>
    cases q with
    | mk s2 e2 =>
      simp only [Pattern.eqv] at h
      unfold patternVariants
      simp only [Pattern.elements]
      cases e1 with
      | nil =>
        cases e2 with
        | nil => rfl
        | cons y s => simp [elemsEqv] at h
      | cons x r =>
        cases e2 with
        | nil => simp [elemsEqv] at h
        | cons y s =>
          simp only [elemsEqv, Bool.and_eq_true] at h
          cases r with
          | nil =>
            cases s with
            | nil =>
              cases x with
              | text v =>
                cases y with
                | text w =>
                  have : v = w := by simpa [Elem.eqv] using h.1
                  subst this; rfl
                | placeable e => simp [Elem.eqv] at h
              | placeable e =>
                cases y with
                | text w => simp [Elem.eqv] at h
                | placeable e2 => rfl
            | cons y2 s2 => simp [elemsEqv] at h
          | cons x2 r2 =>
            cases s with
            | nil => simp [elemsEqv] at h
            | cons y2 s2 => cases x <;> cases y <;> rfl

theorem cssCheck_eqv (rc : CssVal) (a b : Attribute) (hn : a.name = b.name) (hv : a.value.eqv b.value = true) :
    cssCheck rc a = cssCheck rc b := by
  unfold cssCheck
  rw [hn, patternVariants_eqv a.value b.value hv]

@[elab_as_elim]
theorem attrsEqv_rec {P : List Attribute → List Attribute → Prop} (nil : P [] [])
    (cons : ∀ x y r s, x.name = y.name → x.value.eqv y.value = true → P r s → P (x :: r) (y :: s)) :
    ∀ (a b : List Attribute), attrsEqv a b = true → P a b
  | [], [], _ => nil
  | x :: r, y :: s, h => by
    simp only [attrsEqv, Attribute.eqv, Bool.and_eq_true, beq_iff_eq] at h
    exact cons x y r s h.1.1 h.1.2 (attrsEqv_rec nil cons r s h.2)
  | [], _ :: _, h => by simp [attrsEqv] at h
  | _ :: _, [], h => by simp [attrsEqv] at h

theorem attrsMsgs_eqv (kp : Option (List Str)) (rr : Slot → List Str) (rc : CssVal) (a b : List Attribute)
    (h : attrsEqv a b = true) : (attrsMsgs kp rr rc a).map pf = (attrsMsgs kp rr rc b).map pf := by
  revert rc
  refine attrsEqv_rec (fun _ => rfl) (fun x y r s hn hv ih rc => ?_) a b h
  simp only [attrsMsgs, List.map_append]
  rw [cssCheck_eqv rc x y hn hv, ih, hn, flatMap_pf_np _ (evMsgs_np kp _) _ _ (ev_eqv_P false x.value y.value hv)]

theorem names_eqv (a b : List Attribute) (h : attrsEqv a b = true) : a.map (·.name) = b.map (·.name) := by
  refine attrsEqv_rec rfl (fun x y r s hn _ ih => ?_) a b h
  simp only [List.map_cons, hn, ih]

theorem attrsRefs_eqv (a b : List Attribute) (er : List (Slot × List Str)) (h : attrsEqv a b = true) :
    attrsRefs er a = attrsRefs er b := by
  revert er
  refine attrsEqv_rec (fun _ => rfl) (fun x y r s hn hv ih er => ?_) a b h
  simp only [attrsRefs, List.foldl_cons] at ih ⊢
  rw [hn, foldl_evRefs_np _ _ _ (ev_eqv_P false x.value y.value hv)]
  exact ih _

theorem checkDuplicateAttributes_pf (a b : List Attribute) (h : a.map (·.name) = b.map (·.name)) :
    (checkDuplicateAttributes a).map pf = (checkDuplicateAttributes b).map pf := by
  have key : ∀ l : List Attribute, (checkDuplicateAttributes l).map pf =
      (dupLoop (fun x y : Str => x == y) [] (l.map (·.name))).map (fun n => (sevWarning, fmt fluentMsg_duplicate_attribute [n])) := by
    intro l
    have := dupLoop_map (fun x y : Attribute => x.name == y.name) (fun a b : Str => a == b) (·.name)
      (fun _ _ => rfl) [] l
    simp only [List.map_nil] at this
    rw [this]
    simp only [checkDuplicateAttributes, List.map_map]
    apply List.map_congr_left
    intro x _
    rfl
  rw [key, key, h]

theorem valueErrs_pf (rh : Bool) (v v' : Option Pattern) (h : v.isSome = v'.isSome) :
    (valueErrs rh v).map pf = (valueErrs rh v').map pf := by
  cases v <;> cases v' <;> simp at h <;> cases rh <;> simp [valueErrs, pf]

theorem obsoleteAttrErrs_pf (refAttrs : List Str) (d d' : List (Str × Nat)) (h : dictKeys d = dictKeys d') :
    (obsoleteAttrErrs refAttrs d).map pf = (obsoleteAttrErrs refAttrs d').map pf := by
  have key : ∀ l : List (Str × Nat), (obsoleteAttrErrs refAttrs l).map pf =
      ((dictKeys l).filter (fun n => !refAttrs.contains n)).map (fun n => (sevError, fmt fluentMsg_obsolete_attribute [n])) := by
    intro l
    simp only [obsoleteAttrErrs, dictKeys, List.map_map, List.filter_map]
    rfl
  rw [key, key, h]

theorem optPatternEqv_cases {v v' : Option Pattern} (h : optPatternEqv v v' = true) :
    (v = none ∧ v' = none) ∨ ∃ p q, v = some p ∧ v' = some q ∧ p.eqv q = true := by
  cases v <;> cases v' <;> simp_all [optPatternEqv]

theorem checkMessage_eqv (kp : Option (List Str)) (ref l l' : Message)
    (hv : optPatternEqv l.value l'.value = true) (ha : attrsEqv l.attributes l'.attributes = true) :
    (checkMessage kp (.message ref) l).map pf = (checkMessage kp (.message ref) l').map pf := by
  have hnames := names_eqv _ _ ha
  have hkeys : dictKeys (attrsPos [] l.attributes) = dictKeys (attrsPos [] l'.attributes) := by
    rw [keys_attrsPos, keys_attrsPos, hnames]
  have hsome : l.value.isSome = l'.value.isSome := by
    rcases optPatternEqv_cases hv with ⟨h1, h2⟩ | ⟨p, q, h1, h2, -⟩ <;> rw [h1, h2] <;> rfl
  have hvm : ∀ rr, (valueMsgs kp rr l.value).map pf = (valueMsgs kp rr l'.value).map pf := by
    intro rr
    rcases optPatternEqv_cases hv with ⟨h1, h2⟩ | ⟨p, q, h1, h2, hpq⟩ <;> rw [h1, h2]
    exact flatMap_pf_np _ (evMsgs_np kp _) _ _ (ev_eqv_P false p q hpq)
  have her : (l10nVisitMessage kp (refVisitEntry (.message ref)) l).entryRefs =
      (l10nVisitMessage kp (refVisitEntry (.message ref)) l').entryRefs := by
    rw [l10nVisitMessage_entryRefs, l10nVisitMessage_entryRefs]
    rcases optPatternEqv_cases hv with ⟨h1, h2⟩ | ⟨p, q, h1, h2, hpq⟩ <;> rw [h1, h2]
    · exact attrsRefs_eqv _ _ _ ha
    · simp only
      rw [foldl_evRefs_np _ _ _ (ev_eqv_P false p q hpq)]
      exact attrsRefs_eqv _ _ _ ha
  rw [checkMessage_structure, checkMessage_structure]
  simp only [List.map_append]
  rw [checkDuplicateAttributes_pf _ _ hnames, hvm, attrsMsgs_eqv kp _ _ _ _ ha, valueErrs_pf _ _ _ hsome, hkeys,
    obsoleteAttrErrs_pf _ _ _ hkeys, her]

theorem attrValues_ev_eqv (a b : List Attribute) (h : attrsEqv a b = true) :
    ((a.map (·.value)).flatMap (evPattern true)).map Ev.np = ((b.map (·.value)).flatMap (evPattern true)).map Ev.np := by
  refine attrsEqv_rec rfl (fun x y r s _ hv ih => ?_) a b h
  simp only [List.map_cons, List.flatMap_cons, List.map_append]
  rw [ev_eqv_P true x.value y.value hv, ih]

/-! ### through `check`: the sort permutes, so the multiset of (severity, text) is what is invariant -/

def opf (o : Out) : Str × Str := (o.sev, o.text)

theorem finish_opf_perm (start : Nat) (msgs : List Msg) : ((finish start msgs).map opf).Perm (msgs.map pf) := by
  have h := (finish_perm start msgs).map opf
  have : (msgs.map (toOut start)).map opf = msgs.map pf := by
    rw [List.map_map]; rfl
  rw [this] at h
  exact h

end C08E
