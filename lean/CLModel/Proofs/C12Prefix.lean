/- A value that expands (no variable missing, none repeated) to a text `t` compiles to literal characters and groups of
   such spelling `t` (`LitLike`, one walk over `expandVal` / `rxVal`); such items can only match `t` (`Exact`).  At the
   end: the order of repeated variables in a node list (`C11X.RepN`). -/
import CLModel.Proofs.C11Shape
import CLModel.Proofs.C12Fuel
import CLModel.Proofs.Dict
namespace PM
open Rx

/-- `items` can only match the text `t` (whatever follows) -/
def Exact (items : List Re) (t : Text) : Prop :=
  ∀ (s : Array Nat) (rest : List Re) (st st' : St), SemL s (items ++ rest) st st' →
    TextAt s st.pos t ∧ ∃ mid, mid.pos = st.pos + t.length ∧ SemL s rest mid st'

/-- `items` can only match something that starts with `t` -/
def StartsWith (items : List Re) (t : Text) : Prop :=
  ∀ (s : Array Nat) (rest : List Re) (st st' : St), SemL s (items ++ rest) st st' → TextAt s st.pos t

def NodeNoRep : Node → Prop
  | .var _ r => r = false
  | .android r => r = false
  | _ => True

def NoRep (ns : List Node) : Prop := ∀ n ∈ ns, NodeNoRep n

/-- values of a `Matcher` environment: parsed patterns (never the `Literal`s that `sub` adds), unrooted -/
def ValOK : Val → Prop
  | .str _ => False
  | .pat p => p.root = none ∧ NoRep p.nodes

def EnvOK (env : Env) : Prop := ∀ k v, (k, v) ∈ env → ValOK v

theorem EnvOK.derase {env : Env} (h : EnvOK env) (k : Text) : EnvOK (derase env k) := by
  intro k' v hm
  exact h k' v (List.mem_filter.mp hm).1

theorem EnvOK.lookup {env : Env} (h : EnvOK env) {k : Text} {v : Val} (hl : env.lookup k = some v) : ValOK v :=
  h k v (AR.lookup_mem hl)

theorem exact_nil : Exact [] [] := by
  intro s rest st st' h
  exact ⟨fun j hj => by simp at hj, st, by simp, by simpa using h⟩

theorem exact_lits (t : Text) : Exact (t.map Re.lit) t := by
  intro s rest st st' h
  obtain ⟨h1, h2⟩ := semL_lits t h
  exact ⟨h1, _, rfl, h2⟩

theorem Exact.append {a b : List Re} {ta tb : Text} (ha : Exact a ta) (hb : Exact b tb) :
    Exact (a ++ b) (ta ++ tb) := by
  intro s rest st st' h
  rw [List.append_assoc] at h
  obtain ⟨h1, mid1, hp1, h2⟩ := ha s _ st st' h
  obtain ⟨h3, mid2, hp2, h4⟩ := hb s _ mid1 st' h2
  refine ⟨TextAt.append h1 (by rw [← hp1]; exact h3), mid2, ?_, h4⟩
  simp [hp2, hp1]; omega

theorem Exact.startsWith_append {a b : List Re} {ta tb : Text} (ha : Exact a ta) (hb : StartsWith b tb) :
    StartsWith (a ++ b) (ta ++ tb) := by
  intro s rest st st' h
  rw [List.append_assoc] at h
  obtain ⟨h1, mid1, hp1, h2⟩ := ha s _ st st' h
  have h3 := hb s _ mid1 st' h2
  exact TextAt.append h1 (by rw [← hp1]; exact h3)

theorem exact_group {i : Nat} {body : List Re} {t : Text} (hb : Exact body t) :
    Exact [Re.group i (seqOf body)] t := by
  intro s rest st st' h
  cases h with
  | cons hx hr =>
    cases hx with
    | group hg =>
      rename_i st0
      have hl := sem_seqOf body hg
      have hl' : SemL s (body ++ []) st st0 := by simpa using hl
      obtain ⟨h1, mid, hp, h2⟩ := hb s [] st st0 hl'
      cases h2
      refine ⟨h1, { st0 with caps := (i, st.pos, st0.pos) :: st0.caps }, hp, ?_⟩
      simpa using hr

theorem agree_of_le {f f' : Nat} (hle : f ≤ f') : AgreeE (expandVal f) (expandVal f') := by
  intro v env rm hne
  exact expandVal_mono hle rfl hne

theorem android_same {f1 f2 : Nat} {env : Env} {a : Text} {r : Except PyErr (Option Text)}
    (h1 : getAndroidLocale (expandVal f1) env = .ok (some a))
    (h2 : getAndroidLocale (expandVal f2) env = r) (hne : r ≠ .error .recursion) : r = .ok (some a) := by
  have e1 := getAndroidLocale_agree (agree_of_le (Nat.le_max_left f1 f2)) env (by rw [h1]; intro hc; cases hc)
  have e2 := getAndroidLocale_agree (agree_of_le (Nat.le_max_right f1 f2)) env (by rw [h2]; exact hne)
  rw [← h2, ← e2, e1, h1]

/-- what the walk over `expandNode`/`rxNode` … `expandVal`/`rxVal` takes as its hypothesis about values (`fE`, `fR`: the
    fuel of the expansion and of the compilation): a value that expands to `t` compiles to items that can only match `t` -/
def HR (fE fR : Nat) : Prop :=
  ∀ v env t items names, ValOK v → EnvOK env → expandVal fE v env true = .ok t →
    rxVal fR v env = .ok (items, names) → Exact items t

theorem expandChildren_cons_ok {rec : ExpRec} {c : Node} {cs : List Node} {env : Env} {rm : Bool} {t : Text}
    (h : expandChildren rec (c :: cs) env rm = .ok t) :
    (expandNode rec c env true = .error .missingEnv ∧ rm = false ∧ t = []) ∨
    ∃ a b, expandNode rec c env true = .ok a ∧ expandChildren rec cs env rm = .ok b ∧ t = a ++ b := by
  simp only [expandChildren] at h
  cases hn : expandNode rec c env true with
  | error e =>
    simp only [hn] at h
    cases e with
    | missingEnv =>
      simp only at h
      split at h
      · cases h
      · rename_i hrm
        simp only [pure, Except.pure, Except.ok.injEq] at h
        exact Or.inl ⟨rfl, by simpa using hrm, h.symm⟩
    | notStr =>
      simp only at h
      split at h <;> cases h
    | _ => cases h
  | ok a =>
    simp only [hn, bind, Except.bind] at h
    split at h
    · cases h
    · rename_i b hb
      simp only [pure, Except.pure, Except.ok.injEq] at h
      exact Or.inr ⟨a, b, rfl, hb, h.symm⟩

theorem rootOf_none {rec : ExpRec} {p : Pattern} {env : Env} (h : p.root = none) : rootOf rec p env = .ok [] := by
  simp [rootOf, h, pure, Except.pure]

theorem expandPat_ok {rec : ExpRec} {p : Pattern} {env : Env} {rm : Bool} {t : Text} (h : expandPat rec p env rm = .ok t) :
    ∃ root body, rootOf rec p env = .ok root ∧ expandChildren rec p.nodes env rm = .ok body ∧ t = root ++ body := by
  simp only [expandPat, bind, Except.bind] at h
  split at h
  · cases h
  · split at h
    · cases h
    · exact ⟨_, _, ‹_›, ‹_›, (Except.ok.inj h).symm⟩

theorem rootOf_append {rec : ExpRec} {env : Env} {p q : Pattern} (hr : q.root = p.root) (hne : p.nodes ≠ [])
    (hn : ∃ tl, q.nodes = p.nodes ++ tl) : rootOf rec q env = rootOf rec p env := by
  obtain ⟨tl, hn⟩ := hn
  unfold rootOf
  rw [hr, hn]
  cases hp : p.nodes with
  | nil => exact absurd hp hne
  | cons n0 t => rfl

/-- regex items consisting of literal characters and groups of such, and the text they spell -/
inductive LitLike : List Re → Text → Prop
  | nil : LitLike [] []
  | lit {c rest t} : LitLike rest t → LitLike (Re.lit c :: rest) (c :: t)
  | group {i body tb rest t} : LitLike body tb → LitLike rest t →
      LitLike (Re.group i (seqOf body) :: rest) (tb ++ t)

theorem LitLike.append {a b : List Re} {ta tb : Text} (ha : LitLike a ta) (hb : LitLike b tb) :
    LitLike (a ++ b) (ta ++ tb) := by
  induction ha with
  | nil => simpa using hb
  | lit _ ih => simpa using LitLike.lit ih
  | group hbody _ _ ih => simpa [List.append_assoc] using LitLike.group hbody ih

theorem litlike_lits : ∀ (t : Text), LitLike (t.map Re.lit) t
  | [] => LitLike.nil
  | _ :: t => LitLike.lit (litlike_lits t)

theorem litlike_group {i : Nat} {body : List Re} {t : Text} (h : LitLike body t) :
    LitLike [Re.group i (seqOf body)] t := by
  simpa using LitLike.group (i := i) h LitLike.nil

theorem LitLike.exact {items : List Re} {t : Text} (h : LitLike items t) : Exact items t := by
  induction h with
  | nil => exact exact_nil
  | @lit c rest t _ ih => exact (exact_lits [c]).append ih
  | group _ _ ihb ihr => exact (exact_group ihb).append ihr

/-- `HR` with the syntactic `LitLike` in place of `Exact` -/
def HL (fE fR : Nat) : Prop :=
  ∀ v env t items names, ValOK v → EnvOK env → expandVal fE v env true = .ok t →
    rxVal fR v env = .ok (items, names) → LitLike items t

theorem litlike_node {fE fR : Nat} (ih : HL fE fR) {c : Node} (hc : NodeNoRep c) {env : Env} (henv : EnvOK env)
    {t : Text} {items names} (he : expandNode (expandVal fE) c env true = .ok t)
    (hr : rxNode (rxVal fR) c env = .ok (items, names)) : LitLike items t := by
  cases c with
  | lit s =>
    simp only [expandNode, rxNode, pure, Except.pure, Except.ok.injEq, Prod.mk.injEq] at he hr
    obtain ⟨rfl, _⟩ := hr
    subst he
    exact litlike_lits _
  | var name rep =>
    have hrep : rep = false := hc
    subst hrep
    simp only [expandNode, rxNode] at he hr
    cases hl : env.lookup name with
    | none => simp [hl] at he
    | some v =>
      simp only [hl, Bool.false_eq_true, if_false, bind, Except.bind] at he hr
      split at hr
      · cases hr
      · rename_i w hw
        obtain ⟨body, ns⟩ := w
        simp only [pure, Except.pure, Except.ok.injEq, Prod.mk.injEq] at hr
        obtain ⟨rfl, _⟩ := hr
        exact litlike_group (ih v _ t body ns (henv.lookup hl) (henv.derase name) he hw)
  | android rep =>
    have hrep : rep = false := hc
    subst hrep
    simp only [expandNode, rxNode, bind, Except.bind] at he hr
    cases hg : getAndroidLocale (expandVal fE) env with
    | error e => simp [hg] at he
    | ok oa =>
      cases oa with
      | none => simp [hg] at he
      | some a =>
        simp only [hg, pure, Except.pure, Except.ok.injEq] at he
        subst he
        have hne : getAndroidLocale (expandVal (fuelFor env)) env ≠ .error .recursion := by
          intro hcn
          simp [hcn] at hr
        have := android_same hg rfl hne
        simp only [this, Bool.false_eq_true, if_false, pure, Except.pure, Except.ok.injEq, Prod.mk.injEq] at hr
        obtain ⟨rfl, _⟩ := hr
        exact litlike_group (litlike_lits _)
  | star n =>
    simp only [expandNode] at he
    split at he
    · cases he
    · rename_i s hs
      exact absurd (henv.lookup hs) (by simp [ValOK])
    · cases he
  | starstar n sfx =>
    simp only [expandNode] at he
    split at he
    · cases he
    · rename_i s hs
      exact absurd (henv.lookup hs) (by simp [ValOK])
    · cases he

theorem litlike_children {fE fR : Nat} (ih : HL fE fR) {env : Env} (henv : EnvOK env) :
    ∀ {ns : List Node} {t : Text} {items names}, NoRep ns →
      expandChildren (expandVal fE) ns env true = .ok t →
      rxChildren (rxVal fR) ns env = .ok (items, names) → LitLike items t
  | [], t, items, names, _, he, hr => by
    simp only [expandChildren, rxChildren, pure, Except.pure, Except.ok.injEq, Prod.mk.injEq] at he hr
    obtain ⟨rfl, _⟩ := hr
    subst he
    exact LitLike.nil
  | c :: cs, t, items, names, hnr, he, hr => by
    obtain ⟨a, na, b, nb, h1, h2, rfl, rfl⟩ := rxChildren_cons hr
    rcases expandChildren_cons_ok he with ⟨_, hrm, _⟩ | ⟨ta, tb, h3, h4, rfl⟩
    · cases hrm
    · exact (litlike_node ih (hnr c (by simp)) henv h3 h1).append
        (litlike_children ih henv (fun n hn => hnr n (by simp [hn])) h4 h2)

theorem litlike_val : ∀ fR fE, HL fE fR
  | 0, _ => by
    intro v env t items names hv _ _ hr
    cases v with
    | str s => exact absurd hv (by simp [ValOK])
    | pat p => simp [rxVal] at hr
  | fR + 1, 0 => by
    intro v env t items names hv _ he _
    cases v with
    | str s => exact absurd hv (by simp [ValOK])
    | pat p => simp [expandVal] at he
  | fR + 1, fE + 1 => by
    intro v env t items names hv henv he hr
    cases v with
    | str s => exact absurd hv (by simp [ValOK])
    | pat p =>
      obtain ⟨hroot, hnr⟩ := hv
      simp only [expandVal, rxVal] at he hr
      obtain ⟨root, citems, h1, h2, rfl⟩ := rxPat_inv hr
      cases (rootOf_none hroot).symm.trans h1
      obtain ⟨_, body, hr0, hb, rfl⟩ := expandPat_ok he
      cases (rootOf_none hroot).symm.trans hr0
      simpa using litlike_children (litlike_val fR fE) henv hnr hb h2

/-- the regular expression built for a value that expands (without missing variables) to `t` matches exactly `t` -/
theorem exact_val : ∀ fR fE, HR fE fR :=
  fun fR fE v env t items names hv henv he hr => (litlike_val fR fE v env t items names hv henv he hr).exact

theorem startsWith_children {fE fR : Nat} (ih : HR fE fR) {env : Env} (henv : EnvOK env) :
    ∀ {ns : List Node} {t : Text} {items names}, NoRep ns →
      expandChildren (expandVal fE) ns env false = .ok t →
      rxChildren (rxVal fR) ns env = .ok (items, names) → StartsWith items t
  | [], t, items, names, _, he, _ => by
    simp only [expandChildren, pure, Except.pure, Except.ok.injEq] at he
    subst he
    intro s rest st st' _ j hj
    simp at hj
  | c :: cs, t, items, names, hnr, he, hr => by
    obtain ⟨a, na, b, nb, h1, h2, rfl, rfl⟩ := rxChildren_cons hr
    rcases expandChildren_cons_ok he with ⟨_, _, rfl⟩ | ⟨ta, tb, h3, h4, rfl⟩
    · intro s rest st st' _ j hj
      simp at hj
    · exact (litlike_node (litlike_val fR fE) (hnr c (by simp)) henv h3 h1).exact.startsWith_append
        (startsWith_children ih henv (fun n hn => hnr n (by simp [hn])) h4 h2)

theorem parsePattern_root {t : Text} {p : Pattern} (h : parsePattern t = .ok p) : p.root = none := by
  simp only [parsePattern, bind, Except.bind] at h
  split at h
  · cases h
  · simp only [pure, Except.pure, Except.ok.injEq] at h
    subst h; rfl

theorem realEnv_all {P : Pattern → Prop} (hP : ∀ t p, parsePattern t = .ok p → P p) :
    ∀ {env : List (Text × Text)} {e : Env}, realEnv env = .ok e → ∀ k v, (k, v) ∈ e → ∃ p, v = Val.pat p ∧ P p
  | [], e, h, k, v, hm => by
    simp only [realEnv, pure, Except.pure, Except.ok.injEq] at h
    subst h; cases hm
  | (a, b) :: rest, e, h, k, v, hm => by
    simp only [realEnv, bind, Except.bind] at h
    split at h
    · cases h
    · rename_i p hp
      split at h
      · cases h
      · rename_i e' he'
        simp only [pure, Except.pure, Except.ok.injEq] at h
        subst h
        simp only [List.mem_cons, Prod.mk.injEq] at hm
        rcases hm with ⟨_, rfl⟩ | hm
        · exact ⟨p, rfl, hP b p hp⟩
        · exact realEnv_all hP he' k v hm

theorem mkMatcher_inv {pat : Text} {env : List (Text × Text)} {root : Option Text} {m : Matcher}
    (h : mkMatcher pat env root = .ok m) :
    ∃ p, parsePattern pat = .ok p ∧ realEnv env = .ok m.env ∧ m.pattern = { p with root := root } := by
  simp only [mkMatcher, bind, Except.bind] at h
  split at h
  · cases h
  · rename_i e he
    split at h
    · cases h
    · rename_i p hp
      simp only [pure, Except.pure, Except.ok.injEq] at h
      subst h
      exact ⟨p, hp, he, rfl⟩

theorem mkMatcher_env {pat : Text} {env : List (Text × Text)} {root : Option Text} {m : Matcher}
    (h : mkMatcher pat env root = .ok m) : ∀ k v, (k, v) ∈ m.env → ∃ p, v = Val.pat p ∧ p.root = none :=
  let ⟨_, _, he, _⟩ := mkMatcher_inv h
  realEnv_all (fun _ _ => parsePattern_root) he

end PM

namespace C11X
open PM

/-- every repeated variable has an earlier first occurrence (`kn` = the variable names seen so far): what the parser makes -/
def RepN : List Text → List Node → Prop
  | _, [] => True
  | kn, .var name false :: r => RepN (name :: kn) r
  | kn, .var name true :: r => name ∈ kn ∧ RepN kn r
  | kn, _ :: r => RepN kn r

theorem repN_first {name : Text} : ∀ {ns : List Node} {kn : List Text}, RepN kn ns →
    Node.var name true ∈ ns → name ∈ kn ∨ Node.var name false ∈ ns
  | [], _, _, h => by cases h
  | c :: cs, kn, hc, h => by
    rcases List.mem_cons.mp h with he | hm
    · subst he; exact Or.inl hc.1
    · cases c with
      | lit t => exact (repN_first (ns := cs) hc hm).imp id (fun h' => List.mem_cons_of_mem _ h')
      | star k => exact (repN_first (ns := cs) hc hm).imp id (fun h' => List.mem_cons_of_mem _ h')
      | starstar k sfx => exact (repN_first (ns := cs) hc hm).imp id (fun h' => List.mem_cons_of_mem _ h')
      | android r => exact (repN_first (ns := cs) hc hm).imp id (fun h' => List.mem_cons_of_mem _ h')
      | var nm rep =>
        cases rep with
        | true => exact (repN_first (ns := cs) hc.2 hm).imp id (fun h' => List.mem_cons_of_mem _ h')
        | false =>
          rcases repN_first (ns := cs) hc hm with h' | h'
          · rcases List.mem_cons.mp h' with e | h'
            · subst e; exact Or.inr (by simp)
            · exact Or.inl h'
          · exact Or.inr (List.mem_cons_of_mem _ h')

theorem repN_of_noRep : ∀ {ns : List Node} (kn : List Text), (∀ n ∈ ns, ∀ name, n ≠ .var name true) → RepN kn ns
  | [], _, _ => trivial
  | c :: cs, kn, h => by
    have ih := fun kn' => repN_of_noRep (ns := cs) kn' fun n hn => h n (by simp [hn])
    cases c with
    | var name rep => cases rep with
      | true => exact absurd rfl (h _ (by simp) name)
      | false => exact ih _
    | _ => exact ih _

end C11X
