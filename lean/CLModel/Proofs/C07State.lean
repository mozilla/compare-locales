/-
The checker instance as a state machine (`DtdState`).
The state only memoises: under the invariant `Inv` every step's verdict is `Dtd.check` of the values.
-/
import CLModel.Checks.DtdState
import CLModel.Proofs.C07Model
namespace C07S
open Dtd DtdState

/-- the union of the names referenced by the reference values: what `__known_entities` holds once filled -/
def knownOf (vals : List Text) : List Text := vals.foldl (fun acc v => sunion acc (entitiesForValue v)) []

/-- invariant of a checker object used as the real callers use it (`__init__`, at most one `set_reference` BEFORE
    the first `check`, then `check`s): `processContent` mirrors the extra test, and a filled memo is the memo of the
    CURRENT reference -/
structure Inv (st : State) : Prop where
  pc : st.processContent = st.extraAndroid
  memo : ∀ k, st.known = some k → ∃ vals, st.reference = some vals ∧ k = knownOf vals

theorem inv_init (android : Bool) (t0 : Text) : Inv (init android t0) := by
  constructor
  · cases android <;> rfl
  · intro k h; simp [init] at h

theorem inv_setReference (st : State) (vals : List Text) (h : Inv st) (hk : st.known = none) :
    Inv (setReference st vals) := by
  constructor
  · exact h.pc
  · intro k hk'; simp [setReference, hk] at hk'

theorem knownEntitiesS_fst (st : State) (v : Text) : ∃ kn, (knownEntitiesS st v).1 = { st with known := kn } := by
  obtain ⟨ea, pc, rf, kn, tc, cc⟩ := st
  cases kn <;> cases rf <;> exact ⟨_, rfl⟩

theorem knownEntitiesS_spec (st : State) (ref l10n : Ent) (h : Inv st) :
    (knownEntitiesS st ref.val).2 = knownEntities (inpOf st ref l10n) ∧ Inv (knownEntitiesS st ref.val).1 := by
  unfold knownEntitiesS knownEntities inpOf
  cases hk : st.known with
  | none =>
    cases hr : st.reference with
    | none => simp [hk]; exact h
    | some vals =>
      simp only [true_and]
      refine ⟨h.pc, ?_⟩
      intro k hk'
      simp only [Option.some.injEq] at hk'
      exact ⟨vals, rfl, hk'.symm⟩
  | some k =>
    obtain ⟨vals, hr, rfl⟩ := h.memo k hk
    simp only [hk, hr]
    exact ⟨rfl, h⟩

theorem refSectionR_eq (xmlParse : Bytes → ParseRes) (i : Inp) :
    refSectionR xmlParse (refDecls i) i.ref = refSection xmlParse i := rfl

theorem l10nSectionR_eq (xmlParse : Bytes → ParseRes) (i : Inp) :
    l10nSectionR xmlParse (l10nDecls i) i.l10n = l10nSection xmlParse i := rfl

theorem unknownSectionR_eq (i : Inp) :
    unknownSectionR (reflistOf i) (inContextOf i) (missingOf i) = unknownSection i := rfl

theorem mismatchSectionR_eq (i : Inp) :
    mismatchSectionR (inContextOf i) (l10nlistOf i) (missingOf i) = mismatchSection i := rfl

theorem maybeStyleS_snd (st : State) (a b : Text) : (maybeStyleS st a b).2 = maybeStyle a b := by
  unfold maybeStyleS maybeStyle parseCssSpecS
  simp only []
  cases (parseCssSpec a).1 with
  | none => rfl
  | some m => cases m <;> rfl

theorem maybeStyleS_frame (st : State) (a b : Text) :
    (maybeStyleS st a b).1 = { st with cssCompiled := true } := by
  unfold maybeStyleS parseCssSpecS
  simp only []
  cases (parseCssSpec a).1 with
  | none => cases st; rename_i _ _ _ _ _ c; cases c <;> rfl
  | some m =>
    cases m with
    | nil => cases st; rename_i _ _ _ _ _ c; cases c <;> rfl
    | cons x xs => cases st; rename_i _ _ _ _ _ c; cases c <;> rfl

theorem step_verdict (xmlParse : Bytes → ParseRes) (st : State) (ref l10n : Ent) (h : Inv st) :
    (step xmlParse st ref l10n).2 = check xmlParse (inpOf st ref l10n) := by
  obtain ⟨hk, -⟩ := knownEntitiesS_spec st ref l10n h
  obtain ⟨kn, hfst⟩ := knownEntitiesS_fst st ref.val
  have hea : (knownEntitiesS st ref.val).1.extraAndroid = st.extraAndroid := by rw [hfst]
  have hpc1 : (knownEntitiesS st ref.val).1.processContent = st.extraAndroid := by rw [hfst]; exact h.pc
  clear hfst
  unfold step
  simp only []
  -- freeze the state after `known_entities`; `e1 … e4` re-spell the four `rfl` bridges so that `rw` finds them
  generalize knownEntitiesS st ref.val = ks at *
  obtain ⟨⟨ea, pc, rf, kn, tc, cc⟩, rl⟩ := ks
  simp only at hk hea hpc1
  subst hk hea hpc1
  have e1 : refSectionR xmlParse (entityDecls (knownEntities (inpOf st ref l10n))) ref
      = refSection xmlParse (inpOf st ref l10n) := refSectionR_eq xmlParse (inpOf st ref l10n)
  have e2 : l10nSectionR xmlParse (entityDecls (knownEntities (inpOf st ref l10n)) ++
        entityDecls (sdiff (entitiesForValue l10n.val) (knownEntities (inpOf st ref l10n)))) l10n
      = l10nSection xmlParse (inpOf st ref l10n) := l10nSectionR_eq xmlParse (inpOf st ref l10n)
  have e3 : unknownSectionR (knownEntities (inpOf st ref l10n)) (entitiesForValue ref.val)
        (sdiff (entitiesForValue l10n.val) (knownEntities (inpOf st ref l10n)))
      = unknownSection (inpOf st ref l10n) := unknownSectionR_eq (inpOf st ref l10n)
  have e4 : mismatchSectionR (entitiesForValue ref.val) (entitiesForValue l10n.val)
        (sdiff (entitiesForValue l10n.val) (knownEntities (inpOf st ref l10n)))
      = mismatchSection (inpOf st ref l10n) := mismatchSectionR_eq (inpOf st ref l10n)
  rw [e1, e2, e3, e4]
  unfold check
  have ha : (inpOf st ref l10n).android = st.extraAndroid := rfl
  have hr : (inpOf st ref l10n).ref = ref := rfl
  have hl : (inpOf st ref l10n).l10n = l10n := rfl
  split
  · rename_i e hx
    simp only []
    rw [andThen_exc_some (refSection xmlParse _) _ e hx]
    rfl
  · split
    · rename_i e hy
      simp only []
      rw [andThen_exc_some (l10nSection xmlParse _).1 _ e hy]
      rfl
    · simp only [maybeStyleS_snd, maybeStyleS_frame]
      rw [ha, hr, hl]
      cases hand : st.extraAndroid <;> simp

theorem step_state (xmlParse : Bytes → ParseRes) (st : State) (ref l10n : Ent) :
    ∃ tc cc, (step xmlParse st ref l10n).1 = { (knownEntitiesS st ref.val).1 with textcontent := tc, cssCompiled := cc } := by
  unfold step
  simp only []
  generalize knownEntitiesS st ref.val = ks
  obtain ⟨⟨ea, pc, rf, kn, tc, cc⟩, rl⟩ := ks
  split
  · exact ⟨_, _, rfl⟩
  · split
    · cases pc <;> exact ⟨_, _, rfl⟩
    · simp only [maybeStyleS_frame]
      cases pc <;> exact ⟨_, _, rfl⟩

theorem inv_step (xmlParse : Bytes → ParseRes) (st : State) (ref l10n : Ent) (h : Inv st) :
    Inv (step xmlParse st ref l10n).1 := by
  obtain ⟨-, hinv⟩ := knownEntitiesS_spec st ref l10n h
  obtain ⟨tc, cc, he⟩ := step_state xmlParse st ref l10n
  rw [he]
  exact ⟨hinv.pc, hinv.memo⟩

theorem step_frame (xmlParse : Bytes → ParseRes) (st : State) (ref l10n : Ent) :
    (step xmlParse st ref l10n).1.extraAndroid = st.extraAndroid ∧
    (step xmlParse st ref l10n).1.reference = st.reference := by
  obtain ⟨tc, cc, he⟩ := step_state xmlParse st ref l10n
  obtain ⟨kn, hk⟩ := knownEntitiesS_fst st ref.val
  rw [he, hk]
  exact ⟨rfl, rfl⟩

theorem inpOf_step (xmlParse : Bytes → ParseRes) (st : State) (ref l10n r' l' : Ent) :
    inpOf (step xmlParse st ref l10n).1 r' l' = inpOf st r' l' := by
  obtain ⟨h1, h2⟩ := step_frame xmlParse st ref l10n
  unfold inpOf
  rw [h1, h2]

/-- the state machine is not the stateless function in disguise: with a reference set, the first step fills the memo
    and `known_entities` answers from the state afterwards -/
theorem step_fills_memo (xmlParse : Bytes → ParseRes) (st : State) (ref l10n : Ent) (vals : List Text)
    (hr : st.reference = some vals) (hk : st.known = none) :
    (step xmlParse st ref l10n).1.known = some (knownOf vals) := by
  obtain ⟨tc, cc, he⟩ := step_state xmlParse st ref l10n
  rw [he]
  simp [knownEntitiesS, hr, hk, knownOf]

theorem runSeq_snd (xmlParse : Bytes → ParseRes) : ∀ (pairs : List (Ent × Ent)) (st : State), Inv st →
    (runSeq xmlParse st pairs).map (·.2) = pairs.map (fun p => check xmlParse (inpOf st p.1 p.2))
  | [], _, _ => rfl
  | (r, l) :: rest, st, h => by
    simp only [runSeq, List.map_cons]
    rw [step_verdict xmlParse st r l h, runSeq_snd xmlParse rest _ (inv_step xmlParse st r l h),
      List.map_congr_left fun p _ => by rw [inpOf_step xmlParse st r l p.1 p.2]]

theorem runSeq_length (xmlParse : Bytes → ParseRes) : ∀ (pairs : List (Ent × Ent)) (st : State),
    (runSeq xmlParse st pairs).length = pairs.length
  | [], _ => rfl
  | (_, _) :: rest, st => by simp [runSeq, runSeq_length xmlParse rest]

end C07S
