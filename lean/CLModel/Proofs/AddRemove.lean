/-
`AddRemove.__iter__` for ALL inputs (duplicates on either side) equals the closed form `C20M.specD`;
on duplicate-free inputs that is `AR.spec`.  What needs no closed form (`*_gen`: every key of either side once, labels by
membership) is read off the order map: its keys are `(l ++ r).foldl ins []`.  Also `KeyedTuple`.
`AR`: the order map and what holds of it for all inputs, the bucket form of a merge sort, the common `shape` of the two closed
forms.  `C20P`: inputs with duplicates, where a left key stands for its LAST occurrence (`lastIdx`); the suffix `D` is that of
the model's `specD`, `anchorsD`.  `AR` again: the duplicate-free corollary and `KeyedTuple`, which rest on `C20P`.
-/
import CLModel.Compare.AddRemove
import CLModel.Compare.AddRemoveObj
import CLModel.Proofs.ListLemmas
import CLModel.Proofs.Dict
namespace AR

variable {α : Type} [BEq α] [LawfulBEq α] {β : Type}

omit [LawfulBEq α] in
theorem rightStep_items (st : List (α × (Int × Int)) × Int × List α) (xi : α × Nat) :
    (rightStep st xi).2.2 = ins st.2.2 xi.1 := by
  obtain ⟨d, lo, ri⟩ := st
  obtain ⟨x, i⟩ := xi
  simp only [rightStep]
  split <;> rfl

theorem right_fold_items (xs : List (α × Nat)) (st : List (α × (Int × Int)) × Int × List α) (y : α) :
    y ∈ (xs.foldl rightStep st).2.2 ↔ y ∈ st.2.2 ∨ y ∈ xs.map (·.1) := by
  induction xs generalizing st with
  | nil => simp
  | cons xi xs ih => rw [List.foldl_cons, ih, rightStep_items, mem_ins, List.map_cons, List.mem_cons, or_assoc, @eq_comm _ y]

theorem leftMap_keys (l : List α) : (leftMap l).map (·.1) = l.foldl ins [] := by
  have h : ∀ (l : List α) (n : Nat) (d : List (α × (Int × Int))),
      ((l.zipIdx n).foldl (fun d (x, i) => dset d x ((i : Int), -1)) d).map (·.1) = l.foldl ins (d.map (·.1)) := by
    intro l
    induction l with
    | nil => simp
    | cons x xs ih => intro n d; simp only [List.zipIdx_cons, List.foldl_cons]; rw [ih, keys_dset]
  exact h l 0 []

theorem rightStep_keys (st : List (α × (Int × Int)) × Int × List α) (xi : α × Nat) :
    (rightStep st xi).1.map (·.1) = ins (st.1.map (·.1)) xi.1 := by
  obtain ⟨d, lo, ri⟩ := st
  obtain ⟨x, i⟩ := xi
  simp only [rightStep]
  cases hg : dget d x with
  | some v => exact (if_pos (List.contains_iff_mem.2 (dget_isSome_iff.1 (by rw [hg]; rfl)))).symm
  | none => simp only [keys_dset]

theorem right_fold_keys (xs : List (α × Nat)) (st : List (α × (Int × Int)) × Int × List α) :
    (xs.foldl rightStep st).1.map (·.1) = (xs.map (·.1)).foldl ins (st.1.map (·.1)) := by
  induction xs generalizing st with
  | nil => simp
  | cons xi xs ih => rw [List.foldl_cons, ih, rightStep_keys, List.map_cons, List.foldl_cons]

def lab (l r : List α) (x : α) : Label :=
  if l.contains x then (if r.contains x then Label.equal else Label.delete) else Label.add

/-- the final order map of `addRemove l r` -/
def orderMap (l r : List α) : List (α × (Int × Int)) :=
  ((r.zipIdx).foldl rightStep (leftMap l, (-1 : Int), [])).1

theorem addRemove_gen (l r : List α) :
    addRemove l r = ((orderMap l r).mergeSort (fun a b => leKey a.2 b.2)).map
      (fun p => (lab l r p.1, p.1)) := by
  have hl : ∀ y, ((leftMap l).map (·.1)).contains y = l.contains y := by
    intro y
    rw [Bool.eq_iff_iff, List.contains_iff_mem, List.contains_iff_mem, leftMap_keys, mem_foldl_ins]
    simp
  have hr : ∀ y, (List.foldl rightStep (leftMap l, (-1 : Int), []) r.zipIdx).2.2.contains y
      = r.contains y := by
    intro y
    rw [Bool.eq_iff_iff, List.contains_iff_mem, List.contains_iff_mem, right_fold_items, List.zipIdx_map_fst]
    simp
  simp only [addRemove, orderMap]
  apply List.map_congr_left
  intro p _
  rw [hl, hr, lab]
  cases l.contains p.1 <;> cases r.contains p.1 <;> rfl

section bucket
variable {K : Type} [BEq K] [LawfulBEq K]

theorem bucket_perm (key : β → K) (ks : List K) (X : List β) (hks : ks.Nodup)
    (hX : ∀ x ∈ X, key x ∈ ks) :
    (ks.flatMap (fun k => X.filter (fun x => key x == k))).Perm X := by
  induction ks generalizing X with
  | nil =>
    cases X with
    | nil => simp
    | cons x X => exact absurd (hX x List.mem_cons_self) (by simp)
  | cons k ks ih =>
    rw [List.nodup_cons] at hks
    rw [List.flatMap_cons]
    have hcongr : ks.flatMap (fun k' => X.filter (fun x => key x == k'))
        = ks.flatMap (fun k' => (X.filter (fun x => !(key x == k))).filter (fun x => key x == k')) := by
      apply Txt.flatMap_congr'
      intro k' hk'
      rw [List.filter_filter]
      apply List.filter_congr
      intro x _
      by_cases h : key x = k'
      · have : ¬ k' = k := fun e => hks.1 (e ▸ hk')
        simp [h, this]
      · simp [h]
    rw [hcongr]
    refine (List.Perm.append_left _ (ih _ hks.2 ?_)).trans (List.filter_append_perm _ X)
    intro x hx
    rw [List.mem_filter] at hx
    have := hX x hx.1
    rw [List.mem_cons] at this
    rcases this with h | h
    · simp [h] at hx
    · exact h

theorem bucket_sorted (le : β → β → Bool) (key : β → K) (ltK : K → K → Prop) (ks : List K)
    (X : List β) (hks : ks.Pairwise ltK) (h1 : ∀ a b, ltK (key a) (key b) → le a b)
    (h2 : X.Pairwise (fun a b => key a = key b → le a b)) :
    (ks.flatMap (fun k => X.filter (fun x => key x == k))).Pairwise (fun a b => le a b) := by
  rw [List.pairwise_flatMap]
  constructor
  · intro k _
    refine List.Pairwise.imp_of_mem ?_ (h2.filter _)
    intro a b ha hb h
    rw [List.mem_filter] at ha hb
    exact h ((eq_of_beq ha.2).trans (eq_of_beq hb.2).symm)
  · refine hks.imp ?_
    intro k1 k2 hlt a ha b hb
    rw [List.mem_filter] at ha hb
    apply h1
    rw [eq_of_beq ha.2, eq_of_beq hb.2]
    exact hlt

theorem mergeSort_eq_bucket (le : β → β → Bool) (key : β → K) (ltK : K → K → Prop) (ks : List K)
    (X : List β)
    (trans : ∀ a b c, le a b → le b c → le a c) (total : ∀ a b, le a b || le b a)
    (antisymm : ∀ a ∈ X, ∀ b ∈ X, le a b → le b a → a = b)
    (hnd : ks.Nodup) (hks : ks.Pairwise ltK) (hX : ∀ x ∈ X, key x ∈ ks)
    (h1 : ∀ a b, ltK (key a) (key b) → le a b)
    (h2 : X.Pairwise (fun a b => key a = key b → le a b)) :
    X.mergeSort le = ks.flatMap (fun k => X.filter (fun x => key x == k)) := by
  have hp := bucket_perm key ks X hnd hX
  have hperm := (List.mergeSort_perm X le).trans hp.symm
  refine List.Perm.eq_of_pairwise (le := fun a b => le a b) ?_ (List.pairwise_mergeSort trans total X)
    (bucket_sorted le key ltK ks X hks h1 h2) hperm
  intro a b ha hb
  exact antisymm a ((List.mergeSort_perm X le).mem_iff.1 ha) b (hp.mem_iff.1 hb)

end bucket

theorem leKey_trans (a b c : Int × Int) : leKey a b → leKey b c → leKey a c := by
  simp only [leKey, Bool.or_eq_true, Bool.and_eq_true, decide_eq_true_eq, beq_iff_eq]
  omega

theorem leKey_total (a b : Int × Int) : (leKey a b || leKey b a) = true := by
  simp only [leKey, Bool.or_eq_true, Bool.and_eq_true, decide_eq_true_eq, beq_iff_eq]
  omega

theorem leKey_antisymm (a b : Int × Int) : leKey a b → leKey b a → a = b := by
  obtain ⟨a1, a2⟩ := a
  obtain ⟨b1, b2⟩ := b
  simp only [leKey, Bool.or_eq_true, Bool.and_eq_true, decide_eq_true_eq, beq_iff_eq, Prod.mk.injEq]
  omega

theorem orderMap_keys (l r : List α) : (orderMap l r).map (·.1) = (l ++ r).foldl ins [] := by
  rw [orderMap, right_fold_keys, List.zipIdx_map_fst, List.foldl_append, leftMap_keys]

theorem addRemove_labels_gen (l r : List α) : ∀ p ∈ addRemove l r, p.1 = lab l r p.2 := by
  intro p hp
  rw [addRemove_gen, List.mem_map] at hp
  obtain ⟨q, _, rfl⟩ := hp
  rfl

theorem addRemove_keys_perm_gen (l r : List α) :
    ((addRemove l r).map (·.2)).Perm ((l ++ r).foldl ins []) := by
  rw [addRemove_gen, List.map_map]
  have : ((fun p : Label × α => p.2) ∘ fun p : α × (Int × Int) => (lab l r p.1, p.1)) = (·.1) := rfl
  rw [this, ← orderMap_keys]
  exact (List.mergeSort_perm _ _).map _

theorem addRemove_keys_nodup_gen (l r : List α) : ((addRemove l r).map (·.2)).Nodup := by
  rw [(addRemove_keys_perm_gen l r).nodup_iff]
  exact foldl_ins_nodup _ _ List.nodup_nil

theorem addRemove_keys_mem_gen (l r : List α) (k : α) :
    k ∈ (addRemove l r).map (·.2) ↔ k ∈ l ∨ k ∈ r := by
  rw [(addRemove_keys_perm_gen l r).mem_iff, mem_foldl_ins]
  simp

theorem addRemove_eq_map_lab (l r : List α) :
    addRemove l r = ((addRemove l r).map (·.2)).map (fun k => (lab l r k, k)) := by
  rw [List.map_map]
  conv => lhs; rw [← List.map_id (addRemove l r)]
  apply List.map_congr_left
  intro p hp
  have := addRemove_labels_gen l r p hp
  simp only [Function.comp, id]
  rw [← this]

theorem addRemove_keys_perm (l r : List α) (hl : l.Nodup) (hr : r.Nodup) :
    ((addRemove l r).map (·.2)).Perm (l ++ r.filter (fun x => !l.contains x)) := by
  refine (addRemove_keys_perm_gen l r).trans (.of_eq ?_)
  rw [List.foldl_append, foldl_ins_of_nodup l [] (by simpa using hl), List.nil_append, foldl_ins_filter r l hr]

/-- the common shape of the two closed forms: the pairs `anc` (anchor, right-only key) filed after their anchors
    along the left keys `ks` -/
def shape (anc : List (Option α × α)) (ks r : List α) : List (Label × α) :=
  let adds (a : Option α) := (anc.filter (fun p => p.1 == a)).map (fun p => (Label.add, p.2))
  adds none ++ ks.flatMap (fun k => ((if r.contains k then Label.equal else Label.delete), k) :: adds (some k))

omit [LawfulBEq α] in
theorem shape_left_order (anc : List (Option α × α)) (ks r : List α) :
    ((shape anc ks r).filter (fun p => p.1 != Label.add)).map (·.2) = ks := by
  have hadd : ∀ a : Option α,
      ((anc.filter (fun p => p.1 == a)).map (fun p => (Label.add, p.2))).filter
        (fun p => p.1 != Label.add) = [] := by
    intro a
    rw [List.filter_eq_nil_iff]
    intro p hp
    rw [List.mem_map] at hp
    obtain ⟨q, _, rfl⟩ := hp
    simp
  rw [shape]
  simp only
  rw [List.filter_append, hadd, List.nil_append, List.filter_flatMap, List.map_flatMap]
  have : ∀ x ∈ ks, (((if r.contains x then Label.equal else Label.delete, x) ::
      (anc.filter (fun p => p.1 == some x)).map (fun p => (Label.add, p.2))).filter
        (fun p => p.1 != Label.add)).map (·.2) = [x] := by
    intro x _
    rw [List.filter_cons, hadd]
    cases r.contains x <;> rfl
  rw [Txt.flatMap_congr' this]
  exact List.flatMap_singleton' ks

omit [LawfulBEq α] in
theorem shape_keys (anc : List (Option α × α)) (ks r : List α) :
    (shape anc ks r).map (·.2) =
      (anc.filter (fun p => p.1 == none)).map (·.2) ++
        ks.flatMap (fun k => k :: (anc.filter (fun p => p.1 == some k)).map (·.2)) := by
  rw [shape]
  simp only [List.map_append, List.map_flatMap, List.map_cons, List.map_map]
  rfl

omit [LawfulBEq α] in
theorem spec_left_order (l r : List α) :
    ((spec l r).filter (fun p => p.1 != Label.add)).map (·.2) = l :=
  shape_left_order (anchors l r none) l r

omit [LawfulBEq α] in
theorem spec_keys (l r : List α) :
    (spec l r).map (·.2) =
      ((anchors l r none).filter (fun p => p.1 == none)).map (·.2) ++
        l.flatMap (fun k => k :: ((anchors l r none).filter (fun p => p.1 == some k)).map (·.2)) :=
  shape_keys (anchors l r none) l r

omit [LawfulBEq α] in
theorem anchors_mem (l r : List α) (cur : Option α) :
    ∀ p ∈ anchors l r cur, p.1 = cur ∨ ∃ y ∈ r, l.contains y ∧ p.1 = some y := by
  induction r generalizing cur with
  | nil => simp [anchors]
  | cons x xs ih =>
    intro p hp
    simp only [anchors] at hp
    split at hp
    · rename_i hx
      rcases ih _ p hp with h | ⟨y, hy, h⟩
      · exact .inr ⟨x, by simp, hx, h⟩
      · exact .inr ⟨y, by simp [hy], h⟩
    · rw [List.mem_cons] at hp
      rcases hp with rfl | hp
      · exact .inl rfl
      · rcases ih _ p hp with h | ⟨y, hy, h⟩
        · exact .inl h
        · exact .inr ⟨y, by simp [hy], h⟩

omit [LawfulBEq α] in
theorem anchors_snd_not_mem (l r : List α) (cur : Option α) :
    ∀ p ∈ anchors l r cur, l.contains p.2 = false ∧ p.2 ∈ r := by
  induction r generalizing cur with
  | nil => simp [anchors]
  | cons x xs ih =>
    intro p hp
    simp only [anchors] at hp
    split at hp
    · have := ih _ p hp
      exact ⟨this.1, by simp [this.2]⟩
    · rename_i hx
      rw [List.mem_cons] at hp
      rcases hp with rfl | hp
      · exact ⟨by simpa using hx, by simp⟩
      · have := ih _ p hp
        exact ⟨this.1, by simp [this.2]⟩

omit [LawfulBEq α] in
theorem anchors_of_subset (l r : List α) (cur : Option α) (h : ∀ x ∈ r, l.contains x = true) :
    anchors l r cur = [] := by
  induction r generalizing cur with
  | nil => rfl
  | cons x xs ih =>
    simp only [anchors, h x List.mem_cons_self, if_true]
    exact ih _ (fun y hy => h y (List.mem_cons_of_mem _ hy))

omit [LawfulBEq α] in
theorem spec_keys_of_subset (l r : List α) (h : ∀ x ∈ r, l.contains x = true) : (spec l r).map (·.2) = l := by
  rw [spec_keys, anchors_of_subset l r none h]
  simp

theorem spec_keys_left (l r : List α) : ((spec l r).map (·.2)).filter (fun k => l.contains k) = l := by
  have hadd : ∀ a : Option α,
      (((anchors l r none).filter (fun p => p.1 == a)).map (·.2)).filter (fun k => l.contains k) = [] := by
    intro a
    rw [List.filter_eq_nil_iff]
    intro k hk
    rw [List.mem_map] at hk
    obtain ⟨p, hp, rfl⟩ := hk
    have := (anchors_snd_not_mem l r none p (List.mem_filter.1 hp).1).1
    simpa using this
  rw [spec_keys, List.filter_append, hadd, List.nil_append, List.filter_flatMap]
  have : ∀ x ∈ l, (x :: ((anchors l r none).filter (fun p => p.1 == some x)).map (·.2)).filter
      (fun k => l.contains k) = [x] := by
    intro x hx
    rw [List.filter_cons, hadd]
    simp [hx]
  rw [Txt.flatMap_congr' this]
  exact List.flatMap_singleton' l

theorem anchors_filter (q : α → Bool) (l r : List α) (cur : Option α)
    (H : ∀ x ∈ r, q x = false → l.contains x = false) :
    (anchors l r cur).filter (fun p => q p.2) = anchors (l.filter q) (r.filter q) cur := by
  induction r generalizing cur with
  | nil => simp [anchors]
  | cons x xs ih =>
    have H' : ∀ y ∈ xs, q y = false → l.contains y = false := fun y hy => H y (by simp [hy])
    simp only [anchors]
    by_cases hx : l.contains x = true
    · have hq : q x = true := by
        cases hqx : q x
        · rw [H x (by simp) hqx] at hx; exact absurd hx (by simp)
        · rfl
      have hx' : (l.filter q).contains x = true := by
        simp only [List.contains_iff_mem, List.mem_filter] at hx ⊢
        exact ⟨hx, hq⟩
      rw [if_pos hx, List.filter_cons, if_pos hq, anchors, if_pos hx', ih _ H']
    · have hx' : ¬ (l.filter q).contains x = true := by
        simp only [List.contains_iff_mem, List.mem_filter] at hx ⊢
        exact fun h => hx h.1
      rw [if_neg hx, List.filter_cons]
      by_cases hq : q x = true
      · rw [if_pos hq, List.filter_cons, if_pos hq, anchors, if_neg hx', ih _ H']
      · rw [if_neg hq, List.filter_cons, if_neg hq, ih _ H']

end AR

namespace C20P
open AR C20M

variable {α : Type} [BEq α] [LawfulBEq α] {β : Type}

theorem lastIdx_cons_of_mem (x k : α) (xs : List α) (h : k ∈ xs) :
    lastIdx (x :: xs) k = lastIdx xs k + 1 := by
  simp [lastIdx, h]

theorem lastIdx_cons_of_not_mem (x k : α) (xs : List α) (h : k ∉ xs) :
    lastIdx (x :: xs) k = 0 := by
  simp [lastIdx, h]

theorem getElem?_lastIdx (l : List α) (k : α) (h : k ∈ l) : l[lastIdx l k]? = some k := by
  induction l with
  | nil => simp at h
  | cons x xs ih =>
    by_cases hk : k ∈ xs
    · rw [lastIdx_cons_of_mem x k xs hk, List.getElem?_cons_succ]
      exact ih hk
    · rw [lastIdx_cons_of_not_mem x k xs hk]
      rw [List.mem_cons] at h
      rcases h with rfl | h
      · simp
      · exact absurd h hk

theorem lastIdx_inj (l : List α) (y z : α) (hy : y ∈ l) (hz : z ∈ l)
    (h : lastIdx l y = lastIdx l z) : y = z := by
  have h1 := getElem?_lastIdx l y hy
  have h2 := getElem?_lastIdx l z hz
  rw [h, h2] at h1
  exact (Option.some.inj h1).symm

theorem lastIdx_eq (keys : List α) (k : α) (h : k ∈ keys) :
    lastIdx keys k = keys.length - 1 - keys.reverse.idxOf k := by
  induction keys with
  | nil => cases h
  | cons x xs ih =>
    rw [List.reverse_cons, List.idxOf_append, List.length_cons]
    by_cases hk : k ∈ xs
    · have := List.idxOf_lt_length_of_mem (List.mem_reverse.2 hk)
      rw [lastIdx_cons_of_mem x k xs hk, ih hk, if_pos (List.mem_reverse.2 hk)]
      simp only [List.length_reverse] at this
      omega
    · rw [lastIdx_cons_of_not_mem x k xs hk, if_neg (mt List.mem_reverse.1 hk)]
      have : x = k := ((List.mem_cons.1 h).resolve_right hk).symm
      simp [this]

theorem mem_dedupLast (l : List α) (y : α) : y ∈ dedupLast l ↔ y ∈ l := by
  induction l with
  | nil => simp [dedupLast]
  | cons x xs ih =>
    simp only [dedupLast]
    split
    · rename_i hx
      have hx' : x ∈ xs := by simpa using hx
      rw [ih, List.mem_cons]
      constructor
      · exact .inr
      · rintro (rfl | h); exact hx'; exact h
    · rw [List.mem_cons, List.mem_cons, ih]

theorem dedupLast_nodup (l : List α) : (dedupLast l).Nodup := by
  induction l with
  | nil => simp [dedupLast]
  | cons x xs ih =>
    simp only [dedupLast]
    split
    · exact ih
    · rename_i hx
      rw [List.nodup_cons, mem_dedupLast]
      exact ⟨by simpa using hx, ih⟩

theorem dedupLast_of_nodup (l : List α) (h : l.Nodup) : dedupLast l = l := by
  induction l with
  | nil => rfl
  | cons x xs ih =>
    rw [List.nodup_cons] at h
    simp [dedupLast, h.1, ih h.2]

theorem lastIdx_pairwise (l : List α) :
    ((dedupLast l).map (fun y => ((lastIdx l y : Nat) : Int))).Pairwise (· < ·) := by
  induction l with
  | nil => simp [dedupLast]
  | cons x xs ih =>
    have hshift : (dedupLast xs).map (fun y => ((lastIdx (x :: xs) y : Nat) : Int))
        = ((dedupLast xs).map (fun y => ((lastIdx xs y : Nat) : Int))).map (· + 1) := by
      rw [List.map_map]
      apply List.map_congr_left
      intro y hy
      rw [mem_dedupLast] at hy
      simp [lastIdx_cons_of_mem x y xs hy]
    have ih' : ((dedupLast xs).map (fun y => ((lastIdx (x :: xs) y : Nat) : Int))).Pairwise (· < ·) := by
      rw [hshift, List.pairwise_map]
      exact ih.imp (fun h => by omega)
    simp only [dedupLast]
    split
    · exact ih'
    · rename_i hx
      have hx' : x ∉ xs := by simpa using hx
      rw [List.map_cons, List.pairwise_cons]
      refine ⟨?_, ih'⟩
      intro b hb
      rw [hshift, List.mem_map] at hb
      obtain ⟨c, hc, rfl⟩ := hb
      rw [List.mem_map] at hc
      obtain ⟨y, _, rfl⟩ := hc
      rw [lastIdx_cons_of_not_mem x x xs hx']
      omega

theorem dget_fold_last (f : Nat → β) (l : List α) (n : Nat) (d : List (α × β)) (k : α) :
    dget ((l.zipIdx n).foldl (fun d (x, i) => dset d x (f i)) d) k
      = if l.contains k then some (f (n + lastIdx l k)) else dget d k := by
  induction l generalizing n d with
  | nil => simp
  | cons x xs ih =>
    rw [List.zipIdx_cons, List.foldl_cons, ih, dget_dset, List.contains_cons]
    by_cases hk : k ∈ xs
    · have h1 : xs.contains k = true := by simpa using hk
      rw [lastIdx_cons_of_mem x k xs hk]
      simp only [h1, if_true, Bool.or_true]
      congr 2
      omega
    · have h1 : xs.contains k = false := by simpa using hk
      rw [lastIdx_cons_of_not_mem x k xs hk]
      simp only [h1, Bool.false_eq_true, if_false, Bool.or_false, Nat.add_zero]
      by_cases hx : x = k
      · subst hx; simp
      · have h3 : (x == k) = false := by simpa using hx
        have h4 : (k == x) = false := by simpa using fun e : k = x => hx e.symm
        simp [h3, h4]

/-- the value `leftMap` stores for a left key: (index of its LAST occurrence, -1) -/
def lvalD (l : List α) (y : α) : α × (Int × Int) := (y, (((lastIdx l y : Nat) : Int), -1))

theorem dget_leftMap (l : List α) (k : α) :
    dget (leftMap l) k = if l.contains k then some (((lastIdx l k : Nat) : Int), -1) else none := by
  have := dget_fold_last (fun i => (((i : Nat) : Int), (-1 : Int))) l 0 [] k
  simpa [leftMap, dget] using this

theorem mem_leftMap_keys (l : List α) (y : α) : y ∈ (leftMap l).map (·.1) ↔ y ∈ l := by
  rw [leftMap_keys, mem_foldl_ins]; simp

theorem leftMap_keys_nodup (l : List α) : ((leftMap l).map (·.1)).Nodup := by
  rw [leftMap_keys]; exact foldl_ins_nodup _ _ List.nodup_nil

theorem mem_leftMap (l : List α) (p : α × (Int × Int)) (hp : p ∈ leftMap l) :
    p.1 ∈ l ∧ p = lvalD l p.1 := by
  have hk : p.1 ∈ l := (mem_leftMap_keys l p.1).1 (List.mem_map_of_mem hp)
  refine ⟨hk, ?_⟩
  have h1 := dget_of_mem (leftMap_keys_nodup l) hp
  rw [dget_leftMap] at h1
  have : l.contains p.1 = true := by simpa using hk
  rw [this, if_pos rfl] at h1
  have h2 := Option.some.inj h1
  rw [lvalD, h2]

theorem leftMap_pairwise (l : List α) : (leftMap l).Pairwise (fun a b => a.2.1 ≠ b.2.1) := by
  have h := leftMap_keys_nodup l
  rw [List.Nodup, List.pairwise_map] at h
  refine List.Pairwise.imp_of_mem ?_ h
  intro a b ha hb hne e
  obtain ⟨ha1, ha2⟩ := mem_leftMap l a ha
  obtain ⟨hb1, hb2⟩ := mem_leftMap l b hb
  rw [ha2, hb2] at e
  simp only [lvalD] at e
  exact hne (lastIdx_inj l a.1 b.1 ha1 hb1 (by omega))

theorem lvalD_mem_leftMap (l : List α) (y : α) (hy : y ∈ l) : lvalD l y ∈ leftMap l := by
  have := (mem_leftMap_keys l y).2 hy
  rw [List.mem_map] at this
  obtain ⟨p, hp, rfl⟩ := this
  rw [← (mem_leftMap l p hp).2]
  exact hp

/-- a possible `left_offset`: the initial -1 or the last index of a left key -/
def Good (l : List α) (v : Int) : Prop := v = -1 ∨ ∃ y ∈ l, v = ((lastIdx l y : Nat) : Int)

/-- what `sort_omD` needs of the entries `acc` that the loop over `right` appends to the order map behind `leftMap l`: they
    stand in the order of their right indices, which are not negative; their keys are not left keys; their left offsets are
    possible ones -/
def AccOk (l : List α) (acc : List (α × (Int × Int))) : Prop :=
  acc.Pairwise (fun a b => a.2.2 < b.2.2) ∧ ∀ p ∈ acc, p.1 ∉ l ∧ Good l p.2.1 ∧ 0 ≤ p.2.2

/-- the possible `left_offset`s in increasing order: the bucket keys of `sort_omD` -/
def bkeysD (l : List α) : List Int := -1 :: (dedupLast l).map (fun y => ((lastIdx l y : Nat) : Int))

theorem bkeysD_pairwise (l : List α) : (bkeysD l).Pairwise (· < ·) := by
  rw [bkeysD, List.pairwise_cons]
  refine ⟨?_, lastIdx_pairwise l⟩
  intro k hk
  rw [List.mem_map] at hk
  obtain ⟨y, _, rfl⟩ := hk
  omega

theorem good_mem_bkeysD (l : List α) (v : Int) (h : Good l v) : v ∈ bkeysD l := by
  rcases h with rfl | ⟨y, hy, rfl⟩
  · exact List.mem_cons_self
  · exact List.mem_cons_of_mem _ (List.mem_map.2 ⟨y, (mem_dedupLast l y).2 hy, rfl⟩)

/-- the sorted order map ("om") for a left side with duplicates: `mergeSort_eq_bucket` with the `left_offset` (first component
    of the sort key) as bucket key, over `bkeysD l`.  The sort keys are pairwise distinct (`hne`), and inside a bucket the
    left key (right index -1) stands before the appended entries (right indices ≥ 0, increasing): both from `hord`. -/
theorem sort_omD (l : List α) (A : List (α × (Int × Int))) (hA : AccOk l A) :
    (leftMap l ++ A).mergeSort (fun a b => leKey a.2 b.2)
      = A.filter (fun p => p.2.1 == (-1 : Int)) ++
        (dedupLast l).flatMap (fun y => lvalD l y :: A.filter (fun p => p.2.1 == ((lastIdx l y : Nat) : Int))) := by
  have hL : ∀ p ∈ leftMap l, p.2.2 = -1 ∧ 0 ≤ p.2.1 ∧ Good l p.2.1 := by
    intro p hp
    obtain ⟨h1, h2⟩ := mem_leftMap l p hp
    rw [h2]
    simp only [lvalD]
    exact ⟨trivial, by omega, .inr ⟨p.1, h1, rfl⟩⟩
  -- along the order map, two entries differ in the left offset or stand in the order of their right indices
  have hord : (leftMap l ++ A).Pairwise (fun a b => a.2.1 ≠ b.2.1 ∨ a.2.2 < b.2.2) := by
    rw [List.pairwise_append]
    refine ⟨(leftMap_pairwise l).imp .inl, hA.1.imp .inr, fun a ha b hb => .inr ?_⟩
    have h1 := (hL a ha).1
    have h2 := (hA.2 b hb).2.2
    omega
  have hne : (leftMap l ++ A).Pairwise (fun a b => a.2 ≠ b.2) :=
    hord.imp (fun h e => by rw [e] at h; omega)
  rw [mergeSort_eq_bucket (β := α × (Int × Int)) (K := Int) (fun a b => leKey a.2 b.2)
    (fun p => p.2.1) (· < ·) (bkeysD l) (leftMap l ++ A)]
  · rw [bkeysD, List.flatMap_cons, List.flatMap_map, List.filter_append]
    have h0 : (leftMap l).filter (fun p => p.2.1 == (-1 : Int)) = [] := by
      rw [List.filter_eq_nil_iff]
      intro p hp
      have := (hL p hp).2.1
      simp only [beq_iff_eq]
      omega
    rw [h0, List.nil_append]
    congr 1
    apply Txt.flatMap_congr'
    intro y hy
    rw [mem_dedupLast] at hy
    rw [List.filter_append]
    have := Txt.filter_eq_singleton (fun p : α × (Int × Int) => p.2.1) (leftMap l) (leftMap_pairwise l)
      (lvalD l y) (lvalD_mem_leftMap l y hy)
    simp only [lvalD] at this
    rw [this]
    rfl
  · intro a b c; exact leKey_trans _ _ _
  · intro a b; exact leKey_total _ _
  · intro a ha b hb h1 h2
    have hv := leKey_antisymm _ _ h1 h2
    exact List.Pairwise.forall_of_forall_of_flip (R := fun a b => a.2 = b.2 → a = b) (fun _ _ _ => rfl)
      (hne.imp (fun h e => absurd e h)) (hne.imp (fun h e => absurd e.symm h)) ha hb hv
  · exact (bkeysD_pairwise l).imp (fun h => Int.ne_of_lt h)
  · exact bkeysD_pairwise l
  · intro p hp
    rw [List.mem_append] at hp
    rcases hp with hp | hp
    · exact good_mem_bkeysD l _ (hL p hp).2.2
    · exact good_mem_bkeysD l _ (hA.2 p hp).2.1
  · intro a b h
    simp only [leKey, Bool.or_eq_true, decide_eq_true_eq]
    exact .inl h
  · refine hord.imp fun h e => ?_
    simp only [leKey, Bool.or_eq_true, Bool.and_eq_true, decide_eq_true_eq, beq_iff_eq]
    omega

/-- the left index standing for an anchor -/
def codeD (l : List α) : Option α → Int
  | none => -1
  | some y => ((lastIdx l y : Nat) : Int)

def AncOk (l : List α) (o : Option α) : Prop := o = none ∨ ∃ y ∈ l, o = some y

omit [LawfulBEq α] in
theorem find_rel (l : List α) (acc : List (α × (Int × Int))) (acc' : List (Option α × α))
    (h : acc.map (fun q => (q.2.1, q.1)) = acc'.map (fun p => (codeD l p.1, p.2))) (x : α) :
    (dget acc x).map (·.1) = (acc'.find? (fun p => p.2 == x)).map (fun p => codeD l p.1) := by
  induction acc generalizing acc' with
  | nil =>
    cases acc' with
    | nil => simp [dget]
    | cons p t => simp at h
  | cons q acc ih =>
    cases acc' with
    | nil => simp at h
    | cons p t =>
      simp only [List.map_cons, List.cons.injEq, Prod.mk.injEq] at h
      obtain ⟨⟨h1, h2⟩, h3⟩ := h
      rw [dget_cons, List.find?_cons, h2]
      cases p.2 == x
      · simp only [Bool.false_eq_true, if_false]
        exact ih t h3
      · simp [h1]

/-- the entries `A` appended to the order map so far and the pairs `acc'` emitted by `anchorsD` so far describe the
    same thing; `n` = number of elements of `right` seen -/
structure Sim (l : List α) (n : Nat) (A : List (α × (Int × Int))) (acc' : List (Option α × α)) : Prop where
  rel : A.map (fun q => (q.2.1, q.1)) = acc'.map (fun p => (codeD l p.1, p.2))
  idx : A.Pairwise (fun a b => a.2.2 < b.2.2)
  bound : ∀ p ∈ A, 0 ≤ p.2.2 ∧ p.2.2 < (n : Int)
  notin : ∀ p ∈ A, p.1 ∉ l
  anc : ∀ p ∈ acc', AncOk l p.1

/-- THE invariant of the loop over `right`: the order map is `leftMap l` followed by entries that mirror what
    `anchorsD` emits -/
theorem right_fold_sim (l r : List α) (n : Nat) (A : List (α × (Int × Int))) (acc' : List (Option α × α))
    (lo : Int) (cur : Option α) (ri : List α) (h : Sim l n A acc') (hlo : lo = codeD l cur) (hc : AncOk l cur) :
    ∃ A', ((r.zipIdx n).foldl rightStep (leftMap l ++ A, lo, ri)).1 = leftMap l ++ A' ∧
      Sim l (n + r.length) A' (anchorsD l r cur acc') := by
  induction r generalizing n A acc' lo cur ri with
  | nil => exact ⟨A, rfl, h⟩
  | cons x xs ih =>
    have hb' : ∀ p ∈ A, 0 ≤ p.2.2 ∧ p.2.2 < ((n + 1 : Nat) : Int) := fun p hp => by
      have := h.bound p hp; omega
    have hlen : n + (x :: xs).length = n + 1 + xs.length := by simp; omega
    simp only [List.zipIdx_cons, List.foldl_cons, anchorsD, hlen]
    have hget := dget_append (leftMap l) A x
    rw [dget_leftMap] at hget
    by_cases hx : x ∈ l
    · have hcx : l.contains x = true := by simpa using hx
      simp only [hcx, if_true] at hget ⊢
      simp only [rightStep, hget]
      exact ih (n + 1) A acc' _ (some x) _ { h with bound := hb' } rfl (.inr ⟨x, hx, rfl⟩)
    · have hcx : l.contains x = false := by simpa using hx
      simp only [hcx, Bool.false_eq_true, if_false] at hget ⊢
      have hf := find_rel l A acc' h.rel x
      cases hv : dget A x with
      | some v =>
        rw [hv] at hget hf
        cases hp : acc'.find? (fun p => p.2 == x) with
        | none => rw [hp] at hf; simp at hf
        | some p =>
          rw [hp] at hf
          simp only [rightStep, hget]
          exact ih (n + 1) A acc' _ p.1 _ { h with bound := hb' } (by simpa using hf)
            (h.anc p (List.mem_of_find?_eq_some hp))
      | none =>
        rw [hv] at hget hf
        cases hp : acc'.find? (fun p => p.2 == x) with
        | some p => rw [hp] at hf; simp at hf
        | none =>
          simp only [rightStep, hget]
          rw [dset_of_not_mem _ (dget_eq_none_iff.1 hget), List.append_assoc]
          refine ih (n + 1) _ _ lo cur _ ⟨?_, ?_, ?_, ?_, ?_⟩ hlo hc
          · simp only [List.map_append, List.map_cons, List.map_nil, h.rel, hlo]
          · rw [List.pairwise_append]
            exact ⟨h.idx, by simp, fun a ha b hb => by rw [List.mem_singleton.1 hb]; exact (h.bound a ha).2⟩
          · intro p hp'
            rcases List.mem_append.1 hp' with hp' | hp'
            · exact hb' p hp'
            · rw [List.mem_singleton.1 hp']; simp only [Int.natCast_add]; omega
          · intro p hp'
            rcases List.mem_append.1 hp' with hp' | hp'
            · exact h.notin p hp'
            · rw [List.mem_singleton.1 hp']; exact hx
          · intro p hp'
            rcases List.mem_append.1 hp' with hp' | hp'
            · exact h.anc p hp'
            · rw [List.mem_singleton.1 hp']; exact hc

theorem Sim.accOk {l : List α} {n : Nat} {A : List (α × (Int × Int))} {acc' : List (Option α × α)}
    (h : Sim l n A acc') : AccOk l A := by
  refine ⟨h.idx, fun p hp => ⟨h.notin p hp, ?_, (h.bound p hp).1⟩⟩
  have : (p.2.1, p.1) ∈ acc'.map (fun p => (codeD l p.1, p.2)) := h.rel ▸ List.mem_map_of_mem (f := fun q => (q.2.1, q.1)) hp
  obtain ⟨q, hq, e⟩ := List.mem_map.1 this
  rw [← (Prod.mk.inj e).1]
  rcases h.anc q hq with h0 | ⟨y, hy, h0⟩ <;> rw [h0]
  · exact .inl rfl
  · exact .inr ⟨y, hy, rfl⟩

theorem Sim.adds {l r : List α} {n : Nat} {A : List (α × (Int × Int))} {acc' : List (Option α × α)}
    (h : Sim l n A acc') (c : Int) (a : Option α) (hc : ∀ o : Option α, AncOk l o → (codeD l o == c) = (o == a)) :
    ((A.filter (fun p => p.2.1 == c)).map (fun p => (lab l r p.1, p.1)))
      = ((acc'.filter (fun p => p.1 == a)).map (fun p => (Label.add, p.2))) := by
  have h1 : (A.filter (fun p => p.2.1 == c)).map (fun p => (lab l r p.1, p.1))
      = ((A.map (fun q => (q.2.1, q.1))).filter (fun p => p.1 == c)).map (fun p => (Label.add, p.2)) := by
    rw [List.filter_map, List.map_map]
    apply List.map_congr_left
    intro p hp
    simp [lab, h.notin p (List.mem_filter.1 hp).1]
  rw [h1, h.rel, List.filter_map, List.map_map]
  congr 1
  exact List.filter_congr fun p hp => hc _ (h.anc p hp)

/-- C20: what `AddRemove.__iter__` yields is the closed form `C20M.specD`, whatever duplicates either side holds.  The order
    map is `leftMap l` followed by entries that mirror `anchorsD` (`right_fold_sim`), sorting it files these behind their
    anchors (`sort_omD`), and `Sim.adds` turns each bucket into the `add` pairs of `specD`. -/
theorem addRemove_eq_specD (l r : List α) : addRemove l r = specD l r := by
  obtain ⟨A, hA, hs⟩ := right_fold_sim l r 0 [] [] (-1) none []
    ⟨rfl, .nil, nofun, nofun, nofun⟩ rfl (.inl rfl)
  rw [List.append_nil] at hA
  rw [addRemove_gen, orderMap, hA, sort_omD l _ hs.accOk, List.map_append, List.map_flatMap, specD]
  simp only
  congr 1
  · apply hs.adds
    rintro o (rfl | ⟨y, _, rfl⟩)
    · rfl
    · simp only [codeD]
      have : ¬ ((lastIdx l y : Nat) : Int) = -1 := by omega
      simp [this]
  · apply Txt.flatMap_congr'
    intro y hy
    rw [mem_dedupLast] at hy
    rw [List.map_cons]
    congr 1
    · simp [lab, lvalD, hy]
    · apply hs.adds
      rintro o (rfl | ⟨z, hz, rfl⟩)
      · simp only [codeD]
        have : ¬ (-1 : Int) = ((lastIdx l y : Nat) : Int) := by omega
        simp [this]
      · simp only [codeD]
        rw [Bool.eq_iff_iff]
        simp only [beq_iff_eq, Option.some.injEq]
        exact ⟨fun e => lastIdx_inj l z y hz hy (by omega), fun e => by rw [e]⟩

omit [LawfulBEq α] in
theorem anchors_congr (l l' r : List α) (cur : Option α) (h : ∀ x, l.contains x = l'.contains x) :
    anchors l r cur = anchors l' r cur := by
  induction r generalizing cur with
  | nil => rfl
  | cons x xs ih => simp only [anchors, h x, ih]

theorem anchorsD_eq_anchors (l r : List α) (cur : Option α) (acc : List (Option α × α))
    (hr : (r.filter (fun x => !l.contains x)).Nodup)
    (hacc : ∀ y ∈ r.filter (fun x => !l.contains x), y ∉ acc.map (·.2)) :
    anchorsD l r cur acc = acc ++ anchors l r cur := by
  induction r generalizing cur acc with
  | nil => simp [anchorsD, anchors]
  | cons x xs ih =>
    simp only [anchorsD, anchors]
    by_cases hx : l.contains x = true
    · simp only [hx, if_true]
      simp only [List.filter_cons, hx, Bool.not_true, Bool.false_eq_true, if_false] at hr hacc
      exact ih _ _ hr hacc
    · have hx' : l.contains x = false := by simpa using hx
      simp only [hx', Bool.false_eq_true, if_false]
      simp only [List.filter_cons, hx', Bool.not_false, if_true] at hr hacc
      rw [List.nodup_cons] at hr
      have hnone : acc.find? (fun p => p.2 == x) = none := by
        rw [List.find?_eq_none]
        intro p hp hpx
        exact hacc x List.mem_cons_self (List.mem_map.2 ⟨p, hp, eq_of_beq hpx⟩)
      rw [hnone]
      simp only
      rw [ih _ _ hr.2, List.append_assoc]
      · rfl
      · intro y hy
        rw [List.map_append, List.mem_append]
        rintro (h | h)
        · exact hacc y (List.mem_cons_of_mem _ hy) h
        · simp only [List.map_cons, List.map_nil, List.mem_singleton] at h
          subst h
          exact hr.1 hy

theorem specD_eq_spec_dedup (l r : List α) (hr : (r.filter (fun x => !l.contains x)).Nodup) :
    specD l r = spec (dedupLast l) r := by
  have hc : ∀ x, (dedupLast l).contains x = l.contains x := by
    intro x
    rw [Bool.eq_iff_iff, List.contains_iff_mem, List.contains_iff_mem, mem_dedupLast]
  rw [specD, spec, anchorsD_eq_anchors l r none [] hr (by simp), List.nil_append,
    anchors_congr (dedupLast l) l r none hc]

theorem specD_eq_spec (l r : List α) (hl : l.Nodup) (hr : r.Nodup) : specD l r = spec l r := by
  rw [specD_eq_spec_dedup l r (hr.sublist List.filter_sublist), dedupLast_of_nodup l hl]

omit [LawfulBEq α] in
theorem specD_left_order (l r : List α) :
    ((specD l r).filter (fun p => p.1 != Label.add)).map (·.2) = dedupLast l :=
  shape_left_order (anchorsD l r none []) (dedupLast l) r

end C20P

namespace AR

variable {α : Type} [BEq α] [LawfulBEq α] {β : Type}

theorem addRemove_eq_spec (l r : List α) (hl : l.Nodup) (hr : r.Nodup) :
    addRemove l r = spec l r :=
  (C20P.addRemove_eq_specD l r).trans (C20P.specD_eq_spec l r hl hr)

theorem addRemove_keys_of_subset (l r : List α) (hl : l.Nodup) (hr : r.Nodup) (h : ∀ x ∈ r, x ∈ l) :
    (addRemove l r).map (·.2) = l := by
  rw [addRemove_eq_spec l r hl hr]
  exact spec_keys_of_subset l r (fun x hx => by simpa using h x hx)

theorem addRemove_keys_filter_left (l r : List α) (hl : l.Nodup) (hr : r.Nodup) :
    ((addRemove l r).map (·.2)).filter (fun k => l.contains k) = l := by
  rw [addRemove_eq_spec l r hl hr]
  exact spec_keys_left l r

theorem keyedIndex_eq (keys : List α) (k : α) :
    keyedIndex keys k
      = if keys.contains k then some (keys.length - 1 - keys.reverse.idxOf k) else none := by
  refine (C20P.dget_fold_last id keys 0 [] k).trans ?_
  split
  · rename_i h
    rw [Nat.zero_add, C20P.lastIdx_eq keys k (List.contains_iff_mem.1 h)]; rfl
  · rfl

theorem keyedContains_eq (keys : List α) (k : α) : keyedContains keys k = keys.contains k := by
  rw [keyedContains, ← keyedIndex, keyedIndex_eq]
  cases keys.contains k <;> rfl

theorem keyedIndex_lt {keys : List α} {k : α} {i : Nat} (h : keyedIndex keys k = some i) : i < keys.length := by
  rw [keyedIndex_eq] at h
  split at h
  · rename_i hc
    have : 0 < keys.length := List.length_pos_of_mem (List.contains_iff_mem.1 hc)
    simp only [Option.some.injEq] at h
    omega
  · cases h

/-- **`KeyedTuple.__getitem__(key)`**: the index `__map` holds for a key is that of the LAST item with the key -/
theorem keyed_getElem? (key : β → α) (l : List β) (k : α) :
    (keyedIndex (l.map key) k).bind (l[·]?) = l.reverse.find? (fun x => key x == k) := by
  have hfind : ∀ m : List β, m.find? (fun x => key x == k) = m[(m.map key).idxOf k]? := by
    intro m
    induction m with
    | nil => simp
    | cons x xs ih =>
      simp only [List.find?_cons, List.map_cons, List.idxOf_cons]
      by_cases h : key x == k
      · simp [h]
      · simp [h, ih]
  rw [keyedIndex_eq, hfind, List.map_reverse]
  by_cases hc : (l.map key).contains k
  · have hlt := List.idxOf_lt_length_of_mem (l := (l.map key).reverse) (by simpa using hc)
    simp only [List.length_reverse, List.length_map] at hlt
    simp only [hc, if_true, Option.bind_some, List.length_map]
    rw [List.getElem?_reverse hlt]
  · have : l.length ≤ (l.map key).reverse.idxOf k := by
      have := List.idxOf_eq_length (l := (l.map key).reverse) (a := k) (by simpa using hc)
      simp only [List.length_reverse, List.length_map] at this
      omega
    simp only [hc, Bool.false_eq_true, if_false, Option.bind_none]
    rw [List.getElem?_eq_none (by simpa using this)]

end AR
