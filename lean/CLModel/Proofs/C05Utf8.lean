/-
UTF-8, the arithmetic: the byte sequences `str.encode("utf-8")` produces, described by their payload bits.  The decoder
(`Pipe.utf8Decode` of C05; `MergeB.decodeUtf8` of C04 is the same function, `C04B.decodeUtf8_eq`) is run on these shapes, so
that no proof about decoding has to divide.  At the end, on whole texts: `str.encode("utf-8")` (`Dtd.utf8`) accepts exactly the
texts of scalar values (`C05Dtd.utf8_some_iff`).
-/
import CLModel.Checks.Dtd

namespace C05Dtd

/-- a Unicode scalar value: a code point that is not a surrogate -/
def Scalar (c : Nat) : Prop := c < 0x110000 ∧ ¬ (0xD800 ≤ c ∧ c ≤ 0xDFFF)

instance (c : Nat) : Decidable (Scalar c) := by unfold Scalar; infer_instance

end C05Dtd

namespace Utf8
open Dtd C05Dtd

theorem hdiv (a : Nat) {b : Nat} (h : b < 64) : (a * 64 + b) / 64 = a := by
  rw [Nat.mul_comm, Nat.mul_add_div (by decide), Nat.div_eq_of_lt h, Nat.add_zero]

theorem hmod (a : Nat) {b : Nat} (h : b < 64) : (a * 64 + b) % 64 = b := by
  rw [Nat.mul_comm, Nat.mul_add_mod, Nat.mod_eq_of_lt h]

theorem digits (c : Nat) : ∃ a b, c = a * 64 + b ∧ b < 64 :=
  ⟨c / 64, c % 64, (Nat.div_add_mod' c 64).symm, Nat.mod_lt _ (by decide)⟩

theorem div4096 (c : Nat) : c / 4096 = c / 64 / 64 := (Nat.div_div_eq_div_mul c 64 64).symm

theorem div262144 (c : Nat) : c / 262144 = c / 64 / 64 / 64 := by
  rw [Nat.div_div_eq_div_mul, Nat.div_div_eq_div_mul]

/-- `e` is the well-formed UTF-8 sequence of the code point `c`: lead byte and continuation bytes written as marker plus
    payload.  The side conditions exclude overlong forms (`2 ≤ x`, `x = 0 → 32 ≤ y`, `w = 0 → 16 ≤ x`), surrogates
    (`x = 13 → y < 32`) and code points above U+10FFFF (`w < 5`, `w = 4 → x < 16`). -/
inductive Seq : Nat → List Nat → Prop
  | one (c : Nat) (h : c < 0x80) : Seq c [c]
  | two (x y : Nat) (hx : 2 ≤ x) (hx' : x < 32) (hy : y < 64) : Seq (x * 64 + y) [0xC0 + x, 0x80 + y]
  | three (x y z : Nat) (hx : x < 16) (hy : y < 64) (hz : z < 64) (h0 : x = 0 → 32 ≤ y) (h13 : x = 13 → y < 32) :
      Seq ((x * 64 + y) * 64 + z) [0xE0 + x, 0x80 + y, 0x80 + z]
  | four (w x y z : Nat) (hw : w < 5) (hx : x < 64) (hy : y < 64) (hz : z < 64) (h0 : w = 0 → 16 ≤ x)
      (h4 : w = 4 → x < 16) : Seq (((w * 64 + x) * 64 + y) * 64 + z) [0xF0 + w, 0x80 + x, 0x80 + y, 0x80 + z]

theorem Seq.ne_nil {c : Nat} {e : List Nat} (h : Seq c e) : e ≠ [] := by
  cases h <;> exact List.cons_ne_nil _ _

theorem surrogate_false {c : Nat} (h : ¬ (0xD800 ≤ c ∧ c ≤ 0xDFFF)) : (0xD800 ≤ c && c ≤ 0xDFFF) = false := by
  rw [← Bool.not_eq_true, Bool.and_eq_true, decide_eq_true_eq, decide_eq_true_eq]; exact h

theorem utf8Char_of_range (c : Nat) :
    (0x80 ≤ c → c < 0x800 → utf8Char c = some [0xC0 + c / 64, 0x80 + c % 64]) ∧
    (0x800 ≤ c → c < 0x10000 → ¬ (0xD800 ≤ c ∧ c ≤ 0xDFFF) →
      utf8Char c = some [0xE0 + c / 64 / 64, 0x80 + c / 64 % 64, 0x80 + c % 64]) ∧
    (0x10000 ≤ c → c < 0x110000 →
      utf8Char c = some [0xF0 + c / 64 / 64 / 64, 0x80 + c / 64 / 64 % 64, 0x80 + c / 64 % 64, 0x80 + c % 64]) := by
  unfold Dtd.utf8Char
  refine ⟨fun h1 h2 => ?_, fun h1 h2 h3 => ?_, fun h1 h2 => ?_⟩
  · rw [if_neg (by omega), if_pos h2]
  · rw [if_neg (by omega), if_neg (by omega), surrogate_false h3, if_neg Bool.false_ne_true, if_pos h2, div4096]
  · rw [if_neg (by omega), if_neg (by omega), surrogate_false (by omega), if_neg Bool.false_ne_true, if_neg (by omega),
      if_pos h2, div262144, div4096]

theorem Seq.utf8Char {c : Nat} {e : List Nat} (h : Seq c e) : utf8Char c = some e := by
  cases h with
  | one c h => unfold Dtd.utf8Char; rw [if_pos h]
  | two x y hx hx' hy =>
    rw [(utf8Char_of_range _).1 (by omega) (by omega), hdiv x hy, hmod x hy]
  | three x y z hx hy hz h0 h13 =>
    rw [(utf8Char_of_range _).2.1 (by omega) (by omega) (by omega), hdiv _ hz, hmod _ hz, hdiv x hy, hmod x hy]
  | four w x y z hw hx hy hz h0 h4 =>
    rw [(utf8Char_of_range _).2.2 (by omega) (by omega), hdiv _ hz, hmod _ hz, hdiv _ hy, hmod _ hy, hdiv w hx, hmod w hx]

theorem utf8Char_scalar {c : Nat} {e : List Nat} (h : Dtd.utf8Char c = some e) : Scalar c := by
  unfold Dtd.utf8Char at h
  by_cases h3 : 0xD800 ≤ c ∧ c ≤ 0xDFFF
  · have : ¬ c < 0x80 ∧ ¬ c < 0x800 := by omega
    simp [this, h3] at h
  · refine ⟨Nat.lt_of_not_le fun h5 => ?_, h3⟩
    have : ¬ c < 0x80 ∧ ¬ c < 0x800 ∧ ¬ c < 0x10000 ∧ ¬ c < 0x110000 := by omega
    simp [this, h3] at h

theorem Seq.scalar {c : Nat} {e : List Nat} (h : Seq c e) : Scalar c :=
  utf8Char_scalar h.utf8Char

theorem Seq.exists_of_scalar {c : Nat} (h1 : c < 0x110000) (h2 : ¬ (0xD800 ≤ c ∧ c ≤ 0xDFFF)) : ∃ e, Seq c e := by
  by_cases ha : c < 0x80
  · exact ⟨_, .one c ha⟩
  obtain ⟨c1, z, rfl, hz⟩ := digits c
  by_cases hb : c1 * 64 + z < 0x800
  · have : 2 ≤ c1 ∧ c1 < 32 := by omega
    exact ⟨_, .two c1 z this.1 this.2 hz⟩
  obtain ⟨c2, y, rfl, hy⟩ := digits c1
  by_cases hc : (c2 * 64 + y) * 64 + z < 0x10000
  · have : c2 < 16 ∧ (c2 = 0 → 32 ≤ y) ∧ (c2 = 13 → y < 32) := by omega
    exact ⟨_, .three c2 y z this.1 hy hz this.2.1 this.2.2⟩
  obtain ⟨w, x, rfl, hx⟩ := digits c2
  have : w < 5 ∧ (w = 0 → 16 ≤ x) ∧ (w = 4 → x < 16) := by omega
  exact ⟨_, .four w x y z this.1 hx hy hz this.2.1 this.2.2⟩

theorem Seq.of_utf8Char {c : Nat} {e : List Nat} (h : Dtd.utf8Char c = some e) : Seq c e := by
  have hs := utf8Char_scalar h
  obtain ⟨e', h'⟩ := Seq.exists_of_scalar hs.1 hs.2
  rw [h'.utf8Char] at h
  cases h
  exact h'

end Utf8

namespace C05Dtd
open Dtd

/-- a text `str.encode("utf-8")` accepts -/
def ScalarText (t : List Nat) : Prop := ∀ c ∈ t, Scalar c

theorem ScalarText.append {a b : List Nat} (ha : ScalarText a) (hb : ScalarText b) : ScalarText (a ++ b) := by
  intro c hc
  rcases List.mem_append.1 hc with h | h
  · exact ha c h
  · exact hb c h

theorem ScalarText.sub {a b : List Nat} (hb : ScalarText b) (h : ∀ c ∈ a, c ∈ b) : ScalarText a :=
  fun c hc => hb c (h c hc)

theorem utf8Char_some (c : Nat) (h : Scalar c) : ∃ b, utf8Char c = some b :=
  (Utf8.Seq.exists_of_scalar h.1 h.2).imp fun _ hs => hs.utf8Char

theorem utf8_some : ∀ (t : List Nat), ScalarText t → ∃ b, utf8 t = some b
  | [], _ => ⟨[], rfl⟩
  | c :: cs, h => by
    obtain ⟨a, ha⟩ := utf8Char_some c (h c (by simp))
    obtain ⟨b, hb⟩ := utf8_some cs (fun x hx => h x (by simp [hx]))
    exact ⟨a ++ b, by simp [utf8, ha, hb]⟩

theorem utf8_some_iff (t : List Nat) : (utf8 t).isSome ↔ ScalarText t := by
  constructor
  · induction t with
    | nil => intro _ c hc; cases hc
    | cons c cs ih =>
      intro h
      simp only [utf8] at h
      cases hc : utf8Char c with
      | none => simp [hc] at h
      | some a =>
        cases hcs : utf8 cs with
        | none => simp [hc, hcs] at h
        | some b =>
          intro x hx
          simp only [List.mem_cons] at hx
          rcases hx with rfl | hx
          · exact Utf8.utf8Char_scalar hc
          · exact ih (by simp [hcs]) x hx
  · intro h
    obtain ⟨b, hb⟩ := utf8_some t h
    simp [hb]

end C05Dtd
