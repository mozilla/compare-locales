/-
`.properties` and `.dtd` as instances of the record syntax `C16G.RFmt`: what the parser yields for a printed file at the entry
level of the serializer model, and the walk of a printed file after one leading newline (what
`C16G.serialize_reparses_printed` and `C16G.idempotent_text_printed` ask of a format).
-/
import CLModel.Proofs.C16GFmt
import CLModel.Proofs.C02XDtd
namespace C16G
open Ser C16R
open P (PRec printRec printProps SafeRec)

/-- `key=` … (nothing after the value) -/
def propsF : RFmt := { pre := fun k => k ++ [61], post := [] }

theorem printF_props (rs : List PRec) : printF propsF rs = printProps rs :=
  Txt.flatten_map_congr fun r _ => by simp [recText, propsF, printRec]

theorem ofEntry_entity (f : P.Fmt) (s : Array Nat) (off : Nat) (r : PRec) (rest : List Nat)
    (h : s.toList.drop off = printRec r ++ rest) :
    ofEntry f s (P.propsEntity_c02 off r.1.length r.2.length) = entF propsF r := by
  refine (congrArg (ofEntry f s) ?_).trans (ofEntry_rec f s off [] [61] [] r rest (by simp [h, printRec]))
  simp [P.propsEntity_c02]

theorem map_ofEntry_expEntries (f : P.Fmt) (s : Array Nat) (rs : List PRec) (off : Nat)
    (h : s.toList.drop off = printProps rs) : (P.expEntries off rs).map (ofEntry f s) = entsF propsF rs :=
  map_ofEntry_records P.propsEmbeds f s propsF (fun _ => True)
    (fun r _ => by simp [printRec, recText, propsF]) (fun off r rest _ hd => ofEntry_entity f s off r rest hd)
    rs off (fun _ _ => trivial) h

theorem walk_props_lead_entries (rs : List PRec) (h : ∀ r ∈ rs, SafeRec r) :
    P.walk .properties (10 :: printProps rs).toArray = .done (P.wsEntry 0 :: P.expEntries 1 rs) := by
  have e1 : P.propsGetNext (10 :: printProps rs).toArray 0 = P.wsEntry 0 :=
    C02P.props_ws_at_n _ 0 [10] _ (List.cons_ne_nil _ _) (fun c hc => by obtain rfl := List.mem_singleton.mp hc; rfl)
      (P.propsEmbeds.follow C02P.propsSpec_laws rs h [] C02P.propsSpec_laws.follow_nil)
      (by simp [C02P.At, printProps])
  exact P.propsEmbeds.doc_lead C02P.propsSpec_laws rs h trivial (fun r _ => P.propsBlock_lic 1 r)
    (show (P.propsGetNext (10 :: printProps rs).toArray 0, ()) = _ by rw [e1])

theorem walk_props_lead (l : Bool) (rs : List PRec) (h : ∀ r ∈ rs, SafeRec r) :
    P.walk .properties ((if l then [10] else []) ++ printProps rs).toArray
      = .done ((if l then [P.wsEntry 0] else []) ++ P.expEntries (if l then 1 else 0) rs) := by
  cases l with
  | false => exact P.walk_props_printed rs h
  | true => exact walk_props_lead_entries rs h

open C02X (printDtd printDtdRec SafeDtdRec dtdPrefix dtdLen dtdEntity dtdExpEntries)

/-- `<!ENTITY key "` … `">` -/
def dtdF : RFmt := { pre := fun k => dtdPrefix ++ k ++ [32, 34], post := [34, 62] }

theorem printF_dtd (rs : List PRec) : printF dtdF rs = printDtd rs :=
  Txt.flatten_map_congr fun r _ => by simp [recText, dtdF, printDtdRec]

theorem ofEntry_dtdEntity (s : Array Nat) (off : Nat) (r : PRec) (rest : List Nat)
    (h : s.toList.drop off = printDtdRec r ++ rest) :
    ofEntry .dtd s (dtdEntity off r.1.length r.2.length) = entF dtdF r := by
  refine (congrArg (ofEntry .dtd s) ?_).trans
    (ofEntry_rec .dtd s off dtdPrefix [32, 34] [34, 62] r rest (by simp [h, printDtdRec]))
  simp [dtdEntity, dtdLen, dtdPrefix]
  omega

theorem map_ofEntry_dtdExpEntries (s : Array Nat) (rs : List PRec) (off : Nat) (h : s.toList.drop off = printDtd rs) :
    (dtdExpEntries off rs).map (ofEntry .dtd s) = entsF dtdF rs :=
  map_ofEntry_records C02X.dtdEmbeds .dtd s dtdF (fun _ => True)
    (fun r _ => by simp [printDtdRec, recText, dtdF]) (fun off r rest _ hd => ofEntry_dtdEntity s off r rest hd)
    rs off (fun _ _ => trivial) h

theorem walk_dtd_lead_entries (rs : List PRec) (h : ∀ r ∈ rs, SafeDtdRec r) :
    P.walk .dtd (10 :: printDtd rs).toArray = .done (P.wsEntry 0 :: dtdExpEntries 1 rs) := by
  have e1 : P.dtdGetNext (10 :: printDtd rs).toArray 0 = P.wsEntry 0 :=
    C02P.dtd_ws_at_n _ 0 [10] _ (List.cons_ne_nil _ _) (fun c hc => by obtain rfl := List.mem_singleton.mp hc; rfl)
      (C02X.dtdEmbeds.follow C02P.dtdSpec_laws rs h [] C02P.dtdSpec_laws.follow_nil)
      (by simp [C02P.At, printDtd])
  exact C02X.dtdEmbeds.doc_lead C02P.dtdSpec_laws rs h trivial (fun _ _ => trivial)
    (show (P.dtdGetNext (10 :: printDtd rs).toArray 0, ()) = _ by rw [e1])

theorem walk_dtd_lead (l : Bool) (rs : List PRec) (h : ∀ r ∈ rs, SafeDtdRec r) :
    P.walk .dtd ((if l then [10] else []) ++ printDtd rs).toArray
      = .done ((if l then [P.wsEntry 0] else []) ++ dtdExpEntries (if l then 1 else 0) rs) := by
  cases l with
  | false => exact C02X.walk_dtd_printed rs h
  | true => exact walk_dtd_lead_entries rs h

end C16G
