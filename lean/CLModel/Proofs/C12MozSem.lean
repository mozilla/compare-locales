/- `mozpath.match`: soundness and completeness of the translated regular expression with respect to the glob relation `TokM`. -/
import CLModel.Proofs.C12MozLex
import CLModel.Proofs.C12REngine
import CLModel.Proofs.RxDen
namespace C12M
open Rx PM C11R

/-- **the glob relation** (independent of regular expressions): the token list matches the whole text -/
inductive TokM : List MTok → Text → Prop
  | nil : TokM [] []
  | chr {c ts v} : TokM ts v → TokM (.chr c :: ts) (c :: v)
  | star {ts v} (w : Text) : 47 ∉ w → TokM ts v → TokM (.star :: ts) (w ++ v)
  | dirs0 {ts v} : TokM ts v → TokM (.dirs :: ts) v
  | dirsN {ts v} (w : Text) : w ≠ [] → 10 ∉ w → TokM ts v → TokM (.dirs :: ts) (w ++ 47 :: v)
  | below0 {ts v} : TokM ts v → TokM (.below :: ts) v
  | belowN {ts v} (w : Text) : w ≠ [] → 10 ∉ w → TokM ts v → TokM (.below :: ts) (47 :: w ++ v)
  | all0 {ts v} : TokM ts v → TokM (.all :: ts) v
  | allN {ts v} (w : Text) : w ≠ [] → 10 ∉ w → TokM ts v → TokM (.all :: ts) (w ++ v)

def NoNL (s : Array Nat) : Prop := ∀ i : Nat, s[i]? ≠ some 10

theorem nl_of_textAt {s : Array Nat} (h : NoNL s) {p : Nat} {t : Text} (ht : TextAt s p t) : 10 ∉ t := by
  intro hm
  obtain ⟨i, hi⟩ := List.mem_iff_getElem?.mp hm
  have hlt : i < t.length := by
    by_cases hlt : i < t.length
    · exact hlt
    · rw [List.getElem?_eq_none (by omega)] at hi; cases hi
  have := ht i hlt
  rw [hi] at this
  exact h (p + i) this

/-- the texts a token stands for, as its translation composes them -/
def MTok.lang : MTok → Text → Prop
  | .chr c => (· = [c])
  | .star => Stretch (· != 47) 0
  | .dirs => fun w => Cat (Stretch (· != 10) 1) (· = [47]) w ∨ w = []
  | .below => fun w => Cat (· = [47]) (Stretch (· != 10) 1) w ∨ w = []
  | .all => fun w => Stretch (· != 10) 1 w ∨ w = []

theorem den_tok (s : Array Nat) : ∀ t : MTok, Den s (seqOf t.items) t.lang
  | .chr c => den_lit s c
  | .star => den_rep (ends_notLit s 47) 0
  | .dirs => den_alt (den_seq (den_rep (P := (· != 10)) (ends_any s false) 1) (den_lit s 47)) (den_eps s)
  | .below => den_alt (den_seq (den_lit s 47) (den_rep (P := (· != 10)) (ends_any s false) 1)) (den_eps s)
  | .all => den_alt (den_rep (P := (· != 10)) (ends_any s false) 1) (den_eps s)

theorem run_ne {c : Nat} {w : Text} {mn : Nat} : Stretch (· != c) mn w ↔ mn ≤ w.length ∧ c ∉ w :=
  and_congr_right fun _ => ⟨fun h hm => by simpa using h c hm, bne_of_not_mem⟩

theorem tokM_cons {t : MTok} {ts : List MTok} {v : Text} :
    TokM (t :: ts) v ↔ ∃ w v', t.lang w ∧ TokM ts v' ∧ v = w ++ v' := by
  have pos : ∀ {w : Text}, w ≠ [] ↔ 1 ≤ w.length := fun {w} => by cases w <;> simp
  constructor
  · intro h
    cases h with
    | chr h => exact ⟨_, _, rfl, h, rfl⟩
    | star w hw h => exact ⟨w, _, run_ne.mpr ⟨Nat.zero_le _, hw⟩, h, rfl⟩
    | dirs0 h => exact ⟨[], _, .inr rfl, h, rfl⟩
    | dirsN w h1 h2 h => exact ⟨w ++ [47], _, .inl ⟨w, _, run_ne.mpr ⟨pos.mp h1, h2⟩, rfl, rfl⟩, h, by simp⟩
    | below0 h => exact ⟨[], _, .inr rfl, h, rfl⟩
    | belowN w h1 h2 h => exact ⟨47 :: w, _, .inl ⟨_, w, rfl, run_ne.mpr ⟨pos.mp h1, h2⟩, rfl⟩, h, rfl⟩
    | all0 h => exact ⟨[], _, .inr rfl, h, rfl⟩
    | allN w h1 h2 h => exact ⟨w, _, .inl (run_ne.mpr ⟨pos.mp h1, h2⟩), h, rfl⟩
  · rintro ⟨w, v', hw, h, rfl⟩
    cases t with
    | chr c => cases hw; exact .chr h
    | star => exact .star w (run_ne.mp hw).2 h
    | dirs =>
      rcases hw with ⟨u, _, hu, rfl, rfl⟩ | rfl
      · simpa using TokM.dirsN u (pos.mpr (run_ne.mp hu).1) (run_ne.mp hu).2 h
      · exact .dirs0 h
    | below =>
      rcases hw with ⟨_, u, rfl, hu, rfl⟩ | rfl
      · exact .belowN u (pos.mpr (run_ne.mp hu).1) (run_ne.mp hu).2 h
      · exact .below0 h
    | all =>
      rcases hw with hu | rfl
      · exact .allN w (pos.mpr (run_ne.mp hu).1) (run_ne.mp hu).2 h
      · exact .all0 h

/-- what the tail `(?:/.*)?$` accepts at `p` in a newline-free subject: the end, or a "/" -/
theorem tail_acc {s : Array Nat} (h : NoNL s) (p : Nat) (hp : p ≤ s.size) (caps) :
    (m s Gen.Pat.mozpath_frag_tail ⟨p, caps⟩ some).isSome = true ↔ p = s.size ∨ s[p]? = some 47 := by
  have hk : ∀ j, (m s (Re.eol false) ⟨j, caps⟩ some).isSome = true ↔ j = s.size := by
    intro j
    have h10 : (s[j]? == some 10) = false := by simpa using h j
    simp [m, h10]
  rw [Gen.Pat.mozpath_frag_tail, m_seq_def,
    den_alt (den_seq (den_lit s 47) (den_rep (P := (· != 10)) (ends_any s false) 0)) (den_eps s) p caps _ hp]
  simp only [hk]
  constructor
  · rintro ⟨w, ⟨_, u, rfl, _, rfl⟩ | rfl, hat, he⟩
    · exact .inr (Txt.at_cons.mp hat).1
    · exact .inl he
  · rintro (rfl | h47)
    · exact ⟨[], .inr rfl, Txt.at_nil _ _, rfl⟩
    · have hlt := getElem?_some_lt h47
      obtain ⟨hat, hlen⟩ := textAt_slice (s := s) (a := p + 1) (b := s.size) (by omega) (Nat.le_refl _)
      refine ⟨47 :: slice s (p + 1) s.size, .inl ⟨_, _, rfl, run_ne.mpr ⟨Nat.zero_le _, nl_of_textAt h hat⟩, rfl⟩,
        Txt.at_cons.mpr ⟨h47, hat⟩, ?_⟩
      simp only [List.length_cons, hlen]; omega

/-- the translated token list, followed by the tail, accepts from `p` -/
def Acc (s : Array Nat) (ts : List MTok) (p : Nat) (caps : List (Nat × Nat × Nat)) : Prop :=
  (m s (seqOf (mozItems ts ++ [Gen.Pat.mozpath_frag_tail])) ⟨p, caps⟩ some).isSome = true

/-- the glob relation holds for a text found at `p`, and after it the subject ends or goes on with "/" -/
def Spec (s : Array Nat) (ts : List MTok) (p : Nat) : Prop :=
  ∃ pre, TokM ts pre ∧ TextAt s p pre ∧ (p + pre.length = s.size ∨ s[p + pre.length]? = some 47)

theorem mozItems_cons (t : MTok) (ts : List MTok) : mozItems (t :: ts) = t.items ++ mozItems ts := by
  simp [mozItems]

theorem acc_iff (s : Array Nat) (h : NoNL s) : ∀ (ts : List MTok) (p : Nat) (caps : List (Nat × Nat × Nat)), p ≤ s.size →
    (Acc s ts p caps ↔ Spec s ts p)
  | [], p, caps, hp => by
    unfold Acc Spec
    simp only [mozItems, List.flatMap_nil, List.nil_append, seqOf]
    rw [tail_acc h p hp]
    constructor
    · intro hh
      exact ⟨[], TokM.nil, Txt.at_nil _ _, hh⟩
    · rintro ⟨pre, hm, _, hh⟩
      cases hm
      exact hh
  | t :: ts, p, caps, hp => by
    have step : Acc s (t :: ts) p caps ↔ ∃ w, t.lang w ∧ TextAt s p w ∧ Acc s ts (p + w.length) caps := by
      unfold Acc
      rw [mozItems_cons, List.append_assoc, m_seqOf_append]
      exact den_tok s t p caps _ hp
    rw [step]
    constructor
    · rintro ⟨w, hw, hat, hacc⟩
      obtain ⟨pre, h1, h2, h3⟩ := (acc_iff s h ts _ caps (Txt.At.le_size hat hp)).mp hacc
      exact ⟨w ++ pre, tokM_cons.mpr ⟨w, pre, hw, h1, rfl⟩, TextAt.append hat h2, by
        rwa [List.length_append, ← Nat.add_assoc]⟩
    · rintro ⟨_, h1, h2, h3⟩
      obtain ⟨w, pre, hw, h1', rfl⟩ := tokM_cons.mp h1
      obtain ⟨ha, hb⟩ := h2.split
      rw [List.length_append, ← Nat.add_assoc] at h3
      exact ⟨w, hw, ha, (acc_iff s h ts _ caps (Txt.At.le_size ha hp)).mpr ⟨pre, h1', hb, h3⟩⟩

theorem noNL_of {path : Text} (h : 10 ∉ path) : NoNL path.toArray := by
  intro i hi
  apply h
  have : path[i]? = some 10 := by simpa using hi
  exact List.mem_of_getElem? this

theorem spec_zero (path : Text) (ts : List MTok) :
    Spec path.toArray ts 0 ↔ ∃ pre, TokM ts pre ∧ (path = pre ∨ ∃ rest, path = pre ++ 47 :: rest) := by
  unfold Spec
  constructor
  · rintro ⟨pre, h1, h2, h3⟩
    refine ⟨pre, h1, ?_⟩
    obtain ⟨t, ht⟩ := h2.prefix
    simp only [Nat.zero_add] at h3
    have ht' : path = pre ++ t := by simpa using ht.symm
    rcases h3 with h3 | h3
    · left
      have : t = [] := by
        have := congrArg List.length ht'
        simp at h3 this
        cases t with
        | nil => rfl
        | cons x xs => simp at this; omega
      subst this; simpa using ht'
    · right
      subst ht'
      simp only [List.getElem?_toArray] at h3
      rw [List.getElem?_append_right (Nat.le_refl _)] at h3
      simp only [Nat.sub_self] at h3
      cases t with
      | nil => simp at h3
      | cons x xs =>
        simp at h3; subst h3
        exact ⟨xs, rfl⟩
  · rintro ⟨pre, h1, h2⟩
    refine ⟨pre, h1, ?_, ?_⟩
    · rcases h2 with rfl | ⟨rest, rfl⟩
      · intro j _; simp
      · intro j hj; simp [List.getElem?_append_left hj]
    · rcases h2 with rfl | ⟨rest, rfl⟩
      · left; simp
      · right; simp

theorem mozMatch_iff (path pat : Text) (hnl : 10 ∉ path) :
    ∃ b, mozMatch path pat = .ok b ∧
      (b = true ↔ pat = [] ∨ ∃ pre, TokM (mozLex pat) pre ∧ (path = pre ∨ ∃ rest, path = pre ++ 47 :: rest)) := by
  unfold mozMatch
  by_cases hp : pat = []
  · subst hp; exact ⟨true, rfl, by simp⟩
  · have hpe : pat.isEmpty = false := by cases pat <;> simp_all
    simp only [hpe, Bool.false_eq_true, if_false, mozRegex_lex, bind, Except.bind, pure, Except.pure]
    refine ⟨_, rfl, ?_⟩
    have := acc_iff path.toArray (noNL_of hnl) (mozLex pat) 0 [] (Nat.zero_le _)
    unfold Acc at this
    unfold matchAt
    rw [this, spec_zero]
    simp [hp]

theorem mozMatch_true_iff {path pat : Text} (hnl : 10 ∉ path) (hne : pat ≠ []) :
    mozMatch path pat = .ok true ↔
      ∃ pre, TokM (mozLex pat) pre ∧ (path = pre ∨ ∃ rest, path = pre ++ 47 :: rest) := by
  obtain ⟨b, hb, hiff⟩ := mozMatch_iff path pat hnl
  rw [hb, Except.ok.injEq, hiff]
  simp only [hne, false_or]

end C12M
