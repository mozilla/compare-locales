/- sequences without a common element — `get_opcodes` is ONE `replace` over both
   (no matching block exists, so `find_longest_match` returns size 0 whatever the autojunk heuristic does), and the
   verdict of `checkPrintf` is one error without warning ("every argument retyped"). -/
import CLModel.Proofs.C06Verdict
namespace Difflib
variable {α : Type} [DecidableEq α]

theorem flm_disjoint (a b : List α) (hd : ∀ x ∈ a, x ∉ b) :
    ∃ x, findLongestMatch a b (chainB b) 0 a.length 0 b.length = some x ∧ x.k = 0 := by
  obtain ⟨x, hx, _, hm⟩ := flm_valid a b (chainB b) (chainB_sorted b) (chainB_sound b) 0 a.length 0 b.length
    (by omega) (by omega) (by omega) (by omega)
  refine ⟨x, hx, ?_⟩
  apply Classical.byContradiction
  intro hk
  obtain ⟨v, ha, hb⟩ := hm 0 (by omega)
  exact hd v (List.mem_of_getElem? ha) (List.mem_of_getElem? hb)

theorem opcodes_disjoint (a b : List α) (ha : a ≠ []) (hb : b ≠ []) (hd : ∀ x ∈ a, x ∉ b) :
    opcodes a b = some [⟨.replace, 0, a.length, 0, b.length⟩] := by
  obtain ⟨x, hx, hk⟩ := flm_disjoint a b hd
  have hla : 0 < a.length := List.length_pos_iff.mpr ha
  have hlb : 0 < b.length := List.length_pos_iff.mpr hb
  have hmb : mbLoop a b (chainB b) (2 * a.length + 2) [⟨0, a.length, 0, b.length⟩] [] = some [] := by
    simp only [mbLoop, hx, hk, ne_eq, not_true_eq_false, if_false, mbLoop_nil]
  unfold opcodes matchingBlocks
  simp only [hmb, List.mergeSort_nil, collapse]
  simp [opcodesGo, hla, hlb]

end Difflib

namespace PropCk
open Difflib

/-- the error text of one `replace` over both lists: position `i` "should be" the reference's type -/
def replaceListMsg (R L : List Spec) : Text :=
  join sCommaSp ((List.range (min R.length L.length)).map (fun i =>
    sArgument ++ decimal (i + 1) ++ sSpBt ++ showSpec (L[i]?).join ++ sBtShouldBe ++ showSpec (R[i]?).join ++ sBt))

/-- **no specifier in common** (every argument retyped, whatever the two lengths): exactly one error — one
    "should be" message per position of the shorter list — and NO warning, even when the localization is shorter -/
theorem specsVerdict_disjoint (R L : List Spec) (hR : R ≠ []) (hL : L ≠ []) (hd : ∀ x ∈ R, x ∉ L) :
    specsVerdict R L = some [⟨.error, .val 0, replaceListMsg R L, .printf⟩] := by
  have hne : R ≠ L := by
    rintro rfl
    obtain ⟨x, xs, rfl⟩ := List.exists_cons_of_ne_nil hR
    exact hd x (by simp) (by simp)
  have hzip : (List.range' 0 R.length).zip (List.range' 0 L.length) =
      (List.range (min R.length L.length)).map (fun i => (i, i)) := by
    simp only [← List.range_eq_range']
    apply List.ext_getElem
    · simp
    · intro i h1 h2
      simp
  have hmin : min R.length L.length ≠ 0 := by
    have := List.length_pos_iff.mpr hR; have := List.length_pos_iff.mpr hL; omega
  obtain ⟨ops, ho, -, hs⟩ := specsVerdict_eq R L
  obtain rfl := Option.some.inj ((opcodes_disjoint R L hR hL hd).symm.trans ho)
  rw [hs, if_pos hne]
  simp [verdictOf, opMsgs, opWarn, replaceListMsg, hzip, Function.comp_def, hmin]

end PropCk
