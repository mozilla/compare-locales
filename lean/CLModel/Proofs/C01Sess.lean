/- The session walk `walkSt` / `walkFromSt` (a walk that also returns the context it leaves behind) against `P.walk` /
   `P.walkLoc`: the localizable view is the filtered full view of a context in the same state, both leave the same state, and
   on a fresh context they are the plain walks.  `Walks.doneSt` ties `walkFromSt` to the walk relation of WalkRel. -/
import CLModel.Parser.C01Sess
import CLModel.Proofs.Walk
import CLModel.Proofs.WalkRel
namespace C01P
open P C01M

theorem walkFromSt_full {σ : Type} (next : σ → Nat → Entry × σ) (size : Nat) :
    ∀ fuel c off, (walkFromSt next size false fuel c off).1 = walkFrom next size fuel c off := by
  intro fuel
  induction fuel with
  | zero => intro c off; simp only [walkFromSt, walkFrom]
  | succ fuel ih =>
    intro c off
    simp only [walkFromSt, walkFrom]
    split
    · rfl
    · simp [ih]

theorem walkFromSt_loc {σ : Type} (next : σ → Nat → Entry × σ) (size : Nat) :
    ∀ fuel c off, (walkFromSt next size true fuel c off).1 = walkFromLoc next size fuel c off := by
  intro fuel
  induction fuel with
  | zero => intro c off; simp only [walkFromSt, walkFromLoc]
  | succ fuel ih =>
    intro c off
    simp only [walkFromSt, walkFromLoc]
    split
    · rfl
    · simp only [Bool.not_true, Bool.false_or, ih]

theorem walkFromSt_final {σ : Type} (next : σ → Nat → Entry × σ) (size : Nat) (l1 l2 : Bool) :
    ∀ fuel c off, (walkFromSt next size l1 fuel c off).2 = (walkFromSt next size l2 fuel c off).2 := by
  intro fuel
  induction fuel with
  | zero => intro c off; simp only [walkFromSt]
  | succ fuel ih =>
    intro c off
    simp only [walkFromSt]
    split
    · rfl
    · simp only [ih]

theorem walkFromSt_filter {σ : Type} (next : σ → Nat → Entry × σ) (size : Nat) (fuel : Nat) (c : σ) (off : Nat) :
    (walkFromSt next size true fuel c off).1 = (walkFromSt next size false fuel c off).1.filterLoc := by
  rw [walkFromSt_loc, walkFromSt_full, walkFromLoc_eq]

theorem walkSt_filter (f : Fmt) (s : Array Nat) (fel : Bool) :
    (walkSt f s true fel).1 = (walkSt f s false fel).1.filterLoc ∧
    (walkSt f s true fel).2 = (walkSt f s false fel).2 := by
  cases f
  case inc => exact ⟨walkFromSt_filter _ _ _ _ _, walkFromSt_final _ _ _ _ _ _ _⟩
  all_goals exact ⟨walkFromSt_filter (fun (_ : Unit) off => (_, ())) s.size (s.size + 1) () 0, rfl⟩

theorem walkSt_fresh (f : Fmt) (s : Array Nat) : (walkSt f s false false).1 = walk f s := by
  cases f <;> simp only [walkSt, walk] <;> exact walkFromSt_full _ _ _ _ _

/-- only `DefinesParser` has per-context state: for the other formats a walk neither reads nor writes the flag -/
theorem walkSt_stateless (f : Fmt) (hf : f ≠ .inc) (s : Array Nat) (loc fel : Bool) :
    walkSt f s loc fel = ((walkSt f s loc false).1, fel) := by
  cases f <;> first | exact absurd rfl hf | rfl

theorem walkSt_fst_stateless (f : Fmt) (hf : f ≠ .inc) (s : Array Nat) (loc fel : Bool) :
    (walkSt f s loc fel).1 = (walkSt f s loc false).1 := by
  rw [walkSt_stateless f hf]

theorem _root_.C02P.Walks.doneSt {σ : Type} {next : σ → Nat → Entry × σ} {size : Nat} {c c' : σ} {off off' : Nat}
    {es : List Entry} (h : C02P.Walks next size c off es c' off') (hend : size ≤ off') (loc : Bool) :
    ∀ fuel, es.length ≤ fuel →
      walkFromSt next size loc fuel c off = (.done (es.filter fun e => !loc || e.localizable), c') := by
  induction h with
  | nil => intro fuel _; cases fuel <;> simp [walkFromSt, hend]
  | cons a _ d _ ih =>
    intro fuel hf
    obtain ⟨f, rfl⟩ : ∃ f, fuel = f + 1 := ⟨fuel - 1, by simp at hf; omega⟩
    rw [walkFromSt, if_neg (by omega), d]
    simp only [ih hend f (by simpa using hf), List.filter_cons]
    split <;> rfl

end C01P
