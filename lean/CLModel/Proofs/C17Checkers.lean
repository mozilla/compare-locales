/-
C17: what the positions point at that the checker models yield.  `Checks.baseCheck` (checks/base.py): offsets of
U+FFFD inside `l10nEnt.all`.  `PropCk.check` (checks/properties.py): the kinds of `PropsPosOK`; an int position is
within `raw_val` because the unescaped value is never longer than the raw value.
-/
import CLModel.Proofs.C17Formula
import CLModel.Proofs.BaseCheck
import CLModel.Proofs.C05Props
import CLModel.Proofs.C02Roundtrip
namespace C17P

theorem baseCheck_pos (all : Array Nat) : ∀ r ∈ Checks.baseCheck all, all[r.pos]? = some 0xFFFD :=
  fun r hr => (Checks.baseCheck_results all r hr).2.2

theorem unescape_id (raw v : List Nat) (h : PropCk.unescape raw = some v) (hb : ∀ c ∈ raw, c ≠ 92) : v = raw := by
  rw [C06U.unescape_eq_propsVal, P.propsVal_eq_spec] at h
  cases h
  exact P.spec_id raw hb

/-- what a position yielded by `PropertiesChecker.check` points at:
    an `EntityPos` at a U+FFFD of `l10nEnt.all`; a plain int that is 0, or (escape warning) the offset of a backslash
    in `raw_val`, or (printf error) the offset of a `%` in the unescaped value `val` -/
def PropsPosOK (e : PropCk.Ents) (l10nValue : List Nat) (f : PropCk.Finding) : Prop :=
  match f.pos with
  | .ent n => e.l10nAll[n]? = some 0xFFFD
  | .val n => n = 0 ∨ (f.cat = .escape ∧ e.l10nRaw[n]? = some 92) ∨ (f.cat = .printf ∧ l10nValue[n]? = some 37)

theorem props_base_pos (e : PropCk.Ents) (v : List Nat) : ∀ f ∈ PropCk.baseCheck e, PropsPosOK e v f := by
  intro f hf
  obtain ⟨n, hp, h⟩ := C06Pos.base_pos e f hf
  simp only [PropsPosOK, hp]
  exact h

theorem props_esc_pos (e : PropCk.Ents) (v : List Nat) : ∀ f ∈ PropCk.escapeWarnings e.l10nRaw, PropsPosOK e v f := by
  intro f hf
  obtain ⟨hc, n, hp, h⟩ := C06Pos.esc_pos e.l10nRaw f hf
  simp only [PropsPosOK, hp]
  exact .inr (.inl ⟨hc, h⟩)

theorem props_printf_pos (e : PropCk.Ents) (R : List (Option (List Nat))) (v : List Nat) (pf : List PropCk.Finding)
    (h : PropCk.checkPrintf R v = some pf) : ∀ f ∈ pf, PropsPosOK e v f := by
  intro f hf
  obtain ⟨hc, n, hp, h⟩ := C06Pos.checkPrintf_pos R v pf h f hf
  simp only [PropsPosOK, hp]
  exact h.imp_right fun h => .inr ⟨hc, h.2⟩

theorem props_check_pos (e : PropCk.Ents) (fs : List PropCk.Finding) (v : List Nat)
    (hc : PropCk.check e = some fs) (hv : PropCk.unescape e.l10nRaw = some v) :
    ∀ f ∈ fs, PropsPosOK e v f := by
  obtain ⟨refValue, hr⟩ := Pipe.unescape_total e.refRaw
  cases hg : PropCk.pluralGate e.refComment e.refKey refValue with
  | true =>
    obtain ⟨known, pats, lpats, _, _, _, h⟩ := C06.plural_verdict e refValue v hr hv hg
    rw [h] at hc; cases hc
    intro f hf
    rcases List.mem_append.mp hf with hf | hf
    · exact props_base_pos e v f hf
    · simp [PropsPosOK, (C06Pos.plural_pos _ _ _ _ f hf).1]
  | false =>
    have hnoargs : (PropCk.getPrintfSpecs refValue = .ok [] ∨ ∃ err, PropCk.getPrintfSpecs refValue = .error err) →
        ∀ f ∈ fs, PropsPosOK e v f := by
      intro hR
      have h := C06.check_no_reference_args e refValue v hr hv hg hR
      rw [h] at hc; cases hc
      intro f hf
      simp only [List.mem_append] at hf
      rcases hf with hf | hf
      · exact props_base_pos e v f hf
      · exact props_esc_pos e v f hf
    cases hR : PropCk.getPrintfSpecs refValue with
    | error err => exact hnoargs (Or.inr ⟨err, hR⟩)
    | ok R =>
      cases R with
      | nil => exact hnoargs (Or.inl hR)
      | cons x xs =>
        obtain ⟨pf, hpf, h, _⟩ := C06.check_printf e refValue v (x :: xs) hr hv hg hR (by simp)
        rw [h] at hc; cases hc
        intro f hf
        simp only [List.mem_append] at hf
        rcases hf with (hf | hf) | hf
        · exact props_base_pos e v f hf
        · exact props_esc_pos e v f hf
        · exact props_printf_pos e _ v pf hpf f hf

theorem props_check_pos_bound (e : PropCk.Ents) (fs : List PropCk.Finding)
    (hc : PropCk.check e = some fs) :
    ∀ f ∈ fs, match f.pos with
      | .ent n => n < e.l10nAll.length
      | .val n => n ≤ e.l10nRaw.length := by
  intro f hf
  obtain ⟨hv, he⟩ := C06.printf_pos_in_value e fs hc f hf
  cases hp : f.pos with
  | ent n => exact he n hp
  | val n => exact hv n hp

end C17P
