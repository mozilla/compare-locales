/-
A version without duplicate keys is stored entry by entry (`versionDict_eq`); merging a single version; merging identical
versions (`mergeTwo_aligned`: two dicts with the same entries position by position merge to the newer one with the older
one's Whitespace objects; `merged_identical` folds it over the versions).
`C15C`: stand-alone comments.  `get_key_value` keys the n-th stand-alone comment with text `v` of a version by `(v, n)`
(the duplicate-comment counter), so the merge holds the n-th copy iff SOME version has at least n copies: the number of
copies of a comment text in the merge is the maximum over the versions (`versionDict_comment`, `C15.comment_copies`).
-/
import CLModel.Proofs.C15Ident
namespace Merge
open AR

theorem getKeyValue_comment (e : Ent) (c : List (List Nat × Nat)) (h : e.kind = .comment) :
    getKeyValue e c = ((Key.comment e.val (cnt c e.val + 1), e), dset c e.val (cnt c e.val + 1)) := by
  simp [getKeyValue, h]

theorem getKeyValue_ws (e : Ent) (c : List (List Nat × Nat)) (h : e.kind = .whitespace) :
    getKeyValue e c = ((Key.obj e.oid.1 e.oid.2, e), c) := by
  simp [getKeyValue, h]

theorem getKeyValue_ent (e : Ent) (c : List (List Nat × Nat)) (h1 : e.kind ≠ .comment)
    (h2 : e.kind ≠ .whitespace) : getKeyValue e c = ((Key.ent e.ekey, e), c) := by
  simp [getKeyValue, h1, h2]

theorem cnt_dset (c : List (List Nat × Nat)) (v v' : List Nat) (n : Nat) :
    cnt (dset c v n) v' = if v == v' then n else cnt c v' := by
  unfold cnt
  rw [dget_dset]
  by_cases h : v == v' <;> simp [h]

end Merge

namespace C15C
open Merge

/-- how many stand-alone comments of the version have the text `v` -/
def copies (v : List Nat) (es : List Ent) : Nat := (es.filter (fun e => e.kind == .comment && e.val == v)).length

theorem copies_cons (v : List Nat) (e : Ent) (es : List Ent) :
    copies v (e :: es) = (if e.kind = .comment ∧ e.val = v then 1 else 0) + copies v es := by
  unfold copies
  rw [List.filter_cons]
  by_cases h : e.kind = .comment ∧ e.val = v
  · have : (e.kind == P.Kind.comment && e.val == v) = true := by simp [h.1, h.2]
    rw [if_pos this, if_pos h, List.length_cons]; omega
  · have : ¬ ((e.kind == P.Kind.comment && e.val == v) = true) := by
      intro hh
      simp only [Bool.and_eq_true, beq_iff_eq] at hh
      exact h hh
    rw [if_neg this, if_neg h]; omega

/-- The counter `c` has seen `cnt c v` copies of `v`; the remaining entries get the numbers `cnt c v + 1 … cnt c v + copies v es`. -/
theorem pairs_comment_mem (v : List Nat) (n : Nat) : ∀ (es : List Ent) (c : List (List Nat × Nat)),
    Key.comment v n ∈ (pairs es c).map (·.1) ↔ cnt c v < n ∧ n ≤ cnt c v + copies v es := by
  intro es
  induction es with
  | nil =>
    intro c
    simp only [pairs, copies, List.map_nil, List.not_mem_nil, List.filter_nil, List.length_nil, Nat.add_zero, false_iff]
    omega
  | cons e es ih =>
    intro c
    rw [copies_cons]
    by_cases h1 : e.kind = .comment
    · simp only [pairs, getKeyValue_comment e c h1, List.map_cons, List.mem_cons, ih, cnt_dset]
      by_cases hv : e.val = v
      · subst hv
        simp only [h1, true_and, if_true, beq_self_eq_true, Key.comment.injEq]
        constructor
        · rintro (h2 | ⟨h2, h3⟩)
          · omega
          · omega
        · rintro ⟨h2, h3⟩
          by_cases hn : n = cnt c e.val + 1
          · exact .inl hn
          · exact .inr ⟨by omega, by omega⟩
      · have hb : (e.val == v) = false := by simpa using hv
        simp only [h1, hv, and_false, if_false, hb, Bool.false_eq_true, Key.comment.injEq, Nat.zero_add]
        constructor
        · rintro (⟨h2, _⟩ | h2)
          · exact absurd h2.symm (by intro e'; exact hv e')
          · exact h2
        · intro h2; exact .inr h2
    · have hne : ¬ (e.kind = .comment ∧ e.val = v) := fun hh => h1 hh.1
      rw [if_neg hne, Nat.zero_add]
      by_cases h2 : e.kind = .whitespace
      · simp only [pairs, getKeyValue_ws e c h2, List.map_cons, List.mem_cons, ih]
        constructor
        · rintro (h | h)
          · cases h
          · exact h
        · intro h; exact .inr h
      · simp only [pairs, getKeyValue_ent e c h1 h2, List.map_cons, List.mem_cons, ih]
        constructor
        · rintro (h | h)
          · cases h
          · exact h
        · intro h; exact .inr h

end C15C

namespace Merge
open AR
open C15R (pws)
open C16G (NoAdj noAdj_nil noAdj_cons noAdj_map noAdj_all2)
open Txt (All2)

theorem pairs_obj_mem (es : List Ent) (c : List (List Nat × Nat)) (a b : Nat)
    (h : Key.obj a b ∈ (pairs es c).map (·.1)) : ∃ e ∈ es, e.isWs = true ∧ e.oid = (a, b) := by
  induction es generalizing c with
  | nil => simp [pairs] at h
  | cons e es ih =>
    by_cases h1 : e.kind = .comment
    · simp only [pairs, getKeyValue_comment e c h1, List.map_cons, List.mem_cons] at h
      rcases h with h | h
      · cases h
      · obtain ⟨e', he', hw⟩ := ih _ h
        exact ⟨e', List.mem_cons_of_mem _ he', hw⟩
    · by_cases h2 : e.kind = .whitespace
      · simp only [pairs, getKeyValue_ws e c h2, List.map_cons, List.mem_cons] at h
        rcases h with h | h
        · injection h with ha hb
          exact ⟨e, by simp, by simp [Ent.isWs, h2], by rw [ha, hb]⟩
        · obtain ⟨e', he', hw⟩ := ih _ h
          exact ⟨e', List.mem_cons_of_mem _ he', hw⟩
      · simp only [pairs, getKeyValue_ent e c h1 h2, List.map_cons, List.mem_cons] at h
        rcases h with h | h
        · cases h
        · obtain ⟨e', he', hw⟩ := ih _ h
          exact ⟨e', List.mem_cons_of_mem _ he', hw⟩

theorem pairs_keys_nodup (es : List Ent) (c : List (List Nat × Nat)) (h1 : NodupKeys es)
    (h2 : ((es.filter (·.isWs)).map (·.oid)).Nodup) : ((pairs es c).map (·.1)).Nodup := by
  induction es generalizing c with
  | nil => simp [pairs]
  | cons e es ih =>
    have hk : NodupKeys es := by
      unfold NodupKeys at h1 ⊢
      rw [List.filter_cons] at h1
      split at h1
      · rw [List.map_cons, List.nodup_cons] at h1; exact h1.2
      · exact h1
    have ho : ((es.filter (·.isWs)).map (·.oid)).Nodup := by
      rw [List.filter_cons] at h2
      split at h2
      · rw [List.map_cons, List.nodup_cons] at h2; exact h2.2
      · exact h2
    by_cases hc : e.kind = .comment
    · simp only [pairs, getKeyValue_comment e c hc, List.map_cons, List.nodup_cons]
      refine ⟨?_, ih _ hk ho⟩
      intro hm
      have := ((C15C.pairs_comment_mem _ _ _ _).1 hm).1
      rw [cnt_dset] at this
      simp at this
    · by_cases hw : e.kind = .whitespace
      · simp only [pairs, getKeyValue_ws e c hw, List.map_cons, List.nodup_cons]
        refine ⟨?_, ih _ hk ho⟩
        intro hm
        obtain ⟨e', he', hw', ho'⟩ := pairs_obj_mem _ _ _ _ hm
        have hews : e.isWs = true := by simp [Ent.isWs, hw]
        rw [List.filter_cons, if_pos hews, List.map_cons, List.nodup_cons] at h2
        apply h2.1
        rw [List.mem_map]
        exact ⟨e', List.mem_filter.2 ⟨he', hw'⟩, ho'⟩
      · simp only [pairs, getKeyValue_ent e c hc hw, List.map_cons, List.nodup_cons]
        refine ⟨?_, ih _ hk ho⟩
        intro hm
        obtain ⟨e', he', hk', hek⟩ := (pairs_ent_mem _ _ _).1 hm
        have hkeyed : e.keyed = true := by simp [Ent.keyed, hc, hw]
        unfold NodupKeys at h1
        rw [List.filter_cons, if_pos hkeyed, List.map_cons, List.nodup_cons] at h1
        apply h1.1
        rw [List.mem_map]
        exact ⟨e', List.mem_filter.2 ⟨he', hk'⟩, hek⟩

/-- same entry up to the identity of the object -/
def SameBut (e1 e2 : Ent) : Prop := e1.kind = e2.kind ∧ e1.ekey = e2.ekey ∧ e1.val = e2.val ∧ e1.all = e2.all

def stampFrom (v n : Nat) (es : List Ent) : List Ent := (es.zipIdx n).map (fun p => { p.1 with oid := (v, p.2) })

theorem stamp_eq (v : Nat) (es : List Ent) : stamp v es = stampFrom v 0 es := rfl

theorem stampFrom_cons (v n : Nat) (e : Ent) (es : List Ent) :
    stampFrom v n (e :: es) = { e with oid := (v, n) } :: stampFrom v (n + 1) es := by
  simp [stampFrom, List.zipIdx_cons]

theorem stampFrom_same (v n : Nat) (es : List Ent) : All2 SameBut (stampFrom v n es) es := by
  induction es generalizing n with
  | nil => exact .nil
  | cons e es ih =>
    rw [stampFrom_cons]
    exact .cons ⟨rfl, rfl, rfl, rfl⟩ (ih _)

theorem stampFrom_oid (v n : Nat) (es : List Ent) : ∀ e ∈ stampFrom v n es, e.oid.1 = v ∧ n ≤ e.oid.2 := by
  induction es generalizing n with
  | nil => simp [stampFrom]
  | cons e es ih =>
    rw [stampFrom_cons]
    intro e' he'
    rw [List.mem_cons] at he'
    rcases he' with rfl | he'
    · exact ⟨rfl, Nat.le_refl _⟩
    · have := ih (n + 1) e' he'
      exact ⟨this.1, by omega⟩

theorem stampFrom_oids_nodup (v n : Nat) (es : List Ent) : ((stampFrom v n es).map (·.oid)).Nodup := by
  induction es generalizing n with
  | nil => simp [stampFrom]
  | cons e es ih =>
    rw [stampFrom_cons, List.map_cons, List.nodup_cons]
    refine ⟨?_, ih _⟩
    intro hm
    rw [List.mem_map] at hm
    obtain ⟨e', he', ho⟩ := hm
    have h2 := (stampFrom_oid v (n + 1) es e' he').2
    have ho' : e'.oid = (v, n) := ho
    rw [ho'] at h2
    simp only at h2
    omega

theorem stamp_ws_oids_nodup (v : Nat) (es : List Ent) :
    (((stamp v es).filter (·.isWs)).map (·.oid)).Nodup :=
  (stampFrom_oids_nodup v 0 es).sublist ((List.filter_sublist).map _)

theorem sameBut_keyed (e1 e2 : Ent) (h : SameBut e1 e2) : e1.keyed = e2.keyed := by
  simp [Ent.keyed, h.1]

theorem sameBut_isWs (e1 e2 : Ent) (h : SameBut e1 e2) : e1.isWs = e2.isWs := by
  simp [Ent.isWs, h.1]

theorem sameBut_ekeys (es1 es2 : List Ent) (h : All2 SameBut es1 es2) :
    (es1.filter (·.keyed)).map (·.ekey) = (es2.filter (·.keyed)).map (·.ekey) := by
  induction h with
  | nil => rfl
  | cons hab _ ih =>
    rw [List.filter_cons, List.filter_cons, sameBut_keyed _ _ hab]
    split
    · rw [List.map_cons, List.map_cons, ih, hab.2.1]
    · exact ih

theorem sameBut_alls (es1 es2 : List Ent) (h : All2 SameBut es1 es2) :
    es1.map (·.all) = es2.map (·.all) := by
  induction h with
  | nil => rfl
  | cons hab _ ih => rw [List.map_cons, List.map_cons, ih, hab.2.2.2]

theorem nodupKeys_stamp (v : Nat) (es : List Ent) (h : NodupKeys es) : NodupKeys (stamp v es) := by
  unfold NodupKeys
  rw [stamp_eq, sameBut_ekeys _ _ (stampFrom_same v 0 es)]
  exact h

theorem versionDict_eq (v : Nat) (es : List Ent) (h : NodupKeys es) :
    versionDict v es = pairs (stamp v es) [] := by
  unfold versionDict parseResource
  rw [orderedDict, foldl_dset_of_nodup]
  · rfl
  · simpa using pairs_keys_nodup (stamp v es) [] (nodupKeys_stamp v es h) (stamp_ws_oids_nodup v es)

theorem serialize_versionDict (v : Nat) (es : List Ent) (h : NodupKeys es) :
    serialize (versionDict v es) = (es.map (·.all)).flatten := by
  rw [versionDict_eq v es h, serialize]
  have : (pairs (stamp v es) []).map (fun p => p.2.all) = ((pairs (stamp v es) []).map (·.2)).map (·.all) := by
    rw [List.map_map]; rfl
  rw [this, pairs_map_snd, stamp_eq, sameBut_alls _ _ (stampFrom_same v 0 es)]

theorem mergeResources_single (es : List Ent) : mergeResources [es] = some (versionDict 0 es) := rfl

theorem noAdjWs_iff : ∀ es : List Ent, NoAdjWs es ↔ NoAdj Ent.isWs es
  | [] => ⟨fun _ => noAdj_nil _, fun _ => trivial⟩
  | [x] => by
    rw [noAdj_cons]
    exact ⟨fun _ => ⟨fun y hy => by simp at hy, noAdj_nil _⟩, fun _ => trivial⟩
  | x :: y :: r => by
    rw [noAdj_cons, ← noAdjWs_iff (y :: r)]
    exact ⟨fun h => ⟨fun z hz => by cases hz; exact h.1, h.2⟩, fun h => ⟨h.1 y rfl, h.2⟩⟩

theorem align_trans (x y z : Key × Ent) (h1 : Align x y) (h2 : Align y z) : Align x z := by
  refine ⟨h1.1.trans h2.1, ?_, h1.2.2.trans h2.2.2⟩
  intro hx
  rw [h1.2.1 hx]
  exact h2.2.1 (by rw [← h1.1]; exact hx)

theorem serialize_align (a b : Dict) (h : All2 Align a b) : serialize a = serialize b := by
  unfold serialize
  congr 1
  induction h with
  | nil => rfl
  | cons hab _ ih => rw [List.map_cons, List.map_cons, ih, hab.2.2]

theorem mix_align (a b : Dict) (h : All2 Align a b) : All2 Align (mix (a.zip b)) a := by
  induction h with
  | nil => exact .nil
  | @cons x y _ _ hab _ ih =>
    rw [List.zip_cons_cons, mix_cons]
    refine .cons ?_ ih
    by_cases hw : x.2.isWs = true
    · rw [if_pos hw]
      exact ⟨hab.1.symm, fun h => by rw [← hab.1, hw] at h; exact absurd h (by simp), hab.2.2.symm⟩
    · rw [if_neg hw]
      exact ⟨rfl, fun _ => rfl, rfl⟩

/-- Whitespace is taken from the older dict (it sorts first and has the same length), everything else from the newer -/
theorem mergeTwo_aligned (a b : Dict) (ha : WF a) (hb : WF b) (hF : All2 Align a b)
    (hdisj : ∀ q ∈ b, q.2.isWs = true → ¬ q.1 ∈ keysOf a) (hadj : NoAdj pws a) :
    mergeTwo a b = mix (a.zip b) := by
  have hlen := hF.length
  have hz1 : (a.zip b).map (·.1) = a := List.map_fst_zip (by omega)
  have hz2 : (a.zip b).map (·.2) = b := List.map_snd_zip (by omega)
  have hk1 : (a.zip b).map (·.1.1) = keysOf a := by
    have : (a.zip b).map (·.1.1) = ((a.zip b).map (·.1)).map (·.1) := by rw [List.map_map]; rfl
    rw [this, hz1]; rfl
  have hk2 : (a.zip b).map (·.2.1) = keysOf b := by
    have : (a.zip b).map (·.2.1) = ((a.zip b).map (·.2)).map (·.1) := by rw [List.map_map]; rfl
    rw [this, hz2]; rfl
  have hal := hF.zip_mem
  have hm1 : ∀ p ∈ a.zip b, p.1 ∈ a := fun p hp => by
    rw [← hz1]; exact List.mem_map.2 ⟨p, hp, rfl⟩
  have hm2 : ∀ p ∈ a.zip b, p.2 ∈ b := fun p hp => by
    rw [← hz2]; exact List.mem_map.2 ⟨p, hp, rfl⟩
  have hws : ∀ p ∈ a.zip b, p.1.2.isWs = true → ¬ p.2.1 ∈ (a.zip b).map (·.1.1) := by
    intro p hp hw
    rw [hk1]
    exact hdisj p.2 (hm2 p hp) (by rw [← (hal p hp).1]; exact hw)
  have hadjz : NoAdj (fun p : DictPair => p.1.2.isWs) (a.zip b) := (noAdj_map pws (fun p : DictPair => p.1) _).1 (by rw [hz1]; exact hadj)
  have hspec := specKeys_aligned (a.zip b) ⟨by rw [hk1]; exact ha.nodup, hal, hws, hadjz⟩
  rw [hk1, hk2] at hspec
  rw [mergeTwo_eq a b ha hb, contentsOf, hspec,
    fold_aligned (getNewerEntity a b) (a.zip b) [] ?_ ?_ hal hadjz ?_]
  · simp
  · intro p hp
    rw [getNewer_left a b p.1.1 (List.mem_map.2 ⟨p.1, hm1 p hp, rfl⟩), dget_eq_some_iff ha.nodup]
    exact hm1 p hp
  · intro p hp hw
    have hn : ¬ p.2.1 ∈ keysOf a := by
      have := hws p hp hw
      rwa [hk1] at this
    rw [getNewer_right a b p.2.1 hn, dget_eq_some_iff hb.nodup]
    exact hm2 p hp
  · exact fun _ _ _ => rfl

theorem stampFrom_same_stampFrom (v v' n : Nat) (es : List Ent) :
    All2 SameBut (stampFrom v n es) (stampFrom v' n es) := by
  induction es generalizing n with
  | nil => exact .nil
  | cons e es ih =>
    rw [stampFrom_cons, stampFrom_cons]
    exact .cons ⟨rfl, rfl, rfl, rfl⟩ (ih _)

theorem pairs_align (es1 es2 : List Ent) (h : All2 SameBut es1 es2) (c : List (List Nat × Nat)) :
    All2 Align (pairs es1 c) (pairs es2 c) := by
  induction h generalizing c with
  | nil => exact .nil
  | @cons e1 e2 _ _ hab _ ih =>
    by_cases hc : e1.kind = .comment
    · have hc2 : e2.kind = .comment := by rw [← hab.1]; exact hc
      simp only [pairs, getKeyValue_comment e1 c hc, getKeyValue_comment e2 c hc2, hab.2.2.1]
      refine .cons ⟨?_, fun _ => rfl, hab.2.2.2⟩ (ih _)
      simp [Ent.isWs, hab.1]
    · have hc2 : e2.kind ≠ .comment := by rw [← hab.1]; exact hc
      by_cases hw : e1.kind = .whitespace
      · have hw2 : e2.kind = .whitespace := by rw [← hab.1]; exact hw
        simp only [pairs, getKeyValue_ws e1 c hw, getKeyValue_ws e2 c hw2]
        refine .cons ⟨?_, ?_, hab.2.2.2⟩ (ih _)
        · simp [Ent.isWs, hab.1]
        · intro h; simp [Ent.isWs, hw] at h
      · have hw2 : e2.kind ≠ .whitespace := by rw [← hab.1]; exact hw
        simp only [pairs, getKeyValue_ent e1 c hc hw, getKeyValue_ent e2 c hc2 hw2, hab.2.1]
        refine .cons ⟨?_, fun _ => rfl, hab.2.2.2⟩ (ih _)
        simp [Ent.isWs, hab.1]

theorem versionDict_align (i j : Nat) (es : List Ent) (h : NodupKeys es) :
    All2 Align (versionDict i es) (versionDict j es) := by
  rw [versionDict_eq i es h, versionDict_eq j es h, stamp_eq, stamp_eq]
  exact pairs_align _ _ (stampFrom_same_stampFrom i j 0 es) []

theorem noAdj_versionDict (i : Nat) (es : List Ent) (hk : NodupKeys es) (h : NoAdjWs es) :
    NoAdj pws (versionDict i es) := by
  rw [versionDict_eq i es hk]
  refine (noAdj_map Ent.isWs (fun p : Key × Ent => p.2) _).1 ?_
  rw [pairs_map_snd, stamp_eq]
  exact noAdj_all2 (stampFrom_same i 0 es) sameBut_isWs ((noAdjWs_iff es).1 h)

theorem merged_identical (es : List Ent) (hk : NodupKeys es) (hadj : NoAdjWs es) {rs : List (List Ent)} {d : Dict}
    (h : mergeResources rs = some d) (hrs : ∀ v ∈ versionDicts rs, ∃ j, v = versionDict j es) :
    All2 Align d (versionDict 0 es) := by
  refine merged_induct (P := fun vs d => (∀ v ∈ vs, ∃ j, v = versionDict j es) → All2 Align d (versionDict 0 es))
    ?_ ?_ h hrs
  · intro d0 _ h0
    obtain ⟨j, rfl⟩ := h0 d0 (by simp)
    exact versionDict_align j 0 es hk
  · intro d0 ds acc dv hwf hb hdis ih hvs
    obtain ⟨j, rfl⟩ := hvs dv (by simp)
    have hal := ih fun v hv => hvs v (mem_snoc hv)
    have hal2 : All2 Align acc (versionDict j es) := hal.trans align_trans (versionDict_align 0 j es hk)
    have hdisj : ∀ q ∈ versionDict j es, q.2.isWs = true → ¬ q.1 ∈ keysOf acc := by
      intro q hq hw hm
      exact hdis q.1 (by rw [(hb.ok q hq).1 hw]; rfl) hm (List.mem_map.2 ⟨q, hq, rfl⟩)
    rw [mergeTwo_aligned acc _ hwf hb hal2 hdisj (noAdj_all2 hal (fun _ _ h => h.1) (noAdj_versionDict 0 es hk hadj))]
    exact (mix_align _ _ hal2).trans align_trans hal

theorem mergeResources_identical (es : List Ent) (n : Nat) (hk : NodupKeys es) (hadj : NoAdjWs es) :
    ∃ d, mergeResources (List.replicate (n + 1) es) = some d ∧ serialize d = (es.map (·.all)).flatten := by
  obtain ⟨d, hd⟩ : ∃ d, mergeResources (List.replicate (n + 1) es) = some d := ⟨_, rfl⟩
  refine ⟨d, hd, ?_⟩
  rw [serialize_align _ _ (merged_identical es hk hadj hd ?_), serialize_versionDict 0 es hk]
  intro v hv
  obtain ⟨i, es', hi, rfl⟩ := (mem_versionDicts _ v).1 hv
  rw [(List.mem_replicate.1 (List.mem_of_getElem? hi)).2]
  exact ⟨i, rfl⟩

end Merge

namespace C15C
open AR Merge
open Txt (All2)

theorem copies_sameBut (v : List Nat) (a b : List Ent) (h : All2 SameBut a b) : copies v a = copies v b := by
  induction h with
  | nil => rfl
  | @cons x y _ _ hxy _ ih =>
    rw [copies_cons, copies_cons, ih, hxy.1, hxy.2.2.1]

theorem copies_stamp (v : List Nat) (i : Nat) (es : List Ent) : copies v (stamp i es) = copies v es := by
  rw [stamp_eq]
  exact copies_sameBut v _ _ (stampFrom_same i 0 es)

theorem versionDict_comment (i : Nat) (es : List Ent) (v : List Nat) (n : Nat) :
    Key.comment v n ∈ keysOf (versionDict i es) ↔ 1 ≤ n ∧ n ≤ copies v es := by
  rw [versionDict_mem_keys, pairs_comment_mem, copies_stamp]
  simp [cnt, dget]
  omega

end C15C
