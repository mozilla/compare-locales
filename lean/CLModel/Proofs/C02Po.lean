/- C02, PO: `eval_stringlist` (one regex substitution with the generated `reEscape` and `escapes` table)
   is the documented one-pass unescape, for all texts. -/
import CLModel.Parser.Values
import CLModel.Proofs.C02Props
namespace P
open Rx Gen.Pat

/-- the token is one that `reListItem` accepts: an escape of `\\\\ t r n "` or a plain character other than quote, newline, backslash -/
def PoTok.wf : PoTok → Bool
  | .esc c => c == 92 || c == 116 || c == 114 || c == 110 || c == 34
  | .plain c => c != 34 && c != 10 && c != 92

theorem poEsc_cls (d : Nat) :
    inC false [ClsItem.ch 92, ClsItem.ch 116, ClsItem.ch 114, ClsItem.ch 110, ClsItem.ch 34] d = (PoTok.esc d).wf := by
  simp [inC, ClsItem.has, PoTok.wf, Bool.or_assoc]

theorem poOnePassText_esc (d : Nat) (rest : List Nat) (h : (PoTok.esc d).wf = true) :
    poOnePassText (92 :: d :: rest) = poEscVal d :: poOnePassText rest := by
  rw [poOnePassText]
  have : (d == 92 || d == 116 || d == 114 || d == 110 || d == 34) = true := h
  simp [this]

theorem poOnePassText_copy (c : Nat) (rest : List Nat)
    (h : c ≠ 92 ∨ rest = [] ∨ ∃ d t, rest = d :: t ∧ (PoTok.esc d).wf = false) :
    poOnePassText (c :: rest) = c :: poOnePassText rest := by
  cases rest with
  | nil => simp [poOnePassText]
  | cons d t =>
    rw [poOnePassText]
    rcases h with h | h | ⟨d', t', h, hd⟩
    · have : (c == 92) = false := by simp [h]
      simp [this]
    · cases h
    · cases h
      have : (d == 92 || d == 116 || d == 114 || d == 110 || d == 34) = false := hd
      simp [this]

theorem poEscapes_lookup (d : Nat) (h : (PoTok.esc d).wf = true) :
    (Gen.Tables.poEscapes.find? (·.1 == d)).map (fun p => [p.2]) = some [poEscVal d] := by
  simp only [PoTok.wf, Bool.or_eq_true, beq_iff_eq] at h
  rcases h with (((rfl | rfl) | rfl) | rfl) | rfl <;> decide

theorem po_step (s : Array Nat) (pos c : Nat) (h0 : s[pos]? = some c) :
    (matchAt s parser_po_reEscape pos = none ∧
      poOnePassText (c :: s.toList.drop (pos + 1)) = c :: poOnePassText (s.toList.drop (pos + 1))) ∨
    (∃ st a, matchAt s parser_po_reEscape pos = some st ∧ pos < st.pos ∧ st.pos ≤ s.size ∧
      poEscapeCb s pos st = some a ∧
      a ++ poOnePassText (s.toList.drop st.pos) = poOnePassText (c :: s.toList.drop (pos + 1))) := by
  by_cases hc : c = 92
  · subst hc
    rcases Txt.drop_cases s (pos + 1) with ⟨h1, _, hd1⟩ | ⟨d, h1, hlt1, hd1⟩
    · left
      refine ⟨?_, ?_⟩
      · simp only [matchAt, parser_po_reEscape, m_seq_def, m_lit_def, m_group_def, h0]
        rw [m_cls_apply]
        simp [h1]
      · rw [hd1]; exact poOnePassText_copy 92 [] (Or.inr (Or.inl rfl))
    · by_cases hd : (PoTok.esc d).wf = true
      · right
        have hs1 : slice s (pos + 1) (pos + 1 + 1) = [d] := by
          have := slice_take s (pos + 1) 1 _ hd1
          simpa using this
        refine ⟨⟨pos + 1 + 1, [(1, pos + 1, pos + 1 + 1)]⟩, [poEscVal d], ?_, by simp; omega, by simp; omega, ?_, ?_⟩
        · simp only [matchAt, parser_po_reEscape, m_seq_def, m_lit_def, m_group_def, h0]
          rw [m_cls_apply]
          simp [h1, poEsc_cls, hd]
        · simp [poEscapeCb, St.group, capOf, hs1, poEscapes_lookup d hd]
        · rw [hd1, poOnePassText_esc d _ hd]
          simp
      · left
        refine ⟨?_, ?_⟩
        · simp only [matchAt, parser_po_reEscape, m_seq_def, m_lit_def, m_group_def, h0]
          rw [m_cls_apply]
          simp [h1, poEsc_cls, hd]
        · rw [hd1]
          exact poOnePassText_copy 92 _ (Or.inr (Or.inr ⟨d, _, rfl, by simpa using hd⟩))
  · left
    refine ⟨?_, poOnePassText_copy c _ (Or.inl hc)⟩
    simp only [matchAt, parser_po_reEscape, m_seq_def, m_lit_def]
    simp [h0, hc]

theorem poUnescape_eq_spec (v : List Nat) : poUnescape v = some (poOnePassText v) :=
  sub_eq (subGo_go _ _) (fun _ _ => matchAt_advances (by decide))
    (SubAt.of_spec_from _ (by simp [poOnePassText]) (po_step _) (matchAt_end_none (by decide)) (Nat.zero_le _))

theorem poOnePassText_render : ∀ (ts : List PoTok), (∀ t ∈ ts, t.wf = true) →
    poOnePassText (poRender ts) = poOnePass ts := by
  intro ts
  induction ts with
  | nil => intro _; simp [poRender, poOnePass, poOnePassText]
  | cons t rest ih =>
    intro hwf
    have ihh := ih (fun u hu => hwf u (by simp [hu]))
    have e : poRender (t :: rest) = t.render ++ poRender rest := by simp [poRender]
    have ht := hwf t (by simp)
    rw [e]
    cases t with
    | plain c =>
      simp only [PoTok.wf, Bool.and_eq_true, bne_iff_ne] at ht
      simp only [PoTok.render, List.cons_append, List.nil_append]
      rw [poOnePassText_copy c _ (Or.inl ht.2), ihh]
      simp [poOnePass, PoTok.value]
    | esc c =>
      simp only [PoTok.render, List.cons_append, List.nil_append]
      rw [poOnePassText_esc c _ ht, ihh]
      simp [poOnePass, PoTok.value]

theorem poUnescape_render (ts : List PoTok) (hwf : ∀ t ∈ ts, t.wf = true) :
    poUnescape (poRender ts) = some (poOnePass ts) := by
  rw [poUnescape_eq_spec, poOnePassText_render ts hwf]

end P
