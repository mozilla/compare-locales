/-
Complexity guard: a decidable syntactic criterion under which the body of a
repeat has AT MOST ONE outcome from every state (`Single`), and its soundness for `ends`.

The criterion knows five reasons for "at most one outcome":
  * one-character tests, anchors, back-references, look-arounds;
  * a sequence of such things;
  * an alternation whose branches start with disjoint one-character tests (`\\[\\trn"]|[^"\n\\]`);
  * an optional prefix whose first character cannot start what follows (`-?[^-]`);
  * a DELIMITED run: `x*` (any bounds, greedy or lazy) of a one-character test `x` followed by
    something that starts with a character outside `x` (`[^\n]*\n`, `.*?\n`): only the end of the
    run can continue.
A repeat (`x*`, `x+`, `x{a,b}`) that is not delimited in this way is never `Single`.
-/
import CLModel.Proofs.RxChain
import CLModel.Proofs.RxRun
namespace C01P
open Rx

/-- the characters a one-character atom accepts; the `.cls` clause is `Rx.inC neg items d` -/
def atomHas : Re → Nat → Bool
  | .lit c, d => d == c
  | .notLit c, d => d != c
  | .any dotall, d => dotall || d != 10
  | .cls neg items, d => (items.any (·.has d)) != neg
  | _, _ => false

def isAtom : Re → Bool
  | .lit _ | .notLit _ | .any _ | .cls _ _ => true
  | _ => false

def zeroWidth : Re → Bool
  | .eps | .bol _ | .eol _ | .eos => true
  | _ => false

/-- the one-character test every match of `r` starts with, when the syntax shows one -/
def firstAtom : Re → Option Re
  | .lit c => some (.lit c)
  | .notLit c => some (.notLit c)
  | .any d => some (.any d)
  | .cls n i => some (.cls n i)
  | .group _ r => firstAtom r
  | .seq a b =>
    match firstAtom a with
    | some x => some x
    | none => if zeroWidth a then firstAtom b else none
  | .rep mn _ _ r => if mn > 0 then firstAtom r else none
  | _ => none

def litOf : Re → Option Nat
  | .lit c => some c
  | _ => none

/-- sound, incomplete disjointness of two one-character tests: one of them is a literal that the other rejects -/
def atomDisj (x y : Re) : Bool :=
  match litOf x with
  | some c => !atomHas y c
  | none =>
    match litOf y with
    | some c => !atomHas x c
    | none => false

def disjFirst (a b : Re) : Bool :=
  match firstAtom a, firstAtom b with
  | some x, some y => atomDisj x y
  | _, _ => false

def disjAtomFirst (x b : Re) : Bool :=
  match firstAtom b with
  | some y => atomDisj x y
  | none => false

/-- at most one outcome from every state (syntactic, sufficient) -/
def Single : Re → Bool
  | .eps | .lit _ | .notLit _ | .any _ | .cls _ _ | .backref _ | .bol _ | .eol _ | .eos | .look _ _ _ => true
  | .group _ r => Single r
  | .alt a b => Single a && Single b && disjFirst a b
  | .seq (.alt a1 .eps) b => Single a1 && Single b && disjFirst a1 b
  | .seq (.rep _ _ _ x) b => isAtom x && Single b && disjAtomFirst x b
  | .seq a b => Single a && Single b
  | .rep _ _ _ _ => false

/-- every repeat in `r` has a `Single` body -/
def Safe : Re → Bool
  | .eps | .lit _ | .notLit _ | .any _ | .cls _ _ | .backref _ | .bol _ | .eol _ | .eos => true
  | .seq a b => Safe a && Safe b
  | .alt a b => Safe a && Safe b
  | .group _ r => Safe r
  | .look _ _ r => Safe r
  | .rep _ _ _ r => Single r && Safe r

theorem atom_stepIf (s : Array Nat) {x : Re} (hx : isAtom x = true) (st : St) : ends s x st = stepIf s (atomHas x) st := by
  cases x with
  | lit c => exact ends_lit_step s c st
  | notLit _ | any _ | cls _ _ => rfl
  | _ => cases hx

theorem atomDisj_sound {x y : Re} (h : atomDisj x y = true) {d : Nat}
    (hx : atomHas x d = true) (hy : atomHas y d = true) : False := by
  unfold atomDisj at h
  cases hlx : litOf x with
  | some c =>
    rw [hlx] at h
    cases x <;> simp only [litOf, Option.some.injEq] at hlx <;> try cases hlx
    simp only [atomHas, beq_iff_eq] at hx
    subst hx
    simp [hy] at h
  | none =>
    rw [hlx] at h
    cases hly : litOf y with
    | some c =>
      rw [hly] at h
      cases y <;> simp only [litOf, Option.some.injEq] at hly <;> try cases hly
      simp only [atomHas, beq_iff_eq] at hy
      subst hy
      simp [hx] at h
    | none => rw [hly] at h; cases h

theorem zeroWidth_run {s : Array Nat} {a : Re} (hz : zeroWidth a = true) {st st' : St} (h : Run s a st st') : st' = st := by
  cases h with
  | eps | bol | eol _ | eos _ => rfl
  | _ => cases hz

theorem _root_.Rx.Run.firstAtom {s : Array Nat} {r : Re} {st st' : St} (h : Run s r st st') :
    ∀ x, firstAtom r = some x → ∃ c, s[st.pos]? = some c ∧ atomHas x c = true := by
  induction h with
  | lit hc => rintro _ ⟨⟩; exact ⟨_, hc, beq_self_eq_true _⟩
  | notLit hc hne => rintro _ ⟨⟩; exact ⟨_, hc, by simpa [atomHas] using hne⟩
  | any hc hd => rintro _ ⟨⟩; exact ⟨_, hc, by simpa [atomHas] using hd⟩
  | cls hc hin => rintro _ ⟨⟩; exact ⟨_, hc, hin⟩
  | group _ ih => exact ih
  | @seq a b st st1 st2 ha _ iha ihb =>
    intro x h
    simp only [C01P.firstAtom] at h
    cases hfa : C01P.firstAtom a with
    | some y => rw [hfa] at h; cases h; exact iha _ hfa
    | none =>
      rw [hfa] at h
      simp only at h
      split at h
      · rename_i hz
        obtain rfl := zeroWidth_run hz ha
        exact ihb x h
      · cases h
  | @repCons mn _ _ _ _ _ _ _ _ _ iha _ =>
    intro x h
    simp only [C01P.firstAtom] at h
    split at h
    · exact iha x h
    · cases h
  | _ => intro x h; cases h

theorem firstAtom_sound (s : Array Nat) (r x : Re) (h : firstAtom r = some x) (st st' : St) (hm : st' ∈ ends s r st) :
    ∃ c, s[st.pos]? = some c ∧ atomHas x c = true :=
  (run_of_mem_ends s r st st' hm).firstAtom x h

theorem flatMap_length_le_one {α β} (l : List α) (f : α → List β) (hl : l.length ≤ 1)
    (h1 : ∀ x ∈ l, (f x).length ≤ 1) : (l.flatMap f).length ≤ 1 := by
  have := Txt.flatMap_length_le l f 1 h1
  omega

theorem loopE_step_length (mn : Nat) (g : Bool) (st : St) (more : List St) :
    (if mn > 0 then more else if g then more ++ [st] else st :: more).length ≤ more.length + 1 := by
  by_cases h : mn > 0
  · rw [if_pos h]; omega
  · rw [if_neg h]; cases g <;> simp

theorem loopE_len (bodyE : St → List St) (g : Bool) (h1 : ∀ st, (bodyE st).length ≤ 1) :
    ∀ fuel mn mx st, (loopE bodyE g fuel mn mx st).length ≤ fuel := by
  intro fuel
  induction fuel with
  | zero => intro mn mx st; simp [loopE]
  | succ fuel ih =>
    intro mn mx st
    have hmore : (if mx == some 0 then [] else
          (bodyE st).flatMap (fun st' =>
            if st'.pos ≤ st.pos then [] else loopE bodyE g fuel (mn - 1) (mx.map (· - 1)) st')).length ≤ fuel := by
      split
      · simp
      · have := Txt.flatMap_length_le (bodyE st) (fun st' =>
            if st'.pos ≤ st.pos then [] else loopE bodyE g fuel (mn - 1) (mx.map (· - 1)) st') fuel
          (fun x _ => by
            split
            · simp
            · exact ih _ _ _)
        have h := h1 st
        calc _ ≤ (bodyE st).length * fuel := this
          _ ≤ 1 * fuel := Nat.mul_le_mul_right _ h
          _ = fuel := Nat.one_mul _
    rw [loopE]
    exact Nat.le_trans (loopE_step_length mn g st _) (Nat.succ_le_succ hmore)

theorem atom_len_le_one (s : Array Nat) (x : Re) (hx : isAtom x = true) (st : St) :
    (ends s x st).length ≤ 1 := by
  rw [atom_stepIf s hx]; exact stepIf_length_le ..

/-- a delimited run continues in at most one way: what follows starts with a character outside `x`, so it has no
    outcome inside the run (`flatMap_rep_at_max`); beyond the end of the text the fuel allows one outcome at most -/
theorem delim_le_one (s : Array Nat) {x y b : Re} (hx : isAtom x = true) (hfb : firstAtom b = some y)
    (hd : atomDisj x y = true) (hb1 : ∀ st, (ends s b st).length ≤ 1) (mn : Nat) (mx : Option Nat) (g : Bool) (st : St) :
    (ends s (.seq (.rep mn mx g x) b) st).length ≤ 1 := by
  obtain ⟨pos, caps⟩ := st
  rw [ends_seq]
  by_cases hp : pos ≤ s.size
  · obtain ⟨run, rest, h, hrun, hrest, _⟩ := runAt_split s (atomHas x) pos
    rw [flatMap_rep_at_max (atom_stepIf s hx) mn mx g caps h hrun hrest hp _ fun j d hj hxd =>
        List.eq_nil_iff_forall_not_mem.mpr fun st' hst' => by
          obtain ⟨c, hc, hy⟩ := firstAtom_sound s b y hfb _ st' hst'
          rw [show s[j]? = some d from hj] at hc; cases hc
          exact atomDisj_sound hd hxd hy]
    split
    · exact hb1 _
    · exact Nat.zero_le _
  · refine flatMap_length_le_one _ _ (Nat.le_trans (loopE_len _ g (atom_len_le_one s x hx) _ mn mx _) (by simp only; omega))
      fun st _ => hb1 st

theorem disjFirst_excl (s : Array Nat) {a b : Re} (hd : disjFirst a b = true) (st : St) :
    ends s a st = [] ∨ ends s b st = [] := by
  unfold disjFirst at hd
  cases hfa : firstAtom a with
  | none => rw [hfa] at hd; cases hd
  | some x =>
    cases hfb : firstAtom b with
    | none => rw [hfa, hfb] at hd; cases hd
    | some y =>
      rw [hfa, hfb] at hd
      cases hea : ends s a st with
      | nil => exact Or.inl rfl
      | cons z zs =>
        cases heb : ends s b st with
        | nil => exact Or.inr rfl
        | cons w ws =>
          exfalso
          obtain ⟨c, hc1, hc2⟩ := firstAtom_sound s a x hfa st z (by rw [hea]; exact List.mem_cons_self ..)
          obtain ⟨c', hc1', hc2'⟩ := firstAtom_sound s b y hfb st w (by rw [heb]; exact List.mem_cons_self ..)
          rw [hc1] at hc1'
          cases hc1'
          exact atomDisj_sound hd hc2 hc2'

theorem Single_sound (s : Array Nat) : ∀ r, Single r = true → ∀ st, (ends s r st).length ≤ 1 := by
  intro r
  -- `caseN`: the N-th pattern of `Single`, each alternative of a `|` counted: 1 `eps`, 2–5 the one-character tests,
  -- 6 `backref`, 7–9 `bol` `eol` `eos`, 10 `look`, 11 `group`, 12 `alt`, 13 the optional prefix `(a1|ε) b`,
  -- 14 the delimited run `x{mn,mx} b`, 15 any other sequence, 16 a bare repeat
  induction r using Single.induct with
  | case1 => intro _ st; simp [ends]
  | case2 _ | case3 _ | case4 _ | case5 _ _ => intro _ st; exact atom_len_le_one s _ rfl st
  | case6 i =>
    intro _ st
    simp only [ends]
    split
    · split <;> simp
    · simp
  | case7 _ | case8 _ | case9 => intro _ st; simp only [ends]; split <;> simp
  | case10 ahead neg r =>
    intro _ st
    cases ahead <;> simp only [ends] <;> split <;> split <;> simp
  | case11 i r ih =>
    intro h st
    simp only [Single] at h
    simpa [ends] using ih h st
  | case12 a b iha ihb =>
    intro h st
    simp only [Single, Bool.and_eq_true] at h
    obtain ⟨⟨ha, hb⟩, hd⟩ := h
    simp only [ends, List.length_append]
    have h1 := iha ha st
    have h2 := ihb hb st
    rcases disjFirst_excl s hd st with h | h
    · rw [h, List.length_nil, Nat.zero_add]; exact h2
    · rw [h, List.length_nil, Nat.add_zero]; exact h1
  | case13 a1 b iha ihb =>
    intro h st
    simp only [Single, Bool.and_eq_true] at h
    obtain ⟨⟨ha, hb⟩, hd⟩ := h
    have h1 := iha ha st
    simp only [ends, List.flatMap_append, List.flatMap_cons, List.flatMap_nil, List.append_nil,
      List.length_append]
    have h2 := ihb hb st
    have h3 : ((ends s a1 st).flatMap (fun st' => ends s b st')).length ≤ 1 :=
      flatMap_length_le_one _ _ h1 (fun x _ => ihb hb x)
    rcases disjFirst_excl s hd st with h | h
    · rw [h, List.flatMap_nil, List.length_nil, Nat.zero_add]; exact h2
    · rw [h, List.length_nil, Nat.add_zero]; exact h3
  | case14 mn mx g x b ihb =>
    intro h st
    simp only [Single, Bool.and_eq_true] at h
    obtain ⟨⟨hx, hb⟩, hd⟩ := h
    unfold disjAtomFirst at hd
    cases hfb : firstAtom b with
    | none => rw [hfb] at hd; cases hd
    | some y => rw [hfb] at hd; exact delim_le_one s hx hfb hd (ihb hb) mn mx g st
  | case15 a b hn1 hn2 iha ihb =>
    intro h st
    have h' : Single a = true ∧ Single b = true := by
      have : Single (.seq a b) = (Single a && Single b) := by
        rw [Single]
        · intro a1 he; exact hn1 a1 he
        · intro mn mx g x he; exact hn2 mn mx g x he
      rw [this] at h
      simpa using h
    simp only [ends]
    exact flatMap_length_le_one _ _ (iha h'.1 st) (fun x _ => ihb h'.2 x)
  | case16 mn mx g r => intro h; simp [Single] at h

end C01P
