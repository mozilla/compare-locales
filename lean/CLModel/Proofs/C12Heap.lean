/- The heap-passing transliteration of the expansion / regex functions (`Paths/MatcherObj.lean`) computes the
   stateless functions of `Paths/Matcher.lean` on the CONTENTS of the dict at the address it is given, and only ever
   ALLOCATES: the heap afterwards is the heap before plus new dicts (`env.copy()` of `_no_cycle`), on the normal path and
   on every exception path (`MissingEnvironment` out of a nested expansion included). -/
import CLModel.Paths.MatcherObj
import CLModel.Proofs.Dict
import CLModel.Proofs.ListLemmas
namespace C12H
open PM

theorem read_ext {h : Heap} {a : Addr} {env : Env} (ex : Heap) (hr : h[a]? = some env) : (h ++ ex)[a]? = some env := by
  rw [List.getElem?_append_left (Txt.getElem?_some_lt hr)]; exact hr

theorem read_new (h : Heap) (e : Env) : (h ++ [e])[h.length]? = some e := by
  simp

theorem derase_of_lookup_none {env : Env} {name : Text} (h : env.lookup name = none) : derase env name = env :=
  AR.filter_ne_of_not_mem (AR.dget_eq_none_iff.1 ((AR.lookup_eq_dget env name).symm.trans h))

theorem noCycleH_spec {h : Heap} {a : Addr} {env : Env} (name : Text) (hr : h[a]? = some env) :
    ∃ ex a1, noCycleH name a h = some (a1, h ++ ex) ∧ (h ++ ex)[a1]? = some (derase env name) := by
  unfold noCycleH
  simp only [hr]
  cases hl : env.lookup name with
  | none => exact ⟨[], a, by simp, by simpa [derase_of_lookup_none hl] using hr⟩
  | some v => exact ⟨[derase env name], h.length, by simp, read_new h _⟩

/-- the heap-passing recursion agrees with the stateless one and only allocates -/
def RecOK (rh : ExpRecH) (r : ExpRec) : Prop :=
  ∀ v a rm h env, h[a]? = some env → ∃ ex, rh v a rm h = some (r v env rm, h ++ ex)

theorem getAndroidLocaleH_spec {rh : ExpRecH} {r : ExpRec} (hrec : RecOK rh r) {h : Heap} {a : Addr} {env : Env}
    (hr : h[a]? = some env) : ∃ ex, getAndroidLocaleH rh a h = some (getAndroidLocale r env, h ++ ex) := by
  unfold getAndroidLocaleH getAndroidLocale
  simp only [hr]
  cases hl : env.lookup localeName with
  | none => exact ⟨[], by simp [pure, Except.pure]⟩
  | some v =>
    obtain ⟨ex1, a1, h1, hr1⟩ := noCycleH_spec androidName hr
    obtain ⟨ex2, h2⟩ := hrec v a1 false (h ++ ex1) _ hr1
    simp only [h1, h2]
    refine ⟨ex1 ++ ex2, ?_⟩
    cases r v (derase env androidName) false with
    | error e => simp [bind, Except.bind, List.append_assoc]
    | ok b =>
      cases ht : toAndroid b with
      | error e => simp [bind, Except.bind, List.append_assoc, ht]
      | ok x => simp [bind, Except.bind, pure, Except.pure, List.append_assoc, ht]

theorem expandNodeH_spec {rh : ExpRecH} {r : ExpRec} (hrec : RecOK rh r) (n : Node) (rm : Bool) {h : Heap} {a : Addr}
    {env : Env} (hr : h[a]? = some env) : ∃ ex, expandNodeH rh n a rm h = some (expandNode r n env rm, h ++ ex) := by
  cases n with
  | lit s => exact ⟨[], by simp [expandNodeH, expandNode, pure, Except.pure]⟩
  | var name rep =>
    unfold expandNodeH expandNode
    simp only [hr]
    cases hl : env.lookup name with
    | none => exact ⟨[], by simp [throw, throwThe, MonadExceptOf.throw]⟩
    | some v =>
      obtain ⟨ex1, a1, h1, hr1⟩ := noCycleH_spec name hr
      obtain ⟨ex2, h2⟩ := hrec v a1 rm (h ++ ex1) _ hr1
      simp only [h1, h2]
      exact ⟨ex1 ++ ex2, by simp [List.append_assoc]⟩
  | android rep =>
    unfold expandNodeH expandNode
    obtain ⟨ex, he⟩ := getAndroidLocaleH_spec hrec hr
    simp only [he]
    refine ⟨ex, ?_⟩
    cases getAndroidLocale r env with
    | error e => simp [bind, Except.bind]
    | ok o =>
      cases o with
      | none => simp [bind, Except.bind, throw, throwThe, MonadExceptOf.throw]
      | some x => simp [bind, Except.bind, pure, Except.pure]
  | star k =>
    unfold expandNodeH expandNode
    simp only [hr]
    refine ⟨[], ?_⟩
    cases env.lookup (sname k) with
    | none => simp [throw, throwThe, MonadExceptOf.throw]
    | some v => cases v <;> simp [pure, Except.pure, throw, throwThe, MonadExceptOf.throw]
  | starstar k sfx =>
    unfold expandNodeH expandNode
    simp only [hr]
    refine ⟨[], ?_⟩
    cases env.lookup (sname k) with
    | none => simp [throw, throwThe, MonadExceptOf.throw]
    | some v => cases v <;> simp [pure, Except.pure, throw, throwThe, MonadExceptOf.throw]

theorem expandChildrenH_spec {rh : ExpRecH} {r : ExpRec} (hrec : RecOK rh r) (cs : List Node) (rm : Bool) {a : Addr}
    {env : Env} : ∀ {h : Heap}, h[a]? = some env →
      ∃ ex, expandChildrenH rh cs a rm h = some (expandChildren r cs env rm, h ++ ex) := by
  induction cs with
  | nil => intro h _; exact ⟨[], by simp [expandChildrenH, expandChildren, pure, Except.pure]⟩
  | cons c cs ih =>
    intro h hr
    obtain ⟨ex1, h1⟩ := expandNodeH_spec hrec c true hr
    obtain ⟨ex2, h2⟩ := ih (read_ext ex1 hr)
    unfold expandChildrenH expandChildren
    simp only [h1]
    cases hn : expandNode r c env true with
    | ok s =>
      simp only [h2]
      refine ⟨ex1 ++ ex2, ?_⟩
      cases expandChildren r cs env rm with
      | error e => simp [bind, Except.bind, List.append_assoc]
      | ok tl => simp [bind, Except.bind, pure, Except.pure, List.append_assoc]
    | error e =>
      cases e with
      | missingEnv =>
        cases rm with
        | true => exact ⟨ex1, by simp [throw, throwThe, MonadExceptOf.throw]⟩
        | false => exact ⟨ex1, by simp [pure, Except.pure]⟩
      | notStr =>
        simp only [h2]
        refine ⟨ex1 ++ ex2, ?_⟩
        cases expandChildren r cs env rm with
        | error e => simp [throw, throwThe, MonadExceptOf.throw, List.append_assoc]
        | ok tl => simp [throw, throwThe, MonadExceptOf.throw, List.append_assoc]
      | keyError => exact ⟨ex1, by simp [throw, throwThe, MonadExceptOf.throw]⟩
      | reError => exact ⟨ex1, by simp [throw, throwThe, MonadExceptOf.throw]⟩
      | recursion => exact ⟨ex1, by simp [throw, throwThe, MonadExceptOf.throw]⟩
      | typeError => exact ⟨ex1, by simp [throw, throwThe, MonadExceptOf.throw]⟩
      | indexError => exact ⟨ex1, by simp [throw, throwThe, MonadExceptOf.throw]⟩

theorem rootOfH_spec {rh : ExpRecH} {r : ExpRec} (hrec : RecOK rh r) (p : Pattern) {h : Heap} {a : Addr} {env : Env}
    (hr : h[a]? = some env) : ∃ ex, rootOfH rh p a h = some (rootOf r p env, h ++ ex) := by
  unfold rootOfH rootOf
  cases p.root with
  | none => exact ⟨[], by simp [pure, Except.pure]⟩
  | some rt =>
    cases hn : p.nodes with
    | nil => exact ⟨[], by simp [throw, throwThe, MonadExceptOf.throw]⟩
    | cons n0 rest =>
      obtain ⟨ex1, h1⟩ := expandNodeH_spec hrec n0 false hr
      simp only [h1]
      refine ⟨ex1, ?_⟩
      cases expandNode r n0 env false with
      | ok seg => simp [pure, Except.pure]
      | error e => cases e <;> simp [throw, throwThe, MonadExceptOf.throw]

theorem expandPatH_spec {rh : ExpRecH} {r : ExpRec} (hrec : RecOK rh r) (p : Pattern) (rm : Bool) {h : Heap} {a : Addr}
    {env : Env} (hr : h[a]? = some env) : ∃ ex, expandPatH rh p a rm h = some (expandPat r p env rm, h ++ ex) := by
  unfold expandPatH expandPat
  obtain ⟨ex1, h1⟩ := rootOfH_spec hrec p hr
  obtain ⟨ex2, h2⟩ := expandChildrenH_spec hrec p.nodes rm (read_ext ex1 hr)
  simp only [h1]
  cases rootOf r p env with
  | error e => exact ⟨ex1, by simp [bind, Except.bind]⟩
  | ok root =>
    simp only [h2]
    refine ⟨ex1 ++ ex2, ?_⟩
    cases expandChildren r p.nodes env rm with
    | error e => simp [bind, Except.bind, List.append_assoc]
    | ok body => simp [bind, Except.bind, pure, Except.pure, List.append_assoc]

theorem expandValH_spec : ∀ f : Nat, RecOK (expandValH f) (expandVal f) := by
  intro f
  induction f with
  | zero =>
    intro v a rm h env _
    cases v with
    | str s => exact ⟨[], by simp [expandValH, expandVal, pure, Except.pure]⟩
    | pat p => exact ⟨[], by simp [expandValH, expandVal, throw, throwThe, MonadExceptOf.throw]⟩
  | succ f ih =>
    intro v a rm h env hr
    cases v with
    | str s => exact ⟨[], by simp [expandValH, expandVal, pure, Except.pure]⟩
    | pat p =>
      obtain ⟨ex, he⟩ := expandPatH_spec ih p rm hr
      exact ⟨ex, by simpa [expandValH, expandVal] using he⟩

theorem expandTopH_spec (p : Pattern) (rm : Bool) {h : Heap} {a : Addr} {env : Env} (hr : h[a]? = some env) :
    ∃ ex, expandTopH p a rm h = some (expandPat (expandVal (fuelFor env)) p env rm, h ++ ex) := by
  unfold expandTopH
  rw [hr]
  exact expandPatH_spec (expandValH_spec _) p rm hr

def RxRecOK (rh : RxRecH) (r : RxRec) : Prop :=
  ∀ v a h env, h[a]? = some env → ∃ ex, rh v a h = some (r v env, h ++ ex)

theorem rxNodeH_spec {rh : RxRecH} {r : RxRec} (hrec : RxRecOK rh r) (n : Node) {h : Heap} {a : Addr} {env : Env}
    (hr : h[a]? = some env) : ∃ ex, rxNodeH rh n a h = some (rxNode r n env, h ++ ex) := by
  cases n with
  | lit s => exact ⟨[], by simp [rxNodeH, rxNode, pure, Except.pure]⟩
  | var name rep =>
    unfold rxNodeH rxNode
    cases rep with
    | true => exact ⟨[], by simp [pure, Except.pure]⟩
    | false =>
      simp only [hr, Bool.false_eq_true, if_false]
      cases hl : env.lookup name with
      | none => exact ⟨[], by simp [pure, Except.pure]⟩
      | some v =>
        obtain ⟨ex1, a1, h1, hr1⟩ := noCycleH_spec name hr
        obtain ⟨ex2, h2⟩ := hrec v a1 (h ++ ex1) _ hr1
        simp only [h1, h2]
        refine ⟨ex1 ++ ex2, ?_⟩
        cases r v (derase env name) with
        | error e => simp [bind, Except.bind, List.append_assoc]
        | ok bn => obtain ⟨body, ns⟩ := bn; simp [bind, Except.bind, pure, Except.pure, List.append_assoc]
  | android rep =>
    unfold rxNodeH rxNode
    cases rep with
    | true => exact ⟨[], by simp [pure, Except.pure]⟩
    | false =>
      simp only [hr, Bool.false_eq_true, if_false]
      obtain ⟨ex, he⟩ := getAndroidLocaleH_spec (expandValH_spec (fuelFor env)) hr
      simp only [he]
      refine ⟨ex, ?_⟩
      cases getAndroidLocale (expandVal (fuelFor env)) env with
      | error e => simp [bind, Except.bind]
      | ok o => cases o <;> simp [bind, Except.bind, pure, Except.pure]
  | star k => exact ⟨[], by simp [rxNodeH, rxNode, pure, Except.pure]⟩
  | starstar k sfx => exact ⟨[], by simp [rxNodeH, rxNode, pure, Except.pure]⟩

theorem rxChildrenH_spec {rh : RxRecH} {r : RxRec} (hrec : RxRecOK rh r) (cs : List Node) {a : Addr} {env : Env} :
    ∀ {h : Heap}, h[a]? = some env → ∃ ex, rxChildrenH rh cs a h = some (rxChildren r cs env, h ++ ex) := by
  induction cs with
  | nil => intro h _; exact ⟨[], by simp [rxChildrenH, rxChildren, pure, Except.pure]⟩
  | cons c cs ih =>
    intro h hr
    obtain ⟨ex1, h1⟩ := rxNodeH_spec hrec c hr
    obtain ⟨ex2, h2⟩ := ih (read_ext ex1 hr)
    unfold rxChildrenH rxChildren
    simp only [h1]
    cases rxNode r c env with
    | error e => exact ⟨ex1, by simp [bind, Except.bind]⟩
    | ok xn =>
      obtain ⟨x, nx⟩ := xn
      simp only [h2]
      refine ⟨ex1 ++ ex2, ?_⟩
      cases rxChildren r cs env with
      | error e => simp [bind, Except.bind, List.append_assoc]
      | ok yn => obtain ⟨y, ny⟩ := yn; simp [bind, Except.bind, pure, Except.pure, List.append_assoc]

theorem rxPatH_spec {rh : RxRecH} {r : RxRec} (hrec : RxRecOK rh r) (p : Pattern) {h : Heap} {a : Addr} {env : Env}
    (hr : h[a]? = some env) : ∃ ex, rxPatH rh p a h = some (rxPat r p env, h ++ ex) := by
  unfold rxPatH rxPat
  rw [hr]
  obtain ⟨ex1, h1⟩ := rootOfH_spec (expandValH_spec (fuelFor env)) p hr
  obtain ⟨ex2, h2⟩ := rxChildrenH_spec hrec p.nodes (read_ext ex1 hr)
  simp only [h1]
  cases rootOf (expandVal (fuelFor env)) p env with
  | error e => exact ⟨ex1, by simp [bind, Except.bind]⟩
  | ok root =>
    simp only [h2]
    refine ⟨ex1 ++ ex2, ?_⟩
    cases rxChildren r p.nodes env with
    | error e => simp [bind, Except.bind, List.append_assoc]
    | ok yn => obtain ⟨y, ny⟩ := yn; simp [bind, Except.bind, pure, Except.pure, List.append_assoc]

theorem rxValH_spec : ∀ f : Nat, RxRecOK (rxValH f) (rxVal f) := by
  intro f
  induction f with
  | zero =>
    intro v a h env _
    cases v with
    | str s => exact ⟨[], by simp [rxValH, rxVal, pure, Except.pure]⟩
    | pat p => exact ⟨[], by simp [rxValH, rxVal, throw, throwThe, MonadExceptOf.throw]⟩
  | succ f ih =>
    intro v a h env hr
    cases v with
    | str s => exact ⟨[], by simp [rxValH, rxVal, pure, Except.pure]⟩
    | pat p =>
      obtain ⟨ex, he⟩ := rxPatH_spec ih p hr
      exact ⟨ex, by simpa [rxValH, rxVal] using he⟩

theorem regexOfH_spec (p : Pattern) {h : Heap} {a : Addr} {env : Env} (hr : h[a]? = some env) :
    ∃ ex, regexOfH p a h = some (Matcher.regexOf { pattern := p, env := env }, h ++ ex) := by
  unfold regexOfH Matcher.regexOf
  rw [hr]
  obtain ⟨ex, he⟩ := rxPatH_spec (rxValH_spec (fuelFor env)) p hr
  simp only [he]
  refine ⟨ex, ?_⟩
  cases rxPat (rxVal (fuelFor env)) p env with
  | error e => simp [bind, Except.bind]
  | ok xn =>
    obtain ⟨items, names⟩ := xn
    simp only [bind, Except.bind]
    split <;> simp_all [pure, Except.pure, throw, throwThe, MonadExceptOf.throw]

end C12H
