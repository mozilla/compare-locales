/- `finditer` of a regex that cannot match the empty string and whose match at a position depends only on the text
   from there on, as a list-level scan `scanL`: it satisfies the functional specification `Rx.Matches` (RxSearch). -/
import CLModel.Rx.Basic
import CLModel.Proofs.RxLemmas
import CLModel.Proofs.RxSearch
namespace Rx

/-- list-level scan driven by a local matcher `g off suffix` -/
def scanL (g : Nat → List Nat → Option St) : Nat → Nat → List Nat → List (Nat × St)
  | 0, _, _ => []
  | _ + 1, _, [] => []
  | f + 1, off, c :: rest =>
    match g off (c :: rest) with
    | some st => (off, st) :: scanL g f st.pos ((c :: rest).drop (st.pos - off))
    | none => scanL g f (off + 1) rest

theorem scanL_matches (s : Array Nat) (r : Re) (hr : 1 ≤ minLen r) (g : Nat → List Nat → Option St)
    (hg : ∀ p, p ≤ s.size → matchAt s r p = g p (s.toList.drop p)) :
    ∀ fuel pos, s.size + 1 - pos ≤ fuel → pos ≤ s.size →
      Matches s r pos (scanL g fuel pos (s.toList.drop pos)) := by
  have hend : matchAt s r s.size = none := by
    cases h : matchAt s r s.size with
    | none => rfl
    | some st => have := matchAt_span h (Nat.le_refl _); omega
  intro fuel
  induction fuel with
  | zero => intro pos h1 h2; omega
  | succ fuel ih =>
    intro pos hf hle
    by_cases hlt : pos < s.size
    · have hd : s.toList.drop pos = s[pos] :: s.toList.drop (pos + 1) := by
        rw [← Array.getElem_toList (h := by simpa using hlt)]
        exact (List.drop_eq_getElem_cons (by simpa using hlt))
      rw [hd]
      simp only [scanL]
      rw [← hd, ← hg pos hle]
      split
      · rename_i st hm
        have hsp := matchAt_span hm hle
        have : (s.toList.drop pos).drop (st.pos - pos) = s.toList.drop st.pos := by
          rw [List.drop_drop]; congr 1; omega
        rw [this]
        exact .cons (Nat.le_refl _) hle (by intro q' h1 h2; omega) hm (ih _ (by omega) hsp.2)
      · rename_i hm
        exact Matches.step hm (ih _ (by omega) (by omega))
    · have hp : pos = s.size := by omega
      subst hp
      have : s.toList.drop s.size = [] := by simp
      rw [this]
      simp only [scanL]
      refine .nil ?_
      intro q h1 h2
      have : q = s.size := by omega
      subst this; exact hend

theorem finditer_eq_scanL (s : Array Nat) (r : Re) (hr : 1 ≤ minLen r) (g : Nat → List Nat → Option St)
    (hg : ∀ p, p ≤ s.size → matchAt s r p = g p (s.toList.drop p)) :
    finditer s r = scanL g (s.size + 1) 0 s.toList := by
  have h1 := finditer_matches s r hr
  have h2 := scanL_matches s r hr g hg (s.size + 1) 0 (by omega) (by omega)
  simp only [List.drop_zero] at h2
  exact h1.det h2

end Rx
