/- C02, DTD: files of `<!ENTITY key "value">⏎` records.  Such a record is an entity declaration of the full grammar (one blank
   each, double quotes, nothing before `>`, a newline behind it); what is stated about these files is read off the document
   theorem of C02PDtd. -/
import CLModel.Proofs.C02PDtd
namespace C02X
open P C02P

/-- `<!ENTITY ` -/
def dtdPrefix : List Nat := [60, 33, 69, 78, 84, 73, 84, 89, 32]

/-- length of a record without its newline: `<!ENTITY ` (9), the key, ` "` (2), the value, `">` (2) -/
def dtdLen (klen vlen : Nat) : Nat := 9 + klen + 2 + vlen + 2

/-- the entity `DTDParser.getNext` must produce: the value span is the quoted text WITHOUT the quotes -/
def dtdEntity (off klen vlen : Nat) : Entry :=
  { kind := .entity, full := off, s := off, e := off + dtdLen klen vlen, ks := (off + 9 : Nat), ke := (off + 9 + klen : Nat),
    vs := (off + 9 + klen + 2 : Nat), ve := (off + 9 + klen + 2 + vlen : Nat), pc := none }

abbrev DRec := List Nat × List Nat

/-- `<!ENTITY key "value">⏎` -/
def printDtdRec (r : DRec) : List Nat := dtdPrefix ++ (r.1 ++ ([32, 34] ++ (r.2 ++ [34, 62, 10])))

def printDtd (rs : List DRec) : List Nat := (rs.map printDtdRec).flatten

/-- key: an ASCII letter followed by ASCII letters / digits / `.` / `-`; value: no `"` (it would end the value) and no
    `&` (the value of such a text goes through the external `html.unescape`, which is not modelled) -/
structure SafeDtdRec (r : DRec) : Prop where
  key_ne : r.1 ≠ []
  key_head : ∀ c, r.1.head? = some c → asciiLetter c = true
  key : ∀ c ∈ r.1, dtdKeyChar c = true
  val : ∀ c ∈ r.2, c ≠ 34 ∧ c ≠ 38

theorem printDtdRec_length (r : DRec) : (printDtdRec r).length = dtdLen r.1.length r.2.length + 1 := by
  simp [printDtdRec, dtdLen, dtdPrefix]; omega

def dtdExpEntries : Nat → List DRec → List Entry
  | _, [] => []
  | off, r :: rs =>
    dtdEntity off r.1.length r.2.length :: wsEntry (off + dtdLen r.1.length r.2.length) ::
      dtdExpEntries (off + dtdLen r.1.length r.2.length + 1) rs

theorem printDtdRec_head (r : DRec) (rest : List Nat) : (printDtdRec r ++ rest)[0]? = some 60 := by
  simp [printDtdRec, dtdPrefix]

theorem printDtdRec_end (off : Nat) (r : DRec) :
    off + (printDtdRec r).length = (dtdEntity off r.1.length r.2.length).e + 1 := by
  rw [printDtdRec_length]
  rfl

def dtdEnt (n0 : Nat) (nt v : List Nat) : DEnt := ⟨[32], n0, nt, [32], 34, v, []⟩

def dtdBlock (r : DRec) : DBlock := .entity none [] (dtdEnt (r.1.headD 0) r.1.tail r.2) [10]

theorem dtdEnt_good {n0 : Nat} {nt v : List Nat} (h0 : asciiLetter n0 = true) (ht : ∀ c ∈ nt, dtdKeyChar c = true)
    (hv : ∀ c ∈ v, c ≠ 34) : (dtdEnt n0 nt v).Good :=
  ⟨by simp [dtdEnt], by simp [dtdEnt, isWs], h0, ht, by simp [dtdEnt], by simp [dtdEnt, isWs], Or.inl rfl, hv, by simp [dtdEnt]⟩

theorem dtdEmbeds : Embeds dtdSpec dtdBlock printDtdRec (fun off r => dtdEntity off r.1.length r.2.length) dtdExpEntries
    expectedView SafeDtdRec where
  nil := fun _ => rfl
  cons := fun _ _ _ => rfl
  len := printDtdRec_end
  pr := fun r hs => by
    obtain ⟨k, v⟩ := r
    obtain ⟨n0, nt, rfl⟩ := List.exists_cons_of_ne_nil hs.key_ne
    simp [dtdSpec, dtdBlock, DBlock.print, cmText, printDtdRec, DEnt.print, dtdEnt, dtdPrefix, kwEntity]
  en := fun off _ r hs => by
    obtain ⟨k, v⟩ := r
    obtain ⟨n0, nt, rfl⟩ := List.exists_cons_of_ne_nil hs.key_ne
    simp [dtdSpec, dtdBlock, DBlock.entries, cmText, wsOpt, dtdEntEntry, dtdEntity, dtdLen, DEnt.print_length, dtdEnt, wsEntryN,
      wsEntry]
    omega
  tr := fun _ _ => rfl
  vw := fun r hs => by
    obtain ⟨k, v⟩ := r
    obtain ⟨n0, nt, rfl⟩ := List.exists_cons_of_ne_nil hs.key_ne
    have : 38 ∉ v := fun hm => (hs.val 38 hm).2 rfl
    simp [dtdSpec, dtdBlock, DBlock.views, dtdEnt, DEnt.name, dtdVal, expectedView, this]
  good := fun _ r hs => by
    obtain ⟨k, v⟩ := r
    obtain ⟨n0, nt, rfl⟩ := List.exists_cons_of_ne_nil hs.key_ne
    exact ⟨(fun _ h => nomatch h), (fun _ => rfl), (fun _ h => nomatch h), Nat.zero_le _,
      dtdEnt_good (hs.key_head n0 rfl) (fun c hc => hs.key c (List.mem_cons_of_mem _ hc)) (fun c hc => (hs.val c hc).1),
      (fun c hc => by obtain rfl := List.mem_singleton.mp hc; rfl)⟩

theorem dtd_entity_drop (s : Array Nat) (off : Nat) (r : DRec) (rest : List Nat) (hs : SafeDtdRec r)
    (h : s.toList.drop off = printDtdRec r ++ rest) : dtdGetNext s off = dtdEntity off r.1.length r.2.length := by
  have hb := dtdEmbeds.good () r hs
  obtain ⟨k, v⟩ := r
  obtain ⟨n0, nt, rfl⟩ := List.exists_cons_of_ne_nil hs.key_ne
  rw [dtd_entity_plain s off (dtdEnt n0 nt v) (10 :: rest) hb.2.2.2.2.1
    (by rw [At, h]; simp [printDtdRec, DEnt.print, dtdEnt, dtdPrefix, kwEntity])]
  simp [dtdEntEntry, dtdEntity, dtdLen, DEnt.print_length, dtdEnt]
  omega

theorem entView_dtdEntity (s : Array Nat) (off : Nat) (r : DRec) (rest : List Nat) (hs : SafeDtdRec r)
    (h : s.toList.drop off = printDtdRec r ++ rest) :
    entView .dtd s (dtdEntity off r.1.length r.2.length) = expectedView r :=
  dtdEmbeds.entView (c := ()) hs rfl
    (dtd_views_block s off (dtdBlock r) rest (dtdEmbeds.good () r hs) (by rw [← dtdEmbeds.pr r hs] at h; exact h)).1

theorem walk_dtd_printed (rs : List DRec) (h : ∀ r ∈ rs, SafeDtdRec r) :
    walk .dtd (printDtd rs).toArray = .done (dtdExpEntries 0 rs) :=
  (dtdEmbeds.doc dtdSpec_laws rs h fun _ _ => trivial).1

theorem entitiesOf_dtdExpEntries (s : Array Nat) :
    ∀ (rs : List DRec) (off : Nat), s.toList.drop off = printDtd rs → (∀ r ∈ rs, SafeDtdRec r) →
      entitiesOf .dtd s (dtdExpEntries off rs) = rs.map expectedView ∧ junkOf s (dtdExpEntries off rs) = [] :=
  fun rs off h hsafe =>
    dtdEmbeds.views_at dtdSpec_laws rs hsafe s off [] (by rw [List.append_nil]; exact h) dtdSpec_laws.follow_nil

end C02X
