/-
The recursion bound of the model's `build` is never hit by `PF.new`: no error of `mkRules`, `scan`, `dedupGo` is `.depth`,
and the nested call for the excludes runs on a strictly smaller list of configs (`exSum`).
-/
import CLModel.Paths.ProjectFiles
import CLModel.Proofs.C13Build
import CLModel.Proofs.C13Env
namespace PF

theorem sizeL_append : ∀ (a b : List Config), sizeL (a ++ b) = sizeL a + sizeL b
  | [], b => by simp [sizeL]
  | x :: xs, b => by simp [sizeL, sizeL_append xs b]; omega

theorem sizeL_filter (p : Config → Bool) : ∀ (l : List Config), sizeL (l.filter p) ≤ sizeL l
  | [] => by simp [sizeL]
  | x :: xs => by
    have := sizeL_filter p xs
    simp only [List.filter_cons]
    split <;> simp only [sizeL] <;> omega

theorem sizeL_maybeExtend : ∀ (other self : List Config), sizeL (maybeExtend self other) ≤ sizeL self + sizeL other
  | [], self => by simp [maybeExtend, sizeL]
  | o :: os, self => by
    have ih := fun s => sizeL_maybeExtend os s
    simp only [maybeExtend, List.foldl_cons] at ih ⊢
    split
    · have := ih self
      simp only [sizeL]; omega
    · have := ih (self ++ [o])
      rw [sizeL_append] at this
      simp only [sizeL] at this ⊢; omega

/-- The measure behind the bound `sizeL projects + 1` of `PF.new`: the nested `build` runs on `excludesOf`, a sublist of what
    `collect` gathers from the projects' exclude lists, of total size at most `exSum`; every project counts at least 1
    beyond its excludes (`exSum_add_length_le`), so `sizeL` strictly falls at each nesting (`sizeL_excludesOf`). -/
def exSum : List Config → Nat
  | [] => 0
  | p :: ps => sizeL p.excludes + exSum ps

theorem exSum_add_length_le : ∀ (ps : List Config), exSum ps + ps.length ≤ sizeL ps
  | [] => by simp [exSum, sizeL]
  | p :: ps => by
    have := exSum_add_length_le ps
    obtain ⟨a, b, c, d, e⟩ := p
    simp only [exSum, sizeL, Config.size, Config.excludes, List.length_cons]
    omega

theorem collect_excl_size {locale : Option Loc} : ∀ (ps : List Config) (acc : List Config × List Config),
    sizeL (ps.foldl (collectStep locale) acc).2 ≤ sizeL acc.2 + exSum ps
  | [], acc => by simp [exSum]
  | p :: ps, acc => by
    rw [List.foldl_cons]
    have ih := collect_excl_size (locale := locale) ps (collectStep locale acc p)
    have : sizeL (collectStep locale acc p).2 ≤ sizeL acc.2 + sizeL p.excludes := by
      unfold collectStep
      split
      · omega
      · exact sizeL_maybeExtend _ _
    simp only [exSum]
    omega

theorem sizeL_excludesOf {locale : Option Loc} {projects : List Config} (h : excludesOf locale projects ≠ []) :
    sizeL (excludesOf locale projects) < sizeL projects := by
  cases projects with
  | nil => exact absurd rfl h
  | cons p ps =>
    have h1 : sizeL (excludesOf locale (p :: ps)) ≤ sizeL (collect locale (p :: ps)).2 := sizeL_filter _ _
    have h2 := collect_excl_size (locale := locale) (p :: ps) ([], [])
    rw [← collect_eq] at h2
    have h3 := exSum_add_length_le (p :: ps)
    have h2' : sizeL (collect locale (p :: ps)).2 ≤ exSum (p :: ps) := by
      have : sizeL (([], []) : List Config × List Config).2 = 0 := rfl
      omega
    simp only [List.length_cons] at h3
    omega

theorem mkRules_error {locale : Option Loc} {mb : Bool} : ∀ {ps : List PathRule} {e : Err},
    mkRules locale mb ps = .error e → e = .typeErrorLocale
  | [], e, h => by simp [mkRules] at h
  | p :: ps, e, h => by
    unfold mkRules at h
    cases hr : mkRule locale mb p with
    | error e' =>
      simp only [hr, Except.error.injEq] at h
      subst h
      unfold mkRule at hr
      split at hr
      · split at hr
        · simp only [Except.error.injEq] at hr; exact hr.symm
        · simp at hr
      · simp at hr
    | ok r =>
      simp only [hr] at h
      exact mkRules_error (map_eq_error h)

theorem scan_error {env : MEnv} : ∀ {rest : List (Rule × Bool)} {m : Rule} {e : Err},
    scan env m rest = .error e → e ≠ .depth
  | [], m, e, h => by simp [scan] at h
  | (m_, d) :: rest, m, e, h => by
    cases hk : sameKey env m m_ with
    | false =>
      rw [scan_cons_ne d rest hk] at h
      exact scan_error (map_eq_error h)
    | true =>
      rcases scan_cons_eq d rest hk with h' | h' | h'
      · rw [h'] at h; cases h; decide
      · rw [h'] at h; cases h; decide
      · rw [h'] at h
        exact scan_error (map_eq_error h)

theorem dedupGo_error {env : MEnv} : ∀ (n : Nat) (l : List (Rule × Bool)) (e : Err),
    dedupGo env n l = .error e → e ≠ .depth
  | _, [], e, h => by simp [dedupGo] at h
  | _, [(m, d)], e, h => by simp [dedupGo] at h
  | 0, _ :: _ :: _, e, h => by simp [dedupGo] at h
  | n + 1, (m, d) :: x2 :: rest, e, h => by
    simp only [dedupGo] at h
    split at h
    · exact dedupGo_error n _ e h
    · cases hs : scan env m (x2 :: rest) with
      | error e' =>
        simp only [hs, Except.error.injEq] at h
        subst h; exact scan_error hs
      | ok v =>
        obtain ⟨m', rest'⟩ := v
        simp only [hs] at h
        exact dedupGo_error n rest' e (map_eq_error h)

theorem build_no_depth {env : MEnv} : ∀ (fuel : Nat) (locale : Option Loc) (projects : List Config) (mb : Bool),
    sizeL projects < fuel → build env fuel locale projects mb ≠ .error .depth
  | 0, _, _, _, h => by omega
  | fuel + 1, locale, projects, mb, hf => by
    intro hb
    unfold build at hb
    split at hb
    · rename_i e hex
      simp only [Except.error.injEq] at hb
      subst hb
      split at hex
      · simp at hex
      · rename_i hne
        have hlt := sizeL_excludesOf (locale := locale) (projects := projects) (by
          intro h0; rw [h0] at hne; simp at hne)
        exact build_no_depth fuel locale _ false (by omega) (map_eq_error hex)
    · split at hb
      · rename_i e hm
        simp only [Except.error.injEq] at hb
        subst hb
        have := mkRules_error hm
        exact absurd this (by decide)
      · split at hb
        · rename_i e hd
          simp only [Except.error.injEq] at hb
          subst hb
          exact dedupGo_error _ _ _ hd rfl
        · simp at hb

end PF
