/- `check_params`, `check_string` and `check` of the Android checker against the reference notions of C09Spec (`*_spec`), on
   top of: what `hasError` is of each kind of result list, `nonSimpleData` against `SimpleData`, when `conflictsOf` is empty,
   and the key sort of `check_params` as an instance of Sorting. -/
import CLModel.Proofs.C09Params
import CLModel.Proofs.Sorting
namespace Android
open Rx Android.Spec

theorem hasError_append (a b : List Result) : hasError (a ++ b) = (hasError a || hasError b) := by
  simp [hasError, List.any_append]

theorem hasError_map_warn {α : Type} (l : List α) (f : α → Nat) (g : α → Msg) :
    hasError (l.map (fun x => warn (f x) (g x))) = false := by
  induction l with
  | nil => rfl
  | cons x xs ih => simp only [List.map_cons, hasError, List.any_cons] at ih ⊢; simp [warn]

theorem hasError_map_err {α : Type} (l : List α) (f : α → Nat) (g : α → Msg) :
    hasError (l.map (fun x => err (f x) (g x))) = !l.isEmpty := by
  cases l with
  | nil => rfl
  | cons x xs => simp [hasError, err]

theorem hasError_iff_ne_nil {rs : List Result} (h : ∀ r ∈ rs, r.sev = .error) : hasError rs = true ↔ rs ≠ [] := by
  cases rs with
  | nil => simp [hasError]
  | cons r rs => simp [hasError, h r (by simp)]

theorem all_warn_of_not_hasError {rs : List Result} (h : hasError rs = false) :
    ∀ r ∈ rs, r.sev = .warning := by
  intro r hr
  simp only [hasError, List.any_eq_false] at h
  have := h r hr
  cases hs : r.sev with
  | error => simp [hs] at this
  | warning => rfl

theorem notTranslatable_iff (ns : List Node) :
    notTranslatable ns = true ↔ ∃ n ∈ ns, TranslatableFalse n := by
  simp only [notTranslatable, List.any_eq_true, TranslatableFalse, Bool.and_eq_true]
  constructor
  · rintro ⟨n, hn, _, h2⟩; exact ⟨n, hn, by simpa using h2⟩
  · rintro ⟨n, hn, h⟩; exact ⟨n, hn, by simp [h], by simp [h]⟩

theorem noAtString_iff (ns : List Node) :
    noAtString ns = true ↔ ∃ n ∈ ns, AtString n := by
  simp only [noAtString, List.any_eq_true, AtString, List.isPrefixOf_iff_prefix]

theorem dropWhile_eq_nil {p : Nat → Bool} : ∀ {l : List Nat}, l.dropWhile p = [] ↔ ∀ x ∈ l, p x = true := by
  intro l
  induction l with
  | nil => simp
  | cons a t ih =>
    simp only [List.dropWhile_cons]
    by_cases ha : p a = true
    · simp [ha, ih]
    · simp [ha]

theorem strip_eq_nil (l : List Nat) : strip l = [] ↔ ∀ x ∈ l, isSpace x = true := by
  unfold strip
  rw [List.reverse_eq_nil_iff, dropWhile_eq_nil]
  constructor
  · intro h x hx
    by_cases hp : isSpace x = true
    · exact hp
    · exfalso
      have hne : l.dropWhile isSpace ≠ [] := by
        intro hnil
        rw [dropWhile_eq_nil] at hnil
        exact hp (hnil x hx)
      cases hd : l.dropWhile isSpace with
      | nil => exact hne hd
      | cons y ys =>
        have hy : isSpace y = false := by
          have := List.head?_dropWhile_not isSpace l
          rw [hd] at this
          simpa using this
        have := h y (by rw [hd]; simp)
        rw [hy] at this; cases this
  · intro h x hx
    have : x ∈ l := by
      have h1 : x ∈ l.dropWhile isSpace := by simpa using hx
      exact (List.dropWhile_sublist _).subset h1
    exact h x this

theorem nonSimpleData_iff (n : Node) : nonSimpleData n = false ↔ SimpleData n := by
  unfold nonSimpleData SimpleData
  by_cases h0 : (n.children.filter (·.isCdata)).length = 0
  · simp only [h0, beq_self_eq_true, if_true]
    have hnc : ∀ c ∈ n.children, c.isCdata = false := by
      intro c hc
      have : n.children.filter (·.isCdata) = [] := List.eq_nil_of_length_eq_zero h0
      rw [List.filter_eq_nil_iff] at this
      simpa using this c hc
    rcases hch : n.children with _ | ⟨c, _ | ⟨c2, rest⟩⟩
    · simp
    · constructor
      · intro h
        right; left
        cases c with
        | text d => exact ⟨d, rfl⟩
        | cdata d => simp [Child.isText] at h
        | other => simp [Child.isText] at h
      · rintro (h | ⟨d, hd⟩ | ⟨h1, _⟩)
        · cases h
        · cases hd; rfl
        · rw [hch] at h0; omega
    · constructor
      · intro h; cases h
      · rintro (h | ⟨d, hd⟩ | ⟨h1, _⟩)
        · cases h
        · cases hd
        · rw [hch] at h0; omega
  · have h0' : ((n.children.filter (·.isCdata)).length == 0) = false := by simp [h0]
    simp only [h0', Bool.false_eq_true, if_false]
    by_cases h1 : (n.children.filter (·.isCdata)).length > 1
    · simp only [h1, if_true, reduceCtorEq, false_iff]
      rintro (h | ⟨d, hd⟩ | ⟨h2, _⟩)
      · rw [h] at h0; simp at h0
      · rw [hd] at h0; simp [Child.isCdata] at h0
      · omega
    · have h1' : (n.children.filter (·.isCdata)).length = 1 := by omega
      simp only [h1, if_false, List.any_eq_false]
      constructor
      · intro h
        right; right
        refine ⟨h1', ?_⟩
        intro c hc
        have := h c hc
        cases c with
        | text d =>
          right
          refine ⟨d, rfl, ?_⟩
          simp only [bne_iff_ne, ne_eq, Decidable.not_not] at this
          exact (strip_eq_nil d).mp (by simpa using this)
        | cdata d => left; rfl
        | other => simp at this
      · rintro (h | ⟨d, hd⟩ | ⟨_, h2⟩)
        · rw [h] at h0; simp at h0
        · rw [hd] at h0; simp [Child.isCdata] at h0
        · intro c hc
          rcases h2 c hc with hcd | ⟨d, hd, hw⟩
          · cases c with
            | cdata d => simp
            | text d => simp [Child.isCdata] at hcd
            | other => simp [Child.isCdata] at hcd
          · subst hd
            simp [(strip_eq_nil d).mpr hw]

theorem hasError_checkApostrophes (v : List Nat) :
    hasError (checkApostrophes v) = true ↔
      DoubledQuote (blankEsc v) ∨ (¬ Quoted (silence v) ∧ 39 ∈ silence v) :=
  (hasError_iff_ne_nil (checkApostrophes_all_errors v)).trans (checkApostrophes_ne_nil v)

theorem conflictsOf_ne_nil (us : List (Nat × Tok)) :
    conflictsOf us ≠ [] ↔ ∃ u1 u2, u1 ∈ us ∧ u2 ∈ us ∧ u1.1 = u2.1 ∧ u1.2.fmt ≠ u2.2.fmt := by
  constructor
  · intro h
    obtain ⟨x, hx⟩ := List.exists_mem_of_ne_nil _ h
    obtain ⟨u, f, hu, hf, hne, -⟩ := mem_conflictsOf_iff.mp hx
    obtain ⟨u0, hu0, hp, hff⟩ := firstFmt_some hf
    exact ⟨u0, u, hu0, hu, hp, hff ▸ hne⟩
  · -- without a conflict every use has the conversion of the first use of its argument
    rintro ⟨u1, u2, h1, h2, hp, hne⟩ hnil
    obtain ⟨f, hf⟩ := firstFmt_of_mem h1
    have same : ∀ u ∈ us, firstFmt us u.1 = some f → f = u.2.fmt := fun u hu hfu =>
      Classical.byContradiction fun hd => by
        have := mem_conflictsOf_iff.mpr ⟨u, f, hu, hfu, hd, rfl⟩
        rw [hnil] at this; cases this
    exact hne ((same u1 h1 hf).symm.trans (same u2 h2 (hp ▸ hf)))

theorem insertKey_eq (p : Nat × List Nat) :
    ∀ l, insertKey p l = Sorting.ins (fun a b => decide (a.1 ≤ b.1)) p l
  | [] => rfl
  | q :: rest => by simp only [insertKey, Sorting.ins, insertKey_eq p rest, decide_eq_true_eq]

theorem mem_sortKeys (l : List (Nat × List Nat)) (x : Nat × List Nat) : x ∈ sortKeys l ↔ x ∈ l := by
  rw [sortKeys, show insertKey = Sorting.ins _ from funext fun p => funext (insertKey_eq p)]
  exact Sorting.mem_sort

theorem dget_none_iff {β : Type} (d : List (Nat × β)) (p : Nat) :
    dget d p = none ↔ p ∉ d.map (·.1) :=
  dget_eq d p ▸ AR.dget_eq_none_iff

theorem checkParams_spec (rp : List (Nat × List Nat)) (count : Nat) (v : List Nat) :
    ∃ c, checkParams rp count v = some c ∧
      (hasError c = true ↔ Conflict v ∨ ∃ p f, argMap v p = some f ∧ dget rp p ≠ some f) ∧
      (∀ p f, (p, f) ∈ rp → argMap v p = none → warn 0 (.notInL10n p f) ∈ c) := by
  obtain ⟨st, hst, hinv, hnd⟩ := getParams_str v
  unfold checkParams
  simp only [hst]
  refine ⟨_, rfl, ?_, ?_⟩
  · simp only [hasError_append]
    have e1 : hasError (st.errors.map (fun e => err e.2 e.1)) = !st.errors.isEmpty :=
      hasError_map_err st.errors (fun e => e.2) (fun e => e.1)
    have e3 : hasError (rp.filterMap (fun p =>
        if !((sortKeys st.params).map (·.1)).contains p.1 then some (warn 0 (.notInL10n p.1 p.2)) else none)) = false := by
      simp only [hasError, List.any_eq_false, List.mem_filterMap]
      rintro r ⟨p, _, hp⟩
      split at hp
      · cases hp; simp [warn]
      · cases hp
    have e4 : ∀ b : Bool, hasError (if b then [warn 0 .countMismatch] else []) = false := by
      intro b; cases b <;> rfl
    rw [e1, e3, e4]
    simp only [Bool.or_false, Bool.or_eq_true, Bool.not_eq_true', List.isEmpty_eq_false_iff]
    apply or_congr
    · rw [hinv.errors]
      exact conflictsOf_ne_nil _
    · simp only [hasError, List.any_eq_true, List.mem_filterMap]
      constructor
      · rintro ⟨r, ⟨x, hx, hr⟩, _⟩
        rw [mem_sortKeys] at hx
        have hxm : argMap v x.1 = some x.2 := by
          unfold argMap; rw [← hinv.params]; exact (dget_eq_some_iff hnd _ _).mpr hx
        refine ⟨x.1, x.2, hxm, ?_⟩
        intro hd
        rw [hd] at hr
        simp at hr
      · rintro ⟨p, f, hm, hne⟩
        have hx : (p, f) ∈ st.params := by
          apply (dget_eq_some_iff hnd _ _).mp
          rw [hinv.params]; exact hm
        cases hd : dget rp p with
        | none =>
          exact ⟨err 0 (.notInRef p f), ⟨(p, f), (mem_sortKeys _ _).mpr hx, by simp [hd]⟩, rfl⟩
        | some rf =>
          have : rf ≠ f := by intro h; subst h; exact hne hd
          exact ⟨err 0 .mismatch, ⟨(p, f), (mem_sortKeys _ _).mpr hx, by simp [hd, this]⟩, rfl⟩
  · intro p f hp hnone
    simp only [List.mem_append]
    left; right
    apply List.mem_filterMap.mpr
    refine ⟨(p, f), hp, ?_⟩
    have : dget st.params p = none := by rw [hinv.params]; exact hnone
    rw [dget_none_iff] at this
    have hk : ((sortKeys st.params).map (·.1)).contains p = false := by
      cases hc : ((sortKeys st.params).map (·.1)).contains p with
      | false => rfl
      | true =>
        exfalso; apply this
        have := List.contains_iff_mem.mp hc
        obtain ⟨y, hy, hyp⟩ := List.mem_map.mp this
        exact List.mem_map.mpr ⟨y, (mem_sortKeys _ _).mp hy, hyp⟩
    show (if (!((sortKeys st.params).map (·.1)).contains p) = true then some (warn 0 (.notInL10n p f)) else none) = _
    rw [hk]; rfl

/-- every way in which `check_string` reports an error (`checkString_spec`) -/
def ErrorCause (ref : Node) (l10n : Entity) : Prop :=
  TranslatableFalse ref ∨ TranslatableFalse l10n.node ∨ AtString l10n.node ∨ ¬ SimpleData l10n.node ∨
  DoubledQuote (blankEsc l10n.val) ∨ (¬ Quoted (silence l10n.val) ∧ 39 ∈ silence l10n.val) ∨
  Conflict l10n.val ∨ ∃ p f, argMap l10n.val p = some f ∧ argMap (textContent ref) p ≠ some f

theorem checkString_spec (ref : Node) (l10n : Entity) :
    ∃ rs, checkString [ref] l10n = some rs ∧
      (hasError rs = true ↔ ErrorCause ref l10n) ∧
      (¬ TranslatableFalse ref → ¬ TranslatableFalse l10n.node → ¬ AtString l10n.node → SimpleData l10n.node →
        ∀ p f, argMap (textContent ref) p = some f → argMap l10n.val p = none →
          warn 0 (.notInL10n p f) ∈ rs) := by
  unfold checkString ErrorCause
  by_cases hnt : notTranslatable [l10n.node, ref] = true
  · have := (notTranslatable_iff _).mp hnt
    simp only [hnt, if_true]
    refine ⟨_, rfl, ?_, ?_⟩
    · simp only [hasError, err, List.any_cons, List.any_nil, Bool.or_false, beq_self_eq_true, true_iff]
      obtain ⟨n, hn, h⟩ := this
      simp only [List.mem_cons, List.mem_nil_iff, or_false] at hn
      rcases hn with rfl | rfl
      · exact Or.inr (Or.inl h)
      · exact Or.inl h
    · intro h1 h2
      obtain ⟨n, hn, h⟩ := this
      simp only [List.mem_cons, List.mem_nil_iff, or_false] at hn
      rcases hn with rfl | rfl
      · exact absurd h h2
      · exact absurd h h1
  · have hnt' : ¬ TranslatableFalse ref ∧ ¬ TranslatableFalse l10n.node := by
      constructor <;> intro h <;> apply hnt <;> apply (notTranslatable_iff _).mpr
      · exact ⟨ref, by simp, h⟩
      · exact ⟨l10n.node, by simp, h⟩
    simp only [hnt, Bool.false_eq_true, if_false]
    by_cases hat : noAtString [l10n.node] = true
    · have hat' : AtString l10n.node := by
        obtain ⟨n, hn, h⟩ := (noAtString_iff _).mp hat
        simp at hn; subst hn; exact h
      simp only [hat, if_true]
      refine ⟨_, rfl, ?_, ?_⟩
      · simp only [hasError, err, List.any_cons, List.any_nil, Bool.or_false, beq_self_eq_true, true_iff]
        exact Or.inr (Or.inr (Or.inl hat'))
      · intro _ _ h3; exact absurd hat' h3
    · have hat' : ¬ AtString l10n.node := by
        intro h; apply hat; exact (noAtString_iff _).mpr ⟨_, by simp, h⟩
      simp only [hat, Bool.false_eq_true, if_false]
      have hw : ∀ b : Bool, hasError (if b then [warn 0 .notTranslatable] else []) = false := by
        intro b; cases b <;> rfl
      by_cases hns : nonSimpleData l10n.node = true
      · have hns' : ¬ SimpleData l10n.node := by
          intro h; rw [(nonSimpleData_iff _).mpr h] at hns; cases hns
        simp only [hns, if_true]
        refine ⟨_, rfl, ?_, ?_⟩
        · rw [hasError_append, hw]
          simp only [hasError, err, List.any_cons, List.any_nil, Bool.or_false, beq_self_eq_true,
            Bool.false_or, true_iff]
          exact Or.inr (Or.inr (Or.inr (Or.inl hns')))
        · intro _ _ _ h4; exact absurd h4 hns'
      · have hns' : SimpleData l10n.node := by
          apply (nonSimpleData_iff _).mp
          cases h : nonSimpleData l10n.node
          · rfl
          · exact absurd h hns
        simp only [hns, Bool.false_eq_true, if_false]
        obtain ⟨rst, hrst, hrinv, hrnd⟩ := getParams_node ref
        have hmap : [ref].map RefArg.node = [RefArg.node ref] := rfl
        rw [hmap, hrst]
        obtain ⟨c, hc, hcerr, hcwarn⟩ := checkParams_spec rst.params rst.count l10n.val
        simp only [hc]
        refine ⟨_, rfl, ?_, ?_⟩
        · simp only [hasError_append, hw, Bool.false_or]
          have he : hasError (rst.errors.map (fun x => warn x.2 x.1)) = false :=
            hasError_map_warn rst.errors (fun x => x.2) (fun x => x.1)
          rw [he, Bool.or_false, Bool.or_eq_true, hasError_checkApostrophes, hcerr]
          have hR : ∀ p f, dget rst.params p ≠ some f ↔ argMap (textContent ref) p ≠ some f := by
            intro p f; unfold argMap; rw [hrinv.params]
          simp only [hR]
          constructor
          · rintro ((h | h) | (h | h))
            · exact Or.inr (Or.inr (Or.inr (Or.inr (Or.inl h))))
            · exact Or.inr (Or.inr (Or.inr (Or.inr (Or.inr (Or.inl h)))))
            · exact Or.inr (Or.inr (Or.inr (Or.inr (Or.inr (Or.inr (Or.inl h))))))
            · exact Or.inr (Or.inr (Or.inr (Or.inr (Or.inr (Or.inr (Or.inr h))))))
          · rintro (h | h | h | h | h | h | h | h)
            · exact absurd h hnt'.1
            · exact absurd h hnt'.2
            · exact absurd h hat'
            · exact absurd hns' h
            · exact Or.inl (Or.inl h)
            · exact Or.inl (Or.inr h)
            · exact Or.inr (Or.inl h)
            · exact Or.inr (Or.inr h)
        · intro _ _ _ _ p f hp hn
          simp only [List.mem_append]
          right
          apply hcwarn p f _ hn
          apply (dget_eq_some_iff hrnd _ _).mp
          rw [hrinv.params]; exact hp

theorem hasError_baseCheck (l10n : Entity) : hasError (baseCheck l10n) = false := by
  unfold baseCheck
  exact hasError_map_warn _ (fun (m : Nat × St) => m.1) (fun _ => .mojibake)

theorem check_spec (ref l10n : Entity) :
    ∃ rs, check ref l10n = some rs ∧
      (hasError rs = true ↔
        ref.node.name ≠ l10n.node.name ∨
        (ref.node.name = Gen.Tables.android_string_tag ∧ ErrorCause ref.node l10n)) ∧
      (ref.node.name = l10n.node.name → ref.node.name = Gen.Tables.android_string_tag →
        ¬ TranslatableFalse ref.node → ¬ TranslatableFalse l10n.node → ¬ AtString l10n.node →
        SimpleData l10n.node →
        ∀ p f, argMap (textContent ref.node) p = some f → argMap l10n.val p = none →
          warn 0 (.notInL10n p f) ∈ rs) := by
  unfold check
  by_cases hn : ref.node.name = l10n.node.name
  · have hn' : (ref.node.name != l10n.node.name) = false := by simp [hn]
    simp only [hn', Bool.false_eq_true, if_false]
    by_cases hs : ref.node.name = Gen.Tables.android_string_tag
    · have hs' : (ref.node.name != Gen.Tables.android_string_tag) = false := by simp [hs]
      simp only [hs', Bool.false_eq_true, if_false]
      obtain ⟨rs, hrs, herr, hwarn⟩ := checkString_spec ref.node l10n
      refine ⟨baseCheck l10n ++ rs, by simp [hrs], ?_, ?_⟩
      · rw [hasError_append, hasError_baseCheck, Bool.false_or, herr]
        constructor
        · intro h; exact Or.inr ⟨hs, h⟩
        · rintro (h | ⟨_, h⟩)
          · exact absurd hn h
          · exact h
      · intro _ _ h1 h2 h3 h4 p f hp hq
        exact List.mem_append.mpr (Or.inr (hwarn h1 h2 h3 h4 p f hp hq))
    · have hs' : (ref.node.name != Gen.Tables.android_string_tag) = true := by simp [hs]
      simp only [hs', if_true]
      refine ⟨_, rfl, ?_, ?_⟩
      · rw [hasError_append, hasError_baseCheck]
        simp only [hasError, warn, List.any_cons, List.any_nil, Bool.or_false, Bool.false_or]
        constructor
        · intro h; simp at h
        · rintro (h | ⟨h, _⟩)
          · exact absurd hn h
          · exact absurd h hs
      · intro _ h; exact absurd h hs
  · have hn' : (ref.node.name != l10n.node.name) = true := by simp [hn]
    simp only [hn', if_true]
    refine ⟨_, rfl, ?_, ?_⟩
    · rw [hasError_append, hasError_baseCheck]
      simp only [hasError, err, List.any_cons, List.any_nil, Bool.or_false, Bool.false_or,
        beq_self_eq_true, true_iff]
      exact Or.inl hn
    · intro h; exact absurd h hn

theorem doubledQuote_iff_positions (v : List Nat) : DoubledQuote v ↔ dqPositions 0 v ≠ [] := dq_iff_positions 0 v

theorem conflict_iff_conflictsOf (v : List Nat) : Conflict v ↔ conflictsOf (uses 1 (lex v)) ≠ [] := by
  rw [conflictsOf_ne_nil]; rfl

theorem blankEsc_head (b : Nat) (rest : List Nat) :
    (blankPairs escCond (b :: rest)).head? = some 34 ↔ b = 34 := by
  cases rest with
  | nil => simp [blankPairs]
  | cons c r =>
    simp only [blankPairs]
    by_cases h : escCond b c = true
    · simp only [h, if_true, List.head?_cons]
      simp [escCond] at h
      constructor
      · intro h'; simp at h'
      · intro hb; omega
    · simp [h]

theorem unescapedDq_true (c : Nat) (rest : List Nat) :
    unescapedDq true (c :: rest) = unescapedDq false rest := by
  simp [unescapedDq]

end Android
