/-
The message list of the Fluent checker model: what one visited node, one attribute and the whole l10n visitor append
(`l10nStep_eq`, `l10nVisitAttribute_eq`, `l10nVisitMessage_messages`), the errors among them (`checkMessage_errs`,
`checkMessage_hasErr_iff`), what `check` adds around them (`checkWith_eq`), and that `check` never raises (`check_ok`).
-/
import CLModel.Proofs.C08Basic
import CLModel.Proofs.ListLemmas
namespace Ftl
open Gen.Tables

def AllWarn (l : List Msg) : Prop := ∀ m ∈ l, m.sev = sevWarning
def errsOf (l : List Msg) : List Msg := l.filter (fun m => m.sev == sevError)

theorem errsOf_append (a b : List Msg) : errsOf (a ++ b) = errsOf a ++ errsOf b := by
  simp [errsOf]

theorem errsOf_nil : errsOf [] = [] := rfl

theorem errsOf_of_allWarn {l : List Msg} (h : AllWarn l) : errsOf l = [] := by
  simp only [errsOf, List.filter_eq_nil_iff]
  intro m hm
  have := h m hm
  simp [this, sevWarning_ne_sevError]

theorem AllWarn.append {a b : List Msg} (ha : AllWarn a) (hb : AllWarn b) : AllWarn (a ++ b) := by
  intro m hm
  rcases List.mem_append.mp hm with h | h
  · exact ha m h
  · exact hb m h

theorem allWarn_nil : AllWarn [] := by intro m hm; simp at hm

theorem allWarn_flatMap {α : Type} (l : List α) (f : α → List Msg) (h : ∀ x ∈ l, AllWarn (f x)) :
    AllWarn (l.flatMap f) := by
  intro m hm
  rcases List.mem_flatMap.mp hm with ⟨x, hx, hmx⟩
  exact h x hx m hmx

theorem checkDuplicateAttributes_warn (attrs : List Attribute) : AllWarn (checkDuplicateAttributes attrs) := by
  intro m hm
  simp only [checkDuplicateAttributes, List.mem_map] at hm
  obtain ⟨a, _, rfl⟩ := hm
  rfl

theorem checkPlurals_warn (kp : Option (List Str)) (keys : List VKey) : AllWarn (checkPlurals kp keys) := by
  intro m hm
  unfold checkPlurals at hm
  split at hm
  · simp at hm
  · split at hm
    · simp at hm
    · simp only at hm
      split at hm
      · split at hm
        · simp at hm
        · split at hm
          · simp at hm
          · simp at hm
            subst hm
            rfl
      · simp at hm

theorem checkVariants_warn (kp : Option (List Str)) (keys : List VKey) : AllWarn (checkVariants kp keys) := by
  unfold checkVariants
  apply AllWarn.append
  · intro m hm
    simp only [List.mem_map] at hm
    obtain ⟨a, _, rfl⟩ := hm
    rfl
  · exact checkPlurals_warn kp keys

/-- what visiting one node appends to `messages` (it depends on the reference's refs of the slot only) -/
def evMsgs (kp : Option (List Str)) (rr : List Str) (e : Ev) : List Msg :=
  match e with
  | .select keys => checkVariants kp keys
  | .msgRef s _ _ =>
    match e.refKey with
    | some (r, _) => if rr.contains r then [] else [⟨sevWarning, s, fmt fluentMsg_obsolete_msg_ref [r]⟩]
    | none => []
  | .termRef s _ _ =>
    match e.refKey with
    | some (r, _) => if rr.contains r then [] else [⟨sevWarning, s, fmt fluentMsg_obsolete_term_ref [r]⟩]
    | none => []

/-- what visiting one node does to `self.refs` -/
def evRefs (refs : List Str) (e : Ev) : List Str :=
  match e.refKey with
  | some (r, _) => setAdd refs r
  | none => refs

theorem evMsgs_warn (kp : Option (List Str)) (rr : List Str) (e : Ev) : AllWarn (evMsgs kp rr e) := by
  unfold evMsgs
  split
  · exact checkVariants_warn kp _
  · split
    · split
      · exact allWarn_nil
      · intro m hm; simp at hm; subst hm; rfl
    · exact allWarn_nil
  · split
    · split
      · exact allWarn_nil
      · intro m hm; simp at hm; subst hm; rfl
    · exact allWarn_nil

theorem l10nStep_eq (kp : Option (List Str)) (rr : List Str) (acc : List Str × List Msg) (e : Ev) :
    l10nStep kp rr acc e = (evRefs acc.1 e, acc.2 ++ evMsgs kp rr e) := by
  cases e with
  | select keys => simp [l10nStep, evRefs, evMsgs, Ev.refKey]
  | msgRef s i a =>
    simp only [l10nStep, evRefs, evMsgs, Ev.refKey]
    split <;> simp <;> split <;> simp
  | termRef s i a =>
    simp only [l10nStep, evRefs, evMsgs, Ev.refKey]
    cases a <;> simp <;> split <;> simp

theorem foldl_l10nStep (kp : Option (List Str)) (rr : List Str) (evs : List Ev) (acc : List Str × List Msg) :
    evs.foldl (l10nStep kp rr) acc = (evs.foldl evRefs acc.1, acc.2 ++ evs.flatMap (evMsgs kp rr)) := by
  induction evs generalizing acc with
  | nil => simp
  | cons e r ih =>
    simp only [List.foldl_cons, List.flatMap_cons]
    rw [ih, l10nStep_eq]
    simp [List.append_assoc]

/-- the reference's recorded refs of a slot, as the l10n visitor reads them -/
def rrOf (rer : List (Slot × RefDict)) (slot : Slot) : List Str := dictKeys (ddGet rer slot)

theorem rrOf_dictSet_self (rer : List (Slot × RefDict)) (slot : Slot) :
    rrOf (dictSet rer slot (ddGet rer slot)) = rrOf rer := by
  funext s
  simp [rrOf, ddGet_dictSet_self]

theorem l10nVisitPattern_eq (kp : Option (List Str)) (st : L10nState) (slot : Slot) (p : Pattern) :
    l10nVisitPattern kp st slot p =
      { st with
        entryRefs := dictSet st.entryRefs slot ((evPattern false p).foldl evRefs (ddGet st.entryRefs slot)),
        messages := st.messages ++ (evPattern false p).flatMap (evMsgs kp (rrOf st.refEntryRefs slot)),
        refEntryRefs := dictSet st.refEntryRefs slot (ddGet st.refEntryRefs slot) } := by
  simp only [l10nVisitPattern, foldl_l10nStep, rrOf]

/-- the `style` part of L10nMessageVisitor.visit_Attribute: the appended messages and
    `reference.css_styles` afterwards; it depends on the attribute and `reference.css_styles` only -/
def cssCheck (rc : CssVal) (a : Attribute) : List Msg × CssVal :=
  if a.name != sStyle then ([], rc) else
  match patternVariants a.value with
  | [] => ([], rc)
  | t :: _ =>
    let lm := (parseCssSpec t).1
    let ce := (parseCssSpec t).2
    match rc with
    | .map rm => ((checkStyle rm lm ce).1, .map (checkStyle rm lm ce).2)
    | _ => ((checkStyle [] lm ce).1, rc)

theorem l10nVisitAttribute_eq (kp : Option (List Str)) (st : L10nState) (a : Attribute) :
    ∃ cs ce, l10nVisitAttribute kp st a =
      { entryRefs := dictSet st.entryRefs (some a.name)
          ((evPattern false a.value).foldl evRefs (ddGet st.entryRefs (some a.name))),
        hasValue := st.hasValue,
        attrPos := dictSet st.attrPos a.name a.start,
        css := cs, cssErrors := ce,
        refEntryRefs := dictSet st.refEntryRefs (some a.name) (ddGet st.refEntryRefs (some a.name)),
        refCss := (cssCheck st.refCss a).2,
        messages := st.messages ++ (evPattern false a.value).flatMap (evMsgs kp (rrOf st.refEntryRefs (some a.name)))
          ++ (cssCheck st.refCss a).1 } := by
  unfold l10nVisitAttribute cssCheck
  simp only [l10nVisitPattern_eq]
  by_cases hn : (a.name != sStyle) = true
  · simp only [hn, if_true]
    exact ⟨st.css, st.cssErrors, by simp⟩
  · simp only [hn, Bool.false_eq_true, if_false]
    unfold styleOf
    simp only
    cases hpv : patternVariants a.value with
    | nil => exact ⟨.skip, st.cssErrors, by simp⟩
    | cons t r =>
      simp only
      rcases hps : parseCssSpec t with ⟨lm, ce⟩
      cases lm with
      | none =>
        simp only
        cases hrc : st.refCss with
        | none => exact ⟨.none, ce, by simp⟩
        | skip => exact ⟨.none, ce, by simp⟩
        | map rm => exact ⟨.none, ce, by simp⟩
      | some m =>
        simp only
        cases hrc : st.refCss with
        | none => exact ⟨.map m, ce, by simp⟩
        | skip => exact ⟨.map m, ce, by simp⟩
        | map rm => exact ⟨.map m, ce, by simp⟩

/-- the messages of the attributes in order; `rc` is the reference's `css_styles` as popped by the attributes before -/
def attrsMsgs (kp : Option (List Str)) (rr : Slot → List Str) : CssVal → List Attribute → List Msg
  | _, [] => []
  | rc, a :: r =>
    (evPattern false a.value).flatMap (evMsgs kp (rr (some a.name))) ++ (cssCheck rc a).1
      ++ attrsMsgs kp rr (cssCheck rc a).2 r

def attrsPos (d : List (Str × Nat)) (attrs : List Attribute) : List (Str × Nat) :=
  attrs.foldl (fun d a => dictSet d a.name a.start) d

def attrsRefs (er : List (Slot × List Str)) (attrs : List Attribute) : List (Slot × List Str) :=
  attrs.foldl (fun er a => dictSet er (some a.name) ((evPattern false a.value).foldl evRefs (ddGet er (some a.name)))) er

/-- slots the l10n visitor creates in the reference's defaultdict: they hold no refs -/
def touch (rer : List (Slot × RefDict)) (slots : List Slot) : List (Slot × RefDict) :=
  slots.foldl (fun d s => dictSet d s (ddGet d s)) rer

theorem rrOf_touch (rer : List (Slot × RefDict)) (slots : List Slot) : rrOf (touch rer slots) = rrOf rer := by
  induction slots generalizing rer with
  | nil => rfl
  | cons s r ih =>
    simp only [touch, List.foldl_cons] at ih ⊢
    rw [ih, rrOf_dictSet_self]

theorem foldl_l10nVisitAttribute (kp : Option (List Str)) (attrs : List Attribute) (st : L10nState) :
    (attrs.foldl (l10nVisitAttribute kp) st).messages
        = st.messages ++ attrsMsgs kp (rrOf st.refEntryRefs) st.refCss attrs ∧
    (attrs.foldl (l10nVisitAttribute kp) st).attrPos = attrsPos st.attrPos attrs ∧
    (attrs.foldl (l10nVisitAttribute kp) st).hasValue = st.hasValue ∧
    (attrs.foldl (l10nVisitAttribute kp) st).entryRefs = attrsRefs st.entryRefs attrs ∧
    (attrs.foldl (l10nVisitAttribute kp) st).refEntryRefs = touch st.refEntryRefs (attrs.map (fun a => some a.name)) := by
  induction attrs generalizing st with
  | nil => simp [attrsMsgs, attrsPos, attrsRefs, touch]
  | cons a r ih =>
    simp only [List.foldl_cons]
    obtain ⟨cs, ce, h⟩ := l10nVisitAttribute_eq kp st a
    have ih' := ih (l10nVisitAttribute kp st a)
    rw [h] at ih' ⊢
    simp only at ih'
    obtain ⟨h1, h2, h3, h4, h5⟩ := ih'
    refine ⟨?_, ?_, ?_, ?_, ?_⟩
    · rw [h1]
      simp only [attrsMsgs, rrOf_dictSet_self, List.append_assoc]
    · rw [h2]; simp [attrsPos]
    · rw [h3]
    · rw [h4]; simp [attrsRefs]
    · rw [h5]; simp [touch]

theorem foldl_refVisitAttribute (attrs : List Attribute) (st : RefState) :
    (attrs.foldl refVisitAttribute st).hasValue = st.hasValue ∧
    (attrs.foldl refVisitAttribute st).attrPos = attrsPos st.attrPos attrs := by
  induction attrs generalizing st with
  | nil => simp [attrsPos]
  | cons a r ih =>
    simp only [List.foldl_cons]
    obtain ⟨h1, h2⟩ := ih (refVisitAttribute st a)
    rw [h1, h2]
    unfold refVisitAttribute
    simp only
    split <;> simp [attrsPos]

theorem refVisit_hasValue (hv : Bool) (value : Option Pattern) (attrs : List Attribute) :
    (refVisit hv value attrs).hasValue = hv := by
  unfold refVisit
  simp only [(foldl_refVisitAttribute attrs _).1]
  cases value <;> rfl

theorem refVisit_attrPos (hv : Bool) (value : Option Pattern) (attrs : List Attribute) :
    (refVisit hv value attrs).attrPos = attrsPos [] attrs := by
  unfold refVisit
  simp only [(foldl_refVisitAttribute attrs _).2]
  cases value <;> rfl

def valueErrs (refHas : Bool) (v : Option Pattern) : List Msg :=
  (match v with
    | some p => if !refHas then [⟨sevError, p.start, fmt fluentMsg_obsolete_value []⟩] else []
    | none => []) ++
  (if !v.isSome && refHas then [⟨sevError, 0, fmt fluentMsg_missing_value []⟩] else [])

def valueMsgs (kp : Option (List Str)) (rr : Slot → List Str) (v : Option Pattern) : List Msg :=
  match v with
  | some p => (evPattern false p).flatMap (evMsgs kp (rr none))
  | none => []

def missingAttrErrs (refAttrs l10nAttrs : List Str) : List Msg :=
  (refAttrs.filter (fun n => !l10nAttrs.contains n)).map (fun n => ⟨sevError, 0, fmt fluentMsg_missing_attribute [n]⟩)

def obsoleteAttrErrs (refAttrs : List Str) (l10nPos : List (Str × Nat)) : List Msg :=
  (l10nPos.filter (fun p => !refAttrs.contains p.1)).map (fun p => ⟨sevError, p.2, fmt fluentMsg_obsolete_attribute [p.1]⟩)

theorem l10nVisitMessage_messages (kp : Option (List Str)) (ref : RefState) (m : Message) :
    (l10nVisitMessage kp ref m).messages =
      checkDuplicateAttributes m.attributes
      ++ valueMsgs kp (rrOf ref.entryRefs) m.value
      ++ attrsMsgs kp (rrOf ref.entryRefs) ref.css m.attributes
      ++ valueErrs ref.hasValue m.value
      ++ missingAttrErrs (dictKeys ref.attrPos) (dictKeys (attrsPos [] m.attributes))
      ++ obsoleteAttrErrs (dictKeys ref.attrPos) (attrsPos [] m.attributes) := by
  unfold l10nVisitMessage
  cases hv : m.value with
  | none =>
    simp only [l10nInit, Option.isSome_none]
    obtain ⟨h1, h2, h3, _, _⟩ := foldl_l10nVisitAttribute kp m.attributes
      { entryRefs := [(none, [])], hasValue := false, attrPos := [], css := .none, cssErrors := none,
        refEntryRefs := ref.entryRefs, refCss := ref.css, messages := checkDuplicateAttributes m.attributes }
    simp only [h1, h2, h3]
    cases hh : ref.hasValue <;>
      simp [valueMsgs, valueErrs, missingAttrErrs, obsoleteAttrErrs, List.append_assoc]
  | some p =>
    simp only [l10nInit, Option.isSome_some, l10nVisitPattern_eq]
    obtain ⟨h1, h2, h3, _, _⟩ := foldl_l10nVisitAttribute kp m.attributes
      { entryRefs := dictSet [(none, [])] none ((evPattern false p).foldl evRefs (ddGet [(none, [])] none)),
        hasValue := true, attrPos := [], css := .none, cssErrors := none,
        refEntryRefs := dictSet ref.entryRefs none (ddGet ref.entryRefs none), refCss := ref.css,
        messages := checkDuplicateAttributes m.attributes ++ (evPattern false p).flatMap (evMsgs kp (rrOf ref.entryRefs none)) }
    simp only [h1, h2, h3, rrOf_dictSet_self]
    cases hh : ref.hasValue <;>
      simp [valueMsgs, valueErrs, missingAttrErrs, obsoleteAttrErrs, List.append_assoc]

/-- the error yielded by check_style -/
def cssError : Msg := ⟨sevError, 0, fmt checkStyleStr_1 []⟩

/-- `parse_css_spec` result that check_style refuses: no spec found (`None`), or syntax errors collected -/
def cssBadP : Option CssMap × Option (List CssErr) → Bool
  | (none, _) => true
  | (some [], _) => true
  | (some (_ :: _), some (_ :: _)) => true
  | _ => false

/-- the text is not a parseable CSS size spec (as parse_css_spec + check_style see it) -/
def cssBad (t : Str) : Bool := cssBadP (parseCssSpec t)

/-- a `style` attribute whose value is a single text element that is not a parseable CSS spec -/
def badStyle (a : Attribute) : Bool :=
  a.name == sStyle && (match patternVariants a.value with | t :: _ => cssBad t | [] => false)

theorem checkStyle_errs (rm : CssMap) (lm : Option CssMap) (ce : Option (List CssErr)) :
    errsOf (checkStyle rm lm ce).1 = if cssBadP (lm, ce) then [cssError] else [] := by
  unfold checkStyle
  split
  · simp [cssBadP, errsOf, cssError, styleStr_0]
  · simp [cssBadP, errsOf, cssError, styleStr_0]
  · rename_i lm' hne
    cases lm' with
    | nil => exact absurd rfl hne
    | cons p r =>
      cases ce with
      | none =>
        simp only [cssBadP]
        simp only [Bool.false_eq_true, if_false]
        split <;> simp [errsOf, styleStr_9, sevWarning_ne_sevError]
      | some l =>
        cases l with
        | nil =>
          simp only [cssBadP]
          simp only [Bool.false_eq_true, if_false]
          split <;> simp [errsOf, styleStr_9, sevWarning_ne_sevError]
        | cons c cs =>
          simp [cssBadP, errsOf, cssError, styleStr_3, styleStr_4]

theorem cssCheck_errs (rc : CssVal) (a : Attribute) :
    errsOf (cssCheck rc a).1 = if badStyle a then [cssError] else [] := by
  unfold cssCheck badStyle
  by_cases hn : (a.name != sStyle) = true
  · have : (a.name == sStyle) = false := by simpa using hn
    simp [hn, this, errsOf]
  · have hs : (a.name == sStyle) = true := by simpa using hn
    simp only [hn, Bool.false_eq_true, if_false, hs, Bool.true_and]
    cases patternVariants a.value with
    | nil => simp [errsOf]
    | cons t r =>
      simp only [cssBad]
      have heta : ((parseCssSpec t).fst, (parseCssSpec t).snd) = parseCssSpec t := rfl
      cases rc <;> (rw [checkStyle_errs, heta]; rfl)

theorem attrsMsgs_errs (kp : Option (List Str)) (rr : Slot → List Str) (rc : CssVal) (attrs : List Attribute) :
    errsOf (attrsMsgs kp rr rc attrs) = (attrs.filter badStyle).map (fun _ => cssError) := by
  induction attrs generalizing rc with
  | nil => simp [attrsMsgs, errsOf]
  | cons a r ih =>
    simp only [attrsMsgs, errsOf_append, ih, cssCheck_errs]
    rw [errsOf_of_allWarn (allWarn_flatMap _ _ (fun e _ => evMsgs_warn kp _ e))]
    by_cases hb : badStyle a = true <;> simp [hb]

theorem valueMsgs_warn (kp : Option (List Str)) (rr : Slot → List Str) (v : Option Pattern) :
    AllWarn (valueMsgs kp rr v) := by
  unfold valueMsgs
  split
  · exact allWarn_flatMap _ _ (fun e _ => evMsgs_warn kp _ e)
  · exact allWarn_nil

theorem errsOf_of_allErr {l : List Msg} (h : ∀ m ∈ l, m.sev = sevError) : errsOf l = l := by
  simp only [errsOf, List.filter_eq_self]
  intro m hm
  simp [h m hm]

theorem valueErrs_err (rh : Bool) (v : Option Pattern) : errsOf (valueErrs rh v) = valueErrs rh v := by
  apply errsOf_of_allErr
  intro m hm
  unfold valueErrs at hm
  cases v <;> cases rh <;> simp at hm <;> (try subst hm) <;> rfl

theorem missingAttrErrs_err (a b : List Str) : errsOf (missingAttrErrs a b) = missingAttrErrs a b := by
  apply errsOf_of_allErr
  intro m hm
  simp only [missingAttrErrs, List.mem_map] at hm
  obtain ⟨_, _, rfl⟩ := hm
  rfl

theorem obsoleteAttrErrs_err (a : List Str) (b : List (Str × Nat)) : errsOf (obsoleteAttrErrs a b) = obsoleteAttrErrs a b := by
  apply errsOf_of_allErr
  intro m hm
  simp only [obsoleteAttrErrs, List.mem_map] at hm
  obtain ⟨_, _, rfl⟩ := hm
  rfl

theorem missingRefs_warn (rer : List (Slot × RefDict)) (ler : List (Slot × List Str)) : AllWarn (missingRefs rer ler) := by
  unfold missingRefs
  apply allWarn_flatMap
  intro x _ m hm
  simp only [List.mem_map] at hm
  obtain ⟨_, _, rfl⟩ := hm
  rfl

theorem checkMessage_errs (kp : Option (List Str)) (ref : Entry) (m : Message) :
    errsOf (checkMessage kp ref m) =
      (m.attributes.filter badStyle).map (fun _ => cssError)
      ++ valueErrs (refVisitEntry ref).hasValue m.value
      ++ missingAttrErrs (dictKeys (refVisitEntry ref).attrPos) (dictKeys (attrsPos [] m.attributes))
      ++ obsoleteAttrErrs (dictKeys (refVisitEntry ref).attrPos) (attrsPos [] m.attributes) := by
  unfold checkMessage
  simp only [errsOf_append, l10nVisitMessage_messages, attrsMsgs_errs, valueErrs_err, missingAttrErrs_err,
    obsoleteAttrErrs_err, errsOf_of_allWarn (missingRefs_warn _ _),
    errsOf_of_allWarn (checkDuplicateAttributes_warn _), errsOf_of_allWarn (valueMsgs_warn _ _ _)]
  simp

theorem keys_foldl_dictSet {α κ ν : Type} [BEq κ] [LawfulBEq κ] (k : α → κ) (v : List (κ × ν) → α → ν) (xs : List α)
    (d : List (κ × ν)) :
    dictKeys (xs.foldl (fun d x => dictSet d (k x) (v d x)) d) = (xs.map k).foldl setAdd (dictKeys d) := by
  induction xs generalizing d with
  | nil => rfl
  | cons x r ih => rw [List.foldl_cons, ih, dictKeys_dictSet]; rfl

theorem keys_attrsPos (d : List (Str × Nat)) (attrs : List Attribute) :
    dictKeys (attrsPos d attrs) = (attrs.map (·.name)).foldl setAdd (dictKeys d) :=
  keys_foldl_dictSet (fun a : Attribute => a.name) (fun _ a => a.start) attrs d

theorem mem_dictKeys_attrsPos (d : List (Str × Nat)) (attrs : List Attribute) (n : Str) :
    n ∈ dictKeys (attrsPos d attrs) ↔ n ∈ dictKeys d ∨ n ∈ attrs.map (·.name) := by
  rw [keys_attrsPos]; exact AR.mem_foldl_ins _ _ n

theorem nodup_dictKeys_attrsPos (d : List (Str × Nat)) (attrs : List Attribute) (h : (dictKeys d).Nodup) :
    (dictKeys (attrsPos d attrs)).Nodup := by
  rw [keys_attrsPos]; exact AR.foldl_ins_nodup _ _ h

/-- start of the last attribute with the given name -/
def lastStart : List Attribute → Str → Option Nat
  | [], _ => none
  | a :: r, n =>
    match lastStart r n with
    | some s => some s
    | none => if a.name == n then some a.start else none

theorem dictGet?_attrsPos (d : List (Str × Nat)) (attrs : List Attribute) (n : Str) :
    dictGet? (attrsPos d attrs) n = match lastStart attrs n with
      | some s => some s
      | none => dictGet? d n := by
  induction attrs generalizing d with
  | nil => simp [attrsPos, lastStart]
  | cons a r ih =>
    simp only [attrsPos, List.foldl_cons] at ih ⊢
    rw [ih, lastStart, dictGet?_dictSet]
    cases lastStart r n with
    | some s => simp
    | none =>
      simp only
      by_cases h : (a.name == n) = true <;> simp [h]

theorem append_ne_nil {α : Type} (a b : List α) : a ++ b ≠ [] ↔ a ≠ [] ∨ b ≠ [] := by
  cases a <;> simp

theorem map_filter_ne_nil {α β : Type} (l : List α) (p : α → Bool) (f : α → β) :
    (l.filter p).map f ≠ [] ↔ ∃ x ∈ l, p x = true := by
  rw [Txt.ne_nil_iff_exists]
  constructor
  · rintro ⟨y, hy⟩
    obtain ⟨x, hx, _⟩ := List.mem_map.mp hy
    exact ⟨x, (List.mem_filter.mp hx).1, (List.mem_filter.mp hx).2⟩
  · rintro ⟨x, hx, hp⟩
    exact ⟨f x, List.mem_map.mpr ⟨x, List.mem_filter.mpr ⟨hx, hp⟩, rfl⟩⟩

theorem mem_dict_iff {κ ν : Type} [BEq κ] [LawfulBEq κ] (d : List (κ × ν)) (h : (dictKeys d).Nodup) (k : κ) (v : ν) :
    (k, v) ∈ d ↔ dictGet? d k = some v := by
  rw [dictGet?_eq_dget]
  exact (AR.dget_eq_some_iff h).symm

theorem exists_err_iff (l : List Msg) : (∃ m ∈ l, m.sev = sevError) ↔ errsOf l ≠ [] := by
  rw [Txt.ne_nil_iff_exists]
  constructor
  · rintro ⟨m, hm, hs⟩
    exact ⟨m, List.mem_filter.mpr ⟨hm, by simp [hs]⟩⟩
  · rintro ⟨m, hm⟩
    have := List.mem_filter.mp hm
    exact ⟨m, this.1, by simpa using this.2⟩

theorem valueErrs_ne_nil (rh : Bool) (v : Option Pattern) : valueErrs rh v ≠ [] ↔ rh ≠ v.isSome := by
  unfold valueErrs
  cases v <;> cases rh <;> simp

theorem refVisitEntry_message_hasValue (ref : Message) : (refVisitEntry (.message ref)).hasValue = ref.value.isSome := by
  simp [refVisitEntry, refVisit_hasValue]

theorem refVisitEntry_message_attrPos (ref : Message) : (refVisitEntry (.message ref)).attrPos = attrsPos [] ref.attributes := by
  simp [refVisitEntry, refVisit_attrPos]

theorem refVisitEntry_term_hasValue (t : Term) : (refVisitEntry (.term t)).hasValue = false := by
  simp [refVisitEntry, refVisit_hasValue]

theorem refVisitEntry_term_attrPos (t : Term) : (refVisitEntry (.term t)).attrPos = attrsPos [] t.attributes := by
  simp [refVisitEntry, refVisit_attrPos]

theorem mem_keys_attrsPos_nil (attrs : List Attribute) (n : Str) :
    n ∈ dictKeys (attrsPos [] attrs) ↔ n ∈ attrs.map (·.name) := by
  rw [mem_dictKeys_attrsPos]; simp [dictKeys]

theorem nodup_keys_attrsPos_nil (attrs : List Attribute) : (dictKeys (attrsPos [] attrs)).Nodup :=
  nodup_dictKeys_attrsPos [] attrs (by simp [dictKeys])

theorem mem_missingAttrs (refAttrs l10nAttrs : List Attribute) (n : Str) :
    n ∈ (dictKeys (attrsPos [] refAttrs)).filter (fun n => !(dictKeys (attrsPos [] l10nAttrs)).contains n) ↔
      n ∈ refAttrs.map (·.name) ∧ n ∉ l10nAttrs.map (·.name) := by
  simp [List.mem_filter, mem_keys_attrsPos_nil]

/-- The errors are the four summands of `checkMessage_errs` (bad styles, value presence, missing and obsolete
    attributes); each disjunct says when one summand is non-empty.  `refHas`, `refAttrs`: what the reference visitor
    recorded, so that messages and terms as reference share the statement. -/
theorem checkMessage_hasErr_iff (kp : Option (List Str)) (refE : Entry) (refHas : Bool) (refAttrs : List Attribute)
    (hH : (refVisitEntry refE).hasValue = refHas) (hP : (refVisitEntry refE).attrPos = attrsPos [] refAttrs)
    (l10n : Message) :
    (∃ m ∈ checkMessage kp refE l10n, m.sev = sevError) ↔
      (refHas ≠ l10n.value.isSome
        ∨ (∃ n ∈ refAttrs.map (·.name), n ∉ l10n.attributes.map (·.name))
        ∨ (∃ n ∈ l10n.attributes.map (·.name), n ∉ refAttrs.map (·.name))
        ∨ ∃ a ∈ l10n.attributes, badStyle a = true) := by
  rw [exists_err_iff, checkMessage_errs, hH, hP]
  rw [append_ne_nil, append_ne_nil, append_ne_nil]
  have hA : (l10n.attributes.filter badStyle).map (fun _ => cssError) ≠ [] ↔ ∃ a ∈ l10n.attributes, badStyle a = true :=
    map_filter_ne_nil _ _ _
  have hB := valueErrs_ne_nil refHas l10n.value
  have hC : missingAttrErrs (dictKeys (attrsPos [] refAttrs)) (dictKeys (attrsPos [] l10n.attributes)) ≠ [] ↔
      ∃ n ∈ refAttrs.map (·.name), n ∉ l10n.attributes.map (·.name) := by
    unfold missingAttrErrs
    rw [Ne, List.map_eq_nil_iff, ← Ne, Txt.ne_nil_iff_exists]
    exact exists_congr fun n => mem_missingAttrs refAttrs l10n.attributes n
  have hD : obsoleteAttrErrs (dictKeys (attrsPos [] refAttrs)) (attrsPos [] l10n.attributes) ≠ [] ↔
      ∃ n ∈ l10n.attributes.map (·.name), n ∉ refAttrs.map (·.name) := by
    unfold obsoleteAttrErrs
    rw [map_filter_ne_nil]
    constructor
    · rintro ⟨p, hp, hc⟩
      have hk : p.1 ∈ dictKeys (attrsPos [] l10n.attributes) := List.mem_map.mpr ⟨p, hp, rfl⟩
      refine ⟨p.1, (mem_keys_attrsPos_nil _ _).mp hk, ?_⟩
      intro hmem
      have := (mem_keys_attrsPos_nil refAttrs p.1).mpr hmem
      simp [this] at hc
    · rintro ⟨n, hn, hc⟩
      have hk := (mem_keys_attrsPos_nil l10n.attributes n).mpr hn
      obtain ⟨p, hp, rfl⟩ := List.mem_map.mp hk
      refine ⟨p, hp, ?_⟩
      have : p.1 ∉ dictKeys (attrsPos [] refAttrs) := fun h => hc ((mem_keys_attrsPos_nil _ _).mp h)
      simp [this]
  rw [hA, hB, hC, hD]
  constructor
  · rintro (((h | h) | h) | h)
    · exact Or.inr (Or.inr (Or.inr h))
    · exact Or.inl h
    · exact Or.inr (Or.inl h)
    · exact Or.inr (Or.inr (Or.inl h))
  · rintro (h | h | h | h)
    · exact Or.inl (Or.inl (Or.inr h))
    · exact Or.inl (Or.inr h)
    · exact Or.inr h
    · exact Or.inl (Or.inl (Or.inl h))

/-- a visitor message as yielded by `check` for an entry starting at `start` -/
def toOut (start : Nat) (m : Msg) : Out :=
  ⟨m.sev, if m.pos != 0 then (m.pos : Int) - (start : Int) else 0, m.text, catFluent⟩

theorem finish_eq (start : Nat) (msgs : List Msg) :
    finish start msgs = (sortBy (fun a b => decide (a.pos ≤ b.pos)) msgs).map (toOut start) := rfl

theorem finish_perm (start : Nat) (msgs : List Msg) : (finish start msgs).Perm (msgs.map (toOut start)) := by
  rw [finish_eq]
  exact (sortBy_perm _ msgs).map _

theorem checkEncoding_warn (key all : Str) : ∀ o ∈ checkEncoding key all, o.sev = sevWarning := by
  intro o ho
  simp only [checkEncoding, List.mem_map] at ho
  obtain ⟨_, _, rfl⟩ := ho
  show fmt baseCheckStr_0 [] = sevWarning
  decide

/-- the visitor messages that `check` sorts -/
def entryMsgs (kp : Option (List Str)) (ref l10n : Entry) : List Msg :=
  match l10n with
  | .message m => checkMessage kp ref m
  | .term t => checkTerm kp t

theorem checkWith_eq (kp : Option (List Str)) (key all : Str) (ref l10n : Entry) :
    checkWith kp key all ref l10n = checkEncoding key all ++ finish l10n.start (entryMsgs kp ref l10n) := by
  cases l10n <;> rfl

theorem checkWith_hasError_iff (kp : Option (List Str)) (key all : Str) (ref l10n : Entry) :
    (∃ o ∈ checkWith kp key all ref l10n, o.sev = sevError) ↔ ∃ m ∈ entryMsgs kp ref l10n, m.sev = sevError := by
  rw [checkWith_eq]
  constructor
  · rintro ⟨o, ho, hs⟩
    rcases List.mem_append.mp ho with h | h
    · have := checkEncoding_warn key all o h
      rw [this] at hs
      exact absurd hs sevWarning_ne_sevError
    · obtain ⟨m, hm, rfl⟩ := List.mem_map.mp ((finish_perm _ _).mem_iff.mp h)
      exact ⟨m, hm, hs⟩
  · rintro ⟨m, hm, hs⟩
    exact ⟨toOut l10n.start m, List.mem_append.mpr (Or.inr ((finish_perm _ _).mem_iff.mpr (List.mem_map.mpr ⟨m, hm, rfl⟩))), hs⟩

theorem pluralIndex_valid_all :
    categoriesByLocale.all (fun e => decide (e.2 < categoriesByIndex.length)) = true := by
  decide +kernel

theorem pluralIndex_valid : ∀ e ∈ categoriesByLocale, e.2 < categoriesByIndex.length := by
  intro e he
  have := List.all_eq_true.mp pluralIndex_valid_all e he
  simpa using this

theorem getPlural_ok (locale : Option Str) : ∃ kp, getPlural locale = .ok kp := by
  unfold getPlural
  cases h : getPluralRule locale with
  | none => exact ⟨none, rfl⟩
  | some i =>
    have hi : i < categoriesByIndex.length := by
      unfold getPluralRule at h
      split at h
      · cases h
      · split at h
        · rename_i l j hj
          cases h
          exact pluralIndex_valid _ (AR.mem_of_dget ((dictGet?_eq_dget _ _).symm.trans hj))
        · exact pluralIndex_valid _ (AR.mem_of_dget ((dictGet?_eq_dget _ _).symm.trans h))
    simp only
    rw [List.getElem?_eq_getElem hi]
    exact ⟨_, rfl⟩

theorem check_ok (locale : Option Str) (key all : Str) (ref l10n : Entry) :
    ∃ kp, getPlural locale = .ok kp ∧ check locale key all ref l10n = .ok (checkWith kp key all ref l10n) := by
  obtain ⟨kp, h⟩ := getPlural_ok locale
  exact ⟨kp, h, by simp [check, h]⟩

end Ftl
