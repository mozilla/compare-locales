/- C02, .inc (DefinesParser): `# ` comment blocks (attached / stand-alone), instructions — in particular
   `#filter emptyLines` / `#unfilter emptyLines`, whose state decides whether blank lines are white-space —, blank lines,
   and inert garbage lines (garbage locality): the state machine of `DefinesParser.getNext`. -/
import CLModel.Proofs.C02PGen
import CLModel.Proofs.C02PLine
import CLModel.Proofs.C02IncRec
namespace C02P
open Rx P Gen.Pat C02X

def ncBody : Re := Re.seq (Re.lit 35) (Re.seq (Re.lit 32) (Re.seq (Re.rep 0 none false (Re.any false)) (Re.lit 10)))
def ncLast : Re := Re.seq (Re.lit 35) (Re.seq (Re.lit 32) (Re.rep 0 none true (Re.notLit 10)))

theorem incComment_eq : DefinesParser_reComment =
    Re.seq (Re.rep 0 none true (Re.seq (Re.bol true) ncBody)) (Re.seq (Re.bol true) ncLast) := rfl

def NotNC (l : List Nat) : Prop := ∀ t, l ≠ 35 :: 32 :: t

theorem notNC_nl (l : List Nat) : NotNC (10 :: l) := by
  intro t ht; simp at ht

theorem notNC_nil : NotNC [] := by intro t ht; cases ht

/-- the comment lines as `CLine`s: marker `#`, text = blank + the comment text -/
def ncLines (ts : List (List Nat)) : List CLine := ts.map (fun t => (35, 32 :: t))

def NCLine (l : CLine) : Prop := ∃ t, l = (35, 32 :: t) ∧ ∀ x ∈ t, x ≠ 10

theorem ncLines_good {ts : List (List Nat)} (hg : ∀ x ∈ ts, ∀ c ∈ x, c ≠ 10) : ∀ l ∈ ncLines ts, NCLine l := by
  intro l hl
  obtain ⟨t, ht, rfl⟩ := List.mem_map.mp hl
  exact ⟨t, rfl, hg t ht⟩

theorem ncLineRx (s : Array Nat) : LineRx s ncBody ncLast NCLine (fun _ => True) NotNC where
  line := by
    rintro p _ rest k ⟨t, rfl, ht⟩ _ h
    have h2 : At s (p + 1 + 1) (t ++ 10 :: rest) := h.tail.tail
    rw [ncBody, m_seq_def, lit_at h, m_seq_def, lit_at h.tail, line_nl (m_any_charStep s false) (fun _ => Bool.false_or _) false [] k h2 ht]
    show k ⟨p + 1 + 1 + t.length + 1, []⟩ = k ⟨p + (t.length + 1) + 2, []⟩
    rw [show p + 1 + 1 + t.length + 1 = p + (t.length + 1) + 2 by omega]
  eof := by
    rintro p _ k ⟨t, rfl, ht⟩ h
    have := h.tail.pos_lt (by simp)
    rw [ncBody, m_seq_def, lit_at h, m_seq_def, lit_at h.tail]
    exact line_eof (m_any_charStep s false) (fun _ => Bool.false_or _) false [] k h.tail.tail (by omega) ht
  last := by
    rintro p _ rest ⟨t, rfl, ht⟩ _ h hr
    have := h.tail.pos_lt (by simp)
    have h2 : At s (p + 1 + 1) (t ++ rest) := h.tail.tail
    rw [ncLast, m_seq_def, lit_at h, m_seq_def, lit_at h.tail, restOfLine_last h2 (by omega) ht hr]
    show some (⟨p + 1 + 1 + t.length, []⟩ : St) = some ⟨p + (t.length + 1) + 1, []⟩
    rw [show p + 1 + 1 + t.length = p + (t.length + 1) + 1 by omega]
  stopB := fun _ _ k hr h => lit2_fail 35 32 h hr _ [] k
  stopL := fun _ _ k hr h => lit2_fail 35 32 h hr _ [] k
  next := fun _ _ _ => trivial

theorem inc_comment_at (s : Array Nat) (p : Nat) (ts : List (List Nat)) (rest : List Nat) (hne : ts ≠ [])
    (hls : LineStart s p) (hg : ∀ x ∈ ts, ∀ c ∈ x, c ≠ 10) (hr : After NotNC rest)
    (h : At s p (printCLines (ncLines ts) ++ rest)) :
    matchAt s DefinesParser_reComment p = some ⟨p + (printCLines (ncLines ts)).length, []⟩ := by
  rw [incComment_eq]
  exact (ncLineRx s).bol.comment_at p _ rest (by simpa [ncLines] using hne) hls (ncLines_good hg) hr h

theorem inc_comment_none_at (s : Array Nat) (p : Nat) (l : List Nat) (hl : NotNC l) (h : At s p l) :
    matchAt s DefinesParser_reComment p = none := by
  rw [incComment_eq]; exact (ncLineRx s).bol.comment_none p l hl h

theorem inc_comment_none_mid (s : Array Nat) (p : Nat) (h : ¬ LineStart s p) : matchAt s DefinesParser_reComment p = none := by
  rw [incComment_eq]; exact matchAt_bol_mid s _ _ p h

structure NGap (gap : List Nat) : Prop where
  ne : gap ≠ []
  nl : ∀ c ∈ gap, c = 10

theorem ngap_cons {gap : List Nat} (h : NGap gap) : ∃ w, gap = 10 :: w ∧ ∀ c ∈ w, c = 10 := by
  cases hg : gap with
  | nil => exact absurd hg h.ne
  | cons a t =>
    have := h.nl a (by simp [hg]); subst this
    exact ⟨t, rfl, fun c hc => h.nl c (by simp [hg, hc])⟩

theorem ngap_last {gap : List Nat} (h : NGap gap) : gap.getLast? = some 10 := by
  cases hl : gap.getLast? with
  | none => rw [List.getLast?_eq_none_iff] at hl; exact absurd hl h.ne
  | some c => rw [h.nl c (List.mem_of_getLast? hl)]

theorem nws_at {s : Array Nat} {p : Nat} {w rest : List Nat} (hw : NGap w) (hr : rest.head? ≠ some 10)
    (h : At s p (w ++ rest)) : matchAt s DefinesParser_reWhitespace p = some ⟨p + w.length, []⟩ := by
  have hp : p < s.size := h.pos_lt (by simp [hw.ne])
  simp only [matchAt, DefinesParser_reWhitespace, m_rep_def, m_lit_charStep]
  exact greedy_at _ [] some _ 1 h (fun c hc => by simp [hw.nl c hc]) (fun c hc => by
      have : c ≠ 10 := by intro h10; subst h10; exact hr hc
      simp [this])
    (by have := List.length_pos_iff.mpr hw.ne; omega) (by omega) rfl

theorem nws_none_at (s : Array Nat) (p : Nat) (l : List Nat) (hl : l.head? ≠ some 10) (h : At s p l) :
    matchAt s DefinesParser_reWhitespace p = none := by
  simp only [matchAt, DefinesParser_reWhitespace, m_rep_def, m_lit_charStep]
  exact loop_at_short _ true [] some _ 1 h (fun c hc => by
    have : c ≠ 10 := by intro h10; subst h10; exact hl hc
    simp [this]) (by omega)

theorem incPI_eq : DefinesParser_rePI = Re.seq (Re.lit 35) (Re.group 1 (Re.seq (Re.rep 1 none true (Re.cls false [.word]))
    (Re.seq (Re.rep 1 none true (Re.cls false [.ch 32, .ch 9])) (Re.rep 1 none true (Re.notLit 10))))) := rfl

/-- `#word␣␣arg` -/
def instrText (word : List Nat) (nb : Nat) (arg : List Nat) : List Nat := 35 :: (word ++ (List.replicate nb 32 ++ arg))

structure InstrGood (word : List Nat) (nb : Nat) (arg : List Nat) : Prop where
  word_ne : word ≠ []
  word_ok : ∀ c ∈ word, asciiWord c = true
  /-- not `#define …` (the key regex is tried first) -/
  word_head : word.head? ≠ some 100
  nb : 0 < nb
  arg_ne : arg ≠ []
  arg_ok : ∀ c ∈ arg, c ≠ 10
  arg_head : ∀ c, arg.head? = some c → isBlank c = false

theorem inc_pi_at (s : Array Nat) (p : Nat) (word : List Nat) (nb : Nat) (arg rest : List Nat) (hg : InstrGood word nb arg)
    (hr : ∀ c, rest.head? = some c → c = 10) (h : At s p (instrText word nb arg ++ rest)) :
    matchAt s DefinesParser_rePI p =
      some ⟨p + (instrText word nb arg).length, [(1, p + 1, p + (instrText word nb arg).length)]⟩ := by
  have h0 : At s p (35 :: (word ++ (List.replicate nb 32 ++ (arg ++ rest)))) := by simpa [At, instrText] using h
  have h1 := h0.tail
  have h2 := h1.app
  have h3 := h2.app
  have hp := h3.pos_lt (by simp [hg.arg_ne])
  simp only [List.length_replicate] at h3 hp
  have hnb := hg.nb
  have hwl : 0 < word.length := List.length_pos_iff.mpr hg.word_ne
  have hal : 0 < arg.length := List.length_pos_iff.mpr hg.arg_ne
  rw [incPI_eq]
  simp only [matchAt, m_seq_def, m_group_def, m_rep_def, m_cls_charStep, m_notLit_charStep]
  rw [lit_at h0]
  apply greedy_at _ _ _ _ 1 h1 (fun c hc => by rw [inC_word]; exact isWord_of_ascii c (hg.word_ok c hc))
    (by
      intro c hc
      cases nb with
      | zero => omega
      | succ n => simp [List.replicate_succ] at hc; subst hc; rw [inC_word]; exact isWord_32)
    (by omega) (by omega)
  apply greedy_at _ _ _ _ 1 h2 (by intro c hc; simp at hc; rw [hc.2]; decide)
    (by
      intro c hc
      rw [head?_app_ne hg.arg_ne] at hc
      rw [inC_blank]; exact hg.arg_head c hc)
    (by simp; omega) (by omega)
  simp only [List.length_replicate]
  apply greedy_at _ _ _ _ 1 h3 (fun c hc => by simp [hg.arg_ok c hc]) (by intro c hc; simp [hr c hc]) (by omega) (by omega)
  simp [instrText]
  omega

theorem inc_key_none (s : Array Nat) (p : Nat) (l : List Nat) (h : At s p l) (hl : ∀ t, l ≠ 35 :: 100 :: t) :
    matchAt s DefinesParser_reKey p = none := lit2_fail 35 100 h hl _ [] _

theorem inc_pi_none (s : Array Nat) (p : Nat) (l : List Nat) (h : At s p l) (hl : l.head? ≠ some 35) :
    matchAt s DefinesParser_rePI p = none := by
  rw [incPI_eq, matchAt, m_seq_def]
  exact lit_at_fail h hl [] _

def incJunkExps : List Re := [DefinesParser_reComment, DefinesParser_reKey, DefinesParser_rePI]

theorem inc_none_of_head {s : Array Nat} {q : Nat} {l : List Nat} (h : At s q l) (hl : l.head? ≠ some 35) :
    ∀ r ∈ incJunkExps, matchAt s r q = none := by
  have h2 : ∀ d t, l ≠ 35 :: d :: t := fun d t ht => hl (by rw [ht]; rfl)
  intro r hr
  simp only [incJunkExps, List.mem_cons, List.not_mem_nil, or_false] at hr
  rcases hr with rfl | rfl | rfl
  · exact inc_comment_none_at s q l (h2 32) h
  · exact inc_key_none s q l h (h2 100)
  · exact inc_pi_none s q l h hl

theorem inc_ws_n (s : Array Nat) (fel : Bool) (p : Nat) (w rest : List Nat) (hw : NGap w) (hr : rest.head? ≠ some 10)
    (hp : p ≠ 0) (hfel : w.length = 1 ∨ fel = true) (h : At s p (w ++ rest)) :
    definesGetNext s fel p = (wsEntryN p w.length, fel) := by
  obtain ⟨w', hw', _⟩ := ngap_cons hw
  have hcm := inc_comment_none_at s p _ (by rw [hw']; exact notNC_nl _) h
  have ht : (w.length == 1 || fel) = true := by
    rcases hfel with h1 | h1
    · simp [h1]
    · simp [h1]
  unfold definesGetNext
  simp [hcm, nws_at hw hr h, hp, ht, wsEntryN]

theorem definesGetNext_plain {s : Array Nat} {fel : Bool} {off : Nat} {km : St}
    (hcm : matchAt s DefinesParser_reComment off = none) (hws : matchAt s DefinesParser_reWhitespace off = none)
    (hkm : matchAt s DefinesParser_reKey off = some km) :
    definesGetNext s fel off =
      ({ kind := .entity, full := off, s := off, e := km.pos,
         ks := (spanI km DefinesParser_reKey_g_key).1, ke := (spanI km DefinesParser_reKey_g_key).2,
         vs := (spanI km DefinesParser_reKey_g_val).1, ve := (spanI km DefinesParser_reKey_g_val).2, pc := none }, fel) := by
  unfold definesGetNext
  simp [hcm, hws, hkm]

theorem definesGetNext_commented {s : Array Nat} {fel : Bool} {off cl : Nat} {rest : List Nat} {stc km : St}
    (hcm : matchAt s DefinesParser_reComment off = some stc) (hpos : stc.pos = off + cl) (hcl : 0 < cl)
    (h : At s (off + cl) (10 :: rest)) (hr : rest.head? ≠ some 10)
    (hkm : matchAt s DefinesParser_reKey (off + cl + 1) = some km) :
    definesGetNext s fel off =
      ({ kind := .entity, full := off, s := off + cl + 1, e := km.pos,
         ks := (spanI km DefinesParser_reKey_g_key).1, ke := (spanI km DefinesParser_reKey_g_key).2,
         vs := (spanI km DefinesParser_reKey_g_val).1, ve := (spanI km DefinesParser_reKey_g_val).2,
         pc := some (off, off + cl) }, fel) := by
  have hws := nws_at (w := [10]) ⟨by simp, by simp⟩ hr h
  have hcnt : countNl s (off + cl) (off + cl + 1) = 1 := countNl_at (w := [10]) h
  have hoff : (off + cl == 0) = false := by rw [beq_eq_false_iff_ne]; omega
  unfold definesGetNext
  simp [hcm, hpos, hws, hoff, hcnt, hkm]

theorem definesGetNext_free_comment {s : Array Nat} {fel : Bool} {off cl : Nat} {gap rest : List Nat} {stc : St}
    (hcm : matchAt s DefinesParser_reComment off = some stc) (hpos : stc.pos = off + cl)
    (h : At s (off + cl) (gap ++ rest)) (hgap : NGap gap) (h2 : 2 ≤ gap.length) (hr : rest.head? ≠ some 10) :
    definesGetNext s fel off = (commentEntry off (off + cl), fel) := by
  have hcnt : countNl s (off + cl) (off + cl + gap.length) > 1 := by
    rw [countNl_at h, List.filter_eq_self.mpr (fun c hc => by simp [hgap.nl c hc])]; omega
  unfold definesGetNext
  simp [hcm, hpos, nws_at hgap hr h, hcnt, commentEntry]

theorem definesGetNext_instr {s : Array Nat} {fel : Bool} {off e a b : Nat}
    (hcm : matchAt s DefinesParser_reComment off = none) (hws : matchAt s DefinesParser_reWhitespace off = none)
    (hkm : matchAt s DefinesParser_reKey off = none) (hpi : matchAt s DefinesParser_rePI off = some ⟨e, [(1, a, b)]⟩) :
    definesGetNext s fel off =
      ({ kind := .instruction, full := off, s := off, e := e, ks := (a : Nat), ke := (b : Nat), vs := (a : Nat), ve := (b : Nat) },
        if slice s a b == filterEmptyLines then true else if slice s a b == unfilterEmptyLines then false else fel) := by
  unfold definesGetNext
  simp only [hcm, hws, hkm, hpi]
  simp [spanI, St.group, capOf, DefinesParser_rePI_g_val]

theorem definesGetNext_junk {s : Array Nat} {fel : Bool} {off : Nat} (hno : ∀ r ∈ incJunkExps, matchAt s r off = none)
    (hws : matchAt s DefinesParser_reWhitespace off = none) :
    definesGetNext s fel off = (getJunk s off incJunkExps, fel) := by
  unfold definesGetNext
  simp only [hno _ (List.mem_cons_self ..), hno _ (List.mem_cons_of_mem _ (List.mem_cons_self ..)),
    hno DefinesParser_rePI (by simp [incJunkExps]), hws]
  rfl

/-- `#define KEY[ value]` without its newline -/
def defText (r : IRec) : List Nat := defPrefix ++ (r.1 ++ (if r.2.isEmpty then [] else 32 :: r.2))

/-- a comment block in front of a `#define`, with the newline that ends it -/
def ncPre (ts : List (List Nat)) : List Nat := if ts.isEmpty then [] else printCLines (ncLines ts) ++ [10]

inductive NBlock
  | define (cm : List (List Nat)) (r : IRec) (gap : List Nat)
  | free (ts : List (List Nat)) (gap : List Nat)
  | instr (word : List Nat) (nb : Nat) (arg : List Nat) (gap : List Nat)

def NBlock.print : NBlock → List Nat
  | .define cm r gap => ncPre cm ++ (defText r ++ gap)
  | .free ts gap => printCLines (ncLines ts) ++ gap
  | .instr word nb arg gap => instrText word nb arg ++ gap

/-- `ctx.filter_empty_lines` after the block -/
def NBlock.tr (c : Bool) : NBlock → Bool
  | .instr word nb arg _ =>
    if word ++ (List.replicate nb 32 ++ arg) == filterEmptyLines then true
    else if word ++ (List.replicate nb 32 ++ arg) == unfilterEmptyLines then false else c
  | _ => c

def NBlock.Good' (c : Bool) : NBlock → Prop
  | .define cm r gap => (∀ t ∈ cm, ∀ x ∈ t, isLineBreak x = false) ∧ SafeIncRec r ∧ NGap gap ∧ (gap.length = 1 ∨ c = true)
  | .free ts gap => ts ≠ [] ∧ (∀ t ∈ ts, ∀ x ∈ t, x ≠ 10) ∧ NGap gap ∧ 2 ≤ gap.length ∧ c = true
  | .instr word nb arg gap => InstrGood word nb arg ∧ NGap gap ∧
      (gap.length = 1 ∨ NBlock.tr c (.instr word nb arg gap) = true)

def incEntityC (off pl klen vlen : Nat) (hasC : Bool) : Entry :=
  { incEntity (off + pl) klen vlen with full := off, pc := if hasC then some (off, off + pl - 1) else none }

def incInstrEntry (off len : Nat) : Entry :=
  { kind := .instruction, full := off, s := off, e := off + len, ks := (off + 1 : Nat), ke := (off + len : Nat),
    vs := (off + 1 : Nat), ve := (off + len : Nat) }

def NBlock.entries (off : Nat) : NBlock → List Entry
  | .define cm r gap =>
    [incEntityC off (ncPre cm).length r.1.length r.2.length (!cm.isEmpty),
     wsEntryN (off + (ncPre cm).length + (defText r).length) gap.length]
  | .free ts gap =>
    [commentEntry off (off + (printCLines (ncLines ts)).length), wsEntryN (off + (printCLines (ncLines ts)).length) gap.length]
  | .instr word nb arg gap =>
    [incInstrEntry off (instrText word nb arg).length, wsEntryN (off + (instrText word nb arg).length) gap.length]

theorem defText_length (r : IRec) : (defText r).length = incLen r.1.length r.2.length := by
  rw [defText, incLen, List.length_append, List.length_append]
  cases r.2 with
  | nil => rfl
  | cons a t => exact (Nat.add_assoc ..).symm.trans (congrArg _ (Nat.add_comm ..))

theorem incEntityC_plain (off klen vlen : Nat) : incEntityC off 0 klen vlen false = incEntity off klen vlen := by
  unfold incEntityC incEntity
  split
  · rfl
  · rfl

theorem incEntityC_e (off pl klen vlen : Nat) (hasC : Bool) :
    (incEntityC off pl klen vlen hasC).e = off + pl + incLen klen vlen := incEntity_e _ _ _

theorem defText_nl (r : IRec) (l : List Nat) : defText r ++ 10 :: l = printIncRec r ++ l := by
  simp [defText, printIncRec]

theorem def_at_rec {s : Array Nat} {p : Nat} {r : IRec} {gap rest : List Nat} (hgap : NGap gap)
    (h : At s p (defText r ++ (gap ++ rest))) : At s p (printIncRec r ++ (gap.tail ++ rest)) := by
  obtain ⟨w, rfl, _⟩ := ngap_cons hgap
  rw [List.cons_append, defText_nl] at h
  exact h

theorem notNC_def (l : List Nat) : NotNC (defPrefix ++ l) := by
  intro t ht; simp [defPrefix] at ht

theorem after_def (r : IRec) (l : List Nat) : After NotNC (10 :: (defText r ++ l)) :=
  After.cons (by
    have := notNC_def (r.1 ++ (if r.2.isEmpty then [] else 32 :: r.2) ++ l)
    simpa [defText] using this)

theorem after_ngap {gap : List Nat} (hgap : NGap gap) (h2 : 2 ≤ gap.length) (rest : List Nat) : After NotNC (gap ++ rest) := by
  obtain ⟨w, rfl, hwn⟩ := ngap_cons hgap
  cases w with
  | nil => simp at h2
  | cons a t =>
    rw [hwn a (by simp)]
    exact After.cons (r := 10 :: t ++ rest) (notNC_nl _)

theorem ncPre_cons (t : List Nat) (ts : List (List Nat)) : ncPre (t :: ts) = printCLines (ncLines (t :: ts)) ++ [10] := rfl

theorem defText_head (r : IRec) (l : List Nat) : (defText r ++ l).head? = some 35 := rfl

theorem inc_key_entity {s : Array Nat} {p : Nat} {r : IRec} {rest : List Nat} (hs : SafeIncRec r)
    (h : At s p (printIncRec r ++ rest)) (full : Nat) (pc : Option (Nat × Nat)) :
    ∃ km, matchAt s DefinesParser_reKey p = some km ∧
      ({ kind := .entity, full := full, s := p, e := km.pos,
         ks := (spanI km DefinesParser_reKey_g_key).1, ke := (spanI km DefinesParser_reKey_g_key).2,
         vs := (spanI km DefinesParser_reKey_g_val).1, ve := (spanI km DefinesParser_reKey_g_val).2, pc := pc } : Entry) =
        { incEntity p r.1.length r.2.length with full := full, pc := pc } := by
  refine ⟨_, inc_key_at s p r rest hs h, ?_⟩
  unfold incEntity
  by_cases hv : r.2.length = 0
  · rw [if_pos hv, if_pos hv]; rfl
  · rw [if_neg hv, if_neg hv]; rfl

theorem inc_define_at (s : Array Nat) (fel : Bool) (off : Nat) (cm : List (List Nat)) (r : IRec) (gap rest : List Nat)
    (hcm : ∀ t ∈ cm, ∀ x ∈ t, x ≠ 10) (hs : SafeIncRec r) (hgap : NGap gap) (hls : LineStart s off)
    (h : At s off (ncPre cm ++ (defText r ++ (gap ++ rest)))) :
    definesGetNext s fel off = (incEntityC off (ncPre cm).length r.1.length r.2.length (!cm.isEmpty), fel) := by
  cases cm with
  | nil =>
    have h' : At s off (defText r ++ (gap ++ rest)) := h
    obtain ⟨km, hkm, hent⟩ := inc_key_entity hs (def_at_rec hgap h') off none
    rw [definesGetNext_plain
      (inc_comment_none_at s off _ (by
        have := notNC_def (r.1 ++ (if r.2.isEmpty then [] else 32 :: r.2) ++ (gap ++ rest))
        simpa [defText] using this) h')
      (nws_none_at s off _ (by rw [defText_head]; decide) h') hkm, hent]
    rfl
  | cons t ts =>
    rw [ncPre_cons, List.append_assoc] at h
    obtain ⟨km, hkm, hent⟩ := inc_key_entity hs
      (def_at_rec (p := off + (printCLines (ncLines (t :: ts))).length + 1) hgap h.app.app) off
      (some (off, off + (printCLines (ncLines (t :: ts))).length))
    rw [definesGetNext_commented (inc_comment_at s off _ _ (List.cons_ne_nil t ts) hls hcm (after_def r _) h) rfl
      (printCLines_pos (by simp [ncLines])) (rest := defText r ++ (gap ++ rest)) h.app (by rw [defText_head]; decide) hkm,
      hent, ncPre_cons, List.length_append]
    rfl

theorem inc_free_comment (s : Array Nat) (fel : Bool) (off : Nat) (ts : List (List Nat)) (gap rest : List Nat)
    (hne : ts ≠ []) (hts : ∀ t ∈ ts, ∀ x ∈ t, x ≠ 10) (hgap : NGap gap) (h2 : 2 ≤ gap.length) (hls : LineStart s off)
    (hr : rest.head? ≠ some 10) (h : At s off (printCLines (ncLines ts) ++ (gap ++ rest))) :
    definesGetNext s fel off = (commentEntry off (off + (printCLines (ncLines ts)).length), fel) :=
  definesGetNext_free_comment (inc_comment_at s off ts _ hne hls hts (after_ngap hgap h2 rest) h) rfl h.app hgap h2 hr

theorem instr_head_ne {word : List Nat} (hne : word ≠ []) {d : Nat} (hd : word.head? ≠ some d) (l : List Nat) :
    ∀ t, 35 :: (word ++ l) ≠ 35 :: d :: t := by
  intro t ht
  have := congrArg List.head? (List.cons.inj ht).2
  rw [head?_app_ne hne] at this
  exact hd this

theorem inc_instr_at (s : Array Nat) (fel : Bool) (off : Nat) (word : List Nat) (nb : Nat) (arg gap rest : List Nat)
    (hg : InstrGood word nb arg) (hgap : NGap gap) (h : At s off (instrText word nb arg ++ (gap ++ rest))) :
    definesGetNext s fel off =
      (incInstrEntry off (instrText word nb arg).length, NBlock.tr fel (.instr word nb arg gap)) := by
  obtain ⟨w, hw, _⟩ := ngap_cons hgap
  have h0 : At s off (35 :: (word ++ ((List.replicate nb 32 ++ arg) ++ (gap ++ rest)))) := by
    rw [instrText, List.cons_append, List.append_assoc] at h; exact h
  have h32 : word.head? ≠ some 32 := by
    intro hh
    obtain ⟨t, rfl⟩ := List.head?_eq_some_iff.mp hh
    exact absurd (hg.word_ok 32 (by simp)) (by decide)
  have hsl : slice s (off + 1) (off + (instrText word nb arg).length) = word ++ (List.replicate nb 32 ++ arg) := by
    have hlen : off + 1 + (word ++ (List.replicate nb 32 ++ arg)).length = off + (instrText word nb arg).length := by
      rw [instrText, List.length_cons]; omega
    exact hlen ▸ (h.tail (c := 35) (l := word ++ (List.replicate nb 32 ++ arg) ++ (gap ++ rest))).slice
  rw [definesGetNext_instr (inc_comment_none_at s off _ (instr_head_ne hg.word_ne h32 _) h0) (nws_none_at s off _ (by simp) h0)
    (inc_key_none s off _ h0 (instr_head_ne hg.word_ne hg.word_head _))
    (inc_pi_at s off word nb arg (gap ++ rest) hg (by rw [hw]; simp) h), hsl]
  rfl

abbrev incNext (s : Array Nat) : Bool → Nat → Entry × Bool := fun fel off => definesGetNext s fel off

def NFollow (rest : List Nat) : Prop := rest.head? ≠ some 10

theorem ncLines_head (t : List Nat) (ts : List (List Nat)) (x : List Nat) :
    (printCLines (ncLines (t :: ts)) ++ x).head? = some 35 := by
  simp only [ncLines, List.map_cons]
  exact printCLines_head _ _ _

theorem nblock_head (b : NBlock) (c : Bool) (hg : b.Good' c) (l : List Nat) : (b.print ++ l).head? = some 35 := by
  cases b with
  | define cm r gap =>
    simp only [NBlock.print, ncPre]
    cases cm with
    | nil => rfl
    | cons t ts => simp only [List.isEmpty_cons, Bool.false_eq_true, if_false, List.append_assoc]; exact ncLines_head t ts _
  | free ts gap =>
    simp only [NBlock.print]
    cases ts with
    | nil => exact absurd rfl hg.1
    | cons t ts => rw [List.append_assoc]; exact ncLines_head t ts _
  | instr word nb arg gap => rfl

theorem nfollow_block (b : NBlock) (c : Bool) (hg : b.Good' c) (l : List Nat) : NFollow (b.print ++ l) := by
  unfold NFollow; rw [nblock_head b c hg l]; decide

theorem inc_walks_entry_gap {s : Array Nat} {c c' : Bool} {off : Nat} {e : Entry} {pre x gap rest : List Nat}
    (h : At s off (pre ++ (x ++ gap) ++ rest)) (hx : 0 < x.length) (hgap : NGap gap) (hfo : NFollow rest)
    (hfel : gap.length = 1 ∨ c' = true) (he : e.e = off + pre.length + x.length)
    (hn : At s off (pre ++ (x ++ (gap ++ rest))) → definesGetNext s c off = (e, c')) :
    Walks (incNext s) s.size c off [e, wsEntryN (off + pre.length + x.length) gap.length] c' (off + (pre ++ (x ++ gap)).length) ∧
      LineStart s (off + (pre ++ (x ++ gap)).length) := by
  rw [List.append_assoc, List.append_assoc] at h
  rw [List.length_append, List.length_append, ← Nat.add_assoc, ← Nat.add_assoc]
  have hq : off < off + pre.length + x.length := by omega
  exact walks_entry_gap he hq h.app.app hgap.ne (ngap_last hgap) (hn h)
    (inc_ws_n s c' _ gap rest hgap hfo (Nat.ne_zero_of_lt hq) hfel h.app.app)

theorem nl_of_lineBreak {cm : List (List Nat)} (hcm : ∀ t ∈ cm, ∀ x ∈ t, isLineBreak x = false) :
    ∀ t ∈ cm, ∀ x ∈ t, x ≠ 10 :=
  fun t ht x hx h10 => absurd (hcm t ht x hx) (by rw [h10]; decide)

theorem inc_walks_block (s : Array Nat) (c : Bool) (off : Nat) (b : NBlock) (rest : List Nat) (hg : b.Good' c)
    (hfo : NFollow rest) (hls : LineStart s off) (h : At s off (b.print ++ rest)) :
    Walks (incNext s) s.size c off (b.entries off) (b.tr c) (off + b.print.length) ∧ LineStart s (off + b.print.length) := by
  cases b with
  | define cm r gap =>
    obtain ⟨hcm, hs, hgap, hfel⟩ := hg
    have hil : 0 < (defText r).length := by rw [defText_length, incLen]; omega
    exact inc_walks_entry_gap h hil hgap hfo hfel (by rw [incEntityC_e, defText_length])
      (inc_define_at s c off cm r gap rest (nl_of_lineBreak hcm) hs hgap hls)
  | free ts gap =>
    obtain ⟨hne, hts, hgap, h2, rfl⟩ := hg
    exact inc_walks_entry_gap (pre := []) h (printCLines_pos (by simpa [ncLines] using hne)) hgap hfo (Or.inr rfl) rfl
      (inc_free_comment s true off ts gap rest hne hts hgap h2 hls hfo)
  | instr word nb arg gap =>
    obtain ⟨hi, hgap, hfel⟩ := hg
    exact inc_walks_entry_gap (pre := []) h (Nat.succ_pos _) hgap hfo hfel rfl (inc_instr_at s c off word nb arg gap rest hi hgap)

/-- `DefinesParser.Comment.val` (offset 2): every line loses `# ` -/
theorem offsetVal2_lines (ts : List (List Nat)) (h : ∀ t ∈ ts, ∀ x ∈ t, isLineBreak x = false) :
    offsetCommentVal 2 (printCLines (ncLines ts)) = cvalLines (ts.map (fun t => ((35 : Nat), t))) := by
  rw [offsetVal_lines_n 1 (ncLines ts) fun l hl => by
    obtain ⟨t, ht, rfl⟩ := List.mem_map.mp hl
    exact ⟨rfl, fun c hc => (List.mem_cons.mp hc).elim (fun e => e ▸ rfl) (h t ht c), Nat.succ_pos _⟩]
  simp [ncLines, List.map_map, Function.comp_def]

theorem entView_inc_pc (s : Array Nat) (e : Entry) (f : Nat) (a b : Nat) :
    entView .inc s { e with full := f, pc := some (a, b) } =
      (entView .inc s e).map (fun v => { v with comment := some (commentVal (.offset Gen.Tables.offsetCommentDefines) (slice s a b)) }) := by
  simp [entView, commentStyleOf]

def NBlock.views : NBlock → List (Option EntView)
  | .define cm r _ =>
    [some { key := r.1, raw := r.2, val := some r.2, comment := if cm.isEmpty then none else some (cvalLines (cm.map (fun t => ((35 : Nat), t)))) }]
  | _ => []

theorem incEntity_kind (off klen vlen : Nat) : (incEntity off klen vlen).kind = .entity := by
  unfold incEntity
  split
  · rfl
  · rfl

theorem inc_views_block (s : Array Nat) (c : Bool) (off : Nat) (b : NBlock) (rest : List Nat) (hg : b.Good' c)
    (h : At s off (b.print ++ rest)) :
    entitiesOf .inc s (b.entries off) = b.views ∧ junkOf s (b.entries off) = [] := by
  cases b with
  | define cm r gap =>
    obtain ⟨hcm, hs, hgap, hfel⟩ := hg
    obtain ⟨w, rfl, _⟩ := ngap_cons hgap
    rw [NBlock.print, List.append_assoc, List.append_assoc, List.cons_append, defText_nl] at h
    have hbase := entView_incEntity s (off + (ncPre cm).length) r (w ++ rest) h.app
    have hview : entView .inc s (incEntityC off (ncPre cm).length r.1.length r.2.length (!cm.isEmpty)) =
        some { key := r.1, raw := r.2, val := some r.2,
               comment := if cm.isEmpty then none else some (cvalLines (cm.map (fun t => ((35 : Nat), t)))) } := by
      cases cm with
      | nil =>
        show entView .inc s (incEntityC off 0 r.1.length r.2.length false) = _
        rw [incEntityC_plain]
        exact hbase
      | cons t ts =>
        rw [ncPre_cons, List.append_assoc] at h
        simp only [incEntityC, List.isEmpty_cons, Bool.not_false, if_true, Bool.false_eq_true, if_false]
        rw [entView_inc_pc, hbase, show off + (ncPre (t :: ts)).length - 1 = off + (printCLines (ncLines (t :: ts))).length by
          simp [ncPre_cons], h.slice]
        simp [expectedView, commentVal, Gen.Tables.offsetCommentDefines, offsetVal2_lines _ hcm]
    have := views_entity_ws .inc s (off + (ncPre cm).length + (defText r).length) (10 :: w).length
      (e := incEntityC off (ncPre cm).length r.1.length r.2.length (!cm.isEmpty)) (incEntity_kind _ _ _)
    rwa [hview] at this
  | free ts gap => exact views_other_ws .inc s _ _ (by simp [commentEntry]) (by simp [commentEntry])
  | instr word nb arg gap => exact views_other_ws .inc s _ _ (by simp [incInstrEntry]) (by simp [incInstrEntry])

/-- an inert garbage line and the newlines after it: non-empty, no `#`, no newline -/
structure NGarbage (g gap : List Nat) : Prop where
  ne : g ≠ []
  chars : ∀ c ∈ g, c ≠ 35 ∧ c ≠ 10
  gap : NGap gap

theorem NGarbage.follow {g gap : List Nat} (hg : NGarbage g gap) (rest : List Nat) : NFollow (g ++ (gap ++ rest)) := by
  cases hgg : g with
  | nil => exact absurd hgg hg.ne
  | cons a t => simp [NFollow, (hg.chars a (by simp [hgg])).2]

theorem inc_start_match (s : Array Nat) (c : Bool) (e : Nat) (b : NBlock) (rest : List Nat) (hg : b.Good' c)
    (hls : LineStart s e) (h : At s e (b.print ++ rest)) : ∃ r ∈ incJunkExps, (matchAt s r e).isSome := by
  cases b with
  | define cm r gap =>
    obtain ⟨hcm, hs, hgap, hfel⟩ := hg
    have h1 : At s e (ncPre cm ++ (defText r ++ (gap ++ rest))) := by simpa [At, NBlock.print] using h
    cases cm with
    | nil =>
      refine ⟨DefinesParser_reKey, by simp [incJunkExps], ?_⟩
      rw [inc_key_at s e r _ hs (def_at_rec hgap h1)]
      rfl
    | cons t ts =>
      rw [ncPre_cons, List.append_assoc] at h1
      refine ⟨DefinesParser_reComment, by simp [incJunkExps], ?_⟩
      rw [inc_comment_at s e _ _ (List.cons_ne_nil t ts) hls (nl_of_lineBreak hcm) (after_def r _) h1]
      rfl
  | free ts gap =>
    obtain ⟨hne, hts, hgap, h2, hc⟩ := hg
    have h' : At s e (printCLines (ncLines ts) ++ (gap ++ rest)) := by simpa [At, NBlock.print] using h
    refine ⟨DefinesParser_reComment, by simp [incJunkExps], ?_⟩
    rw [inc_comment_at s e ts _ hne hls hts (after_ngap hgap h2 rest) h']
    rfl
  | instr word nb arg gap =>
    obtain ⟨hi, hgap, hfel⟩ := hg
    obtain ⟨w, hw, _⟩ := ngap_cons hgap
    have h' : At s e (instrText word nb arg ++ (gap ++ rest)) := by simpa [At, NBlock.print] using h
    refine ⟨DefinesParser_rePI, by simp [incJunkExps], ?_⟩
    rw [inc_pi_at s e word nb arg (gap ++ rest) hi (by rw [hw]; simp) h']
    rfl

theorem inc_junk_at (s : Array Nat) (fel : Bool) (p : Nat) (g gap rest : List Nat) (hg : NGarbage g gap)
    (hnext : rest = [] ∨ ∃ r ∈ incJunkExps, (matchAt s r (p + g.length + gap.length)).isSome)
    (h : At s p (g ++ (gap ++ rest))) :
    definesGetNext s fel p = (junkEntry p (p + g.length + gap.length), fel) := by
  have h' : At s p ((g ++ gap) ++ rest) := by rw [List.append_assoc]; exact h
  -- no expression starts on a character of the line or of the newlines: none is `#`
  have hno : ∀ q, p ≤ q → q < p + (g ++ gap).length → ∀ r ∈ incJunkExps, matchAt s r q = none := by
    intro q h1 h2
    obtain ⟨a, t, ha, hat⟩ := h'.inside h1 h2
    refine inc_none_of_head hat ?_
    rcases List.mem_append.mp ha with hm | hm
    · simp [(hg.chars a hm).1]
    · simp [hg.gap.nl a hm]
  have hgl := List.length_pos_iff.mpr hg.ne
  rw [definesGetNext_junk (hno p (Nat.le_refl _) (by rw [List.length_append]; omega)) (nws_none_at s p _ (hg.follow rest) h),
    getJunk_over incJunkExps (by decide) (by simp [hg.ne]) (fun r hr q h1 h2 => hno q (by omega) h2 r hr)
      (by simpa [Nat.add_assoc] using hnext) h', List.length_append, Nat.add_assoc]

theorem NBlock.print_len2 {c : Bool} (b : NBlock) (hg : b.Good' c) : 2 ≤ b.print.length := by
  cases b with
  | define cm r gap => have := defText_length r; rw [incLen] at this; simp only [NBlock.print, List.length_append]; omega
  | free ts gap => have := hg.2.2.2.1; simp only [NBlock.print, List.length_append]; omega
  | instr word nb arg gap =>
    have := List.length_pos_iff.mpr hg.1.word_ne
    simp only [NBlock.print, instrText, List.length_append, List.length_cons]; omega

def incSpec : GSpec Bool NBlock where
  f := .inc
  next := fun s fel off => definesGetNext s fel off
  c0 := false
  pr := NBlock.print
  en := fun off _ b => b.entries off
  tr := NBlock.tr
  vw := NBlock.views
  Good' := fun c b => b.Good' c
  Lic := fun _ _ => True
  Garb := fun _ g gap => NGarbage g gap
  JOk := fun _ => True
  Follow := NFollow
  Inv := LineStart

theorem incSpec_laws : incSpec.Laws where
  walk_def := fun _ => by unfold walk; rfl
  inv0 := fun _ => Or.inl rfl
  follow_nil := fun hc => nomatch hc
  block_walk := fun s b c off rest hg _ h hfo hi => inc_walks_block s c off b rest hg hfo hi h
  block_follow := fun c b rest hg => nfollow_block b c hg rest
  block_views := fun s b c off rest hg h _ => inc_views_block s c off b rest hg h
  junk_at := by
    intro s c p g gap rest hg h hi hnext
    have hls : LineStart s (p + g.length + gap.length) := lineStart_of_last h.app hg.gap.ne (ngap_last hg.gap)
    refine ⟨?_, hls⟩
    apply inc_junk_at s c p g gap rest hg _ h
    rcases hnext with rfl | ⟨b, rest', rfl, hb, _, hfo⟩
    · exact Or.inl rfl
    · exact Or.inr (inc_start_match s c _ b rest' hb hls h.app.app)
  garb_follow := fun _ _ _ rest hg => hg.follow rest
  garb_pos := fun _ g gap hg => List.length_pos_iff.mpr hg.ne
  gap_pos := fun _ g gap hg => List.length_pos_iff.mpr hg.gap.ne
  len2 := fun c b hb => b.print_len2 hb
  lic2 := fun _ _ _ => trivial

/-- well-formedness of a document, following `ctx.filter_empty_lines` through the blocks -/
def NGoodAll : Bool → List (GB NBlock) → Prop
  | _, [] => True
  | c, x :: xs => x.b.Good' c ∧ (∀ g gap, x.junk = some (g, gap) → NGarbage g gap) ∧ NGoodAll (x.b.tr c) xs

theorem incGoodAll : ∀ (xs : List (GB NBlock)) (c : Bool) (off : Nat), NGoodAll c xs →
    GoodAll incSpec.gpr incSpec.gtr incSpec.GGood off c xs := by
  intro xs
  induction xs with
  | nil => intro c off _; trivial
  | cons x xs ih =>
    intro c off h
    exact ⟨⟨h.1, fun _ => trivial, fun g gap hj => ⟨h.2.1 g gap hj, trivial⟩⟩, ih _ _ h.2.2⟩

end C02P
