/-
C03: the comparison loop of the session model (`Sess.stepEnt`, on the Observer model) computes the same
`stats` as the loop of Compare/Content.lean (`Cmp.step`, one verdict function), the verdict being what
`ObserverList.notify` returns for the entity key given the filters of the project observers (one iteration:
`C03S.stepEnt_sim`; here the loop and the whole comparison).  So every theorem of Props/C03.lean about
`compareEntities` describes the stats a job of a session pushes.
-/
import CLModel.Proofs.C03Sess
import CLModel.Proofs.C03
namespace C03S
open ObsM Sess

theorem foldE_refines (file : File) (j : EntJob) (F : List (Option Filter)) : ∀ (ar : List (AR.Label × Cmp.Key))
    (l : ObsList) (s : Cmp.Stats) (st' : ObsList × Cmp.Stats) (notes : List Cmp.Note),
    l.filters = F → Pipe.foldE (stepEnt file j) ar (l, s) = .ok st' →
    ∃ notes', ar.foldlM (Cmp.step j.ref j.l10n (verdictOf F file)) ⟨s, notes⟩ = .ok ⟨st'.2, notes'⟩
  | [], l, s, st', notes, _, h => by
    simp only [Pipe.foldE, Except.ok.injEq] at h
    subst h
    exact ⟨notes, rfl⟩
  | p :: rest, l, s, st', notes, hF, h => by
    simp only [Pipe.foldE] at h
    split at h
    · cases h
    rename_i _ st1 hs
    obtain ⟨l1, s1⟩ := st1
    obtain ⟨_, hsim, hstep⟩ := stepEnt_sim file j p (Same.refl l) hs hs
    obtain ⟨n1, hc⟩ := hstep notes
    obtain ⟨evs, t, _⟩ := hsim.tr
    rw [hF] at hc
    obtain ⟨n2, h2⟩ := foldE_refines file j F rest l1 s1 st' n1 ((tr_same evs t).1.symm.trans hF) h
    exact ⟨n2, by simp only [List.foldlM_cons, hc, bind, Except.bind]; exact h2⟩

theorem compareEnts_refines (file : File) (j : EntJob) (l l' : ObsList) (h : compareEnts file j l = .ok l') :
    ∃ evs s notes, Tr l l' (evs ++ [.stats file (Pipe.statsList s)]) ∧ NotifyOn file evs ∧
      Cmp.compareEntities j.ref j.l10n (verdictOf l.filters file) = .ok { updates := [s.toDict], notes := notes } := by
  simp only [compareEnts] at h
  split at h
  · cases h
  rename_i _ l1 h1
  split at h
  · cases h
  rename_i _ l2 h2
  split at h
  · cases h
  rename_i _ st h3
  simp only [Except.ok.injEq] at h
  subst h
  obtain ⟨e1, t1, n1⟩ := notifyDups_tr file _ _ l l1 h1
  obtain ⟨e2, t2, n2⟩ := notifyDups_tr file _ _ l1 l2 h2
  obtain ⟨e3, t3, n3⟩ := foldE_tr file j _ _ st h3
  obtain ⟨notes, hc⟩ := foldE_refines file j l.filters _ l2 {} st
    ([] ++ (Cmp.findDuplicates j.ref).map Cmp.Note.warning ++ (Cmp.findDuplicates j.l10n).map Cmp.Note.error)
    ((tr_same _ (t1.trans t2)).1.symm) h3
  refine ⟨e1 ++ e2 ++ e3, st.2, notes, ((t1.trans t2).trans t3).trans (push_tr _ _ _), (n1.append n2).append n3, ?_⟩
  unfold Cmp.compareEntities
  simp only [bind, Except.bind, pure, Except.pure, Cmp.foldl_notify]
  rw [hc]

theorem statsList_eq (s : Cmp.Stats) : Pipe.statsList s =
    [(.missing, s.missing), (.missing_w, s.missing_w), (.report, s.report), (.obsolete, s.obsolete), (.changed, s.changed),
     (.changed_w, s.changed_w), (.unchanged, s.unchanged), (.unchanged_w, s.unchanged_w), (.keys, s.keys)] := by rfl

/-- the value the `stats` dict of a comparison holds for a summary key (`errors` / `warnings` are not in it) -/
def statOf (s : Cmp.Stats) : StatKey → Nat
  | .errors => 0 | .warnings => 0
  | .missing => s.missing | .missing_w => s.missing_w | .report => s.report | .obsolete => s.obsolete
  | .changed => s.changed | .changed_w => s.changed_w | .unchanged => s.unchanged | .unchanged_w => s.unchanged_w
  | .keys => s.keys

theorem statSum_statsList (s : Cmp.Stats) (key : StatKey) : statSum (Pipe.statsList s) key = statOf s key := by
  rw [statsList_eq]
  cases key <;> rfl

theorem notifyOn_count (ign : Ev → Bool) (file : File) (evs : List Ev) (h : NotifyOn file evs) (L : Option Text) (key : StatKey)
    (hk1 : key ≠ .errors) (hk2 : key ≠ .warnings) : countSpec ign L key evs = 0 := by
  unfold countSpec
  induction evs with
  | nil => rfl
  | cons ev rest ih =>
    obtain ⟨c, d, rfl⟩ := h ev (by simp)
    have h0 : contrib ign L key (.notify c file d) = 0 := by
      unfold contrib
      split
      · rfl
      · have : countKey c ≠ some key := by
          cases c <;> simp [countKey] <;> first | exact fun h => hk1 h.symm | exact fun h => hk2 h.symm
        simp [this]
    simp only [List.map_cons, List.sum_cons, h0, Nat.zero_add]
    exact ih (fun e he => h e (by simp [he]))

theorem block_count (F : List (Option Filter)) (file : File) (evs : List Ev) (hn : NotifyOn file evs) (s : Cmp.Stats)
    (L : Option Text) (key : StatKey) (hk1 : key ≠ .errors) (hk2 : key ≠ .warnings) :
    countSpec (ignList F) L key (evs ++ [.stats file (Pipe.statsList s)]) = if file.locale = L then statOf s key else 0 := by
  rw [countSpec_append, notifyOn_count _ file evs hn L key hk1 hk2]
  simp [countSpec, contrib, ignList, statSum_statsList]

end C03S
