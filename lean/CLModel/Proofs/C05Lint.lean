/-
C05 pipeline: `Pipe.lintParsed` never raises when the checker answers for every Entity: the positions it answers with then
suit the entity, which is the hypothesis of `Lint.lintFile_total` (C19).
-/
import CLModel.Proofs.C05Pipe
import CLModel.Proofs.C19
namespace Pipe

theorem toLintEnt_fits (c : CkCtx) (cls : Cls) (vals : List Text) (e : PEnt) (le : Lint.Ent)
    (hk : e.junk = false → e.entry.kind = .entity)
    (hres : ∀ rs, runChecker c e e = .ok rs → ∀ r ∈ rs, Resolvable cls e r.pos)
    (h : toLintEnt c cls vals e = .ok le) : le.kind = .entity → ∀ r ∈ le.checks, C19.fits le r := by
  unfold toLintEnt at h
  cases hj : e.junk with
  | true =>
    simp only [hj, if_true, Except.ok.injEq] at h
    subst h
    intro hk; cases hk
  | false =>
    simp only [hj, Bool.false_eq_true, if_false] at h
    cases hr : runChecker c e e with
    | error x => rw [hr] at h; cases h
    | ok rs =>
      rw [hr] at h
      simp only [Except.ok.injEq] at h
      subst h
      intro _ r hc
      simp only [List.mem_map] at hc
      obtain ⟨r, hrm, rfl⟩ := hc
      have hke : e.entry.kind = .entity := hk hj
      rcases hres rs hr r hrm with ⟨n, hn⟩ | ⟨⟨n, hn⟩, _⟩ | ⟨⟨l, cc, hn⟩, hcls, _⟩
      · simp [C19.fits, toLintCheck, hn]
      · cases cls <;> simp [C19.fits, toLintCheck, hn, Pos.valSpan, hke, modeOf]
      · subst hcls
        simp [C19.fits, toLintCheck, hn, Pos.valSpan, hke, modeOf]

theorem lintParsed_ok (ext : Ext) (path : Text) (kind : CheckerKind) (cls : Cls) (reference : Option (List PEnt))
    (curText : Array Nat) (cur : List PEnt) (hk : ∀ e ∈ cur, e.junk = false → e.entry.kind = .entity)
    (hclash : lintJunkClash cls (refList reference) cur = false)
    (hchk : ∀ e ∈ cur, e.junk = false →
      Answers cls { kind := kind, locale := some referenceLocale, xml := ext.xml, refVals := cur.map (·.raw) } e e) :
    ∃ rs, lintParsed ext path kind cls reference curText cur = .ok rs := by
  unfold lintParsed
  simp only
  rw [hclash]
  simp only [Bool.false_eq_true, if_false]
  generalize hvals : List.map (fun x => x.val) (refList reference ++ cur) = vals
  generalize hc : ({ kind := kind, locale := some referenceLocale, xml := ext.xml, refVals := cur.map (·.raw) } : CkCtx) = c at hchk
  obtain ⟨ents, hents, hmem⟩ := mapE_ok (f := toLintEnt c cls vals) (l := cur) (by
    intro e he
    unfold toLintEnt
    cases hj : e.junk with
    | true => exact ⟨_, rfl⟩
    | false =>
      obtain ⟨rs, hrs, _⟩ := hchk e he hj
      simp only [Bool.false_eq_true, if_false, hrs]
      exact ⟨_, rfl⟩)
  rw [hents]
  simp only
  obtain ⟨rs, hrs⟩ := Lint.lintFile_total
    { path := path, contents := curText, cur := ents,
      ref := reference.map (fun r => r.map (toRefEnt cls vals)) } (by
    intro le hle hkind r hr
    obtain ⟨e, he, hmk⟩ := hmem le hle
    refine toLintEnt_fits c cls _ e le (hk e he) ?_ hmk hkind r hr
    intro rs' hrs' c' hc'
    have hnj : e.junk = false := by
      cases hj : e.junk with
      | false => rfl
      | true =>
        simp only [toLintEnt, hj, if_true, Except.ok.injEq] at hmk
        subst hmk
        cases hkind
    obtain ⟨rs2, h2, hres, _⟩ := hchk e he hnj
    rw [h2] at hrs'
    cases hrs'
    exact hres c' hc')
  rw [hrs]
  exact ⟨rs, rfl⟩

theorem lintJunkClash_regex (fmt : P.Fmt) (ref cur : List PEnt) : lintJunkClash (clsOf fmt) ref cur = false := by
  cases fmt <;> simp [lintJunkClash, clsOf]

end Pipe
