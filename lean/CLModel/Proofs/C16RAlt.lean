/-
The shape "every entry that is not whitespace is directly followed by a whitespace entry"
(`Alt`) and its preservation by the operations the merge code applies to entry sequences:
`filterMap`/`map`/`filter` that keep whitespace, the whitespace-folding reduce (`C16L.fold`), and the closed form of
`AddRemove` (`AR.spec`) when whitespace keys are never shared between the two sides.
-/
import CLModel.Proofs.AddRemove
import CLModel.Proofs.C16Fold
namespace C16R
open AR

section alt
variable {γ : Type}

/-- the list starts with a whitespace element -/
def hw (w : γ → Bool) : List γ → Bool
  | [] => false
  | b :: _ => w b

/-- every element that is not whitespace is directly followed by a whitespace element -/
def Alt (w : γ → Bool) : List γ → Prop
  | [] => True
  | a :: l => (w a = true ∨ hw w l = true) ∧ Alt w l

theorem hw_append_left {w : γ → Bool} {a b : List γ} (h : hw w a = true) : hw w (a ++ b) = true := by
  cases a with
  | nil => simp [hw] at h
  | cons x a => simpa [hw] using h

theorem alt_append {w : γ → Bool} {a b : List γ} (ha : Alt w a) (hb : Alt w b) : Alt w (a ++ b) := by
  induction a with
  | nil => simpa using hb
  | cons x a ih =>
    obtain ⟨h1, h2⟩ := ha
    show Alt w (x :: (a ++ b))
    refine ⟨?_, ih h2⟩
    rcases h1 with h1 | h1
    · exact .inl h1
    · exact .inr (hw_append_left h1)

theorem alt_nil {w : γ → Bool} : Alt w [] := trivial

theorem alt_cons {w : γ → Bool} {a : γ} {l : List γ} :
    Alt w (a :: l) ↔ (w a = true ∨ hw w l = true) ∧ Alt w l := Iff.rfl

theorem alt_tail {w : γ → Bool} {a : γ} {l : List γ} (h : Alt w (a :: l)) : Alt w l := h.2

theorem alt_cons_ws {w : γ → Bool} {a : γ} {l : List γ} (ha : w a = true) (h : Alt w l) : Alt w (a :: l) :=
  ⟨.inl ha, h⟩

theorem alt_cons_cons {w : γ → Bool} {a b : γ} {l : List γ} (hb : w b = true) (h : Alt w l) : Alt w (a :: b :: l) :=
  ⟨.inr hb, .inl hb, h⟩

theorem hw_of_alt {w : γ → Bool} {a : γ} {l : List γ} (h : Alt w (a :: l)) (ha : w a = false) : hw w l = true := by
  rcases h.1 with h1 | h1
  · rw [ha] at h1; cases h1
  · exact h1

theorem alt_filterMap {δ : Type} {w : γ → Bool} {w' : δ → Bool} (f : γ → Option δ) (l : List γ)
    (hf : ∀ x ∈ l, w x = true → ∃ y, f x = some y ∧ w' y = true) (h : Alt w l) :
    Alt w' (l.filterMap f) := by
  induction l with
  | nil => trivial
  | cons a l ih =>
    obtain ⟨h1, h2⟩ := h
    have ih' := ih (fun x hx => hf x (List.mem_cons_of_mem _ hx)) h2
    rw [List.filterMap_cons]
    cases hfa : f a with
    | none => exact ih'
    | some y =>
      show Alt w' (y :: l.filterMap f)
      refine ⟨?_, ih'⟩
      rcases h1 with h1 | h1
      · obtain ⟨y', hy', hwy⟩ := hf a List.mem_cons_self h1
        rw [hfa] at hy'; cases hy'; exact .inl hwy
      · right
        cases l with
        | nil => simp [hw] at h1
        | cons b l =>
          simp only [hw] at h1
          obtain ⟨z, hz, hwz⟩ := hf b (by simp) h1
          rw [List.filterMap_cons, hz]
          exact hwz

theorem alt_map {δ : Type} {w : γ → Bool} {w' : δ → Bool} (f : γ → δ) (l : List γ)
    (hf : ∀ x ∈ l, w x = true → w' (f x) = true) (h : Alt w l) : Alt w' (l.map f) := by
  have := alt_filterMap (w' := w') (fun x => some (f x)) l (fun x hx hwx => ⟨f x, rfl, hf x hx hwx⟩) h
  rwa [List.filterMap_eq_map'] at this

theorem alt_filter {w : γ → Bool} (p : γ → Bool) (l : List γ)
    (hp : ∀ x ∈ l, w x = true → p x = true) (h : Alt w l) : Alt w (l.filter p) := by
  have := alt_filterMap (w' := w) (Option.guard p) l
    (fun x hx hwx => ⟨x, by simp [Option.guard, hp x hx hwx], hwx⟩) h
  rwa [List.filterMap_eq_filter] at this

theorem alt_of_map {δ : Type} {w' : δ → Bool} (f : γ → δ) (l : List γ) (h : Alt w' (l.map f)) :
    Alt (fun x => w' (f x)) l := by
  induction l with
  | nil => trivial
  | cons a l ih =>
    obtain ⟨h1, h2⟩ := h
    refine ⟨?_, ih h2⟩
    rcases h1 with h1 | h1
    · exact .inl h1
    · right
      cases l with
      | nil => simp [hw] at h1
      | cons b l => simpa [hw] using h1

open C16L in
theorem hw_fold (w : γ → Bool) (len : γ → Nat) (xs : List γ) : hw w (fold w len none xs) = hw w xs := by
  have some_head : ∀ (xs : List γ) (b : γ), w b = true → hw w (fold w len (some b) xs) = true := by
    intro xs
    induction xs with
    | nil => intro b hb; rw [fold_nil]; exact hb
    | cons x xs ih =>
      intro b hb
      by_cases hx : w x = true
      · rw [fold_ws w len _ x xs hx]; exact ih _ (best_ws w len hb hx)
      · rw [fold_nws w len _ x xs (by simpa using hx)]; exact hb
  cases xs with
  | nil => rw [fold_nil]; rfl
  | cons x xs =>
    by_cases hx : w x = true
    · rw [fold_ws w len _ x xs hx, show push len none x = x from rfl, some_head xs _ hx]; exact hx.symm
    · rw [fold_nws w len _ x xs (by simpa using hx)]; rfl

open C16L in
theorem alt_fold (w : γ → Bool) (len : γ → Nat) (xs : List γ) :
    ∀ cur : Option γ, (∀ b ∈ cur, w b = true) → Alt w (cur.toList ++ xs) → Alt w (fold w len cur xs) := by
  induction xs with
  | nil => intro cur _ h; simpa [fold_nil] using h
  | cons x xs ih =>
    intro cur hc h
    by_cases hx : w x = true
    · rw [fold_ws w len cur x xs hx]
      apply ih _ (fun b hb => by cases hb; exact push_ws w len hc hx)
      cases cur with
      | none => exact h
      | some b => exact alt_cons_ws (best_ws w len (hc b rfl) hx) (alt_tail (alt_tail h))
    · have hx' : w x = false := by simpa using hx
      rw [fold_nws w len cur x xs hx']
      have hx2 : Alt w (x :: xs) := by
        cases cur with
        | none => exact h
        | some b => exact alt_tail h
      have : Alt w (x :: fold w len none xs) :=
        alt_cons.2 ⟨.inr (by rw [hw_fold]; exact hw_of_alt hx2 hx'), ih none (C16L.none_ws w) (alt_tail hx2)⟩
      cases cur with
      | none => exact this
      | some b => exact alt_cons_ws (hc b rfl) this

theorem alt_fold_none (w : γ → Bool) (len : γ → Nat) {xs : List γ} (h : Alt w xs) : Alt w (C16L.fold w len none xs) :=
  alt_fold w len xs none (C16L.none_ws w) h

theorem alt_all2 {α β : Type} {R : α → β → Prop} {w : α → Bool} {w' : β → Bool} {a : List α} {b : List β}
    (h : Txt.All2 R a b) (hR : ∀ x y, R x y → w x = w' y) (hb : Alt w' b) : Alt w a := by
  induction h with
  | nil => exact alt_nil
  | @cons x y as bs hxy hrest ih =>
    obtain ⟨h1, h2⟩ := alt_cons.1 hb
    refine alt_cons.2 ⟨?_, ih h2⟩
    rcases h1 with h1 | h1
    · exact .inl (by rw [hR x y hxy]; exact h1)
    · right
      cases hrest with
      | nil => simp [hw] at h1
      | @cons x' y' _ _ hxy' _ =>
        simp only [hw] at h1 ⊢
        rw [hR x' y' hxy']; exact h1

end alt

section spec
variable {α : Type} [BEq α] [LawfulBEq α]

/-- the right-only keys anchored at `a` -/
def addsOf (l r : List α) (cur a : Option α) : List α :=
  ((anchors l r cur).filter (fun p => p.1 == a)).map (·.2)

omit [LawfulBEq α] in
theorem addsOf_nil (l : List α) (cur a : Option α) : addsOf l [] cur a = [] := rfl

omit [LawfulBEq α] in
theorem addsOf_cons_mem (l : List α) (x : α) (xs : List α) (cur a : Option α) (hx : l.contains x = true) :
    addsOf l (x :: xs) cur a = addsOf l xs (some x) a := by
  simp only [addsOf, anchors, hx, if_true]

omit [LawfulBEq α] in
theorem addsOf_cons_not (l : List α) (x : α) (xs : List α) (cur a : Option α) (hx : l.contains x = false) :
    addsOf l (x :: xs) cur a = if cur == a then x :: addsOf l xs cur a else addsOf l xs cur a := by
  simp only [addsOf, anchors, hx, Bool.false_eq_true, if_false, List.filter_cons]
  by_cases h : (cur == a) = true
  · simp [h]
  · simp [h]

theorem alt_addsOf (w : α → Bool) (l : List α) : ∀ (r : List α) (cur a : Option α),
    (∀ x ∈ r, l.contains x = true → w x = false) → Alt w r → Alt w (addsOf l r cur a) := by
  intro r
  induction r with
  | nil => intro _ _ _ _; trivial
  | cons x xs ih =>
    intro cur a hc h
    have hc' : ∀ y ∈ xs, l.contains y = true → w y = false := fun y hy => hc y (List.mem_cons_of_mem _ hy)
    by_cases hx : l.contains x = true
    · rw [addsOf_cons_mem l x xs cur a hx]
      exact ih _ _ hc' h.2
    · have hx' : l.contains x = false := by simpa using hx
      rw [addsOf_cons_not l x xs cur a hx']
      by_cases hca : (cur == a) = true
      · rw [if_pos hca]
        refine ⟨?_, ih _ _ hc' h.2⟩
        rcases h.1 with h1 | h1
        · exact .inl h1
        · right
          cases xs with
          | nil => simp [hw] at h1
          | cons b xs' =>
            simp only [hw] at h1
            have hb : l.contains b = false := by
              cases hbb : l.contains b
              · rfl
              · rw [hc b (by simp) hbb] at h1; exact absurd h1 (by simp)
            rw [addsOf_cons_not l b xs' cur a hb, if_pos hca]
            exact h1
      · rw [if_neg hca]
        exact ih _ _ hc' h.2

/-- a shared key (never whitespace) is followed, on the right side, by a whitespace key: its anchored keys start
    with whitespace -/
theorem hw_addsOf (w : α → Bool) (l : List α) (x : α) (hxl : l.contains x = true) : ∀ (r : List α) (cur : Option α),
    (∀ y ∈ r, l.contains y = true → w y = false) → Alt w r → x ∈ r → cur ≠ some x →
      hw w (addsOf l r cur (some x)) = true := by
  intro r
  induction r with
  | nil => intro _ _ _ hm; simp at hm
  | cons y ys ih =>
    intro cur hc h hm hcur
    have hc' : ∀ z ∈ ys, l.contains z = true → w z = false := fun z hz => hc z (List.mem_cons_of_mem _ hz)
    by_cases hy : l.contains y = true
    · rw [addsOf_cons_mem l y ys cur _ hy]
      by_cases hyx : y = x
      · subst hyx
        have hwy : w y = false := hc y (by simp) hy
        rcases h.1 with h1 | h1
        · rw [hwy] at h1; exact absurd h1 (by simp)
        · cases ys with
          | nil => simp [hw] at h1
          | cons b ys' =>
            simp only [hw] at h1
            have hb : l.contains b = false := by
              cases hbb : l.contains b
              · rfl
              · rw [hc b (by simp) hbb] at h1; exact absurd h1 (by simp)
            rw [addsOf_cons_not l b ys' _ _ hb, if_pos (by simp)]
            exact h1
      · have hm' : x ∈ ys := by
          rcases List.mem_cons.1 hm with e | e
          · exact absurd e.symm hyx
          · exact e
        exact ih _ hc' h.2 hm' (by intro e; exact hyx (Option.some.inj e))
    · have hy' : l.contains y = false := by simpa using hy
      have hyx : y ≠ x := by intro e; subst e; rw [hxl] at hy'; exact absurd hy' (by simp)
      have hm' : x ∈ ys := by
        rcases List.mem_cons.1 hm with e | e
        · exact absurd e.symm hyx
        · exact e
      rw [addsOf_cons_not l y ys cur _ hy', if_neg (by simpa using hcur)]
      exact ih _ hc' h.2 hm' hcur

theorem addsOf_not_mem (l : List α) (x : α) : ∀ (r : List α) (cur : Option α), x ∉ r → cur ≠ some x →
    addsOf l r cur (some x) = [] := by
  intro r
  induction r with
  | nil => intro _ _ _; rfl
  | cons y ys ih =>
    intro cur hm hcur
    have hyx : y ≠ x := by intro e; subst e; exact hm (by simp)
    have hm' : x ∉ ys := fun h => hm (List.mem_cons_of_mem _ h)
    by_cases hy : l.contains y = true
    · rw [addsOf_cons_mem l y ys cur _ hy]
      exact ih _ hm' (by intro e; exact hyx (Option.some.inj e))
    · have hy' : l.contains y = false := by simpa using hy
      rw [addsOf_cons_not l y ys cur _ hy', if_neg (by simpa using hcur)]
      exact ih _ hm' hcur

omit [LawfulBEq α] in
theorem addsOf_some_none (l : List α) : ∀ (r : List α) (c : α), addsOf l r (some c) none = [] := by
  intro r
  induction r with
  | nil => intro _; rfl
  | cons y ys ih =>
    intro c
    by_cases hy : l.contains y = true
    · rw [addsOf_cons_mem l y ys _ _ hy]; exact ih y
    · have hy' : l.contains y = false := by simpa using hy
      rw [addsOf_cons_not l y ys _ _ hy', if_neg (by simp)]
      exact ih c

omit [LawfulBEq α] in
theorem addsOf_none_head (l r : List α) (h : ∀ x, r.head? = some x → l.contains x = true) :
    addsOf l r none none = [] := by
  cases r with
  | nil => rfl
  | cons y ys =>
    rw [addsOf_cons_mem l y ys _ _ (h y rfl)]
    exact addsOf_some_none l ys y

omit [LawfulBEq α] in
theorem spec_head (k : α) (l r : List α) (h : ∀ x, r.head? = some x → (k :: l).contains x = true) :
    ∃ K, (spec (k :: l) r).map (·.2) = k :: K := by
  rw [spec_keys]
  have := addsOf_none_head (k :: l) r h
  unfold addsOf at this
  rw [this, List.nil_append, List.flatMap_cons]
  exact ⟨_, rfl⟩

omit [LawfulBEq α] in
theorem spec_add_head (l : List α) (x : α) (r : List α) (hx : l.contains x = false) :
    ∃ K, (spec l (x :: r)).map (·.2) = x :: K := by
  rw [spec_keys, anchors, if_neg (by rw [hx]; simp)]
  simp only [List.filter_cons, beq_self_eq_true, if_true, List.map_cons, List.cons_append]
  exact ⟨_, rfl⟩

theorem addRemove_head (k : α) (l r : List α) (hln : (k :: l).Nodup) (hrn : r.Nodup)
    (h : ∀ x, r.head? = some x → (k :: l).contains x = true) :
    ∃ K, (addRemove (k :: l) r).map (·.2) = k :: K := by
  rw [addRemove_eq_spec _ r hln hrn]
  exact spec_head k l r h

theorem diff_keys_add_head (l : List α) (x : α) (r : List α) (hl : l.Nodup) (hr : (x :: r).Nodup)
    (hx : l.contains x = false) :
    ∃ K, (addRemove l (x :: r)).map (·.2) = x :: K := by
  rw [addRemove_eq_spec l _ hl hr]
  exact spec_add_head l x r hx

omit [LawfulBEq α] in
theorem spec_keys_addsOf (l r : List α) :
    (spec l r).map (·.2) = addsOf l r none none ++ l.flatMap (fun k => k :: addsOf l r none (some k)) := by
  rw [spec_keys]; rfl

omit [LawfulBEq α] in
theorem mem_addsOf (l r : List α) (cur a : Option α) (x : α) (h : x ∈ addsOf l r cur a) :
    l.contains x = false ∧ x ∈ r := by
  unfold addsOf at h
  rw [List.mem_map] at h
  obtain ⟨p, hp, rfl⟩ := h
  exact anchors_snd_not_mem l r cur p (List.mem_filter.1 hp).1

theorem alt_flat (w : α → Bool) (l r : List α) (hc : ∀ y ∈ r, l.contains y = true → w y = false) (hr : Alt w r) :
    ∀ l1 : List α, (∀ k ∈ l1, l.contains k = true) → Alt w l1 →
      Alt w (l1.flatMap (fun k => k :: addsOf l r none (some k))) := by
  intro l1
  induction l1 with
  | nil => intro _ _; trivial
  | cons k l1 ih =>
    intro hsub h
    have ih' := ih (fun k' hk' => hsub k' (List.mem_cons_of_mem _ hk')) h.2
    rw [List.flatMap_cons]
    show Alt w (k :: (addsOf l r none (some k) ++ l1.flatMap (fun k => k :: addsOf l r none (some k))))
    refine ⟨?_, alt_append (alt_addsOf w l r none (some k) hc hr) ih'⟩
    rcases h.1 with h1 | h1
    · exact .inl h1
    · right
      by_cases hkr : k ∈ r
      · exact hw_append_left (hw_addsOf w l k (hsub k (by simp)) r none hc hr hkr (by simp))
      · rw [addsOf_not_mem l k r none hkr (by simp), List.nil_append]
        cases l1 with
        | nil => simp [hw] at h1
        | cons b l1' =>
          simp only [hw] at h1
          rw [List.flatMap_cons]
          exact h1

theorem alt_spec (w : α → Bool) (l r : List α) (hc : ∀ y ∈ r, y ∈ l → w y = false) (hl : Alt w l) (hr : Alt w r) :
    Alt w ((spec l r).map (·.2)) := by
  have hc' : ∀ y ∈ r, l.contains y = true → w y = false := fun y hy h => hc y hy (by simpa using h)
  rw [spec_keys]
  exact alt_append (alt_addsOf w l r none none hc' hr)
    (alt_flat w l r hc' hr l (fun k hk => by simpa using hk) hl)

theorem alt_addRemove (w : α → Bool) (l r : List α) (hln : l.Nodup) (hrn : r.Nodup)
    (hc : ∀ y ∈ r, y ∈ l → w y = false) (hl : Alt w l) (hr : Alt w r) :
    Alt w ((addRemove l r).map (·.2)) := by
  rw [addRemove_eq_spec l r hln hrn]
  exact alt_spec w l r hc hl hr

end spec

/- Elaborating any term against a goal `Alt w l` puts the goal into weak head normal form, which unfolds `l` as far as
   it goes (for `l = serializeEnts ref old nd` the whole serializer); from here on the shape is used through
   `alt_cons`, `alt_tail` and the preservation lemmas above. -/
attribute [irreducible] Alt

end C16R
