/-
The orchestration layer of C10 (CLModel/Compare/Projects.lean).  Every `ContentComparer` call of `compareProjects` is a run of
events through the `ObserverList` whose shape the kind of the call fixes (`CallSpec`); the two loops are a fold of `runCall` over
a list of calls that the world alone determines (`compareProjects_ok`); `sorted(set(…))` is determined by its elements.
-/
import CLModel.Compare.Projects
import CLModel.Proofs.ObsProg
import CLModel.Proofs.C10TOrder
namespace C10P
open TreeM ObsM ProjM

theorem run_nil (l : ObsList) : l.run [] = .ok l := rfl

theorem list_rv_ignore {l l' : ObsList} {cat f d rv} (h : l.notify cat f d = .ok (l', rv)) :
    (rv == .ignore) = ignList l.filters (.notify cat f d) := by
  rw [← ignList_notify, (list_notify_rv h).1, Bool.eq_iff_iff, beq_iff_eq, listRet_eq_ignore]; simp

def isFileEv : Ev → Bool
  | .notify c _ _ => c.isFile
  | .stats _ _ => false

/-- the events `ContentComparer.add` raises, given the filters of the project observers and the junk id -/
def addEvents (w : World) (flts : List (Option Filter)) (c : Call) (junk : Nat) : List Ev :=
  .notify .missingFile c.l10n .none ::
    (if ignList flts (.notify .missingFile c.l10n .none) then []
     else
       match w.parserCaps c.ref.file with
       | none => []
       | some _ =>
         match (w.parseRef c.refFull c.ref.file junk).1 with
         | .error msg => [.notify .error c.ref (.str msg)]
         | .ok nw => [.stats c.l10n [(.missing, nw.1)], .stats c.l10n [(.missing_w, nw.2)]])

/-- what `ContentComparer.compare` may do to the observers; `CompareRuns` and the `compare` case of `CallSpec` spell this
    conjunction out -/
def CallEvs (c : Call) (evs : List Ev) : Prop :=
  (∀ ev ∈ evs, (ev.file = c.l10n ∨ ev.file = c.ref) ∧ isFileEv ev = false) ∧ NoErrStats evs

/-- the contract of the INPUT `World.compareBody` (`ContentComparer.compare` behind its `getParser` gate): whatever it
    does to the observers is a sequence of notifications / stats for the two files of the call, none of them a
    `missingFile`/`obsoleteFile`, the stats without an `errors` entry -/
def CompareRuns (w : World) : Prop :=
  ∀ c junk l r, w.compareBody c junk l = .ok r →
    ∃ evs, l.run evs = .ok r.1 ∧ (∀ ev ∈ evs, (ev.file = c.l10n ∨ ev.file = c.ref) ∧ isFileEv ev = false) ∧
      NoErrStats evs

def CallSpec (w : World) (flts : List (Option Filter)) (c : Call) (es : List Ev) : Prop :=
  match c.kind with
  | .remove => es = [.notify .obsoleteFile c.l10n .none]
  | .add => ∃ junk, es = addEvents w flts c junk
  | .compare => (∀ ev ∈ es, (ev.file = c.l10n ∨ ev.file = c.ref) ∧ isFileEv ev = false) ∧ NoErrStats es

theorem mergeCopy_out (w : World) (m : Option Path) (miss : List (List Nat)) :
    ∃ printed : List Text, ∀ st st', mergeCopy w m miss st = .ok st' → st' = { st with out := st.out ++ printed } := by
  unfold mergeCopy
  cases m with
  | none => exact ⟨[], fun st st' h => by injection h with h; subst h; simp⟩
  | some mf =>
    simp only
    cases hm : Merge.merge (!mf.isEmpty) Gen.Tables.CAN_COPY [] [] miss with
    | nothing => exact ⟨[], fun st st' h => by simp only at h; injection h with h; subst h; simp⟩
    | copyRef | copyL10n | copyL10nPlus _ | written _ | typeError =>
      simp only
      cases hd : w.makeMergeDir mf with
      | some msg => exact ⟨[], fun st st' h => by simp [fail] at h⟩
      | none => exact ⟨_, fun st st' h => by simp only at h; injection h with h; exact h.symm⟩

theorem mergeCopy_obs {w : World} {m : Option Path} {miss : List (List Nat)} {st st' : St}
    (h : mergeCopy w m miss st = .ok st') : st'.obs = st.obs ∧ st'.calls = st.calls ∧ st'.junk = st.junk := by
  obtain ⟨_, hp⟩ := mergeCopy_out w m miss
  rw [hp _ _ h]
  exact ⟨rfl, rfl, rfl⟩

theorem addMerge_out (w : World) (c : Call) :
    ∃ printed : List Text, ∀ st st', addMerge w c st = .ok st' → st' = { st with out := st.out ++ printed } := by
  have hnone : ∃ printed : List Text, ∀ st st' : St, (Except.ok st : Res) = .ok st' → st' = { st with out := st.out ++ printed } :=
    ⟨[], fun st st' h => by injection h with h; subst h; simp⟩
  unfold addMerge
  simp only
  split <;> split
  · exact mergeCopy_out w c.merge triggerCopy
  · exact hnone
  · exact mergeCopy_out w c.merge triggerCopy
  · exact hnone

theorem stNotify_ok {st st' : St} {cat f d rv} (h : stNotify st cat f d = .ok (st', rv)) :
    st.obs.notify cat f d = .ok (st'.obs, rv) ∧ st'.calls = st.calls ∧ st'.junk = st.junk ∧ st'.out = st.out := by
  unfold stNotify at h
  split at h
  · cases h
  · rename_i l rv' hn
    injection h with h
    injection h with h1 h2
    subst h1; subst h2
    exact ⟨hn, rfl, rfl, rfl⟩

theorem ccRemove_run (w : World) (c : Call) : ∃ printed : List Text, ∀ st st', ccRemove w c st = .ok st' →
    st'.out = st.out ++ printed ∧ st'.calls = st.calls ∧ st'.junk = st.junk ∧
      st.obs.run [.notify .obsoleteFile c.l10n .none] = .ok st'.obs := by
  obtain ⟨printed, hp⟩ := mergeCopy_out w c.merge []
  refine ⟨printed, fun st st' h => ?_⟩
  unfold ccRemove at h
  split at h
  · cases h
  · rename_i st1 rv hn
    obtain ⟨h1, h2, h3, h4⟩ := stNotify_ok hn
    rw [hp _ _ h]
    exact ⟨by rw [h4], h2, h3, ObsList.notify_run h1⟩

/-- the junk id after `ContentComparer.add` -/
def addJunk (w : World) (flts : List (Option Filter)) (c : Call) (junk : Nat) : Nat :=
  if ignList flts (.notify .missingFile c.l10n .none) then junk
  else match w.parserCaps c.ref.file with
    | none => junk
    | some _ => (w.parseRef c.refFull c.ref.file junk).2

theorem ccAdd_run (w : World) (c : Call) : ∃ printed : List Text, ∀ st st', ccAdd w c st = .ok st' →
    st'.out = st.out ++ printed ∧ st'.calls = st.calls ∧ st'.junk = addJunk w st.obs.filters c st.junk ∧
      st.obs.run (addEvents w st.obs.filters c st.junk) = .ok st'.obs := by
  obtain ⟨printed, hp⟩ := addMerge_out w c
  refine ⟨printed, fun st st' h => ?_⟩
  unfold ccAdd at h
  split at h
  · cases h
  · rename_i st1 hm
    cases hp _ _ hm
    split at h
    · cases h
    · rename_i st2 rv hn
      obtain ⟨n1, n2, n3, n4⟩ := stNotify_ok hn
      have hign := list_rv_ignore n1
      have hrun1 := ObsList.notify_run n1
      simp only at n1 n2 n3 n4 hign hrun1
      unfold addEvents addJunk
      rw [← hign]
      split at h
      · -- ignored
        rename_i hrv
        injection h with h; subst h
        simp only [hrv, ↓reduceIte]
        exact ⟨n4, n2, n3, hrun1⟩
      · rename_i hrv
        simp only [hrv]
        split at h
        · -- no parser
          rename_i hp
          injection h with h; subst h
          simp only [hp]
          exact ⟨n4, n2, n3, hrun1⟩
        · rename_i caps hp
          simp only [hp]
          rw [n3] at h
          split at h
          · -- read error
            rename_i msg junk' hpr
            simp only [hpr]
            split at h
            · cases h
            · rename_i st3 rv3 hn3
              injection h with h; subst h
              obtain ⟨e1, e2, e3, e4⟩ := stNotify_ok hn3
              exact ⟨by rw [e4, ← n4], by rw [e2, ← n2], e3, ObsList.run_trans hrun1 (ObsList.notify_run e1)⟩
          · rename_i n words junk' hpr
            simp only [hpr]
            injection h with h; subst h
            exact ⟨n4, n2, rfl, ObsList.run_trans hrun1 (ObsList.run_trans (ObsList.stats_run _ _ _) (ObsList.stats_run _ _ _))⟩

theorem ccCompare_run {w : World} (hw : CompareRuns w) {c : Call} {st st' : St} (h : ccCompare w c st = .ok st') :
    ∃ evs, st.obs.run evs = .ok st'.obs ∧ CallEvs c evs ∧ st'.calls = st.calls := by
  unfold ccCompare at h
  split at h
  · obtain ⟨m1, m2, _⟩ := mergeCopy_obs h
    refine ⟨[], ?_, ⟨by simp, by intro ev hev; cases hev⟩, m2⟩
    rw [m1]; rfl
  · split at h
    · simp [fail] at h
    · rename_i obs printed junk hb
      injection h with h; subst h
      obtain ⟨evs, e1, e2, e3⟩ := hw c st.junk st.obs _ hb
      exact ⟨evs, e1, ⟨e2, e3⟩, rfl⟩

theorem runCall_run {w : World} (hw : CompareRuns w) {c : Call} {st st' : St} (h : runCall w c st = .ok st') :
    ∃ es, st'.calls = st.calls ++ [c] ∧ st.obs.run es = .ok st'.obs ∧ CallSpec w st.obs.filters c es := by
  unfold runCall at h
  simp only at h
  unfold CallSpec
  split at h
  · rename_i hk
    obtain ⟨_, hp⟩ := ccAdd_run w c
    obtain ⟨_, hc, _, r⟩ := hp _ _ h
    exact ⟨_, hc, r, by rw [hk]; exact ⟨_, rfl⟩⟩
  · rename_i hk
    obtain ⟨_, hp⟩ := ccRemove_run w c
    obtain ⟨_, hc, _, r⟩ := hp _ _ h
    exact ⟨_, hc, r, by rw [hk]⟩
  · rename_i hk
    obtain ⟨evs, r, sp, hc⟩ := ccCompare_run hw h
    exact ⟨evs, hc, r, by rw [hk]; exact sp⟩

def Call.item (c : Call) : Item := { l10n := c.l10nFull, ref := c.refFull, merge := c.merge, tests := c.tests }

theorem mkCall_item {w : World} {base : Path} {files : Files} {locale : Text} {it : Item} {c : Call}
    (h : mkCall w base files locale it = .ok c) :
    Call.item c = it ∧ decide3 w it = some c.kind ∧ c.l10n.locale = some locale ∧ c.ref.locale = none ∧
      c.ref.module = c.l10n.module := by
  unfold mkCall at h
  split at h
  · cases h
  · split at h
    · cases h
    · split at h
      · split at h
        · cases h
        · rename_i kind hk
          injection h with h; subst h
          exact ⟨rfl, hk, rfl, rfl, rfl⟩
      · cases h

abbrev Trace := List (Call × List Ev)

theorem clobber_ok {a : Args} {files : Files} {st st' : St} (h : clobber a files st = .ok st') : st' = st := by
  unfold clobber at h
  split at h
  · split at h
    · simp [fail] at h
    · injection h with h; exact h.symm
  · injection h with h; exact h.symm

/-- `list(files)` of the `ProjectFiles` object of a locale (nothing if the constructor raised) -/
def itemsOf (w : World) (locale : Option Text) : List Item :=
  match w.projectFiles locale with
  | .ok f => f.items
  | .error _ => []

/-- the filters of the project observers: disabled in validation mode -/
def filtersOf (projects : List Project) (a : Args) : List (Option Filter) :=
  projects.map (fun p => if a.locales.contains none then none else some p.filter)

theorem mkObservers_eq (projects : List Project) (a : Args) :
    mkObservers projects a = (filtersOf projects a).map (Obs.init a.quiet) := by
  simp [mkObservers, filtersOf, List.map_map, Function.comp_def]

theorem mkObservers_filters (projects : List Project) (a : Args) :
    (mkObservers projects a).map (·.filter) = filtersOf projects a := by
  rw [mkObservers_eq, List.map_map]
  have : ∀ fl : List (Option Filter), fl.map ((fun x => x.filter) ∘ Obs.init a.quiet) = fl := by
    intro fl
    induction fl with
    | nil => rfl
    | cons x xs ih => simp [Obs.init, ih]
  exact this _

theorem ccCompare_calls {w : World} {c : Call} {st st' : St} (h : ccCompare w c st = .ok st') :
    st'.calls = st.calls := by
  unfold ccCompare at h
  split at h
  · exact (mergeCopy_obs h).2.1
  · split at h
    · simp [fail] at h
    · injection h with h; subst h; rfl

theorem runCall_calls {w : World} {c : Call} {st st' : St} (h : runCall w c st = .ok st') :
    st'.calls = st.calls ++ [c] := by
  unfold runCall at h
  simp only at h
  split at h
  · obtain ⟨_, hp⟩ := ccAdd_run w c
    exact (hp _ _ h).2.1
  · obtain ⟨_, hp⟩ := ccRemove_run w c
    exact (hp _ _ h).2.1
  · exact ccCompare_calls h

/-- what is true of every call of a locale: it was made for an enumerated tuple, the method follows from the two
    `os.path.exists` answers, the localized `File` carries the (substituted) locale, the reference `File` none -/
def CallOK (w : World) (locale : Option Text) (c : Call) : Prop :=
  decide3 w (Call.item c) = some c.kind ∧ c.l10n.locale = some (localeAfter locale) ∧ c.ref.locale = none ∧
    c.ref.module = c.l10n.module

/- `mkCall` never reads the state: which calls a run makes is decided by the world, the base directory and the locales; only
`runCall` touches the state.  So a loop that returns from one state runs the same calls from every state from which it
returns. -/

def runCalls (w : World) : List Call → St → Res
  | [], st => .ok st
  | c :: cs, st =>
    match runCall w c st with
    | .error e => .error e
    | .ok st => runCalls w cs st

theorem runCalls_append {w : World} : ∀ {cs1 cs2 : List Call} {st st1 st2 : St},
    runCalls w cs1 st = .ok st1 → runCalls w cs2 st1 = .ok st2 → runCalls w (cs1 ++ cs2) st = .ok st2
  | [], _, _, _, _, h1, h2 => by cases h1; exact h2
  | c :: cs, _, st, _, _, h1, h2 => by
    simp only [runCalls, List.cons_append] at h1 ⊢
    split at h1
    · cases h1
    · exact runCalls_append h1 h2

theorem itemLoop_fold {w : World} (base : Path) (files : Files) :
    ∀ (items : List Item) (locale : Option Text) (st : St) (locale' : Option Text) (st' : St),
      itemLoop w base files items (locale, st) = .ok (locale', st') →
      ∃ cs : List Call, cs.map Call.item = items ∧
        (∀ c ∈ cs, CallOK w locale c ∧ mkCall w base files (localeAfter locale) (Call.item c) = .ok c) ∧
        ∀ st2 l2 st2', itemLoop w base files items (locale, st2) = .ok (l2, st2') → runCalls w cs st2 = .ok st2'
  | [], locale, st, locale', st', _ => ⟨[], rfl, by simp, fun st2 l2 st2' h => by
      simp only [itemLoop, Except.ok.injEq, Prod.mk.injEq] at h
      rw [h.2]; rfl⟩
  | it :: rest, locale, st, locale', st', h => by
    simp only [itemLoop] at h
    split at h
    · cases h
    · rename_i c hmk
      split at h
      · cases h
      · rename_i st1 hrc
        obtain ⟨i1, i2, i3, i4, i5⟩ := mkCall_item hmk
        -- the loop variable is re-assigned once: `localeAfter (some (localeAfter locale)) = localeAfter locale`
        obtain ⟨cs, t2, t3, t4⟩ := itemLoop_fold base files rest _ st1 locale' st' h
        refine ⟨c :: cs, by simp [i1, t2], ?_, ?_⟩
        · intro x hx
          rcases List.mem_cons.1 hx with rfl | hx
          · exact ⟨⟨by rw [i1]; exact i2, i3, i4, i5⟩, by rw [i1]; exact hmk⟩
          · exact t3 x hx
        · intro st2 l2 st2' h2
          simp only [itemLoop, hmk] at h2
          simp only [runCalls]
          split at h2
          · cases h2
          · rename_i s hs
            rw [hs]
            exact t4 s l2 st2' h2

/-- the arguments matter through the base directory only: `clobber` returns its state or raises -/
theorem localeLoop_fold {w : World} (a : Args) :
    ∀ (locales : List (Option Text)) (st st' : St), localeLoop w a locales st = .ok st' →
      ∃ cs : List Call, cs.map Call.item = locales.flatMap (itemsOf w) ∧
        (∀ c ∈ cs, ∃ loc ∈ locales, CallOK w loc c ∧
          ∃ files, w.projectFiles loc = .ok files ∧ mkCall w a.l10nBaseDir files (localeAfter loc) (Call.item c) = .ok c) ∧
        ∀ (a2 : Args) (st2 st2' : St), a2.l10nBaseDir = a.l10nBaseDir → localeLoop w a2 locales st2 = .ok st2' →
          runCalls w cs st2 = .ok st2'
  | [], st, st', _ => ⟨[], rfl, by simp, fun a2 st2 st2' _ h => by
      simp only [localeLoop, Except.ok.injEq] at h
      rw [h]; rfl⟩
  | locale :: rest, st, st', h => by
    simp only [localeLoop] at h
    split at h
    · simp [fail] at h
    · rename_i files hpf
      split at h
      · cases h
      · rename_i st0 hcl
        split at h
        · cases h
        · rename_i locale1 st1 hil
          obtain ⟨cs1, a2, a3, a4⟩ := itemLoop_fold a.l10nBaseDir files files.items locale st0 locale1 st1 hil
          obtain ⟨cs2, b2, b3, b4⟩ := localeLoop_fold a rest st1 st' h
          refine ⟨cs1 ++ cs2, by simp [a2, b2, itemsOf, hpf], ?_, ?_⟩
          · intro c hc
            rcases List.mem_append.1 hc with hc | hc
            · exact ⟨locale, by simp, (a3 c hc).1, files, hpf, (a3 c hc).2⟩
            · obtain ⟨loc, hl, ok⟩ := b3 c hc
              exact ⟨loc, by simp [hl], ok⟩
          · intro x s2 s2' hx h2
            simp only [localeLoop, hpf] at h2
            split at h2
            · cases h2
            · rename_i s0 hc2
              cases clobber_ok hc2
              split at h2
              · cases h2
              · rename_i l1 m1 hi2
                rw [hx] at hi2
                exact runCalls_append (a4 _ _ _ hi2) (b4 x m1 s2' hx h2)

theorem runCalls_calls {w : World} : ∀ {cs : List Call} {st st' : St}, runCalls w cs st = .ok st' →
    st'.calls = st.calls ++ cs
  | [], _, _, h => by cases h; simp
  | c :: cs, st, st', h => by
    simp only [runCalls] at h
    split at h
    · cases h
    · rename_i s hs
      rw [runCalls_calls h, runCall_calls hs]; simp

theorem compareProjects_ok {w : World} {projects : List Project} {a : Args} {junk : Nat} {st : St}
    (h : compareProjects w projects a junk = .ok st) :
    ∃ locales, sortedLocales (allLocales projects a) = .ok locales ∧
      st.calls.map Call.item = locales.flatMap (itemsOf w) ∧
      (∀ c ∈ st.calls, ∃ loc ∈ locales, CallOK w loc c ∧
        ∃ files, w.projectFiles loc = .ok files ∧ mkCall w a.l10nBaseDir files (localeAfter loc) (Call.item c) = .ok c) ∧
      runCalls w st.calls { obs := ObsList.init a.quiet (mkObservers projects a), junk := junk } = .ok st := by
  unfold compareProjects at h
  simp only at h
  split at h
  · simp [fail] at h
  · rename_i locales hs
    obtain ⟨cs, c2, c3, hf⟩ := localeLoop_fold a locales _ st h
    have hr := hf a _ _ rfl h
    have c1 : st.calls = cs := by simpa using runCalls_calls hr
    exact ⟨locales, hs, c1 ▸ c2, c1 ▸ c3, c1 ▸ hr⟩

theorem runCalls_run {w : World} (hw : CompareRuns w) : ∀ {cs : List Call} {st st' : St}, runCalls w cs st = .ok st' →
    ∃ tr : Trace, tr.map (·.1) = cs ∧ st.obs.run (tr.flatMap (·.2)) = .ok st'.obs ∧
      ∀ p ∈ tr, CallSpec w st.obs.filters p.1 p.2
  | [], _, _, h => by cases h; exact ⟨[], rfl, rfl, by simp⟩
  | c :: cs, st, st', h => by
    simp only [runCalls] at h
    split at h
    · cases h
    · rename_i s hs
      obtain ⟨es, _, c2, c3⟩ := runCall_run hw hs
      obtain ⟨tr, t1, t2, t3⟩ := runCalls_run hw h
      refine ⟨(c, es) :: tr, by simp [t1], ObsList.run_trans c2 t2, fun p hp => ?_⟩
      rcases List.mem_cons.1 hp with rfl | hp
      · exact c3
      · rw [← (ObsList.run_filters es c2).1]; exact t3 p hp

def fileEvOf (c : Call) : Option Ev :=
  match c.kind with
  | .add => some (.notify .missingFile c.l10n .none)
  | .remove => some (.notify .obsoleteFile c.l10n .none)
  | .compare => none

theorem callSpec_fileEvents {w : World} {flts : List (Option Filter)} {c : Call} {es : List Ev}
    (h : CallSpec w flts c es) : es.filter isFileEv = (fileEvOf c).toList := by
  unfold CallSpec at h
  unfold fileEvOf
  split at h
  · subst h; rename_i hk; rw [hk]; rfl
  · rename_i hk
    obtain ⟨junk, rfl⟩ := h
    rw [hk]
    unfold addEvents
    simp only [List.filter_cons, isFileEv, Cat.isFile, ↓reduceIte, Option.toList]
    congr 1
    split
    · rfl
    · split
      · rfl
      · split <;> rfl
  · rename_i hk
    rw [hk]
    exact List.filter_eq_nil_iff.2 (fun ev hev => by simp [(h.1 ev hev).2])

theorem trace_fileEvents {w : World} {flts : List (Option Filter)} :
    ∀ (tr : Trace), (∀ p ∈ tr, CallSpec w flts p.1 p.2) →
      (tr.flatMap (·.2)).filter isFileEv = tr.filterMap (fun p => fileEvOf p.1)
  | [], _ => rfl
  | p :: rest, h => by
    simp only [List.flatMap_cons, List.filter_append, List.filterMap_cons]
    rw [callSpec_fileEvents (h p (by simp)), trace_fileEvents rest (fun q hq => h q (by simp [hq]))]
    cases fileEvOf p.1 <;> rfl

theorem callSpec_noErrStats {w : World} {flts : List (Option Filter)} {c : Call} {es : List Ev}
    (h : CallSpec w flts c es) : NoErrStats es := by
  unfold CallSpec at h
  split at h
  · subst h
    intro ev hev
    simp only [List.mem_singleton] at hev
    subst hev; trivial
  · obtain ⟨junk, rfl⟩ := h
    intro ev hev
    unfold addEvents at hev
    rcases List.mem_cons.1 hev with rfl | hev
    · trivial
    · split at hev
      · cases hev
      · split at hev
        · cases hev
        · split at hev
          · simp only [List.mem_singleton] at hev
            subst hev; trivial
          · simp only [List.mem_cons, List.not_mem_nil, or_false] at hev
            rcases hev with rfl | rfl <;> (intro kv hkv; simp only [List.mem_singleton] at hkv; subst hkv; simp)
  · exact h.2

theorem trace_noErrStats {w : World} {flts : List (Option Filter)} (tr : Trace)
    (h : ∀ p ∈ tr, CallSpec w flts p.1 p.2) : NoErrStats (tr.flatMap (·.2)) := by
  intro ev hev
  obtain ⟨p, hp, hev⟩ := List.mem_flatMap.1 hev
  exact callSpec_noErrStats (h p hp) ev hev

theorem callSpec_files {w : World} {flts : List (Option Filter)} {c : Call} {es : List Ev}
    (h : CallSpec w flts c es) : ∀ ev ∈ es, ev.file = c.l10n ∨ ev.file = c.ref := by
  unfold CallSpec at h
  split at h
  · subst h
    intro ev hev
    simp only [List.mem_singleton] at hev
    subst hev; exact Or.inl rfl
  · obtain ⟨junk, rfl⟩ := h
    intro ev hev
    unfold addEvents at hev
    rcases List.mem_cons.1 hev with rfl | hev
    · exact Or.inl rfl
    · split at hev
      · cases hev
      · split at hev
        · cases hev
        · split at hev
          · simp only [List.mem_singleton] at hev
            subst hev; exact Or.inr rfl
          · simp only [List.mem_cons, List.not_mem_nil, or_false] at hev
            rcases hev with rfl | rfl <;> exact Or.inl rfl
  · exact fun ev hev => (h.1 ev hev).1


theorem report_stdout_json {h : HArgs} {cfgs : List Text} {n : Nat} {st : St} {r : HResult}
    (hj : h.json = some Gen.Cmd.jsonStdout) :
    report h cfgs n st r = { r with outcome := .returned (exitStatus h.returnZero st.obs), stdout := st.out ++ [],
                                    json := jsonData h st.obs, final := some st } := by
  unfold report
  simp [hj]

theorem report_ok {h : HArgs} {cfgs : List Text} {n : Nat} {st : St} {r : HResult} {details summaries : Text}
    (hj : h.json ≠ some Gen.Cmd.jsonStdout) (hd : serializeDetails st.obs.own = .ok details)
    (hs : serializeSummaries st.obs = .ok summaries) :
    report h cfgs n st r = { r with outcome := .returned (exitStatus h.returnZero st.obs),
                                    stdout := st.out ++ (headBlocks cfgs n details ++ [summaries]),
                                    json := jsonData h st.obs, final := some st } := by
  have hj' : (h.json == some Gen.Cmd.jsonStdout) = false := by simpa using hj
  unfold report
  simp [hj', hd, hs]

theorem report_returned {h : HArgs} {cfgs : List Text} {n : Nat} {st : St} {r : HResult} {rv : Nat}
    (hret : (report h cfgs n st r).outcome = .returned rv) :
    rv = exitStatus h.returnZero st.obs ∧ (report h cfgs n st r).final = some st ∧
      (report h cfgs n st r).json = jsonData h st.obs ∧
      ((h.json = some Gen.Cmd.jsonStdout ∧ (report h cfgs n st r).stdout = st.out) ∨
       (h.json ≠ some Gen.Cmd.jsonStdout ∧ ∃ details summaries, serializeDetails st.obs.own = .ok details ∧
          serializeSummaries st.obs = .ok summaries ∧
          (report h cfgs n st r).stdout = st.out ++ headBlocks cfgs n details ++ [summaries])) := by
  by_cases hj : h.json = some Gen.Cmd.jsonStdout
  · rw [report_stdout_json hj] at hret ⊢
    injection hret with hret
    exact ⟨hret.symm, rfl, rfl, Or.inl ⟨hj, by simp⟩⟩
  · cases hd : serializeDetails st.obs.own with
    | error e =>
      have hj' : (h.json == some Gen.Cmd.jsonStdout) = false := by simpa using hj
      unfold report at hret
      simp [hj', hd] at hret
    | ok details =>
      cases hs : serializeSummaries st.obs with
      | error e =>
        have hj' : (h.json == some Gen.Cmd.jsonStdout) = false := by simpa using hj
        unfold report at hret
        simp [hj', hd, hs] at hret
      | ok summaries =>
        rw [report_ok hj hd hs] at hret ⊢
        injection hret with hret
        exact ⟨hret.symm, rfl, rfl, Or.inr ⟨hj, details, summaries, rfl, rfl, by simp [List.append_assoc]⟩⟩

theorem handle_returned {hw : HWorld} {h : HArgs} {rv : Nat} (hret : (handle hw h).outcome = .returned rv) :
    ∃ cfgs base locales projects w st,
      extractPositionals hw.fs hw.cwd h.validate h.configPaths h.l10nBaseDir h.locales = .ok (cfgs, base, locales) ∧
      hw.loadConfigs cfgs (configEnv base h.defines) h.full locales = .ok (projects, w) ∧
      compareProjects w projects { locales := locales, l10nBaseDir := base, mergeStage := h.merge,
                                   clobberMerge := h.clobber, quiet := h.quiet } hw.junk = .ok st ∧
      handle hw h = report h cfgs projects.length st
        { outcome := .returned 0, positionals := some (cfgs, base, locales), env := configEnv base h.defines } := by
  unfold handle at hret ⊢
  split at hret
  · simp at hret
  · rename_i cfgs base locales hpos
    simp only at hret
    split at hret
    · simp at hret
    · rename_i projects w hload
      split at hret
      · simp at hret
      · simp at hret
      · rename_i st hcp
        refine ⟨cfgs, base, locales, projects, w, st, hpos, hload, hcp, ?_⟩
        simp only [hload, hcp]


theorem dropWhile_head {α : Type} (p : α → Bool) (l : List α) (b : α) (more : List α)
    (h : l.dropWhile p = b :: more) : p b = false := by
  have := List.head?_dropWhile_not p l
  rwa [h] at this

theorem dropWhile_nil {α : Type} (p : α → Bool) : ∀ (l : List α), l.dropWhile p = [] → ∀ x ∈ l, p x = true
  | [], _, _, hx => by cases hx
  | y :: ys, h, x, hx => by
    simp only [List.dropWhile_cons] at h
    split at h
    · rename_i hy
      rcases List.mem_cons.1 hx with rfl | hx
      · exact hy
      · exact dropWhile_nil p ys h x hx
    · cases h

theorem takeWhile_nil {α : Type} (p : α → Bool) : ∀ (l : List α), l.takeWhile p = [] → l ≠ [] →
    ∃ x xs, l = x :: xs ∧ p x = false
  | [], _, h => absurd rfl h
  | y :: ys, h, _ => by
    simp only [List.takeWhile_cons] at h
    split at h
    · cases h
    · rename_i hy
      exact ⟨y, ys, rfl, by simpa using hy⟩

theorem extract_ok {fs : ArgFs} {cwd : Path} {validate : Bool} {configPaths : List Text} {l10nBaseDir : Text}
    {locales cfgs : List Text} {base : Path} {locs : List (Option Text)}
    (h : extractPositionals fs cwd validate configPaths l10nBaseDir locales = .ok (cfgs, base, locs)) :
    ∃ dir rest, configPaths ++ [l10nBaseDir] ++ locales = cfgs ++ dir :: rest ∧ cfgs ≠ [] ∧
      (∀ c ∈ cfgs, fs.isdir c = false ∧ fs.isfile c = true) ∧
      fs.isdir dir = true ∧ base = abspath cwd dir ∧ locs = (if validate then [none] else rest.map some) := by
  unfold extractPositionals at h
  simp only at h
  generalize configPaths ++ [l10nBaseDir] ++ locales = all at h ⊢
  have hsplit := List.takeWhile_append_dropWhile (p := fun x => !fs.isdir x) (l := all)
  split at h
  · cases h
  · rename_i hne
    split at h
    · cases h
    · rename_i hfiles
      split at h
      · cases h
      · rename_i b more hrest
        injection h with h
        simp only [Prod.mk.injEq] at h
        obtain ⟨h1, h2, h3⟩ := h
        subst h1; subst h2; subst h3
        refine ⟨b, more, ?_, ?_, ?_, ?_, rfl, rfl⟩
        · rw [← hrest]; exact hsplit.symm
        · intro e; apply hne; simp [e]
        · intro c hc
          have hnd := List.all_eq_true.mp List.all_takeWhile c hc
          have hf := List.find?_eq_none.1 hfiles c hc
          exact ⟨by simpa using hnd, by simpa using hf⟩
        · have := dropWhile_head _ _ _ _ hrest
          simpa using this

theorem extract_err {fs : ArgFs} {cwd : Path} {validate : Bool} {configPaths : List Text} {l10nBaseDir : Text}
    {locales : List Text} {msg : Text}
    (h : extractPositionals fs cwd validate configPaths l10nBaseDir locales = .error msg) :
    (msg = fill Gen.Cmd.errNoConfig [] ∧ ∃ x xs, configPaths ++ [l10nBaseDir] ++ locales = x :: xs ∧ fs.isdir x = true) ∨
    (∃ cf ∈ (configPaths ++ [l10nBaseDir] ++ locales).takeWhile (fun x => !fs.isdir x),
      fs.isfile cf = false ∧ msg = fill Gen.Cmd.errConfigNotFound cf) ∨
    (msg = fill Gen.Cmd.errNoBase [] ∧ ∀ x ∈ configPaths ++ [l10nBaseDir] ++ locales, fs.isdir x = false) := by
  unfold extractPositionals at h
  simp only at h
  have hall : configPaths ++ [l10nBaseDir] ++ locales ≠ [] := by simp
  generalize configPaths ++ [l10nBaseDir] ++ locales = all at h hall ⊢
  split at h
  · rename_i he
    injection h with h
    left
    refine ⟨h.symm, ?_⟩
    obtain ⟨x, xs, e, hx⟩ := takeWhile_nil _ all (by simpa using he) hall
    exact ⟨x, xs, e, by simpa using hx⟩
  · split at h
    · rename_i cf hfind
      injection h with h
      right; left
      have hmem := List.mem_of_find?_eq_some hfind
      have hp := List.find?_some hfind
      exact ⟨cf, hmem, by simpa using hp, h.symm⟩
    · split at h
      · rename_i hrest
        injection h with h
        right; right
        refine ⟨h.symm, ?_⟩
        intro x hx
        have := dropWhile_nil _ all hrest x hx
        simpa using this
      · cases h

theorem mem_insertText (x : Text) : ∀ (l : List Text) (y : Text), y ∈ insertText x l ↔ y = x ∨ y ∈ l
  | [], y => by simp [insertText]
  | z :: zs, y => by
    simp only [insertText]
    split
    · rename_i h
      have : x = z := by simpa using h
      subst this
      simp
    · split
      · simp
      · simp only [List.mem_cons, mem_insertText x zs y]
        constructor
        · rintro (h | h | h)
          · exact Or.inr (Or.inl h)
          · exact Or.inl h
          · exact Or.inr (Or.inr h)
        · rintro (h | h | h)
          · exact Or.inr (Or.inl h)
          · exact Or.inl h
          · exact Or.inr (Or.inr h)

theorem mem_sortedSet (l : List Text) (y : Text) : y ∈ sortedSet l ↔ y ∈ l := by
  induction l with
  | nil => simp [sortedSet]
  | cons x xs ih =>
    simp only [sortedSet, List.foldr_cons] at ih ⊢
    rw [mem_insertText, ih]
    simp

theorem insertText_sorted (x : Text) : ∀ (l : List Text), l.Pairwise (· < ·) → (insertText x l).Pairwise (· < ·)
  | [], _ => by simp [insertText]
  | z :: zs, h => by
    simp only [insertText]
    split
    · exact h
    · rename_i hne
      have hne' : x ≠ z := by simpa using hne
      rw [List.pairwise_cons] at h
      split
      · rename_i hle
        have hxz : x < z := (List.le_iff_lt_or_eq.1 ((C10T.textLe_iff x z).1 hle)).resolve_right hne'
        exact List.pairwise_cons.2 ⟨fun b hb => (List.mem_cons.1 hb).elim (· ▸ hxz) (fun hb => List.lt_trans hxz (h.1 b hb)),
          List.pairwise_cons.2 h⟩
      · rename_i hle
        have hzx : z < x := List.not_le.1 (fun h' => hle ((C10T.textLe_iff x z).2 h'))
        exact List.pairwise_cons.2 ⟨fun b hb => ((mem_insertText x zs b).1 hb).elim (· ▸ hzx) (h.1 b),
          insertText_sorted x zs h.2⟩

theorem sortedSet_sorted (l : List Text) : (sortedSet l).Pairwise (· < ·) := by
  induction l with
  | nil => simp [sortedSet]
  | cons x xs ih =>
    simp only [sortedSet, List.foldr_cons] at ih ⊢
    exact insertText_sorted x _ ih

theorem sortedSet_congr (l l' : List Text) (h : ∀ x, x ∈ l ↔ x ∈ l') : sortedSet l = sortedSet l' :=
  Sorting.eq_of_mem_iff (fun _ _ => List.lt_asymm) (sortedSet_sorted l) (sortedSet_sorted l')
    (fun x => by rw [mem_sortedSet, mem_sortedSet, h])

theorem isEmpty_congr {α : Type} {l l' : List α} (h : ∀ x, x ∈ l ↔ x ∈ l') : l.isEmpty = l'.isEmpty := by
  cases l with
  | nil =>
    cases l' with
    | nil => rfl
    | cons b _ => exact absurd ((h b).2 List.mem_cons_self) List.not_mem_nil
  | cons a _ =>
    cases l' with
    | nil => exact absurd ((h a).1 List.mem_cons_self) List.not_mem_nil
    | cons _ _ => rfl

theorem sortedLocales_congr (l l' : List (Option Text)) (h : ∀ x, x ∈ l ↔ x ∈ l') : sortedLocales l = sortedLocales l' := by
  have hany : l.any (·.isNone) = l'.any (·.isNone) := by
    rw [Bool.eq_iff_iff]
    simp only [List.any_eq_true]
    constructor
    · rintro ⟨x, hx, hn⟩; exact ⟨x, (h x).1 hx, hn⟩
    · rintro ⟨x, hx, hn⟩; exact ⟨x, (h x).2 hx, hn⟩
  have hfm : ∀ x, x ∈ l.filterMap id ↔ x ∈ l'.filterMap id := by
    intro x
    simp only [List.mem_filterMap, id]
    constructor
    · rintro ⟨a, ha, e⟩; exact ⟨a, (h a).1 ha, e⟩
    · rintro ⟨a, ha, e⟩; exact ⟨a, (h a).2 ha, e⟩
  unfold sortedLocales
  rw [hany, isEmpty_congr hfm, sortedSet_congr _ _ hfm]

theorem sortedLocales_ok {l sorted : List (Option Text)} (h : sortedLocales l = .ok sorted) :
    (none ∉ l ∧ sorted = (sortedSet (l.filterMap id)).map some) ∨ (none ∈ l ∧ (∀ x ∈ l, x = none) ∧ sorted = [none]) := by
  unfold sortedLocales at h
  split at h
  · rename_i hn
    injection h with h
    left
    refine ⟨?_, h.symm⟩
    intro hmem
    have hany : l.any (·.isNone) = true := by
      simp only [List.any_eq_true]
      exact ⟨none, hmem, rfl⟩
    rw [hany] at hn
    cases hn
  · rename_i hn
    have hmem : none ∈ l := by
      have : l.any (·.isNone) = true := by simpa using hn
      simp only [List.any_eq_true] at this
      obtain ⟨x, hx, hxn⟩ := this
      cases x with
      | none => exact hx
      | some _ => cases hxn
    split at h
    · rename_i he
      injection h with h
      right
      refine ⟨hmem, ?_, h.symm⟩
      intro x hx
      cases x with
      | none => rfl
      | some t =>
        have : t ∈ l.filterMap id := by simp only [List.mem_filterMap, id]; exact ⟨some t, hx, rfl⟩
        rw [List.isEmpty_iff.1 he] at this
        cases this
    · cases h

end C10P
