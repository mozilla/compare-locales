/-
C03: the comparison looks at the VALUE (`val`, unescaped) of two entities, never at the raw text
(`raw_val`): composition of the loop of Compare/Pipeline.lean with the value semantics proved for C02.
In the five-format pipeline of C05, `Entry.equals` is `Pipe.entEquals cls` (key and val for every class but
Fluent's, whose `FluentEntity.equals` compares the ASTs — `C03.fluent_equals_is_erased_equality`), `count_words()` is the
field `PEnt.words` (= `Cmp.countWords val` for everything the regex parsers build, `PipeBridge.mkEnt_words`), and the
external functions `ext` are a parameter that `.properties` never consults.
-/
import CLModel.Compare.Pipeline
import CLModel.Proofs.C02Props
import CLModel.Proofs.FixPipeBridge
namespace C03V
open Pipe

theorem mkEnt_props_val (ext : Ext) (s : Array Nat) (h : Hist.Ent) (e : PEnt) (hm : mkEnt ext P.Fmt.properties s h = .ok e)
    (hj : e.junk = false) : e.val = P.propsUnescapeSpec e.raw := by
  unfold mkEnt at hm
  cases hjid : h.jid with
  | some id =>
    rw [hjid] at hm
    simp only [Except.ok.injEq] at hm
    subst hm
    simp [mkJunk] at hj
  | none =>
    rw [hjid] at hm
    simp only [P.entView, entVal] at hm
    rw [P.propsVal_eq_spec] at hm
    simp only [Except.ok.injEq] at hm
    subst hm
    rfl

theorem equal_step_by_val (env : Env) (hcls : env.cls ≠ .fluent) (ref l10n : List PEnt) (st st' : LoopSt) (k : Cmp.Key)
    (refent l10nent : PEnt)
    (hr : lookup ref k = .ok refent) (hl : lookup l10n k = .ok l10nent) (hk : Cmp.keyMatch k = false)
    (h : step env ref l10n st (.equal, k) = .ok st') :
    st'.stats = (if refent.key == l10nent.key && refent.val == l10nent.val then
        { st.stats with unchanged := st.stats.unchanged + 1, unchanged_w := st.stats.unchanged_w + refent.words }
      else { st.stats with changed := st.stats.changed + 1, changed_w := st.stats.changed_w + refent.words }) := by
  simp only [step, hr, hl, hk, Bool.false_eq_true, if_false,
    PipeBridge.entEquals_of_ne_fluent hcls] at h
  by_cases hj : refent.junk = true
  · simp [hj] at h
  · simp only [hj, Bool.false_eq_true, if_false] at h
    cases hb : (refent.key == l10nent.key && refent.val == l10nent.val) <;>
    · simp only [hb] at h
      cases hck : runChecker env.ck refent l10nent with
      | error e => simp [hck] at h
      | ok results =>
        rw [hck] at h
        simp only at h
        cases hc : checkLoop env refent l10nent results (st.obs, st.skips) with
        | error e => rw [hc] at h; cases h
        | ok r =>
          rw [hc] at h
          simp only [Except.ok.injEq] at h
          subst h
          simp

end C03V
