/-
C17: the positions `DTDChecker.check` yields (model `Dtd.check`, C07; expat's verdict on each document is a
parameter): each is of one of the kinds of `DtdPosKind` (`dtd_check_pos`, section by section of the checker).
-/
import CLModel.Checks.Dtd
import CLModel.Proofs.C17Checkers
namespace C17P
open Dtd

/-- what a position yielded by `DTDChecker.check` is:
    an `EntityPos` at a U+FFFD of `l10nEnt.all`; the pair `(0, 0)` of the warnings; the pair `errorPos` computes from
    what expat reported for one of the documents; a plain int that is 0 (number / CSS) or comes from the Android
    content checks (`extra_tests`) -/
def DtdPosKind (xmlParse : Bytes → ParseRes) (i : Inp) : Dtd.Pos → Prop
  | .entityPos q => i.l10n.all[q]? = some 0xFFFD
  | .lc l c => (l = 0 ∧ c = 0) ∨
      ∃ d line col msg, (xmlParse d).err = some (line, col, msg) ∧ errorPos i.l10n.val line col = some (l, c)
  | .num n => n = 0 ∨ i.android = true

theorem andThen_mem (a : Out) (f : Unit → Out) (r : Result) (h : r ∈ (a.andThen f).results) :
    r ∈ a.results ∨ r ∈ (f ()).results := by
  unfold Out.andThen at h
  split at h
  · exact Or.inl h
  · simp only [List.mem_append] at h
    exact h

theorem dtd_base_pos (xmlParse : Bytes → ParseRes) (i : Inp) : ∀ r ∈ Dtd.baseCheck i.l10n, DtdPosKind xmlParse i r.pos := by
  intro r hr
  simp only [Dtd.baseCheck, List.mem_map] at hr
  obtain ⟨p, hp, rfl⟩ := hr
  simpa [DtdPosKind] using Checks.mochibake_at _ p hp

theorem dtd_ref_pos (xmlParse : Bytes → ParseRes) (i : Inp) :
    ∀ r ∈ (refSection xmlParse i).results, DtdPosKind xmlParse i r.pos := by
  intro r hr
  unfold refSection at hr
  simp only at hr
  split at hr
  · simp at hr
  · split at hr
    · simp only [Out.ok, List.mem_singleton] at hr; subst hr; simp [DtdPosKind]
    · split at hr
      · simp at hr
      · split at hr
        · simp only [Out.ok, List.mem_singleton] at hr; subst hr; simp [DtdPosKind]
        · simp [Out.ok] at hr

theorem dtd_xmlError_pos (xmlParse : Bytes → ParseRes) (i : Inp) (d : Bytes) (e : Nat × Nat × Text)
    (he : (xmlParse d).err = some e) : ∀ r ∈ (xmlError i.l10n.val e).results, DtdPosKind xmlParse i r.pos := by
  intro r hr
  unfold xmlError at hr
  split at hr
  · rename_i l c hpos
    simp only [Out.ok, List.mem_singleton] at hr
    subst hr
    simp only [DtdPosKind]
    right
    exact ⟨d, e.1, e.2.1, e.2.2, he, hpos⟩
  · simp at hr

theorem dtd_l10n_pos (xmlParse : Bytes → ParseRes) (i : Inp) :
    ∀ r ∈ (l10nSection xmlParse i).1.results, DtdPosKind xmlParse i r.pos := by
  intro r hr
  unfold l10nSection at hr
  simp only at hr
  split at hr
  · simp at hr
  · rename_i d3 _
    split at hr
    · rename_i e he
      exact dtd_xmlError_pos xmlParse i d3 e he r hr
    · split at hr
      · simp at hr
      · rename_i d4 _
        split at hr
        · rename_i e he
          exact dtd_xmlError_pos xmlParse i d4 e he r hr
        · simp [Out.ok] at hr

theorem dtd_style_pos (refMap : List (Text × Text)) (lm : Option (List (Text × Text))) (errs : Option (List CssErr)) :
    ∀ r ∈ checkStyle refMap lm errs, r.pos = .num 0 := by
  intro r hr
  unfold checkStyle at hr
  split at hr
  · simp only [List.mem_singleton] at hr; subst hr; rfl
  · simp only [List.mem_singleton] at hr; subst hr; rfl
  · split at hr
    · simp only [List.mem_singleton] at hr; subst hr; rfl
    · simp only at hr
      split at hr
      · simp only [List.mem_singleton] at hr; subst hr; rfl
      · simp at hr

theorem dtd_maybeStyle_pos (a b : Text) : ∀ r ∈ maybeStyle a b, r.pos = .num 0 := by
  intro r hr
  unfold maybeStyle at hr
  split at hr
  · simp at hr
  · simp at hr
  · exact dtd_style_pos _ _ _ r hr

theorem dtd_android_pos (v : Text) : ∀ r ∈ (androidSection v).results, ∃ n, r.pos = .num n := by
  intro r hr
  unfold androidSection at hr
  rcases andThen_mem _ _ r hr with h | h
  · split at h
    · simp [Out.ok] at h
    · simp only [Out.ok, List.mem_singleton] at h; subst h; exact ⟨_, rfl⟩
    · simp at h
    · simp at h
  · simp only [Out.ok, List.mem_filterMap] at h
    obtain ⟨m, _, hm⟩ := h
    split at hm
    · split at hm
      · simp only [Option.some.injEq] at hm; subst hm; exact ⟨_, rfl⟩
      · cases hm
    · cases hm

theorem dtd_check_pos (xmlParse : Bytes → ParseRes) (i : Inp) :
    ∀ r ∈ (Dtd.check xmlParse i).results, DtdPosKind xmlParse i r.pos := by
  intro r hr
  unfold Dtd.check at hr
  rcases andThen_mem _ _ r hr with h | h
  · exact dtd_base_pos xmlParse i r (by simpa [Out.ok] using h)
  · rcases andThen_mem _ _ r h with h | h
    · exact dtd_ref_pos xmlParse i r h
    · simp only at h
      rcases andThen_mem _ _ r h with h | h
      · exact dtd_l10n_pos xmlParse i r h
      · rcases andThen_mem _ _ r h with h | h
        · simp only [Out.ok, List.mem_append] at h
          rcases h with (((h | h) | h) | h) | h
          · simp only [unknownSection, List.mem_map] at h
            obtain ⟨k, _, rfl⟩ := h
            simp [unknownWarning, DtdPosKind]
          · unfold mismatchSection at h
            simp only at h
            split at h
            · simp only [List.mem_map] at h
              obtain ⟨k, _, rfl⟩ := h
              simp [DtdPosKind]
            · simp at h
          · unfold numberSection at h
            split at h
            · simp only [List.mem_singleton] at h; subst h; simp [DtdPosKind]
            · simp at h
          · unfold lengthSection at h
            split at h
            · simp only [List.mem_singleton] at h; subst h; simp [DtdPosKind]
            · simp at h
          · rw [dtd_maybeStyle_pos _ _ r h]; simp [DtdPosKind]
        · split at h
          · rename_i ha
            obtain ⟨n, hn⟩ := dtd_android_pos _ r h
            rw [hn]
            exact Or.inr ha
          · simp [Out.ok] at h

end C17P
