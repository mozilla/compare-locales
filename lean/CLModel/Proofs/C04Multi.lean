/- C04, several cuts: the l10n text as a sequence of kept and cut pieces; `skips` may arrive in ANY order
   (`skips.sort(key=lambda s: s.span[0])` puts them in file order), the chunk loop then writes exactly the kept pieces. -/
import CLModel.Compare.Merge
import CLModel.Proofs.Sorting
namespace C04M
open Merge

inductive Pc
  | keep (t : List Nat)
  | cut (x : List Nat) (junk : Bool) (refAll : List Nat)

/-- the text of the l10n file -/
def pcText : List Pc → List Nat
  | [] => []
  | .keep t :: r => t ++ pcText r
  | .cut x _ _ :: r => x ++ pcText r

/-- what must remain of it -/
def pcKept : List Pc → List Nat
  | [] => []
  | .keep t :: r => t ++ pcKept r
  | .cut _ _ _ :: r => pcKept r

/-- the skips in file order, the first piece starting at `off` -/
def pcSkips (off : Nat) : List Pc → List Skip
  | [] => []
  | .keep t :: r => pcSkips (off + t.length) r
  | .cut x j ra :: r => { span := some (off, off + x.length), junk := j, refAll := ra } :: pcSkips (off + x.length) r

def CutsNonempty (pcs : List Pc) : Prop := ∀ x j ra, Pc.cut x j ra ∈ pcs → x ≠ []

theorem pcText_append (a b : List Pc) : pcText (a ++ b) = pcText a ++ pcText b := by
  induction a with
  | nil => rfl
  | cons p a ih => cases p <;> simp [pcText, ih]

theorem pcKept_append (a b : List Pc) : pcKept (a ++ b) = pcKept a ++ pcKept b := by
  induction a with
  | nil => rfl
  | cons p a ih => cases p <;> simp [pcKept, ih]

theorem pcSkips_append (a b : List Pc) : ∀ off, pcSkips off (a ++ b) = pcSkips off a ++ pcSkips (off + (pcText a).length) b := by
  induction a with
  | nil => intro off; simp [pcSkips, pcText]
  | cons p a ih =>
    intro off
    cases p with
    | keep t => simp [pcSkips, pcText, ih, Nat.add_assoc]
    | cut x j ra => simp [pcSkips, pcText, ih, Nat.add_assoc]

theorem chunks_pcs : ∀ (pcs : List Pc) (pre mid : List Nat),
    chunks (pre ++ (mid ++ pcText pcs)) (pcSkips (pre.length + mid.length) pcs) (some pre.length) = mid ++ pcKept pcs
  | [], pre, mid => by simp [chunks, pcSkips, pcText, pcKept]
  | .keep t :: r, pre, mid => by
    have ih := chunks_pcs r pre (mid ++ t)
    simp only [pcSkips, pcText, pcKept]
    rw [show pre.length + mid.length + t.length = pre.length + (mid ++ t).length by simp; omega]
    rw [show pre ++ (mid ++ (t ++ pcText r)) = pre ++ ((mid ++ t) ++ pcText r) by simp, ih]
    simp
  | .cut x j ra :: r, pre, mid => by
    have ih := chunks_pcs r (pre ++ (mid ++ x)) []
    simp only [pcSkips, pcText, pcKept, chunks]
    rw [List.drop_left' rfl, show pre.length + mid.length - pre.length = mid.length by omega, List.take_left' rfl]
    have e1 : pre ++ (mid ++ (x ++ pcText r)) = (pre ++ (mid ++ x)) ++ ([] ++ pcText r) := by simp
    have e2 : pre.length + mid.length + x.length = (pre ++ (mid ++ x)).length + ([] : List Nat).length := by
      simp; omega
    rw [e1, e2]
    rw [show (pre ++ (mid ++ x)).length + ([] : List Nat).length = (pre ++ (mid ++ x)).length by simp] at ih ⊢
    rw [show chunks (pre ++ (mid ++ x) ++ ([] ++ pcText r)) (pcSkips (pre ++ (mid ++ x)).length r)
        (some (pre ++ (mid ++ x)).length) = [] ++ pcKept r from by simpa using ih]
    simp

theorem chunks_none_eq (contents : List Nat) (skips : List Skip) :
    chunks contents skips none = chunks contents skips (some 0) := by
  cases skips <;> simp [chunks]

theorem chunks_pieces (pcs : List Pc) : chunks (pcText pcs) (pcSkips 0 pcs) none = pcKept pcs := by
  rw [chunks_none_eq]
  simpa using chunks_pcs pcs [] []

/-- the sort key `s.span[0]` -/
def skey (s : Skip) : Nat := match s.span with | some (a, _) => a | none => 0

theorem pcSkips_lb : ∀ (pcs : List Pc) (off : Nat) (sk : Skip), sk ∈ pcSkips off pcs → off ≤ skey sk ∧ sk.span.isSome = true
  | [], _, _, h => by simp [pcSkips] at h
  | .keep t :: r, off, sk, h => by
    have := pcSkips_lb r (off + t.length) sk (by simpa [pcSkips] using h)
    exact ⟨by omega, this.2⟩
  | .cut x j ra :: r, off, sk, h => by
    simp only [pcSkips, List.mem_cons] at h
    rcases h with e | e
    · subst e; simp [skey]
    · have := pcSkips_lb r (off + x.length) sk e
      exact ⟨by omega, this.2⟩

theorem pcSkips_sorted : ∀ (pcs : List Pc) (off : Nat), CutsNonempty pcs →
    (pcSkips off pcs).Pairwise (fun a b => skey a < skey b)
  | [], _, _ => by simp [pcSkips]
  | .keep t :: r, off, h => by
    simp only [pcSkips]
    exact pcSkips_sorted r _ (fun x j ra hm => h x j ra (by simp [hm]))
  | .cut x j ra :: r, off, h => by
    simp only [pcSkips, List.pairwise_cons]
    have hx : 0 < x.length := List.length_pos_iff.mpr (h x j ra (by simp))
    refine ⟨?_, pcSkips_sorted r _ (fun x j ra hm => h x j ra (by simp [hm]))⟩
    intro sk hsk
    have := (pcSkips_lb r _ sk hsk).1
    have e : skey ({ span := some (off, off + x.length), junk := j, refAll := ra } : Skip) = off := rfl
    rw [e]
    omega

theorem insertSorted_eq (x : Skip) (k : Nat) :
    ∀ acc, insertSorted x k acc = Sorting.ins (fun p q => decide (p.2 < q.2)) (x, k) acc
  | [] => rfl
  | (y, ky) :: rest => by simp only [insertSorted, Sorting.ins, insertSorted_eq x k rest, decide_eq_true_eq]

/-- unless it raises, `skips.sort(key=…)` is the stable sort by span start: each skip goes behind those already there
    that start no later (the loop runs from the left, so it is the reversed list that `Sorting.sort` is given) -/
theorem sortSkips_eq (skips : List Skip) (h : skips.all (fun s => s.span.isSome) = true) :
    sortSkips skips = some (Sorting.sort (fun a b => decide (skey a < skey b)) skips.reverse) := by
  match skips with
  | [] => rfl
  | [x] => rfl
  | x :: y :: r =>
    simp only [sortSkips, h, if_true, insertSorted_eq]
    show some (((x :: y :: r).foldl (fun acc s =>
      Sorting.ins (fun p q => decide (p.2 < q.2)) ((fun s => (s, skey s)) s) acc) []).map (·.1)) = _
    rw [← List.foldl_map (g := fun acc p => Sorting.ins _ p acc), Sorting.foldl_ins, ← List.map_reverse,
      Sorting.sort_map (le := fun a b => decide (skey a < skey b)) _ (fun _ _ => rfl), List.map_map]
    exact congrArg some (List.map_id _)

theorem sortSkips_perm (sorted perm : List Skip) (hs : sorted.Pairwise (fun a b => skey a < skey b))
    (hall : ∀ s ∈ sorted, s.span.isSome = true) (hp : perm.Perm sorted) : sortSkips perm = some sorted := by
  have hp' := (List.reverse_perm perm).trans hp
  rw [sortSkips_eq perm (List.all_eq_true.2 fun s h => hall s (hp.subset h))]
  refine congrArg some (Sorting.sort_eq_of_perm (R := fun a b => skey a ≤ skey b) (fun _ _ _ => Nat.le_trans) ?_
    (List.pairwise_of_forall fun a b => by split <;> simp_all <;> omega) hp' (hs.imp Nat.le_of_lt))
  -- different elements of `sorted` have different keys
  intro a b ha hb h1 h2
  exact List.Pairwise.forall_of_forall_of_flip (R := fun a b => skey a = skey b → a = b) (fun _ _ _ => rfl)
    (hs.imp fun h e => absurd e (Nat.ne_of_lt h)) (hs.imp fun h e => absurd e.symm (Nat.ne_of_lt h))
    (hp'.subset ha) (hp'.subset hb) (Nat.le_antisymm h1 h2)

theorem pcSkips_nil_kept : ∀ (pcs : List Pc) (off : Nat), pcSkips off pcs = [] → pcKept pcs = pcText pcs
  | [], _, _ => rfl
  | .keep t :: r, off, h => by
    simp only [pcSkips] at h
    simp [pcKept, pcText, pcSkips_nil_kept r _ h]
  | .cut x j ra :: r, off, h => by simp [pcSkips] at h

theorem sortSkips_pieces (pcs : List Pc) (perm : List Skip) (hc : CutsNonempty pcs) (hp : perm.Perm (pcSkips 0 pcs)) :
    sortSkips perm = some (pcSkips 0 pcs) :=
  sortSkips_perm _ _ (pcSkips_sorted pcs 0 hc) (fun s h => (pcSkips_lb pcs 0 s h).2) hp

/-- skips whose spans are all `(0, 0)` (Android junk) cut nothing -/
theorem chunks_zero_spans (contents : List Nat) : ∀ (sorted : List Skip), (∀ s ∈ sorted, s.span = some (0, 0)) →
    chunks contents sorted (some 0) = contents
  | [], _ => by simp [chunks]
  | s :: rest, h => by
    have hs := h s (by simp)
    simp only [chunks, hs]
    simpa using chunks_zero_spans contents rest (fun s hs => h s (by simp [hs]))

open Gen.Tables in
theorem merge_skips_merge (contents : List Nat) (sk : Skip) (skips : List Skip) (ms : List (List Nat))
    (sorted : List Skip) (hs : sortSkips (sk :: skips) = some sorted) :
    merge true (CAN_SKIP + CAN_MERGE) contents (sk :: skips) ms =
      .written (chunks contents sorted none ++ trailing ms sorted) := by
  simp [merge, hasCap, CAN_SKIP, CAN_MERGE, CAN_COPY, CAN_NONE, hs]

open Gen.Tables in
theorem merge_skips_only (contents : List Nat) (sk : Skip) (skips : List Skip) (ms : List (List Nat))
    (sorted : List Skip) (hs : sortSkips (sk :: skips) = some sorted) :
    merge true CAN_SKIP contents (sk :: skips) ms = .written (chunks contents sorted none) := by
  simp [merge, hasCap, CAN_SKIP, CAN_MERGE, CAN_COPY, CAN_NONE, hs]

open Gen.Tables in
theorem merge_append (contents : List Nat) (m : List Nat) (ms : List (List Nat)) :
    merge true (CAN_SKIP + CAN_MERGE) contents [] (m :: ms) = .copyL10nPlus (trailing (m :: ms) []) := by
  simp [merge, hasCap, CAN_SKIP, CAN_MERGE, CAN_COPY, CAN_NONE]

open Gen.Tables in
theorem merge_cuts (pcs : List Pc) (perm : List Skip) (ms : List (List Nat))
    (hc : CutsNonempty pcs) (hp : perm.Perm (pcSkips 0 pcs)) (hne : perm ≠ []) :
    merge true (CAN_SKIP + CAN_MERGE) (pcText pcs) perm ms = .written (pcKept pcs ++ trailing ms (pcSkips 0 pcs)) ∧
    merge true CAN_SKIP (pcText pcs) perm ms = .written (pcKept pcs) := by
  have hs := sortSkips_pieces pcs perm hc hp
  obtain ⟨sk, rest, rfl⟩ := List.exists_cons_of_ne_nil hne
  exact ⟨by rw [merge_skips_merge _ sk rest ms _ hs, chunks_pieces], by rw [merge_skips_only _ sk rest ms _ hs, chunks_pieces]⟩

theorem sortSkips_none_iff (skips : List Skip) :
    sortSkips skips = none ↔ 2 ≤ skips.length ∧ ∃ s ∈ skips, s.span = none := by
  match skips with
  | [] => simp [sortSkips]
  | [x] => simp [sortSkips]
  | x :: y :: r =>
    by_cases h : (x :: y :: r).all (fun s => s.span.isSome) = true
    · refine ⟨fun hn => by simp [sortSkips, h] at hn, fun ⟨_, s, hs, hn⟩ => ?_⟩
      have := List.all_eq_true.1 h s hs
      simp [hn] at this
    · obtain ⟨s, hs, hn⟩ := List.all_eq_false.1 (Bool.not_eq_true _ ▸ h)
      exact ⟨fun _ => ⟨by simp, s, hs, by simpa using hn⟩, fun _ => by simp [sortSkips, h]⟩

open Gen.Tables in
theorem merge_typeError_iff (mf : Bool) (caps : Nat) (contents : List Nat) (skips : List Skip) (ms : List (List Nat)) :
    merge mf caps contents skips ms = .typeError ↔
      (mf = true ∧ caps ≠ CAN_NONE ∧ hasCap caps CAN_COPY = false ∧ hasCap caps CAN_SKIP = true) ∧
        sortSkips skips = none := by
  unfold merge
  cases mf
  · simp
  by_cases h2 : caps = CAN_NONE
  · simp [h2]
  cases h3 : hasCap caps CAN_COPY
  case true => simp [h2]; split <;> simp
  cases h4 : hasCap caps CAN_SKIP
  · simp [h2]
  cases skips with
  | nil => simp [h2, sortSkips]; repeat' split
           all_goals simp
  | cons s r =>
    cases hs : sortSkips (s :: r) with
    | none => simp [h2]
    | some sorted =>
      simp [h2]
      repeat' split
      all_goals simp

theorem merge_ne_typeError {mf : Bool} {caps : Nat} {contents : List Nat} {skips : List Skip} {ms : List (List Nat)}
    (h : ∀ s ∈ skips, s.span.isSome) : merge mf caps contents skips ms ≠ .typeError := fun he =>
  have ⟨_, s, hs, hn⟩ := (sortSkips_none_iff skips).1 ((merge_typeError_iff ..).1 he).2
  by simpa [hn] using h s hs

end C04M
