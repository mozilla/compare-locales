/- Matcher equality (`__eq__`): structural equality of patterns, environments that bind the same names behave alike;
   and what `concat` builds: `str` and `prefix` of the result are those of the parts, joined. -/
import CLModel.Paths.MatcherX
import CLModel.Proofs.C11RExt
import CLModel.Proofs.C11Witness
namespace C11E
open PM

theorem node_eq_iff (a b : Node) : Node.eq a b = true ↔ a = b := by
  cases a <;> cases b <;> simp [Node.eq]

theorem nodesEq_iff : ∀ (a b : List Node), nodesEq a b = true ↔ a = b
  | [], [] => by simp [nodesEq]
  | [], _ :: _ => by simp [nodesEq]
  | _ :: _, [] => by simp [nodesEq]
  | x :: xs, y :: ys => by simp [nodesEq, node_eq_iff, nodesEq_iff xs ys]

theorem pattern_eq_iff (a b : Pattern) : Pattern.eq a b = true ↔ a = b := by
  cases a with
  | mk n1 r1 p1 =>
  cases b with
  | mk n2 r2 p2 =>
  simp only [Pattern.eq, Pattern.mk.injEq]
  cases hn : nodesEq n1 n2 with
  | false =>
    have : n1 ≠ n2 := fun e => by
      have := (nodesEq_iff _ _).mpr e
      rw [this] at hn; cases hn
    simp [this]
  | true =>
    have := (nodesEq_iff _ _).mp hn
    simp [this]

theorem val_eq_iff (a b : Val) : Val.eq a b = true ↔ a = b := by
  cases a <;> cases b <;> simp [Val.eq, pattern_eq_iff]

/-- same lookups, same keys up to order (two dicts with the same items, inserted in any order) -/
def EnvEq (e e' : Env) : Prop := (∀ k, e.lookup k = e'.lookup k) ∧ (e.map (·.1)).Perm (e'.map (·.1))

theorem EnvEq.refl (e : Env) : EnvEq e e := ⟨fun _ => rfl, List.Perm.refl _⟩

theorem EnvEq.length {e e' : Env} (h : EnvEq e e') : e.length = e'.length := by
  simpa using h.2.length_eq

theorem EnvEq.fuel {e e' : Env} (h : EnvEq e e') : fuelFor e = fuelFor e' := by
  simp [fuelFor, h.length]

theorem derase_keys (e : Env) (k : Text) : (derase e k).map (·.1) = (e.map (·.1)).filter (fun x => !(x == k)) := by
  induction e with
  | nil => rfl
  | cons p t ih =>
    simp only [derase, List.filter_cons, List.map_cons] at ih ⊢
    split <;> simp_all

theorem EnvEq.derase {e e' : Env} (h : EnvEq e e') (k : Text) : EnvEq (derase e k) (derase e' k) := by
  refine ⟨fun k' => ?_, ?_⟩
  · cases hk : (k' == k) with
    | true =>
      have : k' = k := by simpa using hk
      subst this
      rw [lookup_derase_self, lookup_derase_self]
    | false => rw [lookup_derase_ne k k' hk, lookup_derase_ne k k' hk]; exact h.1 k'
  · rw [derase_keys, derase_keys]
    exact h.2.filter _

def CongE (rec : ExpRec) : Prop := ∀ v e e' rm, EnvEq e e' → rec v e rm = rec v e' rm

theorem getAndroidLocale_congr {rec : ExpRec} (hr : CongE rec) {e e' : Env} (h : EnvEq e e') :
    getAndroidLocale rec e = getAndroidLocale rec e' := by
  unfold getAndroidLocale
  rw [h.1 localeName]
  split
  · rfl
  · rw [hr _ _ _ _ (h.derase androidName)]

theorem expandNode_congr {rec : ExpRec} (hr : CongE rec) {e e' : Env} (h : EnvEq e e') (n : Node) (rm : Bool) :
    expandNode rec n e rm = expandNode rec n e' rm := by
  cases n with
  | lit s => rfl
  | var name rep =>
    simp only [expandNode, h.1 name]
    split
    · rfl
    · exact hr _ _ _ _ (h.derase name)
  | android rep => simp only [expandNode, getAndroidLocale_congr hr h]
  | star n => simp only [expandNode, h.1 (sname n)]
  | starstar n sfx => simp only [expandNode, h.1 (sname n)]

theorem expandChildren_congr {rec : ExpRec} (hr : CongE rec) {e e' : Env} (h : EnvEq e e') (rm : Bool) :
    ∀ ns : List Node, expandChildren rec ns e rm = expandChildren rec ns e' rm
  | [] => rfl
  | c :: cs => by
    simp only [expandChildren, expandNode_congr hr h c true, expandChildren_congr hr h rm cs]

theorem rootOf_congr {rec : ExpRec} (hr : CongE rec) {e e' : Env} (h : EnvEq e e') (p : Pattern) :
    rootOf rec p e = rootOf rec p e' := by
  unfold rootOf
  split
  · rfl
  · split
    · rfl
    · rw [expandNode_congr hr h]

theorem expandPat_congr {rec : ExpRec} (hr : CongE rec) {e e' : Env} (h : EnvEq e e') (p : Pattern) (rm : Bool) :
    expandPat rec p e rm = expandPat rec p e' rm := by
  simp only [expandPat, rootOf_congr hr h, expandChildren_congr hr h]

theorem expandVal_congr : ∀ f, CongE (expandVal f)
  | 0 => by intro v e e' rm _; cases v <;> rfl
  | f + 1 => by
    intro v e e' rm h
    cases v with
    | str s => rfl
    | pat p => exact expandPat_congr (expandVal_congr f) h p rm

theorem expandTop_congr {e e' : Env} (h : EnvEq e e') (p : Pattern) : expandTop p e = expandTop p e' := by
  unfold expandTop
  rw [h.fuel]
  exact expandPat_congr (expandVal_congr _) h p false

def CongR (rec : RxRec) : Prop := ∀ v e e', EnvEq e e' → rec v e = rec v e'

theorem rxNode_congr {rec : RxRec} (hr : CongR rec) {e e' : Env} (h : EnvEq e e') (n : Node) :
    rxNode rec n e = rxNode rec n e' := by
  cases n with
  | lit s => rfl
  | var name rep =>
    simp only [rxNode, h.1 name]
    split
    · rfl
    · split
      · rw [hr _ _ _ (h.derase name)]
      · rfl
  | android rep =>
    simp only [rxNode, h.fuel, getAndroidLocale_congr (expandVal_congr _) h]
  | star n => rfl
  | starstar n sfx => rfl

theorem rxChildren_congr {rec : RxRec} (hr : CongR rec) {e e' : Env} (h : EnvEq e e') :
    ∀ ns : List Node, rxChildren rec ns e = rxChildren rec ns e'
  | [] => rfl
  | c :: cs => by simp only [rxChildren, rxNode_congr hr h c, rxChildren_congr hr h cs]

theorem rxPat_congr {rec : RxRec} (hr : CongR rec) {e e' : Env} (h : EnvEq e e') (p : Pattern) :
    rxPat rec p e = rxPat rec p e' := by
  simp only [rxPat, h.fuel, rootOf_congr (expandVal_congr _) h, rxChildren_congr hr h]

theorem rxVal_congr : ∀ f, CongR (rxVal f)
  | 0 => by intro v e e' _; cases v <;> rfl
  | f + 1 => by
    intro v e e' h
    cases v with
    | str s => rfl
    | pat p => exact rxPat_congr (rxVal_congr f) h p

theorem behave_congr {a b : Matcher} (hp : a.pattern = b.pattern) (h : EnvEq a.env b.env) :
    a.regexOf = b.regexOf ∧ (∀ path, a.match path = b.match path) ∧ a.prefix = b.prefix ∧ a.str = b.str ∧
    (∀ (o : Matcher) path, a.sub o path = b.sub o path) := by
  have hre : a.regexOf = b.regexOf := by
    simp only [Matcher.regexOf, hp, h.fuel, rxPat_congr (rxVal_congr _) h]
  have hm : ∀ path, a.match path = b.match path := fun path => by simp only [Matcher.match, hre]
  refine ⟨hre, hm, ?_, ?_, ?_⟩
  · simp only [Matcher.prefix, Matcher.prefixPattern, hp, expandTop_congr h]
  · simp only [Matcher.str, hp, expandTop_congr h]
  · intro o path; simp only [Matcher.sub, hm]

theorem lookup_some_of_mem_keys {β} {k : Text} {l : List (Text × β)} (h : k ∈ l.map (·.1)) : ∃ v, l.lookup k = some v :=
  Option.isSome_iff_exists.1 (AR.lookup_eq_dget l k ▸ AR.dget_isSome_iff.2 h)

theorem mem_keys_of_lookup {β} {k : Text} {v : β} {l : List (Text × β)} (h : l.lookup k = some v) : k ∈ l.map (·.1) :=
  List.mem_map.mpr ⟨(k, v), AR.lookup_mem h, rfl⟩

theorem lookup_of_mem_keysOnce {β} {l : List (Text × β)} {k : Text} {v : β} (hk : KeysOnce l) (h : (k, v) ∈ l) :
    l.lookup k = some v :=
  (AR.lookup_eq_dget l k).trans (AR.dget_of_mem hk.nodup h)

theorem eq_iff (a b : Matcher) : Matcher.eq a b = true ↔
    a.pattern = b.pattern ∧ (a.env ≠ [] → b.env ≠ [] → ∀ k v v', (k, v) ∈ a.env → b.env.lookup k = some v' → v = v') := by
  unfold Matcher.eq Pattern.ne
  cases hq : Pattern.eq a.pattern b.pattern with
  | false =>
    have hp : a.pattern ≠ b.pattern := fun e => by rw [(pattern_eq_iff _ _).mpr e] at hq; cases hq
    simp [hp]
  | true =>
    simp only [(pattern_eq_iff _ _).mp hq, Bool.not_true, Bool.false_eq_true, if_false, true_and]
    split
    · rename_i hne
      simp only [Bool.and_eq_true, Bool.not_eq_true', List.isEmpty_eq_false_iff] at hne
      simp only [List.all_eq_true]
      constructor
      · intro h _ _ k v v' hm hl
        have := h (k, v) hm
        simp only [hl] at this
        exact (val_eq_iff _ _).mp this
      · intro h kv hm
        split
        · rfl
        · rename_i v' hl
          exact (val_eq_iff _ _).mpr (h hne.1 hne.2 kv.1 kv.2 v' hm hl)
    · rename_i hne
      simp only [Bool.and_eq_true, Bool.not_eq_true', List.isEmpty_eq_false_iff, not_and] at hne
      exact ⟨fun _ ha hb => absurd hb (hne ha), fun _ => rfl⟩

theorem envEq_of_eq {a b : Matcher} (h : Matcher.eq a b = true) (hk : (a.env.map (·.1)).Perm (b.env.map (·.1))) :
    a.pattern = b.pattern ∧ EnvEq a.env b.env := by
  obtain ⟨hp, he⟩ := (eq_iff a b).mp h
  refine ⟨hp, fun k => ?_, hk⟩
  cases hl : a.env.lookup k with
  | none =>
    cases hl' : b.env.lookup k with
    | none => rfl
    | some v' =>
      obtain ⟨v, hv⟩ := lookup_some_of_mem_keys (hk.symm.subset (mem_keys_of_lookup hl'))
      rw [hl] at hv; cases hv
  | some v =>
    obtain ⟨v', hv'⟩ := lookup_some_of_mem_keys (hk.subset (mem_keys_of_lookup hl))
    have hae : a.env ≠ [] := fun e => by rw [e] at hl; cases hl
    have hbe : b.env ≠ [] := fun e => by rw [e] at hv'; cases hv'
    rw [hv', he hae hbe k v v' (AR.lookup_mem hl) hv']

/-- `hk`: an environment is a dict -/
theorem eq_refl (a : Matcher) (hk : KeysOnce a.env) : Matcher.eq a a = true :=
  (eq_iff a a).mpr ⟨rfl, fun _ _ _ _ _ hm hl => Option.some.inj ((lookup_of_mem_keysOnce hk hm).symm.trans hl)⟩

theorem eq_symm {a b : Matcher} (hb : KeysOnce b.env) (h : Matcher.eq a b = true) : Matcher.eq b a = true := by
  obtain ⟨hp, he⟩ := (eq_iff a b).mp h
  exact (eq_iff b a).mpr ⟨hp.symm, fun hbe hae k v v' hm hl =>
    (he hae hbe k v' v (AR.lookup_mem hl) (lookup_of_mem_keysOnce hb hm)).symm⟩

theorem ne_iff (a b : Matcher) : Matcher.ne a b = !Matcher.eq a b := rfl

def eqOutcome (pa : String) (enva : List (String × String)) (pb : String) (envb : List (String × String)) : Option Bool :=
  match matcherOf pa enva none, matcherOf pb envb none with
  | .ok a, .ok b => some (Matcher.eq a b)
  | _, _ => none

theorem expandChildren_append {rec : ExpRec} {env : Env} {rm : Bool} : ∀ (a b : List Node) (ta : Text),
    expandChildren rec a env true = .ok ta →
    expandChildren rec (a ++ b) env rm = (expandChildren rec b env rm).map (fun tb => ta ++ tb)
  | [], b, ta, h => by
    simp only [expandChildren, pure, Except.pure, Except.ok.injEq] at h
    subst h
    simp only [List.nil_append]
    cases expandChildren rec b env rm <;> rfl
  | c :: cs, b, ta, h => by
    simp only [List.cons_append, expandChildren] at h ⊢
    cases hc : expandNode rec c env true with
    | error e =>
      rw [hc] at h
      cases e <;> simp at h
      all_goals (split at h <;> cases h)
    | ok s =>
      rw [hc] at h
      simp only [bind, Except.bind] at h ⊢
      cases hcs : expandChildren rec cs env true with
      | error e => simp [hcs] at h
      | ok tcs =>
        simp only [hcs, pure, Except.pure, Except.ok.injEq] at h
        subst h
        rw [expandChildren_append cs b tcs hcs]
        cases expandChildren rec b env rm <;> simp [Except.map, pure, Except.pure, List.append_assoc]

theorem dupdate_nil {β} (d : List (Text × β)) : dupdate d [] = d := rfl

theorem concat_inv {a r : Matcher} {o : ConcatArg} (h : a.concat o = .ok r) :
    ∃ om : Matcher, o.toMatcher = .ok om ∧
      om.pattern.root = none ∧ r.pattern.nodes = a.pattern.nodes ++ om.pattern.nodes ∧ r.pattern.root = a.pattern.root ∧
      r.env = dupdate a.env om.env ∧
      r.pattern.prefixLen = (if a.pattern.prefixLen == a.pattern.nodes.length then a.pattern.prefixLen + om.pattern.prefixLen
        else a.pattern.prefixLen) := by
  unfold Matcher.concat at h
  simp only [bind, Except.bind] at h
  cases hm : o.toMatcher with
  | error e => simp [hm, liftX] at h
  | ok om =>
    simp only [hm, liftX, pure, Except.pure] at h
    split at h
    · cases h
    · rename_i hr
      simp only [Except.ok.injEq] at h
      subst h
      exact ⟨om, rfl, by simpa using hr, rfl, rfl, rfl, rfl⟩

theorem expandTop_append {a q : Pattern} {env : Env} {tl : List Node} {sa : Text} (hr : q.root = a.root)
    (hne : a.nodes ≠ []) (hn : q.nodes = a.nodes ++ tl)
    (hfull : expandPat (expandVal (fuelFor env)) a env true = .ok sa) :
    expandTop q env = (expandChildren (expandVal (fuelFor env)) tl env false).map (fun sb => sa ++ sb) := by
  obtain ⟨rt, ta, hrt, hta, rfl⟩ := expandPat_ok hfull
  simp only [expandTop, expandPat, rootOf_append hr hne ⟨_, hn⟩, hrt, bind, Except.bind, hn,
    expandChildren_append _ _ ta hta]
  cases expandChildren (expandVal (fuelFor env)) tl env false <;>
    simp [Except.map, pure, Except.pure, List.append_assoc]

theorem expandTop_unrooted {p : Pattern} (env : Env) (h : p.root = none) :
    expandTop p env = expandChildren (expandVal (fuelFor env)) p.nodes env false := by
  simp only [expandTop, expandPat, rootOf_none h, bind, Except.bind]
  cases expandChildren (expandVal (fuelFor env)) p.nodes env false <;> rfl

theorem concat_str {a r : Matcher} {o : ConcatArg} (h : a.concat o = .ok r) (hne : a.pattern.nodes ≠ []) {sa : Text}
    (hfull : expandPat (expandVal (fuelFor r.env)) a.pattern r.env true = .ok sa) :
    ∃ om : Matcher, o.toMatcher = .ok om ∧
      r.str = (expandTop om.pattern r.env).map (fun sb => sa ++ sb) := by
  obtain ⟨om, hom, hroot, hnodes, hr, _, _⟩ := concat_inv h
  exact ⟨om, hom, by rw [expandTop_unrooted _ hroot]; exact expandTop_append hr hne hnodes hfull⟩

theorem concat_prefix {a r : Matcher} {o : ConcatArg} (h : a.concat o = .ok r) (hne : a.pattern.nodes ≠ [])
    (hnw : a.pattern.prefixLen = a.pattern.nodes.length) {sa : Text}
    (hfull : expandPat (expandVal (fuelFor r.env)) a.pattern r.env true = .ok sa) :
    ∃ om : Matcher, o.toMatcher = .ok om ∧
      r.prefix = ((⟨om.pattern, r.env⟩ : Matcher).prefix).map (fun sb => sa ++ sb) := by
  obtain ⟨om, hom, hroot, hnodes, hr, _, hpl⟩ := concat_inv h
  refine ⟨om, hom, ?_⟩
  simp only [hnw, beq_self_eq_true, if_true] at hpl
  have htake : r.pattern.nodes.take r.pattern.prefixLen = a.pattern.nodes ++ om.pattern.nodes.take om.pattern.prefixLen := by
    rw [hnodes, hpl, List.take_append, List.take_of_length_le (by omega)]
    simp
  rw [Matcher.prefix, Matcher.prefix, expandTop_unrooted (p := Matcher.prefixPattern ⟨om.pattern, r.env⟩) _ hroot]
  exact expandTop_append (q := r.prefixPattern) hr hne htake hfull

/-- `a.concat(text)`: prefix of the result and its match of a path (proof files only) -/
def concatOutcome (pa : String) (enva : List (String × String)) (tail : String) (path : String) : TOutcome × Outcome :=
  match matcherOf pa enva none with
  | .error e => (.raised e, .raised e)
  | .ok a =>
    match a.concat (.text (T tail)) with
    | .error (.py e) => (.raised e, .raised e)
    | .error _ => (.raised .typeError, .raised .typeError)
    | .ok r =>
      ((match r.prefix with | .ok t => .text t | .error e => .raised e),
       (match r.match (T path) with | .ok none => .noMatch | .ok (some d) => .groups d | .error e => .raised e))
end C11E
