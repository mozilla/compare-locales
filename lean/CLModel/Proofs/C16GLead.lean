/-
When does the output start with a blank line?
  `lead_of_old_ws`      the sanitized old dict starts with a white-space entry                 ⇒ yes   (ALL entry lists)
  `no_lead_of_head`     template starts with key `k`, old dict empty / starts with a template key, `k` is emitted ⇒ no
  `lead_of_not_chosen`  template starts with key `k`, `k` is NOT emitted (shape `Alt`, entries ws/entity/placeholder) ⇒ yes
-/
import CLModel.Proofs.C16GHead
namespace C16G
open AR Ser C16L C16R

theorem ws1_not_d0 (ref : List Ent) (j : Nat) : MKey.ws 1 j ∉ dkeys (d0Of ref) := by
  intro h
  have := parseResource_ws_src 0 _ _ h 1 j rfl
  omega

theorem ws0_not_d1 (ref old : List Ent) (nd : NewData) (j : Nat) : MKey.ws 0 j ∉ dkeys (d1Of ref old nd) := by
  intro h
  have := parseResource_ws_src 1 _ _ h 0 j rfl
  omega

theorem d2_none_of_not_d0 (ref : List Ent) (nd : NewData) (k : MKey) (hk : k ∉ dkeys (d0Of ref)) :
    dget (d2Of ref nd) k = none := by
  cases hg : dget (d2Of ref nd) k with
  | none => rfl
  | some l =>
    obtain ⟨_, hkk, hkn⟩ := d2_some hg
    rw [hkk] at hk
    exact absurd (known_mem_d0 hkn) hk

theorem olderPairs_of_keys (N O : Dict) (k : MKey) (K : List MKey) (e : Ent)
    (hK : (addRemove (dkeys N) (dkeys O)).map (·.2) = k :: K) (hg : getOlder N O k = some e) :
    olderPairs N O = (k, e) :: K.filterMap (fun k => (getOlder N O k).map (fun e => (k, e))) := by
  unfold olderPairs
  rw [hK, List.filterMap_cons, hg]
  rfl

/-- the pair `olderPairs` holds for a key of the diff -/
def olderPair (ref old : List Ent) (nd : NewData) (k : MKey) : Option (MKey × Ent) :=
  (getOlder (d0Of ref) (d1Of ref old nd) k).map (fun e => (k, e))

theorem olderPairs_olderPair (ref old : List Ent) (nd : NewData) :
    olderPairs (d0Of ref) (d1Of ref old nd)
      = ((addRemove (dkeys (d0Of ref)) (dkeys (d1Of ref old nd))).map (·.2)).filterMap (olderPair ref old nd) := rfl

theorem lead_of_old_ws (ref old : List Ent) (nd : NewData) (j : Nat) (W : Ent) (D : Dict)
    (h1 : d1Of ref old nd = (MKey.ws 1 j, W) :: D) (hW : W.isWs = true) :
    hw Ent.isWs (serializeEnts ref old nd) = true := by
  have hD0 := d0_nodup ref
  have hD1 := d1_nodup ref old nd
  rw [hw_out]
  have hr : dkeys (d1Of ref old nd) = MKey.ws 1 j :: dkeys D := by rw [h1]; rfl
  obtain ⟨K, hK⟩ := diff_keys_add_head (dkeys (d0Of ref)) (MKey.ws 1 j) (dkeys D) hD0 (by rw [← hr]; exact hD1)
    (Txt.contains_false_of_not_mem (ws1_not_d0 ref j))
  rw [← hr] at hK
  have hg : getOlder (d0Of ref) (d1Of ref old nd) (MKey.ws 1 j) = some W := by
    unfold getOlder
    rw [h1, dget_cons_self]
    simp [isWs_not_sticky hW]
  rw [olderPairs_of_keys _ _ _ K W hK hg,
    List.filter_cons_of_pos (q2_of_ws ref nd (MKey.ws 1 j, W) hW)]
  exact hW

theorem no_lead_of_head (ref old : List Ent) (nd : NewData) (k : List Nat) (P0 : Ent) (d0' : Dict) (E : Ent)
    (h0 : d0Of ref = (MKey.str k, P0) :: d0')
    (h1 : ∀ x, (dkeys (d1Of ref old nd)).head? = some x → x ∈ dkeys (d0Of ref))
    (hg : emitted ref old nd (MKey.str k) = some E) :
    hw Ent.isWs (serializeEnts ref old nd) = false := by
  have hD0 := d0_nodup ref
  have hD1 := d1_nodup ref old nd
  rw [hw_out]
  have hd : dkeys (d0Of ref) = MKey.str k :: dkeys d0' := by rw [h0]; rfl
  obtain ⟨K, hK⟩ : ∃ K, (addRemove (dkeys (d0Of ref)) (dkeys (d1Of ref old nd))).map (·.2) = MKey.str k :: K := by
    rw [hd]
    apply addRemove_head _ _ _ (by rw [← hd]; exact hD0) hD1
    intro x hx
    have := h1 x hx
    rw [hd] at this
    exact List.contains_iff_mem.2 this
  obtain ⟨e0, he0⟩ := getOlder_of_left (N := d0Of ref) (O := d1Of ref old nd) (k := MKey.str k)
    (by rw [hd]; exact List.mem_cons_self)
  have hop := olderPairs_of_keys _ _ _ K e0 hK he0
  have hreal : (pick (d2Of ref nd) (MKey.str k) e0).isReal = true := by
    unfold emitted at hg
    rw [he0] at hg
    simp only [Option.bind_some] at hg
    split at hg
    · assumption
    · simp at hg
  have hq : q2 (d2Of ref nd) (MKey.str k, e0) = true := by
    unfold q2
    simp [isReal_not_ph hreal]
  have hnw : pIsWs (MKey.str k, e0) = false :=
    keyOK_str_not_ws (olderPairs01_keyOK ref old nd (MKey.str k, e0) (by rw [hop]; exact List.mem_cons_self))
  rw [hop, List.filter_cons_of_pos hq]
  exact hnw

/-- every entry is white space, a real entity or a placeholder (printed files: no comments, sections, sticky entries) -/
def Tri (e : Ent) : Prop := e.isWs = true ∨ e.isReal = true ∨ e.isPlaceholder = true

theorem addOnly_q2 (ref old : List Ent) (nd : NewData) (x : MKey) (e : Ent)
    (hx : x ∉ dkeys (d0Of ref)) (hm : (x, e) ∈ d1Of ref old nd) (ht : Tri e) :
    pIsWs (x, e) = true ∨ q2 (d2Of ref nd) (x, e) = false := by
  rcases ht with h | h | h
  · exact .inl h
  · exfalso
    have hos := parseResource_mem hm
    have hkn := os_real hos h
    have hok := d1_keyOK ref old nd _ hm
    have := keyOK_str hok (isReal_strKeyed h)
    rw [this] at hx
    exact hx (known_mem_d0 hkn)
  · right
    unfold q2 pick
    rw [d2_none_of_not_d0 ref nd x hx]
    simp [h]

theorem lead_of_not_chosen (ref old : List Ent) (nd : NewData) (k : List Nat) (P0 : Ent) (d0' : Dict)
    (h0 : d0Of ref = (MKey.str k, P0) :: d0')
    (ha0 : Alt wsKey (dkeys (d0Of ref)))
    (ht0 : ∀ p ∈ d0Of ref, Tri p.2) (ht1 : ∀ p ∈ d1Of ref old nd, Tri p.2)
    (hg : emitted ref old nd (MKey.str k) = none) :
    hw Ent.isWs (serializeEnts ref old nd) = true := by
  have hD0 := d0_nodup ref
  have hD1 := d1_nodup ref old nd
  -- the template: `k`, then a white-space entry
  obtain ⟨y0, W0, d0'', hd0', hy0⟩ : ∃ y0 W0 d0'', d0' = (y0, W0) :: d0'' ∧ wsKey y0 = true := by
    rw [h0] at ha0
    have : hw wsKey (dkeys d0') = true := hw_of_alt ha0 rfl
    cases d0' with
    | nil => simp [dkeys, hw] at this
    | cons p t => exact ⟨p.1, p.2, t, rfl, by simpa [dkeys, hw] using this⟩
  have hW0 : W0.isWs = true := by
    have hok := d0_keyOK ref (y0, W0) (by rw [h0, hd0']; simp)
    rw [← keyOK_wsKey hok]; exact hy0
  have hd : dkeys (d0Of ref) = MKey.str k :: y0 :: dkeys d0'' := by rw [h0, hd0']; rfl
  -- `get_older_entity` for `k`: a placeholder that no new value replaces
  obtain ⟨e0, he0⟩ := getOlder_of_left (N := d0Of ref) (O := d1Of ref old nd) (k := MKey.str k)
    (by rw [hd]; exact List.mem_cons_self)
  have hq0 : q2 (d2Of ref nd) (MKey.str k, e0) = false := by
    have hnr : (pick (d2Of ref nd) (MKey.str k) e0).isReal = false := by
      unfold emitted at hg
      rw [he0] at hg
      simp only [Option.bind_some] at hg
      split at hg
      · simp at hg
      · rename_i h; simpa using h
    have hte : Tri e0 := by
      rcases getOlder_mem he0 with h | h
      · exact ht0 _ h
      · exact ht1 _ h
    have hnw : e0.isWs = false := by
      rcases getOlder_mem he0 with h | h
      · exact keyOK_str_not_ws (d0_keyOK ref _ h)
      · exact keyOK_str_not_ws (d1_keyOK ref old nd _ h)
    unfold q2
    unfold pick at hnr ⊢
    cases hd2 : dget (d2Of ref nd) (MKey.str k) with
    | none =>
      rw [hd2] at hnr
      simp only at hnr ⊢
      rcases hte with h | h | h
      · rw [hnw] at h; simp at h
      · rw [hnr] at h; simp at h
      · simp [h]
    | some l =>
      rw [hd2] at hnr
      simp only at hnr ⊢
      have hl := (d2_some hd2).1
      rw [if_neg (by simp [isReal_not_sticky hl]), hl] at hnr
      simp at hnr
  -- the white-space entry of the template after `k`
  have hfy0 : olderPair ref old nd y0 = some (y0, W0) := by
    obtain ⟨a, b, rfl⟩ : ∃ a b, y0 = MKey.ws a b := by
      cases y0 with
      | ws a b => exact ⟨a, b, rfl⟩
      | str s => simp [wsKey] at hy0
      | cmt v n => simp [wsKey] at hy0
    have ha : a = 0 := parseResource_ws_src 0 (plOf ref) (MKey.ws a b)
      (show MKey.ws a b ∈ dkeys (d0Of ref) by rw [hd]; simp) a b rfl
    subst ha
    have hn1 : dget (d1Of ref old nd) (MKey.ws 0 b) = none := dget_eq_none_iff.2 (ws0_not_d1 ref old nd b)
    have hn0 : dget (d0Of ref) (MKey.ws 0 b) = some W0 :=
      dget_of_mem hD0 (by rw [h0, hd0']; simp)
    unfold olderPair getOlder
    rw [hn1, hn0]
    rfl
  have hf0 : olderPair ref old nd (MKey.str k) = some (MKey.str k, e0) := by unfold olderPair; rw [he0]; rfl
  have hfm : ∀ g : MKey → List MKey,
      (dkeys (d0Of ref)).flatMap g = g (MKey.str k) ++ (g y0 ++ (dkeys d0'').flatMap g) := by
    intro g; rw [hd]; simp [List.flatMap_cons]
  -- the key diff: right-only keys, `k`, right-only keys, the template's white-space key, …
  have hop : ∃ T, olderPairs (d0Of ref) (d1Of ref old nd)
      = ((addsOf (dkeys (d0Of ref)) (dkeys (d1Of ref old nd)) none none).filterMap (olderPair ref old nd)
          ++ (MKey.str k, e0)
            :: (addsOf (dkeys (d0Of ref)) (dkeys (d1Of ref old nd)) none (some (MKey.str k))).filterMap (olderPair ref old nd))
        ++ (y0, W0) :: T := by
    rw [olderPairs_olderPair, addRemove_eq_spec _ _ hD0 hD1, spec_keys_addsOf, hfm]
    simp only [List.cons_append, List.filterMap_cons, List.filterMap_append, hf0, hfy0, List.append_assoc]
    exact ⟨_, rfl⟩
  obtain ⟨T, hop⟩ := hop
  rw [hw_out, hop]
  -- a pair of the old dict under a right-only key is white space, or dropped as a placeholder
  have hadd : ∀ a, ∀ p ∈ (addsOf (dkeys (d0Of ref)) (dkeys (d1Of ref old nd)) none a).filterMap (olderPair ref old nd),
      pIsWs p = true ∨ q2 (d2Of ref nd) p = false := by
    intro a p hp
    rw [List.mem_filterMap] at hp
    obtain ⟨x, hx, hfx⟩ := hp
    have hxn : x ∉ dkeys (d0Of ref) := fun hm => by
      have := (mem_addsOf _ _ _ _ x hx).1
      rw [List.contains_iff_mem.2 hm] at this
      cases this
    obtain ⟨e, hgx, rfl⟩ := Option.map_eq_some_iff.1 hfx
    rcases getOlder_mem hgx with h | h
    · exact absurd (List.mem_map.2 ⟨_, h, rfl⟩) hxn
    · exact addOnly_q2 ref old nd x e hxn h (ht1 _ h)
  apply hw_skip pIsWs _ (q2_of_ws ref nd) _ (y0, W0) _ _ (show pIsWs (y0, W0) = true from hW0)
  intro p hp
  rcases List.mem_append.1 hp with hp | hp
  · exact hadd _ p hp
  · rcases List.mem_cons.1 hp with rfl | hp
    · exact .inr hq0
    · exact hadd _ p hp

end C16G
