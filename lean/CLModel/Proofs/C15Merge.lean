/-
`prune` as the generic white-space folding step (`C16L.genStep`, hence `C16L.fold`), the closed form of
`merge_two`, the key diff restricted to non-object keys.
-/
import CLModel.Proofs.C15Dict
import CLModel.Proofs.C16Fold
namespace AR

variable {α : Type} [BEq α] [LawfulBEq α]

theorem specKeys_filter (q : α → Bool) (l r : List α)
    (H1 : ∀ x ∈ r, q x = false → l.contains x = false)
    (H2 : ∀ x ∈ l, q x = false → r.contains x = false) :
    (specKeys l r).filter q = specKeys (l.filter q) (r.filter q) := by
  have hA := anchors_filter q l r none H1
  have hadds : ∀ a : Option α,
      (((anchors l r none).filter (fun p => p.1 == a)).map (·.2)).filter q
        = ((anchors (l.filter q) (r.filter q) none).filter (fun p => p.1 == a)).map (·.2) := by
    intro a
    rw [← hA, List.filter_map, List.filter_filter, List.filter_filter]
    congr 1
    apply List.filter_congr
    intro p _
    simp [Bool.and_comm]
  unfold specKeys
  rw [spec_keys, spec_keys, List.filter_append, hadds, List.filter_flatMap, Txt.flatMap_filter_ite]
  congr 1
  apply Txt.flatMap_congr'
  intro k hk
  rw [List.filter_cons]
  by_cases hq : q k = true
  · rw [if_pos hq, if_pos hq, hadds]
  · rw [if_neg hq, if_neg hq, hadds]
    have hq' : q k = false := by simpa using hq
    have hkr : ¬ k ∈ r := by
      have := H2 k hk hq'
      simpa using this
    rw [List.map_eq_nil_iff, List.filter_eq_nil_iff]
    intro p hp
    rcases anchors_mem _ _ _ p hp with h | ⟨y, hy, _, h⟩
    · simp [h]
    · have hy' : y ∈ r := (List.mem_filter.1 hy).1
      simp only [h, beq_iff_eq, Option.some.injEq]
      intro e; subst e; exact hkr hy'

theorem specKeys_nodup (l r : List α) (hl : l.Nodup) (hr : r.Nodup) : (specKeys l r).Nodup := by
  rw [specKeys, ← addRemove_eq_spec l r hl hr]
  exact addRemove_keys_nodup_gen l r

theorem specKeys_mem (l r : List α) (hl : l.Nodup) (hr : r.Nodup) (k : α) :
    k ∈ specKeys l r ↔ k ∈ l ∨ k ∈ r := by
  rw [specKeys, ← addRemove_eq_spec l r hl hr, (addRemove_keys_perm l r hl hr).mem_iff]
  simp only [List.mem_append, List.mem_filter]
  constructor
  · rintro (h | h)
    · exact .inl h
    · exact .inr h.1
  · rintro (h | h)
    · exact .inl h
    · by_cases hk : k ∈ l
      · exact .inl hk
      · exact .inr ⟨h, by simpa using hk⟩

omit [LawfulBEq α] in
theorem specKeys_of_subset (l r : List α) (h : ∀ x ∈ r, l.contains x = true) : specKeys l r = l :=
  spec_keys_of_subset l r h

end AR

namespace Merge
open AR

/-- Whitespace entries of the flat sequence are keyed by themselves -/
def SelfKeyed (cs : List (Key × Option Ent)) : Prop :=
  ∀ c ∈ cs, ∀ e, c.2 = some e → e.isWs = true → c.1 = Key.obj e.oid.1 e.oid.2

/-- the dict entry is a Whitespace object -/
def _root_.C15R.pws (p : Key × Ent) : Bool := p.2.isWs
open C15R (pws)

def plen (p : Key × Ent) : Nat := p.2.all.length

/-- `prune` re-keys a Whitespace object it keeps by its object id; on a self-keyed pair that is the key it has, so the
    step is the generic white-space folding step -/
theorem prune_some (acc : List (Key × Ent)) (k : Key) (e : Ent) (hk : e.isWs = true → k = Key.obj e.oid.1 e.oid.2) :
    prune acc (k, some e) = C16L.genStep pws plen acc (k, e) := by
  unfold prune C16L.genStep
  simp only
  by_cases hw : e.isWs = true
  · rw [← hk hw]
    cases acc with
    | nil => simp [hw]
    | cons p t => cases hp : p.2.isWs <;> simp [hw, hp, pws, plen]
  · cases acc with
    | nil => simp [hw]
    | cons p t => simp [hw, pws]

theorem prune_fold_eq (cs : List (Key × Option Ent)) (acc : List (Key × Ent)) (H : SelfKeyed cs) :
    cs.foldl prune acc = (C16L.strip cs).foldl (C16L.genStep pws plen) acc := by
  induction cs generalizing acc with
  | nil => rfl
  | cons c cs ih =>
    obtain ⟨k, oe⟩ := c
    rw [List.foldl_cons, C16L.strip_cons, ih _ (fun c' hc' => H c' (List.mem_cons_of_mem _ hc'))]
    cases oe with
    | none => rfl
    | some e => rw [prune_some acc k e (H (k, some e) List.mem_cons_self e rfl)]; rfl

/-- the flat sequence `contents` of `merge_two`, with the diff in closed form -/
def contentsOf (n o : Dict) : List (Key × Option Ent) :=
  (specKeys (keysOf n) (keysOf o)).map (fun k => (k, getNewerEntity n o k))

theorem getNewer_some_mem (n o : Dict) (k : Key) (e : Ent) (h : getNewerEntity n o k = some e) :
    (k, e) ∈ n ∨ (k, e) ∈ o := by
  unfold getNewerEntity at h
  split at h
  · rename_i e' he'
    cases h
    exact .inl (mem_of_dget he')
  · exact .inr (mem_of_dget h)

theorem getNewer_keyOK (n o : Dict) (hn : WF n) (ho : WF o) (k : Key) (e : Ent) (h : getNewerEntity n o k = some e) :
    KeyOK (k, e) := by
  rcases getNewer_some_mem n o k e h with h | h
  · exact hn.ok _ h
  · exact ho.ok _ h

theorem getNewer_eq_none (n o : Dict) (k : Key) (h1 : k ∉ keysOf n) (h2 : k ∉ keysOf o) :
    getNewerEntity n o k = none := by
  unfold getNewerEntity
  rw [dget_eq_none_iff.2 h1, dget_eq_none_iff.2 h2]

theorem getNewer_left (n o : Dict) (k : Key) (h : k ∈ keysOf n) :
    getNewerEntity n o k = dget n k := by
  unfold getNewerEntity
  have := dget_isSome_iff.2 h
  cases hd : dget n k with
  | none => rw [hd] at this; simp at this
  | some e => rfl

theorem getNewer_right (n o : Dict) (k : Key) (h : k ∉ keysOf n) :
    getNewerEntity n o k = dget o k := by
  unfold getNewerEntity
  rw [dget_eq_none_iff.2 h]

theorem getNewer_isSome (n o : Dict) (k : Key) (h : k ∈ keysOf n ∨ k ∈ keysOf o) :
    ∃ e, getNewerEntity n o k = some e := by
  by_cases hn : k ∈ keysOf n
  · rw [getNewer_left n o k hn]
    have := dget_isSome_iff.2 hn
    cases hd : dget n k with
    | none => rw [hd] at this; simp at this
    | some e => exact ⟨e, rfl⟩
  · rw [getNewer_right n o k hn]
    have ho : k ∈ keysOf o := h.resolve_left hn
    have := dget_isSome_iff.2 ho
    cases hd : dget o k with
    | none => rw [hd] at this; simp at this
    | some e => exact ⟨e, rfl⟩

theorem mem_somes_map (ks : List Key) (f : Key → Option Ent) (p : Key × Ent) :
    p ∈ C16L.strip (ks.map (fun k => (k, f k))) ↔ p.1 ∈ ks ∧ f p.1 = some p.2 := by
  simp only [C16L.strip, List.mem_filterMap, List.mem_map]
  constructor
  · rintro ⟨c, ⟨k, hk, rfl⟩, h⟩
    simp only [Option.map_eq_some_iff] at h
    obtain ⟨e, he, rfl⟩ := h
    exact ⟨hk, he⟩
  · rintro ⟨hk, hf⟩
    exact ⟨(p.1, f p.1), ⟨p.1, hk, rfl⟩, by simp [hf]⟩

theorem somes_map_keys (ks : List Key) (f : Key → Option Ent) :
    (C16L.strip (ks.map (fun k => (k, f k)))).map (·.1) = ks.filter (fun k => (f k).isSome) := by
  rw [C16L.strip, List.filterMap_map]
  exact Txt.filterMap_pair_keys ks f

theorem nws_somes_map_keys (ks : List Key) (f : Key → Option Ent)
    (H : ∀ k ∈ ks, ∃ e, f k = some e ∧ e.isWs = k.isObj) :
    (nws (C16L.strip (ks.map (fun k => (k, f k))))).map (·.1) = ks.filter (fun k => !k.isObj) := by
  induction ks with
  | nil => rfl
  | cons k ks ih =>
    obtain ⟨e, he, hw⟩ := H k (by simp)
    have ih' := ih (fun k' hk' => H k' (by simp [hk']))
    simp only [C16L.strip, nws, List.map_cons, List.filterMap_cons, he, Option.map_some,
      List.filter_cons] at ih' ⊢
    rw [hw]
    cases k.isObj
    · simpa using ih'
    · simpa using ih'

theorem selfKeyed_contents (n o : Dict) (hn : WF n) (ho : WF o) : SelfKeyed (contentsOf n o) := by
  intro c hc e he hw
  simp only [contentsOf, List.mem_map] at hc
  obtain ⟨k, _, rfl⟩ := hc
  exact (getNewer_keyOK n o hn ho k e he).1 hw

theorem mergeTwo_unfold (n o : Dict) (hn : WF n) (ho : WF o) :
    mergeTwo n o = orderedDict ((contentsOf n o).foldl prune []).reverse := by
  unfold mergeTwo contentsOf specKeys keysOf
  rw [addRemove_eq_spec _ _ hn.nodup ho.nodup, List.map_map]
  rfl

theorem contents_keys_nodup (n o : Dict) (hn : WF n) (ho : WF o) :
    ((C16L.strip (contentsOf n o)).map (·.1)).Nodup := by
  rw [contentsOf, somes_map_keys]
  exact (specKeys_nodup _ _ hn.nodup ho.nodup).filter _

theorem mergeTwo_gen (n o : Dict) (hn : WF n) (ho : WF o) :
    mergeTwo n o = C16L.fold pws plen none (C16L.strip (contentsOf n o)) := by
  rw [mergeTwo_unfold n o hn ho, orderedDict, prune_fold_eq _ _ (selfKeyed_contents n o hn ho), C16L.genFold_nil,
    foldl_dset_of_nodup]
  · exact List.nil_append _
  · exact (contents_keys_nodup n o hn ho).sublist ((C16L.fold_sub pws plen _).map _)

/-- with `prune` itself: what the concrete examples evaluate and `mergeTwo_aligned` folds by hand -/
theorem mergeTwo_eq (n o : Dict) (hn : WF n) (ho : WF o) :
    mergeTwo n o = ((contentsOf n o).foldl prune []).reverse := by
  rw [mergeTwo_gen n o hn ho, prune_fold_eq _ _ (selfKeyed_contents n o hn ho), C16L.genFold_nil]

theorem mergeTwo_sublist (n o : Dict) (hn : WF n) (ho : WF o) :
    (mergeTwo n o).Sublist (C16L.strip (contentsOf n o)) := by
  rw [mergeTwo_gen n o hn ho]
  exact C16L.fold_sub pws plen _

theorem mergeTwo_mem (n o : Dict) (hn : WF n) (ho : WF o) (p : Key × Ent) (hp : p ∈ mergeTwo n o) :
    p ∈ n ∨ p ∈ o := by
  have h := (mergeTwo_sublist n o hn ho).subset hp
  rw [contentsOf, mem_somes_map] at h
  exact getNewer_some_mem n o p.1 p.2 h.2

theorem mergeTwo_wf (n o : Dict) (hn : WF n) (ho : WF o) : WF (mergeTwo n o) := by
  constructor
  · exact (contents_keys_nodup n o hn ho).sublist ((mergeTwo_sublist n o hn ho).map _)
  · intro p hp
    rcases mergeTwo_mem n o hn ho p hp with h | h
    · exact hn.ok p h
    · exact ho.ok p h

theorem mergeTwo_nws (n o : Dict) (hn : WF n) (ho : WF o) :
    nws (mergeTwo n o) = nws (C16L.strip (contentsOf n o)) := by
  rw [mergeTwo_gen n o hn ho]
  exact C16L.fold_nonws pws plen _ none (C16L.none_ws _)

theorem specKeys_mem_dict (n o : Dict) (hn : WF n) (ho : WF o) (k : Key) :
    k ∈ specKeys (keysOf n) (keysOf o) ↔ k ∈ keysOf n ∨ k ∈ keysOf o :=
  specKeys_mem _ _ hn.nodup ho.nodup k

/-- the two dicts share no Whitespace object (they were parsed as different versions, `verDisj`) -/
def Disj (n o : Dict) : Prop := ∀ k, k.isObj = true → k ∈ keysOf n → k ∉ keysOf o

theorem verDisj (j : Nat) (n o : Dict) (hn : WF n) (ho : WF o) (h1 : VerLt j n) (h2 : VerEq j o) :
    Disj n o := by
  intro k hk hkn hko
  simp only [keysOf, List.mem_map] at hkn hko
  obtain ⟨p, hp, rfl⟩ := hkn
  obtain ⟨q, hq, hpq⟩ := hko
  have hpw : p.2.isWs = true := (keyOK_isObj (hn.ok p hp)).symm.trans hk
  have hqw : q.2.isWs = true := (keyOK_isObj (ho.ok q hq)).symm.trans (hpq ▸ hk)
  have e1 := (hn.ok p hp).1 hpw
  have e2 := (ho.ok q hq).1 hqw
  rw [e1, e2] at hpq
  injection hpq with ha _
  have := h1 p hp hpw
  have := h2 q hq hqw
  omega

theorem nwKeys_eq_filter (d : Dict) (hd : WF d) : nwKeys d = (keysOf d).filter (fun k => !k.isObj) := by
  unfold nwKeys nws keysOf
  rw [List.filter_map]
  congr 1
  apply List.filter_congr
  intro p hp
  simp only [Function.comp]
  rw [keyOK_isObj (hd.ok p hp)]

theorem mergeTwo_nwKeys (n o : Dict) (hn : WF n) (ho : WF o) (hd : Disj n o) :
    nwKeys (mergeTwo n o) = specKeys (nwKeys n) (nwKeys o) := by
  rw [nwKeys, mergeTwo_nws n o hn ho, contentsOf, nws_somes_map_keys, nwKeys_eq_filter n hn,
    nwKeys_eq_filter o ho]
  · apply specKeys_filter
    · intro x hx hq
      have hq' : x.isObj = true := by simpa using hq
      cases hc : (keysOf n).contains x
      · rfl
      · exact absurd hx (hd x hq' (by simpa using hc))
    · intro x hx hq
      have hq' : x.isObj = true := by simpa using hq
      cases hc : (keysOf o).contains x
      · rfl
      · exact absurd (by simpa using hc) (hd x hq' hx)
  · intro k hk
    rw [specKeys_mem_dict n o hn ho] at hk
    obtain ⟨e, he⟩ := getNewer_isSome n o k hk
    exact ⟨e, he, (keyOK_isObj (getNewer_keyOK n o hn ho k e he)).symm⟩

theorem mergeTwo_dget (n o : Dict) (hn : WF n) (ho : WF o) (k : Key) (hk : k.isObj = false) :
    dget (mergeTwo n o) k = getNewerEntity n o k := by
  have hwf := mergeTwo_wf n o hn ho
  cases hg : getNewerEntity n o k with
  | none =>
    cases hd : dget (mergeTwo n o) k with
    | none => rfl
    | some e =>
      have hm := mem_of_dget hd
      have h := (mergeTwo_sublist n o hn ho).subset hm
      rw [contentsOf, mem_somes_map] at h
      rw [hg] at h
      exact absurd h.2 (by simp)
  | some e =>
    rw [dget_eq_some_iff hwf.nodup]
    have hw : e.isWs = false := (keyOK_isObj (getNewer_keyOK n o hn ho k e hg)).symm.trans hk
    have hin : (k, e) ∈ nws (C16L.strip (contentsOf n o)) := by
      rw [nws, List.mem_filter, contentsOf, mem_somes_map]
      refine ⟨⟨?_, hg⟩, by simp [hw]⟩
      rw [specKeys_mem_dict n o hn ho]
      rcases getNewer_some_mem n o k e hg with h | h
      · exact .inl (List.mem_map.2 ⟨_, h, rfl⟩)
      · exact .inr (List.mem_map.2 ⟨_, h, rfl⟩)
    rw [← mergeTwo_nws n o hn ho] at hin
    exact (List.mem_filter.1 hin).1

theorem mergeTwo_verLt (j : Nat) (n o : Dict) (hn : WF n) (ho : WF o) (h1 : VerLt j n) (h2 : VerEq j o) :
    VerLt (j + 1) (mergeTwo n o) := by
  intro p hp hw
  rcases mergeTwo_mem n o hn ho p hp with h | h
  · have := h1 p h hw; omega
  · have := h2 p h hw; omega

end Merge
