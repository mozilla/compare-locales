/- Concrete matchers with wildcards used as non-vacuity examples of the C11/C12 wildcard theorems. -/
import CLModel.Proofs.C12RSep
import CLModel.Proofs.C12Android
import CLModel.Proofs.C11Witness
namespace C11R
open PM

/-- `Matcher("{l}browser/**/*.ftl", {"l": "{l10n_base}/{locale}/", "l10n_base": "/l10n", "locale": "de"})` written
    out: the l10n side of a project configuration (`{l}` is defined through two other variables) -/
def wildMatcher : Matcher :=
  { pattern := { nodes := [.var (T "l") false, .lit (T "browser/"), .starstar 1 (T "/"), .star 2, .lit (T ".ftl")],
                 root := none, prefixLen := 2 },
    env := [(T "l", .pat { nodes := [.var (T "l10n_base") false, .lit (T "/"), .var localeName false, .lit (T "/")],
                           root := none, prefixLen := 4 }),
            (T "l10n_base", .pat { nodes := [.lit (T "/l10n")], root := none, prefixLen := 1 }),
            (localeName, .pat { nodes := [.lit (T "de")], root := none, prefixLen := 1 })] }

/-- `Matcher("browser/locales/en-US/**/*.ftl")` written out (the reference side) -/
def refMatcher : Matcher :=
  { pattern := { nodes := [.lit (T "browser/locales/en-US/"), .starstar 1 (T "/"), .star 2, .lit (T ".ftl")],
                 root := none, prefixLen := 1 },
    env := [] }

/-- wildcard values: `**/` = "a/b/", `*` = "c.d" (a dot inside the star value: the engine has to backtrack) -/
def wildVals : Nat → Text
  | 1 => T "a/b/"
  | 2 => T "c.d"
  | _ => []

theorem wildMatcher_is : matcherOf "{l}browser/**/*.ftl"
    [("l", "{l10n_base}/{locale}/"), ("l10n_base", "/l10n"), ("locale", "de")] none = .ok wildMatcher :=
  matcherOf_is (by decide +kernel)

theorem refMatcher_is : matcherOf "browser/locales/en-US/**/*.ftl" [] none = .ok refMatcher :=
  matcherOf_is (by decide +kernel)

theorem wildPSep_tail : PSep [Piece.sstar (T "a/b/"), Piece.star (T "c.d"), Piece.lit (T ".ftl")] := by
  refine ⟨?_, ?_, ?_, ?_, trivial⟩
  · exact Or.inr ⟨T "a/b", by decide, by decide, by decide⟩
  · intro p hp
    simp only [List.mem_cons, List.not_mem_nil, or_false] at hp
    rcases hp with rfl | rfl <;> exact ⟨fun _ h => (by cases h), fun _ h => (by cases h)⟩
  · decide
  · exact noLaterHit_of_first (by decide) (by decide)

theorem wildMatcher_l : expandNode (expandVal (fuelFor wildMatcher.env)) (.var (T "l") false) wildMatcher.env true =
    .ok (T "/l10n/de/") := okEq_spec (by decide +kernel)

theorem wild_varText : varText wildMatcher.env (.var (T "l") false) = T "/l10n/de/" := by
  unfold varText; rw [wildMatcher_l]

theorem wild_nodes : wildMatcher.pattern.nodes =
    [.var (T "l") false, .lit (T "browser/"), .starstar 1 (T "/"), .star 2, .lit (T ".ftl")] := rfl

theorem wild_pieces : wildMatcher.pattern.nodes.map (pieceOf wildVals wildMatcher.env) =
    [Piece.grp (T "/l10n/de/"), Piece.lit (T "browser/"), Piece.sstar (T "a/b/"), Piece.star (T "c.d"),
      Piece.lit (T ".ftl")] := by
  rw [wild_nodes]
  simp only [List.map_cons, List.map_nil, pieceOf, wild_varText]
  rfl

theorem noAndroid_mem {names : List Text} (h : names.contains androidName = false) : androidName ∉ names := by
  intro hc
  have : names.contains androidName = true := by simpa using hc
  rw [this] at h; cases h

theorem wildMatcher_ok : (∃ names, Fillable wildVals wildMatcher names []) ∧ Expandable wildMatcher := by
  obtain ⟨re, names, hre, hna⟩ := regexOf_ok_of androidName (m := wildMatcher) (by decide +kernel)
  refine ⟨⟨names, ?_, ?_, ⟨re, hre⟩, hna, rfl, ?_⟩, ?_, keysOnce_of_nodup (by decide), ?_⟩
  · intro k v hm
    simp only [wildMatcher, List.mem_cons, List.not_mem_nil, or_false, Prod.mk.injEq] at hm
    rcases hm with ⟨_, rfl⟩ | ⟨_, rfl⟩ | ⟨_, rfl⟩
    · refine ⟨rfl, fun n hn => ?_⟩
      simp only [List.mem_cons, List.not_mem_nil, or_false] at hn
      rcases hn with rfl | rfl | rfl | rfl <;> simp [NodeNoRep]
    · exact ⟨rfl, fun n hn => by simp only [List.mem_singleton] at hn; subst hn; trivial⟩
    · exact ⟨rfl, fun n hn => by simp only [List.mem_singleton] at hn; subst hn; trivial⟩
  · intro n hn
    simp only [wildMatcher, List.mem_cons, List.not_mem_nil, or_false] at hn
    rcases hn with rfl | rfl | rfl | rfl | rfl
    · exact ⟨rfl, _, wildMatcher_l⟩
    · trivial
    · exact Or.inl rfl
    · trivial
    · trivial
  · show PSep _
    rw [wild_pieces]
    exact wildPSep_tail
  · intro k p hm n hn r
    simp only [wildMatcher, List.mem_cons, List.not_mem_nil, or_false, Prod.mk.injEq, Val.pat.injEq] at hm
    rcases hm with ⟨_, rfl⟩ | ⟨_, rfl⟩ | ⟨_, rfl⟩ <;>
      (simp only [List.mem_cons, List.not_mem_nil, or_false] at hn; rcases hn with rfl | rfl | rfl | rfl <;> simp) <;>
      skip
  · intro k
    simp [wildMatcher, List.lookup, sname, localeName, T]

theorem refMatcher_ok : (∃ names, Fillable wildVals refMatcher names []) ∧ Expandable refMatcher := by
  obtain ⟨re, names, hre, hna⟩ := regexOf_ok_of androidName (m := refMatcher) (by decide +kernel)
  refine ⟨⟨names, ?_, ?_, ⟨re, hre⟩, hna, rfl, ?_⟩, ?_, ?_, ?_⟩
  · intro k v hm; simp [refMatcher] at hm
  · intro n hn
    simp only [refMatcher, List.mem_cons, List.not_mem_nil, or_false] at hn
    rcases hn with rfl | rfl | rfl | rfl
    · trivial
    · exact Or.inl rfl
    · trivial
    · trivial
  · show PSep _
    simp only [refMatcher, List.map_cons, List.map_nil, pieceOf]
    exact wildPSep_tail
  · intro k p hm; simp [refMatcher] at hm
  · intro k; simp [refMatcher]
  · intro k; simp [refMatcher]

theorem wild_same : ∀ k, k ∈ refMatcher.pattern.nodes.filterMap wildNum ↔ k ∈ wildMatcher.pattern.nodes.filterMap wildNum := by
  intro k; simp [refMatcher, wildMatcher, wildNum, List.filterMap]

theorem wild_fill : [] ++ fillN wildVals wildMatcher.env wildMatcher.pattern.nodes = T "/l10n/de/browser/a/b/c.d.ftl" := by
  unfold fillN
  rw [wild_pieces]
  decide +kernel

theorem ref_fill : [] ++ fillN wildVals refMatcher.env refMatcher.pattern.nodes = T "browser/locales/en-US/a/b/c.d.ftl" := by
  decide +kernel

end C11R
