/- the claims of the property stated directly on token lists (for ALL well-formed, separated token lists): closed form
   of `getPrintfSpecs`, error classification, reordering of ordered arguments; and the lemmas from which Props/C06
   gets `%%` / text invariance and the two good cases; last, that the members of `boundedFamily` (C06Render) are well formed. -/
import CLModel.Proofs.C06Grammar
import CLModel.Proofs.C06SpecsCor
namespace C06R
open PropCk

def tokA : RTok → Option ATok
  | .text _ => none
  | .pct => some .pct
  | .lone => some .lone
  | .arg num _ c => some (.arg num [c])

def rargs : List RTok → List (Option Nat × PropCk.Text)
  | [] => []
  | .arg num _ c :: ts => (num, [c]) :: rargs ts
  | .text _ :: ts => rargs ts
  | .pct :: ts => rargs ts
  | .lone :: ts => rargs ts

theorem exp_map (ts : List RTok) : ∀ p, (expectedFrom p ts).map (·.2) = ts.filterMap tokA := by
  induction ts with
  | nil => intro p; rfl
  | cons tok ts ih =>
    intro p
    cases tok <;> simp [expectedFrom, tokA, ih, List.filterMap_cons]

theorem argsOf_exp (ts : List RTok) : ∀ p, argsOf (expectedFrom p ts) = rargs ts := by
  induction ts with
  | nil => intro p; rfl
  | cons tok ts ih =>
    intro p
    cases tok <;> simp [expectedFrom, argsOf, rargs, ih]

theorem mem_rargs {ts : List RTok} {a : Option Nat × PropCk.Text} :
    a ∈ rargs ts ↔ ∃ fmt c, RTok.arg a.1 fmt c ∈ ts ∧ a.2 = [c] := by
  induction ts with
  | nil => simp [rargs]
  | cons tok ts ih =>
    cases tok with
    | arg num fmt c =>
      simp only [rargs, List.mem_cons, ih]
      constructor
      · rintro (h | ⟨fmt', c', h1, h2⟩)
        · subst h; exact ⟨fmt, c, Or.inl rfl, rfl⟩
        · exact ⟨fmt', c', Or.inr h1, h2⟩
      · rintro ⟨fmt', c', h1 | h1, h2⟩
        · left
          simp only [RTok.arg.injEq] at h1
          obtain ⟨h1a, _, h1c⟩ := h1
          exact Prod.ext h1a (by rw [h2, h1c])
        · exact Or.inr ⟨fmt', c', h1, h2⟩
    | text t => simp [rargs, ih]
    | pct => simp [rargs, ih]
    | lone => simp [rargs, ih]

theorem mem_exp {ts : List RTok} {p : Nat} {x : Nat × ATok} (h : x ∈ expectedFrom p ts) :
    ∃ tok ∈ ts, tokA tok = some x.2 := by
  have : x.2 ∈ (expectedFrom p ts).map (·.2) := List.mem_map_of_mem h
  rw [exp_map] at this
  exact List.mem_filterMap.mp this

theorem hasLone_exp (ts : List RTok) (p : Nat) : HasLone (expectedFrom p ts) ↔ RTok.lone ∈ ts := by
  unfold HasLone
  constructor
  · rintro ⟨q, hq⟩
    obtain ⟨tok, htok, ha⟩ := mem_exp hq
    cases tok <;> simp [tokA] at ha
    exact htok
  · intro h
    have : ATok.lone ∈ (expectedFrom p ts).map (·.2) := by
      rw [exp_map]; exact List.mem_filterMap.mpr ⟨.lone, h, rfl⟩
    obtain ⟨x, hx, hx2⟩ := List.mem_map.mp this
    exact ⟨x.1, by rw [← hx2]; exact hx⟩

theorem wf_exp (ts : List RTok) (h : WfRender ts) : WFToks (expectedFrom 0 ts) :=
  atoks_wf _ _ (atoks_render ts h)

theorem specs_of_rendered (ts : List RTok) (h : WfRender ts) :
    getPrintfSpecs (render ts) = specsSpec (expectedFrom 0 ts) :=
  getPrintfSpecs_eq_spec _ _ (atoks_render ts h)

/-- ordered and unordered arguments both occur -/
def MixedR (ts : List RTok) : Prop :=
  (∃ n fmt c, RTok.arg (some n) fmt c ∈ ts) ∧ (∃ fmt c, RTok.arg none fmt c ∈ ts)

/-- all arguments are ordered and some number below the highest one is not used -/
def GapR (ts : List RTok) : Prop :=
  (∀ fmt c, RTok.arg none fmt c ∉ ts) ∧
  ∃ p, p < maxNum (rargs ts) ∧ ∀ fmt c, RTok.arg (some (p + 1)) fmt c ∉ ts

theorem mixed_exp (ts : List RTok) (p : Nat) : Mixed (expectedFrom p ts) ↔ MixedR ts := by
  unfold Mixed MixedR
  rw [argsOf_exp]
  constructor
  · rintro ⟨⟨a, ha, h1⟩, ⟨b, hb, h2⟩⟩
    obtain ⟨fmt, c, hm, _⟩ := mem_rargs.mp ha
    obtain ⟨fmt', c', hm', _⟩ := mem_rargs.mp hb
    obtain ⟨n, hn⟩ := Option.isSome_iff_exists.mp h1
    have hb' : b.1 = none := by cases hb1 : b.1 <;> simp_all
    rw [hn] at hm; rw [hb'] at hm'
    exact ⟨⟨n, fmt, c, hm⟩, ⟨fmt', c', hm'⟩⟩
  · rintro ⟨⟨n, fmt, c, hm⟩, ⟨fmt', c', hm'⟩⟩
    exact ⟨⟨(some n, [c]), mem_rargs.mpr ⟨fmt, c, hm, rfl⟩, rfl⟩,
      ⟨(none, [c']), mem_rargs.mpr ⟨fmt', c', hm', rfl⟩, rfl⟩⟩

theorem gap_exp (ts : List RTok) (p : Nat) : Gap (expectedFrom p ts) ↔ GapR ts := by
  unfold Gap GapR
  rw [argsOf_exp]
  constructor
  · rintro ⟨hall, q, hq, hno⟩
    refine ⟨?_, q, hq, ?_⟩
    · intro fmt c hm
      have := hall (none, [c]) (mem_rargs.mpr ⟨fmt, c, hm, rfl⟩)
      simp at this
    · intro fmt c hm
      exact hno (some (q + 1), [c]) (mem_rargs.mpr ⟨fmt, c, hm, rfl⟩) rfl
  · rintro ⟨hall, q, hq, hno⟩
    refine ⟨?_, q, hq, ?_⟩
    · intro a ha
      obtain ⟨fmt, c, hm, _⟩ := mem_rargs.mp ha
      cases h1 : a.1 with
      | some n => rfl
      | none => rw [h1] at hm; exact absurd hm (hall fmt c)
    · intro a ha h1
      obtain ⟨fmt, c, hm, _⟩ := mem_rargs.mp ha
      rw [h1] at hm
      exact hno fmt c hm

theorem specs_rendered_error_iff (ts : List RTok) (h : WfRender ts) :
    ((∃ e, getPrintfSpecs (render ts) = .error e) ↔ RTok.lone ∈ ts ∨ MixedR ts ∨ GapR ts) ∧
    (∀ e, getPrintfSpecs (render ts) = .error e → ∃ msg pos, e = .printf msg pos) := by
  constructor
  · rw [specs_of_rendered ts h, specsSpec_error_iff _ (wf_exp ts h), hasLone_exp, mixed_exp, gap_exp]
  · intro e he
    cases e with
    | printf msg pos => exact ⟨msg, pos, rfl⟩
    | other => exact absurd he (getPrintfSpecs_not_other _)

theorem rargs_style {ts : List RTok} {b : Bool} (h : ∀ num fmt c, RTok.arg num fmt c ∈ ts → num.isSome = b) :
    ∀ a ∈ argsOf (expectedFrom 0 ts), a.1.isSome = b := by
  intro a ha
  rw [argsOf_exp] at ha
  obtain ⟨fmt, c, hm, _⟩ := mem_rargs.mp ha
  exact h _ _ _ hm

theorem separated_of_no_lone {ts : List RTok} (h : RTok.lone ∉ ts) : Separated ts := by
  induction ts with
  | nil => trivial
  | cons tok ts ih =>
    have ht : RTok.lone ∉ ts := fun hm => h (List.mem_cons_of_mem _ hm)
    cases tok with
    | lone => exact absurd (List.mem_cons_self) h
    | text t => exact ih ht
    | pct => exact ih ht
    | arg num fmt c => exact ih ht

/-- reordering (same multiset of non-text tokens; text may change freely) of ordered arguments whose
    numbers determine their types does not change the result of `getPrintfSpecs` -/
theorem specs_reorder_rendered (ts ts' : List RTok) (h : WfRender ts) (h' : WfRender ts')
    (hperm : (ts.filterMap tokA).Perm (ts'.filterMap tokA))
    (hord : ∀ tok ∈ ts, (∃ t, tok = .text t) ∨ tok = .pct ∨ ∃ n fmt c, tok = .arg (some n) fmt c)
    (hcons : Consistent (rargs ts)) :
    getPrintfSpecs (render ts) = getPrintfSpecs (render ts') := by
  rw [specs_of_rendered ts h, specs_of_rendered ts' h']
  apply specsSpec_reorder _ _ (wf_exp ts h)
  · rw [exp_map, exp_map]; exact hperm
  · intro x hx
    obtain ⟨tok, htok, ha⟩ := mem_exp hx
    rcases hord tok htok with ⟨t, rfl⟩ | rfl | ⟨n, fmt, c, rfl⟩
    · simp [tokA] at ha
    · left; simpa [tokA] using ha.symm
    · right; exact ⟨n, [c], by simpa [tokA] using ha.symm⟩
  · rw [argsOf_exp]; exact hcons

/-- the result of `getPrintfSpecs` without the offset of the error -/
def kindOf : Except PErr (List (Option PropCk.Text)) → Except (Option PropCk.Text) (List (Option PropCk.Text))
  | .ok l => .ok l
  | .error (.printf msg _) => .error (some msg)
  | .error .other => .error none

def errKind : PErr → Option PropCk.Text
  | .printf msg _ => some msg
  | .other => none

/-- the sequence of lone `%` and argument tokens (text and `%%` dropped) -/
def sig (ts : List RTok) : List ATok := (ts.filterMap tokA).filter (fun a => a != .pct)

theorem scanErr_kind_congr : ∀ (E E' : List (Nat × ATok)), E.map (·.2) = E'.map (·.2) → ∀ mode,
    (scanErr E mode).map errKind = (scanErr E' mode).map errKind := by
  intro E
  induction E with
  | nil =>
    intro E' h mode
    cases E' with
    | nil => rfl
    | cons _ _ => simp at h
  | cons x E ih =>
    intro E' h mode
    cases E' with
    | nil => simp at h
    | cons x' E' =>
      obtain ⟨p, a⟩ := x
      obtain ⟨p', a'⟩ := x'
      simp only [List.map_cons, List.cons.injEq] at h
      obtain ⟨ha, hrest⟩ := h
      subst ha
      cases a with
      | lone => simp [scanErr, errKind]
      | pct => simpa [scanErr] using ih E' hrest mode
      | arg num spec =>
        simp only [scanErr]
        split
        · simp [errKind]
        · exact ih E' hrest _

theorem specsSpec_kind_congr (E E' : List (Nat × ATok)) (h : E.map (·.2) = E'.map (·.2)) :
    kindOf (specsSpec E) = kindOf (specsSpec E') := by
  have hargs : argsOf E = argsOf E' := by rw [argsOf_eq_filterMap', argsOf_eq_filterMap', h]
  have hscan := scanErr_kind_congr E E' h none
  unfold specsSpec
  rw [hargs]
  cases hs : scanErr E none with
  | some e =>
    cases hs' : scanErr E' none with
    | none => rw [hs, hs'] at hscan; simp at hscan
    | some e' =>
      rw [hs, hs'] at hscan
      simp only [Option.map_some, Option.some.injEq] at hscan
      cases e <;> cases e' <;> simp_all [kindOf, errKind]
  | none =>
    cases hs' : scanErr E' none with
    | none => rfl
    | some e' => rw [hs, hs'] at hscan; simp at hscan

theorem filter_notPct_map (E : List (Nat × ATok)) :
    (E.filter notPct).map (·.2) = (E.map (·.2)).filter (fun a => a != .pct) := by
  induction E with
  | nil => rfl
  | cons x E ih =>
    obtain ⟨p, a⟩ := x
    cases a <;> simp [List.filter_cons, notPct, ih]

theorem mem_listsUpTo {a : List RTok} : ∀ {n : Nat} {ts : List RTok}, ts ∈ listsUpTo a n → ∀ t ∈ ts, t ∈ a
  | 0, ts, h => by
    obtain rfl : ts = [] := by simpa [listsUpTo] using h
    simp
  | n + 1, ts, h => by
    simp only [listsUpTo, List.mem_append, List.mem_singleton, List.mem_flatMap, List.mem_map] at h
    rcases h with rfl | ⟨t, ht, us, hus, rfl⟩
    · simp
    · intro x hx
      rcases List.mem_cons.mp hx with rfl | hx
      · exact ht
      · exact mem_listsUpTo hus x hx

theorem alpha_wf {t : RTok} (ht : t ∈ alphaFull) : WfTok t ∧ ∀ x, t = .text x → x ≠ [] ∧ LoneOk x := by
  cases t with
  | pct => exact ⟨trivial, fun _ h => nomatch h⟩
  | lone => exact ⟨trivial, fun _ h => nomatch h⟩
  | text x =>
    have hx : x = [97, 32] ∨ x = [233] := by simpa [alphaFull] using ht
    have hok : 37 ∉ x ∧ x ≠ [] ∧ LoneOk x := by
      rcases hx with rfl | rfl <;> exact ⟨by decide, by simp, fun c hc => by cases hc; decide⟩
    exact ⟨hok.1, fun _ h => by cases h; exact hok.2⟩
  | arg num fmt c =>
    have h0 : WfFmt [] := ⟨[], [], rfl, .inl rfl, .inl rfl⟩
    have h1 : WfFmt [53, 46, 50] :=
      ⟨[53], [46, 50], rfl, .inr (.inr ⟨by simp, by decide⟩), .inr (.inr (.inr ⟨[50], by simp, by decide, rfl⟩))⟩
    have h2 : WfFmt [42] := ⟨[42], [], rfl, .inr (.inl rfl), .inl rfl⟩
    simp only [alphaFull, List.mem_cons, List.not_mem_nil, or_false, reduceCtorEq, false_or,
      RTok.arg.injEq] at ht
    refine ⟨?_, fun _ h => nomatch h⟩
    rcases ht with ⟨rfl, rfl, rfl⟩ | ⟨rfl, rfl, rfl⟩ | ⟨rfl, rfl, rfl⟩ | ⟨rfl, rfl, rfl⟩ | ⟨rfl, rfl, rfl⟩ |
      ⟨rfl, rfl, rfl⟩ | ⟨rfl, rfl, rfl⟩ <;> exact ⟨by simp, by assumption, by decide⟩

theorem separated_of_wfR : ∀ ts : List RTok, (∀ x, RTok.text x ∈ ts → x ≠ [] ∧ LoneOk x) →
    wfR ts = true → Separated ts
  | [], _, _ => trivial
  | .text _ :: rest, ht, h => separated_of_wfR rest (fun x hx => ht x (by simp [hx])) (by simpa [wfR] using h)
  | .pct :: rest, ht, h => separated_of_wfR rest (fun x hx => ht x (by simp [hx])) (by simpa [wfR] using h)
  | .arg .. :: rest, ht, h => separated_of_wfR rest (fun x hx => ht x (by simp [hx])) (by simpa [wfR] using h)
  | [.lone], _, _ => ⟨fun c hc => by simp [render] at hc, trivial⟩
  | .lone :: .text t :: rest, ht, h => by
    refine ⟨fun c hc => ?_, separated_of_wfR (.text t :: rest) (fun x hx => ht x (by simp [hx])) (by simpa [wfR] using h)⟩
    obtain ⟨hne, hok⟩ := ht t (by simp)
    obtain ⟨d, r, rfl⟩ := List.exists_cons_of_ne_nil hne
    exact hok c (by simpa [render, renderTok] using hc)
  | .lone :: .pct :: _, _, h => by simp [wfR] at h
  | .lone :: .lone :: _, _, h => by simp [wfR] at h
  | .lone :: .arg .. :: _, _, h => by simp [wfR] at h

theorem boundedFamily_wf {ts : List RTok} (h : ts ∈ boundedFamily) : WfRender ts := by
  obtain ⟨hmem, hwf⟩ := List.mem_filter.mp h
  have hsub : ∀ t ∈ alphaSmall, t ∈ alphaFull := by decide
  have ha : ∀ t ∈ ts, t ∈ alphaFull := fun t ht =>
    (List.mem_append.mp hmem).elim (mem_listsUpTo · t ht) (fun h => hsub t (mem_listsUpTo h t ht))
  exact ⟨fun t ht => (alpha_wf (ha t ht)).1,
    separated_of_wfR ts (fun x hx => (alpha_wf (ha _ hx)).2 x rfl) hwf⟩

end C06R
