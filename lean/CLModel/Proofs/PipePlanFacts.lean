/-
What the plans of Proofs/PipePlan.lean hand to the observers: every notification of a comparison has a stated provenance
(`Expl`), all of them concern the localized file and none is a file notification; a comparison that returns ends with ONE
`updateStats`.
-/
import CLModel.Proofs.PipePlan
import CLModel.Proofs.AddRemove
namespace Pipe
open ObsM (Ev ObsList Plan Filter)

theorem lookup_of_mem (es : List PEnt) (k : Cmp.Key) (h : k ∈ es.map (·.key)) :
    ∃ e, lookup es k = .ok e := by
  unfold lookup
  cases hi : AR.keyedIndex (es.map (·.key)) k with
  | none =>
    have hf := AR.keyed_getElem? (·.key) es k
    rw [hi] at hf
    obtain ⟨e, he, rfl⟩ := List.mem_map.1 h
    exact absurd (beq_self_eq_true e.key) (List.find?_eq_none.1 hf.symm e (List.mem_reverse.2 he))
  | some i =>
    have hlt : i < es.length := by simpa using AR.keyedIndex_lt hi
    exact ⟨es[i], by simp only [List.getElem?_eq_getElem hlt]⟩

theorem lookup_ok {es : List PEnt} {k : Cmp.Key} {e : PEnt} (h : lookup es k = .ok e) :
    e ∈ es ∧ e.key = k ∧ k ∈ es.map (·.key) := by
  unfold lookup at h
  cases hi : AR.keyedIndex (es.map (·.key)) k with
  | none => rw [hi] at h; cases h
  | some i =>
    simp only [hi] at h
    cases he : es[i]? with
    | none => simp only [he] at h; cases h
    | some e' =>
      simp only [he, Except.ok.injEq] at h
      subst h
      -- the item at the index of `__map` is the last one with the key
      have hf := AR.keyed_getElem? (·.key) es k
      rw [hi, Option.bind_some, he] at hf
      have hk : e'.key = k := eq_of_beq (List.find?_some (p := fun x : PEnt => x.key == k) hf.symm)
      exact ⟨List.mem_of_getElem? he, hk, hk ▸ List.mem_map_of_mem (List.mem_of_getElem? he)⟩

/-- where a notification of one comparison comes from -/
inductive Expl (env : Env) (ref l10n : List PEnt) : Ev → Prop
  | key (cat : ObsM.Cat) (k : Cmp.Key) (hc : cat = .missingEntity ∨ cat = .obsoleteEntity) :
      Expl env ref l10n (.notify cat env.file (keyData k))
  | dup (cat : ObsM.Cat) (k : Cmp.Key) (n : Nat) (hc : cat = .warning ∨ cat = .error) :
      Expl env ref l10n (.notify cat env.file (.str (dupMsg k n)))
  | refJunk : Expl env ref l10n (.notify .warning env.file (.str Gen.Tables.cmpRefJunkMsg))
  | junk (j : PEnt) (hj : j ∈ l10n) (hjj : j.junk = true) (t : Text) (ht : junkMessage env.l10nText env.cls j = .ok t) :
      Expl env ref l10n (.notify .error env.file (.str t))
  | check (r : PEnt) (hr : r ∈ ref) (l : PEnt) (hl : l ∈ l10n) (rs : List CheckRes)
      (hrs : runChecker env.ck r l = .ok rs) (c : CheckRes) (hc : c ∈ rs) (lc : Int × Int)
      (hlc : resolvePos env.l10nText env.cls l c.pos = some lc) :
      Expl env ref l10n (.notify (sevCat c.sev) env.file (.str (checkMsg c.msg lc.1 lc.2 r.key)))

theorem checkPlan_evs (F : List (Option Filter)) (env : Env) (r l : PEnt) : ∀ (cs : List CheckRes) (skips : List PEnt),
    ∀ ev ∈ (checkPlan F env r l cs skips).evs, ∃ c ∈ cs, ∃ lc, resolvePos env.l10nText env.cls l c.pos = some lc ∧
      ev = .notify (sevCat c.sev) env.file (.str (checkMsg c.msg lc.1 lc.2 r.key))
  | [], _, ev, h => by cases h
  | c :: cs, skips, ev, h => by
    simp only [checkPlan] at h
    cases hp : resolvePos env.l10nText env.cls l c.pos with
    | none => rw [hp] at h; cases h
    | some lc =>
      rw [hp] at h
      rcases Plan.mem_bind h with h | ⟨_, _, h⟩
      · exact ⟨c, by simp, lc, hp, by simpa [Plan.tell] using h⟩
      · obtain ⟨c', hc', r⟩ := checkPlan_evs F env r l cs _ ev h
        exact ⟨c', by simp [hc'], r⟩

theorem stepPlan_evs (F : List (Option Filter)) (env : Env) (ref l10n : List PEnt) (c : Loc) (p : AR.Label × Cmp.Key) :
    ∀ ev ∈ (stepPlan F env ref l10n c p).evs, Expl env ref l10n ev := by
  intro ev h
  obtain ⟨lab, k⟩ := p
  cases lab with
  | delete =>
    simp only [stepPlan, bind] at h
    obtain ⟨refent, hl, h⟩ := (Plan.mem_bind h).resolve_left (by simp [Plan.lift])
    split at h
    · obtain h | ⟨_, _, h⟩ := Plan.mem_bind h
      · simp only [Plan.tell, List.mem_singleton] at h; subst h; exact .refJunk
      · cases h
    · obtain h | ⟨rv, _, h⟩ := Plan.mem_bind h
      · simp only [Plan.tell, List.mem_singleton] at h; subst h; exact .key _ k (Or.inl rfl)
      · cases rv <;> cases h
  | add =>
    simp only [stepPlan, bind] at h
    obtain ⟨l10nent, hl, h⟩ := (Plan.mem_bind h).resolve_left (by simp [Plan.lift])
    split at h
    · rename_i hj
      obtain ⟨msg, hm, h⟩ := (Plan.mem_bind h).resolve_left (by simp [Plan.lift])
      obtain h | ⟨_, _, h⟩ := Plan.mem_bind h
      · simp only [Plan.tell, List.mem_singleton] at h; subst h
        exact .junk l10nent (lookup_ok hl).1 hj msg hm
      · cases h
    · obtain h | ⟨rv, _, h⟩ := Plan.mem_bind h
      · simp only [Plan.tell, List.mem_singleton] at h; subst h; exact .key _ k (Or.inr rfl)
      · split at h <;> cases h
  | equal =>
    simp only [stepPlan, bind] at h
    obtain ⟨refent, hr, h⟩ := (Plan.mem_bind h).resolve_left (by simp [Plan.lift])
    obtain ⟨l10nent, hl, h⟩ := (Plan.mem_bind h).resolve_left (by simp [Plan.lift])
    obtain ⟨_, _, h⟩ := (Plan.mem_bind h).resolve_left (by simp [Plan.lift])
    obtain ⟨rs, hrs, h⟩ := (Plan.mem_bind h).resolve_left (by simp [Plan.lift])
    obtain h | ⟨_, _, h⟩ := Plan.mem_bind h
    · obtain ⟨x, hx, lc, hlc, rfl⟩ := checkPlan_evs F env refent l10nent rs _ ev h
      exact .check refent (lookup_ok hr).1 l10nent (lookup_ok hl).1 rs hrs x hx lc hlc
    · cases h

theorem loopPlan_evs (F : List (Option Filter)) (env : Env) (ref l10n : List PEnt) : ∀ (ar : List (AR.Label × Cmp.Key)) (c : Loc),
    ∀ ev ∈ (loopPlan F env ref l10n ar c).evs, Expl env ref l10n ev
  | [], _, _, h => by cases h
  | p :: ps, c, ev, h => by
    obtain h | ⟨c1, _, h⟩ := Plan.mem_bind h
    · exact stepPlan_evs F env ref l10n c p ev h
    · exact loopPlan_evs F env ref l10n ps c1 ev h

/-- the notifications of a comparison: duplicates of the reference, of the localization, the loop -/
def compareEvs (F : List (Option Filter)) (env : Env) (ref l10n : List PEnt) : List Ev :=
  (dupsPlan env .warning (Hist.findDuplicates (ref.map (·.key)))).evs ++
    (dupsPlan env .error (Hist.findDuplicates (l10n.map (·.key)))).evs ++
    (loopPlan F env ref l10n (AR.addRemove (ref.map (·.key)) (l10n.map (·.key))) {}).evs

theorem comparePlan_ok {F : List (Option Filter)} {env : Env} {ref l10n : List PEnt} {o : Merge.Outcome}
    (h : (comparePlan F env ref l10n).res = .ok o) :
    ∃ s, (comparePlan F env ref l10n).evs = compareEvs F env ref l10n ++ [.stats env.file (statsList s)] := by
  simp only [comparePlan, bind] at h ⊢
  obtain ⟨_, _, h, e1⟩ := Plan.bind_ok h
  obtain ⟨_, _, h, e2⟩ := Plan.bind_ok h
  obtain ⟨c, _, h, e3⟩ := Plan.bind_ok h
  obtain ⟨_, _, h, e4⟩ := Plan.bind_ok h
  obtain ⟨_, _, h, e5⟩ := Plan.bind_ok h
  refine ⟨c.stats, ?_⟩
  rw [e1, e2, e3, e4, e5]
  simp only [compareEvs, Plan.lift, Plan.push, pure, Plan.ret, List.nil_append, List.append_nil, List.append_assoc]

theorem compareEvs_expl (F : List (Option Filter)) (env : Env) (ref l10n : List PEnt) :
    ∀ ev ∈ compareEvs F env ref l10n, Expl env ref l10n ev := by
  intro ev hev
  simp only [compareEvs, dupsPlan, List.mem_append, List.mem_map] at hev
  rcases hev with (⟨x, _, rfl⟩ | ⟨x, _, rfl⟩) | hev
  · exact .dup _ x.1 x.2 (Or.inl rfl)
  · exact .dup _ x.1 x.2 (Or.inr rfl)
  · exact loopPlan_evs F env ref l10n _ _ ev hev

theorem expl_notify {env : Env} {ref l10n : List PEnt} {ev : Ev} (h : Expl env ref l10n ev) :
    ∃ c d, ev = .notify c env.file d ∧ c.isFile = false := by
  cases h with
  | key cat k hc => rcases hc with rfl | rfl <;> exact ⟨_, _, rfl, rfl⟩
  | dup cat k n hc => rcases hc with rfl | rfl <;> exact ⟨_, _, rfl, rfl⟩
  | refJunk => exact ⟨_, _, rfl, rfl⟩
  | junk => exact ⟨_, _, rfl, rfl⟩
  | check r _ l _ rs _ c => exact ⟨_, _, rfl, by cases c.sev <;> rfl⟩

theorem compareParsed_ok {env : Env} {ref l10n : List PEnt} {obs obs' : ObsList} {o : Merge.Outcome}
    (h : compareParsed env ref l10n obs = .ok (obs', o)) :
    (comparePlan obs.filters env ref l10n).res = .ok o ∧
      ∃ s, obs.run (compareEvs obs.filters env ref l10n ++ [.stats env.file (statsList s)]) = .ok obs' := by
  rw [compareParsed_eq] at h
  obtain ⟨r, e⟩ := Plan.exec_ok.1 h
  obtain ⟨s, he⟩ := comparePlan_ok e
  exact ⟨e, s, he ▸ r⟩

end Pipe
