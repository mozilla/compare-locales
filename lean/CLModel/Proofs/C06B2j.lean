/- `__chain_b` builds, for every non-popular element, the ascending list
   of its positions in `b`. -/
import CLModel.Checks.Difflib
namespace Difflib
variable {α : Type} [DecidableEq α]

def idxFrom (x : α) : List α → Nat → List Nat
  | [], _ => []
  | y :: ys, i => if y = x then i :: idxFrom x ys (i + 1) else idxFrom x ys (i + 1)

theorem mem_idxFrom_iff {x : α} {l : List α} {i j : Nat} :
    j ∈ idxFrom x l i ↔ ∃ t, j = i + t ∧ l[t]? = some x := by
  induction l generalizing i with
  | nil => simp [idxFrom]
  | cons y ys ih =>
    -- `t = 0` is the head; `t + 1` is position `t` of the tail, counted from `i + 1`
    have hs : (∃ t, j = i + t ∧ (y :: ys)[t]? = some x) ↔
        (j = i ∧ y = x) ∨ ∃ t, j = i + 1 + t ∧ ys[t]? = some x := by
      constructor
      · rintro ⟨t | t, h, e⟩
        · exact .inl ⟨h, by simpa using e⟩
        · exact .inr ⟨t, by omega, by simpa using e⟩
      · rintro (⟨h, e⟩ | ⟨t, h, e⟩)
        · exact ⟨0, h, by simpa using e⟩
        · exact ⟨t + 1, by omega, by simpa using e⟩
    rw [hs, ← ih, idxFrom]
    split <;> simp [*]

theorem mem_idxFrom_zero {x : α} {l : List α} {j : Nat} : j ∈ idxFrom x l 0 ↔ l[j]? = some x := by
  simp [mem_idxFrom_iff]

theorem idxFrom_lb {x : α} {l : List α} {i j : Nat} (h : j ∈ idxFrom x l i) : i ≤ j := by
  obtain ⟨t, rfl, _⟩ := mem_idxFrom_iff.mp h
  exact Nat.le_add_right i t

theorem idxFrom_sorted (x : α) (l : List α) (i : Nat) : (idxFrom x l i).Pairwise (· < ·) := by
  induction l generalizing i with
  | nil => simp [idxFrom]
  | cons y ys ih =>
    simp only [idxFrom]
    split
    · refine List.Pairwise.cons ?_ (ih _)
      intro j hj
      have := idxFrom_lb hj
      omega
    · exact ih _

theorem idxFrom_length_eq_count (x : α) (l : List α) (i : Nat) : (idxFrom x l i).length = l.count x := by
  induction l generalizing i with
  | nil => simp [idxFrom]
  | cons y ys ih =>
    simp only [idxFrom, List.count_cons]
    split
    · rename_i h; subst h; simp [ih]
    · rename_i h; simp [ih, h]

theorem b2jGet_add (d : List (α × List Nat)) (e x : α) (i : Nat) :
    b2jGet (b2jAdd d e i) x = if e = x then b2jGet d x ++ [i] else b2jGet d x := by
  induction d with
  | nil =>
    simp only [b2jAdd, b2jGet, List.find?]
    by_cases h : e = x <;> simp [h]
  | cons p rest ih =>
    obtain ⟨k, l⟩ := p
    simp only [b2jAdd]
    by_cases hk : k = e
    · subst hk
      simp only [if_true]
      by_cases hx : k = x
      · simp [b2jGet, List.find?, hx]
      · simp [b2jGet, List.find?, hx]
    · simp only [hk, if_false]
      by_cases hx : k = x
      · subst hx
        have : ¬ e = k := fun h => hk h.symm
        simp [b2jGet, List.find?, this]
      · simp only [b2jGet, List.find?, hx, decide_false] at ih ⊢
        exact ih

theorem keys_add (d : List (α × List Nat)) (e : α) (i : Nat) :
    (b2jAdd d e i).map (·.1) = if e ∈ d.map (·.1) then d.map (·.1) else d.map (·.1) ++ [e] := by
  induction d with
  | nil => simp [b2jAdd]
  | cons p rest ih =>
    obtain ⟨k, l⟩ := p
    simp only [b2jAdd]
    by_cases hk : k = e
    · subst hk; simp
    · have : ¬ e = k := fun h => hk h.symm
      simp only [hk, if_false, List.map_cons, ih, List.mem_cons, this, false_or]
      split <;> simp

theorem keys_add_nodup (d : List (α × List Nat)) (e : α) (i : Nat) (h : (d.map (·.1)).Nodup) :
    ((b2jAdd d e i).map (·.1)).Nodup := by
  rw [keys_add]
  split
  · exact h
  · rename_i hn
    rw [List.nodup_append]
    refine ⟨h, by simp, ?_⟩
    intro a ha b hb
    simp at hb; subst hb
    intro hab; subst hab; exact hn ha

theorem b2jBuild_get (b : List α) (i : Nat) (d : List (α × List Nat)) (x : α) :
    b2jGet (b2jBuild b i d) x = b2jGet d x ++ idxFrom x b i := by
  induction b generalizing i d with
  | nil => simp [b2jBuild, idxFrom]
  | cons y ys ih =>
    simp only [b2jBuild, idxFrom, ih, b2jGet_add]
    by_cases h : y = x <;> simp [h]

theorem b2jBuild_nodup (b : List α) (i : Nat) (d : List (α × List Nat)) (h : (d.map (·.1)).Nodup) :
    ((b2jBuild b i d).map (·.1)).Nodup := by
  induction b generalizing i d with
  | nil => simpa [b2jBuild]
  | cons y ys ih => exact ih _ _ (keys_add_nodup d y i h)

theorem b2jGet_filter (d : List (α × List Nat)) (p : α × List Nat → Bool) (x : α)
    (h : (d.map (·.1)).Nodup) :
    b2jGet (d.filter p) x =
      match d.find? (fun q => decide (q.1 = x)) with
      | some q => if p q then q.2 else []
      | none => [] := by
  induction d with
  | nil => simp [b2jGet]
  | cons q rest ih =>
    simp only [List.map_cons, List.nodup_cons] at h
    simp only [List.filter_cons]
    by_cases hq : q.1 = x
    · simp only [List.find?, hq, decide_true]
      by_cases hp : p q
      · simp [hp, b2jGet, List.find?, hq]
      · simp only [hp, Bool.false_eq_true, if_false]
        have : (rest.filter p).find? (fun q => decide (q.1 = x)) = none := by
          rw [List.find?_eq_none]
          intro r hr
          simp only [decide_eq_true_eq]
          intro hrx
          apply h.1
          rw [hq, ← hrx]
          exact List.mem_map_of_mem (List.mem_filter.mp hr).1
        simp [b2jGet, this]
    · have ih' := ih h.2
      simp only [List.find?, hq, decide_false]
      by_cases hp : p q
      · simp only [hp, if_true]
        simp only [b2jGet, List.find?, hq, decide_false] at ih' ⊢
        exact ih'
      · simp only [hp, Bool.false_eq_true, if_false]
        exact ih'

/-- an element is dropped from `b2j` ("popular") -/
def popular (b : List α) (x : α) : Prop := b.length ≥ 200 ∧ b.count x > b.length / 100 + 1

instance (b : List α) (x : α) : Decidable (popular b x) := by unfold popular; infer_instance

theorem chainB_get (b : List α) (x : α) :
    b2jGet (chainB b) x = if popular b x then [] else idxFrom x b 0 := by
  have hnd : ((b2jBuild b 0 []).map (·.1)).Nodup := b2jBuild_nodup b 0 [] (by simp)
  have hget : b2jGet (b2jBuild b 0 []) x = idxFrom x b 0 := by
    rw [b2jBuild_get]; simp [b2jGet]
  unfold chainB
  simp only
  split
  · rename_i hn
    rw [b2jGet_filter _ _ _ hnd]
    unfold b2jGet at hget
    split
    · rename_i q hq
      rw [hq] at hget
      simp only at hget
      have hlen : q.2.length = b.count x := by rw [hget, idxFrom_length_eq_count]
      simp only [hlen, popular]
      by_cases hc : b.count x > b.length / 100 + 1
      · simp [hc, hn]
      · simp [hc, hget]
    · rename_i hq
      rw [hq] at hget
      simp only at hget
      rw [← hget]; simp
  · rename_i hn
    have : ¬ popular b x := fun h => hn h.1
    simp [this, hget]

def B2jSound (b : List α) (b2j : List (α × List Nat)) : Prop :=
  ∀ x j, j ∈ b2jGet b2j x → b[j]? = some x

def B2jSorted (b2j : List (α × List Nat)) : Prop :=
  ∀ x : α, (b2jGet b2j x).Pairwise (· < ·)

theorem chainB_sorted (b : List α) : B2jSorted (chainB b) := by
  intro x
  rw [chainB_get]
  split
  · simp
  · exact idxFrom_sorted x b 0

theorem chainB_sound (b : List α) : B2jSound b (chainB b) := by
  intro x j hj
  rw [chainB_get] at hj
  split at hj
  · simp at hj
  · exact mem_idxFrom_zero.mp hj

end Difflib
