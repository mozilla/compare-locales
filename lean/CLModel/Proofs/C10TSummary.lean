/-
`ObserverList.serializeSummaries` for the text renderings of C10: the `" {:6}"` cells, `sorted(summaries.items())` (total exactly
when `None` and `str` locales are not mixed), the columns and the printed block of one locale (`columns`, `block`), when the
function returns, raises `TypeError` or raises `IndexError` (`serializeSummaries_total_iff`), and that the locales of a summary
come from the files of the history.
-/
import CLModel.Compare.Tree
import CLModel.Compare.Observer
import CLModel.Proofs.C10Obs
import CLModel.Proofs.C10TOrder
import CLModel.Proofs.C10TText
namespace C10T
open TreeM ObsM

theorem natText_digits (n : Nat) : natText n ≠ [] ∧ ∀ c ∈ natText n, 48 ≤ c ∧ c ≤ 57 := by
  unfold natText ofString
  rw [Nat.toString_eq_repr, Nat.toList_repr]
  refine ⟨by simp [Nat.toDigits_ne_nil], ?_⟩
  intro c hc
  simp only [List.mem_map] at hc
  obtain ⟨ch, hch, rfl⟩ := hc
  have := Nat.isDigit_of_mem_toDigits (by decide) (by decide) hch
  simp only [Char.isDigit, Bool.and_eq_true, decide_eq_true_eq] at this
  simp only [Char.toNat]
  have h1 := UInt32.le_iff_toNat_le.1 this.1
  have h2 := UInt32.le_iff_toNat_le.1 this.2
  simpa using And.intro h1 h2

theorem natText_length_le (n k : Nat) (hk : 0 < k) : (natText n).length ≤ k ↔ n < 10 ^ k := by
  unfold natText ofString
  rw [Nat.toString_eq_repr, List.length_map, ← Nat.length_repr_le_iff hk]
  rfl

theorem ofDigitChars_toString (n : Nat) : Nat.ofDigitChars 10 (toString n).toList 0 = n := by
  rw [Nat.toString_eq_repr, Nat.toList_repr]; exact Nat.ofDigitChars_ten_toDigits

theorem nonBlank_spaces (n : Nat) : nonBlank (spaces n) = false := by
  simp [nonBlank, spaces]

theorem nonBlank_cons (c : Nat) (t : Text) : nonBlank (c :: t) = (c != 32 || nonBlank t) :=
  List.any_cons

theorem nonBlank_append (a b : Text) : nonBlank (a ++ b) = (nonBlank a || nonBlank b) := by
  simp [nonBlank]

theorem nonBlank_natText (n : Nat) : nonBlank (natText n) = true := by
  obtain ⟨hne, hd⟩ := natText_digits n
  cases h : natText n with
  | nil => exact absurd h hne
  | cons c cs =>
    have := hd c (by rw [h]; simp)
    have hc : (c != 32) = true := by simp; omega
    simp [nonBlank, hc]

/-- the value a column shows for a key (`summary.get(key)`, with `{}` for a project that does not know the locale) -/
def counterOf (c : Option Counters) (k : StatKey) : Nat :=
  match c with
  | some c => c k
  | none => 0

theorem nonBlank_cell (c : Option Counters) (k : StatKey) :
    nonBlank (cell (c.map (· k))) = (counterOf c k != 0) := by
  cases c with
  | none => exact nonBlank_spaces 7
  | some cs =>
    show nonBlank (if (cs k == 0) = true then spaces 7 else 32 :: (spaces _ ++ natText (cs k))) = (cs k != 0)
    by_cases h0 : cs k = 0
    · rw [h0]; exact nonBlank_spaces 7
    · -- the cell is left as a `cons`: comparing it with `spaces 1 ++ _` would evaluate `natText (cs k)`
      rw [beq_false_of_ne h0, if_neg Bool.false_ne_true, nonBlank_cons, nonBlank_append, nonBlank_natText]
      simp [h0]

/-- `" {:6}".format(n)`: seven characters for `0 < n < 10^6`, the number right-aligned; blank for zero / missing -/
theorem cell_shape (v : Option Nat) :
    (match v with
      | some n => if n = 0 then cell v = spaces 7
          else cell v = spaces (7 - (natText n).length) ++ natText n ∨ (10 ^ 6 ≤ n ∧ cell v = 32 :: natText n)
      | none => cell v = spaces 7) := by
  cases v with
  | none => rfl
  | some n =>
    by_cases h0 : n = 0
    · simp [h0, cell]
    · have hb : (n == 0) = false := by simpa using h0
      simp only [h0, ↓reduceIte, cell, hb, Bool.false_eq_true]
      by_cases hlt : n < 10 ^ 6
      · left
        have hl := (natText_length_le n 6 (by decide)).2 hlt
        have : 7 - (natText n).length = (6 - (natText n).length) + 1 := by omega
        rw [this]
        simp [spaces, List.replicate_succ]
      · right
        refine ⟨by omega, ?_⟩
        have hl : ¬ (natText n).length ≤ 6 := fun h => hlt ((natText_length_le n 6 (by decide)).1 h)
        have : 6 - (natText n).length = 0 := by omega
        simp [this, spaces]

/-- Python's `<=` on the locales of a summary that can be sorted -/
def locLe : Option Text → Option Text → Prop
  | some a, some b => textLe a b = true
  | none, none => True
  | _, _ => False

theorem sortLocales_some {β : Type} (l : List (Option Text × β)) (h : ∀ p ∈ l, p.1 ≠ none) :
    ∃ s, sortLocales l = .ok s ∧ s.Perm l ∧ s.Pairwise (fun a b => locLe a.1 b.1) := by
  have hn : l.filter (·.1.isNone) = [] := by
    rw [List.filter_eq_nil_iff]
    intro p hp
    cases hp1 : p.1 with
    | none => exact absurd hp1 (h p hp)
    | some t => simp
  have hback : (l.filterMap (fun p => p.1.map (fun t => (t, p.2)))).map (fun p => (some p.1, p.2)) = l := by
    clear hn
    induction l with
    | nil => rfl
    | cons p rest ih =>
      obtain ⟨loc, b⟩ := p
      cases loc with
      | none => exact absurd rfl (h (none, b) (by simp))
      | some t =>
        simp only [List.filterMap_cons, Option.map_some, List.map_cons]
        rw [ih (fun x hx => h x (by simp [hx]))]
  refine ⟨_, by simp only [sortLocales, hn, List.isEmpty_nil, ↓reduceIte]; rfl, ?_, ?_⟩
  · have := (sortLoc_perm (l.filterMap (fun p => p.1.map (fun t => (t, p.2))))).map
      (fun p : Text × β => (some p.1, p.2))
    rw [hback] at this
    exact this
  · rw [List.pairwise_map]
    exact (sortLoc_sorted _).imp (fun h => h)

theorem sortLocales_none {β : Type} (l : List (Option Text × β)) (h : ∀ p ∈ l, p.1 = none) :
    sortLocales l = .ok l ∧ l.Pairwise (fun a b => locLe a.1 b.1) := by
  have hn : l.filter (·.1.isNone) = l := by
    rw [List.filter_eq_self]
    intro p hp
    simp [h p hp]
  have hs : l.filterMap (fun p => p.1.map (fun t => (t, p.2))) = [] := by
    rw [List.filterMap_eq_nil_iff]
    intro p hp
    simp [h p hp]
  constructor
  · cases l with
    | nil => rfl
    | cons p rest =>
      simp only [sortLocales, hn, hs]
      rfl
  · clear hn hs
    induction l with
    | nil => exact List.Pairwise.nil
    | cons p rest ih =>
      rw [List.pairwise_cons]
      refine ⟨?_, ih (fun x hx => h x (by simp [hx]))⟩
      intro q hq
      rw [h p (by simp), h q (by simp [hq])]
      trivial

theorem sortLocales_mixed {β : Type} (l : List (Option Text × β)) (h1 : ∃ p ∈ l, p.1 = none)
    (h2 : ∃ p ∈ l, p.1 ≠ none) : sortLocales l = .error .typeError := by
  obtain ⟨p, hp, hpn⟩ := h1
  obtain ⟨r, hr, hrn⟩ := h2
  have hn : (l.filter (·.1.isNone)).isEmpty = false := by
    cases hf : l.filter (·.1.isNone) with
    | nil =>
      have : p ∈ l.filter (·.1.isNone) := List.mem_filter.2 ⟨hp, by simp [hpn]⟩
      rw [hf] at this; cases this
    | cons _ _ => rfl
  have hs : (l.filterMap (fun p => p.1.map (fun t => (t, p.2)))).isEmpty = false := by
    cases hf : l.filterMap (fun p => p.1.map (fun t => (t, p.2))) with
    | nil =>
      cases hr1 : r.1 with
      | none => exact absurd hr1 hrn
      | some t =>
        have : (t, r.2) ∈ l.filterMap (fun p => p.1.map (fun t => (t, p.2))) :=
          List.mem_filterMap.2 ⟨r, hr, by simp [hr1]⟩
        rw [hf] at this; cases this
    | cons _ _ => rfl
  simp only [sortLocales, hn, hs, Bool.false_eq_true, ↓reduceIte]
  rfl

theorem sortLoc_map {β γ : Type} (f : Text → β → γ) (l : List (Text × β)) :
    (l.map (fun kv => (kv.1, f kv.1 kv.2))).foldr insertLoc [] = (l.foldr insertLoc []).map (fun kv => (kv.1, f kv.1 kv.2)) := by
  rw [sortLoc_eq, sortLoc_eq]
  exact Sorting.sort_map _ (fun _ _ => rfl) l

theorem strLocales_map {β γ : Type} (f : Option Text → β → γ) (l : List (Option Text × β)) :
    (l.map (fun p => (p.1, f p.1 p.2))).filterMap (fun p => p.1.map (fun t => (t, p.2)))
      = (l.filterMap (fun p => p.1.map (fun t => (t, p.2)))).map (fun q => (q.1, f (some q.1) q.2)) := by
  rw [List.filterMap_map, List.map_filterMap]
  congr 1
  funext p
  obtain ⟨loc, b⟩ := p
  cases loc <;> rfl

theorem noneLocales_map {β γ : Type} (f : Option Text → β → γ) (l : List (Option Text × β)) :
    (l.map (fun p => (p.1, f p.1 p.2))).filter (·.1.isNone)
      = (l.filter (·.1.isNone)).map (fun p => (p.1, f p.1 p.2)) := by
  rw [List.filter_map]
  rfl

theorem sortLocales_proj {β γ : Type} (f : Option Text → β → γ) (l : List (Option Text × β)) :
    sortLocales (l.map (fun p => (p.1, f p.1 p.2)))
      = (sortLocales l).map (List.map (fun p => (p.1, f p.1 p.2))) := by
  have hstr := strLocales_map f l
  have hnone := noneLocales_map f l
  simp only [sortLocales, hstr, hnone, List.isEmpty_map, sortLoc_map (fun t => f (some t))]
  by_cases h1 : (l.filter (·.1.isNone)).isEmpty = true
  · simp only [h1, ↓reduceIte, pure, Except.pure, Except.map, List.map_map]
    rfl
  · simp only [h1, Bool.false_eq_true, ↓reduceIte]
    by_cases h2 : (l.filterMap (fun p => p.1.map (fun t => (t, p.2)))).isEmpty = true
    · simp only [h2, ↓reduceIte, pure, Except.pure, Except.map]
    · simp only [h2, Bool.false_eq_true, ↓reduceIte]
      rfl

/-- the columns printed for a locale: per project observer its counters for the locale (`{}` = `none` when the
    project has none), and the list's own counters when there is more than one project -/
def columns (l : ObsList) (loc : Option Text) (own : Counters) : List (Option Counters) :=
  l.observers.map (fun o => (o.summary.find? (·.1 == loc)).map (·.2)) ++
    (if l.observers.length > 1 then [some own] else [])

/-- `changed * 100 / (changed + unchanged + report + missing)`, rounded down (0 when nothing was counted) -/
def rateOf (c : Option Counters) : Nat :=
  counterOf c .changed * 100 /
    (counterOf c .changed + counterOf c .unchanged + counterOf c .report + counterOf c .missing)

theorem rateOf_le (c : Option Counters) : rateOf c ≤ 100 := by
  unfold rateOf
  apply Nat.div_le_of_le_mul
  apply Nat.mul_le_mul_right
  omega

/-- the lines printed for one locale: `locale:` (for a non-empty `str` locale), then for each of the ten keys, in the
    order of the code, for which some column is non-zero the left-aligned key followed by one cell per column,
    then the percentage computed from the last column -/
def block (loc : Option Text) (cols : List (Option Counters)) : List Text :=
  (match loc with
    | some t => if t ≠ [] then [t ++ [58]] else []
    | none => []) ++
  (summaryRows.filter (fun k => cols.any (fun c => counterOf c k != 0))).map
    (fun k => lead k ++ (cols.map (fun c => cell (c.map (· k)))).flatten) ++
  [natText (rateOf (cols.getLast?.bind id)) ++ ofString "% of entries changed"]

theorem nonBlank_row (cols : List (Option Counters)) (k : StatKey) :
    nonBlank (cols.map (fun c => cell (c.map (· k)))).flatten = cols.any (fun c => counterOf c k != 0) := by
  induction cols with
  | nil => rfl
  | cons c rest ih =>
    simp only [List.map_cons, List.flatten_cons, nonBlank_append, ih, nonBlank_cell, List.any_cons]

theorem filterMap_ite {α β : Type} (p : α → Bool) (f : α → β) : ∀ l : List α,
    l.filterMap (fun a => if p a = true then some (f a) else none) = (l.filter p).map f
  | [] => rfl
  | a :: l => by
    by_cases h : p a = true
    · simp [h, filterMap_ite p f l]
    · simp [h, filterMap_ite p f l]

theorem rate_if (a t : Nat) : (if (t == 0) = true then 0 else a / t) = a / t := by
  by_cases h : t = 0 <;> simp [h]

/-- the body of the loop over the sorted locales, as a function -/
def blockM (p : Option Text × List (Option Counters)) : Except PyErr (List Text) :=
  let head : List Text := match p.1 with
    | some loc => if !loc.isEmpty then [loc ++ [58]] else []
    | none => []
  let rows := summaryRows.filterMap (fun k =>
    let row := (p.2.map (fun s => cell (s.map (· k)))).flatten
    if nonBlank row then some (lead k ++ row) else none)
  match p.2.getLast? with
  | none => throw PyErr.indexError
  | some last =>
    let get (k : StatKey) : Nat := match last with | some c => c k | none => 0
    let total := get .changed + get .unchanged + get .report + get .missing
    let rate := if total == 0 then 0 else (get .changed * 100) / total
    pure (head ++ rows ++ [natText rate ++ ofString "% of entries changed"])

theorem serializeSummaries_eq (l : ObsList) :
    serializeSummaries l = (do
      let sorted ← sortLocales (l.own.summary.map (fun p => (p.1, columns l p.1 p.2)))
      let blocks ← sorted.mapM blockM
      pure (joinNl blocks.flatten)) := by
  have hcols : ∀ p : Option Text × Counters,
      (if l.observers.length > 1
        then l.observers.map (fun o => (o.summary.find? (·.1 == p.1)).map (·.2)) ++ [some p.2]
        else l.observers.map (fun o => (o.summary.find? (·.1 == p.1)).map (·.2))) = columns l p.1 p.2 := by
    intro p; unfold columns; split <;> simp
  unfold serializeSummaries
  simp only [hcols]
  rfl

theorem blockM_ok (loc : Option Text) (cols : List (Option Counters)) (hc : cols ≠ []) :
    blockM (loc, cols) = .ok (block loc cols) := by
  cases hl : cols.getLast? with
  | none => exact absurd (List.getLast?_eq_none_iff.1 hl) hc
  | some last =>
    simp only [blockM, hl, block, pure, Except.pure, Option.bind_some, id]
    have hrows : summaryRows.filterMap (fun k =>
          if nonBlank (cols.map (fun s => cell (s.map (· k)))).flatten = true
          then some (lead k ++ (cols.map (fun s => cell (s.map (· k)))).flatten) else none)
        = (summaryRows.filter (fun k => cols.any (fun c => counterOf c k != 0))).map
            (fun k => lead k ++ (cols.map (fun c => cell (c.map (· k)))).flatten) := by
      simp only [nonBlank_row]
      exact filterMap_ite _ _ _
    rw [hrows]
    have hhead : (match loc with
          | some loc => if (!loc.isEmpty) = true then [loc ++ [58]] else []
          | none => ([] : List Text))
        = (match loc with
          | some t => if t ≠ [] then [t ++ [58]] else []
          | none => []) := by
      cases loc with
      | none => rfl
      | some t => cases t <;> simp
    rw [hhead]
    rw [rate_if]
    unfold rateOf counterOf
    cases last <;> rfl

theorem blockM_indexError (loc : Option Text) : blockM (loc, []) = .error .indexError := rfl

theorem columns_ne_nil (l : ObsList) (h : l.observers ≠ []) (loc : Option Text) (own : Counters) :
    columns l loc own ≠ [] := by
  unfold columns
  cases ho : l.observers with
  | nil => exact absurd ho h
  | cons o rest => simp

theorem columns_nil (l : ObsList) (h : l.observers = []) (loc : Option Text) (own : Counters) :
    columns l loc own = [] := by
  simp [columns, h]

theorem columns_last (l : ObsList) (loc : Option Text) (own : Counters) :
    (columns l loc own).getLast?.bind id =
      if l.observers.length > 1 then some own
      else (l.observers.getLast?.bind (fun o => (o.summary.find? (·.1 == loc)).map (·.2))) := by
  unfold columns
  by_cases h : l.observers.length > 1
  · simp [h, List.getLast?_append]
  · simp only [h, ↓reduceIte, List.append_nil, List.getLast?_map]
    cases l.observers.getLast? <;> rfl

theorem sortLocales_summary {γ : Type} (s : Summary) (g : Option Text → Counters → γ)
    (hloc : (∀ p ∈ s, p.1 = none) ∨ (∀ p ∈ s, p.1 ≠ none)) :
    ∃ order : List (Option Text × Counters), order.Perm s ∧ order.Pairwise (fun a b => locLe a.1 b.1) ∧
      sortLocales (s.map (fun p => (p.1, g p.1 p.2))) = .ok (order.map (fun p => (p.1, g p.1 p.2))) := by
  rw [sortLocales_proj g]
  rcases hloc with hn | hs
  · exact ⟨s, List.Perm.refl _, (sortLocales_none _ hn).2, by rw [(sortLocales_none _ hn).1]; rfl⟩
  · obtain ⟨o, h1, h2, h3⟩ := sortLocales_some s hs
    exact ⟨o, h2, h3, by rw [h1]; rfl⟩

theorem serializeSummaries_ok (l : ObsList) (hobs : l.observers ≠ [])
    (hloc : (∀ p ∈ l.own.summary, p.1 = none) ∨ (∀ p ∈ l.own.summary, p.1 ≠ none)) :
    ∃ order : List (Option Text × Counters),
      order.Perm l.own.summary ∧ order.Pairwise (fun a b => locLe a.1 b.1) ∧
      serializeSummaries l = .ok (joinNl (order.flatMap (fun p => block p.1 (columns l p.1 p.2)))) := by
  obtain ⟨order, hperm, hsorted, hsort⟩ := sortLocales_summary l.own.summary (columns l) hloc
  refine ⟨order, hperm, hsorted, ?_⟩
  rw [serializeSummaries_eq, hsort]
  simp only [bind, Except.bind]
  rw [mapM_ok (g := fun p : Option Text × List (Option Counters) => block p.1 p.2)]
  · simp only [pure, Except.pure, List.map_map, List.flatMap_def]
    rfl
  · intro p hp
    simp only [List.mem_map] at hp
    obtain ⟨p0, _, rfl⟩ := hp
    exact blockM_ok _ _ (columns_ne_nil l hobs _ _)

/-- the `TypeError` is that of `sorted` -/
theorem serializeSummaries_typeError (l : ObsList) (h1 : ∃ p ∈ l.own.summary, p.1 = none)
    (h2 : ∃ p ∈ l.own.summary, p.1 ≠ none) : serializeSummaries l = .error .typeError := by
  rw [serializeSummaries_eq, sortLocales_mixed]
  · rfl
  · obtain ⟨p, hp, hn⟩ := h1
    exact ⟨_, List.mem_map.2 ⟨p, hp, rfl⟩, hn⟩
  · obtain ⟨p, hp, hn⟩ := h2
    exact ⟨_, List.mem_map.2 ⟨p, hp, rfl⟩, hn⟩

/-- the `IndexError` is that of `summaries[-1]` -/
theorem serializeSummaries_indexError (l : ObsList) (hobs : l.observers = []) (hne : l.own.summary ≠ [])
    (hloc : (∀ p ∈ l.own.summary, p.1 = none) ∨ (∀ p ∈ l.own.summary, p.1 ≠ none)) :
    serializeSummaries l = .error .indexError := by
  obtain ⟨order, hperm, _, hsort⟩ := sortLocales_summary l.own.summary (columns l) hloc
  rw [serializeSummaries_eq, hsort]
  simp only [bind, Except.bind]
  have herr : ∀ x ∈ order.map (fun p => (p.1, columns l p.1 p.2)), blockM x = .error .indexError := by
    intro x hx
    obtain ⟨p, _, rfl⟩ := List.mem_map.1 hx
    rw [columns_nil l hobs]
    rfl
  rw [mapM_error (e := PyErr.indexError) _ (fun x hx => Or.inr (herr x hx))]
  cases order with
  | nil => exact absurd hperm.symm.eq_nil hne
  | cons x _ => exact ⟨(x.1, columns l x.1 x.2), List.mem_cons_self, herr _ List.mem_cons_self⟩

/-- the exact condition under which `serializeSummaries` returns -/
def SummariesOK (l : ObsList) : Prop :=
  ((∀ p ∈ l.own.summary, p.1 = none) ∨ (∀ p ∈ l.own.summary, p.1 ≠ none)) ∧
    (l.own.summary = [] ∨ l.observers ≠ [])

theorem serializeSummaries_empty (l : ObsList) (h : l.own.summary = []) : serializeSummaries l = .ok [] := by
  rw [serializeSummaries_eq, h]
  rfl

theorem serializeSummaries_total_iff (l : ObsList) : (∃ t, serializeSummaries l = .ok t) ↔ SummariesOK l := by
  constructor
  · rintro ⟨t, ht⟩
    by_cases hmix : (∃ p ∈ l.own.summary, p.1 = none) ∧ (∃ p ∈ l.own.summary, p.1 ≠ none)
    · rw [serializeSummaries_typeError l hmix.1 hmix.2] at ht; cases ht
    · have hloc : (∀ p ∈ l.own.summary, p.1 = none) ∨ (∀ p ∈ l.own.summary, p.1 ≠ none) := by
        by_cases hn : ∃ p ∈ l.own.summary, p.1 = none
        · left
          intro p hp
          cases hp1 : p.1 with
          | none => rfl
          | some t => exact absurd ⟨hn, p, hp, by simp [hp1]⟩ hmix
        · right
          intro p hp e
          exact hn ⟨p, hp, e⟩
      refine ⟨hloc, ?_⟩
      by_cases hs : l.own.summary = []
      · exact Or.inl hs
      · right
        intro ho
        rw [serializeSummaries_indexError l ho hs hloc] at ht; cases ht
  · rintro ⟨hloc, hs | ho⟩
    · exact ⟨_, serializeSummaries_empty l hs⟩
    · obtain ⟨_, _, _, e⟩ := serializeSummaries_ok l ho hloc
      exact ⟨_, e⟩

theorem list_run_locales {q : Nat} {obs : List Obs} {h : List Ev} {l' : ObsList}
    (hr : (ObsList.init q obs).run h = .ok l') :
    (∀ p ∈ l'.own.summary, ∃ ev ∈ h, ev.file.locale = p.1) ∧ (l'.observers = [] ↔ obs = []) := by
  have hc := list_run_core hr rfl
  obtain ⟨_, hall, _⟩ := list_run_spec h _ l' hr rfl
  constructor
  · intro p hp
    have h1 : l'.own.summary = (coreRun (ignList (ObsList.init q obs).filters) (ObsList.init q obs).own.core h).1 := by
      have := congrArg Prod.fst hc; simpa [Obs.core] using this
    rw [h1] at hp
    rcases coreRun_locs _ h _ p.1 (List.mem_map_of_mem hp) with h | hp'
    · exact h
    · simp [ObsList.init, Obs.init, Obs.core] at hp'
  · exact (All₂.nil_iff hall).symm

end C10T
