/- Independent (regex-free, list-level) reference definitions for the Android checker.
   They are what the C09 theorems compare the model of the Python code with:
   a hand-written lexer for printf arguments, the Java `Formatter` numbering of arguments,
   escape silencing and the quoting rule, and the "plain text or one CDATA" shape of a node. -/
import CLModel.Checks.Android
namespace Android.Spec
open Android

/-! ### printf arguments -/

def isDig (c : Nat) : Bool := 48 ≤ c && c ≤ 57
def isD19 (c : Nat) : Bool := 49 ≤ c && c ≤ 57

/-- length of a conversion `f`, `.<digits>f`, `d`, `s`, `S` at the head of a list -/
def fmtLen : List Nat → Option Nat
  | [] => none
  | c :: rest =>
    if c == 46 then
      let n := (rest.takeWhile isDig).length
      if n != 0 && (rest.drop n).head? == some 102 then some (n + 2) else none
    else if c == 102 || c == 100 || c == 115 || c == 83 then some 1 else none

/-- one argument at the head of a list: `%`, optionally `<1-9>$`, a conversion.
    Result: explicit position, conversion text, total length. -/
def parHead : List Nat → Option (Option Nat × List Nat × Nat)
  | [] => none
  | c :: rest =>
    if c != 37 then none else
    match rest with
    | d :: e :: rest2 =>
      if isD19 d && e == 36 then (fmtLen rest2).map (fun n => (some (d - 48), rest2.take n, n + 3))
      else (fmtLen rest).map (fun n => (none, rest.take n, n + 1))
    | _ => (fmtLen rest).map (fun n => (none, rest.take n, n + 1))

/-- left-to-right lexer: arguments do not overlap; anything else is skipped character by character -/
def lexL : Nat → Nat → List Nat → List Tok
  | 0, _, _ => []
  | _ + 1, _, [] => []
  | f + 1, off, c :: rest =>
    match parHead (c :: rest) with
    | some (o, fmt, n) => ⟨off, o, fmt⟩ :: lexL f (off + n) ((c :: rest).drop n)
    | none => lexL f (off + 1) rest

def lex (l : List Nat) : List Tok := lexL (l.length + 1) 0 l

/-- Java `Formatter` numbering: `n$` addresses argument n; an ordinary specifier takes the next
    sequential argument, counted independently of the explicit ones.  `n` = next sequential index. -/
def uses : Nat → List Tok → List (Nat × Tok)
  | _, [] => []
  | n, t :: ts =>
    match t.order with
    | some o => (o, t) :: uses n ts
    | none => (n, t) :: uses (n + 1) ts

/-- conversion of the first use of argument `p` -/
def firstFmt (us : List (Nat × Tok)) (p : Nat) : Option (List Nat) :=
  match us.find? (fun u => u.1 == p) with
  | some u => some u.2.fmt
  | none => none

/-- argument map of a string: argument number -> conversion of its first use -/
def argMap (v : List Nat) (p : Nat) : Option (List Nat) := firstFmt (uses 1 (lex v)) p

/-- uses whose conversion differs from the first use of the same argument, as `get_params` reports them -/
def conflictsOf (us : List (Nat × Tok)) : List (Msg × Nat) :=
  us.filterMap (fun u =>
    match firstFmt us u.1 with
    | some f => if f == u.2.fmt then none else some (Msg.conflict u.1 u.2.fmt f, u.2.pos)
    | none => none)

/-- some argument is used with two different conversions -/
def Conflict (v : List Nat) : Prop :=
  ∃ u1 u2, u1 ∈ uses 1 (lex v) ∧ u2 ∈ uses 1 (lex v) ∧ u1.1 = u2.1 ∧ u1.2.fmt ≠ u2.2.fmt

/-! ### quoting -/

/-- left to right: a pair of adjacent characters satisfying `cond` is replaced by two blanks (and skipped) -/
def blankPairs (cond : Nat → Nat → Bool) : List Nat → List Nat
  | [] => []
  | [c] => [c]
  | a :: tl@(b :: rest) =>
    if cond a b then 32 :: 32 :: blankPairs cond rest
    else a :: blankPairs cond tl

/-- an escape: a backslash and any character but a newline -/
def escCond (a b : Nat) : Bool := a == 92 && b != 10
/-- what the silencer blanks: an escape or a pair of straight quotes -/
def silCond (a b : Nat) : Bool := (a == 92 && b != 10) || (a == 34 && b == 34)

/-- escapes `\x` blanked out (what the doubled-quote search looks at) -/
def blankEsc (v : List Nat) : List Nat := blankPairs escCond v

/-- `\x` (x not a newline) and `""` are blanked out, left to right -/
def silence (v : List Nat) : List Nat := blankPairs silCond v

/-- start offsets of non-overlapping `""` pairs, left to right -/
def dqPositions : Nat → List Nat → List Nat
  | _, [] => []
  | _, [_] => []
  | off, a :: tl@(b :: rest) =>
    if a == 34 && b == 34 then off :: dqPositions (off + 2) rest
    else dqPositions (off + 1) tl

def indicesOf (c : Nat) : Nat → List Nat → List Nat
  | _, [] => []
  | off, x :: rest => if x == c then off :: indicesOf c (off + 1) rest else indicesOf c (off + 1) rest

/-- two adjacent straight quotes somewhere in a string; the checker looks at `blankEsc value` -/
def DoubledQuote (v : List Nat) : Prop := ∃ i, v[i]? = some 34 ∧ v[i + 1]? = some 34

/-- two adjacent straight quotes the first of which is not escaped by a backslash (`e` = the current
    character is escaped): a flag-based formulation of "a doubled straight quote", equivalent to
    `DoubledQuote (blankEsc v)` (`C09.doubled_quote_iff`). -/
def unescapedDq : Bool → List Nat → Bool
  | _, [] => false
  | e, c :: rest => (!e && c == 34 && rest.head? == some 34) || unescapedDq (!e && c == 92) rest

/-- the (silenced) string starts and ends with a straight quote -/
def Quoted (w : List Nat) : Prop := w.head? = some 34 ∧ w.getLast? = some 34

/-! ### node shape -/

def TranslatableFalse (n : Node) : Prop := n.translatable = some Gen.Tables.android_translatable_false

def AtString (n : Node) : Prop := Gen.Tables.android_at_prefix <+: textContent n

def WhiteText (c : Child) : Prop := ∃ d, c = .text d ∧ ∀ x ∈ d, Rx.isSpace x = true

/-- empty, a single text node, or exactly one CDATA section among white-space-only text nodes -/
def SimpleData (n : Node) : Prop :=
  n.children = [] ∨ (∃ d, n.children = [.text d]) ∨
  ((n.children.filter (·.isCdata)).length = 1 ∧ ∀ c ∈ n.children, c.isCdata = true ∨ WhiteText c)

end Android.Spec
