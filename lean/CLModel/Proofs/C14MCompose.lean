/- C14 composed with the Matcher model: the lazy, raising transliteration `FiltM.filterS` agrees with the abstract
   `Filt.filter` of the instantiated configuration (`FiltM.evalS`).  First the one-step equation of the raising rule scan
   (`C14L.ruleTestS`, `scanRulesS_cons`), in the form of `Filt.scanRules_cons_key`. -/
import CLModel.Paths.FilterM
import CLModel.Proofs.C14Filter
namespace C14L
open Filt FiltM C14M

/-- the test the scan makes on one rule: the path first (it may raise, whatever the key says), then the key part -/
def ruleTestS (fp : Text) (entity : Option Text) (r : CachedRuleS) : Except PyErr Bool :=
  match matchesS r.path fp with
  | .ok b => .ok (b && keyOK r.key entity)
  | .error e => .error e

theorem scanRulesS_cons (fp : Text) (entity : Option Text) (r : CachedRuleS) (rest : List CachedRuleS) :
    scanRulesS fp entity (r :: rest) =
      match ruleTestS fp entity r with
      | .ok false => scanRulesS fp entity rest
      | .ok true => .ok r.action
      | .error e => .error e := by
  cases hm : matchesS r.path fp with
  | error e => simp only [scanRulesS, ruleTestS, hm, bind, Except.bind]
  | ok b =>
    cases b with
    | false => simp [scanRulesS, ruleTestS, hm, bind, Except.bind]
    | true =>
      simp only [scanRulesS, ruleTestS, hm, bind, Except.bind, Bool.not_true, Bool.false_eq_true, if_false,
        Bool.true_and]
      cases hk : r.key with
      | none => cases entity <;> simp [keyOK, pure, Except.pure]
      | some k =>
        cases entity with
        | none => simp [keyOK, pure, Except.pure]
        | some e => cases hke : k.matches e <;> simp [keyOK, hke, pure, Except.pure]

end C14L

namespace C14M
open Filt FiltM

theorem bind_ok {ε α β : Type} {x : Except ε α} {f : α → Except ε β} {b : β}
    (h : (x >>= f) = .ok b) : ∃ a, x = .ok a ∧ f a = .ok b := by
  cases x with
  | error e => simp [bind, Except.bind] at h
  | ok a => exact ⟨a, rfl, by simpa [bind, Except.bind] using h⟩

theorem ok_bind {ε α β : Type} {x : Except ε α} {f : α → Except ε β} {a : α}
    (h : x = .ok a) : (x >>= f) = f a := by
  subst h; rfl

theorem evalMatcher_inv {m : PM.Matcher} {loc fp : Text} {pm : PathM} (h : evalMatcher m loc fp = .ok pm) :
    ∃ b r, m.withEnv (localeEnv loc) = .ok b ∧ matchesS b fp = .ok r ∧ pm = ⟨fun _ _ => r⟩ := by
  unfold evalMatcher at h
  obtain ⟨b, hb, h⟩ := bind_ok h
  obtain ⟨r, hr, h⟩ := bind_ok h
  simp only [pure, Except.pure, Except.ok.injEq] at h
  exact ⟨b, r, hb, hr, h.symm⟩

theorem enabledFor_eq (m : PathM) (ls : Option (List Text)) (loc : Text) :
    PathEntry.enabledFor ⟨m, ls⟩ loc = enabledFor ls loc := by
  cases ls <;> rfl

/- The inversions of this cluster conclude with a LIST OF PAIRS `l`: the two lists that a pair of `mapM`-like loops relates
elementwise are `l.map (·.1)` and `l.map (·.2)`, and `∀ p ∈ l, R p.1 p.2` is the relation.  Here: the bound matchers `cache`
builds for the enabled paths, paired with the abstract bound patterns they answer as. -/
theorem evalPaths_inv {loc fp : Text} : ∀ {paths : List PathEntryS} {ps : List PathEntry},
    evalPaths loc fp paths = .ok ps →
    ps.map (·.locales) = paths.map (·.locales) ∧
    ∃ l : List (PM.Matcher × BoundM),
      cachePaths loc paths = .ok (l.map (·.1)) ∧
      (ps.filter (fun p => p.enabledFor loc)).map (fun p => p.l10n.withLocale loc) = l.map (·.2) ∧
      ∀ p ∈ l, matchesS p.1 fp = .ok (p.2.matchPath fp)
  | [], ps, h => by
    simp only [evalPaths, pure, Except.pure, Except.ok.injEq] at h
    subst h
    exact ⟨rfl, [], rfl, rfl, fun p hp => by cases hp⟩
  | p :: rest, ps, h => by
    simp only [evalPaths] at h
    obtain ⟨pm, hpm, h⟩ := bind_ok h
    obtain ⟨ps', hps', h⟩ := bind_ok h
    cases h
    obtain ⟨b, r, hb, hr, rfl⟩ := evalMatcher_inv hpm
    obtain ⟨hloc, l, hc, hmap, hall⟩ := evalPaths_inv hps'
    refine ⟨by simp [hloc], ?_⟩
    by_cases hen : enabledFor p.locales loc = true
    · refine ⟨(b, ⟨fun _ => r⟩) :: l, ?_, ?_, ?_⟩
      · simp only [cachePaths, hen, Bool.not_true, Bool.false_eq_true, if_false, hb, hc, bind, Except.bind,
          pure, Except.pure, List.map_cons]
      · have : PathEntry.enabledFor ⟨⟨fun _ _ => r⟩, p.locales⟩ loc = true := by
          rw [enabledFor_eq]; exact hen
        simp only [List.filter_cons, this, if_true, List.map_cons, hmap]
        rfl
      · intro q hq
        rcases List.mem_cons.mp hq with rfl | hq
        · exact hr
        · exact hall q hq
    · have hen' : enabledFor p.locales loc = false := by simpa using hen
      refine ⟨l, ?_, ?_, hall⟩
      · simp only [cachePaths, hen', Bool.not_false, if_true, hc]
      · have : PathEntry.enabledFor ⟨⟨fun _ _ => r⟩, p.locales⟩ loc = false := by
          rw [enabledFor_eq]; exact hen'
        simp only [List.filter_cons, this, Bool.false_eq_true, if_false, hmap]

theorem anyMatchS_pairs {fp : Text} : ∀ (l : List (PM.Matcher × BoundM)),
    (∀ p ∈ l, matchesS p.1 fp = .ok (p.2.matchPath fp)) →
    anyMatchS fp (l.map (·.1)) = .ok ((l.map (·.2)).any (fun p => p.matchPath fp))
  | [], _ => rfl
  | p :: rest, h => by
    have h1 := h p (by simp)
    have ih := anyMatchS_pairs rest (fun q hq => h q (by simp [hq]))
    simp only [List.map_cons, anyMatchS, h1, bind, Except.bind, List.any_cons]
    cases p.2.matchPath fp with
    | true => simp [pure, Except.pure]
    | false => simpa using ih

/-- a bound `Matcher` rule and the abstract cached rule it stands for -/
def RelR (fp : Text) (a : CachedRuleS) (b : CachedRule) : Prop :=
  matchesS a.path fp = .ok (b.path.matchPath fp) ∧ a.key = b.key ∧ a.action = b.action

theorem evalRules_inv {loc fp : Text} : ∀ {rules : List RuleS} {rs : List Rule},
    evalRules loc fp rules = .ok rs →
    ∃ l : List (CachedRuleS × CachedRule),
      cacheRules loc rules = .ok (l.map (·.1)) ∧
      rs.map (fun r => (⟨r.path.withLocale loc, r.key, r.action⟩ : CachedRule)) = l.map (·.2) ∧
      ∀ p ∈ l, RelR fp p.1 p.2
  | [], rs, h => by
    simp only [evalRules, pure, Except.pure, Except.ok.injEq] at h
    subst h
    exact ⟨[], rfl, rfl, fun p hp => by cases hp⟩
  | r :: rest, rs, h => by
    simp only [evalRules] at h
    obtain ⟨pm, hpm, h⟩ := bind_ok h
    obtain ⟨rs', hrs', h⟩ := bind_ok h
    cases h
    obtain ⟨b, x, hb, hx, rfl⟩ := evalMatcher_inv hpm
    obtain ⟨l, hc, hmap, hall⟩ := evalRules_inv hrs'
    refine ⟨(⟨b, r.key, r.action⟩, ⟨⟨fun _ => x⟩, r.key, r.action⟩) :: l, ?_, ?_, ?_⟩
    · simp only [cacheRules, hb, hc, bind, Except.bind, pure, Except.pure, List.map_cons]
    · simp only [List.map_cons, hmap]; rfl
    · intro q hq
      rcases List.mem_cons.mp hq with rfl | hq
      · exact ⟨hx, rfl, rfl⟩
      · exact hall q hq

theorem scanRulesS_pairs {fp : Text} (ent : Option Text) : ∀ (l : List (CachedRuleS × CachedRule)),
    (∀ p ∈ l, RelR fp p.1 p.2) →
    scanRulesS fp ent (l.map (·.1)) = .ok (scanRules fp ent (l.map (·.2)))
  | [], _ => rfl
  | p :: rest, h => by
    obtain ⟨h1, h2, h3⟩ := h p (by simp)
    rw [List.map_cons, List.map_cons, C14L.scanRulesS_cons, scanRules_cons_key, C14L.ruleTestS, h1, h2, h3]
    dsimp only
    cases p.2.path.matchPath fp && keyOK p.2.key ent with
    | false => exact scanRulesS_pairs ent rest (fun q hq => h q (by simp [hq]))
    | true => rfl

theorem ownStepS_eq {paths : List PathEntryS} {rules : List RuleS} {ps : List PathEntry} {rs : List Rule}
    (file : File) (ent : Option Text) (acts : List (Option Action))
    (hp : evalPaths file.locale file.fullpath paths = .ok ps)
    (hr : evalRules file.locale file.fullpath rules = .ok rs) :
    ownStepS paths rules file ent acts = .ok
      (pick (if (buildCache ps rs file.locale).l10nPaths.any (fun p => p.matchPath file.fullpath) then
          acts ++ [some (scanRules file.fullpath ent (buildCache ps rs file.locale).rules.reverse)]
        else acts)) := by
  obtain ⟨_, lp, hcp, hmp, hallp⟩ := evalPaths_inv hp
  obtain ⟨lr, hcr, hmr, hallr⟩ := evalRules_inv hr
  have hany := anyMatchS_pairs lp hallp
  have hscan := scanRulesS_pairs ent lr.reverse (fun p hp => hallr p (List.mem_reverse.mp hp))
  simp only [List.map_reverse] at hscan
  simp only [ownStepS, cacheS, hcp, hcr, bind, Except.bind, pure, Except.pure, hany, buildCache, hmp, hmr]
  cases (lp.map (·.2)).any (fun p => p.matchPath file.fullpath) with
  | false => simp
  | true => simp [hscan]

theorem ownLocalesS_eq {loc fp : Text} {locales : Option (List Text)} {paths : List PathEntryS} {ps : List PathEntry}
    (hp : evalPaths loc fp paths = .ok ps) : ownLocalesS locales paths = ownLocales locales ps := by
  obtain ⟨hloc, _⟩ := evalPaths_inv hp
  unfold ownLocalesS ownLocales
  congr 1
  have h1 : paths.flatMap (fun p => optLocales p.locales) = (paths.map (·.locales)).flatMap optLocales := by
    rw [List.flatMap_map]
  have h2 : ps.flatMap (fun p => optLocales p.locales) = (ps.map (·.locales)).flatMap optLocales := by
    rw [List.flatMap_map]
  rw [h1, h2, hloc]

theorem evalS_inv {locales : Option (List Text)} {paths : List PathEntryS} {rules : List RuleS}
    {children excludes : List ConfigS} {loc fp : Text} {c : Config}
    (h : evalS (.mk locales paths rules children excludes) loc fp = .ok c) :
    ∃ ps rs cs es, evalPaths loc fp paths = .ok ps ∧ evalRules loc fp rules = .ok rs ∧
      evalListS children loc fp = .ok cs ∧ evalListS excludes loc fp = .ok es ∧
      c = .mk locales ps rs cs es := by
  rw [evalS] at h
  obtain ⟨ps, hps, h⟩ := bind_ok h
  obtain ⟨rs, hrs, h⟩ := bind_ok h
  obtain ⟨cs, hcs, h⟩ := bind_ok h
  obtain ⟨es, hes, h⟩ := bind_ok h
  simp only [pure, Except.pure, Except.ok.injEq] at h
  exact ⟨ps, rs, cs, es, hps, hrs, hcs, hes, h.symm⟩

theorem evalListS_cons_inv {s : ConfigS} {ss : List ConfigS} {loc fp : Text} {cs : List Config}
    (h : evalListS (s :: ss) loc fp = .ok cs) :
    ∃ c cs', evalS s loc fp = .ok c ∧ evalListS ss loc fp = .ok cs' ∧ cs = c :: cs' := by
  rw [evalListS] at h
  obtain ⟨c, hc, h⟩ := bind_ok h
  obtain ⟨cs', hcs', h⟩ := bind_ok h
  simp only [pure, Except.pure, Except.ok.injEq] at h
  exact ⟨c, cs', hc, hcs', h.symm⟩

theorem evalListS_nil_inv {loc fp : Text} {cs : List Config} (h : evalListS [] loc fp = .ok cs) : cs = [] := by
  rw [evalListS] at h
  simp only [pure, Except.pure, Except.ok.injEq] at h
  exact h.symm

mutual
theorem allLocalesS_eq : ∀ (s : ConfigS) (loc fp : Text) (c : Config), evalS s loc fp = .ok c →
    allLocalesS s = allLocales c
  | .mk locales paths rules children excludes, loc, fp, c, h => by
    obtain ⟨ps, rs, cs, es, hps, _, hcs, _, rfl⟩ := evalS_inv h
    rw [allLocalesS, allLocales, ownLocalesS_eq hps, allLocalesListS_eq children loc fp cs hcs]
theorem allLocalesListS_eq : ∀ (ss : List ConfigS) (loc fp : Text) (cs : List Config),
    evalListS ss loc fp = .ok cs → allLocalesListS ss = allLocalesList cs
  | [], loc, fp, cs, h => by
    rw [evalListS_nil_inv h]; rfl
  | s :: ss, loc, fp, cs, h => by
    obtain ⟨c, cs', hc, hcs', rfl⟩ := evalListS_cons_inv h
    rw [allLocalesListS, allLocalesList, allLocalesS_eq s loc fp c hc, allLocalesListS_eq ss loc fp cs' hcs']
end

mutual
theorem filterInnerS_eq : ∀ (s : ConfigS) (file : File) (ent : Option Text) (c : Config),
    evalS s file.locale file.fullpath = .ok c → filterInnerS s file ent = .ok (filterInner c file ent)
  | .mk locales paths rules children excludes, file, ent, c, h => by
    obtain ⟨ps, rs, cs, es, hps, hrs, hcs, hes, rfl⟩ := evalS_inv h
    have h1 := anyExcludeErrorS_eq excludes file es hes
    have h2 := childActionsS_eq children file ent cs hcs
    rw [filterInnerS, filterInner]
    simp only [h1, h2, bind, Except.bind]
    cases anyExcludeError es file with
    | true => simp [pure, Except.pure]
    | false =>
      simp only [Bool.false_eq_true, if_false]
      by_cases herr : (childActions cs file ent).contains (some Action.error) = true
      · simp only [herr, if_true, pure, Except.pure]
      · simp only [herr]
        exact ownStepS_eq file ent _ hps hrs
theorem childActionsS_eq : ∀ (ss : List ConfigS) (file : File) (ent : Option Text) (cs : List Config),
    evalListS ss file.locale file.fullpath = .ok cs → childActionsS ss file ent = .ok (childActions cs file ent)
  | [], file, ent, cs, h => by
    rw [evalListS_nil_inv h]; rfl
  | s :: ss, file, ent, cs, h => by
    obtain ⟨c, cs', hc, hcs', rfl⟩ := evalListS_cons_inv h
    rw [childActionsS, childActions]
    simp only [filterInnerS_eq s file ent c hc, childActionsS_eq ss file ent cs' hcs', bind, Except.bind,
      pure, Except.pure]
theorem anyExcludeErrorS_eq : ∀ (ss : List ConfigS) (file : File) (cs : List Config),
    evalListS ss file.locale file.fullpath = .ok cs → anyExcludeErrorS ss file = .ok (anyExcludeError cs file)
  | [], file, cs, h => by
    rw [evalListS_nil_inv h]; rfl
  | s :: ss, file, cs, h => by
    obtain ⟨c, cs', hc, hcs', rfl⟩ := evalListS_cons_inv h
    rw [anyExcludeErrorS, anyExcludeError]
    rw [allLocalesS_eq s _ _ c hc]
    have ih := anyExcludeErrorS_eq ss file cs' hcs'
    cases hl : (allLocales c).contains file.locale with
    | false => simpa [bind, Except.bind, pure, Except.pure] using ih
    | true =>
      simp only [Bool.not_true, Bool.false_eq_true, if_false, filterInnerS_eq s file none c hc, bind, Except.bind]
      cases filterInner c file none with
      | none => simpa [pure, Except.pure] using ih
      | some a =>
        simp only [pure, Except.pure]
        cases a == Action.error with
        | true => simp
        | false => simpa using ih
end

theorem filterS_eq {s : ConfigS} {file : File} (ent : Option Text) {c : Config}
    (h : evalS s file.locale file.fullpath = .ok c) : filterS s file ent = .ok (filter c file ent) := by
  unfold filterS filter
  rw [allLocalesS_eq s _ _ c h]
  cases (allLocales c).contains file.locale with
  | false => simp [pure, Except.pure]
  | true =>
    simp only [Bool.not_true, Bool.false_eq_true, if_false, filterInnerS_eq s file ent c h, bind, Except.bind]
    cases filterInner c file ent <;> rfl

theorem filterM_eq {cfg : ConfigM} {file : File} (ent : Option Text) {c : Config}
    (h : instantiate cfg file.locale file.fullpath = .ok c) : filterM cfg file ent = .ok (filter c file ent) := by
  unfold instantiate at h
  obtain ⟨s, hs, h⟩ := bind_ok h
  unfold filterM
  rw [ok_bind hs]
  exact filterS_eq ent h

end C14M
