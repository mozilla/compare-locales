/- What `sub` needs of the matcher whose pattern it expands: the wildcard numbers, the texts the pieces stand for, and
   expansion below the captures: in an environment that answers the matcher's own bindings first and captured texts
   otherwise, every node stands for a text (`StandsFor`) and the pattern expands to the root followed by those texts
   (`expandTop_below`). -/
import CLModel.Proofs.C12RNest
namespace C11R
open PM

def wildNum : Node → Option Nat
  | .star n => some n
  | .starstar n _ => some n
  | _ => none

/-- the environment entry a node reads when it is not bound by the matcher itself -/
def keyOf : Node → Option Text
  | .var name _ => some name
  | .star k => some (sname k)
  | .starstar k _ => some (sname k)
  | _ => none

theorem wildNum_inv {n : Node} {k : Nat} (h : wildNum n = some k) : n = .star k ∨ ∃ sfx, n = .starstar k sfx := by
  cases n <;> cases h
  · exact .inl rfl
  · exact .inr ⟨_, rfl⟩

theorem nameOfN_wild {n : Node} {k : Nat} (h : wildNum n = some k) : nameOfN n = [sname k] := by
  rcases wildNum_inv h with rfl | ⟨sfx, rfl⟩ <;> rfl

theorem capsVal_wildN {vs : Nat → Text} {env : Env} {n : Node} {k : Nat} (h : wildNum n = some k) :
    capsVal (valOf vs env n) = .str (vs k) := by
  rcases wildNum_inv h with rfl | ⟨sfx, rfl⟩
  · rfl
  · by_cases hv : vs k = [] <;> simp [hv, valOf, capsVal]

theorem pieceText_wild {vs : Nat → Text} {env : Env} {n : Node} {k : Nat} (h : wildNum n = some k) :
    (pieceOf vs env n).text = vs k := by
  rcases wildNum_inv h with rfl | ⟨sfx, rfl⟩
  · rfl
  · simp only [pieceOf]; split <;> rfl

theorem keyOf_wild {n : Node} {k : Nat} (h : wildNum n = some k) : keyOf n = some (sname k) := by
  rcases wildNum_inv h with rfl | ⟨sfx, rfl⟩ <;> rfl

theorem fillN_eq (vs : Nat → Text) (env : Env) (ns : List Node) :
    fillN vs env ns = ns.flatMap (fun n => (pieceOf vs env n).text) := by
  induction ns with
  | nil => rfl
  | cons c cs ih =>
    simp only [fillN, piecesText, List.map_cons, List.flatMap_cons] at ih ⊢
    rw [ih]

theorem fuelFor_derase (env : Env) (k : Text) : 2 * (derase env k).length + 2 ≤ fuelFor env := by
  have := derase_length_le env k
  simp only [fuelFor]; omega

theorem var_expand_ext {env env' : Env} (hext : Ext env env') (hgood : GoodEnv env) (hsafe : AndroidSafe env')
    {name : Text} {rep : Bool} {t : Text}
    (ht : expandNode (expandVal (fuelFor env)) (.var name rep) env true = .ok t) (rm' : Bool) :
    expandNode (expandVal (fuelFor env')) (.var name rep) env' rm' = .ok t := by
  simp only [expandNode] at ht ⊢
  cases hl : env.lookup name with
  | none => simp [hl] at ht
  | some v =>
    simp only [hl] at ht
    simp only [hext name v hl]
    have h0 := expandVal_ext _ v _ _ t rm' (hext.derase name) (hgood.derase name) (hgood.lookup hl) ht
    exact expandVal_fuel h0 ((expandVal_norec (fuelFor env')).1 v _ rm' (hsafe.derase name) (fuelFor_derase env' name))

/-- in the environment `E` (the captures below `env`) the node stands for `t`: a literal; a variable that `env` binds to a
    fully bound value with expansion `t`; or a variable / wildcard that `env` does not bind and whose capture is `t` -/
def StandsFor (env E : Env) (n : Node) (t : Text) : Prop :=
  n = .lit t ∨
  (∃ name rep, n = .var name rep ∧ expandNode (expandVal (fuelFor env)) n env true = .ok t) ∨
  (∃ nm, keyOf n = some nm ∧ env.lookup nm = none ∧ E.lookup nm = some (.str t))

theorem StandsFor.expand {env E : Env} (hext : Ext env E) (hgood : GoodEnv env) (hsafe : AndroidSafe E)
    {n : Node} {t : Text} (h : StandsFor env E n t) (rm : Bool) :
    expandNode (expandVal (fuelFor E)) n E rm = .ok t := by
  rcases h with rfl | ⟨name, rep, rfl, ht⟩ | ⟨nm, hk, _, hl⟩
  · rfl
  · exact var_expand_ext hext hgood hsafe ht rm
  · cases n <;> cases hk <;> simp [expandNode, hl, expandVal, pure, Except.pure]

theorem expandTop_below {p : Pattern} {env E : Env} {X : Text → Option (Option Text)} {pc : Node → Text} {rt : Text}
    (hlk : ∀ k, E.lookup k = match env.lookup k with
      | some v => some v
      | none => (X k).map capsVal)
    (hgood : GoodEnv env) (hroot : rootOf (expandVal (fuelFor env)) p env = .ok rt)
    (hnode : ∀ n ∈ p.nodes, StandsFor env E n (pc n)) :
    expandTop p E = .ok (rt ++ p.nodes.flatMap pc) := by
  have hext : Ext env E := by intro k v hl; rw [hlk k, hl]
  have hsafe : AndroidSafe E := by
    intro q hq
    rw [hlk localeName] at hq
    cases hl : env.lookup localeName with
    | some v => simp only [hl, Option.some.injEq] at hq; subst hq; exact (hgood.lookup hl).2
    | none =>
      simp only [hl] at hq
      cases hx : X localeName with
      | none => simp [hx] at hq
      | some x => simp [hx, capsVal] at hq
  have hroot' : rootOf (expandVal (fuelFor E)) p E = .ok rt := by
    cases hrt : p.root with
    | none => rw [rootOf_none hrt] at hroot ⊢; exact hroot
    | some r =>
      cases hns : p.nodes with
      | nil => simp [rootOf, hrt, hns] at hroot
      | cons n0 tl =>
        have h0 := hnode n0 (by simp [hns])
        simp only [rootOf, hrt, hns] at hroot ⊢
        rw [h0.expand hext hgood hsafe false]
        have hsame : expandNode (expandVal (fuelFor env)) n0 env false = .ok (pc n0) := by
          generalize pc n0 = t at h0
          rcases h0 with rfl | ⟨name, rep, rfl, ht⟩ | ⟨nm, hk, hn, _⟩
          · rfl
          · exact var_expand_ext (fun _ _ h => h) hgood (fun q hq => (hgood.lookup hq).2) ht false
          · cases n0 with
            | var name rep => cases hk; simp [expandNode, hn] at hroot
            | star k => cases hk; simp [expandNode, hn] at hroot
            | starstar k sfx => cases hk; simp [expandNode, hn] at hroot
            | lit s => cases hk
            | android r => cases hk
        rw [hsame] at hroot
        exact hroot
  simp only [expandTop, expandPat, hroot', bind, Except.bind,
    expandChildren_of_nodes (pc := pc) p.nodes (fun n hn => (hnode n hn).expand hext hgood hsafe true),
    pure, Except.pure]

end C11R
