/- C02: what every format shares below the record grammars: the entries and views a walk is compared with, the
   one-newline white-space entry, a Python slice over a known stretch, a literal keyword in front of a regex, and what is
   read off a text known from a position on. -/
import CLModel.Proofs.C02Props
import CLModel.Proofs.WalkRel
namespace P
open Rx Gen.Pat

def wsEntry (nl : Nat) : Entry :=
  { kind := .whitespace, full := nl, s := nl, e := nl + 1, ks := (nl : Nat), ke := (nl + 1 : Nat),
    vs := (nl : Nat), ve := (nl + 1 : Nat) }

abbrev PRec := List Nat × List Nat

def printRec (r : PRec) : List Nat := r.1 ++ 61 :: (r.2 ++ [10])

theorem printRec_length (r : PRec) : (printRec r).length = r.1.length + 1 + r.2.length + 1 := by
  simp [printRec]; omega

def entitiesOf (f : Fmt) (s : Array Nat) (es : List Entry) : List (Option EntView) :=
  (es.filter (fun e => e.kind == .entity)).map (entView f s)

def junkOf (s : Array Nat) (es : List Entry) : List (List Nat) :=
  (es.filter (fun e => e.kind == .junk)).map (fun e => slice s e.s e.e)

def expectedView (r : PRec) : Option EntView :=
  some { key := r.1, raw := r.2, val := some r.2, comment := none }

theorem pySlice_nat (s : Array Nat) (a b : Nat) (ha : a ≤ s.size) (hb : b ≤ s.size) :
    pySlice s (a : Int) (b : Int) = slice s a b := by
  unfold pySlice pyIndex
  have h1 : ¬ ((a : Int) < 0) := by omega
  have h2 : ¬ ((b : Int) < 0) := by omega
  simp only [h1, h2, if_false, Int.toNat_natCast]
  rw [Nat.min_eq_left ha, Nat.min_eq_left hb]

end P

namespace C02X
open Rx P

def junkEntry (off e : Nat) : Entry := { kind := .junk, full := off, s := off, e := e }

def litsThen : List Nat → Re → Re
  | [], r => r
  | c :: cs, r => .seq (.lit c) (litsThen cs r)

theorem litsThen_ok (s : Array Nat) (r : Re) : ∀ (cs : List Nat) (p : Nat) (caps : List (Nat × Nat × Nat)) (k : K),
    (∀ i, (hi : i < cs.length) → s[p + i]? = some cs[i]) →
    m s (litsThen cs r) ⟨p, caps⟩ k = m s r ⟨p + cs.length, caps⟩ k
  | [], _, _, _, _ => rfl
  | c :: cs, p, caps, k, h => by
    rw [litsThen, m_seq_def, m_lit_ok (p := p) (c := c) (h 0 (Nat.zero_lt_succ _)) caps,
      litsThen_ok s r cs (p + 1) caps k (fun i hi => by
        rw [Nat.add_assoc, Nat.add_comm 1]; exact h (i + 1) (Nat.succ_lt_succ hi)),
      List.length_cons, Nat.add_assoc, Nat.add_comm 1]

theorem pySlice_of_drop (s : Array Nat) {p : Nat} {a b : List Nat} (h : s.toList.drop p = a ++ b) :
    pySlice s (p : Nat) ((p + a.length : Nat)) = a := by
  have hl : (a ++ b).length = s.size - p := by rw [← h]; simp
  rw [List.length_append] at hl
  by_cases hp : p ≤ s.size
  · rw [pySlice_nat s p (p + a.length) hp (by omega), slice_take s p a.length _ h, List.take_left]
  · have : a = [] := List.eq_nil_of_length_eq_zero (by omega)
    subst this
    unfold pySlice
    simp [slice]

end C02X
