/-
C17: shape of the spans of the parsed entries of ini, inc, po and properties (`SpanShape`, `walk_shape`).
`Entry.position(offset)` counts from `span[0]` (`Entry.s`), `Entry.all` (what `Checker.check` searches) starts at
`_span_start()` (`Entry.full`): they coincide when there is no attached pre-comment.
-/
import CLModel.Parser.Formats
import CLModel.Proofs.RxLemmas
import CLModel.Proofs.Walk
import CLModel.Proofs.ParserProgress
import CLModel.Proofs.Skel
import CLModel.Proofs.WalkFmt
namespace C17P
open P Rx

/-- the text of the entry (`all`) starts at or before its span; a Junk and an Entity without pre-comment start
    exactly at their span; an attached pre-comment starts at `full` and ends at or before the span -/
def SpanShape (e : Entry) : Prop :=
  e.full ≤ e.s ∧ (e.kind = .junk → e.s = e.full) ∧ (e.kind = .entity → e.pc = none → e.s = e.full) ∧
  (∀ a b, e.pc = some (a, b) → a = e.full ∧ b ≤ e.s)

theorem shape_junk (s : Array Nat) (off : Nat) (exps : List Re) : SpanShape (getJunk s off exps) := by
  simp [SpanShape, getJunk]

theorem shape_plain (k : Kind) (a b : Nat) (ks ke vs ve : Int) :
    SpanShape { kind := k, full := a, s := a, e := b, ks := ks, ke := ke, vs := vs, ve := ve } := by
  simp [SpanShape]

theorem shape_entity (off o1 o2 : Nat) {e : Nat} {ks ke vs ve : Int} (h1 : off ≤ o1) (h2 : o1 ≤ o2) :
    SpanShape { kind := .entity, full := off, s := o2, e := e, ks := ks, ke := ke, vs := vs, ve := ve, pc := some (off, o1) } := by
  simp only [SpanShape, reduceCtorEq, false_implies, Option.some.injEq, Prod.mk.injEq, true_and]
  exact ⟨by omega, fun _ => trivial, fun a b h => by omega⟩

theorem skel_shape (K : Stages) (s : Array Nat) (off : Nat) (hoff : off ≤ s.size)
    (hc : 1 ≤ minLen K.reComment) (hearly : ∀ b o1 e x, K.early b off o1 e = some x → SpanShape x)
    (hother : SpanShape (K.other off)) : SpanShape (skel K s off) := by
  apply skel_cases
  · intro _ _; exact shape_plain ..
  · intro _ _ _; exact shape_plain ..
  · intro _ _ _ e _ _ he; exact hearly _ _ _ e he
  · intro o1 o2 b km r hp hg h0 _ _
    rcases hp.bounds hc hoff with ⟨rfl, rfl⟩ | ⟨rfl, h1, h2⟩
    · simp [SpanShape, entityE, h0 rfl]
    · exact shape_entity off o1 o2 (by omega) (hg.bounds h2).1
  · intro _ _; exact hother

theorem getNext_shape (c : BaseCfg) (s : Array Nat) (off : Nat) (hoff : off ≤ s.size) (hc : 1 ≤ minLen c.reComment) :
    SpanShape (getNext c s off) :=
  getNext_eq_skel c s off ▸ skel_shape (baseK c s) s off hoff hc (fun _ _ _ _ h => by cases h) (shape_junk s off _)

theorem iniGetNext_shape (s : Array Nat) (off : Nat) (hoff : off ≤ s.size) : SpanShape (iniGetNext s off) := by
  unfold iniGetNext
  split
  · simp [SpanShape]
  · exact getNext_shape iniCfg s off hoff (by decide)

theorem poGetNext_shape (s : Array Nat) (off : Nat) (hoff : off ≤ s.size) : SpanShape (poGetNext s off) :=
  getNext_shape poCfg s off hoff (by decide)

theorem propsGetNext_shape (s : Array Nat) (off : Nat) (hoff : off ≤ s.size) : SpanShape (propsGetNext s off) :=
  propsGetNext_eq_skel s off ▸ skel_shape (propsK s) s off hoff (show 1 ≤ minLen Gen.Pat.PropertiesParser_reComment by decide)
    (fun _ _ _ _ h => by cases h) (shape_junk s off _)

theorem definesGetNext_shape (s : Array Nat) (fel : Bool) (off : Nat) (hoff : off ≤ s.size) :
    SpanShape (definesGetNext s fel off).1 := by
  rw [definesGetNext_eq_skel]
  refine skel_shape (definesK s fel) s off hoff (show 1 ≤ minLen Gen.Pat.DefinesParser_reComment by decide)
    (fun b _ _ x hx => ?_) ?_
  · simp only [definesK] at hx
    split at hx
    · cases b <;> cases hx <;> exact shape_plain ..
    · cases hx
  · simp only [definesK, definesOther]
    split
    · exact shape_plain ..
    · exact shape_junk s off _

/-- `.dtd` is left out: `dtdGetNext` is `getNext` behind the skip of a header at offset 0 and a second try on Junk, no
    `skel` instance; the composed position theorems do not cover DTD. -/
theorem walk_shape (f : Fmt) (hf : f ≠ .dtd) (s : Array Nat) (es : List Entry) (h : walk f s = .done es) :
    ∀ e ∈ es, SpanShape e := by
  refine walk_all f s es h SpanShape fun fel off ho => ?_
  have ho : off ≤ s.size := by omega
  cases f
  · exact propsGetNext_shape s off ho
  · exact absurd rfl hf
  · exact iniGetNext_shape s off ho
  · exact definesGetNext_shape s fel off ho
  · exact poGetNext_shape s off ho

end C17P
