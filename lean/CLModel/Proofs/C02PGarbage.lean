/- C02, properties: garbage locality WITH comments, any number of garbage lines.  Neither the key nor the comment regex
   matches anywhere on a garbage line or on the white-space behind it, so `getNext` there is one junk entry
   (`props_junk_at`); `propsSpec` is the format's instance of the document theorem. -/
import CLModel.Proofs.C02PProps
import CLModel.Proofs.C02PGen
namespace C02X
open Rx Gen.Pat C02P

/-- non-empty; no `= : # !` and no newline; not starting with white-space -/
structure SafeGarbage (g : List Nat) : Prop where
  ne : g ≠ []
  chars : ∀ c ∈ g, c ≠ 61 ∧ c ≠ 58 ∧ c ≠ 35 ∧ c ≠ 33 ∧ c ≠ 10
  head : ∀ c, g.head? = some c → c ≠ 32 ∧ c ≠ 9 ∧ c ≠ 13

theorem SafeGarbage.char_at {g : List Nat} (hg : SafeGarbage g) {s : Array Nat} {off : Nat} {rest : List Nat}
    (h : At s off (g ++ 10 :: rest)) (p : Nat) (h1 : off ≤ p) (h2 : p ≤ off + g.length) :
    ∃ c t, At s p (c :: t) ∧ c ≠ 61 ∧ c ≠ 58 ∧ c ≠ 35 ∧ c ≠ 33 := by
  have h' : At s off ((g ++ [10]) ++ rest) := by rw [List.append_assoc]; exact h
  obtain ⟨a, t, ha, hat⟩ := h'.inside h1 (by rw [List.length_append]; exact Nat.lt_succ_of_le h2)
  refine ⟨a, t, hat, ?_⟩
  rcases List.mem_append.mp ha with hm | hm
  · have := hg.chars a hm
    exact ⟨this.1, this.2.1, this.2.2.1, this.2.2.2.1⟩
  · obtain rfl := List.mem_singleton.mp hm
    decide

theorem garbage_key_none {g : List Nat} (hg : SafeGarbage g) {s : Array Nat} {off : Nat} {rest : List Nat}
    (h : At s off (g ++ 10 :: rest)) (p : Nat) (h1 : off ≤ p) (h2 : p ≤ off + g.length) :
    matchAt s PropertiesParser_reKey p = none := by
  have hnl : s[off + g.length]? = some 10 := h.app.hd
  simp only [matchAt, PropertiesParser_reKey, m_seq_def, m_group_def, m_rep_def, m_cls_charStep]
  obtain ⟨c, _, hat, _⟩ := hg.char_at h p h1 h2
  have hc := hat.hd
  by_cases hin : inC true [ClsItem.ch 35, ClsItem.ch 33, ClsItem.ch 32, ClsItem.ch 9, ClsItem.ch 13, ClsItem.ch 10] c = true
  · have hp : p < off + g.length := by
      by_cases hp : p < off + g.length
      · exact hp
      · have : p = off + g.length := by omega
        subst this
        rw [hnl] at hc; cases hc
        exact absurd hin (by decide)
    rw [charStep_ok s _ p c [] hc hin]
    have hstop : ∀ {P : Nat → Bool}, P 10 = false → ∀ c, s[off + g.length]? = some c → P c = false :=
      fun h10 c hc => by rw [hnl] at hc; cases hc; exact h10
    refine charLoop_none s _ false [] _ (pos := p + 1) (hstop (by decide)) 0 (by omega) fun q hq1 hq2 => ?_
    simp only []
    refine charLoop_none s _ true _ _ (hstop (by decide)) 0 hq2 fun q' hq1' hq2' => ?_
    obtain ⟨c', _, hat', a1, a2, _⟩ := hg.char_at h q' (by omega) hq2'
    exact charStep_fail s _ q' _ (Or.inr ⟨c', hat'.hd, by simp [inC, ClsItem.has, a1, a2]⟩) _
  · exact charStep_fail s _ p [] (Or.inr ⟨c, hc, by simpa using hin⟩) _

theorem garbage_comment_none {g : List Nat} (hg : SafeGarbage g) {s : Array Nat} {off : Nat} {rest : List Nat}
    (h : At s off (g ++ 10 :: rest)) (p : Nat) (h1 : off ≤ p) (h2 : p ≤ off + g.length) :
    matchAt s PropertiesParser_reComment p = none := by
  obtain ⟨c, t, hat, _, _, a3, a4⟩ := hg.char_at h p h1 h2
  exact props_comment_none_at s p _ (fun d hd => by cases hd; simp [isMark, a3, a4]) hat

end C02X

namespace C02P
open Rx P Gen.Pat C02X

structure PGarbage (g gap : List Nat) : Prop where
  safe : SafeGarbage g
  gap : ∃ w, gap = 10 :: w ∧ ∀ c ∈ w, isWs c = true

theorem props_key_none_ws (s : Array Nat) (p : Nat) (l : List Nat) (h : At s p l)
    (hl : ∀ c, l.head? = some c → isWs c = true) : matchAt s PropertiesParser_reKey p = none := by
  simp only [matchAt, PropertiesParser_reKey, m_seq_def, m_group_def, m_cls_charStep]
  apply step_at_fail _ h
  intro c hc
  have := hl c hc
  simp [isWs] at this
  rcases this with ((h | h) | h) | h <;> subst h <;> decide

theorem pgarbage_head (g gap : List Nat) (hg : PGarbage g gap) (l : List Nat) : DFollow (g ++ (gap ++ l)) := by
  intro c hc
  cases hgg : g with
  | nil => exact absurd hgg hg.safe.ne
  | cons a t =>
    rw [hgg] at hc; simp at hc; subst hc
    have h1 := hg.safe.head a (by rw [hgg]; rfl)
    have h2 := hg.safe.chars a (by rw [hgg]; simp)
    simp [isWs, h1, h2]

theorem props_start_match (s : Array Nat) (p : Nat) (b : PBlock) (rest : List Nat) (hg : b.Good')
    (h : At s p (b.print ++ rest)) :
    ∃ r ∈ [PropertiesParser_reKey, PropertiesParser_reComment], (matchAt s r p).isSome := by
  cases b with
  | record r =>
    by_cases hne : r.comment = []
    · have := r.key_at hg h
      rw [PRecord.kstart_nil hg hne] at this
      exact ⟨PropertiesParser_reKey, by simp, by rw [this]; rfl⟩
    · exact ⟨PropertiesParser_reComment, by simp, by rw [r.comment_at hg hne h]; rfl⟩
  | free ls gap =>
    obtain ⟨g1, g2, g3, g4, g5⟩ := hg
    have h' : At s p (printCLines ls ++ (gap ++ rest)) := by simpa [At, PBlock.print] using h
    refine ⟨PropertiesParser_reComment, by simp, ?_⟩
    rw [props_comment_at s p ls _ g1 g2 (After.of_gap rest (fun c hc => isMark_ws (g3 c hc)) g4 g5) h']
    rfl

theorem props_junk_at (s : Array Nat) (p : Nat) (g gap rest : List Nat) (hg : PGarbage g gap)
    (hnext : rest = [] ∨ ∃ r ∈ [PropertiesParser_reKey, PropertiesParser_reComment],
      (matchAt s r (p + g.length + gap.length)).isSome)
    (h : At s p (g ++ (gap ++ rest))) : propsGetNext s p = junkEntry p (p + g.length + gap.length) := by
  obtain ⟨w, hgap, hw⟩ := hg.gap
  subst hgap
  have hgl : 0 < g.length := List.length_pos_iff.mpr hg.safe.ne
  have hgar : At s p (g ++ 10 :: (w ++ rest)) := h
  have hwat : At s (p + g.length + 1) (w ++ rest) := h.app.tail
  -- inside the line and on its newline by `garbage_*_none`; on white-space neither a key nor a comment starts
  have hno : ∀ r ∈ [PropertiesParser_reKey, PropertiesParser_reComment], ∀ q, p ≤ q → q < p + g.length + (10 :: w).length →
      matchAt s r q = none := by
    intro r hr q h1 h2
    simp only [List.mem_cons, List.not_mem_nil, or_false] at hr
    by_cases hq : q ≤ p + g.length
    · rcases hr with rfl | rfl
      · exact garbage_key_none hg.safe hgar q h1 hq
      · exact garbage_comment_none hg.safe hgar q h1 hq
    · obtain ⟨a, t, ha, hat⟩ := hwat.inside (q := q) (by omega) (by simp only [List.length_cons] at h2; omega)
      rcases hr with rfl | rfl
      · exact props_key_none_ws s q (a :: t) hat (by intro c hc; cases hc; exact hw a ha)
      · exact props_comment_none_at s q (a :: t) (by intro c hc; cases hc; exact isMark_ws (hw a ha)) hat
  have hj := getJunk_over (p := p) (x := g ++ 10 :: w) [PropertiesParser_reKey, PropertiesParser_reComment] (by decide)
    (by simp) (fun r hr q h1 h2 => hno r hr q (by omega) (by simp only [List.length_append] at h2; omega))
    (by simpa [Nat.add_assoc] using hnext) (by simpa [At] using h)
  have hp : p < p + g.length + (10 :: w).length := by omega
  unfold propsGetNext
  simp only [hno PropertiesParser_reComment (by simp) p (Nat.le_refl _) hp, hno PropertiesParser_reKey (by simp) p (Nat.le_refl _) hp,
    ws_none_at h (pgarbage_head g _ hg rest)]
  simpa [Nat.add_assoc] using hj

/-- a block, optionally preceded by ONE garbage line (with the white-space after it) -/
structure PGBlock where
  junk : Option (List Nat × List Nat)
  b : PBlock

def PGBlock.jtext (x : PGBlock) : List Nat :=
  match x.junk with
  | none => []
  | some (g, gap) => g ++ gap

def PGBlock.print (x : PGBlock) : List Nat := x.jtext ++ x.b.print

def PGBlock.entries (off : Nat) (x : PGBlock) : List Entry :=
  (match x.junk with
   | none => []
   | some (g, gap) => [junkEntry off (off + g.length + gap.length)]) ++ x.b.entries (off + x.jtext.length)

def PGBlock.Good' (x : PGBlock) : Prop :=
  x.b.Good' ∧ ∀ g gap, x.junk = some (g, gap) → PGarbage g gap

def PGBlock.junks (x : PGBlock) : List (List Nat) :=
  match x.junk with
  | none => []
  | some (g, gap) => [g ++ gap]

def printPropsG (xs : List PGBlock) (tail : Option (List Nat × List Nat)) : List Nat :=
  printBlocks PGBlock.print xs ++ tailText tail

def propsGEntries (xs : List PGBlock) (tail : Option (List Nat × List Nat)) : List Entry :=
  blockEntries PGBlock.print (fun off (_ : Unit) x => PGBlock.entries off x) (fun c _ => c) 0 () xs ++
    (match tail with
     | none => []
     | some (g, gap) => [junkEntry (printBlocks PGBlock.print xs).length ((printBlocks PGBlock.print xs).length + g.length + gap.length)])

def propsGViews (xs : List PGBlock) : List (Option EntView) := (xs.map (fun x => x.b.views)).flatten

def propsGJunk (xs : List PGBlock) (tail : Option (List Nat × List Nat)) : List (List Nat) :=
  (xs.map PGBlock.junks).flatten ++ (match tail with | none => [] | some (g, gap) => [g ++ gap])

def propsSpec : GSpec Unit PBlock where
  f := .properties
  next := fun s _ off => (propsGetNext s off, ())
  c0 := ()
  pr := PBlock.print
  en := fun off _ b => b.entries off
  tr := fun c _ => c
  vw := PBlock.views
  Good' := fun _ b => b.Good'
  Lic := fun off b => ∀ r, b = .record r → r.NoLicense off
  Garb := fun _ g gap => PGarbage g gap
  JOk := fun _ => True
  Follow := DFollow
  Inv := fun _ _ => True

theorem propsSpec_laws : propsSpec.Laws where
  walk_def := fun _ => rfl
  inv0 := fun _ => trivial
  follow_nil := by intro c hc; cases hc
  block_walk := fun s b _ off rest hg hl h hfo _ => ⟨props_walks_block s off b rest hg hl hfo h, trivial⟩
  block_follow := fun _ b rest hg => pfollow_block b hg rest
  block_views := fun s b _ off rest hg h _ => props_views_block s off b rest hg h
  junk_at := by
    intro s _ p g gap rest hg h _ hnext
    refine ⟨?_, trivial⟩
    show (propsGetNext s p, ()) = _
    rw [props_junk_at s p g gap rest hg ?_ h]
    rcases hnext with rfl | ⟨b, rest', rfl, hb, _, _⟩
    · exact Or.inl rfl
    · exact Or.inr (props_start_match s _ b rest' hb h.app.app)
  garb_follow := fun _ g gap rest hg => pgarbage_head g gap hg rest
  garb_pos := fun _ g gap hg => List.length_pos_iff.mpr hg.safe.ne
  gap_pos := fun _ g gap hg => by obtain ⟨w, rfl, _⟩ := hg.gap; exact Nat.succ_pos _
  len2 := fun _ b hb => b.print_len2 hb
  lic2 := fun _ _ h r _ => r.lic_pos (Nat.lt_of_lt_of_le Nat.zero_lt_two h)

def PGBlock.toGB (x : PGBlock) : GB PBlock := ⟨x.junk, x.b⟩

theorem propsG_bridge (xs : List PGBlock) (tail : Option (List Nat × List Nat)) :
    propsSpec.gprint (xs.map PGBlock.toGB) tail = printPropsG xs tail ∧
      propsSpec.gentries (xs.map PGBlock.toGB) tail = propsGEntries xs tail ∧
      propsSpec.gviews (xs.map PGBlock.toGB) = propsGViews xs ∧ gbJunk (xs.map PGBlock.toGB) tail = propsGJunk xs tail := by
  have hp : printBlocks propsSpec.gpr (xs.map PGBlock.toGB) = printBlocks PGBlock.print xs := printBlocks_map _ _ xs
  refine ⟨by rw [GSpec.gprint, hp]; rfl, ?_, ?_, ?_⟩
  · rw [GSpec.gentries, GSpec.gentriesAt, hp, blockEntries_map, Nat.zero_add]
    cases tail with
    | none => rfl
    | some gg => rfl
  · simp only [GSpec.gviews, propsGViews, List.map_map]; rfl
  · simp only [gbJunk, propsGJunk, List.map_map]; rfl

end C02P
