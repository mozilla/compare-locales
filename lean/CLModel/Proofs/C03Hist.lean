/-
C03: a job's report does not depend on the history of the process.  `runJob_sim` (C03Sess) gives this for one job run from two
`Same` observer lists; here it is carried through the process machine `Sess.Proc`, where any history of calls leaves every
comparer's configuration alone (`run_frame`), for the theorem `C03.job_result_history_free`.
-/
import CLModel.Proofs.C03Sess
namespace C03H
open ObsM Sess C03S

theorem runJob_same (ext : Pipe.Ext) (j : Job) {l l' : ObsList} {o : Merge.Outcome} (h : runJob ext l j = .ok (l', o)) :
    Same l l' := by
  obtain ⟨evs, t, _⟩ := runJob_tr ext l l' j o h
  exact tr_same evs t

def SameAt (c : Nat) (p q : Proc) : Prop :=
  match p.comparers[c]?, q.comparers[c]? with
  | some a, some b => Same a b
  | none, none => True
  | _, _ => False

theorem SameAt.same {c : Nat} {p q : Proc} {a b : ObsList} (h : SameAt c p q) (ha : p.comparers[c]? = some a)
    (hb : q.comparers[c]? = some b) : Same a b := by
  unfold SameAt at h
  rw [ha, hb] at h
  exact h

theorem SameAt.refl (c : Nat) (p : Proc) : SameAt c p p := by
  unfold SameAt
  cases p.comparers[c]? with
  | none => trivial
  | some a => exact Same.refl a

theorem SameAt.trans {c : Nat} {p q r : Proc} (h1 : SameAt c p q) (h2 : SameAt c q r) : SameAt c p r := by
  unfold SameAt at *
  cases hp : p.comparers[c]? <;> cases hq : q.comparers[c]? <;> cases hr : r.comparers[c]? <;>
    simp only [hp, hq, hr] at h1 h2 ⊢ <;> first | trivial | exact h1.trans h2 | cases h1 | cases h2

/-- a call that returns found its comparer, ran the job on it and put the result back -/
theorem step_inv {ext : Pipe.Ext} {p p' : Proc} {c : Nat} {j : Job} {o : Merge.Outcome} (h : Proc.step ext p c j = .ok (p', o)) :
    ∃ l l', p.comparers[c]? = some l ∧ c < p.comparers.length ∧ runJob ext l j = .ok (l', o) ∧
      p' = { memo := p.memo, comparers := p.comparers.set c l' } := by
  simp only [Proc.step] at h
  cases hc : p.comparers[c]? with
  | none => rw [hc] at h; cases h
  | some l =>
    rw [hc] at h
    simp only at h
    cases hj : runJob ext l j with
    | error e => rw [hj] at h; cases h
    | ok r =>
      rw [hj] at h
      cases h
      exact ⟨l, r.1, rfl, (List.getElem?_eq_some_iff.1 hc).1, hj, rfl⟩

theorem step_frame (ext : Pipe.Ext) {p p' : Proc} {c : Nat} {j : Job} {o : Merge.Outcome} (h : Proc.step ext p c j = .ok (p', o)) :
    p'.memo = p.memo ∧ ∀ d, SameAt d p p' := by
  obtain ⟨l, l', hc, hlt, hj, rfl⟩ := step_inv h
  refine ⟨rfl, fun d => ?_⟩
  unfold SameAt
  by_cases hd : d = c
  · subst hd
    simp only [hc, List.getElem?_set_self hlt]
    exact runJob_same ext j hj
  · simp only [List.getElem?_set_ne (Ne.symm hd)]
    cases p.comparers[d]? with
    | none => trivial
    | some a => exact Same.refl a

theorem run_frame (ext : Pipe.Ext) : ∀ (hist : List (Nat × Job)) {p q : Proc} {outs : List Merge.Outcome},
    Proc.run ext p hist = .ok (q, outs) → q.memo = p.memo ∧ ∀ d, SameAt d p q
  | [], p, q, outs, h => by
    simp only [Proc.run, Except.ok.injEq, Prod.mk.injEq] at h
    obtain ⟨rfl, _⟩ := h
    exact ⟨rfl, fun d => SameAt.refl d p⟩
  | (c, j) :: rest, p, q, outs, h => by
    simp only [Proc.run] at h
    split at h
    · cases h
    rename_i _ p1 o hs
    split at h
    · cases h
    rename_i _ p2 os hr
    simp only [Except.ok.injEq, Prod.mk.injEq] at h
    obtain ⟨rfl, _⟩ := h
    obtain ⟨m1, f1⟩ := step_frame ext hs
    obtain ⟨m2, f2⟩ := run_frame ext rest hr
    exact ⟨m2.trans m1, fun d => (f1 d).trans (f2 d)⟩

theorem step_sim (ext : Pipe.Ext) {p q p' q' : Proc} {c : Nat} {j : Job} {o o' : Merge.Outcome} (hpq : SameAt c p q)
    (h0 : Proc.step ext p c j = .ok (p', o)) (h1 : Proc.step ext q c j = .ok (q', o')) :
    o' = o ∧ ∃ l0 l0' l1 l1', p.comparers[c]? = some l0 ∧ p'.comparers[c]? = some l0' ∧ q.comparers[c]? = some l1 ∧
      q'.comparers[c]? = some l1' ∧ runJob ext l0 j = .ok (l0', o) ∧ runJob ext l1 j = .ok (l1', o') ∧ Sim (On (jobFiles j)) l0 l0' l1 l1' := by
  obtain ⟨l0, l0', hc0, hlt0, hj0, rfl⟩ := step_inv h0
  obtain ⟨l1, l1', hc1, hlt1, hj1, rfl⟩ := step_inv h1
  obtain ⟨ho, hs⟩ := runJob_sim ext j (hpq.same hc0 hc1) hj0 hj1
  exact ⟨ho.symm, l0, l0', l1, l1', hc0, by simp [List.getElem?_set_self hlt0], hc1,
    by simp [List.getElem?_set_self hlt1], hj0, hj1, hs⟩

/-- what the same block of events adds to the counters is the same, whatever was there (`new₁ + old₀ = new₀ + old₁`: the
    difference `new − old`, without subtraction on `Nat`) -/
theorem sim_counts {P : List Ev → Prop} {a a' b b' : ObsList} (hab : Same a b) (h : Sim P a a' b b') (hown : a.own.filter = none) :
    (∀ L key, getCount a'.own.summary L key + getCount b.own.summary L key =
        getCount b'.own.summary L key + getCount a.own.summary L key) := by
  obtain ⟨evs, _, t1, t2⟩ := h
  have hownb : b.own.filter = none := by rw [← hab.2]; exact hown
  intro L key
  rw [list_run_counts t1 hown L key, list_run_counts t2 hownb L key, hab.1]
  omega

theorem All₂.get {α β : Type} {R : α → β → Prop} : ∀ {l : List α} {l' : List β}, All₂ R l l' → ∀ (i : Nat) (x : α) (y : β),
    l[i]? = some x → l'[i]? = some y → R x y
  | _, _, .nil, i, x, y, hx, _ => by simp at hx
  | _, _, .cons hd tl, 0, x, y, hx, hy => by
    simp only [List.getElem?_cons_zero, Option.some.injEq] at hx hy
    subst hx; subst hy; exact hd
  | _, _, .cons hd tl, i + 1, x, y, hx, hy => by
    simp only [List.getElem?_cons_succ] at hx hy
    exact All₂.get tl i x y hx hy

theorem sim_observer_counts {P : List Ev → Prop} {a a' b b' : ObsList} (hab : Same a b) (h : Sim P a a' b b') (hown : a.own.filter = none)
    (i : Nat) (oa oa' ob ob' : Obs) (h1 : a.observers[i]? = some oa) (h2 : a'.observers[i]? = some oa')
    (h3 : b.observers[i]? = some ob) (h4 : b'.observers[i]? = some ob') :
    ∀ L key, getCount oa'.summary L key + getCount ob.summary L key = getCount ob'.summary L key + getCount oa.summary L key := by
  obtain ⟨evs, _, t1, t2⟩ := h
  have hownb : b.own.filter = none := by rw [← hab.2]; exact hown
  have ra := All₂.get (tr_observers t1 hown) i oa oa' h1 h2
  have rb := All₂.get (tr_observers t2 hownb) i ob ob' h3 h4
  have hf : oa.filter = ob.filter := by
    have := congrArg (fun l => l[i]?) hab.1
    simp only [ObsList.filters, List.getElem?_map, h1, h3, Option.map_some, Option.some.injEq] at this
    exact this
  intro L key
  rw [ra L key, rb L key, hf]
  omega

end C03H
