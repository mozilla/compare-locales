/-
The comparison of Compare/Pipeline.lean as plans (Proofs/ObsProg.lean): what `checkLoop`, `notifyDups`, `step`, the loop and
`compareParsed` hand to the observers and what they return, from the filters alone; each function is the `exec` of its plan.
-/
import CLModel.Compare.Pipeline
import CLModel.Proofs.ObsProg
namespace Pipe
open ObsM (Ev ObsList Plan)

theorem notify_eq (env : Env) (obs : ObsList) (cat : ObsM.Cat) (d : ObsM.Data) :
    notify env obs cat d = (Plan.tell obs.filters cat env.file d).exec .observer obs := by
  rw [Plan.exec_tell]; rfl

/-- the `findDuplicates` loop: one notification per duplicated key -/
def dupsPlan (env : Env) (cat : ObsM.Cat) (ds : List (Cmp.Key × Nat)) : Plan PyErr Unit :=
  ⟨ds.map fun p => .notify cat env.file (.str (dupMsg p.1 p.2)), .ok ()⟩

theorem notifyDups_eq (env : Env) (cat : ObsM.Cat) : ∀ (ds : List (Cmp.Key × Nat)) (obs : ObsList),
    notifyDups env cat ds obs = ((dupsPlan env cat ds).exec .observer obs).map (·.1)
  | [], _ => rfl
  | (k, n) :: rest, obs => by
    simp only [notifyDups, notify_eq, Plan.exec, Plan.tell, dupsPlan, List.map_cons, ObsList.run_cons]
    cases obs.step (.notify cat env.file (.str (dupMsg k n))) with
    | error e => rfl
    | ok l1 => exact notifyDups_eq env cat rest l1

/-- `for tp, pos, msg, cat in checker.check(refent, l10nent)` -/
def checkPlan (F : List (Option ObsM.Filter)) (env : Env) (refent l10nent : PEnt) :
    List CheckRes → List PEnt → Plan PyErr (List PEnt)
  | [], skips => .ret skips
  | c :: cs, skips =>
    match resolvePos env.l10nText env.cls l10nent c.pos with
    | none => .fail (if l10nent.junk then .attributeError else .assertionError)
    | some (line, col) =>
      (Plan.tell F (sevCat c.sev) env.file (.str (checkMsg c.msg line col refent.key))).bind fun _ =>
        checkPlan F env refent l10nent cs
          (if c.sev == .error && env.mergeOn && !skips.contains l10nent then skips ++ [l10nent] else skips)

theorem checkLoop_eq (env : Env) (refent l10nent : PEnt) : ∀ (cs : List CheckRes) (obs : ObsList) (skips : List PEnt),
    checkLoop env refent l10nent cs (obs, skips) = (checkPlan obs.filters env refent l10nent cs skips).exec .observer obs
  | [], _, _ => rfl
  | c :: cs, obs, skips => by
    simp only [checkLoop, checkPlan]
    cases resolvePos env.l10nText env.cls l10nent c.pos with
    | none => rfl
    | some lc =>
      simp only [Plan.exec_bind, ← notify_eq]
      cases h : notify env obs (sevCat c.sev) (.str (checkMsg c.msg lc.1 lc.2 refent.key)) with
      | error e => rfl
      | ok r =>
        rw [notify_eq] at h
        simp only [bind, Except.bind, ← Plan.exec_filters h]
        exact checkLoop_eq env refent l10nent cs r.1 _

/-- the local variables of `compare` without the observers -/
structure Loc where
  stats : Cmp.Stats := {}
  missings : List Cmp.Key := []
  skips : List PEnt := []

def LoopSt.loc (st : LoopSt) : Loc := ⟨st.stats, st.missings, st.skips⟩

def Loc.on (c : Loc) (obs : ObsList) : LoopSt := ⟨obs, c.stats, c.missings, c.skips⟩

/-- the counter an `equal` item bumps (`refent.equals(l10nent)` may raise) -/
def equalStats (cls : Cls) (s : Cmp.Stats) (k : Cmp.Key) (refent l10nent : PEnt) : Except PyErr Cmp.Stats :=
  if Cmp.keyMatch k then .ok { s with keys := s.keys + 1 }
  else if refent.junk then .error .attributeError
  else
    match entEquals cls refent l10nent with
    | .error e => .error e
    | .ok true => .ok { s with unchanged := s.unchanged + 1, unchanged_w := s.unchanged_w + refent.words }
    | .ok false => .ok { s with changed := s.changed + 1, changed_w := s.changed_w + refent.words }

/-- one iteration of `for action, entity_id in ar` -/
def stepPlan (F : List (Option ObsM.Filter)) (env : Env) (ref l10n : List PEnt) (st : Loc) (p : AR.Label × Cmp.Key) :
    Plan PyErr Loc :=
  match p.1 with
  | .delete => do
    let refent ← Plan.lift (lookup ref p.2)
    if refent.junk then do
      let _ ← Plan.tell F .warning env.file (.str Gen.Tables.cmpRefJunkMsg)
      pure st
    else do
      let rv ← Plan.tell F .missingEntity env.file (keyData p.2)
      match rv with
      | .ignore => pure st
      | .error =>
        pure { st with missings := st.missings ++ [p.2],
                       stats := { st.stats with missing := st.stats.missing + 1,
                                                missing_w := st.stats.missing_w + refent.words } }
      | .warning => pure { st with stats := { st.stats with report := st.stats.report + 1 } }
  | .add => do
    let l10nent ← Plan.lift (lookup l10n p.2)
    if l10nent.junk then do
      let msg ← Plan.lift (junkMessage env.l10nText env.cls l10nent)
      let _ ← Plan.tell F .error env.file (.str msg)
      pure { st with skips := if env.mergeOn then st.skips ++ [l10nent] else st.skips }
    else do
      let rv ← Plan.tell F .obsoleteEntity env.file (keyData p.2)
      if rv != .ignore then pure { st with stats := { st.stats with obsolete := st.stats.obsolete + 1 } } else pure st
  | .equal => do
    let refent ← Plan.lift (lookup ref p.2)
    let l10nent ← Plan.lift (lookup l10n p.2)
    let stats ← Plan.lift (equalStats env.cls st.stats p.2 refent l10nent)
    let results ← Plan.lift (runChecker env.ck refent l10nent)
    let skips ← checkPlan F env refent l10nent results st.skips
    pure { st with stats := stats, skips := skips }

def withObs (r : Except PyErr (ObsList × Loc)) : Except PyErr LoopSt := r.map fun r => r.2.on r.1


theorem step_eq (env : Env) (ref l10n : List PEnt) (st : LoopSt) (p : AR.Label × Cmp.Key) :
    step env ref l10n st p = withObs ((stepPlan st.obs.filters env ref l10n st.loc p).exec .observer st.obs) := by
  obtain ⟨lab, k⟩ := p
  cases lab with
  | delete =>
    simp only [step, stepPlan, LoopSt.loc, bind, Plan.exec_bind, Plan.exec_lift]
    cases lookup ref k with
    | error e => rfl
    | ok refent =>
      simp only [Except.map, Except.bind]
      split
      · simp only [Plan.exec_bind, ← notify_eq]
        cases notify env st.obs .warning (.str Gen.Tables.cmpRefJunkMsg) <;> rfl
      · simp only [Plan.exec_bind, ← notify_eq]
        cases notify env st.obs .missingEntity (keyData k) with
        | error e => rfl
        | ok r => obtain ⟨l', rv⟩ := r; cases rv <;> rfl
  | add =>
    simp only [step, stepPlan, LoopSt.loc, bind, Plan.exec_bind, Plan.exec_lift]
    cases lookup l10n k with
    | error e => rfl
    | ok l10nent =>
      simp only [Except.map, Except.bind]
      split
      · simp only [Plan.exec_bind, Plan.exec_lift]
        cases junkMessage env.l10nText env.cls l10nent with
        | error e => rfl
        | ok msg =>
          simp only [Except.map, bind, Except.bind, ← notify_eq]
          cases notify env st.obs .error (.str msg) <;> rfl
      · simp only [Plan.exec_bind, ← notify_eq]
        cases notify env st.obs .obsoleteEntity (keyData k) with
        | error e => rfl
        | ok r => obtain ⟨l', rv⟩ := r; cases rv <;> rfl
  | equal =>
    simp only [step, stepPlan, LoopSt.loc, bind, Plan.exec_bind, Plan.exec_lift]
    cases lookup ref k with
    | error e => rfl
    | ok refent =>
      cases lookup l10n k with
      | error e => rfl
      | ok l10nent =>
        simp only [Except.map, Except.bind, equalStats]
        generalize (ite (Cmp.keyMatch k = true) _ _ : Except PyErr Cmp.Stats) = sx
        cases sx with
        | error e => rfl
        | ok stats =>
          cases runChecker env.ck refent l10nent with
          | error e => rfl
          | ok results =>
            simp only [checkLoop_eq]
            cases (checkPlan st.obs.filters env refent l10nent results st.skips).exec .observer st.obs <;> rfl

/-- `for action, entity_id in ar: …` -/
def loopPlan (F : List (Option ObsM.Filter)) (env : Env) (ref l10n : List PEnt) : List (AR.Label × Cmp.Key) → Loc → Plan PyErr Loc
  | [], c => .ret c
  | p :: ps, c => (stepPlan F env ref l10n c p).bind (loopPlan F env ref l10n ps)

theorem foldE_step_eq (env : Env) (ref l10n : List PEnt) : ∀ (ar : List (AR.Label × Cmp.Key)) (st : LoopSt),
    foldE (step env ref l10n) ar st = withObs ((loopPlan st.obs.filters env ref l10n ar st.loc).exec .observer st.obs)
  | [], _ => rfl
  | p :: ps, st => by
    simp only [foldE, loopPlan, step_eq, Plan.exec_bind]
    cases h : (stepPlan st.obs.filters env ref l10n st.loc p).exec .observer st.obs with
    | error e => rfl
    | ok r =>
      simp only [withObs, Except.map, bind, Except.bind, ← Plan.exec_filters h]
      exact foldE_step_eq env ref l10n ps (r.2.on r.1)

/-- `ContentComparer.compare` after both files were parsed -/
def comparePlan (F : List (Option ObsM.Filter)) (env : Env) (ref l10n : List PEnt) : Plan PyErr Merge.Outcome := do
  dupsPlan env .warning (Hist.findDuplicates (ref.map (·.key)))
  dupsPlan env .error (Hist.findDuplicates (l10n.map (·.key)))
  let c ← loopPlan F env ref l10n (AR.addRemove (ref.map (·.key)) (l10n.map (·.key))) {}
  let outcome ← Plan.lift (doMerge env ref c.missings c.skips)
  Plan.push env.file (statsList c.stats)
  pure outcome

theorem compareParsed_eq (env : Env) (ref l10n : List PEnt) (obs : ObsList) :
    compareParsed env ref l10n obs = (comparePlan obs.filters env ref l10n).exec .observer obs := by
  simp only [compareParsed, comparePlan, bind, Plan.exec_bind, notifyDups_eq]
  cases h1 : (dupsPlan env .warning (Hist.findDuplicates (ref.map (·.key)))).exec .observer obs with
  | error e => rfl
  | ok r1 =>
    simp only [Except.map, Except.bind]
    cases h2 : (dupsPlan env .error (Hist.findDuplicates (l10n.map (·.key)))).exec .observer r1.1 with
    | error e => rfl
    | ok r2 =>
      simp only [foldE_step_eq, Plan.exec_filters h2, Plan.exec_filters h1, LoopSt.loc]
      cases (loopPlan obs.filters env ref l10n (AR.addRemove (ref.map (·.key)) (l10n.map (·.key))) {}).exec .observer r2.1 with
      | error e => rfl
      | ok r3 =>
        simp only [withObs, Except.map, Plan.exec_lift, Loc.on]
        cases doMerge env ref r3.2.missings r3.2.skips <;> rfl

end Pipe
