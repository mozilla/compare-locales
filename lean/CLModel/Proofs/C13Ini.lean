/-
The l10n.ini route (Paths/IniConfig.lean): `directories()` of a loaded include tree node by node (`mem_directories`), what
`loadF` reads from the top file (`loadF_top`), the shape of `asConfig`'s result (`asConfig_ok`).
-/
import CLModel.Paths.IniConfig
namespace C13I
open TI TC PF

mutual
/-- every loaded parser of the tree: the top one, then those of its includes, recursively -/
def nodes : Loaded → List Loaded
  | .mk p b d a ch => .mk p b d a ch :: nodesL ch
def nodesL : List Loaded → List Loaded
  | [] => []
  | c :: cs => nodes c ++ nodesL cs
end

theorem nodes_mk (p b d a ch) : nodes (.mk p b d a ch) = Loaded.mk p b d a ch :: nodesL ch := by
  simp [nodes]

theorem directories_mk (p b d a ch) :
    (Loaded.mk p b d a ch).directories = d.map (b, ·) ++ directoriesL ch := by
  simp [Loaded.directories]

mutual
theorem mem_directories : ∀ (cfg : Loaded) (bm : Text × Text),
    bm ∈ cfg.directories ↔ ∃ n ∈ nodes cfg, bm.1 = n.base ∧ bm.2 ∈ n.dirs
  | .mk p b d a ch, bm => by
    have ih := mem_directoriesL ch bm
    rw [directories_mk, nodes_mk, List.mem_append, ih]
    simp only [List.mem_cons, exists_eq_or_imp, Loaded.base, Loaded.dirs, List.mem_map]
    refine or_congr ?_ Iff.rfl
    constructor
    · rintro ⟨m, hm, rfl⟩; exact ⟨rfl, hm⟩
    · rintro ⟨h1, h2⟩; exact ⟨bm.2, h2, by rw [← h1]⟩
theorem mem_directoriesL : ∀ (cs : List Loaded) (bm : Text × Text),
    bm ∈ directoriesL cs ↔ ∃ n ∈ nodesL cs, bm.1 = n.base ∧ bm.2 ∈ n.dirs
  | [], bm => by simp [directoriesL, nodesL]
  | c :: cs, bm => by
    have h1 := mem_directories c bm
    have h2 := mem_directoriesL cs bm
    simp only [directoriesL, nodesL, List.mem_append]
    rw [h1, h2]
    constructor
    · rintro (⟨n, hn, h⟩ | ⟨n, hn, h⟩)
      · exact ⟨n, Or.inl hn, h⟩
      · exact ⟨n, Or.inr hn, h⟩
    · rintro ⟨n, hn | hn, h⟩
      · exact Or.inl ⟨n, hn, h⟩
      · exact Or.inr ⟨n, hn, h⟩
end

theorem loadF_top {w : IniWorld} {fl : Flavour} {f : Nat} {given : Text} {cfg : Loaded}
    (h : loadF w fl (f + 1) given = .ok cfg) :
    cfg.inipath = normpath given ∧
    cfg.base = join (dirname (normpath given)) (match (w.doc (normpath given)).depth with | some d => d | none => dot) ∧
    cfg.dirs = (match (w.doc (normpath given)).dirs with | some s => splitWs s | none => []) := by
  unfold loadF at h
  simp only at h
  split at h
  · cases h
  · simp only [Except.ok.injEq] at h
    subst h
    exact ⟨rfl, rfl, rfl⟩

theorem asConfig_ok {w : IniWorld} {l10nbase : Text} {cfg : Loaded} {r : Result}
    (h : asConfig w l10nbase cfg = .ok r) :
    ∃ ls, r.pc = .mk none none (PM.dupdate [] [(l10nBaseName, abspath w.cwd l10nbase)])
              (cfg.directories.map ruleOfDir) [] (some ls) [] [] ∧
      ∃ ap, cfg.allPath = some ap ∧ w.locales.lookup (normpath ap) = some ls := by
  unfold asConfig asConfigAbs at h
  simp only at h
  split at h
  · cases h
  · split at h
    · cases h
    · rename_i ap hap
      split at h
      · cases h
      · rename_i ls hls
        simp only [Except.ok.injEq] at h
        subst h
        exact ⟨ls, by simp [setRoot], ap, hap, hls⟩

end C13I
