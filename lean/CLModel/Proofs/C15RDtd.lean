/-
DTD (`<!ENTITY key "value">⏎` per record, the printed class of `C02.roundtrip_dtd_partial`) and .inc
(`#define key value⏎`, the class of `C02.roundtrip_inc_partial`): what the merge sees of a printed version.
-/
import CLModel.Proofs.C15RGen
import CLModel.Proofs.C02XDtd
import CLModel.Proofs.C02XInc
namespace C15S
open Merge C02X
open P (PRec)

/-- `<!ENTITY key "value">`; 9, 2 and 2 are the lengths of `<!ENTITY `, ` "` and `">` -/
def dtdL : LineFmt where
  body := fun r => dtdPrefix ++ (r.1 ++ ([32, 34] ++ (r.2 ++ [34, 62])))
  val := fun k all => (all.drop (9 + k.length + 2)).take (all.length - (9 + k.length + 2) - 2)

theorem dtdL_val (r : PRec) : dtdL.val r.1 (dtdL.body r) = r.2 := by
  simp only [dtdL, dtdPrefix]
  have e : [60, 33, 69, 78, 84, 73, 84, 89, 32] ++ (r.1 ++ ([32, 34] ++ (r.2 ++ [34, 62])))
      = ([60, 33, 69, 78, 84, 73, 84, 89, 32] ++ r.1 ++ [32, 34]) ++ (r.2 ++ [34, 62]) := by simp
  rw [e, List.drop_left' (by simp; omega)]
  simp only [List.length_append, List.length_cons, List.length_nil]
  rw [show 9 + r.1.length + (0 + 1 + 1) + (r.2.length + (0 + 1 + 1)) - (9 + r.1.length + 2) - 2 = r.2.length by omega]
  simp

theorem printL_dtd (rs : List PRec) : printL dtdL rs = printDtd rs :=
  Txt.flatten_map_congr fun r _ => by simp [dtdL, printDtdRec]

theorem toEnt_dtdEntity (s : Array Nat) (off : Nat) (r : PRec) (rest : List Nat) (ver idx : Nat)
    (h : s.toList.drop off = printDtdRec r ++ rest) :
    toEnt .dtd s ver idx (dtdEntity off r.1.length r.2.length) = .ok (lineEnt dtdL ver idx r) := by
  exact toEnt_rec dtdL .dtd rfl s off dtdPrefix [32, 34] [34, 62] r rest ver idx _ (by simp [h, printDtdRec])
    (by simp [dtdL]) rfl rfl rfl (by simp [dtdEntity, dtdLen, dtdPrefix]; omega) rfl rfl

theorem toEnts_dtdExp (s : Array Nat) (ver : Nat) (rs : List PRec) (off n : Nat) (h : s.toList.drop off = printDtd rs) :
    toEnts .dtd s ver ((dtdExpEntries off rs).zipIdx n) = .ok (lineEnts dtdL ver n rs) :=
  toEnts_records dtdL .dtd rfl s ver dtdEmbeds (fun r => by simp [printDtdRec, dtdL])
    (fun off r rest idx hd => toEnt_dtdEntity s off r rest ver idx hd) rs off n h

theorem walkEnts_dtd_printed (ver : Nat) (rs : List PRec) (h : ∀ r ∈ rs, SafeDtdRec r) :
    walkEnts .dtd ver (printDtd rs).toArray = .ok (lineEnts dtdL ver 0 rs) := by
  unfold walkEnts
  rw [walk_dtd_printed rs h]
  exact toEnts_dtdExp _ ver rs 0 0 (by simp)

/-- `#define key value`, `#define key` for an empty value; 8 and 1 are the lengths of `#define ` and the blank -/
def incL : LineFmt where
  body := fun r => defPrefix ++ (r.1 ++ (if r.2.isEmpty then [] else 32 :: r.2))
  val := fun k all => all.drop (8 + k.length + 1)

theorem incL_val (r : PRec) : incL.val r.1 (incL.body r) = r.2 := by
  simp only [incL, defPrefix]
  by_cases hv : r.2 = []
  · rw [hv]
    simp
    omega
  · have e : [35, 100, 101, 102, 105, 110, 101, 32] ++ (r.1 ++ (if r.2.isEmpty = true then [] else 32 :: r.2))
        = ([35, 100, 101, 102, 105, 110, 101, 32] ++ r.1 ++ [32]) ++ r.2 := by simp [hv]
    rw [e, List.drop_left' (by simp; omega)]

theorem printL_inc (rs : List PRec) : printL incL rs = printInc rs :=
  Txt.flatten_map_congr fun r _ => by simp [incL, printIncRec]

theorem toEnt_incEntity (s : Array Nat) (off : Nat) (r : PRec) (rest : List Nat) (ver idx : Nat)
    (h : s.toList.drop off = printIncRec r ++ rest) :
    toEnt .inc s ver idx (incEntity off r.1.length r.2.length) = .ok (lineEnt incL ver idx r) := by
  obtain ⟨k, v⟩ := r
  have hb : incL.body (k, v) = defPrefix ++ k ++ (if v.isEmpty then [] else [32]) ++ v ++ [] := by
    cases v <;> simp [incL]
  refine toEnt_rec incL .inc rfl s off defPrefix (if v.isEmpty then [] else [32]) [] (k, v) rest ver idx _
    (by rw [h]; cases v <;> simp [printIncRec]) hb rfl ?_ ?_ ?_ ?_ ?_
  case refine_3 => rw [incEntity_e]; cases v <;> simp [incLen, defPrefix] <;> omega
  all_goals unfold incEntity; split <;> rfl

theorem toEnts_incExp (s : Array Nat) (ver : Nat) (rs : List PRec) (off n : Nat) (h : s.toList.drop off = printInc rs) :
    toEnts .inc s ver ((incExpEntries off rs).zipIdx n) = .ok (lineEnts incL ver n rs) :=
  toEnts_records incL .inc rfl s ver incEmbeds (fun r => by simp [printIncRec, incL])
    (fun off r rest idx hd => toEnt_incEntity s off r rest ver idx hd) rs off n h

theorem walkEnts_inc_printed (ver : Nat) (rs : List PRec) (h : ∀ r ∈ rs, SafeIncRec r) :
    walkEnts .inc ver (printInc rs).toArray = .ok (lineEnts incL ver 0 rs) := by
  unfold walkEnts
  rw [walk_inc_printed rs h]
  exact toEnts_incExp _ ver rs 0 0 (by simp)

end C15S
