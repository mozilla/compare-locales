/-
C08: checking an entry against ITSELF (`checker.check(entity, entity)` — the linter; and compare for a localization
that copied the reference): no reference warnings, no value / attribute errors; what remains is determined by the shape.
-/
import CLModel.Proofs.C08Refs
import CLModel.Proofs.ListLemmas
namespace C08S
open Ftl

theorem flatMap_evMsgs_known (kp : Option (List Str)) (rr : List Str) (evs : List Ev)
    (h : ∀ e ∈ evs, ∀ q, e.refKey = some q → q.1 ∈ rr) :
    evs.flatMap (evMsgs kp rr) = evs.flatMap (termMsgs kp) := by
  refine Txt.flatMap_congr' fun e he => ?_
  have hk := h e he
  cases e with
  | select keys => rfl
  | msgRef s i a =>
    simp only [evMsgs, termMsgs]
    cases hq : (Ev.msgRef s i a).refKey with
    | none => rfl
    | some q => simp [hk q hq]
  | termRef s i a =>
    simp only [evMsgs, termMsgs]
    cases hq : (Ev.termRef s i a).refKey with
    | none => rfl
    | some q => simp [hk q hq]

/-- the per-attribute messages when no reference is obsolete: select expressions, then the `style` check -/
def attrsSel (kp : Option (List Str)) : CssVal → List Attribute → List Msg
  | _, [] => []
  | rc, a :: r => (evPattern false a.value).flatMap (termMsgs kp) ++ (cssCheck rc a).1 ++ attrsSel kp (cssCheck rc a).2 r

theorem attrsMsgs_known (kp : Option (List Str)) (rr : Slot → List Str) (rc : CssVal) (attrs : List Attribute)
    (h : ∀ a ∈ attrs, ∀ e ∈ evPattern false a.value, ∀ q, e.refKey = some q → q.1 ∈ rr (some a.name)) :
    attrsMsgs kp rr rc attrs = attrsSel kp rc attrs := by
  induction attrs generalizing rc with
  | nil => rfl
  | cons a r ih =>
    simp only [attrsMsgs, attrsSel]
    rw [flatMap_evMsgs_known kp _ _ (h a List.mem_cons_self), ih _ (fun a' ha' => h a' (List.mem_cons_of_mem _ ha'))]

theorem missingAttrErrs_self (k : List Str) : missingAttrErrs k k = [] := by
  simp only [missingAttrErrs, List.map_eq_nil_iff, List.filter_eq_nil_iff]
  intro n hn
  simp [hn]

theorem obsoleteAttrErrs_self (d : List (Str × Nat)) : obsoleteAttrErrs (dictKeys d) d = [] := by
  simp only [obsoleteAttrErrs, List.map_eq_nil_iff, List.filter_eq_nil_iff]
  intro p hp
  have : p.1 ∈ dictKeys d := List.mem_map.mpr ⟨p, hp, rfl⟩
  simp [this]

theorem valueErrs_self (v : Option Pattern) : valueErrs v.isSome v = [] := by
  cases v <;> simp [valueErrs]

theorem missingRefs_self (kp : Option (List Str)) (m : Message) :
    missingRefs (refVisitEntry (.message m)).entryRefs (l10nVisitMessage kp (refVisitEntry (.message m)) m).entryRefs = [] := by
  rw [List.eq_nil_iff_forall_not_mem]
  intro x hx
  rw [mem_missingRefs] at hx
  obtain ⟨slot, refs, r, t, h1, h2, h3, _⟩ := hx
  have hne : refs ≠ [] := by intro h; rw [h] at h2; cases h2
  have := (mem_entryRefs_iff m slot refs hne).mp h1
  subst this
  apply h3
  have hk : r ∈ dictKeys (refSlotDict m slot) := List.mem_map.mpr ⟨(r, t), h2, rfl⟩
  have hr : r ∈ slotRefNames m.value m.attributes slot := (mem_rrOf_ref m slot r).mp hk
  exact (mem_l10nSlotSet kp _ m slot r).mpr hr

theorem mem_slotRefNames_value (m : Message) (p : Pattern) (hv : m.value = some p) (e : Ev) (he : e ∈ evPattern false p)
    (q : Str × RefType) (hq : e.refKey = some q) : q.1 ∈ slotRefNames m.value m.attributes none := by
  simp only [slotRefNames, slotRefs, slotPatterns, hv, Option.toList_some, List.flatMap_cons, List.flatMap_nil,
    List.append_nil, List.mem_map, List.mem_filterMap]
  exact ⟨q, ⟨e, he, hq⟩, rfl⟩

theorem mem_slotRefNames_attr (m : Message) (a : Attribute) (ha : a ∈ m.attributes) (e : Ev) (he : e ∈ evPattern false a.value)
    (q : Str × RefType) (hq : e.refKey = some q) : q.1 ∈ slotRefNames m.value m.attributes (some a.name) := by
  simp only [slotRefNames, slotRefs, slotPatterns, List.mem_map, List.mem_flatMap, List.mem_filterMap, List.mem_filter]
  exact ⟨q, ⟨a.value, ⟨a, ⟨ha, by simp⟩, rfl⟩, e, he, hq⟩, rfl⟩

end C08S
