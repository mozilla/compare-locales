/- Literal-like regex items (literal characters and groups of such: what a fully bound, wildcard-free
   variable value compiles to, nested variables included) run like a literal text: `GlRun`. -/
import CLModel.Proofs.C12REngine
namespace C11R
open Rx PM

theorem GlRun.append {a b : List Re} {ta tb : Text} {Fa Fb : Nat → List (Nat × Nat × Nat)} (ha : GlRun a ta Fa)
    (hb : GlRun b tb Fb) : GlRun (a ++ b) (ta ++ tb) (fun p => Fb (p + ta.length) ++ Fa p) := by
  intro s st k
  rw [m_seqOf_append]
  by_cases h1 : TextAt s st.pos ta
  · rw [(ha s st _).1 h1]
    refine ⟨fun ht => ?_, fun hn => (hb s _ k).2 fun h2 => hn (TextAt.append h1 h2)⟩
    rw [(hb s _ k).1 ht.split.2]
    simp only [List.length_append, List.append_assoc, Nat.add_assoc]
  · rw [(ha s st _).2 h1]
    exact ⟨fun ht => absurd ht.split.1 h1, fun _ => rfl⟩

theorem GlIdx.append {a b : List Re} {Fa Fb : Nat → List (Nat × Nat × Nat)} (ha : GlIdx a Fa) (hb : GlIdx b Fb) (n : Nat) :
    GlIdx (a ++ b) (fun p => Fb (p + n) ++ Fa p) := by
  intro p e he
  rw [List.flatMap_append]
  rcases List.mem_append.mp he with he | he
  · exact List.mem_append.mpr (Or.inr (hb _ e he))
  · exact List.mem_append.mpr (Or.inl (ha _ e he))

theorem glRun_group (i : Nat) {body : List Re} {t : Text} {F : Nat → List (Nat × Nat × Nat)} (h : GlRun body t F) :
    GlRun [Re.group i (seqOf body)] t (fun p => (i, p, p + t.length) :: F p) := by
  intro s st k
  simp only [seqOf, m]
  exact ⟨fun ht => by rw [(h s st _).1 ht]; rfl, (h s st _).2⟩

theorem glIdx_group (i : Nat) {body : List Re} {F : Nat → List (Nat × Nat × Nat)} (h : GlIdx body F) (n : Nat) :
    GlIdx [Re.group i (seqOf body)] (fun p => (i, p, p + n) :: F p) := by
  intro p e he
  rw [List.flatMap_singleton, gidx_group, gidx_seqOf]
  rcases List.mem_cons.mp he with rfl | he
  · exact List.mem_cons_self
  · exact List.mem_cons_of_mem _ (h p e he)

/-- as `LitLike.exact`, for the engine: the three ways to build literal-like items keep `GlRun` and `GlIdx` -/
theorem litlike_glok {body : List Re} {t : Text} (h : LitLike body t) : ∃ F, GlRun body t F ∧ GlIdx body F := by
  induction h with
  | nil => exact ⟨_, glRun_lits [], glIdx_lits []⟩
  | @lit c rest t _ ih =>
    obtain ⟨F, hr, hi⟩ := ih
    exact ⟨_, (glRun_lits [c]).append hr, (glIdx_lits [c]).append hi _⟩
  | @group i body tb rest t _ _ ihb ihr =>
    obtain ⟨Fb, hb, hib⟩ := ihb
    obtain ⟨Fr, hr, hir⟩ := ihr
    exact ⟨_, (glRun_group i hb).append hr, (glIdx_group i hib _).append hir _⟩

end C11R

namespace PM
open Rx

/-- the items are literal-like, so the engine runs through them without any choice -/
theorem matches_expansion {m : Matcher} {path : Text} {re : Re} {names : List Text}
    (henv : EnvOK m.env) (hnr : NoRep m.pattern.nodes)
    (hexp : expandPat (expandVal (fuelFor m.env)) m.pattern m.env true = .ok path)
    (hre : m.regexOf = .ok (re, names)) : m.match path ≠ .ok none := by
  obtain ⟨items, hrx, rfl, _⟩ := regexOf_inv hre
  obtain ⟨root, citems, hroot, hch, rfl⟩ := rxPat_inv hrx
  obtain ⟨_, body, hr0, hbody, rfl⟩ := expandPat_ok hexp
  cases hroot.symm.trans hr0
  have hlit : LitLike (root.map Re.lit ++ citems) (root ++ body) :=
    (litlike_lits root).append (litlike_children (litlike_val _ _) henv hnr hbody hch)
  obtain ⟨F, hrun, _⟩ := C11R.litlike_glok hlit
  have hm : matchAt (root ++ body).toArray
      (seqOf (root.map Re.lit ++ citems ++ [Gen.Pat.matcher_frag_anchor])) 0 =
      some ⟨(root ++ body).length, F 0 ++ []⟩ := by
    unfold matchAt
    rw [m_seqOf_append, (hrun (root ++ body).toArray ⟨0, []⟩ _).1 (fun j _ => by simp)]
    have hanchor : Gen.Pat.matcher_frag_anchor = Re.eos := rfl
    simp [seqOf, hanchor, Rx.m]
  intro hnone
  simp only [Matcher.match, hre, bind, Except.bind, hm] at hnone
  split at hnone
  · split at hnone
    · split at hnone <;> cases hnone
    · cases hnone
  · cases hnone

end PM
