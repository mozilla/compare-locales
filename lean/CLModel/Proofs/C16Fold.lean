/-
The white-space folding reduce of `merge_two.prune` and `prune_whitespace` as a structural function: `fold` replaces every
run of white-space elements by its first longest member.  It absorbs (folding, dropping elements that are not white space,
folding again = dropping, folding once) and commutes with maps that leave white space alone: that is why the three reduces
of `serialize` are one.
-/
import CLModel.Proofs.C16Dict
namespace C16L

/-- one step of the white-space folding reduce, the shared shape of `merge_two.prune` and `prune_whitespace`; the
    accumulator is reversed -/
def genStep {γ : Type} (isWs : γ → Bool) (len : γ → Nat) (racc : List γ) (x : γ) : List γ :=
  match racc with
  | prev :: rest =>
    if isWs x && isWs prev then (if len x > len prev then x :: rest else prev :: rest) else x :: prev :: rest
  | [] => [x]

/-- the present entries of a flat sequence `contents` of `merge_two` (a key whose entity is `None` is skipped); for the
    key type of either model of `merge_two` -/
def strip {κ ε : Type} (cs : List (κ × Option ε)) : List (κ × ε) :=
  cs.filterMap (fun c => c.2.map (fun e => (c.1, e)))

theorem strip_cons {κ ε : Type} (c : κ × Option ε) (cs : List (κ × Option ε)) :
    strip (c :: cs) = (match c.2 with | some e => [(c.1, e)] | none => []) ++ strip cs := by
  unfold strip
  rw [List.filterMap_cons]
  cases c.2 <;> rfl

section fold
variable {γ : Type} (w : γ → Bool) (len : γ → Nat)

/-- of two white-space elements the reduce keeps the first longest -/
def best (b x : γ) : γ := if len x > len b then x else b

/-- the pending white-space element after one more -/
def push (cur : Option γ) (x : γ) : γ :=
  match cur with
  | none => x
  | some b => best len b x

/-- every run of white-space elements replaced by its first longest member; `cur` is the member pending -/
def fold : Option γ → List γ → List γ
  | cur, [] => cur.toList
  | cur, x :: xs => if w x then fold (some (push len cur x)) xs else cur.toList ++ x :: fold none xs

theorem fold_nil (cur : Option γ) : fold w len cur [] = cur.toList := rfl

theorem fold_ws (cur : Option γ) (x : γ) (xs : List γ) (h : w x = true) :
    fold w len cur (x :: xs) = fold w len (some (push len cur x)) xs := by
  rw [fold, if_pos h]

theorem fold_nws (cur : Option γ) (x : γ) (xs : List γ) (h : w x = false) :
    fold w len cur (x :: xs) = cur.toList ++ x :: fold w len none xs := by
  rw [fold, if_neg (by simp [h])]

theorem best_ws {b x : γ} (hb : w b = true) (hx : w x = true) : w (best len b x) = true := by
  unfold best; split <;> assumption

theorem push_ws {cur : Option γ} {x : γ} (hc : ∀ b ∈ cur, w b = true) (hx : w x = true) : w (push len cur x) = true := by
  cases cur with
  | none => exact hx
  | some b => exact best_ws w len (hc b rfl) hx

theorem genFold_eq (xs : List γ) : ∀ racc : List γ,
    (xs.foldl (genStep w len) racc).reverse =
      match racc with
      | [] => fold w len none xs
      | p :: rest => if w p then rest.reverse ++ fold w len (some p) xs else rest.reverse ++ p :: fold w len none xs := by
  induction xs with
  | nil =>
    intro racc
    cases racc with
    | nil => rfl
    | cons p rest => by_cases hp : w p = true <;> simp [hp, fold]
  | cons x xs ih =>
    intro racc
    rw [List.foldl_cons, ih]
    cases racc with
    | nil =>
      by_cases hx : w x = true
      · simp [genStep, hx, fold_ws w len none x xs hx, push]
      · simp [genStep, hx, fold_nws w len none x xs (by simpa using hx)]
    | cons p rest =>
      by_cases hx : w x = true
      · by_cases hp : w p = true
        · have e : genStep w len (p :: rest) x = best len p x :: rest := by
            simp only [genStep, hx, hp, Bool.and_self, if_true, best]; split <;> rfl
          simp [e, hp, best_ws w len hp hx, fold_ws w len (some p) x xs hx, push]
        · have e : genStep w len (p :: rest) x = x :: p :: rest := by simp [genStep, hp]
          simp [e, hx, hp, fold_ws w len none x xs hx, push]
      · have hx' : w x = false := by simpa using hx
        have e : genStep w len (p :: rest) x = x :: p :: rest := by simp [genStep, hx']
        by_cases hp : w p = true
        · simp [e, hx', hp, fold_nws w len (some p) x xs hx']
        · simp [e, hx', hp, fold_nws w len none x xs hx']

theorem genFold_nil (xs : List γ) : (xs.foldl (genStep w len) []).reverse = fold w len none xs :=
  genFold_eq w len xs []

theorem best_assoc (a b x : γ) : best len (best len a b) x = best len a (best len b x) := by
  unfold best
  by_cases h1 : len b > len a
  · by_cases h2 : len x > len b
    · rw [if_pos h1, if_pos h2, if_pos (Nat.lt_trans h1 h2)]
    · rw [if_pos h1, if_neg h2, if_pos h1]
  · by_cases h3 : len x > len a
    · rw [if_neg h1, if_pos (show len x > len b by omega), if_pos h3]
    · rw [if_neg h1, if_neg h3]
      by_cases h2 : len x > len b
      · rw [if_pos h2, if_neg h3]
      · rw [if_neg h2, if_neg h1]

/-- the pending element of an outer fold that meets the pending element of an inner one -/
def join (c cur : Option γ) : Option γ :=
  match cur with
  | none => c
  | some b => some (push len c b)

theorem push_join (c cur : Option γ) (x : γ) : push len (join len c cur) x = push len c (push len cur x) := by
  cases cur with
  | none => rfl
  | some b =>
    cases c with
    | none => rfl
    | some a => exact best_assoc len a b x

theorem fold_toList (c cur : Option γ) (hc : ∀ b ∈ cur, w b = true) (rest : List γ) :
    fold w len c (cur.toList ++ rest) = fold w len (join len c cur) rest := by
  cases cur with
  | none => rfl
  | some b => exact fold_ws w len c b rest (hc b rfl)

theorem fold_absorb (q : γ → Bool) (hq : ∀ x, w x = true → q x = true) (xs : List γ) :
    ∀ c cur : Option γ, (∀ b ∈ cur, w b = true) →
      fold w len c ((fold w len cur xs).filter q) = fold w len (join len c cur) (xs.filter q) := by
  have hcur : ∀ cur : Option γ, (∀ b ∈ cur, w b = true) → cur.toList.filter q = cur.toList := by
    intro cur h
    cases cur with
    | none => rfl
    | some b => simp [hq b (h b rfl)]
  induction xs with
  | nil =>
    intro c cur h
    simp only [fold, List.filter_nil, hcur cur h]
    have := fold_toList w len c cur h []
    rw [List.append_nil] at this
    rw [this]; rfl
  | cons x xs ih =>
    intro c cur h
    by_cases hx : w x = true
    · rw [fold_ws w len cur x xs hx, ih c _ (fun b hb => by cases hb; exact push_ws w len h hx),
        List.filter_cons_of_pos (hq x hx), fold_ws w len _ x _ hx, push_join]
      rfl
    · have hx' : w x = false := by simpa using hx
      rw [fold_nws w len cur x xs hx', List.filter_append, hcur cur h]
      by_cases hqx : q x = true
      · rw [List.filter_cons_of_pos hqx, fold_toList w len c cur h, fold_nws w len _ x _ hx',
          ih none none (by intro b hb; cases hb), List.filter_cons_of_pos hqx, fold_nws w len _ x _ hx']
        rfl
      · rw [List.filter_cons_of_neg hqx, fold_toList w len c cur h, ih _ none (by intro b hb; cases hb),
          List.filter_cons_of_neg hqx]
        rfl

theorem fold_map {δ : Type} (w' : δ → Bool) (len' : δ → Nat) (f : γ → δ)
    (hw : ∀ x, w' (f x) = w x) (hl : ∀ x, w x = true → len' (f x) = len x) (xs : List γ) :
    ∀ cur : Option γ, (∀ b ∈ cur, w b = true) →
      fold w' len' (cur.map f) (xs.map f) = (fold w len cur xs).map f := by
  have hbest : ∀ b x, w b = true → w x = true → best len' (f b) (f x) = f (best len b x) := by
    intro b x hb hx
    unfold best
    rw [hl b hb, hl x hx]
    split <;> rfl
  induction xs with
  | nil => intro cur _; cases cur <;> rfl
  | cons x xs ih =>
    intro cur h
    by_cases hx : w x = true
    · rw [List.map_cons, fold_ws w' len' _ (f x) _ (by rw [hw]; exact hx), fold_ws w len cur x xs hx,
        ← ih _ (fun b hb => by cases hb; exact push_ws w len h hx)]
      congr 1
      cases cur with
      | none => rfl
      | some b => exact congrArg some (hbest b x (h b rfl) hx)
    · have hx' : w x = false := by simpa using hx
      have ih' : fold w' len' none (xs.map f) = _ := ih none (by intro b hb; cases hb)
      rw [List.map_cons, fold_nws w' len' _ (f x) _ (by rw [hw]; exact hx'), fold_nws w len cur x xs hx', ih']
      cases cur <;> simp

theorem fold_nonws (xs : List γ) : ∀ cur : Option γ, (∀ b ∈ cur, w b = true) →
    (fold w len cur xs).filter (fun x => !w x) = xs.filter (fun x => !w x) := by
  induction xs with
  | nil => intro cur h; cases cur with
    | none => rfl
    | some b => simp [fold, h b rfl]
  | cons x xs ih =>
    intro cur h
    by_cases hx : w x = true
    · rw [fold_ws w len cur x xs hx, ih _ (fun b hb => by cases hb; exact push_ws w len h hx),
        List.filter_cons_of_neg (by simp [hx])]
    · have hx' : w x = false := by simpa using hx
      rw [fold_nws w len cur x xs hx', List.filter_append, List.filter_cons_of_pos (by simp [hx']),
        List.filter_cons_of_pos (by simp [hx']), ih none (by intro b hb; cases hb)]
      cases cur with
      | none => rfl
      | some b => simp [h b rfl]

theorem fold_sublist (xs : List γ) : ∀ cur : Option γ, (fold w len cur xs).Sublist (cur.toList ++ xs) := by
  induction xs with
  | nil => intro cur; rw [fold, List.append_nil]; exact List.Sublist.refl _
  | cons x xs ih =>
    intro cur
    by_cases hx : w x = true
    · rw [fold_ws w len cur x xs hx]
      refine (ih _).trans ?_
      have : [push len cur x].Sublist (cur.toList ++ [x]) := by
        cases cur with
        | none => exact List.Sublist.refl _
        | some b =>
          show [best len b x].Sublist [b, x]
          unfold best
          split
          · exact List.Sublist.cons _ (List.Sublist.refl _)
          · exact List.Sublist.cons_cons _ (List.nil_sublist _)
      simpa using this.append_right xs
    · rw [fold_nws w len cur x xs (by simpa using hx)]
      simpa using ((ih none).cons_cons x).append_left cur.toList

theorem fold_sub (xs : List γ) : (fold w len none xs).Sublist xs := fold_sublist w len xs none

end fold

theorem fold_fold {γ : Type} (w : γ → Bool) (len : γ → Nat) (xs : List γ) :
    fold w len none (fold w len none xs) = fold w len none xs := by
  have := fold_absorb w len (fun _ => true) (fun _ _ => rfl) xs none none (by intro b hb; cases hb)
  rwa [List.filter_eq_self.2 (fun _ _ => rfl), List.filter_eq_self.2 (fun _ _ => rfl)] at this

theorem none_ws {γ : Type} (w : γ → Bool) : ∀ b ∈ (none : Option γ), w b = true := by intro b hb; cases hb

/- Checking a term against a goal `… fold w len cur l …` puts `l` into weak head normal form — for `l` the flat sequence of
   `merge_two` that is the whole key diff; from here on `fold` is used through `fold_ws`, `fold_nws`, `fold_nil` and the lemmas above. -/
attribute [irreducible] fold

end C16L
