/-
`Tree.getContent` for the text renderings of C10.  The yielded tuples are read back as an outline (`outline`: every
("value", v) row together with the chain of ("key", k) rows it stands under); that outline is `rows`, the stored lists in
depth-first order over sorted keys (`outline_getContent`), a permutation of `flatten` with strictly increasing paths.
-/
import CLModel.Compare.Tree
import CLModel.Proofs.C10Tree
import CLModel.Proofs.C10TOrder
namespace C10T
open TreeM

variable {V : Type}

theorem getContentBr_eq (br : List (Key × Tree V)) (d : Nat) :
    getContentBr br d = br.map (fun kv => (kv.1, getContent kv.2 d)) := by
  induction br with
  | nil => simp [getContentBr]
  | cons kv rest ih => obtain ⟨k, v⟩ := kv; simp [getContentBr, ih]

theorem getContent_node (br : List (Key × Tree V)) (val : Option (List V)) (d : Nat) :
    getContent (.node br val) d =
      (match val with | some v => [Content.value d v] | none => []) ++
        (sortByKey br).flatMap (fun kv => Content.key d kv.1 :: getContent kv.2 (d + 1)) := by
  simp only [getContent, getContentBr_eq]
  rw [sortByKey_map (fun v => getContent v (d + 1)) br, List.flatMap_map]
  rfl

/-- the chain of keys a reader has in mind after the rows: a ("key", k) row at depth `d` replaces
    everything from level `d` on -/
def stackAfter : List Key → List (Content V) → List Key
  | st, [] => st
  | st, .key d k :: rest => stackAfter (st.take d ++ [k]) rest
  | st, .value _ _ :: rest => stackAfter st rest

/-- every ("value", v) row at depth `d` together with the `d` keys it stands under -/
def outlineAux : List Key → List (Content V) → List (List Key × List V)
  | _, [] => []
  | st, .key d k :: rest => outlineAux (st.take d ++ [k]) rest
  | st, .value d v :: rest => (st.take d, v) :: outlineAux st rest

/-- the rows of `getContent()` read as an outline: `(chain of keys from the root, value)` per value row -/
def outline (c : List (Content V)) : List (List Key × List V) := outlineAux [] c

theorem stackAfter_append : ∀ (a b : List (Content V)) (st : List Key),
    stackAfter st (a ++ b) = stackAfter (stackAfter st a) b
  | [], _, _ => rfl
  | .key d k :: a, b, st => by simp [stackAfter, stackAfter_append a b]
  | .value d v :: a, b, st => by simp [stackAfter, stackAfter_append a b]

theorem outlineAux_append : ∀ (a b : List (Content V)) (st : List Key),
    outlineAux st (a ++ b) = outlineAux st a ++ outlineAux (stackAfter st a) b
  | [], _, _ => rfl
  | .key d k :: a, b, st => by simp [outlineAux, stackAfter, outlineAux_append a b]
  | .value d v :: a, b, st => by simp [outlineAux, stackAfter, outlineAux_append a b]

mutual
/-- `(chain of keys, value)` of every stored list, depth-first, the branches of every node in the order of
    their sorted keys, the value of a node before its branches -/
def rows : Tree V → List (List Key × List V)
  | .node br val =>
    (match val with | some v => [([], v)] | none => []) ++
      (sortByKey (rowsBr br)).flatMap (fun kr => kr.2.map (fun r => (kr.1 :: r.1, r.2)))
def rowsBr : List (Key × Tree V) → List (Key × List (List Key × List V))
  | [] => []
  | (k, v) :: rest => (k, rows v) :: rowsBr rest
end

theorem rowsBr_eq (br : List (Key × Tree V)) : rowsBr br = br.map (fun kv => (kv.1, rows kv.2)) := by
  induction br with
  | nil => simp [rowsBr]
  | cons kv rest ih => obtain ⟨k, v⟩ := kv; simp [rowsBr, ih]

theorem rows_node (br : List (Key × Tree V)) (val : Option (List V)) :
    rows (.node br val) = (match val with | some v => [([], v)] | none => []) ++
      (sortByKey br).flatMap (fun kv => (rows kv.2).map (fun r => (kv.1 :: r.1, r.2))) := by
  simp only [rows, rowsBr_eq]
  rw [sortByKey_map (fun v => rows v) br, List.flatMap_map]

/-- the step of `outline_getContent` over the branches of one node -/
theorem outline_branches (d : Nat) : ∀ (l : List (Key × Tree V)),
    (∀ kv ∈ l, ∀ (st : List Key), d + 1 ≤ st.length →
      outlineAux st (getContent kv.2 (d + 1)) = (rows kv.2).map (fun r => (st.take (d + 1) ++ r.1, r.2)) ∧
      (stackAfter st (getContent kv.2 (d + 1))).take (d + 1) = st.take (d + 1) ∧
      d + 1 ≤ (stackAfter st (getContent kv.2 (d + 1))).length) →
    ∀ (st : List Key), d ≤ st.length →
      outlineAux st (l.flatMap (fun kv => Content.key d kv.1 :: getContent kv.2 (d + 1)))
        = l.flatMap (fun kv => (rows kv.2).map (fun r => (st.take d ++ kv.1 :: r.1, r.2))) ∧
      (stackAfter st (l.flatMap (fun kv => Content.key d kv.1 :: getContent kv.2 (d + 1)))).take d = st.take d ∧
      d ≤ (stackAfter st (l.flatMap (fun kv => Content.key d kv.1 :: getContent kv.2 (d + 1)))).length
  | [], _, st, hst => by simp [outlineAux, stackAfter, hst]
  | kv :: l', ih, st, hst => by
    have hlen : (st.take d ++ [kv.1]).length = d + 1 := by
      simp [List.length_take, Nat.min_eq_left hst]
    obtain ⟨h1, h2, h3⟩ := ih kv (by simp) (st.take d ++ [kv.1]) (by omega)
    have htk : (st.take d ++ [kv.1]).take (d + 1) = st.take d ++ [kv.1] := by
      rw [List.take_of_length_le (by omega)]
    rw [htk] at h1 h2
    have hst1 : (stackAfter (st.take d ++ [kv.1]) (getContent kv.2 (d + 1))).take d = st.take d := by
      have := congrArg (List.take d) h2
      rw [List.take_take, Nat.min_eq_left (by omega)] at this
      rw [this, List.take_append_of_le_length (by simp [List.length_take, Nat.min_eq_left hst])]
      rw [List.take_take, Nat.min_self]
    obtain ⟨r1, r2, r3⟩ := outline_branches d l' (fun x hx => ih x (by simp [hx]))
      (stackAfter (st.take d ++ [kv.1]) (getContent kv.2 (d + 1))) (by omega)
    simp only [List.flatMap_cons]
    rw [show Content.key d kv.1 :: getContent kv.2 (d + 1) = [Content.key d kv.1] ++ getContent kv.2 (d + 1) from rfl]
    rw [List.append_assoc, outlineAux_append, stackAfter_append, outlineAux_append, stackAfter_append]
    simp only [outlineAux, stackAfter, List.nil_append]
    refine ⟨?_, ?_, r3⟩
    · rw [h1, r1, hst1]
      congr 1
      apply List.map_congr_left
      intro r _
      simp
    · rw [r2, hst1]

theorem outlineAux_getContent (t : Tree V) : ∀ (d : Nat) (st : List Key), d ≤ st.length →
    outlineAux st (getContent t d) = (rows t).map (fun r => (st.take d ++ r.1, r.2)) ∧
      (stackAfter st (getContent t d)).take d = st.take d ∧
      d ≤ (stackAfter st (getContent t d)).length := by
  induction t using Tree.induction with
  | h br val ih =>
    intro d st hst
    rw [getContent_node, rows_node, outlineAux_append, stackAfter_append]
    have hval : stackAfter st (match val with | some v => [Content.value d v] | none => []) = st := by
      cases val <;> simp [stackAfter]
    rw [hval]
    have hmem : ∀ kv ∈ sortByKey br, kv ∈ br := fun kv h => (sortByKey_perm br).mem_iff.1 h
    obtain ⟨b1, b2, b3⟩ := outline_branches d (sortByKey br)
      (fun kv hkv st' hst' => ih kv (hmem kv hkv) (d + 1) st' hst') st hst
    refine ⟨?_, b2, b3⟩
    rw [b1, List.map_append, List.map_flatMap]
    congr 1
    · cases val <;> simp [outlineAux]
    · apply Txt.flatMap_congr'
      intro kv _
      simp [List.map_map, Function.comp]

theorem outline_getContent (t : Tree V) : outline (getContent t 0) = rows t := by
  have := (outlineAux_getContent t 0 [] (Nat.le_refl _)).1
  simpa [outline] using this

theorem flatMap_perm_congr {α β : Type} {f g : α → List β} : ∀ {l : List α}, (∀ a ∈ l, (f a).Perm (g a)) →
    (l.flatMap f).Perm (l.flatMap g)
  | [], _ => List.Perm.refl _
  | a :: l, h => by
    simp only [List.flatMap_cons]
    exact List.Perm.append (h a (by simp)) (flatMap_perm_congr (fun x hx => h x (by simp [hx])))

/-- `rows` is `flattenK` with the branches of every node taken in the order of their sorted keys -/
theorem rows_perm_flattenK (t : Tree V) : (rows t).Perm (flattenK t) := by
  induction t using Tree.induction with
  | h br val ih =>
    rw [rows_node, flattenK_node]
    refine List.Perm.append_left _ (List.Perm.trans ?_ (List.Perm.flatMap_right _ (sortByKey_perm br)))
    exact flatMap_perm_congr fun kv hkv => (ih kv ((sortByKey_perm br).mem_iff.1 hkv)).map _

theorem rows_perm (t : Tree V) : ((rows t).map (fun r => (r.1.flatten, r.2))).Perm (flatten t) := by
  rw [flatten_eq_flattenK]
  exact (rows_perm_flattenK t).map _

theorem rows_keys_ne_nil (t : Tree V) (hinv : Inv t) : ∀ r ∈ rows t, ∀ k ∈ r.1, k ≠ [] :=
  fun r hr => flattenK_keys_ne_nil t hinv r ((rows_perm_flattenK t).mem_iff.1 hr)

/-- the files are displayed in the order of `sorted(paths)`, however the tree compressed the paths.  Inside one branch the
    paths are those of the subtree behind the branch key (`pathLt_append_left`); two branches differ in the first segment of
    their keys (`Inv`) and the keys are sorted, so every path of the earlier one is below every path of the later one; the
    node's own value sits at the empty path, below all others since no key is empty. -/
theorem rows_sorted (t : Tree V) : Inv t → ((rows t).map (fun r => r.1.flatten)).Pairwise pathLt := by
  induction t using Tree.induction with
  | h br val ih =>
    intro hinv
    rw [Inv_node] at hinv
    obtain ⟨hnd, hbr⟩ := hinv
    have hperm := sortByKey_perm br
    have hmem : ∀ kv ∈ sortByKey br, kv ∈ br := fun kv h => hperm.mem_iff.1 h
    have hnd' : (sortByKey br).Pairwise (fun a b => headOf a.1 ≠ headOf b.1) := by
      have : ((sortByKey br).map (fun kv => headOf kv.1)).Nodup := (hperm.map _).nodup_iff.2 hnd
      unfold List.Nodup at this
      rwa [List.pairwise_map] at this
    have hso := (sortByKey_sorted br).and hnd'
    rw [rows_node, List.map_append, List.pairwise_append]
    refine ⟨by cases val <;> simp, ?_, ?_⟩
    · rw [List.map_flatMap, List.pairwise_flatMap]
      constructor
      · intro kv hkv
        have := ih kv (hmem kv hkv) (hbr kv (hmem kv hkv)).2
        rw [List.map_map]
        rw [List.pairwise_map] at this ⊢
        apply this.imp
        intro x y hxy
        simpa using pathLt_append_left kv.1 hxy
      · apply List.Pairwise.imp_of_mem _ hso
        intro a b ha hb hab x hx y hy
        simp only [List.map_map, List.mem_map, Function.comp] at hx hy
        obtain ⟨rx, _, rfl⟩ := hx
        obtain ⟨ry, _, rfl⟩ := hy
        have ha0 := (hbr a (hmem a ha)).1
        have hb0 := (hbr b (hmem b hb)).1
        obtain ⟨hle, hne⟩ := hab
        cases hka : a.1 with
        | nil => exact absurd hka ha0
        | cons p ps =>
          cases hkb : b.1 with
          | nil => exact absurd hkb hb0
          | cons q qs =>
            have hpq : p ≠ q := by
              intro e; apply hne; simp [headOf, hka, hkb, e]
            rw [hka, hkb, keyLe_of_head_ne hpq] at hle
            simp only [List.flatten_cons, List.cons_append]
            refine ⟨by rw [keyLe_of_head_ne hpq]; exact hle, ?_⟩
            intro e
            injection e with e1 _
            exact hpq e1
    · intro a ha b hb
      cases val with
      | none => simp at ha
      | some v =>
        simp only [List.map_cons, List.map_nil, List.mem_singleton, List.flatten_nil] at ha
        subst ha
        simp only [List.map_flatMap, List.mem_flatMap, List.map_map, List.mem_map, Function.comp] at hb
        obtain ⟨kv, hkv, r, _, rfl⟩ := hb
        have hk0 := (hbr kv (hmem kv hkv)).1
        refine ⟨by simp [keyLe], ?_⟩
        intro e
        simp only [List.flatten_cons] at e
        exact hk0 (List.append_eq_nil_iff.1 e.symm).1

theorem _root_.TreeM.flatten_nodup (t : Tree V) (hinv : Inv t) : ((flatten t).map (·.1)).Nodup := by
  have h := ((rows_perm t).map (·.1)).nodup_iff
  rw [List.map_map] at h
  exact h.1 ((rows_sorted t hinv).imp fun h e => h.2 e)

end C10T
