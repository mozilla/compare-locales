/- C02: the generic "document with garbage lines" theorem.  A format supplies its blocks (print, entries, views,
   goodness), its notion of an inert garbage line and the facts of `GSpec.Laws` (in the main: a good block is walked to its
   entries; a garbage line in front of a good block or of the end of the text is ONE junk entry; what a block's entries
   evaluate to); the theorem yields, for every list of blocks each optionally preceded by one garbage line, plus an optional final garbage line:
   the walk, the entity views, and the junk = exactly the garbage lines. -/
import CLModel.Proofs.C02PCore
namespace C02P
open Rx P C02X

/-- the accumulator function of `getJunk` -/
def junkStep (s : Array Nat) (off : Nat) (je : Option Nat) (exp : Re) : Option Nat :=
  match search s exp (off + 1) with
  | some (q, _) =>
      match je with
      | some j => if j != 0 then some (min j q) else some q
      | none => some q
  | none => je

theorem getJunk_eq (s : Array Nat) (off : Nat) (exps : List Re) :
    getJunk s off exps =
      { kind := .junk, full := off, s := off,
        e := match exps.foldl (junkStep s off) none with
          | some j => if j != 0 then j else s.size
          | none => s.size } := rfl

/-- where `exp` is found first behind `off` -/
def junkHit (s : Array Nat) (off : Nat) (exp : Re) : Option Nat := (search s exp (off + 1)).map (·.1)

theorem junkHit_some {s : Array Nat} {off q : Nat} {r : Re} (h : junkHit s off r = some q) :
    ∃ st, search s r (off + 1) = some (q, st) := by
  unfold junkHit at h
  cases hs : search s r (off + 1) with
  | none => rw [hs] at h; cases h
  | some qs => rw [hs] at h; cases h; exact ⟨qs.2, rfl⟩

/-- the accumulator of `getJunk` is the least of the hits so far (`some 0` would be taken for "none yet") -/
theorem foldl_junkStep (s : Array Nat) (off : Nat) : ∀ (l : List Re) (je : Option Nat), je ≠ some 0 →
    l.foldl (junkStep s off) je = (je.toList ++ l.filterMap (junkHit s off)).min?
  | [], je, _ => by cases je <;> simp
  | r :: l, je, hje => by
    have hstep : junkStep s off je r = (je.toList ++ (junkHit s off r).toList).min? := by
      unfold junkStep junkHit
      cases hs : search s r (off + 1) with
      | none => cases je <;> simp
      | some qs =>
        cases je with
        | none => simp
        | some j =>
          have : (j != 0) = true := by simpa using fun h0 => hje (congrArg some h0)
          simp [this, List.min?_cons]
    have hne : junkStep s off je r ≠ some 0 := by
      rw [hstep]; intro h0
      rcases List.mem_append.mp (List.min?_eq_some_iff.mp h0).1 with hm | hm
      · exact hje (Option.mem_toList.mp hm)
      · obtain ⟨st, hs⟩ := junkHit_some (Option.mem_toList.mp hm)
        exact absurd (search_spec hs).1 (Nat.not_succ_le_zero _)
    rw [List.foldl_cons, foldl_junkStep s off l _ hne, hstep]
    cases hh : junkHit s off r <;> cases je <;> simp [hh, List.min?_cons]
    cases (List.filterMap (junkHit s off) l).min? <;> simp [Nat.min_assoc]

theorem getJunk_at (s : Array Nat) (off e : Nat) (exps : List Re) (hoe : off < e)
    (hno : ∀ r ∈ exps, ∀ q, off < q → q < e → matchAt s r q = none)
    (hend : (∃ r ∈ exps, (matchAt s r e).isSome) ∨ (e = s.size ∧ ∀ r ∈ exps, matchAt s r e = none)) (hes : e ≤ s.size) :
    getJunk s off exps = junkEntry off e := by
  rw [getJunk_eq, foldl_junkStep s off exps none (fun h => nomatch h)]
  rcases hend with ⟨r, hr, hm⟩ | ⟨he, hnone⟩
  · -- `e` is a hit, and no hit is before `e`
    obtain ⟨st, hst⟩ := Option.isSome_iff_exists.mp hm
    have hat : junkHit s off r = some e := by
      rw [junkHit, search_eq_some (pos := off + 1) hoe hes (fun p hp1 hp2 => hno r hr p hp1 hp2) hst]; rfl
    rw [List.min?_eq_some_iff.mpr ⟨List.mem_append_right _ (List.mem_filterMap.mpr ⟨r, hr, hat⟩), fun q hq => by
      obtain ⟨r', hr', h'⟩ := List.mem_filterMap.mp (by simpa using hq)
      obtain ⟨st', hs'⟩ := junkHit_some h'
      obtain ⟨h1, _, hm', _⟩ := search_spec hs'
      refine Nat.le_of_not_lt fun hq => ?_
      rw [hno r' hr' q (by omega) hq] at hm'; cases hm'⟩]
    have : (e != 0) = true := by simp; omega
    simp [this, junkEntry]
  · rw [List.filterMap_eq_nil_iff.mpr fun r hr => by
      rw [junkHit, search_eq_none s r (off + 1) (fun p hp1 hp2 => by
        by_cases hp : p < e
        · exact hno r hr p (by omega) hp
        · rw [show p = e by omega]; exact hnone r hr)]; rfl]
    simp [junkEntry, he]

/-- `hmin`: an expression of minimal length ≥ 1 cannot match at the end of the text -/
theorem getJunk_over {s : Array Nat} {p : Nat} {x rest : List Nat} (exps : List Re) (hmin : ∀ r ∈ exps, 1 ≤ minLen r)
    (hne : x ≠ []) (hno : ∀ r ∈ exps, ∀ q, p < q → q < p + x.length → matchAt s r q = none)
    (hnext : rest = [] ∨ ∃ r ∈ exps, (matchAt s r (p + x.length)).isSome) (h : At s p (x ++ rest)) :
    getJunk s p exps = junkEntry p (p + x.length) := by
  have hpos : 0 < x.length := List.length_pos_iff.mpr hne
  have hsz := h.size_ge (by simp [hne])
  simp only [List.length_append] at hsz
  apply getJunk_at s p (p + x.length) exps (by omega) hno _ (by omega)
  rcases hnext with rfl | hm
  · have he : p + x.length = s.size := by simpa using h.size_eq (by simp [hne])
    exact Or.inr ⟨he, fun r hr => he ▸ matchAt_end_none (hmin r hr)⟩
  · exact Or.inl hm

def tailText : Option (List Nat × List Nat) → List Nat
  | none => []
  | some (g, gap) => g ++ gap

/-- a block, optionally preceded by ONE garbage line (line, white-space after it) -/
structure GB (β : Type) where
  junk : Option (List Nat × List Nat)
  b : β

/-- what a format supplies: `f` the format; `next` its `getNext` threading the parser context `σ`, `c0` the initial context;
    for a block, `pr` its text, `en off c` its expected entries at an offset in a context, `tr c` the context after it,
    `vw` its views; `Follow` what the text after a block must look like -/
structure GSpec (σ β : Type) where
  f : Fmt
  next : Array Nat → σ → Nat → Entry × σ
  c0 : σ
  pr : β → List Nat
  en : Nat → σ → β → List Entry
  tr : σ → β → σ
  vw : β → List (Option EntView)
  /-- well-formedness of a block (may depend on the parser context: blank lines in `.inc` need `#filter emptyLines`);
      primed because `GGood` adds the License condition and the garbage line in front -/
  Good' : σ → β → Prop
  /-- side condition at an offset (the License rule does not fire on an attached comment) -/
  Lic : Nat → β → Prop
  /-- inert garbage line + the white-space after it -/
  Garb : σ → List Nat → List Nat → Prop
  /-- the block may be preceded by a garbage line (its start is recognised by one of the end-of-junk expressions) -/
  JOk : β → Prop
  Follow : List Nat → Prop
  /-- invariant about the text before an offset (line start) -/
  Inv : Array Nat → Nat → Prop

structure GSpec.Laws {σ β : Type} (S : GSpec σ β) : Prop where
  walk_def : ∀ s, walk S.f s = walkFrom (S.next s) s.size (s.size + 1) S.c0 0
  inv0 : ∀ s, S.Inv s 0
  follow_nil : S.Follow []
  block_walk : ∀ s b c off rest, S.Good' c b → S.Lic off b → At s off (S.pr b ++ rest) → S.Follow rest → S.Inv s off →
    Walks (S.next s) s.size c off (S.en off c b) (S.tr c b) (off + (S.pr b).length) ∧ S.Inv s (off + (S.pr b).length)
  block_follow : ∀ c b rest, S.Good' c b → S.Follow (S.pr b ++ rest)
  block_views : ∀ s b c off rest, S.Good' c b → At s off (S.pr b ++ rest) → S.Follow rest →
    entitiesOf S.f s (S.en off c b) = S.vw b ∧ junkOf s (S.en off c b) = []
  junk_at : ∀ s c p g gap rest, S.Garb c g gap → At s p (g ++ (gap ++ rest)) → S.Inv s p →
    (rest = [] ∨ ∃ b rest', rest = S.pr b ++ rest' ∧ S.Good' c b ∧ S.JOk b ∧ S.Follow rest') →
    S.next s c p = (junkEntry p (p + g.length + gap.length), c) ∧ S.Inv s (p + g.length + gap.length)
  garb_follow : ∀ c g gap rest, S.Garb c g gap → S.Follow (g ++ (gap ++ rest))
  garb_pos : ∀ c g gap, S.Garb c g gap → 0 < g.length
  gap_pos : ∀ c g gap, S.Garb c g gap → 0 < gap.length
  len2 : ∀ c b, S.Good' c b → 2 ≤ (S.pr b).length
  /-- the License rule looks at the first two offsets at most -/
  lic2 : ∀ off b, 2 ≤ off → S.Lic off b

section
variable {σ β : Type} (S : GSpec σ β)

def GB.jtext (x : GB β) : List Nat := tailText x.junk

def GSpec.gpr (x : GB β) : List Nat := x.jtext ++ S.pr x.b

def GSpec.gen (off : Nat) (c : σ) (x : GB β) : List Entry :=
  (match x.junk with
   | none => []
   | some (g, gap) => [junkEntry off (off + g.length + gap.length)]) ++ S.en (off + x.jtext.length) c x.b

def GSpec.gtr (c : σ) (x : GB β) : σ := S.tr c x.b

def GB.junks (x : GB β) : List (List Nat) :=
  match x.junk with
  | none => []
  | some (g, gap) => [g ++ gap]

def GSpec.GGood (off : Nat) (c : σ) (x : GB β) : Prop :=
  S.Good' c x.b ∧ (x.junk = none → S.Lic off x.b) ∧ ∀ g gap, x.junk = some (g, gap) → S.Garb c g gap ∧ S.JOk x.b

def GSpec.gprint (xs : List (GB β)) (tail : Option (List Nat × List Nat)) : List Nat :=
  printBlocks S.gpr xs ++ tailText tail

def tailEntries (p : Nat) : Option (List Nat × List Nat) → List Entry
  | none => []
  | some (g, gap) => [junkEntry p (p + g.length + gap.length)]

def GSpec.gentriesAt (o : Nat) (xs : List (GB β)) (tail : Option (List Nat × List Nat)) : List Entry :=
  blockEntries S.gpr S.gen S.gtr o S.c0 xs ++ tailEntries (o + (printBlocks S.gpr xs).length) tail

def GSpec.gentries (xs : List (GB β)) (tail : Option (List Nat × List Nat)) : List Entry := S.gentriesAt 0 xs tail

def GSpec.gviews (xs : List (GB β)) : List (Option EntView) := (xs.map (fun x => S.vw x.b)).flatten

def gbJunk {β : Type} (xs : List (GB β)) (tail : Option (List Nat × List Nat)) : List (List Nat) :=
  (xs.map GB.junks).flatten ++ (match tail with | none => [] | some (g, gap) => [g ++ gap])

theorem gb_walk (L : S.Laws) (s : Array Nat) (x : GB β) (c : σ) (off : Nat) (rest : List Nat) (hg : S.GGood off c x)
    (h : At s off (S.gpr x ++ rest)) (hfo : S.Follow rest) (hi : S.Inv s off) :
    Walks (S.next s) s.size c off (S.gen off c x) (S.gtr c x) (off + (S.gpr x).length) ∧ S.Inv s (off + (S.gpr x).length) := by
  obtain ⟨hb, hl, hj⟩ := hg
  cases hjk : x.junk with
  | none =>
    have hp : S.gpr x = S.pr x.b := by simp [GSpec.gpr, GB.jtext, tailText, hjk]
    have he : S.gen off c x = S.en off c x.b := by simp [GSpec.gen, GB.jtext, tailText, hjk]
    rw [hp, he]
    rw [hp] at h
    exact L.block_walk s x.b c off rest hb (hl hjk) h hfo hi
  | some gg =>
    obtain ⟨g, gap⟩ := gg
    obtain ⟨hgb, hjo⟩ := hj g gap hjk
    have hgl := L.garb_pos c g gap hgb
    have hgpl := L.gap_pos c g gap hgb
    have hjt : x.jtext = g ++ gap := by simp [GB.jtext, tailText, hjk]
    have h1 : At s off (g ++ (gap ++ (S.pr x.b ++ rest))) := by simpa [At, GSpec.gpr, hjt] using h
    have h2 : At s (off + g.length + gap.length) (S.pr x.b ++ rest) := h1.app.app
    obtain ⟨e1, i1⟩ := L.junk_at s c off g gap _ hgb h1 hi (Or.inr ⟨x.b, rest, rfl, hb, hjo, hfo⟩)
    obtain ⟨w2, i2⟩ := L.block_walk s x.b c _ rest hb (L.lic2 _ x.b (by omega)) h2 hfo i1
    have hp1 := h1.pos_lt (by intro hh; simp at hh; rw [hh.1] at hgl; simp at hgl)
    have w1 : Walks (S.next s) s.size c off [junkEntry off (off + g.length + gap.length)] c (off + g.length + gap.length) :=
      Walks.one hp1 (by simp [junkEntry]; omega) (by rw [e1])
    have := w1.append w2
    refine ⟨?_, ?_⟩
    · simp only [GSpec.gen, hjk, hjt, GSpec.gpr, List.length_append, GSpec.gtr]
      rw [show off + (g.length + gap.length + (S.pr x.b).length) = off + g.length + gap.length + (S.pr x.b).length by omega,
        show off + (g.length + gap.length) = off + g.length + gap.length by omega]
      exact this
    · simp only [GSpec.gpr, hjt, List.length_append]
      rw [show off + (g.length + gap.length + (S.pr x.b).length) = off + g.length + gap.length + (S.pr x.b).length by omega]
      exact i2

theorem gb_follow (L : S.Laws) (x : GB β) (c : σ) (off : Nat) (hg : S.GGood off c x) (l : List Nat) :
    S.Follow (S.gpr x ++ l) := by
  obtain ⟨hb, hl, hj⟩ := hg
  cases hjk : x.junk with
  | none =>
    have hp : S.gpr x = S.pr x.b := by simp [GSpec.gpr, GB.jtext, tailText, hjk]
    rw [hp]; exact L.block_follow c x.b l hb
  | some gg =>
    obtain ⟨g, gap⟩ := gg
    have := L.garb_follow c g gap (S.pr x.b ++ l) (hj g gap hjk).1
    simpa [GSpec.gpr, GB.jtext, tailText, hjk] using this

theorem gb_views (L : S.Laws) (s : Array Nat) (x : GB β) (c : σ) (off : Nat) (rest : List Nat) (hg : S.GGood off c x)
    (h : At s off (S.gpr x ++ rest)) (hfo : S.Follow rest) :
    entitiesOf S.f s (S.gen off c x) = S.vw x.b ∧ junkOf s (S.gen off c x) = x.junks := by
  obtain ⟨hb, hl, hj⟩ := hg
  cases hjk : x.junk with
  | none =>
    have hp : S.gpr x = S.pr x.b := by simp [GSpec.gpr, GB.jtext, tailText, hjk]
    rw [hp] at h
    have := L.block_views s x.b c off rest hb h hfo
    simpa [GSpec.gen, GB.jtext, tailText, GB.junks, hjk] using this
  | some gg =>
    obtain ⟨g, gap⟩ := gg
    have hjt : x.jtext = g ++ gap := by simp [GB.jtext, tailText, hjk]
    have h1 : At s off ((g ++ gap) ++ (S.pr x.b ++ rest)) := by simpa [At, GSpec.gpr, hjt] using h
    have h2 := h1.app
    obtain ⟨v1, v2⟩ := L.block_views s x.b c _ rest hb h2 hfo
    have hsl : slice s off (off + g.length + gap.length) = g ++ gap := by
      have := h1.slice
      simpa [Nat.add_assoc] using this
    simp only [GSpec.gen, hjk, hjt, GB.junks, List.singleton_append]
    rw [entitiesOf_cons_other _ _ _ _ (by simp [junkEntry]), junkOf_cons_junk _ _ _ (by simp [junkEntry]), v1, v2]
    simp [junkEntry, hsl]

/-- blocks have at least two characters, so every block but the first starts at an offset ≥ 2, where the License condition
    holds anyway -/
theorem gGoodAll (L : S.Laws) (xs : List (GB β)) (hg : ∀ x ∈ xs, ∀ c, S.Good' c x.b ∧ ∀ g gap, x.junk = some (g, gap) → S.Garb c g gap ∧ S.JOk x.b) :
    ∀ off c, (∀ x, xs.head? = some x → x.junk = none → S.Lic off x.b) → GoodAll S.gpr S.gtr S.GGood off c xs := by
  induction xs with
  | nil => intro off c _; trivial
  | cons x xs ih =>
    intro off c hl
    refine ⟨⟨(hg x (by simp) c).1, hl x rfl, (hg x (by simp) c).2⟩, ih (fun y hy => hg y (by simp [hy])) _ _ ?_⟩
    intro y _ _
    apply L.lic2
    have := L.len2 c x.b (hg x (by simp) c).1
    simp only [GSpec.gpr, List.length_append]
    omega

/-- stated from an offset `off` on because a DTD document may stand behind a byte-order mark.  The blocks by
    `walks_blocks_inv` / `views_blocks` with the tail text as what follows, then one `junk_at` for a final garbage line. -/
theorem gdoc_at (L : S.Laws) (xs : List (GB β)) (tail : Option (List Nat × List Nat)) (s : Array Nat) (off : Nat)
    (hat : At s off (S.gprint xs tail)) (hi0 : S.Inv s off) (hall : GoodAll S.gpr S.gtr S.GGood off S.c0 xs)
    (htail : ∀ g gap, tail = some (g, gap) → S.Garb (blockCtx S.gtr S.c0 xs) g gap) :
    (∃ c' e, s.size ≤ e ∧ Walks (S.next s) s.size S.c0 off (S.gentriesAt off xs tail) c' e) ∧
      entitiesOf S.f s (S.gentriesAt off xs tail) = S.gviews xs ∧
      junkOf s (S.gentriesAt off xs tail) = gbJunk xs tail := by
  generalize htt' : tailText tail = tt
  have hat : At s off (printBlocks S.gpr xs ++ tt) := by rw [← htt']; exact hat
  have hfo : S.Follow tt := by
    cases htl : tail with
    | none => rw [← htt', htl]; exact L.follow_nil
    | some gg =>
      obtain ⟨g, gap⟩ := gg
      have := L.garb_follow _ g gap [] (htail g gap htl)
      rw [← htt', htl]
      simpa [tailText] using this
  obtain ⟨hw, _, hinv⟩ := walks_blocks_inv (S.next s) s S.gpr S.gen S.gtr S.GGood S.Follow (S.Inv s)
      (fun x c off rest g h f i => gb_walk S L s x c off rest g h f i)
      (fun x c off rest g _ => gb_follow S L x c off g rest) xs S.c0 off tt hall hat hfo hi0
  have hv := (views_blocks S.f s S.gpr S.gen S.gtr S.GGood S.Follow (fun x => S.vw x.b) GB.junks
      (fun x c off rest g h f => gb_views S L s x c off rest g h f)
      (fun x c off rest g _ => gb_follow S L x c off g rest) xs S.c0 off tt hall hat hfo).1
  have hlen : s.size ≤ off + (printBlocks S.gpr xs).length + tt.length := by
    have := hat.len
    rw [List.length_append] at this
    omega
  cases htl : tail with
  | none =>
    have htt : tt = [] := by rw [← htt', htl]; rfl
    rw [htt] at hlen
    have hes : S.gentriesAt off xs none = blockEntries S.gpr S.gen S.gtr off S.c0 xs := by
      simp [GSpec.gentriesAt, tailEntries]
    refine ⟨⟨_, _, hlen, by rw [hes]; exact hw⟩, ?_, ?_⟩
    · rw [hes]; simpa [GSpec.gviews] using hv.1
    · rw [hes]; simpa [gbJunk] using hv.2
  | some gg =>
    obtain ⟨g, gap⟩ := gg
    have hgb := htail g gap htl
    have hgl := L.garb_pos _ g gap hgb
    have htt : tt = g ++ gap := by rw [← htt', htl]; rfl
    rw [htt] at hlen hat
    have h2 : At s (off + (printBlocks S.gpr xs).length) (g ++ (gap ++ [])) := by simpa using hat.app
    obtain ⟨e1, _⟩ := L.junk_at s _ _ g gap [] hgb h2 hinv (Or.inl rfl)
    have w1 : Walks (S.next s) s.size (blockCtx S.gtr S.c0 xs) (off + (printBlocks S.gpr xs).length)
        [junkEntry (off + (printBlocks S.gpr xs).length) (off + (printBlocks S.gpr xs).length + g.length + gap.length)]
        (blockCtx S.gtr S.c0 xs) (off + (printBlocks S.gpr xs).length + g.length + gap.length) :=
      Walks.one (h2.pos_lt (by intro hh; simp at hh; rw [hh.1] at hgl; simp at hgl)) (by simp [junkEntry]; omega) (by rw [e1])
    have hwa := hw.append w1
    have hsl : slice s (off + (printBlocks S.gpr xs).length)
        (off + (printBlocks S.gpr xs).length + g.length + gap.length) = g ++ gap := by
      have : At s (off + (printBlocks S.gpr xs).length) ((g ++ gap) ++ []) := by simpa using h2
      have := this.slice
      simpa [Nat.add_assoc] using this
    have hes : S.gentriesAt off xs (some (g, gap)) = blockEntries S.gpr S.gen S.gtr off S.c0 xs ++
        [junkEntry (off + (printBlocks S.gpr xs).length) (off + (printBlocks S.gpr xs).length + g.length + gap.length)] := by
      simp [GSpec.gentriesAt, tailEntries]
    refine ⟨⟨_, off + (printBlocks S.gpr xs).length + g.length + gap.length,
      by simp only [List.length_append] at hlen; omega, by rw [hes]; exact hwa⟩, ?_, ?_⟩
    · rw [hes]
      simp only [entitiesOf_append, hv.1, GSpec.gviews]
      rw [entitiesOf_cons_other _ _ _ _ (by simp [junkEntry])]; simp
    · rw [hes]
      simp only [junkOf_append, hv.2, gbJunk]
      rw [junkOf_cons_junk _ _ _ (by simp [junkEntry])]; simp [junkEntry, hsl]

theorem gdoc (L : S.Laws) (xs : List (GB β)) (tail : Option (List Nat × List Nat))
    (hall : GoodAll S.gpr S.gtr S.GGood 0 S.c0 xs)
    (htail : ∀ g gap, tail = some (g, gap) → S.Garb (blockCtx S.gtr S.c0 xs) g gap) :
    walk S.f (S.gprint xs tail).toArray = .done (S.gentries xs tail) ∧
      entitiesOf S.f (S.gprint xs tail).toArray (S.gentries xs tail) = S.gviews xs ∧
      junkOf (S.gprint xs tail).toArray (S.gentries xs tail) = gbJunk xs tail := by
  obtain ⟨⟨c', e, he, hw⟩, hv⟩ := gdoc_at S L xs tail (S.gprint xs tail).toArray 0 (at_zero _) (L.inv0 _) hall htail
  refine ⟨?_, hv⟩
  rw [L.walk_def]
  exact hw.done_walk he

end

theorem gdoc_plain {σ β : Type} (S : GSpec σ β) (L : S.Laws) (bs : List β) (hg : ∀ b ∈ bs, ∀ c, S.Good' c b)
    (hl : ∀ b, bs.head? = some b → S.Lic 0 b) :
    walk S.f (printBlocks S.pr bs).toArray = .done (blockEntries S.pr S.en S.tr 0 S.c0 bs) ∧
      entitiesOf S.f (printBlocks S.pr bs).toArray (blockEntries S.pr S.en S.tr 0 S.c0 bs) = (bs.map S.vw).flatten ∧
      junkOf (printBlocks S.pr bs).toArray (blockEntries S.pr S.en S.tr 0 S.c0 bs) = [] := by
  have hj : ∀ bs : List β, ((bs.map fun b => (⟨none, b⟩ : GB β)).map GB.junks).flatten = [] := fun bs =>
    (congrArg List.flatten (List.map_map ..)).trans (flatten_map_nil bs)
  have := gdoc S L (bs.map fun b => ⟨none, b⟩) none
    (gGoodAll S L _
      (fun x hx c => by
        obtain ⟨b, hb, rfl⟩ := List.mem_map.mp hx
        exact ⟨hg b hb c, fun _ _ h => nomatch h⟩)
      0 S.c0
      (fun x hx _ => by
        cases bs with
        | nil => cases hx
        | cons b bs => cases hx; exact hl b rfl))
    (fun _ _ h => nomatch h)
  rw [GSpec.gprint, GSpec.gentries, GSpec.gentriesAt, printBlocks_map, blockEntries_map, GSpec.gviews, gbJunk, hj,
    List.map_map, tailText, tailEntries, List.append_nil, List.append_nil] at this
  exact this

/-! The printed files of ONE record shape (`key=value⏎` one after the other, …) are block lists of the full grammar: every record
is a block.  What ties a record shape to the blocks is collected in `Embeds`; the statements about the simple files are then
read off `walks_blocks_inv` and `views_blocks` through the laws of the format. -/

section embed
variable {σ β ρ : Type} (S : GSpec σ β) (g : ρ → β) (pr : ρ → List Nat) (ent : Nat → ρ → Entry)
  (exp : Nat → List ρ → List Entry) (view : ρ → Option EntView) (Safe : ρ → Prop)

/-- `g` turns a safe record into a good block with the same text, the same view and, as entries, the record's entity
    followed by the one-newline white-space entry; `exp` lists these entries for records printed one after the other -/
structure Embeds : Prop where
  nil : ∀ off, exp off [] = []
  cons : ∀ off r rs, exp off (r :: rs) = ent off r :: wsEntry (ent off r).e :: exp ((ent off r).e + 1) rs
  len : ∀ off r, off + (pr r).length = (ent off r).e + 1
  pr : ∀ r, Safe r → S.pr (g r) = pr r
  en : ∀ off c r, Safe r → S.en off c (g r) = [ent off r, wsEntry (ent off r).e]
  tr : ∀ c r, S.tr c (g r) = c
  vw : ∀ r, Safe r → S.vw (g r) = [view r]
  good : ∀ c r, Safe r → S.Good' c (g r)

variable {S g pr ent exp view Safe}

theorem Embeds.print (E : Embeds S g pr ent exp view Safe) (rs : List ρ) (h : ∀ r ∈ rs, Safe r) :
    printBlocks S.pr (rs.map g) = (rs.map pr).flatten := by
  induction rs with
  | nil => rfl
  | cons r rs ih =>
    rw [List.map_cons, printBlocks_cons, ih fun x hx => h x (List.mem_cons_of_mem _ hx), E.pr r (h r List.mem_cons_self)]
    rfl

theorem Embeds.entries (E : Embeds S g pr ent exp view Safe) (rs : List ρ) (c : σ) (h : ∀ r ∈ rs, Safe r) :
    ∀ off, blockEntries S.pr S.en S.tr off c (rs.map g) = exp off rs := by
  induction rs with
  | nil => exact fun off => (E.nil off).symm
  | cons r rs ih =>
    intro off
    have hr := h r List.mem_cons_self
    rw [List.map_cons, blockEntries, E.cons, E.tr, E.pr r hr, E.len, ih fun x hx => h x (List.mem_cons_of_mem _ hx),
      E.en off c r hr]
    rfl

theorem Embeds.views (E : Embeds S g pr ent exp view Safe) (rs : List ρ) (h : ∀ r ∈ rs, Safe r) :
    ((rs.map g).map S.vw).flatten = rs.map view := by
  induction rs with
  | nil => rfl
  | cons r rs ih =>
    rw [List.map_cons, List.map_cons, List.flatten_cons, ih fun x hx => h x (List.mem_cons_of_mem _ hx),
      E.vw r (h r List.mem_cons_self)]
    rfl

theorem Embeds.ctx (E : Embeds S g pr ent exp view Safe) (c : σ) (rs : List ρ) : blockCtx S.tr c (rs.map g) = c := by
  induction rs with
  | nil => rfl
  | cons r rs ih => rw [List.map_cons, blockCtx, E.tr, ih]

theorem Embeds.goodAll (E : Embeds S g pr ent exp view Safe) (L : S.Laws) (c : σ) (rs : List ρ) (h : ∀ r ∈ rs, Safe r) :
    ∀ off, (∀ r, rs.head? = some r → S.Lic off (g r)) →
      GoodAll S.pr S.tr (fun off c b => S.Good' c b ∧ S.Lic off b) off c (rs.map g) := by
  induction rs with
  | nil => intro _ _; trivial
  | cons r rs ih =>
    intro off hl
    have hr := h r List.mem_cons_self
    refine ⟨⟨E.good c r hr, hl r rfl⟩, ?_⟩
    rw [E.tr]
    refine ih (fun x hx => h x (List.mem_cons_of_mem _ hx)) _ fun r' _ => L.lic2 _ _ ?_
    have := L.len2 c (g r) (E.good c r hr)
    omega

theorem Embeds.follow (E : Embeds S g pr ent exp view Safe) (L : S.Laws) (rs : List ρ) (h : ∀ r ∈ rs, Safe r) (rest : List Nat)
    (hfo : S.Follow rest) : S.Follow ((rs.map pr).flatten ++ rest) := by
  cases rs with
  | nil => exact hfo
  | cons r rs =>
    have hr := h r List.mem_cons_self
    rw [List.map_cons, List.flatten_cons, List.append_assoc, ← E.pr r hr]
    exact L.block_follow S.c0 (g r) _ (E.good S.c0 r hr)

theorem Embeds.entView (E : Embeds S g pr ent exp view Safe) {s : Array Nat} {off : Nat} {c : σ} {r : ρ} (hs : Safe r)
    (hk : (ent off r).kind = .entity) (hv : entitiesOf S.f s (S.en off c (g r)) = S.vw (g r)) :
    P.entView S.f s (ent off r) = view r := by
  rw [E.en off c r hs, E.vw r hs, entitiesOf_cons_entity _ _ _ _ hk] at hv
  exact (List.cons.inj hv).1

theorem Embeds.walks (E : Embeds S g pr ent exp view Safe) (L : S.Laws) (rs : List ρ) (h : ∀ r ∈ rs, Safe r) (s : Array Nat)
    (off : Nat) (c : σ) (rest : List Nat) (hat : At s off ((rs.map pr).flatten ++ rest)) (hfo : S.Follow rest)
    (hi : S.Inv s off) (hl : ∀ r, rs.head? = some r → S.Lic off (g r)) :
    Walks (S.next s) s.size c off (exp off rs) c (off + ((rs.map pr).flatten).length) ∧
      S.Inv s (off + ((rs.map pr).flatten).length) := by
  have := walks_blocks_inv (S.next s) s S.pr S.en S.tr (fun off c b => S.Good' c b ∧ S.Lic off b) S.Follow (S.Inv s)
    (fun b c off rest hg hat hfo hi => L.block_walk s b c off rest hg.1 hg.2 hat hfo hi)
    (fun b c _ rest hg _ => L.block_follow c b rest hg.1) (rs.map g) c off rest (E.goodAll L c rs h off hl)
    (by rw [E.print rs h]; exact hat) hfo hi
  rw [E.entries rs c h off, E.ctx, E.print rs h] at this
  exact ⟨this.1, this.2.2⟩

theorem Embeds.views_of (E : Embeds S g pr ent exp view Safe) {s : Array Nat} (Follow : List Nat → Prop)
    (hv : ∀ b c off rest, S.Good' c b → At s off (S.pr b ++ rest) → Follow rest →
      entitiesOf S.f s (S.en off c b) = S.vw b ∧ junkOf s (S.en off c b) = [])
    (hf : ∀ c b rest, S.Good' c b → Follow rest → Follow (S.pr b ++ rest)) (rs : List ρ) (h : ∀ r ∈ rs, Safe r)
    (off : Nat) (rest : List Nat) (hat : At s off ((rs.map pr).flatten ++ rest)) (hfo : Follow rest) :
    entitiesOf S.f s (exp off rs) = rs.map view ∧ junkOf s (exp off rs) = [] := by
  have hg : ∀ (bs : List β) off c, (∀ b ∈ bs, ∀ c, S.Good' c b) → GoodAll S.pr S.tr (fun _ c b => S.Good' c b) off c bs := by
    intro bs
    induction bs with
    | nil => intro _ _ _; trivial
    | cons b bs ih => intro off c hb; exact ⟨hb b List.mem_cons_self c, ih _ _ fun x hx => hb x (List.mem_cons_of_mem _ hx)⟩
  have := (views_blocks S.f s S.pr S.en S.tr (fun _ c b => S.Good' c b) Follow S.vw (fun _ => []) hv
    (fun b c _ rest hb hfo => hf c b rest hb hfo)
    (rs.map g) S.c0 off rest (hg _ off S.c0 fun b hb c => by
      obtain ⟨r, hr, rfl⟩ := List.mem_map.mp hb
      exact E.good c r (h r hr))
    (by rw [E.print rs h]; exact hat) hfo).1
  rwa [E.entries rs _ h off, E.views rs h, flatten_map_nil] at this

theorem Embeds.views_at (E : Embeds S g pr ent exp view Safe) (L : S.Laws) (rs : List ρ) (h : ∀ r ∈ rs, Safe r) (s : Array Nat)
    (off : Nat) (rest : List Nat) (hat : At s off ((rs.map pr).flatten ++ rest)) (hfo : S.Follow rest) :
    entitiesOf S.f s (exp off rs) = rs.map view ∧ junkOf s (exp off rs) = [] :=
  E.views_of S.Follow (L.block_views s) (fun c b rest hb _ => L.block_follow c b rest hb) rs h off rest hat hfo

theorem Embeds.doc (E : Embeds S g pr ent exp view Safe) (L : S.Laws) (rs : List ρ) (h : ∀ r ∈ rs, Safe r)
    (hl : ∀ r, rs.head? = some r → S.Lic 0 (g r)) :
    walk S.f ((rs.map pr).flatten).toArray = .done (exp 0 rs) ∧
      entitiesOf S.f ((rs.map pr).flatten).toArray (exp 0 rs) = rs.map view ∧
      junkOf ((rs.map pr).flatten).toArray (exp 0 rs) = [] := by
  refine ⟨?_, E.views_at L rs h _ 0 [] (by rw [List.append_nil]; exact at_zero _) L.follow_nil⟩
  rw [L.walk_def]
  exact (E.walks L rs h _ 0 S.c0 [] (by rw [List.append_nil]; exact at_zero _) L.follow_nil (L.inv0 _) hl).1.done_walk
    (by rw [List.size_toArray]; omega)

theorem Embeds.doc_lead (E : Embeds S g pr ent exp view Safe) (L : S.Laws) (rs : List ρ) (h : ∀ r ∈ rs, Safe r)
    (hi : S.Inv (10 :: (rs.map pr).flatten).toArray 1) (hl : ∀ r, rs.head? = some r → S.Lic 1 (g r))
    (e1 : S.next (10 :: (rs.map pr).flatten).toArray S.c0 0 = (wsEntry 0, S.c0)) :
    walk S.f (10 :: (rs.map pr).flatten).toArray = .done (wsEntry 0 :: exp 1 rs) := by
  have w := (Walks.one (size := (10 :: (rs.map pr).flatten).toArray.size) (by simp) Nat.zero_lt_one e1).append
    (E.walks L rs h _ 1 S.c0 [] (by simp [At]) L.follow_nil hi hl).1
  rw [L.walk_def]
  exact w.done_walk (by simp; omega)

end embed

end C02P
