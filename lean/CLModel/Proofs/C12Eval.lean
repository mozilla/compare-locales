/- What the concrete witnesses of C11 / C12 evaluate: the text of a literal, the outcome helpers once the matchers are
   known. -/
import CLModel.Proofs.C12RExample
namespace PM

/-- The text of a string literal, by rewriting (`rw` unifies the literal with `String.ofList _`) before any
    evaluation: evaluating `"…".toList` would decode the literal's UTF-8 bytes in the kernel, character by character. -/
theorem T_ofList (l : List Char) : T (String.ofList l) = l.map Char.toNat := by
  rw [T, String.toList_ofList]

theorem matchOutcome_of {pat : String} {env : List (String × String)} {root : Option String} {m : Matcher}
    (h : matcherOf pat env root = .ok m) (path : String) :
    matchOutcome pat env root path = match m.match (T path) with
      | .ok (some d) => .groups d
      | .ok none => .noMatch
      | .error e => .raised e := by
  unfold matchOutcome; rw [h]; rfl

theorem subOutcome_of {pa pb : String} {ea eb : List (String × String)} {a b : Matcher}
    (ha : matcherOf pa ea none = .ok a) (hb : matcherOf pb eb none = .ok b) (path : Text) :
    subOutcome pa ea pb eb path = match a.sub b path with
      | .ok (some t) => .text t
      | .ok none => .none
      | .error e => .raised e := by
  unfold subOutcome; rw [ha, hb]; rfl

theorem prefixOutcome_of {pat : String} {env : List (String × String)} {root : Option String} {m : Matcher}
    (h : matcherOf pat env root = .ok m) :
    prefixOutcome pat env root = match m.prefix with
      | .ok t => .text t
      | .error e => .raised e := by
  unfold prefixOutcome; rw [h]; rfl

theorem matcherOf_noEnv {pat : String} {env : List (String × String)} {root : Option String} {m : Matcher}
    (h : matcherOf pat env root = .ok m) : matcherOf pat [] root = .ok { m with env := [] } := by
  simp only [matcherOf, mkMatcher, bind, Except.bind] at h
  split at h
  · cases h
  · split at h
    · cases h
    · rename_i p hp
      cases h
      simp [matcherOf, mkMatcher, realEnv, bind, Except.bind, pure, Except.pure, hp]

/-- `Matcher("{l10n_base}/{locale}/browser/**/*.ftl", {"l10n_base": "/l10n", "locale": "de"})` written out -/
def l10nMatcher : Matcher :=
  { pattern := { nodes := [.var (T "l10n_base") false, .lit (T "/"), .var localeName false, .lit (T "/browser/"),
                   .starstar 1 (T "/"), .star 2, .lit (T ".ftl")],
                 root := none, prefixLen := 4 },
    env := [(T "l10n_base", .pat { nodes := [.lit (T "/l10n")], root := none, prefixLen := 1 }),
            (localeName, .pat { nodes := [.lit (T "de")], root := none, prefixLen := 1 })] }

theorem l10nMatcher_is : matcherOf "{l10n_base}/{locale}/browser/**/*.ftl" [("l10n_base", "/l10n"), ("locale", "de")]
    none = .ok l10nMatcher := C11R.matcherOf_is (by decide +kernel)

end PM
