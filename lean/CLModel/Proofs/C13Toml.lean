/-
The TOML route (Paths/TomlConfig.lean): what `TOMLParser.parse` returns (every object of the graph is what one file says,
`FromFile`, `parseF_nodes`), what it raises (`ErrCause`, `parseF_error`), and that a larger bound on the nesting of includes
changes no result but the model's `RecursionError` (`processChildren_congr`, `parseF_succ`).
-/
import CLModel.Paths.TomlConfig
import CLModel.Proofs.C13Env
import CLModel.Proofs.C11Sub
namespace C13T
open TC PF

theorem nodes_mk (p r e ps rs l ch ex) :
    (PC.mk p r e ps rs l ch ex).nodes = PC.mk p r e ps rs l ch ex :: (nodesL ch ++ nodesL ex) := by
  simp [PC.nodes]

theorem mem_nodesL {c : PC} : ∀ {l : List PC}, c ∈ nodesL l ↔ ∃ x ∈ l, c ∈ x.nodes
  | [] => by simp [nodesL]
  | y :: ys => by
    simp only [nodesL, List.mem_append, List.mem_cons, exists_eq_or_imp]
    rw [mem_nodesL (l := ys)]

theorem self_mem_nodes (c : PC) : c ∈ c.nodes := by
  obtain ⟨p, r, e, ps, rs, l, ch, ex⟩ := c
  rw [nodes_mk]; exact List.mem_cons_self

theorem addPath_ok {cwd : Text} {root : Option Text} {environ : Env} {d : PathDoc} {p : PathD}
    (h : addPath cwd root environ d = .ok p) : d.toPathD? = some p := by
  unfold addPath at h
  split at h
  · cases h
  · rename_i l hl
    split at h
    · cases h
    · split at h
      · cases h
      · simp only [Except.ok.injEq] at h
        subst h
        simp [PathDoc.toPathD?, hl]

theorem addPaths_ok {cwd : Text} {root : Option Text} {environ : Env} : ∀ {ds : List PathDoc} {ps : List PathD},
    addPaths cwd root environ ds = .ok ps → ds.map PathDoc.toPathD? = ps.map some
  | [], ps, h => by
    simp only [addPaths, Except.ok.injEq] at h
    subst h; rfl
  | d :: ds, ps, h => by
    unfold addPaths at h
    split at h
    · cases h
    · rename_i p hp
      obtain ⟨rest, hr, rfl⟩ := map_eq_ok h
      simp only [List.map_cons, addPath_ok hp, addPaths_ok hr]

theorem processChildren_ok_mem {parseOne : Text → Except TC.Err PC} {ig : Bool} {cwd : Text} {root : Option Text} {environ : Env}
    {refused : PC → Bool} : ∀ {cs : List ChildDoc} {l : List PC},
    processChildren parseOne ig cwd root environ refused cs = .ok l → ∀ c ∈ l, (∃ p, parseOne p = .ok c) ∧ refused c = false
  | [], l, h => by
    simp only [processChildren, Except.ok.injEq] at h
    subst h
    intro c hc; cases hc
  | d :: ds, l, h => by
    unfold processChildren at h
    split at h
    · cases h
    · split at h
      · cases h
      · rename_i p _
        split at h
        · split at h
          · cases h
          · exact processChildren_ok_mem h
        · cases h
        · rename_i child hchild
          split at h
          · cases h
          · rename_i href
            obtain ⟨rest, hr, rfl⟩ := map_eq_ok h
            intro c hc
            rcases List.mem_cons.1 hc with rfl | hc
            · exact ⟨⟨p, hchild⟩, by simpa using href⟩
            · exact processChildren_ok_mem hr c hc

/-- the object `c` is what ONE file says: `c.path` is loadable, `c.root` is its `basepath` resolved against its directory,
    `c.environ` its `[env]` overridden by `env`, `c.paths` its `[[paths]]` tables one by one, `c.rules` its compiled
    `[[filters]]`, `c.locales` its `locales` -/
def FromFile (w : World) (env : Env) (c : PC) : Prop :=
  ∃ p doc, c.path = some p ∧ w.load p = .ok doc ∧
    c.root = setRoot w.cwd (some p) doc.base ∧
    c.environ = processEnv doc.env env ∧
    (optL doc.paths).map PathDoc.toPathD? = c.paths.map some ∧
    addFilters w.cwd c.root c.environ (optL doc.filters) = .ok c.rules ∧
    c.locales = doc.locales

theorem parseF_ok {w : World} {env : Env} {ig : Bool} {f : Nat} {path : Text} {pc : PC}
    (h : parseF w env ig (f + 1) path = .ok pc) :
    ∃ doc paths rules children excludes,
      w.load path = .ok doc ∧
      pc = .mk (some path) (setRoot w.cwd (some path) doc.base)
              (processEnv doc.env env) paths rules doc.locales children excludes ∧
      addPaths w.cwd (setRoot w.cwd (some path) doc.base)
        (processEnv doc.env env) (optL doc.paths) = .ok paths ∧
      addFilters w.cwd (setRoot w.cwd (some path) doc.base)
        (processEnv doc.env env) (optL doc.filters) = .ok rules ∧
      processChildren (parseF w env ig f) ig w.cwd (setRoot w.cwd (some path) doc.base)
        (processEnv doc.env env) includeRefused (optL doc.includes) = .ok children ∧
      processChildren (parseF w env ig f) ig w.cwd (setRoot w.cwd (some path) doc.base)
        (processEnv doc.env env) excludeRefused (optL doc.excludes) = .ok excludes := by
  unfold parseF at h
  split at h
  · cases h
  · rename_i doc hdoc
    simp only at h
    split at h
    · cases h
    · rename_i paths hpaths
      split at h
      · cases h
      · rename_i rules hrules
        split at h
        · cases h
        · rename_i children hch
          split at h
          · cases h
          · rename_i excludes hex
            simp only [Except.ok.injEq] at h
            exact ⟨doc, paths, rules, children, excludes, hdoc, h.symm, hpaths, hrules, hch, hex⟩

theorem parseF_nodes {w : World} {env : Env} {ig : Bool} : ∀ (f : Nat) (path : Text) (pc : PC),
    parseF w env ig f path = .ok pc → ∀ c ∈ pc.nodes, FromFile w env c
  | 0, _, _, h => by simp [parseF] at h
  | f + 1, path, pc, h => by
    obtain ⟨doc, paths, rules, children, excludes, hdoc, rfl, hpaths, hrules, hch, hex⟩ := parseF_ok h
    intro c hc
    rw [nodes_mk] at hc
    rcases List.mem_cons.1 hc with rfl | hc
    · exact ⟨path, doc, rfl, hdoc, rfl, rfl, addPaths_ok hpaths, hrules, rfl⟩
    · rcases List.mem_append.1 hc with hc | hc
      · obtain ⟨x, hx, hcx⟩ := mem_nodesL.1 hc
        obtain ⟨⟨p, hp⟩, _⟩ := processChildren_ok_mem hch x hx
        exact parseF_nodes f p x hp c hcx
      · obtain ⟨x, hx, hcx⟩ := mem_nodesL.1 hc
        obtain ⟨⟨p, hp⟩, _⟩ := processChildren_ok_mem hex x hx
        exact parseF_nodes f p x hp c hcx

theorem checkMatcher_error {cwd : Text} {root : Option Text} {environ : Env} {t : Text} {e : TC.Err}
    (h : checkMatcher cwd root environ t = .error e) : ∃ pe, e = .matcher pe := by
  unfold checkMatcher at h
  split at h
  · rename_i pe _; simp only [Except.error.injEq] at h; exact ⟨pe, h.symm⟩
  · cases h

theorem addPath_error {cwd : Text} {root : Option Text} {environ : Env} {d : PathDoc} {e : TC.Err}
    (h : addPath cwd root environ d = .error e) : e = .keyError (T "l10n") ∨ ∃ pe, e = .matcher pe := by
  unfold addPath at h
  split at h
  · simp only [Except.error.injEq] at h; exact Or.inl h.symm
  · split at h
    · rename_i e' he'
      cases h
      exact Or.inr (checkMatcher_error he')
    · split at h
      · rename_i e' he'
        cases h
        split at he'
        · exact Or.inr (checkMatcher_error he')
        · cases he'
      · cases h

theorem addPaths_error {cwd : Text} {root : Option Text} {environ : Env} {e : TC.Err} : ∀ {ds : List PathDoc},
    addPaths cwd root environ ds = .error e → e = .keyError (T "l10n") ∨ ∃ pe, e = .matcher pe
  | [], h => by simp [addPaths] at h
  | d :: ds, h => by
    unfold addPaths at h
    split at h
    · rename_i e' he'
      cases h
      exact addPath_error he'
    · exact addPaths_error (map_eq_error h)

theorem compilePaths_error {cwd : Text} {root : Option Text} {environ : Env} {action : Text} {key : Option OneOrMany}
    {e : TC.Err} : ∀ {ps : List Text}, compilePaths cwd root environ action key ps = .error e → ∃ pe, e = .matcher pe
  | [], h => by simp [compilePaths] at h
  | p :: ps, h => by
    unfold compilePaths at h
    split at h
    · rename_i e' he'
      cases h
      exact checkMatcher_error he'
    · exact compilePaths_error (map_eq_error h)

theorem addFilter_error {cwd : Text} {root : Option Text} {environ : Env} {d : FilterDoc} {e : TC.Err}
    (h : addFilter cwd root environ d = .error e) :
    e = .keyError (T "path") ∨ e = .keyError (T "action") ∨ ∃ pe, e = .matcher pe := by
  unfold addFilter at h
  split at h
  · simp only [Except.error.injEq] at h; exact Or.inl h.symm
  · split at h
    · simp only [Except.error.injEq] at h; exact Or.inr (Or.inl h.symm)
    · exact Or.inr (Or.inr (compilePaths_error h))

theorem addFilters_error {cwd : Text} {root : Option Text} {environ : Env} {e : TC.Err} : ∀ {ds : List FilterDoc},
    addFilters cwd root environ ds = .error e →
      e = .keyError (T "path") ∨ e = .keyError (T "action") ∨ ∃ pe, e = .matcher pe
  | [], h => by simp [addFilters] at h
  | d :: ds, h => by
    unfold addFilters at h
    split at h
    · rename_i e' he'
      cases h
      exact addFilter_error he'
    · exact addFilters_error (map_eq_error h)

theorem childPath_error {cwd : Text} {root : Option Text} {environ : Env} {t : Text} {e : TC.Err}
    (h : childPath cwd root environ t = .error e) : ∃ pe, e = .matcher pe := by
  unfold childPath at h
  split at h
  · rename_i pe _; simp only [Except.error.injEq] at h; exact ⟨pe, h.symm⟩
  · split at h
    · rename_i pe _; simp only [Except.error.injEq] at h; exact ⟨pe, h.symm⟩
    · cases h

theorem processChildren_error {parseOne : Text → Except TC.Err PC} {ig : Bool} {cwd : Text} {root : Option Text}
    {environ : Env} {refused : PC → Bool} {e : TC.Err} : ∀ {cs : List ChildDoc},
    processChildren parseOne ig cwd root environ refused cs = .error e →
      e = .keyError (T "path") ∨ (∃ pe, e = .matcher pe) ∨ e = .excludeError ∨
      (∃ p, parseOne p = .error e ∧ ∀ q, e = .configNotFound q → ig = false)
  | [], h => by simp [processChildren] at h
  | d :: ds, h => by
    unfold processChildren at h
    split at h
    · simp only [Except.error.injEq] at h; exact Or.inl h.symm
    · split at h
      · rename_i e' he'
        cases h
        exact Or.inr (Or.inl (childPath_error he'))
      · rename_i p _
        split at h
        · rename_i q hq
          split at h
          · rename_i hig
            cases h
            exact Or.inr (Or.inr (Or.inr ⟨p, hq, fun _ _ => by simpa using hig⟩))
          · exact processChildren_error h
        · rename_i e' hne he'
          cases h
          refine Or.inr (Or.inr (Or.inr ⟨p, he', fun q hq => ?_⟩))
          exact absurd hq (hne q)
        · split at h
          · simp only [Except.error.injEq] at h; exact Or.inr (Or.inr (Or.inl h.symm))
          · exact processChildren_error (map_eq_error h)

theorem load_error {w : World} {p : Text} {e : TC.Err} (h : w.load p = .error e) :
    (e = .configNotFound p ∧ w.files.lookup (abspath w.cwd p) = none) ∨
    (e = .illTyped ∧ ∃ tv, w.files.lookup (abspath w.cwd p) = some tv ∧ decode tv = none) := by
  unfold World.load at h
  split at h
  · rename_i hl
    simp only [Except.error.injEq] at h
    exact Or.inl ⟨h.symm, hl⟩
  · rename_i tv hl
    split at h
    · rename_i hd
      simp only [Except.error.injEq] at h
      exact Or.inr ⟨h.symm, tv, hl, hd⟩
    · cases h

/-- Why `TOMLParser.parse(top, …)` can raise.  Trap: the `q` of `.configNotFound q` is the path as given (looked up after
    `abspath`), the `q` of the `.illTyped` case is already the absolute key of `w.files`. -/
def ErrCause (w : World) (ig : Bool) (top : Text) : TC.Err → Prop
  | .configNotFound q => w.files.lookup (abspath w.cwd q) = none ∧ (ig = true → q = top)
  | .keyError k => k = T "l10n" ∨ k = T "path" ∨ k = T "action"
  | .illTyped => ∃ q tv, w.files.lookup q = some tv ∧ decode tv = none
  | _ => True

theorem errCause_child {w : World} {ig : Bool} {p top : Text} {e : TC.Err} (h : ErrCause w ig p e)
    (hig : ∀ q, e = .configNotFound q → ig = false) : ErrCause w ig top e := by
  cases e with
  | configNotFound q =>
    refine ⟨h.1, fun ht => ?_⟩
    have := hig q rfl
    rw [ht] at this
    cases this
  | keyError k => exact h
  | illTyped => exact h
  | excludeError => trivial
  | recursion => trivial
  | matcher pe => trivial

/-- Every error of `parseF` is made in the call itself (load, `[[paths]]`, `[[filters]]`, a child's path) or comes out of a
    child's `parseF`; the latter keeps its cause, and a child's `ConfigNotFound` only gets through when `ig = false`, where the
    clause "it is the top file" asks nothing (`errCause_child`). -/
theorem parseF_error {w : World} {env : Env} {ig : Bool} : ∀ (f : Nat) (path : Text) (e : TC.Err),
    parseF w env ig f path = .error e → ErrCause w ig path e
  | 0, _, e, h => by
    simp only [parseF, Except.error.injEq] at h
    subst h; trivial
  | f + 1, path, e, h => by
    have hch : ∀ {root environ refused cs},
        processChildren (parseF w env ig f) ig w.cwd root environ refused cs = .error e → ErrCause w ig path e := by
      intro root environ refused cs hc
      rcases processChildren_error hc with rfl | ⟨pe, rfl⟩ | rfl | ⟨p, hp, hig⟩
      · exact Or.inr (Or.inl rfl)
      · trivial
      · trivial
      · exact errCause_child (parseF_error f p e hp) hig
    unfold parseF at h
    split at h
    · rename_i e' he'
      cases h
      rcases load_error he' with ⟨rfl, hl⟩ | ⟨rfl, tv, hl, hd⟩
      · exact ⟨hl, fun _ => rfl⟩
      · exact ⟨_, tv, hl, hd⟩
    · simp only at h
      split at h
      · rename_i e' he'
        cases h
        rcases addPaths_error he' with rfl | ⟨pe, rfl⟩
        · exact Or.inl rfl
        · trivial
      · split at h
        · rename_i e' he'
          cases h
          rcases addFilters_error he' with rfl | rfl | ⟨pe, rfl⟩
          · exact Or.inr (Or.inl rfl)
          · exact Or.inr (Or.inr rfl)
          · trivial
        · split at h
          · rename_i e' he'
            cases h
            exact hch he'
          · split at h
            · rename_i e' he'
              cases h
              exact hch he'
            · cases h

theorem processChildren_congr {g h : Text → Except TC.Err PC} {ig : Bool} {cwd : Text} {root : Option Text}
    {environ : Env} {refused : PC → Bool} (hgh : ∀ p, g p ≠ .error .recursion → h p = g p) : ∀ (cs : List ChildDoc),
    processChildren g ig cwd root environ refused cs ≠ .error .recursion →
    processChildren h ig cwd root environ refused cs = processChildren g ig cwd root environ refused cs
  | [], _ => rfl
  | d :: ds, hne => by
    unfold processChildren at hne ⊢
    cases hp : d.path with
    | none => rfl
    | some text =>
      simp only [hp] at hne ⊢
      cases hc : childPath cwd root environ text with
      | error e => rfl
      | ok p =>
        simp only [hc] at hne ⊢
        rw [hgh p (fun e => by rw [e] at hne; exact hne rfl)]
        cases hg : g p with
        | error e =>
          cases e with
          | configNotFound q =>
            rw [hg] at hne
            cases ig with
            | false => rfl
            | true => exact processChildren_congr hgh ds hne
          | _ => rfl
        | ok child =>
          rw [hg] at hne
          cases href : refused child with
          | true => simp only [href, ↓reduceIte]
          | false =>
            simp only [href, Bool.false_eq_true, ↓reduceIte] at hne ⊢
            rw [processChildren_congr hgh ds (fun e => by rw [e] at hne; exact hne rfl)]

theorem parseF_succ {w : World} {env : Env} {ig : Bool} : ∀ (f : Nat) (path : Text),
    parseF w env ig f path ≠ .error .recursion → parseF w env ig (f + 1) path = parseF w env ig f path
  | 0, _, hne => absurd rfl hne
  | f + 1, path, hne => by
    unfold parseF at hne ⊢
    cases hl : w.load path with
    | error e => rfl
    | ok doc =>
      simp only [hl] at hne ⊢
      cases hp : addPaths w.cwd (setRoot w.cwd (some path) doc.base) (processEnv doc.env env) (optL doc.paths) with
      | error e => rfl
      | ok paths =>
        simp only [hp] at hne ⊢
        cases hf : addFilters w.cwd (setRoot w.cwd (some path) doc.base) (processEnv doc.env env) (optL doc.filters) with
        | error e => rfl
        | ok rules =>
          simp only [hf] at hne ⊢
          rw [processChildren_congr (parseF_succ f) _ (fun e => by rw [e] at hne; exact hne rfl)]
          cases hi : processChildren (parseF w env ig f) ig w.cwd (setRoot w.cwd (some path) doc.base)
              (processEnv doc.env env) includeRefused (optL doc.includes) with
          | error e => rfl
          | ok children =>
            rw [hi] at hne
            simp only at hne ⊢
            rw [processChildren_congr (parseF_succ f) _ (fun e => by rw [e] at hne; exact hne rfl)]

end C13T
