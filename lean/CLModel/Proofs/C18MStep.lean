/-
C18: the whole state machine `HistM` against its reference semantics `pureOut v op` (what `op` returns as a function of its
arguments and of the construction data `v` of the objects it names; no counter, no cache).  In every state whose memos are
coherent the machine returns `pureOut`, junk ids shifted, coherence is an invariant of the reachable states, and the
construction data evolves independently of the memos (`step_spec`); `run_out_indep` lifts this to whole histories.
-/
import CLModel.History.Machine
import CLModel.Proofs.C18State
import CLModel.Proofs.C18MLint
import CLModel.Proofs.C18MCache
namespace C18M
open Hist HistM P

def unitOf {α : Type} : Except PM.PyErr α → Except PM.PyErr Unit
  | .ok _ => .ok ()
  | .error e => .error e

/-- the report of a compare in a fresh interpreter, over structured keys, rendered -/
def pureReport (f : Fmt) (ref l10n : Array Nat) : Except String (Acc Text) :=
  (compareG isKeyK (linecolOf (lineEnds l10n)) (refK f ref) (l10nK f ref l10n)).map (accMap Key.render)

def pureMerge (f : Fmt) (ref l10n : Array Nat) : Option (Except String Merge.Outcome) :=
  match pureReport f ref l10n with
  | .error _ => none
  | .ok _ =>
    match mergeInputs (refK f ref) (l10nK f ref l10n) (allsK ref (ents0 f ref)) with
    | .error x => some (.error x)
    | .ok inp => some (.ok (mergeOutcome f l10n inp))

/-- what a closed operation returns, junk ids unshifted.  At the operations that are not closed (`.rewalk`, a base `.reobs`)
    the value is arbitrary: `step_spec` speaks of `op.closed` only. -/
def pureOut (v : View) : HistM.Op → HistM.Out
  | .base op => .base (Hist.step G.init op).2
  | .read _ _ => .unit (.ok ())
  | .rewalk _ => .noObject
  | .lint f (some rt) cur =>
    .lint ((lintG (linecolOf (lineEnds cur)) (refK f rt) (l10nK f rt cur)).map (List.map (LMsg.mapKey Key.render)))
  | .lint f none cur =>
    .lint ((lintG (linecolOf (lineEnds cur)) [] (refK f cur)).map (List.map (LMsg.mapKey Key.render)))
  | .merge f ref l10n => .merged (pureReport f ref l10n) (pureMerge f ref l10n)
  | .serialize f ref old nd => .bytes (Ser.serializeText f ref old nd)
  | .mergeChannels f texts => .chan (Merge.mergeTexts f texts)
  | .getParser path => .parser (getParser v.ep path)
  | .mozMatch path pattern => .bool (PM.mozMatch path pattern)
  | .mNew _ pattern env root => .unit (unitOf (PM.mkMatcher pattern env root))
  | .mWithEnv id _ env =>
    match v.matcher id with
    | none => .noObject
    | some m => .unit (unitOf (m.withEnv env))
  | .mMatch id path =>
    match v.matcher id with
    | none => .noObject
    | some m => .mres (m.match path)
  | .mSub id other path =>
    match v.matcher id, v.matcher other with
    | some m, some m2 => .sub (m.sub m2 path)
    | _, _ => .noObject
  | .cNew _ _ environ root paths rules =>
    match FiltM.buildPaths environ root paths with
    | .error e => .unit (.error e)
    | .ok _ => .unit (unitOf (FiltM.buildRules environ root rules))
  | .cSetLocales id _ =>
    match v.config id with
    | none => .noObject
    | some _ => .unit (.ok ())
  | .cAddRules id rules =>
    match v.config id with
    | none => .noObject
    | some c => .unit (errOut (buildRulesP c.environ c.root rules).2)
  | .cAddPaths id paths =>
    match v.config id with
    | none => .noObject
    | some c => .unit (errOut (buildPathsP c.environ c.root paths).2)
  | .cFilter id file entity =>
    match v.config id with
    | none => .noObject
    | some c => .action (FiltM.filterS (.mk c.locales c.paths c.rules [] []) file entity)
  | .cAllLocales id =>
    match v.config id with
    | none => .noObject
    | some c => .names (FiltM.ownLocalesS c.locales c.paths)
  | .dNew _ _ _ => .unit (.ok ())
  | .dKnown id refValue =>
    match v.checker id with
    | none => .noObject
    | some d => .names (knownPure d.2 refValue)
  | .dCheckText id _ chars =>
    match v.checker id with
    | none => .noObject
    | some d => .text (if d.1 then some (chars.foldl (· ++ ·) []) else none)

theorem reportStr_indep (g : G) (f : Fmt) (ref l10n : Array Nat) (h : NoJunkLikeKeys f ref l10n) :
    reportStr f ref l10n (doParse g f ref).2.2 (doParse (doParse g f ref).1 f l10n).2.2 = pureReport f ref l10n :=
  reportStr_doParse g f ref l10n h

theorem hout_shift_shift (d a d' a' : Nat) (o : Hist.Out) :
    (o.shift d a).shift d' a' = o.shift (d + d') (a + a') := by
  cases o with
  | parsed st ents =>
    simp only [Hist.Out.shift, List.map_map]
    congr 1
    apply List.map_congr_left
    intro e _
    simp only [Function.comp, Ent.shift_shift]
  | report r => rfl
  | obs o => rfl

theorem out_shift_shift (d a d' a' : Nat) (o : HistM.Out) :
    (o.shift d a).shift d' a' = o.shift (d + d') (a + a') := by
  cases o <;> simp only [HistM.Out.shift, hout_shift_shift]

theorem view_matcher (s : S) (id : Nat) : s.view.matcher id = (AR.dget s.matchers id).map (·.m) := rfl
theorem view_config (s : S) (id : Nat) : s.view.config id = (AR.dget s.configs id).map CObj.cspec := rfl
theorem view_checker (s : S) (id : Nat) :
    s.view.checker id = (AR.dget s.checkers id).map (fun d => (d.android, d.reference)) := rfl

theorem inv_matcher {s : S} (h : Inv s) {id : Nat} {o : MObj} (hg : AR.dget s.matchers id = some o) : o.Coh :=
  h.2.1 (id, o) (AR.mem_of_dget hg)

theorem inv_config {s : S} (h : Inv s) {id : Nat} {c : CObj} (hg : AR.dget s.configs id = some c) : c.Coh :=
  h.2.2.1 (id, c) (AR.mem_of_dget hg)

theorem inv_checker {s : S} (h : Inv s) {id : Nat} {d : DObj} (hg : AR.dget s.checkers id = some d) : d.Coh :=
  h.2.2.2 (id, d) (AR.mem_of_dget hg)

theorem all_dset {β : Type} (P : β → Prop) (d : List (Nat × β)) (k : Nat) (v : β) (hd : ∀ p ∈ d, P p.2) (hv : P v) :
    ∀ p ∈ AR.dset d k v, P p.2 := by
  intro p hp
  rcases (AR.mem_dset hp).symm with hp | hp
  · subst hp; exact hv
  · exact hd p hp

theorem cobj_fresh_coh (locales : Option (List Text)) (environ : FiltM.Environ) (root : Option Text)
    (ps : List FiltM.PathEntryS) (rs : List FiltM.RuleS) :
    CObj.Coh { locales := locales, environ := environ, root := root, paths := ps, rules := rs } := by
  refine ⟨?_, ?_⟩ <;> intro x hx <;> simp at hx

def upd {α : Type} (f : Nat → Option α) (k : Nat) (v : α) : Nat → Option α := fun i => if i == k then some v else f i

/-- how an operation changes WHAT the live objects are: only constructors and the three mutators do -/
def viewStep (v : View) : HistM.Op → View
  | .mNew id pattern env root =>
    match PM.mkMatcher pattern env root with
    | .error _ => v
    | .ok m => { v with matcher := upd v.matcher id m }
  | .mWithEnv id newId env =>
    match v.matcher id with
    | none => v
    | some m =>
      match m.withEnv env with
      | .error _ => v
      | .ok m' => { v with matcher := upd v.matcher newId m' }
  | .cNew id locales environ root paths rules =>
    match FiltM.buildPaths environ root paths with
    | .error _ => v
    | .ok ps =>
      match FiltM.buildRules environ root rules with
      | .error _ => v
      | .ok rs => { v with config := upd v.config id ⟨locales, environ, root, ps, rs⟩ }
  | .cSetLocales id locales =>
    match v.config id with
    | none => v
    | some c => { v with config := upd v.config id { c with locales := locales } }
  | .cAddRules id rules =>
    match v.config id with
    | none => v
    | some c => { v with config := upd v.config id { c with rules := c.rules ++ (buildRulesP c.environ c.root rules).1 } }
  | .cAddPaths id paths =>
    match v.config id with
    | none => v
    | some c => { v with config := upd v.config id { c with paths := c.paths ++ (buildPathsP c.environ c.root paths).1 } }
  | .dNew id android reference => { v with checker := upd v.checker id (android, reference) }
  | _ => v

theorem view_ext (v w : View) (h1 : v.ep = w.ep) (h2 : v.matcher = w.matcher) (h3 : v.config = w.config)
    (h4 : v.checker = w.checker) : v = w := by
  cases v; cases w; simp only at h1 h2 h3 h4; subst h1; subst h2; subst h3; subst h4; rfl

theorem map_dget_dset {β γ : Type} (d : List (Nat × β)) (k : Nat) (v : β) (f : β → γ) :
    (fun i => (AR.dget (AR.dset d k v) i).map f) = upd (fun i => (AR.dget d i).map f) k (f v) := by
  funext i
  rw [dget_dset_flip]
  unfold upd
  split <;> rfl

theorem map_dget_dset_same {β γ : Type} (d : List (Nat × β)) (k : Nat) (v v' : β) (f : β → γ)
    (hg : AR.dget d k = some v') (hf : f v = f v') :
    (fun i => (AR.dget (AR.dset d k v) i).map f) = (fun i => (AR.dget d i).map f) := by
  funext i
  rw [dget_dset_flip]
  by_cases hi : (i == k) = true
  · have : i = k := by simpa using hi
    subst this
    simp [hg, hf]
  · simp [hi]

theorem cspec_same {c c' : CObj} (h : CObj.Same c c') : c'.cspec = c.cspec := by
  obtain ⟨h1, h2, h3, h4, h5⟩ := h
  simp only [CObj.cspec, h1, h2, h3, h4, h5]

/-- One case analysis per operation.  The output of a closed operation is the reference semantics (junk ids shifted by
    the counter); a safe operation keeps the memos coherent; what the live objects ARE moves by `viewStep`,
    whatever they have cached. -/
theorem step_spec (s : S) (h : Inv s) (op : HistM.Op) :
    (op.closed → (HistM.step s op).2 = (pureOut s.view op).shift s.g.junkid s.g.heap.length) ∧
    (op.safe s → Inv (HistM.step s op).1) ∧
    (HistM.step s op).1.view = viewStep s.view op := by
  have ⟨hr, hm, hcf, hd⟩ := h
  cases op with
  | base bop =>
    refine ⟨fun hc => ?_, fun _ => h, rfl⟩
    simp only [HistM.step, pureOut, HistM.Out.shift]
    congr 1
    exact step_closed_out s.g G.init s.g.junkid s.g.heap.length bop hc (by simp [G.init]) (by simp [G.init])
  | read f t => exact ⟨fun _ => rfl, fun _ => h, rfl⟩
  | rewalk f =>
    refine ⟨fun hc => absurd hc (by simp [HistM.Op.closed]), ?_⟩
    simp only [HistM.step, doRewalk, viewStep]
    cases s.g.pctx f with
    | none => exact ⟨fun _ => h, rfl⟩
    | some addr =>
      simp only
      cases s.g.heap[addr]? <;> exact ⟨fun _ => h, rfl⟩
  | lint f ref cur =>
    cases ref with
    | some rt =>
      refine ⟨fun hc => ?_, fun _ => h, rfl⟩
      simp only [HistM.step, pureOut, HistM.Out.shift]
      rw [lint_ref_indep s.g f rt cur hc]
    | none =>
      refine ⟨fun hc => ?_, fun _ => h, rfl⟩
      simp only [HistM.step, pureOut, HistM.Out.shift]
      rw [lint_noref_indep s.g f cur hc]
  | merge f ref l10n =>
    refine ⟨fun hc => ?_, fun _ => h, rfl⟩
    simp only [HistM.step, pureOut, HistM.Out.shift, pureMerge]
    rw [reportStr_indep s.g f ref l10n hc, merge_indep s.g f ref l10n hc]
    cases pureReport f ref l10n with
    | error e => rfl
    | ok a => cases mergeInputs (refK f ref) (l10nK f ref l10n) (allsK ref (ents0 f ref)) <;> rfl
  | serialize f ref old nd => exact ⟨fun _ => rfl, fun _ => h, rfl⟩
  | mergeChannels f texts => exact ⟨fun _ => rfl, fun _ => h, rfl⟩
  | getParser path => exact ⟨fun _ => rfl, fun _ => h, rfl⟩
  | mozMatch path pattern =>
    have sp := mozMatchS_spec s.reCache hr path pattern
    refine ⟨fun _ => ?_, fun _ => ⟨sp.2, hm, hcf, hd⟩, rfl⟩
    simp only [HistM.step, pureOut, HistM.Out.shift]
    rw [sp.1]
  | mNew id pattern env root =>
    simp only [HistM.step, pureOut, HistM.Out.shift, buildM, viewStep]
    cases PM.mkMatcher pattern env root with
    | error e => exact ⟨fun _ => rfl, fun _ => h, rfl⟩
    | ok m =>
      exact ⟨fun _ => rfl, fun _ => ⟨hr, all_dset MObj.Coh _ _ _ hm (MObj.fresh_coh m), hcf, hd⟩,
        view_ext _ _ rfl (map_dget_dset s.matchers id { m := m } (·.m)) rfl rfl⟩
  | mWithEnv id newId env =>
    simp only [HistM.step, pureOut, HistM.Out.shift, viewStep, view_matcher]
    cases hg : AR.dget s.matchers id with
    | none => exact ⟨fun _ => rfl, fun _ => h, rfl⟩
    | some o =>
      simp only [Option.map_some]
      cases o.m.withEnv env with
      | error e => exact ⟨fun _ => rfl, fun _ => h, rfl⟩
      | ok m =>
        exact ⟨fun _ => rfl, fun _ => ⟨hr, all_dset MObj.Coh _ _ _ hm (MObj.fresh_coh m), hcf, hd⟩,
          view_ext _ _ rfl (map_dget_dset s.matchers newId { m := m } (·.m)) rfl rfl⟩
  | mMatch id path =>
    simp only [HistM.step, pureOut, HistM.Out.shift, viewStep, view_matcher]
    cases hg : AR.dget s.matchers id with
    | none => exact ⟨fun _ => rfl, fun _ => h, rfl⟩
    | some o =>
      have sp := MObj.match_spec o (inv_matcher h hg) path
      refine ⟨fun _ => ?_, fun _ => ⟨hr, all_dset MObj.Coh _ _ _ hm sp.2.2, hcf, hd⟩,
        view_ext _ _ rfl (map_dget_dset_same s.matchers id _ o (·.m) hg sp.2.1) rfl rfl⟩
      simp only [Option.map_some]
      rw [sp.1]
  | mSub id other path =>
    simp only [HistM.step, pureOut, HistM.Out.shift, viewStep, view_matcher]
    cases hg : AR.dget s.matchers id with
    | none => exact ⟨fun _ => rfl, fun _ => h, rfl⟩
    | some o =>
      cases hg2 : AR.dget s.matchers other with
      | none => exact ⟨fun _ => rfl, fun _ => h, rfl⟩
      | some o2 =>
        have sp := MObj.sub_spec o (inv_matcher h hg) o2.m path
        refine ⟨fun _ => ?_, fun _ => ⟨hr, all_dset MObj.Coh _ _ _ hm sp.2.2, hcf, hd⟩,
          view_ext _ _ rfl (map_dget_dset_same s.matchers id _ o (·.m) hg sp.2.1) rfl rfl⟩
        simp only [Option.map_some]
        rw [sp.1]
  | cNew id locales environ root paths rules =>
    simp only [HistM.step, pureOut, HistM.Out.shift, viewStep]
    cases FiltM.buildPaths environ root paths with
    | error e => exact ⟨fun _ => rfl, fun _ => h, rfl⟩
    | ok ps =>
      simp only
      cases FiltM.buildRules environ root rules with
      | error e => exact ⟨fun _ => rfl, fun _ => h, rfl⟩
      | ok rs =>
        exact ⟨fun _ => rfl, fun _ => ⟨hr, hm, all_dset CObj.Coh _ _ _ hcf (cobj_fresh_coh _ _ _ _ _), hd⟩,
          view_ext _ _ rfl rfl (map_dget_dset s.configs id _ CObj.cspec) rfl⟩
  | cSetLocales id locales =>
    simp only [HistM.step, pureOut, HistM.Out.shift, viewStep, view_config]
    cases hg : AR.dget s.configs id with
    | none => exact ⟨fun _ => rfl, fun _ => h, rfl⟩
    | some c =>
      refine ⟨fun _ => rfl, fun _ => ⟨hr, hm, all_dset CObj.Coh _ _ _ hcf ⟨?_, (inv_config h hg).2⟩, hd⟩,
        view_ext _ _ rfl rfl (map_dget_dset s.configs id _ CObj.cspec) rfl⟩
      intro l hl; simp at hl
  | cAddRules id rules =>
    simp only [HistM.step, pureOut, HistM.Out.shift, viewStep, view_config]
    cases hg : AR.dget s.configs id with
    | none => exact ⟨fun _ => rfl, fun _ => h, rfl⟩
    | some c =>
      refine ⟨fun _ => rfl, fun hs => ⟨hr, hm, all_dset CObj.Coh _ _ _ hcf ⟨(inv_config h hg).1, ?_⟩, hd⟩,
        view_ext _ _ rfl rfl (map_dget_dset s.configs id _ CObj.cspec) rfl⟩
      -- safe: no filter cache has been built yet
      intro fc hfc
      simp [hs c hg] at hfc
  | cAddPaths id paths =>
    simp only [HistM.step, pureOut, HistM.Out.shift, viewStep, view_config]
    cases hg : AR.dget s.configs id with
    | none => exact ⟨fun _ => rfl, fun _ => h, rfl⟩
    | some c =>
      refine ⟨fun _ => rfl, fun hs => ⟨hr, hm, all_dset CObj.Coh _ _ _ hcf ⟨?_, ?_⟩, hd⟩,
        view_ext _ _ rfl rfl (map_dget_dset s.configs id _ CObj.cspec) rfl⟩
      · intro l hl; simp at hl
      · intro fc hfc
        simp [hs c hg] at hfc
  | cFilter id file entity =>
    simp only [HistM.step, pureOut, HistM.Out.shift, viewStep, view_config]
    cases hg : AR.dget s.configs id with
    | none => exact ⟨fun _ => rfl, fun _ => h, rfl⟩
    | some c =>
      have sp := CObj.filter_spec c (inv_config h hg) file entity
      refine ⟨fun _ => ?_, fun _ => ⟨hr, hm, all_dset CObj.Coh _ _ _ hcf sp.2.2, hd⟩,
        view_ext _ _ rfl rfl (map_dget_dset_same s.configs id _ c CObj.cspec hg (cspec_same sp.2.1)) rfl⟩
      simp only [Option.map_some]
      rw [sp.1]
      rfl
  | cAllLocales id =>
    simp only [HistM.step, pureOut, HistM.Out.shift, viewStep, view_config]
    cases hg : AR.dget s.configs id with
    | none => exact ⟨fun _ => rfl, fun _ => h, rfl⟩
    | some c =>
      have sp := CObj.allLocales_spec c (inv_config h hg)
      refine ⟨fun _ => ?_, fun _ => ⟨hr, hm, all_dset CObj.Coh _ _ _ hcf sp.2.2.1, hd⟩,
        view_ext _ _ rfl rfl (map_dget_dset_same s.configs id _ c CObj.cspec hg (cspec_same sp.2.1)) rfl⟩
      simp only [Option.map_some]
      rw [sp.1]
      rfl
  | dNew id android reference =>
    refine ⟨fun _ => rfl, fun _ => ⟨hr, hm, hcf, all_dset DObj.Coh _ _ _ hd ?_⟩,
      view_ext _ _ rfl rfl rfl (map_dget_dset s.checkers id _ (fun d => (d.android, d.reference)))⟩
    intro k hk; simp at hk
  | dKnown id refValue =>
    simp only [HistM.step, pureOut, HistM.Out.shift, viewStep, view_checker]
    cases hg : AR.dget s.checkers id with
    | none => exact ⟨fun _ => rfl, fun _ => h, rfl⟩
    | some d =>
      have sp := DObj.known_spec d (inv_checker h hg) refValue
      refine ⟨fun _ => ?_, fun _ => ⟨hr, hm, hcf, all_dset DObj.Coh _ _ _ hd sp.2.2.2⟩,
        view_ext _ _ rfl rfl rfl (map_dget_dset_same s.checkers id _ d (fun d => (d.android, d.reference)) hg
          (Prod.ext sp.2.1 sp.2.2.1))⟩
      simp only [Option.map_some]
      rw [sp.1]
  | dCheckText id refValue chars =>
    simp only [HistM.step, pureOut, HistM.Out.shift, viewStep, view_checker]
    cases hg : AR.dget s.checkers id with
    | none => exact ⟨fun _ => rfl, fun _ => h, rfl⟩
    | some d =>
      have sp := DObj.known_spec d (inv_checker h hg) refValue
      refine ⟨fun _ => ?_, fun _ => ⟨hr, hm, hcf, all_dset DObj.Coh _ _ _ hd sp.2.2.2⟩,
        view_ext _ _ rfl rfl rfl (map_dget_dset_same s.checkers id _ d (fun d => (d.android, d.reference)) hg
          (Prod.ext sp.2.1 sp.2.2.1))⟩
      simp only [Option.map_some]
      rw [DObj.checkText_spec]

theorem step_out_pure (s : S) (h : Inv s) (op : HistM.Op) (hc : op.closed) :
    (HistM.step s op).2 = (pureOut s.view op).shift s.g.junkid s.g.heap.length :=
  (step_spec s h op).1 hc

theorem inv_step (s : S) (h : Inv s) (op : HistM.Op) (hs : op.safe s) : Inv (HistM.step s op).1 :=
  (step_spec s h op).2.1 hs

theorem view_step (s : S) (h : Inv s) (op : HistM.Op) : (HistM.step s op).1.view = viewStep s.view op :=
  (step_spec s h op).2.2

theorem inv_init (ep : EpEnv) : Inv { S.init with ep := ep } := by
  refine ⟨?_, ?_, ?_, ?_⟩ <;> intro p hp <;> simp [S.init] at hp

theorem reachable_inv (ep : EpEnv) (s : S) (h : Reachable ep s) : Inv s := by
  induction h with
  | init => exact inv_init ep
  | step s op _ hs ih => exact inv_step s ih op hs

theorem parseAll_g (f : Fmt) : ∀ (ts : List (Array Nat)) (g g0 : G) (d a : Nat),
    g.junkid = g0.junkid + d → g.heap.length = g0.heap.length + a →
    (parseAll f ts g).junkid = (parseAll f ts g0).junkid + d ∧
      (parseAll f ts g).heap.length = (parseAll f ts g0).heap.length + a := by
  intro ts
  induction ts with
  | nil => intro g g0 d a hj hh; exact ⟨hj, hh⟩
  | cons t rest ih =>
    intro g g0 d a hj hh
    simp only [parseAll]
    obtain ⟨j1, h1⟩ := doParse_shift g g0 f t d a hj hh
    exact ih _ _ d a j1 h1

/-- the operations that parse or read a text; all others leave the parser state `S.g` alone -/
def parses : HistM.Op → Bool
  | .base _ | .read .. | .rewalk _ | .lint .. | .merge .. | .serialize .. | .mergeChannels .. => true
  | _ => false

theorem step_g_same (s : S) (op : HistM.Op) (h : parses op = false) : (HistM.step s op).1.g = s.g := by
  cases op with
  | getParser path => rfl
  | mozMatch path pattern => rfl
  | mNew id pattern env root => simp only [HistM.step]; cases buildM pattern env root <;> rfl
  | mWithEnv id newId env =>
    simp only [HistM.step]
    cases AR.dget s.matchers id with
    | none => rfl
    | some o => simp only; cases o.m.withEnv env <;> rfl
  | mMatch id path => simp only [HistM.step]; cases AR.dget s.matchers id <;> rfl
  | mSub id other path =>
    simp only [HistM.step]; cases AR.dget s.matchers id <;> cases AR.dget s.matchers other <;> rfl
  | cNew id locales environ root paths rules =>
    simp only [HistM.step]
    cases FiltM.buildPaths environ root paths with
    | error e => rfl
    | ok ps => simp only; cases FiltM.buildRules environ root rules <;> rfl
  | cSetLocales id locales => simp only [HistM.step]; cases AR.dget s.configs id <;> rfl
  | cAddRules id rules => simp only [HistM.step]; cases AR.dget s.configs id <;> rfl
  | cAddPaths id paths => simp only [HistM.step]; cases AR.dget s.configs id <;> rfl
  | cFilter id file entity => simp only [HistM.step]; cases AR.dget s.configs id <;> rfl
  | cAllLocales id => simp only [HistM.step]; cases AR.dget s.configs id <;> rfl
  | dNew id android reference => rfl
  | dKnown id refValue => simp only [HistM.step]; cases AR.dget s.checkers id <;> rfl
  | dCheckText id refValue chars => simp only [HistM.step]; cases AR.dget s.checkers id <;> rfl
  | _ => cases h

theorem step_g_shift (s s0 : S) (d a : Nat) (op : HistM.Op) (hc : op.closed)
    (hj : s.g.junkid = s0.g.junkid + d) (hh : s.g.heap.length = s0.g.heap.length + a) :
    (HistM.step s op).1.g.junkid = (HistM.step s0 op).1.g.junkid + d ∧
      (HistM.step s op).1.g.heap.length = (HistM.step s0 op).1.g.heap.length + a := by
  cases hp : parses op
  · rw [step_g_same s op hp, step_g_same s0 op hp]
    exact ⟨hj, hh⟩
  have two : ∀ (f : Fmt) (x y : Array Nat),
      (doParse (doParse s.g f x).1 f y).1.junkid = (doParse (doParse s0.g f x).1 f y).1.junkid + d ∧
      (doParse (doParse s.g f x).1 f y).1.heap.length = (doParse (doParse s0.g f x).1 f y).1.heap.length + a :=
    fun f x y => doParse_shift _ _ f y d a (doParse_shift _ _ f x d a hj hh).1 (doParse_shift _ _ f x d a hj hh).2
  cases op with
  | base bop => exact step_closed_state s.g s0.g d a bop hc hj hh
  | read f t =>
    simp only [HistM.step, doRead, List.length_append, List.length_cons, List.length_nil]
    exact ⟨hj, by omega⟩
  | rewalk f => exact absurd hc (by simp [HistM.Op.closed])
  | lint f ref cur =>
    cases ref with
    | some rt => exact two f rt cur
    | none => exact doParse_shift _ _ f cur d a hj hh
  | merge f ref l10n => exact two f ref l10n
  | serialize f ref old nd => exact two f ref old
  | mergeChannels f texts => exact parseAll_g f texts s.g s0.g d a hj hh
  | _ => cases hp

theorem safe_of_frozen (s : S) (op : HistM.Op) (h : op.mutatesConfig = false) : op.safe s := by
  cases op <;> simp [HistM.Op.mutatesConfig] at h <;> simp [HistM.Op.safe]

theorem run_out_indep : ∀ (ops : List HistM.Op) (s s0 : S) (d a : Nat), Inv s → Inv s0 → s.view = s0.view →
    s.g.junkid = s0.g.junkid + d → s.g.heap.length = s0.g.heap.length + a →
    (∀ op ∈ ops, op.closed ∧ op.mutatesConfig = false) →
    (HistM.run s ops).2 = ((HistM.run s0 ops).2).map (HistM.Out.shift d a) := by
  intro ops
  induction ops with
  | nil => intro s s0 d a _ _ _ _ _ _; rfl
  | cons op t ih =>
    intro s s0 d a hi hi0 hv hj hh hc
    obtain ⟨hcl, hfr⟩ := hc op List.mem_cons_self
    obtain ⟨g1, g2⟩ := step_g_shift s s0 d a op hcl hj hh
    have hv' : (HistM.step s op).1.view = (HistM.step s0 op).1.view := by
      rw [view_step s hi op, view_step s0 hi0 op, hv]
    simp only [HistM.run, List.map_cons]
    rw [ih (HistM.step s op).1 (HistM.step s0 op).1 d a (inv_step s hi op (safe_of_frozen s op hfr))
      (inv_step s0 hi0 op (safe_of_frozen s0 op hfr)) hv' g1 g2 (fun o ho => hc o (List.mem_cons_of_mem _ ho))]
    congr 1
    rw [step_out_pure s hi op hcl, step_out_pure s0 hi0 op hcl, hv, out_shift_shift, hj, hh]

end C18M
