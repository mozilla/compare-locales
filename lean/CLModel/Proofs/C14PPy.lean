/-
C14, legacy filter.py (`Paths/FilterPy.lean`): without any `filter_py` the model is that of `Paths/Filter.lean`; the callables of
included configurations are never consulted (`clr`); `set_locales(deep)` changes which locales a configuration names and no
inner verdict.
-/
import CLModel.Paths.FilterPy
import CLModel.Proofs.C14Filter
namespace C14P
open Filt FiltP

mutual
theorem allLocalesP_erase : ∀ (c : ConfigP), allLocalesP c = allLocales (erase c)
  | .mk f locales paths rules children excludes => by
    rw [allLocalesP, erase, allLocales, allLocalesListP_erase children]
theorem allLocalesListP_erase : ∀ (cs : List ConfigP), allLocalesListP cs = allLocalesList (eraseList cs)
  | [] => rfl
  | c :: cs => by
    rw [allLocalesListP, eraseList, allLocalesList, allLocalesP_erase c, allLocalesListP_erase cs]
end

mutual
theorem filterInnerP_noPy : ∀ (c : ConfigP) (file : FileP) (e : Option Text), noPy c = true →
    filterInnerP c file e = .ok (filterInner (erase c) file.toFile e)
  | .mk f locales paths rules children excludes, file, e, h => by
    simp only [noPy, Bool.and_eq_true] at h
    obtain ⟨⟨_, hc⟩, hx⟩ := h
    rw [filterInnerP, erase, filterInner, anyExcludeErrorP_noPy excludes file hx, childActionsP_noPy children file e hc]
    simp only [bind, Except.bind, pure, Except.pure, FileP.toFile]
    by_cases h1 : anyExcludeError (eraseList excludes) ⟨file.fullpath, file.locale⟩ = true
    · simp [h1]
    · by_cases h2 : (childActions (eraseList children) ⟨file.fullpath, file.locale⟩ e).contains (some Action.error) = true
      · have h2' : some Action.error ∈ childActions (eraseList children) ⟨file.fullpath, file.locale⟩ e := by
          simpa using h2
        simp [h1, h2']
      · have h2' : some Action.error ∉ childActions (eraseList children) ⟨file.fullpath, file.locale⟩ e := by
          simpa using h2
        simp [h1, h2']
theorem childActionsP_noPy : ∀ (cs : List ConfigP) (file : FileP) (e : Option Text), noPyList cs = true →
    childActionsP cs file e = .ok (childActions (eraseList cs) file.toFile e)
  | [], _, _, _ => rfl
  | c :: cs, file, e, h => by
    simp only [noPyList, Bool.and_eq_true] at h
    rw [childActionsP, eraseList, childActions, filterInnerP_noPy c file e h.1, childActionsP_noPy cs file e h.2]
    rfl
theorem anyExcludeErrorP_noPy : ∀ (cs : List ConfigP) (file : FileP), noPyList cs = true →
    anyExcludeErrorP cs file = .ok (anyExcludeError (eraseList cs) file.toFile)
  | [], _, _ => rfl
  | c :: cs, file, h => by
    simp only [noPyList, Bool.and_eq_true] at h
    have hpy : c.filterPy = none := by
      cases c with
      | mk f l p r ch ex =>
        have := h.1
        simp only [noPy, Bool.and_eq_true, Option.isNone_iff_eq_none] at this
        exact this.1.1
    rw [anyExcludeErrorP, eraseList, anyExcludeError, anyExcludeErrorP_noPy cs file h.2, allLocalesP_erase c, hpy]
    simp only [filterInnerP_noPy c file none h.1, bind, Except.bind, pure, Except.pure, FileP.toFile]
    by_cases hl : (allLocales (erase c)).contains file.locale = true
    · simp only [hl, Bool.not_true, Bool.false_eq_true, ↓reduceIte]
      cases hi : filterInner (erase c) ⟨file.fullpath, file.locale⟩ none with
      | none => simp +decide
      | some a => cases a <;> simp +decide
    · have hl' : file.locale ∉ allLocales (erase c) := by simpa using hl
      simp +decide [hl']
end

mutual
/-- clear the callable of every INCLUDED configuration below a node (`self` = also the node's own);
    the excluded configurations keep their own callable (they are asked through their public `filter`) -/
def clr (self : Bool) : ConfigP → ConfigP
  | .mk f locales paths rules children excludes =>
    .mk (if self then none else f) locales paths rules (clrList true children) (clrList false excludes)
def clrList (self : Bool) : List ConfigP → List ConfigP
  | [] => []
  | c :: cs => clr self c :: clrList self cs
end

mutual
theorem allLocalesP_clr : ∀ (b : Bool) (c : ConfigP), allLocalesP (clr b c) = allLocalesP c
  | b, .mk f locales paths rules children excludes => by
    rw [clr, allLocalesP, allLocalesP, allLocalesListP_clr true children]
theorem allLocalesListP_clr : ∀ (b : Bool) (cs : List ConfigP), allLocalesListP (clrList b cs) = allLocalesListP cs
  | _, [] => rfl
  | b, c :: cs => by
    rw [clrList, allLocalesListP, allLocalesListP, allLocalesP_clr b c, allLocalesListP_clr b cs]
end

theorem filterPy_clr_false (c : ConfigP) : (clr false c).filterPy = c.filterPy := by
  cases c with
  | mk f l p r ch ex => simp [clr, ConfigP.filterPy]

mutual
theorem filterInnerP_clr : ∀ (b : Bool) (c : ConfigP) (file : FileP) (e : Option Text),
    filterInnerP (clr b c) file e = filterInnerP c file e
  | b, .mk f locales paths rules children excludes, file, e => by
    rw [clr, filterInnerP, filterInnerP, anyExcludeErrorP_clr excludes file, childActionsP_clr children file e]
theorem childActionsP_clr : ∀ (cs : List ConfigP) (file : FileP) (e : Option Text),
    childActionsP (clrList true cs) file e = childActionsP cs file e
  | [], _, _ => rfl
  | c :: cs, file, e => by
    rw [clrList, childActionsP, childActionsP, filterInnerP_clr true c file e, childActionsP_clr cs file e]
theorem anyExcludeErrorP_clr : ∀ (cs : List ConfigP) (file : FileP),
    anyExcludeErrorP (clrList false cs) file = anyExcludeErrorP cs file
  | [], _ => rfl
  | c :: cs, file => by
    rw [clrList, anyExcludeErrorP, anyExcludeErrorP, allLocalesP_clr false c, filterPy_clr_false c,
      filterInnerP_clr false c file none, anyExcludeErrorP_clr cs file]
end

theorem filterP_clr (c : ConfigP) (file : FileP) (e : Option Text) :
    filterP (clr false c) file e = filterP c file e := by
  rw [filterP, filterP, allLocalesP_clr, filterPy_clr_false, filterInnerP_clr]

mutual
theorem filterInnerP_setLocalesDeep : ∀ (c : ConfigP) (ls : Option (List Text)) (file : FileP) (e : Option Text),
    filterInnerP (setLocalesDeep c ls) file e = filterInnerP c file e
  | .mk f locales paths rules children excludes, ls, file, e => by
    rw [setLocalesDeep, filterInnerP, filterInnerP, childActionsP_setLocalesDeep children ls file e]
theorem childActionsP_setLocalesDeep : ∀ (cs : List ConfigP) (ls : Option (List Text)) (file : FileP) (e : Option Text),
    childActionsP (setLocalesDeepList cs ls) file e = childActionsP cs file e
  | [], _, _, _ => rfl
  | c :: cs, ls, file, e => by
    rw [setLocalesDeepList, childActionsP, childActionsP, filterInnerP_setLocalesDeep c ls file e,
      childActionsP_setLocalesDeep cs ls file e]
end

mutual
/-- the locales the `paths` entries of a configuration and of its included configurations name -/
def pathLocales : ConfigP → List Text
  | .mk _ _ paths _ children _ => paths.flatMap (fun p => optLocales p.locales) ++ pathLocalesList children
def pathLocalesList : List ConfigP → List Text
  | [] => []
  | c :: cs => pathLocales c ++ pathLocalesList cs
end

mutual
theorem mem_allLocalesP_deep : ∀ (c : ConfigP) (ls : Option (List Text)) (l : Text),
    l ∈ allLocalesP (setLocalesDeep c ls) ↔ l ∈ optLocales ls ∨ l ∈ pathLocales c
  | .mk f locales paths rules children excludes, ls, l => by
    rw [setLocalesDeep, allLocalesP, pathLocales]
    have ih := mem_allLocalesListP_deep children ls l
    simp only [ownLocales, List.mem_append, ih]
    constructor
    · rintro ((h | h) | (⟨_, h⟩ | h))
      · exact Or.inl h
      · exact Or.inr (Or.inl h)
      · exact Or.inl h
      · exact Or.inr (Or.inr h)
    · rintro (h | h | h)
      · exact Or.inl (Or.inl h)
      · exact Or.inl (Or.inr h)
      · exact Or.inr (Or.inr h)
theorem mem_allLocalesListP_deep : ∀ (cs : List ConfigP) (ls : Option (List Text)) (l : Text),
    l ∈ allLocalesListP (setLocalesDeepList cs ls) ↔ (cs ≠ [] ∧ l ∈ optLocales ls) ∨ l ∈ pathLocalesList cs
  | [], _, _ => by simp [setLocalesDeepList, allLocalesListP, pathLocalesList]
  | c :: cs, ls, l => by
    rw [setLocalesDeepList, allLocalesListP, pathLocalesList]
    have h1 := mem_allLocalesP_deep c ls l
    have h2 := mem_allLocalesListP_deep cs ls l
    simp only [List.mem_append, h1, h2, ne_eq, reduceCtorEq, not_false_eq_true, true_and]
    constructor
    · rintro ((h | h) | (⟨_, h⟩ | h))
      · exact Or.inl h
      · exact Or.inr (Or.inl h)
      · exact Or.inl h
      · exact Or.inr (Or.inr h)
    · rintro (h | h | h)
      · exact Or.inl (Or.inl h)
      · exact Or.inl (Or.inr h)
      · exact Or.inr (Or.inr h)
end

theorem str_report : Gen.Tables.filterPyStrMap.lookup [114, 101, 112, 111, 114, 116] = some (Action.name .warning) := by
  decide

end C14P
