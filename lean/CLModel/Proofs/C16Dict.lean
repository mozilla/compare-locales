/-
Insertion-ordered dicts filled by a fold of `AR.dset`: what `AR.dget` then finds is the LAST pair with the key (`lastMatch`),
and the key order is that of the FIRST occurrences (`firstOcc`, the `foldl AR.ins []` of Proofs/Dict).
-/
import CLModel.Compare.AddRemove
import CLModel.Proofs.AddRemove
import CLModel.Proofs.ListLemmas
namespace C16L
open AR

variable {α : Type} [BEq α] [LawfulBEq α] {β : Type}

/-- `l.reverse.find? p` (`lastMatch_eq`), by recursion on `l` so that it unfolds along `cons` -/
def lastMatch {γ : Type} (p : γ → Bool) : List γ → Option γ
  | [] => none
  | x :: xs => match lastMatch p xs with
    | some y => some y
    | none => if p x then some x else none

theorem lastMatch_eq {γ : Type} (p : γ → Bool) (l : List γ) : lastMatch p l = l.reverse.find? p := by
  induction l with
  | nil => rfl
  | cons x xs ih =>
    rw [lastMatch, ih, List.reverse_cons, List.find?_append, List.find?_singleton]
    cases xs.reverse.find? p <;> rfl

theorem lastMatch_cons_false {γ : Type} (p : γ → Bool) (x : γ) (l : List γ) (h : p x = false) :
    lastMatch p (x :: l) = lastMatch p l := by
  rw [lastMatch]
  cases lastMatch p l <;> simp [h]

theorem lastMatch_some {γ : Type} {p : γ → Bool} {l : List γ} {x : γ} (h : lastMatch p l = some x) :
    x ∈ l ∧ p x = true := by
  rw [lastMatch_eq] at h
  exact ⟨List.mem_reverse.1 (List.mem_of_find?_eq_some h), List.find?_some h⟩

theorem lastMatch_eq_none_iff {γ : Type} {p : γ → Bool} {l : List γ} :
    lastMatch p l = none ↔ ∀ x ∈ l, p x = false := by
  simp only [lastMatch_eq, List.find?_eq_none, List.mem_reverse, Bool.not_eq_true]

theorem lastMatch_unique {γ : Type} {p : γ → Bool} {l : List γ} {x : γ} (hx : x ∈ l) (hp : p x = true)
    (hu : ∀ y ∈ l, p y = true → y = x) : lastMatch p l = some x := by
  cases hm : lastMatch p l with
  | none => have := lastMatch_eq_none_iff.1 hm x hx; rw [hp] at this; simp at this
  | some y =>
    have := lastMatch_some hm
    rw [hu y this.1 this.2]

theorem lastMatch_map {γ δ : Type} (p : γ → Bool) (q : δ → Bool) (f : γ → δ) (l : List γ)
    (h : ∀ x ∈ l, q (f x) = p x) : lastMatch q (l.map f) = (lastMatch p l).map f := by
  induction l with
  | nil => rfl
  | cons y ys ih =>
    have ih' := ih (fun x hx => h x (List.mem_cons_of_mem _ hx))
    simp only [List.map_cons, lastMatch, ih']
    cases lastMatch p ys with
    | some z => rfl
    | none =>
      simp only [Option.map_none]
      rw [h y List.mem_cons_self]
      cases p y <;> rfl

theorem lastMatch_congr {γ : Type} (p q : γ → Bool) (l : List γ) (h : ∀ x ∈ l, p x = q x) :
    lastMatch p l = lastMatch q l := by
  have := lastMatch_map q p id l (fun x hx => h x hx)
  simpa using this

theorem lastMatch_filter {γ : Type} (p f : γ → Bool) (l : List γ) :
    lastMatch p (l.filter f) = lastMatch (fun x => f x && p x) l := by
  simp only [lastMatch_eq, ← List.filter_reverse, List.find?_filter, Bool.decide_and, Bool.decide_eq_true]

theorem dget_foldl_lastMatch (ps : List (α × β)) (d : List (α × β)) (k : α) :
    dget (ps.foldl (fun d p => dset d p.1 p.2) d) k
      = match lastMatch (fun p => p.1 == k) ps with
        | some p => some p.2
        | none => dget d k := by
  rw [dget_foldl_dset, lastMatch_eq]
  cases h : ps.reverse.find? (fun p => p.1 == k) <;> simp [dget, h]

/-- first occurrences, in order: the key order of a dict filled from a sequence -/
def firstOcc (l : List α) : List α := l.foldl (fun acc x => if acc.contains x then acc else acc ++ [x]) []

omit [LawfulBEq α] in
theorem firstOcc_eq (l : List α) : firstOcc l = l.foldl ins [] := rfl

theorem firstOcc_nodup (l : List α) : (firstOcc l).Nodup := foldl_ins_nodup l [] List.nodup_nil

theorem mem_firstOcc (l : List α) (x : α) : x ∈ firstOcc l ↔ x ∈ l := by
  rw [firstOcc_eq, mem_foldl_ins]; simp

theorem firstOcc_of_nodup (l : List α) (h : l.Nodup) : firstOcc l = l :=
  foldl_ins_of_nodup l [] h

theorem firstOcc_filterMap {γ : Type} [BEq γ] [LawfulBEq γ] (f : α → Option γ)
    (hinj : ∀ a a' b, f a = some b → f a' = some b → a = a') (l : List α) :
    firstOcc (l.filterMap f) = (firstOcc l).filterMap f :=
  foldl_ins_filterMap f hinj l []

theorem mkDict_keys (ps : List (α × β)) :
    (ps.foldl (fun d p => dset d p.1 p.2) []).map (·.1) = firstOcc (ps.map (·.1)) :=
  keys_foldl_dset ps []

theorem mkDict_of_nodup (ps : List (α × β)) (h : (ps.map (·.1)).Nodup) :
    ps.foldl (fun d p => dset d p.1 p.2) [] = ps :=
  foldl_dset_of_nodup ps [] h

end C16L
