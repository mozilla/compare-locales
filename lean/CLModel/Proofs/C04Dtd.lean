/- C04, DTD: printed entities `<!ENTITY key "value">⏎` and blank lines parse back to exactly the entities (any runs of
   newlines in between, also at the start of the file); several whole-entity cuts in any order; the appended block. -/
import CLModel.Proofs.C04Multi
import CLModel.Proofs.C04Splice
import CLModel.Proofs.C02XDtd
namespace C04D
open P Merge C02X C04M

/-- the entity text WITHOUT its newline: the span `DTDParser` reports -/
def dtdEntText (r : DRec) : List Nat := dtdPrefix ++ (r.1 ++ ([32, 34] ++ (r.2 ++ [34, 62])))

theorem dtdEntText_length (r : DRec) : (dtdEntText r).length = dtdLen r.1.length r.2.length := by
  simp [dtdEntText, dtdPrefix, dtdLen]; omega

theorem printDtdRec_eq (r : DRec) : printDtdRec r = dtdEntText r ++ [10] := by simp [printDtdRec, dtdEntText]

def printToksD : List C04R.Tok → List Nat
  | [] => []
  | .record r :: t => printDtdRec r ++ printToksD t
  | .nl :: t => 10 :: printToksD t

theorem printToksD_append (a b : List C04R.Tok) : printToksD (a ++ b) = printToksD a ++ printToksD b := by
  induction a with
  | nil => simp [printToksD]
  | cons x a ih => cases x <;> simp [printToksD, ih]

theorem printToksD_recs (rs : List DRec) : printToksD (rs.map .record) = printDtd rs := by
  induction rs with
  | nil => simp [printToksD, printDtd]
  | cons r rs ih =>
    simp only [List.map_cons, printToksD, ih]
    simp [printDtd]

theorem walk_toksD (t : List C04R.Tok) (h : ∀ r ∈ C04R.recsOf t, SafeDtdRec r) :
    ∃ es, walk .dtd (printToksD t).toArray = .done es ∧
      entitiesOf .dtd (printToksD t).toArray es = (C04R.recsOf t).map expectedView ∧
      junkOf (printToksD t).toArray es = [] := by
  have := C04R.walk_lead_gapped .dtd (printToksD t).toArray (dtdGetNext _) dtdEntText
    (fun off r => dtdEntity off r.1.length r.2.length) expectedView SafeDtdRec (C02P.dtd_ws_at_n _)
    (fun off r rest hs hd => by
      have hd' : (printToksD t).toArray.toList.drop off = printDtdRec r ++ rest := by simpa [printDtdRec_eq] using hd
      exact ⟨dtd_entity_drop _ off r _ hs hd', rfl, by rw [dtdEntText_length]; rfl,
        entView_dtdEntity _ off r _ hs hd'⟩)
    (fun r rest _ => ⟨by simp [dtdEntText, dtdPrefix], fun c hc => by
      have e : (dtdEntText r ++ rest).head? = some 60 := by simp [dtdEntText, dtdPrefix]
      rw [e] at hc; cases hc
      decide⟩)
    (C04R.norm t).2 (C04R.norm t).1 0
    (by
      have := C04R.toks_norm printToksD dtdEntText rfl (fun _ => rfl) (fun r t => by simp [printToksD, printDtdRec_eq]) t
      simpa using this)
    (C04R.safe_norm h) (Nat.zero_le _)
  rw [C04R.map_norm_view] at this
  exact this.done

/-- one entity of the localization; `some rref`: it has an error-level check result, `rref` is the reference entity -/
abbrev DLine := DRec × Option DRec

def dlinePcs : DLine → List Pc
  | (r, none) => [.keep (printDtdRec r)]
  | (r, some rref) => [.cut (dtdEntText r) false (printDtdRec rref), .keep [10]]

def dlinesPcs : List DLine → List Pc
  | [] => []
  | l :: ls => dlinePcs l ++ dlinesPcs ls

def drefs : List DLine → List DRec
  | [] => []
  | (_, some rref) :: ls => rref :: drefs ls
  | (_, none) :: ls => drefs ls

def dtoks : List DLine → List C04R.Tok
  | [] => []
  | (r, none) :: ls => .record r :: dtoks ls
  | (_, some _) :: ls => .nl :: dtoks ls

theorem pcText_dlinesPcs : ∀ ls : List DLine, pcText (dlinesPcs ls) = printDtd (ls.map (·.1))
  | [] => rfl
  | (r, none) :: ls => by
    simp [dlinesPcs, dlinePcs, pcText, pcText_dlinesPcs ls, printDtd]
  | (r, some rref) :: ls => by
    simp [dlinesPcs, dlinePcs, pcText, pcText_dlinesPcs ls, printDtd, printDtdRec_eq]

theorem pcKept_dlinesPcs : ∀ ls : List DLine, pcKept (dlinesPcs ls) = printToksD (dtoks ls)
  | [] => rfl
  | (r, none) :: ls => by simp [dlinesPcs, dlinePcs, pcKept, dtoks, printToksD, pcKept_dlinesPcs ls]
  | (r, some rref) :: ls => by simp [dlinesPcs, dlinePcs, pcKept, dtoks, printToksD, pcKept_dlinesPcs ls]

theorem cutsNonempty_dlines (ls : List DLine) : CutsNonempty (dlinesPcs ls) := by
  induction ls with
  | nil => intro x j ra h; simp [dlinesPcs] at h
  | cons l ls ih =>
    intro x j ra h
    simp only [dlinesPcs, List.mem_append] at h
    rcases h with h | h
    · obtain ⟨r, bad⟩ := l
      cases bad with
      | none => simp [dlinePcs] at h
      | some rref =>
        simp [dlinePcs] at h
        obtain ⟨rfl, _, _⟩ := h
        simp [dtdEntText, dtdPrefix]
    · exact ih x j ra h

theorem drefs_of_skips : ∀ (ls : List DLine) (off : Nat),
    ((pcSkips off (dlinesPcs ls)).filter (fun s => !s.junk)).map (·.refAll) = (drefs ls).map printDtdRec
  | [], _ => rfl
  | (r, none) :: ls, off => by
    simp only [dlinesPcs, dlinePcs, List.cons_append, List.nil_append, pcSkips, drefs]
    exact drefs_of_skips ls _
  | (r, some rref) :: ls, off => by
    simp only [dlinesPcs, dlinePcs, List.cons_append, List.nil_append, pcSkips, drefs, List.map_cons]
    rw [List.filter_cons_of_pos (by simp), List.map_cons, drefs_of_skips ls _]

theorem dskips_are_entries : ∀ (ls : List DLine) (off : Nat) (sk : Skip), sk ∈ pcSkips off (dlinesPcs ls) →
    ∃ e ∈ dtdExpEntries off (ls.map (·.1)), e.kind = .entity ∧ sk.span = some (e.s, e.e) ∧ sk.junk = false
  | [], _, sk, h => by simp [dlinesPcs, pcSkips] at h
  | (r, none) :: ls, off, sk, h => by
    simp only [dlinesPcs, dlinePcs, List.cons_append, List.nil_append, pcSkips] at h
    rw [printDtdRec_length, show off + (dtdLen r.1.length r.2.length + 1) = off + dtdLen r.1.length r.2.length + 1 by omega] at h
    obtain ⟨e, he, h0, h1, h2⟩ := dskips_are_entries ls _ sk h
    exact ⟨e, by simp [dtdExpEntries, he], h0, h1, h2⟩
  | (r, some rref) :: ls, off, sk, h => by
    simp only [dlinesPcs, dlinePcs, List.cons_append, List.nil_append, pcSkips, List.mem_cons] at h
    rcases h with h | h
    · subst h
      refine ⟨dtdEntity off r.1.length r.2.length, by simp [dtdExpEntries], by simp [dtdEntity], ?_, rfl⟩
      simp [dtdEntity, dtdEntText_length]
    · rw [dtdEntText_length, show off + dtdLen r.1.length r.2.length + [10].length = off + dtdLen r.1.length r.2.length + 1 by simp] at h
      obtain ⟨e, he, h0, h1, h2⟩ := dskips_are_entries ls _ sk h
      exact ⟨e, by simp [dtdExpEntries, he], h0, h1, h2⟩

theorem ensureNewline_printDtdRec (r : DRec) : ensureNewline (printDtdRec r) = printDtdRec r := by
  simp [ensureNewline, printDtdRec, List.getLast?_append, List.getLast?_cons]

theorem flatten_ensure_printedD (ms : List DRec) : ((ms.map printDtdRec).map ensureNewline).flatten = printDtd ms :=
  C04R.flatten_ensure printDtdRec ensureNewline_printDtdRec ms

theorem trailing_dlines (ls : List DLine) (ms : List DRec) :
    trailing (ms.map printDtdRec) (pcSkips 0 (dlinesPcs ls)) = 10 :: printDtd (ms ++ drefs ls) :=
  C04R.trailing_of printDtdRec ensureNewline_printDtdRec ms (drefs ls) _ (drefs_of_skips ls 0)

theorem merge_dlines (ls : List DLine) (ms : List DRec) (perm : List Skip)
    (hp : perm.Perm (pcSkips 0 (dlinesPcs ls))) (hne : perm ≠ [] ∨ ms ≠ []) :
    C04R.staged (printDtd (ls.map (·.1))) (merge true Gen.Tables.cap_dtd (printDtd (ls.map (·.1))) perm (ms.map printDtdRec)) =
      some (printToksD (dtoks ls) ++ 10 :: printDtd (ms ++ drefs ls)) := by
  rw [show Gen.Tables.cap_dtd = Gen.Tables.CAN_SKIP + Gen.Tables.CAN_MERGE from rfl]
  by_cases hemp : perm = []
  · subst hemp
    have hnil : pcSkips 0 (dlinesPcs ls) = [] := List.Perm.nil_eq hp |>.symm
    have hk := pcSkips_nil_kept (dlinesPcs ls) 0 hnil
    rw [pcText_dlinesPcs, pcKept_dlinesPcs] at hk
    obtain ⟨m, ms', rfl⟩ := List.exists_cons_of_ne_nil (hne.resolve_left (fun h => h rfl))
    have ht := trailing_dlines ls (m :: ms')
    rw [hnil] at ht
    rw [List.map_cons, merge_append, ← List.map_cons, ht]
    simp [C04R.staged, hk]
  · have hm := (merge_cuts (dlinesPcs ls) perm (ms.map printDtdRec) (cutsNonempty_dlines ls) hp hemp).1
    rw [pcText_dlinesPcs, pcKept_dlinesPcs] at hm
    rw [hm]
    simp [C04R.staged, trailing_dlines]

theorem dstaged_recs_safe {ls : List DLine}
    (hls : ∀ l ∈ ls, SafeDtdRec l.1 ∧ ∀ rref, l.2 = some rref → SafeDtdRec rref) :
    (∀ r ∈ drefs ls, SafeDtdRec r) ∧ ∀ r ∈ C04R.recsOf (dtoks ls), SafeDtdRec r := by
  induction ls with
  | nil => exact ⟨nofun, nofun⟩
  | cons l ls ih =>
    obtain ⟨r0, bad⟩ := l
    obtain ⟨ih1, ih2⟩ := ih fun l hl => hls l (List.mem_cons_of_mem _ hl)
    have h0 := hls _ List.mem_cons_self
    cases bad with
    | none => exact ⟨ih1, List.forall_mem_cons.2 ⟨h0.1, ih2⟩⟩
    | some rref => exact ⟨List.forall_mem_cons.2 ⟨h0.2 rref rfl, ih1⟩, ih2⟩

end C04D
