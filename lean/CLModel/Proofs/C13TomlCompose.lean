/-
The TOML route composed with the enumeration: `all_locales` of a parsed graph, and how the `PF.Config` trees and the matcher
table that `TC.toPFM` hands to `ProjectFilesM` mirror the `ProjectConfig` graph — `Corr`, proved by ONE induction that threads
the table offsets (`toCfg_corr`), from which locales, gates and table slots are read off (`Corr.configs`, `Corr.inAllLocales`,
`ruleAt_specs`).  Before that, what a successful `parseAll` / `projectFiles` / `enumerate` returned.
-/
import CLModel.Proofs.C13Toml
import CLModel.Proofs.C13MContracts
namespace C13T
open TC PF

theorem mem_insertText {x y : Text} : ∀ {l : List Text}, y ∈ insertText x l ↔ y = x ∨ y ∈ l
  | [] => by simp [insertText]
  | z :: zs => by
    unfold insertText
    split
    · simp
    · split
      · rename_i h
        have : x = z := by simpa using h
        subst this
        simp
      · simp only [List.mem_cons, mem_insertText (l := zs)]
        exact or_left_comm

theorem mem_sortedSet {y : Text} {l : List Text} : y ∈ sortedSet l ↔ y ∈ l := by
  unfold sortedSet
  rw [mem_foldl_insert fun _ _ _ => mem_insertText]
  simp

theorem configs_mk (p r e ps rs l ch ex) :
    (PC.mk p r e ps rs l ch ex).configs = PC.mk p r e ps rs l ch ex :: configsL ch := by
  simp [PC.configs]

theorem mem_configsL {c : PC} : ∀ {l : List PC}, c ∈ configsL l ↔ ∃ x ∈ l, c ∈ x.configs
  | [] => by simp [TC.configsL]
  | y :: ys => by
    simp only [TC.configsL, List.mem_append, List.mem_cons, exists_eq_or_imp]
    rw [mem_configsL (l := ys)]

theorem self_mem_configs (c : PC) : c ∈ c.configs := by
  obtain ⟨p, r, e, ps, rs, l, ch, ex⟩ := c
  rw [configs_mk]; exact List.mem_cons_self

theorem configs_sub_nodes : ∀ (pc : PC) (c : PC), c ∈ pc.configs → c ∈ pc.nodes
  | .mk p r e ps rs l ch ex, c, h => by
    rw [configs_mk] at h
    rw [nodes_mk]
    rcases List.mem_cons.1 h with rfl | h
    · exact List.mem_cons_self
    · refine List.mem_cons_of_mem _ (List.mem_append_left _ ?_)
      obtain ⟨x, hx, hcx⟩ := mem_configsL.1 h
      exact mem_nodesL.2 ⟨x, hx, configs_sub_nodes x c hcx⟩
termination_by pc => sizeOf pc
decreasing_by
  simp_wf
  have := List.sizeOf_lt_of_mem hx
  omega

/-- the locale test of `all_locales` on one `PF.Config` -/
def hasLoc (loc : Loc) (c : Config) : Bool :=
  optHas c.locales loc || c.paths.any fun p => optHas p.locales loc

theorem rulesOf_locales (md : Mode) (root : Option Text) (environ : Env) : ∀ (ps : List PathD) (n : Nat),
    (rulesOf md root environ ps n).2.map (·.locales) = ps.map (·.locales)
  | [], _ => by simp [rulesOf]
  | d :: ds, n => by
    simp only [rulesOf, List.map_cons, rulesOf_locales md root environ ds]
    simp [pathSpecs]

theorem optHas_iff {ls : Option (List Loc)} {loc : Loc} :
    optHas ls loc = true ↔ loc ∈ (match ls with | some l => l | none => []) := by
  cases ls <;> simp [optHas]

theorem hasLoc_mk {loc : Loc} {id : Nat} {locales : Option (List Loc)} {rs : List PathRule} {ch ex : List Config}
    {p r e ps rls c x} (h : rs.map (·.locales) = ps.map (·.locales)) :
    hasLoc loc (Config.mk id locales rs ch ex) = true ↔ loc ∈ ownLocales (PC.mk p r e ps rls locales c x) := by
  unfold hasLoc ownLocales
  simp only [Config.locales, Config.paths, PC.locales, PC.paths, Bool.or_eq_true, List.mem_append, optHas_iff]
  refine or_congr Iff.rfl ?_
  rw [List.any_eq_true, List.mem_flatMap]
  constructor
  · rintro ⟨pr, hpr, hl⟩
    have : pr.locales ∈ rs.map (·.locales) := List.mem_map.2 ⟨pr, hpr, rfl⟩
    rw [h] at this
    obtain ⟨d, hd, e⟩ := List.mem_map.1 this
    exact ⟨d, hd, by rw [e]; exact optHas_iff.1 hl⟩
  · rintro ⟨d, hd, hl⟩
    have : d.locales ∈ ps.map (·.locales) := List.mem_map.2 ⟨d, hd, rfl⟩
    rw [← h] at this
    obtain ⟨pr, hpr, e⟩ := List.mem_map.1 this
    exact ⟨pr, hpr, optHas_iff.2 (by rw [e]; exact hl)⟩

theorem pf_configs_mk (id ls rs ch ex) :
    (Config.mk id ls rs ch ex).configs = Config.mk id ls rs ch ex :: PF.configsL ch := by
  simp [Config.configs]

mutual
theorem toCfg_configs (md : Mode) (ids : List (Option Text)) : ∀ (pc : PC) (n : Nat) (cfg : Config),
    cfg ∈ (toCfg md ids pc n).2.configs → ∃ c ∈ pc.configs, ∃ m, cfg = (toCfg md ids c m).2
  | .mk p root environ paths rules locales ch ex, n, cfg, h => by
    simp only [toCfg, pf_configs_mk, List.mem_cons] at h
    rw [configs_mk]
    rcases h with rfl | h
    · exact ⟨_, List.mem_cons_self, n, by simp [toCfg]⟩
    · obtain ⟨c, hc, m, e⟩ := toCfgL_configs md ids ch _ cfg h
      exact ⟨c, List.mem_cons_of_mem _ hc, m, e⟩
theorem toCfgL_configs (md : Mode) (ids : List (Option Text)) : ∀ (pcs : List PC) (n : Nat) (cfg : Config),
    cfg ∈ PF.configsL (toCfgL md ids pcs n).2 → ∃ c ∈ TC.configsL pcs, ∃ m, cfg = (toCfg md ids c m).2
  | [], _, cfg, h => by simp [toCfgL, PF.configsL] at h
  | x :: xs, n, cfg, h => by
    simp only [toCfgL, PF.configsL, List.mem_append] at h
    simp only [TC.configsL, List.mem_append]
    rcases h with h | h
    · obtain ⟨c, hc, m, e⟩ := toCfg_configs md ids x n cfg h
      exact ⟨c, Or.inl hc, m, e⟩
    · obtain ⟨c, hc, m, e⟩ := toCfgL_configs md ids xs _ cfg h
      exact ⟨c, Or.inr hc, m, e⟩
end

theorem parseAll_mem {w : World} {env : Env} {ig : Bool} : ∀ {configs : List Text} {pcs : List PC},
    parseAll w env ig configs = .ok pcs → ∀ pc ∈ pcs, ∃ p ∈ configs, parse w env ig p = .ok pc
  | [], pcs, h => by
    simp only [parseAll, Except.ok.injEq] at h
    subst h
    intro pc hpc; cases hpc
  | p :: ps, pcs, h => by
    unfold parseAll at h
    split at h
    · cases h
    · rename_i c hc
      split at h
      · cases h
      · rename_i cs hcs
        simp only [Except.ok.injEq] at h
        subst h
        intro pc hpc
        rcases List.mem_cons.1 hpc with rfl | hpc
        · exact ⟨p, List.mem_cons_self, hc⟩
        · obtain ⟨q, hq, e⟩ := parseAll_mem hcs pc hpc
          exact ⟨q, List.mem_cons_of_mem _ hq, e⟩

theorem projectFiles_ok {w : World} {env : Env} {ig : Bool} {configs : List Text} {locale : Option Loc}
    {mb : Option Text} {o : PFM.Obj} (h : projectFiles w env ig configs locale mb = .ok o) :
    ∃ pcs, parseAll w env ig configs = .ok pcs ∧
      PFM.newM (toPFM { locale := locale, mergebase := mb, cwd := w.cwd } pcs).1 locale
        (toPFM { locale := locale, mergebase := mb, cwd := w.cwd } pcs).2 mb.isSome = .ok o := by
  unfold projectFiles at h
  split at h
  · cases h
  · rename_i pcs hpcs
    simp only at h
    split at h
    · cases h
    · rename_i o' ho'
      simp only [Except.ok.injEq] at h
      subst h
      exact ⟨pcs, hpcs, ho'⟩

theorem enumerate_ok {w : World} {env : Env} {ig : Bool} {configs : List Text} {locale : Option Loc}
    {mb : Option Text} {fs : FS} {its : List Item} (h : enumerate w env ig configs locale mb fs = .ok its) :
    ∃ o, projectFiles w env ig configs locale mb = .ok o ∧ its = o.pf.iter o.env fs := by
  unfold enumerate at h
  split at h
  · cases h
  · rename_i o ho
    split at h
    · cases h
    · rename_i its' hits
      simp only [Except.ok.injEq] at h
      subst h
      exact ⟨o, ho, PFM.iterM_ok hits⟩

/-- the specs `ss` stand in the table `tbl` from index `k` on -/
def Located (tbl : List PFM.MSpec) (k : Nat) (ss : List PFM.MSpec) : Prop :=
  ∃ pre post, tbl = pre ++ ss ++ post ∧ pre.length = k

theorem Located.split {tbl a b : List PFM.MSpec} {n : Nat} (h : Located tbl n (a ++ b)) :
    Located tbl n a ∧ Located tbl (n + a.length) b := by
  obtain ⟨pre, post, rfl, rfl⟩ := h
  exact ⟨⟨pre, b ++ post, by simp [List.append_assoc], rfl⟩, ⟨pre ++ a, post, by simp [List.append_assoc], by simp⟩⟩

theorem Located.get {tbl : List PFM.MSpec} {k : Nat} {ss : List PFM.MSpec} (h : Located tbl k ss) (i : Nat) (s : PFM.MSpec)
    (hs : ss[i]? = some s) : tbl[k + i]? = some s := by
  obtain ⟨pre, post, rfl, rfl⟩ := h
  rw [List.append_assoc, List.getElem?_append_right (by omega)]
  have : pre.length + i - pre.length = i := by omega
  rw [this, List.getElem?_append_left]
  · exact hs
  · cases Nat.lt_or_ge i ss.length with
    | inl h => exact h
    | inr h =>
      rw [List.getElem?_eq_none h] at hs
      cases hs

/-- a rule of the tree and the place of its matchers in the table -/
def RuleAt (md : Mode) (tbl : List PFM.MSpec) (c : PC) (pr : PathRule) : Prop :=
  ∃ d ∈ c.paths, ∃ k, pr = (pathSpecs md c.root c.environ d k).2 ∧ Located tbl k (pathSpecs md c.root c.environ d k).1

theorem rulesOf_located (md : Mode) (root : Option Text) (environ : Env) (tbl : List PFM.MSpec) :
    ∀ (ps : List PathD) (n : Nat), Located tbl n (rulesOf md root environ ps n).1 →
      ∀ pr ∈ (rulesOf md root environ ps n).2, ∃ d ∈ ps, ∃ k, pr = (pathSpecs md root environ d k).2 ∧
        Located tbl k (pathSpecs md root environ d k).1
  | [], _, _, pr, h => by simp [rulesOf] at h
  | d :: ds, n, htbl, pr, h => by
    simp only [rulesOf] at htbl h
    obtain ⟨h1, h2⟩ := htbl.split
    rcases List.mem_cons.1 h with rfl | h
    · exact ⟨d, List.mem_cons_self, n, rfl, h1⟩
    · obtain ⟨d', hd', k, e, hl⟩ := rulesOf_located md root environ tbl ds _ h2 pr h
      exact ⟨d', List.mem_cons_of_mem _ hd', k, e, hl⟩

mutual
/-- every `PF.Config` below a config: the config, its children's and its excludes' -/
def cfgNodes : Config → List Config
  | .mk p l ps ch ex => .mk p l ps ch ex :: (cfgNodesL ch ++ cfgNodesL ex)
def cfgNodesL : List Config → List Config
  | [] => []
  | c :: cs => cfgNodes c ++ cfgNodesL cs
end

/-- what one `PF.Config` node says about the `ProjectConfig` it was made from: same `locales`, the rules' `locales`
    are those of the `[[paths]]` entries in order, and every rule names the matchers of ITS entry in the table -/
def Corr1 (md : Mode) (tbl : List PFM.MSpec) (c : PC) (cfg : Config) : Prop :=
  cfg.locales = c.locales ∧ cfg.paths.map (·.locales) = c.paths.map (·.locales) ∧ ∀ pr ∈ cfg.paths, RuleAt md tbl c pr

mutual
/-- the `PF.Config` tree mirrors the `ProjectConfig` graph node by node -/
def Corr (md : Mode) (tbl : List PFM.MSpec) : PC → Config → Prop
  | .mk p r e ps rs l ch ex, .mk i l' rs' ch' ex' =>
    Corr1 md tbl (.mk p r e ps rs l ch ex) (.mk i l' rs' ch' ex') ∧ CorrL md tbl ch ch' ∧ CorrL md tbl ex ex'
def CorrL (md : Mode) (tbl : List PFM.MSpec) : List PC → List Config → Prop
  | [], [] => True
  | c :: cs, d :: ds => Corr md tbl c d ∧ CorrL md tbl cs ds
  | _, _ => False
end

mutual
/-- THE induction over `toCfg` that threads the offsets: the tree it returns mirrors the graph -/
theorem toCfg_corr (md : Mode) (ids : List (Option Text)) (tbl : List PFM.MSpec) :
    ∀ (pc : PC) (n : Nat), Located tbl n (toCfg md ids pc n).1 → Corr md tbl pc (toCfg md ids pc n).2
  | .mk p root environ paths rules locales ch ex, n, htbl => by
    simp only [toCfg] at htbl ⊢
    obtain ⟨h12, h3⟩ := htbl.split
    obtain ⟨h1, h2⟩ := h12.split
    rw [List.length_append, ← Nat.add_assoc] at h3
    exact ⟨⟨rfl, rulesOf_locales md root environ paths n, rulesOf_located md root environ tbl paths n h1⟩,
      toCfgL_corr md ids tbl ch _ h2, toCfgL_corr md ids tbl ex _ h3⟩
theorem toCfgL_corr (md : Mode) (ids : List (Option Text)) (tbl : List PFM.MSpec) :
    ∀ (pcs : List PC) (n : Nat), Located tbl n (toCfgL md ids pcs n).1 → CorrL md tbl pcs (toCfgL md ids pcs n).2
  | [], _, _ => trivial
  | x :: xs, n, htbl => by
    simp only [toCfgL] at htbl ⊢
    obtain ⟨h1, h2⟩ := htbl.split
    exact ⟨toCfg_corr md ids tbl x n h1, toCfgL_corr md ids tbl xs _ h2⟩
end

mutual
theorem Corr.nodes {md : Mode} {tbl : List PFM.MSpec} : ∀ {pc : PC} {c : Config}, Corr md tbl pc c →
    ∀ cfg ∈ cfgNodes c, ∃ p ∈ pc.nodes, Corr1 md tbl p cfg
  | .mk p r e ps rs l ch ex, .mk i l' rs' ch' ex', h, cfg, hcfg => by
    rw [nodes_mk]
    simp only [cfgNodes, List.mem_cons, List.mem_append] at hcfg
    rcases hcfg with rfl | hcfg | hcfg
    · exact ⟨_, List.mem_cons_self, h.1⟩
    · obtain ⟨q, hq, hc⟩ := CorrL.nodes h.2.1 cfg hcfg
      exact ⟨q, List.mem_cons_of_mem _ (List.mem_append_left _ hq), hc⟩
    · obtain ⟨q, hq, hc⟩ := CorrL.nodes h.2.2 cfg hcfg
      exact ⟨q, List.mem_cons_of_mem _ (List.mem_append_right _ hq), hc⟩
theorem CorrL.nodes {md : Mode} {tbl : List PFM.MSpec} : ∀ {pcs : List PC} {cs : List Config}, CorrL md tbl pcs cs →
    ∀ cfg ∈ cfgNodesL cs, ∃ p ∈ nodesL pcs, Corr1 md tbl p cfg
  | [], [], _, cfg, hcfg => by simp [cfgNodesL] at hcfg
  | x :: xs, d :: ds, h, cfg, hcfg => by
    simp only [cfgNodesL, List.mem_append] at hcfg
    simp only [nodesL, List.mem_append]
    rcases hcfg with hcfg | hcfg
    · obtain ⟨q, hq, hc⟩ := Corr.nodes h.1 cfg hcfg
      exact ⟨q, Or.inl hq, hc⟩
    · obtain ⟨q, hq, hc⟩ := CorrL.nodes h.2 cfg hcfg
      exact ⟨q, Or.inr hq, hc⟩
  | [], _ :: _, h, _, _ => h.elim
  | _ :: _, [], h, _, _ => h.elim
end

mutual
theorem Corr.configs {md : Mode} {tbl : List PFM.MSpec} : ∀ {pc : PC} {c : Config}, Corr md tbl pc c →
    (∀ cfg ∈ c.configs, ∃ p ∈ pc.configs, Corr1 md tbl p cfg) ∧ (∀ p ∈ pc.configs, ∃ cfg ∈ c.configs, Corr1 md tbl p cfg)
  | .mk p r e ps rs l ch ex, .mk i l' rs' ch' ex', h => by
    rw [configs_mk, pf_configs_mk]
    obtain ⟨h1, h2⟩ := CorrL.configs h.2.1
    refine ⟨fun cfg hcfg => ?_, fun q hq => ?_⟩
    · rcases List.mem_cons.1 hcfg with rfl | hcfg
      · exact ⟨_, List.mem_cons_self, h.1⟩
      · obtain ⟨q, hq, hc⟩ := h1 cfg hcfg
        exact ⟨q, List.mem_cons_of_mem _ hq, hc⟩
    · rcases List.mem_cons.1 hq with rfl | hq
      · exact ⟨_, List.mem_cons_self, h.1⟩
      · obtain ⟨cfg, hcfg, hc⟩ := h2 q hq
        exact ⟨cfg, List.mem_cons_of_mem _ hcfg, hc⟩
theorem CorrL.configs {md : Mode} {tbl : List PFM.MSpec} : ∀ {pcs : List PC} {cs : List Config}, CorrL md tbl pcs cs →
    (∀ cfg ∈ PF.configsL cs, ∃ p ∈ TC.configsL pcs, Corr1 md tbl p cfg) ∧
    (∀ p ∈ TC.configsL pcs, ∃ cfg ∈ PF.configsL cs, Corr1 md tbl p cfg)
  | [], [], _ => by simp [PF.configsL, TC.configsL]
  | x :: xs, d :: ds, h => by
    obtain ⟨a1, a2⟩ := Corr.configs h.1
    obtain ⟨b1, b2⟩ := CorrL.configs h.2
    simp only [PF.configsL, TC.configsL, List.mem_append]
    refine ⟨fun cfg hcfg => ?_, fun q hq => ?_⟩
    · rcases hcfg with hcfg | hcfg
      · obtain ⟨q, hq, hc⟩ := a1 cfg hcfg; exact ⟨q, Or.inl hq, hc⟩
      · obtain ⟨q, hq, hc⟩ := b1 cfg hcfg; exact ⟨q, Or.inr hq, hc⟩
    · rcases hq with hq | hq
      · obtain ⟨cfg, hcfg, hc⟩ := a2 q hq; exact ⟨cfg, Or.inl hcfg, hc⟩
      · obtain ⟨cfg, hcfg, hc⟩ := b2 q hq; exact ⟨cfg, Or.inr hcfg, hc⟩
  | [], _ :: _, h => h.elim
  | _ :: _, [], h => h.elim
end

theorem CorrL.mem {md : Mode} {tbl : List PFM.MSpec} : ∀ {pcs : List PC} {cs : List Config}, CorrL md tbl pcs cs →
    ∀ c ∈ cs, ∃ pc ∈ pcs, Corr md tbl pc c
  | [], [], _, c, hc => by cases hc
  | x :: xs, d :: ds, h, c, hc => by
    rcases List.mem_cons.1 hc with rfl | hc
    · exact ⟨x, List.mem_cons_self, h.1⟩
    · obtain ⟨pc, hpc, hcorr⟩ := CorrL.mem h.2 c hc
      exact ⟨pc, List.mem_cons_of_mem _ hpc, hcorr⟩
  | [], _ :: _, h, _, _ => h.elim
  | _ :: _, [], h, _, _ => h.elim

theorem toCfg_located (md : Mode) (ids : List (Option Text)) (tbl : List PFM.MSpec) :
    ∀ (pc : PC) (n : Nat) (pre post : List PFM.MSpec),
      tbl = pre ++ (toCfg md ids pc n).1 ++ post → pre.length = n →
      ∀ cfg ∈ cfgNodes (toCfg md ids pc n).2, ∀ pr ∈ cfg.paths, ∃ c ∈ pc.nodes, RuleAt md tbl c pr := by
  intro pc n pre post htbl hn cfg hcfg pr hpr
  obtain ⟨c, hc, h⟩ := (toCfg_corr md ids tbl pc n ⟨pre, post, htbl, hn⟩).nodes cfg hcfg
  exact ⟨c, hc, h.2.2 pr hpr⟩

theorem toCfgL_located_configs (md : Mode) (ids : List (Option Text)) (tbl : List PFM.MSpec) :
    ∀ (pcs : List PC) (n : Nat) (pre post : List PFM.MSpec),
      tbl = pre ++ (toCfgL md ids pcs n).1 ++ post → pre.length = n →
      ∀ cfg ∈ PF.configsL (toCfgL md ids pcs n).2, ∀ pr ∈ cfg.paths,
        ∃ c ∈ TC.configsL pcs, cfg.locales = c.locales ∧ RuleAt md tbl c pr := by
  intro pcs n pre post htbl hn cfg hcfg pr hpr
  obtain ⟨c, hc, h⟩ := (toCfgL_corr md ids tbl pcs n ⟨pre, post, htbl, hn⟩).configs.1 cfg hcfg
  exact ⟨c, hc, h.1, h.2.2 pr hpr⟩

theorem toPFM_corr (md : Mode) (pcs : List PC) : CorrL md (toPFM md pcs).1 pcs (toPFM md pcs).2 :=
  toCfgL_corr md (allPathsL pcs) (toPFM md pcs).1 pcs 0 ⟨[], [], by simp [toPFM], rfl⟩

theorem toPFM_located (md : Mode) (pcs : List PC) :
    ∀ cfg ∈ cfgNodesL (toPFM md pcs).2, ∀ pr ∈ cfg.paths, ∃ c ∈ nodesL pcs, RuleAt md (toPFM md pcs).1 c pr := by
  intro cfg hcfg pr hpr
  obtain ⟨c, hc, h⟩ := (toPFM_corr md pcs).nodes cfg hcfg
  exact ⟨c, hc, h.2.2 pr hpr⟩

theorem hasLoc_corr1 {md : Mode} {tbl : List PFM.MSpec} {c : PC} {cfg : Config} (h : Corr1 md tbl c cfg) (loc : Loc) :
    hasLoc loc cfg = true ↔ loc ∈ ownLocales c := by
  obtain ⟨p, r, e, ps, rs, l, ch, ex⟩ := c
  obtain ⟨i, l', rs', ch', ex'⟩ := cfg
  obtain ⟨h1, h2, _⟩ := h
  simp only [Config.locales, PC.locales] at h1
  subst h1
  exact hasLoc_mk h2

theorem Corr.inAllLocales {md : Mode} {tbl : List PFM.MSpec} {pc : PC} {c : Config} (h : Corr md tbl pc c) (loc : Loc) :
    inAllLocales c loc = true ↔ loc ∈ pc.allLocales := by
  obtain ⟨h1, h2⟩ := h.configs
  unfold PF.inAllLocales PC.allLocales
  rw [mem_sortedSet, List.mem_flatMap, List.any_eq_true]
  constructor
  · rintro ⟨cfg, hcfg, hl⟩
    obtain ⟨c', hc', h'⟩ := h1 cfg hcfg
    exact ⟨c', hc', (hasLoc_corr1 h' loc).1 hl⟩
  · rintro ⟨c', hc', hl⟩
    obtain ⟨cfg, hcfg, h'⟩ := h2 c' hc'
    exact ⟨cfg, hcfg, (hasLoc_corr1 h' loc).2 hl⟩

theorem ruleIdsOk_of_ruleAt {md : Mode} {tbl : List PFM.MSpec} {c : PC} {pr : PathRule} (h : RuleAt md tbl c pr) :
    PFM.ruleIdsOk tbl.length pr = true := by
  obtain ⟨d, _, k, rfl, pre, post, rfl, hk⟩ := h
  unfold PFM.ruleIdsOk pathSpecs
  -- the ids are `k`, `k + 1` and `k + 1 + (1 if there is a reference)`, the table has at least that many entries after `pre`
  cases d.reference <;> cases md.mergebase <;> cases md.locale <;> simp [hk, PF.MId] <;> omega

mutual
theorem idsOk_of_nodes (n : Nat) : ∀ (c : Config),
    (∀ cfg ∈ cfgNodes c, ∀ pr ∈ cfg.paths, PFM.ruleIdsOk n pr = true) → PFM.idsOk n c = true
  | .mk p l ps ch ex, h => by
    simp only [PFM.idsOk, Bool.and_eq_true, List.all_eq_true]
    refine ⟨⟨fun pr hpr => h (.mk p l ps ch ex) (by simp [cfgNodes]) pr hpr, ?_⟩, ?_⟩
    · exact idsOkL_of_nodes n ch (fun cfg hcfg => h cfg (by simp [cfgNodes, hcfg]))
    · exact idsOkL_of_nodes n ex (fun cfg hcfg => h cfg (by simp [cfgNodes, hcfg]))
theorem idsOkL_of_nodes (n : Nat) : ∀ (cs : List Config),
    (∀ cfg ∈ cfgNodesL cs, ∀ pr ∈ cfg.paths, PFM.ruleIdsOk n pr = true) → PFM.idsOkL n cs = true
  | [], _ => by simp [PFM.idsOkL]
  | c :: cs, h => by
    simp only [PFM.idsOkL, Bool.and_eq_true]
    exact ⟨idsOk_of_nodes n c (fun cfg hcfg => h cfg (by simp [cfgNodesL, hcfg])),
      idsOkL_of_nodes n cs (fun cfg hcfg => h cfg (by simp [cfgNodesL, hcfg]))⟩
end

theorem ruleAt_specs {md : Mode} {tbl : List PFM.MSpec} {c : PC} {pr : PathRule} (h : RuleAt md tbl c pr) :
    ∃ d ∈ c.paths, pr.locales = d.locales ∧ pr.test = d.test.map (fun ts => ts.map PFM.encode) ∧
      tbl[pr.l10n]? = some (l10nSpec md c.root c.environ d.l10n) ∧
      (match d.reference with
       | some t => ∃ r, pr.reference = some r ∧ tbl[r]? = some (refSpec md c.root c.environ t)
       | none => pr.reference = none) := by
  obtain ⟨d, hd, k, rfl, hl⟩ := h
  refine ⟨d, hd, rfl, rfl, ?_, ?_⟩
  · have := hl.get 0 (l10nSpec md c.root c.environ d.l10n) (by simp [pathSpecs])
    simpa [pathSpecs] using this
  · cases hr : d.reference with
    | none => simp [pathSpecs, hr]
    | some t =>
      refine ⟨k + 1, by simp [pathSpecs, hr], ?_⟩
      exact hl.get 1 (refSpec md c.root c.environ t) (by simp [pathSpecs, hr])

end C13T
