/-
C20 — the `AddRemove` object as a state machine: iterating does not change the state, the
state after a history is (last `set_left` argument, last `set_right` argument), and every iteration
observes the closed form of the CURRENT sides.
-/
import CLModel.Compare.AddRemoveObj
import CLModel.Proofs.AddRemove
namespace C20P
open C20M

variable {α : Type} [BEq α]

omit [BEq α] in
theorem or_or_some (a b : Option (List α)) (l : List α) : ((a.or (some l)).or b) = a.or (some l) := by
  cases a <;> rfl

theorem final_cons (o : Obj α) (op : Op α) (ops : List (Op α)) :
    Obj.final o (op :: ops) = Obj.final (o.step op).1 ops := rfl

theorem final_eq (o : Obj α) (ops : List (Op α)) :
    Obj.final o ops = { left := (curLeft ops).or o.left, right := (curRight ops).or o.right } := by
  induction ops generalizing o with
  | nil => rfl
  | cons op ops ih =>
    rw [final_cons, ih]
    cases op with
    | setLeft l => simp only [Obj.step, curLeft, curRight, or_or_some]
    | setRight r => simp only [Obj.step, curLeft, curRight, or_or_some]
    | iterate => rfl

theorem trace_getElem? (o : Obj α) (ops : List (Op α)) (n : Nat) :
    (Obj.trace o ops)[n]? = (ops[n]?).map (fun op => ((Obj.final o (ops.take n)).step op).2) := by
  induction ops generalizing o n with
  | nil => simp [Obj.trace]
  | cons op ops ih =>
    cases n with
    | zero => simp [Obj.trace, Obj.final]
    | succ n =>
      rw [Obj.trace, List.getElem?_cons_succ, List.getElem?_cons_succ, ih, List.take_succ_cons, final_cons]

theorem trace_length (o : Obj α) (ops : List (Op α)) : (Obj.trace o ops).length = ops.length := by
  induction ops generalizing o with
  | nil => rfl
  | cons op ops ih => simp [Obj.trace, ih]

variable [LawfulBEq α]

theorem iterate_eq_specOut (o : Obj α) : o.iterate = specOut o.left o.right := by
  unfold Obj.iterate specOut
  cases o.left with
  | none => rfl
  | some l =>
    cases o.right with
    | none => rfl
    | some r => simp only [addRemove_eq_specD]

end C20P
