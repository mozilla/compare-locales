/- The pipeline model of C05 (Compare/Pipeline.lean) consults no external function on the four formats other than DTD
   (`f ≠ .dtd`, which is `Pipe.plainFmt f` by `plainFmt_iff`): parsing, `compareFiles` / `compareTexts`, `lintText` and
   `addFile` do not depend on `ext` (the `*_ext_irrel` theorems).  They are the licence for fixing `ext := default` where the
   wire format carries no table of externals (`Ops/C05.lean`; Compare/Pipeline, Compare/Session, ProjectsPipe, Ops/C03, Ops/C10P and
   Props/C17 cite them for that).  On these formats the class is `.plain`, so `resolvePos`, `junkMessage`, `spanOf` are the base
   `Entity` behaviour (`*_plain`) and `count_words()` is `Cmp.countWords` of the `val` (`mkEnt_words`). -/
import CLModel.Compare.Pipeline
import CLModel.Proofs.C05Pipe
namespace PipeBridge
open Pipe

theorem plainFmt_iff (f : P.Fmt) : plainFmt f = true ↔ f ≠ .dtd := by cases f <;> simp [plainFmt]

theorem clsOf_plain {f : P.Fmt} (h : f ≠ .dtd) : clsOf f = .plain := by
  cases f <;> first | rfl | exact absurd rfl h

theorem checkerOf_plain {f : P.Fmt} (h : f ≠ .dtd) : checkerOf f = .base ∨ checkerOf f = .properties := by
  cases f <;> first | exact Or.inl rfl | exact Or.inr rfl | exact absurd rfl h

theorem entVal_plain (ext : Ext) {f : P.Fmt} (h : f ≠ .dtd) (v : P.EntView) : entVal ext f v = v.val := by
  cases f <;> first | rfl | exact absurd rfl h

theorem mkEnt_ext_irrel (ext ext' : Ext) {f : P.Fmt} (h : f ≠ .dtd) (s : Array Nat) (he : Hist.Ent) :
    mkEnt ext f s he = mkEnt ext' f s he := by
  unfold mkEnt
  simp only [entVal_plain ext h, entVal_plain ext' h]

theorem parseFile_ext_irrel (ext ext' : Ext) {f : P.Fmt} (h : f ≠ .dtd) (s : Array Nat) (junkid : Nat) :
    parseFile ext f s junkid = parseFile ext' f s junkid := by
  unfold parseFile
  have : mkEnt ext f s = mkEnt ext' f s := funext (mkEnt_ext_irrel ext ext' h s)
  rw [this]

/-- a Junk keeps the default 0: `compare` / `add` never count one -/
theorem mkEnt_words (ext : Ext) (f : P.Fmt) (s : Array Nat) (he : Hist.Ent) (e : PEnt) (h : mkEnt ext f s he = .ok e) :
    (e.junk = false → e.words = Cmp.countWords e.val) ∧ (e.junk = true → e.words = 0) := by
  unfold mkEnt at h
  cases hj : he.jid with
  | some id =>
    simp only [hj] at h
    cases h
    simp [mkJunk]
  | none =>
    simp only [hj] at h
    split at h
    · cases h
    · split at h
      · cases h
      · cases h
        simp

theorem parseFile_words (ext : Ext) (f : P.Fmt) (s : Array Nat) (junkid : Nat) (ents : List PEnt) (n : Nat)
    (h : parseFile ext f s junkid = .ok (ents, n)) : ∀ e ∈ ents, e.junk = false → e.words = Cmp.countWords e.val := by
  intro e he hj
  obtain ⟨_, _, _, hmem⟩ := parseFile_mem h
  obtain ⟨x, _, _, hx⟩ := hmem e he
  exact (mkEnt_words ext f s x e hx).1 hj

theorem resolvePos_plain (s : Array Nat) (e : PEnt) (p : Pos.CheckPos) :
    resolvePos s .plain e p = Pos.resolveCheckPos s .plain e.entry p := rfl

theorem junkMessage_plain (s : Array Nat) (j : PEnt) :
    junkMessage s .plain j =
      (match Pos.junkMessagePositions s j.entry with
       | none => .error .indexError
       | some (l1, c1, l2, c2) =>
         .ok (Lint.interleave Gen.Tables.junkMessageParts
           [j.val, Lint.showInt l1, Lint.showInt c1, Lint.showInt l2, Lint.showInt c2])) := by
  cases h : Pos.junkMessagePositions s j.entry <;> simp only [junkMessage, h]

theorem entEquals_of_ne_fluent {cls : Cls} (h : cls ≠ .fluent) (a b : PEnt) :
    entEquals cls a b = .ok (a.key == b.key && a.val == b.val) := by
  cases cls <;> first | rfl | exact absurd rfl h

theorem spanOf_plain (e : PEnt) : spanOf .plain e = some (e.entry.s, e.entry.e) := rfl

theorem runChecker_irrel (c c' : CkCtx) (hk : c.kind = c'.kind) (hl : c.locale = c'.locale)
    (hb : c.kind = .base ∨ c.kind = .properties) (r l : PEnt) : runChecker c r l = runChecker c' r l := by
  unfold runChecker
  rcases hb with hb | hb
  · rw [← hk, hb]
  · rw [← hk, hb]; simp only [hl]

/-- two environments that differ in the part of the checker object only `DTDChecker` reads -/
structure EnvSim (a b : Env) : Prop where
  caps : a.caps = b.caps
  cls : a.cls = b.cls
  kind : a.ck.kind = b.ck.kind
  locale : a.ck.locale = b.ck.locale
  plain : a.ck.kind = .base ∨ a.ck.kind = .properties
  file : a.file = b.file
  mergeOn : a.mergeOn = b.mergeOn
  l10nText : a.l10nText = b.l10nText

theorem notify_sim {a b : Env} (h : EnvSim a b) : notify a = notify b := by
  funext obs cat d
  simp only [notify, h.file]

theorem checkLoop_sim {a b : Env} (h : EnvSim a b) (r l : PEnt) :
    ∀ (cs : List CheckRes) (st : ObsM.ObsList × List PEnt), checkLoop a r l cs st = checkLoop b r l cs st
  | [], st => by simp only [checkLoop]
  | c :: cs, (obs, skips) => by
    simp only [checkLoop, h.l10nText, h.cls, h.mergeOn, notify_sim h]
    split
    · rfl
    · split
      · rfl
      · exact checkLoop_sim h r l cs _

theorem step_sim {a b : Env} (h : EnvSim a b) (ref l10n : List PEnt) : step a ref l10n = step b ref l10n := by
  funext st p
  have hck : ∀ r l, runChecker a.ck r l = runChecker b.ck r l :=
    fun r l => runChecker_irrel a.ck b.ck h.kind h.locale h.plain r l
  have hcl : ∀ r l cs st, checkLoop a r l cs st = checkLoop b r l cs st := fun r l => checkLoop_sim h r l
  unfold step
  simp only [notify_sim h, h.l10nText, h.cls, h.mergeOn, hck, hcl]

theorem notifyDups_sim {a b : Env} (h : EnvSim a b) (cat : ObsM.Cat) :
    ∀ (l : List (Cmp.Key × Nat)) (obs : ObsM.ObsList), notifyDups a cat l obs = notifyDups b cat l obs
  | [], obs => by simp only [notifyDups]
  | (k, n) :: rest, obs => by
    simp only [notifyDups, notify_sim h]
    split
    · rfl
    · exact notifyDups_sim h cat rest _

theorem doMerge_sim {a b : Env} (h : EnvSim a b) (ref : List PEnt) (ms : List Cmp.Key) (sk : List PEnt) :
    doMerge a ref ms sk = doMerge b ref ms sk := by
  unfold doMerge
  simp only [h.mergeOn, h.cls, h.caps, h.l10nText]

theorem compareParsed_sim {a b : Env} (h : EnvSim a b) (ref l10n : List PEnt) (obs0 : ObsM.ObsList) :
    compareParsed a ref l10n obs0 = compareParsed b ref l10n obs0 := by
  unfold compareParsed
  simp only [notifyDups_sim h, step_sim h, doMerge_sim h, h.file]

theorem envOf_sim (ext ext' : Ext) {fmt : P.Fmt} (hf : fmt ≠ .dtd) (file : ObsM.File) (mergeOn : Bool) (ref : List PEnt)
    (l10nText : Array Nat) : EnvSim (envOf ext fmt file mergeOn ref l10nText) (envOf ext' fmt file mergeOn ref l10nText) :=
  { caps := rfl, cls := rfl, kind := rfl, locale := rfl, plain := checkerOf_plain hf, file := rfl, mergeOn := rfl,
    l10nText := rfl }

theorem envOf_plain (ext : Ext) {fmt : P.Fmt} (hf : fmt ≠ .dtd) (file : ObsM.File) (mergeOn : Bool) (ref : List PEnt)
    (l10nText : Array Nat) :
    EnvSim (envOf ext fmt file mergeOn ref l10nText)
      { caps := capsOf fmt, cls := .plain, ck := { kind := checkerOf fmt, locale := file.locale }, file := file,
        mergeOn := mergeOn, l10nText := l10nText } :=
  { caps := rfl, cls := clsOf_plain hf, kind := rfl, locale := rfl, plain := checkerOf_plain hf, file := rfl,
    mergeOn := rfl, l10nText := rfl }

theorem compareFiles_ext_irrel (ext ext' : Ext) {fmt : P.Fmt} (hf : fmt ≠ .dtd) (file : ObsM.File) (obs0 : ObsM.ObsList)
    (refText l10nText : Array Nat) (mergeOn : Bool) :
    compareFiles ext fmt file obs0 refText l10nText mergeOn = compareFiles ext' fmt file obs0 refText l10nText mergeOn := by
  unfold compareFiles
  rw [parseFile_ext_irrel ext ext' hf refText 0]
  split
  · rfl
  · rename_i ref n1 _
    rw [parseFile_ext_irrel ext ext' hf l10nText n1]
    split
    · rfl
    · rw [compareParsed_sim (envOf_sim ext ext' hf file mergeOn ref l10nText)]

theorem compareTexts_ext_irrel (ext ext' : Ext) {fmt : P.Fmt} (hf : fmt ≠ .dtd) (refText l10nText : Array Nat)
    (mergeOn : Bool) : compareTexts ext fmt refText l10nText mergeOn = compareTexts ext' fmt refText l10nText mergeOn :=
  compareFiles_ext_irrel ext ext' hf _ _ _ _ _

theorem addFile_ext_irrel (ext ext' : Ext) {fmt : P.Fmt} (hf : fmt ≠ .dtd) (file : ObsM.File) (obs0 : ObsM.ObsList)
    (refText : Array Nat) (mergeOn : Bool) :
    addFile ext fmt file obs0 refText mergeOn = addFile ext' fmt file obs0 refText mergeOn := by
  unfold addFile
  rw [parseFile_ext_irrel ext ext' hf refText 0]

theorem toLintEnt_irrel (c c' : CkCtx) (hk : c.kind = c'.kind) (hl : c.locale = c'.locale)
    (hb : c.kind = .base ∨ c.kind = .properties) (cls : Cls) (vals : List Text) :
    toLintEnt c cls vals = toLintEnt c' cls vals := by
  funext e
  unfold toLintEnt
  rw [runChecker_irrel c c' hk hl hb e e]

theorem lintParsed_ext_irrel (ext ext' : Ext) (path : Text) (kind : CheckerKind) (hb : kind = .base ∨ kind = .properties)
    (cls : Cls) (reference : Option (List PEnt)) (curText : Array Nat) (cur : List PEnt) :
    lintParsed ext path kind cls reference curText cur = lintParsed ext' path kind cls reference curText cur := by
  unfold lintParsed
  simp only
  rw [toLintEnt_irrel { kind := kind, locale := some referenceLocale, xml := ext.xml, refVals := cur.map (·.raw) }
    { kind := kind, locale := some referenceLocale, xml := ext'.xml, refVals := cur.map (·.raw) } rfl rfl hb]

theorem lintText_ext_irrel (ext ext' : Ext) {fmt : P.Fmt} (hf : fmt ≠ .dtd) (refText : Option (Array Nat))
    (curText : Array Nat) : lintText ext fmt refText curText = lintText ext' fmt refText curText := by
  unfold lintText
  cases refText with
  | none =>
    simp only
    rw [parseFile_ext_irrel ext ext' hf curText 0]
    split
    · rfl
    · exact lintParsed_ext_irrel ext ext' _ _ (checkerOf_plain hf) _ _ _ _
  | some t =>
    simp only
    rw [parseFile_ext_irrel ext ext' hf t 0]
    split
    · rfl
    · rename_i ref n1 _
      rw [parseFile_ext_irrel ext ext' hf curText n1]
      split
      · rfl
      · exact lintParsed_ext_irrel ext ext' _ _ (checkerOf_plain hf) _ _ _ _

end PipeBridge
