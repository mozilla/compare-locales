/- The largest matching class `InClassA` (literals, `*`, `**/`, final `**`, fully bound variables and their repetitions,
   `{android_locale}` with a bound locale and its repetitions): the tokens a pattern of the class compiles to (`class_toksA`),
   expand -> match on the engine level (`run_fillA`; the smaller classes are instances, `C12BFill`), and the `locale` entry that
   `match` derives from the Android form (`match_fillA`). -/
import CLModel.Proofs.C12BNest
namespace C12AC
open Rx PM C11R C12B

/-- the Android form of the bound locale (`AndroidLocale._get_android_locale(env)`), "" if there is none -/
def androidText (env : Env) : Text :=
  match getAndroidLocale (expandVal (fuelFor env)) env with
  | .ok (some a) => a
  | _ => []

def pieceOfA (vs : Nat → Text) (env : Env) : Node → Piece
  | .android false => .grp (androidText env)
  | .android true => .lit (androidText env)
  | n => pieceOfB vs env n

/-- the path obtained by filling the wildcards, expanding the variables and `{android_locale}` -/
def fillA (vs : Nat → Text) (env : Env) (ns : List Node) : Text := piecesText (ns.map (pieceOfA vs env))

def WellSepA (vs : Nat → Text) (env : Env) (ns : List Node) : Prop := PSep (ns.map (pieceOfA vs env))

/-- **the class with repeated variables and `{android_locale}`** (bound locale).  `Kn` = the groups captured so far:
    index and text -/
def InClassA (env : Env) : List (Nat × Text) → List Node → Prop
  | _, [] => True
  | Kn, .lit _ :: r => InClassA env Kn r
  | Kn, .star _ :: r => InClassA env Kn r
  | Kn, .starstar _ sfx :: r => (sfx = [47] ∨ sfx = []) ∧ InClassA env Kn r
  | Kn, .var name false :: r =>
    (∃ t, expandNode (expandVal (fuelFor env)) (.var name false) env true = .ok t) ∧
      InClassA env ((encName name, varText env (.var name false)) :: Kn) r
  | Kn, .var name true :: r => (encName name, varText env (.var name true)) ∈ Kn ∧ InClassA env Kn r
  | Kn, .android false :: r =>
    (∃ a, getAndroidLocale (expandVal (fuelFor env)) env = .ok (some a)) ∧
      InClassA env ((encName androidName, androidText env) :: Kn) r
  | Kn, .android true :: r => (encName androidName, androidText env) ∈ Kn ∧ InClassA env Kn r

def nameOfA : Node → List Text
  | .android false => [androidName]
  | .android true => []
  | n => nameOfB n

def valOfA (vs : Nat → Text) (env : Env) : Node → Option Text
  | .android _ => some (androidText env)
  | n => valOf vs env n

def ResA (vs : Nat → Text) (env : Env) (Kn : List (Nat × Text)) (ns : List Node) (citems : List Re) (names : List Text) : Prop :=
  ∃ ts : List BTok, citems = itemsB ts ∧ (ts.map BTok.plain).map Tok.piece = ns.map (pieceOfA vs env) ∧
      GlOK (ts.map BTok.plain) ∧ BrefOK Kn ts ∧
      ∀ n ∈ ns, ∀ nm ∈ nameOfA n, nm ∈ names ∧ ∃ tok ∈ ts.map BTok.plain, encName nm ∈ tok.idx ∧ tok.val = valOfA vs env n

theorem glOK_glit (i : Nat) (t : Text) : GlOK [Tok.glit i t] := by
  intro tok ht i' b' t' F' he
  simp only [List.mem_singleton] at ht; subst ht
  simp only [Tok.glit, Tok.gl.injEq] at he
  obtain ⟨rfl, rfl, rfl, rfl⟩ := he
  exact ⟨glRun_lits t, glIdx_lits t⟩

/-- One node at a time: `glue` puts the token of the head node in front of the tokens of the rest (with the groups known
    after it); nodes of the smaller class get their token from `class_tok` (`simple`), a first occurrence of a variable or of
    `{android_locale}` adds its group to the known ones, a repetition is a back-reference to a known group. -/
theorem class_toksA {vs : Nat → Text} {env : Env} (henv : EnvOK env) : ∀ {ns : List Node} {citems : List Re}
    {names : List Text} {Kn : List (Nat × Text)}, InClassA env Kn ns →
    rxChildren (rxVal (fuelFor env)) ns env = .ok (citems, names) →
    ResA vs env Kn ns citems names
  | [], citems, names, Kn, _, hr => by
    simp only [rxChildren, pure, Except.pure, Except.ok.injEq, Prod.mk.injEq] at hr
    obtain ⟨rfl, rfl⟩ := hr
    unfold ResA
    refine ⟨[], rfl, rfl, ?_, trivial, ?_⟩
    · intro tok h; cases h
    · intro n h; cases h
  | c :: cs, citems, names, Kn, hcls, hr => by
    obtain ⟨a, na, b, nb, h1, h2, rfl, rfl⟩ := rxChildren_cons hr
    have glue : ∀ (bt : BTok) (Kn' : List (Nat × Text)), InClassA env Kn' cs →
        a = bt.items → bt.plain.piece = pieceOfA vs env c → GlOK [bt.plain] →
        (∀ r : List BTok, BrefOK Kn' r → BrefOK Kn (bt :: r)) →
        (∀ nm ∈ nameOfA c, nm ∈ na ∧ encName nm ∈ bt.plain.idx ∧ bt.plain.val = valOfA vs env c) →
        ResA vs env Kn (c :: cs) (a ++ b) (na ++ nb) := by
      intro bt Kn' hc' ha hp hg hbr hnc
      obtain ⟨ts, hb, hps, hgs, hbrs, hns⟩ := class_toksA (vs := vs) henv hc' h2
      unfold ResA
      refine ⟨bt :: ts, by rw [itemsB_cons, ha, hb], by simp [hp, hps], ?_, hbr ts hbrs, ?_⟩
      · intro tok' ht
        simp only [List.map_cons, List.mem_cons] at ht
        rcases ht with rfl | ht
        · exact hg _ (by simp)
        · exact hgs _ ht
      · intro n hn nm hnm
        rcases List.mem_cons.mp hn with rfl | hn
        · obtain ⟨x1, x2, x3⟩ := hnc nm hnm
          exact ⟨List.mem_append.mpr (Or.inl x1), bt.plain, by simp, x2, x3⟩
        · obtain ⟨x1, tok', x2, x3, x4⟩ := hns n hn nm hnm
          exact ⟨List.mem_append.mpr (Or.inr x1), tok', by simp [x2], x3, x4⟩
    have simple : ∀ (hc : InClassN env c) (hrest : InClassA env Kn cs) (hpb : pieceOfA vs env c = pieceOf vs env c)
        (hnb : nameOfA c = nameOfN c) (hvb : valOfA vs env c = valOf vs env c) (hng : ∀ t, pieceOf vs env c ≠ .grp t),
        ResA vs env Kn (c :: cs) (a ++ b) (na ++ nb) := by
      intro hc hrest hpb hnb hvb hng
      obtain ⟨tok, ha, hp, hg, hnc⟩ := class_tok (vs := vs) henv hc h1
      have hnongl := piece_nongrp (tok := tok) (by rw [hp]; exact hng)
      exact glue (.base tok) Kn hrest ha (by simpa [BTok.plain, hpb] using hp) hg
        (fun r hbr => (brefOK_base_nongl hnongl).mpr hbr) (by rw [hnb, hvb]; exact hnc)
    cases c with
    | lit t => exact simple trivial hcls rfl rfl rfl (by intro t' h; cases h)
    | star k => exact simple trivial hcls rfl rfl rfl (by intro t' h; cases h)
    | starstar k sfx =>
      exact simple hcls.1 hcls.2 rfl rfl rfl (by intro t' h; simp only [pieceOf] at h; split at h <;> cases h)
    | var name rep =>
      cases rep with
      | false =>
        obtain ⟨⟨t, ht⟩, hrest⟩ := hcls
        obtain ⟨tok, ha, hp, hg, hnc⟩ := class_tok (vs := vs) henv (n := .var name false) ⟨rfl, t, ht⟩ h1
        obtain ⟨i, body, F, rfl⟩ := piece_grp_gl (t := varText env (.var name false)) (by rw [hp]; rfl)
        obtain ⟨_, hidx, _⟩ := hnc name (by simp [nameOfN])
        have hi : i = encName name := by
          simp only [Tok.idx, List.mem_singleton] at hidx; exact hidx.symm
        subst hi
        exact glue (.base (.gl (encName name) body _ F)) ((encName name, varText env (.var name false)) :: Kn)
          hrest ha hp hg (fun r hbr => hbr) hnc
      | true =>
        obtain ⟨hmem, hrest⟩ := hcls
        simp only [rxNode, if_true, pure, Except.pure, Except.ok.injEq, Prod.mk.injEq] at h1
        obtain ⟨rfl, rfl⟩ := h1
        refine glue (.bref (encName name) (varText env (.var name true))) Kn hrest rfl rfl ?_
          (fun r hbr => ⟨hmem, hbr⟩) (by intro nm h; simp [nameOfA, nameOfB] at h)
        intro tok' ht i' body' t' F' he
        simp only [List.mem_singleton] at ht; subst ht
        simp [BTok.plain] at he
    | android rep =>
      cases rep with
      | false =>
        obtain ⟨⟨al, hal⟩, hrest⟩ := hcls
        have hat : androidText env = al := by simp [androidText, hal]
        simp only [rxNode, Bool.false_eq_true, if_false, hal, bind, Except.bind, pure, Except.pure, Except.ok.injEq,
          Prod.mk.injEq] at h1
        obtain ⟨rfl, rfl⟩ := h1
        refine glue (.base (Tok.glit (encName androidName) al)) ((encName androidName, androidText env) :: Kn)
          hrest rfl (by simp [BTok.plain, Tok.glit, Tok.piece, pieceOfA, hat]) (glOK_glit _ _)
          (fun r hbr => by rw [hat] at hbr; exact hbr) ?_
        intro nm h
        simp only [nameOfA, List.mem_singleton] at h; subst h
        exact ⟨by simp, by simp [BTok.plain, Tok.glit, Tok.idx], by simp [BTok.plain, Tok.glit, Tok.val, valOfA, hat]⟩
      | true =>
        obtain ⟨hmem, hrest⟩ := hcls
        simp only [rxNode, if_true, pure, Except.pure, Except.ok.injEq, Prod.mk.injEq] at h1
        obtain ⟨rfl, rfl⟩ := h1
        refine glue (.bref (encName androidName) (androidText env)) Kn hrest rfl rfl ?_
          (fun r hbr => ⟨hmem, hbr⟩) (by intro nm h; simp [nameOfA] at h)
        intro tok' ht i' body' t' F' he
        simp only [List.mem_singleton] at ht; subst ht
        simp [BTok.plain] at he

theorem run_fillA {m : Matcher} {vs : Nat → Text} {re : Re} {names : List Text} {rt : Text}
    (henv : EnvOK m.env) (hcls : InClassA m.env [] m.pattern.nodes)
    (hre : m.regexOf = .ok (re, names))
    (hroot : rootOf (expandVal (fuelFor m.env)) m.pattern m.env = .ok rt)
    (hsep : WellSepA vs m.env m.pattern.nodes) :
    ∃ st, matchAt (rt ++ fillA vs m.env m.pattern.nodes).toArray re 0 = some st ∧
      ∀ n ∈ m.pattern.nodes, ∀ nm ∈ nameOfA n, nm ∈ names ∧
        groupText (rt ++ fillA vs m.env m.pattern.nodes).toArray st (encName nm) = valOfA vs m.env n := by
  obtain ⟨items, hrx, hreq, hwf⟩ := regexOf_inv hre
  obtain ⟨root, citems, hroot', hch, hitems⟩ := rxPat_inv hrx
  rw [hroot] at hroot'
  simp only [Except.ok.injEq] at hroot'
  subst hroot'
  obtain ⟨ts, rfl, hps, hgl, hbr, hnm⟩ := class_toksA (vs := vs) (Kn := []) henv hcls hch
  have hsep' : Sep (ts.map BTok.plain) := sep_of_psep _ (by rw [hps]; exact hsep) hgl
  have htxt : fillA vs m.env m.pattern.nodes = toksText (ts.map BTok.plain) := by
    unfold fillA; rw [← hps, toksText_pieces]
  have hcount : ∀ i, (toksAll (ts.map BTok.plain)).count i ≤ 1 := by
    intro i
    have := wfRe_unique hwf i
    rw [hreq, gidx_seqOf, hitems] at this
    simp only [List.flatMap_append, List.count_append, itemsB_gidx] at this
    omega
  rw [htxt]
  have hrun : matchAt (rt ++ toksText (ts.map BTok.plain)).toArray re 0 =
      some ⟨(rt ++ toksText (ts.map BTok.plain)).toArray.size, capsAfter rt.length (ts.map BTok.plain) []⟩ := by
    unfold matchAt
    have hanchor : Gen.Pat.matcher_frag_anchor = Re.eos := rfl
    rw [hreq, hitems, List.append_assoc, hanchor,
      m_lits_ok (rt ++ toksText (ts.map BTok.plain)).toArray rt _ ⟨0, []⟩ some (textAt_toArray_zero _ _)]
    rw [sim _ ts [] _ [Re.eos] some hsep' (by intro e he; cases he) hbr (by simp) (by intro e he; cases he) hcount]
    have := run_toks (rt ++ toksText (ts.map BTok.plain)).toArray (ts.map BTok.plain) ⟨0 + rt.length, []⟩ hsep'
      (by simp only [Nat.zero_add]; exact textAt_toArray_right rt _)
      (by simp)
    simpa using this
  refine ⟨_, hrun, ?_⟩
  intro n hn nm hnmem
  obtain ⟨h1, tok, htok, hidx, hval⟩ := hnm n hn nm hnmem
  refine ⟨h1, ?_⟩
  rw [← hval]
  exact groupText_capsAfter _ _ (ts.map BTok.plain) rt.length [] hsep'
    (textAt_toArray_right rt _) hcount (fun i _ => by simp [capOf]) tok htok _ hidx

theorem match_fillA {m : Matcher} {vs : Nat → Text} {re : Re} {names : List Text} {rt l : Text}
    (henv : EnvOK m.env) (hcls : InClassA m.env [] m.pattern.nodes)
    (hre : m.regexOf = .ok (re, names))
    (hroot : rootOf (expandVal (fuelFor m.env)) m.pattern m.env = .ok rt)
    (hsep : WellSepA vs m.env m.pattern.nodes)
    (hand : Node.android false ∈ m.pattern.nodes) (hloc : localeName ∉ names)
    (hstd : toStandard (androidText m.env) = .ok l) :
    ∃ g : Text → Option Text,
      m.match (rt ++ fillA vs m.env m.pattern.nodes) =
        .ok (some (names.map (fun nm => (nm, g nm)) ++ [(localeName, some l)])) ∧
      g androidName = some (androidText m.env) ∧
      ∀ n ∈ m.pattern.nodes, ∀ nm ∈ nameOfA n, nm ∈ names ∧ g nm = valOfA vs m.env n := by
  obtain ⟨st, hst, hg⟩ := run_fillA henv hcls hre hroot hsep
  obtain ⟨hamem, haval⟩ := hg _ hand androidName (by simp [nameOfA])
  refine ⟨fun nm => groupText (rt ++ fillA vs m.env m.pattern.nodes).toArray st (encName nm), ?_, haval, hg⟩
  have hany1 : (groupDict (rt ++ fillA vs m.env m.pattern.nodes).toArray st names).any (fun x => x.1 == androidName) = true :=
    any_key_groupDict.mpr hamem
  have hany2 : (groupDict (rt ++ fillA vs m.env m.pattern.nodes).toArray st names).any (fun x => x.1 == localeName) = false :=
    Bool.eq_false_iff.mpr fun hc => hloc (any_key_groupDict.mp hc)
  have hlk : (groupDict (rt ++ fillA vs m.env m.pattern.nodes).toArray st names).lookup androidName =
      some (some (androidText m.env)) := by
    unfold groupDict
    rw [lookup_map_mem _ androidName names hamem, haval]
    rfl
  simp only [Matcher.match, hre, bind, Except.bind, hst, hany1, hany2, Bool.not_false, Bool.and_self, if_true, hlk, hstd,
    pure, Except.pure]
  rfl

theorem lookup_map_none {β} (f : Text → β) (k : Text) (names : List Text) (h : k ∉ names) :
    (names.map (fun nm => (nm, f nm))).lookup k = none :=
  (lookup_map_graph f k names).trans (if_neg h)

theorem lookup_append_of_none {β} (k : Text) (l r : List (Text × β)) (h : l.lookup k = none) :
    (l ++ r).lookup k = r.lookup k := by
  rw [List.lookup_append, h]; rfl

theorem getAndroid_ok_of {env : Env} {a : Text}
    (h : (match getAndroidLocale (expandVal (fuelFor env)) env with
      | .ok (some x) => x == a
      | _ => false) = true) : getAndroidLocale (expandVal (fuelFor env)) env = .ok (some a) := by
  split at h
  · rename_i x hx
    have : x = a := by simpa using h
    rw [hx, this]
  · cases h

theorem regexOf_noLocale_of {m : Matcher}
    (h : (match m.regexOf with | .ok x => !x.2.contains localeName | .error _ => false) = true) :
    ∃ re names, m.regexOf = .ok (re, names) ∧ localeName ∉ names :=
  regexOf_ok_of localeName h

end C12AC
