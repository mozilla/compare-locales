/-
Versions printed one record per line in ANY line format (`body r ⏎` per record, e.g. `<!ENTITY k "v">`,
`#define k v`): the merged text is itself the printed file of a record list `recs` with every key once, a key iff some
version has it, the newest version's record (`merged_printed`).  Format-independent; a format supplies what the merge
sees of the walk of a printed version and the re-parse of a printed file (the two C02 round trips), and
`merge_reparses_printed` is its re-parse theorem.
-/
import CLModel.Proofs.C15RStrict
import CLModel.Proofs.C16RProps
namespace C15R
open Merge

/-- what the merge sees of a one-newline white-space entry (object number `n` of version `ver`) -/
def nlEnt (ver n : Nat) : Ent := { kind := .whitespace, ekey := .str [10], val := [], all := [10], oid := (ver, n) }

theorem toEnt_ws (f : P.Fmt) (hf : (f == P.Fmt.po) = false) (s : Array Nat) (nl ver idx : Nat) (h : s[nl]? = some 10) :
    toEnt f s ver idx (P.wsEntry nl) = .ok (nlEnt ver idx) := by
  have : P.slice s nl (nl + 1) = [10] := Txt.extract_one h
  simp [toEnt, ekeyOf, hf, P.wsEntry, P.Entry.all, nlEnt, this]

theorem nodup_map_str : ∀ (l : List (List Nat)), l.Nodup → (l.map EKey.str).Nodup := by
  intro l
  induction l with
  | nil => intro _; simp
  | cons a l ih =>
    intro h
    rw [List.nodup_cons] at h
    rw [List.map_cons, List.nodup_cons]
    refine ⟨?_, ih h.2⟩
    intro hm
    rw [List.mem_map] at hm
    obtain ⟨b, hb, e⟩ := hm
    injection e with e
    subst e
    exact h.1 hb

end C15R

namespace C15S
open AR Merge C16R C15R
open P (PRec)

/-- a line format: the text of the entity of a record (without the newline), and how to read the value back from the
    key and that text -/
structure LineFmt where
  body : PRec → List Nat
  val : List Nat → List Nat → List Nat
  /-- the record stands for a section header (`IniSection`), not for an entity: the merge treats both alike -/
  sect : PRec → Bool := fun _ => false

variable (L : LineFmt)

def printL (rs : List PRec) : List Nat := (rs.map (fun r => L.body r ++ [10])).flatten

/-- what the merge sees of the entity parsed from the line of record `r` -/
def lineEnt (ver n : Nat) (r : PRec) : Ent :=
  { kind := if L.sect r then .section else .entity, ekey := .str r.1, val := [], all := L.body r, oid := (ver, n) }

theorem lineEnt_keyed (ver n : Nat) (r : PRec) : (lineEnt L ver n r).keyed = true := by
  unfold lineEnt Ent.keyed; cases L.sect r <;> rfl

theorem lineEnt_isWs (ver n : Nat) (r : PRec) : (lineEnt L ver n r).isWs = false := by
  unfold lineEnt Ent.isWs; cases L.sect r <;> rfl

def lineEnts (ver : Nat) : Nat → List PRec → List Ent
  | _, [] => []
  | n, r :: rs => lineEnt L ver n r :: nlEnt ver (n + 1) :: lineEnts ver (n + 2) rs

theorem toEnt_rec (f : P.Fmt) (hf : (f == P.Fmt.po) = false) (s : Array Nat) (off : Nat) (A B C : List Nat) (r : PRec)
    (rest : List Nat) (ver idx : Nat) (e : P.Entry)
    (h : s.toList.drop off = A ++ (r.1 ++ (B ++ (r.2 ++ (C ++ 10 :: rest)))))
    (hb : L.body r = A ++ r.1 ++ B ++ r.2 ++ C) (hs : L.sect r = false) (hkind : e.kind = .entity) (hfull : e.full = off)
    (he : e.e = off + A.length + r.1.length + B.length + r.2.length + C.length)
    (hks : e.ks = ((off + A.length : Nat) : Int)) (hke : e.ke = ((off + A.length + r.1.length : Nat) : Int)) :
    toEnt f s ver idx e = .ok (lineEnt L ver idx r) := by
  obtain ⟨_, hk, _, hall, _, _⟩ := fields_slices s off A r.1 B r.2 C rest h
  simp only [toEnt, ekeyOf, hf, hkind, P.Entry.all, hfull, he, hks, hke, Int.toNat_natCast, hk, hall, lineEnt, hb, hs]
  simp

theorem toEnts_records (f : P.Fmt) (hf : (f == P.Fmt.po) = false) (s : Array Nat) (ver : Nat) {σ β : Type} {S : C02P.GSpec σ β}
    {g : PRec → β} {pr : PRec → List Nat} {ent : Nat → PRec → P.Entry} {exp : Nat → List PRec → List P.Entry}
    {view : PRec → Option P.EntView} {Safe : PRec → Prop} (E : C02P.Embeds S g pr ent exp view Safe)
    (hpr : ∀ r, pr r = L.body r ++ [10])
    (hr : ∀ off r rest idx, s.toList.drop off = pr r ++ rest → toEnt f s ver idx (ent off r) = .ok (lineEnt L ver idx r)) :
    ∀ (rs : List PRec) (off n : Nat), s.toList.drop off = (rs.map pr).flatten →
      toEnts f s ver ((exp off rs).zipIdx n) = .ok (lineEnts L ver n rs)
  | [], off, _, _ => by rw [E.nil]; rfl
  | r :: rs, off, n, h => by
    rw [List.map_cons, List.flatten_cons] at h
    have hl := E.len off r
    rw [hpr r] at h hl
    obtain ⟨hnl, hd⟩ := record_step h hl
    rw [← hpr r] at h
    rw [E.cons]
    simp only [List.zipIdx_cons, toEnts, lineEnts]
    rw [hr off r _ n h, toEnt_ws f hf s _ ver (n + 1) hnl, toEnts_records f hf s ver E hpr hr rs _ (n + 1 + 1) hd]

def versEnts (j : Nat) (vers : List (List PRec)) : List (List Ent) := (vers.zipIdx j).map (fun p => lineEnts L p.2 0 p.1)

theorem versEnts_getElem? (vers : List (List PRec)) (i : Nat) :
    (versEnts L 0 vers)[i]? = (vers[i]?).map (fun rs => lineEnts L i 0 rs) := by
  unfold versEnts
  rw [List.getElem?_map, List.getElem?_zipIdx]
  cases vers[i]? <;> simp

theorem versEnts_some (vers : List (List PRec)) (i : Nat) {es : List Ent} (h : (versEnts L 0 vers)[i]? = some es) :
    ∃ rs, vers[i]? = some rs ∧ lineEnts L i 0 rs = es := by
  rw [versEnts_getElem?] at h
  exact Option.map_eq_some_iff.1 h

theorem alt_lineEnts (ver : Nat) : ∀ (rs : List PRec) (n : Nat), Alt Ent.isWs (lineEnts L ver n rs) := by
  intro rs
  induction rs with
  | nil => intro _; exact alt_nil
  | cons r rs ih => intro n; exact alt_cons_cons rfl (ih (n + 2))

theorem keys_lineEnts (ver : Nat) : ∀ (rs : List PRec) (n : Nat),
    ((lineEnts L ver n rs).filter (·.keyed)).map (·.ekey) = rs.map (fun r => EKey.str r.1) := by
  intro rs
  induction rs with
  | nil => intro _; rfl
  | cons r rs ih =>
    intro n
    have h1 := lineEnt_keyed L ver n r
    have h2 : (nlEnt ver (n + 1)).keyed = false := rfl
    simp only [lineEnts, List.filter_cons, h1, h2, if_true, Bool.false_eq_true, if_false, List.map_cons, ih]
    rfl

theorem nodupKeys_lineEnts (ver n : Nat) (rs : List PRec) (h : (rs.map (·.1)).Nodup) : NodupKeys (lineEnts L ver n rs) := by
  unfold NodupKeys
  rw [keys_lineEnts]
  have := nodup_map_str _ h
  rwa [List.map_map] at this

theorem noAdjWs_lineEnts (ver : Nat) : ∀ (rs : List PRec) (n : Nat), NoAdjWs (lineEnts L ver n rs) := by
  intro rs
  induction rs with
  | nil => intro _; trivial
  | cons r rs ih =>
    intro n
    cases rs with
    | nil => exact ⟨fun h => (by rw [lineEnt_isWs] at h; cases h.1), trivial⟩
    | cons r' rs' =>
      refine ⟨fun h => (by rw [lineEnt_isWs] at h; cases h.1), fun h => (by rw [lineEnt_isWs] at h; cases h.2), ?_⟩
      exact ih (n + 2)

theorem mem_lineEnts (ver : Nat) : ∀ (rs : List PRec) (n : Nat) (e : Ent), e ∈ lineEnts L ver n rs →
    (∃ i, e = nlEnt ver i) ∨ ∃ r ∈ rs, ∃ i, e = lineEnt L ver i r := by
  intro rs
  induction rs with
  | nil => intro _ e he; simp [lineEnts] at he
  | cons r rs ih =>
    intro n e he
    simp only [lineEnts, List.mem_cons] at he
    rcases he with rfl | rfl | he
    · exact .inr ⟨r, by simp, n, rfl⟩
    · exact .inl ⟨n + 1, rfl⟩
    · rcases ih (n + 2) e he with h | ⟨r', hr', h⟩
      · exact .inl h
      · exact .inr ⟨r', by simp [hr'], h⟩

theorem lineEnt_mem_lineEnts (ver : Nat) : ∀ (rs : List PRec) (n : Nat) (r : PRec), r ∈ rs → ∃ i, lineEnt L ver i r ∈ lineEnts L ver n rs := by
  intro rs
  induction rs with
  | nil => intro _ r hr; simp at hr
  | cons r' rs ih =>
    intro n r hr
    rcases List.mem_cons.1 hr with rfl | hr'
    · exact ⟨n, by simp [lineEnts]⟩
    · obtain ⟨i, hi⟩ := ih (n + 2) r hr'
      exact ⟨i, by simp [lineEnts, hi]⟩

/-- the record read back from a dict entry: its key, and the value `L.val` finds in its text -/
def pairRec (p : Key × Ent) : PRec :=
  match p.1 with
  | .ent (.str k) => (k, L.val k p.2.all)
  | _ => ([], [])

/-- a one-newline Whitespace object, or an entity stored under its key whose text is the line of a good record -/
def GoodPair (Sf : PRec → Prop) (p : Key × Ent) : Prop :=
  (p.2.isWs = true ∧ p.2.all = [10]) ∨
  (p.2.isWs = false ∧ Sf (pairRec L p) ∧ p.1 = Key.ent (.str (pairRec L p).1) ∧ p.2.all = L.body (pairRec L p))

theorem pairRec_of (hval : ∀ r, L.val r.1 (L.body r) = r.2) (p : Key × Ent) (r : PRec)
    (h1 : p.1 = Key.ent (.str r.1)) (h2 : p.2.all = L.body r) : pairRec L p = r := by
  unfold pairRec
  rw [h1, h2]
  simp only
  rw [hval r]

theorem goodPair_of (hval : ∀ r, L.val r.1 (L.body r) = r.2) {Sf : PRec → Prop} (p : Key × Ent) (r : PRec) (hs : Sf r)
    (hw : p.2.isWs = false) (h1 : p.1 = Key.ent (.str r.1)) (h2 : p.2.all = L.body r) : GoodPair L Sf p := by
  have := pairRec_of L hval p r h1 h2
  exact .inr ⟨hw, by rw [this]; exact hs, by rw [this]; exact h1, by rw [this]; exact h2⟩

theorem good_versionDict (hval : ∀ r, L.val r.1 (L.body r) = r.2) (Sf : PRec → Prop) (i n : Nat) (rs : List PRec)
    (hs : ∀ r ∈ rs, Sf r) : ∀ p ∈ versionDict i (lineEnts L i n rs), GoodPair L Sf p := by
  intro p hp
  obtain ⟨e, he, hsb, hkey⟩ := versionDict_mem_inv i _ p hp
  rcases mem_lineEnts L i rs n e he with ⟨j, rfl⟩ | ⟨r, hr, j, rfl⟩
  · left
    exact ⟨by rw [sameBut_isWs _ _ hsb]; rfl, by rw [hsb.2.2.2]; rfl⟩
  · exact goodPair_of L hval p r (hs r hr) (by rw [sameBut_isWs _ _ hsb]; exact lineEnt_isWs L i j r) (hkey (lineEnt_keyed L i j r))
      (by rw [hsb.2.2.2]; rfl)

theorem mem_versionDicts_versEnts (vers : List (List PRec)) (dv : Dict) (h : dv ∈ versionDicts (versEnts L 0 vers)) :
    ∃ i rs, vers[i]? = some rs ∧ dv = versionDict i (lineEnts L i 0 rs) := by
  obtain ⟨i, es, hi, rfl⟩ := (mem_versionDicts _ dv).1 h
  obtain ⟨rs, hv, hi⟩ := versEnts_some L vers i hi
  exact ⟨i, rs, hv, by rw [← hi]⟩

theorem strict_versionDict (i n : Nat) (rs : List PRec) (hnd : (rs.map (·.1)).Nodup) :
    Strict (versionDict i (lineEnts L i n rs)) := by
  have hk := nodupKeys_lineEnts L i n rs hnd
  apply strict_of
  · exact alt_versionDict i _ hk (alt_lineEnts L i rs n)
  · exact noAdj_versionDict i _ hk (noAdjWs_lineEnts L i rs n)
  · rw [versionDict_eq i _ hk]
    cases rs with
    | nil => rfl
    | cons r rs' =>
      simp only [lineEnts, stamp, List.zipIdx_cons, List.map_cons, pairs, hw, pws, getKeyValue_snd]
      exact lineEnt_isWs L i n r

theorem printed_of_strict (Sf : PRec → Prop) : ∀ d : List (Key × Ent), Strict d → (∀ p ∈ d, GoodPair L Sf p) →
    serialize d = printL L ((nws d).map (pairRec L))
  | [], _, _ => rfl
  | [_], h, _ => by simp [Strict] at h
  | p :: q :: r, h, hg => by
    obtain ⟨hp, hq, hr⟩ := h
    have ih := printed_of_strict Sf r hr (fun x hx => hg x (by simp [hx]))
    have hpa : p.2.all = L.body (pairRec L p) := by
      rcases hg p (by simp) with ⟨hw1, _⟩ | ⟨_, _, _, ha⟩
      · rw [hp] at hw1; cases hw1
      · exact ha
    have hqa : q.2.all = [10] := by
      rcases hg q (by simp) with ⟨_, ha⟩ | ⟨hw1, _⟩
      · exact ha
      · rw [hq] at hw1; cases hw1
    have hs : serialize (p :: q :: r) = p.2.all ++ (q.2.all ++ serialize r) := by simp [serialize]
    rw [hs, ih, hpa, hqa]
    have hn : nws (p :: q :: r) = p :: nws r := by
      simp [nws, hp, hq]
    rw [hn]
    simp [printL]

theorem safe_records (Sf : PRec → Prop) (d : List (Key × Ent)) (hg : ∀ p ∈ d, GoodPair L Sf p) :
    ∀ r ∈ (nws d).map (pairRec L), Sf r := by
  intro r hr
  rw [List.mem_map] at hr
  obtain ⟨p, hp, rfl⟩ := hr
  rw [nws, List.mem_filter] at hp
  rcases hg p hp.1 with ⟨hw1, _⟩ | ⟨_, hs, _, _⟩
  · rw [hw1] at hp; exact absurd hp.2 (by simp)
  · exact hs

theorem nws_keys {Sf : PRec → Prop} (d : List (Key × Ent)) (hgood : ∀ p ∈ d, GoodPair L Sf p) :
    (nws d).map (·.1) = ((nws d).map (pairRec L)).map (fun r => Key.ent (.str r.1)) := by
  rw [List.map_map]
  apply List.map_congr_left
  intro p hp
  rw [nws, List.mem_filter] at hp
  rcases hgood p hp.1 with ⟨hw1, _⟩ | ⟨_, _, hk, _⟩
  · rw [hw1] at hp; exact absurd hp.2 (by simp)
  · exact hk

theorem mem_recs_iff {Sf : PRec → Prop} (d : Dict) (hwf : WF d) (hgood : ∀ p ∈ d, GoodPair L Sf p) (k : List Nat) :
    k ∈ ((nws d).map (pairRec L)).map (·.1) ↔ Key.ent (.str k) ∈ keysOf d := by
  constructor
  · intro h
    rw [List.map_map, List.mem_map] at h
    obtain ⟨p, hp, rfl⟩ := h
    rw [nws, List.mem_filter] at hp
    rcases hgood p hp.1 with ⟨hw1, _⟩ | ⟨_, _, hk, _⟩
    · rw [hw1] at hp; exact absurd hp.2 (by simp)
    · unfold keysOf
      rw [List.mem_map]
      exact ⟨p, hp.1, hk⟩
  · intro h
    unfold keysOf at h
    rw [List.mem_map] at h
    obtain ⟨p, hp, hk⟩ := h
    rcases hgood p hp with ⟨hw1, _⟩ | ⟨hw1, _, hk', _⟩
    · exfalso
      have := (hwf.ok p hp).1 hw1
      rw [this] at hk
      cases hk
    · rw [List.map_map, List.mem_map]
      refine ⟨p, by rw [nws, List.mem_filter]; exact ⟨hp, by simp [hw1]⟩, ?_⟩
      rw [hk'] at hk
      injection hk with hk
      injection hk with hk

theorem recs_keys_nodup {Sf : PRec → Prop} (d : Dict) (hwf : WF d) (hgood : ∀ p ∈ d, GoodPair L Sf p) :
    (((nws d).map (pairRec L)).map (·.1)).Nodup := by
  have h1 : ((nws d).map (·.1)).Nodup :=
    hwf.nodup.sublist ((List.filter_sublist (l := d)).map _)
  rw [nws_keys L d hgood] at h1
  exact List.pairwise_map.2 ((List.pairwise_map.1 h1).imp fun hab e => hab (by rw [e]))

theorem mem_recs_of (hval : ∀ r, L.val r.1 (L.body r) = r.2) (d : Dict) (hwf : WF d) (r : PRec) (e : Ent)
    (hm : (Key.ent (.str r.1), e) ∈ d) (hn : e.all = L.body r) : r ∈ (nws d).map (pairRec L) := by
  have hw1 : e.isWs = false := by
    cases h : e.isWs
    · rfl
    · cases (hwf.ok _ hm).1 h
  rw [List.mem_map]
  exact ⟨(Key.ent (.str r.1), e), by rw [nws, List.mem_filter]; exact ⟨hm, by simp [hw1]⟩, pairRec_of L hval _ r rfl hn⟩

/-- what the re-parse theorems say of the records `recs` of the merged text: every key once, a key iff some version has
    it, and for every key the record of the newest version that has it -/
def NewestRecs (vers : List (List PRec)) (recs : List PRec) : Prop :=
  (recs.map (·.1)).Nodup ∧
  (∀ k, k ∈ recs.map (·.1) ↔ ∃ rs ∈ vers, k ∈ rs.map (·.1)) ∧
  (∀ (i : Nat) (rs : List PRec) (r : PRec), vers[i]? = some rs → r ∈ rs →
    (∀ j < i, ∀ rs' : List PRec, vers[j]? = some rs' → r.1 ∉ rs'.map (·.1)) → r ∈ recs)

theorem NewestRecs.of_cons {r0 : PRec} {vers : List (List PRec)} {recs : List PRec}
    (h : NewestRecs (vers.map (List.cons r0)) (r0 :: recs)) (hne : ∀ rs ∈ vers, ∀ r ∈ rs, r.1 ≠ r0.1) :
    NewestRecs vers recs := by
  obtain ⟨h1, h2, h3⟩ := h
  rw [List.map_cons, List.nodup_cons] at h1
  refine ⟨h1.2, fun k => ⟨fun hk => ?_, ?_⟩, fun i rs r hv hr hfirst => ?_⟩
  · obtain ⟨rs', hrs', hk2⟩ := (h2 k).1 (List.mem_cons_of_mem _ hk)
    obtain ⟨rs, hrs, rfl⟩ := List.mem_map.1 hrs'
    rw [List.map_cons, List.mem_cons] at hk2
    exact ⟨rs, hrs, hk2.resolve_left (fun e => h1.1 (e ▸ hk))⟩
  · rintro ⟨rs, hrs, hk⟩
    have := (h2 k).2 ⟨r0 :: rs, List.mem_map.2 ⟨rs, hrs, rfl⟩, List.mem_cons_of_mem _ hk⟩
    rw [List.map_cons, List.mem_cons] at this
    refine this.resolve_left (fun e => ?_)
    obtain ⟨r, hr, rfl⟩ := List.mem_map.1 hk
    exact hne rs hrs r hr e
  · have hrs := List.mem_of_getElem? hv
    have := h3 i (r0 :: rs) r (by rw [List.getElem?_map, hv]; rfl) (List.mem_cons_of_mem _ hr) (by
      intro j hj rs'' hj2
      rw [List.getElem?_map] at hj2
      obtain ⟨rs0, h0, rfl⟩ := Option.map_eq_some_iff.1 hj2
      rw [List.map_cons, List.mem_cons, not_or]
      exact ⟨hne rs hrs r hr, hfirst j hj rs0 h0⟩)
    exact (List.mem_cons.1 this).resolve_left (fun e => hne rs hrs r hr (congrArg Prod.fst e))

/-- Each clause is the entry-level fact (`merged_wf`, `merged_entity_keys`, `newest_text`) read through `lineEnts`: the keyed
    entries of version `i` are the `lineEnt`s of its records, keyed by the records' keys. -/
theorem newestRecs_merged (hval : ∀ r, L.val r.1 (L.body r) = r.2) {Sf : PRec → Prop}
    (vers : List (List PRec)) (d : Dict) (hd : mergeResources (versEnts L 0 vers) = some d) (hgood : ∀ p ∈ d, GoodPair L Sf p)
    (hnd : ∀ rs ∈ vers, (rs.map (·.1)).Nodup) : NewestRecs vers ((nws d).map (pairRec L)) := by
  have hwf := merged_wf hd
  refine ⟨recs_keys_nodup L d hwf hgood, ?_, ?_⟩
  · intro k
    rw [mem_recs_iff L d hwf hgood, merged_entity_keys _ d hd]
    constructor
    · rintro ⟨es, hes, e, he, hkeyed, hek⟩
      obtain ⟨i, hi'⟩ := List.mem_iff_getElem?.1 hes
      obtain ⟨rs, hv, rfl⟩ := versEnts_some L vers i hi'
      refine ⟨rs, List.mem_of_getElem? hv, ?_⟩
      rcases mem_lineEnts L i rs 0 e he with ⟨j, rfl⟩ | ⟨r, hr, j, rfl⟩
      · exact absurd hkeyed (by simp [nlEnt, Ent.keyed])
      · simp only [lineEnt, EKey.str.injEq] at hek
        rw [← hek]
        exact List.mem_map.2 ⟨r, hr, rfl⟩
    · rintro ⟨rs, hrs, hk⟩
      rw [List.mem_map] at hk
      obtain ⟨r, hr, rfl⟩ := hk
      obtain ⟨i, hv⟩ := List.mem_iff_getElem?.1 hrs
      obtain ⟨j, hj⟩ := lineEnt_mem_lineEnts L i rs 0 r hr
      refine ⟨lineEnts L i 0 rs, ?_, lineEnt L i j r, hj, lineEnt_keyed L i j r, rfl⟩
      apply List.mem_of_getElem? (i := i)
      rw [versEnts_getElem?, hv]
      rfl
  · intro i rs r hv hr hfirst
    obtain ⟨j, hj⟩ := lineEnt_mem_lineEnts L i rs 0 r hr
    have hi : (versEnts L 0 vers)[i]? = some (lineEnts L i 0 rs) := by rw [versEnts_getElem?, hv]; rfl
    have hn := newest_text _ d hd i _ hi (nodupKeys_lineEnts L i 0 rs (hnd rs (List.mem_of_getElem? hv))) (lineEnt L i j r) hj (lineEnt_keyed L i j r) (by
      intro j' hj' es' hes' e' he' hkeyed' hek
      obtain ⟨rs', hv', rfl⟩ := versEnts_some L vers j' hes'
      rcases mem_lineEnts L j' rs' 0 e' he' with ⟨_, rfl⟩ | ⟨r', hr', _, rfl⟩
      · exact absurd hkeyed' (by simp [nlEnt, Ent.keyed])
      · simp only [lineEnt, EKey.str.injEq] at hek
        exact hfirst j' hj' rs' hv' (List.mem_map.2 ⟨r', hr', hek⟩))
    obtain ⟨e, hg, hn⟩ := Option.map_eq_some_iff.1 hn
    exact mem_recs_of L hval d hwf r e (mem_of_dget hg) hn

theorem merged_printed (hval : ∀ r, L.val r.1 (L.body r) = r.2) (Sf : PRec → Prop)
    (vers : List (List PRec)) (d : Dict) (hd : mergeResources (versEnts L 0 vers) = some d)
    (hsafe : ∀ rs ∈ vers, ∀ r ∈ rs, Sf r) (hnd : ∀ rs ∈ vers, (rs.map (·.1)).Nodup) :
    serialize d = printL L ((nws d).map (pairRec L)) ∧ (∀ r ∈ (nws d).map (pairRec L), Sf r) ∧
      NewestRecs vers ((nws d).map (pairRec L)) := by
  have hgood : ∀ p ∈ d, GoodPair L Sf p := by
    intro p hp
    obtain ⟨dv, hdv, hpd⟩ := merged_from_version _ d hd p hp
    obtain ⟨i, rs, hi, rfl⟩ := mem_versionDicts_versEnts L _ dv hdv
    exact good_versionDict L hval Sf i 0 rs (hsafe rs (List.mem_of_getElem? hi)) p hpd
  have hstrict : Strict d := by
    apply merged_strict _ d hd
    intro dv hdv
    obtain ⟨i, rs, hi, rfl⟩ := mem_versionDicts_versEnts L _ dv hdv
    exact strict_versionDict L i 0 rs (hnd rs (List.mem_of_getElem? hi))
  exact ⟨printed_of_strict L Sf d hstrict hgood, safe_records L Sf d hgood, newestRecs_merged L hval vers d hd hgood hnd⟩

theorem versionDict_lineEnts_head (i : Nat) (r : PRec) (rs : List PRec) (h : ((r :: rs).map (·.1)).Nodup) :
    ∃ d', versionDict i (lineEnts L i 0 (r :: rs)) = (Key.ent (.str r.1), lineEnt L i 0 r) :: d' := by
  rw [versionDict_eq i _ (nodupKeys_lineEnts L i 0 _ h), stamp_eq, lineEnts, stampFrom_cons, pairs]
  have hk := lineEnt_keyed L i 0 r
  simp only [Ent.keyed, Bool.and_eq_true, Bool.not_eq_true', beq_eq_false_iff_ne, ne_eq] at hk
  have : ({ lineEnt L i 0 r with oid := (i, 0) } : Ent) = lineEnt L i 0 r := rfl
  rw [this, getKeyValue_ent _ _ hk.1 hk.2]
  exact ⟨_, rfl⟩

theorem merged_records_head (hval : ∀ r, L.val r.1 (L.body r) = r.2) (vers : List (List PRec)) (d : Dict)
    (hd : mergeResources (versEnts L 0 vers) = some d) (r0 : PRec) (hne : vers ≠ [])
    (hhead : ∀ rs ∈ vers, ∃ rs', rs = r0 :: rs') (hnd : ∀ rs ∈ vers, (rs.map (·.1)).Nodup) :
    ∃ recs', (nws d).map (pairRec L) = r0 :: recs' := by
  cases vers with
  | nil => exact absurd rfl hne
  | cons v vs =>
    obtain ⟨v', rfl⟩ := hhead v (by simp)
    obtain ⟨ds, hvd⟩ : ∃ ds, versionDicts (versEnts L 0 ((r0 :: v') :: vs)) = versionDict 0 (lineEnts L 0 0 (r0 :: v')) :: ds := by
      simp only [versionDicts, versEnts, List.map_cons, List.zipIdx_cons]
      exact ⟨_, rfl⟩
    obtain ⟨d0', hd0⟩ := versionDict_lineEnts_head L 0 r0 v' (hnd _ (by simp))
    obtain ⟨M, hM⟩ := merged_head _ d hd (Key.ent (.str r0.1)) (lineEnt L 0 0 r0) (lineEnt_isWs _ _ _ _) hvd hd0 (by
      intro dv hdv x hx
      obtain ⟨i, rs', hi, rfl⟩ := mem_versionDicts_versEnts L _ dv hdv
      obtain ⟨rs, rfl⟩ := hhead rs' (List.mem_of_getElem? hi)
      obtain ⟨d1', hd1⟩ := versionDict_lineEnts_head L i r0 rs (hnd _ (List.mem_of_getElem? hi))
      rw [hd1] at hx
      simp only [keysOf, List.map_cons, List.head?_cons, Option.some.injEq] at hx
      exact hx.symm)
    refine ⟨(nws M).map (pairRec L), ?_⟩
    rw [hM, nws, List.filter_cons_of_pos (by simp [lineEnt_isWs]), List.map_cons, pairRec_of L hval _ r0 rfl rfl]
    rfl

theorem walkAll_gen (f : P.Fmt) (pr : List PRec → List Nat) :
    ∀ (vers : List (List PRec)) (j : Nat),
      (∀ ver, ∀ rs ∈ vers, walkEnts f ver (pr rs).toArray = .ok (lineEnts L ver 0 rs)) →
      walkAll f ((vers.map (fun rs => (pr rs).toArray)).zipIdx j) = .ok (versEnts L j vers) := by
  intro vers
  induction vers with
  | nil => intro _ _; rfl
  | cons rs vers ih =>
    intro j h
    simp only [List.map_cons, List.zipIdx_cons, walkAll, versEnts]
    rw [h j rs (by simp), ih (j + 1) (fun ver rs' hrs' => h ver rs' (by simp [hrs']))]
    rfl

/-- The re-parse theorem of a line format `L` whose printed files are `pr`.  The format supplies the two C02 round trips:
    `hwalk`, what the merge sees of the walk of a printed version, and `hre`, the re-parse of a printed file.  Between them:
    the merged dict alternates strictly (`merged_strict`), so its text is the printed file of its records (`merged_printed`). -/
theorem merge_reparses_printed (f : P.Fmt) (pr : List PRec → List Nat) (hpr : ∀ rs, printL L rs = pr rs)
    (hval : ∀ r, L.val r.1 (L.body r) = r.2) (Sf : PRec → Prop) (vers : List (List PRec)) (hne : vers ≠ [])
    (hwalk : ∀ ver, ∀ rs ∈ vers, walkEnts f ver (pr rs).toArray = .ok (lineEnts L ver 0 rs))
    (hre : ∀ recs, (∀ r ∈ recs, Sf r) → ∃ es, P.walk f (pr recs).toArray = .done es ∧
      P.entitiesOf f (pr recs).toArray es = recs.map P.expectedView ∧ P.junkOf (pr recs).toArray es = [])
    (hsafe : ∀ rs ∈ vers, ∀ r ∈ rs, Sf r) (hnd : ∀ rs ∈ vers, (rs.map (·.1)).Nodup) :
    ∃ (t : List Nat) (es : List P.Entry) (recs : List PRec),
      mergeTexts f (vers.map (fun rs => (pr rs).toArray)) = .ok t ∧ t = pr recs ∧
      P.walk f t.toArray = .done es ∧ P.entitiesOf f t.toArray es = recs.map P.expectedView ∧
      P.junkOf t.toArray es = [] ∧ NewestRecs vers recs := by
  obtain ⟨d, hd⟩ : ∃ d, mergeResources (versEnts L 0 vers) = some d := by
    cases vers with
    | nil => exact absurd rfl hne
    | cons v vs => exact ⟨_, rfl⟩
  obtain ⟨hser, hsr, hN⟩ := merged_printed L hval Sf vers d hd hsafe hnd
  obtain ⟨es, hre⟩ := hre _ hsr
  refine ⟨_, es, _, ?_, rfl, hre.1, hre.2.1, hre.2.2, hN⟩
  unfold mergeTexts
  rw [walkAll_gen L f pr vers 0 hwalk]
  simp only [hd, hser, hpr]

end C15S
