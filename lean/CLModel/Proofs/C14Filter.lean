/- C14: the transliterated `_filter`/`filter` (CLModel/Paths/Filter.lean) equals the reference interpreter of
CLModel/Paths/FilterSpec.lean (`filter_eq_verdict`). -/
import CLModel.Paths.Filter
import CLModel.Paths.FilterSpec
namespace C14M

/-- key part of "the rule applies": key-less rules are for file queries, keyed rules for entity queries -/
def keyOK : Option Filt.KeyPred → Option (List Nat) → Bool
  | none, none => true
  | some k, some e => k.matches e
  | _, _ => false

end C14M

namespace Filt
open Filt.Spec

theorem contains_optLocales (o : Option (List Text)) (l : Text) :
    (optLocales o).contains l = names o l := by
  cases o <;> simp [optLocales, names]

theorem contains_ownLocales (locales : Option (List Text)) (paths : List PathEntry) (l : Text) :
    (ownLocales locales paths).contains l =
      (names locales l || paths.any (fun p => names p.locales l)) := by
  rw [Bool.eq_iff_iff]
  simp only [ownLocales, List.contains_eq_mem, List.mem_append, List.mem_flatMap, Bool.or_eq_true,
    decide_eq_true_eq, List.any_eq_true, ← contains_optLocales]

mutual
theorem allLocales_contains : ∀ (c : Config) (l : Text), (allLocales c).contains l = hasLocale c l
  | .mk locales paths rules children excludes, l => by
    have ih := allLocalesList_contains children l
    rw [allLocales, hasLocale, ← ih, ← contains_ownLocales]
    rw [Bool.eq_iff_iff]; simp
theorem allLocalesList_contains : ∀ (cs : List Config) (l : Text),
    (allLocalesList cs).contains l = hasLocaleAny cs l
  | [], l => by simp [allLocalesList, hasLocaleAny]
  | c :: cs, l => by
    have h1 := allLocales_contains c l
    have h2 := allLocalesList_contains cs l
    rw [allLocalesList, hasLocaleAny, ← h1, ← h2]
    rw [Bool.eq_iff_iff]; simp
end

/-- `pick` only asks which of the three verdicts occur, so one more verdict is one `worse` step: a finite check over the
    new verdict and the three membership bits of the rest. -/
theorem pick_cons (a : Option Action) (l : List (Option Action)) : pick (a :: l) = worse a (pick l) := by
  simp only [pick, List.contains_cons]
  generalize l.contains (some Action.error) = e
  generalize l.contains (some Action.warning) = w
  generalize l.contains (some Action.ignore) = i
  rcases a with _ | _ | _ | _ <;> cases e <;> cases w <;> cases i <;> rfl

theorem pick_eq_mostSevere (l : List (Option Action)) : pick l = mostSevere l := by
  induction l with
  | nil => rfl
  | cons a l ih => rw [pick_cons, ih]; rfl

theorem pick_congr {l1 l2 : List (Option Action)} (h : ∀ x, x ∈ l1 ↔ x ∈ l2) : pick l1 = pick l2 := by
  simp [pick, List.contains_eq_mem, h]

theorem pick_append_single (l : List (Option Action)) (a : Option Action) : pick (l ++ [a]) = pick (a :: l) :=
  pick_congr (by intro x; simp [or_comm])

theorem pick_none_cons (l : List (Option Action)) : pick (none :: l) = pick l := by
  simp [pick]

theorem pick_of_error {l : List (Option Action)} (h : l.contains (some Action.error) = true) :
    pick l = some .error := by
  rw [pick, if_pos h]

theorem pick_cons_of_error {l : List (Option Action)} (a : Option Action)
    (h : l.contains (some Action.error) = true) : pick (a :: l) = some .error :=
  pick_of_error (by rw [List.contains_cons, h, Bool.or_true])

/-- what `cache(locale)` makes of a rule (`buildCache` maps it over the rules: `scanRules_last` closes by `rfl` through this) -/
def bindRule (loc : Text) (r : Rule) : CachedRule := ⟨r.path.withLocale loc, r.key, r.action⟩

theorem scanRules_cons_key (fp : Text) (ent : Option Text) (r : CachedRule) (rest : List CachedRule) :
    scanRules fp ent (r :: rest) =
      if r.path.matchPath fp && C14M.keyOK r.key ent then r.action else scanRules fp ent rest := by
  cases hm : r.path.matchPath fp with
  | false => simp [scanRules, hm]
  | true =>
    cases hk : r.key with
    | none => cases ent <;> simp [scanRules, hm, hk, C14M.keyOK]
    | some k =>
      cases ent with
      | none => simp [scanRules, hm, hk, C14M.keyOK]
      | some e => cases hke : k.matches e <;> simp [scanRules, hm, hk, C14M.keyOK, hke]

theorem applies_eq (r : Rule) (file : File) (ent : Option Text) :
    applies r file ent = (r.path.matchWith file.locale file.fullpath && C14M.keyOK r.key ent) := by
  unfold applies
  cases r.key <;> cases ent <;> rfl

theorem scanRules_cons (file : File) (ent : Option Text) (r : Rule) (rest : List CachedRule) :
    scanRules file.fullpath ent (bindRule file.locale r :: rest) =
      if applies r file ent then r.action else scanRules file.fullpath ent rest := by
  rw [scanRules_cons_key, applies_eq]
  rfl

theorem scanRules_head (file : File) (ent : Option Text) (rules : List Rule) :
    scanRules file.fullpath ent (rules.map (bindRule file.locale)) =
      (match (rules.filter (fun r => applies r file ent)).head? with
       | some r => r.action
       | none => Action.error) := by
  induction rules with
  | nil => simp [scanRules]
  | cons r rest ih =>
    rw [List.map_cons, scanRules_cons, List.filter_cons]
    split <;> simp [ih]

theorem scanRules_last (paths : List PathEntry) (file : File) (ent : Option Text) (rules : List Rule) :
    scanRules file.fullpath ent (buildCache paths rules file.locale).rules.reverse =
      (match (rules.filter (fun r => applies r file ent)).getLast? with
       | some r => r.action
       | none => Action.error) := by
  have := scanRules_head file ent rules.reverse
  rw [List.filter_reverse, List.head?_reverse] at this
  rw [← this]
  simp only [buildCache, List.map_reverse]
  rfl

theorem covered_cache (paths : List PathEntry) (rules : List Rule) (file : File) :
    (buildCache paths rules file.locale).l10nPaths.any (fun p => p.matchPath file.fullpath) = covered paths file := by
  simp only [buildCache, covered, List.any_map, List.any_filter]
  congr 1
  funext p
  simp only [PathEntry.enabledFor, allows, PathM.withLocale, Function.comp]
  cases p.locales <;> simp

/-- the part of `_filter` after the children's actions are known -/
theorem own_step (paths : List PathEntry) (rules : List Rule) (file : File) (ent : Option Text)
    (acts : List (Option Action)) :
    (if acts.contains (some Action.error) then some Action.error else
      pick (if (buildCache paths rules file.locale).l10nPaths.any (fun p => p.matchPath file.fullpath) then
          acts ++ [some (scanRules file.fullpath ent (buildCache paths rules file.locale).rules.reverse)]
        else acts)) = mostSevere (own paths rules file ent :: acts) := by
  rw [← pick_eq_mostSevere, covered_cache, scanRules_last]
  by_cases he : acts.contains (some Action.error) = true
  · rw [if_pos he, pick_cons_of_error _ he]
  · rw [if_neg he]
    unfold own
    by_cases hc : covered paths file = true
    · rw [if_pos hc, if_pos hc, pick_append_single]
      cases (rules.filter (fun r => applies r file ent)).getLast? <;> rfl
    · rw [if_neg hc, if_neg hc, pick_none_cons]

mutual
theorem filterInner_eq : ∀ (c : Config) (file : File) (ent : Option Text),
    filterInner c file ent = inner c file ent
  | .mk locales paths rules children excludes, file, ent => by
    have h1 := childActions_eq children file ent
    have h2 := anyExcludeError_eq excludes file
    rw [filterInner, inner, h1, h2]
    split
    · rfl
    · exact own_step paths rules file ent _
theorem childActions_eq : ∀ (cs : List Config) (file : File) (ent : Option Text),
    childActions cs file ent = innerAll cs file ent
  | [], _, _ => by simp [childActions, innerAll]
  | c :: cs, file, ent => by
    rw [childActions, innerAll, filterInner_eq c file ent, childActions_eq cs file ent]
theorem anyExcludeError_eq : ∀ (exs : List Config) (file : File),
    anyExcludeError exs file = excluded exs file
  | [], _ => by simp [anyExcludeError, excluded]
  | ex :: rest, file => by
    rw [anyExcludeError, excluded, filterInner_eq ex file none, anyExcludeError_eq rest file,
      allLocales_contains]
    congr 1
    cases hasLocale ex file.locale <;> cases inner ex file none <;> simp
end

theorem filter_eq_verdict (cfg : Config) (file : File) (ent : Option Text) :
    filter cfg file ent = verdict cfg file ent := by
  rw [filter, verdict, allLocales_contains, filterInner_eq]
  cases hasLocale cfg file.locale <;> simp
  cases inner cfg file ent <;> rfl

theorem anyExcludeError_eq_any (exs : List Config) (file : File) :
    anyExcludeError exs file = exs.any (fun ex => filter ex file none == Action.error) := by
  induction exs with
  | nil => simp [anyExcludeError]
  | cons ex rest ih =>
    rw [anyExcludeError, ih, List.any_cons, filter]
    congr 1
    cases (allLocales ex).contains file.locale <;> simp
    cases filterInner ex file none <;> simp

theorem sev_worse (a b : Option Action) : sev (worse a b) = max (sev a) (sev b) := by
  unfold worse; split <;> omega

theorem sev_le_mostSevere {l : List (Option Action)} {a : Option Action} (h : a ∈ l) :
    sev a ≤ sev (mostSevere l) := by
  induction l with
  | nil => cases h
  | cons b l ih =>
    have : mostSevere (b :: l) = worse b (mostSevere l) := rfl
    rw [this, sev_worse]
    rcases List.mem_cons.mp h with rfl | h'
    · omega
    · have := ih h'; omega

theorem mostSevere_mem (l : List (Option Action)) : mostSevere l = none ∨ mostSevere l ∈ l := by
  induction l with
  | nil => left; rfl
  | cons b l ih =>
    have : mostSevere (b :: l) = worse b (mostSevere l) := rfl
    rw [this]; unfold worse
    split
    · rcases ih with h | h
      · left; exact h
      · right; exact List.mem_cons_of_mem _ h
    · right; simp

theorem sev_injective {a b : Option Action} (h : sev a = sev b) : a = b := by
  rcases a with _ | _ | _ | _ <;> rcases b with _ | _ | _ | _ <;> simp [sev] at h <;> rfl

theorem filter_getLast_of_last {α} (p : α → Bool) (pre post : List α) (r : α)
    (hr : p r = true) (hpost : ∀ q ∈ post, p q = false) :
    ((pre ++ r :: post).filter p).getLast? = some r := by
  have : post.filter p = [] := by
    rw [List.filter_eq_nil_iff]; intro q hq; simp [hpost q hq]
  rw [List.filter_append, List.filter_cons, if_pos hr, this, List.getLast?_append]
  simp

end Filt
