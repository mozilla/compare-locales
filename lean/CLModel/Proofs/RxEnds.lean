/- The engine without continuations.  `ends s r st` lists ALL states the engine `Rx.m` hands to its continuation when it
   matches `r` from `st`, in the order in which it tries them, and `m s r st k` is the first success of `k` on that list
   (`m_eq_ends`).  So a sequence is a `flatMap`, an alternative an append, a group a `map`; "`r` steps from `st` to `st'`
   whatever follows" is `ends s r st = [st']`, "`r` fails whatever follows" is `ends s r st = []`, and what follows is one
   more `flatMap` stage (`m_eq_head`).  The length of `ends` is the number of backtracking alternatives (`steps`, C01Cost).
   Then, in `Rx`: one equation per clause (`ends_*`), the one-character test `stepIf` (what `.cls`, `.notLit`, `.any`, `.lit`
   are), the length `runAt` of a run of a class and its positions as states `runSts`: the vocabulary of RxChain / RxStar. -/
import CLModel.Proofs.RxEqns
import CLModel.Proofs.ListLemmas
namespace C01P
open Rx

/-- outcomes of the repeat loop, in engine order (`Rx.loop`) -/
def loopE (body : St → List St) (greedy : Bool) : Nat → Nat → Option Nat → St → List St
  | 0, _, _, _ => []
  | fuel + 1, mn, mx, st =>
    let more : List St :=
      if mx == some 0 then [] else
      (body st).flatMap (fun st' =>
        if st'.pos ≤ st.pos then [] else loopE body greedy fuel (mn - 1) (mx.map (· - 1)) st')
    if mn > 0 then more
    else if greedy then more ++ [st]
    else st :: more

/-- all outcomes of matching `r` from `st`, in the order the engine tries them -/
def ends (s : Array Nat) : Re → St → List St
  | .eps, st => [st]
  | .lit c, st => if s[st.pos]? == some c then [{ st with pos := st.pos + 1 }] else []
  | .notLit c, st =>
      match s[st.pos]? with
      | some d => if d != c then [{ st with pos := st.pos + 1 }] else []
      | none => []
  | .any dotall, st =>
      match s[st.pos]? with
      | some d => if dotall || d != 10 then [{ st with pos := st.pos + 1 }] else []
      | none => []
  | .cls neg items, st =>
      match s[st.pos]? with
      | some c => if (items.any (·.has c)) != neg then [{ st with pos := st.pos + 1 }] else []
      | none => []
  | .seq a b, st => (ends s a st).flatMap (fun st' => ends s b st')
  | .alt a b, st => ends s a st ++ ends s b st
  | .group i r, st =>
      (ends s r st).map (fun st' => { st' with caps := (i, st.pos, st'.pos) :: st'.caps })
  | .backref i, st =>
      match capOf st.caps i with
      | some (a, b) =>
          let n := b - a
          if (List.range n).all (fun j => s[a + j]? == s[st.pos + j]? && (st.pos + j < s.size)) then
            [{ st with pos := st.pos + n }] else []
      | none => []
  | .bol ml, st =>
      if st.pos == 0 || (ml && s[st.pos - 1]? == some 10) then [st] else []
  | .eol ml, st =>
      if st.pos == s.size || (ml && s[st.pos]? == some 10) ||
         (!ml && st.pos + 1 == s.size && s[st.pos]? == some 10) then [st] else []
  | .eos, st => if st.pos == s.size then [st] else []
  | .look true neg r, st =>
      match (ends s r st).head? with
      | some st' => if neg then [] else [{ st with caps := st'.caps }]
      | none => if neg then [st] else []
  | .look false neg r, st =>
      let ok := if st.pos == 0 then none else
        ((ends s r { st with pos := st.pos - 1 }).filter (fun st' => st'.pos == st.pos)).head?
      match ok with
      | some _ => if neg then [] else [st]
      | none => if neg then [st] else []
  | .rep mn mx greedy r, st =>
      loopE (fun st' => ends s r st') greedy (s.size + 2 - st.pos) mn mx st

theorem loop_step_findSome (k : K) (mn : Nat) (g : Bool) (st : St) (more : List St) :
    (if mn > 0 then more.findSome? k
      else if g then (more.findSome? k).orElse (fun _ => k st)
      else (k st).orElse (fun _ => more.findSome? k)) =
    (if mn > 0 then more else if g then more ++ [st] else st :: more).findSome? k := by
  by_cases h : mn > 0
  · rw [if_pos h, if_pos h]
  · rw [if_neg h, if_neg h]
    cases g <;> cases hk : k st <;> simp [List.findSome?_append, hk]

theorem loop_eq_loopE (body : St → K → Option St) (bodyE : St → List St) (g : Bool)
    (hb : ∀ st k, body st k = (bodyE st).findSome? k) :
    ∀ fuel mn mx st k, loop body g fuel mn mx st k = (loopE bodyE g fuel mn mx st).findSome? k := by
  intro fuel
  induction fuel with
  | zero => intro mn mx st k; rfl
  | succ fuel ih =>
    intro mn mx st k
    have hmore : (if mx == some 0 then none else
          body st (fun st' => if st'.pos ≤ st.pos then none else
            loop body g fuel (mn - 1) (mx.map (· - 1)) st' k)) =
        (if mx == some 0 then [] else
          (bodyE st).flatMap (fun st' =>
            if st'.pos ≤ st.pos then [] else loopE bodyE g fuel (mn - 1) (mx.map (· - 1)) st')).findSome? k := by
      split
      · rfl
      · rw [hb, Txt.findSome?_flatMap']
        congr 1
        funext st'
        split
        · rfl
        · exact ih _ _ _ _
    rw [loop, loopE, hmore]
    exact loop_step_findSome k mn g st _

theorem m_eq_ends (s : Array Nat) : ∀ (r : Re) (st : St) (k : K), m s r st k = (ends s r st).findSome? k := by
  intro r
  induction r with
  | eps => intro st k; rw [m_eps_def, ends]; simp
  | lit c => intro st k; rw [m_lit_def, ends, Txt.findSome?_ite_single]
  | notLit _ | any _ | cls _ _ =>
    intro st k
    simp only [m_notLit_def, m_any_def, m_cls_def, ends]
    cases s[st.pos]? with
    | none => rfl
    | some d => exact (Txt.findSome?_ite_single ..).symm
  | seq a b iha ihb =>
    intro st k
    rw [m_seq_def, ends, iha, Txt.findSome?_flatMap']
    congr 1
    funext st'
    exact ihb st' k
  | alt a b iha ihb =>
    intro st k
    rw [m_alt_def, ends, iha, ihb, List.findSome?_append, Option.orElse_eq_or]
  | group i r ih =>
    intro st k
    rw [m_group_def, ends, ih, List.findSome?_map]
    rfl
  | backref i =>
    intro st k
    rw [m_backref_def, ends]
    cases capOf st.caps i with
    | none => rfl
    | some ab => exact (Txt.findSome?_ite_single ..).symm
  | bol _ | eol _ | eos =>
    intro st k; simp only [m_bol_def, m_eol_def, m_eos_def, ends, Txt.findSome?_ite_single]
  | look ahead neg r ih =>
    intro st k
    cases ahead with
    | true =>
      rw [m_lookahead_def, ends, ih, Txt.findSome?_some_eq_head?]
      cases (ends s r st).head? <;> cases neg <;> simp
    | false =>
      rw [m_lookbehind_def, ends]
      -- the inner match must end where it started looking: the first outcome at that position
      have hok : (if st.pos == 0 then none else
            m s r { st with pos := st.pos - 1 } (fun st' => if st'.pos == st.pos then some st' else none)) =
          (if st.pos == 0 then none else
            ((ends s r { st with pos := st.pos - 1 }).filter (fun st' => st'.pos == st.pos)).head?) := by
        split
        · rfl
        · rw [ih, List.head?_filter]
          exact List.findSome?_guard
      simp only [hok]
      generalize (if st.pos == 0 then none else
            ((ends s r { st with pos := st.pos - 1 }).filter (fun st' => st'.pos == st.pos)).head?) = ok
      cases ok <;> cases neg <;> simp
  | rep mn mx g r ih =>
    intro st k
    rw [m_rep_def, ends]
    exact loop_eq_loopE (m s r) (fun st' => ends s r st') g ih _ _ _ _ _

theorem matchAt_eq_head (s : Array Nat) (r : Re) (pos : Nat) :
    matchAt s r pos = (ends s r ⟨pos, []⟩).head? := by
  unfold matchAt
  rw [m_eq_ends]
  cases ends s r ⟨pos, []⟩ <;> rfl

end C01P

namespace Rx
export C01P (ends loopE loop_eq_loopE m_eq_ends matchAt_eq_head)

def inC (neg : Bool) (items : List ClsItem) (c : Nat) : Bool := (items.any (·.has c)) != neg

theorem inC_range {lo hi c : Nat} : inC false [.range lo hi] c = (decide (lo ≤ c) && decide (c ≤ hi)) := by
  simp [inC, ClsItem.has]

/-- one-character test: the next state if `s[st.pos]` satisfies `P`.  `ends s b = stepIf s P` for a class, `.notLit`,
    `.any` (by `rfl`) and `.lit` (`ends_lit_step`) -/
def stepIf (s : Array Nat) (P : Nat → Bool) (st : St) : List St :=
  match s[st.pos]? with
  | some c => if P c then [{ st with pos := st.pos + 1 }] else []
  | none => []

theorem ends_eps (s : Array Nat) (st : St) : ends s .eps st = [st] := rfl

theorem ends_seq (s : Array Nat) (a b : Re) (st : St) : ends s (.seq a b) st = (ends s a st).flatMap (ends s b) := rfl

theorem ends_alt (s : Array Nat) (a b : Re) (st : St) : ends s (.alt a b) st = ends s a st ++ ends s b st := rfl

theorem ends_group (s : Array Nat) (i : Nat) (r : Re) (st : St) :
    ends s (.group i r) st = (ends s r st).map (fun st' => { st' with caps := (i, st.pos, st'.pos) :: st'.caps }) := rfl

theorem ends_rep (s : Array Nat) (mn : Nat) (mx : Option Nat) (g : Bool) (r : Re) (st : St) :
    ends s (.rep mn mx g r) st = loopE (ends s r) g (s.size + 2 - st.pos) mn mx st := rfl

theorem ends_lit (s : Array Nat) (c : Nat) (st : St) :
    ends s (.lit c) st = if s[st.pos]? == some c then [{ st with pos := st.pos + 1 }] else [] := rfl

theorem ends_cls (s : Array Nat) (neg : Bool) (items : List ClsItem) (st : St) :
    ends s (.cls neg items) st = stepIf s (inC neg items) st := rfl

theorem ends_notLit (s : Array Nat) (c : Nat) (st : St) : ends s (.notLit c) st = stepIf s (· != c) st := rfl

theorem ends_any (s : Array Nat) (da : Bool) (st : St) : ends s (.any da) st = stepIf s (fun d => da || d != 10) st := rfl

theorem ends_lit_step (s : Array Nat) (c : Nat) (st : St) : ends s (.lit c) st = stepIf s (· == c) st := by
  rw [ends_lit, stepIf]
  cases s[st.pos]? <;> simp

theorem ends_bol (s : Array Nat) (ml : Bool) (st : St) :
    ends s (.bol ml) st = if st.pos == 0 || (ml && s[st.pos - 1]? == some 10) then [st] else [] := rfl

theorem ends_eol (s : Array Nat) (ml : Bool) (st : St) :
    ends s (.eol ml) st =
      if st.pos == s.size || (ml && s[st.pos]? == some 10) ||
         (!ml && st.pos + 1 == s.size && s[st.pos]? == some 10) then [st] else [] := rfl

theorem m_eq_head (s : Array Nat) (r : Re) (st : St) (k : K) :
    m s r st k = ((ends s r st).flatMap (fun x => (k x).toList)).head? := by
  rw [m_eq_ends, Txt.findSome?_eq_head]

theorem stepIf_ok {s : Array Nat} {P : Nat → Bool} {p c : Nat} (h : s[p]? = some c) (hc : P c = true) (caps) :
    stepIf s P ⟨p, caps⟩ = [⟨p + 1, caps⟩] := by
  simp only [stepIf, h, hc, if_true]

theorem stepIf_fail {s : Array Nat} {P : Nat → Bool} {p : Nat} (h : ∀ c, s[p]? = some c → P c = false) (caps) :
    stepIf s P ⟨p, caps⟩ = [] := by
  unfold stepIf
  cases hc : s[p]? with
  | none => rfl
  | some c => simp only [h c hc, Bool.false_eq_true, if_false]

theorem mem_stepIf {s : Array Nat} {P : Nat → Bool} {st st' : St} (h : st' ∈ stepIf s P st) :
    ∃ c, s[st.pos]? = some c ∧ P c = true ∧ st' = { st with pos := st.pos + 1 } := by
  unfold stepIf at h
  split at h
  · rename_i c hc
    split at h
    · exact ⟨c, hc, ‹_›, List.mem_singleton.mp h⟩
    · cases h
  · cases h

theorem stepIf_length_le (s : Array Nat) (P : Nat → Bool) (st : St) : (stepIf s P st).length ≤ 1 := by
  unfold stepIf
  split
  · split <;> simp
  · simp

theorem ends_lit_ok {s : Array Nat} {p c : Nat} (h : s[p]? = some c) (caps) : ends s (.lit c) ⟨p, caps⟩ = [⟨p + 1, caps⟩] :=
  (ends_lit_step s c _).trans (stepIf_ok (P := (· == c)) h (beq_self_eq_true c) caps)

theorem ends_lit_fail {s : Array Nat} {p c : Nat} (h : s[p]? ≠ some c) (caps) : ends s (.lit c) ⟨p, caps⟩ = [] :=
  (ends_lit_step s c _).trans (stepIf_fail (P := (· == c)) (fun d hd => by simpa using fun e : d = c => h (e ▸ hd)) caps)

theorem ends_eol_fail {s : Array Nat} {j d : Nat} (ml : Bool) (hd : s[j]? = some d) (h : d ≠ 10) (caps) :
    ends s (.eol ml) ⟨j, caps⟩ = [] := by
  have hlt := getElem?_some_lt hd
  simp [ends_eol, hd, h, Nat.ne_of_lt hlt]

/- Stated with `s.toList.drop p = l`: `C02P.At s p l` unfolds to that. -/

section
variable {s : Array Nat} {b : Re} {P : Nat → Bool} (hb : ∀ st, ends s b st = stepIf s P st)
include hb

theorem ends_step_at {p c : Nat} {l : List Nat} (h : s.toList.drop p = c :: l) (hc : P c = true) (caps) :
    ends s b ⟨p, caps⟩ = [⟨p + 1, caps⟩] :=
  (hb _).trans (stepIf_ok (Txt.head_of_drop h) hc caps)

theorem ends_step_at_fail {p : Nat} {l : List Nat} (h : s.toList.drop p = l) (hl : ∀ c, l.head? = some c → P c = false)
    (caps) : ends s b ⟨p, caps⟩ = [] :=
  (hb _).trans (stepIf_fail (fun c hc => hl c (by rw [← hc, ← Txt.head?_of_drop h])) caps)

end

theorem ends_lit_at {s : Array Nat} {p c : Nat} {l : List Nat} (h : s.toList.drop p = c :: l) (caps) :
    ends s (.lit c) ⟨p, caps⟩ = [⟨p + 1, caps⟩] := ends_lit_ok (Txt.head_of_drop h) caps

theorem ends_lit_at_fail {s : Array Nat} {p c : Nat} {l : List Nat} (h : s.toList.drop p = l) (hne : l.head? ≠ some c) (caps) :
    ends s (.lit c) ⟨p, caps⟩ = [] := ends_lit_fail (by rw [Txt.head?_of_drop h]; exact hne) caps

/-- length of the maximal run of `P`-characters starting at `pos` -/
def runAt (s : Array Nat) (P : Nat → Bool) (pos : Nat) : Nat := ((s.toList.drop pos).takeWhile P).length

/-- the maximal `P`-stretch at `pos` as the hypotheses `h hx hr` of the `_at` lemmas (RxChain) -/
theorem runAt_split (s : Array Nat) (P : Nat → Bool) (pos : Nat) :
    ∃ x rest, s.toList.drop pos = x ++ rest ∧ (∀ d ∈ x, P d = true) ∧ (∀ d, rest.head? = some d → P d = false) ∧
      x.length = runAt s P pos :=
  ⟨_, _, List.takeWhile_append_dropWhile.symm, fun _ hd => List.all_eq_true.mp List.all_takeWhile _ hd,
    fun d hd => by simpa [hd] using List.head?_dropWhile_not P (s.toList.drop pos), rfl⟩

theorem runAt_le (s : Array Nat) (P : Nat → Bool) (pos : Nat) : runAt s P pos ≤ s.size - pos := by
  have := (List.takeWhile_prefix P (l := s.toList.drop pos)).length_le
  simpa [runAt] using this

theorem runAt_all (s : Array Nat) (P : Nat → Bool) (pos q : Nat) (h : q < runAt s P pos) :
    ∃ c, s[pos + q]? = some c ∧ P c = true := by
  obtain ⟨c, hc, hP⟩ := Txt.takeWhile_getElem? (p := P) (l := s.toList.drop pos) (i := q) h
  exact ⟨c, by rw [← Txt.drop_getElem?]; exact hc, hP⟩

theorem runAt_ge (s : Array Nat) (P : Nat → Bool) (pos : Nat) :
    ∀ n, (∀ q, q < n → ∃ c, s[pos + q]? = some c ∧ P c = true) → n ≤ runAt s P pos := by
  suffices h : ∀ (l : List Nat) n, (∀ q, q < n → ∃ c, l[q]? = some c ∧ P c = true) → n ≤ (l.takeWhile P).length from
    fun n hn => h _ n fun q hq => by rw [Txt.drop_getElem?]; exact hn q hq
  intro l
  induction l with
  | nil => intro n h; cases n with | zero => exact Nat.le_refl _ | succ n => obtain ⟨c, hc, _⟩ := h 0 (by omega); cases hc
  | cons c l ih =>
    intro n h
    cases n with
    | zero => exact Nat.zero_le _
    | succ n =>
      obtain ⟨d, hd, hp⟩ := h 0 (by omega)
      cases hd
      rw [List.takeWhile_cons, if_pos hp, List.length_cons]
      exact Nat.succ_le_succ (ih n fun q hq => h (q + 1) (by omega))

theorem runAt_stop (s : Array Nat) (P : Nat → Bool) {p : Nat} (hp : ∀ c, s[p]? = some c → P c = false) {pos : Nat}
    (h : pos ≤ p) : pos + runAt s P pos ≤ p := by
  apply Nat.le_of_not_lt
  intro hlt
  obtain ⟨c, hc, hP⟩ := runAt_all s P pos (p - pos) (by omega)
  rw [show pos + (p - pos) = p by omega] at hc
  rw [hp c hc] at hP
  cases hP

/-- the character at a position, if any, satisfies `P` -/
def atP (P : Nat → Bool) : Option Nat → Bool
  | some c => P c
  | none => false

theorem le_runAt_iff (s : Array Nat) (P : Nat → Bool) (pos n : Nat) :
    n ≤ runAt s P pos ↔ ∀ q, q < n → atP P s[pos + q]? = true :=
  ⟨fun h q hq => by obtain ⟨c, hc, hP⟩ := runAt_all s P pos q (by omega); rw [hc]; exact hP,
   fun h => runAt_ge s P pos n fun q hq => by
    have := h q hq
    cases hc : s[pos + q]? with
    | none => rw [hc] at this; cases this
    | some c => rw [hc] at this; exact ⟨c, rfl, this⟩⟩

theorem succ_le_runAt (s : Array Nat) (P : Nat → Bool) (pos n : Nat) :
    n + 1 ≤ runAt s P pos ↔ atP P s[pos]? = true ∧ n ≤ runAt s P (pos + 1) := by
  rw [le_runAt_iff, le_runAt_iff]
  constructor
  · intro h
    exact ⟨h 0 (Nat.succ_pos n), fun q hq => by rw [Nat.add_right_comm, Nat.add_assoc]; exact h (q + 1) (Nat.succ_lt_succ hq)⟩
  · rintro ⟨h0, h⟩ q hq
    cases q with
    | zero => exact h0
    | succ q => rw [← Nat.add_assoc, Nat.add_right_comm]; exact h q (Nat.lt_of_succ_lt_succ hq)

/-- the states at positions `lo, lo+1, …, lo+n-1` -/
def runSts (caps : List (Nat × Nat × Nat)) (lo n : Nat) : List St := (List.range' lo n).map (⟨·, caps⟩)

theorem mem_runSts {caps lo n} {st : St} : st ∈ runSts caps lo n ↔ st.caps = caps ∧ lo ≤ st.pos ∧ st.pos < lo + n := by
  simp only [runSts, List.mem_map, List.mem_range'_1]
  constructor
  · rintro ⟨j, hj, rfl⟩; exact ⟨rfl, hj⟩
  · rintro ⟨rfl, h⟩; exact ⟨st.pos, h, rfl⟩

theorem runSts_succ (caps) (lo n : Nat) : runSts caps lo (n + 1) = ⟨lo, caps⟩ :: runSts caps (lo + 1) n := by
  simp only [runSts, List.range'_succ, List.map_cons]

theorem runSts_take (caps) (lo : Nat) : ∀ n k, (runSts caps lo n).take k = runSts caps lo (min k n)
  | 0, k => by simp [runSts]
  | n + 1, 0 => by simp [runSts]
  | n + 1, k + 1 => by
    rw [runSts_succ, List.take_succ_cons, runSts_take caps (lo + 1) n k, Nat.succ_min_succ, runSts_succ]

theorem flatMap_runSts_last {β} {caps} {f : St → List β} {lo n : Nat} (h : ∀ j, lo ≤ j → j < lo + n → f ⟨j, caps⟩ = []) :
    (runSts caps lo (n + 1)).flatMap f = f ⟨lo + n, caps⟩ := by
  rw [runSts, List.range'_1_concat, List.map_append, List.flatMap_append,
    List.flatMap_eq_nil_iff.mpr fun x hx => by
      obtain ⟨rfl, h1, h2⟩ := mem_runSts.mp hx
      exact h _ h1 h2]
  simp

theorem flatMap_runSts_rev_last {β} {caps} {f : St → List β} {lo n : Nat}
    (h : ∀ j, lo ≤ j → j < lo + n → f ⟨j, caps⟩ = []) :
    (runSts caps lo (n + 1)).reverse.flatMap f = f ⟨lo + n, caps⟩ := by
  rw [List.flatMap_reverse, flatMap_runSts_last (f := List.reverse ∘ f) fun j h1 h2 => by simp [h j h1 h2]]
  exact List.reverse_reverse _

theorem findSome?_runSts_last {caps} {k : K} {lo n : Nat} (g : Bool) (h : ∀ j, lo ≤ j → j < lo + n → k ⟨j, caps⟩ = none) :
    (if g then (runSts caps lo (n + 1)).reverse else runSts caps lo (n + 1)).findSome? k = k ⟨lo + n, caps⟩ := by
  have h' : ∀ j, lo ≤ j → j < lo + n → (k ⟨j, caps⟩).toList = [] := fun j h1 h2 => by rw [h j h1 h2]; rfl
  rw [Txt.findSome?_eq_head]
  cases g
  · rw [if_neg (by simp), flatMap_runSts_last h', Option.head?_toList]
  · rw [if_pos rfl, flatMap_runSts_rev_last h', Option.head?_toList]

end Rx
