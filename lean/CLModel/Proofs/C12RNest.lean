/- Patterns with wildcards, node level: the filled pieces and their separation (`Piece`, `PSep`), the class of top-level
   literals, `*`, `**/` (or a final `**`) and first occurrences of variables whose values are fully bound, wildcard-free
   patterns (nested variables allowed: `{l}` = "{l10n_base}/{locale}/"), and the token such a node compiles to
   (`class_tok`).  The expand -> match theorem for the largest class is `C12AC.run_fillA`. -/
import CLModel.Proofs.C12RLit
import CLModel.Proofs.C11RExt
namespace C11R
open Rx PM

inductive Piece where
  | lit (t : Text)
  | grp (t : Text)
  | star (v : Text)
  | sstar (w : Text)
  | send (w : Text)

def Piece.text : Piece → Text
  | .lit t => t
  | .grp t => t
  | .star v => v
  | .sstar w => w
  | .send w => w

def piecesText (ps : List Piece) : Text := ps.flatMap Piece.text

/-- the literal text a list of pieces begins with (`[]` if it begins with a wildcard or is empty) -/
def pieceHead : List Piece → Text
  | .lit t :: _ => t
  | .grp t :: _ => t
  | _ => []

def PPlain (ps : List Piece) : Prop := ∀ p ∈ ps, (∀ w, p ≠ Piece.sstar w) ∧ (∀ w, p ≠ Piece.send w)

/-- **well separated filling**: no `/` in a star value and the literal (or variable value) after the star does
    not occur again later in the `/`-free run that follows the value; a `**/` value is empty or whole
    newline-free directories and no further double star follows it; a final `**` value is newline-free and
    ends the path -/
def PSep : List Piece → Prop
  | [] => True
  | .lit _ :: r => PSep r
  | .grp _ :: r => PSep r
  | .star v :: r => 47 ∉ v ∧ NoLaterHit (pieceHead r) (piecesText r) ∧ PSep r
  | .sstar w :: r => DirsOK w ∧ PPlain r ∧ PSep r
  | .send w :: r => 10 ∉ w ∧ (∀ t ∈ r, t = Piece.lit []) ∧ PSep r

def Tok.piece : Tok → Piece
  | .lit t => .lit t
  | .gl _ _ t _ => .grp t
  | .star _ v => .star v
  | .sstar _ w => .sstar w
  | .send _ w => .send w

/-- the literal-like groups are what they claim to be -/
def GlOK (ts : List Tok) : Prop :=
  ∀ tok ∈ ts, ∀ i body t F, tok = Tok.gl i body t F → GlRun body t F ∧ GlIdx body F

theorem toksText_pieces : ∀ (ts : List Tok), piecesText (ts.map Tok.piece) = toksText ts
  | [] => rfl
  | t :: r => by
    have ih := toksText_pieces r
    simp only [piecesText, List.map_cons, List.flatMap_cons] at ih ⊢
    rw [toksText_cons, ih]
    cases t <;> rfl

theorem headText_pieces : ∀ (ts : List Tok), pieceHead (ts.map Tok.piece) = headText ts
  | [] => rfl
  | t :: r => by cases t <;> rfl

theorem sep_of_psep : ∀ (ts : List Tok), PSep (ts.map Tok.piece) → GlOK ts → Sep ts
  | [], _, _ => trivial
  | t :: r, hp, hg => by
    have hgr : GlOK r := fun tok ht => hg tok (List.mem_cons_of_mem _ ht)
    cases t with
    | lit t => exact sep_of_psep r hp hgr
    | gl i body t F =>
      obtain ⟨h1, h2⟩ := hg _ (by simp) i body t F rfl
      exact ⟨h1, h2, sep_of_psep r hp hgr⟩
    | star i v =>
      obtain ⟨a, b, c⟩ := hp
      rw [headText_pieces, toksText_pieces] at b
      exact ⟨a, b, sep_of_psep r c hgr⟩
    | sstar i w =>
      obtain ⟨a, b, c⟩ := hp
      refine ⟨a, ?_, sep_of_psep r c hgr⟩
      intro tok ht
      have := b tok.piece (List.mem_map.mpr ⟨tok, ht, rfl⟩)
      cases tok with
      | lit t => exact ⟨fun _ _ h => (by cases h), fun _ _ h => (by cases h)⟩
      | gl i body t F => exact ⟨fun _ _ h => (by cases h), fun _ _ h => (by cases h)⟩
      | star i v => exact ⟨fun _ _ h => (by cases h), fun _ _ h => (by cases h)⟩
      | sstar i w => exact absurd rfl (this.1 w)
      | send i w => exact absurd rfl (this.2 w)
    | send i w =>
      obtain ⟨a, b, c⟩ := hp
      refine ⟨a, ?_, sep_of_psep r c hgr⟩
      intro t ht
      have := b t.piece (List.mem_map.mpr ⟨t, ht, rfl⟩)
      cases t with
      | lit t => simp only [Tok.piece, Piece.lit.injEq] at this; subst this; rfl
      | gl i body t F => simp [Tok.piece] at this
      | star i v => simp [Tok.piece] at this
      | sstar i w => simp [Tok.piece] at this
      | send i w => simp [Tok.piece] at this

/-- text a variable node stands for: `Variable.expand(env, raise_missing=True)` in the matcher's environment -/
def varText (env : Env) (n : Node) : Text :=
  match expandNode (expandVal (fuelFor env)) n env true with
  | .ok t => t
  | .error _ => []

/-- a node with what is put in its place: `vs k` for the wildcard numbered `k`, its expansion for a variable -/
def pieceOf (vs : Nat → Text) (env : Env) : Node → Piece
  | .lit t => .lit t
  | .star k => .star (vs k)
  | .starstar k sfx => if sfx = [] then .send (vs k) else .sstar (vs k)
  | .var name rep => .grp (varText env (.var name rep))
  | .android _ => .lit []

/-- the restricted class of top-level nodes: literal, `*`, `**/`, final `**`, first occurrence of a variable
    that is fully bound (its expansion with `raise_missing=True` exists) -/
def InClassN (env : Env) : Node → Prop
  | .lit _ => True
  | .star _ => True
  | .starstar _ sfx => sfx = [47] ∨ sfx = []
  | .var name rep => rep = false ∧ ∃ t, expandNode (expandVal (fuelFor env)) (.var name rep) env true = .ok t
  | .android _ => False

/-- the path text obtained by filling the wildcards with `vs` and the variables with their expansions -/
def fillN (vs : Nat → Text) (env : Env) (ns : List Node) : Text := piecesText (ns.map (pieceOf vs env))

def WellSepN (vs : Nat → Text) (env : Env) (ns : List Node) : Prop := PSep (ns.map (pieceOf vs env))

/-- group name a top-level node defines -/
def nameOfN : Node → List Text
  | .star n => [sname n]
  | .starstar n _ => [sname n]
  | .var name _ => [name]
  | _ => []

/-- what `match` is expected to report for the node's group -/
def valOf (vs : Nat → Text) (env : Env) : Node → Option Text
  | .star k => some (vs k)
  | .starstar k _ => if vs k = [] then none else some (vs k)
  | .var name rep => some (varText env (.var name rep))
  | _ => none

theorem class_tok {vs : Nat → Text} {env : Env} (henv : EnvOK env) {n : Node} (hc : InClassN env n)
    {a : List Re} {na : List Text} (hr : rxNode (rxVal (fuelFor env)) n env = .ok (a, na)) :
    ∃ tok, a = tok.items ∧ tok.piece = pieceOf vs env n ∧ GlOK [tok] ∧
      ∀ nm ∈ nameOfN n, nm ∈ na ∧ encName nm ∈ tok.idx ∧ tok.val = valOf vs env n := by
  have hnogl : ∀ {tok : Tok}, (∀ i body t F, tok ≠ Tok.gl i body t F) → GlOK [tok] := by
    intro tok h tok' ht i body t F he
    simp only [List.mem_singleton] at ht; subst ht
    exact absurd he (h i body t F)
  cases n with
  | lit t =>
    simp only [rxNode, pure, Except.pure, Except.ok.injEq, Prod.mk.injEq] at hr
    obtain ⟨rfl, rfl⟩ := hr
    exact ⟨.lit t, rfl, rfl, hnogl (by intro _ _ _ _ h; cases h), by intro nm h; simp [nameOfN] at h⟩
  | star k =>
    simp only [rxNode, pure, Except.pure, Except.ok.injEq, Prod.mk.injEq] at hr
    obtain ⟨rfl, rfl⟩ := hr
    refine ⟨.star (encName (sname k)) (vs k), rfl, rfl, hnogl (by intro _ _ _ _ h; cases h), ?_⟩
    intro nm h
    simp only [nameOfN, List.mem_singleton] at h; subst h
    exact ⟨by simp, by simp [Tok.idx], rfl⟩
  | starstar k sfx =>
    simp only [rxNode, pure, Except.pure, Except.ok.injEq, Prod.mk.injEq] at hr
    obtain ⟨rfl, rfl⟩ := hr
    rcases hc with rfl | rfl
    · refine ⟨.sstar (encName (sname k)) (vs k), rfl, rfl, hnogl (by intro _ _ _ _ h; cases h), ?_⟩
      intro nm h
      simp only [nameOfN, List.mem_singleton] at h; subst h
      exact ⟨by simp, by simp [Tok.idx], rfl⟩
    · refine ⟨.send (encName (sname k)) (vs k), rfl, rfl, hnogl (by intro _ _ _ _ h; cases h), ?_⟩
      intro nm h
      simp only [nameOfN, List.mem_singleton] at h; subst h
      exact ⟨by simp, by simp [Tok.idx], rfl⟩
  | var name rep =>
    obtain ⟨rfl, t, ht⟩ := hc
    have ht' := ht
    simp only [expandNode] at ht
    cases hl : env.lookup name with
    | none => simp [hl] at ht
    | some v =>
      simp only [hl] at ht
      simp only [rxNode, Bool.false_eq_true, if_false, hl, bind, Except.bind] at hr
      split at hr
      · cases hr
      · rename_i w hw
        obtain ⟨body, ns⟩ := w
        simp only [pure, Except.pure, Except.ok.injEq, Prod.mk.injEq] at hr
        obtain ⟨rfl, rfl⟩ := hr
        have hlit : LitLike body t :=
          litlike_val _ _ v _ t body ns (henv.lookup hl) (henv.derase name) ht hw
        obtain ⟨F, hrun, hidx⟩ := litlike_glok hlit
        refine ⟨.gl (encName name) body t F, rfl, ?_, ?_, ?_⟩
        · simp only [Tok.piece, pieceOf, varText, ht']
        · intro tok' htok i' body' t' F' he
          simp only [List.mem_singleton] at htok; subst htok
          cases he
          exact ⟨hrun, hidx⟩
        · intro nm h
          simp only [nameOfN, List.mem_singleton] at h; subst h
          exact ⟨by simp, by simp [Tok.idx], by simp only [Tok.val, valOf, varText, ht']⟩
  | android r => exact absurd hc (by simp [InClassN])

theorem tok_items_gidx (tok : Tok) : tok.items.flatMap gidx = tok.all := by
  cases tok with
  | lit t => simpa [Tok.items, Tok.all, Tok.idx, Tok.inner] using flatMap_gidx_lits t
  | gl i body t F => simp [Tok.items, Tok.all, Tok.idx, Tok.inner, gidx_group, gidx_seqOf]
  | star i v => simp [Tok.items, Tok.all, Tok.idx, Tok.inner, gidx, groups, Gen.Pat.matcher_frag_star]
  | sstar i w => simp [Tok.items, Tok.all, Tok.idx, Tok.inner, gidx, groups, Gen.Pat.matcher_frag_starstar, seqOf]
  | send i w => simp [Tok.items, Tok.all, Tok.idx, Tok.inner, gidx, groups, Gen.Pat.matcher_frag_starstar, seqOf]

theorem match_of_matchAt {m : Matcher} {path : Text} {re : Re} {names : List Text} {st : St}
    (hre : m.regexOf = .ok (re, names)) (hst : matchAt path.toArray re 0 = some st)
    (hna : androidName ∉ names) :
    m.match path = .ok (some (groupDict path.toArray st names)) := by
  have hany : (groupDict path.toArray st names).any (fun x => x.1 == androidName) = false :=
    Bool.eq_false_iff.mpr fun hc => hna (any_key_groupDict.mp hc)
  simp only [Matcher.match, hre, bind, Except.bind, hst, hany, Bool.false_and, Bool.false_eq_true, if_false,
    pure, Except.pure]

/-- for evaluated examples: the pattern compiles and the group name `k` is not among its names, from one Boolean test -/
theorem regexOf_ok_of (k : Text) {m : Matcher}
    (h : (match m.regexOf with | .ok x => !x.2.contains k | .error _ => false) = true) :
    ∃ re names, m.regexOf = .ok (re, names) ∧ k ∉ names := by
  split at h
  · rename_i x hx
    refine ⟨x.1, x.2, hx, ?_⟩
    intro hc
    have : x.2.contains k = true := by simpa using hc
    rw [this] at h
    cases h
  · cases h

theorem textAt_toArray_zero (a b : Text) : TextAt (a ++ b).toArray 0 a := by
  intro j hj
  simp only [Nat.zero_add, List.getElem?_toArray]
  exact List.getElem?_append_left hj

theorem textAt_toArray_right (a b : Text) : TextAt (a ++ b).toArray a.length b := by
  intro j _
  simp only [List.getElem?_toArray]
  rw [List.getElem?_append_right (by omega)]
  congr 1; omega

end C11R
