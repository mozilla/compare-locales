/-
C18, the explicit global state `Hist.G`.  The junk counter is threaded monotonically, a higher start value only shifts the ids
(`assign_shift`, `kents_shift`, `doParse_shift`), contexts are never overwritten.  The centre is `reportStr_doParse` /
`report_indep`: under `NoJunkLikeKeys` the report of a compare does not depend on the state.  Serving it: the junk ids of a key
list (`jids`), well-formed entries (`KWf`: the junk flag is that of the key), the two files share no junk key (`KDisjoint`) and
hold none twice (`JunkOnce`), so every message names real keys only (`RealMsgs`, `compareG_real`).
-/
import CLModel.History.State
import CLModel.Proofs.C18Digits
import CLModel.Proofs.C18Natural
namespace Hist
open P

theorem Ent.shift_shift (d a d' a' : Nat) (e : Ent) :
    (e.shift d a).shift d' a' = e.shift (d + d') (a + a') := by
  cases e with
  | mk ctx entry jid =>
    cases jid <;> simp [Ent.shift, Nat.add_assoc]

theorem Ent.shift_zero (e : Ent) : e.shift 0 0 = e := by
  cases e with
  | mk ctx entry jid => cases jid <;> simp [Ent.shift]

theorem assign_shift (f : Fmt) (s : Array Nat) (ctx a d : Nat) :
    ∀ (es : List Entry) (n off : Nat),
      assign f s (ctx + a) (n + d) off es
        = ((assign f s ctx n off es).1 + d, (assign f s ctx n off es).2.map (Ent.shift d a)) := by
  intro es
  induction es with
  | nil => intro n off; rfl
  | cons e t ih =>
    intro n off
    simp only [assign]
    have : n + d + bumps f s off e = n + bumps f s off e + d := by omega
    rw [this, ih]
    simp only [List.map_cons, Ent.shift]
    cases e.kind == Kind.junk <;> simp

theorem assign_ids (f : Fmt) (s : Array Nat) (ctx : Nat) :
    ∀ (es : List Entry) (n off : Nat),
      n ≤ (assign f s ctx n off es).1 ∧
      (∀ i ∈ (assign f s ctx n off es).2.filterMap (·.jid), n < i ∧ i ≤ (assign f s ctx n off es).1) ∧
      ((assign f s ctx n off es).2.filterMap (·.jid)).Pairwise (· < ·) := by
  intro es
  induction es with
  | nil => intro n off; simp [assign]
  | cons e t ih =>
    intro n off
    obtain ⟨h1, h2, h3⟩ := ih (n + bumps f s off e) e.e
    simp only [assign]
    refine ⟨by omega, ?_, ?_⟩
    · intro i hi
      by_cases hj : e.kind == Kind.junk
      · have hb : bumps f s off e = 1 := by simp [bumps, hj]
        simp only [hj, if_true, List.filterMap_cons, List.mem_cons] at hi
        rcases hi with hi | hi
        · subst hi; omega
        · have := h2 i hi; omega
      · simp only [hj, Bool.false_eq_true, if_false, List.filterMap_cons] at hi
        have := h2 i hi; omega
    · by_cases hj : e.kind == Kind.junk
      · simp only [hj, if_true, List.filterMap_cons, List.pairwise_cons]
        refine ⟨fun i hi => (h2 i hi).1, h3⟩
      · simp only [hj, Bool.false_eq_true, if_false, List.filterMap_cons]
        exact h3

theorem assign_wf (f : Fmt) (s : Array Nat) (ctx : Nat) :
    ∀ (es : List Entry) (n off : Nat), ∀ e ∈ (assign f s ctx n off es).2,
      e.jid.isSome = (e.entry.kind == Kind.junk) := by
  intro es
  induction es with
  | nil => intro n off e he; simp [assign] at he
  | cons x t ih =>
    intro n off e he
    simp only [assign, List.mem_cons] at he
    rcases he with he | he
    · subst he
      cases x.kind == Kind.junk <;> simp
    · exact ih _ _ e he

theorem assign_ctx (f : Fmt) (s : Array Nat) (ctx : Nat) :
    ∀ (es : List Entry) (n off : Nat), ∀ e ∈ (assign f s ctx n off es).2, e.ctx = ctx := by
  intro es
  induction es with
  | nil => intro n off e he; simp [assign] at he
  | cons x t ih =>
    intro n off e he
    simp only [assign, List.mem_cons] at he
    rcases he with he | he
    · subst he; rfl
    · exact ih _ _ e he

theorem Ent.key_shift (f : Fmt) (c : Array Nat) (d a : Nat) (e : Ent) :
    (e.shift d a).key f c = (e.key f c).shift d := by
  cases e with
  | mk ctx entry jid => cases jid <;> rfl

theorem Ent.val_shift (c : Array Nat) (d a : Nat) (e : Ent) : (e.shift d a).val c = e.val c := by
  cases e with
  | mk ctx entry jid => cases jid <;> rfl

-- field by field: each field is `rfl` at once, the whole record by `rfl` is slow to elaborate
theorem kent_shift (f : Fmt) (c : Array Nat) (d a : Nat) (e : Ent) :
    kent f c (e.shift d a) = KEnt.mapKey (Key.shift d) (kent f c e) := by
  simp only [kent, KEnt.mapKey, Ent.key_shift, Ent.val_shift]
  simp only [Ent.shift, Ent.all, Option.isSome_map]

theorem kents_shift (f : Fmt) (c : Array Nat) (d a : Nat) (ents : List Ent) :
    kents f c (ents.map (Ent.shift d a)) = (kents f c ents).map (KEnt.mapKey (Key.shift d)) := by
  unfold kents
  rw [List.filter_map, List.map_map, List.map_map]
  apply List.map_congr_left
  intro e _
  exact kent_shift f c d a e

def jids (K : List (KEnt Key)) : List Nat :=
  K.filterMap (fun x => match x.key with | .junk i _ _ => some i | .real _ => none)

def KWf (K : List (KEnt Key)) : Prop := ∀ x ∈ K, x.junk = x.key.isJunk

theorem kents_wf (f : Fmt) (c : Array Nat) (ents : List Ent) : KWf (kents f c ents) := by
  intro x hx
  unfold kents at hx
  rw [List.mem_map] at hx
  obtain ⟨e, _, rfl⟩ := hx
  cases e with
  | mk ctx entry jid => cases jid <;> rfl

theorem jids_kents (f : Fmt) (c : Array Nat) (ents : List Ent) :
    (jids (kents f c ents)).Sublist (ents.filterMap (·.jid)) := by
  unfold jids kents
  rw [List.filterMap_map]
  have e : ((fun x : KEnt Key => match x.key with | .junk i _ _ => some i | .real _ => none) ∘ kent f c)
      = (·.jid) := by
    funext e
    cases e with
    | mk ctx entry jid => cases jid <;> rfl
  rw [e]
  exact List.Sublist.filterMap _ List.filter_sublist

section generic
set_option linter.unusedSectionVars false
variable {κ : Type} [BEq κ] [LawfulBEq κ]

theorem cfold_le : ∀ (xs pre : List κ) (d : List (κ × Nat)), (∀ p ∈ d, p.2 ≤ pre.count p.1) →
    ∀ p ∈ xs.foldl counterStep d, p.2 ≤ (pre ++ xs).count p.1 := by
  intro xs
  induction xs with
  | nil => intro pre d hd p hp; simpa using hd p hp
  | cons x t ih =>
    intro pre d hd p hp
    simp only [List.foldl_cons] at hp
    have := ih (pre ++ [x]) (counterStep d x) ?_ p hp
    · simpa [List.append_assoc] using this
    · intro q hq
      unfold counterStep at hq
      rcases (AR.mem_dset hq).symm with hq | hq
      · subst hq
        simp only [List.count_append, List.count_singleton, beq_self_eq_true, if_true]
        cases hg : AR.dget d x with
        | none => simp
        | some c =>
          have := hd (x, c) (AR.mem_of_dget hg)
          simp at this ⊢
          omega
      · have := hd q hq
        rw [List.count_append]
        omega

theorem findDuplicates_count (keys : List κ) (k : κ) (c : Nat) (h : (k, c) ∈ findDuplicates keys) :
    1 < keys.count k := by
  unfold findDuplicates at h
  rw [List.mem_filter] at h
  obtain ⟨hm, hc⟩ := h
  have := cfold_le keys [] [] (by simp) (k, c) (by rw [counter_eq] at hm; exact hm)
  simp at this hc
  omega

theorem lookup_eq (ents : List (KEnt κ)) (k : κ) : lookup ents k = ents.reverse.find? (fun e => e.key == k) := by
  rw [← AR.keyed_getElem?]
  unfold lookup
  cases AR.keyedIndex (ents.map (·.key)) k <;> rfl

theorem lookup_key (ents : List (KEnt κ)) (k : κ) (e : KEnt κ) (h : lookup ents k = some e) :
    e.key = k ∧ e ∈ ents := by
  rw [lookup_eq] at h
  exact ⟨by simpa using List.find?_some h, by simpa using List.mem_of_find?_eq_some h⟩

end generic

def Msg.keys {κ : Type} : Msg κ → List κ
  | .dupRef k _ => [k] | .dupL10n k _ => [k] | .parserErrRef => [] | .missing k => [k]
  | .junkErr .. => [] | .obsolete k => [k] | .mochibake k _ r => [k, r]

def RealMsgs (msgs : List (Msg Key)) : Prop := ∀ m ∈ msgs, ∀ k ∈ m.keys, k.isJunk = false

theorem RealMsgs.append {a b : List (Msg Key)} (ha : RealMsgs a) (hb : RealMsgs b) : RealMsgs (a ++ b) := by
  intro m hm
  rw [List.mem_append] at hm
  rcases hm with hm | hm
  · exact ha m hm
  · exact hb m hm

def KDisjoint (ref l10n : List (KEnt Key)) : Prop :=
  ∀ k : Key, k.isJunk = true → k ∈ ref.map (·.key) → k ∈ l10n.map (·.key) → False

/- Every message names `k` or the key of the looked-up entry, which is `k` (`lookup_key`); a junk entry yields a message without
key, a non-junk one has a real key by `KWf`; in the `equal` case `k` is a key of both files, hence real by `KDisjoint`. -/
theorem compareStep_real (lc : Nat → Nat × Nat) (ref l10n : List (KEnt Key)) (hwr : KWf ref) (hwl : KWf l10n)
    (hdis : KDisjoint ref l10n) (acc acc' : Acc Key) (act : AR.Label × Key)
    (h : compareStep isKeyK lc ref l10n acc act = .ok acc') (hreal : RealMsgs acc.1) : RealMsgs acc'.1 := by
  obtain ⟨msgs, st⟩ := acc
  obtain ⟨lab, k⟩ := act
  unfold compareStep at h
  simp only at h hreal
  cases lab with
  | delete =>
    simp only at h
    cases hr : lookup ref k with
    | none => rw [hr] at h; simp at h
    | some r =>
      rw [hr] at h
      obtain ⟨hk, hmem⟩ := lookup_key ref k r hr
      simp only at h
      split at h
      · injection h with h; subst h
        exact hreal.append (by intro m hm; simp at hm; subst hm; simp [Msg.keys])
      · rename_i hj
        injection h with h; subst h
        refine hreal.append ?_
        intro m hm; simp at hm; subst hm
        intro k' hk'; simp [Msg.keys] at hk'; subst hk'
        have := hwr r hmem
        rw [hk] at this
        rw [← this]; simpa using hj
  | add =>
    simp only at h
    cases hl : lookup l10n k with
    | none => rw [hl] at h; simp at h
    | some l =>
      rw [hl] at h
      obtain ⟨hk, hmem⟩ := lookup_key l10n k l hl
      simp only at h
      split at h
      · injection h with h; subst h
        exact hreal.append (by intro m hm; simp at hm; subst hm; simp [Msg.keys])
      · rename_i hj
        injection h with h; subst h
        refine hreal.append ?_
        intro m hm; simp at hm; subst hm
        intro k' hk'; simp [Msg.keys] at hk'; subst hk'
        have := hwl l hmem
        rw [hk] at this
        rw [← this]; simpa using hj
  | equal =>
    simp only at h
    cases hr : lookup ref k with
    | none => rw [hr] at h; cases hl : lookup l10n k <;> rw [hl] at h <;> simp at h
    | some r =>
      cases hl : lookup l10n k with
      | none => rw [hr, hl] at h; simp at h
      | some l =>
        rw [hr, hl] at h
        obtain ⟨hkr, hmr⟩ := lookup_key ref k r hr
        obtain ⟨hkl, hml⟩ := lookup_key l10n k l hl
        have hkreal : k.isJunk = false := by
          cases hj : k.isJunk with
          | false => rfl
          | true =>
            exfalso
            exact hdis k hj (by rw [← hkr]; exact List.mem_map_of_mem hmr)
              (by rw [← hkl]; exact List.mem_map_of_mem hml)
        simp only at h
        split at h
        · simp at h
        · injection h with h; subst h
          refine hreal.append ?_
          intro m hm
          rw [List.mem_map] at hm
          obtain ⟨q, _, rfl⟩ := hm
          intro k' hk'
          simp [Msg.keys] at hk'
          rcases hk' with hk' | hk' <;> subst hk'
          · rw [hkl]; exact hkreal
          · rw [hkr]; exact hkreal

theorem foldlM_real (lc : Nat → Nat × Nat) (ref l10n : List (KEnt Key)) (hwr : KWf ref) (hwl : KWf l10n)
    (hdis : KDisjoint ref l10n) :
    ∀ (xs : List (AR.Label × Key)) (acc acc' : Acc Key),
      xs.foldlM (compareStep isKeyK lc ref l10n) acc = .ok acc' → RealMsgs acc.1 → RealMsgs acc'.1 := by
  intro xs
  induction xs with
  | nil => intro acc acc' h hr; simp [List.foldlM, pure, Except.pure] at h; subst h; exact hr
  | cons x t ih =>
    intro acc acc' h hr
    simp only [List.foldlM_cons, bind, Except.bind] at h
    cases hs : compareStep isKeyK lc ref l10n acc x with
    | error e => rw [hs] at h; simp at h
    | ok a =>
      rw [hs] at h
      exact ih a acc' h (compareStep_real lc ref l10n hwr hwl hdis acc a x hs hr)

def JunkOnce (K : List (KEnt Key)) : Prop := ∀ k : Key, k.isJunk = true → (K.map (·.key)).count k ≤ 1

theorem compareG_real (lc : Nat → Nat × Nat) (ref l10n : List (KEnt Key)) (hwr : KWf ref) (hwl : KWf l10n)
    (hdis : KDisjoint ref l10n) (hor : JunkOnce ref) (hol : JunkOnce l10n) (acc : Acc Key)
    (h : compareG isKeyK lc ref l10n = .ok acc) : RealMsgs acc.1 := by
  unfold compareG at h
  refine foldlM_real lc ref l10n hwr hwl hdis _ _ acc h ?_
  simp only
  refine RealMsgs.append ?_ ?_
  · intro m hm
    rw [List.mem_map] at hm
    obtain ⟨p, hp, rfl⟩ := hm
    intro k hk
    simp [Msg.keys] at hk; subst hk
    have hc := findDuplicates_count _ p.1 p.2 hp
    cases hj : p.1.isJunk with
    | false => rfl
    | true => have := hor p.1 hj; omega
  · intro m hm
    rw [List.mem_map] at hm
    obtain ⟨p, hp, rfl⟩ := hm
    intro k hk
    simp [Msg.keys] at hk; subst hk
    have hc := findDuplicates_count _ p.1 p.2 hp
    cases hj : p.1.isJunk with
    | false => rfl
    | true => have := hol p.1 hj; omega

theorem Key.render_shift_of_real (d : Nat) {k : Key} (hk : k.isJunk = false) : (k.shift d).render = k.render := by
  cases k with
  | real t => rfl
  | junk i s e => cases hk

theorem mapKey_real (d : Nat) (msgs : List (Msg Key)) (h : RealMsgs msgs) :
    msgs.map (Msg.mapKey (fun k => (k.shift d).render)) = msgs.map (Msg.mapKey Key.render) := by
  apply List.map_congr_left
  intro m hm
  have hk := h m hm
  cases m <;> simp [Msg.mapKey, Msg.keys] at hk ⊢
  all_goals first | exact Key.render_shift_of_real d hk | exact ⟨Key.render_shift_of_real d hk.1, Key.render_shift_of_real d hk.2⟩ | skip

theorem doParse_ents (g : G) (f : Fmt) (t : Array Nat) :
    (doParse g f t).2.2 = (ents0 f t).map (Ent.shift g.junkid g.heap.length) := by
  have := assign_shift f t 0 g.heap.length g.junkid (entriesOf (walk f t)) 0 0
  simp only [Nat.zero_add] at this
  simp only [doParse, ents0, this]

theorem doParse_junkid (g : G) (f : Fmt) (t : Array Nat) :
    (doParse g f t).1.junkid = bump0 f t + g.junkid := by
  have := assign_shift f t 0 g.heap.length g.junkid (entriesOf (walk f t)) 0 0
  simp only [Nat.zero_add] at this
  simp only [doParse, bump0, this]

theorem doParse_heap (g : G) (f : Fmt) (t : Array Nat) :
    (doParse g f t).1.heap = g.heap ++ [{ contents := t }] := rfl

theorem doParse_stuck (g : G) (f : Fmt) (t : Array Nat) : (doParse g f t).2.1 = stuckAt (walk f t) := rfl

theorem jids_map_shift (b : Nat) (K : List (KEnt Key)) :
    jids (K.map (KEnt.mapKey (Key.shift b))) = (jids K).map (· + b) := by
  induction K with
  | nil => rfl
  | cons x t ih =>
    unfold jids at ih ⊢
    simp only [List.map_cons, List.filterMap_cons]
    cases hk : x.key with
    | real s => simp [KEnt.mapKey, hk, Key.shift, ih]
    | junk i s e => simp [KEnt.mapKey, hk, Key.shift, ih]

theorem kwf_map_shift (b : Nat) (K : List (KEnt Key)) (h : KWf K) : KWf (K.map (KEnt.mapKey (Key.shift b))) := by
  intro x hx
  rw [List.mem_map] at hx
  obtain ⟨y, hy, rfl⟩ := hx
  have := h y hy
  simp only [KEnt.mapKey]
  rw [this]
  cases y.key <;> rfl

theorem mem_jids (K : List (KEnt Key)) (i s e : Nat) (h : Key.junk i s e ∈ K.map (·.key)) : i ∈ jids K := by
  rw [List.mem_map] at h
  obtain ⟨x, hx, hk⟩ := h
  unfold jids
  rw [List.mem_filterMap]
  exact ⟨x, hx, by rw [hk]⟩

theorem junkOnce_of_pairwise : ∀ (K : List (KEnt Key)), (jids K).Pairwise (· < ·) → JunkOnce K := by
  intro K
  induction K with
  | nil => intro _ k _; simp
  | cons x t ih =>
    intro hp k hk
    have htail : (jids t).Pairwise (· < ·) := by
      unfold jids at hp ⊢
      simp only [List.filterMap_cons] at hp
      split at hp
      · exact hp
      · exact (List.pairwise_cons.mp hp).2
    simp only [List.map_cons, List.count_cons]
    by_cases hx : x.key = k
    · subst hx
      cases hkk : x.key with
      | real s => rw [hkk] at hk; simp [Key.isJunk] at hk
      | junk i s e =>
        have hnot : Key.junk i s e ∉ t.map (·.key) := by
          intro hm
          have hi := mem_jids t i s e hm
          unfold jids at hp
          simp only [List.filterMap_cons, hkk] at hp
          have := (List.pairwise_cons.mp hp).1 i hi
          omega
        have : (t.map (·.key)).count (Key.junk i s e) = 0 := List.count_eq_zero.mpr hnot
        simp [this]
    · have := ih htail k hk
      have hne : (x.key == k) = false := by simpa using hx
      simp [hne]; exact this

theorem kdisjoint_of_bounds (Kr Kl : List (KEnt Key)) (b : Nat) (hr : ∀ i ∈ jids Kr, i ≤ b)
    (hl : ∀ i ∈ jids Kl, b < i) : KDisjoint Kr Kl := by
  intro k hk h1 h2
  cases k with
  | real s => simp [Key.isJunk] at hk
  | junk i s e =>
    have := hr i (mem_jids Kr i s e h1)
    have := hl i (mem_jids Kl i s e h2)
    omega

theorem ents0_ids (f : Fmt) (t : Array Nat) :
    (∀ i ∈ (ents0 f t).filterMap (·.jid), 0 < i ∧ i ≤ bump0 f t) ∧
      ((ents0 f t).filterMap (·.jid)).Pairwise (· < ·) := by
  obtain ⟨_, h2, h3⟩ := assign_ids f t 0 (entriesOf (walk f t)) 0 0
  exact ⟨h2, h3⟩

theorem refK_facts (f : Fmt) (ref : Array Nat) :
    KWf (refK f ref) ∧ (jids (refK f ref)).Pairwise (· < ·) ∧ ∀ i ∈ jids (refK f ref), i ≤ bump0 f ref := by
  obtain ⟨h2, h3⟩ := ents0_ids f ref
  have hs := jids_kents f ref (ents0 f ref)
  exact ⟨kents_wf _ _ _, h3.sublist hs, fun i hi => (h2 i (hs.subset hi)).2⟩

theorem l10nK_facts (f : Fmt) (ref l10n : Array Nat) :
    KWf (l10nK f ref l10n) ∧ (jids (l10nK f ref l10n)).Pairwise (· < ·) ∧
      ∀ i ∈ jids (l10nK f ref l10n), bump0 f ref < i := by
  obtain ⟨h2, h3⟩ := ents0_ids f l10n
  have hs := jids_kents f l10n (ents0 f l10n)
  unfold l10nK
  rw [jids_map_shift]
  refine ⟨kwf_map_shift _ _ (kents_wf _ _ _), ?_, ?_⟩
  · rw [List.pairwise_map]
    exact (h3.sublist hs).imp (by intro a b h; omega)
  · intro i hi
    rw [List.mem_map] at hi
    obtain ⟨j, hj, rfl⟩ := hi
    have := (h2 j (hs.subset hj)).1
    omega

theorem KEnt.mapKey_mapKey {α β γ : Type} (f : α → β) (g : β → γ) (x : KEnt α) :
    KEnt.mapKey g (KEnt.mapKey f x) = KEnt.mapKey (fun k => g (f k)) x := rfl

theorem Key.shift_shift (a b : Nat) (k : Key) : (k.shift a).shift b = k.shift (a + b) := by
  cases k <;> simp [Key.shift, Nat.add_assoc]

theorem renderShift_injOn_of (ks : List Key) (h : ∀ t, Key.real t ∈ ks → ¬ JunkShaped t) (d : Nat) :
    InjOn (fun k : Key => (k.shift d).render) ks := by
  intro a ha b hb hab
  cases a with
  | real s =>
    cases b with
    | real t => simpa [Key.shift, Key.render] using hab
    | junk i x y =>
      exfalso
      exact h s ha ⟨i + d, x, y, by simpa [Key.shift, Key.render] using hab⟩
  | junk i x y =>
    cases b with
    | real t =>
      exfalso
      exact h t hb ⟨i + d, x, y, by simpa [Key.shift, Key.render] using hab.symm⟩
    | junk j x' y' =>
      simp only [Key.shift, Key.render] at hab
      obtain ⟨h1, h2, h3⟩ := junkKey_inj hab
      have : i = j := by omega
      subst this; subst h2; subst h3; rfl

theorem renderShift_injOn (f : Fmt) (ref l10n : Array Nat) (h : NoJunkLikeKeys f ref l10n) (d : Nat) :
    InjOn (fun k : Key => (k.shift d).render) ((refK f ref).map (·.key) ++ (l10nK f ref l10n).map (·.key)) :=
  renderShift_injOn_of _ h d

theorem isKeyStr_renderShift (d : Nat) (k : Key) : isKeyStr ((k.shift d).render) = isKeyK k := by
  cases k with
  | real t => rfl
  | junk i s e => exact isKeyStr_junkKey _ _ _

theorem kents_doParse (g : G) (f : Fmt) (t : Array Nat) :
    kents f t (doParse g f t).2.2 = (refK f t).map (KEnt.mapKey (Key.shift g.junkid)) := by
  rw [doParse_ents, kents_shift]; rfl

theorem kents_doParse2 (g : G) (f : Fmt) (ref t : Array Nat) :
    kents f t (doParse (doParse g f ref).1 f t).2.2
      = (l10nK f ref t).map (KEnt.mapKey (Key.shift g.junkid)) := by
  rw [doParse_ents, kents_shift, doParse_junkid]
  unfold l10nK
  rw [List.map_map]
  apply List.map_congr_left
  intro x _
  simp only [Function.comp, KEnt.mapKey_mapKey, Key.shift_shift]

theorem mapKey_comp (d : Nat) (K : List (KEnt Key)) :
    (K.map (KEnt.mapKey (Key.shift d))).map (KEnt.mapKey Key.render)
      = K.map (KEnt.mapKey (fun k : Key => (k.shift d).render)) := by
  rw [List.map_map]; rfl

/- Both `kents` lists are `refK`/`l10nK` with the junk ids shifted by the counter.  Under `NoJunkLikeKeys` rendering after the
shift is injective on the keys of the two files, so `compareG` commutes with it (`compareG_nat`); the messages of the result
name real keys only (`compareG_real`), on which the shift is invisible (`mapKey_real`). -/
theorem reportStr_doParse (g : G) (f : Fmt) (ref l10n : Array Nat) (h : NoJunkLikeKeys f ref l10n) :
    reportStr f ref l10n (doParse g f ref).2.2 (doParse (doParse g f ref).1 f l10n).2.2 =
      (compareG isKeyK (linecolOf (lineEnds l10n)) (refK f ref) (l10nK f ref l10n)).map (accMap Key.render) := by
  unfold reportStr
  rw [kents_doParse, kents_doParse2, mapKey_comp, mapKey_comp]
  obtain ⟨wr, pr, br⟩ := refK_facts f ref
  obtain ⟨wl, pl, bl⟩ := l10nK_facts f ref l10n
  rw [compareG_nat (renderShift_injOn f ref l10n h g.junkid) isKeyK isKeyStr (fun k _ => isKeyStr_renderShift g.junkid k)
    (linecolOf (lineEnds l10n)) (refK f ref) (l10nK f ref l10n)
    (fun e he => List.mem_append_left _ (List.mem_map_of_mem he))
    (fun e he => List.mem_append_right _ (List.mem_map_of_mem he))]
  cases hc : compareG isKeyK (linecolOf (lineEnds l10n)) (refK f ref) (l10nK f ref l10n) with
  | error e => rfl
  | ok acc =>
    have hreal := compareG_real _ _ _ wr wl (kdisjoint_of_bounds _ _ _ br bl)
      (junkOnce_of_pairwise _ pr) (junkOnce_of_pairwise _ pl) acc hc
    simp only [Except.map, accMap]
    rw [mapKey_real _ _ hreal]

theorem report_indep (g : G) (f : Fmt) (ref l10n : Array Nat) (h : NoJunkLikeKeys f ref l10n) :
    (step g (.compare f ref l10n)).2 =
      .report ((compareG isKeyK (linecolOf (lineEnds l10n)) (refK f ref) (l10nK f ref l10n)).map
        (accMap Key.render)) := by
  simp only [step]
  rw [reportStr_doParse g f ref l10n h]

theorem parse_out (g : G) (f : Fmt) (t : Array Nat) :
    (step g (.parse f t)).2 = .parsed (stuckAt (walk f t)) ((ents0 f t).map (Ent.shift g.junkid g.heap.length)) := by
  simp only [step]
  rw [doParse_ents]
  rfl

theorem step_closed_out (g g0 : G) (d a : Nat) (op : Op) (hc : op.closed)
    (hj : g.junkid = g0.junkid + d) (hh : g.heap.length = g0.heap.length + a) :
    (step g op).2 = ((step g0 op).2).shift d a := by
  cases op with
  | parse f t =>
    rw [parse_out, parse_out]
    simp only [Out.shift, List.map_map]
    congr 1
    apply List.map_congr_left
    intro e _
    simp only [Function.comp, Ent.shift_shift, hj, hh]
  | compare f ref l10n =>
    rw [report_indep g f ref l10n hc, report_indep g0 f ref l10n hc]
    rfl
  | reobs f e => exact absurd hc (by simp [Op.closed])

theorem doParse_shift (g g0 : G) (f : Fmt) (x : Array Nat) (d a : Nat) (hj : g.junkid = g0.junkid + d)
    (hh : g.heap.length = g0.heap.length + a) :
    (doParse g f x).1.junkid = (doParse g0 f x).1.junkid + d ∧
      (doParse g f x).1.heap.length = (doParse g0 f x).1.heap.length + a := by
  rw [doParse_junkid, doParse_junkid, doParse_heap, doParse_heap]
  simp only [List.length_append, List.length_cons, List.length_nil]
  omega

theorem step_closed_state (g g0 : G) (d a : Nat) (op : Op) (hc : op.closed)
    (hj : g.junkid = g0.junkid + d) (hh : g.heap.length = g0.heap.length + a) :
    (step g op).1.junkid = (step g0 op).1.junkid + d ∧
      (step g op).1.heap.length = (step g0 op).1.heap.length + a := by
  cases op with
  | parse f t => exact doParse_shift g g0 f t d a hj hh
  | compare f ref l10n =>
    obtain ⟨j1, h1⟩ := doParse_shift g g0 f ref d a hj hh
    exact doParse_shift _ _ f l10n d a j1 h1
  | reobs f e => exact absurd hc (by simp [Op.closed])

theorem run_shift : ∀ (ops : List Op) (g g0 : G) (d a : Nat), (∀ op ∈ ops, op.closed) →
    g.junkid = g0.junkid + d → g.heap.length = g0.heap.length + a →
    (run g ops).2 = ((run g0 ops).2).map (Out.shift d a) := by
  intro ops
  induction ops with
  | nil => intro g g0 d a _ _ _; rfl
  | cons op t ih =>
    intro g g0 d a hc hj hh
    have hop := hc op List.mem_cons_self
    obtain ⟨s1, s2⟩ := step_closed_state g g0 d a op hop hj hh
    simp only [run, List.map_cons]
    rw [step_closed_out g g0 d a op hop hj hh,
      ih (step g op).1 (step g0 op).1 d a (fun o ho => hc o (List.mem_cons_of_mem _ ho)) s1 s2]

theorem filterMap_jid_shift (d a : Nat) (es : List Ent) :
    (es.map (Ent.shift d a)).filterMap (·.jid) = (es.filterMap (·.jid)).map (· + d) := by
  induction es with
  | nil => rfl
  | cons e t ih =>
    cases e with
    | mk ctx entry jid =>
      cases jid with
      | none => simpa [Ent.shift] using ih
      | some i => simpa [Ent.shift] using ih

theorem doObs_junkid (g : G) (f : Fmt) (e : Ent) : (doObs g f e).1.junkid = g.junkid := by
  unfold doObs
  split <;> rfl

theorem step_ids (g : G) (op : Op) :
    g.junkid ≤ (step g op).1.junkid ∧
    (∀ i ∈ (step g op).2.ents.filterMap (·.jid), g.junkid < i ∧ i ≤ (step g op).1.junkid) ∧
    ((step g op).2.ents.filterMap (·.jid)).Pairwise (· < ·) := by
  cases op with
  | parse f t =>
    obtain ⟨h2, h3⟩ := ents0_ids f t
    simp only [step, Out.ents]
    rw [doParse_junkid, doParse_ents, filterMap_jid_shift]
    refine ⟨by omega, ?_, ?_⟩
    · intro i hi
      rw [List.mem_map] at hi
      obtain ⟨j, hj, rfl⟩ := hi
      have := h2 j hj
      omega
    · rw [List.pairwise_map]
      exact h3.imp (by intro a b h; omega)
  | compare f ref l10n =>
    simp only [step, Out.ents]
    rw [doParse_junkid, doParse_junkid]
    refine ⟨by omega, by simp, by simp⟩
  | reobs f e =>
    simp only [step, Out.ents]
    rw [doObs_junkid]
    refine ⟨by omega, by simp, by simp⟩

theorem run_ids : ∀ (ops : List Op) (g : G),
    (((run g ops).2.flatMap Out.ents).filterMap (·.jid)).Pairwise (· < ·) ∧
    ∀ i ∈ ((run g ops).2.flatMap Out.ents).filterMap (·.jid), g.junkid < i := by
  intro ops
  induction ops with
  | nil => intro g; simp [run]
  | cons op t ih =>
    intro g
    obtain ⟨m, b, p⟩ := step_ids g op
    obtain ⟨ip, ib⟩ := ih (step g op).1
    simp only [run, List.flatMap_cons, List.filterMap_append]
    refine ⟨?_, ?_⟩
    · rw [List.pairwise_append]
      refine ⟨p, ip, ?_⟩
      intro a ha c hc
      have := (b a ha).2
      have := ib c hc
      omega
    · intro i hi
      rw [List.mem_append] at hi
      rcases hi with hi | hi
      · exact (b i hi).1
      · have := ib i hi; omega

theorem keys_nodup_of_ids : ∀ (E : List Ent), (E.filterMap (·.jid)).Pairwise (· < ·) →
    (E.filterMap Ent.junkKeyStr).Nodup := by
  intro E
  induction E with
  | nil => intro _; simp
  | cons e t ih =>
    intro hp
    cases hj : e.jid with
    | none =>
      have : e.junkKeyStr = none := by simp [Ent.junkKeyStr, hj]
      simp only [List.filterMap_cons, hj, this] at hp ⊢
      exact ih hp
    | some i =>
      have hk : e.junkKeyStr = some (junkKey i e.entry.s e.entry.e) := by simp [Ent.junkKeyStr, hj]
      simp only [List.filterMap_cons, hj, hk] at hp ⊢
      obtain ⟨hlt, htail⟩ := List.pairwise_cons.mp hp
      rw [List.nodup_cons]
      refine ⟨?_, ih htail⟩
      intro hm
      rw [List.mem_filterMap] at hm
      obtain ⟨e', he', hk'⟩ := hm
      unfold Ent.junkKeyStr at hk'
      cases hj' : e'.jid with
      | none => rw [hj'] at hk'; simp at hk'
      | some i' =>
        rw [hj'] at hk'
        simp at hk'
        obtain ⟨h1, _, _⟩ := junkKey_inj hk'
        have : i' ∈ t.filterMap (·.jid) := List.mem_filterMap.mpr ⟨e', he', hj'⟩
        have := hlt i' this
        omega

/-- a Context object later in time: same contents, the line cache at most filled in -/
def CellLe (c c' : Ctx) : Prop :=
  c'.contents = c.contents ∧ (c'.lines = c.lines ∨ (c.lines = none ∧ c'.lines = some (lineEnds c.contents)))

theorem CellLe.refl (c : Ctx) : CellLe c c := ⟨rfl, Or.inl rfl⟩

theorem CellLe.trans {a b c : Ctx} (h1 : CellLe a b) (h2 : CellLe b c) : CellLe a c := by
  obtain ⟨c1, l1⟩ := h1
  obtain ⟨c2, l2⟩ := h2
  refine ⟨c2.trans c1, ?_⟩
  rcases l1 with l1 | ⟨l1, l1'⟩ <;> rcases l2 with l2 | ⟨l2, l2'⟩
  · exact Or.inl (l2.trans l1)
  · exact Or.inr ⟨by rw [← l1]; exact l2, by rw [l2', c1]⟩
  · exact Or.inr ⟨l1, by rw [l2, l1']⟩
  · rw [l1'] at l2; simp at l2

theorem linecol_le (c : Ctx) (pos : Nat) : CellLe c (c.linecol pos).2 := by
  unfold Ctx.linecol
  cases h : c.lines with
  | some ls => simp only; exact CellLe.refl c
  | none => simp only; exact ⟨rfl, Or.inr ⟨h, rfl⟩⟩

def HeapLe (h h' : List Ctx) : Prop := ∀ (i : Nat) (c : Ctx), h[i]? = some c → ∃ c', h'[i]? = some c' ∧ CellLe c c'

theorem HeapLe.refl (h : List Ctx) : HeapLe h h := fun _ c hc => ⟨c, hc, CellLe.refl c⟩

theorem HeapLe.trans {a b c : List Ctx} (h1 : HeapLe a b) (h2 : HeapLe b c) : HeapLe a c := by
  intro i x hx
  obtain ⟨y, hy, l1⟩ := h1 i x hx
  obtain ⟨z, hz, l2⟩ := h2 i y hy
  exact ⟨z, hz, l1.trans l2⟩

theorem heapLe_append (h t : List Ctx) : HeapLe h (h ++ t) := by
  intro i c hc
  have hlt : i < h.length := by
    rw [List.getElem?_eq_some_iff] at hc
    exact hc.1
  exact ⟨c, by rw [List.getElem?_append_left hlt]; exact hc, CellLe.refl c⟩

theorem doObs_heap (g : G) (f : Fmt) (e : Ent) : HeapLe g.heap (doObs g f e).1.heap := by
  unfold doObs
  cases hc : g.heap[e.ctx]? with
  | none => exact HeapLe.refl _
  | some c =>
    simp only
    intro i x hx
    rw [List.getElem?_set]
    by_cases hi : e.ctx = i
    · subst hi
      have hlt : e.ctx < g.heap.length := by
        rw [List.getElem?_eq_some_iff] at hc
        exact hc.1
      rw [hc] at hx
      injection hx with hx
      subst hx
      simp only [if_true, hlt]
      exact ⟨_, rfl, (linecol_le c e.entry.s).trans (linecol_le _ e.entry.e)⟩
    · simp only [hi, if_false]
      exact ⟨x, hx, CellLe.refl x⟩

theorem step_heap (g : G) (op : Op) : HeapLe g.heap (step g op).1.heap := by
  cases op with
  | parse f t => simp only [step]; rw [doParse_heap]; exact heapLe_append _ _
  | compare f ref l10n =>
    simp only [step]
    rw [doParse_heap, doParse_heap]
    exact (heapLe_append _ _).trans (heapLe_append _ _)
  | reobs f e => simp only [step]; exact doObs_heap g f e

theorem run_heap : ∀ (ops : List Op) (g : G), HeapLe g.heap (run g ops).1.heap := by
  intro ops
  induction ops with
  | nil => intro g; exact HeapLe.refl _
  | cons op t ih =>
    intro g
    simp only [run]
    exact (step_heap g op).trans (ih _)

theorem obsPure_le (h h' : List Ctx) (hle : HeapLe h h') (f : Fmt) (e : Ent) (he : e.ctx < h.length) :
    obsPure h' f e = obsPure h f e := by
  unfold obsPure
  have hc : h[e.ctx]? = some h[e.ctx] := List.getElem?_eq_getElem he
  obtain ⟨c', hc', hcont, hlines⟩ := hle e.ctx _ hc
  rw [hc, hc']
  simp only [Option.map_some, hcont]
  rcases hlines with hl | ⟨hl, hl'⟩
  · rw [hl]
  · rw [hl, hl']

theorem doObs_eq (g : G) (f : Fmt) (e : Ent) : (doObs g f e).2 = obsPure g.heap f e := by
  unfold doObs obsPure
  cases hc : g.heap[e.ctx]? with
  | none => rfl
  | some c =>
    simp only [Option.map_some]
    unfold Ctx.linecol
    cases hl : c.lines with
    | some ls => simp [hl]
    | none => simp

theorem doParse_ctx (g : G) (f : Fmt) (t : Array Nat) :
    ∀ e ∈ (doParse g f t).2.2, e.ctx < (doParse g f t).1.heap.length := by
  intro e he
  have := assign_ctx f t g.heap.length (entriesOf (walk f t)) g.junkid 0 e he
  rw [doParse_heap, this]
  simp

theorem junkShaped_head (t : List Nat) (h : JunkShaped t) : t.head? = some 95 := by
  obtain ⟨i, s, e, rfl⟩ := h
  rfl

end Hist
