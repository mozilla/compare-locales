/-
The parser models never yield two neighbouring Whitespace entries (`NoAdjWs`), because the
white-space expressions `[ \t\r\n]+` / `\n+` are greedy repeats of a one-character step: after a match that
ends at `p` the expression cannot match at `p`.
-/
import CLModel.Proofs.C15Text
import CLModel.Proofs.C02XInc
import CLModel.Proofs.Skel
import CLModel.Proofs.WalkFmt
namespace C15W
open Rx P Gen.Pat Merge

theorem runLen_none_cons (p : Nat → Bool) (c : Nat) (t : List Nat) :
    runLen p none (c :: t) = if p c then 1 + runLen p none t else 0 := by
  simp [runLen]

theorem runLen_drop (p : Nat → Bool) : ∀ l : List Nat, runLen p none (l.drop (runLen p none l)) = 0
  | [] => by simp [runLen]
  | c :: t => by
    rw [runLen_none_cons]
    by_cases h : p c
    · simp only [h, if_true]
      rw [show 1 + runLen p none t = runLen p none t + 1 by omega, List.drop_succ_cons]
      exact runLen_drop p t
    · simp [h, runLen_none_cons]

/-- the expression is `P+` for a one-character test `P`, in front of the final continuation -/
def PlusRe (R : Re) : Prop :=
  ∃ P : Nat → Bool, ∀ (s : Array Nat) (pos : Nat), pos ≤ s.size →
    matchAt s R pos =
      if runLen P none (s.toList.drop pos) < 1 then none
      else some ⟨pos + runLen P none (s.toList.drop pos), []⟩

theorem plus_exact (s : Array Nat) (P : Nat → Bool) (pos : Nat) (hp : pos ≤ s.size) :
    loop (charStep s P) true (s.size + 2 - pos) 1 none ⟨pos, []⟩ some =
      if runLen P none (s.toList.drop pos) < 1 then none
      else some ⟨pos + runLen P none (s.toList.drop pos), []⟩ := by
  apply loop_greedy_total_step s P [] some (fun _ => rfl) _ 1 none pos
  have := runLen_le P (s.toList.drop pos) none
  simp only [List.length_drop, Array.length_toList] at this
  omega

theorem plusRe_parser : PlusRe Parser_reWhitespace :=
  ⟨inC false [.ch 32, .ch 9, .ch 13, .ch 10], fun s pos hp => by
    simp only [matchAt, Parser_reWhitespace, m_rep_def, m_cls_charStep]
    exact plus_exact s _ pos hp⟩

theorem plusRe_defines : PlusRe DefinesParser_reWhitespace :=
  ⟨fun d => d == 10, fun s pos hp => by
    simp only [matchAt, DefinesParser_reWhitespace, m_rep_def, C02X.m_lit_charStep]
    exact plus_exact s _ pos hp⟩

theorem plus_stop (R : Re) (hR : PlusRe R) (s : Array Nat) (pos : Nat) (w : St) (hp : pos ≤ s.size)
    (h : matchAt s R pos = some w) : pos < w.pos ∧ w.pos ≤ s.size ∧ matchAt s R w.pos = none := by
  obtain ⟨P, hP⟩ := hR
  rw [hP s pos hp] at h
  split at h
  · cases h
  · rename_i hn
    simp only [Option.some.injEq] at h
    subst h
    have hle := runLen_le P (s.toList.drop pos) none
    simp only [List.length_drop, Array.length_toList] at hle
    have hw : pos + runLen P none (s.toList.drop pos) ≤ s.size := by omega
    refine ⟨by simp only; omega, hw, ?_⟩
    rw [hP s _ hw]
    have : s.toList.drop (pos + runLen P none (s.toList.drop pos))
        = (s.toList.drop pos).drop (runLen P none (s.toList.drop pos)) := by
      rw [List.drop_drop]
    rw [this, runLen_drop]
    simp

/-- `next` yields a Whitespace entry at `off` only if the white-space expression `R` matches at the offset the
    search really starts from (`off`, or `off + 1` for a DTD whose byte-order mark is skipped), and the entry ends
    where the match ends -/
def WsFrom (R : Re) (s : Array Nat) (next : Nat → Entry) : Prop :=
  ∀ off, (next off).kind = .whitespace →
    ∃ w o, (o = off ∨ (off = 0 ∧ o = 1)) ∧ matchAt s R o = some w ∧ (next off).e = w.pos

theorem getJunk_kind (s : Array Nat) (off : Nat) (exps : List Re) : (getJunk s off exps).kind = .junk := rfl

theorem skel_ws (K : Stages) (s : Array Nat) (off : Nat)
    (hearly : ∀ b o0 o1 e x, K.early b o0 o1 e = some x → x.kind ≠ .whitespace)
    (hother : (K.other off).kind ≠ .whitespace) (h : (skel K s off).kind = .whitespace) :
    ∃ w, matchAt s K.reWhitespace off = some w ∧ (skel K s off).e = w.pos := by
  revert h
  apply skel_cases K s off (fun e => e.kind = .whitespace → ∃ w, matchAt s K.reWhitespace off = some w ∧ e.e = w.pos)
  · intro _ _ h; cases h
  · intro w _ hw _; exact ⟨w, hw, rfl⟩
  · intro _ _ _ e _ _ he h; exact absurd h (hearly _ _ _ _ e he)
  · intro _ _ _ _ _ _ _ _ _ _ h; cases h
  · intro _ _ h; exact absurd h hother

theorem getNext_ws (c : BaseCfg) (s : Array Nat) (off : Nat) (h : (getNext c s off).kind = .whitespace) :
    ∃ w, matchAt s c.reWhitespace off = some w ∧ (getNext c s off).e = w.pos := by
  rw [getNext_eq_skel] at h ⊢
  exact skel_ws (baseK c s) s off (fun _ _ _ _ _ h => by cases h) (by simp [baseK, getJunk_kind]) h

theorem propsGetNext_ws (s : Array Nat) (off : Nat) (h : (propsGetNext s off).kind = .whitespace) :
    ∃ w, matchAt s Parser_reWhitespace off = some w ∧ (propsGetNext s off).e = w.pos := by
  rw [propsGetNext_eq_skel] at h ⊢
  exact skel_ws (propsK s) s off (fun _ _ _ _ _ h => by cases h) (by simp [propsK, getJunk_kind]) h

theorem definesGetNext_ws (s : Array Nat) (fel : Bool) (off : Nat)
    (h : (definesGetNext s fel off).1.kind = .whitespace) :
    ∃ w, matchAt s DefinesParser_reWhitespace off = some w ∧ (definesGetNext s fel off).1.e = w.pos := by
  rw [definesGetNext_eq_skel] at h ⊢
  refine skel_ws (definesK s fel) s off (fun b _ _ _ x hx => ?_) ?_ h
  · simp only [definesK] at hx
    split at hx
    · cases b <;> cases hx <;> simp [commentE]
    · cases hx
  · simp only [definesK, definesOther]
    split <;> simp [getJunk_kind]

theorem iniGetNext_ws (s : Array Nat) (off : Nat) (h : (iniGetNext s off).kind = .whitespace) :
    ∃ w, matchAt s Parser_reWhitespace off = some w ∧ (iniGetNext s off).e = w.pos := by
  unfold iniGetNext at h ⊢
  split
  · rename_i st hst
    simp [hst] at h
  · rename_i hst
    simp only [hst] at h
    exact getNext_ws iniCfg s off h

theorem dtdGetNext_ws (s : Array Nat) : WsFrom Parser_reWhitespace s (dtdGetNext s) := by
  intro off0 h
  unfold dtdGetNext at h ⊢
  generalize ho : (if (off0 == 0 && (matchAt s DTDParser_reHeader 0).isSome) = true then off0 + 1 else off0) = o at h ⊢
  have h1 : o = off0 ∨ (off0 = 0 ∧ o = 1) := by
    rw [← ho]
    split
    · rename_i hc
      simp only [Bool.and_eq_true, beq_iff_eq] at hc
      exact .inr ⟨hc.1, by omega⟩
    · exact .inl rfl
  simp only at h ⊢
  by_cases hj : (getNext dtdCfg s o).kind = .junk
  · exfalso
    simp only [hj, beq_self_eq_true, if_true] at h
    split at h
    · simp at h
    · rw [hj] at h; cases h
  · have hb : ((getNext dtdCfg s o).kind == Kind.junk) = false := by
      cases hk : (getNext dtdCfg s o).kind <;> simp_all
    simp only [hb, Bool.false_eq_true, if_false] at h ⊢
    obtain ⟨w, hw, he⟩ := getNext_ws dtdCfg s o h
    exact ⟨w, o, h1, hw, he⟩

abbrev NoAdjK : List Entry → Prop := C02P.Adj fun a b => ¬ (a.kind = .whitespace ∧ b.kind = .whitespace)

/-- the white-space expression of the parser of format `f` -/
def wsRe : Fmt → Re
  | .inc => DefinesParser_reWhitespace
  | _ => Parser_reWhitespace

theorem plusRe_wsRe (f : Fmt) : PlusRe (wsRe f) := by
  cases f
  case inc => exact plusRe_defines
  all_goals exact plusRe_parser

theorem nextOf_ws (f : Fmt) (s : Array Nat) (fel : Bool) : WsFrom (wsRe f) s (fun off => (C01M.nextOf f s fel off).1) := by
  cases f
  · exact fun off h => (propsGetNext_ws s off h).imp fun w hw => ⟨off, .inl rfl, hw⟩
  · exact dtdGetNext_ws s
  · exact fun off h => (iniGetNext_ws s off h).imp fun w hw => ⟨off, .inl rfl, hw⟩
  · exact fun off h => (definesGetNext_ws s fel off h).imp fun w hw => ⟨off, .inl rfl, hw⟩
  · exact fun off h => (getNext_ws poCfg s off h).imp fun w hw => ⟨off, .inl rfl, hw⟩

theorem walk_noAdjK (f : Fmt) (s : Array Nat) (es : List Entry) (h : walk f s = .done es) : NoAdjK es := by
  obtain ⟨_, _, hw, _⟩ := walk_walks f s es h
  refine hw.adjacent _ fun fel off fel' hoff => ?_
  rintro ⟨ha, hb⟩
  -- a white-space entry from `off` ends where a match of `wsRe f` ends, and there the expression matches no more;
  -- a second one would start with a match exactly there (that offset is not 0, so no byte-order mark is skipped)
  obtain ⟨w, o, ho, hm, he⟩ := nextOf_ws f s fel off ha
  obtain ⟨hlt, _, hn⟩ := plus_stop (wsRe f) (plusRe_wsRe f) s o w (by omega) hm
  rw [show (C01M.nextOf f s fel off).1.e = w.pos from he] at hb
  obtain ⟨w', o', ho', hm', _⟩ := nextOf_ws f s fel' w.pos hb
  rw [show o' = w.pos by omega, hn] at hm'
  cases hm'

theorem toEnt_kind (f : Fmt) (s : Array Nat) (v i : Nat) (e : Entry) (x : Ent) (h : toEnt f s v i e = .ok x) :
    x.kind = e.kind := by
  unfold toEnt at h
  split at h
  · simp at h
  · simp only [Except.ok.injEq] at h
    rw [← h]

theorem toEnts_noAdj (f : Fmt) (s : Array Nat) (v : Nat) : ∀ (l : List (Entry × Nat)) (ents : List Ent),
    toEnts f s v l = .ok ents → NoAdjK (l.map (·.1)) → NoAdjWs ents := by
  intro l
  induction l with
  | nil =>
    intro ents h _
    rw [toEnts] at h
    simp only [Except.ok.injEq] at h
    rw [← h]; trivial
  | cons p rest ih =>
    intro ents h hn
    obtain ⟨e, i⟩ := p
    obtain ⟨x, xs, h1, h2, rfl⟩ := toEnts_cons_ok f s v e i rest ents h
    cases rest with
    | nil =>
      rw [toEnts] at h2
      simp only [Except.ok.injEq] at h2
      rw [← h2]; trivial
    | cons q rest' =>
      obtain ⟨e', i'⟩ := q
      obtain ⟨y, ys, h3, h4, rfl⟩ := toEnts_cons_ok f s v e' i' rest' xs h2
      simp only [List.map_cons, NoAdjK] at hn
      refine ⟨?_, ih (y :: ys) h2 hn.2⟩
      rintro ⟨ha, hb⟩
      apply hn.1
      simp only [Ent.isWs, beq_iff_eq] at ha hb
      rw [toEnt_kind f s v i e x h1] at ha
      rw [toEnt_kind f s v i' e' y h3] at hb
      exact ⟨ha, hb⟩

theorem walk_noAdjWs (f : Fmt) (s : Array Nat) (es : List Entry) (ents : List Ent) (v : Nat)
    (hw : walk f s = .done es) (he : toEnts f s v es.zipIdx = .ok ents) : NoAdjWs ents := by
  apply toEnts_noAdj f s v _ ents he
  rw [List.zipIdx_map_fst]
  exact walk_noAdjK f s es hw

end C15W
