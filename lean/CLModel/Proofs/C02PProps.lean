/- C02, properties: the SPAN side for the full record grammar — multi-line `#` / `!` comment blocks, separators
   `=` / `:` with blanks, values with backslash escapes and continuation lines, blank lines between records,
   stand-alone comments — and what `getNext` does with one physical line: the key characters, `contents.find("\n")`, the
   `_trailingWS` search. -/
import CLModel.Proofs.C02PLine
namespace P
open Rx Gen.Pat

/-- characters a "safe" properties key is made of: anything but `# ! = :` and white-space -/
def propsKeyChar (c : Nat) : Bool :=
  !(c == 35 || c == 33 || c == 32 || c == 9 || c == 13 || c == 10 || c == 61 || c == 58)

theorem keyChar_facts {c : Nat} (h : propsKeyChar c = true) :
    c ≠ 35 ∧ c ≠ 33 ∧ c ≠ 32 ∧ c ≠ 9 ∧ c ≠ 13 ∧ c ≠ 10 ∧ c ≠ 61 ∧ c ≠ 58 := by
  simp [propsKeyChar] at h
  omega

end P

namespace C02P
open Rx P Gen.Pat C02X

/-- `#` or `!` -/
def isMark (c : Nat) : Bool := c == 35 || c == 33

theorem inC_mark (c : Nat) : inC false [.ch 35, .ch 33] c = isMark c := by simp [inC, ClsItem.has, isMark]

def CLine.Good (l : CLine) : Prop := isMark l.1 = true ∧ ∀ x ∈ l.2, x ≠ 10

theorem propsComment_eq :
    PropertiesParser_reComment = Re.seq (Re.rep 0 none true (clsBody [.ch 35, .ch 33])) (clsLast [.ch 35, .ch 33]) := rfl

theorem propsLineRx (s : Array Nat) :
    LineRx s (clsBody [.ch 35, .ch 33]) (clsLast [.ch 35, .ch 33]) CLine.Good (fun _ => True) (NoMark isMark) :=
  clsLineRx s _ isMark inC_mark

theorem props_comment_at (s : Array Nat) (p : Nat) (ls : List CLine) (rest : List Nat) (hne : ls ≠ [])
    (hg : ∀ x ∈ ls, CLine.Good x) (hr : After (NoMark isMark) rest) (h : At s p (printCLines ls ++ rest)) :
    matchAt s PropertiesParser_reComment p = some ⟨p + (printCLines ls).length, []⟩ := by
  rw [propsComment_eq]; exact (propsLineRx s).comment_at p ls rest hne trivial hg hr h

theorem props_comment_none_at (s : Array Nat) (p : Nat) (l : List Nat) (hl : NoMark isMark l) (h : At s p l) :
    matchAt s PropertiesParser_reComment p = none := by
  rw [propsComment_eq]; exact (propsLineRx s).comment_none p l hl h

/-- key and separator of a printed record: first key character, the other key characters, blanks, `=` or `:`, blanks -/
structure PKey where
  k0 : Nat
  kt : List Nat
  b1 : List Nat
  sep : Nat
  b2 : List Nat

def PKey.key (k : PKey) : List Nat := k.k0 :: k.kt
def PKey.print (k : PKey) : List Nat := k.k0 :: (k.kt ++ (k.b1 ++ k.sep :: k.b2))

structure PKey.Good (k : PKey) : Prop where
  k0 : propsKeyChar k.k0 = true
  kt : ∀ c ∈ k.kt, c ≠ 61 ∧ c ≠ 58 ∧ c ≠ 10 ∧ c ≠ 32 ∧ c ≠ 9
  b1 : ∀ c ∈ k.b1, isBlank c = true
  sep : k.sep = 61 ∨ k.sep = 58
  b2 : ∀ c ∈ k.b2, isBlank c = true

theorem PKey.print_length (k : PKey) : k.print.length = 1 + k.kt.length + k.b1.length + 1 + k.b2.length := by
  simp [PKey.print]; omega

theorem props_key_at (s : Array Nat) (p : Nat) (k : PKey) (rest : List Nat) (hg : k.Good)
    (hr : ∀ c, rest.head? = some c → isBlank c = false) (h : At s p (k.print ++ rest)) :
    matchAt s PropertiesParser_reKey p = some ⟨p + k.print.length, [(1, p, p + 1 + k.kt.length)]⟩ := by
  have h0 : At s p (k.k0 :: (k.kt ++ (k.b1 ++ k.sep :: (k.b2 ++ rest)))) := by simpa [At, PKey.print] using h
  have h1 := h0.tail
  have h2 := h1.app
  have h3 := h2.app
  have h4 := h3.tail
  have hp0 : p < s.size := h0.pos_lt (by simp)
  have hp3 : p + 1 + k.kt.length + k.b1.length < s.size := h3.pos_lt (by simp)
  have f0 := keyChar_facts hg.k0
  have hsepb : isBlank k.sep = false := by rcases hg.sep with h | h <;> rw [h] <;> decide
  simp only [matchAt, PropertiesParser_reKey, m_seq_def, m_group_def, m_rep_def, m_cls_charStep]
  rw [step_at _ h0 (by simp [inC, ClsItem.has, f0])]
  apply lazy_at _ [] _ _ h1 (fun c hc => by have := hg.kt c hc; simp [inC, ClsItem.has, this])
  · intro j hj
    -- inside the key: no blank, no separator
    have hc := hg.kt _ (List.getElem_mem hj)
    have hget : s[p + 1 + j]? = some k.kt[j] := h1.left j hj
    simp only []
    apply charLoop_none s _ true _ _ (B := p + 1 + j)
      (fun c hc' => by rw [hget] at hc'; cases hc'; rw [inC_blank]; simp [isBlank, hc]) 0 (Nat.le_refl _)
    intro j' h1' h2'
    obtain rfl : j' = p + 1 + j := by omega
    exact charStep_fail s _ _ _ (Or.inr ⟨_, by simpa using hget, by simp [inC, ClsItem.has, hc]⟩) _
  · omega
  · simp only []
    apply greedy_at _ _ _ _ 0 h2 (fun c hc => by rw [inC_blank]; exact hg.b1 c hc)
      (by intro c hc; simp at hc; subst hc; rw [inC_blank]; exact hsepb) (by omega) (by omega)
    rw [step_at _ h3 (by rcases hg.sep with h | h <;> rw [h] <;> decide)]
    apply greedy_at _ _ _ _ 0 h4 (fun c hc => by rw [inC_blank]; exact hg.b2 c hc)
      (by intro c hc; rw [inC_blank]; exact hr c hc) (by omega) (by omega)
    simp [PKey.print_length]
    omega

/-- a physical line of a value: a text that does not end in a backslash, followed by `bs` backslashes -/
structure VLine where
  body : List Nat
  bs : Nat

def VLine.text (l : VLine) : List Nat := l.body ++ List.replicate l.bs 92

structure VLine.Good (l : VLine) : Prop where
  nonl : ∀ c ∈ l.body, c ≠ 10
  last : l.body.getLast? ≠ some 92

theorem VLine.text_nonl (l : VLine) (hg : l.Good) : ∀ c ∈ l.text, c ≠ 10 := by
  intro c hc
  simp only [VLine.text, List.mem_append, List.mem_replicate] at hc
  rcases hc with hc | ⟨_, rfl⟩
  · exact hg.nonl c hc
  · decide

theorem span92 : ∀ l : List Nat, ∃ r tail, l = List.replicate r 92 ++ tail ∧ tail.head? ≠ some 92 := by
  intro l
  induction l with
  | nil => exact ⟨0, [], rfl, by simp⟩
  | cons c t ih =>
    by_cases hc : c = 92
    · obtain ⟨r, tail, e, ht⟩ := ih
      exact ⟨r + 1, tail, by rw [e, hc]; rfl, ht⟩
    · exact ⟨0, c :: t, rfl, by simp [hc]⟩

theorem escapedEnd_eq : PropertiesParser__escapedEnd = Re.seq (Re.rep 1 none true (Re.lit 92)) (Re.eol false) := rfl

/-- no match of `\\+$` inside the body of a line: the run of backslashes ends inside the body, where the text goes on -/
theorem escapedEnd_none_in_body (s' : Array Nat) (p : Nat) (l : VLine) (hg : l.Good)
    (h : At s' p (l.body ++ List.replicate l.bs 92)) (hsz : s'.size = p + l.body.length + l.bs) (j : Nat)
    (hj : j < l.body.length) : matchAt s' PropertiesParser__escapedEnd (p + j) = none := by
  obtain ⟨r, tail, e, ht⟩ := span92 (l.body.drop j)
  have hlen := congrArg List.length e
  simp only [List.length_drop, List.length_append, List.length_replicate] at hlen
  -- the body does not end in a backslash
  have htne : tail ≠ [] := by
    rintro rfl
    have h1 : (l.body.drop j).getLast? = l.body.getLast? := by
      rw [List.getLast?_drop]; simp [show ¬ l.body.length ≤ j by omega]
    rw [e, List.append_nil, List.getLast?_replicate, if_neg (by simp only [List.length_nil] at hlen; omega)] at h1
    exact hg.last h1.symm
  have htl : 0 < tail.length := List.length_pos_iff.mpr htne
  have hat : At s' (p + j) (List.replicate r 92 ++ (tail ++ List.replicate l.bs 92)) := by
    have := h.drop_at j (by omega)
    rwa [e, List.append_assoc] at this
  rw [escapedEnd_eq]
  simp only [matchAt, m_seq_def, m_rep_def, m_lit_charStep]
  apply loop_at_none _ true _ _ 1 hat
    (by intro c hc; rw [head?_app_ne htne] at hc; have : c ≠ 92 := fun h92 => ht (h92 ▸ hc); simp [this])
  -- `$` fails at every position inside the body: the text goes on, and not with a final newline
  intro j' hj'
  simp only [List.length_replicate] at hj'
  obtain ⟨a, t, ha, hat'⟩ := h.inside (q := p + j + j') (by omega) (by omega)
  rw [m_eol_plain, if_neg]
  rintro (h1 | ⟨_, h2⟩)
  · simp only [] at h1; omega
  · simp only [] at h2; rw [hat'.hd] at h2; exact hg.nonl a ha (Option.some.inj h2)

/-- `_escapedEnd.search(contents, offset, nextline)` on a printed line: `s'` is the text cut off at `nextline` -/
theorem escapedEnd_line (s' : Array Nat) (p : Nat) (l : VLine) (hg : l.Good)
    (h : At s' p (l.body ++ List.replicate l.bs 92)) (hsz : s'.size = p + l.body.length + l.bs) :
    (l.bs = 0 → search s' PropertiesParser__escapedEnd p = none) ∧
    (0 < l.bs → search s' PropertiesParser__escapedEnd p = some (p + l.body.length, ⟨p + l.body.length + l.bs, []⟩)) := by
  have hin : ∀ q, p ≤ q → q < p + l.body.length → matchAt s' PropertiesParser__escapedEnd q = none := fun q h1 h2 => by
    have := escapedEnd_none_in_body s' p l hg h hsz (q - p) (by omega)
    rwa [show p + (q - p) = q by omega] at this
  have hat : At s' (p + l.body.length) (List.replicate l.bs 92 ++ []) := by simpa using h.app
  constructor
  · intro hb
    apply search_eq_none
    intro q hq1 hq2
    by_cases hq : q < p + l.body.length
    · exact hin q hq1 hq
    · obtain rfl : q = p + l.body.length := by omega
      rw [escapedEnd_eq]
      simp only [matchAt, m_seq_def, m_rep_def, m_lit_charStep]
      exact loop_at_short _ true _ _ _ 1 hat (by simp [hb]) (by omega)
  · intro hb
    refine search_eq_some (Nat.le_add_right _ _) (by omega) hin ?_
    rw [escapedEnd_eq]
    simp only [matchAt, m_seq_def, m_rep_def, m_lit_charStep]
    apply greedy_at _ _ _ _ 1 hat (by intro c hc; simp at hc; simp [hc.2]) (by simp) (by simp; omega) (by omega)
    rw [m_eol_plain, if_pos (Or.inl (by simp only [List.length_replicate]; omega))]
    simp only [List.length_replicate]

/-- the continued lines of a value, each with its newline -/
def linesText (ls : List VLine) : List Nat := (ls.map (fun l => l.text ++ [10])).flatten

@[simp] theorem linesText_nil : linesText [] = [] := rfl
@[simp] theorem linesText_cons (l : VLine) (ls : List VLine) : linesText (l :: ls) = l.text ++ 10 :: linesText ls := by
  simp [linesText]

/-- the raw value: continued lines (odd number of final backslashes) and the last line -/
def valueText (ls : List VLine) (ll : VLine) : List Nat := linesText ls ++ ll.text

theorem findNl_line (s : Array Nat) (p : Nat) (l : VLine) (rest : List Nat) (hg : l.Good)
    (h : At s p (l.text ++ 10 :: rest)) : findNl s p = some (p + l.text.length) := by
  have hn : s[p + l.text.length]? = some 10 := h.app.hd
  have hlt := getElem?_some_lt hn
  unfold findNl
  apply findSome_range _ _ (s.size - p) l.text.length (by omega)
  · intro i hi
    simp [h.left i hi, l.text_nonl hg _ (List.getElem_mem hi)]
  · simp [hn]

theorem propsLines_step (s : Array Nat) (p f sl : Nat) (l : VLine) (rest : List Nat) (hg : l.Good)
    (h : At s p (l.text ++ 10 :: rest)) :
    propsLines s (f + 1) p sl =
      if l.bs % 2 = 0 then (p + l.text.length, sl) else propsLines s f (p + l.text.length + 1) (p + l.text.length + 1) := by
  have hbl : l.text.length = l.body.length + l.bs := by simp [VLine.text]
  obtain ⟨e0, e1⟩ := escapedEnd_line (s.extract 0 (p + l.text.length)) p l hg (at_extract h)
    (by rw [extract_size h (by simp)]; omega)
  rw [propsLines, findNl_line s p l rest hg h]
  simp only []
  by_cases hb : l.bs = 0
  · rw [e0 hb]; simp [hb]
  · rw [e1 (by omega)]
    simp only [show p + l.body.length + l.bs - (p + l.body.length) = l.bs by omega]
    by_cases hev : l.bs % 2 = 0 <;> simp [hev]

theorem propsLines_at (s : Array Nat) : ∀ (ls : List VLine) (ll : VLine) (p fuel : Nat) (rest : List Nat),
    At s p (valueText ls ll ++ 10 :: rest) → (∀ l ∈ ls, l.Good ∧ l.bs % 2 = 1) → ll.Good → ll.bs % 2 = 0 →
    ls.length < fuel →
    propsLines s fuel p p = (p + (valueText ls ll).length, p + (linesText ls).length) := by
  intro ls
  induction ls with
  | nil =>
    intro ll p fuel rest h _ hgl hev hf
    obtain ⟨f, rfl⟩ : ∃ f, fuel = f + 1 := ⟨fuel - 1, by simp at hf; omega⟩
    rw [propsLines_step s p f p ll rest hgl (by simpa [valueText] using h), if_pos hev]
    simp [valueText]
  | cons l ls ih =>
    intro ll p fuel rest h hg hgl hev hf
    obtain ⟨f, rfl⟩ : ∃ f, fuel = f + 1 := ⟨fuel - 1, by simp at hf; omega⟩
    obtain ⟨hgl1, hodd⟩ := hg l (by simp)
    have h' : At s p (l.text ++ 10 :: (valueText ls ll ++ 10 :: rest)) := by simpa [At, valueText] using h
    rw [propsLines_step s p f p l _ hgl1 h', if_neg (by omega),
      ih ll _ f rest h'.app.tail (fun x hx => hg x (by simp [hx])) hgl hev (by simp at hf; omega)]
    simp [valueText]
    omega

theorem isMark_noBreak {c : Nat} (h : isMark c = true) : isLineBreak c = false := by
  simp [isMark] at h; rcases h with h | h <;> subst h <;> decide

theorem offsetVal_lines (ls : List CLine) (h : ∀ l ∈ ls, isMark l.1 = true ∧ CLine.NoBreak l) :
    offsetCommentVal 1 (printCLines ls) = cvalLines ls :=
  offsetVal1_lines ls (fun l hl => ⟨isMark_noBreak (h l hl).1, (h l hl).2⟩)

structure PRecord where
  /-- the attached comment block (`[]`: none) -/
  comment : List CLine
  /-- white-space between the comment block and the key (a newline and possibly indentation) -/
  cgap : List Nat
  key : PKey
  /-- continued lines of the value -/
  lines : List VLine
  /-- last line of the value -/
  last : VLine
  /-- white-space after the value (it starts with the newline that ends the value) -/
  gap : List Nat

def PRecord.value (r : PRecord) : List Nat := valueText r.lines r.last

def PRecord.print (r : PRecord) : List Nat :=
  printCLines r.comment ++ (r.cgap ++ (r.key.print ++ (r.value ++ r.gap)))

structure PRecord.Good (r : PRecord) : Prop where
  comment : ∀ l ∈ r.comment, CLine.Good l
  /-- no line boundary of `str.splitlines` inside a comment line (see the negation witness: one more character is lost) -/
  nobreak : ∀ l ∈ r.comment, CLine.NoBreak l
  cgap_nil : r.comment = [] → r.cgap = []
  cgap : r.comment ≠ [] → ∃ w, r.cgap = 10 :: w ∧ ∀ c ∈ w, isWs c = true ∧ c ≠ 10
  key : r.key.Good
  lines : ∀ l ∈ r.lines, l.Good ∧ l.bs % 2 = 1
  last : r.last.Good
  last_even : r.last.bs % 2 = 0
  /-- the value does not start with a blank (it would belong to the separator) -/
  val_head : ∀ c, r.value.head? = some c → isBlank c = false
  /-- the last line does not end in white-space (it would be stripped) -/
  val_last : ∀ c, r.last.text.getLast? = some c → isWs c = false
  gap : ∃ w, r.gap = 10 :: w ∧ ∀ c ∈ w, isWs c = true

def PRecord.kstart (off : Nat) (r : PRecord) : Nat := off + (printCLines r.comment).length + r.cgap.length
def PRecord.vstart (off : Nat) (r : PRecord) : Nat := r.kstart off + r.key.print.length

def PRecord.entity (off : Nat) (r : PRecord) : Entry :=
  { kind := .entity, full := off, s := r.kstart off, e := r.vstart off + r.value.length,
    ks := (r.kstart off : Nat), ke := (r.kstart off + 1 + r.key.kt.length : Nat),
    vs := (r.vstart off : Nat), ve := (r.vstart off + r.value.length : Nat),
    pc := if r.comment.isEmpty then none else some (off, off + (printCLines r.comment).length) }

/-- the License rule of `PropertiesParser.getNext` (offset 0 only) does not fire -/
def PRecord.NoLicense (off : Nat) (r : PRecord) : Prop :=
  off = 0 → isInfix licenseWord (offsetCommentVal 1 (printCLines r.comment)) = false

theorem isWs_of_blank {c : Nat} (h : isWs c = false) : isBlank c = false := by
  have := isWs_false h; simp [isBlank, this.1, this.2.1]

theorem isMark_ws {c : Nat} (h : isWs c = true) : isMark c = false := by
  simp [isWs] at h; rcases h with ((h | h) | h) | h <;> subst h <;> decide

theorem keyChar_notMark {c : Nat} (h : propsKeyChar c = true) : isMark c = false ∧ isWs c = false := by
  have f := keyChar_facts h
  simp [isMark, isWs, f]

theorem PKey.print_head (k : PKey) (l : List Nat) : (k.print ++ l).head? = some k.k0 := rfl

theorem PRecord.Good.after_comment {r : PRecord} (hg : r.Good) (hne : r.comment ≠ []) (l : List Nat) :
    After (NoMark isMark) (r.cgap ++ (r.key.print ++ l)) := by
  obtain ⟨w, hcg, hw⟩ := hg.cgap hne
  exact After.of_cgap hcg (fun c hc => isMark_ws (hw c hc).1)
    (fun c hc => by rw [r.key.print_head] at hc; cases hc; exact (keyChar_notMark hg.key.k0).1)

theorem PRecord.at_parts {s : Array Nat} {off : Nat} (r : PRecord) {rest : List Nat} (h : At s off (r.print ++ rest)) :
    At s off (printCLines r.comment ++ (r.cgap ++ (r.key.print ++ (r.value ++ (r.gap ++ rest))))) := by
  simpa [At, PRecord.print] using h

theorem PRecord.kstart_nil {r : PRecord} (hg : r.Good) (hne : r.comment = []) (off : Nat) : r.kstart off = off := by
  simp [PRecord.kstart, hne, hg.cgap_nil hne, printCLines]

theorem PRecord.comment_at {s : Array Nat} {off : Nat} (r : PRecord) {rest : List Nat} (hg : r.Good) (hne : r.comment ≠ [])
    (h : At s off (r.print ++ rest)) :
    matchAt s PropertiesParser_reComment off = some ⟨off + (printCLines r.comment).length, []⟩ :=
  props_comment_at s off r.comment _ hne hg.comment (hg.after_comment hne _) (r.at_parts h)

theorem PRecord.key_at {s : Array Nat} {off : Nat} (r : PRecord) {rest : List Nat} (hg : r.Good)
    (h : At s off (r.print ++ rest)) :
    matchAt s PropertiesParser_reKey (r.kstart off) =
      some ⟨r.vstart off, [(1, r.kstart off, r.kstart off + 1 + r.key.kt.length)]⟩ := by
  obtain ⟨gw, hgap, _⟩ := hg.gap
  refine props_key_at s _ r.key _ hg.key (fun c hc => ?_) (r.at_parts h).app.app
  -- the value does not start with a blank; an empty value is followed by the newline of `gap`
  cases hv : r.value with
  | nil => rw [hv, hgap] at hc; cases hc; decide
  | cons a t => rw [hv] at hc; cases hc; exact hg.val_head _ (by rw [hv]; rfl)

theorem trailingWS_at {s : Array Nat} {p : Nat} {t rest : List Nat} (h : At s p (t ++ 10 :: rest)) (ht : ∀ c ∈ t, c ≠ 10)
    (hlast : ∀ c, t.getLast? = some c → isWs c = false) :
    ∃ st, search s PropertiesParser__trailingWS p = some (p + t.length, st) := by
  have hn : s[p + t.length]? = some 10 := h.app.hd
  have hsz := getElem?_some_lt hn
  have hsome : (matchAt s PropertiesParser__trailingWS (p + t.length)).isSome := by
    obtain ⟨f, hf⟩ : ∃ f, s.size + 2 - (p + t.length) = f + 1 := ⟨s.size + 1 - (p + t.length), by omega⟩
    simp only [matchAt, PropertiesParser__trailingWS, m_seq_def, m_rep_def, hf]
    exact loop_isSome_start _ _ _ _ _ _ (by rw [m_alt_def, lit_at h.app]; rfl)
  obtain ⟨st, hst⟩ := Option.isSome_iff_exists.mp hsome
  refine ⟨st, search_eq_some (Nat.le_add_right _ _) (by omega) ?_ hst⟩
  intro q hq1 hq2
  -- the run of white-space from `q` stops at the last character of the line at the latest
  have hB : s[p + (t.length - 1)]? = t.getLast? := by
    rw [h.get, List.getElem?_append_left (by omega), List.getLast?_eq_getElem?]
  simp only [matchAt, PropertiesParser__trailingWS, m_seq_def, m_rep_def, m_cls_charStep]
  apply charLoop_none s _ true _ _ (B := p + (t.length - 1)) (fun c hc => by rw [hB] at hc; rw [inC_ws]; exact hlast c hc) 0
    (by omega)
  intro j hj1 hj2
  obtain ⟨a, l, ha, hat⟩ := h.inside (q := j) (by omega) (by omega)
  rw [m_alt_def, lit_at_fail hat (by simp [ht a ha]), m_eos_def]
  simp [show j ≠ s.size from Nat.ne_of_lt (hat.pos_lt (by simp))]

theorem linesText_len (ls : List VLine) : ls.length ≤ (linesText ls).length := by
  induction ls with
  | nil => simp
  | cons l ls ih => simp only [linesText_cons, List.length_cons, List.length_append]; omega

theorem PRecord.value_at {s : Array Nat} {off : Nat} (r : PRecord) {rest : List Nat} (hg : r.Good)
    (h : At s off (r.print ++ rest)) :
    ∃ st, propsLines s (s.size + 1) (r.vstart off) (r.vstart off) =
        (r.vstart off + r.value.length, r.vstart off + (linesText r.lines).length) ∧
      search s PropertiesParser__trailingWS (r.vstart off + (linesText r.lines).length) =
        some (r.vstart off + r.value.length, st) := by
  obtain ⟨gw, hgap, hgw⟩ := hg.gap
  have h3 : At s (r.vstart off) (r.value ++ (r.gap ++ rest)) := (r.at_parts h).app.app.app
  have h4 : At s (r.vstart off) (linesText r.lines ++ (r.last.text ++ 10 :: (gw ++ rest))) := by
    simpa [At, PRecord.value, valueText, hgap] using h3
  have h5 := h4.app
  have hlen := h4.len
  have := linesText_len r.lines
  simp only [List.length_append] at hlen
  obtain ⟨st, htw⟩ := trailingWS_at h5 (r.last.text_nonl hg.last) hg.val_last
  have hend : r.value.length = (linesText r.lines).length + r.last.text.length := by simp [PRecord.value, valueText]
  refine ⟨st, ?_, by rw [hend, ← Nat.add_assoc]; exact htw⟩
  rw [propsLines_at s r.lines r.last (r.vstart off) (s.size + 1) (gw ++ rest) (by simpa [At, valueText] using h4) hg.lines
    hg.last hg.last_even (by omega)]
  rfl

theorem propsK_plainWs (s : Array Nat) : PlainWs (propsK s) := ⟨rfl, fun _ _ _ _ => rfl⟩

theorem propsK_create {s : Array Nat} {o p : Nat} {km st : St} {ev0 sl ev : Nat} (hp : km.pos = p)
    (hlines : propsLines s (s.size + 1) p p = (ev0, sl)) (htw : search s PropertiesParser__trailingWS sl = some (ev, st)) :
    (propsK s).create o km = some (ev, spanI km PropertiesParser_reKey_g_key, ((p : Int), (ev : Int))) := by
  subst hp
  simp [propsK, propsCreate, hlines, htw]

theorem props_entity_rec (s : Array Nat) (off : Nat) (r : PRecord) (rest : List Nat) (hg : r.Good)
    (hlic : r.NoLicense off) (h : At s off (r.print ++ rest)) : propsGetNext s off = r.entity off := by
  have h1 := r.at_parts h
  have hkey := r.key_at hg h
  obtain ⟨st, hlines, htw⟩ := r.value_at hg h
  have hkw : DFollow (r.key.print ++ (r.value ++ (r.gap ++ rest))) := by
    intro c hc; rw [r.key.print_head] at hc; cases hc; exact (keyChar_notMark hg.key.k0).2
  rw [propsGetNext_eq_skel]
  by_cases hne : r.comment = []
  · have hk0 := PRecord.kstart_nil hg hne off
    have h3 : At s off (r.key.print ++ (r.value ++ (r.gap ++ rest))) := hk0 ▸ h1.app.app
    rw [hk0] at hkey
    refine (skel_plain (K := propsK s) (props_comment_none_at s off _ (fun c hc => ?_) h3) (ws_none_at h3 hkw) hkey
      (propsK_create rfl hlines htw)).trans ?_
    · rw [r.key.print_head] at hc; cases hc; exact (keyChar_notMark hg.key.k0).1
    · simp [entityE, PRecord.entity, hne, hk0, spanI, St.group, capOf, PropertiesParser_reKey_g_key]
  · obtain ⟨w, hcg, hw⟩ := hg.cgap hne
    -- the License rule of `PropertiesParser.getNext` exists at offset 0 only
    have hl : (propsK s).lic off (off + (printCLines r.comment).length) = false := by
      show (off == 0 && isInfix licenseWord (commentVal _ (slice s off _))) = false
      rw [h1.slice]
      by_cases ho : off = 0
      · exact (congrArg (_ && ·) (hlic ho)).trans (Bool.and_false _)
      · simp [ho]
    refine (skel_commented (K := propsK s) (r.comment_at hg hne h) hl
      (attach_at (propsK_plainWs s) h1.app
        (by intro c hc; rw [hcg] at hc; rcases List.mem_cons.mp hc with rfl | hc; decide; exact (hw c hc).1)
        (by
          have : (w.filter (· == 10)) = [] := List.filter_eq_nil_iff.mpr (fun c hc => by simp [(hw c hc).2])
          simp [hcg, this])
        hkw) hkey (propsK_create rfl hlines htw)).trans ?_
    simp [entityE, PRecord.entity, isEmpty_false_of_ne hne, PRecord.kstart, spanI, St.group, capOf, PropertiesParser_reKey_g_key]

theorem props_ws_at_n (s : Array Nat) (p : Nat) (w rest : List Nat) (hne : w ≠ []) (hw : ∀ c ∈ w, isWs c = true)
    (hfo : DFollow rest) (h : At s p (w ++ rest)) : propsGetNext s p = wsEntryN p w.length :=
  (propsGetNext_eq_skel s p).trans (skel_ws_at (propsK_plainWs s) (props_comment_none_at s p _ (by
    obtain ⟨a, t, rfl⟩ := List.exists_cons_of_ne_nil hne
    intro c hc; cases hc; exact isMark_ws (hw a (by simp))) h) h hne hw hfo)

theorem props_free_comment (s : Array Nat) (off : Nat) (ls : List CLine) (gap rest : List Nat) (hne : ls ≠ [])
    (hg : ∀ l ∈ ls, CLine.Good l) (hw : ∀ c ∈ gap, isWs c = true) (hhead : gap.head? = some 10)
    (hnl : 2 ≤ (gap.filter (· == 10)).length) (hfo : DFollow rest) (h : At s off (printCLines ls ++ (gap ++ rest))) :
    propsGetNext s off = commentEntry off (off + (printCLines ls).length) :=
  (propsGetNext_eq_skel s off).trans (skel_free_at (propsK_plainWs s)
    (props_comment_at s off ls _ hne hg (After.of_gap rest (fun c hc => isMark_ws (hw c hc)) hhead hnl) h) rfl h.app hw hnl hfo)

/-- key, raw value = exactly the printed value text (escapes and continuation lines included), value = the documented
    unescape of it, attached comment = the comment lines without their markers -/
def PRecord.view (r : PRecord) : Option EntView :=
  some { key := r.key.key, raw := r.value, val := some (propsUnescapeSpec r.value),
         comment := if r.comment.isEmpty then none else some (cvalLines r.comment) }

theorem PRecord.print_length (r : PRecord) :
    r.print.length = (printCLines r.comment).length + r.cgap.length + r.key.print.length + r.value.length + r.gap.length := by
  simp [PRecord.print]; omega

theorem props_view_rec (s : Array Nat) (off : Nat) (r : PRecord) (rest : List Nat) (hg : r.Good)
    (h : At s off (r.print ++ rest)) : entView .properties s (r.entity off) = r.view := by
  have h1 := r.at_parts h
  have h3 : At s (r.kstart off) (r.key.print ++ (r.value ++ (r.gap ++ rest))) := h1.app.app
  have hk : At s (r.kstart off) (r.key.key ++ (r.key.b1 ++ r.key.sep :: (r.key.b2 ++ (r.value ++ (r.gap ++ rest))))) := by
    simpa [At, PKey.print, PKey.key] using h3
  have e1 : pySlice s (r.kstart off : Nat) (r.kstart off + 1 + r.key.kt.length : Nat) = r.key.key :=
    hk.pySlice (by simp [PKey.key]; omega)
  have e2 : pySlice s (r.vstart off : Nat) (r.vstart off + r.value.length : Nat) = r.value := h3.app.pySlice rfl
  simp only [entView, PRecord.entity, e1, e2, propsVal_eq_spec]
  cases hce : r.comment.isEmpty with
  | true => simp [PRecord.view, hce]
  | false =>
    have hval := offsetVal_lines r.comment (fun l hl => ⟨(hg.comment l hl).1, hg.nobreak l hl⟩)
    simp [PRecord.view, hce, commentStyleOf, commentVal, h1.slice, Gen.Tables.offsetCommentDefault, hval]

/-- a printed block: a record (with its attached comment), or a stand-alone comment block with the white-space behind it -/
inductive PBlock
  | record (r : PRecord)
  | free (ls : List CLine) (gap : List Nat)

def PBlock.print : PBlock → List Nat
  | .record r => r.print
  | .free ls gap => printCLines ls ++ gap

def PRecord.entries (off : Nat) (r : PRecord) : List Entry :=
  [r.entity off, wsEntryN (r.vstart off + r.value.length) r.gap.length]

def PBlock.entries (off : Nat) : PBlock → List Entry
  | .record r => r.entries off
  | .free ls gap => [commentEntry off (off + (printCLines ls).length), wsEntryN (off + (printCLines ls).length) gap.length]

def PBlock.Good' : PBlock → Prop
  | .record r => r.Good
  | .free ls gap => ls ≠ [] ∧ (∀ l ∈ ls, CLine.Good l) ∧ (∀ c ∈ gap, isWs c = true) ∧ gap.head? = some 10 ∧
      2 ≤ (gap.filter (· == 10)).length

def PBlock.views : PBlock → List (Option EntView)
  | .record r => [r.view]
  | .free _ _ => []

def printPropsB (bs : List PBlock) : List Nat := printBlocks PBlock.print bs

def propsExpEntries (bs : List PBlock) : List Entry :=
  blockEntries PBlock.print (fun off (_ : Unit) b => PBlock.entries off b) (fun c _ => c) 0 () bs

def propsExpViews (bs : List PBlock) : List (Option EntView) := (bs.map PBlock.views).flatten

abbrev propsNext (s : Array Nat) : Unit → Nat → Entry × Unit := fun _ off => (propsGetNext s off, ())

theorem isMark_notWs {c : Nat} (h : isMark c = true) : isWs c = false := by
  cases hw : isWs c with
  | false => rfl
  | true => rw [isMark_ws hw] at h; cases h

theorem pfollow_block (b : PBlock) (hg : b.Good') (l : List Nat) : DFollow (b.print ++ l) := by
  intro c hc
  cases b with
  | record r =>
    simp only [PBlock.print, PRecord.print] at hc
    cases hcm : r.comment with
    | nil =>
      rw [hcm, hg.cgap_nil hcm] at hc
      simp only [printCLines, List.nil_append, List.append_assoc, r.key.print_head] at hc
      cases hc; exact (keyChar_notMark hg.key.k0).2
    | cons x xs =>
      rw [hcm, List.append_assoc, printCLines_head] at hc
      cases hc
      exact isMark_notWs (hg.comment x (by simp [hcm])).1
  | free ls gap =>
    simp only [PBlock.print] at hc
    cases hls : ls with
    | nil => exact absurd hls hg.1
    | cons x xs =>
      rw [hls, List.append_assoc, printCLines_head] at hc
      cases hc
      exact isMark_notWs (hg.2.1 x (by simp [hls])).1

theorem PRecord.entity_kind (off : Nat) (r : PRecord) : (r.entity off).kind = .entity := rfl

theorem props_views_block (s : Array Nat) (off : Nat) (b : PBlock) (rest : List Nat) (hg : b.Good')
    (h : At s off (b.print ++ rest)) :
    entitiesOf .properties s (b.entries off) = b.views ∧ junkOf s (b.entries off) = [] := by
  cases b with
  | record r =>
    have := views_entity_ws .properties s (r.vstart off + r.value.length) r.gap.length (r.entity_kind off)
    rw [props_view_rec s off r rest hg h] at this
    exact this
  | free ls gap => exact views_other_ws .properties s _ _ (by simp [commentEntry]) (by simp [commentEntry])

theorem props_walks_block (s : Array Nat) (off : Nat) (b : PBlock) (rest : List Nat) (hg : b.Good')
    (hl : ∀ r, b = .record r → r.NoLicense off) (hfo : DFollow rest) (h : At s off (b.print ++ rest)) :
    Walks (propsNext s) s.size () off (b.entries off) () (off + b.print.length) := by
  cases b with
  | record r =>
    obtain ⟨gw, hgap, hgw⟩ := hg.gap
    have hgne : r.gap ≠ [] := by rw [hgap]; simp
    have h4 : At s (r.vstart off + r.value.length) (r.gap ++ rest) := (r.at_parts h).app.app.app.app
    have hkp := r.key.print_length
    have e1 := props_entity_rec s off r rest hg (hl r rfl) h
    have e2 := props_ws_at_n s _ r.gap rest hgne
      (by intro c hc; rw [hgap] at hc; simp at hc; rcases hc with rfl | hc; decide; exact hgw c hc) hfo h4
    have hlen : off + (PBlock.record r).print.length = r.vstart off + r.value.length + r.gap.length := by
      simp only [PBlock.print, r.print_length, PRecord.vstart, PRecord.kstart]; omega
    rw [hlen]
    exact walks_entry_ws rfl (by simp only [PRecord.vstart, PRecord.kstart]; omega) (List.length_pos_iff.mpr hgne)
      (h4.left_le hgne) (by show (propsGetNext s off, ()) = _; rw [e1]) (by show (propsGetNext s _, ()) = _; rw [e2])
  | free ls gap =>
    obtain ⟨g1, g2, g3, g4, g5⟩ := hg
    have h' : At s off (printCLines ls ++ (gap ++ rest)) := by simpa [At, PBlock.print] using h
    have hgne : gap ≠ [] := by intro hh; rw [hh] at g5; simp at g5
    have e1 := props_free_comment s off ls gap rest g1 g2 g3 g4 g5 hfo h'
    have e2 := props_ws_at_n s _ gap rest hgne g3 hfo h'.app
    have hlen : off + (PBlock.free ls gap).print.length = off + (printCLines ls).length + gap.length := by
      simp only [PBlock.print, List.length_append]; omega
    rw [hlen]
    exact walks_entry_ws rfl (by have := printCLines_pos g1; omega) (List.length_pos_iff.mpr hgne) (h'.app.left_le hgne)
      (by show (propsGetNext s off, ()) = _; rw [e1]) (by show (propsGetNext s _, ()) = _; rw [e2])

theorem PBlock.print_len2 (b : PBlock) (hg : b.Good') : 2 ≤ b.print.length := by
  cases b with
  | record r => have := r.key.print_length; simp only [PBlock.print, r.print_length]; omega
  | free ls gap =>
    have := printCLines_pos hg.1
    have := List.length_filter_le (· == 10) gap
    have := hg.2.2.2.2
    simp only [PBlock.print, List.length_append]; omega

theorem PRecord.lic_pos (r : PRecord) {off : Nat} (h : 0 < off) : r.NoLicense off := fun h0 => by omega

/-- `# a⏎! b⏎k : x\⏎  yA⏎⏎` : two comment lines, separator ` : `, a continuation line with indentation, an escape -/
def propsDemo : List PBlock :=
  [.record { comment := [(35, [32, 97]), (33, [32, 98])], cgap := [10], key := ⟨107, [], [32], 58, [32]⟩,
             lines := [⟨[120], 1⟩], last := ⟨[32, 32, 121, 92, 117, 48, 48, 52, 49], 0⟩, gap := [10, 10] }]

theorem propsDemo_good : ∀ b ∈ propsDemo, b.Good' := by
  intro b hb
  simp only [propsDemo, List.mem_cons, List.not_mem_nil, or_false] at hb
  subst hb
  refine { comment := ?_, nobreak := ?_, cgap_nil := by simp, cgap := ?_, key := ?_, lines := ?_, last := ⟨by decide, by decide⟩,
           last_even := by decide, val_head := by decide, val_last := by decide, gap := ⟨[10], rfl, by decide⟩ }
  · intro l hl
    simp only [List.mem_cons, List.not_mem_nil, or_false] at hl
    rcases hl with rfl | rfl <;> exact ⟨by decide, by decide⟩
  · intro l hl
    simp only [List.mem_cons, List.not_mem_nil, or_false] at hl
    rcases hl with rfl | rfl <;> (intro c hc; revert c; decide)
  · intro _; exact ⟨[], rfl, by simp⟩
  · exact { k0 := by decide, kt := by simp, b1 := by decide, sep := Or.inr rfl, b2 := by decide }
  · intro l hl
    simp only [List.mem_cons, List.not_mem_nil, or_false] at hl
    subst hl
    exact ⟨⟨by decide, by decide⟩, by decide⟩

theorem propsDemo_lic : ∀ r, propsDemo.head? = some (.record r) → r.NoLicense 0 := by
  intro r h _
  simp only [propsDemo, List.head?_cons, Option.some.injEq, PBlock.record.injEq] at h
  subst h
  decide

end C02P
