/-
The hypotheses "the walk terminates", "the walk is lossless" (C01) and "the entries can be handed to the
merge" of `merge_single` / `merge_identical` are theorems about the parser models: every text of every regex format
walks to entries `es` whose texts concatenate to the input (DTD: after a byte-order mark), and `toEnts` succeeds on them
(PO: `PoEntity.key` re-evaluates the very `createEntity` that produced the entity).
-/
import CLModel.Proofs.C15Walk
import CLModel.Proofs.WalkFmt
namespace C15W
open P Merge

theorem toEnt_ok (f : Fmt) (s : Array Nat) (v i : Nat) (e : Entry)
    (hpo : f = .po → e.kind = .entity → (poCreate s e.s).isSome) : ∃ x, toEnt f s v i e = .ok x := by
  have hkey : ∃ k, ekeyOf f s v i e = .ok k := by
    unfold ekeyOf
    by_cases hk : e.kind = .entity
    · by_cases hf : f = .po
      · subst hf
        cases hc : poCreate s e.s with
        | none => have := hpo rfl hk; rw [hc] at this; cases this
        | some p => simp [hk]
      · have : (f == Fmt.po) = false := by cases f <;> simp_all
        simp [hk, this]
    · cases hk' : e.kind <;> simp_all
  obtain ⟨k, hk⟩ := hkey
  unfold toEnt
  rw [hk]
  exact ⟨_, rfl⟩

theorem toEnts_ok (f : Fmt) (s : Array Nat) (v : Nat) : ∀ (l : List (Entry × Nat)),
    (∀ p ∈ l, f = .po → p.1.kind = .entity → (poCreate s p.1.s).isSome) → ∃ ents, toEnts f s v l = .ok ents
  | [], _ => ⟨[], rfl⟩
  | (e, i) :: rest, h => by
    obtain ⟨x, hx⟩ := toEnt_ok f s v i e (h (e, i) (by simp))
    obtain ⟨xs, hxs⟩ := toEnts_ok f s v rest (fun p hp => h p (List.mem_cons_of_mem _ hp))
    exact ⟨x :: xs, by rw [toEnts, hx, hxs]⟩

/-- the proviso for DTD: its walk drops a leading byte-order mark -/
theorem walk_total (f : Fmt) (s : Array Nat) (v : Nat) :
    ∃ es ents, walk f s = .done es ∧ toEnts f s v es.zipIdx = .ok ents ∧
      ((f = .dtd → s[0]? ≠ some 0xFEFF) → (es.map (Entry.all s)).flatten = s.toList) := by
  obtain ⟨es, h1, _, h3'⟩ := walk_lossless_fmt f s
  have h3 : (f = .dtd → s[0]? ≠ some 0xFEFF) → (es.map (Entry.all s)).flatten = s.toList := by
    intro hb
    have : bom f s = 0 := by cases f <;> simp [bom]; exact hb rfl
    rwa [this, List.drop_zero] at h3'
  obtain ⟨ents, h2⟩ := toEnts_ok f s v es.zipIdx (by
    intro p hp hf hk
    subst hf
    have : p.1 ∈ es := by
      have := List.mem_map_of_mem (f := Prod.fst) hp
      rwa [List.zipIdx_map_fst] at this
    exact po_entity_created s es h1 p.1 this hk)
  exact ⟨es, ents, h1, h2, h3⟩

end C15W
