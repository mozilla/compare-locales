/-
`.ini` — versions that are a section header followed by printed records (`C02X.printIni`), all with the same section name.
The header is the line of one more record, `(sec, [])`, of a line format of its own (`iniL`): the merge treats an `IniSection`
like an entity.  So the merged text is a printed file of that format (`C15S.merged_printed`), its first line is the header
(`C15S.merged_records_head`), and it is `C02X.printIni sec recs` for the remaining records, which are the merge's records of
the versions without their headers (`NewestRecs.of_cons`).
-/
import CLModel.Proofs.C15RProps
import CLModel.Proofs.C16RIni
namespace C15R
open Merge C16R C15S
open P (PRec printRec printProps)

/-- `[sec]` for the record `(sec, [])` of the section header, `key=value` for every other record -/
def iniL (sec : List Nat) : LineFmt where
  body := fun r => if r.1 = sec then 91 :: (sec ++ 93 :: r.2) else propsL.body r
  val := fun k all => if k = sec then all.drop (k.length + 2) else propsL.val k all
  sect := fun r => r.1 == sec

theorem iniL_val (sec : List Nat) (r : PRec) : (iniL sec).val r.1 ((iniL sec).body r) = r.2 := by
  by_cases h : r.1 = sec
  · simp only [iniL, h, if_true]
    rw [show 91 :: (sec ++ 93 :: r.2) = (91 :: (sec ++ [93])) ++ r.2 by simp]
    exact List.drop_left' (by simp)
  · simp only [iniL, h, if_false]
    exact propsL_val r

theorem lineEnts_iniL (sec : List Nat) (ver : Nat) : ∀ (rs : List PRec) (n : Nat), (∀ r ∈ rs, r.1 ≠ sec) →
    lineEnts (iniL sec) ver n rs = lineEnts propsL ver n rs
  | [], _, _ => rfl
  | r :: rs, n, h => by
    have hr : lineEnt (iniL sec) ver n r = lineEnt propsL ver n r := by simp [lineEnt, iniL, h r (by simp)]; rfl
    rw [lineEnts, lineEnts, hr, lineEnts_iniL sec ver rs _ (fun r' hr' => h r' (by simp [hr']))]

theorem walkEnts_printIni (ver : Nat) (sec : List Nat) (rs : List PRec) (hsec : ∀ c ∈ sec, c ≠ 93 ∧ c ≠ 10)
    (h : ∀ r ∈ rs, C02X.SafeIniRec r) (hne : ∀ r ∈ rs, r.1 ≠ sec) :
    walkEnts .ini ver (C02X.printIni sec rs).toArray = .ok (lineEnts (iniL sec) ver 0 ((sec, []) :: rs)) := by
  unfold walkEnts
  rw [C02X.walk_ini_printed sec rs hsec h]
  simp only
  generalize hs : (C02X.printIni sec rs).toArray = s
  obtain ⟨hlen, ename, eall, hnl, hdrop⟩ := printIni_facts sec rs s hs
  have e1 : toEnt .ini s ver 0 (C02X.iniSectionEntry sec.length) = .ok (lineEnt (iniL sec) ver 0 (sec, [])) := by
    simp [toEnt, ekeyOf, C02X.iniSectionEntry, P.Entry.all, lineEnt, iniL, ename, eall]
  simp only [C02X.iniExpEntries, List.zipIdx_cons, toEnts, lineEnts]
  rw [e1, toEnt_ws .ini rfl s _ ver (0 + 1) hnl, iniRecEntries_eq,
    toEnts_expEntries .ini rfl s ver rs _ (0 + 1 + 1) hdrop, lineEnts_iniL sec ver rs _ hne]

theorem walkAll_printIni (sec : List Nat) (hsec : ∀ c ∈ sec, c ≠ 93 ∧ c ≠ 10) (vers : List (List PRec)) (j : Nat)
    (hsafe : ∀ rs ∈ vers, ∀ r ∈ rs, C02X.SafeIniRec r) (hne : ∀ rs ∈ vers, ∀ r ∈ rs, r.1 ≠ sec) :
    walkAll .ini ((vers.map (fun rs => (C02X.printIni sec rs).toArray)).zipIdx j)
      = .ok (versEnts (iniL sec) j (vers.map (List.cons (sec, [])))) := by
  have := walkAll_gen (iniL sec) .ini (fun rs' => C02X.printIni sec rs'.tail) (vers.map (List.cons (sec, []))) j (by
    intro ver rs' hrs'
    obtain ⟨rs, hrs, rfl⟩ := List.mem_map.1 hrs'
    exact walkEnts_printIni ver sec rs hsec (hsafe rs hrs) (hne rs hrs))
  rwa [List.map_map] at this

theorem merge_reparses_ini (sec : List Nat) (hsec : ∀ c ∈ sec, c ≠ 93 ∧ c ≠ 10) (v : List PRec) (vs : List (List PRec))
    (hsafe : ∀ rs ∈ v :: vs, ∀ r ∈ rs, C02X.SafeIniRec r) (hnd : ∀ rs ∈ v :: vs, (sec :: rs.map (·.1)).Nodup) :
    ∃ (t : List Nat) (es : List P.Entry) (recs : List PRec),
      mergeTexts .ini ((v :: vs).map (fun rs => (C02X.printIni sec rs).toArray)) = .ok t ∧
      P.walk .ini t.toArray = .done es ∧
      P.entitiesOf .ini t.toArray es = recs.map P.expectedView ∧
      P.junkOf t.toArray es = [] ∧
      (recs.map (·.1)).Nodup ∧
      (∀ k, k ∈ recs.map (·.1) ↔ ∃ rs ∈ v :: vs, k ∈ rs.map (·.1)) ∧
      (∀ (i : Nat) (rs : List PRec) (r : PRec), (v :: vs)[i]? = some rs → r ∈ rs →
        (∀ j < i, ∀ rs' : List PRec, (v :: vs)[j]? = some rs' → r.1 ∉ rs'.map (·.1)) → r ∈ recs) := by
  have hne : ∀ rs ∈ v :: vs, ∀ r ∈ rs, r.1 ≠ sec := fun rs hrs r hr e =>
    (List.nodup_cons.1 (hnd rs hrs)).1 (List.mem_map.2 ⟨r, hr, e⟩)
  have hWm : ∀ rs' ∈ (v :: vs).map (List.cons (sec, [])), ∃ rs ∈ v :: vs, rs' = (sec, []) :: rs := fun rs' h => by
    obtain ⟨rs, hrs, e⟩ := List.mem_map.1 h
    exact ⟨rs, hrs, e.symm⟩
  have hnd' : ∀ rs' ∈ (v :: vs).map (List.cons (sec, [])), (rs'.map (·.1)).Nodup := fun rs' h => by
    obtain ⟨rs, hrs, rfl⟩ := hWm rs' h
    exact hnd rs hrs
  obtain ⟨d, hd⟩ : ∃ d, mergeResources (versEnts (iniL sec) 0 ((v :: vs).map (List.cons (sec, [])))) = some d := ⟨_, rfl⟩
  have hmp := merged_printed (iniL sec) (iniL_val sec) (fun r => r.1 ≠ sec → C02X.SafeIniRec r) _ d hd
    (fun rs' h r hr hr1 => by
      obtain ⟨rs, hrs, rfl⟩ := hWm rs' h
      rcases List.mem_cons.1 hr with rfl | hr
      · exact absurd rfl hr1
      · exact hsafe rs hrs r hr)
    hnd'
  -- the header's record comes first; taken off, the rest are the records of the versions without their headers
  obtain ⟨recs', hrec⟩ := merged_records_head (iniL sec) (iniL_val sec) _ d hd (sec, []) (by simp)
    (fun rs' h => by obtain ⟨rs, _, e⟩ := hWm rs' h; exact ⟨rs, e⟩) hnd'
  rw [hrec] at hmp
  obtain ⟨hser, hsr, hN⟩ := hmp
  have hk' : ∀ r ∈ recs', r.1 ≠ sec := fun r hr e => by
    have h1 := hN.1
    rw [List.map_cons, List.nodup_cons] at h1
    exact h1.1 (List.mem_map.2 ⟨r, hr, e⟩)
  have hsafe' : ∀ r ∈ recs', C02X.SafeIniRec r := fun r hr => hsr r (List.mem_cons_of_mem _ hr) (hk' r hr)
  have htext : serialize d = C02X.printIni sec recs' := by
    have : printL (iniL sec) recs' = printProps recs' := by
      rw [← printL_props]
      exact Txt.flatten_map_congr fun r hr => by simp [iniL, hk' r hr]
    rw [hser, printL, List.map_cons, List.flatten_cons]
    show _ ++ printL (iniL sec) recs' = _
    rw [this]
    simp [iniL, C02X.printIni]
  obtain ⟨he1, he2⟩ := C02X.entitiesOf_iniExpEntries sec recs' hsafe'
  refine ⟨_, _, recs', ?_, C02X.walk_ini_printed sec recs' hsec hsafe', he1, he2, hN.of_cons hne⟩
  unfold mergeTexts
  rw [walkAll_printIni sec hsec (v :: vs) 0 hsafe hne]
  simp only [hd, htext]

end C15R
