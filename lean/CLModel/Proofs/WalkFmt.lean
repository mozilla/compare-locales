/- The five regex parsers as ONE step function: `walk f s` is the walk of `C01M.nextOf f s`, and what every call of a
   format's `getNext` guarantees (`nextOf_ok`) is stated once, so that a statement about "every format" is one
   application of a generic walk lemma instead of five. -/
import CLModel.Parser.C01Gen
import CLModel.Proofs.ParserProgress
import CLModel.Proofs.WalkRel

namespace P
open C01M

theorem walkFrom_passthrough {σ τ : Type} (gn : Nat → Entry) (size : Nat) :
    ∀ fuel (c : σ) (d : τ) off,
      walkFrom (fun c off => (gn off, c)) size fuel c off = walkFrom (fun d off => (gn off, d)) size fuel d off := by
  intro fuel
  induction fuel with
  | zero => intro c d off; rfl
  | succ n ih => intro c d off; simp only [walkFrom, ih c d]

theorem walk_eq (f : Fmt) (s : Array Nat) : walk f s = walkFrom (nextOf f s) s.size (s.size + 1) false 0 := by
  cases f
  · exact walkFrom_passthrough (propsGetNext s) _ _ _ _ _
  · exact walkFrom_passthrough (dtdGetNext s) _ _ _ _ _
  · exact walkFrom_passthrough (iniGetNext s) _ _ _ _ _
  · rfl
  · exact walkFrom_passthrough (poGetNext s) _ _ _ _ _

/-- the offset at which the entry found at offset 0 starts: only the DTD parser skips a byte-order mark -/
def bom (f : Fmt) (s : Array Nat) : Nat :=
  match f with
  | .dtd => if s[0]? = some 0xFEFF then 1 else 0
  | _ => 0

/-- the shape of the value span per format -/
def Vof : Fmt → VPred
  | .dtd => VDtd
  | .inc => VInc
  | _ => VNormal

theorem nextOf_ok (f : Fmt) (s : Array Nat) (fel : Bool) (off : Nat) (h : off < s.size) :
    NextOK (Vof f) s.size (bom f s) off (nextOf f s fel off).1 := by
  cases f
  · exact (propsGetNext_eok s off h).nextOK
  · exact dtdGetNext_ok s off h
  · exact (iniGetNext_eok s off h).nextOK
  · exact (definesGetNext_eok s fel off h).nextOK
  · exact (getNext_eok poCfg _ poCfg_ok s off h).nextOK

theorem progress_nextOf (f : Fmt) (s : Array Nat) : Progress (nextOf f s) s.size (bom f s) :=
  fun fel off h => have h := nextOf_ok f s fel off h; ⟨h.full, h.full_le, h.lt, h.le⟩

/-- C01 for the five regex formats: `walk_lossless` at `nextOf f s`. -/
theorem walk_lossless_fmt (f : Fmt) (s : Array Nat) :
    ∃ es, walk f s = .done es ∧ Tiles s.size (bom f s) 0 es ∧ (es.map (Entry.all s)).flatten = s.toList.drop (bom f s) :=
  walk_eq f s ▸ walk_lossless _ s _ false (progress_nextOf f s)

theorem walk_walks (f : Fmt) (s : Array Nat) (es : List Entry) (h : walk f s = .done es) :
    ∃ c' off', C02P.Walks (nextOf f s) s.size false 0 es c' off' ∧ s.size ≤ off' := by
  obtain ⟨es', c', off', hw, h1, h2⟩ :=
    C02P.walkFrom_done (C02P.Prog.of_progress (progress_nextOf f s)) false 0 (s.size + 1) (by omega)
  rw [← walk_eq, h] at h2
  cases h2
  exact ⟨c', off', hw, h1⟩

theorem walk_all (f : Fmt) (s : Array Nat) (es : List Entry) (h : walk f s = .done es) (Q : Entry → Prop)
    (hq : ∀ fel off, off < s.size → Q (nextOf f s fel off).1) : ∀ e ∈ es, Q e :=
  let ⟨_, _, hw, _⟩ := walk_walks f s es h
  hw.all Q hq

theorem walk_keyIn (f : Fmt) (s : Array Nat) (es : List Entry) (h : walk f s = .done es) : ∀ e ∈ es, KeyIn e :=
  walk_all f s es h KeyIn fun fel off ho => (nextOf_ok f s fel off ho).keyIn

theorem walk_valIn (f : Fmt) (s : Array Nat) (es : List Entry) (h : walk f s = .done es) : ∀ e ∈ es, ValIn (Vof f) e :=
  walk_all f s es h (ValIn (Vof f)) fun fel off ho => (nextOf_ok f s fel off ho).valIn

theorem po_entity_created (s : Array Nat) (es : List Entry) (h : walk .po s = .done es) :
    ∀ e ∈ es, e.kind = .entity → (poCreate s e.s).isSome := by
  refine walk_all .po s es h _ fun _ off _ hk => ?_
  obtain ⟨km, r, hr⟩ := getNext_entity poCfg s off hk
  simp only [poCfg] at hr
  obtain ⟨p, hp, _⟩ := Option.map_eq_some_iff.1 hr
  exact Option.isSome_iff_exists.mpr ⟨p, hp⟩

end P
