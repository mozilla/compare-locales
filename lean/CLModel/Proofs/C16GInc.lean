/-
`.inc` — `#define key value⏎` per record with a NON-EMPTY value (an empty value means the `val` group
did not match and `Entity.wrap` misbehaves: finding C16-inc-reference-without-value).
A leading blank line is Junk for `DefinesParser` (finding C16-inc-leading-blank): the format supplies the walk of a printed
file WITHOUT leading newline only, and the theorems are used where the output provably has none (`no_lead_printed`).
-/
import CLModel.Proofs.C16GIdem
import CLModel.Proofs.C02XInc
namespace C16G
open Ser
open P (PRec)
open C02X (printInc printIncRec SafeIncRec defPrefix incLen incEntity incExpEntries)

/-- `#define key ` … -/
def incF : RFmt := { pre := fun k => defPrefix ++ k ++ [32], post := [] }

def SafeIncV (r : PRec) : Prop := SafeIncRec r ∧ r.2 ≠ []

theorem printIncRec_val (r : PRec) (hv : r.2 ≠ []) : printIncRec r = recText incF r ++ [10] := by
  simp [printIncRec, recText, incF, hv]

theorem printF_inc (rs : List PRec) (h : ∀ r ∈ rs, r.2 ≠ []) : printF incF rs = printInc rs :=
  Txt.flatten_map_congr fun r hr => (printIncRec_val r (h r hr)).symm

theorem ofEntry_incEntity (s : Array Nat) (off : Nat) (r : PRec) (rest : List Nat) (hv : r.2 ≠ [])
    (h : s.toList.drop off = printIncRec r ++ rest) :
    ofEntry .inc s (incEntity off r.1.length r.2.length) = entF incF r := by
  have hv0 : r.2.length ≠ 0 := by simpa using hv
  refine (congrArg (ofEntry .inc s) ?_).trans
    (ofEntry_rec .inc s off defPrefix [32] [] r rest (by simp [h, printIncRec, hv]))
  simp [incEntity, hv0, defPrefix]

theorem map_ofEntry_incExpEntries (s : Array Nat) (rs : List PRec) (off : Nat) (h : s.toList.drop off = printInc rs)
    (hs : ∀ r ∈ rs, SafeIncV r) : (incExpEntries off rs).map (ofEntry .inc s) = entsF incF rs :=
  map_ofEntry_records C02X.incEmbeds .inc s incF SafeIncV
    (fun r hr => printIncRec_val r hr.2) (fun off r rest hr hd => ofEntry_incEntity s off r rest hr.2 hd)
    rs off hs h

/-- a printed `.inc` file (a leading newline would be Junk: only `l = false` is asked for) -/
theorem walk_inc_lead (l : Bool) (hl : l = true → false = true) (rs : List PRec) (h : ∀ r ∈ rs, SafeIncV r) :
    P.walk .inc ((if l then [10] else []) ++ printInc rs).toArray
      = .done ((if l then [P.wsEntry 0] else []) ++ incExpEntries (if l then 1 else 0) rs) := by
  cases l with
  | false => exact C02X.walk_inc_printed rs (fun r hr => (h r hr).1)
  | true => cases hl rfl

end C16G
