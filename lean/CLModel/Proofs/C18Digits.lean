/-
C18 helper lemmas: `"%d" % n` is injective, the junk key determines (id, start, end),
a junk key never matches `ContentComparer.keyRE`.
-/
import CLModel.History.State
namespace Hist
open Rx

theorem digitsF_digit : ∀ fuel n c, c ∈ digitsF fuel n → 48 ≤ c ∧ c ≤ 57 := by
  intro fuel
  induction fuel with
  | zero => intro n c h; simp [digitsF] at h
  | succ fuel ih =>
    intro n c h
    unfold digitsF at h
    split at h
    · simp at h; omega
    · rw [List.mem_append] at h
      rcases h with h | h
      · exact ih _ _ h
      · simp at h; omega

theorem digitsF_ne_nil (fuel n : Nat) : digitsF (fuel + 1) n ≠ [] := by
  unfold digitsF
  split <;> simp

theorem digitsF_fuel : ∀ f f' n, n < f → n < f' → digitsF f n = digitsF f' n := by
  intro f
  induction f with
  | zero => intro f' n h; omega
  | succ f ih =>
    intro f' n h h'
    cases f' with
    | zero => omega
    | succ f' =>
      unfold digitsF
      split
      · rfl
      · rw [ih f' (n / 10) (by omega) (by omega)]

theorem digits_eq (n : Nat) :
    digits n = if n < 10 then [48 + n] else digits (n / 10) ++ [48 + n % 10] := by
  unfold digits
  conv => lhs; unfold digitsF
  split
  · rfl
  · rw [digitsF_fuel n (n / 10 + 1) (n / 10) (by omega) (by omega)]

theorem digits_ne_nil (n : Nat) : digits n ≠ [] := digitsF_ne_nil n n

theorem digits_digit (n c : Nat) (h : c ∈ digits n) : 48 ≤ c ∧ c ≤ 57 := digitsF_digit _ _ _ h

theorem digits_inj : ∀ n m, digits n = digits m → n = m := by
  intro n
  induction n using Nat.strongRecOn with
  | _ n ih =>
    intro m h
    rw [digits_eq n, digits_eq m] at h
    by_cases hn : n < 10 <;> by_cases hm : m < 10 <;> simp only [hn, hm, if_true, if_false] at h
    · simp at h; omega
    · have := congrArg List.length h
      have h2 := digits_ne_nil (m / 10)
      cases hd : digits (m / 10) with
      | nil => exact absurd hd h2
      | cons a t => rw [hd] at this; simp at this
    · have := congrArg List.length h
      have h2 := digits_ne_nil (n / 10)
      cases hd : digits (n / 10) with
      | nil => exact absurd hd h2
      | cons a t => rw [hd] at this; simp at this
    · have := List.append_inj' h rfl
      have h1 := ih (n / 10) (by omega) (m / 10) this.1
      have h2 : n % 10 = m % 10 := by simpa using this.2
      omega

theorem split_sep (x : Nat) : ∀ (a a' b b' : List Nat), x ∉ a → x ∉ a' →
    a ++ x :: b = a' ++ x :: b' → a = a' ∧ b = b' := by
  intro a
  induction a with
  | nil =>
    intro a' b b' _ h' h
    cases a' with
    | nil => simpa using h
    | cons y t => simp at h; simp at h'; omega
  | cons y t ih =>
    intro a' b b' h1 h' h
    cases a' with
    | nil => simp at h; simp at h1; omega
    | cons z t' =>
      simp at h h1 h'
      obtain ⟨r1, r2⟩ := ih t' b b' (by simp [h1]) (by simp [h']) h.2
      exact ⟨by rw [h.1, r1], r2⟩

theorem not_mem_digits (x n : Nat) (hx : x < 48 ∨ 57 < x) : x ∉ digits n := by
  intro h
  have := digits_digit n x h
  omega

theorem junkKey_inj {i s e i' s' e' : Nat} (h : junkKey i s e = junkKey i' s' e') :
    i = i' ∧ s = s' ∧ e = e' := by
  unfold junkKey at h
  simp only [List.append_assoc] at h
  have h1 := List.append_cancel_left h
  simp only [List.singleton_append] at h1
  obtain ⟨hi, hr⟩ := split_sep 95 _ _ _ _ (not_mem_digits 95 i (by omega)) (not_mem_digits 95 i' (by omega)) h1
  obtain ⟨hs, he⟩ := split_sep 45 _ _ _ _ (not_mem_digits 45 s (by omega)) (not_mem_digits 45 s' (by omega)) hr
  exact ⟨digits_inj _ _ hi, digits_inj _ _ hs, digits_inj _ _ he⟩

theorem junkKey_no_e (i s e : Nat) : 101 ∉ junkKey i s e := by
  unfold junkKey junkPrefix
  simp only [List.mem_append, not_or]
  refine ⟨⟨⟨⟨⟨by decide, not_mem_digits _ _ (by omega)⟩, by decide⟩, not_mem_digits _ _ (by omega)⟩, by decide⟩,
    not_mem_digits _ _ (by omega)⟩

theorem keyRE_matchAt_none (k : Array Nat) (h : 101 ∉ k.toList) (pos : Nat) :
    matchAt k Gen.Pat.ContentComparer_keyRE pos = none := by
  have hne : ∀ p : Nat, k[p]? ≠ some 101 := by
    intro p hp
    apply h
    rw [Array.getElem?_eq_some_iff] at hp
    obtain ⟨hlt, he⟩ := hp
    rw [← he]
    exact Array.getElem_mem_toList hlt
  unfold matchAt Gen.Pat.ContentComparer_keyRE
  simp only [m]
  split
  · split
    · simp [hne]
    · rfl
  · rfl

theorem keyRE_searchFrom_none (k : Array Nat) (h : 101 ∉ k.toList) :
    ∀ fuel pos, searchFrom k Gen.Pat.ContentComparer_keyRE fuel pos = none := by
  intro fuel
  induction fuel with
  | zero => intro pos; rfl
  | succ fuel ih =>
    intro pos
    unfold searchFrom
    split
    · rfl
    · rw [keyRE_matchAt_none k h pos]
      exact ih _

theorem isKeyStr_junkKey (i s e : Nat) : isKeyStr (junkKey i s e) = false := by
  unfold isKeyStr search
  rw [keyRE_searchFrom_none _ (by simpa using junkKey_no_e i s e)]
  rfl

end Hist
