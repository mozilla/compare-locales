/- the plural side.  Values assembled from text (without `#`) and `#n` tokens
   (each followed by a non-digit or the end), and what the `#([0-9]+)` regex does at one offset.  That such a
   value has exactly the variables `n`, in order, is proved in C06PluralExact (`pluralVars_render`). -/
import CLModel.Checks.Properties
import CLModel.Proofs.C06RLex
namespace C06R
open Rx PropCk
open Txt (At at_cons at_append)

/-- `#([0-9]+)` as generated (both occurrences in `check_plural`) -/
def rePlural : Re := .seq (.lit 35) (.group 1 (.rep 1 none true reDig))

theorem plural0_eq : Gen.Pat.checks_properties_PropertiesChecker_check_plural_0 = rePlural := rfl
theorem plural1_eq : Gen.Pat.checks_properties_PropertiesChecker_check_plural_1 = rePlural := rfl

/-- generator-side token of a plural value: text or `#n` -/
inductive PTok
  | text (t : PropCk.Text)
  | var (n : Nat)
  deriving DecidableEq, Repr

def renderPTok : PTok → PropCk.Text
  | .text t => t
  | .var n => 35 :: decimal n

def renderP (ts : List PTok) : PropCk.Text := ts.flatMap renderPTok

def varsOf : List PTok → List Nat
  | [] => []
  | .text _ :: ts => varsOf ts
  | .var n :: ts => n :: varsOf ts

def WfPTok : PTok → Prop
  | .text t => 35 ∉ t
  | .var _ => True

/-- the side condition on the sequence: a `#n` is not followed by a digit (which would extend `n`) -/
def SeparatedP : List PTok → Prop
  | [] => True
  | .var _ :: rest => (∀ c, (renderP rest).head? = some c → ¬ IsDig c) ∧ SeparatedP rest
  | .text _ :: rest => SeparatedP rest

def WfRenderP (ts : List PTok) : Prop := (∀ t ∈ ts, WfPTok t) ∧ SeparatedP ts

theorem renderP_cons (t : PTok) (ts : List PTok) : renderP (t :: ts) = renderPTok t ++ renderP ts := by
  simp [renderP]

theorem plural_nomatch {s : Array Nat} {q : Nat} (h : s[q]? ≠ some 35) : matchAt s rePlural q = none := by
  rw [matchAt_eq_head, rePlural, ends_seq, ends_lit_fail h]
  rfl

theorem plural_nomatch_hash {s : Array Nat} {q : Nat} (h0 : s[q]? = some 35) (hnd : NoDigAt s (q + 1)) :
    matchAt s rePlural q = none := by
  rw [matchAt_eq_head, rePlural, ends_seq, ends_lit_ok h0, List.flatMap_singleton, ends_group,
    ends_rep_at (ends_dig s) 1 true [] (x := []) rfl (by simp)
      (fun d hd => decide_eq_false (hnd d (by rw [Txt.head?_of_drop rfl]; exact hd))) (getElem?_some_lt h0)]
  rfl

theorem plural_match {s : Array Nat} {q : Nat} {ds : PropCk.Text} (hat : At s q (35 :: ds)) (hne : ds ≠ [])
    (hds : ∀ d ∈ ds, IsDig d) (hstop : NoDigAt s (q + 1 + ds.length)) :
    matchAt s rePlural q = some ⟨q + 1 + ds.length, [(1, q + 1, q + 1 + ds.length)]⟩ := by
  obtain ⟨h0, hat'⟩ := at_cons.mp hat
  rw [matchAt_eq_head, rePlural, ends_seq, ends_lit_ok h0, List.flatMap_singleton, ends_group, List.head?_map,
    head?_rep_at (ends_dig s) 1 [] hat'.drop_eq (fun d hd => decide_eq_true (hds d hd))
      (fun d hd => decide_eq_false (hstop d (by rw [Txt.head?_of_drop rfl]; exact hd))) (getElem?_some_lt h0)
      (List.length_pos_iff.mpr hne)]
  rfl

end C06R
