/-
The left fold of `merge_two` over the versions: `merged_induct` says once what a step may assume; every fact about
`merge_resources` is an instance.
-/
import CLModel.Proofs.C15Merge
namespace Merge
open AR

theorem versionDict_wf (i : Nat) (es : List Ent) : WF (versionDict i es) := parseResource_wf _

theorem mergeTwo_versionDict (i j : Nat) (es es' : List Ent) :
    mergeTwo (versionDict i es) (versionDict j es') =
      ((contentsOf (versionDict i es) (versionDict j es')).foldl prune []).reverse :=
  mergeTwo_eq _ _ (versionDict_wf _ _) (versionDict_wf _ _)

theorem versionDict_mem_keys (i : Nat) (es : List Ent) (k : Key) :
    k ∈ keysOf (versionDict i es) ↔ k ∈ (pairs (stamp i es) []).map (·.1) := parseResource_mem_keys _ k

/-- the dicts were parsed as versions j, j+1, … -/
def Stamped : Nat → List Dict → Prop
  | _, [] => True
  | j, d :: ds => WF d ∧ VerEq j d ∧ Stamped (j + 1) ds

theorem stamped_zipIdx (rs : List (List Ent)) (j : Nat) :
    Stamped j ((rs.zipIdx j).map (fun p => versionDict p.2 p.1)) := by
  induction rs generalizing j with
  | nil => trivial
  | cons es rs ih =>
    rw [List.zipIdx_cons, List.map_cons]
    exact ⟨parseResource_wf _, parseResource_verEq j es, ih (j + 1)⟩

theorem stamped_take : ∀ (ds : List Dict) (j n : Nat), Stamped j ds → Stamped j (ds.take n)
  | [], _, _, _ => by simp [Stamped]
  | d :: ds, j, 0, _ => by simp [Stamped]
  | d :: ds, j, n + 1, h => by
    rw [List.take_succ_cons]
    exact ⟨h.1, h.2.1, stamped_take ds (j + 1) n h.2.2⟩

theorem stamped_versionDicts (rs : List (List Ent)) : Stamped 0 (versionDicts rs) := stamped_zipIdx rs 0

theorem mergeResources_eq (rs : List (List Ent)) :
    mergeResources rs = match versionDicts rs with
      | [] => none
      | d :: ds => some (ds.foldl mergeTwo d) := rfl

theorem verEq_lt (j : Nat) (d : Dict) (h : VerEq j d) : VerLt (j + 1) d := by
  intro p hp hw
  have := h p hp hw
  omega

/-- What one step of `reduce(merge_two, map(parse_resource, resources))` may assume and must show: `d0 :: ds` are the
    version dicts consumed so far (newest first), `acc` is their merge, `dv` the next older version's dict.  That the dicts are
    well formed and share no Whitespace object is bookkeeping about version numbers, done here once. -/
theorem fold_induct {P : List Dict → Dict → Prop}
    (one : ∀ d0, WF d0 → P [d0] d0)
    (step : ∀ d0 ds acc dv, WF acc → WF dv → Disj acc dv → P (d0 :: ds) acc → P (d0 :: (ds ++ [dv])) (mergeTwo acc dv))
    (d0 : Dict) (ds : List Dict) (hs : Stamped 0 (d0 :: ds)) : P (d0 :: ds) (ds.foldl mergeTwo d0) := by
  have key : ∀ (ds : List Dict) (j : Nat) (pre : List Dict) (acc : Dict), WF acc → VerLt j acc → Stamped j ds →
      P (d0 :: pre) acc → P (d0 :: (pre ++ ds)) (ds.foldl mergeTwo acc) := by
    intro ds
    induction ds with
    | nil => intro _ pre _ _ _ _ h; rwa [List.append_nil]
    | cons d ds ih =>
      intro j pre acc hacc hlt hs h
      rw [List.foldl_cons, List.append_cons]
      exact ih (j + 1) _ _ (mergeTwo_wf acc d hacc hs.1) (mergeTwo_verLt j acc d hacc hs.1 hlt hs.2.1) hs.2.2
        (step d0 pre acc d hacc hs.1 (verDisj j acc d hacc hs.1 hlt hs.2.1) h)
  exact key ds 1 [] d0 hs.1 (verEq_lt 0 d0 hs.2.1) hs.2.2 (one d0 hs.1)

theorem mem_snoc {v d0 dv : Dict} {ds : List Dict} (h : v ∈ d0 :: ds) : v ∈ d0 :: (ds ++ [dv]) := by
  rw [← List.cons_append]; exact List.mem_append_left _ h

theorem merged_induct {P : List Dict → Dict → Prop}
    (one : ∀ d0, WF d0 → P [d0] d0)
    (step : ∀ d0 ds acc dv, WF acc → WF dv → Disj acc dv → P (d0 :: ds) acc → P (d0 :: (ds ++ [dv])) (mergeTwo acc dv))
    {rs : List (List Ent)} {d : Dict} (h : mergeResources rs = some d) : P (versionDicts rs) d := by
  rw [mergeResources_eq] at h
  have hst := stamped_versionDicts rs
  cases hvd : versionDicts rs with
  | nil => rw [hvd] at h; cases h
  | cons d0 ds =>
    rw [hvd] at h hst
    cases h
    exact fold_induct one step d0 ds hst

theorem merged_wf {rs : List (List Ent)} {d : Dict} (h : mergeResources rs = some d) : WF d :=
  merged_induct (P := fun _ d => WF d) (fun _ h => h) (fun _ _ acc dv ha hd _ _ => mergeTwo_wf acc dv ha hd) h

theorem merged_nwKeys {rs : List (List Ent)} {d : Dict} (h : mergeResources rs = some d) :
    ∃ d0 ds, versionDicts rs = d0 :: ds ∧
      nwKeys d = ds.foldl (fun l dv => specKeys l (nwKeys dv)) (nwKeys d0) := by
  refine merged_induct (P := fun vs d => ∃ d0 ds, vs = d0 :: ds ∧
      nwKeys d = ds.foldl (fun l dv => specKeys l (nwKeys dv)) (nwKeys d0)) ?_ ?_ h
  · exact fun d0 _ => ⟨d0, [], rfl, rfl⟩
  · rintro d0 ds acc dv ha hd hdis ⟨_, _, e, ih⟩
    cases e
    exact ⟨d0, ds ++ [dv], rfl, by rw [mergeTwo_nwKeys acc dv ha hd hdis, ih, List.foldl_append]; rfl⟩

theorem merged_dget {rs : List (List Ent)} {d : Dict} (h : mergeResources rs = some d) (k : Key)
    (hk : k.isObj = false) : dget d k = (versionDicts rs).findSome? (fun dv => dget dv k) := by
  refine merged_induct (P := fun vs d => dget d k = vs.findSome? (fun dv => dget dv k)) ?_ ?_ h
  · intro d0 _
    simp only [List.findSome?_cons, List.findSome?_nil]
    cases dget d0 k <;> rfl
  · intro d0 ds acc dv ha hd _ ih
    rw [mergeTwo_dget acc dv ha hd k hk, ← List.cons_append, List.findSome?_append, ← ih]
    simp only [getNewerEntity, List.findSome?_cons, List.findSome?_nil]
    cases dget acc k with
    | some e => rfl
    | none => cases dget dv k <;> rfl

theorem nwKeys_nodup (d : Dict) (hd : WF d) : (nwKeys d).Nodup := by
  rw [nwKeys_eq_filter d hd]
  exact hd.nodup.filter _

theorem foldSpec_mem (ls : List (List Key)) (l : List Key) (hl : l.Nodup) (hls : ∀ r ∈ ls, r.Nodup) (k : Key) :
    (ls.foldl (fun l r => specKeys l r) l).Nodup ∧
    (k ∈ ls.foldl (fun l r => specKeys l r) l ↔ k ∈ l ∨ ∃ r ∈ ls, k ∈ r) := by
  induction ls generalizing l with
  | nil => simp [hl]
  | cons r ls ih =>
    have hr := hls r (by simp)
    have := ih (specKeys l r) (specKeys_nodup l r hl hr) (fun r' hr' => hls r' (by simp [hr']))
    rw [List.foldl_cons]
    refine ⟨this.1, ?_⟩
    rw [this.2, specKeys_mem l r hl hr]
    constructor
    · rintro ((h | h) | ⟨r', hr', h⟩)
      · exact .inl h
      · exact .inr ⟨r, by simp, h⟩
      · exact .inr ⟨r', by simp [hr'], h⟩
    · rintro (h | ⟨r', hr', h⟩)
      · exact .inl (.inl h)
      · rw [List.mem_cons] at hr'
        rcases hr' with rfl | hr'
        · exact .inl (.inr h)
        · exact .inr ⟨r', hr', h⟩

theorem foldSpec_left (ls : List (List Key)) (l : List Key) :
    (ls.foldl (fun l r => specKeys l r) l).filter (fun k => l.contains k) = l := by
  induction ls generalizing l with
  | nil =>
    simp only [List.foldl_nil]
    rw [List.filter_eq_self]
    intro a ha; simpa using ha
  | cons r ls ih =>
    rw [List.foldl_cons]
    have h1 := ih (specKeys l r)
    have h2 : (specKeys l r).filter (fun k => l.contains k) = l := spec_keys_left l r
    have hsub : ∀ k, l.contains k = true → (specKeys l r).contains k = true := by
      intro k hk
      have : k ∈ (specKeys l r).filter (fun k => l.contains k) := by
        rw [h2]; simpa using hk
      have := (List.mem_filter.1 this).1
      simpa using this
    calc (ls.foldl (fun l r => specKeys l r) (specKeys l r)).filter (fun k => l.contains k)
        = ((ls.foldl (fun l r => specKeys l r) (specKeys l r)).filter
            (fun k => (specKeys l r).contains k)).filter (fun k => l.contains k) := by
          rw [List.filter_filter]
          apply List.filter_congr
          intro k _
          cases hk : l.contains k
          · simp
          · have := hsub k hk
            simp only [List.contains_iff_mem] at this
            simp [this]
      _ = l := by rw [h1, h2]

theorem foldl_map_nwKeys (ds : List Dict) (l : List Key) :
    ds.foldl (fun l d => specKeys l (nwKeys d)) l = (ds.map nwKeys).foldl (fun l r => specKeys l r) l := by
  induction ds generalizing l with
  | nil => rfl
  | cons d ds ih => simp only [List.foldl_cons, List.map_cons, ih]

theorem mem_versionDicts (rs : List (List Ent)) (d : Dict) :
    d ∈ versionDicts rs ↔ ∃ i es, rs[i]? = some es ∧ d = versionDict i es := by
  simp only [versionDicts, List.mem_map]
  constructor
  · rintro ⟨p, hp, rfl⟩
    obtain ⟨es, i⟩ := p
    rw [List.mem_zipIdx_iff_getElem?] at hp
    exact ⟨i, es, hp, rfl⟩
  · rintro ⟨i, es, h, rfl⟩
    exact ⟨(es, i), by rw [List.mem_zipIdx_iff_getElem?]; exact h, rfl⟩

end Merge
