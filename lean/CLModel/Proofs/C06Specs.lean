/- `getPrintfSpecs` on the token list of a value (closed form). -/
import CLModel.Checks.Properties
import CLModel.Checks.PrintfToks
namespace PropCk
open Rx

/-- `printfStep` on an abstract token -/
def stepA (st : PState) (p : Nat) : ATok → Except PErr PState
  | .lone => .error (.printf sFoundSingle p)
  | .pct => .ok st
  | .arg num spec =>
    if (st.hasNumber && num.isNone) || (!st.hasNumber && !st.specs.isEmpty && num.isSome) then
      .error (.printf sMixed p)
    else
      match num with
      | some n =>
        if n - 1 ≥ st.specs.length then
          .ok ⟨true, st.specs ++ List.replicate (n - 1 - st.specs.length) none ++ [some spec]⟩
        else .ok ⟨true, st.specs.set (n - 1) (some spec)⟩
      | none => .ok ⟨false, st.specs ++ [some spec]⟩

def foldA : List (Nat × ATok) → PState → Except PErr PState
  | [], st => .ok st
  | (p, t) :: ts, st =>
    match stepA st p t with
    | .error e => .error e
    | .ok st' => foldA ts st'

theorem printfStep_eq_stepA (s : Array Nat) (st : PState) (m : Nat × St) (t : ATok)
    (h : atokOf s m = some t) : printfStep s st m = stepA st m.1 t := by
  unfold atokOf at h
  unfold printfStep
  simp only at h ⊢
  split at h
  · rename_i hg
    cases h
    simp [hg, stepA]
  · rename_i hg
    split at h
    · rename_i hp
      cases h
      simp [hg, hp, stepA]
    · rename_i hp
      simp only [hg, hp, Bool.false_eq_true, if_false]
      split at h
      · rename_i c cs hs
        split at h
        · rename_i hn
          cases h
          simp [hn, hs, stepA]
        · rename_i nt hn
          split at h
          · rename_i n hi
            split at h
            · cases h
              simp [hn, hs, hi, stepA]
            · cases h
          · cases h
      · cases h

theorem printfFold_eq_foldA (s : Array Nat) :
    ∀ (ms : List (Nat × St)) (ts : List (Nat × ATok)) (st : PState),
      mapOpt (fun m => (atokOf s m).map (fun t => (m.1, t))) ms = some ts →
      printfFold s ms st = foldA ts st := by
  intro ms
  induction ms with
  | nil => intro ts st h; simp [mapOpt] at h; subst h; rfl
  | cons m ms ih =>
    intro ts st h
    simp only [mapOpt] at h
    cases ha : atokOf s m with
    | none => simp [ha] at h
    | some t =>
      simp only [ha, Option.map_some] at h
      cases hr : mapOpt (fun m => (atokOf s m).map (fun t => (m.1, t))) ms with
      | none => simp [hr] at h
      | some ts' =>
        simp only [hr] at h
        cases h
        simp only [printfFold, foldA, printfStep_eq_stepA s st m t ha]
        cases stepA st m.1 t with
        | error e => rfl
        | ok st' => exact ih ts' st' hr

def argsOf : List (Nat × ATok) → List (Option Nat × Text)
  | [] => []
  | (_, .arg num spec) :: ts => (num, spec) :: argsOf ts
  | (_, _) :: ts => argsOf ts

theorem mem_argsOf {ts : List (Nat × ATok)} {a : Option Nat × Text} :
    a ∈ argsOf ts ↔ ∃ p, (p, ATok.arg a.1 a.2) ∈ ts := by
  induction ts with
  | nil => simp [argsOf]
  | cons t ts ih =>
    obtain ⟨p, tok⟩ := t
    cases tok <;> simp [argsOf, ih, Prod.ext_iff, exists_or]

/-- the first problem met when reading left to right: a lone `%`, or an argument whose style
    (ordered / unordered) differs from the arguments before it.  `mode` = style seen so far. -/
def scanErr : List (Nat × ATok) → Option Bool → Option PErr
  | [], _ => none
  | (p, .lone) :: _, _ => some (.printf sFoundSingle p)
  | (_, .pct) :: ts, mode => scanErr ts mode
  | (p, .arg num _) :: ts, mode =>
    if mode = some (!num.isSome) then some (.printf sMixed p) else scanErr ts (some num.isSome)

def maxNum (as : List (Option Nat × Text)) : Nat := as.foldl (fun m a => max m (a.1.getD 0)) 0

/-- type of the last argument numbered `p + 1`.  Trap: `a.1.getD 0 - 1 = p` also holds at `p = 0` for an argument without
    number and for number 0, so every lemma about `positional` asks for numbers `≥ 1`. -/
def lastSpecAt (as : List (Option Nat × Text)) (p : Nat) : Option Text :=
  as.foldl (fun acc a => if a.1.getD 0 - 1 = p then some a.2 else acc) none

/-- positional argument types of ordered arguments: position `p` holds the type of the last
    `%{p+1}$…` token, `none` if there is no such token -/
def positional (as : List (Option Nat × Text)) : List (Option Text) :=
  (List.range (maxNum as)).map (lastSpecAt as)

/-- `getPrintfSpecs` as a function of the token list of the value (`getPrintfSpecs_eq_spec_of_wf`) -/
def specsSpec (ts : List (Nat × ATok)) : Except PErr (List (Option Text)) :=
  match scanErr ts none with
  | some e => .error e
  | none =>
    match argsOf ts with
    | [] => .ok []
    | (none, sp) :: as => .ok (((none, sp) :: as).map (fun a => some a.2))
    | (some n, sp) :: as =>
      if (positional ((some n, sp) :: as)).all Option.isSome then .ok (positional ((some n, sp) :: as))
      else .error (.printf sOrderedMissing 0)

/-- the invariant of the loop over the arguments read so far (`foldA_spec`): one style `b`, no empty type, numbers `≥ 1` -/
def Uniform (b : Bool) (as : List (Option Nat × Text)) : Prop :=
  ∀ a ∈ as, a.1.isSome = b ∧ a.2 ≠ [] ∧ (∀ n, a.1 = some n → n ≥ 1)

/-- state of the loop after the arguments `as` (all of one style) -/
def absState (as : List (Option Nat × Text)) : PState :=
  match as with
  | [] => ⟨false, []⟩
  | (none, _) :: _ => ⟨false, as.map (fun a => some a.2)⟩
  | (some _, _) :: _ => ⟨true, positional as⟩

def modeOf (as : List (Option Nat × Text)) : Option Bool :=
  match as with
  | [] => none
  | a :: _ => some a.1.isSome

theorem maxNum_append (as : List (Option Nat × Text)) (a : Option Nat × Text) :
    maxNum (as ++ [a]) = max (maxNum as) (a.1.getD 0) := by
  simp [maxNum, List.foldl_append]

theorem lastSpecAt_append (as : List (Option Nat × Text)) (a : Option Nat × Text) (p : Nat) :
    lastSpecAt (as ++ [a]) p = if a.1.getD 0 - 1 = p then some a.2 else lastSpecAt as p := by
  simp [lastSpecAt, List.foldl_append]

theorem foldl_max_le_iff (as : List (Option Nat × Text)) (N : Nat) : ∀ m,
    as.foldl (fun m a => max m (a.1.getD 0)) m ≤ N ↔ m ≤ N ∧ ∀ a ∈ as, a.1.getD 0 ≤ N := by
  induction as with
  | nil => intro m; simp
  | cons x xs ih => intro m; simp [ih, Nat.max_le, and_assoc]

theorem maxNum_le_iff {as : List (Option Nat × Text)} {N : Nat} : maxNum as ≤ N ↔ ∀ a ∈ as, a.1.getD 0 ≤ N := by
  simp [maxNum, foldl_max_le_iff]

theorem le_maxNum {as : List (Option Nat × Text)} {a : Option Nat × Text} (h : a ∈ as) :
    a.1.getD 0 ≤ maxNum as := maxNum_le_iff.mp (Nat.le_refl _) a h

theorem lastSpecAt_eq_find (as : List (Option Nat × Text)) (p : Nat) :
    lastSpecAt as p = (as.reverse.find? (fun a => decide (a.1.getD 0 - 1 = p))).map (·.2) := by
  have key : ∀ (as : List (Option Nat × Text)) (acc : Option Text),
      as.foldl (fun acc a => if a.1.getD 0 - 1 = p then some a.2 else acc) acc =
        ((as.reverse.find? (fun a => decide (a.1.getD 0 - 1 = p))).map (·.2)).or acc := by
    intro as
    induction as with
    | nil => intro acc; rfl
    | cons x xs ih =>
      intro acc
      rw [List.foldl_cons, ih, List.reverse_cons, List.find?_append]
      cases xs.reverse.find? (fun a => decide (a.1.getD 0 - 1 = p)) with
      | some y => rfl
      | none => by_cases hx : x.1.getD 0 - 1 = p <;> simp [hx]
  rw [lastSpecAt, key, Option.or_none]

theorem lastSpecAt_none_iff (as : List (Option Nat × Text)) (p : Nat) :
    lastSpecAt as p = none ↔ ∀ a ∈ as, a.1.getD 0 - 1 ≠ p := by
  simp [lastSpecAt_eq_find]

theorem lastSpecAt_some {as : List (Option Nat × Text)} {p : Nat} {t : Text}
    (h : lastSpecAt as p = some t) : ∃ a ∈ as, a.1.getD 0 - 1 = p ∧ a.2 = t := by
  rw [lastSpecAt_eq_find, Option.map_eq_some_iff] at h
  obtain ⟨a, ha, hat⟩ := h
  exact ⟨a, List.mem_reverse.mp (List.mem_of_find?_eq_some ha), by simpa using List.find?_some ha, hat⟩

theorem lastSpecAt_none_of_ge {as : List (Option Nat × Text)} {p : Nat} (h : maxNum as ≤ p)
    (hu : ∀ a ∈ as, a.1.getD 0 ≥ 1) : lastSpecAt as p = none := by
  rw [lastSpecAt_none_iff]
  intro a ha
  have := le_maxNum ha
  have := hu a ha
  omega

theorem positional_length (as : List (Option Nat × Text)) : (positional as).length = maxNum as := by
  simp [positional]

theorem positional_get (as : List (Option Nat × Text)) (p : Nat) :
    (positional as)[p]? = if p < maxNum as then some (lastSpecAt as p) else none := by
  simp only [positional, List.getElem?_map, List.getElem?_range]
  split <;> simp [*]

end PropCk

namespace PropCk

/-- what the lexer guarantees of every argument token (`atoks_wf`): a type, and a number `≥ 1` if any -/
def WFToks (ts : List (Nat × ATok)) : Prop :=
  ∀ p num spec, (p, ATok.arg num spec) ∈ ts → spec ≠ [] ∧ ∀ n, num = some n → n ≥ 1

theorem uniform_getD_ge {as : List (Option Nat × Text)} (hu : Uniform true as) : ∀ a ∈ as, a.1.getD 0 ≥ 1 := by
  intro a ha
  obtain ⟨hs, -, hn⟩ := hu a ha
  obtain ⟨n, hn'⟩ := Option.isSome_iff_exists.mp hs
  rw [hn']; exact hn n hn'

theorem positional_snoc (as : List (Option Nat × Text)) (n : Nat) (spec : Text) (hn : n ≥ 1)
    (hge : ∀ a ∈ as, a.1.getD 0 ≥ 1) :
    positional (as ++ [(some n, spec)]) =
      if n - 1 ≥ (positional as).length then
        positional as ++ List.replicate (n - 1 - (positional as).length) none ++ [some spec]
      else (positional as).set (n - 1) (some spec) := by
  -- position by position: below the old length, in the padding, at `n - 1`, beyond
  apply List.ext_getElem?
  intro p
  rw [positional_get, maxNum_append, lastSpecAt_append, positional_length]
  simp only [Option.getD_some]
  by_cases hc : n - 1 ≥ maxNum as
  · simp only [hc, if_true]
    have hmax : max (maxNum as) n = n := by omega
    rw [hmax]
    by_cases h1 : p < maxNum as
    · have : p < n := by omega
      have hne : ¬ (n - 1 = p) := by omega
      rw [List.append_assoc, List.getElem?_append_left (by rw [positional_length]; exact h1)]
      simp [this, hne, positional_get, h1]
    · by_cases h2 : p < n - 1
      · have : p < n := by omega
        have hne : ¬ (n - 1 = p) := by omega
        rw [List.getElem?_append_left (by simp [positional_length]; omega),
          List.getElem?_append_right (by rw [positional_length]; omega)]
        simp only [this, hne, if_true, if_false, positional_length]
        rw [List.getElem?_replicate]
        have : p - maxNum as < n - 1 - maxNum as := by omega
        simp [this, lastSpecAt_none_of_ge (show maxNum as ≤ p by omega) hge]
      · by_cases h3 : p = n - 1
        · subst h3
          have : n - 1 < n := by omega
          rw [List.getElem?_append_right (by simp [positional_length]; omega)]
          have e : n - 1 - (maxNum as + (n - 1 - maxNum as)) = 0 := by omega
          simp [this, positional_length, e]
        · have : ¬ p < n := by omega
          rw [List.getElem?_append_right (by simp [positional_length]; omega)]
          have e : p - (maxNum as + (n - 1 - maxNum as)) = (p - n) + 1 := by omega
          simp [this, positional_length, e]
  · simp only [hc, if_false]
    have hmax : max (maxNum as) n = maxNum as := by omega
    rw [hmax, List.getElem?_set]
    by_cases hp : n - 1 = p
    · subst hp
      have : n - 1 < maxNum as := by omega
      simp [this, positional_length]
    · simp [hp, positional_get]

theorem stepA_arg {b : Bool} (as : List (Option Nat × Text)) (hu : Uniform b as) (p : Nat) (num : Option Nat)
    (spec : Text) (hn : ∀ n, num = some n → n ≥ 1) :
    stepA (absState as) p (.arg num spec) =
      if modeOf as = some (!num.isSome) then .error (.printf sMixed p)
      else .ok (absState (as ++ [(num, spec)])) := by
  cases as with
  | nil =>
    cases num with
    | none => simp [stepA, absState, modeOf]
    | some n =>
      have hn' := hn n rfl
      have hp := positional_snoc [] n spec hn' (by simp)
      simp only [List.nil_append, positional_length, maxNum, List.foldl_nil] at hp
      simp only [stepA, absState, modeOf, List.nil_append, List.length_nil, Nat.sub_zero]
      simp only [Bool.false_and, Bool.not_false, List.isEmpty_nil, Bool.not_true, Bool.and_false,
        Bool.or_self, Bool.false_eq_true, if_false, Nat.zero_le, ge_iff_le, if_true, reduceCtorEq]
      rw [hp]
      simp [positional, maxNum]
  | cons a rest =>
    obtain ⟨an, asp⟩ := a
    cases an with
    | none =>
      cases num with
      | none => simp [stepA, absState, modeOf]
      | some n => simp [stepA, absState, modeOf]
    | some n0 =>
      cases num with
      | none => simp [stepA, absState, modeOf]
      | some n =>
        obtain rfl : b = true := ((hu _ List.mem_cons_self).1).symm
        have hp := positional_snoc ((some n0, asp) :: rest) n spec (hn n rfl) (uniform_getD_ge hu)
        simp only [stepA, absState, modeOf, Option.isSome_some, Bool.not_true, List.cons_append]
        simp only [Option.isNone_some, Bool.and_false, Bool.not_true, Bool.false_and, Bool.or_self,
          Bool.false_eq_true, if_false, Option.some.injEq]
        rw [List.cons_append] at hp
        rw [hp]
        split <;> simp [*]

theorem uniform_snoc {b : Bool} {as : List (Option Nat × Text)} (hu : Uniform b as) (num : Option Nat) (spec : Text)
    (hs : spec ≠ []) (hn : ∀ n, num = some n → n ≥ 1) (hm : ¬ modeOf as = some (!num.isSome)) :
    Uniform num.isSome (as ++ [(num, spec)]) ∧ modeOf (as ++ [(num, spec)]) = some num.isSome := by
  cases as with
  | nil => exact ⟨by simpa [Uniform] using ⟨hs, hn⟩, rfl⟩
  | cons h t =>
    have hb : b = num.isSome := by
      have := (hu h List.mem_cons_self).1
      simp only [modeOf, Option.some.injEq] at hm
      cases b <;> cases h2 : num.isSome <;> simp_all
    subst hb
    refine ⟨fun a ha => ?_, by simpa [modeOf] using (hu h List.mem_cons_self).1⟩
    rcases List.mem_append.mp ha with ha | ha
    · exact hu a ha
    · obtain rfl : a = (num, spec) := by simpa using ha
      exact ⟨rfl, hs, hn⟩

theorem foldA_spec : ∀ (ts : List (Nat × ATok)) {b : Bool} (as : List (Option Nat × Text)), Uniform b as → WFToks ts →
    foldA ts (absState as) =
      (match scanErr ts (modeOf as) with
       | some e => .error e
       | none => .ok (absState (as ++ argsOf ts))) := by
  intro ts
  induction ts with
  | nil => intro b as hu _; simp [foldA, scanErr, argsOf]
  | cons t ts ih =>
    intro b as hu hwf
    obtain ⟨p, tok⟩ := t
    have hwf' : WFToks ts := fun p' n' s' h' => hwf p' n' s' (by simp [h'])
    cases tok with
    | lone => simp [foldA, stepA, scanErr]
    | pct =>
      simp only [foldA, stepA, scanErr, argsOf]
      exact ih as hu hwf'
    | arg num spec =>
      obtain ⟨hs, hn⟩ := hwf p num spec (by simp)
      simp only [foldA, scanErr, argsOf, stepA_arg as hu p num spec hn]
      by_cases hm : modeOf as = some (!num.isSome)
      · simp [hm]
      · simp only [hm, if_false]
        obtain ⟨hu', hmode⟩ := uniform_snoc hu num spec hs hn hm
        have := ih (as ++ [(num, spec)]) hu' hwf'
        rw [hmode] at this
        simpa [List.append_assoc] using this

theorem all_congr' {β : Type} {l : List β} {f g : β → Bool} (h : ∀ x ∈ l, f x = g x) :
    l.all f = l.all g := by
  induction l with
  | nil => rfl
  | cons x xs ih =>
    simp only [List.all_cons, h x (by simp), ih (fun y hy => h y (by simp [hy]))]

theorem all_truthy_positional (as : List (Option Nat × Text)) (hne : ∀ a ∈ as, a.2 ≠ []) :
    (positional as).all truthy = (positional as).all Option.isSome := by
  apply all_congr'
  intro x hx
  cases x with
  | none => rfl
  | some t =>
    simp only [positional, List.mem_map] at hx
    obtain ⟨p, _, hp⟩ := hx
    obtain ⟨a, ha, _, hat⟩ := lastSpecAt_some hp
    have := hne a ha
    rw [hat] at this
    cases t with
    | nil => exact absurd rfl this
    | cons c cs => rfl

theorem mapOpt_total {β γ : Type} (f : β → Option γ) (l : List β) (h : ∀ x ∈ l, (f x).isSome = true) :
    ∃ r, mapOpt f l = some r ∧ r.length = l.length := by
  induction l with
  | nil => exact ⟨[], rfl, rfl⟩
  | cons x xs ih =>
    obtain ⟨r, hr, hl⟩ := ih (fun y hy => h y (by simp [hy]))
    have hx := h x (by simp)
    obtain ⟨y, hy⟩ := Option.isSome_iff_exists.mp hx
    exact ⟨y :: r, by simp [mapOpt, hy, hr], by simp [hl]⟩

theorem mapOpt_eq_map {β γ : Type} (f : β → Option γ) (g : β → γ) (l : List β)
    (h : ∀ x ∈ l, f x = some (g x)) : mapOpt f l = some (l.map g) := by
  induction l with
  | nil => rfl
  | cons x xs ih =>
    simp [mapOpt, h x (by simp), ih (fun y hy => h y (by simp [hy]))]

/-- `getPrintfSpecs` = closed form on the tokens of the value, when these are well formed (they always are:
    `atoks_wf`, `getPrintfSpecs_eq_spec` in C06Grammar) -/
theorem getPrintfSpecs_eq_spec_of_wf (val : Text) (ts : List (Nat × ATok)) (h : atoks val = some ts)
    (hwf : WFToks ts) : getPrintfSpecs val = specsSpec ts := by
  have hfold := printfFold_eq_foldA val.toArray _ ts ⟨false, []⟩ h
  have h1 := foldA_spec ts (b := false) [] (by simp [Uniform]) hwf
  simp only [absState, modeOf, List.nil_append] at h1
  unfold getPrintfSpecs specsSpec
  simp only
  rw [hfold, h1]
  cases hs : scanErr ts none with
  | some e => rfl
  | none =>
    simp only
    have hne : ∀ a ∈ argsOf ts, a.2 ≠ [] := fun a ha =>
      let ⟨p, hp⟩ := mem_argsOf.mp ha
      (hwf p _ _ hp).1
    cases ha : argsOf ts with
    | nil => simp [absState]
    | cons a as =>
      obtain ⟨an, asp⟩ := a
      cases an with
      | none => simp [absState]
      | some n =>
        simp only [absState, Bool.true_and, all_truthy_positional _ (ha ▸ hne)]
        clear hne hfold h1
        split <;> simp_all

end PropCk
