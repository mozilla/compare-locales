/- The frame property of captures (later items do not disturb a group they do not contain); plain-text values and the
   "simple" matchers built on them; what `match` returns, and the environment `sub` builds, looked up. -/
import CLModel.Proofs.C12Bound
import CLModel.Proofs.C11Sub
namespace PM
open Rx

theorem capOf_append_of_not_mem {new old : List (Nat × Nat × Nat)} {i : Nat} (h : ∀ e ∈ new, e.1 ≠ i) :
    capOf (new ++ old) i = capOf old i := by
  unfold capOf
  rw [List.find?_append]
  have : new.find? (fun x => x.1 == i) = none := by
    apply List.find?_eq_none.mpr
    intro e he
    simpa using h e he
  rw [this]
  rfl

theorem SemL.frame {s : Array Nat} {l : List Re} {st st' : St} (h : SemL s l st st') {i : Nat}
    (hi : i ∉ l.flatMap gidx) : capOf st'.caps i = capOf st.caps i := by
  obtain ⟨new, h1, g1⟩ := h.new_caps
  rw [h1]
  exact capOf_append_of_not_mem (fun e he hc => hi (hc ▸ g1 e he))

theorem _root_.Rx.BSem.frame {s : Array Nat} {r : Re} {st st' : St} (h : BSem s r st st') {i : Nat}
    (hi : i ∉ gidx r) : capOf st'.caps i = capOf st.caps i := by
  obtain ⟨new, h1, g1⟩ := h.new_caps
  rw [h1]
  exact capOf_append_of_not_mem (fun e he hc => hi (hc ▸ g1 e he))

theorem SemL.pos_bound {s : Array Nat} {l : List Re} {st st' : St} (h : SemL s l st st') :
    st.pos ≤ s.size → st'.pos ≤ s.size := by
  induction h with
  | nil => exact fun hl => hl
  | cons hx _ ih => exact fun hl => ih (hx.pos_bound hl)

theorem textAt_slice {s : Array Nat} {a b : Nat} (hab : a ≤ b) (hb : b ≤ s.size) :
    TextAt s a (slice s a b) ∧ (slice s a b).length = b - a := Txt.at_extract hab hb

def FlatPat (p : Pattern) : Prop := p.root = none ∧ ∀ n ∈ p.nodes, ∃ t, n = Node.lit t

def litText : Node → Text
  | .lit t => t
  | _ => []

def textOf (p : Pattern) : Text := p.nodes.flatMap litText

theorem expandChildren_of_nodes {rec : ExpRec} {env : Env} {rm : Bool} {pc : Node → Text} :
    ∀ (ns : List Node), (∀ n ∈ ns, expandNode rec n env true = .ok (pc n)) →
      expandChildren rec ns env rm = .ok (ns.flatMap pc)
  | [], _ => rfl
  | c :: cs, h => by
    have hc := h c (by simp)
    have ih := expandChildren_of_nodes (rec := rec) (env := env) (rm := rm) (pc := pc) cs (fun n hn => h n (by simp [hn]))
    simp [expandChildren, hc, ih, bind, Except.bind, pure, Except.pure]

theorem expandChildren_flat {rec : ExpRec} {env : Env} {rm : Bool} (ns : List Node) (h : ∀ n ∈ ns, ∃ t, n = Node.lit t) :
    expandChildren rec ns env rm = .ok (ns.flatMap litText) :=
  expandChildren_of_nodes ns fun n hn => by obtain ⟨t, rfl⟩ := h n hn; rfl

theorem expandPat_flat {rec : ExpRec} {p : Pattern} {env : Env} {rm : Bool} (h : FlatPat p) :
    expandPat rec p env rm = .ok (textOf p) := by
  simp [expandPat, rootOf_none h.1, expandChildren_flat p.nodes h.2, bind, Except.bind, pure, Except.pure, textOf]

def FlatEnv (env : Env) : Prop := ∀ k v, (k, v) ∈ env → ∃ p, v = Val.pat p ∧ FlatPat p

def SimpleNode : Node → Prop
  | .lit _ => True
  | .var _ r => r = false
  | .star _ => True
  | .starstar _ _ => True
  | .android _ => False

/-- text of the capture of group `i` in the capture list `C` ("" if the group did not take part) -/
def capText (s : Array Nat) (C : List (Nat × Nat × Nat)) (i : Nat) : Text :=
  match capOf C i with
  | some (a, b) => slice s a b
  | none => []

theorem flatMap_gidx_lits (t : Text) : (t.map Re.lit).flatMap gidx = [] := by
  induction t with
  | nil => rfl
  | cons c t ih => simpa [gidx, groups] using ih

theorem FlatEnv.lookup {env : Env} (h : FlatEnv env) {k : Text} {v : Val} (hl : env.lookup k = some v) :
    ∃ p, v = Val.pat p ∧ FlatPat p := h k v (AR.lookup_mem hl)

theorem step_group {s : Array Nat} {i : Nat} {body : Re} {rest : List Re} {st st' : St}
    (h : SemL s (Re.group i body :: rest) st st') (hpos : st.pos ≤ s.size) :
    ∃ m1, SemL s rest m1 st' ∧ st.pos ≤ m1.pos ∧ m1.pos ≤ s.size ∧ capOf m1.caps i = some (st.pos, m1.pos) ∧
      (∀ j, j ∉ gidx (Re.group i body) → capOf m1.caps j = capOf st.caps j) ∧
      ∃ x y, BSem s body x y ∧ x.pos = st.pos ∧ y.pos = m1.pos := by
  cases h with
  | cons hx hr =>
    have hfr := fun j (hj : j ∉ gidx (Re.group i body)) => hx.frame hj
    cases hx with
    | @group _ _ _ st0 hg =>
      refine ⟨_, hr, hg.pos_le, hg.pos_bound hpos, ?_, hfr, st, st0, hg, rfl, rfl⟩
      simp [capOf]

theorem textAt_all {s : Array Nat} {q : Text} (h : TextAt s 0 q) (hl : q.length = s.size) : s.toList = q :=
  (h.prefix.eq_of_length (by simpa using hl)).symm

def KeysOnce {β} (l : List (Text × β)) : Prop := ∀ k, (l.map (·.1)).count k ≤ 1

theorem KeysOnce.nodup {β} {l : List (Text × β)} (h : KeysOnce l) : (l.map (·.1)).Nodup :=
  List.nodup_iff_count.2 h

theorem reverse_lookup {β} (l : List (Text × β)) (h : KeysOnce l) (k : Text) : l.reverse.lookup k = l.lookup k := by
  rw [AR.lookup_eq_dget, AR.lookup_eq_dget, AR.dget_reverse h.nodup]

def capsVal (ov : Option Text) : Val :=
  .str (match ov with
    | some t => t
    | none => [])

theorem subEnv_eq (d : GroupDict) (env : Env) :
    subEnv d env = dupdate (dupdate [] (d.map (fun p => (p.1, capsVal p.2)))) env := by
  unfold subEnv dupdate
  rw [List.foldl_map]
  rfl

theorem lookup_map_val {β γ} (g : β → γ) (k : Text) (l : List (Text × β)) :
    (l.map (fun p => (p.1, g p.2))).lookup k = (l.lookup k).map g := by
  rw [AR.lookup_eq_dget, AR.lookup_eq_dget, AR.dget_map_val]

theorem keysOnce_map {β γ} (g : β → γ) {l : List (Text × β)} (h : KeysOnce l) :
    KeysOnce (l.map (fun p => (p.1, g p.2))) := by
  intro k
  have := h k
  simpa [List.map_map, Function.comp_def] using this

/-- what `sub`'s environment answers (the other matcher's environment is a dict): its own binding if there is
    one, else the last captured text of that name -/
theorem subEnv_lookup_rev {d : GroupDict} {env : Env} (he : KeysOnce env) (k : Text) :
    (subEnv d env).lookup k = match env.lookup k with
      | some v => some v
      | none => (d.reverse.lookup k).map capsVal := by
  rw [subEnv_eq, lookup_dupdate, reverse_lookup env he]
  cases env.lookup k with
  | some v => rfl
  | none =>
    simp only
    rw [lookup_dupdate, ← List.map_reverse, lookup_map_val]
    cases d.reverse.lookup k <;> rfl

theorem subEnv_lookup {d : GroupDict} {env : Env} (hd : KeysOnce d) (he : KeysOnce env) (k : Text) :
    (subEnv d env).lookup k = match env.lookup k with
      | some v => some v
      | none => (d.lookup k).map capsVal := by
  rw [subEnv_lookup_rev he, reverse_lookup d hd]

theorem capsVal_groupText (s : Array Nat) (st : St) (i : Nat) :
    capsVal (groupText s st i) = .str (capText s st.caps i) := by
  unfold capsVal groupText capText St.group
  cases capOf st.caps i with
  | none => rfl
  | some p => obtain ⟨a, b⟩ := p; rfl

theorem keys_groupDict (s : Array Nat) (st : St) (names : List Text) : (groupDict s st names).map (·.1) = names := by
  unfold groupDict
  simp [List.map_map, Function.comp_def]

theorem any_key_groupDict {s : Array Nat} {st : St} {names : List Text} {k : Text} :
    (groupDict s st names).any (fun x => x.1 == k) = true ↔ k ∈ names := by
  simp only [groupDict, List.any_map, List.any_eq_true, Function.comp, beq_iff_eq]
  exact ⟨fun ⟨_, h, e⟩ => e ▸ h, fun h => ⟨k, h, rfl⟩⟩

theorem names_once {names : List Text} (h : ∀ i, (names.map encName).count i ≤ 1) : ∀ k, names.count k ≤ 1 := by
  intro k
  exact Nat.le_trans (List.count_le_count_map (f := encName)) (h (encName k))

theorem fuelFor_pos (env : Env) : ∃ g, fuelFor env = g + 1 := ⟨2 * env.length + 2, rfl⟩

end PM
