/-
The Fluent model's stable insertion sort and insertion-ordered dict brought to the shared layers (`sortBy_eq`,
`dictGet?_eq_dget`); the laws of `dictSet` (which rewrites the first hit only, so it is not `AR.dset`), `dictDel` and the
defaultdict read `ddGet`; which of the generated constant strings of `check_style` coincide.
-/
import CLModel.Checks.Fluent
import CLModel.Proofs.Sorting
import CLModel.Proofs.Dict
namespace Ftl

theorem insBy_eq {α : Type} (le : α → α → Bool) (x : α) : ∀ l, insBy le x l = Sorting.ins le x l
  | [] => rfl
  | y :: r => by simp only [insBy, Sorting.ins, insBy_eq le x r]

theorem sortBy_eq {α : Type} (le : α → α → Bool) : ∀ l, sortBy le l = Sorting.sort le l
  | [] => rfl
  | x :: r => by rw [sortBy, sortBy_eq le r, insBy_eq]; rfl

theorem sortBy_perm {α : Type} (le : α → α → Bool) (l : List α) : (sortBy le l).Perm l :=
  sortBy_eq le l ▸ Sorting.perm_sort le l

theorem mem_sortBy {α : Type} (le : α → α → Bool) (l : List α) (x : α) : x ∈ sortBy le l ↔ x ∈ l :=
  (sortBy_perm le l).mem_iff

theorem sortBy_pairwise {α : Type} (le : α → α → Bool)
    (total : ∀ a b, le a b = true ∨ le b a = true) (trans : ∀ a b c, le a b = true → le b c = true → le a c = true)
    (l : List α) : (sortBy le l).Pairwise (fun a b => le a b = true) :=
  sortBy_eq le l ▸ Sorting.sorted_sort total trans l

/-- `list.sort` is stable, so it commutes with taking any sub-selection of the elements -/
theorem sortBy_filter_comm {α : Type} (le : α → α → Bool)
    (total : ∀ a b, le a b = true ∨ le b a = true) (trans : ∀ a b c, le a b = true → le b c = true → le a c = true)
    (p : α → Bool) (l : List α) : (sortBy le l).filter p = sortBy le (l.filter p) := by
  rw [sortBy_eq, sortBy_eq]; exact Sorting.filter_sort total trans p l

theorem sortBy_filter {α : Type} (le : α → α → Bool)
    (total : ∀ a b, le a b = true ∨ le b a = true) (trans : ∀ a b c, le a b = true → le b c = true → le a c = true)
    (p : α → Bool) (hp : ∀ a b, p a = true → p b = true → le a b = true)
    (l : List α) : (sortBy le l).filter p = l.filter p := by
  rw [sortBy_filter_comm le total trans, sortBy_eq]
  exact Sorting.sort_of_pairwise (List.pairwise_of_forall_mem_list fun a ha b hb =>
    hp a b (List.mem_filter.1 ha).2 (List.mem_filter.1 hb).2)

section dict
variable {κ ν : Type} [BEq κ] [LawfulBEq κ]

theorem dictKeys_dictSet (d : List (κ × ν)) (k : κ) (v : ν) :
    dictKeys (dictSet d k v) = setAdd (dictKeys d) k := by
  induction d with
  | nil => simp [dictSet, dictKeys, setAdd]
  | cons p r ih =>
    obtain ⟨k', v'⟩ := p
    simp only [dictSet]
    by_cases h : (k' == k) = true
    · have : k' = k := by simpa using h
      subst this
      simp [dictKeys, setAdd]
    · have hne : k' ≠ k := by simpa using h
      simp only [h, Bool.false_eq_true, if_false]
      simp only [dictKeys, List.map_cons] at ih ⊢
      rw [ih]
      simp only [setAdd, List.contains_cons]
      have : (k == k') = false := by simpa using (fun h' => hne h'.symm)
      simp only [this, Bool.false_or]
      split <;> simp

theorem mem_setAdd {α : Type} [BEq α] [LawfulBEq α] (s : List α) (x y : α) : y ∈ setAdd s x ↔ y ∈ s ∨ y = x :=
  AR.mem_ins s x y

theorem nodup_setAdd {α : Type} [BEq α] [LawfulBEq α] (s : List α) (x : α) (h : s.Nodup) : (setAdd s x).Nodup :=
  AR.ins_nodup s x h

omit [LawfulBEq κ] in
theorem dictGet?_eq_dget (d : List (κ × ν)) (k : κ) : dictGet? d k = AR.dget d k := by
  induction d with
  | nil => rfl
  | cons p r ih => rw [AR.dget_cons, ← ih]; rfl

theorem dictGet?_dictSet (d : List (κ × ν)) (k k' : κ) (v : ν) :
    dictGet? (dictSet d k v) k' = if k == k' then some v else dictGet? d k' := by
  induction d with
  | nil =>
    simp [dictSet, dictGet?]
  | cons p r ih =>
    obtain ⟨k0, v0⟩ := p
    simp only [dictSet]
    by_cases h : (k0 == k) = true
    · have : k0 = k := by simpa using h
      subst this
      simp only [BEq.rfl, if_true, dictGet?]
      split <;> rfl
    · simp only [h, Bool.false_eq_true, if_false, dictGet?, ih]
      by_cases h2 : (k0 == k') = true
      · have : k0 = k' := by simpa using h2
        subst this
        have : (k == k0) = false := by
          have hne : k0 ≠ k := by simpa using h
          simpa using (fun h' => hne h'.symm)
        simp [this]
      · simp [h2]

theorem dictGet?_isSome (d : List (κ × ν)) (k : κ) : (dictGet? d k).isSome = (dictKeys d).contains k := by
  rw [dictGet?_eq_dget, Bool.eq_iff_iff, AR.dget_isSome_iff, List.contains_iff_mem]
  rfl

theorem mem_dictSet {d : List (κ × ν)} {k : κ} {v : ν} {p : κ × ν} (h : p ∈ dictSet d k v) : p ∈ d ∨ p = (k, v) := by
  induction d with
  | nil => exact Or.inr (by simpa [dictSet] using h)
  | cons x xs ih =>
    obtain ⟨k', v'⟩ := x
    simp only [dictSet] at h
    split at h
    · rename_i heq
      rcases List.mem_cons.mp h with h2 | h2
      · exact Or.inr (by rw [h2, eq_of_beq heq])
      · exact Or.inl (List.mem_cons_of_mem _ h2)
    · rcases List.mem_cons.mp h with h2 | h2
      · exact Or.inl (h2 ▸ List.mem_cons_self)
      · exact (ih h2).imp_left (List.mem_cons_of_mem _)

end dict

theorem dictSet_ne_nil {κ ν : Type} [BEq κ] (d : List (κ × ν)) (k : κ) (v : ν) : dictSet d k v ≠ [] := by
  cases d with
  | nil => simp [dictSet]
  | cons x xs =>
    obtain ⟨a, b⟩ := x
    simp only [dictSet]
    split <;> simp

theorem ddGet_dictSet {ν : Type} (d : List (Slot × List ν)) (s s' : Slot) (v : List ν) :
    ddGet (dictSet d s v) s' = if s == s' then v else ddGet d s' := by
  by_cases h : (s == s') = true <;> simp [ddGet, dictGet?_dictSet, h]

theorem ddGet_dictSet_self {ν : Type} (d : List (Slot × List ν)) (slot slot' : Slot) :
    ddGet (dictSet d slot (ddGet d slot)) slot' = ddGet d slot' := by
  rw [ddGet_dictSet]
  split
  · rename_i h; rw [eq_of_beq h]
  · rfl

theorem dictSet_self_cases {ν : Type} (d : List (Slot × List ν)) (s : Slot) :
    dictSet d s (ddGet d s) = d ∨ dictSet d s (ddGet d s) = d ++ [(s, [])] := by
  induction d with
  | nil => right; simp [dictSet, ddGet, dictGet?]
  | cons p r ih =>
    obtain ⟨k, v⟩ := p
    by_cases hk : (k == s) = true
    · left
      simp [dictSet, ddGet, dictGet?, hk]
    · have hd : ddGet ((k, v) :: r) s = ddGet r s := by simp [ddGet, dictGet?, hk]
      simp only [dictSet, hk, Bool.false_eq_true, if_false, hd]
      rcases ih with h | h
      · left; rw [h]
      · right; rw [h]; rfl

theorem dictDel_eq_filter {ν : Type} (d : List (Str × ν)) (k : Str) (h : (dictKeys d).Nodup) :
    dictDel d k = d.filter (fun q => !(q.1 == k)) := by
  induction d with
  | nil => rfl
  | cons p r ih =>
    obtain ⟨a, v⟩ := p
    simp only [dictKeys, List.map_cons, List.nodup_cons] at h
    simp only [dictDel, List.filter_cons]
    by_cases ha : (a == k) = true
    · have hak : a = k := by simpa using ha
      subst hak
      simp only [BEq.rfl, if_true, Bool.not_true, Bool.false_eq_true, if_false]
      exact (AR.filter_ne_of_not_mem h.1).symm
    · simp only [ha, Bool.false_eq_true, if_false, Bool.not_false, if_true]
      rw [ih (by simpa [dictKeys] using h.2)]

theorem dictGet?_none_iff {ν : Type} (d : List (Str × ν)) (k : Str) : dictGet? d k = none ↔ k ∉ dictKeys d :=
  dictGet?_eq_dget d k ▸ AR.dget_eq_none_iff

theorem dictGet?_dictDel_ne {ν : Type} (d : List (Str × ν)) (k k' : Str) (hd : (dictKeys d).Nodup) (h : k ≠ k') :
    dictGet? (dictDel d k) k' = dictGet? d k' := by
  rw [dictDel_eq_filter d k hd, dictGet?_eq_dget, dictGet?_eq_dget, AR.dget_filter_ne, if_neg (mt eq_of_beq h)]

theorem nodup_keys_filter {ν : Type} (d : List (Str × ν)) (p : Str × ν → Bool) (h : (dictKeys d).Nodup) :
    (dictKeys (d.filter p)).Nodup := by
  unfold dictKeys at *
  exact List.Nodup.sublist (List.Sublist.map _ List.filter_sublist) h

theorem sevWarning_ne_sevError : sevWarning ≠ sevError := by decide

/-! ### the constant strings of `check_style`: which of the generated pieces coincide -/

open Gen.Tables in
theorem styleStr_0 : fmt checkStyleStr_0 [] = sevError := by decide
open Gen.Tables in
theorem styleStr_3 : fmt checkStyleStr_3 [] = sevError := by decide
open Gen.Tables in
theorem styleStr_4 : fmt checkStyleStr_4 [] = fmt checkStyleStr_1 [] := by decide
open Gen.Tables in
theorem styleStr_5 : fmt checkStyleStr_5 [] = fmt checkStyleStr_2 [] := by decide
open Gen.Tables in
theorem styleStr_11 : fmt checkStyleStr_11 [] = fmt checkStyleStr_2 [] := by decide
open Gen.Tables in
theorem styleStr_9 : fmt checkStyleStr_9 [] = sevWarning := by decide
open Gen.Tables in
theorem styleStr_10 : fmt checkStyleStr_10 [] = [44, 32] := by decide

end Ftl
