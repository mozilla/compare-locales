/-
C03: helper lemmas about the Fluent functions of CLModel/Compare/FluentEnt.lean:
between entries of the same kind (`sameEq`: two messages, two terms) `equals` is equality of the span-erased ASTs, hence an
equivalence relation that does not see spans (across the kinds `equals` is not symmetric: a term's attributes are not compared);
the word count does not see spans either, and the class numbers handed to the comparison loop are exactly `sameEq`.
-/
import CLModel.Compare.FluentEnt
namespace C03F
open Ftl FtlC

def eraseVKey : VKey → VKey
  | .ident _ n => .ident 0 n
  | .num _ v => .num 0 v

mutual
  def erasePattern : Pattern → Pattern
    | .mk _ els => .mk 0 (eraseElems els)
  def eraseElems : List Elem → List Elem
    | [] => []
    | e :: r => eraseElem e :: eraseElems r
  def eraseElem : Elem → Elem
    | .text v => .text v
    | .placeable e => .placeable (eraseExpr e)
  def eraseExpr : Expr → Expr
    | .strLit v => .strLit v
    | .numLit v => .numLit v
    | .varRef i => .varRef i
    | .msgRef _ i a => .msgRef 0 i a
    | .termRef _ i a args => .termRef 0 i a (eraseOptArgs args)
    | .funRef i args => .funRef i (eraseArgs args)
    | .select s vs => .select (eraseExpr s) (eraseVariants vs)
    | .placeable e => .placeable (eraseExpr e)
  def eraseOptArgs : Option CallArgs → Option CallArgs
    | none => none
    | some c => some (eraseArgs c)
  def eraseVariants : List Variant → List Variant
    | [] => []
    | v :: r => eraseVariant v :: eraseVariants r
  def eraseVariant : Variant → Variant
    | .mk k v d => .mk (eraseVKey k) (erasePattern v) d
  def eraseArgs : CallArgs → CallArgs
    | .mk p n => .mk (eraseExprs p) n
  def eraseExprs : List Expr → List Expr
    | [] => []
    | e :: r => eraseExpr e :: eraseExprs r
end

theorem eqVKey_iff (a b : VKey) : eqVKey a b = true ↔ eraseVKey a = eraseVKey b := by
  cases a <;> cases b <;> simp [eqVKey, eraseVKey]

mutual
  theorem eqPattern_iff : ∀ (a b : Pattern), eqPattern a b = true ↔ erasePattern a = erasePattern b
    | .mk _ x, .mk _ y => by simp [eqPattern, erasePattern, eqElems_iff x y]
  termination_by structural a => a
  theorem eqElems_iff : ∀ (a b : List Elem), eqElems a b = true ↔ eraseElems a = eraseElems b
    | [], [] => by simp [eqElems, eraseElems]
    | [], _ :: _ => by simp [eqElems, eraseElems]
    | _ :: _, [] => by simp [eqElems, eraseElems]
    | a :: as, b :: bs => by simp [eqElems, eraseElems, eqElem_iff a b, eqElems_iff as bs]
  termination_by structural a => a
  theorem eqElem_iff : ∀ (a b : Elem), eqElem a b = true ↔ eraseElem a = eraseElem b
    | .text a, .text b => by simp [eqElem, eraseElem]
    | .placeable a, .placeable b => by simp [eqElem, eraseElem, eqExpr_iff a b]
    | .text _, .placeable _ => by simp [eqElem, eraseElem]
    | .placeable _, .text _ => by simp [eqElem, eraseElem]
  termination_by structural a => a
  theorem eqExpr_iff : ∀ (a b : Expr), eqExpr a b = true ↔ eraseExpr a = eraseExpr b
    | .strLit a, b => by cases b <;> simp [eqExpr, eraseExpr]
    | .numLit a, b => by cases b <;> simp [eqExpr, eraseExpr]
    | .varRef a, b => by cases b <;> simp [eqExpr, eraseExpr]
    | .msgRef _ i a, b => by cases b <;> simp [eqExpr, eraseExpr]
    | .termRef _ i a x, b => by
      cases b with
      | termRef _ j b' y =>
        cases x with
        | none => cases y <;> simp [eqExpr, eraseExpr, eraseOptArgs]
        | some c =>
          cases y with
          | none => simp [eqExpr, eraseExpr, eraseOptArgs]
          | some d => simp [eqExpr, eraseExpr, eraseOptArgs, eqArgs_iff c d, and_assoc]
      | _ => simp [eqExpr, eraseExpr]
    | .funRef i x, b => by
      cases b with
      | funRef j y => simp [eqExpr, eraseExpr, eqArgs_iff x y]
      | _ => simp [eqExpr, eraseExpr]
    | .select s vs, b => by
      cases b with
      | select t ws => simp [eqExpr, eraseExpr, eqExpr_iff s t, eqVariants_iff vs ws]
      | _ => simp [eqExpr, eraseExpr]
    | .placeable a, b => by
      cases b with
      | placeable b' => simp [eqExpr, eraseExpr, eqExpr_iff a b']
      | _ => simp [eqExpr, eraseExpr]
  termination_by structural a => a
  theorem eqVariants_iff : ∀ (a b : List Variant), eqVariants a b = true ↔ eraseVariants a = eraseVariants b
    | [], [] => by simp [eqVariants, eraseVariants]
    | [], _ :: _ => by simp [eqVariants, eraseVariants]
    | _ :: _, [] => by simp [eqVariants, eraseVariants]
    | a :: as, b :: bs => by simp [eqVariants, eraseVariants, eqVariant_iff a b, eqVariants_iff as bs]
  termination_by structural a => a
  theorem eqVariant_iff : ∀ (a b : Variant), eqVariant a b = true ↔ eraseVariant a = eraseVariant b
    | .mk k v d, .mk k' v' d' => by simp [eqVariant, eraseVariant, eqVKey_iff, eqPattern_iff v v', and_assoc]
  termination_by structural a => a
  theorem eqArgs_iff : ∀ (a b : CallArgs), eqArgs a b = true ↔ eraseArgs a = eraseArgs b
    | .mk p n, .mk p' n' => by simp [eqArgs, eraseArgs, eqExprs_iff p p']
  termination_by structural a => a
  theorem eqExprs_iff : ∀ (a b : List Expr), eqExprs a b = true ↔ eraseExprs a = eraseExprs b
    | [], [] => by simp [eqExprs, eraseExprs]
    | [], _ :: _ => by simp [eqExprs, eraseExprs]
    | _ :: _, [] => by simp [eqExprs, eraseExprs]
    | a :: as, b :: bs => by simp [eqExprs, eraseExprs, eqExpr_iff a b, eqExprs_iff as bs]
  termination_by structural a => a
end

def eraseAttr (a : Attribute) : Attribute := { start := 0, name := a.name, value := erasePattern a.value }

def eraseAttrs : List Attribute → List Attribute
  | [] => []
  | a :: r => eraseAttr a :: eraseAttrs r

theorem eqAttr_iff (a b : Attribute) : eqAttr a b = true ↔ eraseAttr a = eraseAttr b := by
  cases a; cases b
  simp [eqAttr, eraseAttr, eqPattern_iff]

theorem eqAttrs_iff : ∀ (a b : List Attribute), eqAttrs a b = true ↔ eraseAttrs a = eraseAttrs b
  | [], [] => by simp [eqAttrs, eraseAttrs]
  | [], _ :: _ => by simp [eqAttrs, eraseAttrs]
  | _ :: _, [] => by simp [eqAttrs, eraseAttrs]
  | a :: as, b :: bs => by simp [eqAttrs, eraseAttrs, eqAttr_iff a b, eqAttrs_iff as bs]

theorem eqOptPattern_iff (a b : Option Pattern) : eqOptPattern a b = true ↔ a.map erasePattern = b.map erasePattern := by
  cases a <;> cases b <;> simp [eqOptPattern, eqPattern_iff]

theorem equals_iff (self other : Entry) : equals self other = true ↔
    entId self = entId other ∧ (entValue self).map erasePattern = (entValue other).map erasePattern ∧
      (isTerm self = true ∨ eraseAttrs (entAttrs self) = eraseAttrs (entAttrs other)) := by
  simp [equals, eqOptPattern_iff, eqAttrs_iff, and_assoc]

def eraseEntry : Entry → Entry
  | .message m => .message { start := 0, id := m.id, value := m.value.map erasePattern, attributes := eraseAttrs m.attributes }
  | .term t => .term { start := 0, id := t.id, value := erasePattern t.value, attributes := eraseAttrs t.attributes }

/-- `equals` between entries of the same class (two messages / two terms) — what the comparison loop evaluates: the keys of the
    two entities are equal, and a term's key starts with "-" -/
def sameEq (a b : Entry) : Bool := isTerm a == isTerm b && equals a b

theorem sameEq_iff (a b : Entry) : sameEq a b = true ↔
    isTerm a = isTerm b ∧ entId a = entId b ∧ (entValue a).map erasePattern = (entValue b).map erasePattern ∧
      (isTerm a = true ∨ eraseAttrs (entAttrs a) = eraseAttrs (entAttrs b)) := by
  simp [sameEq, equals_iff]

/-- what `equals` between entries of the same class compares, as ONE value: `sameEq` is equality of these -/
def sameKey (e : Entry) : Bool × Str × Option Pattern × List Attribute :=
  (isTerm e, entId e, (entValue e).map erasePattern, if isTerm e then [] else eraseAttrs (entAttrs e))

theorem sameEq_key (a b : Entry) : sameEq a b = true ↔ sameKey a = sameKey b := by
  rw [sameEq_iff]
  cases a <;> cases b <;> simp [sameKey, isTerm]

theorem sameEq_refl (a : Entry) : sameEq a a = true := (sameEq_key a a).2 rfl

theorem sameEq_symm (a b : Entry) : sameEq a b = sameEq b a :=
  Bool.eq_iff_iff.2 (by rw [sameEq_key, sameEq_key]; exact eq_comm)

theorem sameEq_trans (a b c : Entry) (h1 : sameEq a b = true) (h2 : sameEq b c = true) : sameEq a c = true :=
  (sameEq_key a c).2 (((sameEq_key a b).1 h1).trans ((sameEq_key b c).1 h2))

mutual
  theorem wPattern_erase : ∀ (p : Pattern), wPattern (erasePattern p) = wPattern p
    | .mk _ els => by simp [erasePattern, wPattern, wElems_erase els]
  theorem wElems_erase : ∀ (l : List Elem), wElems (eraseElems l) = wElems l
    | [] => by simp [eraseElems, wElems]
    | e :: r => by simp [eraseElems, wElems, wElem_erase e, wElems_erase r]
  theorem wElem_erase : ∀ (e : Elem), wElem (eraseElem e) = wElem e
    | .text v => by simp [eraseElem, wElem]
    | .placeable e => by simp [eraseElem, wElem, wExpr_erase e]
  theorem wExpr_erase : ∀ (e : Expr), wExpr (eraseExpr e) = wExpr e
    | .strLit _ => by simp [eraseExpr, wExpr]
    | .numLit _ => by simp [eraseExpr, wExpr]
    | .varRef _ => by simp [eraseExpr, wExpr]
    | .msgRef _ _ _ => by simp [eraseExpr, wExpr]
    | .termRef _ _ _ none => by simp [eraseExpr, eraseOptArgs, wExpr]
    | .termRef _ _ _ (some c) => by simp [eraseExpr, eraseOptArgs, wExpr, wArgs_erase c]
    | .funRef _ args => by simp [eraseExpr, wExpr, wArgs_erase args]
    | .select s vs => by simp [eraseExpr, wExpr, wVariants_erase vs]
    | .placeable e => by simp [eraseExpr, wExpr, wExpr_erase e]
  theorem wVariants_erase : ∀ (l : List Variant), wVariants (eraseVariants l) = wVariants l
    | [] => by simp [eraseVariants, wVariants]
    | v :: r => by simp [eraseVariants, wVariants, wVariant_erase v, wVariants_erase r]
  theorem wVariant_erase : ∀ (v : Variant), wVariant (eraseVariant v) = wVariant v
    | .mk _ value _ => by simp [eraseVariant, wVariant, wPattern_erase value]
  theorem wArgs_erase : ∀ (c : CallArgs), wArgs (eraseArgs c) = wArgs c
    | .mk pos _ => by simp [eraseArgs, wArgs, wExprs_erase pos]
  theorem wExprs_erase : ∀ (l : List Expr), wExprs (eraseExprs l) = wExprs l
    | [] => by simp [eraseExprs, wExprs]
    | e :: r => by simp [eraseExprs, wExprs, wExpr_erase e, wExprs_erase r]
end

theorem wAttrs_erase : ∀ (l : List Attribute), wAttrs (eraseAttrs l) = wAttrs l
  | [] => rfl
  | a :: r => by simp [eraseAttrs, wAttrs, eraseAttr, wPattern_erase, wAttrs_erase r]

theorem countWords_erase (e : Entry) : countWords (eraseEntry e) = countWords e := by
  cases e with
  | message m =>
    cases hv : m.value <;> simp [eraseEntry, countWords, hv, wAttrs_erase, wPattern_erase]
  | term t => simp [eraseEntry, countWords, wPattern_erase]

mutual
  theorem erasePattern_idem : ∀ (p : Pattern), erasePattern (erasePattern p) = erasePattern p
    | .mk _ els => by simp [erasePattern, eraseElems_idem els]
  theorem eraseElems_idem : ∀ (l : List Elem), eraseElems (eraseElems l) = eraseElems l
    | [] => by simp [eraseElems]
    | e :: r => by simp [eraseElems, eraseElem_idem e, eraseElems_idem r]
  theorem eraseElem_idem : ∀ (e : Elem), eraseElem (eraseElem e) = eraseElem e
    | .text v => by simp [eraseElem]
    | .placeable e => by simp [eraseElem, eraseExpr_idem e]
  theorem eraseExpr_idem : ∀ (e : Expr), eraseExpr (eraseExpr e) = eraseExpr e
    | .strLit _ => by simp [eraseExpr]
    | .numLit _ => by simp [eraseExpr]
    | .varRef _ => by simp [eraseExpr]
    | .msgRef _ _ _ => by simp [eraseExpr]
    | .termRef _ _ _ none => by simp [eraseExpr, eraseOptArgs]
    | .termRef _ _ _ (some c) => by simp [eraseExpr, eraseOptArgs, eraseArgs_idem c]
    | .funRef _ args => by simp [eraseExpr, eraseArgs_idem args]
    | .select s vs => by simp [eraseExpr, eraseExpr_idem s, eraseVariants_idem vs]
    | .placeable e => by simp [eraseExpr, eraseExpr_idem e]
  theorem eraseVariants_idem : ∀ (l : List Variant), eraseVariants (eraseVariants l) = eraseVariants l
    | [] => by simp [eraseVariants]
    | v :: r => by simp [eraseVariants, eraseVariant_idem v, eraseVariants_idem r]
  theorem eraseVariant_idem : ∀ (v : Variant), eraseVariant (eraseVariant v) = eraseVariant v
    | .mk k value _ => by cases k <;> simp [eraseVariant, eraseVKey, erasePattern_idem value]
  theorem eraseArgs_idem : ∀ (c : CallArgs), eraseArgs (eraseArgs c) = eraseArgs c
    | .mk pos _ => by simp [eraseArgs, eraseExprs_idem pos]
  theorem eraseExprs_idem : ∀ (l : List Expr), eraseExprs (eraseExprs l) = eraseExprs l
    | [] => by simp [eraseExprs]
    | e :: r => by simp [eraseExprs, eraseExpr_idem e, eraseExprs_idem r]
end

theorem eraseAttrs_idem : ∀ (l : List Attribute), eraseAttrs (eraseAttrs l) = eraseAttrs l
  | [] => rfl
  | a :: r => by simp [eraseAttrs, eraseAttr, erasePattern_idem, eraseAttrs_idem r]

theorem sameKey_erase (e : Entry) : sameKey (eraseEntry e) = sameKey e := by
  cases e with
  | message m => cases hv : m.value <;> simp [sameKey, eraseEntry, isTerm, entId, entValue, entAttrs, hv, erasePattern_idem, eraseAttrs_idem]
  | term t => simp [sameKey, eraseEntry, isTerm, entId, entValue, erasePattern_idem]

theorem sameEq_erase (e : Entry) : sameEq e (eraseEntry e) = true := (sameEq_key _ _).2 (sameKey_erase e).symm

def variantValue : Variant → Pattern
  | .mk _ v _ => v

theorem wVariants_sum : ∀ (vs : List Variant), wVariants vs = (vs.map (fun v => wPattern (variantValue v))).sum
  | [] => rfl
  | .mk _ v _ :: r => by simp [wVariants, wVariant, variantValue, wVariants_sum r]

theorem wElems_sum : ∀ (els : List Elem), wElems els = (els.map wElem).sum
  | [] => rfl
  | e :: r => by simp [wElems, wElems_sum r]

theorem wAttrs_sum : ∀ (as : List Attribute), wAttrs as = (as.map (fun a => wPattern a.value)).sum
  | [] => rfl
  | a :: r => by simp [wAttrs, wAttrs_sum r]

/-- the representatives met so far stand for different classes: no two of them are `equals`.  The class number `FtlC.classify`
    hands to the comparison loop is the place of an entry's representative + 1; 0 is kept for junk (`FtlC.toEnts`). -/
def Indep (reps : List Entry) : Prop := reps.Pairwise (fun a b => sameEq a b = false)

theorem findIdx_get {α : Type} {reps : List α} {p : α → Bool} {i : Nat} (h : reps.findIdx? p = some i) :
    ∃ r, reps[i]? = some r ∧ p r = true := by
  rw [List.findIdx?_eq_some_iff_getElem] at h
  obtain ⟨hlt, hp, _⟩ := h
  exact ⟨reps[i], by simp [hlt], hp⟩

theorem findIdx_prefix {α : Type} {reps reps' : List α} {p : α → Bool} {i : Nat} (hp : reps <+: reps')
    (h : reps.findIdx? p = some i) : reps'.findIdx? p = some i := by
  obtain ⟨t, rfl⟩ := hp
  rw [List.findIdx?_append, h]; rfl

theorem classify_spec (reps : List Entry) (e : Entry) (hi : Indep reps) :
    Indep (classify reps e).2 ∧ reps <+: (classify reps e).2 ∧
      (classify reps e).2.findIdx? (fun r => sameEq r e) = some ((classify reps e).1 - 1) ∧ 1 ≤ (classify reps e).1 := by
  unfold classify
  have hfun : (fun r => isTerm r == isTerm e && equals r e) = (fun r => sameEq r e) := rfl
  rw [hfun]
  cases hf : reps.findIdx? (fun r => sameEq r e) with
  | some i => exact ⟨hi, List.prefix_refl _, by simpa using hf, by simp⟩
  | none =>
    rw [List.findIdx?_eq_none_iff] at hf
    refine ⟨?_, List.prefix_append _ _, ?_, by simp⟩
    · unfold Indep
      rw [List.pairwise_append]
      refine ⟨hi, by simp, ?_⟩
      intro a ha b hb
      simp only [List.mem_singleton] at hb
      subst hb
      simpa using hf a ha
    · rw [List.findIdx?_append]
      have : reps.findIdx? (fun r => sameEq r e) = none := by rw [List.findIdx?_eq_none_iff]; exact hf
      rw [this]
      simp [List.findIdx?_cons, sameEq_refl]

/-- among independent representatives, of two that are `equals` the first does not come before the second -/
theorem Indep.not_lt {R : List Entry} (hi : Indep R) {i j : Nat} {rx ry : Entry} (hx : R[i]? = some rx) (hy : R[j]? = some ry)
    (h : sameEq rx ry = true) : ¬ i < j := by
  intro hlt
  obtain ⟨hil, e1⟩ := List.getElem?_eq_some_iff.1 hx
  obtain ⟨hjl, e2⟩ := List.getElem?_eq_some_iff.1 hy
  have := List.pairwise_iff_getElem.1 hi i j hil hjl hlt
  rw [e1, e2, h] at this; cases this

theorem indep_idx {R : List Entry} (hi : Indep R) {x y : Entry} {i j : Nat}
    (hx : R.findIdx? (fun r => sameEq r x) = some i) (hy : R.findIdx? (fun r => sameEq r y) = some j) :
    i = j ↔ sameEq x y = true := by
  obtain ⟨rx, hrx, px⟩ := findIdx_get hx
  obtain ⟨ry, hry, py⟩ := findIdx_get hy
  constructor
  · intro hij
    subst hij
    rw [hrx] at hry
    cases hry
    exact sameEq_trans x rx y (by rw [sameEq_symm]; exact px) py
  · intro hxy
    have hr : sameEq rx ry = true :=
      sameEq_trans rx y ry (sameEq_trans rx x y px hxy) (by rw [sameEq_symm]; exact py)
    exact Nat.le_antisymm (Nat.not_lt.1 (hi.not_lt hry hrx (by rw [sameEq_symm]; exact hr))) (Nat.not_lt.1 (hi.not_lt hrx hry hr))

/-- the entity an item becomes, given the representatives `R` the whole run ends with: its class is the place of the
    first representative it `equals` -/
def entOf (R : List Entry) : Item → Cmp.Ent
  | .junk k m => { key := k, junk := true, words := 0, cls := 0, msg := m }
  | .ent k _ e => { key := k, junk := false, words := countWords e, cls := (R.findIdx? (fun r => sameEq r e)).getD 0 + 1, msg := 0 }

/-- classes are handed out against a growing list of representatives, but an entry keeps its place in every extension,
    so the entities are the image of the items under the FINAL list -/
theorem toEnts_eq : ∀ (items : List Item) (reps : List Entry), Indep reps →
    Indep (toEnts items reps).2 ∧ reps <+: (toEnts items reps).2 ∧
      (toEnts items reps).1 = items.map (entOf (toEnts items reps).2) ∧
      ∀ k c e, Item.ent k c e ∈ items → ∃ i, (toEnts items reps).2.findIdx? (fun r => sameEq r e) = some i
  | [], reps, hi => ⟨hi, List.prefix_refl _, rfl, nofun⟩
  | .junk k m :: rest, reps, hi => by
    obtain ⟨h1, h2, h3, h4⟩ := toEnts_eq rest reps hi
    refine ⟨h1, h2, ?_, fun k' c e hm => h4 k' c e (by simpa using hm)⟩
    rw [toEnts, List.map_cons, ← h3]; rfl
  | .ent k c e :: rest, reps, hi => by
    obtain ⟨c1, c2, c3, c4⟩ := classify_spec reps e hi
    obtain ⟨h1, h2, h3, h4⟩ := toEnts_eq rest (classify reps e).2 c1
    have hidx := findIdx_prefix h2 c3
    refine ⟨h1, c2.trans h2, ?_, fun k' c' e' hm => ?_⟩
    · rw [toEnts, List.map_cons, ← h3]
      show _ :: _ = _ :: _
      rw [entOf, hidx, Option.getD_some, Nat.sub_add_cancel c4]
    · rcases List.mem_cons.1 hm with hm | hm
      · cases hm; exact ⟨_, hidx⟩
      · exact h4 k' c' e' hm

def dropComment : Item → Item
  | .junk k m => .junk k m
  | .ent k _ e => .ent k none e

theorem toEnts_comments : ∀ (items : List Item) (reps : List Entry), toEnts (items.map dropComment) reps = toEnts items reps
  | [], _ => rfl
  | .junk k m :: rest, reps => by simp [toEnts, dropComment, toEnts_comments rest reps]
  | .ent k c e :: rest, reps => by simp [toEnts, dropComment, toEnts_comments rest]

end C03F
