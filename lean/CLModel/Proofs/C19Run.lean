/-
C19: one `lint()` run over a sequence of files (Lint/Run.lean).  `lint_cons` gives `lint` the shape of a loop over
`fileResults`, so `lint_spec` is an instance of `concatLoop_spec`; then where the results come from (`lint_paths`),
reordering (`lint_perm`), and the run with its state as a function of `lint` (`lintLoop_spec`).
-/
import CLModel.Lint.Run
import CLModel.Proofs.C19
namespace C19Run
open Lint

theorem lint_cons (f : FileIn) (rest : List FileIn) :
    lint (f :: rest) =
      (match fileResults f with
       | .error x => .error x
       | .ok a =>
         match lint rest with
         | .error x => .error x
         | .ok b => .ok (a ++ b)) := by
  unfold fileResults
  by_cases h : hasParser f.path = true
  · simp only [lint, h, Bool.not_true, Bool.false_eq_true, if_false]
    cases lintFile f <;> rfl
  · have h' : hasParser f.path = false := by simpa using h
    simp only [lint, h', Bool.not_false, if_true]
    cases lint rest <;> rfl

theorem fileResults_path {f : FileIn} {a : List PResult} (h : fileResults f = .ok a) : ∀ p ∈ a, p.1 = f.path := by
  unfold fileResults at h
  split at h
  · cases h; intro p hp; cases hp
  · split at h
    · cases h
    · cases h
      intro p hp
      obtain ⟨r, _, rfl⟩ := List.mem_map.1 hp
      rfl

theorem lint_spec (files : List FileIn) (rs : List PResult) :
    lint files = .ok rs ↔
      ∃ rss, All2 (fun f r => fileResults f = .ok r) files rss ∧ rs = rss.flatten := by
  refine concatLoop_spec fileResults lint rfl (fun f files => ?_) files rs
  rw [lint_cons]
  cases fileResults f with
  | error _ => rfl
  | ok _ => cases lint files <;> rfl

theorem lint_paths {files : List FileIn} {rs : List PResult} (h : lint files = .ok rs) :
    ∀ p ∈ rs, p.1 ∈ files.map (·.path) := by
  obtain ⟨rss, hall, rfl⟩ := (lint_spec files rs).1 h
  intro p hp
  obtain ⟨a, ha, hpa⟩ := List.mem_flatten.1 hp
  obtain ⟨f, hf, hfa⟩ := hall.mem_right ha
  rw [fileResults_path hfa p hpa]
  exact List.mem_map_of_mem hf

theorem lint_ok_iff (files : List FileIn) :
    (∃ rs, lint files = .ok rs) ↔ ∀ f ∈ files, ∃ a, fileResults f = .ok a := by
  constructor
  · rintro ⟨rs, h⟩ f hf
    obtain ⟨rss, hall, _⟩ := (lint_spec files rs).1 h
    obtain ⟨a, _, ha⟩ := hall.mem_left hf
    exact ⟨a, ha⟩
  · intro h
    obtain ⟨rss, hall⟩ := All2.exists_of_forall h
    exact ⟨_, (lint_spec files _).2 ⟨rss, hall, rfl⟩⟩

theorem lint_perm {l₁ l₂ : List FileIn} (hp : l₁.Perm l₂) :
    ∀ rs, lint l₁ = .ok rs → ∃ rs', lint l₂ = .ok rs' ∧ rs.Perm rs' := by
  induction hp with
  | nil => intro rs h; exact ⟨rs, h, List.Perm.refl _⟩
  | cons x _ ih =>
    intro rs h
    rw [lint_cons] at h ⊢
    cases hx : fileResults x with
    | error e => rw [hx] at h; cases h
    | ok a =>
      rw [hx] at h
      simp only
      rename_i l₁' l₂' _
      cases hr : lint l₁' with
      | error e => rw [hr] at h; cases h
      | ok b =>
        rw [hr] at h
        cases h
        obtain ⟨b', hb', hperm⟩ := ih b hr
        rw [hb']
        exact ⟨a ++ b', rfl, List.Perm.append_left a hperm⟩
  | swap x y l =>
    intro rs h
    rw [lint_cons, lint_cons] at h
    rw [lint_cons, lint_cons]
    cases hy : fileResults y with
    | error e => rw [hy] at h; cases h
    | ok a =>
      rw [hy] at h
      cases hx : fileResults x with
      | error e => rw [hx] at h; cases h
      | ok b =>
        rw [hx] at h
        cases hl : lint l with
        | error e => rw [hl] at h; cases h
        | ok c =>
          rw [hl] at h
          cases h
          refine ⟨b ++ (a ++ c), rfl, ?_⟩
          rw [← List.append_assoc, ← List.append_assoc]
          exact List.Perm.append_right c List.perm_append_comm
  | trans _ _ ih₁ ih₂ =>
    intro rs h
    obtain ⟨rs', h', p'⟩ := ih₁ rs h
    obtain ⟨rs'', h'', p''⟩ := ih₂ rs' h'
    exact ⟨rs'', h'', p'.trans p''⟩

theorem lintStep_eq (st : RunState) (f : FileIn) :
    lintStep st f =
      (match fileResults f with
       | .error x => .error x
       | .ok a => .ok { results := st.results ++ a,
                        asked := if hasParser f.path then st.asked ++ [f.path] else st.asked }) := by
  unfold lintStep fileResults
  by_cases h : hasParser f.path = true
  · simp only [h, Bool.not_true, Bool.false_eq_true, if_false, if_true]
    cases lintFile f <;> rfl
  · have h' : hasParser f.path = false := by simpa using h
    simp [h']

theorem lintLoop_spec (st : RunState) (files : List FileIn) :
    lintLoop st files =
      (match lint files with
       | .error x => .error x
       | .ok rs => .ok { results := st.results ++ rs,
                         asked := st.asked ++ (files.filter (fun f => hasParser f.path)).map (·.path) }) := by
  induction files generalizing st with
  | nil => simp [lintLoop, lint]
  | cons f files ih =>
    rw [lintLoop, lintStep_eq, lint_cons]
    cases hf : fileResults f with
    | error x => rfl
    | ok a =>
      simp only
      rw [ih]
      cases hr : lint files with
      | error x => rfl
      | ok b =>
        simp only [List.append_assoc, List.filter_cons]
        by_cases hp : hasParser f.path = true
        · simp [hp]
        · have hp' : hasParser f.path = false := by simpa using hp
          simp [hp']

end C19Run
