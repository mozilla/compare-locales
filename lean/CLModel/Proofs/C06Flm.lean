/- `find_longest_match` returns a block of its box that really matches (`flm_valid`).  The `j2len` dictionary
   of the outer loop is described by the closed recursion `rowv` (the table of common runs ending at a cell),
   and `best` is a fold of `rowStep` over each row. -/
import CLModel.Checks.Difflib
import CLModel.Proofs.C06B2j
namespace Difflib
variable {α : Type} [DecidableEq α]

def getK (d : List (Nat × Nat)) (j : Nat) : Nat :=
  match d.find? (fun p => p.1 == j) with
  | some p => p.2
  | none => 0

theorem j2lenGet_eq (d : List (Nat × Nat)) (j : Nat) :
    j2lenGet d j = if j = 0 then 0 else getK d (j - 1) := rfl

theorem getK_cons (d : List (Nat × Nat)) (j k j' : Nat) :
    getK ((j, k) :: d) j' = if j = j' then k else getK d j' := by
  by_cases h : j = j'
  · subst h; simp [getK]
  · have : (j == j') = false := by simp [h]
    simp [getK, this, h]

theorem foldl_congr_mem {β γ : Type} (f g : β → γ → β) (l : List γ) (b : β)
    (h : ∀ c x, x ∈ l → f c x = g c x) : l.foldl f b = l.foldl g b := by
  induction l generalizing b with
  | nil => rfl
  | cons x xs ih =>
    simp only [List.foldl_cons]
    rw [h b x (by simp)]
    exact ih _ (fun c y hy => h c y (by simp [hy]))

/-- one step of the inner loop on `best`, in row `i`, when the new length stored under key `j` is `val j` -/
def rowStep (i : Nat) (val : Nat → Nat) (c : Block) (j : Nat) : Block :=
  if val j > c.k then ⟨i + 1 - val j, j + 1 - val j, val j⟩ else c

/-- one step of the inner loop inside the box: the new length goes under key `j`, and `best` moves if it is longer -/
def innerStep (i : Nat) (val : Nat → Nat) (st : List (Nat × Nat) × Block) (j : Nat) : List (Nat × Nat) × Block :=
  ((j, val j) :: st.1, rowStep i val st.2 j)

/-- On an ascending row the `continue` below `blo` and the `break` at `bhi` leave exactly the part inside the box. -/
theorem innerLoop_eq_foldl (i blo bhi : Nat) (j2len : List (Nat × Nat)) (js : List Nat)
    (hasc : js.Pairwise (· < ·)) (st : List (Nat × Nat) × Block) :
    innerLoop i blo bhi j2len js st =
      (js.filter (fun j => decide (blo ≤ j ∧ j < bhi))).foldl (innerStep i (fun j => j2lenGet j2len j + 1)) st := by
  induction js generalizing st with
  | nil => rfl
  | cons j js ih =>
    obtain ⟨nj, best⟩ := st
    have hgt := (List.pairwise_cons.mp hasc).1
    have hasc' := (List.pairwise_cons.mp hasc).2
    simp only [innerLoop]
    by_cases h1 : j < blo
    · rw [if_pos h1, ih hasc', List.filter_cons_of_neg (by simp only [decide_eq_true_eq]; omega)]
    · rw [if_neg h1]
      by_cases h2 : j ≥ bhi
      · rw [if_pos h2, List.filter_eq_nil_iff.mpr, List.foldl_nil]
        intro x hx
        have : j ≤ x := by
          rcases List.mem_cons.mp hx with rfl | hx
          · exact Nat.le_refl _
          · exact Nat.le_of_lt (hgt x hx)
        simp only [decide_eq_true_eq]; omega
      · rw [if_neg h2, List.filter_cons_of_pos (by simp only [decide_eq_true_eq]; omega), List.foldl_cons]
        exact ih hasc' _

theorem foldl_innerStep_snd (i : Nat) (val : Nat → Nat) (l : List Nat) (st : List (Nat × Nat) × Block) :
    (l.foldl (innerStep i val) st).2 = l.foldl (rowStep i val) st.2 :=
  (List.foldl_hom Prod.snd fun _ _ => rfl).symm

theorem getK_foldl_innerStep (i : Nat) (val : Nat → Nat) (l : List Nat) (st : List (Nat × Nat) × Block) (j' : Nat) :
    getK (l.foldl (innerStep i val) st).1 j' = if j' ∈ l then val j' else getK st.1 j' := by
  induction l generalizing st with
  | nil => simp
  | cons j l ih =>
    rw [List.foldl_cons, ih, innerStep, getK_cons]
    by_cases hj : j = j'
    · subst hj; simp
    · have : ¬ j' = j := fun h => hj h.symm
      simp [hj, this]

/-- `rowv M blo bhi alo n j` = value stored under key `j` after `n` iterations of the outer loop
    started at `alo`, where `M i j` says that `j` is listed in `b2j[a[i]]`. -/
def rowv (M : Nat → Nat → Bool) (blo bhi alo : Nat) : Nat → Nat → Nat
  | 0, _ => 0
  | n + 1, j =>
    if M (alo + n) j ∧ blo ≤ j ∧ j < bhi then (if j = 0 then 0 else rowv M blo bhi alo n (j - 1)) + 1 else 0

def Mrel (a : List α) (b2j : List (α × List Nat)) (i j : Nat) : Bool :=
  match a[i]? with
  | some x => decide (j ∈ b2jGet b2j x)
  | none => false

theorem outerLoop_inv (a : List α) (b2j : List (α × List Nat)) (blo bhi alo : Nat)
    (hsorted : B2jSorted b2j)
    (Inv : Nat → Block → Prop)
    (hstep : ∀ n best x, a[alo + n]? = some x → Inv n best →
      Inv (n + 1) ((((b2jGet b2j x).filter (fun j => decide (blo ≤ j ∧ j < bhi))).foldl
        (rowStep (alo + n) (rowv (Mrel a b2j) blo bhi alo (n + 1))) best))) :
    ∀ (m n : Nat) (j2len : List (Nat × Nat)) (best : Block),
      alo + n + m ≤ a.length →
      (∀ j, getK j2len j = rowv (Mrel a b2j) blo bhi alo n j) → Inv n best →
      ∃ best', outerLoop a b2j blo bhi m (alo + n) j2len best = some best' ∧ Inv (n + m) best' := by
  intro m
  induction m with
  | zero => intro n j2len best _ _ hi; exact ⟨best, rfl, hi⟩
  | succ m ih =>
    intro n j2len best hlen hrow hinv
    have hlt : alo + n < a.length := by omega
    simp only [outerLoop]
    have hx : a[alo + n]? = some a[alo + n] := List.getElem?_eq_getElem hlt
    rw [hx]
    simp only
    have hin := innerLoop_eq_foldl (alo + n) blo bhi j2len (b2jGet b2j a[alo + n]) (hsorted _) ([], best)
    have hval : ∀ j, j ∈ b2jGet b2j a[alo + n] → blo ≤ j ∧ j < bhi →
        j2lenGet j2len j + 1 = rowv (Mrel a b2j) blo bhi alo (n + 1) j := by
      intro j hj hb
      have hM : Mrel a b2j (alo + n) j = true := by simp [Mrel, hx, hj]
      simp only [rowv, hM, hb, and_self, if_true, true_and, j2lenGet_eq]
      by_cases h0 : j = 0
      · simp [h0]
      · simp [h0, hrow]
    have hrow' : ∀ j, getK (innerLoop (alo + n) blo bhi j2len (b2jGet b2j a[alo + n]) ([], best)).1 j
        = rowv (Mrel a b2j) blo bhi alo (n + 1) j := by
      intro j
      rw [hin, getK_foldl_innerStep]
      simp only [List.mem_filter, decide_eq_true_eq]
      split
      · rename_i hc
        exact hval j hc.1 hc.2
      · rename_i hc
        have : ¬ (Mrel a b2j (alo + n) j = true ∧ blo ≤ j ∧ j < bhi) := by
          intro h
          apply hc
          refine ⟨?_, h.2⟩
          simpa [Mrel, hx] using h.1
        simp only [rowv]
        rw [if_neg this]
        simp [getK]
    have hbest : (innerLoop (alo + n) blo bhi j2len (b2jGet b2j a[alo + n]) ([], best)).2 =
        (((b2jGet b2j a[alo + n]).filter (fun j => decide (blo ≤ j ∧ j < bhi))).foldl
        (rowStep (alo + n) (rowv (Mrel a b2j) blo bhi alo (n + 1))) best) := by
      rw [hin, foldl_innerStep_snd]
      apply foldl_congr_mem
      intro c j hj
      have hj' := List.mem_filter.mp hj
      have hb : blo ≤ j ∧ j < bhi := by simpa using hj'.2
      simp only [rowStep, hval j hj'.1 hb]
    have hinv' : Inv (n + 1) (innerLoop (alo + n) blo bhi j2len (b2jGet b2j a[alo + n]) ([], best)).2 := by
      rw [hbest]; exact hstep n best _ hx hinv
    obtain ⟨b', h1, h2⟩ := ih (n + 1) _ _ (by omega) hrow' hinv'
    refine ⟨b', ?_, ?_⟩
    · rw [← h1]; congr 1
    · have : n + 1 + m = n + (m + 1) := by omega
      rw [← this]; exact h2

end Difflib

namespace Difflib
variable {α : Type} [DecidableEq α]

structure InBox (alo ahi blo bhi : Nat) (x : Block) : Prop where
  h1 : alo ≤ x.i
  h2 : x.i + x.k ≤ ahi
  h3 : blo ≤ x.j
  h4 : x.j + x.k ≤ bhi

def IsMatch (a b : List α) (x : Block) : Prop :=
  ∀ t, t < x.k → ∃ v, a[x.i + t]? = some v ∧ b[x.j + t]? = some v

omit [DecidableEq α] in
theorem IsMatch.one {a b : List α} {i j : Nat} {v : α} (ha : a[i]? = some v) (hb : b[j]? = some v) :
    IsMatch a b ⟨i, j, 1⟩ := by
  intro t ht
  obtain rfl : t = 0 := by simp only at ht; omega
  exact ⟨v, ha, hb⟩

omit [DecidableEq α] in
/-- two matches that touch on the diagonal are one match -/
theorem IsMatch.glue {a b : List α} {x y : Block} (hx : IsMatch a b x) (hy : IsMatch a b y)
    (hi : x.i + x.k = y.i) (hj : x.j + x.k = y.j) : IsMatch a b ⟨x.i, x.j, x.k + y.k⟩ := by
  intro t ht
  by_cases htk : t < x.k
  · exact hx t htk
  · obtain ⟨s, rfl⟩ : ∃ s, t = x.k + s := ⟨t - x.k, by omega⟩
    simp only [← Nat.add_assoc, hi, hj]
    exact hy s (by simp only at ht; omega)

theorem Mrel_sound {a b : List α} {b2j : List (α × List Nat)} (hs : B2jSound b b2j) {i j : Nat}
    (h : Mrel a b2j i j = true) : ∃ v, a[i]? = some v ∧ b[j]? = some v := by
  unfold Mrel at h
  split at h
  · rename_i x hx
    exact ⟨x, hx, hs x j (by simpa using h)⟩
  · cases h

/-- `v` is the length of a common run that ends at the cell `(alo + n - 1, j)` and lies in the box -/
structure Run (a b : List α) (alo blo bhi n j v : Nat) : Prop where
  le_n : v ≤ n
  le_j : v ≤ j + 1 - blo
  lt_bhi : 0 < v → j < bhi
  isMatch : IsMatch a b ⟨alo + n - v, j + 1 - v, v⟩

theorem rowv_run {a b : List α} {b2j : List (α × List Nat)} (hsound : B2jSound b b2j) (blo bhi alo : Nat) :
    ∀ n j, Run a b alo blo bhi n j (rowv (Mrel a b2j) blo bhi alo n j) := by
  have zero : ∀ n j, Run a b alo blo bhi n j 0 := fun n j =>
    ⟨Nat.zero_le _, Nat.zero_le _, fun h => absurd h (Nat.lt_irrefl 0), fun t ht => absurd ht (Nat.not_lt_zero t)⟩
  intro n
  induction n with
  | zero => intro j; exact zero 0 j
  | succ n ih =>
    intro j
    rw [rowv]
    split
    · rename_i hc
      obtain ⟨hM, hlo, hhi⟩ := hc
      obtain ⟨x, hxa, hxb⟩ := Mrel_sound hsound hM
      have h1 : IsMatch a b ⟨alo + n, j, 1⟩ := .one hxa hxb
      cases j with
      | zero =>
        rw [if_pos rfl]
        exact ⟨by omega, by omega, fun _ => hhi, h1⟩
      | succ j =>
        -- the run that ends at the cell above and to the left goes on
        rw [if_neg (Nat.succ_ne_zero j), Nat.add_sub_cancel]
        obtain ⟨i1, i2, -, i4⟩ := ih j
        generalize rowv (Mrel a b2j) blo bhi alo n j = v at *
        have h := i4.glue h1 (by simp only; omega) (by simp only; omega)
        refine ⟨by omega, by omega, fun _ => hhi, ?_⟩
        rw [← Nat.add_assoc, Nat.add_sub_add_right, Nat.add_sub_add_right]
        exact h
    · exact zero (n + 1) j

theorem step_valid (a b : List α) (b2j : List (α × List Nat)) (hsound : B2jSound b b2j)
    (alo blo bhi : Nat) (n : Nat) (best : Block) (js : List Nat)
    (hinv : InBox alo (alo + n) blo bhi best ∧ IsMatch a b best) :
    (fun best => InBox alo (alo + (n + 1)) blo bhi best ∧ IsMatch a b best)
      (js.foldl
        (rowStep (alo + n) (rowv (Mrel a b2j) blo bhi alo (n + 1))) best) := by
  refine List.foldlRecOn (motive := fun best => InBox alo (alo + (n + 1)) blo bhi best ∧ IsMatch a b best) js _
    ⟨⟨hinv.1.h1, by have := hinv.1.h2; omega, hinv.1.h3, hinv.1.h4⟩, hinv.2⟩ fun c hc j hj => ?_
  unfold rowStep
  split
  · rename_i hgt
    obtain ⟨r1, r2, r3, r4⟩ := rowv_run (a := a) hsound blo bhi alo (n + 1) j
    have := r3 (by omega)
    exact ⟨⟨by simp only; omega, by simp only; omega, by simp only; omega, by simp only; omega⟩, r4⟩
  · exact hc

theorem outerLoop_valid (a b : List α) (b2j : List (α × List Nat)) (hsorted : B2jSorted b2j)
    (hsound : B2jSound b b2j) (alo ahi blo bhi : Nat) (h1 : alo ≤ ahi) (h2 : ahi ≤ a.length)
    (h3 : blo ≤ bhi) :
    ∃ x, outerLoop a b2j blo bhi (ahi - alo) alo [] ⟨alo, blo, 0⟩ = some x ∧
      InBox alo ahi blo bhi x ∧ IsMatch a b x := by
  have := outerLoop_inv a b2j blo bhi alo hsorted
    (fun n best => InBox alo (alo + n) blo bhi best ∧ IsMatch a b best)
    (by
      intro n best x hx hinv
      exact step_valid a b b2j hsound alo blo bhi n best _ hinv)
    (ahi - alo) 0 [] ⟨alo, blo, 0⟩ (by omega) (by intro j; simp [getK, rowv])
    ⟨⟨by simp, by simp, by simp, by simpa using h3⟩, by intro t ht; simp at ht⟩
  obtain ⟨x, hx1, hx2⟩ := this
  refine ⟨x, by simpa using hx1, ?_, hx2.2⟩
  have e : alo + (0 + (ahi - alo)) = ahi := by omega
  rw [e] at hx2
  exact hx2.1

theorem extendBack_valid (a b : List α) (alo ahi blo bhi : Nat) (h2 : ahi ≤ a.length) (h4 : bhi ≤ b.length) :
    ∀ bi bj k, InBox alo ahi blo bhi ⟨bi, bj, k⟩ → IsMatch a b ⟨bi, bj, k⟩ →
      ∃ x, extendBack a b alo blo bi bj k = some x ∧ InBox alo ahi blo bhi x ∧ IsMatch a b x := by
  intro bi
  induction bi with
  | zero => intro bj k hb hm; exact ⟨_, rfl, hb, hm⟩
  | succ bi ih =>
    intro bj k hb hm
    simp only [extendBack]
    split
    · rename_i hc
      have hbj : bj - 1 < b.length := by have := hb.h4; simp only at this; omega
      have hbi : bi < a.length := by have := hb.h2; simp only at this; omega
      rw [List.getElem?_eq_getElem hbj, List.getElem?_eq_getElem hbi]
      simp only
      split
      · rename_i heq
        apply ih
        · have := hb.h2; have := hb.h4
          exact ⟨by simp only; omega, by simp only at *; omega, by simp only; omega, by simp only at *; omega⟩
        · rw [Nat.add_comm]
          exact (IsMatch.one (List.getElem?_eq_getElem hbi) (heq ▸ List.getElem?_eq_getElem hbj)).glue hm rfl
            (by simp only; omega)
      · exact ⟨_, rfl, hb, hm⟩
    · exact ⟨_, rfl, hb, hm⟩

theorem extendFwd_valid (a b : List α) (alo ahi blo bhi : Nat) (h2 : ahi ≤ a.length) (h4 : bhi ≤ b.length)
    (bi bj : Nat) :
    ∀ fuel k, InBox alo ahi blo bhi ⟨bi, bj, k⟩ → IsMatch a b ⟨bi, bj, k⟩ →
      ∃ x, extendFwd a b ahi bhi bi bj fuel k = some x ∧ InBox alo ahi blo bhi x ∧ IsMatch a b x := by
  intro fuel
  induction fuel with
  | zero => intro k hb hm; exact ⟨_, rfl, hb, hm⟩
  | succ fuel ih =>
    intro k hb hm
    simp only [extendFwd]
    split
    · rename_i hc
      have hbj : bj + k < b.length := by omega
      have hbi : bi + k < a.length := by omega
      rw [List.getElem?_eq_getElem hbj, List.getElem?_eq_getElem hbi]
      simp only
      split
      · rename_i heq
        apply ih
        · exact ⟨hb.h1, by simp only; omega, hb.h3, by simp only; omega⟩
        · exact hm.glue (IsMatch.one (List.getElem?_eq_getElem hbi) (heq ▸ List.getElem?_eq_getElem hbj)) rfl rfl
      · exact ⟨_, rfl, hb, hm⟩
    · exact ⟨_, rfl, hb, hm⟩

theorem flm_valid (a b : List α) (b2j : List (α × List Nat)) (hsorted : B2jSorted b2j)
    (hsound : B2jSound b b2j) (alo ahi blo bhi : Nat) (h1 : alo ≤ ahi) (h2 : ahi ≤ a.length)
    (h3 : blo ≤ bhi) (h4 : bhi ≤ b.length) :
    ∃ x, findLongestMatch a b b2j alo ahi blo bhi = some x ∧
      InBox alo ahi blo bhi x ∧ IsMatch a b x := by
  obtain ⟨x0, e0, b0, m0⟩ := outerLoop_valid a b b2j hsorted hsound alo ahi blo bhi h1 h2 h3
  obtain ⟨x1, e1, b1, m1⟩ := extendBack_valid a b alo ahi blo bhi h2 h4 x0.i x0.j x0.k b0 m0
  obtain ⟨x2, e2, b2, m2⟩ := extendFwd_valid a b alo ahi blo bhi h2 h4 x1.i x1.j (ahi - (x1.i + x1.k)) x1.k b1 m1
  exact ⟨x2, by simp [findLongestMatch, e0, e1, e2], b2, m2⟩

end Difflib
