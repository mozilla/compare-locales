/-
Helper lemmas for the C05 pipeline theorems (CLModel/Compare/Pipeline.lean): totality of every stage of
`Pipe.compareFiles` / `Pipe.lintText`, composed from the component theorems of C01, C02, C04 (`merge_ne_typeError`), C10, C17,
C18, C20.
-/
import CLModel.Compare.Pipeline
import CLModel.Proofs.AddRemove
import CLModel.Proofs.C10Obs
import CLModel.Proofs.PipePlanFacts
import CLModel.Proofs.C17
import CLModel.Proofs.C18State
import CLModel.Proofs.ParserProgress
import CLModel.Proofs.WalkFmt
import CLModel.Proofs.C04Multi
import CLModel.Proofs.C02Props
import CLModel.Proofs.C02Po
namespace Pipe
open ObsM (Ev ObsList Obs Plan)

theorem mapE_eq_mapM {α β : Type} (f : α → Except PyErr β) : ∀ l : List α, mapE f l = l.mapM f
  | [] => rfl
  | x :: xs => by
    rw [mapE, List.mapM_cons, ← mapE_eq_mapM f xs]
    cases f x with
    | error e => rfl
    | ok y => cases mapE f xs <;> rfl

theorem mapE_ok {α β : Type} {f : α → Except PyErr β} {l : List α} (h : ∀ x ∈ l, ∃ y, f x = .ok y) :
    ∃ ys, mapE f l = .ok ys ∧ ∀ y ∈ ys, ∃ x ∈ l, f x = .ok y := by
  obtain ⟨ys, hys⟩ := ObsM.All₂.exists h
  exact ⟨ys, (mapE_eq_mapM f l).trans hys.mapM, hys.mem_right⟩

theorem mapE_mem {α β : Type} {f : α → Except PyErr β} {l : List α} {ys : List β} (h : mapE f l = .ok ys) :
    (∀ y ∈ ys, ∃ x ∈ l, f x = .ok y) ∧ (∀ x ∈ l, ∃ y ∈ ys, f x = .ok y) :=
  have hall := ObsM.All₂.of_mapM ((mapE_eq_mapM f l).symm.trans h)
  ⟨hall.mem_right, hall.mem_left⟩

theorem foldE_inv {α σ : Type} {f : σ → α → Except PyErr σ} (I : σ → Prop) :
    ∀ (l : List α) (st : σ), I st → (∀ st x, x ∈ l → I st → ∃ st', f st x = .ok st' ∧ I st') →
      ∃ st', foldE f l st = .ok st' ∧ I st'
  | [], st, h0, _ => ⟨st, rfl, h0⟩
  | x :: xs, st, h0, hs => by
    obtain ⟨st1, h1, i1⟩ := hs st x (by simp) h0
    obtain ⟨st', h2, i2⟩ := foldE_inv I xs st1 i1 (fun s y hy hi => hs s y (by simp [hy]) hi)
    exact ⟨st', by simp [foldE, h1, h2], i2⟩

theorem linecol_total (s : Array Nat) (x : Int) : ∃ lc, Pos.linecol s x = some lc := by
  by_cases hx : x < 0
  · exact ⟨_, Pos.linecol_neg s x hx⟩
  · exact ⟨_, Pos.linecol_of_nonneg s x (by omega)⟩

theorem position_total (s : Array Nat) (e : P.Entry) (off : Int) : ∃ lc, Pos.position s e off = some lc :=
  linecol_total s _

theorem junkMessage_ok (s : Array Nat) (cls : Cls) (j : PEnt) : ∃ t, junkMessage s cls j = .ok t := by
  unfold junkMessage Pos.junkMessagePositions
  obtain ⟨a, ha⟩ := position_total s j.entry 0
  obtain ⟨b, hb⟩ := position_total s j.entry (-1)
  cases cls <;> simp only [ha, hb] <;> exact ⟨_, rfl⟩

/-- the position of a check result can be resolved on this entry: `position` always; `value_position` with an int for
    an Entity (it has a `val_span`; Fluent: `position`) or any Android object; with a (line, col) tuple for a DTDEntity -/
def Resolvable (cls : Cls) (e : PEnt) (p : Pos.CheckPos) : Prop :=
  (∃ n, p = .entityPos n) ∨
  ((∃ n, p = .offset n) ∧ (cls = .node ∨ (e.junk = false ∧ e.entry.kind = .entity))) ∨
  ((∃ l c, p = .tuple l c) ∧ cls = .dtd ∧ e.entry.kind = .entity)

theorem resolve_entityPos (s : Array Nat) (cls : Cls) (e : PEnt) (n : Int) :
    ∃ lc, resolvePos s cls e (.entityPos n) = some lc := by
  cases cls
  · exact position_total s e.entry n
  · exact position_total s e.entry n
  · simp only [resolvePos]
    split
    · exact position_total s e.entry n
    · exact position_total s e.entry n
  · exact ⟨_, rfl⟩

theorem resolve_ok (s : Array Nat) (cls : Cls) (e : PEnt) (p : Pos.CheckPos) (h : Resolvable cls e p) :
    ∃ lc, resolvePos s cls e p = some lc := by
  rcases h with ⟨n, rfl⟩ | ⟨⟨n, rfl⟩, h⟩ | ⟨⟨l, c, rfl⟩, rfl, hk⟩
  · exact resolve_entityPos s cls e n
  · cases cls with
    | node => exact ⟨_, rfl⟩
    | plain =>
      rcases h with h | ⟨_, hk⟩
      · cases h
      · simp only [resolvePos, Pos.resolveCheckPos, Pos.valSpan, hk, Bool.false_and, Bool.false_eq_true, if_false, Pos.valuePosition]
        exact linecol_total s _
    | dtd =>
      rcases h with h | ⟨_, hk⟩
      · cases h
      · simp only [resolvePos, Pos.resolveCheckPos, Pos.valSpan, hk, Bool.false_and, Bool.false_eq_true, if_false, Pos.valuePosition]
        exact linecol_total s _
    | fluent =>
      rcases h with h | ⟨hj, _⟩
      · cases h
      · simp only [resolvePos, hj, Bool.false_eq_true, if_false, Pos.resolveCheckPos, Pos.fluentValuePosition]
        exact position_total s e.entry n
  · simp only [resolvePos, Pos.resolveCheckPos, Pos.dtdValuePositionTuple, Pos.valSpan, hk, Bool.false_and,
      Bool.false_eq_true, if_false, Pos.valuePosition]
    obtain ⟨lc, hlc⟩ := linecol_total s (if (0 : Int) < 0 then e.entry.ve else e.entry.vs + 0)
    rw [hlc]
    simp only
    split <;> exact ⟨_, rfl⟩

/-- `l` is what the observers `obs0` look like after the events `h`, all for `file` -/
structure Reach (obs0 : ObsList) (file : ObsM.File) (h : List Ev) (l : ObsList) : Prop where
  run : obs0.run h = .ok l
  files : ∀ ev ∈ h, ev.file = file

def Reachable (obs0 : ObsList) (file : ObsM.File) (l : ObsList) : Prop := ∃ h, Reach obs0 file h l

/-- exactly the events `evs` (all for `file`) lead from `l` to `l'` -/
def Emit (obs0 : ObsList) (file : ObsM.File) (l l' : ObsList) (evs : List Ev) : Prop :=
  ∀ h, Reach obs0 file h l → Reach obs0 file (h ++ evs) l'

theorem Emit.reachable {obs0 : ObsList} {file : ObsM.File} {a b : ObsList} {e : List Ev}
    (h1 : Emit obs0 file a b e) (hr : Reachable obs0 file a) : Reachable obs0 file b := by
  obtain ⟨h, hh⟩ := hr
  exact ⟨_, h1 h hh⟩

/-- the notification raised for one check result -/
def checkEv (env : Env) (refent l10nent : PEnt) (c : CheckRes) : Option Ev :=
  (resolvePos env.l10nText env.cls l10nent c.pos).map (fun lc =>
    Ev.notify (sevCat c.sev) env.file (.str (checkMsg c.msg lc.1 lc.2 refent.key)))

/-- the texts `compare` hands to `notify("error" | "warning", …)`: all are `str`, positions are formatted integers -/
def MsgShape (t : Text) : Prop :=
  (∃ k n, t = dupMsg k n) ∨ t = Gen.Tables.cmpRefJunkMsg ∨
  (∃ (v : Text) (l1 c1 l2 c2 : Int), t = Lint.interleave Gen.Tables.junkMessageParts
      [v, Lint.showInt l1, Lint.showInt c1, Lint.showInt l2, Lint.showInt c2]) ∨
  (∃ (msg : Text) (line col : Int) (k : Cmp.Key), t = checkMsg msg line col k)

def EvWF : Ev → Prop
  | .notify cat _ d =>
    ((cat = .error ∨ cat = .warning) ∧ ∃ t, d = .str t ∧ MsgShape t) ∨
    ((cat = .missingEntity ∨ cat = .obsoleteEntity) ∧ ∃ k, d = keyData k)
  | .stats _ _ => True

theorem junkMessage_shape {s : Array Nat} {cls : Cls} {j : PEnt} {t : Text} (h : junkMessage s cls j = .ok t) : MsgShape t := by
  unfold junkMessage at h
  split at h
  · cases h
  · simp only [Except.ok.injEq] at h
    subst h
    exact Or.inr (Or.inr (Or.inl ⟨_, _, _, _, _, rfl⟩))

/-- the checker answers for every pair the loop can hand to it, with positions the entry can resolve -/
def CheckerOK (env : Env) (ref l10n : List PEnt) : Prop :=
  ∀ r ∈ ref, ∀ l ∈ l10n, r.junk = false → (env.ck.kind ≠ .base → l.junk = false) →
    (∃ b, entEquals env.cls r l = .ok b) ∧
    ∃ rs, runChecker env.ck r l = .ok rs ∧ ∀ c ∈ rs, Resolvable env.cls l c.pos

/-- the checker `c` answers for the pair `(r, l)`: a result list, positions `l` resolves, the results of the base check
    among them.  What every checker model is proved to do (`answers_base`, `answers_props`, `C05Dtd.answers_dtd`,
    `C05Ext.answers_fluent`, `C05Ext.answers_android`); the comparison reads it off as `CheckerOK` and `BaseIn`, the
    linter at `r = l`. -/
def Answers (cls : Cls) (c : CkCtx) (r l : PEnt) : Prop :=
  ∃ rs, runChecker c r l = .ok rs ∧ (∀ x ∈ rs, Resolvable cls l x.pos) ∧ ∀ b ∈ runBase l, b ∈ rs

/-- `equals` and the checker answer for every pair the loop can hand to them -/
def PairsAnswered (env : Env) (ref l10n : List PEnt) : Prop :=
  ∀ r ∈ ref, ∀ l ∈ l10n, r.junk = false → (env.ck.kind ≠ .base → l.junk = false) →
    (∃ b, entEquals env.cls r l = .ok b) ∧ Answers env.cls env.ck r l

theorem PairsAnswered.checkerOK {env : Env} {ref l10n : List PEnt} (h : PairsAnswered env ref l10n) : CheckerOK env ref l10n :=
  fun r hr l hl hrj hlj => ⟨(h r hr l hl hrj hlj).1, (h r hr l hl hrj hlj).2.imp fun _ a => ⟨a.1, a.2.1⟩⟩

/-- the checker made for a file answers with the results of the base check among its own -/
def BaseIn (env : Env) (ref l10n : List PEnt) : Prop :=
  ∀ r ∈ ref, ∀ l ∈ l10n, r.junk = false → (env.ck.kind ≠ .base → l.junk = false) →
    ∀ rs, runChecker env.ck r l = .ok rs → ∀ b ∈ runBase l, b ∈ rs

theorem PairsAnswered.baseIn {env : Env} {ref l10n : List PEnt} (h : PairsAnswered env ref l10n) :
    BaseIn env ref l10n := by
  intro r hr l hl hrj hlj rs hrs
  obtain ⟨rs', h1, _, h3⟩ := (h r hr l hl hrj hlj).2
  rw [h1] at hrs; cases hrs; exact h3

theorem answers_base (c : CkCtx) (hk : c.kind = .base) (cls : Cls) (r l : PEnt) : Answers cls c r l := by
  refine ⟨runBase l, by simp only [runChecker, hk], fun x hx => ?_, fun _ h => h⟩
  obtain ⟨y, _, rfl⟩ := List.mem_map.1 hx
  exact Or.inl ⟨_, rfl⟩

/-- no key shared by the two files belongs to a `Junk` of the reference (a `Junk` has no `equals`); with any checker
    but the base one neither to a `Junk` of the localization (a `Junk` has no `value_position`, `entry`, `node`) -/
def NoJunkClash (ck : CheckerKind) (ref l10n : List PEnt) : Prop :=
  ∀ k, k ∈ ref.map (·.key) → k ∈ l10n.map (·.key) →
    (∀ r, lookup ref k = .ok r → r.junk = false) ∧
    (ck ≠ .base → ∀ l, lookup l10n k = .ok l → l.junk = false)

/-- what the loop keeps true about its lists -/
structure Good (ref : List PEnt) (st : LoopSt) : Prop where
  missings : ∀ k ∈ st.missings, k ∈ ref.map (·.key)
  skips : ∀ sk ∈ st.skips, sk.junk = false → sk.key ∈ ref.map (·.key)

/-- the label of a diff item agrees with where its key occurs -/
def LabelOK (ref l10n : List PEnt) (p : AR.Label × Cmp.Key) : Prop :=
  match p.1 with
  | .delete => p.2 ∈ ref.map (·.key)
  | .add => p.2 ∈ l10n.map (·.key)
  | .equal => p.2 ∈ ref.map (·.key) ∧ p.2 ∈ l10n.map (·.key)

/-- the events of an `equal` item are exactly the notifications of the check results of the two last entries -/
def StepEvs (env : Env) (ref l10n : List PEnt) (p : AR.Label × Cmp.Key) (evs : List Ev) : Prop :=
  p.1 = .equal → ∃ refent l10nent rs, lookup ref p.2 = .ok refent ∧ lookup l10n p.2 = .ok l10nent ∧
    runChecker env.ck refent l10nent = .ok rs ∧ evs = rs.filterMap (checkEv env refent l10nent)

theorem checkPlan_ok (F : List (Option ObsM.Filter)) (env : Env) (r l : PEnt) : ∀ (cs : List CheckRes) (skips : List PEnt),
    (∀ c ∈ cs, Resolvable env.cls l c.pos) →
    ∃ skips', (checkPlan F env r l cs skips).res = .ok skips' ∧
      (checkPlan F env r l cs skips).evs = cs.filterMap (checkEv env r l) ∧ ∀ sk ∈ skips', sk ∈ skips ∨ sk = l
  | [], skips, _ => ⟨skips, rfl, rfl, fun _ h => Or.inl h⟩
  | c :: cs, skips, h => by
    obtain ⟨lc, hlc⟩ := resolve_ok env.l10nText env.cls l c.pos (h c (by simp))
    obtain ⟨s', h1, h2, h3⟩ := checkPlan_ok F env r l cs
      (if c.sev == .error && env.mergeOn && !skips.contains l then skips ++ [l] else skips) (fun c' hc' => h c' (by simp [hc']))
    refine ⟨s', ?_, ?_, ?_⟩
    · simp only [checkPlan, hlc, Plan.bind, Plan.tell, h1]
    · simp only [checkPlan, hlc, Plan.bind, Plan.tell, h2, List.filterMap_cons, checkEv, Option.map_some]; rfl
    · intro sk hsk
      rcases h3 sk hsk with h | h
      · split at h
        · simpa using h
        · exact Or.inl h
      · exact Or.inr h

/-- one iteration returns: the lookups succeed (`LabelOK`), no `Junk` is asked for `equals` (`NoJunkClash`), the checker answers
    (`CheckerOK`); what it collects for `merge` are keys of the reference -/
theorem stepPlan_ok (F : List (Option ObsM.Filter)) (env : Env) (ref l10n : List PEnt) (hck : CheckerOK env ref l10n)
    (hnc : NoJunkClash env.ck.kind ref l10n) {obs : ObsList} (c : Loc) (p : AR.Label × Cmp.Key) (hp : LabelOK ref l10n p)
    (hg : Good ref (c.on obs)) :
    ∃ c', (stepPlan F env ref l10n c p).res = .ok c' ∧ StepEvs env ref l10n p (stepPlan F env ref l10n c p).evs ∧
      Good ref (c'.on obs) := by
  obtain ⟨lab, k⟩ := p
  cases lab with
  | delete =>
    obtain ⟨refent, hl⟩ := lookup_of_mem ref k hp
    have hse : ∀ evs, StepEvs env ref l10n (.delete, k) evs := fun _ h => nomatch h
    simp only [stepPlan, bind, Plan.bind, Plan.lift, hl]
    cases refent.junk with
    | true => exact ⟨c, rfl, hse _, hg⟩
    | false =>
      simp only [Plan.tell, Bool.false_eq_true, if_false]
      cases ObsM.verdict F .missingEntity env.file (keyData k) with
      | ignore => exact ⟨c, rfl, hse _, hg⟩
      | warning => exact ⟨_, rfl, hse _, ⟨hg.missings, hg.skips⟩⟩
      | error =>
        refine ⟨_, rfl, hse _, ?_, hg.skips⟩
        intro k' hk'
        rcases List.mem_append.1 hk' with h | h
        · exact hg.missings k' h
        · cases List.mem_singleton.1 h; exact hp
  | add =>
    obtain ⟨l10nent, hl⟩ := lookup_of_mem l10n k hp
    have hse : ∀ evs, StepEvs env ref l10n (.add, k) evs := fun _ h => nomatch h
    simp only [stepPlan, bind, Plan.bind, Plan.lift, hl]
    cases hj : l10nent.junk with
    | true =>
      obtain ⟨msg, hmsg⟩ := junkMessage_ok env.l10nText env.cls l10nent
      simp only [if_true, hmsg, Plan.tell]
      refine ⟨_, rfl, hse _, hg.missings, ?_⟩
      intro sk hsk hnj
      -- the collected `Junk` is no Entity
      have hsk' : sk ∈ c.skips ∨ sk = l10nent := by
        have : sk ∈ (if env.mergeOn then c.skips ++ [l10nent] else c.skips) := hsk
        split at this
        · simpa using this
        · exact Or.inl this
      rcases hsk' with h | rfl
      · exact hg.skips sk h hnj
      · rw [hj] at hnj; cases hnj
    | false =>
      simp only [Plan.tell, Bool.false_eq_true, if_false]
      split
      · exact ⟨_, rfl, hse _, ⟨hg.missings, hg.skips⟩⟩
      · exact ⟨_, rfl, hse _, hg⟩
  | equal =>
    obtain ⟨hpr, hpl⟩ := hp
    obtain ⟨refent, hlr⟩ := lookup_of_mem ref k hpr
    obtain ⟨l10nent, hll⟩ := lookup_of_mem l10n k hpl
    obtain ⟨hrj, hlj⟩ := hnc k hpr hpl
    obtain ⟨hrmem, _, _⟩ := lookup_ok hlr
    obtain ⟨hlmem, hlkey, _⟩ := lookup_ok hll
    obtain ⟨⟨eqb, heq⟩, rs, hrs, hres⟩ := hck refent hrmem l10nent hlmem (hrj refent hlr) (fun h => hlj h l10nent hll)
    obtain ⟨sk', h1, h2, h3⟩ := checkPlan_ok F env refent l10nent rs c.skips hres
    have hst : ∃ s, equalStats env.cls c.stats k refent l10nent = .ok s := by
      unfold equalStats
      split
      · exact ⟨_, rfl⟩
      · rw [hrj refent hlr, heq]; cases eqb <;> exact ⟨_, rfl⟩
    obtain ⟨s, hs⟩ := hst
    refine ⟨⟨s, c.missings, sk'⟩, ?_, fun _ => ⟨refent, l10nent, rs, hlr, hll, hrs, ?_⟩, hg.missings, ?_⟩
    · simp only [stepPlan, bind, Plan.bind, Plan.lift, hlr, hll, hs, hrs, h1]; rfl
    · simp only [stepPlan, bind, Plan.bind, Plan.lift, hlr, hll, hs, hrs, h1, h2]; simp [pure, Plan.ret]
    · intro sk hsk hnj
      rcases h3 sk hsk with h | rfl
      · exact hg.skips sk h hnj
      · rw [hlkey]; exact hpr

theorem loopPlan_ok (F : List (Option ObsM.Filter)) (env : Env) (ref l10n : List PEnt) (hck : CheckerOK env ref l10n)
    (hnc : NoJunkClash env.ck.kind ref l10n) {obs : ObsList} : ∀ (ar : List (AR.Label × Cmp.Key)),
    (∀ p ∈ ar, LabelOK ref l10n p) → ∀ (c : Loc), Good ref (c.on obs) →
    ∃ c', (loopPlan F env ref l10n ar c).res = .ok c' ∧ Good ref (c'.on obs) ∧
      ∀ p ∈ ar, ∃ evp, StepEvs env ref l10n p evp ∧ ∀ ev ∈ evp, ev ∈ (loopPlan F env ref l10n ar c).evs
  | [], _, c, hg => ⟨c, rfl, hg, by simp⟩
  | p :: ps, hl, c, hg => by
    obtain ⟨c1, h1, s1, g1⟩ := stepPlan_ok F env ref l10n hck hnc c p (hl p (by simp)) hg
    obtain ⟨c', h2, g2, s2⟩ := loopPlan_ok F env ref l10n hck hnc ps (fun q hq => hl q (by simp [hq])) c1 g1
    refine ⟨c', by simp only [loopPlan, Plan.bind, h1, h2], g2, ?_⟩
    intro q hq
    simp only [loopPlan, Plan.bind, h1]
    rcases List.mem_cons.1 hq with rfl | hq
    · exact ⟨_, s1, fun ev hev => List.mem_append_left _ hev⟩
    · obtain ⟨evp, a, b⟩ := s2 q hq
      exact ⟨evp, a, fun ev hev => List.mem_append_right _ (b ev hev)⟩

theorem expl_wf {env : Env} {ref l10n : List PEnt} {ev : Ev} (h : Expl env ref l10n ev) : EvWF ev := by
  cases h with
  | key cat k hc => exact Or.inr ⟨hc, k, rfl⟩
  | dup cat k n hc => exact Or.inl ⟨hc.symm, _, rfl, Or.inl ⟨k, n, rfl⟩⟩
  | refJunk => exact Or.inl ⟨Or.inr rfl, _, rfl, Or.inr (Or.inl rfl)⟩
  | junk j _ _ t ht => exact Or.inl ⟨Or.inl rfl, _, rfl, junkMessage_shape ht⟩
  | check r _ l _ rs _ c _ lc =>
    exact Or.inl ⟨by cases c.sev <;> simp [sevCat], _, rfl, Or.inr (Or.inr (Or.inr ⟨_, _, _, _, rfl⟩))⟩

theorem refAllOf_ok (ref : List PEnt) (k : Cmp.Key) (h : k ∈ ref.map (·.key)) : ∃ t, refAllOf ref k = .ok t := by
  obtain ⟨r, hr⟩ := lookup_of_mem ref k h
  exact ⟨r.all, by simp [refAllOf, hr]⟩

theorem mkSkip_span {cls : Cls} {ref : List PEnt} {sk : PEnt} {s : Merge.Skip} (h : mkSkip cls ref sk = .ok s) :
    s.span = spanOf cls sk := by
  unfold mkSkip at h
  split at h
  · cases h; rfl
  · split at h
    · cases h
    · cases h; rfl

/-- the lookups of the collected keys succeed and every skip has a span, which is all `Merge.merge` needs
    (`C04M.merge_ne_typeError`) -/
theorem doMerge_ok (env : Env) (ref : List PEnt) (st : LoopSt) (hg : Good ref st)
    (hsp : env.mergeOn = true → env.cls ≠ .node) :
    ∃ o, doMerge env ref st.missings st.skips = .ok o := by
  unfold doMerge
  cases hmo : env.mergeOn with
  | false => exact ⟨_, rfl⟩
  | true =>
    have hspan : ∀ sk : PEnt, spanOf env.cls sk = some (sk.entry.s, sk.entry.e) := by
      intro sk
      have := hsp hmo
      cases hc : env.cls <;> simp_all [spanOf]
    obtain ⟨ms, hms, _⟩ := mapE_ok (f := refAllOf ref) (l := st.missings)
      (fun k hk => refAllOf_ok ref k (hg.missings k hk))
    obtain ⟨sks, hsks, hmem⟩ := mapE_ok (f := mkSkip env.cls ref) (l := st.skips) (by
      intro sk hsk
      unfold mkSkip
      cases hj : sk.junk with
      | true => exact ⟨_, rfl⟩
      | false =>
        obtain ⟨t, ht⟩ := refAllOf_ok ref sk.key (hg.skips sk hsk hj)
        exact ⟨{ span := spanOf env.cls sk, junk := false, refAll := t }, by simp [ht]⟩)
    have hspans : ∀ s ∈ sks, s.span.isSome := by
      intro s hs
      obtain ⟨sk, _, hmk⟩ := hmem s hs
      rw [mkSkip_span hmk, hspan]; rfl
    have hne := C04M.merge_ne_typeError (mf := true) (caps := env.caps) (contents := env.l10nText.toList) (ms := ms) hspans
    -- `simp` discharges the side condition of the match's second equation with `hne`
    simp only [Bool.not_true, Bool.false_eq_true, if_false, hms, hsks]
    exact ⟨_, rfl⟩

theorem labels_ok (ref l10n : List PEnt) :
    ∀ p ∈ AR.addRemove (ref.map (·.key)) (l10n.map (·.key)), LabelOK ref l10n p := by
  intro p hp
  have hl := AR.addRemove_labels_gen _ _ p hp
  -- the key lists are left to unification: written out, their `BEq` instance is synthesized afresh and compared by unfolding
  have hm := (AR.addRemove_keys_mem_gen _ _ p.2).1 (List.mem_map_of_mem (f := (·.2)) hp)
  unfold LabelOK
  rw [hl]
  unfold AR.lab
  by_cases h1 : (ref.map (·.key)).contains p.2 = true
  · by_cases h2 : (l10n.map (·.key)).contains p.2 = true
    · simp only [h1, h2, if_true]
      exact ⟨by simpa using h1, by simpa using h2⟩
    · simp only [h1, h2, if_true, Bool.false_eq_true, if_false]
      simpa using h1
  · simp only [h1, Bool.false_eq_true, if_false]
    rcases hm with hm | hm
    · exact absurd (by simpa using hm) h1
    · exact hm

theorem compareParsed_spec (env : Env) {obs0 : ObsList} (hf : obs0.Inv) (hm : ObsM.Modelled env.file) (ref l10n : List PEnt)
    (hck : CheckerOK env ref l10n) (hnc : NoJunkClash env.ck.kind ref l10n)
    (hsp : env.mergeOn = true → env.cls ≠ .node) :
    ∃ obs' outcome evs stats, compareParsed env ref l10n obs0 = .ok (obs', outcome) ∧
      Reach obs0 env.file (evs ++ [.stats env.file stats]) obs' ∧ (∀ ev ∈ evs, EvWF ev) ∧
      ∀ p ∈ AR.addRemove (ref.map (·.key)) (l10n.map (·.key)), ∃ evp, StepEvs env ref l10n p evp ∧ ∀ ev ∈ evp, ev ∈ evs := by
  obtain ⟨c, hc, hg, hall⟩ := loopPlan_ok obs0.filters env ref l10n hck hnc (obs := obs0) _ (labels_ok ref l10n) {}
    ⟨by simp [Loc.on], by simp [Loc.on]⟩
  obtain ⟨o, ho⟩ := doMerge_ok env ref (c.on obs0) hg hsp
  have hres : (comparePlan obs0.filters env ref l10n).res = .ok o := by
    simp only [comparePlan, bind, Plan.bind, dupsPlan, hc, Plan.lift, Plan.push]
    rw [show doMerge env ref c.missings c.skips = .ok o from ho]; rfl
  obtain ⟨s, he⟩ := comparePlan_ok hres
  have hx := compareEvs_expl obs0.filters env ref l10n
  have hfile : ∀ ev ∈ (comparePlan obs0.filters env ref l10n).evs, ev.file = env.file := by
    rw [he]; intro ev hev
    rcases List.mem_append.1 hev with hev | hev
    · obtain ⟨_, _, rfl, _⟩ := expl_notify (hx ev hev); rfl
    · cases List.mem_singleton.1 hev; rfl
  obtain ⟨obs', h⟩ := Plan.exec_total (emb := PyErr.observer) hf (fun ev hev => (hfile ev hev) ▸ hm) hres
  refine ⟨obs', o, _, _, (compareParsed_eq env ref l10n obs0).trans h, ⟨he ▸ (Plan.exec_ok.1 h).1, he ▸ hfile⟩,
    fun ev hev => expl_wf (hx ev hev), ?_⟩
  intro p hp
  obtain ⟨evp, a, b⟩ := hall p hp
  exact ⟨evp, a, fun ev hev => List.mem_append_right _ (b ev hev)⟩

theorem poEval_some (s : Array Nat) (frags : List (Nat × Nat)) : ∃ t, P.poEval s frags = some t := by
  unfold P.poEval
  have : ∃ ts, frags.mapM (fun (x : Nat × Nat) => P.poUnescape (P.slice s x.1 x.2)) = some ts := by
    induction frags with
    | nil => exact ⟨[], rfl⟩
    | cons x xs ih =>
      obtain ⟨ts, hts⟩ := ih
      have hx : P.poUnescape (P.slice s x.1 x.2) = some _ := P.poUnescape_eq_spec _
      exact ⟨P.poOnePassText (P.slice s x.1 x.2) :: ts, by simp only [List.mapM_cons, hx, hts, bind, Option.bind, pure]⟩
  obtain ⟨ts, hts⟩ := this
  exact ⟨ts.flatten, by simp [hts]⟩

theorem entView_ok (f : P.Fmt) (s : Array Nat) (e : P.Entry)
    (hpo : f = .po → (P.poCreate s e.s).isSome) :
    ∃ v, P.entView f s e = some v ∧ (f ≠ .dtd → ∃ val, v.val = some val) ∧ (f ≠ .po → v.ctxt = none) ∧
      (f = .po → v.ctxt ≠ none) := by
  cases f with
  | dtd => exact ⟨_, rfl, fun h => absurd rfl h, fun _ => rfl, fun h => by cases h⟩
  | ini => exact ⟨_, rfl, fun _ => ⟨_, rfl⟩, fun _ => rfl, fun h => by cases h⟩
  | inc => exact ⟨_, rfl, fun _ => ⟨_, rfl⟩, fun _ => rfl, fun h => by cases h⟩
  | properties => exact ⟨_, rfl, fun _ => ⟨_, P.propsVal_eq_spec _⟩, fun _ => rfl, fun h => by cases h⟩
  | po =>
    have hp := hpo rfl
    obtain ⟨p, hp⟩ := Option.isSome_iff_exists.1 hp
    obtain ⟨mid, hmid⟩ := poEval_some s p.msgid
    obtain ⟨mstr, hmstr⟩ := poEval_some s p.msgstr
    cases hctx : p.msgctxt with
    | none =>
      exact ⟨_, by simp [P.entView, hp, hctx, hmid, hmstr]; rfl, fun _ => ⟨_, rfl⟩, fun h => absurd rfl h, fun _ => by simp⟩
    | some fr =>
      obtain ⟨c, hcx⟩ := poEval_some s fr
      exact ⟨_, by simp [P.entView, hp, hctx, hcx, hmid, hmstr]; rfl, fun _ => ⟨_, rfl⟩, fun h => absurd rfl h, fun _ => by simp⟩

theorem assign_entry_mem (f : P.Fmt) (s : Array Nat) (ctx : Nat) :
    ∀ (es : List P.Entry) (n off : Nat), ∀ h ∈ (Hist.assign f s ctx n off es).2, h.entry ∈ es := by
  intro es
  induction es with
  | nil => intro n off h hh; simp [Hist.assign] at hh
  | cons x t ih =>
    intro n off h hh
    simp only [Hist.assign, List.mem_cons] at hh
    rcases hh with rfl | hh
    · simp
    · exact List.mem_cons_of_mem _ (ih _ _ h hh)

/-- a parsed entry is a Junk or an Entity, and the flag says which; only gettext keys are tuples -/
def PWf (f : P.Fmt) (e : PEnt) : Prop :=
  ((e.junk = true ∧ e.entry.kind = .junk) ∨ (e.junk = false ∧ e.entry.kind = .entity)) ∧
  (f ≠ .po → ∃ t, e.key = .str t) ∧
  (f = .po → e.junk = false → ∃ a b, e.key = .tup a b)

theorem PWf.entity {f : P.Fmt} {e : PEnt} (h : PWf f e) (hj : e.junk = false) : e.entry.kind = .entity := by
  rcases h.1 with ⟨h1, _⟩ | ⟨_, h2⟩
  · rw [hj] at h1; cases h1
  · exact h2

theorem mkEnt_ok (ext : Ext) (f : P.Fmt) (s : Array Nat) (h : Hist.Ent)
    (hw : h.jid.isSome = (h.entry.kind == P.Kind.junk)) (hloc : h.entry.localizable = true)
    (hpo : f = .po → h.entry.kind = .entity → (P.poCreate s h.entry.s).isSome) :
    ∃ e, mkEnt ext f s h = .ok e ∧ PWf f e := by
  unfold mkEnt
  cases hj : h.jid with
  | some id =>
    rw [hj] at hw
    refine ⟨_, rfl, Or.inl ⟨rfl, ?_⟩, fun _ => ⟨_, rfl⟩, fun _ h => by simp [mkJunk] at h⟩
    simpa [mkJunk] using hw.symm
  | none =>
    rw [hj] at hw
    have hk : h.entry.kind = .entity := by
      have hnj : h.entry.kind ≠ .junk := by
        intro hh; rw [hh] at hw; simp at hw
      simp only [P.Entry.localizable, Bool.or_eq_true, beq_iff_eq] at hloc
      rcases hloc with h1 | h1
      · exact h1
      · exact absurd h1 hnj
    obtain ⟨v, hv, hval, hctx, hctx'⟩ := entView_ok f s h.entry (fun hf => hpo hf hk)
    simp only [hv]
    have hvv : ∃ val, entVal ext f v = some val := by
      by_cases hd : f = .dtd
      · subst hd; exact ⟨_, rfl⟩
      · obtain ⟨val, hv2⟩ := hval hd
        refine ⟨val, ?_⟩
        cases f <;> first | exact hv2 | exact absurd rfl hd
    obtain ⟨val, hvv⟩ := hvv
    rw [hvv]
    refine ⟨_, rfl, Or.inr ⟨rfl, hk⟩, ?_, ?_⟩
    · intro hf
      simp only [hctx hf]
      exact ⟨_, rfl⟩
    · intro hf _
      cases hc : v.ctxt with
      | none => exact absurd hc (hctx' hf)
      | some c => exact ⟨_, _, rfl⟩

/-- a parse that returns: the walk ended, the counter is the one `Hist.assign` leaves, and every entry was made by `mkEnt`
    from a localizable entry of the walk -/
theorem parseFile_mem {ext : Ext} {f : P.Fmt} {s : Array Nat} {n m : Nat} {ents : List PEnt}
    (h : parseFile ext f s n = .ok (ents, m)) :
    ∃ es, P.walk f s = .done es ∧ m = (Hist.assign f s 0 n 0 es).1 ∧
      ∀ e ∈ ents, ∃ hh ∈ (Hist.assign f s 0 n 0 es).2, hh.entry.localizable = true ∧ mkEnt ext f s hh = .ok e := by
  unfold parseFile at h
  split at h
  · cases h
  · rename_i es hw
    simp only at h
    split at h
    · cases h
    · rename_i ents' hm
      cases h
      refine ⟨es, hw, rfl, fun e he => ?_⟩
      obtain ⟨hh, hmem, hmk⟩ := (mapE_mem hm).1 e he
      exact ⟨hh, (List.mem_filter.1 hmem).1, (List.mem_filter.1 hmem).2, hmk⟩

theorem parseFile_ok (ext : Ext) (f : P.Fmt) (s : Array Nat) (junkid : Nat) :
    ∃ ents n, parseFile ext f s junkid = .ok (ents, n) ∧ ∀ e ∈ ents, PWf f e := by
  obtain ⟨es, hes, _⟩ := P.walk_lossless_fmt f s
  have hmk : ∀ h ∈ (Hist.assign f s 0 junkid 0 es).2, h.entry.localizable = true →
      ∃ e, mkEnt ext f s h = .ok e ∧ PWf f e := fun h hh hl =>
    mkEnt_ok ext f s h (Hist.assign_wf f s 0 es junkid 0 h hh) hl (by
      intro hf hk
      subst hf
      apply P.po_entity_created s es hes _ _ hk
      exact assign_entry_mem _ s 0 es junkid 0 h hh)
  obtain ⟨ents, hents, _⟩ := mapE_ok (f := mkEnt ext f s)
    (l := (Hist.assign f s 0 junkid 0 es).2.filter (fun h => h.entry.localizable))
    (fun h hh => (hmk h (List.mem_filter.1 hh).1 (List.mem_filter.1 hh).2).imp fun _ he => he.1)
  have hp : parseFile ext f s junkid = .ok (ents, (Hist.assign f s 0 junkid 0 es).1) := by
    unfold parseFile
    rw [hes]
    simp only [hents]
  refine ⟨ents, _, hp, fun e he => ?_⟩
  obtain ⟨es', hes', _, hmem⟩ := parseFile_mem hp
  obtain ⟨h, hh, hl, hme⟩ := hmem e he
  cases hes.symm.trans hes'
  obtain ⟨e', he', hwf⟩ := hmk h hh hl
  cases hme.symm.trans he'
  exact hwf

/-- the hypothesis of the totality theorems on the two texts: `NoJunkClash` for what they parse to -/
def NoJunkClashT (ext : Ext) (fmt : P.Fmt) (refText l10nText : Array Nat) : Prop :=
  ∀ ref n1 l10n n2, parseFile ext fmt refText 0 = .ok (ref, n1) → parseFile ext fmt l10nText n1 = .ok (l10n, n2) →
    NoJunkClash (checkerOf fmt) ref l10n

theorem clsOf_ne_node (fmt : P.Fmt) : clsOf fmt ≠ .node := by cases fmt <;> simp [clsOf]

theorem compareFiles_parsed (ext : Ext) (fmt : P.Fmt) (file : ObsM.File) (refText l10nText : Array Nat) (mergeOn : Bool) :
    ∃ ref n1 l10n n2, parseFile ext fmt refText 0 = .ok (ref, n1) ∧ parseFile ext fmt l10nText n1 = .ok (l10n, n2) ∧
      (∀ e ∈ ref, PWf fmt e) ∧ (∀ e ∈ l10n, PWf fmt e) ∧
      ∀ obs0 obs' o, compareParsed (envOf ext fmt file mergeOn ref l10nText) ref l10n obs0 = .ok (obs', o) →
        compareFiles ext fmt file obs0 refText l10nText mergeOn = .ok (reportOf obs' o) := by
  obtain ⟨ref, n1, hp1, hw1⟩ := parseFile_ok ext fmt refText 0
  obtain ⟨l10n, n2, hp2, hw2⟩ := parseFile_ok ext fmt l10nText n1
  exact ⟨ref, n1, l10n, n2, hp1, hp2, hw1, hw2, fun obs0 obs' o h => by simp only [compareFiles, hp1, hp2, h]⟩

/-- no Junk key of one file is a key of the other file -/
def noClashB (ref l10n : List PEnt) : Bool :=
  ref.all (fun r => !r.junk || !(l10n.map (·.key)).contains r.key) &&
  l10n.all (fun l => !l.junk || !(ref.map (·.key)).contains l.key)

def noClashTB (ext : Ext) (fmt : P.Fmt) (refText l10nText : Array Nat) : Bool :=
  match parseFile ext fmt refText 0 with
  | .error _ => true
  | .ok (ref, n1) =>
    match parseFile ext fmt l10nText n1 with
    | .error _ => true
    | .ok (l10n, _) => noClashB ref l10n

theorem noClashB_sound (ck : CheckerKind) (ref l10n : List PEnt) (h : noClashB ref l10n = true) : NoJunkClash ck ref l10n := by
  simp only [noClashB, Bool.and_eq_true, List.all_eq_true] at h
  obtain ⟨h1, h2⟩ := h
  intro k hkr hkl
  refine ⟨?_, fun _ => ?_⟩
  · intro r hr
    obtain ⟨hm, hk, _⟩ := lookup_ok hr
    have := h1 r hm
    cases hj : r.junk with
    | false => rfl
    | true =>
      rw [hj, hk] at this
      have hc : (l10n.map (·.key)).contains k = true := by simpa using hkl
      rw [hc] at this
      cases this
  · intro l hl
    obtain ⟨hm, hk, _⟩ := lookup_ok hl
    have := h2 l hm
    cases hj : l.junk with
    | false => rfl
    | true =>
      rw [hj, hk] at this
      have hc : (ref.map (·.key)).contains k = true := by simpa using hkr
      rw [hc] at this
      cases this

theorem noClashTB_sound (ext : Ext) (fmt : P.Fmt) (refText l10nText : Array Nat)
    (h : noClashTB ext fmt refText l10nText = true) : NoJunkClashT ext fmt refText l10nText := by
  intro ref n1 l10n n2 hp1 hp2
  simp only [noClashTB, hp1, hp2] at h
  exact noClashB_sound _ ref l10n h

end Pipe
