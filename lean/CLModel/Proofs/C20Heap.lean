/-
C20 — the heap of interacting objects (`Compare/C20Heap.lean`).  What one operation can change is one structure
(`Frame`), shown for all operations in one case analysis (`step_spec`); the `final_*` lemmas carry its fields over
whole histories.
-/
import CLModel.Compare.C20Heap
import CLModel.Proofs.C20Keyed
namespace C20HP
open C20K C20H

variable {κ : Type} [DecidableEq κ]

omit [DecidableEq κ] in
theorem storeSrc_spec (h h' : Heap κ) (s : Src κ) (r : Ref) (hs : h.storeSrc s = some (h', r)) :
    h'.kts = h.kts ∧ h'.ars = h.ars ∧ h'.elists = h.elists ∧ h'.nextId = h.nextId ∧ r < h'.lists.length ∧
    ((h'.lists = h.lists ∧ s = .ref r) ∨
      (∃ c, h'.lists = h.lists ++ [c] ∧ r = h.lists.length ∧ ∀ r', s ≠ .ref r')) := by
  cases s with
  | ref r0 =>
    simp only [Heap.storeSrc] at hs
    split at hs
    · simp only [Option.some.injEq, Prod.mk.injEq] at hs
      obtain ⟨rfl, rfl⟩ := hs
      simp_all
    · simp at hs
  | keysOf t =>
    simp only [Heap.storeSrc] at hs
    split at hs
    · simp only [Option.some.injEq, Prod.mk.injEq] at hs
      obtain ⟨rfl, rfl⟩ := hs
      simp
    · simp at hs
  | lit ks =>
    simp only [Heap.storeSrc, Option.some.injEq, Prod.mk.injEq] at hs
    obtain ⟨rfl, rfl⟩ := hs
    simp

omit [DecidableEq κ] in
theorem storeSrc_lists {h h' : Heap κ} {s : Src κ} {r : Ref} (hs : h.storeSrc s = some (h', r)) :
    ∃ ext, h'.lists = h.lists ++ ext := by
  rcases (storeSrc_spec h h' s r hs).2.2.2.2.2 with ⟨hl, _⟩ | ⟨c, hl, _⟩
  · exact ⟨[], by rw [hl, List.append_nil]⟩
  · exact ⟨[c], hl⟩

theorem init_ktinv : (Heap.init : Heap κ).KTInv := by
  intro k hk
  simp [Heap.init] at hk

omit [DecidableEq κ] in
theorem init_wf : (Heap.init : Heap κ).WF := by
  intro o ho
  simp [Heap.init] at ho

omit [DecidableEq κ] in
theorem wf_mono (lists lists' : List (List κ)) (ars : List ARObj) (hl : lists.length ≤ lists'.length)
    (hw : ∀ o ∈ ars, (∀ r, o.left = some r → r < lists.length) ∧ (∀ r, o.right = some r → r < lists.length)) :
    ∀ o ∈ ars, (∀ r, o.left = some r → r < lists'.length) ∧ (∀ r, o.right = some r → r < lists'.length) := by
  intro o ho
  exact ⟨fun r hr => Nat.lt_of_lt_of_le ((hw o ho).1 r hr) hl, fun r hr => Nat.lt_of_lt_of_le ((hw o ho).2 r hr) hl⟩

/-- What one operation makes of a heap `h` (giving `g`): `KeyedTuple`s are only added, each as its constructor made it;
    no `AddRemove` is left dangling; key lists are only added, and change only where `own` says so. -/
structure Frame (h g : Heap κ) (own : Ref → Prop) : Prop where
  kts : ∃ ext, g.kts = h.kts ++ ext ∧ ∀ k ∈ ext, k = KT.new k.items
  wf : h.WF → g.WF
  length : h.lists.length ≤ g.lists.length
  lists : ∀ r, r < h.lists.length → ¬ own r → g.lists[r]? = h.lists[r]?

theorem Frame.of_eq {h g : Heap κ} (own : Ref → Prop) (hk : g.kts = h.kts) (ha : g.ars = h.ars)
    (hl : g.lists = h.lists) : Frame h g own :=
  ⟨⟨[], by simp [hk], nofun⟩, fun hw => by simpa only [Heap.WF, ha, hl] using hw, Nat.le_of_eq (congrArg List.length hl.symm),
    fun _ _ _ => by rw [hl]⟩

theorem Frame.append (h : Heap κ) (ext : List (List κ)) (own : Ref → Prop) :
    Frame h { h with lists := h.lists ++ ext } own :=
  ⟨⟨[], by simp, nofun⟩, wf_mono h.lists _ h.ars (by simp), by simp, fun _ hr _ => List.getElem?_append_left hr⟩

/-- the branch `setLeft` and `setRight` share: the argument is stored as the cell `r` of `h'`, and the object `a`
    becomes `o'`, whose sides are those of `o` or `r` -/
theorem Frame.set {h h' : Heap κ} {s : Src κ} {r : Ref} {a : Nat} {o : ARObj} (own : Ref → Prop) (o' : ARObj)
    (ho : h.ars[a]? = some o) (hs : h.storeSrc s = some (h', r))
    (hl : ∀ x, o'.left = some x → o.left = some x ∨ x = r) (hr : ∀ x, o'.right = some x → o.right = some x ∨ x = r) :
    Frame h { h' with ars := h'.ars.set a o' } own := by
  obtain ⟨hk, ha, _, _, hrl, _⟩ := storeSrc_spec h h' s r hs
  obtain ⟨ext, hext⟩ := storeSrc_lists hs
  have hlen : h.lists.length ≤ h'.lists.length := by simp [hext]
  refine ⟨⟨[], by simpa using hk, nofun⟩, fun hw o'' ho'' => ?_, hlen,
    fun x hx _ => by simp [hext, List.getElem?_append_left hx]⟩
  simp only [ha] at ho''
  rcases List.mem_or_eq_of_mem_set ho'' with hm | rfl
  · exact wf_mono h.lists h'.lists h.ars hlen hw o'' hm
  · have hom := hw o (List.mem_of_getElem? ho)
    exact ⟨fun x hx => (hl x hx).elim (fun e => Nat.lt_of_lt_of_le (hom.1 x e) hlen) (fun e => e ▸ hrl),
      fun x hx => (hr x hx).elim (fun e => Nat.lt_of_lt_of_le (hom.2 x e) hlen) (fun e => e ▸ hrl)⟩

theorem step_spec (h : Heap κ) (op : Op κ) : Frame h (h.step op).1 (fun r => ∃ m, op = .mutList r m) := by
  cases op with
  | newList ks => exact Frame.append h [ks] _
  | keysToList t =>
    simp only [Heap.step]
    split
    · exact Frame.append h _ _
    · exact Frame.of_eq _ rfl rfl rfl
  | mutList r m =>
    simp only [Heap.step]
    split
    · refine ⟨⟨[], by simp, nofun⟩, wf_mono h.lists _ h.ars (by simp), by simp, fun x _ hx => ?_⟩
      have hne : r ≠ x := fun e => hx ⟨m, e ▸ rfl⟩
      simp [List.getElem?_set_ne hne]
    · exact Frame.of_eq _ rfl rfl rfl
  | newKT s =>
    simp only [Heap.step]
    split
    · exact ⟨⟨_, rfl, fun k hk => by rw [List.mem_singleton.1 hk]; rfl⟩, id, Nat.le_refl _, fun _ _ _ => rfl⟩
    · exact Frame.of_eq _ rfl rfl rfl
  | newAR =>
    refine ⟨⟨[], by simp [Heap.step], nofun⟩, fun hw o ho => ?_, Nat.le_refl _, fun _ _ _ => rfl⟩
    simp only [Heap.step, List.mem_append, List.mem_singleton] at ho
    rcases ho with ho | rfl
    · exact hw o ho
    · simp
  | setLeft a s =>
    simp only [Heap.step]
    split
    · next o h' r ho hs =>
      exact Frame.set _ _ ho hs (fun x hx => Or.inr (Option.some.inj hx).symm) (fun x hx => Or.inl hx)
    · exact Frame.of_eq _ rfl rfl rfl
  | setRight a s =>
    simp only [Heap.step]
    split
    · next o h' r ho hs =>
      exact Frame.set _ _ ho hs (fun x hx => Or.inl hx) (fun x hx => Or.inr (Option.some.inj hx).symm)
    · exact Frame.of_eq _ rfl rfl rfl
  | newEList _ => exact Frame.of_eq _ rfl rfl rfl
  | mutEList _ _ | valuesToList _ | itemsToList _ | iterate _ | readList _ | readEList _ | ask _ _ =>
    simp only [Heap.step]
    split <;> exact Frame.of_eq _ rfl rfl rfl

theorem step_kts (h : Heap κ) (op : Op κ) :
    ∃ ext, (h.step op).1.kts = h.kts ++ ext ∧ ∀ k ∈ ext, k = KT.new k.items :=
  (step_spec h op).kts

theorem step_wf (h : Heap κ) (op : Op κ) (hw : h.WF) : (h.step op).1.WF :=
  (step_spec h op).wf hw

theorem step_lists_length (h : Heap κ) (op : Op κ) : h.lists.length ≤ (h.step op).1.lists.length :=
  (step_spec h op).length

theorem step_lists_frame (h : Heap κ) (op : Op κ) (r : Ref) (hr : r < h.lists.length)
    (hop : ∀ m, op ≠ .mutList r m) : (h.step op).1.lists[r]? = h.lists[r]? :=
  (step_spec h op).lists r hr (fun ⟨m, e⟩ => hop m e)

/-- neither setter touches the entity lists or the `KeyedTuple`s (one case analysis: the two steps branch alike) -/
theorem step_set (h : Heap κ) (a : Nat) (s : Src κ) :
    ((h.step (.setLeft a s)).1.elists = h.elists ∧ (h.step (.setLeft a s)).1.kts = h.kts) ∧
    (h.step (.setRight a s)).1.elists = h.elists ∧ (h.step (.setRight a s)).1.kts = h.kts := by
  simp only [Heap.step]
  cases h.ars[a]? with
  | none => exact ⟨⟨rfl, rfl⟩, rfl, rfl⟩
  | some o =>
    cases hs : h.storeSrc s with
    | none => exact ⟨⟨rfl, rfl⟩, rfl, rfl⟩
    | some p =>
      obtain ⟨hk, _, he, _⟩ := storeSrc_spec h p.1 s p.2 hs
      exact ⟨⟨he, hk⟩, he, hk⟩

theorem final_cons (h : Heap κ) (op : Op κ) (ops : List (Op κ)) :
    Heap.final h (op :: ops) = Heap.final (h.step op).1 ops := rfl

theorem final_append (h : Heap κ) (ops ops' : List (Op κ)) :
    Heap.final h (ops ++ ops') = Heap.final (Heap.final h ops) ops' := by
  simp [Heap.final, List.foldl_append]

theorem final_kts (h : Heap κ) (ops : List (Op κ)) : ∃ ext, (Heap.final h ops).kts = h.kts ++ ext := by
  induction ops generalizing h with
  | nil => exact ⟨[], by simp [Heap.final]⟩
  | cons op ops ih =>
    obtain ⟨e1, h1, _⟩ := step_kts h op
    obtain ⟨e2, h2⟩ := ih (h.step op).1
    exact ⟨e1 ++ e2, by rw [final_cons, h2, h1, List.append_assoc]⟩

theorem final_kts_getElem? (h : Heap κ) (ops : List (Op κ)) (t : Nat) (k : KT κ) (hk : h.kts[t]? = some k) :
    (Heap.final h ops).kts[t]? = some k := by
  obtain ⟨ext, he⟩ := final_kts h ops
  rw [he, List.getElem?_append_left (List.getElem?_eq_some_iff.1 hk).1]
  exact hk

theorem final_kts_take (ops : List (Op κ)) {m n : Nat} (hmn : m ≤ n) (h : Heap κ) (t : Nat) (k : KT κ)
    (hk : (Heap.final h (ops.take m)).kts[t]? = some k) : (Heap.final h (ops.take n)).kts[t]? = some k := by
  have hsplit : ops.take n = ops.take m ++ (ops.take n).drop m := by
    have := List.take_append_drop m (ops.take n)
    rw [List.take_take, Nat.min_eq_left hmn] at this
    exact this.symm
  rw [hsplit, final_append]
  exact final_kts_getElem? _ _ t k hk

theorem step_ktinv (h : Heap κ) (op : Op κ) (hi : h.KTInv) : (h.step op).1.KTInv := by
  obtain ⟨ext, he, hext⟩ := step_kts h op
  intro k hk
  rw [he, List.mem_append] at hk
  exact hk.elim (hi k) (hext k)

theorem final_ktinv (h : Heap κ) (ops : List (Op κ)) (hi : h.KTInv) : (Heap.final h ops).KTInv := by
  induction ops generalizing h with
  | nil => exact hi
  | cons op ops ih => exact ih _ (step_ktinv h op hi)

theorem final_wf (h : Heap κ) (ops : List (Op κ)) (hw : h.WF) : (Heap.final h ops).WF := by
  induction ops generalizing h with
  | nil => exact hw
  | cons op ops ih => exact ih _ (step_wf h op hw)

theorem step_mutList (h : Heap κ) (r : Ref) (m : Mut κ) (c : List κ) (hc : h.lists[r]? = some c) :
    (h.step (.mutList r m)).1.lists[r]? = some (applyMut c m) := by
  have hr : r < h.lists.length := (List.getElem?_eq_some_iff.1 hc).1
  simp only [Heap.step, hc]
  simp [hr]

theorem trace_getElem? (h : Heap κ) (ops : List (Op κ)) (n : Nat) :
    (Heap.trace h ops)[n]? = (ops[n]?).map (fun op => ((Heap.final h (ops.take n)).step op).2) := by
  induction ops generalizing h n with
  | nil => simp [Heap.trace]
  | cons op ops ih =>
    cases n with
    | zero => simp [Heap.trace, Heap.final]
    | succ n =>
      rw [Heap.trace, List.getElem?_cons_succ, List.getElem?_cons_succ, ih, List.take_succ_cons, final_cons]

theorem trace_length (h : Heap κ) (ops : List (Op κ)) : (Heap.trace h ops).length = ops.length := by
  induction ops generalizing h with
  | nil => rfl
  | cons op ops ih => simp [Heap.trace, ih]

theorem ktinv_step (k : KT κ) (hk : k = KT.new k.items) (q : Q κ) : (k.step q).2 = specAsk k.items q := by
  have := C20P.step_eq_spec k.items q
  rw [← hk] at this
  exact this

end C20HP
