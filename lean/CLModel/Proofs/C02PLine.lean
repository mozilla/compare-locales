/- C02: blocks of line comments.  The comment regexes of properties, ini and .inc all have the shape `(BODY)*LAST`, BODY a
   marked line with its newline, LAST a marked line without one.  What the walk over a printed block needs of the two parts
   is collected in `LineRx`; the greedy star over a printed block is computed once from that.  The formats differ in the
   mark and in whether `^` stands in front (`LineRx.bol`).  At the end: `OffsetComment.val` of a printed block, for any offset. -/
import CLModel.Proofs.C02PCore
namespace C02X
open P

theorem isInfix_license_blank (c : List Nat) : isInfix licenseWord (32 :: c) = isInfix licenseWord c := by
  simp [isInfix, licenseWord, List.isPrefixOf]

end C02X

namespace C02P
open Rx P C02X

/-- where `^` matches under `re.M` -/
def LineStart (s : Array Nat) (p : Nat) : Prop := p = 0 ∨ s[p - 1]? = some 10

theorem bol_ok (s : Array Nat) (p : Nat) (caps) (k : K) (h : LineStart s p) : m s (.bol true) ⟨p, caps⟩ k = k ⟨p, caps⟩ := by
  rw [m_bol_def]
  rcases h with h | h
  · simp [h]
  · simp [h]

theorem bol_fail (s : Array Nat) (p : Nat) (caps) (k : K) (h : ¬ LineStart s p) : m s (.bol true) ⟨p, caps⟩ k = none := by
  rw [m_bol_def]
  have h1 : p ≠ 0 := fun h' => h (Or.inl h')
  have h2 : s[p - 1]? ≠ some 10 := fun h' => h (Or.inr h')
  simp [h1, h2]

theorem lineStart_after {s : Array Nat} {p : Nat} {l : List Nat} (h : At s p (10 :: l)) : LineStart s (p + 1) := by
  right; simpa using h.hd

theorem lineStart_of_last {s : Array Nat} {p : Nat} {x rest : List Nat} (h : At s p (x ++ rest)) (hne : x ≠ [])
    (hl : x.getLast? = some 10) : LineStart s (p + x.length) := by
  right
  have hpos : 0 < x.length := List.length_pos_iff.mpr hne
  have := h.left (x.length - 1) (by omega)
  rw [show p + x.length - 1 = p + (x.length - 1) by omega, this]
  rw [List.getLast?_eq_getElem?] at hl
  rw [List.getElem?_eq_getElem (by omega)] at hl
  exact hl

theorem not_lineStart_inside {s : Array Nat} {p q : Nat} {x rest : List Nat} (h : At s p (x ++ rest)) (hx : ∀ c ∈ x, c ≠ 10)
    (h1 : p < q) (h2 : q ≤ p + x.length) : ¬ LineStart s q := by
  rintro (h0 | h0)
  · omega
  · obtain ⟨b, u, hb, hbt⟩ := h.inside (q := q - 1) (by omega) (by omega)
    rw [hbt.hd] at h0
    exact hx b hb (Option.some.inj h0)

theorem bol_seq_none {s : Array Nat} {r : Re} {st : St} (h : ∀ k, m s r st k = none) (k' : K) :
    m s (Re.seq (Re.bol true) r) st k' = none := by
  rw [m_seq_def, m_bol_def]
  split
  · exact h _
  · rfl

theorem bol_seq_mid {s : Array Nat} {r : Re} {p : Nat} {caps} (h : ¬ LineStart s p) (k : K) :
    m s (Re.seq (Re.bol true) r) ⟨p, caps⟩ k = none := by
  rw [m_seq_def, bol_fail s p caps _ h]

/-- a comment line: its marker and its text -/
abbrev CLine := Nat × List Nat

/-- comment lines joined by newlines (no newline after the last one) -/
def printCLines : List CLine → List Nat
  | [] => []
  | [l] => l.1 :: l.2
  | l :: l' :: ls => l.1 :: (l.2 ++ 10 :: printCLines (l' :: ls))

theorem printCLines_cons2 (l l' : CLine) (ls : List CLine) :
    printCLines (l :: l' :: ls) = l.1 :: (l.2 ++ 10 :: printCLines (l' :: ls)) := rfl

theorem printCLines_len (ls : List CLine) : ls.length ≤ (printCLines ls).length := by
  induction ls with
  | nil => simp [printCLines]
  | cons l ls ih =>
    cases ls with
    | nil => simp [printCLines]
    | cons l' ls' => simp only [printCLines_cons2, List.length_cons, List.length_append] at ih ⊢; omega

theorem printCLines_pos {ls : List CLine} (hne : ls ≠ []) : 0 < (printCLines ls).length := by
  have := printCLines_len ls
  have : 0 < ls.length := List.length_pos_iff.mpr hne
  omega

theorem printCLines_head (l : CLine) (ls : List CLine) (x : List Nat) : (printCLines (l :: ls) ++ x).head? = some l.1 := by
  cases ls <;> rfl

/-- what follows a comment block: the end of the text, or a newline after which no further comment line starts -/
def After (Stop : List Nat → Prop) (rest : List Nat) : Prop := rest = [] ∨ ∃ r', rest = 10 :: r' ∧ Stop r'

theorem After.cons {Stop : List Nat → Prop} {r : List Nat} (h : Stop r) : After Stop (10 :: r) := Or.inr ⟨r, rfl, h⟩

theorem After.head {Stop : List Nat → Prop} {rest : List Nat} (h : After Stop rest) : ∀ c, rest.head? = some c → c = 10 := by
  intro c hc
  rcases h with rfl | ⟨r', rfl, _⟩
  · cases hc
  · cases hc; rfl

/-- `B` matches a good line with its newline, `L` a good line in front of a newline or of the end of the text; neither
    matches where `Stop` holds.  `Start` is what the position of a line has to satisfy (nothing, or `LineStart`). -/
structure LineRx (s : Array Nat) (B L : Re) (Good : CLine → Prop) (Start : Nat → Prop) (Stop : List Nat → Prop) : Prop where
  line : ∀ p l rest k, Good l → Start p → At s p (l.1 :: (l.2 ++ 10 :: rest)) →
    m s B ⟨p, []⟩ k = k ⟨p + l.2.length + 2, []⟩
  /-- a line that is not followed by a newline (end of the text) is not a further FULL line -/
  eof : ∀ p l k, Good l → At s p (l.1 :: l.2) → m s B ⟨p, []⟩ k = none
  last : ∀ p l rest, Good l → Start p → At s p (l.1 :: (l.2 ++ rest)) → (∀ c, rest.head? = some c → c = 10) →
    m s L ⟨p, []⟩ some = some ⟨p + l.2.length + 1, []⟩
  stopB : ∀ p r k, Stop r → At s p r → m s B ⟨p, []⟩ k = none
  stopL : ∀ p r k, Stop r → At s p r → m s L ⟨p, []⟩ k = none
  next : ∀ p r, At s p (10 :: r) → Start (p + 1)

section
variable {s : Array Nat} {B L : Re} {Good : CLine → Prop} {Start : Nat → Prop} {Stop : List Nat → Prop}

theorem LineRx.loop_stop (R : LineRx s B L Good Start Stop) (p fuel : Nat) (r : List Nat) (hr : Stop r) (h : At s p r) :
    loop (m s B) true fuel 0 none ⟨p, []⟩ (fun st => m s L st some) = none := by
  cases fuel with
  | zero => rw [loop]
  | succ f => rw [loop_greedy_succ, R.stopB p r _ hr h]; exact R.stopL p r _ hr h

theorem LineRx.lines_at (R : LineRx s B L Good Start Stop) : ∀ (ls : List CLine) (l : CLine) (p fuel : Nat) (rest : List Nat),
    At s p (printCLines (l :: ls) ++ rest) → Start p → (∀ x ∈ l :: ls, Good x) → After Stop rest → ls.length + 1 < fuel →
    loop (m s B) true fuel 0 none ⟨p, []⟩ (fun st => m s L st some) = some ⟨p + (printCLines (l :: ls)).length, []⟩ := by
  intro ls
  induction ls with
  | nil =>
    intro l p fuel rest h hst hg hr hf
    obtain ⟨f, rfl⟩ : ∃ f, fuel = f + 1 := ⟨fuel - 1, by omega⟩
    have hgl := hg l (by simp)
    have h' : At s p (l.1 :: (l.2 ++ rest)) := by simpa [At, printCLines] using h
    -- a further full line is matched only if a newline follows, and then neither part matches behind it
    have hmore : m s B ⟨p, []⟩ (fun st' => if st'.pos ≤ p then none else
        loop (m s B) true f 0 none st' (fun st => m s L st some)) = none := by
      rcases hr with rfl | ⟨r', rfl, hr'⟩
      · exact R.eof p l _ hgl (by simpa using h')
      · rw [R.line p l r' _ hgl hst h', if_neg (by show ¬ p + l.2.length + 2 ≤ p; omega)]
        exact R.loop_stop _ f r' hr' h'.after_line
    rw [loop_greedy_succ, hmore, R.last p l rest hgl hst h' hr.head]
    simp [printCLines, Nat.add_assoc]
  | cons l' ls ih =>
    intro l p fuel rest h hst hg hr hf
    obtain ⟨f, rfl⟩ : ∃ f, fuel = f + 1 := ⟨fuel - 1, by omega⟩
    have h' : At s p (l.1 :: (l.2 ++ 10 :: (printCLines (l' :: ls) ++ rest))) := by
      simpa [At, printCLines_cons2] using h
    have hst2 : Start (p + l.2.length + 2) :=
      (show p + 1 + l.2.length + 1 = p + l.2.length + 2 by omega) ▸ R.next _ _ h'.tail.app
    rw [loop_greedy_succ, R.line p l _ _ (hg l (by simp)) hst h', if_neg (by show ¬ p + l.2.length + 2 ≤ p; omega),
      ih l' (p + l.2.length + 2) f rest h'.after_line hst2 (fun x hx => hg x (List.mem_cons_of_mem _ hx)) hr
        (by simp only [List.length_cons] at hf; omega)]
    simp [printCLines_cons2]
    omega

theorem LineRx.comment_at (R : LineRx s B L Good Start Stop) (p : Nat) (ls : List CLine) (rest : List Nat) (hne : ls ≠ [])
    (hst : Start p) (hg : ∀ x ∈ ls, Good x) (hr : After Stop rest) (h : At s p (printCLines ls ++ rest)) :
    matchAt s (Re.seq (Re.rep 0 none true B) L) p = some ⟨p + (printCLines ls).length, []⟩ := by
  cases ls with
  | nil => exact absurd rfl hne
  | cons l ls =>
    have hl := h.len
    have := printCLines_len (l :: ls)
    simp only [List.length_append, List.length_cons] at hl this
    simp only [Rx.matchAt, m_seq_def, m_rep_def]
    exact R.lines_at ls l p _ rest h hst hg hr (by omega)

theorem LineRx.comment_none (R : LineRx s B L Good Start Stop) (p : Nat) (r : List Nat) (hr : Stop r) (h : At s p r) :
    matchAt s (Re.seq (Re.rep 0 none true B) L) p = none := by
  simp only [Rx.matchAt, m_seq_def, m_rep_def]
  exact R.loop_stop p _ r hr h

theorem LineRx.bol (R : LineRx s B L Good (fun _ => True) Stop) :
    LineRx s (Re.seq (Re.bol true) B) (Re.seq (Re.bol true) L) Good (LineStart s) Stop where
  line := fun p l rest k hg hs h => by rw [m_seq_def, bol_ok s p [] _ hs]; exact R.line p l rest k hg trivial h
  eof := fun p l k hg h => bol_seq_none (fun k => R.eof p l k hg h) k
  last := fun p l rest hg hs h hr => by rw [m_seq_def, bol_ok s p [] _ hs]; exact R.last p l rest hg trivial h hr
  stopB := fun p r k hr h => bol_seq_none (fun k => R.stopB p r k hr h) k
  stopL := fun p r k hr h => bol_seq_none (fun k => R.stopL p r k hr h) k
  next := fun _ _ h => lineStart_after h

end

theorem matchAt_bol_mid (s : Array Nat) (B L : Re) (p : Nat) (h : ¬ LineStart s p) :
    matchAt s (Re.seq (Re.rep 0 none true (Re.seq (Re.bol true) B)) (Re.seq (Re.bol true) L)) p = none := by
  rw [matchAt, m_seq_def, m_rep_def]
  cases s.size + 2 - p with
  | zero => rw [loop]
  | succ f => rw [loop_greedy_succ, bol_seq_mid h]; exact bol_seq_mid h _

/-- `[^\n]*\n` or `.*?\n` (`b` tests "no newline", greedy or lazy) on a line with its newline -/
theorem line_nl {s : Array Nat} {b : Re} {P : Nat → Bool} (hb : m s b = charStep s P) (hP : ∀ c, P c = (c != 10)) (g : Bool)
    {p : Nat} {t rest : List Nat} (caps) (k : K) (h : At s p (t ++ 10 :: rest)) (ht : ∀ x ∈ t, x ≠ 10) :
    m s (Re.seq (Re.rep 0 none g b) (Re.lit 10)) ⟨p, caps⟩ k = k ⟨p + t.length + 1, caps⟩ := by
  have hp : p < s.size := h.pos_lt (by simp)
  rw [m_seq_def, m_rep_def, hb]
  simp only []
  rw [loop_at_exact P g caps _ h (fun x hx => by simp [hP, ht x hx]) (by intro x hx; simp at hx; subst hx; simp [hP])
    (fun j hj => m_lit_fail (c := 10) (by rw [h.left j hj]; simp [ht _ (List.getElem_mem hj)]) caps _) (by omega)]
  exact lit_at h.app caps k

theorem line_eof {s : Array Nat} {b : Re} {P : Nat → Bool} (hb : m s b = charStep s P) (hP : ∀ c, P c = (c != 10)) (g : Bool)
    {p : Nat} {t : List Nat} (caps) (k : K) (h : At s p t) (hp : p ≤ s.size) (ht : ∀ x ∈ t, x ≠ 10) :
    m s (Re.seq (Re.rep 0 none g b) (Re.lit 10)) ⟨p, caps⟩ k = none := by
  have h1 : At s p (t ++ []) := by simpa using h
  rw [m_seq_def, m_rep_def, hb]
  simp only []
  rw [loop_at_exact P g caps _ h1 (fun x hx => by simp [hP, ht x hx]) (by intro x hx; simp at hx)
    (fun j hj => m_lit_fail (c := 10) (by rw [h1.left j hj]; simp [ht _ (List.getElem_mem hj)]) caps _) hp]
  exact lit_at_fail h1.app (by simp) caps k

theorem restOfLine_last {s : Array Nat} {p : Nat} {t rest : List Nat} (h : At s p (t ++ rest)) (hp : p ≤ s.size)
    (ht : ∀ x ∈ t, x ≠ 10) (hr : ∀ c, rest.head? = some c → c = 10) :
    m s (Re.rep 0 none true (Re.notLit 10)) ⟨p, []⟩ some = some ⟨p + t.length, []⟩ := by
  rw [m_rep_def, m_notLit_charStep]
  exact greedy_at _ [] some _ 0 h (fun x hx => by simp [ht x hx]) (by intro x hx; simp [hr x hx]) (by omega) hp rfl

def NoMark (isMk : Nat → Bool) (l : List Nat) : Prop := ∀ c, l.head? = some c → isMk c = false

theorem NoMark.append {isMk : Nat → Bool} {w x : List Nat} (hw : ∀ c ∈ w, isMk c = false) (hx : NoMark isMk x) :
    NoMark isMk (w ++ x) := by
  cases w with
  | nil => exact hx
  | cons a t => intro c hc; cases hc; exact hw a (by simp)

theorem After.of_cgap {isMk : Nat → Bool} {cgap w x : List Nat} (hcg : cgap = 10 :: w) (hw : ∀ c ∈ w, isMk c = false)
    (hx : NoMark isMk x) : After (NoMark isMk) (cgap ++ x) := by
  subst hcg; exact After.cons (NoMark.append hw hx)

theorem After.of_gap {isMk : Nat → Bool} {gap : List Nat} (rest : List Nat) (hmk : ∀ c ∈ gap, isMk c = false)
    (hhead : gap.head? = some 10) (hnl : 2 ≤ (gap.filter (· == 10)).length) : After (NoMark isMk) (gap ++ rest) := by
  cases gap with
  | nil => simp at hnl
  | cons a w =>
    obtain rfl : a = 10 := by simpa using hhead
    cases w with
    | nil => simp at hnl
    | cons b t =>
      show After _ (10 :: (b :: t ++ rest))
      exact After.cons (fun c hc => by cases hc; exact hmk b (by simp))

def clsBody (items : List ClsItem) : Re :=
  Re.seq (Re.cls false items) (Re.seq (Re.rep 0 none true (Re.notLit 10)) (Re.lit 10))
def clsLast (items : List ClsItem) : Re := Re.seq (Re.cls false items) (Re.rep 0 none true (Re.notLit 10))

theorem clsLineRx (s : Array Nat) (items : List ClsItem) (isMk : Nat → Bool) (hin : ∀ c, inC false items c = isMk c) :
    LineRx s (clsBody items) (clsLast items) (fun l => isMk l.1 = true ∧ ∀ x ∈ l.2, x ≠ 10) (fun _ => True) (NoMark isMk) where
  line := fun p l rest k hg _ h => by
    rw [clsBody, m_seq_def, m_cls_charStep, step_at _ h (by rw [hin]; exact hg.1), line_nl (m_notLit_charStep s 10) (fun _ => rfl) true [] k h.tail hg.2]
    simp [Nat.add_assoc, Nat.add_comm 1]
  eof := fun p l k hg h => by
    have := h.pos_lt (by simp)
    rw [clsBody, m_seq_def, m_cls_charStep, step_at _ h (by rw [hin]; exact hg.1)]
    exact line_eof (m_notLit_charStep s 10) (fun _ => rfl) true [] k h.tail (by omega) hg.2
  last := fun p l rest hg _ h hr => by
    have := h.pos_lt (by simp)
    rw [clsLast, m_seq_def, m_cls_charStep, step_at _ h (by rw [hin]; exact hg.1), restOfLine_last h.tail (by omega) hg.2 hr]
    simp [Nat.add_assoc, Nat.add_comm 1]
  stopB := fun p r k hr h => by
    rw [clsBody, m_seq_def, m_cls_charStep, step_at_fail _ h (fun c hc => by rw [hin]; exact hr c hc)]
  stopL := fun p r k hr h => by
    rw [clsLast, m_seq_def, m_cls_charStep, step_at_fail _ h (fun c hc => by rw [hin]; exact hr c hc)]
  next := fun _ _ _ => trivial

theorem splitLinesGo_skip : ∀ (t cur R : List Nat), (∀ c ∈ t, isLineBreak c = false) →
    splitLinesGo cur (t ++ R) = splitLinesGo (t.reverse ++ cur) R := by
  intro t
  induction t with
  | nil => intro cur R _; rfl
  | cons c t ih =>
    intro cur R hb
    have hc : isLineBreak c = false := hb c (by simp)
    have h13 : c ≠ 13 := by rintro rfl; revert hc; decide
    rw [List.cons_append, List.reverse_cons, List.append_assoc, List.singleton_append,
      ← ih (c :: cur) R fun d hd => hb d (List.mem_cons_of_mem _ hd)]
    conv => lhs; unfold splitLinesGo
    split
    · rename_i heq; cases heq
    · rename_i heq; exact absurd (List.cons.inj heq).1 h13
    · rename_i heq
      obtain ⟨rfl, rfl⟩ := List.cons.inj heq
      rw [if_neg (by simp [hc])]

theorem splitLinesGo_nl (cur R : List Nat) : splitLinesGo cur (10 :: R) = (cur.reverse ++ [10]) :: splitLinesGo [] R := by
  conv => lhs; unfold splitLinesGo
  split
  · rename_i heq; cases heq
  · rename_i heq; cases (List.cons.inj heq).1
  · rename_i heq
    obtain ⟨rfl, rfl⟩ := List.cons.inj heq
    simp [isLineBreak]

/-- the comment lines without their markers -/
def cvalLines : List CLine → List Nat
  | [] => []
  | [l] => l.2
  | l :: l' :: ls => l.2 ++ 10 :: cvalLines (l' :: ls)

def CLine.NoBreak (l : CLine) : Prop := ∀ c ∈ l.2, isLineBreak c = false

/-- `OffsetComment.val` with offset `n + 1` of a printed comment block: every line loses its marker and `n` characters
    more.  A line shorter than the offset would lose its newline too, hence `n ≤ l.2.length`. -/
theorem offsetVal_lines_n (n : Nat) : ∀ (ls : List CLine),
    (∀ l ∈ ls, isLineBreak l.1 = false ∧ CLine.NoBreak l ∧ n ≤ l.2.length) →
    offsetCommentVal (n + 1) (printCLines ls) = cvalLines (ls.map fun l => (l.1, l.2.drop n)) := by
  intro ls
  induction ls with
  | nil => intro _; rfl
  | cons l ls ih =>
    intro hg
    obtain ⟨hm, hb, hn⟩ := hg l (by simp)
    have hall : ∀ ch ∈ (l.1 :: l.2), isLineBreak ch = false := fun ch hch =>
      (List.mem_cons.mp hch).elim (fun e => e ▸ hm) (hb ch)
    cases ls with
    | nil =>
      have := splitLinesGo_skip (l.1 :: l.2) [] [] hall
      simp only [List.append_nil] at this
      simp [offsetCommentVal, splitLinesKeep, printCLines, cvalLines, this, splitLinesGo]
    | cons l' ls' =>
      have ihh := ih fun x hx => hg x (List.mem_cons_of_mem _ hx)
      simp only [offsetCommentVal, splitLinesKeep] at ihh ⊢
      rw [printCLines_cons2, ← List.cons_append, splitLinesGo_skip _ [] _ hall, splitLinesGo_nl]
      simp only [List.map_cons, List.flatten_cons, ihh]
      simp [cvalLines, List.drop_append_of_le_length hn]

/-- offset 1 (properties, ini): every line loses exactly its marker -/
theorem offsetVal1_lines (ls : List CLine) (h : ∀ l ∈ ls, isLineBreak l.1 = false ∧ CLine.NoBreak l) :
    offsetCommentVal 1 (printCLines ls) = cvalLines ls := by
  simpa using offsetVal_lines_n 0 ls fun l hl => ⟨(h l hl).1, (h l hl).2, Nat.zero_le _⟩

/-- `OffsetComment.val` of a one-line comment: the line without its FIRST character (`comment_offset = 1`;
    the blank after `#` is kept) -/
theorem _root_.C02X.commentVal_oneLine (c : List Nat) (hb : ∀ ch ∈ c, isLineBreak ch = false) :
    commentVal (.offset Gen.Tables.offsetCommentDefault) (35 :: 32 :: c) = 32 :: c := by
  simpa [commentVal, Gen.Tables.offsetCommentDefault, printCLines, cvalLines] using
    offsetVal_lines_n 0 [(35, 32 :: c)] fun l hl => by
      obtain rfl := List.mem_singleton.mp hl
      exact ⟨rfl, fun ch hch => (List.mem_cons.mp hch).elim (fun e => e ▸ rfl) (hb ch), Nat.zero_le _⟩

theorem walks_entry_gap {σ : Type} {next : σ → Nat → Entry × σ} {s : Array Nat} {c c' : σ} {off q : Nat} {e : Entry}
    {gap rest : List Nat} (he : e.e = q) (h1 : off < q) (hat : At s q (gap ++ rest)) (hne : gap ≠ [])
    (hl : gap.getLast? = some 10) (hn1 : next c off = (e, c')) (hn2 : next c' q = (wsEntryN q gap.length, c')) :
    Walks next s.size c off [e, wsEntryN q gap.length] c' (q + gap.length) ∧ LineStart s (q + gap.length) :=
  ⟨walks_entry_ws he h1 (List.length_pos_iff.mpr hne) (hat.left_le hne) hn1 hn2, lineStart_of_last hat hne hl⟩

end C02P
