/- `Matcher._cached_re` as explicit state: the cache, when filled, is the regex of the CURRENT (pattern, env, root);
   every way of deriving a matcher starts with an empty cache; hence the stateful model and the stateless one
   (`Matcher.match`, which recompiles every time) report the same. -/
import CLModel.Paths.MatcherX
namespace C11C
open PM

def CacheOK (c : CMatcher) : Prop := ∀ rn, c.cache = some rn → c.m.regexOf = .ok rn

theorem match_eq_matchWith (m : Matcher) (path : Text) :
    m.match path = (m.regexOf).bind (fun rn => matchWith rn path) := by
  unfold Matcher.match matchWith
  cases m.regexOf with
  | error e => rfl
  | ok rn => obtain ⟨re, names⟩ := rn; rfl

theorem cacheRegex_spec {c c' : CMatcher} {rn} (hc : CacheOK c) (h : c.cacheRegex = .ok (c', rn)) :
    c'.m = c.m ∧ c.m.regexOf = .ok rn ∧ c'.cache = some rn := by
  unfold CMatcher.cacheRegex at h
  cases hcache : c.cache with
  | some r =>
    simp only [hcache, pure, Except.pure, Except.ok.injEq, Prod.mk.injEq] at h
    obtain ⟨rfl, rfl⟩ := h
    exact ⟨rfl, hc _ hcache, hcache⟩
  | none =>
    simp only [hcache, bind, Except.bind] at h
    cases hr : c.m.regexOf with
    | error e => simp [hr] at h
    | ok r =>
      simp only [hr, pure, Except.pure, Except.ok.injEq, Prod.mk.injEq] at h
      obtain ⟨rfl, rfl⟩ := h
      exact ⟨rfl, rfl, rfl⟩

theorem match_refines {c : CMatcher} (hc : CacheOK c) (path : Text) :
    (c.match path).1 = c.m.match path ∧ (c.match path).2.m = c.m ∧ CacheOK (c.match path).2 := by
  unfold CMatcher.match
  cases h : c.cacheRegex with
  | error e =>
    refine ⟨?_, rfl, hc⟩
    show Except.error e = c.m.match path
    -- the only way `_cache_regex` fails is that compiling fails
    unfold CMatcher.cacheRegex at h
    cases hcache : c.cache with
    | some r => simp [hcache, pure, Except.pure] at h
    | none =>
      simp only [hcache, bind, Except.bind] at h
      cases hr : c.m.regexOf with
      | error e' =>
        simp only [hr] at h
        cases h
        rw [match_eq_matchWith, hr]; rfl
      | ok r => simp [hr, pure, Except.pure] at h
  | ok p =>
    obtain ⟨c', rn⟩ := p
    obtain ⟨h1, h2, h3⟩ := cacheRegex_spec hc h
    simp only
    refine ⟨?_, h1, ?_⟩
    · rw [match_eq_matchWith, h2]; rfl
    · intro r hr
      rw [h3] at hr
      cases hr
      rw [h1]; exact h2

theorem sub_refines {c : CMatcher} (hc : CacheOK c) (other : CMatcher) (path : Text) :
    (c.sub other path).1 = c.m.sub other.m path ∧ (c.sub other path).2.m = c.m ∧ CacheOK (c.sub other path).2 := by
  obtain ⟨h1, h2, h3⟩ := match_refines hc path
  unfold CMatcher.sub Matcher.sub
  cases hm : c.match path with
  | mk r c' =>
    rw [hm] at h1 h2 h3
    simp only at h1 h2 h3
    rw [← h1]
    cases r with
    | error e => exact ⟨rfl, h2, h3⟩
    | ok o =>
      cases o with
      | none => exact ⟨rfl, h2, h3⟩
      | some d =>
        refine ⟨?_, h2, h3⟩
        simp only [bind, Except.bind]
        cases expandTop other.m.pattern (subEnv d other.m.env) <;> rfl

theorem derived_cache_empty {c d : CMatcher} :
    (∀ env root, c.rebuild env root = .ok d → d.cache = none ∧ c.m.rebuild env root = .ok d.m) ∧
    (∀ o, c.concat o = .ok d → d.cache = none ∧ c.m.concat o = .ok d.m) := by
  refine ⟨?_, ?_⟩
  · intro env root h
    unfold CMatcher.rebuild at h
    simp only [bind, Except.bind] at h
    cases hm : c.m.rebuild env root with
    | error e => simp [hm] at h
    | ok m =>
      simp only [hm, pure, Except.pure, Except.ok.injEq] at h
      subst h
      exact ⟨rfl, rfl⟩
  · intro o h
    unfold CMatcher.concat at h
    simp only [bind, Except.bind] at h
    cases hm : c.m.concat o with
    | error e => simp [hm] at h
    | ok m =>
      simp only [hm, pure, Except.pure, Except.ok.injEq] at h
      subst h
      exact ⟨rfl, rfl⟩

theorem derived_cacheOK {c d : CMatcher} :
    (∀ env root, c.rebuild env root = .ok d → CacheOK d) ∧ (∀ o, c.concat o = .ok d → CacheOK d) := by
  refine ⟨fun env root h => ?_, fun o h => ?_⟩
  · intro rn hr; rw [(derived_cache_empty.1 env root h).1] at hr; cases hr
  · intro rn hr; rw [(derived_cache_empty.2 o h).1] at hr; cases hr

end C11C
