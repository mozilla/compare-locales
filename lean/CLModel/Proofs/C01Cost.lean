/-
Complexity guard: for a regex all of whose repeats have `Single` bodies (`Safe`), the number of backtracking outcomes
(`ends_len`, bound `endsBound`) and the size of the whole search tree of the engine (`steps_le`, bound `stepsBound`) are
bounded by explicit polynomials in the length of the text (`endsBound_le_cpow`, `stepsBound_le_cpow`: constants and degrees
depend on the regex only).
-/
import CLModel.Proofs.C01Single
namespace C01P
open Rx

/-- the cost of a repeat in `steps`: the calls of `loop` and of the body in the exhaustive search, clause by clause as
    `loopE`.  (Not `Rx.loopS`, the model's loop with a step budget.) -/
def loopS (bodyE : St → List St) (bodyS : St → Nat) : Nat → Nat → Option Nat → St → Nat
  | 0, _, _, _ => 1
  | fuel + 1, mn, mx, st =>
    1 + (if mx == some 0 then 0 else
      bodyS st + ((bodyE st).map (fun st' =>
        if st'.pos ≤ st.pos then 1 else loopS bodyE bodyS fuel (mn - 1) (mx.map (· - 1)) st')).sum)

/-- number of calls of `m` / `loop` in the exhaustive search from `st` (all continuations fail: the worst case for the
    caller) -/
def steps (s : Array Nat) : Re → St → Nat
  | .seq a b, st => 1 + steps s a st + ((ends s a st).map (fun st' => steps s b st')).sum
  | .alt a b, st => 1 + steps s a st + steps s b st
  | .group _ r, st => 1 + steps s r st
  | .look true _ r, st => 1 + steps s r st
  | .look false _ r, st => 1 + steps s r { st with pos := st.pos - 1 }
  | .rep mn mx _ r, st =>
      loopS (fun st' => ends s r st') (fun st' => steps s r st') (s.size + 2 - st.pos) mn mx st
  | _, _ => 1

/-- bound on the number of outcomes on a text of length `n` (`ends_len`).  A repeat whose body has at most one outcome has at
    most one outcome per unit of fuel (`loopE_len`), and `m` gives it the fuel `s.size + 2 - st.pos ≤ n + 2`. -/
def endsBound (n : Nat) : Re → Nat
  | .seq a b => endsBound n a * endsBound n b
  | .alt a b => endsBound n a + endsBound n b
  | .group _ r => endsBound n r
  | .rep _ _ _ _ => n + 2
  | _ => 1

/-- bound on `steps` on a text of length `n` (`steps_le`).  The repeat clause is `loopS_le`, `fuel * (2 + c) + 1`, at the fuel
    `s.size + 2 - st.pos ≤ n + 2` with `c` the bound for the body. -/
def stepsBound (n : Nat) : Re → Nat
  | .seq a b => 1 + stepsBound n a + endsBound n a * stepsBound n b
  | .alt a b => 1 + stepsBound n a + stepsBound n b
  | .group _ r => 1 + stepsBound n r
  | .look _ _ r => 1 + stepsBound n r
  | .rep _ _ _ r => (n + 2) * (2 + stepsBound n r) + 1
  | _ => 1

theorem look_len (s : Array Nat) (ahead neg : Bool) (r : Re) (st : St) :
    (ends s (.look ahead neg r) st).length ≤ 1 := by
  cases ahead <;> simp only [ends] <;> split <;> split <;> simp

theorem ends_len (s : Array Nat) : ∀ r, Safe r = true → ∀ st, (ends s r st).length ≤ endsBound s.size r := by
  intro r
  induction r with
  | eps => intro _ st; simp [ends, endsBound]
  | lit _ | notLit _ | any _ | cls _ _ => intro _ st; exact atom_len_le_one s _ rfl st
  | backref _ | bol _ | eol _ | eos => intro _ st; exact Single_sound s _ rfl st
  | look a n r _ => intro _ st; exact look_len s a n r st
  | seq a b iha ihb =>
    intro h st
    simp only [Safe, Bool.and_eq_true] at h
    simp only [ends, endsBound]
    calc _ ≤ (ends s a st).length * endsBound s.size b := Txt.flatMap_length_le _ _ _ (fun x _ => ihb h.2 x)
      _ ≤ endsBound s.size a * endsBound s.size b := Nat.mul_le_mul_right _ (iha h.1 st)
  | alt a b iha ihb =>
    intro h st
    simp only [Safe, Bool.and_eq_true] at h
    simp only [ends, endsBound, List.length_append]
    exact Nat.add_le_add (iha h.1 st) (ihb h.2 st)
  | group i r ih =>
    intro h st
    simp only [Safe] at h
    simpa [ends, endsBound] using ih h st
  | rep mn mx g r _ =>
    intro h st
    simp only [Safe, Bool.and_eq_true] at h
    simp only [ends, endsBound]
    have := loopE_len (fun st' => ends s r st') g (fun st' => Single_sound s r h.1 st')
      (s.size + 2 - st.pos) mn mx st
    omega

theorem loopS_le (bodyE : St → List St) (bodyS : St → Nat) (c : Nat)
    (h1 : ∀ st, (bodyE st).length ≤ 1) (hs : ∀ st, bodyS st ≤ c) :
    ∀ fuel mn mx st, loopS bodyE bodyS fuel mn mx st ≤ fuel * (2 + c) + 1 := by
  intro fuel
  induction fuel with
  | zero => intro mn mx st; simp [loopS]
  | succ fuel ih =>
    intro mn mx st
    simp only [loopS]
    split
    · simp only [Nat.succ_mul]; omega
    · have hsum := Txt.sum_map_le (bodyE st) (fun st' =>
          if st'.pos ≤ st.pos then 1 else loopS bodyE bodyS fuel (mn - 1) (mx.map (· - 1)) st')
        (fuel * (2 + c) + 1)
        (fun x _ => by
          split
          · omega
          · exact ih _ _ _)
      have hl := h1 st
      have hb := hs st
      have : (bodyE st).length * (fuel * (2 + c) + 1) ≤ 1 * (fuel * (2 + c) + 1) :=
        Nat.mul_le_mul_right _ hl
      simp only [Nat.succ_mul]
      omega

theorem steps_le (s : Array Nat) : ∀ r, Safe r = true → ∀ st, steps s r st ≤ stepsBound s.size r := by
  intro r
  induction r with
  | eps | lit _ | notLit _ | any _ | cls _ _ | backref _ | bol _ | eol _ | eos =>
    intro _ st; simp [steps, stepsBound]
  | look a n r ih =>
    intro h st
    simp only [Safe] at h
    cases a <;> simp only [steps, stepsBound] <;> have := ih h <;> simp only [Nat.add_le_add_iff_left] <;> exact this _
  | seq a b iha ihb =>
    intro h st
    simp only [Safe, Bool.and_eq_true] at h
    simp only [steps, stepsBound]
    have h1 := iha h.1 st
    have h2 := Txt.sum_map_le (ends s a st) (fun st' => steps s b st') (stepsBound s.size b) (fun x _ => ihb h.2 x)
    have h3 : (ends s a st).length * stepsBound s.size b ≤ endsBound s.size a * stepsBound s.size b :=
      Nat.mul_le_mul_right _ (ends_len s a h.1 st)
    omega
  | alt a b iha ihb =>
    intro h st
    simp only [Safe, Bool.and_eq_true] at h
    simp only [steps, stepsBound]
    have h1 := iha h.1 st
    have h2 := ihb h.2 st
    omega
  | group i r ih =>
    intro h st
    simp only [Safe] at h
    simp only [steps, stepsBound]
    have := ih h st
    omega
  | rep mn mx g r ih =>
    intro h st
    simp only [Safe, Bool.and_eq_true] at h
    simp only [steps, stepsBound]
    have := loopS_le (fun st' => ends s r st') (fun st' => steps s r st') (stepsBound s.size r)
      (fun st' => Single_sound s r h.1 st') (fun st' => ih h.2 st') (s.size + 2 - st.pos) mn mx st
    have hf : (s.size + 2 - st.pos) * (2 + stepsBound s.size r) ≤ (s.size + 2) * (2 + stepsBound s.size r) :=
      Nat.mul_le_mul_right _ (by omega)
    omega

/-- degree / constant of the bound on the number of outcomes: `endsBound n r ≤ cB r * (n+2)^(dB r)` -/
def dB : Re → Nat
  | .seq a b => dB a + dB b
  | .alt a b => max (dB a) (dB b)
  | .group _ r => dB r
  | .rep _ _ _ _ => 1
  | _ => 0

def cB : Re → Nat
  | .seq a b => cB a * cB b
  | .alt a b => cB a + cB b
  | .group _ r => cB r
  | _ => 1

/-- degree / constant of the bound on the search tree: `stepsBound n r ≤ cC r * (n+2)^(dC r)` -/
def dC : Re → Nat
  | .seq a b => max (dC a) (dB a + dC b)
  | .alt a b => max (dC a) (dC b)
  | .group _ r => dC r
  | .look _ _ r => dC r
  | .rep _ _ _ r => dC r + 1
  | _ => 0

def cC : Re → Nat
  | .seq a b => 1 + cC a + cB a * cC b
  | .alt a b => 1 + cC a + cC b
  | .group _ r => 1 + cC r
  | .look _ _ r => 1 + cC r
  | .rep _ _ _ r => cC r + 3
  | _ => 1

theorem le_cpow {b x c i j : Nat} (hb : 1 ≤ b) (hx : x ≤ c * b ^ i) (hij : i ≤ j) : x ≤ c * b ^ j :=
  Nat.le_trans hx (Nat.mul_le_mul_left _ (Nat.pow_le_pow_right hb hij))

theorem cpow_mul {b x y c1 c2 i j : Nat} (hx : x ≤ c1 * b ^ i) (hy : y ≤ c2 * b ^ j) :
    x * y ≤ (c1 * c2) * b ^ (i + j) := by
  have := Nat.mul_le_mul hx hy
  rw [Nat.pow_add]
  calc x * y ≤ c1 * b ^ i * (c2 * b ^ j) := this
    _ = c1 * c2 * (b ^ i * b ^ j) := by
      rw [Nat.mul_assoc, Nat.mul_assoc, Nat.mul_left_comm (b ^ i) c2]

theorem endsBound_le_cpow (n : Nat) : ∀ r, endsBound n r ≤ cB r * (n + 2) ^ dB r := by
  intro r
  have hb : 1 ≤ n + 2 := by omega
  induction r with
  | seq a b iha ihb => simp only [endsBound, cB, dB]; exact cpow_mul iha ihb
  | alt a b iha ihb =>
    simp only [endsBound, cB, dB]
    have h1 := le_cpow hb iha (Nat.le_max_left (dB a) (dB b))
    have h2 := le_cpow hb ihb (Nat.le_max_right (dB a) (dB b))
    rw [Nat.add_mul]
    omega
  | group i r ih => simpa [endsBound, cB, dB] using ih
  | rep mn mx g r _ => simp [endsBound, cB, dB]
  | _ => simp [endsBound, cB, dB]

theorem stepsBound_le_cpow (n : Nat) : ∀ r, stepsBound n r ≤ cC r * (n + 2) ^ dC r := by
  intro r
  have hb : 1 ≤ n + 2 := by omega
  induction r with
  | seq a b iha ihb =>
    simp only [stepsBound, cC, dC]
    have h0 : 1 ≤ (n + 2) ^ max (dC a) (dB a + dC b) := Nat.one_le_pow _ _ (by omega)
    have h1 := le_cpow hb iha (Nat.le_max_left (dC a) (dB a + dC b))
    have h2 := le_cpow hb (cpow_mul (endsBound_le_cpow n a) ihb) (Nat.le_max_right (dC a) (dB a + dC b))
    rw [Nat.add_mul, Nat.add_mul, Nat.one_mul]
    omega
  | alt a b iha ihb =>
    simp only [stepsBound, cC, dC]
    have h0 : 1 ≤ (n + 2) ^ max (dC a) (dC b) := Nat.one_le_pow _ _ (by omega)
    have h1 := le_cpow hb iha (Nat.le_max_left (dC a) (dC b))
    have h2 := le_cpow hb ihb (Nat.le_max_right (dC a) (dC b))
    rw [Nat.add_mul, Nat.add_mul, Nat.one_mul]
    omega
  | group i r ih =>
    simp only [stepsBound, cC, dC]
    have h0 : 1 ≤ (n + 2) ^ dC r := Nat.one_le_pow _ _ (by omega)
    rw [Nat.add_mul, Nat.one_mul]
    omega
  | look a ng r ih =>
    simp only [stepsBound, cC, dC]
    have h0 : 1 ≤ (n + 2) ^ dC r := Nat.one_le_pow _ _ (by omega)
    rw [Nat.add_mul, Nat.one_mul]
    omega
  | rep mn mx g r ih =>
    simp only [stepsBound, cC, dC]
    have h0 : 1 ≤ (n + 2) ^ dC r := Nat.one_le_pow _ _ (by omega)
    -- (n+2) * (2 + stepsBound) + 1 ≤ (n+2) * ((cC + 2) * p) + p*(n+2) = (cC + 3) * (p * (n+2))
    have h1 : 2 + stepsBound n r ≤ (cC r + 2) * (n + 2) ^ dC r := by
      rw [Nat.add_mul]; omega
    have h2 : (n + 2) * (2 + stepsBound n r) ≤ (n + 2) * ((cC r + 2) * (n + 2) ^ dC r) := Nat.mul_le_mul_left _ h1
    have h3 : 1 ≤ (n + 2) ^ dC r * (n + 2) := Nat.le_trans h0 (Nat.le_mul_of_pos_right _ (by omega))
    have e1 : (n + 2) * ((cC r + 2) * (n + 2) ^ dC r) = (cC r + 2) * ((n + 2) ^ dC r * (n + 2)) := by
      rw [Nat.mul_comm (n + 2), Nat.mul_assoc]
    rw [Nat.pow_succ]
    have e2 : (cC r + 3) * ((n + 2) ^ dC r * (n + 2)) =
        (cC r + 2) * ((n + 2) ^ dC r * (n + 2)) + (n + 2) ^ dC r * (n + 2) := by
      rw [show cC r + 3 = (cC r + 2) + 1 from rfl, Nat.add_mul, Nat.one_mul]
    omega
  | _ => simp [stepsBound, cC, dC]

/-- the complexity guard in one statement: for a `Safe` regex, one match attempt at any position of a
    text of length `n` explores a search tree of at most `cC r * (n+2)^(dC r)` nodes; constant and
    degree depend on the regex only -/
theorem steps_poly (s : Array Nat) (r : Re) (h : Safe r = true) (st : St) :
    steps s r st ≤ cC r * (s.size + 2) ^ dC r :=
  Nat.le_trans (steps_le s r h st) (stepsBound_le_cpow s.size r)

theorem ends_poly (s : Array Nat) (r : Re) (h : Safe r = true) (st : St) :
    (ends s r st).length ≤ cB r * (s.size + 2) ^ dB r :=
  Nat.le_trans (ends_len s r h st) (endsBound_le_cpow s.size r)

end C01P
