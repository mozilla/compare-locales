/-
C18 helper lemmas: the linter (`HistM.lintG`) and the arguments of `merge` (`HistM.mergeInputs`) commute
with every renaming of keys that is injective on the keys involved, mention no junk key, and therefore do not
depend on the state they are started in.
-/
import CLModel.History.Machine
import CLModel.Proofs.C18State
namespace C18M
open Hist HistM AR P

set_option linter.unusedSectionVars false

section nat
variable {κ κ' : Type} [BEq κ] [LawfulBEq κ] [BEq κ'] [LawfulBEq κ']

def maccMap (f : κ → κ') (a : MAcc κ) : MAcc κ' := (a.1.map f, a.2)

section inj
variable {f : κ → κ'} (hf : Function.Injective f)
include hf

theorem count_inj (l : List κ) (x : κ) : (l.map f).count (f x) = l.count x := by
  induction l with
  | nil => rfl
  | cons y t ih => simp only [List.map_cons, List.count_cons, ih, beq_inj hf]

theorem lintEnt_inj (lc : Nat → Nat × Nat) (ref cur : List (KEnt κ)) (e : KEnt κ) :
    lintEnt lc (ref.map (KEnt.mapKey f)) (cur.map (KEnt.mapKey f)) (KEnt.mapKey f e)
      = (lintEnt lc ref cur e).map (List.map (LMsg.mapKey f)) := by
  unfold lintEnt
  simp only [KEnt.mapKey, keys_map]
  rw [count_inj hf, keyedContains_eq, keyedContains_eq, contains_inj hf, lookup_inj hf]
  by_cases hj : e.junk = true
  · simp [hj, Except.map, LMsg.mapKey]
  · simp only [hj, Bool.false_eq_true, if_false]
    by_cases hc : (ref.map (·.key)).contains e.key = true
    · simp only [hc, if_true]
      cases lookup ref e.key with
      | none => rfl
      | some r =>
        simp only [Option.map_some, KEnt.mapKey, beq_inj hf]
        by_cases hq : (e.key == r.key && e.val == r.val) = true
        · simp only [hq, if_true, Except.map]
          congr 1
          by_cases hd : (cur.map (·.key)).count e.key > 1 <;>
            simp [hd, List.map_map, LMsg.mapKey, Function.comp_def]
        · simp only [hq, Bool.false_eq_true, if_false, Except.map]
          congr 1
          by_cases hd : (cur.map (·.key)).count e.key > 1 <;>
            simp [hd, List.map_map, LMsg.mapKey, Function.comp_def]
    · simp only [hc, Bool.false_eq_true, if_false, Except.map]
      congr 1
      by_cases hd : (cur.map (·.key)).count e.key > 1 <;>
        simp [hd, List.map_map, LMsg.mapKey, Function.comp_def]

theorem lintAll_inj (lc : Nat → Nat × Nat) (ref cur es : List (KEnt κ)) :
    lintAll lc (ref.map (KEnt.mapKey f)) (cur.map (KEnt.mapKey f)) (es.map (KEnt.mapKey f))
      = (lintAll lc ref cur es).map (List.map (LMsg.mapKey f)) := by
  induction es with
  | nil => rfl
  | cons e t ih =>
    simp only [List.map_cons, lintAll, lintEnt_inj hf, ih]
    cases lintEnt lc ref cur e with
    | error x => rfl
    | ok a => cases lintAll lc ref cur t <;> simp [Except.map]

theorem mergeStep_inj (ref l10n : List (KEnt κ)) (acc : MAcc κ) (act : Label × κ) :
    mergeStep (ref.map (KEnt.mapKey f)) (l10n.map (KEnt.mapKey f)) (maccMap f acc) (act.1, f act.2)
      = (mergeStep ref l10n acc act).map (maccMap f) := by
  obtain ⟨lab, k⟩ := act
  unfold mergeStep
  simp only [lookup_inj hf]
  cases lab
  · rfl
  · cases lookup ref k with
    | none => rfl
    | some r =>
      simp only [Option.map_some, KEnt.mapKey]
      split <;> simp [maccMap, Except.map]
  · cases lookup l10n k with
    | none => rfl
    | some l =>
      simp only [Option.map_some, KEnt.mapKey]
      split <;> simp [maccMap, Except.map]

theorem allsOf_inj (ref : List (KEnt κ)) (alls : List (List Nat)) (xs : List κ) :
    allsOf (ref.map (KEnt.mapKey f)) alls (xs.map f) = allsOf ref alls xs := by
  induction xs with
  | nil => rfl
  | cons x t ih => simp only [List.map_cons, allsOf, allOf, keys_map, keyedIndex_inj hf, ih]

theorem mergeInputs_inj (ref l10n : List (KEnt κ)) (alls : List (List Nat)) :
    mergeInputs (ref.map (KEnt.mapKey f)) (l10n.map (KEnt.mapKey f)) alls = mergeInputs ref l10n alls := by
  unfold mergeInputs
  rw [keys_map, keys_map, addRemove_inj hf,
    show (([], []) : MAcc κ') = maccMap f ([], []) from rfl,
    foldlM_map (maccMap f) (fun p : Label × κ => (p.1, f p.2)) _ _ (mergeStep_inj hf ref l10n)]
  cases (addRemove (ref.map (·.key)) (l10n.map (·.key))).foldlM (mergeStep ref l10n) ([], []) with
  | error x => rfl
  | ok acc => simp only [Except.map, maccMap, allsOf_inj hf]

end inj

theorem lintG_nat {f : κ → κ'} {ks : List κ} (hf : InjOn f ks) (lc : Nat → Nat × Nat) (ref cur : List (KEnt κ))
    (href : ∀ e ∈ ref, e.key ∈ ks) (hcur : ∀ e ∈ cur, e.key ∈ ks) :
    lintG lc (ref.map (KEnt.mapKey f)) (cur.map (KEnt.mapKey f))
      = (lintG lc ref cur).map (List.map (LMsg.mapKey f)) := by
  obtain ⟨ref', rfl⟩ := lift_keys ref href
  obtain ⟨cur', rfl⟩ := lift_keys cur hcur
  unfold lintG
  rw [lintAll_inj (fun _ _ => Subtype.ext), List.map_map, List.map_map]
  exact (lintAll_inj hf.comp_val lc ref' cur' cur').trans (by
    cases lintAll lc ref' cur' cur' with
    | error e => rfl
    | ok a =>
      refine congrArg Except.ok ?_
      rw [List.map_map]
      exact List.map_congr_left fun m _ => by cases m <;> rfl)

theorem mergeInputs_nat {f : κ → κ'} {ks : List κ} (hf : InjOn f ks) (ref l10n : List (KEnt κ))
    (alls : List (List Nat)) (href : ∀ e ∈ ref, e.key ∈ ks) (hl10n : ∀ e ∈ l10n, e.key ∈ ks) :
    mergeInputs (ref.map (KEnt.mapKey f)) (l10n.map (KEnt.mapKey f)) alls = mergeInputs ref l10n alls := by
  obtain ⟨ref', rfl⟩ := lift_keys ref href
  obtain ⟨l10n', rfl⟩ := lift_keys l10n hl10n
  rw [mergeInputs_inj (fun _ _ => Subtype.ext), List.map_map, List.map_map]
  exact mergeInputs_inj hf.comp_val ref' l10n' alls

end nat

def LMsg.keys {κ : Type} : LMsg κ → List κ
  | .junk .. => [] | .dup k _ => [k] | .changed k _ => [k] | .moch k _ => [k]

def RealL (msgs : List (LMsg Key)) : Prop := ∀ m ∈ msgs, ∀ k ∈ LMsg.keys m, k.isJunk = false

theorem RealL.append {a b : List (LMsg Key)} (ha : RealL a) (hb : RealL b) : RealL (a ++ b) := by
  intro m hm
  rw [List.mem_append] at hm
  rcases hm with hm | hm
  · exact ha m hm
  · exact hb m hm

theorem lintEnt_real (lc : Nat → Nat × Nat) (ref cur : List (KEnt Key)) (e : KEnt Key) (hw : e.junk = e.key.isJunk)
    (msgs : List (LMsg Key)) (h : lintEnt lc ref cur e = .ok msgs) : RealL msgs := by
  unfold lintEnt at h
  by_cases hj : e.junk = true
  · simp only [hj, if_true] at h
    injection h with h; subst h
    intro m hm; simp at hm; subst hm; simp [LMsg.keys]
  · have hreal : e.key.isJunk = false := by rw [← hw]; simpa using hj
    have hdup : RealL (if (cur.map (·.key)).count e.key > 1 then [LMsg.dup e.key (lc e.s)] else []) := by
      intro m hm
      split at hm
      · simp at hm; subst hm; intro k hk; simp [LMsg.keys] at hk; subst hk; exact hreal
      · simp at hm
    have hch : RealL (e.moch.map (fun q => LMsg.moch e.key (lc q))) := by
      intro m hm
      rw [List.mem_map] at hm
      obtain ⟨q, _, rfl⟩ := hm
      intro k hk; simp [LMsg.keys] at hk; subst hk; exact hreal
    have hcg : RealL [LMsg.changed e.key (lc e.s)] := by
      intro m hm; simp at hm; subst hm; intro k hk; simp [LMsg.keys] at hk; subst hk; exact hreal
    simp only [hj, Bool.false_eq_true, if_false] at h
    split at h
    · split at h
      · simp at h
      · split at h <;> (injection h with h; subst h)
        · exact hdup.append hch
        · exact (hdup.append hcg).append hch
    · injection h with h; subst h
      exact hdup.append hch

theorem lintAll_real (lc : Nat → Nat × Nat) (ref cur : List (KEnt Key)) :
    ∀ (es : List (KEnt Key)), KWf es → ∀ msgs, lintAll lc ref cur es = .ok msgs → RealL msgs := by
  intro es
  induction es with
  | nil => intro _ msgs h; simp [lintAll] at h; subst h; intro m hm; simp at hm
  | cons e t ih =>
    intro hw msgs h
    simp only [lintAll] at h
    cases h1 : lintEnt lc ref cur e with
    | error x => rw [h1] at h; simp at h
    | ok a =>
      rw [h1] at h
      cases h2 : lintAll lc ref cur t with
      | error x => rw [h2] at h; simp at h
      | ok b =>
        rw [h2] at h
        injection h with h; subst h
        exact (lintEnt_real lc ref cur e (hw e List.mem_cons_self) a h1).append
          (ih (fun x hx => hw x (List.mem_cons_of_mem _ hx)) b h2)

theorem lmapKey_real (d : Nat) (msgs : List (LMsg Key)) (h : RealL msgs) :
    msgs.map (LMsg.mapKey (fun k => (k.shift d).render)) = msgs.map (LMsg.mapKey Key.render) := by
  apply List.map_congr_left
  intro m hm
  have hk := h m hm
  cases m <;> simp [LMsg.mapKey, LMsg.keys] at hk ⊢
  all_goals exact Key.render_shift_of_real d hk

theorem lint_ref_indep (g : G) (f : Fmt) (ref cur : Array Nat) (h : NoJunkLikeKeys f ref cur) :
    lintStr f (some ref) cur (some (doParse g f ref).2.2) (doParse (doParse g f ref).1 f cur).2.2
      = (lintG (linecolOf (lineEnds cur)) (refK f ref) (l10nK f ref cur)).map (List.map (LMsg.mapKey Key.render)) := by
  unfold lintStr
  simp only
  rw [kents_doParse, kents_doParse2, mapKey_comp, mapKey_comp]
  obtain ⟨_, _, _⟩ := refK_facts f ref
  obtain ⟨wl, _, _⟩ := l10nK_facts f ref cur
  rw [lintG_nat (renderShift_injOn f ref cur h g.junkid) (linecolOf (lineEnds cur)) (refK f ref) (l10nK f ref cur)
    (fun e he => List.mem_append_left _ (List.mem_map_of_mem he))
    (fun e he => List.mem_append_right _ (List.mem_map_of_mem he))]
  cases hc : lintG (linecolOf (lineEnds cur)) (refK f ref) (l10nK f ref cur) with
  | error e => rfl
  | ok msgs =>
    have hreal := lintAll_real _ _ _ _ wl msgs hc
    simp only [Except.map]
    rw [lmapKey_real _ _ hreal]

theorem lint_noref_indep (g : G) (f : Fmt) (cur : Array Nat) (h : NoJunkLike1 f cur) :
    lintStr f none cur none (doParse g f cur).2.2
      = (lintG (linecolOf (lineEnds cur)) [] (refK f cur)).map (List.map (LMsg.mapKey Key.render)) := by
  unfold lintStr
  simp only
  rw [kents_doParse, mapKey_comp]
  obtain ⟨wr, _, _⟩ := refK_facts f cur
  have hn := lintG_nat (renderShift_injOn_of ((refK f cur).map (fun x : KEnt Key => x.key)) h g.junkid) (linecolOf (lineEnds cur)) []
    (refK f cur) (by simp) (fun e he => List.mem_map_of_mem he)
  simp only [List.map_nil] at hn
  rw [hn]
  cases hc : lintG (linecolOf (lineEnds cur)) [] (refK f cur) with
  | error e => rfl
  | ok msgs =>
    have hreal := lintAll_real _ _ _ _ wr msgs hc
    simp only [Except.map]
    rw [lmapKey_real _ _ hreal]

theorem allsK_shift (c : Array Nat) (d a : Nat) (ents : List Ent) :
    allsK c (ents.map (Ent.shift d a)) = allsK c ents := by
  unfold allsK
  rw [List.filter_map, List.map_map]
  apply List.map_congr_left
  intro e _
  rfl

theorem merge_indep (g : G) (f : Fmt) (ref l10n : Array Nat) (h : NoJunkLikeKeys f ref l10n) :
    mergeStr f ref l10n (doParse g f ref).2.2 (doParse (doParse g f ref).1 f l10n).2.2
      = mergeInputs (refK f ref) (l10nK f ref l10n) (allsK ref (ents0 f ref)) := by
  unfold mergeStr
  rw [kents_doParse, kents_doParse2, mapKey_comp, mapKey_comp, doParse_ents, allsK_shift]
  exact mergeInputs_nat (renderShift_injOn f ref l10n h g.junkid) (refK f ref) (l10nK f ref l10n) _
    (fun e he => List.mem_append_left _ (List.mem_map_of_mem he))
    (fun e he => List.mem_append_right _ (List.mem_map_of_mem he))

end C18M
