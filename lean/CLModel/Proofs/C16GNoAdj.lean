/-
After the white-space folding reduce (`merge_two.prune`, `prune_whitespace`) no two
white-space entries are adjacent.
-/
import CLModel.Proofs.C16Fold
namespace C16G
open C16L

section
variable {γ : Type}

def NoAdj (w : γ → Bool) (l : List γ) : Prop := ∀ a b, [a, b] <:+: l → ¬ (w a = true ∧ w b = true)

theorem infix2_cons (a b x : γ) (l : List γ) :
    [a, b] <:+: x :: l ↔ (a = x ∧ l.head? = some b) ∨ [a, b] <:+: l := by
  rw [List.infix_cons_iff]
  constructor
  · rintro (h | h)
    · left
      obtain ⟨t, ht⟩ := h
      simp only [List.cons_append, List.nil_append, List.cons.injEq] at ht
      obtain ⟨rfl, rfl⟩ := ht
      exact ⟨rfl, rfl⟩
    · exact .inr h
  · rintro (⟨rfl, h⟩ | h)
    · left
      cases l with
      | nil => simp at h
      | cons y t =>
        simp only [List.head?_cons, Option.some.injEq] at h
        subst h
        exact ⟨t, rfl⟩
    · exact .inr h

theorem noAdj_nil (w : γ → Bool) : NoAdj w [] := by
  intro a b h
  simp at h

theorem noAdj_cons (w : γ → Bool) (x : γ) (l : List γ) :
    NoAdj w (x :: l) ↔ (∀ y, l.head? = some y → ¬ (w x = true ∧ w y = true)) ∧ NoAdj w l := by
  constructor
  · intro h
    refine ⟨fun y hy => h x y ((infix2_cons _ _ _ _).2 (.inl ⟨rfl, hy⟩)), ?_⟩
    intro a b hab
    exact h a b ((infix2_cons _ _ _ _).2 (.inr hab))
  · rintro ⟨h1, h2⟩ a b hab
    rcases (infix2_cons _ _ _ _).1 hab with ⟨rfl, hb⟩ | hab
    · exact h1 b hb
    · exact h2 a b hab

theorem noAdj_head {w : γ → Bool} {a b : γ} {l : List γ} (h : NoAdj w (a :: b :: l)) : ¬ (w a = true ∧ w b = true) :=
  ((noAdj_cons w a _).1 h).1 b rfl

theorem noAdj_tail {w : γ → Bool} {a : γ} {l : List γ} (h : NoAdj w (a :: l)) : NoAdj w l :=
  ((noAdj_cons w a l).1 h).2

theorem noAdj_map {δ : Type} (w : δ → Bool) (f : γ → δ) : ∀ l : List γ, NoAdj w (l.map f) ↔ NoAdj (fun x => w (f x)) l
  | [] => ⟨fun _ => noAdj_nil _, fun _ => noAdj_nil _⟩
  | x :: l => by
    rw [List.map_cons, noAdj_cons, noAdj_cons, noAdj_map w f l]
    refine and_congr ?_ Iff.rfl
    cases l with
    | nil => simp
    | cons y l => simp

theorem noAdj_all2 {α β : Type} {R : α → β → Prop} {w : α → Bool} {w' : β → Bool} {a : List α} {b : List β} (h : Txt.All2 R a b)
    (hR : ∀ x y, R x y → w x = w' y) (hb : NoAdj w' b) : NoAdj w a := by
  induction h with
  | nil => exact noAdj_nil w
  | @cons x y as bs hxy hrest ih =>
    refine (noAdj_cons w x as).2 ⟨?_, ih (noAdj_tail hb)⟩
    cases hrest with
    | nil => intro z hz; cases hz
    | @cons x' y' _ _ hxy' _ =>
      intro z hz
      cases hz
      rw [hR x y hxy, hR x' y' hxy']
      exact noAdj_head hb

theorem noAdj_fold (w : γ → Bool) (len : γ → Nat) (xs : List γ) :
    ∀ cur : Option γ, NoAdj w (fold w len cur xs) := by
  have hcur : ∀ (cur : Option γ) (x : γ) (l : List γ), w x = false → NoAdj w (x :: l) → NoAdj w (cur.toList ++ x :: l) := by
    intro cur x l hx h
    cases cur with
    | none => exact h
    | some b => exact (noAdj_cons w b _).2 ⟨fun y hy hb => (by cases hy; rw [hx] at hb; cases hb.2), h⟩
  induction xs with
  | nil =>
    intro cur
    rw [fold_nil]
    cases cur with
    | none => exact noAdj_nil w
    | some b => exact (noAdj_cons w b []).2 ⟨fun y hy => (by cases hy), noAdj_nil w⟩
  | cons x xs ih =>
    intro cur
    by_cases hx : w x = true
    · rw [fold_ws w len cur x xs hx]; exact ih _
    · have hx' : w x = false := by simpa using hx
      rw [fold_nws w len cur x xs hx']
      exact hcur cur x _ hx' ((noAdj_cons w x _).2 ⟨fun y _ hb => (by rw [hx'] at hb; cases hb.1), ih none⟩)

end

end C16G
