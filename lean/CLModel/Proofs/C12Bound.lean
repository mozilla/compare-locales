/- The engine on a sequence of items; which captures a successful match has recorded (every group of the sequence, on top
   of the old ones); dictionary lookups in what `match` returns. -/
import CLModel.Proofs.C12Prefix
import CLModel.Proofs.C12Star
namespace PM
open Rx

theorem m_seqOf_cons (s : Array Nat) (x : Re) (rest : List Re) (st : St) (k : K) :
    m s (seqOf (x :: rest)) st k = m s x st (fun st' => m s (seqOf rest) st' k) := by
  cases rest with
  | nil => simp [seqOf, m]
  | cons y r => simp [seqOf, m]

theorem m_seqOf_append (s : Array Nat) : ∀ (a b : List Re) (st : St) (k : K),
    m s (seqOf (a ++ b)) st k = m s (seqOf a) st (fun st' => m s (seqOf b) st' k)
  | [], b, st, k => by simp [seqOf, m]
  | x :: a, b, st, k => by
    rw [List.cons_append, m_seqOf_cons, m_seqOf_cons]
    congr 1
    funext st'
    exact m_seqOf_append s a b st' k

theorem TextAt.tail {s : Array Nat} {p : Nat} {c : Nat} {t : Text} (h : TextAt s p (c :: t)) :
    s[p]? = some c ∧ TextAt s (p + 1) t := Txt.at_cons.mp h

theorem TextAt.split {s : Array Nat} {p : Nat} {a b : Text} (h : TextAt s p (a ++ b)) :
    TextAt s p a ∧ TextAt s (p + a.length) b := Txt.at_append.mp h

theorem _root_.Rx.BSem.new_caps {s : Array Nat} {r : Re} {st st' : St} (h : BSem s r st st') :
    ∃ new, st'.caps = new ++ st.caps ∧ ∀ e ∈ new, e.1 ∈ gidx r := by
  induction h with
  | seq _ _ iha ihb =>
    obtain ⟨n1, h1, g1⟩ := iha
    obtain ⟨n2, h2, g2⟩ := ihb
    refine ⟨n2 ++ n1, by rw [h2, h1, List.append_assoc], ?_⟩
    intro e he
    rw [gidx_seq]
    rcases List.mem_append.mp he with he | he
    · exact List.mem_append.mpr (Or.inr (g2 e he))
    · exact List.mem_append.mpr (Or.inl (g1 e he))
  | repCons _ _ iha ihb =>
    obtain ⟨n1, h1, g1⟩ := iha
    obtain ⟨n2, h2, g2⟩ := ihb
    refine ⟨n2 ++ n1, by rw [h2, h1, List.append_assoc], ?_⟩
    intro e he
    rw [gidx_rep] at g2 ⊢
    rcases List.mem_append.mp he with he | he
    · exact g2 e he
    · exact g1 e he
  | altL _ ih =>
    obtain ⟨n1, h1, g1⟩ := ih
    exact ⟨n1, h1, fun e he => by rw [gidx_alt]; exact List.mem_append.mpr (Or.inl (g1 e he))⟩
  | altR _ ih =>
    obtain ⟨n1, h1, g1⟩ := ih
    exact ⟨n1, h1, fun e he => by rw [gidx_alt]; exact List.mem_append.mpr (Or.inr (g1 e he))⟩
  | @group i r st st' _ ih =>
    obtain ⟨n1, h1, g1⟩ := ih
    refine ⟨(i, st.pos, st'.pos) :: n1, by simp [h1], ?_⟩
    intro e he
    rw [gidx_group]
    rcases List.mem_cons.mp he with rfl | he
    · simp
    · exact List.mem_cons_of_mem _ (g1 e he)
  | lookPos _ ih =>
    obtain ⟨n1, h1, g1⟩ := ih
    exact ⟨n1, h1, fun e he => by rw [gidx_look]; exact g1 e he⟩
  | _ => exact ⟨[], rfl, fun e he => by cases he⟩

theorem SemL.new_caps {s : Array Nat} {l : List Re} {st st' : St} (h : SemL s l st st') :
    ∃ new, st'.caps = new ++ st.caps ∧ ∀ e ∈ new, e.1 ∈ l.flatMap gidx := by
  induction h with
  | nil => exact ⟨[], rfl, fun e he => by cases he⟩
  | cons hx _ ih =>
    obtain ⟨n1, h1, g1⟩ := hx.new_caps
    obtain ⟨n2, h2, g2⟩ := ih
    refine ⟨n2 ++ n1, by rw [h2, h1, List.append_assoc], ?_⟩
    intro e he
    simp only [List.flatMap_cons]
    rcases List.mem_append.mp he with he | he
    · exact List.mem_append.mpr (Or.inr (g2 e he))
    · exact List.mem_append.mpr (Or.inl (g1 e he))

theorem gidx_seqOf (l : List Re) : gidx (seqOf l) = l.flatMap gidx := by
  unfold gidx
  rw [groups_seqOf, List.map_flatMap]

/-- what follows the items `a` matters only in the states `a` can leave: inside the subject, with new captures of groups
    of `a` only -/
theorem m_seqOf_congr_tail {s : Array Nat} (a : List Re) {r1 r2 : List Re} {st : St} {k : K} (hpos : st.pos ≤ s.size)
    (h : ∀ st', st'.pos ≤ s.size → (∃ new, st'.caps = new ++ st.caps ∧ ∀ e ∈ new, e.1 ∈ a.flatMap gidx) →
      m s (seqOf r1) st' k = m s (seqOf r2) st' k) :
    m s (seqOf (a ++ r1)) st k = m s (seqOf (a ++ r2)) st k := by
  rw [m_seqOf_append, m_seqOf_append]
  exact m_congr fun st' hs => h st' (hs.pos_bound hpos) (gidx_seqOf a ▸ hs.new_caps)

theorem SemL.group_cap {s : Array Nat} {l : List Re} {st st' : St} (h : SemL s l st st') {i : Nat} {b : Re}
    (hm : Re.group i b ∈ l) : ∃ a' b', (i, a', b') ∈ st'.caps := by
  induction h with
  | nil => cases hm
  | @cons r rs st st1 st2 hx hr ih =>
    simp only [List.mem_cons] at hm
    rcases hm with rfl | hm
    · cases hx with
      | @group _ _ _ stg hg =>
        obtain ⟨n, hn, _⟩ := hr.new_caps
        exact ⟨st.pos, stg.pos, by rw [hn]; simp⟩
    · exact ih hm

theorem capOf_of_mem {caps : List (Nat × Nat × Nat)} {i a b : Nat} (h : (i, a, b) ∈ caps) :
    ∃ a' b', capOf caps i = some (a', b') := by
  unfold capOf
  cases hf : caps.find? (·.1 == i) with
  | some e => obtain ⟨j, a', b'⟩ := e; exact ⟨a', b', rfl⟩
  | none =>
    have := List.find?_eq_none.mp hf (i, a, b) h
    simp at this

theorem slice_textAt {s : Array Nat} {p : Nat} {t : Text} (h : TextAt s p t) : slice s p (p + t.length) = t :=
  Txt.extract_at h

theorem lookup_map_mem {β} (f : Text → β) (k : Text) (names : List Text) (h : k ∈ names) :
    (names.map (fun nm => (nm, f nm))).lookup k = some (f k) :=
  (lookup_map_graph f k names).trans (if_pos h)

theorem lookup_append_left {β} (k : Text) {v : β} (l r : List (Text × β))
    (h : l.lookup k = some v) : (l ++ r).lookup k = some v := by
  rw [List.lookup_append, h]; rfl

theorem bound_capture {m : Matcher} {path : Text} {re : Re} {names : List Text} {st : St} {name : Text} {v : Val} {t : Text}
    (henv : EnvOK m.env) (hre : m.regexOf = .ok (re, names)) (hst : matchAt path.toArray re 0 = some st)
    (hn : Node.var name false ∈ m.pattern.nodes) (hl : m.env.lookup name = some v)
    (ht : expandVal (fuelFor m.env) v (derase m.env name) true = .ok t) :
    groupText path.toArray st (encName name) = some t := by
  obtain ⟨items, hrx, hreq, _⟩ := regexOf_inv hre
  obtain ⟨root, citems, _, hch, hitems⟩ := rxPat_inv hrx
  obtain ⟨a, na, hnode, hsub, hnames⟩ := rxChildren_mem hch hn
  simp only [rxNode, hl, Bool.false_eq_true, if_false, bind, Except.bind] at hnode
  split at hnode
  · cases hnode
  · rename_i w hw
    obtain ⟨body, ns⟩ := w
    simp only [pure, Except.pure, Except.ok.injEq, Prod.mk.injEq] at hnode
    obtain ⟨rfl, rfl⟩ := hnode
    have hex : Exact body t := exact_val _ _ v _ t body ns (henv.lookup hl) (henv.derase name) ht hw
    have hgi : Re.group (encName name) (seqOf body) ∈ items ++ [Gen.Pat.matcher_frag_anchor] := by
      rw [hitems]; simp [hsub _ (List.mem_singleton.mpr rfl)]
    have hg : (encName name, seqOf body) ∈ groups re := by
      rw [hreq, groups_seqOf]
      exact List.mem_flatMap.mpr ⟨_, hgi, by simp [groups]⟩
    have hsem := matchAt_sem hst
    rw [hreq] at hsem
    obtain ⟨a', b', hmem⟩ := (sem_seqOf _ hsem).group_cap hgi
    obtain ⟨a'', b'', hcap⟩ := capOf_of_mem hmem
    obtain ⟨x, y, hxy, rfl, rfl⟩ := cap_of_group hre hst hg hcap
    have hl' := sem_seqOf body hxy
    obtain ⟨hta, mid, hmid, hnil⟩ := hex _ [] x y (by simpa using hl')
    cases hnil
    simp only [groupText, St.group, hcap, hmid]
    rw [slice_textAt hta]

end PM
