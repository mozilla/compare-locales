/- How far the computed matcher relation `PFM.menv ms` of Paths/ProjectFilesM.lean satisfies the `Matcher` contracts that the
   C13 theorems assume of an abstract `MEnv`: the prefix part of `PF.PrefixOK` for every table built from texts
   (`prefix_holds`), the literal part for fully bound patterns (`literal_expansion`), `PF.SubMatchesOn` inside a pattern
   class (`sub_holds`, `subMatchesOn_of_class`); rootedness stays a hypothesis (`Rooted`).  At the end: what a successful
   `newM` / `iterM` / `matchM` returned. -/
import CLModel.Paths.ProjectFilesM
import CLModel.Proofs.C13MEnc
import CLModel.Proofs.C13MMatcher
import CLModel.Proofs.C13MOn
import CLModel.Proofs.C12PrefixFull
import CLModel.Proofs.C12RSep
import CLModel.Proofs.C12BFill
namespace PFM
open PF PM

/-- the matcher table was built from configuration texts (`Matcher(pattern, env, root)`, `with_env`) and every matcher
    is in the supported class (`usable`): what `newM` checks of the table -/
def Built (specs : List MSpec) (ms : List Matcher) : Prop := buildAll specs = .ok ms ∧ ms.all usable = true

/-- every variable of the pattern is bound: `pattern.expand(env, raise_missing=True)` returns -/
def FullyBound (a : Matcher) : Prop :=
  ∃ t, expandPat (expandVal (fuelFor a.env)) a.pattern a.env true = .ok t

def fullyBound (a : Matcher) : Bool :=
  match expandPat (expandVal (fuelFor a.env)) a.pattern a.env true with
  | .ok _ => true
  | .error _ => false

theorem fullyBound_spec {a : Matcher} (h : fullyBound a = true) : FullyBound a := by
  unfold fullyBound at h
  split at h
  · rename_i t ht; exact ⟨t, ht⟩
  · cases h

/-- part (b) of `PrefixOK`; proved of no class of tables, it stays a hypothesis (decided per matcher in `tiny_rooted`) -/
def Rooted (ms : List Matcher) (m : MId) : Prop := 47 ∈ (menv ms).pfx m

/-- forced by `C13M.literal_unbound_witness`: the `isfile(prefix)` shortcut is wrong for a wildcard-free pattern with an
    unbound variable -/
def LiteralBound (ms : List Matcher) (m : MId) : Prop :=
  ∀ a, ms[m]? = some a → a.pattern.prefixLen = a.pattern.nodes.length → FullyBound a

/-- The pattern class for `sub`, per rule and tree: every reference FILE `q` that the rule's reference matcher `a`
    matches is the pattern of `a` filled with wildcard values `vs` such that both `a` and the rule's l10n matcher `b`
    are in the class of `C11.sub_roundtrip_star_partial` for these values (`C11R.Fillable`: top-level literals, `*`,
    `**/`, final `**`, first occurrences of fully bound variables; well-separated filling; …), `b`'s environment is
    `C11R.Expandable`, and every wildcard of `b` is a wildcard of `a`. -/
def SubClassOn (ms : List Matcher) (fs : FS) (r : Rule) : Prop :=
  ∀ rm a q d, r.reference = some rm → ms[rm]? = some a → q ∈ fs.files → a.match q = .ok (some d) →
    ∃ b vs namesa namesb rta rtb, ms[r.l10n]? = some b ∧
      C11R.Fillable vs a namesa rta ∧ C11R.Fillable vs b namesb rtb ∧ C11R.Expandable b ∧
      (∀ k, k ∈ b.pattern.nodes.filterMap C11R.wildNum → k ∈ a.pattern.nodes.filterMap C11R.wildNum) ∧
      q = rta ++ C11R.fillN vs a.env a.pattern.nodes

theorem build_shape {s : MSpec} {m : Matcher} (h : s.build = .ok m) : EnvOK' m.env ∧ RepOK m.pattern.nodes := by
  unfold MSpec.build at h
  split at h
  · cases h
  · rename_i m0 hm0
    split at h
    · simp only [Except.ok.injEq] at h
      subst h
      exact mkMatcher_shape hm0
    · exact withEnv_shape (mkMatcher_shape hm0) h

theorem buildAll_shape : ∀ {specs : List MSpec} {ms : List Matcher}, buildAll specs = .ok ms →
    ∀ a ∈ ms, EnvOK' a.env ∧ RepOK a.pattern.nodes
  | [], ms, h, a, ha => by
    simp only [buildAll, Except.ok.injEq] at h
    subst h; cases ha
  | s :: rest, ms, h, a, ha => by
    unfold buildAll at h
    split at h
    · cases h
    · rename_i m hm
      split at h
      · cases h
      · rename_i ms' hms'
        simp only [Except.ok.injEq] at h
        subst h
        simp only [List.mem_cons] at ha
        rcases ha with rfl | ha
        · exact build_shape hm
        · exact buildAll_shape hms' a ha

theorem Built.shape {specs : List MSpec} {ms : List Matcher} (h : Built specs ms) {m : MId} {a : Matcher}
    (ha : ms[m]? = some a) : EnvOK' a.env ∧ RepOK a.pattern.nodes :=
  buildAll_shape h.1 a (List.mem_of_getElem? ha)

theorem Built.usable {specs : List MSpec} {ms : List Matcher} (h : Built specs ms) {m : MId} {a : Matcher}
    (ha : ms[m]? = some a) : usable a = true :=
  List.all_eq_true.mp h.2 a (List.mem_of_getElem? ha)

theorem match_eq_core {m : Matcher} {re : Rx.Re} {names : List Text} (h : m.regexOf = .ok (re, names)) (path : Text) :
    m.match path = matchCore re names path := by
  simp only [Matcher.match, h, bind, Except.bind, matchCore]
  rfl

theorem prep_match (a : Matcher) (path : Text) : (prep a).matchP path = a.match path := by
  unfold Prep.matchP prep
  simp only
  cases h : a.regexOf with
  | error e => simp [Matcher.match, h, bind, Except.bind]
  | ok x =>
    obtain ⟨re, names⟩ := x
    simp only
    rw [match_eq_core h]

theorem prep_sub (a b : Matcher) (path : Text) : (prep a).subP (prep b) path = a.sub b path := by
  unfold Prep.subP
  rw [prep_match]
  unfold Matcher.sub
  simp only [bind, Except.bind, prep]
  cases a.match path with
  | error e => rfl
  | ok od =>
    cases od with
    | none => rfl
    | some d =>
      simp only
      cases expandTop b.pattern (subEnv d b.env) <;> rfl

/-- inside the supported class `match` cannot raise: the regular expression exists and has no `android_locale` group -/
theorem usable_match_ok {a : Matcher} (h : usable a = true) (path : Text) :
    a.match path = .ok none ∨ ∃ d, a.match path = .ok (some d) := by
  unfold usable Prep.usable prep at h
  simp only [Bool.and_eq_true] at h
  obtain ⟨_, h2⟩ := h
  cases hre : a.regexOf with
  | error e => simp [hre] at h2
  | ok x =>
    obtain ⟨re, names⟩ := x
    simp only [hre, Bool.not_eq_true'] at h2
    rw [match_eq_core hre]
    unfold matchCore
    simp only
    cases Rx.matchAt path.toArray re 0 with
    | none => left; rfl
    | some st =>
      right
      simp only
      have hno : (groupDict path.toArray st names).any (·.1 == androidName) = false := by
        rw [Bool.eq_false_iff, Ne, any_key_groupDict, ← List.contains_iff_mem, h2]
        exact Bool.false_ne_true
      simp only [hno, Bool.false_and, Bool.false_eq_true, if_false]
      exact ⟨_, rfl⟩

theorem usable_prefix_ok {a : Matcher} (h : usable a = true) : ∃ pre, a.prefix = .ok pre := by
  unfold usable Prep.usable prep at h
  simp only [Bool.and_eq_true] at h
  obtain ⟨h1, _⟩ := h
  cases hp : a.prefix with
  | error e => simp [hp] at h1
  | ok pre => exact ⟨pre, rfl⟩

theorem prep_get {ms : List Matcher} {m : MId} : (ms.map prep)[m]? = (ms[m]?).map prep := by simp

theorem pfx_eq {ms : List Matcher} {m : MId} {a : Matcher} {pre : Text} (ha : ms[m]? = some a)
    (hp : a.prefix = .ok pre) : (menv ms).pfx m = pre := by
  simp only [menv, menvP, pfxOf, prep_get, ha, Option.map_some, prep, hp]

theorem mtch_some {ms : List Matcher} {m : MId} {p : Path} {g : GId} (h : (menv ms).mtch m p = some g) :
    ∃ a d, ms[m]? = some a ∧ a.match p = .ok (some d) ∧ g = encode (m :: p) := by
  simp only [menv, menvP, prep_get] at h
  cases ha : ms[m]? with
  | none => simp [ha] at h
  | some a =>
    simp only [ha, Option.map_some, prep_match] at h
    cases hm : a.match p with
    | error e => simp [hm] at h
    | ok od =>
      cases od with
      | none => simp [hm] at h
      | some d =>
        simp only [hm, Option.some.injEq] at h
        exact ⟨a, d, rfl, hm, h.symm⟩

theorem mtch_of_match {ms : List Matcher} {m : MId} {a : Matcher} {p : Path} {d : GroupDict} (ha : ms[m]? = some a)
    (hm : a.match p = .ok (some d)) : (menv ms).mtch m p = some (encode (m :: p)) := by
  simp only [menv, menvP, prep_get, ha, Option.map_some, prep_match, hm]

theorem mtch_none_of_match {ms : List Matcher} {m : MId} {a : Matcher} {p : Path} (ha : ms[m]? = some a)
    (hm : a.match p = .ok none) : (menv ms).mtch m p = none := by
  simp only [menv, menvP, prep_get, ha, Option.map_some, prep_match, hm]

/-- `expand o g` for the id of the call `ms[m].match(p)` is `ms[m].sub(ms[o], p)` -/
theorem expand_eq {ms : List Matcher} {m o : MId} {a b : Matcher} {p t : Path} (ha : ms[m]? = some a)
    (hb : ms[o]? = some b) (hs : a.sub b p = .ok (some t)) : (menv ms).expand o (encode (m :: p)) = t := by
  simp only [menv, menvP, decode_encode, prep_get, ha, hb, Option.map_some, prep_sub, hs]

theorem prefix_holds {specs : List MSpec} {ms : List Matcher} (hb : Built specs ms) (m : MId) :
    ∀ p g, (menv ms).mtch m p = some g → (menv ms).pfx m <+: p := by
  intro p g h
  obtain ⟨a, d, ha, hm, _⟩ := mtch_some h
  obtain ⟨pre, hp⟩ := usable_prefix_ok (hb.usable ha)
  rw [pfx_eq ha hp]
  exact prefix_of_match (hb.shape ha).1 (hb.shape ha).2 hm hp

theorem literal_iff {ms : List Matcher} {m : MId} {a : Matcher} (ha : ms[m]? = some a) :
    (menv ms).literal m = true ↔ a.pattern.prefixLen = a.pattern.nodes.length := by
  simp only [menv, menvP, prep_get, ha, Option.map_some, prep, beq_iff_eq]

/-- a wildcard-free, fully bound pattern matches nothing but its own expansion, and that expansion is its `prefix` -/
theorem literal_expansion {specs : List MSpec} {ms : List Matcher} (hb : Built specs ms) {m : MId} {a : Matcher}
    (ha : ms[m]? = some a) (hlit : (menv ms).literal m = true) (hfull : FullyBound a) :
    ∃ t, expandPat (expandVal (fuelFor a.env)) a.pattern a.env true = .ok t ∧ a.prefix = .ok t ∧
      (menv ms).pfx m = t ∧ ∀ p g, (menv ms).mtch m p = some g → p = t := by
  obtain ⟨t, ht⟩ := hfull
  have hp := bound_literal_prefix (Nat.le_of_eq ((literal_iff ha).1 hlit).symm) ht
  refine ⟨t, ht, hp, pfx_eq ha hp, fun p g h => ?_⟩
  obtain ⟨a', d, ha', hm, _⟩ := mtch_some h
  rw [ha] at ha'
  cases ha'
  exact bound_matches_only_expansion (hb.shape ha).1 (hb.shape ha).2 ht hm

theorem literal_holds {specs : List MSpec} {ms : List Matcher} (hb : Built specs ms) {m : MId}
    (hfull : LiteralBound ms m) :
    (menv ms).literal m = true → ∀ p g, (menv ms).mtch m p = some g → p = (menv ms).pfx m := by
  intro hlit p g h
  obtain ⟨a, _, ha, _, _⟩ := mtch_some h
  obtain ⟨t, _, _, hpfx, honly⟩ := literal_expansion hb ha hlit (hfull a ha ((literal_iff ha).1 hlit))
  rw [hpfx]
  exact honly p g h

theorem prefixOK_holds {specs : List MSpec} {ms : List Matcher} (hb : Built specs ms) {m : MId}
    (hroot : Rooted ms m) (hfull : LiteralBound ms m) : PrefixOK (menv ms) m :=
  ⟨prefix_holds hb m, hroot, literal_holds hb hfull⟩

theorem sub_holds {ms : List Matcher} {l r : MId} {a b : Matcher} (hr : ms[r]? = some a) (hl : ms[l]? = some b)
    {vs : Nat → Text} {namesa namesb : List Text} {rta rtb : Text}
    (ha : C11R.Fillable vs a namesa rta) (hb : C11R.Fillable vs b namesb rtb) (heb : C11R.Expandable b)
    (hsame : ∀ k, k ∈ b.pattern.nodes.filterMap C11R.wildNum → k ∈ a.pattern.nodes.filterMap C11R.wildNum) :
    ∃ g, (menv ms).mtch r (rta ++ C11R.fillN vs a.env a.pattern.nodes) = some g ∧
      (menv ms).expand l g = rtb ++ C11R.fillN vs b.env b.pattern.nodes ∧
      ((menv ms).mtch l ((menv ms).expand l g)).isSome = true := by
  have ha' := C12B.fillableB_of_fillable ha
  have hb' := C12B.fillableB_of_fillable hb
  obtain ⟨ga, hma, _⟩ := C12B.match_fillB ha'
  obtain ⟨gb, hmb, _⟩ := C12B.match_fillB hb'
  have hsub := C12B.sub_fillB ha' hb' heb hsame
  refine ⟨_, mtch_of_match hr hma, expand_eq hr hl hsub, ?_⟩
  rw [expand_eq hr hl hsub, mtch_of_match hl hmb]
  rfl

theorem subMatchesOn_of_class {ms : List Matcher} {fs : FS} {r : Rule} (h : SubClassOn ms fs r) :
    SubMatchesOn (menv ms) fs r := by
  intro rm q g hrr hq hm
  obtain ⟨a, d, ha, hma, hg⟩ := mtch_some hm
  obtain ⟨b, vs, namesa, namesb, rta, rtb, hb, fa, fb, eb, hs, rfl⟩ := h rm a q d hrr ha hq hma
  obtain ⟨g', h1, _, h3⟩ := sub_holds ha hb fa fb eb hs
  rw [hm] at h1
  simp only [Option.some.injEq] at h1
  subst h1
  exact h3

theorem newM_ok {specs : List MSpec} {locale : Option Loc} {projects : List Config} {mb : Bool} {o : Obj}
    (h : newM specs locale projects mb = .ok o) :
    Built specs o.ms ∧ o.env = menv o.ms ∧ PF.new (menv o.ms) locale projects mb = .ok o.pf := by
  unfold newM at h
  split at h
  · cases h
  · rename_i ms hms
    split at h
    · cases h
    · rename_i hu
      split at h
      · cases h
      · simp only at h
        split at h
        · cases h
        · rename_i pf hpf
          simp only [Except.ok.injEq] at h
          subst h
          exact ⟨⟨hms, by simpa using hu⟩, rfl, hpf⟩

theorem iterM_ok {o : Obj} {fs : FS} {its : List Item} (h : o.iterM fs = .ok its) : its = o.pf.iter o.env fs := by
  unfold Obj.iterM at h
  simp only at h
  split at h
  · simp only [Except.ok.injEq] at h; exact h.symm
  · cases h

theorem matchM_ok {o : Obj} {p : Path} {r : Option Item} (h : o.matchM p = .ok r) : r = o.pf.matchPath o.env p := by
  unfold Obj.matchM at h
  split at h
  · rename_i hn; simp only [Except.ok.injEq] at h; rw [hn, h]
  · rename_i it hs
    split at h
    · simp only [Except.ok.injEq] at h; rw [hs, h]
    · cases h

end PFM
