/-
C17: `linecol` is the text-editor cursor (`cursor`), with its declarative
characterisations (newline count, line start, inverse, monotonicity).
-/
import CLModel.Parser.Position
import CLModel.Proofs.RxLemmas
import CLModel.Proofs.RxSearch
namespace Pos
open Rx

/-- offsets just after each newline of `l`, where `l` starts at absolute offset `i` -/
def lineEndsL : List Nat → Nat → List Nat
  | [], _ => []
  | c :: t, i => if c = 10 then (i + 1) :: lineEndsL t (i + 1) else lineEndsL t (i + 1)

theorem matchAt_nl (s : Array Nat) (p : Nat) :
    matchAt s (.lit 10) p = if s[p]? = some 10 then some ⟨p + 1, []⟩ else none := by
  simp [matchAt, m]

theorem nl_matches (s : Array Nat) : ∀ n pos, s.size - pos = n → pos ≤ s.size →
    ∃ ms, Matches s (.lit 10) pos ms ∧ ms.map (fun p => p.2.pos) = lineEndsL (s.toList.drop pos) pos := by
  intro n
  induction n with
  | zero =>
    intro pos hn hle
    obtain rfl : pos = s.size := by omega
    exact ⟨[], .nil fun q h1 h2 => by rw [show q = s.size by omega]; simp [matchAt_nl],
      by rw [List.drop_eq_nil_of_le (by simp)]; rfl⟩
  | succ n ih =>
    intro pos hn hle
    rcases Txt.drop_cases s pos with ⟨_, hge, _⟩ | ⟨c, h0, hlt, hd⟩
    · omega
    · obtain ⟨ms, hms, he⟩ := ih (pos + 1) (by omega) (by omega)
      rw [hd, lineEndsL]
      by_cases hc : c = 10
      · subst hc
        exact ⟨(pos, ⟨pos + 1, []⟩) :: ms,
          .cons (Nat.le_refl _) hle (fun q' h1 h2 => by omega) (by simp [matchAt_nl, h0]) hms,
          by rw [if_pos rfl, List.map_cons, he]⟩
      · exact ⟨ms, hms.step (by simp [matchAt_nl, h0, hc]), by rw [if_neg hc, he]⟩

/-- the generated pattern compiled inside `linecol` is the single character "\n";
    if the code's regex changes, this proof (and everything built on it) stops checking -/
theorem lineEnds_eq (s : Array Nat) : lineEnds s = lineEndsL s.toList 0 := by
  obtain ⟨ms, hms, he⟩ := nl_matches s s.size 0 rfl (Nat.zero_le _)
  rw [lineEnds, Gen.Pat.parser_base_Parser_Context_linecol_nl, (finditer_matches s (.lit 10) (Nat.le_refl 1)).det hms]
  exact he

/-- Read `p` characters starting at (line, col): a newline moves to column 1 of the next line, any
    other character one column to the right; beyond the end of the text columns keep counting. -/
def walkLC : List Nat → Nat → Nat → Nat → Nat × Nat
  | _, 0, line, col => (line, col)
  | [], p + 1, line, col => (line, col + (p + 1))
  | c :: t, p + 1, line, col => if c = 10 then walkLC t p (line + 1) 1 else walkLC t p line (col + 1)

/-- 1-based (line, column) of offset `p` of the text `s` -/
def cursor (s : Array Nat) (p : Nat) : Nat × Nat := walkLC s.toList p 1 1

def castLC (x : Nat × Nat) : Int × Int := ((x.1 : Int), (x.2 : Int))

def lexLt (a b : Nat × Nat) : Prop := a.1 < b.1 ∨ (a.1 = b.1 ∧ a.2 < b.2)
def lexLe (a b : Nat × Nat) : Prop := a = b ∨ lexLt a b

/-- start offset of line `n` (0-based) of `l`: 0 for the first line, else one past the `n`-th newline -/
def lineStartOfLine : List Nat → Nat → Option Nat
  | _, 0 => some 0
  | [], _ + 1 => none
  | c :: t, n + 1 => (if c = 10 then lineStartOfLine t n else lineStartOfLine t (n + 1)).map (· + 1)

/-- the offset a 1-based (line, column) pair stands for -/
def offsetOf (s : Array Nat) (lc : Nat × Nat) : Option Nat :=
  (lineStartOfLine s.toList (lc.1 - 1)).map (· + (lc.2 - 1))

/-- `b` is the start of the line that contains offset `p` -/
def IsLineStart (l : List Nat) (p b : Nat) : Prop :=
  b ≤ p ∧ (b = 0 ∨ l[b - 1]? = some 10) ∧ ∀ j, b ≤ j → j < p → l[j]? ≠ some 10

theorem lineEndsL_mem (l : List Nat) (i e : Nat) :
    e ∈ lineEndsL l i ↔ i < e ∧ l[e - 1 - i]? = some 10 := by
  induction l generalizing i with
  | nil => simp [lineEndsL]
  | cons c t ih =>
    -- the offset just after `c`, or an offset of `t`, which starts at `i + 1`
    have hr : (i < e ∧ (c :: t)[e - 1 - i]? = some 10) ↔
        (e = i + 1 ∧ c = 10) ∨ (i + 1 < e ∧ t[e - 1 - (i + 1)]? = some 10) := by
      by_cases he : e = i + 1
      · subst he; simp
      · by_cases hlt : i < e
        · rw [show e - 1 - i = (e - 1 - (i + 1)) + 1 by omega, List.getElem?_cons_succ]
          exact ⟨fun h => .inr ⟨by omega, h.2⟩, fun h => h.elim (fun h => absurd h.1 he) fun h => ⟨hlt, h.2⟩⟩
        · exact ⟨fun h => absurd h.1 hlt, fun h => h.elim (fun h => absurd h.1 he) fun h => absurd h.1 (by omega)⟩
    rw [hr, ← ih (i + 1), lineEndsL]
    split
    · simp [*]
    · simp [*]

theorem lineEndsL_gt (l : List Nat) (i : Nat) : ∀ e ∈ lineEndsL l i, i < e :=
  fun e h => ((lineEndsL_mem l i e).1 h).1

theorem lineEndsL_sorted (l : List Nat) (i : Nat) : (lineEndsL l i).Pairwise (· < ·) := by
  induction l generalizing i with
  | nil => simp [lineEndsL]
  | cons c t ih =>
    simp only [lineEndsL]
    split
    · refine List.pairwise_cons.mpr ⟨?_, ih (i + 1)⟩
      intro e he; exact lineEndsL_gt t (i + 1) e he
    · exact ih (i + 1)

theorem lineEnds_sorted (s : Array Nat) : (lineEnds s).Pairwise (· < ·) := by
  rw [lineEnds_eq]; exact lineEndsL_sorted _ _

def bisectN (a : List Nat) (x : Nat) : Nat := (a.filter (fun e => decide (e ≤ x))).length

theorem bisect_cast (a : List Nat) (x : Nat) : bisect a (x : Int) = bisectN a x := by
  unfold bisect bisectN
  congr 2
  funext e
  simp [Int.ofNat_le]

theorem bisect_neg (a : List Nat) (x : Int) (hx : x < 0) : bisect a x = 0 := by
  unfold bisect
  simp only [List.length_eq_zero_iff, List.filter_eq_nil_iff]
  intro e _
  simp; omega

theorem isLineStart_cons {t : List Nat} {p b : Nat} (c : Nat) (h : IsLineStart t p b) (hb : 0 < b) :
    IsLineStart (c :: t) (p + 1) (b + 1) := by
  obtain ⟨h1, h2, h3⟩ := h
  refine ⟨by omega, Or.inr ?_, fun j hj1 hj2 => ?_⟩
  · rcases h2 with h2 | h2
    · omega
    · obtain ⟨b', rfl⟩ : ∃ b', b = b' + 1 := ⟨b - 1, by omega⟩
      simpa using h2
  · obtain ⟨j', rfl⟩ : ∃ j', j = j' + 1 := ⟨j - 1, by omega⟩
    simpa using h3 j' (by omega) (by omega)

/-- Line, column and line start in one statement, so that one functional induction serves `linecol_nat`,
    `offsetOf_cursor` and `cursor_spec`: the line advances by the newlines among the first `p` characters; if there is
    none the column advances by `p`, otherwise it counts from the line start `b`, the `lineStartOfLine` of that number. -/
theorem walkLC_spec (l : List Nat) (p line col : Nat) :
    (walkLC l p line col).1 = line + (l.take p).count 10 ∧
    ((l.take p).count 10 = 0 → (walkLC l p line col).2 = col + p ∧ ∀ j, j < p → l[j]? ≠ some 10) ∧
    ((l.take p).count 10 ≠ 0 → ∃ b, 0 < b ∧ IsLineStart l p b ∧ lineStartOfLine l ((l.take p).count 10) = some b ∧
      (walkLC l p line col).2 = p - b + 1) := by
  fun_induction walkLC l p line col with
  | case1 => simp
  | case2 => simp
  | case3 t p line col ih =>
    obtain ⟨h1, h2, h3⟩ := ih
    simp only [List.take_succ_cons, List.count_cons_self]
    refine ⟨by omega, fun h => by omega, fun _ => ?_⟩
    by_cases h0 : (t.take p).count 10 = 0
    · obtain ⟨hc, hno⟩ := h2 h0
      refine ⟨1, by omega, ⟨by omega, Or.inr (by simp), fun j hj1 hj2 => ?_⟩, by simp [h0, lineStartOfLine], by omega⟩
      obtain ⟨j', rfl⟩ : ∃ j', j = j' + 1 := ⟨j - 1, by omega⟩
      simpa using hno j' (by omega)
    · obtain ⟨b, hb, hls, hso, hc⟩ := h3 h0
      exact ⟨b + 1, by omega, isLineStart_cons 10 hls hb, by simp [lineStartOfLine, hso], by omega⟩
  | case4 c t p line col hc ih =>
    obtain ⟨h1, h2, h3⟩ := ih
    have hcnt : List.count 10 (c :: t.take p) = (t.take p).count 10 := List.count_cons_of_ne (fun h => hc h)
    simp only [List.take_succ_cons, hcnt]
    refine ⟨h1, fun h0 => ⟨by have := (h2 h0).1; omega, fun j hj => ?_⟩, fun h0 => ?_⟩
    · cases j with
      | zero => simpa using hc
      | succ j => simpa using (h2 h0).2 j (by omega)
    · obtain ⟨b, hb, hls, hso, hcol⟩ := h3 h0
      obtain ⟨n, hn⟩ : ∃ n, (t.take p).count 10 = n + 1 := ⟨_, (Nat.succ_pred_eq_of_ne_zero h0).symm⟩
      exact ⟨b + 1, by omega, isLineStart_cons c hls hb, by rw [hn] at hso ⊢; simp [lineStartOfLine, hc, hso], by omega⟩

theorem bisectN_lineEndsL (l : List Nat) : ∀ (i q : Nat), bisectN (lineEndsL l i) (i + q) = (l.take q).count 10 := by
  induction l with
  | nil => intro i q; simp [lineEndsL, bisectN]
  | cons c t ih =>
    intro i q
    cases q with
    | zero =>
      simp only [bisectN, List.take_zero, List.count_nil, List.length_eq_zero_iff, List.filter_eq_nil_iff]
      intro e he
      have := lineEndsL_gt (c :: t) i e he
      simp; omega
    | succ q =>
      have := ih (i + 1) q
      rw [show i + 1 + q = i + (q + 1) by omega] at this
      by_cases hc : c = 10
      · subst hc
        simp only [lineEndsL, if_true, List.take_succ_cons, List.count_cons_self, ← this, bisectN]
        rw [List.filter_cons_of_pos (by simp)]; rfl
      · simp only [lineEndsL, hc, if_false, List.take_succ_cons, List.count_cons_of_ne (fun h => hc h), this]

theorem lineEndsL_getElem (l : List Nat) : ∀ (i n : Nat),
    (lineEndsL l i)[n]? = (lineStartOfLine l (n + 1)).map (· + i) := by
  induction l with
  | nil => intro i n; simp [lineEndsL, lineStartOfLine]
  | cons c t ih =>
    intro i n
    by_cases hc : c = 10
    · subst hc
      cases n with
      | zero => simp [lineEndsL, lineStartOfLine]; omega
      | succ n =>
        simp only [lineEndsL, if_true, List.getElem?_cons_succ, ih, lineStartOfLine, Option.map_map]
        congr 1; funext x; simp; omega
    · simp only [lineEndsL, hc, if_false, ih, lineStartOfLine, Option.map_map]
      congr 1; funext x; simp; omega

theorem linecol_nat (s : Array Nat) (p : Nat) : linecol s (p : Int) = some (castLC (cursor s p)) := by
  obtain ⟨h1, h2, h3⟩ := walkLC_spec s.toList p 1 1
  have hk := bisectN_lineEndsL s.toList 0 p
  rw [Nat.zero_add] at hk
  unfold linecol cursor castLC
  simp only [lineEnds_eq, bisect_cast, hk, h1]
  by_cases h0 : (s.toList.take p).count 10 = 0
  · simp [h0, (h2 h0).1]; omega
  · obtain ⟨b, _, hls, hso, hc⟩ := h3 h0
    obtain ⟨n, hn⟩ : ∃ n, (s.toList.take p).count 10 = n + 1 := ⟨_, (Nat.succ_pred_eq_of_ne_zero h0).symm⟩
    have := hls.1
    simp [hn, lineEndsL_getElem, hn ▸ hso, hc]; omega

theorem walkLC_line_ge (l : List Nat) (p line col : Nat) : line ≤ (walkLC l p line col).1 := by
  rw [(walkLC_spec l p line col).1]; omega

theorem walkLC_col_ge (l : List Nat) (p line col : Nat) (h : 1 ≤ col) : 1 ≤ (walkLC l p line col).2 := by
  fun_induction walkLC l p line col <;> omega

theorem walkLC_add (l : List Nat) (p q line col : Nat) :
    walkLC l (p + q) line col = walkLC (l.drop p) q (walkLC l p line col).1 (walkLC l p line col).2 := by
  fun_induction walkLC l p line col with
  | case1 => simp
  | case2 p line col => cases q <;> simp [walkLC]; omega
  | case3 t p line col ih => rw [show p.succ + q = (p + q) + 1 by omega]; simpa [walkLC] using ih
  | case4 c t p line col hc ih => rw [show p.succ + q = (p + q) + 1 by omega]; simpa [walkLC, hc] using ih

theorem walkLC_succ (l : List Nat) (p line col : Nat) :
    walkLC l (p + 1) line col =
      if l[p]? = some 10 then ((walkLC l p line col).1 + 1, 1)
      else ((walkLC l p line col).1, (walkLC l p line col).2 + 1) := by
  rw [walkLC_add, ← List.head?_drop]
  cases l.drop p with
  | nil => simp [walkLC]
  | cons c t => by_cases hc : c = 10 <;> simp [walkLC, hc]


theorem walkLC_no_nl (l : List Nat) (q line col : Nat) (h : ∀ j, j < q → l[j]? ≠ some 10) :
    walkLC l q line col = (line, col + q) := by
  fun_induction walkLC l q line col with
  | case1 => rfl
  | case2 => rfl
  | case3 t p line col ih => exact absurd (by simp) (h 0 (by omega))
  | case4 c t p line col hc ih =>
    rw [ih (fun j hj => by simpa using h (j + 1) (by omega))]; congr 1; omega


theorem lexLt_trans {a b c : Nat × Nat} (h1 : lexLt a b) (h2 : lexLt b c) : lexLt a c := by
  unfold lexLt at *; omega

theorem cursor_succ (s : Array Nat) (p : Nat) :
    cursor s (p + 1) = if s[p]? = some 10 then ((cursor s p).1 + 1, 1) else ((cursor s p).1, (cursor s p).2 + 1) := by
  unfold cursor
  rw [walkLC_succ]
  simp

theorem cursor_lt_succ (s : Array Nat) (p : Nat) : lexLt (cursor s p) (cursor s (p + 1)) := by
  rw [cursor_succ]
  unfold lexLt
  split <;> simp

theorem cursor_strictMono (s : Array Nat) (p q : Nat) (h : p < q) : lexLt (cursor s p) (cursor s q) := by
  induction q with
  | zero => omega
  | succ q ih =>
    by_cases hpq : p = q
    · subst hpq; exact cursor_lt_succ s p
    · exact lexLt_trans (ih (by omega)) (cursor_lt_succ s q)

theorem offsetOf_cursor (s : Array Nat) (p : Nat) : offsetOf s (cursor s p) = some p := by
  obtain ⟨h1, h2, h3⟩ := walkLC_spec s.toList p 1 1
  unfold offsetOf cursor
  rw [h1, Nat.add_sub_cancel_left]
  by_cases h0 : (s.toList.take p).count 10 = 0
  · rw [h0, (h2 h0).1]; simp [lineStartOfLine]
  · obtain ⟨b, _, hls, hso, hc⟩ := h3 h0
    rw [hso, hc]
    have := hls.1
    simp; omega

theorem cursor_spec (s : Array Nat) (p : Nat) :
    ∃ b, IsLineStart s.toList p b ∧
      cursor s p = (1 + (s.toList.take p).count 10, p - b + 1) := by
  obtain ⟨h1, h2, h3⟩ := walkLC_spec s.toList p 1 1
  unfold cursor
  by_cases h0 : (s.toList.take p).count 10 = 0
  · exact ⟨0, ⟨Nat.zero_le _, Or.inl rfl, fun j _ hj => (h2 h0).2 j hj⟩, Prod.ext h1 (by rw [(h2 h0).1]; omega)⟩
  · obtain ⟨b, _, hls, _, hc⟩ := h3 h0
    exact ⟨b, hls, Prod.ext h1 hc⟩

theorem isLineStart_unique (l : List Nat) (p b b' : Nat) (h : IsLineStart l p b) (h' : IsLineStart l p b') : b = b' := by
  obtain ⟨h1, h2, h3⟩ := h
  obtain ⟨h1', h2', h3'⟩ := h'
  rcases Nat.lt_trichotomy b b' with hlt | heq | hgt
  · rcases h2' with h0 | hnl
    · omega
    · exact absurd hnl (h3 (b' - 1) (by omega) (by omega))
  · exact heq
  · rcases h2 with h0 | hnl
    · omega
    · exact absurd hnl (h3' (b - 1) (by omega) (by omega))

theorem walkLC_lineStartOfLine (l : List Nat) : ∀ n o line col, 0 < n → lineStartOfLine l n = some o →
    walkLC l o line col = (line + n, 1) := by
  induction l with
  | nil => intro n o line col hn h; cases n <;> simp [lineStartOfLine] at h; omega
  | cons c t ih =>
    intro n o line col hn h
    obtain ⟨n', rfl⟩ : ∃ n', n = n' + 1 := ⟨n - 1, by omega⟩
    simp only [lineStartOfLine] at h
    by_cases hc : c = 10
    · simp only [hc, if_true, Option.map_eq_some_iff] at h
      obtain ⟨o', ho', rfl⟩ := h
      simp only [walkLC, hc, if_true]
      by_cases hn' : n' = 0
      · subst hn'
        have : o' = 0 := by cases t <;> simp [lineStartOfLine] at ho' <;> omega
        subst this; simp [walkLC]
      · rw [ih n' o' (line + 1) 1 (by omega) ho']
        congr 1; omega
    · simp only [hc, if_false, Option.map_eq_some_iff] at h
      obtain ⟨o', ho', rfl⟩ := h
      simp only [walkLC, hc, if_false]
      exact ih (n' + 1) o' line (col + 1) (by omega) ho'

def lexLtI (a b : Int × Int) : Prop := a.1 < b.1 ∨ (a.1 = b.1 ∧ a.2 < b.2)
def lexLeI (a b : Int × Int) : Prop := a = b ∨ lexLtI a b

theorem lexLtI_castLC {a b : Nat × Nat} : lexLtI (castLC a) (castLC b) ↔ lexLt a b := by
  simp only [lexLtI, lexLt, castLC]; omega

theorem lexLtI_trans {a b c : Int × Int} (h1 : lexLtI a b) (h2 : lexLtI b c) : lexLtI a c := by
  unfold lexLtI at *; omega

theorem lexLeI_refl (a : Int × Int) : lexLeI a a := Or.inl rfl

theorem lexLeI_trans {a b c : Int × Int} (h1 : lexLeI a b) (h2 : lexLeI b c) : lexLeI a c := by
  rcases h1 with rfl | h1
  · exact h2
  · rcases h2 with rfl | h2
    · exact Or.inr h1
    · exact Or.inr (lexLtI_trans h1 h2)

theorem castLC_inj {a b : Nat × Nat} (h : castLC a = castLC b) : a = b := by
  unfold castLC at h
  have h1 := congrArg Prod.fst h
  have h2 := congrArg Prod.snd h
  simp only at h1 h2
  exact Prod.ext (by omega) (by omega)

theorem linecol_of_nonneg (s : Array Nat) (x : Int) (hx : 0 ≤ x) : linecol s x = some (castLC (cursor s x.toNat)) := by
  obtain ⟨n, rfl⟩ := Int.eq_ofNat_of_zero_le hx
  rw [linecol_nat]; simp

theorem linecol_neg (s : Array Nat) (x : Int) (hx : x < 0) : linecol s x = some (1, x + 1) := by
  unfold linecol
  simp [bisect_neg _ _ hx]

theorem cursor_mono (s : Array Nat) (p q : Nat) (h : p ≤ q) : lexLeI (castLC (cursor s p)) (castLC (cursor s q)) := by
  rcases Nat.lt_or_eq_of_le h with h | h
  · exact Or.inr (lexLtI_castLC.2 (cursor_strictMono s p q h))
  · subst h; exact lexLeI_refl _

theorem cursor_one_based (s : Array Nat) (p : Nat) : 1 ≤ (cursor s p).1 ∧ 1 ≤ (cursor s p).2 :=
  ⟨walkLC_line_ge _ _ _ _, walkLC_col_ge _ _ _ _ (Nat.le_refl _)⟩

end Pos

namespace C17
open P Pos

/-- `Entry.position(offset)` / `Junk.position(offset)`: the cursor position of `span[0] + offset`;
    a negative offset means the end of the span. -/
theorem position_spec (s : Array Nat) (e : Entry) (off : Int) :
    position s e off =
      if off < 0 then some (castLC (cursor s e.e)) else some (castLC (cursor s (e.s + off.toNat))) := by
  unfold position
  split
  · exact linecol_nat s e.e
  · rename_i h
    rw [linecol_of_nonneg s _ (by omega)]
    congr 3; omega

/-- `Entry.value_position(offset)` for a value span inside the text (`0 ≤ vs`, `0 ≤ ve`) -/
theorem value_position_spec (s : Array Nat) (vs ve : Nat) (off : Int) :
    valuePosition s (some ((vs : Int), (ve : Int))) off =
      if off < 0 then some (castLC (cursor s ve)) else some (castLC (cursor s (vs + off.toNat))) := by
  unfold valuePosition
  simp only
  split
  · exact linecol_nat s ve
  · rename_i h
    rw [linecol_of_nonneg s _ (by omega)]
    congr 3; omega

end C17
