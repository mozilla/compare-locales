/- C08/C07 CSS: engine lemmas used to run the two CSS regexes on a grammatical spec.  A regex made of literals, sequences,
   alternatives and ε denotes a finite list of texts (`langOf`); its outcomes are those of its texts that stand at the
   position (`ends_lang`), exactly one on a prefix-free list (`ends_lang_det`).  And one `finditer` step that skips unmatched
   positions (no assumption that the regex cannot match ε). -/
import CLModel.Rx.Basic
import CLModel.Proofs.RxLemmas
import CLModel.Proofs.RxSearch
import CLModel.Proofs.RxStar
namespace C08C
open Rx

abbrev Text := List Nat

def textAt (s : Array Nat) : Nat → Text → Bool
  | _, [] => true
  | p, c :: t => s[p]? == some c && textAt s (p + 1) t

theorem textAt_append (s : Array Nat) : ∀ (a b : Text) (p : Nat),
    textAt s p (a ++ b) = (textAt s p a && textAt s (p + a.length) b)
  | [], b, p => by simp [textAt]
  | c :: a, b, p => by
    simp only [List.cons_append, textAt, textAt_append s a b (p + 1), List.length_cons, Bool.and_assoc]
    congr 3; omega

theorem textAt_of_drop (s : Array Nat) : ∀ (t rest : Text) (p : Nat), s.toList.drop p = t ++ rest → textAt s p t = true
  | [], _, _, _ => rfl
  | c :: t, rest, p, h => by
    simp only [textAt, Txt.head_of_drop h, beq_self_eq_true, Bool.true_and]
    exact textAt_of_drop s t rest (p + 1) (Txt.drop_succ_of_cons h)

theorem textAt_head_ne (s : Array Nat) (p h c : Nat) (t : Text) (hs : s[p]? = some c) (hne : c ≠ h) :
    textAt s p (h :: t) = false := by
  simp [textAt, hs, hne]

theorem textAt_none (s : Array Nat) (p h : Nat) (t : Text) (hs : s[p]? = none) : textAt s p (h :: t) = false := by
  simp [textAt, hs]

theorem textAt_prefix (s : Array Nat) : ∀ (a b : Text) (p : Nat), textAt s p a = true → textAt s p b = true →
    a <+: b ∨ b <+: a
  | [], b, _, _, _ => Or.inl (List.nil_prefix)
  | _ :: _, [], _, _, _ => Or.inr (List.nil_prefix)
  | x :: a, y :: b, p, ha, hb => by
    simp only [textAt, Bool.and_eq_true, beq_iff_eq] at ha hb
    have : x = y := by
      have := ha.1.symm.trans hb.1
      simpa using this
    subst this
    rcases textAt_prefix s a b (p + 1) ha.2 hb.2 with h | h
    · exact Or.inl ((List.prefix_cons_inj x).mpr h)
    · exact Or.inr ((List.prefix_cons_inj x).mpr h)

def langOf : Re → Option (List Text)
  | .lit c => some [[c]]
  | .eps => some [[]]
  | .seq a b =>
    match langOf a, langOf b with
    | some la, some lb => some (la.flatMap (fun x => lb.map (x ++ ·)))
    | _, _ => none
  | .alt a b =>
    match langOf a, langOf b with
    | some la, some lb => some (la ++ lb)
    | _, _ => none
  | _ => none

/-- what the continuation sees after the text `t` -/
def after (st : St) (t : Text) : St := { st with pos := st.pos + t.length }

/-- `x ++ y` stands here iff `x` stands here and `y` behind it: the texts of a concatenation, text by text of `la` -/
theorem ends_lang_seq (s : Array Nat) (b : Re) (lb : List Text)
    (hb : ∀ st, ends s b st = (lb.filter (textAt s st.pos)).map (after st)) (st : St) : ∀ la : List Text,
    ((la.filter (textAt s st.pos)).map (after st)).flatMap (ends s b) =
      ((la.flatMap fun x => lb.map (x ++ ·)).filter (textAt s st.pos)).map (after st)
  | [] => rfl
  | x :: la => by
    rw [List.flatMap_cons, List.filter_append, List.map_append, ← ends_lang_seq s b lb hb st la, List.filter_cons]
    by_cases hx : textAt s st.pos x = true
    · rw [if_pos hx, List.map_cons, List.flatMap_cons, hb, List.filter_map, List.map_map,
        List.filter_congr (q := textAt s st.pos ∘ (x ++ ·)) fun y _ => by simp [textAt_append, hx, after]]
      congr 1
      exact List.map_congr_left fun y _ => by simp [after, Nat.add_assoc]
    · have hnil : (lb.map (x ++ ·)).filter (textAt s st.pos) = [] := List.filter_eq_nil_iff.mpr fun y hy => by
        obtain ⟨z, _, rfl⟩ := List.mem_map.mp hy
        simp [textAt_append, hx]
      rw [if_neg hx, hnil]
      rfl

theorem ends_lang (s : Array Nat) : ∀ (r : Re) (l : List Text), langOf r = some l → ∀ (st : St),
    ends s r st = (l.filter (textAt s st.pos)).map (after st) := by
  intro r
  induction r with
  | lit c =>
    intro l hl st
    cases Option.some.inj hl
    rw [ends_lit]
    split <;> simp_all [textAt, after]
  | eps =>
    intro l hl st
    cases Option.some.inj hl
    rfl
  | seq a b iha ihb =>
    intro l hl st
    simp only [langOf] at hl
    split at hl
    · rename_i la lb ha hb
      cases Option.some.inj hl
      rw [ends_seq, iha la ha, ends_lang_seq s b lb (ihb lb hb)]
    · cases hl
  | alt a b iha ihb =>
    intro l hl st
    simp only [langOf] at hl
    split at hl
    · rename_i la lb ha hb
      cases Option.some.inj hl
      rw [ends_alt, iha la ha, ihb lb hb, List.filter_append, List.map_append]
    · cases hl
  | _ => intro l hl; simp [langOf] at hl

/-- no text of the list is a prefix of a later one or the other way round (in particular no text occurs twice) -/
def prefixFree (l : List Text) : Bool := l.Pairwise (fun a b => !(a.isPrefixOf b) && !(b.isPrefixOf a))

theorem ends_lang_det (s : Array Nat) (r : Re) (l : List Text) (hl : langOf r = some l) (hpf : prefixFree l = true)
    (u : Text) (hu : u ∈ l) (st : St) (ht : textAt s st.pos u = true) : ends s r st = [after st u] := by
  rw [ends_lang s r l hl]
  have hpw : l.Pairwise (fun a b => ¬ a <+: b ∧ ¬ b <+: a) := by
    simpa [prefixFree, ← List.isPrefixOf_iff_prefix] using hpf
  clear hpf hl
  -- two texts that both stand here are prefixes of one another
  induction l with
  | nil => cases hu
  | cons x l ih =>
    rw [List.pairwise_cons] at hpw
    rw [List.filter_cons]
    rcases List.mem_cons.mp hu with rfl | hu'
    · rw [if_pos ht, List.filter_eq_nil_iff.mpr fun y hy hty => by
        rcases textAt_prefix s u y st.pos ht hty with h | h
        · exact (hpw.1 y hy).1 h
        · exact (hpw.1 y hy).2 h]
      rfl
    · rw [if_neg fun hx => by
        rcases textAt_prefix s x u st.pos hx ht with h | h
        · exact (hpw.1 u hu').1 h
        · exact (hpw.1 u hu').2 h]
      exact ih hu' hpw.2

theorem ends_lang_nil (s : Array Nat) (r : Re) (l : List Text) (hl : langOf r = some l) (st : St)
    (h : ∀ t ∈ l, textAt s st.pos t = false) : ends s r st = [] := by
  rw [ends_lang s r l hl, List.filter_eq_nil_iff.mpr fun t ht => by simp [h t ht]]
  rfl

theorem finditerAux_skip (s : Array Nat) (r : Re) (fuel pos q : Nat) (st : St) (hq1 : pos ≤ q) (hq2 : q ≤ s.size)
    (hnone : ∀ q', pos ≤ q' → q' < q → matchAt s r q' = none) (hm : matchAt s r q = some st) :
    finditerAux s r (fuel + 1) pos false = (q, st) :: finditerAux s r fuel st.pos (st.pos == q) := by
  simp only [finditerAux]
  rw [if_neg (by omega)]
  simp only [Bool.false_eq_true, if_false]
  by_cases hpq : pos = q
  · subst hpq
    rw [hm]
  · rw [hnone pos (Nat.le_refl _) (by omega)]
    simp only []
    rw [search_eq_some (pos := pos + 1) (by omega) hq2 (fun q' h1 h2 => hnone q' (by omega) h2) hm]

theorem finditerAux_end (s : Array Nat) (r : Re) (fuel : Nat) (h : matchAtNE s r s.size = none) :
    finditerAux s r fuel s.size true = [] := by
  cases fuel with
  | zero => rfl
  | succ f =>
    simp only [finditerAux]
    rw [if_neg (by omega)]
    simp only [if_true, h]
    have : search s r (s.size + 1) = none := by
      simp only [search]
      have e : s.size + 2 - (s.size + 1) = 1 := by omega
      rw [e]
      simp [searchFrom]
    rw [this]

end C08C
