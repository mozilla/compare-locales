/-
C05 pipeline: when can the key of a `Junk` equal the key of an entry of the other file (`Pipe.NoJunkClash`)?

`Junk.key` is `"_junk_%d_%d-%d" % (junkid, span[0], span[1])`.  The counter values handed out while the reference is
parsed are in `(0, n1]`, those of the localization in `(n1, n2]`, and the format is injective, so two Junks of the two
files never share a key: a clash needs an ENTITY whose key text is exactly the key of a Junk of the other file.
Hence: (1) `clashFree` — a decidable, exact reformulation of the hypothesis on the two texts; (2) the syntactic
sufficient condition "no string id begins with `_junk_`" (`entityKeysOK`, decidable on the text alone, independent of
the external functions); (3) gettext files never clash (their keys are tuples).
-/
import CLModel.Proofs.C05Pipe
import CLModel.Proofs.C18Digits
namespace C05Clash
open Pipe

theorem digitsAux_eq : ∀ (fuel n : Nat) (acc : List Nat), Lint.digitsAux fuel n acc = Hist.digitsF fuel n ++ acc := by
  intro fuel
  induction fuel with
  | zero => intro n acc; simp [Lint.digitsAux, Hist.digitsF]
  | succ fuel ih =>
    intro n acc
    unfold Lint.digitsAux Hist.digitsF
    split
    · simp
    · rw [ih]; simp

theorem natText_eq (n : Nat) : natText n = Hist.digits n := by
  unfold natText Lint.showInt Hist.digits
  show Lint.digitsAux (n + 1) n [] = _
  rw [digitsAux_eq]; simp

theorem junkKeyText_eq (i s e : Nat) : junkKeyText i s e = Hist.junkKey i s e := by
  simp [junkKeyText, Lint.interleave, Gen.Tables.junkKeyParts, natText_eq, Hist.junkKey, Hist.junkPrefix]

theorem junkKeyText_inj {i s e i' s' e' : Nat} (h : junkKeyText i s e = junkKeyText i' s' e') : i = i' ∧ s = s' ∧ e = e' := by
  rw [junkKeyText_eq, junkKeyText_eq] at h
  exact Hist.junkKey_inj h

theorem junkKeyText_prefix (i s e : Nat) : Hist.junkPrefix.isPrefixOf (junkKeyText i s e) = true := by
  rw [junkKeyText_eq]
  simp [Hist.junkKey, Hist.junkPrefix]

/-- `_junk_` is a prefix of the key (only `str` keys can have one) -/
def junkLike : Cmp.Key → Bool
  | .str t => Hist.junkPrefix.isPrefixOf t
  | .tup _ _ => false

/-- the entries of one `parse()` that started with `Junk.junkid = n` and left it at `m`: a Junk carries a counter
    value from `(n, m]` in its key -/
def IdsIn (n m : Nat) (ents : List PEnt) : Prop :=
  ∀ e ∈ ents, e.junk = true → ∃ id, n < id ∧ id ≤ m ∧ e.key = .str (junkKeyText id e.entry.s e.entry.e)

theorem parseFile_ids (ext : Ext) (f : P.Fmt) (s : Array Nat) (n m : Nat) (ents : List PEnt)
    (h : parseFile ext f s n = .ok (ents, m)) : IdsIn n m ents := by
  obtain ⟨es, _, rfl, hents⟩ := parseFile_mem h
  intro e he hj
  obtain ⟨hh, hmem, _, hmk⟩ := hents e he
  unfold mkEnt at hmk
  cases hjid : hh.jid with
  | some id =>
    simp only [hjid, Except.ok.injEq] at hmk
    subst hmk
    obtain ⟨_, hids, _⟩ := Hist.assign_ids f s 0 es n 0
    have := hids id (List.mem_filterMap.2 ⟨hh, hmem, hjid⟩)
    exact ⟨id, this.1, this.2, rfl⟩
  | none =>
    simp only [hjid] at hmk
    split at hmk
    · cases hmk
    · split at hmk
      · cases hmk
      · simp only [Except.ok.injEq] at hmk
        subst hmk
        cases hj

theorem junk_keys_differ_from {n0 n1 n2 : Nat} {ref l10n : List PEnt} (hr : IdsIn n0 n1 ref) (hl : IdsIn n1 n2 l10n)
    (r l : PEnt) (hrm : r ∈ ref) (hlm : l ∈ l10n) (hrj : r.junk = true) (hlj : l.junk = true) : r.key ≠ l.key := by
  obtain ⟨i, _, hi2, hki⟩ := hr r hrm hrj
  obtain ⟨j, hj1, _, hkj⟩ := hl l hlm hlj
  intro h
  rw [hki, hkj] at h
  simp only [Cmp.Key.str.injEq] at h
  have := (junkKeyText_inj h).1
  omega

theorem junk_keys_differ {n1 n2 : Nat} {ref l10n : List PEnt} (hr : IdsIn 0 n1 ref) (hl : IdsIn n1 n2 l10n)
    (r l : PEnt) (hrm : r ∈ ref) (hlm : l ∈ l10n) (hrj : r.junk = true) (hlj : l.junk = true) : r.key ≠ l.key :=
  junk_keys_differ_from hr hl r l hrm hlm hrj hlj

def NoJunkLike (ents : List PEnt) : Prop := ∀ e ∈ ents, e.junk = false → junkLike e.key = false

theorem noJunkClash_of_keys {n0 n1 n2 : Nat} {ref l10n : List PEnt} (hr : IdsIn n0 n1 ref) (hl : IdsIn n1 n2 l10n)
    (hkr : NoJunkLike ref) (hkl : NoJunkLike l10n) (ck : CheckerKind) : NoJunkClash ck ref l10n := by
  have key : ∀ (a b : PEnt), a ∈ ref → b ∈ l10n → a.key = b.key → a.junk = false ∧ b.junk = false := by
    intro a b ha hb hab
    have hlike : ∀ (x : PEnt) (n m : Nat) (xs : List PEnt), IdsIn n m xs → x ∈ xs → x.junk = true → junkLike x.key = true := by
      intro x n m xs hx hxm hxj
      obtain ⟨id, _, _, hk⟩ := hx x hxm hxj
      rw [hk]; exact junkKeyText_prefix _ _ _
    cases haj : a.junk <;> cases hbj : b.junk
    · exact ⟨rfl, rfl⟩
    · have h1 := hlike b _ _ _ hl hb hbj
      have h2 := hkr a ha haj
      rw [hab, h1] at h2; cases h2
    · have h1 := hlike a _ _ _ hr ha haj
      have h2 := hkl b hb hbj
      rw [← hab, h1] at h2; cases h2
    · exact absurd hab (junk_keys_differ_from hr hl a b ha hb haj hbj)
  intro k hkr' hkl'
  obtain ⟨b, hb, hbk⟩ := List.mem_map.1 hkl'
  obtain ⟨a, ha, hak⟩ := List.mem_map.1 hkr'
  refine ⟨?_, fun _ => ?_⟩
  · intro r hlr
    obtain ⟨hrm, hrk, _⟩ := lookup_ok hlr
    exact (key r b hrm hb (by rw [hrk, hbk])).1
  · intro l hll
    obtain ⟨hlm, hlk, _⟩ := lookup_ok hll
    exact (key a l ha hlm (by rw [hak, hlk])).2

/-- `NoJunkClash` decided on the two parsed files -/
def clashFreeB (ck : CheckerKind) (ref l10n : List PEnt) : Bool :=
  (ref.map (·.key)).all (fun k => !(l10n.map (·.key)).contains k ||
    ((match lookup ref k with | .ok r => !r.junk | .error _ => true) &&
     (ck == .base || (match lookup l10n k with | .ok l => !l.junk | .error _ => true))))

theorem clashFreeB_iff (ck : CheckerKind) (ref l10n : List PEnt) : clashFreeB ck ref l10n = true ↔ NoJunkClash ck ref l10n := by
  unfold clashFreeB NoJunkClash
  simp only [List.all_eq_true, Bool.or_eq_true, Bool.not_eq_true', Bool.and_eq_true, beq_iff_eq]
  constructor
  · intro h k hkr hkl
    have hc : (l10n.map (·.key)).contains k = true := by simpa using hkl
    rcases h k hkr with h | ⟨h1, h2⟩
    · rw [hc] at h; cases h
    · refine ⟨?_, ?_⟩
      · intro r hr; rw [hr] at h1; simpa using h1
      · intro hne l hl
        rcases h2 with h2 | h2
        · exact absurd h2 hne
        · rw [hl] at h2; simpa using h2
  · intro h k hkr
    by_cases hc : (l10n.map (·.key)).contains k = true
    · right
      obtain ⟨h1, h2⟩ := h k hkr (by simpa using hc)
      refine ⟨?_, ?_⟩
      · cases hl : lookup ref k with
        | error _ => rfl
        | ok r => simp [h1 r hl]
      · by_cases hb : ck = .base
        · exact Or.inl hb
        · right
          cases hl : lookup l10n k with
          | error _ => rfl
          | ok l => simp [h2 hb l hl]
    · left; simpa using hc

/-- **the hypothesis of the comparison theorems as a decidable condition on the two texts** (exact: `clashFree_iff`) -/
def clashFree (ext : Ext) (fmt : P.Fmt) (refText l10nText : Array Nat) : Bool :=
  match parseFile ext fmt refText 0 with
  | .error _ => true
  | .ok (ref, n1) =>
    match parseFile ext fmt l10nText n1 with
    | .error _ => true
    | .ok (l10n, _) => clashFreeB (checkerOf fmt) ref l10n

theorem clashFree_iff (ext : Ext) (fmt : P.Fmt) (refText l10nText : Array Nat) :
    clashFree ext fmt refText l10nText = true ↔ NoJunkClashT ext fmt refText l10nText := by
  unfold clashFree NoJunkClashT
  constructor
  · intro h ref n1 l10n n2 hp1 hp2
    simp only [hp1, hp2] at h
    exact (clashFreeB_iff _ _ _).1 h
  · intro h
    cases hp1 : parseFile ext fmt refText 0 with
    | error _ => rfl
    | ok p =>
      obtain ⟨ref, n1⟩ := p
      cases hp2 : parseFile ext fmt l10nText n1 with
      | error _ => simp only [hp2]
      | ok q =>
        obtain ⟨l10n, n2⟩ := q
        simp only [hp2]
        exact (clashFreeB_iff _ _ _).2 (h ref n1 l10n n2 hp1 hp2)

/-- no Entity of the text has a key that begins with `_junk_` (gettext keys are tuples: nothing to check);
    decided on the walk, independent of the external functions -/
def entityKeysOK (fmt : P.Fmt) (s : Array Nat) : Bool :=
  match fmt with
  | .po => true
  | _ =>
    match P.walk fmt s with
    | .stuck _ _ => true
    | .done es => es.all (fun e => e.kind != .entity || !Hist.junkPrefix.isPrefixOf (P.pySlice s e.ks e.ke))

theorem entView_key (f : P.Fmt) (hf : f ≠ .po) (s : Array Nat) (e : P.Entry) (v : P.EntView) (h : P.entView f s e = some v) :
    v.key = P.pySlice s e.ks e.ke ∧ v.ctxt = none := by
  cases f with
  | po => exact absurd rfl hf
  | properties => simp only [P.entView, Option.some.injEq] at h; subst h; exact ⟨rfl, rfl⟩
  | dtd => simp only [P.entView, Option.some.injEq] at h; subst h; exact ⟨rfl, rfl⟩
  | ini => simp only [P.entView, Option.some.injEq] at h; subst h; exact ⟨rfl, rfl⟩
  | inc => simp only [P.entView, Option.some.injEq] at h; subst h; exact ⟨rfl, rfl⟩

theorem entView_po_ctxt (s : Array Nat) (e : P.Entry) (v : P.EntView) (h : P.entView .po s e = some v) : v.ctxt ≠ none := by
  simp only [P.entView] at h
  split at h
  · cases h
  · split at h
    · simp only [Option.some.injEq] at h; subst h; simp
    · cases h

theorem noJunkLike_of_text (ext : Ext) (fmt : P.Fmt) (s : Array Nat) (n m : Nat) (ents : List PEnt)
    (hk : entityKeysOK fmt s = true) (h : parseFile ext fmt s n = .ok (ents, m)) : NoJunkLike ents := by
  obtain ⟨es, hw, _, hents⟩ := parseFile_mem h
  intro e he hj
  obtain ⟨hh, hmem, hloc, hmk⟩ := hents e he
  have hentry : hh.entry ∈ es := assign_entry_mem fmt s 0 es n 0 hh hmem
  have hwf := Hist.assign_wf fmt s 0 es n 0 hh hmem
  unfold mkEnt at hmk
  cases hjid : hh.jid with
  | some id =>
    simp only [hjid, Except.ok.injEq] at hmk
    subst hmk
    simp [mkJunk] at hj
  | none =>
    have hkind : hh.entry.kind = .entity := by
      rw [hjid] at hwf
      simp only [P.Entry.localizable, Bool.or_eq_true, beq_iff_eq] at hloc
      rcases hloc with h1 | h1
      · exact h1
      · rw [h1] at hwf; simp at hwf
    simp only [hjid] at hmk
    cases hv : P.entView fmt s hh.entry with
    | none => simp [hv] at hmk
    | some v =>
      simp only [hv] at hmk
      split at hmk
      · cases hmk
      · simp only [Except.ok.injEq] at hmk
        subst hmk
        by_cases hpo : fmt = .po
        · subst hpo
          have := entView_po_ctxt s hh.entry v hv
          cases hc : v.ctxt with
          | none => exact absurd hc this
          | some c => simp [junkLike]
        · obtain ⟨hkey, hctx⟩ := entView_key fmt hpo s hh.entry v hv
          simp only [hctx, junkLike, hkey]
          have hall : (es.all (fun e => e.kind != .entity || !Hist.junkPrefix.isPrefixOf (P.pySlice s e.ks e.ke))) = true := by
            cases fmt <;> simp_all [entityKeysOK]
          have := List.all_eq_true.1 hall hh.entry hentry
          simpa [hkind] using this

theorem noJunkClashT_of_keys (ext : Ext) (fmt : P.Fmt) (refText l10nText : Array Nat)
    (h1 : entityKeysOK fmt refText = true) (h2 : entityKeysOK fmt l10nText = true) : NoJunkClashT ext fmt refText l10nText := by
  intro ref n1 l10n n2 hp1 hp2
  exact noJunkClash_of_keys (parseFile_ids ext fmt refText 0 n1 ref hp1) (parseFile_ids ext fmt l10nText n1 n2 l10n hp2)
    (noJunkLike_of_text ext fmt refText 0 n1 ref h1 hp1) (noJunkLike_of_text ext fmt l10nText n1 n2 l10n h2 hp2) _

theorem noJunkClashT_po (ext : Ext) (refText l10nText : Array Nat) : NoJunkClashT ext .po refText l10nText :=
  noJunkClashT_of_keys ext .po refText l10nText rfl rfl

end C05Clash
