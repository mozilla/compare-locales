/-
C17: every error / warning item of the report of the composed comparison `Pipe.compareFiles` is explained.  Each event
handed to the observers is a key (missing / obsolete), a duplicate message, the reference-junk warning, the
`error_message()` of a Junk of the localized file, or a checker result of a pair (reference entry, localized entry) with
the position `Pos.resolveCheckPos` computed on the localized entry (`Pipe.Expl`, `Pipe.compareEvs_expl` in
Proofs/PipePlanFacts.lean); here: from the events to the items of `toJSON()["details"]`.
-/
import CLModel.Proofs.C17PipeLint
import CLModel.Proofs.C05Report
namespace C17P
open Pos Pipe
open ObsM (Ev ObsList Obs)

/-- why an error / warning text of the report says what it says -/
inductive DetailWhy (s : Array Nat) (l10n : List PEnt) (t : Text) : Prop
  /-- `"<key> occurs <n> times"` (no position) -/
  | dup (k : Cmp.Key) (n : Nat) (h : t = dupMsg k n)
  /-- `"Parser error in en-US"` (no position) -/
  | refJunk (h : t = Gen.Tables.cmpRefJunkMsg)
  /-- `Junk.error_message()` of a Junk of the localized file: its text, the pair of its start, the pair of its end -/
  | junk (j : PEnt) (hj : j ∈ l10n) (hjj : j.junk = true) (h : t = junkText s j.entry.s j.entry.e)
  /-- `"<msg> at line <l>, column <c> for <key>"` with `(l, c)` explained by `Target` on a localized entry -/
  | check (l : PEnt) (hl : l ∈ l10n) (msg : Text) (key : Cmp.Key) (lc : Int × Int) (ht : Target s l.entry lc)
      (h : t = checkMsg msg lc.1 lc.2 key)

theorem junkMessage_text (s : Array Nat) (j : PEnt) (hv : j.val = P.slice s j.entry.s j.entry.e) (t : Text)
    (h : junkMessage s .plain j = .ok t) : t = junkText s j.entry.s j.entry.e := by
  unfold junkMessage junkMessagePositions at h
  simp only at h
  rw [C17.position_spec, C17.position_spec, if_neg (by omega), if_pos (by omega)] at h
  simp only [castLC, Except.ok.injEq] at h
  rw [← h, hv]
  rfl

theorem compareFiles_details_explained (ext : Ext) (fmt : P.Fmt) (hf : fmt ≠ .dtd)
    (file : ObsM.File) (hm : ObsM.Modelled file) (q : Nat) (flts : List (Option ObsM.Filter))
    (refText l10nText : Array Nat) (mergeOn : Bool) (r : Report)
    (h : compareFiles ext fmt file (ObsList.init q (flts.map (Obs.init q))) refText l10nText mergeOn = .ok r) :
    ∃ l10n n0 n1, parseFile ext fmt l10nText n0 = .ok (l10n, n1) ∧ (∀ pe ∈ l10n, EntFacts fmt l10nText pe) ∧
      ∀ leaf ∈ r.details, ∀ d ∈ leaf.2, (d.1 = .error ∨ d.1 = .warning) →
        ∃ t, d.2 = .data (.str t) ∧ DetailWhy l10nText l10n t := by
  unfold compareFiles at h
  split at h
  · cases h
  · rename_i ref n1 hp1
    split at h
    · cases h
    · rename_i l10n n2 hp2
      split at h
      · cases h
      · rename_i obs outcome hcmp
        cases h
        have hfacts := parseFile_facts ext fmt hf l10nText n1 l10n n2 hp2
        refine ⟨l10n, n1, n2, hp2, hfacts, ?_⟩
        have hcl : (envOf ext fmt file mergeOn ref l10nText).cls = .plain := PipeBridge.clsOf_plain hf
        obtain ⟨_, stats, hrun⟩ := compareParsed_ok hcmp
        have hall := compareEvs_expl (ObsList.init q (flts.map (Obs.init q))).filters
          (envOf ext fmt file mergeOn ref l10nText) ref l10n
        have hreach : Reach (ObsList.init q (flts.map (Obs.init q))) file _ obs := ⟨hrun, by
          intro ev hev
          rcases List.mem_append.1 hev with hev | hev
          · obtain ⟨_, _, rfl, _⟩ := expl_notify (hall ev hev); rfl
          · cases List.mem_singleton.1 hev; rfl⟩
        intro leaf hleaf d hd hcat
        obtain ⟨cat, f, data, rv, hev, rfl⟩ :=
          report_details_from_history q flts file hm _ obs hreach outcome leaf hleaf d hd
        simp only [List.mem_append, List.mem_singleton] at hev
        rcases hev with hev | hev
        · have hex := hall _ hev
          have hnf : ∀ c : ObsM.Cat, (c = .error ∨ c = .warning) → c.isFile = false := by
            intro c hc; rcases hc with rfl | rfl <;> rfl
          cases hex with
          | key cat' k hc =>
            rcases hc with rfl | rfl <;> simp [ObsM.detailOf, ObsM.Cat.isFile] at hcat
          | dup cat' k n hc =>
            have hnf' := hnf _ hc.symm
            exact ⟨_, by simp [ObsM.detailOf, hnf'], .dup k n rfl⟩
          | refJunk => exact ⟨_, by simp [ObsM.detailOf, ObsM.Cat.isFile], .refJunk rfl⟩
          | junk j hj hjj t ht =>
            rw [hcl] at ht
            exact ⟨t, by simp [ObsM.detailOf, ObsM.Cat.isFile],
              .junk j hj hjj (junkMessage_text l10nText j ((hfacts j hj).junk_val hjj) t ht)⟩
          | check rr hr l hl rs hrs c hc lc hlc =>
            have hnf' : (sevCat c.sev).isFile = false := by cases c.sev <;> rfl
            rw [hcl] at hlc
            exact ⟨_, by simp [ObsM.detailOf, hnf'],
              .check l hl c.msg rr.key lc
                (resolve_target fmt hf (envOf ext fmt file mergeOn ref l10nText).ck rfl l10nText rr l (hfacts l hl) rs hrs c hc
                  lc hlc) rfl⟩
        · cases hev

end C17P
