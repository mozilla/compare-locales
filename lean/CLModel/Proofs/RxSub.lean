/- `re.sub` with a callback, once for the three models of it (`Rx.subWith`, `P.subWithOpt`, `PM.subWithE`): what the
   substitution returns is read off a derivation `SubAt` that follows the regex through the subject.  The derivation
   yields the list of leftmost matches (`Matches`), which is `finditer` because that relation is functional: no fuel.
   A scanner given as a function builds the derivation by `SubAt.of_spec_from`.  The instance for `Rx.subWith` is
   `subWith_go` at the end; those of `P.subWithOpt` and `PM.subWithE` stand in C02Props and C12AndroidGen. -/
import CLModel.Proofs.RxSearch
import CLModel.Proofs.ListLemmas
namespace Rx

/-- reading the subject from `p` on: where the regex matches, the callback's text (`cb p st rep`) and on after the match;
    elsewhere the character is copied -/
inductive SubAt (s : Array Nat) (r : Re) (cb : Nat → St → List Nat → Prop) : Nat → List Nat → Prop
  | done : matchAt s r s.size = none → SubAt s r cb s.size []
  | hit {p st rep out} : p ≤ s.size → matchAt s r p = some st → cb p st rep → SubAt s r cb st.pos out →
      SubAt s r cb p (rep ++ out)
  | skip {p c out} : s[p]? = some c → matchAt s r p = none → SubAt s r cb (p + 1) out → SubAt s r cb p (c :: out)

/-- what the three loops over the matches have in common: `ret` of the gaps, the callbacks' texts and the tail -/
structure SubGo {M : Type} (s : Array Nat) (go : List (Nat × St) → Nat → M) (ret : List Nat → M)
    (cb : Nat → St → List Nat → Prop) : Prop where
  nil : ∀ last, go [] last = ret (s.extract last s.size).toList
  cons : ∀ q st rest last rep tl, cb q st rep → go rest st.pos = ret tl →
    go ((q, st) :: rest) last = ret ((s.extract last q).toList ++ rep ++ tl)

variable {M : Type} {s : Array Nat} {r : Re} {go : List (Nat × St) → Nat → M} {ret : List Nat → M}
  {cb : Nat → St → List Nat → Prop}

theorem SubAt.go_eq (G : SubGo s go ret cb) {p : Nat} {out : List Nat} (h : SubAt s r cb p out) :
    ∃ ms, Matches s r p ms ∧ ∀ last, last ≤ p → go ms last = ret ((s.extract last p).toList ++ out) := by
  induction h with
  | done hm =>
    exact ⟨[], .nil fun q h1 h2 => by rwa [show q = s.size by omega], fun last _ => by rw [G.nil, List.append_nil]⟩
  | @hit p st rep out hp hm hcb _ ih =>
    obtain ⟨ms, hms, hgo⟩ := ih
    refine ⟨(p, st) :: ms, .cons (Nat.le_refl _) hp (fun q' h1 h2 => by omega) hm hms, fun last _ => ?_⟩
    rw [G.cons p st ms last rep out hcb (by simpa using hgo st.pos (Nat.le_refl _)), List.append_assoc]
  | @skip p c out hc hm _ ih =>
    obtain ⟨ms, hms, hgo⟩ := ih
    refine ⟨ms, hms.step hm, fun last hl => ?_⟩
    rw [hgo last (by omega), Txt.extract_snoc hc hl, List.append_assoc]; rfl

theorem sub_eq (G : SubGo s go ret cb) (hne : ∀ p st, matchAt s r p = some st → p < st.pos) {out : List Nat}
    (h : SubAt s r cb 0 out) : go (finditer s r) 0 = ret out := by
  obtain ⟨ms, hms, hgo⟩ := h.go_eq G
  rw [(finditer_matches_of s r hne).det hms, hgo 0 (Nat.le_refl _)]
  simp

theorem SubAt.of_spec_from (spec : List Nat → List Nat) (hnil : spec [] = [])
    (hstep : ∀ p c, s[p]? = some c →
      (matchAt s r p = none ∧ spec (c :: s.toList.drop (p + 1)) = c :: spec (s.toList.drop (p + 1))) ∨
      (∃ st a, matchAt s r p = some st ∧ p < st.pos ∧ st.pos ≤ s.size ∧ cb p st a ∧
        a ++ spec (s.toList.drop st.pos) = spec (c :: s.toList.drop (p + 1))))
    (hend : matchAt s r s.size = none) {p : Nat} (hp : p ≤ s.size) : SubAt s r cb p (spec (s.toList.drop p)) := by
  generalize hn : s.size - p = n
  induction n using Nat.strongRecOn generalizing p with
  | ind n ih =>
    rcases Txt.drop_cases s p with ⟨_, hge, hd⟩ | ⟨c, h0, hlt, hd⟩
    · obtain rfl : p = s.size := by omega
      rw [hd, hnil]
      exact .done hend
    · rw [hd]
      rcases hstep p c h0 with ⟨hm, hs⟩ | ⟨st, a, hm, hgt, hle, hcb, hs⟩
      · rw [hs]; exact .skip h0 hm (ih _ (by omega) (by omega) rfl)
      · rw [← hs]; exact .hit hp hm hcb (ih _ (by omega) hle rfl)

theorem subWith_go (s : Array Nat) (f : Nat → St → List Nat) : SubGo s (subWith.go s f) id (fun q st rep => f q st = rep) :=
  ⟨fun _ => rfl, fun q st rest last rep tl h1 h2 => by subst h1; simp only [subWith.go, h2, id]⟩

end Rx
