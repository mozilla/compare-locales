/-
C08: the order in which a Python set iteration delivers the `Missing attribute:` errors is invisible after the stable sort
by position (`run_order_irrelevant`; `posLe` is the key of `messages.sort`); the vocabulary for one FluentChecker instance
over a sequence of calls (`freshResult`, `lastRef`); reflexivity of the components of `FluentEntity.equals`.
-/
import CLModel.Proofs.C08
import CLModel.Checks.FluentExt
namespace C08I
open Ftl

def posLe (a b : Msg) : Bool := decide (a.pos ≤ b.pos)

theorem posLe_total (a b : Msg) : posLe a b = true ∨ posLe b a = true := by
  simp only [posLe, decide_eq_true_eq]; omega

theorem posLe_trans (a b c : Msg) : posLe a b = true → posLe b c = true → posLe a c = true := by
  simp only [posLe, decide_eq_true_eq]; omega

theorem sortBy_perm_congr {α : Type} (le : α → α → Bool) (l l' : List α) (h : l.Perm l') : (sortBy le l).Perm (sortBy le l') :=
  ((sortBy_perm le l).trans h).trans (sortBy_perm le l').symm

theorem run_order_irrelevant (pre ms ms' post : List Msg) (h : ms.Perm ms') :
    (sortBy posLe (pre ++ ms ++ post)).Perm (sortBy posLe (pre ++ ms' ++ post)) ∧
    ∀ p : Msg → Bool, (∀ m ∈ ms, p m = false) →
      (sortBy posLe (pre ++ ms ++ post)).filter p = (sortBy posLe (pre ++ ms' ++ post)).filter p := by
  refine ⟨sortBy_perm_congr _ _ _ ((h.append_left pre).append_right post), ?_⟩
  intro p hp
  rw [sortBy_filter_comm posLe posLe_total posLe_trans, sortBy_filter_comm posLe posLe_total posLe_trans]
  have h1 : ms.filter p = [] := by
    rw [List.filter_eq_nil_iff]; intro m hm; simp [hp m hm]
  have h2 : ms'.filter p = [] := by
    rw [List.filter_eq_nil_iff]; intro m hm; simp [hp m (h.mem_iff.mpr hm)]
  simp [List.filter_append, h1, h2]

/-- the result a FRESH checker for the same locale gives for an action (`none` for set_reference) -/
def freshResult (locale : Option Str) (a : Action) : Option (Except Unit (List Out)) := ((Checker.new locale).step a).1

def lastRef : List Action → Option (List Str) → Option (List Str)
  | [], r => r
  | .setRef keys :: rest, _ => lastRef rest (some keys)
  | .case _ _ _ _ :: rest, r => lastRef rest r

theorem namedEqv_refl (l : List NamedArg) : namedEqv l l = true := by
  induction l with
  | nil => rfl
  | cons a r ih => simp [namedEqv, NamedArg.eqv, ih]

theorem vkey_eqv_refl (k : VKey) : VKey.eqv k k = true := by
  cases k <;> simp [VKey.eqv, VKey.equals]

theorem optStrEq_refl (a : Option Str) : optStrEq a a = true := by
  cases a <;> simp [optStrEq]

mutual
  theorem pattern_eqv_refl : ∀ p : Pattern, p.eqv p = true
    | .mk s els => by
      simp only [Pattern.eqv]
      exact elems_eqv_refl els
  theorem elems_eqv_refl : ∀ els : List Elem, elemsEqv els els = true
    | [] => by simp only [elemsEqv]
    | e :: r => by
      simp only [elemsEqv]
      rw [elem_eqv_refl e, elems_eqv_refl r]; rfl
  theorem elem_eqv_refl : ∀ e : Elem, e.eqv e = true
    | .text v => by simp only [Elem.eqv]; simp
    | .placeable e => by simp only [Elem.eqv]; exact expr_eqv_refl e
  theorem expr_eqv_refl : ∀ e : Expr, e.eqv e = true
    | .strLit v => by simp only [Expr.eqv]; simp
    | .numLit v => by simp only [Expr.eqv]; simp
    | .varRef v => by simp only [Expr.eqv]; simp
    | .msgRef s i a => by simp only [Expr.eqv]; simp [optStrEq_refl]
    | .termRef s i a none => by simp only [Expr.eqv, optArgsEqv]; simp [optStrEq_refl]
    | .termRef s i a (some c) => by
      simp only [Expr.eqv, optArgsEqv]
      simp [optStrEq_refl, args_eqv_refl c]
    | .funRef i c => by simp only [Expr.eqv]; simp [args_eqv_refl c]
    | .select sel vs => by
      simp only [Expr.eqv]
      rw [expr_eqv_refl sel, variants_eqv_refl vs]; rfl
    | .placeable e => by simp only [Expr.eqv]; exact expr_eqv_refl e
  theorem variants_eqv_refl : ∀ vs : List Variant, variantsEqv vs vs = true
    | [] => by simp only [variantsEqv]
    | v :: r => by
      simp only [variantsEqv]
      rw [variant_eqv_refl v, variants_eqv_refl r]; rfl
  theorem variant_eqv_refl : ∀ v : Variant, v.eqv v = true
    | .mk k p d => by
      simp only [Variant.eqv]
      simp [vkey_eqv_refl, pattern_eqv_refl p]
  theorem args_eqv_refl : ∀ c : CallArgs, c.eqv c = true
    | .mk pos named => by
      simp only [CallArgs.eqv]
      simp [exprs_eqv_refl pos, namedEqv_refl]
  theorem exprs_eqv_refl : ∀ es : List Expr, exprsEqv es es = true
    | [] => by simp only [exprsEqv]
    | e :: r => by
      simp only [exprsEqv]
      rw [expr_eqv_refl e, exprs_eqv_refl r]; rfl
end

theorem attrsEqv_refl (l : List Attribute) : attrsEqv l l = true := by
  induction l with
  | nil => rfl
  | cons a r ih => simp [attrsEqv, Attribute.eqv, pattern_eqv_refl, ih]

end C08I
