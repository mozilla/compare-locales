/-
C05 pipeline, DTD files: the `DTDChecker` model answers for every pair the comparison and the linter hand to it
(`Pipe.Answers`), for every verdict function of expat and every `html.unescape`, when the two texts hold scalar values.
-/
import CLModel.Proofs.C05Dtd
namespace C05Dtd
open Pipe

theorem mem_pyslice {s : Array Nat} {a b : Int} {c : Nat} (h : c ∈ P.pySlice s a b) : c ∈ s.toList := mem_slice h

/-- what `DTDChecker.check` encodes of an entry holds scalar values: `raw_val`, `all`, and the key of an Entity -/
def EntScalar (e : PEnt) : Prop :=
  ScalarText e.raw ∧ ScalarText e.all ∧ (e.junk = false → ∀ k, e.key = .str k → ScalarText k)

theorem mkEnt_scalar (ext : Ext) (s : Array Nat) (hs : ScalarText s.toList) (h : Hist.Ent) (e : PEnt)
    (he : mkEnt ext .dtd s h = .ok e) : EntScalar e := by
  unfold mkEnt at he
  cases hj : h.jid with
  | some id =>
    simp only [hj, Except.ok.injEq] at he
    subst he
    refine ⟨hs.sub (fun c hc => mem_slice hc), hs.sub (fun c hc => mem_slice hc), ?_⟩
    intro hjk; simp [mkJunk] at hjk
  | none =>
    simp only [hj, P.entView, entVal] at he
    simp only [Except.ok.injEq] at he
    subst he
    refine ⟨hs.sub (fun c hc => mem_pyslice hc), hs.sub (fun c hc => mem_slice hc), ?_⟩
    intro _ k hk
    simp only [Cmp.Key.str.injEq] at hk
    subst hk
    exact hs.sub (fun c hc => mem_pyslice hc)

theorem parseFile_scalar (ext : Ext) (s : Array Nat) (hs : ScalarText s.toList) (n : Nat) (ents : List PEnt) (m : Nat)
    (h : parseFile ext .dtd s n = .ok (ents, m)) : ∀ e ∈ ents, EntScalar e := by
  obtain ⟨_, _, _, hents⟩ := parseFile_mem h
  intro e he
  obtain ⟨hh, _, _, hmk⟩ := hents e he
  exact mkEnt_scalar ext s hs hh e hmk

theorem dtd_resolvable (l : PEnt) (hj : l.junk = false) (hk : l.entry.kind = .entity) (r : Dtd.Result) :
    Resolvable .dtd l (ofDtdResult r).pos := by
  cases hp : r.pos with
  | lc a b => exact Or.inr (Or.inr ⟨⟨a, b, by simp [ofDtdResult, hp]⟩, rfl, hk⟩)
  | num n => exact Or.inr (Or.inl ⟨⟨n, by simp [ofDtdResult, hp]⟩, Or.inr ⟨hj, hk⟩⟩)
  | entityPos n => exact Or.inl ⟨n, by simp [ofDtdResult, hp]⟩

theorem encPrefix_eq : Dtd.msgMochibake = encPrefix := by decide

theorem runDtd_ok (c : CkCtx) (r l : PEnt) (rk lk : Text) (hrk : r.key = .str rk) (hlk : l.key = .str lk)
    (hlj : l.junk = false) (hlk' : l.entry.kind = .entity)
    (hvals : ∀ v ∈ c.refVals, ScalarText v) (hr : EntScalar r) (hl : EntScalar l) (hrj : r.junk = false) :
    ∃ rs, runDtd c r l = .ok rs ∧ (∀ x ∈ rs, Resolvable .dtd l x.pos) ∧ ∀ b ∈ runBase l, b ∈ rs := by
  have hsc : InpScalar (dtdInp c rk lk r l) :=
    ⟨by simpa [Dtd.refValsOf, dtdInp] using hvals, hr.2.2 hrj rk hrk, hr.2.1, hr.1, hl.2.2 hlj lk hlk, hl.2.1, hl.1⟩
  have hexc := check_no_exc c.xml (dtdInp c rk lk r l) rfl hsc
  refine ⟨((Dtd.check c.xml (dtdInp c rk lk r l)).results.map ofDtdResult), ?_, ?_, ?_⟩
  · simp only [runDtd, hrk, hlk, hexc]
  · intro x hx
    simp only [List.mem_map] at hx
    obtain ⟨y, _, rfl⟩ := hx
    exact dtd_resolvable l hlj hlk' y
  · intro b hb
    simp only [runBase, Checks.baseCheck, List.mem_map] at hb
    obtain ⟨x, ⟨m, hm, rfl⟩, rfl⟩ := hb
    rw [Dtd.check_results _ _ hexc]
    simp only [List.map_append, List.mem_append, List.mem_map]
    refine Or.inl (Or.inl (Or.inl (Or.inl ⟨⟨.warning, .entityPos m.1, Dtd.msgMochibake ++ lk, .encodings⟩, ?_, ?_⟩)))
    · simp only [Dtd.baseCheck, dtdInp, List.mem_map]
      exact ⟨m, hm, rfl⟩
    · simp [ofDtdResult, dtdCatText, encPrefix_eq, hlk, keyText]

theorem refVals_scalar (ref : List PEnt) (h : ∀ e ∈ ref, EntScalar e) : ∀ v ∈ ref.map (·.raw), ScalarText v := by
  intro v hv
  obtain ⟨e, he, rfl⟩ := List.mem_map.1 hv
  exact (h e he).1

theorem answers_dtd (c : CkCtx) (hk : c.kind = .dtd) (r l : PEnt) (hwr : PWf .dtd r) (hwl : PWf .dtd l)
    (hvals : ∀ v ∈ c.refVals, ScalarText v) (hsr : EntScalar r) (hsl : EntScalar l) (hrj : r.junk = false)
    (hlj : l.junk = false) : Answers .dtd c r l := by
  obtain ⟨rk, hrk⟩ := hwr.2.1 (by simp)
  obtain ⟨lk, hlk⟩ := hwl.2.1 (by simp)
  obtain ⟨rs, h1, h2, h3⟩ := runDtd_ok c r l rk lk hrk hlk hlj (hwl.entity hlj) hvals hsr hsl hrj
  exact ⟨rs, by simp only [runChecker, hk, h1], h2, h3⟩

end C05Dtd
