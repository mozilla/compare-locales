/- A general Android round-trip lemma: `re.sub` with a callback as left-to-right rewriting by a local rule, the three
   substitutions of the Android conversions analysed subtag by subtag; at the end its hypothesis as a Boolean test. -/
import CLModel.Paths.Matcher
import CLModel.Proofs.C12Scan
import CLModel.Proofs.C12REngine
import CLModel.Proofs.RxSub
namespace C12A
open Rx PM C12S C11R

/-- rewriting a text left to right with a local rule: where `loc` fires (`n` characters become `rep`) the replacement is
    emitted and the scan goes on after the `n` characters, otherwise the character is kept.  A relation, because the
    recursion jumps by `drop n`: a proof builds the derivation for the text at hand, and `subWithE_rewrite` reads the
    result of `re.sub` off it. -/
inductive Rw (loc : Text → Option (Nat × Text)) : Text → Text → Prop
  | nil : Rw loc [] []
  | hit {l n rep out} : loc l = some (n, rep) → Rw loc (l.drop n) out → Rw loc l (rep ++ out)
  | skip {c cs out} : loc (c :: cs) = none → Rw loc cs out → Rw loc (c :: cs) (c :: out)

/-- the local rule describes the regex at every position of the subject -/
def LocalOK (s : Array Nat) (r : Re) (f : St → Except PyErr Text) (loc : Text → Option (Nat × Text)) : Prop :=
  ∀ p, p ≤ s.size →
    match loc (s.toList.drop p) with
    | some (n, rep) => 0 < n ∧ ∃ st, matchAt s r p = some st ∧ st.pos = p + n ∧ f st = .ok rep
    | none => matchAt s r p = none

theorem subWithE_go (s : Array Nat) (f : St → Except PyErr Text) :
    SubGo s (subWithE.go s f) .ok (fun _ st rep => f st = .ok rep) :=
  ⟨fun _ => rfl, fun q st rest last rep tl h1 h2 => by simp only [subWithE.go, h1, h2, bind, Except.bind]; rfl⟩

theorem subAt_of_rw {s : Array Nat} {r : Re} {f : St → Except PyErr Text} {loc : Text → Option (Nat × Text)}
    (hloc : LocalOK s r f loc) {l out : Text} (h : Rw loc l out) :
    ∀ p, s.toList.drop p = l → p ≤ s.size → SubAt s r (fun _ st rep => f st = .ok rep) p out := by
  induction h with
  | nil =>
    intro p hl hp
    obtain rfl : p = s.size := by have := congrArg List.length hl; simp at this; omega
    have := hloc s.size hp
    rw [hl] at this
    split at this
    · obtain ⟨hn, st, hm, hpos, _⟩ := this
      have := (matchAt_span hm hp).2
      omega
    · exact .done this
  | @hit l n rep out hl0 _ ih =>
    intro p hl hp
    have := hloc p hp
    rw [hl, hl0] at this
    obtain ⟨hn, st, hm, hstpos, hfst⟩ := this
    have hb := (matchAt_span hm hp).2
    exact .hit hp hm hfst (hstpos ▸ ih (p + n) (by rw [← hl, List.drop_drop]) (by omega))
  | @skip c cs out hl0 _ ih =>
    intro p hl hp
    have := hloc p hp
    rw [hl, hl0] at this
    have hlt : p < s.size := by have := congrArg List.length hl; simp at this; omega
    exact .skip (Txt.head_of_drop hl) this (ih (p + 1) (Txt.drop_succ_of_cons hl) hlt)

theorem subWithE_rewrite (s : Array Nat) (r : Re) (f : St → Except PyErr Text) (loc : Text → Option (Nat × Text))
    (hne : NonEmpty s r) (hloc : LocalOK s r f loc) {out : Text} (h : Rw loc s.toList out) : subWithE s r f = .ok out :=
  sub_eq (subWithE_go s f) hne (subAt_of_rw hloc h 0 rfl (Nat.zero_le _))

/-- `(?=\Z|-)` right here -/
def endOrDash (r : Text) : Bool := r == [] || r.head? == some 45

def isUp (c : Nat) : Bool := 65 ≤ c && c ≤ 90

/-- the local rule of `re.sub(r"-r([A-Z]{2})", r"-\1", ...)` -/
def locR : Text → Option (Nat × Text)
  | 45 :: 114 :: a :: b :: _ => if isUp a && isUp b then some (4, [45, a, b]) else none
  | _ => none

def joinWith (c : Nat) : List Text → Text
  | [] => []
  | [a] => a
  | a :: b :: r => a ++ c :: joinWith c (b :: r)

/-- a two-letter code at the END of a subtag is replaced through the table -/
def legT (tbl : List (Text × Text)) : Text → Text
  | [] => []
  | [x] => [x]
  | [x, y] => match tbl.lookup [x, y] with
    | some t => t
    | none => [x, y]
  | x :: y :: z :: r => x :: legT tbl (y :: z :: r)

def locT (tbl : List (Text × Text)) : Text → Option (Nat × Text)
  | a :: b :: r =>
    if endOrDash r then
      match tbl.lookup [a, b] with
      | some t => some (2, t)
      | none => none
    else none
  | _ => none

def KeysOK (tbl : List (Text × Text)) : Prop := ∀ a b, (a = 45 ∨ b = 45) → tbl.lookup [a, b] = none

theorem keysOK_legacy : KeysOK Gen.Tables.androidLegacyMap := by
  intro a b h
  rcases h with rfl | rfl <;> simp [Gen.Tables.androidLegacyMap, List.lookup]

theorem keysOK_standard : KeysOK Gen.Tables.androidStandardMap := by
  intro a b h
  rcases h with rfl | rfl <;> simp [Gen.Tables.androidStandardMap, List.lookup]

theorem joinWith_cons2 (c : Nat) (a b : Text) (r : List Text) : joinWith c (a :: b :: r) = a ++ c :: joinWith c (b :: r) := rfl

theorem locT_dash (tbl : List (Text × Text)) (hk : KeysOK tbl) (x : Nat) {rest : Text}
    (hrest : rest = [] ∨ rest.head? = some 45) : locT tbl (x :: rest) = none := by
  rcases hrest with rfl | hr
  · rfl
  · cases rest with
    | nil => rfl
    | cons y r =>
      simp at hr; subst hr
      unfold locT
      simp only [hk x 45 (Or.inr rfl)]
      split <;> rfl

theorem rewrite_subtag (tbl : List (Text × Text)) (hk : KeysOK tbl) {rest out : Text}
    (hrest : rest = [] ∨ rest.head? = some 45) (h : Rw (locT tbl) rest out) :
    ∀ t : Text, 45 ∉ t → Rw (locT tbl) (t ++ rest) (legT tbl t ++ out)
  | [], _ => h
  | [x], _ => .skip (locT_dash tbl hk x hrest) h
  | [x, y], _ => by
    have hend : endOrDash rest = true := by
      rcases hrest with rfl | hr
      · rfl
      · simp [endOrDash, hr]
    cases hl : tbl.lookup [x, y] with
    | some t =>
      simp only [legT, hl]
      exact .hit (n := 2) (by simp [locT, hend, hl]) h
    | none =>
      simp only [legT, hl]
      exact .skip (by simp [locT, hend, hl]) (.skip (locT_dash tbl hk y hrest) h)
  | x :: y :: z :: r, hx => by
    have hz : z ≠ 45 := fun e => hx (by simp [e])
    have : endOrDash (z :: (r ++ rest)) = false := by simp [endOrDash, hz]
    exact .skip (by simp [locT, this]) (rewrite_subtag tbl hk hrest h (y :: z :: r) (fun e => hx (List.mem_cons_of_mem _ e)))

theorem rewrite_join (tbl : List (Text × Text)) (hk : KeysOK tbl) : ∀ (ts : List Text), (∀ t ∈ ts, 45 ∉ t) →
    Rw (locT tbl) (joinWith 45 ts) (joinWith 45 (ts.map (legT tbl)))
  | [], _ => .nil
  | [a], h => by simpa [joinWith] using rewrite_subtag tbl hk (Or.inl rfl) .nil a (h a (by simp))
  | a :: b :: r, h => by
    have hloc : locT tbl (45 :: joinWith 45 (b :: r)) = none := by
      unfold locT
      cases hj : joinWith 45 (b :: r) with
      | nil => rfl
      | cons y r' =>
        simp only [hk 45 y (Or.inl rfl)]
        split <;> rfl
    exact rewrite_subtag tbl hk (Or.inr rfl) (.skip hloc (rewrite_join tbl hk (b :: r) (fun t ht => h t (by simp [ht])))) a
      (h a (by simp))

theorem locR_none_of_head {c : Nat} (r : Text) (h : c ≠ 45) : locR (c :: r) = none := by
  unfold locR
  split
  · rename_i heq; simp only [List.cons.injEq] at heq; exact absurd heq.1.symm (fun e => h e.symm)
  · rfl

theorem rewriteR_subtag {rest out : Text} (h : Rw locR rest out) : ∀ t : Text, 45 ∉ t → Rw locR (t ++ rest) (t ++ out)
  | [], _ => h
  | x :: t, hx => .skip (locR_none_of_head _ fun e => hx (by simp [e]))
      (rewriteR_subtag h t fun e => hx (List.mem_cons_of_mem _ e))

/-- a subtag that does not look like `rXX` (r, then two capital letters) -/
def NotRegionQualifier (t : Text) : Prop :=
  ∀ a b q, t = 114 :: a :: b :: q → ¬ (isUp a = true ∧ isUp b = true)

theorem locR_dash_none {b tl : Text} (hb45 : 45 ∉ b) (hqb : NotRegionQualifier b) (htl : tl = [] ∨ tl.head? = some 45) :
    locR (45 :: (b ++ tl)) = none := by
  unfold locR
  split
  · rename_i _ x y w heq
    simp only [List.cons.injEq, true_and] at heq
    split
    · rename_i hup
      simp only [Bool.and_eq_true] at hup
      exfalso
      have hx45 : x ≠ 45 := by intro e; rw [e] at hup; simp [isUp] at hup
      have hy45 : y ≠ 45 := by intro e; rw [e] at hup; simp [isUp] at hup
      match b, hb45, hqb, heq with
      | [], _, _, heq =>
        simp only [List.nil_append] at heq
        rcases htl with ht | ht
        · rw [ht] at heq; cases heq
        · rw [heq] at ht; simp at ht
      | [b0], hb45, _, heq =>
        simp only [List.cons_append, List.nil_append, List.cons.injEq] at heq
        rcases htl with ht | ht
        · rw [ht] at heq; cases heq.2
        · rw [heq.2] at ht; simp at ht; exact hx45 ht
      | [b0, b1], hb45, _, heq =>
        simp only [List.cons_append, List.nil_append, List.cons.injEq] at heq
        rcases htl with ht | ht
        · rw [ht] at heq; cases heq.2.2
        · rw [heq.2.2] at ht; simp at ht; exact hy45 ht
      | b0 :: b1 :: b2 :: q, _, hqb, heq =>
        simp only [List.cons_append, List.cons.injEq] at heq
        obtain ⟨e0, e1, e2, _⟩ := heq
        subst e0; subst e1; subst e2
        exact hqb _ _ _ rfl hup
    · rfl
  · rfl

theorem rewriteR_join_none : ∀ (ts : List Text), (∀ t ∈ ts, 45 ∉ t) → (∀ t ∈ ts.tail, NotRegionQualifier t) →
    Rw locR (joinWith 45 ts) (joinWith 45 ts)
  | [], _, _ => .nil
  | [a], h, _ => by simpa [joinWith] using rewriteR_subtag .nil a (h a (by simp))
  | a :: b :: r, h, hq => by
    have hstart : ∃ tl, joinWith 45 (b :: r) = b ++ tl ∧ (tl = [] ∨ tl.head? = some 45) := by
      cases r with
      | nil => exact ⟨[], by simp [joinWith], Or.inl rfl⟩
      | cons c r' => exact ⟨45 :: joinWith 45 (c :: r'), rfl, Or.inr rfl⟩
    obtain ⟨tl, hj, htl⟩ := hstart
    have hloc : locR (45 :: joinWith 45 (b :: r)) = none := by
      rw [hj]; exact locR_dash_none (h b (by simp)) (hq b (by simp)) htl
    exact rewriteR_subtag (.skip hloc (rewriteR_join_none (b :: r) (fun t ht => h t (by simp [ht]))
      (fun t ht => hq t (List.mem_of_mem_tail ht)))) a (h a (by simp))

theorem rewriteR_region (p0 q : Text) (a b : Nat) (h0 : 45 ∉ p0) (hq : 45 ∉ q) (ha : isUp a = true) (hb : isUp b = true) :
    Rw locR (p0 ++ 45 :: 114 :: a :: b :: q) (p0 ++ 45 :: a :: b :: q) :=
  rewriteR_subtag (.hit (n := 4) (rep := [45, a, b]) (by simp [locR, ha, hb])
    (by simpa using rewriteR_subtag .nil q hq)) p0 h0

def isLow (c : Nat) : Bool := 97 ≤ c && c ≤ 122

def lowAt (l : Text) (i : Nat) : Bool := match l[i]? with | some c => isLow c | none => false
def upAt (l : Text) (i : Nat) : Bool := match l[i]? with | some c => isUp c | none => false
def dashAt (l : Text) (i : Nat) : Bool := l[i]? == some 45

/-- `re.match(r"[a-z]{2,3}-[A-Z]{2}", text)` succeeds -/
def regionShape (l : Text) : Bool :=
  lowAt l 0 && lowAt l 1 &&
    ((dashAt l 2 && upAt l 3 && upAt l 4) || (lowAt l 2 && dashAt l 3 && upAt l 4 && upAt l 5))

theorem region_hit (l : Text) :
    (matchAt l.toArray Gen.Pat.paths_matcher_AndroidLocale__get_android_locale_1 0).isSome = regionShape l := by
  have hs : ∀ i, l.toArray[i]? = l[i]? := fun i => List.getElem?_toArray
  have hlow : ∀ i, atP isLow l.toArray[i]? = lowAt l i := fun i => by rw [hs]; rfl
  have hup : ∀ i, atP isUp l.toArray[i]? = upAt l i := fun i => by rw [hs]; rfl
  -- the tail `-[A-Z]{2}` tried at position `j`
  have tail : ∀ j, (m l.toArray (.lit 45) ⟨j, []⟩
      (fun st' => m l.toArray (.rep 2 (some 2) true (.cls false [.range 65 90])) st' some)).isSome =
      (dashAt l j && upAt l (j + 1) && upAt l (j + 2)) := by
    intro j
    rw [m_lit_def]
    by_cases h : l[j]? = some 45
    · have hlt : j < l.toArray.size := getElem?_some_lt ((hs j).trans h)
      simp only [hs, h, beq_self_eq_true, if_true, dashAt, Bool.true_and]
      rw [m_rep_exact _ _ isUp (oneChar_range _ 65 90) 2 (j + 1) hlt]
      simp only [succ_le_runAt, Nat.zero_le, and_true, hup, Nat.add_assoc, Nat.reduceAdd]
      cases upAt l (j + 1) <;> cases upAt l (j + 2) <;> simp
    · simp [dashAt, hs, h]
  -- `[a-z]{2,3}` takes three letters if it can, then two
  simp only [matchAt, Gen.Pat.paths_matcher_AndroidLocale__get_android_locale_1, m_seq_def]
  rw [m_rep_greedy_max (P := isLow) (oneChar_range _ 97 122) 2 3 (by omega) (Nat.zero_le _)]
  have h3 : (3 ≤ 0 + runAt l.toArray isLow 0) = (lowAt l 0 = true ∧ lowAt l 1 = true ∧ lowAt l 2 = true) := by
    simp only [Nat.zero_add, succ_le_runAt, Nat.zero_le, and_true, hlow, Nat.reduceAdd]
  have h2 : (2 ≤ 0 + runAt l.toArray isLow 0) = (lowAt l 0 = true ∧ lowAt l 1 = true) := by
    simp only [Nat.zero_add, succ_le_runAt, Nat.zero_le, and_true, hlow, Nat.reduceAdd]
  simp only [downFrom, List.filter_cons, List.filter_nil, Nat.reduceAdd, Nat.reduceSub, h3, h2, regionShape]
  cases lowAt l 0 <;> cases lowAt l 1 <;> cases lowAt l 2 <;>
    simp [firstSome, tail, Bool.or_comm]

def TblOK (tbl : List (Text × Text)) : Prop :=
  ∀ a b v, tbl.lookup [a, b] = some v → isLow a = true ∧ isLow b = true ∧ ∃ x y, v = [x, y] ∧ isLow x = true ∧ isLow y = true

theorem lookup3 {k1 k2 k3 v1 v2 v3 k v : Text} (h : List.lookup k [(k1, v1), (k2, v2), (k3, v3)] = some v) :
    (k = k1 ∧ v = v1) ∨ (k = k2 ∧ v = v2) ∨ (k = k3 ∧ v = v3) := by
  simp only [List.lookup] at h
  split at h
  · rename_i he; exact Or.inl ⟨by simpa using he, by simpa using h.symm⟩
  · split at h
    · rename_i he; exact Or.inr (Or.inl ⟨by simpa using he, by simpa using h.symm⟩)
    · split at h
      · rename_i he; exact Or.inr (Or.inr ⟨by simpa using he, by simpa using h.symm⟩)
      · cases h

theorem tblOK_legacy : TblOK Gen.Tables.androidLegacyMap := by
  intro a b v h
  rcases lookup3 h with ⟨hk, rfl⟩ | ⟨hk, rfl⟩ | ⟨hk, rfl⟩ <;>
    (simp only [List.cons.injEq, and_true] at hk; obtain ⟨rfl, rfl⟩ := hk; exact ⟨by decide, by decide, _, _, rfl, by decide, by decide⟩)

theorem tblOK_standard : TblOK Gen.Tables.androidStandardMap := by
  intro a b v h
  rcases lookup3 h with ⟨hk, rfl⟩ | ⟨hk, rfl⟩ | ⟨hk, rfl⟩ <;>
    (simp only [List.cons.injEq, and_true] at hk; obtain ⟨rfl, rfl⟩ := hk; exact ⟨by decide, by decide, _, _, rfl, by decide, by decide⟩)

/-- the character classes the region test and the `b+` branch look at -/
def kind (c : Nat) : Bool × Bool × Bool × Bool := (isLow c, isUp c, c == 45, c == 43)

theorem legT_kind (tbl : List (Text × Text)) (hv : TblOK tbl) : ∀ t : Text, (legT tbl t).map kind = t.map kind
  | [] => rfl
  | [x] => rfl
  | [x, y] => by
    simp only [legT]
    cases hl : tbl.lookup [x, y] with
    | none => rfl
    | some v =>
      obtain ⟨hx, hy, a, b, rfl, ha, hb⟩ := hv x y v hl
      have low_kind : ∀ c, isLow c = true → kind c = (true, false, false, false) := by
        intro c hc
        simp only [isLow, Bool.and_eq_true, decide_eq_true_eq] at hc
        simp only [kind, isLow, isUp, Prod.mk.injEq, Bool.and_eq_true, decide_eq_true_eq, Bool.and_eq_false_imp,
          beq_eq_false_iff_ne, ne_eq]
        refine ⟨⟨hc.1, hc.2⟩, ?_, ?_, ?_⟩
        · intro _; simp; omega
        · omega
        · omega
      simp [low_kind _ hx, low_kind _ hy, low_kind _ ha, low_kind _ hb]
  | x :: y :: z :: r => by simp [legT, legT_kind tbl hv (y :: z :: r)]

theorem legT_length (tbl : List (Text × Text)) (hv : TblOK tbl) (t : Text) : (legT tbl t).length = t.length := by
  simpa using congrArg List.length (legT_kind tbl hv t)

theorem mem_of_kinds {l l' : Text} (h : l.map kind = l'.map kind) : (45 ∈ l ↔ 45 ∈ l') ∧ (43 ∈ l ↔ 43 ∈ l') := by
  have key : ∀ (d : Nat) (f : Bool × Bool × Bool × Bool → Bool), (∀ c, f (kind c) = (c == d)) → ∀ l : Text,
      d ∈ l ↔ (l.map kind).any f = true := by
    intro d f hf l
    simp only [List.any_map, List.any_eq_true, Function.comp, hf, beq_iff_eq]
    exact ⟨fun hm => ⟨d, hm, rfl⟩, fun ⟨_, hx, e⟩ => e ▸ hx⟩
  rw [key 45 (·.2.2.1) (fun _ => rfl) l, key 45 (·.2.2.1) (fun _ => rfl) l', key 43 (·.2.2.2) (fun _ => rfl) l,
    key 43 (·.2.2.2) (fun _ => rfl) l', h]
  exact ⟨Iff.rfl, Iff.rfl⟩

theorem at_of_kinds {l l' : Text} (h : l.map kind = l'.map kind) (i : Nat) :
    lowAt l i = lowAt l' i ∧ upAt l i = upAt l' i ∧ dashAt l i = dashAt l' i := by
  have hi : (l[i]?).map kind = (l'[i]?).map kind := by
    rw [← List.getElem?_map, ← List.getElem?_map, h]
  unfold lowAt upAt dashAt
  cases h1 : l[i]? with
  | none =>
    cases h2 : l'[i]? with
    | none => simp
    | some d => simp [h1, h2] at hi
  | some c =>
    cases h2 : l'[i]? with
    | none => simp [h1, h2] at hi
    | some d =>
      simp only [h1, h2, Option.map_some, Option.some.injEq, kind, Prod.mk.injEq] at hi
      obtain ⟨e1, e2, e3, _⟩ := hi
      refine ⟨e1, e2, ?_⟩
      simpa using e3

theorem regionShape_of_kinds {l l' : Text} (h : l.map kind = l'.map kind) : regionShape l = regionShape l' := by
  unfold regionShape
  simp only [(at_of_kinds h 0).1, (at_of_kinds h 1).1, (at_of_kinds h 2).1, (at_of_kinds h 2).2.2, (at_of_kinds h 3).2.1,
    (at_of_kinds h 3).2.2, (at_of_kinds h 4).2.1, (at_of_kinds h 5).2.1]

theorem join_kind (tbl : List (Text × Text)) (hv : TblOK tbl) : ∀ ts : List Text,
    (joinWith 45 (ts.map (legT tbl))).map kind = (joinWith 45 ts).map kind
  | [] => rfl
  | [a] => by simpa [joinWith] using legT_kind tbl hv a
  | a :: b :: r => by
    have ih := join_kind tbl hv (b :: r)
    simp only [List.map_cons] at ih ⊢
    rw [joinWith_cons2, joinWith_cons2]
    simp only [List.map_append, List.map_cons, legT_kind tbl hv a, ih]

/-- the subtag does not end with a legacy code (`iw`, `in`, `ji`): mapping it back changes nothing -/
def NoLegacyEnd (t : Text) : Prop := legT Gen.Tables.androidStandardMap t = t

theorem std_leg : ∀ t : Text, NoLegacyEnd t →
    legT Gen.Tables.androidStandardMap (legT Gen.Tables.androidLegacyMap t) = t
  | [], _ => rfl
  | [x], _ => rfl
  | [x, y], h => by
    simp only [legT] at h ⊢
    cases hl : Gen.Tables.androidLegacyMap.lookup [x, y] with
    | none =>
      unfold NoLegacyEnd at h
      simpa [legT] using h
    | some v =>
      rcases lookup3 hl with ⟨hk, rfl⟩ | ⟨hk, rfl⟩ | ⟨hk, rfl⟩ <;>
        (simp only [List.cons.injEq, and_true] at hk; obtain ⟨rfl, rfl⟩ := hk; rfl)
  | x :: y :: z :: r, h => by
    have hlen := legT_length Gen.Tables.androidLegacyMap tblOK_legacy (y :: z :: r)
    have hr : NoLegacyEnd (y :: z :: r) := by
      unfold NoLegacyEnd at h ⊢
      simp only [legT, List.cons.injEq, true_and] at h
      exact h
    have ih := std_leg (y :: z :: r) hr
    simp only [legT]
    -- the mapped tail still has at least two characters
    cases hm : legT Gen.Tables.androidLegacyMap (y :: z :: r) with
    | nil => rw [hm] at hlen; simp at hlen
    | cons y' t' =>
      cases t' with
      | nil => rw [hm] at hlen; simp at hlen
      | cons z' r' =>
        rw [hm] at ih
        simp only [legT, ih]

theorem splitOnAux_free (sep : Nat) : ∀ (a rest cur : Text), sep ∉ a →
    splitOnAux sep (a ++ rest) cur = splitOnAux sep rest (a.reverse ++ cur)
  | [], _, _, _ => rfl
  | c :: a, rest, cur, h => by
    have hc : (c == sep) = false := by
      simp only [beq_eq_false_iff_ne, ne_eq]; intro e; exact h (by simp [e])
    simp only [List.cons_append, splitOnAux, hc, Bool.false_eq_true, if_false]
    rw [splitOnAux_free sep a rest (c :: cur) (fun e => h (List.mem_cons_of_mem _ e))]
    simp

theorem splitOn_two (a b : Text) (ha : 45 ∉ a) (hb : 45 ∉ b) : splitOn 45 (a ++ 45 :: b) = [a, b] := by
  unfold splitOn
  rw [splitOnAux_free 45 a _ [] ha]
  simp only [splitOnAux, beq_self_eq_true, if_true, List.append_nil, List.reverse_reverse]
  have := splitOnAux_free 45 b [] [] hb
  simp only [List.append_nil] at this
  rw [this]
  simp [splitOnAux]

theorem replaceAll_single (x y : Nat) : ∀ (f : Nat) (l : Text), l.length ≤ f →
    replaceAll [x] [y] f l = l.map (fun c => if c = x then y else c)
  | 0, l, h => by
    have : l = [] := by cases l <;> simp_all
    subst this; rfl
  | f + 1, [], _ => rfl
  | f + 1, c :: cs, h => by
    simp only [replaceAll, List.isEmpty_cons, Bool.not_false, Bool.true_and, List.isPrefixOf, Bool.and_true,
      List.length_singleton, List.drop_succ_cons, List.drop_zero, List.map_cons]
    have ih := replaceAll_single x y f cs (by simpa using h)
    by_cases hc : c = x
    · subst hc; simp [ih]
    · have : (x == c) = false := by simp only [beq_eq_false_iff_ne, ne_eq]; exact fun e => hc e.symm
      simp [this, hc, ih]

theorem map_noop {α} {f : α → α} (l : List α) (h : ∀ c ∈ l, f c = c) : l.map f = l :=
  (List.map_congr_left h).trans (List.map_id l)

theorem map_subst_noop {x : Nat} (y : Nat) {l : Text} (h : x ∉ l) : l.map (fun c => if c = x then y else c) = l :=
  map_noop l fun c hc => if_neg fun (e : c = x) => h (e ▸ hc)

theorem map_sep_join (x y : Nat) : ∀ ts : List Text, (∀ t ∈ ts, x ∉ t) →
    (joinWith x ts).map (fun c => if c = x then y else c) = joinWith y ts
  | [], _ => rfl
  | [a], h => map_subst_noop y (h a (by simp))
  | a :: b :: r, h => by
    have ih := map_sep_join x y (b :: r) (fun t ht => h t (by simp [ht]))
    rw [joinWith_cons2, joinWith_cons2]
    simp only [List.map_append, List.map_cons, if_true, ih, map_subst_noop y (h a (by simp))]

theorem mem_join (x : Nat) : ∀ ts : List Text, (∀ t ∈ ts, x ∉ t) → (x ∈ joinWith x ts ↔ 2 ≤ ts.length)
  | [], _ => by simp [joinWith]
  | [a], h => by simpa [joinWith] using h a (by simp)
  | a :: b :: r, h => by
    rw [joinWith_cons2]
    simp

theorem not_mem_join (c x : Nat) (hcx : c ≠ x) : ∀ ts : List Text, (∀ t ∈ ts, c ∉ t) → c ∉ joinWith x ts
  | [], _ => by simp [joinWith]
  | [a], h => by simpa [joinWith] using h a (by simp)
  | a :: b :: r, h => by
    rw [joinWith_cons2]
    have ih := not_mem_join c x hcx (b :: r) (fun t ht => h t (by simp [ht]))
    simp only [List.mem_append, List.mem_cons, not_or]
    exact ⟨h a (by simp), hcx, ih⟩

theorem slice2 (s : Array Nat) (p : Nat) (a b : Nat) (r : Text) (h : s.toList.drop p = a :: b :: r) :
    slice s p (p + 2) = [a, b] :=
  (Txt.extract_of_drop h 2).trans rfl

/-- `k₀|k₁|…` for two-character keys -/
def altPairs (k0 : Nat × Nat) : List (Nat × Nat) → Re
  | [] => .seq (.lit k0.1) (.lit k0.2)
  | k1 :: ks => .alt (.seq (.lit k0.1) (.lit k0.2)) (altPairs k1 ks)

/-- `(k₀|k₁|…)(?=\Z|-)` -/
def keyRe (k0 : Nat × Nat) (ks : List (Nat × Nat)) : Re :=
  .seq (.group 1 (altPairs k0 ks)) (.look true false (.alt .eos (.lit 45)))

def pairAt (s : Array Nat) (p : Nat) (q : Nat × Nat) : Bool := s[p]? == some q.1 && s[p + 1]? == some q.2

theorem m_pair (s : Array Nat) (q : Nat × Nat) (st : St) (k : K) :
    m s (.seq (.lit q.1) (.lit q.2)) st k = if pairAt s st.pos q then k { st with pos := st.pos + 2 } else none := by
  simp only [m_seq_def, m_lit_def, pairAt]
  by_cases h0 : (s[st.pos]? == some q.1) = true <;> by_cases h1 : (s[st.pos + 1]? == some q.2) = true <;> simp [h0, h1]

/-- the continuation may be tried once per key that stands here, but always in the same state -/
theorem m_altPairs (s : Array Nat) (st : St) (k : K) : ∀ k0 ks,
    m s (altPairs k0 ks) st k = if (k0 :: ks).any (pairAt s st.pos) then k { st with pos := st.pos + 2 } else none
  | k0, [] => by simp only [altPairs, m_pair, List.any_cons, List.any_nil, Bool.or_false]
  | k0, k1 :: ks => by
    rw [altPairs, m_alt_def, m_pair, m_altPairs s st k k1 ks, List.any_cons (a := k0)]
    cases h : pairAt s st.pos k0
    · simp only [Bool.false_eq_true, if_false, Option.orElse_none, Bool.false_or]
    · cases k { st with pos := st.pos + 2 } <;>
        simp only [if_true, Bool.true_or, Option.orElse_some, Option.orElse_none, ite_self]

theorem keyRe_hit (s : Array Nat) (p : Nat) (k0 : Nat × Nat) (ks : List (Nat × Nat)) :
    matchAt s (keyRe k0 ks) p =
      if ((k0 :: ks).any (pairAt s p) && (p + 2 == s.size || s[p + 2]? == some 45)) = true then
        some ⟨p + 2, [(1, p, p + 2)]⟩ else none := by
  simp only [matchAt, keyRe, m_seq_def, m_group_def, m_altPairs]
  by_cases h : (k0 :: ks).any (pairAt s p) = true
  · simp only [h, if_true, m, Bool.true_and]
    by_cases h1 : (p + 2 == s.size) = true <;> by_cases h2 : (s[p + 2]? == some 45) = true <;> simp [h1, h2]
  · simp [h]

/-- the callbacks of the two legacy substitutions -/
def cbTable (tbl : List (Text × Text)) (s : Array Nat) (st : St) : Except PyErr Text :=
  match groupText s st 1 with
  | some g => lookupTable tbl g
  | none => throw .keyError

def KeysAre (tbl : List (Text × Text)) (k0 : Nat × Nat) (ks : List (Nat × Nat)) : Prop :=
  ∀ a b, (tbl.lookup [a, b]).isSome = (k0 :: ks).any (fun q => a == q.1 && b == q.2)

theorem tbl_local (s : Array Nat) {tbl : List (Text × Text)} {k0 : Nat × Nat} {ks : List (Nat × Nat)}
    (hkeys : KeysAre tbl k0 ks) : LocalOK s (keyRe k0 ks) (cbTable tbl s) (locT tbl) := by
  intro p hp
  have g : ∀ i, s[p + i]? = (s.toList.drop p)[i]? := fun i => (Txt.drop_getElem? s p i).symm
  have hlen : (s.toList.drop p).length = s.size - p := by simp
  rw [keyRe_hit]
  generalize hl : s.toList.drop p = l at g hlen
  match l, hl, g, hlen with
  | [], _, g, _ =>
    have h0 : s[p]? = none := by simpa using g 0
    simp [locT, pairAt, h0]
  | [a], _, g, _ =>
    have h1 : s[p + 1]? = none := by simpa using g 1
    simp [locT, pairAt, h1]
  | a :: b :: r, hl, g, hlen =>
    have h0 : s[p]? = some a := by simpa using g 0
    have h1 : s[p + 1]? = some b := by simpa using g 1
    have h2 : s[p + 2]? = r.head? := by simpa [List.head?_eq_getElem?] using g 2
    have hend : (p + 2 == s.size || s[p + 2]? == some 45) = endOrDash r := by
      rw [h2, endOrDash]
      congr 1
      cases r with
      | nil => simp at hlen ⊢; omega
      | cons c r => simp at hlen ⊢; omega
    have hany : (k0 :: ks).any (pairAt s p) = (tbl.lookup [a, b]).isSome := by
      rw [hkeys]
      exact List.any_congr rfl (fun q => by simp [pairAt, h0, h1])
    rw [hany, hend]
    simp only [locT]
    cases endOrDash r
    · simp
    · cases hlk : tbl.lookup [a, b] with
      | none => simp
      | some t =>
        refine ⟨by omega, ⟨p + 2, [(1, p, p + 2)]⟩, by simp, rfl, ?_⟩
        simp only [cbTable, groupText, St.group, capOf, List.find?, beq_self_eq_true, slice2 s p a b r hl, lookupTable, hlk]
        rfl

theorem pair_beq (a b x y : Nat) : ([a, b] == [x, y]) = (a == x && b == y) := by
  simp [List.cons_beq_cons]

/-- the pairs are `he|id|yi` in the order of the regex `(he|id|yi)(?=\Z|-)`; below `iw|in|ji` of `(iw|in|ji)(?=\Z|-)` -/
theorem keysAre_legacy : KeysAre Gen.Tables.androidLegacyMap (104, 101) [(105, 100), (121, 105)] := by
  intro a b
  simp only [Gen.Tables.androidLegacyMap, List.lookup, List.any_cons, List.any_nil, Bool.or_false, pair_beq]
  cases a == 104 && b == 101 <;> cases a == 105 && b == 100 <;> cases a == 121 && b == 105 <;> rfl

theorem keysAre_standard : KeysAre Gen.Tables.androidStandardMap (105, 119) [(105, 110), (106, 105)] := by
  intro a b
  simp only [Gen.Tables.androidStandardMap, List.lookup, List.any_cons, List.any_nil, Bool.or_false, pair_beq]
  cases a == 105 && b == 110 <;> cases a == 105 && b == 119 <;> cases a == 106 && b == 105 <;> rfl

theorem r_hit (s : Array Nat) (p : Nat) :
    matchAt s Gen.Pat.paths_matcher_Matcher_match_1 p =
      if s[p]? = some 45 ∧ s[p + 1]? = some 114 ∧ 2 ≤ runAt s isUp (p + 2) then some ⟨p + 4, [(1, p + 2, p + 4)]⟩
      else none := by
  simp only [matchAt, Gen.Pat.paths_matcher_Matcher_match_1, m_seq_def, m_lit_def, m_group_def]
  by_cases h0 : s[p]? = some 45
  · by_cases h1 : s[p + 1]? = some 114
    · have := getElem?_some_lt h1
      simp only [h0, h1, beq_self_eq_true, if_true, true_and]
      rw [m_rep_exact s _ isUp (oneChar_range s 65 90) 2 (p + 1 + 1) (by omega)]
    · simp [h0, h1]
  · simp [h0]

theorem locR_eq (l : Text) : locR l =
    if l[0]? = some 45 ∧ l[1]? = some 114 ∧ upAt l 2 = true ∧ upAt l 3 = true then some (4, 45 :: (l.drop 2).take 2)
    else none := by
  match l with
  | [] => simp [locR]
  | [a] => simp [locR]
  | [a, b] => simp [locR, upAt]
  | [a, b, c] => simp [locR, upAt]
  | a :: b :: c :: d :: r =>
    by_cases ha : a = 45
    · by_cases hb : b = 114
      · subst ha hb; simp [locR, upAt]
      · have : locR (a :: b :: c :: d :: r) = none := by unfold locR; split <;> simp_all
        simp [this, hb]
    · have : locR (a :: b :: c :: d :: r) = none := by unfold locR; split <;> simp_all
      simp [this, ha]

/-- the callback of `re.sub(r"-r([A-Z]{2})", r"-\1", ...)` -/
def cbR (s : Array Nat) (st : St) : Except PyErr Text :=
  match groupText s st 1 with
  | some g => pure (45 :: g)
  | none => pure [45]

theorem r_local (s : Array Nat) : LocalOK s Gen.Pat.paths_matcher_Matcher_match_1 (cbR s) locR := by
  intro p hp
  have g : ∀ i, s[p + i]? = (s.toList.drop p)[i]? := fun i => (Txt.drop_getElem? s p i).symm
  have hC : (s[p]? = some 45 ∧ s[p + 1]? = some 114 ∧ 2 ≤ runAt s isUp (p + 2)) ↔
      ((s.toList.drop p)[0]? = some 45 ∧ (s.toList.drop p)[1]? = some 114 ∧ upAt (s.toList.drop p) 2 = true ∧
        upAt (s.toList.drop p) 3 = true) := by
    have e2 : upAt (s.toList.drop p) 2 = atP isUp s[p + 2]? := by rw [g]; rfl
    have e3 : upAt (s.toList.drop p) 3 = atP isUp s[p + 3]? := by rw [g]; rfl
    rw [← g, ← g, e2, e3]
    simp only [succ_le_runAt, Nat.zero_le, and_true, Nat.add_assoc, Nat.reduceAdd, Nat.add_zero]
  rw [r_hit, locR_eq]
  by_cases h : s[p]? = some 45 ∧ s[p + 1]? = some 114 ∧ 2 ≤ runAt s isUp (p + 2)
  · rw [if_pos h, if_pos (hC.mp h)]
    refine ⟨by omega, _, rfl, rfl, ?_⟩
    simp only [cbR, groupText, St.group, capOf, List.find?, beq_self_eq_true, slice, Txt.extract_eq, pure, Except.pure,
      show p + 4 - (p + 2) = 2 by omega, ← List.drop_drop]
  · rw [if_neg h, if_neg (fun h' => h (hC.mpr h'))]

theorem nonEmpty_keyRe (s : Array Nat) (k0 : Nat × Nat) (ks : List (Nat × Nat)) : NonEmpty s (keyRe k0 ks) := by
  intro p st hm
  rw [keyRe_hit] at hm
  split at hm
  · cases hm; exact Nat.lt_add_of_pos_right (by decide)
  · cases hm

theorem minLen_r : 1 ≤ minLen Gen.Pat.paths_matcher_Matcher_match_1 := by decide

abbrev leg := legT Gen.Tables.androidLegacyMap
abbrev std := legT Gen.Tables.androidStandardMap

theorem sub_tbl {tbl : List (Text × Text)} {k0 : Nat × Nat} {ks : List (Nat × Nat)} (hkeys : KeysAre tbl k0 ks)
    (hk : KeysOK tbl) (ts : List Text) (h : ∀ t ∈ ts, 45 ∉ t) :
    subWithE (joinWith 45 ts).toArray (keyRe k0 ks) (cbTable tbl (joinWith 45 ts).toArray) =
      .ok (joinWith 45 (ts.map (legT tbl))) :=
  subWithE_rewrite _ _ _ (locT tbl) (nonEmpty_keyRe _ _ _) (tbl_local _ hkeys) (rewrite_join _ hk ts h)

theorem sub_fwd (ts : List Text) (h : ∀ t ∈ ts, 45 ∉ t) :
    subWithE (joinWith 45 ts).toArray Gen.Pat.paths_matcher_AndroidLocale__get_android_locale_0
      (cbTable Gen.Tables.androidLegacyMap (joinWith 45 ts).toArray) = .ok (joinWith 45 (ts.map leg)) :=
  sub_tbl keysAre_legacy keysOK_legacy ts h

theorem sub_back (ts : List Text) (h : ∀ t ∈ ts, 45 ∉ t) :
    subWithE (joinWith 45 ts).toArray Gen.Pat.paths_matcher_Matcher_match_0
      (cbTable Gen.Tables.androidStandardMap (joinWith 45 ts).toArray) = .ok (joinWith 45 (ts.map std)) :=
  sub_tbl keysAre_standard keysOK_standard ts h

theorem sub_r {l out : Text} (h : Rw locR l out) :
    subWithE l.toArray Gen.Pat.paths_matcher_Matcher_match_1 (cbR l.toArray) = .ok out :=
  subWithE_rewrite _ _ _ locR (nonEmpty_of_minLen minLen_r) (r_local _) h

theorem toStandard_eq (a : Text) : toStandard a =
    (let l0 := if [98, 43].isPrefixOf a then a.drop 2 else a
     let l1 := replaceAll [43] [45] (l0.length + 1) l0
     (subWithE l1.toArray Gen.Pat.paths_matcher_Matcher_match_0 (cbTable Gen.Tables.androidStandardMap l1.toArray)).bind
       (fun l2 => subWithE l2.toArray Gen.Pat.paths_matcher_Matcher_match_1 (cbR l2.toArray))) := rfl

theorem toAndroid_eq (bcp : Text) : toAndroid bcp =
    (subWithE bcp.toArray Gen.Pat.paths_matcher_AndroidLocale__get_android_locale_0
        (cbTable Gen.Tables.androidLegacyMap bcp.toArray)).bind (fun b =>
      if (matchAt b.toArray Gen.Pat.paths_matcher_AndroidLocale__get_android_locale_1 0).isSome then
        match splitOn 45 b with
        | p0 :: p1 :: _ => pure (p0 ++ [45, 114] ++ p1)
        | _ => throw .indexError
      else if b.contains 45 then pure ([98, 43] ++ replaceAll [45] [43] (b.length + 1) b)
      else pure b) := rfl

/-- **the locales of the general round-trip lemma**: subtags joined by "-", where
    * no subtag contains "-" or "+",
    * no subtag ends with a legacy code `iw`, `in`, `ji` (excluded family: "cin", "zh-Latn-pinyin"),
    * no subtag after the first looks like an Android region qualifier `rXX` (excluded: "xx-Latn-rDE"),
    * a text that starts like `ll-XX` or `lll-XX` (what the code takes for language-REGION) has exactly two subtags
      (excluded family: "en-US-x-foo"). -/
structure AndroidOK (ts : List Text) : Prop where
  ne : ts ≠ []
  chars : ∀ t ∈ ts, 45 ∉ t ∧ 43 ∉ t
  noLegacy : ∀ t ∈ ts, NoLegacyEnd t
  noRQual : ∀ t ∈ ts.tail, NotRegionQualifier t
  region : regionShape (joinWith 45 ts) = true → ts.length = 2

theorem leg_no45 {t : Text} (h : 45 ∉ t) : 45 ∉ leg t := fun hm => h ((mem_of_kinds (legT_kind _ tblOK_legacy t)).1.mp hm)
theorem leg_no43 {t : Text} (h : 43 ∉ t) : 43 ∉ leg t := fun hm => h ((mem_of_kinds (legT_kind _ tblOK_legacy t)).2.mp hm)

theorem isPrefix_bplus_false {a : Text} (h : 43 ∉ a) : [98, 43].isPrefixOf a = false := by
  match a, h with
  | [], _ => rfl
  | [x], _ => simp [List.isPrefixOf]
  | x :: y :: r, h =>
    have : ¬ 43 = y := by intro e; apply h; simp [← e]
    simp [List.isPrefixOf, this]

theorem replace_noop {x y : Nat} {l : Text} (h : x ∉ l) (f : Nat) (hf : l.length ≤ f) : replaceAll [x] [y] f l = l := by
  rw [replaceAll_single x y f l hf, map_subst_noop y h]

theorem region_two {p0 p1 : Text} (h0 : 45 ∉ p0) (h : regionShape (p0 ++ 45 :: p1) = true) :
    ∃ a b q, p1 = a :: b :: q ∧ isUp a = true ∧ isUp b = true := by
  -- a dash that the test sees at `j`, after letters only, is the one that follows `p0`
  have key : ∀ j, (∀ i, i < j → lowAt (p0 ++ 45 :: p1) i = true) → dashAt (p0 ++ 45 :: p1) j = true →
      upAt (p0 ++ 45 :: p1) (j + 1) = true → upAt (p0 ++ 45 :: p1) (j + 2) = true →
      ∃ a b q, p1 = a :: b :: q ∧ isUp a = true ∧ isUp b = true := by
    intro j hlow hd hu1 hu2
    obtain rfl : j = p0.length := by
      rcases Nat.lt_trichotomy j p0.length with hlt | heq | hgt
      · have : p0[j]? = some 45 := by rw [← List.getElem?_append_left hlt]; simpa [dashAt] using hd
        exact absurd (List.mem_of_getElem? this) h0
      · exact heq
      · have := hlow p0.length hgt
        simp [lowAt, isLow] at this
    have e : ∀ i, (p0 ++ 45 :: p1)[p0.length + (i + 1)]? = p1[i]? := fun i => by
      rw [List.getElem?_append_right (Nat.le_add_right _ _), Nat.add_sub_cancel_left, List.getElem?_cons_succ]
    unfold upAt at hu1 hu2
    rw [e 0] at hu1
    rw [e 1] at hu2
    match p1, hu1, hu2 with
    | a :: b :: q, hu1, hu2 => exact ⟨a, b, q, rfl, hu1, hu2⟩
  unfold regionShape at h
  simp only [Bool.and_eq_true, Bool.or_eq_true] at h
  obtain ⟨⟨hl0, hl1⟩, ⟨⟨hd, hu1⟩, hu2⟩ | ⟨⟨⟨hl2, hd⟩, hu1⟩, hu2⟩⟩ := h
  · exact key 2 (fun i hi => match i, hi with | 0, _ => hl0 | 1, _ => hl1) hd hu1 hu2
  · exact key 3 (fun i hi => match i, hi with | 0, _ => hl0 | 1, _ => hl1 | 2, _ => hl2) hd hu1 hu2

theorem std_cons {x : Nat} {q : Text} (h : 2 ≤ q.length) : std (x :: q) = x :: std q := by
  match q, h with
  | y :: z :: r, _ => rfl

/-- `toStandard` on the two forms `toAndroid` produces, subtags joined by "-" or "b+" and subtags joined by "+": the
    subtags are mapped back through the table, then `-rXX` is rewritten -/
theorem toStandard_join {a : Text} {us : List Text} {out : Text} (hus : ∀ t ∈ us, 45 ∉ t)
    (ha : a = joinWith 45 us ∧ 43 ∉ a ∨ a = [98, 43] ++ joinWith 43 us ∧ ∀ t ∈ us, 43 ∉ t)
    (hrw : Rw locR (joinWith 45 (us.map std)) out) : toStandard a = .ok out := by
  rw [toStandard_eq]
  rcases ha with ⟨rfl, h43⟩ | ⟨rfl, h43⟩
  · simp only [isPrefix_bplus_false h43, Bool.false_eq_true, if_false]
    rw [replace_noop h43 _ (Nat.le_succ _), sub_back _ hus]
    exact sub_r hrw
  · have hpre : [98, 43].isPrefixOf ([98, 43] ++ joinWith 43 us) = true := by simp [List.isPrefixOf]
    have hdrop : ([98, 43] ++ joinWith 43 us).drop 2 = joinWith 43 us := by simp
    simp only [hpre, if_true]
    rw [hdrop, replaceAll_single 43 45 _ _ (Nat.le_succ _), map_sep_join 43 45 _ h43, sub_back _ hus]
    exact sub_r hrw

theorem android_roundtrip_general (ts : List Text) (h : AndroidOK ts) :
    ∃ a, toAndroid (joinWith 45 ts) = .ok a ∧ toStandard a = .ok (joinWith 45 ts) := by
  have h45 : ∀ t ∈ ts, 45 ∉ t := fun t ht => (h.chars t ht).1
  have h43 : ∀ t ∈ ts, 43 ∉ t := fun t ht => (h.chars t ht).2
  have hl45 : ∀ t ∈ ts.map leg, 45 ∉ t := List.forall_mem_map.mpr fun u hu => leg_no45 (h45 u hu)
  have hl43 : ∀ t ∈ ts.map leg, 43 ∉ t := List.forall_mem_map.mpr fun u hu => leg_no43 (h43 u hu)
  have hshape : regionShape (joinWith 45 (ts.map leg)) = regionShape (joinWith 45 ts) :=
    regionShape_of_kinds (join_kind _ tblOK_legacy ts)
  have hback : (ts.map leg).map std = ts := by
    rw [List.map_map]
    exact map_noop ts fun t ht => std_leg t (h.noLegacy t ht)
  rw [toAndroid_eq, sub_fwd ts h45]
  simp only [Except.bind, region_hit, hshape]
  cases hreg : regionShape (joinWith 45 ts) with
  | true =>
    -- language-REGION: exactly two subtags
    have hlen := h.region hreg
    obtain ⟨p0, p1, rfl⟩ : ∃ p0 p1, ts = [p0, p1] := by
      match ts, hlen with
      | [x, y], _ => exact ⟨x, y, rfl⟩
    have hp0 : 45 ∉ p0 := h45 p0 (by simp)
    have hp1 : 45 ∉ p1 := h45 p1 (by simp)
    obtain ⟨a', b', q, rfl, ha', hb'⟩ := region_two hp0 (by simpa [joinWith] using hreg)
    have hsplit : splitOn 45 (joinWith 45 ([p0, a' :: b' :: q].map leg)) = [leg p0, leg (a' :: b' :: q)] := by
      simp only [List.map_cons, List.map_nil, joinWith]
      exact splitOn_two _ _ (leg_no45 hp0) (leg_no45 hp1)
    simp only [if_true, hsplit, pure, Except.pure]
    refine ⟨_, rfl, toStandard_join (us := [leg p0, 114 :: leg (a' :: b' :: q)]) ?_ (Or.inl ⟨by simp [joinWith], ?_⟩) ?_⟩
    · intro t ht
      simp only [List.mem_cons, List.not_mem_nil, or_false] at ht
      rcases ht with rfl | rfl
      · exact leg_no45 hp0
      · simp only [List.mem_cons, not_or]
        exact ⟨by decide, leg_no45 hp1⟩
    · simp only [List.mem_append, List.mem_cons, List.not_mem_nil, or_false, not_or]
      exact ⟨⟨leg_no43 (h43 p0 (by simp)), by decide, by decide⟩, leg_no43 (h43 _ (by simp))⟩
    · have hlen2 : 2 ≤ (leg (a' :: b' :: q)).length := by
        rw [legT_length _ tblOK_legacy]; simp
      have e1 : std (leg p0) = p0 := std_leg p0 (h.noLegacy p0 (by simp))
      have e2 : std (leg (a' :: b' :: q)) = a' :: b' :: q := std_leg _ (h.noLegacy _ (by simp))
      simp only [List.map_cons, List.map_nil]
      rw [std_cons hlen2, e1, e2]
      exact rewriteR_region p0 q a' b' hp0 (fun e => hp1 (by simp [e])) ha' hb'
  | false =>
    have hrw : Rw locR (joinWith 45 ((ts.map leg).map std)) (joinWith 45 ts) :=
      hback.symm ▸ rewriteR_join_none ts h45 h.noRQual
    simp only [Bool.false_eq_true, if_false]
    by_cases hc : (joinWith 45 (ts.map leg)).contains 45 = true
    · -- several subtags: the `b+` form
      simp only [hc, if_true, pure, Except.pure]
      rw [replaceAll_single 45 43 _ _ (Nat.le_succ _), map_sep_join 45 43 _ hl45]
      exact ⟨_, rfl, toStandard_join hl45 (Or.inr ⟨rfl, hl43⟩) hrw⟩
    · -- a single subtag
      have hc' : (joinWith 45 (ts.map leg)).contains 45 = false := by simpa using hc
      simp only [hc', Bool.false_eq_true, if_false, pure, Except.pure]
      refine ⟨_, rfl, toStandard_join hl45 (Or.inl ⟨rfl, ?_⟩) hrw⟩
      have hnm : 45 ∉ joinWith 45 (ts.map leg) := by simpa using hc'
      have hlen : ¬ 2 ≤ (ts.map leg).length := fun hh => hnm ((mem_join 45 _ hl45).mpr hh)
      obtain ⟨t, rfl⟩ : ∃ t, ts = [t] := by
        match ts, h.ne, hlen with
        | [x], _, _ => exact ⟨x, rfl⟩
        | x :: y :: r, _, hlen => simp at hlen
      simpa [joinWith] using leg_no43 (h43 t (by simp))

def androidOKb (ts : List Text) : Bool :=
  ts != [] && ts.all (fun t => !t.contains 45 && !t.contains 43 && legT Gen.Tables.androidStandardMap t == t) &&
    ts.tail.all (fun t => (locR (45 :: t)).isNone) && (!regionShape (joinWith 45 ts) || ts.length == 2)

theorem androidOK_of_test {ts : List Text} (h : androidOKb ts = true) : AndroidOK ts := by
  simp only [androidOKb, Bool.and_eq_true, Bool.or_eq_true, Bool.not_eq_true', List.all_eq_true, bne_iff_ne, beq_iff_eq,
    List.contains_eq_mem, decide_eq_false_iff_not] at h
  obtain ⟨⟨⟨hne, ht⟩, hq⟩, hr⟩ := h
  refine ⟨hne, fun t m => (ht t m).1, fun t m => (ht t m).2, ?_, fun hs => by simpa [hs] using hr⟩
  intro t m a b q e hab
  have := hq t m
  simp [e, locR, hab.1, hab.2] at this

/-- the test on the subtags of a locale code: `l` split at "-" -/
def localeOKb (l : Text) : Bool := androidOKb (splitOn 45 l) && joinWith 45 (splitOn 45 l) == l

/-- the general round trip, for a list of locale codes that pass the test (which is evaluated once for the list) -/
theorem roundtrip_of_all {ls : List Text} (h : ls.all localeOKb = true) :
    ∀ l ∈ ls, ∃ a, toAndroid l = .ok a ∧ toStandard a = .ok l := by
  intro l hl
  have h := List.all_eq_true.mp h l hl
  simp only [localeOKb, Bool.and_eq_true, beq_iff_eq] at h
  rw [← h.2]
  exact android_roundtrip_general _ (androidOK_of_test h.1)

end C12A
