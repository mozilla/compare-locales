/- C14 composed: from pattern TEXTS to verdicts.  The matcher `_filter` consults for a text (`boundMatcher`), literal
   and `dir*suffix` rule paths, the `{locale}` binding, and the link between a configuration given by texts and the
   abstract configuration `instantiate` builds for one query.  Texts are written `List Nat` where both `Filt` and `PM` are
   open, since each has a `Text`. -/
import CLModel.Proofs.C14MCompose
import CLModel.Proofs.C14MMatch
import CLModel.Proofs.C11Sub
import CLModel.Proofs.C11Sound
import CLModel.Proofs.C12Prefix
import CLModel.Proofs.C12PrefixFull
namespace C14M
open PM Filt FiltM

theorem realEnv_single_inv {k v : List Nat} {e : PM.Env} (h : realEnv [(k, v)] = .ok e) :
    ∃ p, parsePattern v = .ok p ∧ e = [(k, .pat p)] := by
  simp only [realEnv] at h
  obtain ⟨p, hp, h⟩ := bind_ok h
  simp only [pure, Except.pure, bind, Except.bind, Except.ok.injEq] at h
  exact ⟨p, hp, h.symm⟩

theorem boundMatcher_inv {environ : Environ} {root : Option (List Nat)} {pat L : List Nat} {b : Matcher}
    (h : boundMatcher environ root pat L = .ok b) :
    ∃ e p pl, realEnv environ = .ok e ∧ parsePattern pat = .ok p ∧ parsePattern L = .ok pl ∧
      b = { pattern := { p with root := root }, env := dupdate e [(localeName, .pat pl)] } := by
  unfold boundMatcher at h
  obtain ⟨m, hm, h⟩ := bind_ok h
  obtain ⟨p, hp, he, hpat⟩ := mkMatcher_inv hm
  unfold Matcher.withEnv at h
  obtain ⟨e', he', h⟩ := bind_ok h
  obtain ⟨pl, hpl, rfl⟩ := realEnv_single_inv he'
  simp only [pure, Except.pure, Except.ok.injEq] at h
  exact ⟨m.env, p, pl, he, hp, hpl, by rw [← h, hpat]⟩

theorem boundMatcher_ok {environ : Environ} {root : Option (List Nat)} {pat L : List Nat} {e : PM.Env}
    {p pl : Pattern} (he : realEnv environ = .ok e) (hp : parsePattern pat = .ok p) (hpl : parsePattern L = .ok pl) :
    boundMatcher environ root pat L =
      .ok { pattern := { p with root := root }, env := dupdate e [(localeName, .pat pl)] } := by
  simp only [boundMatcher, mkMatcher, Matcher.withEnv, localeEnv, realEnv, he, hp, hpl, bind, Except.bind, pure,
    Except.pure]

theorem realEnv_plain : ∀ {environ : Environ}, (∀ kv ∈ environ, Plain kv.2) →
    realEnv environ = .ok (environ.map (fun kv => (kv.1, Val.pat ⟨[.lit kv.2], none, 1⟩)))
  | [], _ => rfl
  | (k, v) :: rest, h => by
    have h1 := parsePattern_plain (h (k, v) (by simp))
    have h2 := realEnv_plain (environ := rest) (fun kv hkv => h kv (by simp [hkv]))
    simp only [realEnv, h1, h2, bind, Except.bind, pure, Except.pure, List.map_cons]

theorem patMatches_of_bound {environ : Environ} {root : Option (List Nat)} {pat L path : List Nat} {b : Matcher}
    {r : Option GroupDict} (hb : boundMatcher environ root pat L = .ok b) (hm : b.match path = .ok r) :
    patMatches environ root pat L path = .ok r.isSome := by
  simp only [patMatches, matchesS, hb, hm, bind, Except.bind, pure, Except.pure]

theorem literal_bound_match {environ : Environ} {root : Option (List Nat)} {t L : List Nat} {b : Matcher}
    (ht : Plain t) (hb : boundMatcher environ root t L = .ok b) (path : List Nat) :
    b.match path = .ok (if path = effRoot root t ++ t then some [] else none) := by
  obtain ⟨e, p, pl, _, hp, _, rfl⟩ := boundMatcher_inv hb
  rw [parsePattern_plain ht] at hp
  cases hp
  exact match_lit (m := ⟨⟨[.lit t], root, 1⟩, _⟩) rfl path

theorem star_bound_match {environ : Environ} {root : Option (List Nat)} {pre post L : List Nat} {b : Matcher}
    (hpre : Plain pre) (hne : pre ≠ []) (hpost : Plain post)
    (hb : boundMatcher environ root (pre ++ 42 :: post) L = .ok b) (x : List Nat) :
    b.match (effRoot root pre ++ pre ++ x ++ post) =
      .ok (if 47 ∈ x then none else some [(sname 1, some x)]) := by
  obtain ⟨e, p, pl, _, hp, _, rfl⟩ := boundMatcher_inv hb
  rw [parsePattern_star hpre hne hpost] at hp
  cases hp
  exact match_star (mt := ⟨⟨[.lit pre, .star 1, .lit post], root, 1⟩, _⟩) rfl x

theorem bound_locale_lookup {environ : Environ} {root : Option (List Nat)} {pat L : List Nat} {b : Matcher}
    (hb : boundMatcher environ root pat L = .ok b) :
    ∃ pl, parsePattern L = .ok pl ∧ b.env.lookup localeName = some (.pat pl) := by
  obtain ⟨e, p, pl, _, _, hpl, rfl⟩ := boundMatcher_inv hb
  refine ⟨pl, hpl, ?_⟩
  simp only [lookup_dupdate, List.reverse_cons, List.reverse_nil, List.nil_append, List.lookup_cons,
    beq_self_eq_true]


/-- an environment of plain texts and a plain locale give the bound matcher the shapes the C11/C12 theorems ask for -/
theorem bound_env_plain {environ : Environ} {root : Option (List Nat)} {pat L : List Nat} {b : Matcher}
    (henv : ∀ kv ∈ environ, Plain kv.2) (hL : Plain L) (hb : boundMatcher environ root pat L = .ok b) :
    EnvOK b.env ∧ FlatEnv b.env ∧ b.env.lookup localeName = some (.pat ⟨[.lit L], none, 1⟩) := by
  obtain ⟨e, p, pl, he, _, hpl, rfl⟩ := boundMatcher_inv hb
  rw [realEnv_plain henv] at he
  rw [parsePattern_plain hL] at hpl
  cases he; cases hpl
  have hmem : ∀ k v, (k, v) ∈ dupdate (environ.map (fun kv => (kv.1, Val.pat ⟨[.lit kv.2], none, 1⟩)))
      [(localeName, Val.pat ⟨[.lit L], none, 1⟩)] → ∃ t, v = Val.pat ⟨[.lit t], none, 1⟩ := by
    intro k v hm
    simp only [dupdate, List.foldl_cons, List.foldl_nil] at hm
    rcases AR.mem_dset hm with hm | hm
    · obtain ⟨kv, _, hkv⟩ := List.mem_map.mp hm
      simp only [Prod.mk.injEq] at hkv
      exact ⟨kv.2, hkv.2.symm⟩
    · simp only [Prod.mk.injEq] at hm
      exact ⟨L, hm.2⟩
  refine ⟨?_, ?_, ?_⟩
  · intro k v hm
    obtain ⟨t, rfl⟩ := hmem k v hm
    refine ⟨rfl, ?_⟩
    intro n hn
    simp only [List.mem_singleton] at hn
    subst hn; trivial
  · intro k v hm
    obtain ⟨t, rfl⟩ := hmem k v hm
    exact ⟨_, rfl, rfl, fun n hn => ⟨t, by simpa using hn⟩⟩
  · simp only [lookup_dupdate, List.reverse_cons, List.reverse_nil, List.nil_append, List.lookup_cons,
      beq_self_eq_true]

/-- the abstract rule `b` stands for the text rule `a` on the query (loc, fp) -/
def RuleRel (environ : Environ) (root : Option (List Nat)) (loc fp : List Nat) (a : RuleM) (b : Rule) : Prop :=
  patMatches environ root a.path loc fp = .ok (b.path.matchWith loc fp) ∧ a.key = b.key ∧ a.action = b.action

/-- the same for an entry of `paths`: the abstract entry answers as the `l10n` text does on the query, same `locales` -/
def PathRel (environ : Environ) (root : Option (List Nat)) (loc fp : List Nat) (a : PathEntryM) (b : PathEntry) : Prop :=
  patMatches environ root a.l10n loc fp = .ok (b.l10n.matchWith loc fp) ∧ a.locales = b.locales

theorem patMatches_of_eval {environ : Environ} {root : Option (List Nat)} {pat loc fp : List Nat} {m : Matcher}
    {pm : PathM} (hm : mkMatcher pat environ root = .ok m) (he : evalMatcher m loc fp = .ok pm) :
    patMatches environ root pat loc fp = .ok (pm.matchWith loc fp) := by
  obtain ⟨b, r, hb, hr, rfl⟩ := evalMatcher_inv he
  simp only [patMatches, boundMatcher, hm, hb, hr, bind, Except.bind]

theorem rules_rel {environ : Environ} {root : Option (List Nat)} {loc fp : List Nat} :
    ∀ {rules : List RuleM} {ss : List RuleS} {rs : List Rule},
    buildRules environ root rules = .ok ss → evalRules loc fp ss = .ok rs →
    ∃ l : List (RuleM × Rule), rules = l.map (·.1) ∧ rs = l.map (·.2) ∧
      ∀ p ∈ l, RuleRel environ root loc fp p.1 p.2
  | [], ss, rs, hb, he => by
    simp only [buildRules, pure, Except.pure, Except.ok.injEq] at hb
    subst hb
    simp only [evalRules, pure, Except.pure, Except.ok.injEq] at he
    subst he
    exact ⟨[], rfl, rfl, fun p hp => by cases hp⟩
  | r :: rest, ss, rs, hb, he => by
    simp only [buildRules] at hb
    obtain ⟨m, hm, hb⟩ := bind_ok hb
    obtain ⟨ss', hss', hb⟩ := bind_ok hb
    cases hb
    simp only [evalRules] at he
    obtain ⟨pm, hpm, he⟩ := bind_ok he
    obtain ⟨rs', hrs', he⟩ := bind_ok he
    cases he
    obtain ⟨l, h1, h2, h3⟩ := rules_rel hss' hrs'
    refine ⟨(r, ⟨pm, r.key, r.action⟩) :: l, by simp [h1], by simp [h2], ?_⟩
    intro p hp
    rcases List.mem_cons.mp hp with rfl | hp
    · exact ⟨patMatches_of_eval hm hpm, rfl, rfl⟩
    · exact h3 p hp

theorem paths_rel {environ : Environ} {root : Option (List Nat)} {loc fp : List Nat} :
    ∀ {paths : List PathEntryM} {ss : List PathEntryS} {ps : List PathEntry},
    buildPaths environ root paths = .ok ss → evalPaths loc fp ss = .ok ps →
    ∃ l : List (PathEntryM × PathEntry), paths = l.map (·.1) ∧ ps = l.map (·.2) ∧
      ∀ p ∈ l, PathRel environ root loc fp p.1 p.2
  | [], ss, ps, hb, he => by
    simp only [buildPaths, pure, Except.pure, Except.ok.injEq] at hb
    subst hb
    simp only [evalPaths, pure, Except.pure, Except.ok.injEq] at he
    subst he
    exact ⟨[], rfl, rfl, fun p hp => by cases hp⟩
  | r :: rest, ss, ps, hb, he => by
    simp only [buildPaths] at hb
    obtain ⟨m, hm, hb⟩ := bind_ok hb
    obtain ⟨ss', hss', hb⟩ := bind_ok hb
    cases hb
    simp only [evalPaths] at he
    obtain ⟨pm, hpm, he⟩ := bind_ok he
    obtain ⟨ps', hps', he⟩ := bind_ok he
    cases he
    obtain ⟨l, h1, h2, h3⟩ := paths_rel hss' hps'
    refine ⟨(r, ⟨pm, r.locales⟩) :: l, by simp [h1], by simp [h2], ?_⟩
    intro p hp
    rcases List.mem_cons.mp hp with rfl | hp
    · exact ⟨patMatches_of_eval hm hpm, rfl⟩
    · exact h3 p hp

theorem configs_rel {loc fp : List Nat} : ∀ {ms : List ConfigM} {ss : List ConfigS} {cs : List Config},
    buildList ms = .ok ss → evalListS ss loc fp = .ok cs →
    ∃ l : List (ConfigM × Config), ms = l.map (·.1) ∧ cs = l.map (·.2) ∧
      ∀ p ∈ l, instantiate p.1 loc fp = .ok p.2
  | [], ss, cs, hb, he => by
    simp only [buildList, pure, Except.pure, Except.ok.injEq] at hb
    subst hb
    rw [evalListS_nil_inv he]
    exact ⟨[], rfl, rfl, fun p hp => by cases hp⟩
  | m :: rest, ss, cs, hb, he => by
    simp only [buildList] at hb
    obtain ⟨s, hs, hb⟩ := bind_ok hb
    obtain ⟨ss', hss', hb⟩ := bind_ok hb
    cases hb
    obtain ⟨c, cs', hc, hcs', rfl⟩ := evalListS_cons_inv he
    obtain ⟨l, h1, h2, h3⟩ := configs_rel hss' hcs'
    refine ⟨(m, c) :: l, by simp [h1], by simp [h2], ?_⟩
    intro p hp
    rcases List.mem_cons.mp hp with rfl | hp
    · simp only [instantiate, hs, hc, bind, Except.bind]
    · exact h3 p hp

theorem instantiate_inv {locales : Option (List (List Nat))} {environ : Environ} {root : Option (List Nat)}
    {paths : List PathEntryM} {rules : List RuleM} {children excludes : List ConfigM} {loc fp : List Nat} {c : Config}
    (h : instantiate (.mk locales environ root paths rules children excludes) loc fp = .ok c) :
    ∃ (lp : List (PathEntryM × PathEntry)) (lr : List (RuleM × Rule)) (lc le : List (ConfigM × Config)),
      c = .mk locales (lp.map (·.2)) (lr.map (·.2)) (lc.map (·.2)) (le.map (·.2)) ∧
      paths = lp.map (·.1) ∧ rules = lr.map (·.1) ∧ children = lc.map (·.1) ∧ excludes = le.map (·.1) ∧
      (∀ p ∈ lp, PathRel environ root loc fp p.1 p.2) ∧ (∀ p ∈ lr, RuleRel environ root loc fp p.1 p.2) ∧
      (∀ p ∈ lc, instantiate p.1 loc fp = .ok p.2) ∧ (∀ p ∈ le, instantiate p.1 loc fp = .ok p.2) := by
  unfold instantiate at h
  obtain ⟨s, hs, h⟩ := bind_ok h
  rw [build] at hs
  obtain ⟨ps, hps, hs⟩ := bind_ok hs
  obtain ⟨rs, hrs, hs⟩ := bind_ok hs
  obtain ⟨cs, hcs, hs⟩ := bind_ok hs
  obtain ⟨es, hes, hs⟩ := bind_ok hs
  cases hs
  obtain ⟨ps', rs', cs', es', hps', hrs', hcs', hes', rfl⟩ := evalS_inv h
  obtain ⟨lp, a1, a2, a3⟩ := paths_rel hps hps'
  obtain ⟨lr, b1, b2, b3⟩ := rules_rel hrs hrs'
  obtain ⟨lc, c1, c2, c3⟩ := configs_rel hcs hcs'
  obtain ⟨le, d1, d2, d3⟩ := configs_rel hes hes'
  exact ⟨lp, lr, lc, le, by rw [a2, b2, c2, d2], a1, b1, c1, d1, a3, b3, c3, d3⟩

theorem realEnv_append : ∀ {a b : Environ} {ea eb : PM.Env}, realEnv a = .ok ea → realEnv b = .ok eb →
    realEnv (a ++ b) = .ok (ea ++ eb)
  | [], b, ea, eb, ha, hb => by
    simp only [realEnv, pure, Except.pure, Except.ok.injEq] at ha
    subst ha; simpa using hb
  | (k, v) :: rest, b, ea, eb, ha, hb => by
    simp only [realEnv] at ha
    obtain ⟨p, hp, ha⟩ := bind_ok ha
    obtain ⟨e, he, ha⟩ := bind_ok ha
    cases ha
    simp only [List.cons_append, realEnv, hp, realEnv_append he hb, bind, Except.bind, pure, Except.pure]

theorem realEnv_keys : ∀ {a : Environ} {ea : PM.Env}, realEnv a = .ok ea → ea.map (·.1) = a.map (·.1)
  | [], ea, ha => by
    simp only [realEnv, pure, Except.pure, Except.ok.injEq] at ha
    subst ha; rfl
  | (k, v) :: rest, ea, ha => by
    simp only [realEnv] at ha
    obtain ⟨p, hp, ha⟩ := bind_ok ha
    obtain ⟨e, he, ha⟩ := bind_ok ha
    cases ha
    simp [realEnv_keys he]

theorem dset_snoc_same {β} (e : List (List Nat × β)) (k : List Nat) (v w : β)
    (hno : e.any (fun p => p.1 == k) = false) : dset (e ++ [(k, v)]) k w = dset e k w := by
  have hmap : e.map (fun p => if p.1 == k then (k, w) else p) = e := by
    have hid : ∀ p ∈ e, (if p.1 == k then (k, w) else p) = id p := by
      intro p hp
      have : (p.1 == k) = false := by
        cases hpk : (p.1 == k) with
        | false => rfl
        | true =>
          have : e.any (fun p => p.1 == k) = true := List.any_eq_true.mpr ⟨p, hp, hpk⟩
          rw [hno] at this; cases this
      simp [this]
    rw [List.map_congr_left hid, List.map_id]
  simp only [dset, List.any_append, hno, List.any_cons, beq_self_eq_true, List.any_nil, Bool.or_false,
    Bool.false_or, if_true, List.map_append, hmap, List.map_cons, List.map_nil, Bool.false_eq_true, if_false]

theorem realEnv_append_error : ∀ {a b : Environ} {err : PM.PyErr}, realEnv a = .error err →
    realEnv (a ++ b) = .error err
  | [], b, err, ha => by simp [realEnv, pure, Except.pure] at ha
  | (k, v) :: rest, b, err, ha => by
    simp only [realEnv, List.cons_append] at ha ⊢
    cases hp : parsePattern v with
    | error e' =>
      rw [hp] at ha
      simpa [bind, Except.bind] using ha
    | ok p =>
      rw [hp] at ha
      simp only [bind, Except.bind] at ha ⊢
      cases he : realEnv rest with
      | error e' =>
        rw [he] at ha
        simp only [realEnv_append_error he]
        exact ha
      | ok e => rw [he] at ha; simp [pure, Except.pure] at ha

/-- What `environ` binds "locale" to never reaches a filter verdict: `cache()` rebinds it with
    `with_env({"locale": l10n_file.locale})`, so the matcher consulted for a pattern is the same with and without an
    `environ` entry for "locale" (any value the pattern parser accepts). -/
theorem bound_ignores_environ_locale {environ : Environ} {root : Option (List Nat)} {pat L v : List Nat} {pv : Pattern}
    (hno : environ.any (fun p => p.1 == localeName) = false) (hv : parsePattern v = .ok pv) :
    boundMatcher (environ ++ [(localeName, v)]) root pat L = boundMatcher environ root pat L := by
  have hsingle : realEnv [(localeName, v)] = .ok [(localeName, .pat pv)] := by
    simp only [realEnv, hv, bind, Except.bind, pure, Except.pure]
  cases he : realEnv environ with
  | error err =>
    simp only [boundMatcher, mkMatcher, realEnv_append_error he, he, bind, Except.bind]
  | ok e =>
    have hno' : e.any (fun p => p.1 == localeName) = false := by
      have hk := realEnv_keys he
      have h1 : e.any (fun p => p.1 == localeName) = (e.map (·.1)).any (· == localeName) := by
        rw [List.any_map]; rfl
      have h2 : environ.any (fun p => p.1 == localeName) = (environ.map (·.1)).any (· == localeName) := by
        rw [List.any_map]; rfl
      rw [h1, hk, ← h2, hno]
    simp only [boundMatcher, mkMatcher, realEnv_append he hsingle, he, bind, Except.bind]
    cases parsePattern pat with
    | error err => rfl
    | ok p =>
      simp only [pure, Except.pure, Matcher.withEnv, localeEnv, bind, Except.bind]
      cases hl : realEnv [(localeName, L)] with
      | error err => rfl
      | ok el =>
        obtain ⟨pl, _, rfl⟩ := realEnv_single_inv hl
        simp only [dupdate, List.foldl_cons, List.foldl_nil, dset_snoc_same e localeName _ _ hno']

end C14M
