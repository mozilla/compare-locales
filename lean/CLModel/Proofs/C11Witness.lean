/- Helpers to state concrete witnesses (negation witnesses of hypotheses, non-vacuity examples). -/
import CLModel.Paths.Matcher
namespace PM

/-- text of a string literal (proof files only) -/
def T (s : String) : Text := s.toList.map Char.toNat

def matcherOf (pat : String) (env : List (String × String)) (root : Option String) : Except PyErr Matcher :=
  mkMatcher (T pat) (env.map (fun p => (T p.1, T p.2))) (root.map T)

/-- the outcome of `Matcher(pat, env, root).match(path)`, coarse -/
inductive Outcome where
  | groups (d : GroupDict)
  | noMatch
  | raised (e : PyErr)
  deriving DecidableEq

def matchOutcome (pat : String) (env : List (String × String)) (root : Option String) (path : String) : Outcome :=
  match (do let m ← matcherOf pat env root; m.match (T path)) with
  | .ok (some d) => .groups d
  | .ok none => .noMatch
  | .error e => .raised e

inductive TOutcome where
  | text (t : Text)
  | none
  | raised (e : PyErr)
  deriving DecidableEq

def subOutcome (pa : String) (enva : List (String × String)) (pb : String) (envb : List (String × String))
    (path : Text) : TOutcome :=
  match (do let a ← matcherOf pa enva none; let b ← matcherOf pb envb none; a.sub b path) with
  | .ok (some t) => .text t
  | .ok none => .none
  | .error e => .raised e

def strOutcome (pat : String) (env : List (String × String)) (root : Option String) : TOutcome :=
  match (do let m ← matcherOf pat env root; m.str) with
  | .ok t => .text t
  | .error e => .raised e

def prefixOutcome (pat : String) (env : List (String × String)) (root : Option String) : TOutcome :=
  match (do let m ← matcherOf pat env root; m.prefix) with
  | .ok t => .text t
  | .error e => .raised e

def matchIs (m : Matcher) (path : Text) (d : GroupDict) : Bool :=
  match m.match path with
  | .ok (some d') => d' == d
  | _ => false

theorem matchIs_spec {m : Matcher} {path : Text} {d : GroupDict} (h : matchIs m path d = true) :
    m.match path = .ok (some d) := by
  unfold matchIs at h
  split at h
  · rename_i d' hd
    have : d' = d := by simpa using h
    subst this; exact hd
  · cases h

/-- `Matcher("l/{locale}/*.ftl", {"locale": "de"})` written out (what `mkMatcher` returns) -/
def exampleMatcher : Matcher :=
  { pattern := { nodes := [.lit (T "l/"), .var localeName false, .lit (T "/"), .star 1, .lit (T ".ftl")],
                 root := none, prefixLen := 3 },
    env := [(localeName, .pat { nodes := [.lit (T "de")], root := none, prefixLen := 1 })] }

/-- a matcher written out is what `Matcher(...)` builds, by comparing the two -/
theorem _root_.C11R.matcherOf_is {pat : String} {env : List (String × String)} {m : Matcher}
    (h : (match matcherOf pat env none with
      | .ok m' => m'.pattern == m.pattern && m'.env == m.env
      | .error _ => false) = true) : matcherOf pat env none = .ok m := by
  split at h
  · rename_i m' hm
    simp only [Bool.and_eq_true, beq_iff_eq] at h
    rw [hm]
    cases m'; cases m
    simp only at h
    obtain ⟨h1, h2⟩ := h
    subst h1; subst h2; rfl
  · cases h

theorem exampleMatcher_is : matcherOf "l/{locale}/*.ftl" [("locale", "de")] none = .ok exampleMatcher :=
  C11R.matcherOf_is (by decide +kernel)

end PM
