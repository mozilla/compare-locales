/- C09: the Java `Formatter` numbering of arguments as inductive relations (`Numbered`, `FirstUse`), and that the
   functions `uses`, `firstFmt`, `conflictsOf` of C09Spec compute exactly them. -/
import CLModel.Proofs.C09Params
namespace C09P
open Android Android.Spec

/-- `Numbered n ts us`: `us` pairs every specifier of `ts` with the argument it addresses when the next ordinary
    (sequential) index is `n`: `k$` addresses argument `k` and leaves the sequential index alone; an ordinary specifier
    takes the sequential index and advances it. -/
inductive Numbered : Nat → List Tok → List (Nat × Tok) → Prop
  | nil (n : Nat) : Numbered n [] []
  | explicit {n o : Nat} {t : Tok} {ts : List Tok} {us : List (Nat × Tok)} :
      t.order = some o → Numbered n ts us → Numbered n (t :: ts) ((o, t) :: us)
  | ordinary {n : Nat} {t : Tok} {ts : List Tok} {us : List (Nat × Tok)} :
      t.order = none → Numbered (n + 1) ts us → Numbered n (t :: ts) ((n, t) :: us)

/-- `FirstUse us p f`: the first specifier that addresses argument `p` has conversion `f` -/
inductive FirstUse : List (Nat × Tok) → Nat → List Nat → Prop
  | here {p : Nat} {t : Tok} {us : List (Nat × Tok)} : FirstUse ((p, t) :: us) p t.fmt
  | later {q p : Nat} {t : Tok} {us : List (Nat × Tok)} {f : List Nat} :
      q ≠ p → FirstUse us p f → FirstUse ((q, t) :: us) p f

theorem numbered_uses (n : Nat) (ts : List Tok) : Numbered n ts (uses n ts) := by
  induction ts generalizing n with
  | nil => exact .nil n
  | cons t ts ih =>
    unfold uses
    cases h : t.order with
    | some o => exact .explicit h (ih n)
    | none => exact .ordinary h (ih (n + 1))

theorem numbered_unique {n : Nat} {ts : List Tok} {us : List (Nat × Tok)} (h : Numbered n ts us) : us = uses n ts := by
  induction h with
  | nil n => rfl
  | explicit ho _ ih => simp [uses, ho, ih]
  | ordinary ho _ ih => simp [uses, ho, ih]

theorem numbered_iff (n : Nat) (ts : List Tok) (us : List (Nat × Tok)) : Numbered n ts us ↔ us = uses n ts :=
  ⟨numbered_unique, fun h => h ▸ numbered_uses n ts⟩

theorem firstUse_iff (us : List (Nat × Tok)) (p : Nat) (f : List Nat) : FirstUse us p f ↔ firstFmt us p = some f := by
  induction us with
  | nil =>
    constructor
    · intro h; cases h
    · intro h; simp [firstFmt] at h
  | cons u us ih =>
    obtain ⟨q, t⟩ := u
    by_cases hq : q = p
    · subst hq
      constructor
      · intro h
        cases h with
        | here => simp [firstFmt]
        | later hne _ => exact absurd rfl hne
      · intro h
        simp [firstFmt] at h
        subst h
        exact .here
    · have hb : (q == p) = false := by simp [hq]
      have hff : firstFmt ((q, t) :: us) p = firstFmt us p := by simp [firstFmt, hb]
      rw [hff, ← ih]
      constructor
      · intro h
        cases h with
        | here => exact absurd rfl hq
        | later _ h' => exact h'
      · intro h; exact .later hq h

theorem uses_length (n : Nat) (ts : List Tok) : (uses n ts).length = ts.length := by
  induction ts generalizing n with
  | nil => rfl
  | cons t ts ih => unfold uses; cases t.order <;> simp [ih]

theorem mem_conflictsOf (us : List (Nat × Tok)) (e : Msg × Nat) :
    e ∈ conflictsOf us ↔ ∃ u f, u ∈ us ∧ FirstUse us u.1 f ∧ f ≠ u.2.fmt ∧ e = (Msg.conflict u.1 u.2.fmt f, u.2.pos) := by
  simp only [mem_conflictsOf_iff, firstUse_iff]

end C09P
