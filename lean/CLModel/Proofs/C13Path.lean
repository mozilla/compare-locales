/-
`mozpath.dirname` and the directory `_files` walks: a path that starts with a rooted prefix lies under `walkBase` of that
prefix (`isUnder_walkBase`), wherever in a name the prefix ends.
-/
import CLModel.Paths.ProjectFiles
namespace PF

theorem headOf_prefix : ∀ (p : Path), headOf p <+: p
  | [] => by simp [headOf]
  | c :: cs => by
    have ih := headOf_prefix cs
    simp only [headOf]
    split
    · split
      · exact ⟨cs, rfl⟩
      · exact List.nil_prefix
    · exact (List.prefix_cons_inj c).2 ih

theorem headOf_ne_nil : ∀ {p : Path}, 47 ∈ p → headOf p ≠ []
  | [], h => by simp at h
  | c :: cs, h => by
    simp only [headOf]
    split
    · rename_i he
      split
      · simp
      · rename_i hc
        rcases List.mem_cons.1 h with h | h
        · exact absurd (by simp [← h]) hc
        · have := headOf_ne_nil h
          simp only [List.isEmpty_iff] at he
          exact absurd he this
    · simp

theorem headOf_getLast : ∀ {p : Path}, headOf p ≠ [] → (headOf p).getLast? = some 47
  | [], h => by simp [headOf] at h
  | c :: cs, h => by
    simp only [headOf] at h ⊢
    split
    · rename_i he
      split
      · rename_i hc
        simp only [beq_iff_eq] at hc
        simp [hc]
      · rename_i hc
        simp [he, hc] at h
    · rename_i he
      have hne : headOf cs ≠ [] := by simpa [List.isEmpty_iff] using he
      rw [List.getLast?_cons_of_ne_nil hne]
      exact headOf_getLast hne

theorem rstripSlash_decomp : ∀ (h : Path), ∃ k, h = rstripSlash h ++ List.replicate k 47
  | [] => ⟨0, by simp [rstripSlash]⟩
  | c :: cs => by
    obtain ⟨k, hk⟩ := rstripSlash_decomp cs
    simp only [rstripSlash]
    split
    · rename_i he
      simp only [Bool.and_eq_true, List.isEmpty_iff, beq_iff_eq] at he
      refine ⟨k + 1, ?_⟩
      rw [he.1] at hk
      simp only [List.nil_append] at hk ⊢
      rw [hk, he.2, List.replicate_succ]
    · exact ⟨k, by rw [List.cons_append, ← hk]⟩

theorem rstripSlash_getLast : ∀ {h : Path}, (rstripSlash h).getLast? ≠ some 47
  | [] => by simp [rstripSlash]
  | c :: cs => by
    simp only [rstripSlash]
    split
    · simp
    · rename_i he
      by_cases ht : rstripSlash cs = []
      · simp only [ht, List.getLast?_singleton, ne_eq, Option.some.injEq]
        intro hc
        simp [ht, hc] at he
      · rw [List.getLast?_cons_of_ne_nil ht]
        exact rstripSlash_getLast

theorem rstripSlash_nil : ∀ {h : Path}, rstripSlash h = [] → h.all (· == 47) = true
  | [], _ => rfl
  | c :: cs, h => by
    simp only [rstripSlash] at h
    split at h
    · rename_i he
      simp only [Bool.and_eq_true, List.isEmpty_iff, beq_iff_eq] at he
      simp [he.2, rstripSlash_nil he.1]
    · simp at h

theorem dirname_ne_nil {p : Path} (h : 47 ∈ p) : dirname p ≠ [] := by
  unfold dirname
  simp only
  split
  · exact headOf_ne_nil h
  · rename_i hall
    intro hn
    exact hall (rstripSlash_nil hn)

theorem isUnder_dirname {pre p : Path} (hp : pre <+: p) (hs : 47 ∈ pre) : isUnder (dirname pre) p = true := by
  have hhead : headOf pre <+: p := (headOf_prefix pre).trans hp
  have hne := headOf_ne_nil hs
  have hlast := headOf_getLast hne
  unfold isUnder
  rw [List.isPrefixOf_iff_prefix]
  unfold dirname
  simp only
  split
  · unfold dirPrefix
    simp [hlast, hhead]
  · obtain ⟨k, hk⟩ := rstripSlash_decomp (headOf pre)
    unfold dirPrefix
    have hnl : ((rstripSlash (headOf pre)).getLast? == some 47) = false := by
      simpa using rstripSlash_getLast (h := headOf pre)
    simp only [hnl, Bool.false_eq_true, if_false]
    cases k with
    | zero =>
      simp only [List.replicate_zero, List.append_nil] at hk
      rw [← hk, hlast] at hnl
      simp at hnl
    | succ k =>
      refine List.IsPrefix.trans ⟨List.replicate k 47, ?_⟩ hhead
      rw [List.append_assoc, List.singleton_append, ← List.replicate_succ]
      exact hk.symm

theorem isUnder_walkBase {pre p : Path} (hp : pre <+: p) (hs : 47 ∈ pre) :
    walkBase pre ≠ [] ∧ isUnder (walkBase pre) p = true := by
  unfold walkBase
  split
  · rename_i hl
    simp only [beq_iff_eq] at hl
    refine ⟨?_, ?_⟩
    · intro hn; rw [hn] at hl; simp at hl
    · unfold isUnder dirPrefix
      simp [hl, List.isPrefixOf_iff_prefix, hp]
  · exact ⟨dirname_ne_nil hs, isUnder_dirname hp hs⟩

end PF
