/- From the regex level to the list level: `finditer`/`sub` of the Android checker's regexes equal the
   independent reference functions of C09Spec (doubled quotes, apostrophes, silencing, printf lexer). -/
import CLModel.Proofs.C09Rx
import CLModel.Proofs.RxSub
namespace Android
open Rx Gen.Pat Android.Spec

theorem minLen_dq : 1 ≤ minLen checks_android_check_apostrophes_0 := by decide
theorem minLen_apos : 1 ≤ minLen checks_android_check_apostrophes_2 := by decide
theorem minLen_esc : 1 ≤ minLen checks_android_check_apostrophes_1 := by decide
theorem minLen_sil : 1 ≤ minLen checks_android_silencer := by decide
theorem minLen_par : 1 ≤ minLen checks_android_get_params_0 := by decide

theorem scan_dq : ∀ fuel off l, l.length < fuel →
    (scanL (gPair dqCond) fuel off l).map (·.1) = dqPositions off l := by
  intro fuel
  induction fuel with
  | zero => intro off l h; omega
  | succ f ih =>
    intro off l h
    rcases l with _ | ⟨a, _ | ⟨b, rest⟩⟩
    · simp [scanL, dqPositions]
    · cases f <;> simp [scanL, dqPositions, gPair]
    · simp only [scanL, gPair, dqCond, dqPositions]
      by_cases hab : (a == 34 && b == 34) = true
      · simp only [hab, if_true, List.map_cons]
        have : off + 2 - off = 2 := by omega
        rw [this]
        simp only [List.drop_succ_cons, List.drop_zero]
        rw [ih (off + 2) rest (by simp at h ⊢; omega)]
      · simp only [hab]
        exact ih (off + 1) (b :: rest) (by simp at h ⊢; omega)

theorem dq_positions (l : List Nat) :
    (finditer l.toArray checks_android_check_apostrophes_0).map (·.1) = dqPositions 0 l := by
  rw [finditer_eq_scanL _ _ minLen_dq (gPair dqCond) (fun p _ => dq_local _ p)]
  exact scan_dq _ _ _ (by simp)

theorem scan_apos : ∀ fuel off l, l.length < fuel →
    (scanL gApos fuel off l).map (·.1) = indicesOf 39 off l := by
  intro fuel
  induction fuel with
  | zero => intro off l h; omega
  | succ f ih =>
    intro off l h
    rcases l with _ | ⟨a, rest⟩
    · simp [scanL, indicesOf]
    · simp only [scanL, gApos, indicesOf]
      by_cases ha : (a == 39) = true
      · simp only [ha, if_true, List.map_cons]
        have : off + 1 - off = 1 := by omega
        rw [this]
        simp only [List.drop_succ_cons, List.drop_zero]
        rw [ih (off + 1) rest (by simp at h ⊢; omega)]
      · simp only [ha]
        exact ih (off + 1) rest (by simp at h ⊢; omega)

theorem apos_positions (l : List Nat) :
    (finditer l.toArray checks_android_check_apostrophes_2).map (·.1) = indicesOf 39 0 l := by
  rw [finditer_eq_scanL _ _ minLen_apos gApos (fun p _ => apos_local _ p)]
  exact scan_apos _ _ _ (by simp)

theorem indicesOf_ne_nil (c : Nat) : ∀ off l, indicesOf c off l ≠ [] ↔ c ∈ l := by
  intro off l
  induction l generalizing off with
  | nil => simp [indicesOf]
  | cons x rest ih =>
    simp only [indicesOf]
    by_cases hx : (x == c) = true
    · simp [hx]; left; exact (by simpa using hx : x = c).symm
    · simp only [hx]
      simp at hx
      rw [List.mem_cons]
      constructor
      · intro h; exact Or.inr ((ih _).mp h)
      · rintro (h | h)
        · exact absurd h.symm hx
        · exact (ih _).mpr h

theorem dq_cons (a : Nat) (w : List Nat) :
    DoubledQuote (a :: w) ↔ (a = 34 ∧ w.head? = some 34) ∨ DoubledQuote w := by
  constructor
  · rintro ⟨i, h0, h1⟩
    cases i with
    | zero =>
      left
      simp at h0 h1
      exact ⟨h0, by cases w <;> simp_all⟩
    | succ j => right; exact ⟨j, by simpa using h0, by simpa using h1⟩
  · rintro (⟨ha, hw⟩ | ⟨j, h0, h1⟩)
    · refine ⟨0, by simp [ha], ?_⟩
      cases w <;> simp_all
    · exact ⟨j + 1, by simpa using h0, by simpa using h1⟩

/-- the non-overlapping scan misses no doubled quote -/
theorem dq_iff_positions (off : Nat) (v : List Nat) : DoubledQuote v ↔ dqPositions off v ≠ [] := by
  fun_induction dqPositions off v
  · simp [DoubledQuote]
  · simp [DoubledQuote]
  · rw [dq_cons]; simp_all
  · rename_i ih; rw [dq_cons, ih]; simp_all

theorem dq_exists (l : List Nat) :
    finditer l.toArray checks_android_check_apostrophes_0 ≠ [] ↔ DoubledQuote l := by
  rw [dq_iff_positions 0, ← dq_positions, Ne, Ne, List.map_eq_nil_iff]

/-- `[32, 32]` is what `Gen.Tables.android_silence_repl` and `android_escape_repl` unfold to; the two instances below go
    through by that. -/
theorem sub_blankPairs {r : Re} (hr : 1 ≤ minLen r) (cond : Nat → Nat → Bool)
    (hloc : ∀ (s : Array Nat) p, matchAt s r p = gPair cond p (s.toList.drop p)) (l : List Nat) :
    subWith l.toArray r (fun _ _ => [32, 32]) = blankPairs cond l := by
  refine sub_eq (subWith_go _ _) (fun _ _ => matchAt_advances hr) ?_
  refine SubAt.of_spec_from (blankPairs cond) (by simp [blankPairs]) (fun p c hc => ?_) (matchAt_end_none hr) (Nat.zero_le _)
  rw [hloc]
  rcases Txt.drop_cases l.toArray p with ⟨h, _⟩ | ⟨c', hc', _, hd⟩
  · rw [h] at hc; cases hc
  obtain rfl : c = c' := by rw [hc'] at hc; exact (Option.some.inj hc).symm
  rw [hd]
  rcases hd1 : l.toArray.toList.drop (p + 1) with _ | ⟨b, rest⟩
  · exact .inl ⟨rfl, by simp [blankPairs]⟩
  · by_cases hm : cond c b = true
    · refine .inr ⟨⟨p + 2, []⟩, [32, 32], by simp [gPair, hm], by simp, ?_, rfl, ?_⟩
      · have := Txt.length_of_drop hd1; simp at this ⊢; omega
      · simp [blankPairs, hm, Txt.drop_succ_of_cons hd1]
    · exact .inl ⟨by simp [gPair, hm], by simp [blankPairs, hm]⟩

theorem slice_toArray (l : List Nat) (a b : Nat) :
    slice l.toArray a b = (l.drop a).take (b - a) :=
  Txt.extract_eq l.toArray a b

theorem fmtLen_pos {l : List Nat} {n : Nat} (h : fmtLen l = some n) : 1 ≤ n := by
  cases l with
  | nil => simp [fmtLen] at h
  | cons c rest =>
    simp only [fmtLen] at h
    split at h
    · split at h
      · simp at h; omega
      · cases h
    · split at h
      · simp at h; omega
      · cases h

theorem tokOf_plain (s : Array Nat) (q p a b : Nat) :
    tokOf s (q, ⟨p, [(2, a, b)]⟩) = some ⟨q, none, slice s a b⟩ := rfl

theorem tokOf_ordered (s : Array Nat) (q p a b oa ob : Nat) :
    tokOf s (q, ⟨p, [(2, a, b), (1, oa, ob)]⟩) =
      match slice s oa ob with
      | [] => some ⟨q, none, slice s a b⟩
      | c :: _ => (intDigit? c).map (fun o => ⟨q, some o, slice s a b⟩) := rfl

theorem tokOf_parSt (l : List Nat) {off : Nat} {t : List Nat} (hd : l.drop off = t) {o : Option Nat} {fmt : List Nat} {n : Nat}
    (hp : parHead t = some (o, fmt, n)) : 1 ≤ n ∧ tokOf l.toArray (off, parSt off (o, fmt, n)) = some ⟨off, o, fmt⟩ := by
  rcases t with _ | ⟨c, rest⟩
  · cases hp
  have h1 := Txt.drop_succ_of_cons hd
  simp only [parHead] at hp
  split at hp
  · cases hp
  -- no `n$`: the conversion stands right behind the `%`
  have plain : (fmtLen rest).map (fun n => ((none : Option Nat), rest.take n, n + 1)) = some (o, fmt, n) →
      1 ≤ n ∧ tokOf l.toArray (off, parSt off (o, fmt, n)) = some ⟨off, o, fmt⟩ := by
    intro hp
    obtain ⟨m, _, hm⟩ := Option.map_eq_some_iff.mp hp
    cases hm
    refine ⟨by omega, ?_⟩
    rw [parSt, tokOf_plain, slice_toArray, h1, show off + (m + 1) - (off + 1) = m by omega]
  split at hp
  · rename_i d e rest2
    split at hp
    · rename_i hde
      obtain ⟨m, _, hm⟩ := Option.map_eq_some_iff.mp hp
      cases hm
      have h3 : l.drop (off + 3) = rest2 := Txt.drop_succ_of_cons (Txt.drop_succ_of_cons h1)
      simp only [Bool.and_eq_true, isD19, decide_eq_true_eq, beq_iff_eq] at hde
      refine ⟨by omega, ?_⟩
      rw [parSt, tokOf_ordered, slice_toArray, slice_toArray, h3, h1, show off + (m + 3) - (off + 3) = m by omega,
        show off + 3 - (off + 1) = 2 by omega]
      simp [intDigit?, hde.1]
      omega
    · exact plain hp
  · exact plain hp
theorem lex_scan (l : List Nat) :
    ∀ fuel off, (l.drop off).length < fuel →
      (scanL gPar fuel off (l.drop off)).mapM (tokOf l.toArray) = some (lexL fuel off (l.drop off)) := by
  intro fuel
  induction fuel with
  | zero => intro off h; omega
  | succ fu ih =>
    intro off h
    rcases hd : l.drop off with _ | ⟨c, rest⟩
    · simp [scanL, lexL]
    · simp only [scanL, lexL, gPar]
      cases hp : parHead (c :: rest) with
      | none =>
        have := ih (off + 1) (by rw [Txt.drop_succ_of_cons hd]; simp [hd] at h; omega)
        rwa [Txt.drop_succ_of_cons hd] at this
      | some x =>
        obtain ⟨o, fmt, n⟩ := x
        obtain ⟨hn, htok⟩ := tokOf_parSt l hd hp
        have hpos : (parSt off (o, fmt, n)).pos = off + n := by cases o <;> rfl
        have hdn : l.drop (off + n) = (c :: rest).drop n := by rw [← hd, List.drop_drop]
        have := ih (off + n) (by rw [hdn]; simp [hd] at h ⊢; omega)
        rw [hdn] at this
        simp only [Option.map_some, List.mapM_cons, htok, hpos, show off + n - off = n by omega, this]
        rfl

/-- `get_params`' regex scan = the reference lexer; in particular it never leaves the modelled behaviour -/
theorem lexParams_eq (l : List Nat) : lexParams l = some (lex l) := by
  unfold lexParams lex
  rw [finditer_eq_scanL _ _ minLen_par gPar (fun p _ => par_local _ p)]
  have := lex_scan l (l.length + 1) 0 (by simp)
  simpa using this

/-- `silencer.sub("  ", string)` = the reference `silence` -/
theorem silenced_eq (l : List Nat) :
    subWith l.toArray checks_android_silencer (fun _ _ => Gen.Tables.android_silence_repl) = silence l :=
  sub_blankPairs minLen_sil silCond sil_local l

/-- `re.sub(r"\\.", "  ", string)` = the reference `blankEsc` -/
theorem blanked_eq (l : List Nat) :
    subWith l.toArray checks_android_check_apostrophes_1 (fun _ _ => Gen.Tables.android_escape_repl) = blankEsc l :=
  sub_blankPairs minLen_esc escCond esc_local l

theorem quoted_iff (w : List Nat) :
    (Gen.Tables.android_quote_start.isPrefixOf w && Gen.Tables.android_quote_end.isSuffixOf w) = true
      ↔ Quoted w := by
  simp only [Gen.Tables.android_quote_start, Gen.Tables.android_quote_end, Quoted, Bool.and_eq_true]
  have h1 : ([34] : List Nat).isPrefixOf w = true ↔ w.head? = some 34 := by
    cases w with
    | nil => simp [List.isPrefixOf]
    | cons a t => simp [List.isPrefixOf]; exact eq_comm
  have h2 : ([34] : List Nat).isSuffixOf w = true ↔ w.getLast? = some 34 := by
    simp only [List.isSuffixOf, List.reverse_cons, List.reverse_nil, List.nil_append]
    rw [← List.head?_reverse]
    cases w.reverse with
    | nil => simp [List.isPrefixOf]
    | cons a t => simp [List.isPrefixOf]; exact eq_comm
  rw [h1, h2]

theorem checkApostrophes_eq (v : List Nat) [Decidable (Quoted (silence v))] :
    checkApostrophes v =
      (dqPositions 0 (blankEsc v)).map (fun i => err i .doubleQuotes) ++
      (if Quoted (silence v) then [] else (indicesOf 39 0 (silence v)).map (fun i => err i .apostrophe)) := by
  unfold checkApostrophes
  simp only [silenced_eq, blanked_eq]
  congr 1
  · rw [← dq_positions, List.map_map]; rfl
  · by_cases hq : Quoted (silence v)
    · have := (quoted_iff (silence v)).mpr hq
      simp [hq, this]
    · have : (Gen.Tables.android_quote_start.isPrefixOf (silence v) &&
          Gen.Tables.android_quote_end.isSuffixOf (silence v)) = false := by
        cases h : (Gen.Tables.android_quote_start.isPrefixOf (silence v) &&
          Gen.Tables.android_quote_end.isSuffixOf (silence v))
        · rfl
        · exact absurd ((quoted_iff _).mp h) hq
      simp only [this, hq, if_false, Bool.not_false, if_true]
      rw [← apos_positions, List.map_map]; rfl

theorem checkApostrophes_all_errors (v : List Nat) : ∀ r ∈ checkApostrophes v, r.sev = .error := by
  classical
  rw [checkApostrophes_eq]
  intro r hr
  rcases List.mem_append.mp hr with hr | hr
  · obtain ⟨_, _, rfl⟩ := List.mem_map.mp hr; rfl
  · split at hr
    · cases hr
    · obtain ⟨_, _, rfl⟩ := List.mem_map.mp hr; rfl

theorem checkApostrophes_ne_nil (v : List Nat) :
    checkApostrophes v ≠ [] ↔ DoubledQuote (blankEsc v) ∨ (¬ Quoted (silence v) ∧ 39 ∈ silence v) := by
  classical
  rw [checkApostrophes_eq, dq_iff_positions 0, ← indicesOf_ne_nil 39 0]
  by_cases hq : Quoted (silence v) <;> simp [hq, Classical.or_iff_not_imp_left]

end Android
