/-
C05 — sessions of the composed pipeline (CLModel/Compare/PipeSession.lean).

One `ContentComparer` handles a sequence of jobs.  The observers it reports to are threaded through the jobs; the tree
invariant they need (`ObsList.Inv`) survives every event (`fresh_run`), so the one-comparison lemmas of C05Pipe apply to
job k started from the observers the jobs before it left.  The histories of the jobs concatenate, and the C10 theorems
about `toJSON()` hold for histories over several files whose paths are not prefixes of each other.
-/
import CLModel.Compare.PipeSession
import CLModel.Proofs.C05Pipe
import CLModel.Proofs.C05Report
import CLModel.Proofs.C05Props
import CLModel.Proofs.C05DtdPipe
import CLModel.Proofs.C05Clash
import CLModel.Proofs.C05Ext
import CLModel.Proofs.C05Lint
import CLModel.Proofs.BaseCheck
namespace Pipe

/-- The checker of every text format answers for two parsed entries — base `Checker` (ini, inc, po), `PropertiesChecker`,
    `DTDChecker` on scalar texts — for ANY checker object of the class `getChecker` picks for the format: the one `compare` builds
    (`envOf`, `Job.env`) and the one the linter builds. -/
theorem answers_text (fmt : P.Fmt) (c : CkCtx) (hk : c.kind = checkerOf fmt) (r l : PEnt) (hr : PWf fmt r) (hl : PWf fmt l)
    (hd : fmt = .dtd → (∀ v ∈ c.refVals, C05Dtd.ScalarText v) ∧ C05Dtd.EntScalar r ∧ C05Dtd.EntScalar l)
    (hrj : r.junk = false) (hlj : c.kind ≠ .base → l.junk = false) : Answers (clsOf fmt) c r l := by
  cases fmt with
  | dtd =>
    obtain ⟨hv, hsr, hsl⟩ := hd rfl
    exact C05Dtd.answers_dtd c hk r l hr hl hv hsr hsl hrj (hlj (by rw [hk]; decide))
  | properties => exact answers_props .properties (by decide) c hk _ r l hr hl hrj (hlj (by rw [hk]; decide))
  | ini => exact answers_base c hk _ r l
  | inc => exact answers_base c hk _ r l
  | po => exact answers_base c hk _ r l

theorem pairs_text (fmt : P.Fmt) (env : Env) (hk : env.ck.kind = checkerOf fmt) (hc : env.cls = clsOf fmt) (ref l10n : List PEnt)
    (hwr : ∀ e ∈ ref, PWf fmt e) (hwl : ∀ e ∈ l10n, PWf fmt e)
    (hd : fmt = .dtd → (∀ v ∈ env.ck.refVals, C05Dtd.ScalarText v) ∧ (∀ e ∈ ref, C05Dtd.EntScalar e) ∧
      ∀ e ∈ l10n, C05Dtd.EntScalar e) : PairsAnswered env ref l10n := by
  intro r hr l hl hrj hlj
  refine ⟨⟨_, by rw [hc]; cases fmt <;> rfl⟩, hc ▸ answers_text fmt env.ck hk r l (hwr r hr) (hwl l hl) ?_ hrj hlj⟩
  intro h
  exact ⟨(hd h).1, (hd h).2.1 r hr, (hd h).2.2 l hl⟩

end Pipe

namespace C05Sess
open Pipe
open ObsM (Ev ObsList Obs)
open C05Clash (IdsIn NoJunkLike junkLike)

/-- `ObsList.Inv.run` with the history first: the form registered in harness/props/c05.py -/
theorem fresh_run : ∀ (h : List Ev) {l l' : ObsList}, l.Inv → l.run h = .ok l' → l'.Inv :=
  fun _ {_ _} hf hr => hf.run hr

theorem fresh_stdObs : stdObs.Inv := by
  rw [stdObs_eq]; exact ObsList.init_inv 0 [none]

theorem junk_keys_differ {n0 n1 n2 : Nat} {ref l10n : List PEnt} (hr : IdsIn n0 n1 ref) (hl : IdsIn n1 n2 l10n)
    (r l : PEnt) (hrm : r ∈ ref) (hlm : l ∈ l10n) (hrj : r.junk = true) (hlj : l.junk = true) : r.key ≠ l.key :=
  C05Clash.junk_keys_differ_from hr hl r l hrm hlm hrj hlj

/-- the two files of a job: dtd texts hold scalar values (what `readFile` returns: `C05.decode_scalar`), a Fluent body
    carries the AST of every Message / Term (`FtlBodyOK`), and no string id begins with `_junk_` (finding F8; decidable on
    a text: `C05Clash.entityKeysOK`).  The conditions do not mention the junk counters: they hold or fail for the job
    itself, wherever it stands in a session. -/
def SrcOK : JobSrc → Prop
  | .text fmt r l => (fmt = .dtd → C05Dtd.ScalarText r.toList ∧ C05Dtd.ScalarText l.toList) ∧
      C05Clash.entityKeysOK fmt r = true ∧ C05Clash.entityKeysOK fmt l = true
  | .ftl rt lt rb lb => C05Ext.FtlBodyOK rb ∧ C05Ext.FtlBodyOK lb ∧
      (∀ n, NoJunkLike (parseFtl rt rb n).1) ∧ (∀ n, NoJunkLike (parseFtl lt lb n).1)
  | .android _ ri li => (∀ n, NoJunkLike (parseAndroid ri n).1) ∧ (∀ n, NoJunkLike (parseAndroid li n).1)

/-- a job the theorems cover: a file the observers can address, `SrcOK`, and no merge staging for Android (known finding
    F5-android-no-spans-raise: `C05.android_merge_raises`) -/
structure JobOK (j : Job) : Prop where
  modelled : ObsM.Modelled j.file
  src : SrcOK j.src
  android : j.src.cls = .node → j.mergeOn = false

theorem fileChecker_kind (ext : Ext) (k : CheckerKind) (f : ObsM.File) (r : List PEnt) : (fileChecker ext k f r).kind = k := by
  unfold fileChecker
  simp only
  split <;> rfl

theorem fileChecker_locale (ext : Ext) (k : CheckerKind) (f : ObsM.File) (r : List PEnt) : (fileChecker ext k f r).locale = f.locale := by
  unfold fileChecker
  simp only
  split <;> rfl

theorem job_parse_pairs (ext : Ext) (j : Job) (c : JunkIds)
    (hsrc : match j.src with
      | .text fmt r l => fmt = .dtd → C05Dtd.ScalarText r.toList ∧ C05Dtd.ScalarText l.toList
      | .ftl _ _ rb lb => C05Ext.FtlBodyOK rb ∧ C05Ext.FtlBodyOK lb
      | .android _ _ _ => True) :
    ∃ ref l10n c', j.src.parse ext c = .ok (ref, l10n, c') ∧ PairsAnswered (j.env ext ref) ref l10n := by
  obtain ⟨src, file, mergeOn⟩ := j
  cases src with
  | text fmt rt lt =>
    obtain ⟨ref, n1, hp1, hw1⟩ := parseFile_ok ext fmt rt c.junk
    obtain ⟨l10n, n2, hp2, hw2⟩ := parseFile_ok ext fmt lt n1
    refine ⟨ref, l10n, { c with junk := n2 }, by simp only [JobSrc.parse, hp1, hp2],
      pairs_text fmt _ (fileChecker_kind _ _ _ _) rfl ref l10n hw1 hw2 ?_⟩
    rintro rfl
    have hsr := C05Dtd.parseFile_scalar ext rt (hsrc rfl).1 _ ref n1 hp1
    exact ⟨C05Dtd.refVals_scalar ref hsr, hsr, C05Dtd.parseFile_scalar ext lt (hsrc rfl).2 n1 l10n n2 hp2⟩
  | ftl rt lt rb lb =>
    obtain ⟨_, hw1, _⟩ := C05Ext.parseFtl_spec rt rb c.junk hsrc.1
    obtain ⟨_, hw2, _⟩ := C05Ext.parseFtl_spec lt lb (parseFtl rt rb c.junk).2 hsrc.2
    exact ⟨_, _, _, rfl, C05Ext.pairs_fluent _ rfl rfl _ _ hw1 hw2⟩
  | android lt ri li =>
    obtain ⟨_, hw1, _⟩ := C05Ext.parseAndroid_spec ri c.xmlStart
    obtain ⟨_, hw2, _⟩ := C05Ext.parseAndroid_spec li (parseAndroid ri c.xmlStart).2
    exact ⟨_, _, _, rfl, C05Ext.pairs_android _ rfl rfl _ _ hw1 hw2⟩

theorem parse_noJunkClash (ext : Ext) (src : JobSrc) (hs : SrcOK src) (c : JunkIds) {ref l10n : List PEnt} {c' : JunkIds}
    (hp : src.parse ext c = .ok (ref, l10n, c')) (ck : CheckerKind) : NoJunkClash ck ref l10n := by
  cases src with
  | text fmt rt lt =>
    simp only [JobSrc.parse] at hp
    cases hp1 : parseFile ext fmt rt c.junk with
    | error e => rw [hp1] at hp; cases hp
    | ok p1 =>
      obtain ⟨r1, n1⟩ := p1
      rw [hp1] at hp
      simp only at hp
      cases hp2 : parseFile ext fmt lt n1 with
      | error e => rw [hp2] at hp; cases hp
      | ok p2 =>
        obtain ⟨l1, n2⟩ := p2
        rw [hp2] at hp
        cases hp
        exact C05Clash.noJunkClash_of_keys (C05Clash.parseFile_ids ext fmt rt _ n1 _ hp1) (C05Clash.parseFile_ids ext fmt lt n1 n2 _ hp2)
          (C05Clash.noJunkLike_of_text ext fmt rt _ n1 _ hs.2.1 hp1) (C05Clash.noJunkLike_of_text ext fmt lt n1 n2 _ hs.2.2 hp2) _
  | ftl rt lt rb lb =>
    cases hp
    obtain ⟨_, _, hi1⟩ := C05Ext.parseFtl_spec rt rb c.junk hs.1
    obtain ⟨_, _, hi2⟩ := C05Ext.parseFtl_spec lt lb (parseFtl rt rb c.junk).2 hs.2.1
    exact C05Clash.noJunkClash_of_keys hi1 hi2 (hs.2.2.1 _) (hs.2.2.2 _) _
  | android lt ri li =>
    cases hp
    obtain ⟨_, _, hi1⟩ := C05Ext.parseAndroid_spec ri c.xmlStart
    obtain ⟨_, _, hi2⟩ := C05Ext.parseAndroid_spec li (parseAndroid ri c.xmlStart).2
    exact C05Clash.noJunkClash_of_keys hi1 hi2 (hs.1 _) (hs.2 _) _

theorem job_parse_spec (ext : Ext) (j : Job) (hj : JobOK j) (c : JunkIds) :
    ∃ ref l10n c', j.src.parse ext c = .ok (ref, l10n, c') ∧
      PairsAnswered (j.env ext ref) ref l10n ∧ NoJunkClash (j.env ext ref).ck.kind ref l10n ∧
      ((j.env ext ref).mergeOn = true → (j.env ext ref).cls ≠ .node) := by
  obtain ⟨ref, l10n, c', hp, hpairs⟩ := job_parse_pairs ext j c (by
    have := hj.src
    cases hs : j.src <;> simp only [hs, SrcOK] at this ⊢
    · exact this.1
    · exact ⟨this.1, this.2.1⟩)
  refine ⟨ref, l10n, c', hp, hpairs, parse_noJunkClash ext j.src hj.src c hp _, fun hm hc => ?_⟩
  have : j.mergeOn = true := hm
  rw [hj.android hc] at this
  cases this

/-- One job of a session, from any reached state: its two files parse (with the junk counters the session has reached), the
    comparison returns, and what the observers saw is a block `evs` of well-formed notifications for the job's file followed by
    one stats event; the parsed lists are free of junk-key clashes, the checker's answers contain those of the base check, and
    every item of the key diff has its events (`StepEvs`) inside `evs`. -/
theorem compareJob_spec (ext : Ext) (j : Job) (hj : JobOK j) (st : SessSt) (hf : st.obs.Inv) :
    ∃ ref l10n ids' obs' outcome evs stats,
      j.src.parse ext st.ids = .ok (ref, l10n, ids') ∧
      compareJob ext st j = .ok ({ obs := obs', ids := ids' }, outcome) ∧
      Reach st.obs j.file (evs ++ [.stats j.file stats]) obs' ∧ (∀ ev ∈ evs, EvWF ev) ∧
      NoJunkClash (j.env ext ref).ck.kind ref l10n ∧ BaseIn (j.env ext ref) ref l10n ∧
      ∀ p ∈ AR.addRemove (ref.map (·.key)) (l10n.map (·.key)),
        ∃ evp, StepEvs (j.env ext ref) ref l10n p evp ∧ ∀ ev ∈ evp, ev ∈ evs := by
  obtain ⟨ref, l10n, ids', hp, hpairs, hnc, hsp⟩ := job_parse_spec ext j hj st.ids
  have hm : ObsM.Modelled (j.env ext ref).file := hj.modelled
  obtain ⟨obs', outcome, evs, stats, hcmp, hreach, hwf, hall⟩ :=
    compareParsed_spec (j.env ext ref) hf hm ref l10n hpairs.checkerOK hnc hsp
  exact ⟨ref, l10n, ids', obs', outcome, evs, stats, hp, by simp only [compareJob, hp, hcmp], hreach, hwf, hnc,
    hpairs.baseIn, hall⟩

theorem job_ufffd_event (env : Env) (ref l10n : List PEnt) (evs : List Ev)
    (hnc : NoJunkClash env.ck.kind ref l10n) (hbase : BaseIn env ref l10n)
    (hall : ∀ p ∈ AR.addRemove (ref.map (·.key)) (l10n.map (·.key)),
      ∃ evp, StepEvs env ref l10n p evp ∧ ∀ ev ∈ evp, ev ∈ evs)
    (k : Cmp.Key) (refent l10nent : PEnt)
    (hlr : lookup ref k = .ok refent) (hll : lookup l10n k = .ok l10nent) (hu : 0xFFFD ∈ l10nent.all) :
    ∃ line col : Int,
      Ev.notify .warning env.file (.str (checkMsg (encPrefix ++ keyText l10nent.key) line col refent.key)) ∈ evs := by
  obtain ⟨hrm, _, hkr⟩ := lookup_ok hlr
  obtain ⟨hlm, _, hkl⟩ := lookup_ok hll
  have hkmem : k ∈ (AR.addRemove (ref.map (·.key)) (l10n.map (·.key))).map (·.2) :=
    (AR.addRemove_keys_mem_gen _ _ k).2 (Or.inl hkr)
  obtain ⟨p, hp, hpk⟩ := List.mem_map.1 hkmem
  have hlab := AR.addRemove_labels_gen _ _ p hp
  have hc1 : (ref.map (·.key)).contains k = true := by simpa using hkr
  have hc2 : (l10n.map (·.key)).contains k = true := by simpa using hkl
  rw [hpk] at hlab
  simp only [AR.lab, hc1, hc2, if_true] at hlab
  obtain ⟨evp, hse, hsub⟩ := hall p hp
  obtain ⟨refent', l10nent', rs, hlr', hll', hrs, hevp⟩ := hse hlab
  rw [hpk] at hlr' hll'
  rw [hlr] at hlr'; cases hlr'
  rw [hll] at hll'; cases hll'
  obtain ⟨hrj, hlj⟩ := hnc k hkr hkl
  have hb := hbase refent hrm l10nent hlm (hrj _ hlr) (fun hp => hlj hp _ hll) rs hrs
  obtain ⟨br, hbr, hsev, _⟩ := Checks.baseCheck_warns l10nent.all.toArray (by simpa using hu)
  obtain ⟨lc, hlc⟩ := resolve_entityPos env.l10nText env.cls l10nent (br.pos : Int)
  refine ⟨lc.1, lc.2, hsub _ ?_⟩
  rw [hevp]
  simp only [List.mem_filterMap]
  refine ⟨{ sev := br.severity, pos := .entityPos (br.pos : Int), msg := encPrefix ++ keyText l10nent.key, cat := encCat }, ?_, ?_⟩
  · apply hb
    simp only [runBase, List.mem_map]
    exact ⟨br, hbr, rfl⟩
  · simp only [checkEv, hlc, Option.map_some, hsev, sevCat]

/-- the localized entity lists job `j` of the session works on: parsed with the counters the jobs `pre` before it left -/
def JobParsed (ext : Ext) (st : SessSt) (pre : List Job) (j : Job) (ref l10n : List PEnt) : Prop :=
  ∃ stj osj ids', compareSession ext pre st = .ok (stj, osj) ∧ j.src.parse ext stj.ids = .ok (ref, l10n, ids')

/-- A session of covered jobs returns; the observers afterwards are the observers before it run on ONE history `H`, the
    concatenation of the jobs' blocks; every event of `H` belongs to the file of a job and is well formed; and for every job —
    parsed with the counters the jobs before it left (`JobParsed`) — `H` holds the encoding warning of every localized entity
    with a U+FFFD, addressed to that job's file. -/
theorem session_spec (ext : Ext) :
    ∀ (jobs : List Job) (st : SessSt), st.obs.Inv → (∀ j ∈ jobs, JobOK j) →
      ∃ st' os H, compareSession ext jobs st = .ok (st', os) ∧ st.obs.run H = .ok st'.obs ∧
        (∀ ev ∈ H, ∃ j ∈ jobs, ev.file = j.file) ∧ (∀ ev ∈ H, EvWF ev) ∧
        ∀ pre j post, jobs = pre ++ j :: post → ∃ ref l10n, JobParsed ext st pre j ref l10n ∧
          ∀ k refent l10nent, lookup ref k = .ok refent → lookup l10n k = .ok l10nent → 0xFFFD ∈ l10nent.all →
            ∃ line col : Int,
              Ev.notify .warning j.file (.str (checkMsg (encPrefix ++ keyText l10nent.key) line col refent.key)) ∈ H := by
  intro jobs
  induction jobs with
  | nil =>
    intro st _ _
    refine ⟨st, [], [], rfl, rfl, by simp, by simp, ?_⟩
    intro pre j post h
    cases pre <;> cases h
  | cons j0 js ih =>
    intro st hf hok
    obtain ⟨ref0, l10n0, ids0, obs0, out0, evs0, stats0, hp0, hc0, hreach0, hwf0, hnc0, hbase0, hall0⟩ :=
      compareJob_spec ext j0 (hok j0 (by simp)) st hf
    have hf1 : obs0.Inv := fresh_run _ hf hreach0.run
    obtain ⟨st', os, H, hs, hrun, hfiles, hwf, hjobs⟩ :=
      ih { obs := obs0, ids := ids0 } hf1 (fun j hj => hok j (by simp [hj]))
    refine ⟨st', out0 :: os, (evs0 ++ [.stats j0.file stats0]) ++ H, ?_, ?_, ?_, ?_, ?_⟩
    · simp only [compareSession, hc0, hs]
    · exact ObsList.run_trans hreach0.run hrun
    · intro ev hev
      rcases List.mem_append.1 hev with h | h
      · exact ⟨j0, by simp, hreach0.files ev h⟩
      · obtain ⟨j, hj, hfj⟩ := hfiles ev h
        exact ⟨j, by simp [hj], hfj⟩
    · intro ev hev
      rcases List.mem_append.1 hev with h | h
      · rcases List.mem_append.1 h with h | h
        · exact hwf0 ev h
        · simp only [List.mem_singleton] at h
          subst h
          trivial
      · exact hwf ev h
    · intro pre j post hsplit
      cases pre with
      | nil =>
        simp only [List.nil_append, List.cons.injEq] at hsplit
        obtain ⟨rfl, rfl⟩ := hsplit
        refine ⟨ref0, l10n0, ⟨st, [], ids0, rfl, hp0⟩, ?_⟩
        intro k refent l10nent hlr hll hu
        obtain ⟨line, col, hev⟩ := job_ufffd_event (j0.env ext ref0) ref0 l10n0 evs0 hnc0 hbase0 hall0 k refent l10nent hlr hll hu
        exact ⟨line, col, List.mem_append_left _ (List.mem_append_left _ hev)⟩
      | cons p0 pre' =>
        simp only [List.cons_append, List.cons.injEq] at hsplit
        obtain ⟨rfl, hsplit⟩ := hsplit
        obtain ⟨ref, l10n, ⟨stj, osj, ids', hpre, hpj⟩, hevs⟩ := hjobs pre' j post hsplit
        refine ⟨ref, l10n, ⟨stj, out0 :: osj, ids', by simp only [compareSession, hc0, hpre], hpj⟩, ?_⟩
        intro k refent l10nent hlr hll hu
        obtain ⟨line, col, hev⟩ := hevs k refent l10nent hlr hll hu
        exact ⟨line, col, List.mem_append_right _ hev⟩

/-- the files of a session do not contain each other: no path is a proper prefix of another one (a path is a file or a
    directory, never both) -/
def PrefixFree (files : List ObsM.File) : Prop :=
  ∀ f1 ∈ files, ∀ f2 ∈ files, ∀ p1 p2, ObsM.partsOf f1 = .ok p1 → ObsM.partsOf f2 = .ok p2 → p1 <+: p2 → p1 = p2

theorem history_prefix_free {h : List Ev} {files : List ObsM.File} (hpf : PrefixFree files) (hf : ∀ ev ∈ h, ev.file ∈ files) :
    PrefixFreeH h :=
  fun e1 h1 e2 h2 p1 p2 hp1 hp2 hpre => hpf _ (hf e1 h1) _ (hf e2 h2) p1 p2 hp1 hp2 hpre

open TreeM in
theorem report_has_detail (files : List ObsM.File) (hpf : PrefixFree files) (hmf : ∀ f ∈ files, ObsM.Modelled f)
    (h : List Ev) (obs' : ObsList) (hrun : stdObs.run h = .ok obs') (hfiles : ∀ ev ∈ h, ev.file ∈ files)
    (m : Merge.Outcome) (file : ObsM.File) (cat : ObsM.Cat) (data : ObsM.Data)
    (hev : Ev.notify cat file data ∈ h)
    (hcat : cat = .error ∨ cat = .warning ∨ cat = .missingEntity ∨ cat = .obsoleteEntity) :
    ∃ parts, ObsM.partsOf file = .ok parts ∧
      ∃ leaf ∈ (reportOf obs' m).details, joinSlash leaf.1 = joinSlash parts ∧ (cat, ObsM.DVal.data data) ∈ leaf.2 :=
  has_detail h obs' hrun (fun ev hev => hmf _ (hfiles ev hev)) (history_prefix_free hpf hfiles) m file cat data hev hcat

theorem report_details_from_history (files : List ObsM.File) (hpf : PrefixFree files) (hmf : ∀ f ∈ files, ObsM.Modelled f)
    (h : List Ev) (obs' : ObsList) (hrun : stdObs.run h = .ok obs') (hfiles : ∀ ev ∈ h, ev.file ∈ files) (m : Merge.Outcome) :
    ∀ leaf ∈ (reportOf obs' m).details, ∀ d ∈ leaf.2,
      ∃ cat f data rv, Ev.notify cat f data ∈ h ∧ d = ObsM.detailOf cat rv data :=
  details_from_history 0 [none] h obs' hrun (fun ev hev => hmf _ (hfiles ev hev)) (history_prefix_free hpf hfiles) m

/-- what the theorem asks of one linted file, whatever was linted before it: a dtd text holds scalar values; a Fluent
    body carries its ASTs and no FluentEntity shares its key with a Junk of the reference (`lintJunkClash`) -/
def LintSrcOK : LintSrc → Prop
  | .text fmt _ cur => fmt = .dtd → C05Dtd.ScalarText cur.toList
  | .ftl ref cur body => C05Ext.FtlBodyOK body ∧
      ∀ t rb, ref = some (t, rb) → ∀ n, lintJunkClash .fluent (parseFtl t rb n).1 (parseFtl cur body (parseFtl t rb n).2).1 = false
  | .android _ _ _ => True

/-- the same with the counters `c` the file is linted at (`LintSrcOK` asks the Fluent clause for every counter) -/
def LintSrcOKAt (c : JunkIds) : LintSrc → Prop
  | .text fmt _ cur => fmt = .dtd → C05Dtd.ScalarText cur.toList
  | .ftl ref cur body => C05Ext.FtlBodyOK body ∧
      ∀ t rb, ref = some (t, rb) →
        lintJunkClash .fluent (parseFtl t rb c.junk).1 (parseFtl cur body (parseFtl t rb c.junk).2).1 = false
  | .android _ _ _ => True

theorem LintSrcOK.at {src : LintSrc} (h : LintSrcOK src) (c : JunkIds) : LintSrcOKAt c src := by
  cases src with
  | text fmt r cur => exact h
  | ftl ref cur body => exact ⟨h.1, fun t rb e => h.2 t rb e c.junk⟩
  | android r cur items => trivial

theorem lintJob_ok_at (ext : Ext) (src : LintSrc) (c : JunkIds) (hs : LintSrcOKAt c src) :
    ∃ rs c', lintJob ext src c = .ok (rs, c') := by
  cases src with
  | text fmt refText cur =>
    -- the checker of the format answers for every Entity of the parsed file against itself
    have key : ∀ (reference : Option (List PEnt)) (n0 : Nat), ∃ ents n rs, parseFile ext fmt cur n0 = .ok (ents, n) ∧
        lintParsed ext (fileName fmt) (checkerOf fmt) (clsOf fmt) reference cur ents = .ok rs := by
      intro reference n0
      obtain ⟨ents, n, hp, hwf⟩ := parseFile_ok ext fmt cur n0
      obtain ⟨rs, hrs⟩ := lintParsed_ok ext (fileName fmt) (checkerOf fmt) (clsOf fmt) reference cur ents
        (fun e he hj => (hwf e he).entity hj) (lintJunkClash_regex fmt _ _) (fun e he hj =>
          answers_text fmt _ rfl e e (hwf e he) (hwf e he) (by
            rintro rfl
            have hsc := C05Dtd.parseFile_scalar ext cur (hs rfl) n0 ents n hp
            exact ⟨C05Dtd.refVals_scalar ents hsc, hsc e he, hsc e he⟩) hj (fun _ => hj))
      exact ⟨ents, n, rs, hp, hrs⟩
    cases refText with
    | none =>
      obtain ⟨ents, n, rs, hp, hrs⟩ := key none c.junk
      exact ⟨rs, { c with junk := n }, by simp only [lintJob, hp, hrs]⟩
    | some t =>
      obtain ⟨ref, n1, hpr, _⟩ := parseFile_ok ext fmt t c.junk
      obtain ⟨ents, n, rs, hp, hrs⟩ := key (some ref) n1
      exact ⟨rs, { c with junk := n }, by simp only [lintJob, hpr, hp, hrs]⟩
  | ftl ref cur body =>
    obtain ⟨hb, hclash⟩ := hs
    have key : ∀ (reference : Option (List PEnt)) (n : Nat),
        lintJunkClash .fluent (refList reference) (parseFtl cur body n).1 = false →
        ∃ rs, lintParsed default ftlFileName .fluent .fluent reference cur (parseFtl cur body n).1 = .ok rs := by
      intro reference n hc
      obtain ⟨_, hw, _⟩ := C05Ext.parseFtl_spec cur body n hb
      exact lintParsed_ok default _ _ _ reference cur _ (fun e he hj => (hw e he).entity hj) hc
        (fun e he hj => C05Ext.answers_fluent _ rfl e e (hw e he) (hw e he) hj hj)
    cases ref with
    | none =>
      obtain ⟨rs, hrs⟩ := key none c.junk (by simp [lintJunkClash, refList, lookup, AR.keyedIndex_eq])
      exact ⟨rs, _, by simp only [lintJob, hrs]; rfl⟩
    | some p =>
      obtain ⟨t, rb⟩ := p
      obtain ⟨rs, hrs⟩ := key (some (parseFtl t rb c.junk).1) (parseFtl t rb c.junk).2 (hclash t rb rfl)
      exact ⟨rs, _, by simp only [lintJob, hrs]; rfl⟩
  | android ref cur items =>
    have key : ∀ (reference : Option (List PEnt)) (n : Nat),
        ∃ rs, lintParsed default androidFileName .android .node reference cur (parseAndroid items n).1 = .ok rs := by
      intro reference n
      obtain ⟨_, hw, _⟩ := C05Ext.parseAndroid_spec items n
      exact lintParsed_ok default _ _ _ reference cur _ (fun e he hj => (hw e he).entity hj) (by simp [lintJunkClash])
        (fun e he hj => C05Ext.answers_android _ rfl e e (hw e he) (hw e he) hj hj)
    cases ref with
    | none =>
      obtain ⟨rs, hrs⟩ := key none c.xmlStart
      exact ⟨rs, _, by simp only [lintJob, hrs]; rfl⟩
    | some ri =>
      obtain ⟨rs, hrs⟩ := key (some (parseAndroid ri c.xmlStart).1) (parseAndroid ri c.xmlStart).2
      exact ⟨rs, _, by simp only [lintJob, hrs]; rfl⟩

theorem lintJob_ok (ext : Ext) (src : LintSrc) (hs : LintSrcOK src) (c : JunkIds) :
    ∃ rs c', lintJob ext src c = .ok (rs, c') :=
  lintJob_ok_at ext src c (hs.at c)

theorem lintText_eq_job (ext : Ext) (fmt : P.Fmt) (refText : Option (Array Nat)) (curText : Array Nat) :
    lintText ext fmt refText curText = (lintJob ext (.text fmt refText curText) {}).map (·.1) := by
  cases refText with
  | none =>
    simp only [lintText, lintJob]
    cases parseFile ext fmt curText 0 with
    | error e => rfl
    | ok p =>
      obtain ⟨ents, n⟩ := p
      simp only
      cases lintParsed ext (fileName fmt) (checkerOf fmt) (clsOf fmt) none curText ents <;> rfl
  | some t =>
    simp only [lintText, lintJob]
    cases parseFile ext fmt t 0 with
    | error e => rfl
    | ok p =>
      obtain ⟨ref, n1⟩ := p
      simp only
      cases parseFile ext fmt curText n1 with
      | error e => rfl
      | ok q =>
        obtain ⟨ents, n⟩ := q
        simp only
        cases lintParsed ext (fileName fmt) (checkerOf fmt) (clsOf fmt) (some ref) curText ents <;> rfl

theorem lintFtl_eq_job (refT : Option (Array Nat × List FtlItem)) (curText : Array Nat) (curBody : List FtlItem) :
    lintFtl refT curText curBody = (lintJob default (.ftl refT curText curBody) {}).map (·.1) := by
  cases refT with
  | none =>
    simp only [lintFtl, lintJob]
    cases lintParsed default ftlFileName .fluent .fluent none curText (parseFtl curText curBody 0).1 <;> rfl
  | some p =>
    obtain ⟨t, body⟩ := p
    simp only [lintFtl, lintJob]
    cases lintParsed default ftlFileName .fluent .fluent (some (parseFtl t body 0).1) curText
      (parseFtl curText curBody (parseFtl t body 0).2).1 <;> rfl

theorem lintAndroid_eq_job (refItems : Option (List AItem)) (curText : Array Nat) (curItems : List AItem) :
    lintAndroid refItems curText curItems = (lintJob default (.android refItems curText curItems) {}).map (·.1) := by
  cases refItems with
  | none =>
    simp only [lintAndroid, lintJob, JunkIds.xmlStart]
    cases lintParsed default androidFileName .android .node none curText (parseAndroid curItems 0).1 <;> rfl
  | some ri =>
    simp only [lintAndroid, lintJob, JunkIds.xmlStart]
    cases lintParsed default androidFileName .android .node (some (parseAndroid ri 0).1) curText
      (parseAndroid curItems (parseAndroid ri 0).2).1 <;> rfl

theorem ok_of_lintJob {f : Except PyErr (List Lint.Result)} {r : Except PyErr (List Lint.Result × JunkIds)}
    (he : f = r.map (·.1)) (h : ∃ rs c', r = .ok (rs, c')) : ∃ rs, f = .ok rs := by
  obtain ⟨rs, c', h⟩ := h
  exact ⟨rs, by rw [he, h]; rfl⟩

end C05Sess
