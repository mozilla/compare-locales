/- `mozpath.match`: the tokenising regex analysed position by position (`moz_hit`), the lexer `mozLex`, and the theorem that
   the cached regular expression is the translation of the lexer's token list, for every pattern text (`mozRegex_lex`). -/
import CLModel.Paths.Matcher
import CLModel.Proofs.C12Scan
import CLModel.Proofs.ListLemmas

namespace C12M
open Rx PM C12S

/-- what `mozpath.match` translates a pattern text into, piece by piece: a literal character, `*`, `**/` (`dirs`), a final
    `/**` (`below`), the pattern `**` alone (`all`) -/
inductive MTok where
  | chr (c : Nat) | star | dirs | below | all
  deriving Repr, DecidableEq

/-- what the tokenising regex of `mozpath.match`, `(?:(^|/)\*\*(/|$))|(?P<star>\*)` (`Gen.Pat.mozpath_match_0`), finds at a
    position: group 1 is the `^` or "/" in front of a `**`, group 2 the "/" or `$` behind it, group 3 a single `*` -/
inductive Kind where
  | slashDirs   -- "/**/"
  | below       -- "/**" at the end (`$`: also before a final newline)
  | startDirs   -- "**/" at position 0
  | all         -- "**" at position 0 and at the end
  | star        -- "*"
  deriving Repr, DecidableEq

/-- `$` (not MULTILINE) right here: the end, or a newline that ends the text -/
def endHere (r : Text) : Bool := r == [] || r == [10]

def mozLocal (atStart : Bool) (suf : Text) : Option Kind :=
  if [47, 42, 42, 47].isPrefixOf suf then some .slashDirs
  else if [47, 42, 42].isPrefixOf suf && endHere (suf.drop 3) then some .below
  else if atStart && [42, 42, 47].isPrefixOf suf then some .startDirs
  else if atStart && [42, 42].isPrefixOf suf && endHere (suf.drop 2) then some .all
  else if [42].isPrefixOf suf then some .star
  else none

def Kind.len : Kind → Nat
  | .slashDirs => 4 | .below => 3 | .startDirs => 3 | .all => 2 | .star => 1

def Kind.toks : Kind → List MTok
  | .slashDirs => [.chr 47, .dirs] | .below => [.below] | .startDirs => [.dirs] | .all => [.all] | .star => [.star]

/-- the final state of the tokenising regex for a match of that kind at `p` -/
def Kind.st (p : Nat) : Kind → St
  | .slashDirs => ⟨p + 4, [(2, p + 3, p + 4), (1, p, p + 1)]⟩
  | .below => ⟨p + 3, [(2, p + 3, p + 3), (1, p, p + 1)]⟩
  | .startDirs => ⟨p + 3, [(2, p + 2, p + 3), (1, p, p)]⟩
  | .all => ⟨p + 2, [(2, p + 2, p + 2), (1, p, p)]⟩
  | .star => ⟨p + 1, [(3, p, p + 1)]⟩

/-- `\*\*(/|$)`: the part of the tokenising regex after its first group -/
def starsRe : Re := .seq (.lit 42) (.seq (.lit 42) (.group 2 (.alt (.lit 47) (.eol false))))

/-- `**` right here, followed by "/" (`true`) or by the end of the text (`false`) -/
def starsAt (r : Text) : Option Bool :=
  if r[0]? == some 42 && r[1]? == some 42 then
    if r[2]? == some 47 then some true
    else if decide (r.length ≤ 2) || (r.length == 3 && r[2]? == some 10) then some false
    else none
  else none

theorem stars_hit (s : Array Nat) (q : Nat) (c1 : List (Nat × Nat × Nat)) (r : Text) (g : ∀ i, s[q + i]? = r[i]?)
    (hsz : s.size = q + r.length) :
    m s starsRe ⟨q, c1⟩ some =
      (starsAt r).map (fun sl => if sl then ⟨q + 3, (2, q + 2, q + 3) :: c1⟩ else ⟨q + 2, (2, q + 2, q + 2) :: c1⟩) := by
  have g0 := g 0
  simp only [starsRe, m, Nat.add_zero] at g0 ⊢
  rw [g0, g 1, g 2, starsAt]
  by_cases h1 : r[1]? = none
  · simp [h1]
  · have hlen : 1 < r.length := by
      apply Classical.byContradiction; intro hc; exact h1 (List.getElem?_eq_none (by omega))
    have e2 : (q + 1 + 1 == s.size) = decide (r.length ≤ 2) := by
      rw [hsz, Bool.eq_iff_iff]; simp only [beq_iff_eq, decide_eq_true_eq]; omega
    have e3 : (q + 1 + 1 + 1 == s.size) = (r.length == 3) := by
      rw [hsz, Bool.eq_iff_iff]; simp only [beq_iff_eq]; omega
    rw [e2, e3]
    cases r[0]? == some 42
    · rfl
    cases r[1]? == some 42
    · rfl
    cases r[2]? == some 47
    · cases decide (r.length ≤ 2) <;> cases r.length == 3 <;> cases r[2]? == some 10 <;> rfl
    · rfl

theorem prefix_cons (c : Nat) (w l : Text) : (c :: w).isPrefixOf l = (l[0]? == some c && w.isPrefixOf (l.drop 1)) := by
  cases l with
  | nil => rfl
  | cons x l =>
    by_cases h : x = c
    · subst h; simp [List.isPrefixOf]
    · have h' : (c == x) = false := by simpa using fun e => h (Eq.symm e)
      have h'' : (x == c) = false := by simpa using h
      simp [List.isPrefixOf, h', h'']

theorem endHere_drop (l : Text) (n : Nat) :
    endHere (l.drop n) = (decide (l.length ≤ n) || (l.length == n + 1 && l[n]? == some 10)) := by
  induction n generalizing l with
  | zero =>
    match l with
    | [] => rfl
    | [c] => simp [endHere]
    | c :: d :: r => simp [endHere]
  | succ n ih =>
    cases l with
    | nil => simp [endHere]
    | cons c l => simpa using ih l

/-- The regex is `(group 1: ^ or "/") ** (group 2)` or `(group 3: *)`; its first alternative is tried with `^` at `p` and,
    if `l` begins with "/", behind that "/" (`stars_hit` at `l` and at its tail).  Both sides are then Boolean expressions in
    the first four characters of `l` and its length, compared by cases on whether `l` begins with "/", with "*" or neither. -/
theorem moz_hit (s : Array Nat) (p : Nat) (l : Text) (g : ∀ i, s[p + i]? = l[i]?) (hsz : s.size = p + l.length) :
    matchAt s Gen.Pat.mozpath_match_0 p = (mozLocal (p == 0) l).map (Kind.st p) := by
  have hpat : Gen.Pat.mozpath_match_0 =
      .alt (.seq (.group 1 (.alt (.bol false) (.lit 47))) starsRe) (.group 3 (.lit 42)) := rfl
  have g0 := g 0
  rw [matchAt, hpat]
  simp only [m, Nat.add_zero, Bool.false_and, Bool.or_false] at g0 ⊢
  rw [stars_hit s p _ l g hsz, g0]
  match l, g, hsz with
  | [], _, _ => simp [mozLocal, starsAt, List.isPrefixOf]
  | c0 :: l1, g, hsz =>
    rw [stars_hit s (p + 1) _ l1 (fun i => by rw [Nat.add_assoc, g (1 + i), Nat.add_comm 1 i]; rfl)
      (by rw [hsz, List.length_cons]; omega)]
    simp only [mozLocal, prefix_cons, endHere_drop, starsAt, List.getElem?_cons_zero, List.getElem?_cons_succ,
      List.drop_succ_cons, List.length_cons, List.isPrefixOf, List.getElem?_drop, List.drop_drop, Nat.reduceAdd,
      Nat.reduceBeqDiff, Nat.reduceLeDiff, Bool.and_true, Nat.add_assoc]
    by_cases h47 : c0 = 47
    · subst h47
      simp only [beq_self_eq_true, Bool.true_and, show (some 47 == some 42) = false from rfl, show (42 == 47) = false from rfl,
        Bool.false_and, Bool.and_false, Bool.false_eq_true, if_false, if_true, Option.map_none, Option.orElse_none, ite_self]
      cases l1[0]? == some 42
      · rfl
      cases l1[1]? == some 42
      · rfl
      cases l1[2]? == some 47 <;> cases decide (l1.length ≤ 2) <;> cases l1.length == 3 && l1[2]? == some 10 <;> rfl
    · have h47' : (47 == c0) = false := by simpa using fun e => h47 (Eq.symm e)
      have h47'' : (some c0 == some 47) = false := by simpa using h47
      simp only [h47', h47'', Bool.false_and, Bool.false_eq_true, if_false]
      by_cases h42 : c0 = 42
      · subst h42
        simp only [beq_self_eq_true, Bool.true_and, if_true]
        cases p == 0
        · rfl
        cases l1[0]? == some 42
        · rfl
        cases l1[1]? == some 47 <;> cases decide (l1.length ≤ 1) || l1.length == 2 && l1[1]? == some 10 <;> rfl
      · have h42' : (42 == c0) = false := by simpa using fun e => h42 (Eq.symm e)
        have h42'' : (some c0 == some 42) = false := by simpa using h42
        simp [h42', h42'']

/-- the lexer: what `mozpath.match` makes of a pattern text (`f` = fuel ≥ length of the text) -/
def mozLexF : Nat → Bool → Text → List MTok
  | 0, _, _ => []
  | _ + 1, _, [] => []
  | f + 1, atStart, c :: cs =>
    match mozLocal atStart (c :: cs) with
    | some k => k.toks ++ mozLexF f false ((c :: cs).drop k.len)
    | none => .chr c :: mozLexF f false cs

def mozLex (pat : Text) : List MTok := mozLexF pat.length true pat

def MTok.items : MTok → List Re
  | .chr c => [Re.lit c]
  | .star => [Gen.Pat.mozpath_frag_star]
  | .dirs => [Re.alt (seqOf [Gen.Pat.mozpath_frag_anyplus, Re.lit 47]) Re.eps]
  | .below => [Re.alt (seqOf [Re.lit 47, Gen.Pat.mozpath_frag_anyplus]) Re.eps]
  | .all => [Re.alt Gen.Pat.mozpath_frag_anyplus Re.eps]

def mozItems (ts : List MTok) : List Re := ts.flatMap MTok.items

theorem mozItems_append (a b : List MTok) : mozItems (a ++ b) = mozItems a ++ mozItems b := by
  simp [mozItems]

theorem slice_eq (s : Array Nat) (a b : Nat) : slice s a b = (s.toList.drop a).take (b - a) := Txt.extract_eq s a b

theorem slice_self (s : Array Nat) (a : Nat) : slice s a a = [] := by rw [slice_eq, Nat.sub_self]; rfl

/-- the text a match of that kind begins with -/
def Kind.text : Kind → Text
  | .slashDirs => [47, 42, 42, 47] | .below => [47, 42, 42] | .startDirs => [42, 42, 47] | .all => [42, 42] | .star => [42]

theorem Kind.text_length (k : Kind) : k.text.length = k.len := by cases k <;> rfl

theorem local_prefix {b : Bool} {l : Text} {k : Kind} (h : mozLocal b l = some k) : k.text <+: l := by
  unfold mozLocal at h
  simp only [Bool.and_eq_true] at h
  split at h
  · rename_i h1; cases h; exact List.isPrefixOf_iff_prefix.mp h1
  · split at h
    · rename_i h1; cases h; exact List.isPrefixOf_iff_prefix.mp h1.1
    · split at h
      · rename_i h1; cases h; exact List.isPrefixOf_iff_prefix.mp h1.2
      · split at h
        · rename_i h1; cases h; exact List.isPrefixOf_iff_prefix.mp h1.1.2
        · split at h
          · rename_i h1; cases h; exact List.isPrefixOf_iff_prefix.mp h1
          · cases h

theorem kind_len_le {b : Bool} {l : Text} {k : Kind} (h : mozLocal b l = some k) : k.len ≤ l.length ∧ 0 < k.len :=
  ⟨k.text_length ▸ (local_prefix h).length_le, by cases k <;> decide⟩

theorem mozStep_kind (ps : Array Nat) (p : Nat) {k : Kind} (h : mozLocal (p == 0) (ps.toList.drop p) = some k)
    (items : List Re) (last : Nat) :
    mozStep ps (items, last) p (k.st p) =
      .ok ((if p > last then items ++ (slice ps last p).map Re.lit else items) ++ mozItems k.toks, p + k.len) := by
  obtain ⟨r, hl⟩ := local_prefix h
  have sl : ∀ a n, a + n ≤ k.text.length → slice ps (p + a) (p + a + n) = (k.text.drop a).take n := by
    intro a n han
    rw [slice_eq, Nat.add_sub_cancel_left, ← List.drop_drop, ← hl, List.drop_append_of_le_length (by omega),
      List.take_append_of_le_length (by simp only [List.length_drop]; omega)]
  cases k
  · have g1 : slice ps p (p + 1) = [47] := sl 0 1 (by decide)
    have g2 : slice ps (p + 3) (p + 4) = [47] := sl 3 1 (by decide)
    simp [mozStep, groupText, St.group, capOf, Kind.st, Gen.Pat.mozpath_match_0_g_star, truthy, g1, g2, mozItems, MTok.items,
      Kind.toks, Kind.len, bind, Except.bind, pure, Except.pure]
  · have g1 : slice ps p (p + 1) = [47] := sl 0 1 (by decide)
    have g2 : slice ps (p + 3) (p + 3) = [] := sl 3 0 (by decide)
    simp [mozStep, groupText, St.group, capOf, Kind.st, Gen.Pat.mozpath_match_0_g_star, truthy, g1, g2, mozItems, MTok.items,
      Kind.toks, Kind.len, bind, Except.bind, pure, Except.pure]
  · have g1 : slice ps p p = [] := sl 0 0 (by decide)
    have g2 : slice ps (p + 2) (p + 3) = [47] := sl 2 1 (by decide)
    simp [mozStep, groupText, St.group, capOf, Kind.st, Gen.Pat.mozpath_match_0_g_star, truthy, g1, g2, mozItems, MTok.items,
      Kind.toks, Kind.len, bind, Except.bind, pure, Except.pure]
  · have g1 : slice ps p p = [] := sl 0 0 (by decide)
    have g2 : slice ps (p + 2) (p + 2) = [] := sl 2 0 (by decide)
    simp [mozStep, groupText, St.group, capOf, Kind.st, Gen.Pat.mozpath_match_0_g_star, truthy, g1, g2, mozItems, MTok.items,
      Kind.toks, Kind.len, bind, Except.bind, pure, Except.pure, seqOf]
  · have g1 : slice ps p (p + 1) = [42] := sl 0 1 (by decide)
    simp [mozStep, groupText, St.group, capOf, Kind.st, Gen.Pat.mozpath_match_0_g_star, truthy, g1, mozItems, MTok.items,
      Kind.toks, Kind.len, bind, Except.bind, pure, Except.pure]

theorem mozLexF_fuel : ∀ (f f' : Nat) (b : Bool) (l : Text), l.length ≤ f → l.length ≤ f' →
    mozLexF f b l = mozLexF f' b l
  | 0, 0, _, _, _, _ => rfl
  | 0, f' + 1, b, l, h, _ => by
    have : l = [] := by cases l <;> simp_all
    subst this; rfl
  | f + 1, 0, b, l, _, h => by
    have : l = [] := by cases l <;> simp_all
    subst this; rfl
  | f + 1, f' + 1, b, [], _, _ => rfl
  | f + 1, f' + 1, b, c :: cs, h, h' => by
    simp only [mozLexF]
    cases hk : mozLocal b (c :: cs) with
    | none =>
      simp only
      rw [mozLexF_fuel f f' false cs (by simpa using h) (by simpa using h')]
    | some k =>
      simp only
      have hl := kind_len_le hk
      rw [mozLexF_fuel f f' false _ (by simp only [List.length_drop, List.length_cons] at h hl ⊢; omega)
        (by simp only [List.length_drop, List.length_cons] at h' hl ⊢; omega)]

theorem minLen_moz : 1 ≤ minLen Gen.Pat.mozpath_match_0 := by decide

theorem kind_st_pos (p : Nat) (k : Kind) : (k.st p).pos = p + k.len := by cases k <;> rfl

theorem slice_succ (ps : Array Nat) {last p c : Nat} (h1 : last ≤ p) (hc : ps[p]? = some c) :
    slice ps last (p + 1) = slice ps last p ++ [c] := Txt.extract_snoc hc h1

/-- the end of `mozpath.match`'s translation: the rest of the pattern text, then the tail -/
def finish (ps : Array Nat) (acc : List Re × Nat) : Re :=
  seqOf (acc.1 ++ (slice ps acc.2 ps.size).map Re.lit ++ [Gen.Pat.mozpath_frag_tail])

/-- The loop of `mozpath.match` over the matches of the tokenising regex, from position `p` with `last` the end of the
    previous match: a position without a match adds its character to the literal run `slice ps last p` (as `mozLexF` emits a
    `chr`), a match emits the pending run and the items of its kind and jumps behind it (as `mozLexF` does by `Kind.len`). -/
theorem mozLoop_scan (ps : Array Nat) : ∀ (f p : Nat) (items : List Re) (last : Nat), p ≤ ps.size → last ≤ p →
    ps.size + 1 - p ≤ f →
    (mozLoop ps (scanPos ps Gen.Pat.mozpath_match_0 f p) (items, last)).map (finish ps) =
      .ok (seqOf (items ++ (slice ps last p).map Re.lit ++
        mozItems (mozLexF (ps.size - p) (p == 0) (ps.toList.drop p)) ++ [Gen.Pat.mozpath_frag_tail]))
  | 0, p, _, _, hp, _, hf => by omega
  | f + 1, p, items, last, hp, hl, hf => by
    have hhit := moz_hit ps p (ps.toList.drop p) (fun i => (Txt.drop_getElem? ps p i).symm) (by simp; omega)
    simp only [scanPos, show ¬ p > ps.size by omega, if_false, hhit]
    cases hk : mozLocal (p == 0) (ps.toList.drop p) with
    | none =>
      simp only [Option.map_none]
      rcases Txt.drop_cases ps p with ⟨_, hge, hd⟩ | ⟨c, hc, hlt, hd⟩
      · obtain rfl : p = ps.size := by omega
        rw [scanPos_beyond _ _ _ _ (by omega)]
        simp only [mozLoop, pure, Except.pure, Except.map, finish, hd, Nat.sub_self]
        cases ps.size <;> simp [mozLexF, mozItems]
      · have ih := mozLoop_scan ps f (p + 1) items last (by omega) (by omega) (by omega)
        rw [ih]
        have e : ps.size - p = (ps.size - (p + 1)) + 1 := by omega
        rw [hd] at hk
        rw [hd, e]
        simp only [mozLexF, hk, slice_succ ps hl hc, List.map_append, List.map_cons, List.map_nil]
        have : (p + 1 == 0) = false := by simp
        simp [this, mozItems, MTok.items, List.append_assoc]
    | some k =>
      simp only [Option.map_some, kind_st_pos]
      have hlen := kind_len_le hk
      simp only [List.length_drop, Array.length_toList] at hlen
      simp only [mozLoop, mozStep_kind ps p hk, bind, Except.bind]
      have ih := mozLoop_scan ps f (p + k.len)
        ((if p > last then items ++ (slice ps last p).map Re.lit else items) ++ mozItems k.toks) (p + k.len)
        (by omega) (Nat.le_refl _) (by omega)
      rw [ih]
      have hz : (p + k.len == 0) = false := by simp; omega
      have hslice : (if p > last then items ++ (slice ps last p).map Re.lit else items) = items ++ (slice ps last p).map Re.lit := by
        split
        · rfl
        · have : p = last := by omega
          subst this
          simp [slice_self]
      obtain ⟨c, cs, hd⟩ := List.exists_cons_of_length_pos (Nat.lt_of_lt_of_le (kind_len_le hk).2 (kind_len_le hk).1)
      have e : ps.size - p = (ps.size - p - 1) + 1 := by omega
      rw [slice_self, hz, hslice, e, hd]
      rw [hd] at hk
      simp only [mozLexF, hk, mozItems_append, List.map_nil, List.append_nil]
      have hdd : (c :: cs).drop k.len = ps.toList.drop (p + k.len) := by
        rw [← hd, List.drop_drop]
      rw [hdd, mozLexF_fuel (ps.size - p - 1) (ps.size - (p + k.len)) false _ (by simp; omega) (by simp)]
      simp [List.append_assoc]

theorem mozRegex_lex (pat : Text) :
    mozRegex pat = .ok (seqOf (mozItems (mozLex pat) ++ [Gen.Pat.mozpath_frag_tail])) := by
  have hne : NonEmpty pat.toArray Gen.Pat.mozpath_match_0 := nonEmpty_of_minLen minLen_moz
  have h := mozLoop_scan pat.toArray (pat.toArray.size + 1) 0 [] 0 (by omega) (Nat.le_refl _) (by omega)
  rw [← finditer_scan _ _ hne] at h
  unfold mozRegex
  simp only [bind, Except.bind]
  cases hl : mozLoop pat.toArray (finditer pat.toArray Gen.Pat.mozpath_match_0) ([], 0) with
  | error e => rw [hl] at h; simp [Except.map] at h
  | ok acc =>
    rw [hl] at h
    obtain ⟨items, last⟩ := acc
    simp only [Except.map, Except.ok.injEq, finish] at h
    simp only [pure, Except.pure]
    rw [h]
    simp [slice_self, mozLex]

end C12M
