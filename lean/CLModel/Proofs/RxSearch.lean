/- Completeness of `search` and its recursion without fuel (`search_step`, `search_gt`), soundness of `finditer`, and
   `finditer` of a regex that never matches the empty text as the list of successive leftmost matches (`Matches`).
   `search_none` / `search_eq_none`: no match anywhere; `finditer_sem`: every reported match is a `BSem` derivation;
   `matchAt_end_none`, `finditer_nonempty`. -/
import CLModel.Proofs.RxLemmas
namespace Rx

theorem searchFrom_complete (s : Array Nat) (r : Re) :
    ∀ fuel pos q st, matchAt s r q = some st → pos ≤ q → q ≤ s.size → q - pos < fuel →
      ∃ q' st', searchFrom s r fuel pos = some (q', st') ∧ q' ≤ q := by
  intro fuel
  induction fuel with
  | zero => intro pos q st _ _ _ h; omega
  | succ fuel ih =>
    intro pos q st hm hle hq hf
    simp only [searchFrom]
    have : ¬ pos > s.size := by omega
    simp only [this, if_false]
    cases hp : matchAt s r pos with
    | some st0 => exact ⟨pos, st0, rfl, hle⟩
    | none =>
      simp only []
      have hne : pos ≠ q := by intro h; subst h; rw [hm] at hp; cases hp
      exact ih (pos + 1) q st hm (by omega) hq (by omega)

theorem search_complete {s : Array Nat} {r : Re} {pos q : Nat} {st : St}
    (hm : matchAt s r q = some st) (hle : pos ≤ q) (hq : q ≤ s.size) :
    ∃ q' st', search s r pos = some (q', st') ∧ q' ≤ q :=
  searchFrom_complete s r _ pos q st hm hle hq (by omega)

/-- the converse of `search_spec`: `search` returns THE leftmost match from `pos` on -/
theorem search_eq_some {s : Array Nat} {r : Re} {pos q : Nat} {st : St} (hle : pos ≤ q) (hq : q ≤ s.size)
    (hnone : ∀ q', pos ≤ q' → q' < q → matchAt s r q' = none) (hm : matchAt s r q = some st) :
    search s r pos = some (q, st) := by
  obtain ⟨q', st', hs, hq'⟩ := search_complete hm hle hq
  obtain ⟨h1, _, h3, _⟩ := search_spec hs
  obtain rfl : q' = q := Nat.le_antisymm hq' (Nat.le_of_not_lt fun hlt => by rw [hnone q' h1 hlt] at h3; cases h3)
  rw [hs, Option.some.inj (h3.symm.trans hm)]

theorem finditerAux_sound (s : Array Nat) (r : Re) :
    ∀ fuel pos adv, ∀ p ∈ finditerAux s r fuel pos adv,
      pos ≤ p.1 ∧ p.1 ≤ s.size ∧ (matchAt s r p.1 = some p.2 ∨ matchAtNE s r p.1 = some p.2) := by
  intro fuel
  induction fuel with
  | zero => intro pos adv p h; simp [finditerAux] at h
  | succ fuel ih =>
    intro pos adv p h
    simp only [finditerAux] at h
    split at h
    · simp at h
    · rename_i hle
      split at h
      · rename_i st hhere
        simp only [List.mem_cons] at h
        rcases h with h | h
        · subst h
          refine ⟨Nat.le_refl _, by omega, ?_⟩
          by_cases ha : adv = true
          · simp [ha] at hhere; exact Or.inr hhere
          · simp [ha] at hhere; exact Or.inl hhere
        · have := ih _ _ p h
          have hst : pos ≤ st.pos := by
            by_cases ha : adv = true
            · simp only [ha, if_true] at hhere
              unfold matchAtNE at hhere
              obtain ⟨st', h1, h3⟩ := m_run hhere
              have := h1.min
              split at h3
              · cases h3
              · cases h3; simp only at this; omega
            · simp only [ha] at hhere
              have := matchAt_min hhere
              omega
          exact ⟨by omega, this.2⟩
      · rename_i hnone
        split at h
        · rename_i q st hs
          obtain ⟨h1, h2, h3, _⟩ := search_spec hs
          simp only [List.mem_cons] at h
          rcases h with h | h
          · subst h; exact ⟨by simp; omega, h2, Or.inl h3⟩
          · have := ih _ _ p h
            have hst : q ≤ st.pos := by
              have := matchAt_min h3
              omega
            exact ⟨by omega, this.2⟩
        · simp at h

theorem finditer_sound (s : Array Nat) (r : Re) :
    ∀ p ∈ finditer s r, p.1 ≤ s.size ∧ (matchAt s r p.1 = some p.2 ∨ matchAtNE s r p.1 = some p.2) := by
  intro p h
  have := finditerAux_sound s r _ _ _ p h
  exact this.2

theorem finditer_nonempty {s : Array Nat} {r : Re} {q : Nat} {st : St}
    (hm : matchAt s r q = some st) (hq : q ≤ s.size) : finditer s r ≠ [] := by
  unfold finditer
  simp only [finditerAux]
  simp only [show ¬ (0 > s.size) by omega, if_false]
  cases h0 : matchAt s r 0 with
  | some st0 => simp
  | none =>
    have hne : q ≠ 0 := by intro h; subst h; rw [hm] at h0; cases h0
    obtain ⟨q', st', hs, _⟩ := search_complete (pos := 0 + 1) hm (by omega) hq
    simp [hs]

theorem search_step (s : Array Nat) (r : Re) (pos : Nat) (h : pos ≤ s.size) :
    search s r pos = match matchAt s r pos with
      | some st => some (pos, st)
      | none => search s r (pos + 1) := by
  unfold search
  have e : s.size + 2 - pos = (s.size + 2 - (pos + 1)) + 1 := by omega
  rw [e, searchFrom]
  have e2 : s.size + 2 - (pos + 1) = s.size + 1 - pos := by omega
  cases hm : matchAt s r pos <;> simp [show ¬ pos > s.size by omega, e2]

theorem search_gt (s : Array Nat) (r : Re) (pos : Nat) (h : s.size < pos) : search s r pos = none := by
  unfold search
  cases hf : s.size + 2 - pos with
  | zero => simp [searchFrom]
  | succ n => simp [searchFrom, h]

theorem search_none {s : Array Nat} {r : Re} {pos : Nat} (h : search s r pos = none) :
    ∀ q, pos ≤ q → q ≤ s.size → matchAt s r q = none := by
  intro q h1 h2
  cases hm : matchAt s r q with
  | none => rfl
  | some st =>
    obtain ⟨q', st', hs, _⟩ := search_complete hm h1 h2
    rw [h] at hs; cases hs

theorem search_eq_none (s : Array Nat) (r : Re) (pos : Nat)
    (h : ∀ p, pos ≤ p → p ≤ s.size → matchAt s r p = none) : search s r pos = none := by
  cases hs : search s r pos with
  | none => rfl
  | some x =>
    obtain ⟨h1, h2, h3, _⟩ := search_spec (q := x.1) (st := x.2) hs
    rw [h x.1 h1 h2] at h3; cases h3

theorem matchAt_end_none {s : Array Nat} {r : Re} (h : 1 ≤ minLen r) : matchAt s r s.size = none := by
  cases hm : matchAt s r s.size with
  | none => rfl
  | some st => have := matchAt_span hm (Nat.le_refl _); omega

/-- `ms` are the successive leftmost matches at or after `pos`.  The relation is functional; `finditer` of a regex whose
    matches are never empty, the list-level scan `scanL` (Proofs/C09Scan) and the position-level scan `C12S.scanPos`
    (Proofs/C12Scan, `finditer_scan`) satisfy it. -/
inductive Matches (s : Array Nat) (r : Re) : Nat → List (Nat × St) → Prop
  | nil {pos} : (∀ q, pos ≤ q → q ≤ s.size → matchAt s r q = none) → Matches s r pos []
  | cons {pos q st rest} : pos ≤ q → q ≤ s.size → (∀ q', pos ≤ q' → q' < q → matchAt s r q' = none) →
      matchAt s r q = some st → Matches s r st.pos rest → Matches s r pos ((q, st) :: rest)

theorem Matches.det {s r} : ∀ {pos a b}, Matches s r pos a → Matches s r pos b → a = b := by
  intro pos a b ha
  induction ha generalizing b with
  | nil h =>
    intro hb
    cases hb with
    | nil _ => rfl
    | cons h1 h2 _ h4 _ => rw [h _ h1 h2] at h4; cases h4
  | @cons pos q st rest h1 h2 h3 h4 _ ih =>
    intro hb
    cases hb with
    | nil h => rw [h _ h1 h2] at h4; cases h4
    | @cons _ q2 st2 rest2 g1 g2 g3 g4 g5 =>
      have hq : q = q2 := by
        rcases Nat.lt_trichotomy q q2 with hlt | heq | hgt
        · rw [g3 q h1 hlt] at h4; cases h4
        · exact heq
        · rw [h3 q2 g1 hgt] at g4; cases g4
      subst hq
      rw [h4] at g4
      cases g4
      rw [ih g5]

theorem Matches.step {s r pos ms} (h0 : matchAt s r pos = none) (h : Matches s r (pos + 1) ms) :
    Matches s r pos ms := by
  cases h with
  | nil h =>
    refine .nil ?_
    intro q h1 h2
    by_cases hq : q = pos
    · subst hq; exact h0
    · exact h q (by omega) h2
  | cons h1 h2 h3 h4 h5 =>
    refine .cons (by omega) h2 ?_ h4 h5
    intro q' g1 g2
    by_cases hq : q' = pos
    · subst hq; exact h0
    · exact h3 q' (by omega) g2

theorem finditerAux_matches (s : Array Nat) (r : Re) (hr : ∀ p st, matchAt s r p = some st → p < st.pos) :
    ∀ fuel pos, s.size + 1 - pos < fuel → Matches s r pos (finditerAux s r fuel pos false) := by
  intro fuel
  induction fuel with
  | zero => intro pos h; omega
  | succ fuel ih =>
    intro pos hf
    simp only [finditerAux]
    split
    · exact .nil (by intro q h1 h2; omega)
    · rename_i hle
      have hle : pos ≤ s.size := by omega
      simp only [Bool.false_eq_true, if_false]
      split
      · rename_i st hm
        have hsp := matchAt_span hm hle
        have := hr _ _ hm
        have hne : (st.pos == pos) = false := by simp; omega
        rw [hne]
        exact .cons (Nat.le_refl _) hle (by intro q' h1 h2; omega) hm (ih _ (by omega))
      · rename_i hm
        split
        · rename_i q st hs
          obtain ⟨h1, h2, h3, h4⟩ := search_spec hs
          have hsp := matchAt_span h3 h2
          have := hr _ _ h3
          have hne : (st.pos == q) = false := by simp; omega
          rw [hne]
          refine .cons (by omega) h2 ?_ h3 (ih _ (by omega))
          intro q' g1 g2
          by_cases hq : q' = pos
          · subst hq; exact hm
          · exact h4 q' (by omega) g2
        · rename_i hs
          refine .nil ?_
          intro q h1 h2
          by_cases hq : q = pos
          · subst hq; exact hm
          · exact search_none hs q (by omega) h2

theorem finditer_matches_of (s : Array Nat) (r : Re) (hr : ∀ p st, matchAt s r p = some st → p < st.pos) :
    Matches s r 0 (finditer s r) :=
  finditerAux_matches s r hr _ 0 (by omega)

theorem finditer_matches (s : Array Nat) (r : Re) (hr : 1 ≤ minLen r) : Matches s r 0 (finditer s r) :=
  finditer_matches_of s r fun _ _ => matchAt_advances hr

theorem finditer_sem (s : Array Nat) (r : Re) : ∀ x ∈ finditer s r, BSem s r ⟨x.1, []⟩ x.2 := by
  intro x hx
  rcases (finditer_sound s r x hx).2 with h | h
  · exact matchAt_sem h
  · obtain ⟨st', hrun, h2⟩ := m_run h
    have h1 := hrun.bsem
    split at h2
    · cases h2
    · cases h2; exact h1

end Rx
