/- Closed forms of the regexes of checks/android.py: what `Pattern.match` at a position returns,
   expressed on the suffix of the text at that position (list level, no regex engine).
   The shapes of the generated regexes are re-checked by `rfl`/unfolding: an edit of a regex in /repo
   breaks these proofs. -/
import CLModel.Checks.Android
import CLModel.Proofs.C09Spec
import CLModel.Proofs.C09Scan
import CLModel.Proofs.RxStar
namespace Rx
open Gen.Pat Android.Spec
theorem inC_digits (c : Nat) : inC false [.range 48 57] c = isDig c := inC_range

def reDigits : Re := .rep 1 none true (.cls false [.range 48 57])
def reFmt : Re :=
  .alt (.seq (.alt (.seq (.lit 46) reDigits) .eps) (.lit 102)) (.cls false [.ch 100, .ch 115, .ch 83])
def reOrd : Re := .seq (.cls false [.range 49 57]) (.lit 36)

theorem params_re_shape :
    checks_android_get_params_0 = .seq (.lit 37) (.seq (.alt (.group 1 reOrd) .eps) (.group 2 reFmt)) := rfl

theorem ends_digit (s : Array Nat) (st : St) : ends s (.cls false [.range 48 57]) st = stepIf s isDig st := by
  rw [ends_cls, funext inC_digits]

/-- the conversion `(?:\.[0-9]+)?f|[dsS]`: one outcome, `fmtLen` characters on, where a conversion stands -/
theorem ends_fmt (s : Array Nat) (q : Nat) (caps) :
    ends s reFmt ⟨q, caps⟩ = (fmtLen (s.toList.drop q)).toList.map (fun n => ⟨q + n, caps⟩) := by
  rw [reFmt, ends_alt, ends_seq, ends_alt, ends_seq, ends_eps, List.flatMap_append, List.flatMap_singleton]
  generalize hl : s.toList.drop q = l
  match l, hl with
  | [], hl =>
    rw [ends_lit_at_fail hl (by simp), ends_lit_at_fail hl (by simp), ends_step_at_fail (ends_cls s false _) hl (by simp)]
    rfl
  | c :: rest, hl =>
    have hc := Txt.head_of_drop hl
    have hq := getElem?_some_lt hc
    -- no second way: `f` and `[dsS]` exclude one another, and neither is `.`
    have e2 : ∀ d, c ≠ d → ends s (.lit d) ⟨q, caps⟩ = [] := fun d h => ends_lit_fail (by rw [hc]; simpa using h) caps
    by_cases h46 : c = 46
    · subst h46
      have e3 : s.toList.drop (q + 1 + (rest.takeWhile isDig).length) = rest.drop (rest.takeWhile isDig).length := by
        rw [← List.drop_drop, Txt.drop_succ_of_cons hl]
      -- `f` does not stand where a digit stands: all digits are taken
      rw [ends_lit_at hl, List.flatMap_singleton, reDigits,
        flatMap_rep_step (ends_digit s) 1 true (pos := q + 1) hq caps _ fun j d hd hdig =>
          ends_lit_fail (by rw [hd]; intro e; cases e; revert hdig; decide) caps,
        Txt.drop_succ_of_cons hl, e2 102 (by decide), ends_step_at_fail (ends_cls s false _) hl (by simp; decide),
        List.append_nil, List.append_nil, ends_lit, Txt.head?_of_drop e3]
      simp only [fmtLen, beq_self_eq_true, if_true, List.head?_drop]
      generalize (rest.takeWhile isDig).length = n
      by_cases h1 : n = 0
      · simp [h1]
      · by_cases h2 : rest[n]? = some 102
        · simp [h1, h2, Nat.one_le_iff_ne_zero]; omega
        · simp [h1, h2]
    · rw [ends_lit_at_fail hl (by simpa using h46), ends_cls, stepIf, hc]
      by_cases h102 : c = 102
      · subst h102; rw [ends_lit_at hl]; rfl
      · rw [e2 102 h102]
        by_cases hd : c = 100 ∨ c = 115 ∨ c = 83 <;> simp [fmtLen, inC, ClsItem.has, h46, h102, hd, or_assoc]

theorem m_fmt (s : Array Nat) (st : St) (k : K) :
    m s reFmt st k =
      match fmtLen (s.toList.drop st.pos) with
      | some n => k ⟨st.pos + n, st.caps⟩
      | none => none := by
  rw [m_eq_ends, ends_fmt]
  cases fmtLen (s.toList.drop st.pos) with
  | none => rfl
  | some n => cases h : k ⟨st.pos + n, st.caps⟩ <;> simp [h]

/-- the state the printf regex ends in where `parHead` finds an argument: group 2 is the conversion, group 1 the `n$` -/
def parSt (off : Nat) : Option Nat × List Nat × Nat → St
  | (some _, _, n) => ⟨off + n, [(2, off + 3, off + n), (1, off + 1, off + 3)]⟩
  | (none, _, n) => ⟨off + n, [(2, off + 1, off + n)]⟩

/-- the printf regex at the head of a list: where the reference `parHead` finds an argument, and only there -/
def gPar (off : Nat) (l : List Nat) : Option St := (parHead l).map (parSt off)

theorem fmtLen_d19 (d : Nat) (rest : List Nat) (h : isD19 d = true) : fmtLen (d :: rest) = none := by
  simp [isD19] at h
  have h1 : d ≠ 46 := by omega
  have h2 : d ≠ 102 := by omega
  have h3 : d ≠ 100 := by omega
  have h4 : d ≠ 115 := by omega
  have h5 : d ≠ 83 := by omega
  simp [fmtLen, h1, h2, h3, h4, h5]

theorem par_local (s : Array Nat) (p : Nat) :
    matchAt s checks_android_get_params_0 p = gPar p (s.toList.drop p) := by
  rw [params_re_shape]
  simp only [matchAt, m_seq_def, m_lit_def, m_alt_def, m_group_def, m_eps_def, reOrd, m_cls_apply, m_fmt]
  have hl0 : s[p]? = (s.toList.drop p)[0]? := by simp [List.getElem?_drop]
  have hl1 : s[p + 1]? = (s.toList.drop p)[1]? := by simp [List.getElem?_drop]
  have hl2 : s[p + 1 + 1]? = (s.toList.drop p)[2]? := by simp [List.getElem?_drop]
  have hd1 : s.toList.drop (p + 1) = (s.toList.drop p).drop 1 := by simp [List.drop_drop]
  have hd3 : s.toList.drop (p + 1 + 1 + 1) = (s.toList.drop p).drop 3 := by simp [List.drop_drop]; 
  simp only [hl0, hl1, hl2, hd1, hd3]
  generalize s.toList.drop p = l
  have hd19 : ∀ c, inC false [.range 49 57] c = isD19 c := by
    intro c; simp [inC, ClsItem.has, isD19]
  simp only [hd19]
  -- without `n$` the conversion stands right behind the `%`
  have plain : ∀ l : List Nat, (match fmtLen l with
      | some n => some (⟨p + 1 + n, [(2, p + 1, p + 1 + n)]⟩ : St)
      | none => none) = (fmtLen l).map (parSt p ∘ fun n => (none, l.take n, n + 1)) := by
    intro l
    cases fmtLen l with
    | none => rfl
    | some n => simp only [Option.map_some, Function.comp, parSt, Nat.add_assoc, Nat.add_comm 1 n]
  rcases l with _ | ⟨c, _ | ⟨d, _ | ⟨e, rest2⟩⟩⟩
  · simp [gPar, parHead]
  · by_cases hc : c = 37 <;> simp [gPar, parHead, hc, fmtLen]
  · by_cases hc : c = 37 <;> simp [gPar, parHead, hc]
    exact plain _
  · by_cases hc : c = 37 <;> simp [gPar, parHead, hc]
    by_cases hd : isD19 d = true <;> by_cases he : e = 36 <;> simp [hd, he]
    · cases hf : fmtLen rest2 with
      | some n => simp [parSt, Nat.add_assoc]; omega
      | none => simp [fmtLen_d19 d _ hd]
    all_goals exact plain _

def gApos (off : Nat) (l : List Nat) : Option St :=
  match l with
  | a :: _ => if a == 39 then some ⟨off + 1, []⟩ else none
  | _ => none

theorem apos_local (s : Array Nat) (p : Nat) :
    matchAt s checks_android_check_apostrophes_2 p = gApos p (s.toList.drop p) := by
  simp only [matchAt, checks_android_check_apostrophes_2, m]
  rw [← Nat.add_zero p, ← Txt.drop_getElem? s p 0, Nat.add_zero]
  generalize s.toList.drop p = l
  rcases l with _ | ⟨a, rest⟩ <;> simp [gApos]

/-- local matcher of a two-character pattern given by `cond` -/
def gPair (cond : Nat → Nat → Bool) (off : Nat) (l : List Nat) : Option St :=
  match l with
  | a :: b :: _ => if cond a b then some ⟨off + 2, []⟩ else none
  | _ => none

/-- a regex that reads two characters and accepts the pair iff `cond` (the shape of `""` and of `\\.`) -/
theorem pair_local {r : Re} {cond : Nat → Nat → Bool}
    (hr : ∀ (s : Array Nat) (p : Nat), matchAt s r p =
      match s[p]?, s[p + 1]? with
      | some a, some b => if cond a b then some ⟨p + 2, []⟩ else none
      | _, _ => none)
    (s : Array Nat) (p : Nat) : matchAt s r p = gPair cond p (s.toList.drop p) := by
  rw [hr, ← Txt.drop_getElem? s p 1, ← Nat.add_zero p, ← Txt.drop_getElem? s p 0, Nat.add_zero]
  generalize s.toList.drop p = l
  rcases l with _ | ⟨a, _ | ⟨b, rest⟩⟩ <;> rfl

theorem matchAt_alt (s : Array Nat) (a b : Re) (p : Nat) :
    matchAt s (.alt a b) p = (matchAt s a p).orElse fun _ => matchAt s b p := by
  simp only [matchAt, m_alt_def]

theorem gPair_orElse (c1 c2 : Nat → Nat → Bool) (off : Nat) (l : List Nat) :
    (gPair c1 off l).orElse (fun _ => gPair c2 off l) = gPair (fun a b => c1 a b || c2 a b) off l := by
  rcases l with _ | ⟨a, _ | ⟨b, rest⟩⟩
  · rfl
  · rfl
  · cases h1 : c1 a b <;> simp [gPair, h1]

def dqCond (a b : Nat) : Bool := a == 34 && b == 34

theorem dq_local (s : Array Nat) (p : Nat) :
    matchAt s checks_android_check_apostrophes_0 p = gPair dqCond p (s.toList.drop p) := by
  refine pair_local (fun s p => ?_) s p
  simp only [matchAt, checks_android_check_apostrophes_0, m]
  cases s[p]? <;> cases s[p + 1]? <;> simp [dqCond, Nat.add_assoc]
  rename_i a b
  by_cases h : a = 34 <;> simp [h]

/-- the inline escape pattern `\\.` of the doubled-quote search -/
theorem esc_local (s : Array Nat) (p : Nat) :
    matchAt s checks_android_check_apostrophes_1 p = gPair escCond p (s.toList.drop p) := by
  refine pair_local (fun s p => ?_) s p
  simp only [matchAt, checks_android_check_apostrophes_1, m]
  cases s[p]? <;> cases s[p + 1]? <;> simp [escCond, Nat.add_assoc]
  rename_i a b
  by_cases h : a = 92 <;> simp [h]

/-- the silencer is the alternation of the two patterns above -/
theorem sil_local (s : Array Nat) (p : Nat) :
    matchAt s checks_android_silencer p = gPair silCond p (s.toList.drop p) := by
  rw [show checks_android_silencer =
      .alt checks_android_check_apostrophes_1 checks_android_check_apostrophes_0 from rfl,
    matchAt_alt, esc_local, dq_local, gPair_orElse]
  rfl

end Rx
