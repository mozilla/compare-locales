/-
The cross-channel merge keeps the shape "every entry that is not whitespace is directly
followed by a whitespace entry" (`C16R.Alt`) — through the closed form of `AddRemove`, `prune` and the fold over the
versions — and every entry of the merge is an entry of some version.
-/
import CLModel.Proofs.C16RAlt
import CLModel.Proofs.C15Text
import CLModel.Proofs.C15Newest
namespace C15R
open AR Merge C16R

theorem alt_keysOf (d : Dict) (hd : WF d) (h : Alt pws d) : Alt Key.isObj (keysOf d) := by
  unfold keysOf
  apply alt_map (w := pws) _ _ _ h
  intro p hp hw
  rw [keyOK_isObj (hd.ok p hp)]; exact hw

theorem somes_contents (n o : Dict) :
    C16L.strip (contentsOf n o)
      = (specKeys (keysOf n) (keysOf o)).filterMap (fun k => (getNewerEntity n o k).map (fun e => (k, e))) := by
  unfold C16L.strip contentsOf
  rw [List.filterMap_map]
  rfl

theorem alt_mergeTwo (n o : Dict) (hn : WF n) (ho : WF o) (hd : Disj n o) (han : Alt pws n) (hao : Alt pws o) :
    Alt pws (mergeTwo n o) := by
  rw [mergeTwo_gen n o hn ho]
  apply alt_fold_none
  rw [somes_contents]
  apply alt_filterMap (w := Key.isObj)
  · intro k hk hobj
    rw [specKeys_mem_dict n o hn ho] at hk
    obtain ⟨e, he⟩ := getNewer_isSome n o k hk
    refine ⟨(k, e), by rw [he]; rfl, ?_⟩
    exact (keyOK_isObj (getNewer_keyOK n o hn ho k e he)).symm.trans hobj
  · unfold specKeys
    apply alt_spec Key.isObj _ _ _ (alt_keysOf n hn han) (alt_keysOf o ho hao)
    intro y hyo hyn
    cases hy : y.isObj
    · rfl
    · exact absurd hyo (hd y hy hyn)

theorem merged_from_version (rs : List (List Ent)) (d : Dict) (h : mergeResources rs = some d) :
    ∀ p ∈ d, ∃ dv ∈ versionDicts rs, p ∈ dv := by
  refine merged_induct (P := fun vs d => ∀ p ∈ d, ∃ dv ∈ vs, p ∈ dv) ?_ ?_ h
  · exact fun d0 _ p hp => ⟨d0, by simp, hp⟩
  · intro d0 ds acc dv ha hd _ ih p hp
    rcases mergeTwo_mem acc dv ha hd p hp with h | h
    · obtain ⟨v, hv, hpv⟩ := ih p h
      exact ⟨v, mem_snoc hv, hpv⟩
    · exact ⟨dv, by simp, h⟩

theorem alt_merged (rs : List (List Ent)) (d : Dict) (h : mergeResources rs = some d)
    (hall : ∀ dv ∈ versionDicts rs, Alt pws dv) : Alt pws d := by
  refine merged_induct (P := fun vs d => (∀ dv ∈ vs, Alt pws dv) → Alt pws d) ?_ ?_ h hall
  · exact fun d0 _ h => h d0 (by simp)
  · intro d0 ds acc dv ha hd hdis ih hall
    exact alt_mergeTwo acc dv ha hd hdis (ih fun v hv => hall v (mem_snoc hv)) (hall dv (by simp))

theorem merged_alt (rs : List (List Ent)) (d : Dict) (h : mergeResources rs = some d) :
    WF d ∧ (∀ p ∈ d, ∃ dv ∈ versionDicts rs, p ∈ dv) ∧
      ((∀ dv ∈ versionDicts rs, Alt pws dv) → Alt pws d) :=
  ⟨merged_wf h, merged_from_version rs d h, alt_merged rs d h⟩

theorem mergeTwo_head (n o : Dict) (hn : WF n) (ho : WF o) (k : Key) (S : Ent) (n' : Dict) (hne : n = (k, S) :: n')
    (hoe : ∀ x, (keysOf o).head? = some x → x = k) (hw : S.isWs = false) :
    ∃ M, mergeTwo n o = (k, S) :: M := by
  rw [mergeTwo_gen n o hn ho]
  have hkeys : keysOf n = k :: keysOf n' := by rw [hne]; rfl
  obtain ⟨K, hK⟩ : ∃ K, specKeys (keysOf n) (keysOf o) = k :: K := by
    rw [hkeys]
    apply spec_head
    intro x hx
    rw [hoe x hx]
    simp
  have hget : getNewerEntity n o k = some S := by
    rw [hne]; simp [getNewerEntity, dget]
  rw [somes_contents, hK, List.filterMap_cons, hget]
  exact ⟨_, C16L.fold_nws pws plen none (k, S) _ hw⟩

theorem merged_head (rs : List (List Ent)) (d : Dict) (h : mergeResources rs = some d) (k : Key) (S : Ent)
    (hw : S.isWs = false) {d0 d0' : Dict} {ds : List Dict} (hvd : versionDicts rs = d0 :: ds) (hd0 : d0 = (k, S) :: d0')
    (hall : ∀ dv ∈ versionDicts rs, ∀ x, (keysOf dv).head? = some x → x = k) :
    ∃ M, d = (k, S) :: M := by
  refine merged_induct (P := fun vs d => vs.head? = some d0 → (∀ dv ∈ vs, ∀ x, (keysOf dv).head? = some x → x = k) →
      ∃ M, d = (k, S) :: M) ?_ ?_ h (by rw [hvd]; rfl) hall
  · intro d1 _ h1 _
    cases h1
    exact ⟨d0', hd0⟩
  · intro d1 ds acc dv ha hd _ ih h1 hall
    obtain ⟨M, hM⟩ := ih h1 (fun v hv => hall v (mem_snoc hv))
    exact mergeTwo_head acc dv ha hd k S M hM (hall dv (by simp)) hw

theorem alt_versionDict (i : Nat) (es : List Ent) (hk : NodupKeys es) (h : Alt Ent.isWs es) :
    Alt pws (versionDict i es) := by
  rw [versionDict_eq i es hk]
  apply alt_of_map (w' := Ent.isWs) (fun p : Key × Ent => p.2)
  rw [pairs_map_snd, stamp_eq]
  exact alt_all2 (stampFrom_same i 0 es) (fun x y hxy => sameBut_isWs x y hxy) h

theorem pairs_key_of_keyed (es : List Ent) (c : List (List Nat × Nat)) :
    ∀ p ∈ pairs es c, p.2.keyed = true → p.1 = Key.ent p.2.ekey := by
  induction es generalizing c with
  | nil => simp [pairs]
  | cons e es ih =>
    intro p hp hkeyed
    simp only [pairs, List.mem_cons] at hp
    rcases hp with rfl | hp
    · have h1 : e.kind ≠ .comment := by
        intro h; rw [getKeyValue_snd] at hkeyed; simp [Ent.keyed, h] at hkeyed
      have h2 : e.kind ≠ .whitespace := by
        intro h; rw [getKeyValue_snd] at hkeyed; simp [Ent.keyed, h] at hkeyed
      rw [getKeyValue_ent e c h1 h2]
    · exact ih _ p hp hkeyed

theorem versionDict_mem_inv (i : Nat) (es : List Ent) (p : Key × Ent) (hp : p ∈ versionDict i es) :
    ∃ e ∈ es, SameBut p.2 e ∧ (e.keyed = true → p.1 = Key.ent e.ekey) := by
  have hp' := parseResource_mem _ p hp
  obtain ⟨e, he, hs⟩ := stamp_mem_inv i es p.2 (pairs_snd_mem _ _ p hp')
  refine ⟨e, he, hs, ?_⟩
  intro hkeyed
  rw [← hs.2.1]
  exact pairs_key_of_keyed _ _ p hp' (by rw [sameBut_keyed _ _ hs]; exact hkeyed)

end C15R
