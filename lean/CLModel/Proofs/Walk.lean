/-
The format-independent core of C01: the progress contract of a `getNext` (`Progress`), entries that tile the text (`Tiles`),
tiling implies losslessness (`tiles_lossless`), `getJunk` makes progress, and the localizable-only walk is the filtered full
walk.  That progress makes `walk` total and tiling is `P.walk_lossless` in WalkRel.  Before `Tiles`: the `P.slice` lemmas
(a slice is `Txt.extract_eq`).
-/
import CLModel.Parser.Base
import CLModel.Proofs.RxLemmas
namespace P
open Rx

/-- the progress contract of a (stateful) `getNext`.  `b` is the offset at which the entry
    found at offset 0 starts (1 for a DTD with a byte-order mark, else 0). -/
def Progress {σ : Type} (next : σ → Nat → Entry × σ) (size b : Nat) : Prop :=
  ∀ c off, off < size →
    (next c off).1.full = (if off = 0 then b else off) ∧ (next c off).1.full ≤ (next c off).1.e ∧
    off < (next c off).1.e ∧ (next c off).1.e ≤ size

/-- entries tile `[off, size)` (the very first one may start at `b`) -/
inductive Tiles (size b : Nat) : Nat → List Entry → Prop
  | nil {off} : off ≥ size → Tiles size b off []
  | cons {off e es} : e.full = (if off = 0 then b else off) → e.full ≤ e.e → off < e.e → e.e ≤ size →
      Tiles size b e.e es → Tiles size b off (e :: es)

theorem drop_take_split (l : List Nat) (a b : Nat) (h1 : a ≤ b) :
    (l.drop a).take (b - a) ++ l.drop b = l.drop a := by
  have : l.drop b = (l.drop a).drop (b - a) := by
    rw [List.drop_drop]; congr 1; omega
  rw [this, List.take_append_drop]

theorem slice_eq_drop_take (s : Array Nat) (a b : Nat) :
    slice s a b = (s.toList.drop a).take (b - a) :=
  Txt.extract_eq s a b

theorem slice_append (s : Array Nat) (a b c : Nat) (h1 : a ≤ b) (h2 : b ≤ c) :
    slice s a b ++ slice s b c = slice s a c := by
  have e1 : c - a = (b - a) + (c - b) := by omega
  have e2 : a + (b - a) = b := by omega
  rw [slice_eq_drop_take, slice_eq_drop_take, slice_eq_drop_take, e1, List.take_add, List.drop_drop, e2]

theorem slice_self (s : Array Nat) (a : Nat) : slice s a a = [] := by
  rw [slice_eq_drop_take, Nat.sub_self, List.take_zero]

theorem slice_length (s : Array Nat) (a b : Nat) (h : b ≤ s.size) : (slice s a b).length = b - a := by
  rw [slice_eq_drop_take, List.length_take, List.length_drop, Array.length_toList]; omega

theorem slice_full (s : Array Nat) : slice s 0 s.size = s.toList := by
  rw [slice_eq_drop_take, List.drop_zero, Nat.sub_zero, ← Array.length_toList, List.take_length]

theorem slice_get {s : Array Nat} {a b k c : Nat} (h : (slice s a b)[k]? = some c) :
    s[a + k]? = some c ∧ a + k < b := by
  rw [slice_eq_drop_take, List.getElem?_take] at h
  split at h
  · rename_i hk
    rw [List.getElem?_drop] at h
    exact ⟨by simpa using h, by omega⟩
  · cases h

theorem slice_get_of {s : Array Nat} {a b k : Nat} (hk : a + k < b) :
    (slice s a b)[k]? = s[a + k]? := by
  rw [slice_eq_drop_take, List.getElem?_take]
  have : k < b - a := by omega
  simp [this, List.getElem?_drop]

theorem tiles_bounds {size b : Nat} : ∀ {off : Nat} {es : List Entry}, Tiles size b off es →
    ∀ e ∈ es, e.full ≤ e.e ∧ e.e ≤ size := by
  intro off es h
  induction h with
  | nil _ => intro e he; simp at he
  | cons _ h2 _ h4 _ ih =>
    intro e he
    rcases List.mem_cons.mp he with rfl | he
    · exact ⟨h2, h4⟩
    · exact ih e he

theorem tiles_lossless (s : Array Nat) (b : Nat) :
    ∀ es off, Tiles s.size b off es →
      (es.map (Entry.all s)).flatten = s.toList.drop (if off = 0 then b else off) := by
  intro es
  induction es with
  | nil =>
    intro off h
    cases h with
    | nil hge =>
      by_cases h0 : off = 0
      · subst h0
        have h0 : s.size = 0 := by omega
        have : s.toList = [] := List.eq_nil_of_length_eq_zero (by simpa using h0)
        simp [this]
      · have : s.toList.length ≤ off := by simpa using hge
        simp [h0, List.drop_eq_nil_of_le this]
  | cons e es ih =>
    intro off h
    cases h with
    | cons h1 h2 h3 h4 ht =>
      have hne : e.e ≠ 0 := by omega
      simp only [List.map_cons, List.flatten_cons, ih _ ht, hne, if_false]
      unfold Entry.all
      rw [slice_eq_drop_take, ← h1]
      exact drop_take_split _ _ _ h2

/-- getJunk (its search starts one past the offset) always makes progress -/
theorem getJunk_progress (s : Array Nat) (off : Nat) (exps : List Re) (hoff : off < s.size) :
    (getJunk s off exps).full = off ∧ (getJunk s off exps).s = off ∧ off < (getJunk s off exps).e ∧
      (getJunk s off exps).e ≤ s.size ∧ (getJunk s off exps).kind = .junk := by
  have inv : ∀ (l : List Re) (je : Option Nat),
      (∀ j, je = some j → off < j ∧ j ≤ s.size) →
      ∀ j, l.foldl (fun je exp =>
        match search s exp (off + 1) with
        | some (q, _) =>
            match je with
            | some j => if j != 0 then some (min j q) else some q
            | none => some q
        | none => je) je = some j → off < j ∧ j ≤ s.size := by
    intro l
    induction l with
    | nil => intro je h j hj; exact h j (by simpa using hj)
    | cons r rs ih =>
      intro je h j hj
      simp only [List.foldl_cons] at hj
      refine ih _ ?_ j hj
      intro j' hj'
      split at hj'
      · rename_i q st hs
        obtain ⟨h1, h2, _, _⟩ := search_spec hs
        split at hj'
        · rename_i j0
          have := h j0 rfl
          split at hj'
          · cases hj'; simp [Nat.lt_min]; omega
          · cases hj'; exact ⟨by omega, h2⟩
        · cases hj'; exact ⟨by omega, h2⟩
      · exact h j' hj'
  refine ⟨rfl, rfl, ?_, ?_, rfl⟩
  all_goals
    simp only [getJunk]
    split
    · rename_i j0 hj0
      have := inv exps none (by intro j h; cases h) j0 hj0
      split <;> omega
    · omega

def WalkResult.filterLoc : WalkResult → WalkResult
  | .done es => .done (es.filter Entry.localizable)
  | .stuck o es => .stuck o (es.filter Entry.localizable)

theorem WalkResult.filterLoc_cons (e : Entry) (r : WalkResult) :
    (r.cons e).filterLoc = if e.localizable then r.filterLoc.cons e else r.filterLoc := by
  cases r <;> by_cases h : e.localizable <;> simp [WalkResult.cons, WalkResult.filterLoc, h]

theorem walkFromLoc_eq {σ : Type} (next : σ → Nat → Entry × σ) (size : Nat) :
    ∀ fuel c off, walkFromLoc next size fuel c off = (walkFrom next size fuel c off).filterLoc := by
  intro fuel
  induction fuel with
  | zero => intro c off; simp only [walkFromLoc, walkFrom]; split <;> rfl
  | succ fuel ih =>
    intro c off
    simp only [walkFromLoc, walkFrom]
    split
    · rfl
    · rw [WalkResult.filterLoc_cons, ih]

end P
