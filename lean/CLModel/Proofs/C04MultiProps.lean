/- C04, several cuts in a printed `.properties` file: the lines of Proofs/C04Lines — records (some with a check error, to be skipped
   and replaced by their reference record) and garbage lines (junk) — as kept and cut pieces.  The walk reports exactly the spans
   that are cut; the staged text is a token text (records and blank lines) and re-parses without junk. -/
import CLModel.Proofs.C04Lines
import CLModel.Proofs.C04Multi
import CLModel.Proofs.C04Splice
import CLModel.Proofs.SafeRecDec
namespace C04M
open P Merge

/-- the pieces of a line: a record with an error is cut WITHOUT its newline (the entity span ends before it) -/
def linePcs : Line → List Pc
  | .rcd r none => [.keep (printRec r)]
  | .rcd r (some rref) => [.cut (r.1 ++ 61 :: r.2) false (printRec rref), .keep [10]]
  | .garb g => [.cut (g ++ [10]) true []]

def linesPcs : List Line → List Pc
  | [] => []
  | l :: ls => linePcs l ++ linesPcs ls

/-- reference records of the skipped records, in file order -/
def lrefs : List Line → List PRec
  | [] => []
  | .rcd _ (some rref) :: ls => rref :: lrefs ls
  | .rcd _ none :: ls => lrefs ls
  | .garb _ :: ls => lrefs ls

/-- what is kept, as tokens: a skipped record leaves its newline -/
def ltoks : List Line → List C04R.Tok
  | [] => []
  | .rcd r none :: ls => .record r :: ltoks ls
  | .rcd _ (some _) :: ls => .nl :: ltoks ls
  | .garb _ :: ls => ltoks ls

theorem lineText_length (l : Line) : (pcText (linePcs l)).length = (lineText l).length := by
  cases l with
  | rcd r bad => cases bad <;> simp [linePcs, pcText, lineText, printRec] <;> omega
  | garb g => simp [linePcs, pcText, lineText]

theorem pcText_linePcs (l : Line) : pcText (linePcs l) = lineText l := by
  cases l with
  | rcd r bad => cases bad <;> simp [linePcs, pcText, lineText, printRec]
  | garb g => simp [linePcs, pcText, lineText]

theorem pcText_linesPcs : ∀ ls, pcText (linesPcs ls) = linesText ls
  | [] => rfl
  | l :: ls => by simp [linesPcs, linesText, pcText_append, pcText_linePcs, pcText_linesPcs ls]

theorem pcKept_linesPcs : ∀ ls, pcKept (linesPcs ls) = C04R.printToks (ltoks ls)
  | [] => rfl
  | .rcd r none :: ls => by simp [linesPcs, linePcs, pcKept, ltoks, C04R.printToks, pcKept_linesPcs ls]
  | .rcd r (some rref) :: ls => by
    simp [linesPcs, linePcs, pcKept, ltoks, C04R.printToks, pcKept_linesPcs ls]
  | .garb g :: ls => by simp [linesPcs, linePcs, pcKept, ltoks, pcKept_linesPcs ls]

theorem cutsNonempty_lines (ls : List Line) : CutsNonempty (linesPcs ls) := by
  induction ls with
  | nil => intro x j ra h; simp [linesPcs] at h
  | cons l ls ih =>
    intro x j ra h
    simp only [linesPcs, List.mem_append] at h
    rcases h with h | h
    · cases l with
      | rcd r bad =>
        cases bad with
        | none => simp [linePcs] at h
        | some rref =>
          simp [linePcs] at h
          obtain ⟨rfl, _, _⟩ := h
          simp
      | garb g =>
        simp [linePcs] at h
        obtain ⟨rfl, _, _⟩ := h
        simp
    · exact ih x j ra h

theorem refs_of_skips : ∀ (ls : List Line) (off : Nat),
    ((pcSkips off (linesPcs ls)).filter (fun s => !s.junk)).map (·.refAll) = (lrefs ls).map printRec
  | [], _ => rfl
  | .rcd r none :: ls, off => by
    simp only [linesPcs, linePcs, List.cons_append, List.nil_append, pcSkips, lrefs]
    exact refs_of_skips ls _
  | .rcd r (some rref) :: ls, off => by
    simp only [linesPcs, linePcs, List.cons_append, List.nil_append, pcSkips, lrefs, List.map_cons]
    rw [List.filter_cons_of_pos (by simp), List.map_cons, refs_of_skips ls _]
  | .garb g :: ls, off => by
    simp only [linesPcs, linePcs, List.cons_append, List.nil_append, pcSkips, lrefs]
    rw [List.filter_cons_of_neg (by simp), refs_of_skips ls _]

theorem skips_are_entries : ∀ (ls : List Line) (off : Nat) (sk : Skip), sk ∈ pcSkips off (linesPcs ls) →
    ∃ e ∈ lentries off ls, sk.span = some (e.s, e.e) ∧ sk.junk = (e.kind == .junk)
  | [], _, sk, h => by simp [linesPcs, pcSkips] at h
  | .rcd r none :: ls, off, sk, h => by
    simp only [linesPcs, linePcs, List.cons_append, List.nil_append, pcSkips] at h
    rw [printRec_length, show off + (r.1.length + 1 + r.2.length + 1) = off + r.1.length + 1 + r.2.length + 1 by omega] at h
    obtain ⟨e, he, h1, h2⟩ := skips_are_entries ls _ sk h
    exact ⟨e, by simp [lentries, he], h1, h2⟩
  | .rcd r (some rref) :: ls, off, sk, h => by
    simp only [linesPcs, linePcs, List.cons_append, List.nil_append, pcSkips, List.mem_cons] at h
    rcases h with h | h
    · subst h
      refine ⟨propsEntity_c02 off r.1.length r.2.length, by simp [lentries], ?_, by simp [propsEntity_c02]⟩
      simp [propsEntity_c02]; omega
    · rw [show off + (r.1 ++ 61 :: r.2).length + [10].length = off + r.1.length + 1 + r.2.length + 1 by simp; omega] at h
      obtain ⟨e, he, h1, h2⟩ := skips_are_entries ls _ sk h
      exact ⟨e, by simp [lentries, he], h1, h2⟩
  | .garb g :: ls, off, sk, h => by
    simp only [linesPcs, linePcs, List.cons_append, List.nil_append, pcSkips, List.mem_cons] at h
    rcases h with h | h
    · subst h
      exact ⟨C02X.junkEntry off (off + g.length + 1), by simp [lentries], by simp [C02X.junkEntry]; omega,
        by simp [C02X.junkEntry]⟩
    · have e : (g ++ [10]).length = g.length + 1 := by simp
      rw [e, ← Nat.add_assoc] at h
      obtain ⟨e, he, h1, h2⟩ := skips_are_entries ls _ sk h
      exact ⟨e, by simp [lentries, he], h1, h2⟩

theorem trailing_lines (ls : List Line) (ms : List PRec) :
    trailing (ms.map printRec) (pcSkips 0 (linesPcs ls)) = 10 :: printProps (ms ++ lrefs ls) :=
  C04R.trailing_of printRec C04R.ensureNewline_printRec ms (lrefs ls) _ (refs_of_skips ls 0)

theorem merge_lines (ls : List Line) (ms : List PRec) (perm : List Skip)
    (hp : perm.Perm (pcSkips 0 (linesPcs ls))) (hne : perm ≠ []) :
    C04R.staged (linesText ls) (merge true Gen.Tables.cap_properties (linesText ls) perm (ms.map printRec)) =
      some (C04R.printToks (ltoks ls) ++ 10 :: printProps (ms ++ lrefs ls)) := by
  have hm := (merge_cuts (linesPcs ls) perm (ms.map printRec) (cutsNonempty_lines ls) hp hne).1
  rw [pcText_linesPcs, pcKept_linesPcs] at hm
  rw [show Gen.Tables.cap_properties = Gen.Tables.CAN_SKIP + Gen.Tables.CAN_MERGE from rfl, hm]
  simp [C04R.staged, trailing_lines]

theorem plain_append (rs : List PRec) (tail : List Line) :
    ltoks (plain rs ++ tail) = rs.map .record ++ ltoks tail ∧ lrefs (plain rs ++ tail) = lrefs tail ∧
    (∀ off, pcSkips off (linesPcs (plain rs ++ tail)) = pcSkips (off + (printProps rs).length) (linesPcs tail)) := by
  induction rs with
  | nil => simp [plain, printProps]
  | cons r rs ih =>
    obtain ⟨d, e, f⟩ := ih
    simp only [plain, List.map_cons, List.cons_append] at d e f ⊢
    refine ⟨?_, ?_, fun off => ?_⟩
    · rw [ltoks, d]
    · rw [lrefs, e]
    · rw [linesPcs, linePcs, List.cons_append, List.nil_append, pcSkips, f, printRec_length,
        show printProps (r :: rs) = printRec r ++ printProps rs by simp [printProps], List.length_append, printRec_length]
      congr 1; omega

theorem plain_only (rs : List PRec) :
    ltoks (plain rs) = rs.map .record ∧ lrefs (plain rs) = [] ∧ (∀ off, pcSkips off (linesPcs (plain rs)) = []) := by
  have := plain_append rs []
  simpa [ltoks, lrefs, linesPcs, pcSkips] using this

theorem expEntries_junk : ∀ (rs : List PRec) (off : Nat), (expEntries off rs).filter (fun e => e.kind == .junk) = []
  | [], _ => rfl
  | r :: rs, off => by
    simp only [expEntries]
    rw [List.filter_cons_of_neg (by simp [propsEntity_c02]), List.filter_cons_of_neg (by simp [wsEntry]), expEntries_junk rs]

theorem staged_recs_safe {ls : List Line} (hok : LinesOK ls) :
    (∀ r ∈ lrefs ls, SafeRec r) ∧ ∀ r ∈ C04R.recsOf (ltoks ls), SafeRec r := by
  induction ls with
  | nil => exact ⟨nofun, nofun⟩
  | cons l ls ih =>
    cases l with
    | rcd r0 bad =>
      obtain ⟨ih1, ih2⟩ := ih hok.2.2
      cases bad with
      | none => exact ⟨ih1, List.forall_mem_cons.2 ⟨hok.1, ih2⟩⟩
      | some rref => exact ⟨List.forall_mem_cons.2 ⟨hok.2.1 rref rfl, ih1⟩, ih2⟩
    | garb g => exact ih hok.2.2

/-- for closed test vectors (the example of the property file); no theorem evaluates the class -/
instance decLinesOK : (ls : List Line) → Decidable (LinesOK ls)
  | [] => isTrue trivial
  | .rcd _ _ :: ls => have := decLinesOK ls; inferInstanceAs (Decidable (_ ∧ _ ∧ _))
  | .garb _ :: [] => inferInstanceAs (Decidable (_ ∧ True ∧ True))
  | .garb _ :: .rcd r b :: ls => have := decLinesOK (.rcd r b :: ls); inferInstanceAs (Decidable (_ ∧ True ∧ _))
  | .garb _ :: .garb _ :: _ => isFalse fun h => h.2.1

end C04M
