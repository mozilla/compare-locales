/- C14: rule compilation (`_compile_rule`).  A literal key, `re.escape(key) + "$"` matched with `Pattern.match`, accepts the key
   and the key followed by a newline (`literal_matches`); the last applicable compiled rule carries the action of the last
   applicable raw rule (`own_compiled`). -/
import CLModel.Proofs.C14Filter
namespace Filt
open Filt.Spec

theorem getElem?_toArray_append (pre suf : List Nat) :
    (pre ++ suf).toArray[pre.length]? = suf.head? := by
  rw [List.getElem?_toArray, List.getElem?_append_right (Nat.le_refl _)]
  simp [List.head?_eq_getElem?]

theorem escapedDollar_m (s : Text) : ∀ (pre suf : List Nat) (caps : List (Nat × Nat × Nat)),
    (Rx.m (pre ++ suf).toArray (escapedDollar s) ⟨pre.length, caps⟩ some).isSome
      = (suf == s || suf == s ++ [10]) := by
  induction s with
  | nil =>
    intro pre suf caps
    simp only [escapedDollar, List.foldr_nil, Rx.m, getElem?_toArray_append]
    rcases suf with _ | ⟨a, _ | ⟨b, t⟩⟩ <;> simp <;> (split <;> simp_all)
  | cons c s ih =>
    intro pre suf caps
    simp only [escapedDollar, List.foldr_cons, Rx.m, getElem?_toArray_append]
    rcases suf with _ | ⟨a, t⟩
    · simp
    · have := ih (pre ++ [a]) t caps
      simp only [List.append_assoc, List.singleton_append, List.length_append, List.length_singleton] at this
      simp only [List.head?_cons]
      by_cases hac : a = c
      · subst hac
        simp [escapedDollar] at this ⊢
        exact this
      · simp [hac]

theorem literal_matches (s ent : Text) :
    (KeyPred.literal s).matches ent = (ent == s || ent == s ++ [10]) := by
  have := escapedDollar_m s [] ent []
  simpa [KeyPred.matches, KeyPred.toRe, Rx.matchAt] using this

theorem compileKeys_action (p : PathM) (a : Action) (k : Option (OneOrMany RawKey)) :
    ∀ r ∈ compileKeys p a k, r.action = a := by
  intro r hr
  rcases k with _ | (k | ks) <;> simp [compileKeys] at hr
  · simp [hr]
  · simp [hr]
  · obtain ⟨_, _, rfl⟩ := hr; rfl

theorem compileRule_action (raw : RawRule) : ∀ r ∈ compileRule raw, r.action = raw.action := by
  intro r hr
  unfold compileRule at hr
  split at hr
  · simp only [List.mem_flatMap] at hr
    obtain ⟨p, _, hp⟩ := hr
    exact compileKeys_action _ _ _ r hp
  · exact compileKeys_action _ _ _ r hr


theorem any_and_const_left {α} (l : List α) (b : Bool) (f : α → Bool) :
    l.any (fun x => b && f x) = (b && l.any f) := by
  induction l with
  | nil => simp
  | cons a l ih => simp [ih]; cases b <;> simp

theorem any_and_const_right {α} (l : List α) (b : Bool) (f : α → Bool) :
    l.any (fun x => f x && b) = (l.any f && b) := by
  induction l with
  | nil => simp
  | cons a l ih => simp [ih]; cases b <;> simp

theorem compileKeys_any (p : PathM) (a : Action) (k : Option (OneOrMany RawKey)) (file : File) (ent : Option Text) :
    (compileKeys p a k).any (fun r => applies r file ent) =
      (p.matchWith file.locale file.fullpath && rawKeyApplies k ent) := by
  rcases k with _ | (k | ks) <;> rcases ent with _ | e <;>
    simp [compileKeys, applies, rawKeyApplies, OneOrMany.toList, List.any_map, Function.comp_def]
  exact any_and_const_left _ _ _

theorem compileRule_any (raw : RawRule) (file : File) (ent : Option Text) :
    (compileRule raw).any (fun r => applies r file ent) = rawApplies raw file ent := by
  unfold compileRule rawApplies
  rcases raw.path with p | ps
  · simp [compileKeys_any, OneOrMany.toList]
  · simp only [List.any_flatMap, compileKeys_any, OneOrMany.toList]
    exact any_and_const_right _ _ _

/-- last element of a concatenation of blocks, seen through a block-constant label -/
theorem getLast?_flatMap_label {α β γ : Type} (g : α → List β) (lb : β → γ) (la : α → γ)
    (h : ∀ a, ∀ b ∈ g a, lb b = la a) (l : List α) :
    (l.flatMap g).getLast?.map lb = (l.filter (fun a => !(g a).isEmpty)).getLast?.map la := by
  induction l with
  | nil => simp
  | cons a l ih =>
    rw [List.flatMap_cons, List.getLast?_append, List.filter_cons]
    by_cases he : (g a).isEmpty = true
    · have : g a = [] := List.isEmpty_iff.mp he
      simp [this, ih]
    · simp only [he, Bool.not_false, if_true]
      rw [List.getLast?_cons]
      cases hx : (List.flatMap g l).getLast? with
      | some x =>
        rw [hx] at ih
        cases hy : (List.filter (fun a => !(g a).isEmpty) l).getLast? with
        | some y => rw [hy] at ih; simpa using ih
        | none => rw [hy] at ih; simp at ih
      | none =>
        rw [hx] at ih
        cases hy : (List.filter (fun a => !(g a).isEmpty) l).getLast? with
        | some y => rw [hy] at ih; simp at ih
        | none =>
          simp only [Option.none_or, Option.getD_none, Option.map_some]
          cases hz : (g a).getLast? with
          | none => exact absurd (List.getLast?_eq_none_iff.mp hz ▸ rfl) he
          | some z => simp [h a z (List.mem_of_getLast? hz)]

theorem not_isEmpty_filter {α} (l : List α) (p : α → Bool) : (!(l.filter p).isEmpty) = l.any p := by
  induction l with
  | nil => simp
  | cons a l ih =>
    rw [List.filter_cons]
    cases hp : p a <;> simp [hp, ih]

theorem own_compiled (paths : List PathEntry) (raws : List RawRule) (file : File) (ent : Option Text) :
    own paths (raws.flatMap compileRule) file ent = ownRaw paths raws file ent := by
  unfold own ownRaw
  have key := getLast?_flatMap_label (fun r => (compileRule r).filter (fun r => applies r file ent))
    Rule.action RawRule.action
    (by intro a b hb; exact compileRule_action a b (List.mem_filter.mp hb).1) raws
  simp only [not_isEmpty_filter, compileRule_any] at key
  rw [← List.filter_flatMap] at key
  split
  · cases h1 : (List.filter (fun r => applies r file ent) (List.flatMap compileRule raws)).getLast? <;>
      cases h2 : (List.filter (fun r => rawApplies r file ent) raws).getLast? <;>
      rw [h1, h2] at key <;> simp_all
  · rfl

end Filt
