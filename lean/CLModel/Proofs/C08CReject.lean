/- C08/C07 CSS: what `parse_css_spec` reports on specs with defects.  `SpecE first off ds t errs`: declarations `ds`, each
   preceded by a gap that is a correct separator, white space without the semicolon or junk, followed by a correct trailing
   edge or junk.  Every such spec is a chain `C07G.SpecT` of leftmost declarations (`specT_of_specE`: no declaration starts
   inside a classified gap, and `gapCode` returns the verdict of its class), so `css_spec_errors` is `parse_of_specT` of
   C08CLoop.  A grammatical spec (`CssSpec`) is the case without defects; the breaking edits of the harness are instances. -/
import CLModel.Proofs.C08CLoop
import CLModel.Proofs.C08CAgree
namespace C08C
open Rx C07G

/-- `_css_sep` without its final `$` -/
def sepBody : Re := .seq wsStar (.seq (.alt (.group 1 (.lit 59)) .eps) wsStar)

/-- no property name starts with this character -/
def noPropHead (c : Nat) : Bool := cssProps.all (fun t => t.head? != some c)

/-- junk: no property name can start inside it, and some character is neither white space nor `;` -/
structure IsJunk (g : Text) : Prop where
  nohead : ∀ c ∈ g, noPropHead c = true
  bad : ∃ c ∈ g, isWs c = false ∧ c ≠ 59

/-- what stands before a declaration (`first`: before the first one) and the error it causes -/
inductive GapIs : Bool → Text → Option Dtd.CssCode → Prop
  | lead (g : Text) : IsEdge g → GapIs true g none
  | sep (g : Text) : IsSep g → GapIs false g none
  | missing (g : Text) : g.all isWs = true → GapIs false g (some .missingSemicolon)
  | junk (f : Bool) (g : Text) : IsJunk g → GapIs f g (some .badContent)

/-- what stands after the last declaration -/
inductive TrailIs : Text → Option Dtd.CssCode → Prop
  | edge (g : Text) : IsEdge g → TrailIs g none
  | junk (g : Text) : IsJunk g → TrailIs g (some .badContent)

/-- a spec with its declarations and the errors `parse_css_spec` must report; `off` = where it starts -/
inductive SpecE : Bool → Nat → List Decl → Text → List Dtd.CssErr → Prop
  | last (f : Bool) (off : Nat) (gap : Text) (d : Decl) (trail : Text) (c1 c2 : Option Dtd.CssCode) :
      GapIs f gap c1 → d.Ok → TrailIs trail c2 →
      SpecE f off [d] (gap ++ (d.text ++ trail)) (errAt off c1 ++ errAt (off + gap.length + d.text.length) c2)
  | cons (f : Bool) (off : Nat) (gap : Text) (d : Decl) (ds : List Decl) (t : Text) (c1 : Option Dtd.CssCode)
      (errs : List Dtd.CssErr) :
      GapIs f gap c1 → d.Ok → SpecE false (off + gap.length + d.text.length) ds t errs →
      SpecE f off (d :: ds) (gap ++ (d.text ++ t)) (errAt off c1 ++ errs)

theorem optOf_snoc (o : Option (List Dtd.CssErr)) (x : Dtd.CssErr) :
    some ((match o with | some l => l | none => []) ++ [x]) = optOf (errList o ++ [x]) := by
  cases o with
  | none => rfl
  | some l => cases l <;> rfl

theorem isEdge_mem {g : Text} (h : IsEdge g) : ∀ c ∈ g, isWs c = true ∨ c = 59 := by
  intro c hc
  rcases h with h | ⟨a, b, rfl, ha, hb⟩
  · exact Or.inl (List.all_eq_true.mp h c hc)
  · simp only [List.mem_append, List.mem_cons] at hc
    rcases hc with hc | rfl | hc
    · exact Or.inl (List.all_eq_true.mp ha c hc)
    · exact Or.inr rfl
    · exact Or.inl (List.all_eq_true.mp hb c hc)

/-- no declaration starts inside a correct edge or inside junk: a property name begins with none of their characters -/
theorem noDecl_of_gap {g : Text} (rest : Text) (hg : IsEdge g ∨ IsJunk g) : NoDeclIn g.length (g ++ rest) := by
  rintro i hi ⟨d, r, hd, hdr⟩
  obtain ⟨ph, ptl, hpe, hws, h59⟩ := mem_props_cons hd.prop
  have hget : (g ++ rest)[i]? = some ph := by
    have := congrArg List.head? hdr
    rwa [List.head?_drop, Decl.text, hpe] at this
  rw [List.getElem?_append_left hi, List.getElem?_eq_getElem hi, Option.some.injEq] at hget
  have hmem : ph ∈ g := hget ▸ List.getElem_mem hi
  rcases hg with hg | hg
  · rcases isEdge_mem hg ph hmem with h | h
    · rw [hws] at h; cases h
    · exact h59 h
  · have := List.all_eq_true.mp (hg.nohead ph hmem) d.prop hd.prop
    simp [hpe] at this

theorem not_isEdge_of_junk {g : Text} (h : IsJunk g) : ¬ IsEdge g := by
  obtain ⟨c, hc, hws, h59⟩ := h.bad
  intro he
  rcases isEdge_mem he c hc with h | h
  · rw [hws] at h; cases h
  · exact h59 h

theorem gapCode_of_gapIs {f : Bool} {g : Text} {c : Option Dtd.CssCode} (h : GapIs f g c) : gapCode f g = c := by
  unfold gapCode
  cases h with
  | lead g h => simp [h]
  | sep g h => simp [h]
  | missing g h =>
    have : ¬ IsSep g := by
      rintro ⟨a, b, rfl, _, _⟩
      have := List.all_eq_true.mp h 59 (by simp)
      revert this; decide
    simp [this, h]
  | junk f g h =>
    have he := not_isEdge_of_junk h
    have h1 : ¬ IsSep g := fun hs => he (Or.inr hs)
    have h2 : ¬ g.all isWs = true := fun hs => he (Or.inl hs)
    cases f <;> simp [he, h1, h2]

theorem trailCode_of_trailIs {g : Text} {c : Option Dtd.CssCode} (h : TrailIs g c) : trailCode g = c := by
  unfold trailCode
  cases h with
  | edge h => simp [h]
  | junk h => simp [not_isEdge_of_junk h]

theorem gapIs_kind {f : Bool} {g : Text} {c : Option Dtd.CssCode} (h : GapIs f g c) : IsEdge g ∨ IsJunk g := by
  cases h with
  | lead g h => exact Or.inl h
  | sep g h => exact Or.inl (Or.inr h)
  | missing g h => exact Or.inl (Or.inl h)
  | junk f g h => exact Or.inr h

theorem specT_of_specE {f : Bool} {off : Nat} {ds : List Decl} {t : Text} {errs : List Dtd.CssErr}
    (h : SpecE f off ds t errs) : SpecT f off ds t errs := by
  induction h with
  | last f off gap d trail c1 c2 hg hd ht =>
    rw [← gapCode_of_gapIs hg, ← trailCode_of_trailIs ht]
    refine .last f off gap d trail hd (noDecl_of_gap _ (gapIs_kind hg)) ?_
    have := noDecl_of_gap [] (by cases ht with | edge h => exact Or.inl h | junk h => exact Or.inr h)
    simpa using this
  | cons f off gap d ds t c1 errs hg hd _ ih =>
    rw [← gapCode_of_gapIs hg]
    exact .cons f off gap d ds t errs hd (noDecl_of_gap _ (gapIs_kind hg)) ih

theorem css_spec_errors (ds : List Decl) (v : Text) (errs : List Dtd.CssErr) (h : SpecE true 0 ds v errs) :
    Dtd.parseCssSpec v = (some (declMap ds), optOf errs) :=
  parse_of_specT ds v errs (specT_of_specE h)

theorem specE_prepend {ds : List Decl} {t : Text} (hdt : DeclsText ds t) :
    ∀ (f : Bool) (off : Nat) (gap : Text) (c1 : Option Dtd.CssCode) (ds' : List Decl) (t' : Text) (errs' : List Dtd.CssErr),
      GapIs f gap c1 → SpecE false (off + gap.length + t.length) ds' t' errs' →
      SpecE f off (ds ++ ds') (gap ++ (t ++ t')) (errAt off c1 ++ errs') := by
  induction hdt with
  | one d hd =>
    intro f off gap c1 ds' t' errs' hg hrest
    exact .cons f off gap d ds' t' c1 errs' hg hd hrest
  | cons d sep ds t hd hsep _ ih =>
    intro f off gap c1 ds' t' errs' hg hrest
    have e1 : off + gap.length + (d.text ++ (sep ++ t)).length = off + gap.length + d.text.length + sep.length + t.length := by
      simp; omega
    rw [e1] at hrest
    have := ih false (off + gap.length + d.text.length) sep none ds' t' errs' (.sep sep hsep) hrest
    have e2 : gap ++ (d.text ++ (sep ++ t) ++ t') = gap ++ (d.text ++ (sep ++ (t ++ t'))) := by simp
    rw [e2]
    exact SpecE.cons f off gap d (ds ++ ds') (sep ++ (t ++ t')) c1 errs' hg hd (by simpa [errAt] using this)

theorem specE_block {ds : List Decl} {t : Text} (hdt : DeclsText ds t) :
    ∀ (f : Bool) (off : Nat) (gap trail : Text) (c1 c2 : Option Dtd.CssCode),
      GapIs f gap c1 → TrailIs trail c2 →
      SpecE f off ds (gap ++ (t ++ trail)) (errAt off c1 ++ errAt (off + gap.length + t.length) c2) := by
  induction hdt with
  | one d hd =>
    intro f off gap trail c1 c2 hg ht
    exact .last f off gap d trail c1 c2 hg hd ht
  | cons d sep ds t hd hsep _ ih =>
    intro f off gap trail c1 c2 hg ht
    have := ih false (off + gap.length + d.text.length) sep trail none c2 (.sep sep hsep) ht
    have e1 : off + gap.length + (d.text ++ (sep ++ t)).length = off + gap.length + d.text.length + sep.length + t.length := by
      simp; omega
    have e2 : gap ++ (d.text ++ (sep ++ t) ++ trail) = gap ++ (d.text ++ (sep ++ (t ++ trail))) := by simp
    rw [e1, e2]
    simpa [errAt] using SpecE.cons f off gap d ds (sep ++ (t ++ trail)) c1 _ hg hd (by simpa [errAt] using this)

theorem specE_of_cssSpec {ds : List Decl} {v : Text} (h : CssSpec ds v) : SpecE true 0 ds v [] := by
  cases h with
  | mk lead t trail ds hl hdt htr =>
    simpa [errAt] using specE_block hdt true 0 lead trail none none (.lead lead hl) (.edge trail htr)

theorem css_grammar_accepts_dtd (ds : List Decl) (v : Text) (h : CssSpec ds v) :
    Dtd.parseCssSpec v = (some (declMap ds), none) :=
  css_spec_errors ds v [] (specE_of_cssSpec h)

/-- what is known of the DTD model's `parse_css_spec` on a text holds of the Fluent model's -/
theorem ftl_of_dtd {v : Text} {m : Option (List (Text × Text))} {e : Option (List Dtd.CssErr)}
    (h : Dtd.parseCssSpec v = (m, e)) : Ftl.parseCssSpec v = (m.map toFtlMap, e.map (·.map toFtlErr)) := by
  rw [css_models_agree, h]

theorem css_grammar_accepts_ftl (ds : List Decl) (v : Text) (h : CssSpec ds v) :
    Ftl.parseCssSpec v = (some (toFtlMap (declMap ds)), none) :=
  ftl_of_dtd (css_grammar_accepts_dtd ds v h)

theorem css_missing_semicolon (ds1 ds2 : List Decl) (lead t1 ws t2 trail : Text) (hl : IsEdge lead)
    (h1 : DeclsText ds1 t1) (hws : ws.all isWs = true) (h2 : DeclsText ds2 t2) (htr : IsEdge trail) :
    Dtd.parseCssSpec (lead ++ (t1 ++ (ws ++ (t2 ++ trail)))) =
      (some (declMap (ds1 ++ ds2)), some [⟨lead.length + t1.length, .missingSemicolon⟩]) := by
  have hb := specE_block h2 false (0 + lead.length + t1.length) ws trail (some .missingSemicolon) none
    (.missing ws hws) (.edge trail htr)
  have := specE_prepend h1 true 0 lead none ds2 _ _ (.lead lead hl) hb
  rw [css_spec_errors _ _ _ this]
  simp [errAt, optOf]

theorem css_junk_after (ds : List Decl) (lead t junk : Text) (hl : IsEdge lead) (h : DeclsText ds t)
    (hj : IsJunk junk) :
    Dtd.parseCssSpec (lead ++ (t ++ junk)) = (some (declMap ds), some [⟨lead.length + t.length, .badContent⟩]) := by
  have := specE_block h true 0 lead junk none (some .badContent) (.lead lead hl) (.junk junk hj)
  rw [css_spec_errors _ _ _ this]
  simp [errAt, optOf]

theorem css_junk_before (ds : List Decl) (junk t trail : Text) (hj : IsJunk junk) (h : DeclsText ds t)
    (htr : IsEdge trail) :
    Dtd.parseCssSpec (junk ++ (t ++ trail)) = (some (declMap ds), some [⟨0, .badContent⟩]) := by
  have := specE_block h true 0 junk trail (some .badContent) none (.junk true junk hj) (.edge trail htr)
  rw [css_spec_errors _ _ _ this]
  simp [errAt, optOf]

end C08C
