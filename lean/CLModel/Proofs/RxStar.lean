/- The CPS face of repeats of a one-character test, for the statements written with `firstSome` / `downFrom` / `run`:
   the run length, the exact behaviour of a greedy repeat (longest run first, then each shorter one) read off the outcome
   list (RxChain). -/
import CLModel.Proofs.RxChain
namespace Rx

/-- `runAt` of a class, computed along the fuel of `loop`: equal to it as soon as it stays below the fuel
    (`run_le_runAt`).  `star_greedy_cls` and the scanners of C02 (`run_eq_runLen`) are stated with it. -/
def run (s : Array Nat) (neg : Bool) (items : List ClsItem) : Nat → Nat → Nat
  | 0, _ => 0
  | f + 1, pos =>
    match s[pos]? with
    | some c => if inC neg items c then 1 + run s neg items f (pos + 1) else 0
    | none => 0

/-- `List.findSome?` on a list of positions (`firstSome_eq_findSome?`) -/
def firstSome (k : Nat → Option St) : List Nat → Option St
  | [] => none
  | j :: js => (k j).orElse (fun _ => firstSome k js)

theorem firstSome_eq_findSome? (k : Nat → Option St) (l : List Nat) : firstSome k l = l.findSome? k := by
  induction l with
  | nil => rfl
  | cons j js ih => rw [firstSome, ih, List.findSome?_cons]; cases k j <;> rfl

/-- positions pos+n, pos+n-1, …, pos -/
def downFrom (pos : Nat) : Nat → List Nat
  | 0 => [pos]
  | n + 1 => (pos + n + 1) :: downFrom pos n

theorem firstSome_append (k) (a b : List Nat) :
    firstSome k (a ++ b) = (firstSome k a).orElse (fun _ => firstSome k b) := by
  rw [firstSome_eq_findSome?, firstSome_eq_findSome?, firstSome_eq_findSome?, List.findSome?_append, Option.or_eq_orElse]

theorem downFrom_succ (pos n : Nat) : downFrom pos (n + 1) = downFrom (pos + 1) n ++ [pos] := by
  induction n with
  | zero => simp [downFrom]
  | succ n ih =>
    rw [downFrom, ih]
    simp [downFrom]
    omega

theorem mem_downFrom_iff {pos n j : Nat} : j ∈ downFrom pos n ↔ pos ≤ j ∧ j ≤ pos + n := by
  induction n with
  | zero => simp only [downFrom, List.mem_singleton]; omega
  | succ n ih => simp only [downFrom, List.mem_cons, ih]; omega

theorem firstSome_some {k : Nat → Option St} {l : List Nat} {r : St} (h : firstSome k l = some r) :
    ∃ j ∈ l, k j = some r :=
  List.exists_of_findSome?_eq_some (firstSome_eq_findSome? k l ▸ h)

/-- `m_cls_def` with the test as `inC` (the form `ends_cls` / `stepIf` use) -/
theorem m_cls_apply (s : Array Nat) (neg items) (st : St) (k : K) :
    m s (.cls neg items) st k =
      match s[st.pos]? with
      | some c => if inC neg items c then k { st with pos := st.pos + 1 } else none
      | none => none :=
  m_cls_def s neg items st k

theorem firstSome_eq_none {k : Nat → Option St} {l : List Nat} : firstSome k l = none ↔ ∀ j ∈ l, k j = none := by
  rw [firstSome_eq_findSome?, List.findSome?_eq_none_iff]

theorem firstSome_isSome_iff (k : Nat → Option St) (l : List Nat) :
    (firstSome k l).isSome = true ↔ ∃ j ∈ l, (k j).isSome = true := by
  rw [firstSome_eq_findSome?, List.findSome?_isSome_iff]

theorem firstSome_downFrom_top (k : Nat → Option St) (a : Nat) :
    ∀ n, (∀ j, a ≤ j → j < a + n → k j = none) → firstSome k (downFrom a n) = k (a + n)
  | 0, _ => by cases h : k a <;> simp [downFrom, firstSome, h]
  | n + 1, h => by
    rw [downFrom_succ, firstSome_append, show a + (n + 1) = a + 1 + n by omega,
      firstSome_downFrom_top k (a + 1) n fun j h1 h2 => h j (by omega) (by omega)]
    cases hk : k (a + 1 + n) with
    | some r => rfl
    | none => simpa [firstSome, hk] using h a (Nat.le_refl a) (by omega)

theorem run_le_runAt (s : Array Nat) (neg : Bool) (items : List ClsItem) :
    ∀ f pos, run s neg items f pos ≤ runAt s (inC neg items) pos ∧
      (run s neg items f pos < f → run s neg items f pos = runAt s (inC neg items) pos)
  | 0, _ => ⟨Nat.zero_le _, fun h => absurd h (Nat.lt_irrefl 0)⟩
  | f + 1, pos => by
    rw [run, runAt]
    rcases Txt.drop_cases s pos with ⟨h0, _, hd⟩ | ⟨c, h0, _, hd⟩
    · rw [h0, hd]; exact ⟨Nat.le_refl _, fun _ => rfl⟩
    · rw [h0, hd, List.takeWhile_cons]
      simp only []
      split
      · have ih := run_le_runAt s neg items f (pos + 1)
        rw [runAt] at ih
        rw [List.length_cons]
        exact ⟨by omega, fun h => by rw [ih.2 (by omega)]; omega⟩
      · exact ⟨Nat.le_refl _, fun _ => rfl⟩

theorem run_le (s : Array Nat) (neg : Bool) (items : List ClsItem) :
    ∀ fuel pos, run s neg items fuel pos ≤ s.size - pos :=
  fun fuel pos => Nat.le_trans (run_le_runAt s neg items fuel pos).1 (runAt_le s _ pos)

theorem run_stop (s : Array Nat) (neg : Bool) (items : List ClsItem) (p c : Nat) (hp : s[p]? = some c)
    (hc : inC neg items c = false) :
    ∀ fuel pos, pos ≤ p → pos + run s neg items fuel pos ≤ p := fun fuel pos h => by
  have h1 := (run_le_runAt s neg items fuel pos).1
  have h2 := runAt_stop s (inC neg items) (fun d hd => by rw [hp] at hd; cases hd; exact hc) h
  omega

theorem findSome?_runSts_rev (caps) (k : K) (a : Nat) : ∀ n,
    (runSts caps a (n + 1)).reverse.findSome? k = firstSome (fun j => k ⟨j, caps⟩) (downFrom a n)
  | 0 => by rw [firstSome_eq_findSome?]; rfl
  | n + 1 => by
    rw [runSts, List.range'_1_concat, List.map_append, List.reverse_append, ← runSts, downFrom, firstSome,
      ← findSome?_runSts_rev caps k a n, Nat.add_assoc]
    cases h : k ⟨a + (n + 1), caps⟩ <;> simp [h]

theorem m_rep_greedy {s : Array Nat} {b : Re} {P : Nat → Bool} (hb : ∀ st, ends s b st = stepIf s P st) (mn : Nat)
    {pos : Nat} (hpos : pos ≤ s.size) (caps) (k : K) :
    m s (.rep mn none true b) ⟨pos, caps⟩ k =
      if mn ≤ runAt s P pos then firstSome (fun j => k ⟨j, caps⟩) (downFrom (pos + mn) (runAt s P pos - mn))
      else none := by
  rw [m_eq_ends, ends_rep_step hb mn true hpos caps, if_pos rfl, ← runAt]
  split
  · rename_i hmn
    rw [show runAt s P pos + 1 - mn = (runAt s P pos - mn) + 1 by omega, findSome?_runSts_rev]
  · rw [show runAt s P pos + 1 - mn = 0 by omega]; rfl

theorem findSome?_runSts_min (caps) (k : K) (a c : Nat) : ∀ d,
    (runSts caps a (min (d + 1) c)).reverse.findSome? k =
      firstSome (fun j => k ⟨j, caps⟩) ((downFrom a d).filter fun j => decide (j < a + c))
  | 0 => by
    cases c with
    | zero => simp [downFrom, firstSome, runSts]
    | succ c => rw [show min (0 + 1) (c + 1) = 0 + 1 by omega, findSome?_runSts_rev]; simp [downFrom]
  | d + 1 => by
    rw [downFrom, List.filter_cons]
    by_cases h : a + d + 1 < a + c
    · rw [if_pos (by simpa using h), show min (d + 1 + 1) c = (d + 1) + 1 by omega, firstSome,
        ← findSome?_runSts_min caps k a c d, show min (d + 1) c = d + 1 by omega, runSts, List.range'_1_concat,
        List.map_append, List.reverse_append, ← runSts, Nat.add_assoc]
      cases hk : k ⟨a + (d + 1), caps⟩ <;> simp [hk]
    · rw [if_neg (by simpa using h), ← findSome?_runSts_min caps k a c d, show min (d + 1 + 1) c = min (d + 1) c by omega]

theorem m_rep_greedy_max {s : Array Nat} {b : Re} {P : Nat → Bool} (hb : ∀ st, ends s b st = stepIf s P st) (mn M : Nat)
    (hmn : mn ≤ M) {pos : Nat} (hpos : pos ≤ s.size) (caps) (k : K) :
    m s (.rep mn (some M) true b) ⟨pos, caps⟩ k =
      firstSome (fun j => k ⟨j, caps⟩)
        ((downFrom (pos + mn) (M - mn)).filter fun j => decide (j ≤ pos + runAt s P pos)) := by
  obtain ⟨x, rest, h, hx, hr, hl⟩ := runAt_split s P pos
  rw [m_eq_ends, ends_rep_at_max hb mn (some M) true caps h hx hr hpos, if_pos rfl, Option.elim, hl,
    show min (M + 1) (runAt s P pos + 1) - mn = min (M - mn + 1) (runAt s P pos + 1 - mn) by omega, findSome?_runSts_min]
  congr 1
  exact List.filter_congr fun j hj => by
    have := (mem_downFrom_iff.mp hj).1
    rw [decide_eq_decide]; omega

/-- Exact behaviour of a greedy `[C]*`: try the continuation at the end of the maximal run,
    then at each shorter prefix, in that order. -/
theorem star_greedy_cls (s : Array Nat) (neg : Bool) (items : List ClsItem) (caps) (k : K) :
    ∀ fuel pos, run s neg items fuel pos < fuel →
      loop (m s (.cls neg items)) true fuel 0 none ⟨pos, caps⟩ k
        = firstSome (fun j => k ⟨j, caps⟩) (downFrom pos (run s neg items fuel pos)) := by
  intro fuel pos h
  have hR := (run_le_runAt s neg items fuel pos).2 h
  rw [hR] at h ⊢
  -- the loop with this fuel has the outcomes of the chain along the run
  obtain ⟨x, rest, hd, hx, hr, hl⟩ := runAt_split s (inC neg items) pos
  rw [loop_eq_loopE _ _ true (m_eq_ends s _), funext (ends_cls s neg items),
    loopE_stepIf_at (inC neg items) 0 none true caps hd hx hr (by rw [Option.elim, hl]; exact Nat.succ_le_of_lt h),
    if_pos rfl, Option.elim, hl, Nat.add_zero, Nat.sub_zero, findSome?_runSts_rev]

theorem star_cls_some (s : Array Nat) (neg : Bool) (items : List ClsItem) (pos : Nat) (k : K) (res : St)
    (hpos : pos ≤ s.size)
    (h : m s (.rep 0 none true (.cls neg items)) ⟨pos, []⟩ k = some res) :
    ∃ j, pos ≤ j ∧ j ≤ pos + run s neg items (s.size + 2 - pos) pos ∧ k ⟨j, []⟩ = some res := by
  have hr := run_le s neg items (s.size + 2 - pos) pos
  change loop (m s (.cls neg items)) true (s.size + 2 - pos) 0 none ⟨pos, []⟩ k = some res at h
  rw [star_greedy_cls s neg items [] k _ _ (by omega)] at h
  obtain ⟨j, hj, hk⟩ := firstSome_some h
  have := mem_downFrom_iff.mp hj
  exact ⟨j, this.1, this.2, hk⟩

theorem firstSome_downFrom_some {k : Nat → Option St} {a i : Nat} {r : St} (hk : k (a + i) = some r) :
    ∀ n, i ≤ n → (∀ j, a + i < j → j ≤ a + n → k j = none) → firstSome k (downFrom a n) = some r
  | 0, hi, _ => by
    obtain rfl : i = 0 := by omega
    rw [downFrom, firstSome, show k a = some r from hk]; rfl
  | n + 1, hi, h => by
    rw [downFrom, firstSome]
    by_cases e : i = n + 1
    · subst e; rw [show k (a + n + 1) = some r from hk]; rfl
    · rw [h (a + n + 1) (by omega) (by omega)]
      exact firstSome_downFrom_some hk n (by omega) fun j h1 h2 => h j h1 (by omega)

end Rx
