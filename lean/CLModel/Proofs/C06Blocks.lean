/- `get_matching_blocks` / `get_opcodes` produce a valid edit script. -/
import CLModel.Checks.Difflib
import CLModel.Proofs.C06Flm
namespace Difflib
variable {α : Type} [DecidableEq α]

/-- `x` ends, in both sequences, where `y` starts or before -/
def Before (x y : Block) : Prop := x.i + x.k ≤ y.i ∧ x.j + x.k ≤ y.j

def BoxOK (a b : List α) (q : Box) : Prop :=
  q.alo ≤ q.ahi ∧ q.ahi ≤ a.length ∧ q.blo ≤ q.bhi ∧ q.bhi ≤ b.length

/-- what the loop collects from the box `q`: non-empty matches inside `q`, in order and not overlapping -/
structure GoodIn (a b : List α) (q : Box) (l : List Block) : Prop where
  chain : l.Pairwise Before
  each : ∀ x ∈ l, InBox q.alo q.ahi q.blo q.bhi x ∧ IsMatch a b x ∧ x.k ≠ 0

theorem mbLoop_nil (a b : List α) (b2j : List (α × List Nat)) (fuel : Nat) (acc : List Block) :
    mbLoop a b b2j fuel [] acc = some acc := by
  cases fuel <;> rfl

theorem GoodIn.join {a b : List α} {q : Box} {x : Block} {CL CR : List Block}
    (hbx : InBox q.alo q.ahi q.blo q.bhi x) (hmx : IsMatch a b x) (hk : x.k ≠ 0)
    (gL : GoodIn a b ⟨q.alo, x.i, q.blo, x.j⟩ CL)
    (gR : GoodIn a b ⟨x.i + x.k, q.ahi, x.j + x.k, q.bhi⟩ CR) : GoodIn a b q (CL ++ x :: CR) := by
  have inL : ∀ y ∈ CL, InBox q.alo x.i q.blo x.j y := fun y hy => (gL.each y hy).1
  have inR : ∀ z ∈ CR, InBox (x.i + x.k) q.ahi (x.j + x.k) q.bhi z := fun z hz => (gR.each z hz).1
  obtain ⟨h1, h2, h3, h4⟩ := hbx
  constructor
  · rw [List.pairwise_append]
    refine ⟨gL.chain, List.pairwise_cons.mpr ⟨fun z hz => ⟨(inR z hz).h1, (inR z hz).h3⟩, gR.chain⟩, ?_⟩
    intro y hy z hz
    obtain ⟨_, y2, _, y4⟩ := inL y hy
    rcases List.mem_cons.mp hz with rfl | hz
    · exact ⟨y2, y4⟩
    · obtain ⟨z1, _, z3, _⟩ := inR z hz
      exact ⟨by omega, by omega⟩
  · intro y hy
    rcases List.mem_append.mp hy with hy | hy
    · obtain ⟨y1, y2, y3, y4⟩ := inL y hy
      exact ⟨⟨y1, by omega, y3, by omega⟩, (gL.each y hy).2⟩
    · rcases List.mem_cons.mp hy with rfl | hy
      · exact ⟨⟨h1, h2, h3, h4⟩, hmx, hk⟩
      · obtain ⟨y1, y2, y3, y4⟩ := inR y hy
        exact ⟨⟨by omega, y2, by omega, y4⟩, (gR.each y hy).2⟩

theorem BoxOK.left {a b : List α} {q : Box} {x : Block} (hq : BoxOK a b q)
    (hx : InBox q.alo q.ahi q.blo q.bhi x) : BoxOK a b ⟨q.alo, x.i, q.blo, x.j⟩ := by
  obtain ⟨h1, h2, h3, h4⟩ := hx
  obtain ⟨_, ha, _, hb⟩ := hq
  exact ⟨h1, by simp only; omega, h3, by simp only; omega⟩

theorem BoxOK.right {a b : List α} {q : Box} {x : Block} (hq : BoxOK a b q)
    (hx : InBox q.alo q.ahi q.blo q.bhi x) : BoxOK a b ⟨x.i + x.k, q.ahi, x.j + x.k, q.bhi⟩ :=
  ⟨hx.h2, hq.2.1, hx.h4, hq.2.2.2⟩

/-- The blocks of a box come out in stack order (the block, the right box, the left box), hence only a
    permutation `T` of the chain `C`.  A box costs one unit of fuel and splits into two of smaller total
    width, hence `2 * (ahi - alo) + 1`; a sub-box that is empty in one direction is not pushed, and its
    share of the fuel is left over. -/
theorem mbLoop_box (a b : List α) (b2j : List (α × List Nat)) (hsorted : B2jSorted b2j)
    (hsound : B2jSound b b2j) :
    ∀ n (q : Box), BoxOK a b q → q.ahi - q.alo < n →
      ∀ (rest : List Box) (acc : List Block) (fuel r : Nat), fuel ≥ 2 * (q.ahi - q.alo) + 1 + r →
        ∃ T C fuel', fuel' ≥ r ∧ T.Perm C ∧ GoodIn a b q C ∧
          mbLoop a b b2j fuel (q :: rest) acc = mbLoop a b b2j fuel' rest (acc ++ T) := by
  intro n
  induction n with
  | zero => intro q _ hn; omega
  | succ n ih =>
    intro q hq hn rest acc fuel r hf
    obtain ⟨f, rfl⟩ : ∃ f, fuel = f + 1 := ⟨fuel - 1, by omega⟩
    obtain ⟨x, hx, hbx, hmx⟩ := flm_valid a b b2j hsorted hsound q.alo q.ahi q.blo q.bhi hq.1 hq.2.1 hq.2.2.1 hq.2.2.2
    by_cases hk : x.k = 0
    · refine ⟨[], [], f, by omega, List.Perm.refl _, ⟨by simp, by simp⟩, ?_⟩
      simp [mbLoop, hx, hk]
    · -- conditional push of a sub-box
      have sub : ∀ (c : Prop) [Decidable c] (q' : Box), BoxOK a b q' → q'.ahi - q'.alo < n →
          ∀ (rest : List Box) (acc : List Block) (fuel r : Nat), fuel ≥ 2 * (q'.ahi - q'.alo) + 1 + r →
            ∃ T C fuel', fuel' ≥ r ∧ T.Perm C ∧ GoodIn a b q' C ∧
              mbLoop a b b2j fuel (if c then q' :: rest else rest) acc = mbLoop a b b2j fuel' rest (acc ++ T) := by
        intro c _ q' hq' hn' rest acc fuel r hf
        by_cases h : c
        · simp only [h, if_true]
          exact ih q' hq' hn' rest acc fuel r hf
        · simp only [h, if_false]
          exact ⟨[], [], fuel, by omega, List.Perm.refl _, ⟨by simp, by simp⟩, by simp⟩
      have h1 := hbx.h1; have h2 := hbx.h2
      -- right box first (it is on top of the stack), then the left one
      have hmb : mbLoop a b b2j (f + 1) (q :: rest) acc =
          mbLoop a b b2j f (if x.i + x.k < q.ahi ∧ x.j + x.k < q.bhi then
              ⟨x.i + x.k, q.ahi, x.j + x.k, q.bhi⟩ ::
                (if q.alo < x.i ∧ q.blo < x.j then ⟨q.alo, x.i, q.blo, x.j⟩ :: rest else rest)
            else (if q.alo < x.i ∧ q.blo < x.j then ⟨q.alo, x.i, q.blo, x.j⟩ :: rest else rest))
            (acc ++ [x]) := by
        simp only [mbLoop, hx, ne_eq, hk, not_false_eq_true, if_true]
      obtain ⟨TR, CR, f1, hf1, pR, gR, eR⟩ := sub (x.i + x.k < q.ahi ∧ x.j + x.k < q.bhi) _
        (hq.right hbx) (by simp only; omega)
        (if q.alo < x.i ∧ q.blo < x.j then ⟨q.alo, x.i, q.blo, x.j⟩ :: rest else rest) (acc ++ [x]) f
        (2 * (x.i - q.alo) + 1 + r) (by simp only; omega)
      obtain ⟨TL, CL, f2, hf2, pL, gL, eL⟩ := sub (q.alo < x.i ∧ q.blo < x.j) _
        (hq.left hbx) (by simp only; omega) rest (acc ++ [x] ++ TR) f1 r hf1
      refine ⟨x :: (TR ++ TL), CL ++ x :: CR, f2, hf2, ?_, ?_, ?_⟩
      · have : (x :: (TR ++ TL)).Perm (x :: (CR ++ CL)) := List.Perm.cons x (List.Perm.append pR pL)
        refine this.trans ?_
        have h1 : (x :: (CR ++ CL)).Perm ((x :: CR) ++ CL) := by simp
        exact h1.trans List.perm_append_comm
      · exact GoodIn.join hbx hmx hk gL gR
      · rw [hmb, eR, eL]
        congr 1
        simp

theorem Block.le_trans (x y z : Block) (h1 : Block.le x y = true) (h2 : Block.le y z = true) :
    Block.le x z = true := by
  simp only [Block.le, Bool.or_eq_true, Bool.and_eq_true, decide_eq_true_eq, beq_iff_eq] at *
  omega

theorem Block.le_total (x y : Block) : (Block.le x y || Block.le y x) = true := by
  simp only [Block.le, Bool.or_eq_true, Bool.and_eq_true, decide_eq_true_eq, beq_iff_eq]
  omega

theorem Block.le_antisymm (x y : Block) (h1 : Block.le x y = true) (h2 : Block.le y x = true) : x = y := by
  simp only [Block.le, Bool.or_eq_true, Bool.and_eq_true, decide_eq_true_eq, beq_iff_eq] at *
  cases x; cases y
  simp only [Block.mk.injEq] at *
  omega

theorem sort_eq_chain (T C : List Block) (hp : T.Perm C) (hc : C.Pairwise Before)
    (hk : ∀ x ∈ C, x.k ≠ 0) : T.mergeSort Block.le = C := by
  apply List.Perm.eq_of_pairwise (le := fun x y => Block.le x y = true)
  · intro x y _ _ h1 h2; exact Block.le_antisymm x y h1 h2
  · exact List.pairwise_mergeSort (le := Block.le) Block.le_trans Block.le_total T
  · refine List.Pairwise.imp_of_mem ?_ hc
    intro x y hx _ hxy
    have := hk x hx
    simp only [Block.le, Bool.or_eq_true, Bool.and_eq_true, decide_eq_true_eq, beq_iff_eq]
    have := hxy.1
    omega
  · exact (List.mergeSort_perm T Block.le).trans hp

/-- a match inside the two sequences, possibly empty (the sentinel is one) -/
def Good1 (a b : List α) (x : Block) : Prop :=
  x.i + x.k ≤ a.length ∧ x.j + x.k ≤ b.length ∧ IsMatch a b x

/-- The third part (every block of the result starts at or behind `(i1, j1)`) is what puts the block kept back in front of
    the rest of the result in the non-adjacent case. -/
theorem collapse_spec (a b : List α) :
    ∀ (l : List Block) (i1 j1 k1 : Nat),
      (⟨i1, j1, k1⟩ :: l).Pairwise Before → (∀ x ∈ (⟨i1, j1, k1⟩ : Block) :: l, Good1 a b x) →
      (collapse i1 j1 k1 l).Pairwise Before ∧
      (∀ x ∈ collapse i1 j1 k1 l, Good1 a b x) ∧
      (∀ x ∈ collapse i1 j1 k1 l, i1 ≤ x.i ∧ j1 ≤ x.j) := by
  intro l
  induction l with
  | nil =>
    intro i1 j1 k1 _ hg
    simp only [collapse]
    split
    · refine ⟨by simp, ?_, ?_⟩
      · intro x hx; simp at hx; subst hx; exact hg _ (by simp)
      · intro x hx; simp at hx; subst hx; simp
    · simp
  | cons x rest ih =>
    intro i1 j1 k1 hc hg
    have hc1 := (List.pairwise_cons.mp hc).1
    have hc2 := (List.pairwise_cons.mp hc).2
    have hx1 := (List.pairwise_cons.mp hc2).1
    have hx2 := (List.pairwise_cons.mp hc2).2
    have g0 := hg ⟨i1, j1, k1⟩ (by simp)
    have gx := hg x (by simp)
    simp only [collapse]
    split
    · rename_i hadj
      have := ih i1 j1 (k1 + x.k) (by
          rw [List.pairwise_cons]
          refine ⟨?_, hx2⟩
          intro y hy
          have := hx1 y hy
          simp only [Before] at this ⊢
          omega) (by
          intro y hy
          rcases List.mem_cons.mp hy with rfl | hy
          · exact ⟨by have := gx.1; simp only; omega, by have := gx.2.1; simp only; omega,
              g0.2.2.glue gx.2.2 hadj.1 hadj.2⟩
          · exact hg y (by simp [hy]))
      exact this
    · rename_i hadj
      obtain ⟨r1, r2, r3⟩ := ih x.i x.j x.k hc2 (by intro y hy; exact hg y (List.mem_cons_of_mem _ hy))
      have hbx := hc1 x (by simp)
      simp only [Before] at hbx
      split
      · rename_i hk1
        refine ⟨?_, ?_, ?_⟩
        · simp only [List.singleton_append, List.pairwise_cons]
          refine ⟨?_, r1⟩
          intro y hy
          have := r3 y hy
          simp only [Before]
          omega
        · intro y hy
          simp only [List.singleton_append, List.mem_cons] at hy
          rcases hy with rfl | hy
          · exact g0
          · exact r2 y hy
        · intro y hy
          simp only [List.singleton_append, List.mem_cons] at hy
          rcases hy with rfl | hy
          · simp
          · have := r3 y hy; omega
      · refine ⟨by simpa using r1, by simpa using r2, ?_⟩
        intro y hy
        have := r3 y (by simpa using hy)
        omega

/-- the edit script `ops` turns `a[i:]` into `b[j:]`: the ranges are contiguous, end at the ends
    of both sequences, and every `equal` range really is equal -/
def ValidFrom (a b : List α) : Nat → Nat → List Opcode → Prop
  | i, j, [] => i = a.length ∧ j = b.length
  | i, j, op :: rest =>
    op.i1 = i ∧ op.j1 = j ∧ op.i1 ≤ op.i2 ∧ op.i2 ≤ a.length ∧ op.j1 ≤ op.j2 ∧ op.j2 ≤ b.length ∧
    (match op.tag with
     | .equal => op.i1 < op.i2 ∧ op.i2 - op.i1 = op.j2 - op.j1 ∧
                  ∀ t, t < op.i2 - op.i1 → a[op.i1 + t]? = b[op.j1 + t]?
     | .delete => op.i1 < op.i2 ∧ op.j1 = op.j2
     | .insert => op.i1 = op.i2 ∧ op.j1 < op.j2
     | .replace => op.i1 < op.i2 ∧ op.j1 < op.j2) ∧
    ValidFrom a b op.i2 op.j2 rest

theorem validFrom_cons (a b : List α) (i j : Nat) (op : Opcode) (rest : List Opcode) :
    ValidFrom a b i j (op :: rest) =
    (op.i1 = i ∧ op.j1 = j ∧ op.i1 ≤ op.i2 ∧ op.i2 ≤ a.length ∧ op.j1 ≤ op.j2 ∧ op.j2 ≤ b.length ∧
    (match op.tag with
     | .equal => op.i1 < op.i2 ∧ op.i2 - op.i1 = op.j2 - op.j1 ∧
                  ∀ t, t < op.i2 - op.i1 → a[op.i1 + t]? = b[op.j1 + t]?
     | .delete => op.i1 < op.i2 ∧ op.j1 = op.j2
     | .insert => op.i1 = op.i2 ∧ op.j1 < op.j2
     | .replace => op.i1 < op.i2 ∧ op.j1 < op.j2) ∧
    ValidFrom a b op.i2 op.j2 rest) := rfl

/-- contract of `SequenceMatcher.get_opcodes()` -/
def ValidOpcodes (a b : List α) (ops : List Opcode) : Prop := ValidFrom a b 0 0 ops

theorem opcodesGo_valid (a b : List α) :
    ∀ (l : List Block) (i j : Nat), l.Pairwise Before → (∀ x ∈ l, Good1 a b x) →
      (∀ x ∈ l, i ≤ x.i ∧ j ≤ x.j) → l.getLast? = some ⟨a.length, b.length, 0⟩ →
      ValidFrom a b i j (opcodesGo i j l) := by
  intro l
  induction l with
  | nil => intro i j _ _ _ h; simp at h
  | cons x rest ih =>
    intro i j hc hg hlb hlast
    have gx := hg x (by simp)
    have lbx := hlb x (by simp)
    have hrest : ValidFrom a b (x.i + x.k) (x.j + x.k) (opcodesGo (x.i + x.k) (x.j + x.k) rest) := by
      cases rest with
      | nil =>
        simp at hlast
        subst hlast
        simp [opcodesGo, ValidFrom]
      | cons y rest' =>
        apply ih
        · exact (List.pairwise_cons.mp hc).2
        · intro z hz; exact hg z (by simp [hz])
        · intro z hz
          have := (List.pairwise_cons.mp hc).1 z hz
          simp only [Before] at this
          omega
        · simpa [List.getLast?_cons_cons] using hlast
    have hequal : ValidFrom a b x.i x.j
        ((if x.k ≠ 0 then [(⟨.equal, x.i, x.i + x.k, x.j, x.j + x.k⟩ : Opcode)] else []) ++
          opcodesGo (x.i + x.k) (x.j + x.k) rest) := by
      by_cases hk : x.k = 0
      · simp only [hk, ne_eq, not_true_eq_false, if_false, List.nil_append, Nat.add_zero] at hrest ⊢
        exact hrest
      · simp only [ne_eq, hk, not_false_eq_true, if_true, List.singleton_append]
        rw [validFrom_cons]
        refine ⟨rfl, rfl, by simp only; omega, gx.1, by simp only; omega, gx.2.1, ⟨by simp only; omega, by simp only; omega, ?_⟩, hrest⟩
        simp only
        intro t ht
        obtain ⟨v, hv1, hv2⟩ := gx.2.2 t (by omega)
        rw [hv1, hv2]
    simp only [opcodesGo]
    have hxa : x.i ≤ a.length := by have := gx.1; omega
    have hxb : x.j ≤ b.length := by have := gx.2.1; omega
    by_cases h1 : i < x.i ∧ j < x.j
    · simp only [h1, and_self, if_true, List.append_assoc, List.cons_append, List.nil_append]
      rw [validFrom_cons]
      exact ⟨rfl, rfl, by simp only; omega, hxa, by simp only; omega, hxb, ⟨h1.1, h1.2⟩, hequal⟩
    · simp only [h1, if_false]
      by_cases h2 : i < x.i
      · simp only [h2, if_true, List.append_assoc, List.cons_append, List.nil_append]
        have : j = x.j := by omega
        rw [validFrom_cons]
        exact ⟨rfl, rfl, by simp only; omega, hxa, by simp only; omega, hxb, ⟨h2, this⟩, hequal⟩
      · simp only [h2, if_false]
        by_cases h3 : j < x.j
        · simp only [h3, if_true, List.append_assoc, List.cons_append, List.nil_append]
          have : i = x.i := by omega
          rw [validFrom_cons]
          exact ⟨rfl, rfl, by simp only; omega, hxa, by simp only; omega, hxb, ⟨this, h3⟩, hequal⟩
        · simp only [h3, if_false, List.nil_append, List.append_assoc]
          have e1 : i = x.i := by omega
          have e2 : j = x.j := by omega
          rw [e1, e2]
          exact hequal

/-- **The port of `get_opcodes` is total and returns a valid edit script.** -/
theorem opcodes_valid (a b : List α) : ∃ ops, opcodes a b = some ops ∧ ValidOpcodes a b ops := by
  obtain ⟨T, C, f', _, hp, hg, he⟩ := mbLoop_box a b (chainB b) (chainB_sorted b) (chainB_sound b)
    (a.length + 1) ⟨0, a.length, 0, b.length⟩ ⟨by simp, by simp, by simp, by simp⟩ (by simp) [] []
    (2 * a.length + 2) 1 (by simp)
  rw [mbLoop_nil] at he
  simp only [List.nil_append] at he
  have hsort := sort_eq_chain T C hp hg.chain (fun x hx => (hg.each x hx).2.2)
  have hgood : ∀ x ∈ C, Good1 a b x := by
    intro x hx
    obtain ⟨hb, hm, _⟩ := hg.each x hx
    exact ⟨hb.h2, hb.h4, hm⟩
  obtain ⟨c1, c2, c3⟩ := collapse_spec a b C 0 0 0
    (by
      rw [List.pairwise_cons]
      exact ⟨by intro y _; simp [Before], hg.chain⟩)
    (by
      intro x hx
      rcases List.mem_cons.mp hx with rfl | hx
      · exact ⟨by simp, by simp, by intro t ht; simp at ht⟩
      · exact hgood x hx)
  refine ⟨opcodesGo 0 0 (collapse 0 0 0 C ++ [⟨a.length, b.length, 0⟩]), ?_, ?_⟩
  · simp [opcodes, matchingBlocks, he, hsort]
  · apply opcodesGo_valid
    · rw [List.pairwise_append]
      refine ⟨c1, by simp, ?_⟩
      intro x hx y hy
      simp at hy; subst hy
      have := c2 x hx
      exact ⟨this.1, this.2.1⟩
    · intro x hx
      rcases List.mem_append.mp hx with hx | hx
      · exact c2 x hx
      · simp at hx; subst hx
        exact ⟨by simp, by simp, by intro t ht; simp at ht⟩
    · intro x _; simp
    · simp

end Difflib
