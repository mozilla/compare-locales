/-
The C20 closed form of a concatenation whose halves do not
share keys crosswise, and of three small blocks.
-/
import CLModel.Proofs.C15Merge
namespace AR

variable {α : Type} [BEq α] [LawfulBEq α]

omit [LawfulBEq α] in
theorem anchors_congr_left (l l' r : List α) (cur : Option α)
    (h : ∀ x ∈ r, l.contains x = l'.contains x) : anchors l r cur = anchors l' r cur := by
  induction r generalizing cur with
  | nil => rfl
  | cons x xs ih =>
    have hx := h x (by simp)
    have ih' := fun c => ih c (fun y hy => h y (by simp [hy]))
    simp only [anchors, hx, ih']

/-- the anchor in force after walking `r` -/
def lastShared (l : List α) : List α → Option α → Option α
  | [], cur => cur
  | x :: xs, cur => if l.contains x then lastShared l xs (some x) else lastShared l xs cur

omit [LawfulBEq α] in
theorem anchors_append (l r1 r2 : List α) (cur : Option α) :
    anchors l (r1 ++ r2) cur = anchors l r1 cur ++ anchors l r2 (lastShared l r1 cur) := by
  induction r1 generalizing cur with
  | nil => rfl
  | cons x xs ih =>
    simp only [List.cons_append, anchors, lastShared]
    split
    · exact ih _
    · rw [ih]; rfl

/-- `r2` is empty or starts with a key of `l2`.  `specKeys_append` needs it of the second halves: otherwise the anchor left
    over from `r1` would capture the leading right-only keys of `r2`. -/
def HeadShared (l2 r2 : List α) : Prop := match r2 with
  | [] => True
  | h :: _ => l2.contains h = true

omit [LawfulBEq α] in
theorem anchors_headShared (l r : List α) (cur : Option α) (h : HeadShared l r) :
    anchors l r cur = anchors l r none := by
  cases r with
  | nil => rfl
  | cons x xs =>
    simp only [HeadShared] at h
    simp only [anchors, h, if_true]

omit [LawfulBEq α] in
theorem anchors_headShared_fst (l r : List α) (h : HeadShared l r) :
    ∀ p ∈ anchors l r none, ∃ y ∈ r, l.contains y = true ∧ p.1 = some y := by
  cases r with
  | nil => simp [anchors]
  | cons x xs =>
    simp only [HeadShared] at h
    intro p hp
    simp only [anchors, h, if_true] at hp
    rcases anchors_mem l xs (some x) p hp with e | ⟨y, hy, hc, e⟩
    · exact ⟨x, by simp, h, e⟩
    · exact ⟨y, by simp [hy], hc, e⟩

theorem contains_append_left_of (l1 l2 : List α) (x : α) (h : ¬ x ∈ l2) :
    (l1 ++ l2).contains x = l1.contains x := by
  rw [Bool.eq_iff_iff]
  simp only [List.contains_iff_mem, List.mem_append]
  constructor
  · rintro (h1 | h1)
    · exact h1
    · exact absurd h1 h
  · exact .inl

theorem contains_append_right_of (l1 l2 : List α) (x : α) (h : ¬ x ∈ l1) :
    (l1 ++ l2).contains x = l2.contains x := by
  rw [Bool.eq_iff_iff]
  simp only [List.contains_iff_mem, List.mem_append]
  constructor
  · rintro (h1 | h1)
    · exact absurd h1 h
    · exact h1
  · exact .inr

theorem specKeys_append (l1 l2 r1 r2 : List α)
    (h12 : ∀ x ∈ r1, ¬ x ∈ l2) (h21 : ∀ x ∈ r2, ¬ x ∈ l1) (hh : HeadShared l2 r2) :
    specKeys (l1 ++ l2) (r1 ++ r2) = specKeys l1 r1 ++ specKeys l2 r2 := by
  have hA : anchors (l1 ++ l2) (r1 ++ r2) none = anchors l1 r1 none ++ anchors l2 r2 none := by
    rw [anchors_append]
    congr 1
    · exact anchors_congr_left _ _ _ _ (fun x hx => contains_append_left_of l1 l2 x (h12 x hx))
    · have hh' : HeadShared (l1 ++ l2) r2 := by
        cases r2 with
        | nil => trivial
        | cons x xs =>
          simp only [HeadShared] at hh ⊢
          rw [contains_append_right_of l1 l2 x (h21 x (by simp))]; exact hh
      rw [anchors_headShared _ _ _ hh']
      exact anchors_congr_left _ _ _ _ (fun x hx => contains_append_right_of l1 l2 x (h21 x hx))
  have h2none : (anchors l2 r2 none).filter (fun p => p.1 == none) = [] := by
    rw [List.filter_eq_nil_iff]
    intro p hp
    obtain ⟨y, _, _, e⟩ := anchors_headShared_fst l2 r2 hh p hp
    simp [e]
  have h2some : ∀ k ∈ l1, (anchors l2 r2 none).filter (fun p => p.1 == some k) = [] := by
    intro k hk
    rw [List.filter_eq_nil_iff]
    intro p hp
    obtain ⟨y, hy, _, e⟩ := anchors_headShared_fst l2 r2 hh p hp
    simp only [e, beq_iff_eq, Option.some.injEq]
    intro e'; subst e'; exact h21 y hy hk
  have h1some : ∀ k ∈ l2, (anchors l1 r1 none).filter (fun p => p.1 == some k) = [] := by
    intro k hk
    rw [List.filter_eq_nil_iff]
    intro p hp
    rcases anchors_mem l1 r1 none p hp with e | ⟨y, hy, _, e⟩
    · simp [e]
    · simp only [e, beq_iff_eq, Option.some.injEq]
      intro e'; subst e'; exact h12 y hy hk
  unfold specKeys
  rw [spec_keys, spec_keys l1 r1, spec_keys l2 r2, hA, List.filter_append, h2none, List.append_nil,
    List.flatMap_append, List.map_nil, List.nil_append, List.append_assoc]
  congr 2
  · apply Txt.flatMap_congr'
    intro k hk
    rw [List.filter_append, h2some k hk, List.append_nil]
  · apply Txt.flatMap_congr'
    intro k hk
    rw [List.filter_append, h1some k hk, List.nil_append]

theorem specKeys_one_same (x : α) : specKeys [x] [x] = [x] := by
  simp [specKeys, spec, anchors]

theorem specKeys_one_fresh (w w' : α) (h : w ≠ w') : specKeys [w] [w'] = [w', w] := by
  have h' : ¬ w' = w := fun e => h e.symm
  simp [specKeys, spec, anchors, h, h']

theorem specKeys_pair_fresh (x w w' : α) (h1 : x ≠ w) (h2 : x ≠ w') (h3 : w ≠ w') :
    specKeys [x, w] [x, w'] = [x, w', w] := by
  have h1' : ¬ w = x := fun e => h1 e.symm
  have h2' : ¬ w' = x := fun e => h2 e.symm
  have h3' : ¬ w' = w := fun e => h3 e.symm
  simp [specKeys, spec, anchors, h1, h2, h3, h1', h2', h3']

end AR
