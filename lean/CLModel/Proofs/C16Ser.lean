/-
`serialize` at the entry level, in four parts.  (1) `parse_resource` read as "last match" and "first occurrences": what a dict
built from an entry list holds under a string key, and its string keys (`dget_parseResource_str`, `parseResource_strKeys`),
on the invariant `keyOK`.  (2) The vocabulary: `refKeys`, `oldEntry`, `newValue`, `chosen`, and the `let`s of `serializeEnts`
by name (`plOf` … `m1Of`).  (3) The entry list as ONE white-space fold over a list that can be written down
(`serializeEnts_fold`).  (4) What that fold leaves for a key of the diff is `chosen` (`emitted_str`), hence the closed form
`serialized_entities`.
-/
import CLModel.Serialize.Serializer
import CLModel.Proofs.C16Merge
namespace C16L
open AR Ser

/-- keyed by `.key`: neither Comment nor Whitespace -/
def strKeyed (e : Ent) : Bool := !e.isComment && !e.isWs

def strOf : MKey → Option (List Nat)
  | .str s => some s
  | _ => none

/-- the key is the one `get_key_value` gives this entry (what `pairsOf` pairs it with): every dict of the serializer holds it
    for all its pairs, and it is how a proof passes between the kind of an entry and the constructor of its key -/
def keyOK (p : MKey × Ent) : Bool :=
  match p.1 with
  | .str s => strKeyed p.2 && p.2.key == s
  | .cmt v _ => p.2.isComment && p.2.key == v
  | .ws _ _ => p.2.isWs

theorem pairsOf_keyOK (src : Nat) (cnt : List (List Nat × Nat)) (i : Nat) (es : List Ent) :
    ∀ p ∈ pairsOf src cnt i es, keyOK p = true := by
  induction es generalizing cnt i with
  | nil => simp [pairsOf]
  | cons e es ih =>
    intro p hp
    unfold pairsOf at hp
    by_cases hc : e.isComment = true
    · simp only [hc, if_true, List.mem_cons] at hp
      rcases hp with rfl | hp
      · simp [keyOK, hc]
      · exact ih _ _ p hp
    · by_cases hw : e.isWs = true
      · simp only [hc, Bool.false_eq_true, if_false, hw, if_true, List.mem_cons] at hp
        rcases hp with rfl | hp
        · simp [keyOK, hw]
        · exact ih _ _ p hp
      · simp only [hc, Bool.false_eq_true, if_false, hw, List.mem_cons] at hp
        rcases hp with rfl | hp
        · simp [keyOK, strKeyed, hc, hw]
        · exact ih _ _ p hp

theorem parseResource_keyOK (src : Nat) (es : List Ent) : ∀ p ∈ parseResource src es, keyOK p = true := by
  intro p hp
  unfold parseResource mkDict at hp
  rcases mem_foldl_dset hp with h | h
  · simp at h
  · exact pairsOf_keyOK _ _ _ _ p h

theorem parseResource_keys_nodup (src : Nat) (es : List Ent) : (dkeys (parseResource src es)).Nodup := by
  unfold parseResource mkDict
  exact foldl_dset_nodup _ List.nodup_nil

theorem lastMatch_pairsOf (src : Nat) (cnt : List (List Nat × Nat)) (i : Nat) (es : List Ent) (s : List Nat) :
    lastMatch (fun p => p.1 == MKey.str s) (pairsOf src cnt i es)
      = (lastMatch (fun e => strKeyed e && e.key == s) es).map (fun e => (MKey.str s, e)) := by
  induction es generalizing cnt i with
  | nil => rfl
  | cons e es ih =>
    unfold pairsOf
    by_cases hc : e.isComment = true
    · simp only [hc, if_true, lastMatch, ih]
      cases lastMatch (fun e => strKeyed e && e.key == s) es with
      | some y => rfl
      | none => simp [strKeyed, hc]
    · by_cases hw : e.isWs = true
      · simp only [hc, Bool.false_eq_true, if_false, hw, if_true, lastMatch, ih]
        cases lastMatch (fun e => strKeyed e && e.key == s) es with
        | some y => rfl
        | none => simp [strKeyed, hw]
      · simp only [hc, Bool.false_eq_true, if_false, hw, lastMatch, ih]
        cases lastMatch (fun e => strKeyed e && e.key == s) es with
        | some y => rfl
        | none =>
          by_cases hk : e.key = s
          · subst hk; simp [strKeyed, hc, hw]
          · simp [strKeyed, hc, hw, hk]

theorem dget_parseResource_str (src : Nat) (es : List Ent) (s : List Nat) :
    dget (parseResource src es) (MKey.str s) = lastMatch (fun e => strKeyed e && e.key == s) es := by
  unfold parseResource mkDict
  rw [dget_foldl_lastMatch, lastMatch_pairsOf]
  cases lastMatch (fun e => strKeyed e && e.key == s) es <;> rfl

theorem pairsOf_strKeys (src : Nat) (cnt : List (List Nat × Nat)) (i : Nat) (es : List Ent) :
    ((pairsOf src cnt i es).map (·.1)).filterMap strOf = (es.filter strKeyed).map (·.key) := by
  induction es generalizing cnt i with
  | nil => rfl
  | cons e es ih =>
    unfold pairsOf
    by_cases hc : e.isComment = true
    · simp only [hc, if_true, List.map_cons, List.filterMap_cons, strOf, ih]
      simp [strKeyed, hc]
    · by_cases hw : e.isWs = true
      · simp only [hc, Bool.false_eq_true, if_false, hw, if_true, List.map_cons, List.filterMap_cons, strOf, ih]
        simp [strKeyed, hw]
      · simp only [hc, Bool.false_eq_true, if_false, hw, List.map_cons, List.filterMap_cons, strOf, ih]
        simp [strKeyed, hc, hw]

theorem strOf_inj : ∀ a a' b, strOf a = some b → strOf a' = some b → a = a' := by
  intro a a' b h1 h2
  cases a <;> cases a' <;> simp_all [strOf]

theorem parseResource_strKeys (src : Nat) (es : List Ent) :
    (dkeys (parseResource src es)).filterMap strOf = firstOcc ((es.filter strKeyed).map (·.key)) := by
  unfold parseResource mkDict dkeys
  rw [mkDict_keys, ← firstOcc_filterMap strOf strOf_inj, pairsOf_strKeys]

/-- keys of the reference entries that are keyed by `.key` (junk dropped), first occurrences in order -/
def refKeys (ref : List Ent) : List (List Nat) :=
  firstOcc (((ref.filter (fun e => !e.isJunk)).filter strKeyed).map (·.key))

/-- what the old localization holds under key `s`: the last non-junk entry keyed by `s` -/
def oldEntry (old : List Ent) (s : List Nat) : Option Ent :=
  lastMatch (fun e => strKeyed e && e.key == s) (old.filter (fun e => !e.isJunk))

/-- `s in new_data and new_data[s] is None` -/
def removed (nd : NewData) (s : List Nat) : Bool :=
  match dget nd s with
  | some none => true
  | _ => false

/-- `s in ref_mapping` -/
def known (ref : List Ent) (s : List Nat) : Bool := ((refMapping ref).map (·.1)).contains s

/-- the entity created for a new value: `ref_mapping[s].wrap(new_data[s])` -/
def newValue (ref : List Ent) (nd : NewData) (s : List Nat) : Option Ent :=
  match dget nd s with
  | some (some v) => (dget (refMapping ref) s).map (fun r => wrap r v)
  | _ => none

/-- the entity the serializer emits for reference key `s`, if any -/
def chosen (ref old : List Ent) (nd : NewData) (s : List Nat) : Option Ent :=
  match newValue ref nd s with
  | some l => some l
  | none =>
    match oldEntry old s with
    | some e => if e.isReal && known ref s && !removed nd s then some e else none
    | none => none

/-- `placeholders` of `Ser.serializeEnts`: the template, every reference entity replaced by its placeholder -/
def plOf (ref : List Ent) : List Ent := (ref.filter (fun e => !e.isJunk)).map placeholder
/-- `old'` of `Ser.serializeEnts`: `sanitize_old` of the old localization -/
def osOf (ref old : List Ent) (nd : NewData) : List Ent := sanitizeOld ((refMapping ref).map (·.1)) old nd
/-- `newL` of `Ser.serializeEnts`: the entities wrapped around the new values -/
def nlOf (ref : List Ent) (nd : NewData) : List Ent := newL10n (refMapping ref) nd
/-- the dicts `merge_resources` builds from these three lists with `parse_resource`; the first argument (0, 1, 2 = template,
    old localization, new values) is the resource's index, part of the key of a Whitespace object -/
def d0Of (ref : List Ent) : Dict := parseResource 0 (plOf ref)
def d1Of (ref old : List Ent) (nd : NewData) : Dict := parseResource 1 (osOf ref old nd)
def d2Of (ref : List Ent) (nd : NewData) : Dict := parseResource 2 (nlOf ref nd)
/-- the first of the two `merge_two`: template and old localization -/
def m1Of (ref old : List Ent) (nd : NewData) : Dict := mergeTwo (d0Of ref) (d1Of ref old nd) false

theorem serializeEnts_eq (ref old : List Ent) (nd : NewData) :
    serializeEnts ref old nd = prunePlaceholders ((mergeTwo (m1Of ref old nd) (d2Of ref nd) false).map (·.2)) := by
  simp [serializeEnts, mergeResources, m1Of, d0Of, d1Of, d2Of, plOf, osOf, nlOf, List.zipIdx]

theorem d0_keyOK (ref : List Ent) : ∀ p ∈ d0Of ref, keyOK p = true := parseResource_keyOK _ _
theorem d1_keyOK (ref old : List Ent) (nd : NewData) : ∀ p ∈ d1Of ref old nd, keyOK p = true := parseResource_keyOK _ _
theorem d2_keyOK (ref : List Ent) (nd : NewData) : ∀ p ∈ d2Of ref nd, keyOK p = true := parseResource_keyOK _ _
theorem d0_nodup (ref : List Ent) : (dkeys (d0Of ref)).Nodup := parseResource_keys_nodup _ _
theorem d1_nodup (ref old : List Ent) (nd : NewData) : (dkeys (d1Of ref old nd)).Nodup := parseResource_keys_nodup _ _
theorem d2_nodup (ref : List Ent) (nd : NewData) : (dkeys (d2Of ref nd)).Nodup := parseResource_keys_nodup _ _
theorem m1_nodup (ref old : List Ent) (nd : NewData) : (dkeys (m1Of ref old nd)).Nodup := mergeTwo_keys_nodup _ _ _

/-- the predicates `isReal`, `isPlaceholder`, `isJunk`, `isWs`, `isComment`, `isSticky` test `kind` against one constructor
    each, so one of them holding refutes every other -/
theorem kind_excl {e : Ent} {a b : Kind} (h : (e.kind == a) = true) (hab : a ≠ b) : (e.kind == b) = false := by
  rw [eq_of_beq h]
  exact beq_false_of_ne hab

theorem isReal_not_ws {e : Ent} (h : e.isReal = true) : e.isWs = false := kind_excl h (by decide)

theorem isReal_not_ph {e : Ent} (h : e.isReal = true) : e.isPlaceholder = false := kind_excl h (by decide)

theorem isReal_strKeyed {e : Ent} (h : e.isReal = true) : strKeyed e = true := by
  rw [strKeyed, isReal_not_ws h, show e.isComment = false from kind_excl h (by decide)]; rfl

theorem isReal_not_sticky {e : Ent} (h : e.isReal = true) : e.isSticky = false := kind_excl h (by decide)

theorem isReal_isEntity {e : Ent} (h : e.isReal = true) : e.isEntity = true := by
  rw [Ent.isEntity, show (e.kind == .entity) = true from h]; rfl

theorem isEntity_kind {e : Ent} (h : e.isEntity = true) : e.kind = .entity ∨ e.kind = .placeholder := by
  simpa [Ent.isEntity] using h

theorem isEntity_not_junk {e : Ent} (h : e.isEntity = true) : e.isJunk = false := by
  rcases isEntity_kind h with h | h <;> rw [Ent.isJunk, h] <;> rfl

theorem isEntity_strKeyed {e : Ent} (h : e.isEntity = true) : strKeyed e = true := by
  rcases isEntity_kind h with h | h <;> rw [strKeyed, Ent.isComment, Ent.isWs, h] <;> rfl

theorem isJunk_not_entity {e : Ent} (h : e.isJunk = true) : e.isEntity = false :=
  Bool.eq_false_iff.2 fun he => Bool.false_ne_true ((isEntity_not_junk he).symm.trans h)

theorem isWs_not_ph {e : Ent} (h : e.isWs = true) : e.isPlaceholder = false := kind_excl h (by decide)

theorem isWs_not_real {e : Ent} (h : e.isWs = true) : e.isReal = false := kind_excl h (by decide)

theorem isWs_not_sticky {e : Ent} (h : e.isWs = true) : e.isSticky = false := kind_excl h (by decide)

theorem isComment_not_ws {e : Ent} (h : e.isComment = true) : e.isWs = false := kind_excl h (by decide)

theorem isPh_not_sticky {e : Ent} (h : e.isPlaceholder = true) : e.isSticky = false := kind_excl h (by decide)

theorem isSticky_not_ws {e : Ent} (h : e.isSticky = true) : e.isWs = false := kind_excl h (by decide)

theorem isSticky_not_ph {e : Ent} (h : e.isSticky = true) : e.isPlaceholder = false := kind_excl h (by decide)

theorem isSticky_not_entity {e : Ent} (h : e.isSticky = true) : e.isEntity = false := by
  rw [Ent.isEntity, kind_excl h (by decide), kind_excl h (by decide)]; rfl

theorem refMapping_get (ref : List Ent) (s : List Nat) :
    dget (refMapping ref) s = lastMatch (fun e => e.key == s) (ref.filter Ent.isEntity) := by
  have : refMapping ref = ((ref.filter Ent.isEntity).map (fun e => (e.key, e))).foldl (fun d p => dset d p.1 p.2) [] := by
    unfold refMapping
    rw [List.foldl_map]
  rw [this, dget_foldl_lastMatch, lastMatch_map (fun e => e.key == s) _ _ _ (fun _ _ => rfl)]
  cases lastMatch (fun e => e.key == s) (ref.filter Ent.isEntity) <;> rfl

theorem refMapping_some {ref : List Ent} {s : List Nat} {r : Ent} (h : dget (refMapping ref) s = some r) :
    r ∈ ref ∧ r.isEntity = true ∧ r.key = s := by
  rw [refMapping_get] at h
  have := lastMatch_some h
  rw [List.mem_filter] at this
  exact ⟨this.1.1, this.1.2, by simpa using this.2⟩

theorem known_iff (ref : List Ent) (s : List Nat) : known ref s = true ↔ (dget (refMapping ref) s).isSome = true := by
  unfold known
  rw [dget_isSome_iff]
  simp

theorem placeholder_key (e : Ent) : (placeholder e).key = e.key := by
  unfold placeholder; split <;> rfl

theorem placeholder_strKeyed (e : Ent) : strKeyed (placeholder e) = strKeyed e := by
  unfold placeholder
  split
  · rename_i h
    rw [isEntity_strKeyed h]
    rfl
  · rfl

theorem placeholder_not_real (e : Ent) : (placeholder e).isReal = false := by
  unfold placeholder
  split
  · rfl
  · rename_i h
    exact Bool.eq_false_iff.2 fun hr => h (isReal_isEntity hr)

theorem known_mem_d0 {ref : List Ent} {s : List Nat} (h : known ref s = true) : MKey.str s ∈ dkeys (d0Of ref) := by
  rw [known_iff] at h
  cases hr : dget (refMapping ref) s with
  | none => rw [hr] at h; simp at h
  | some r =>
    obtain ⟨hm, he, hk⟩ := refMapping_some hr
    rw [← dget_isSome_iff, d0Of, dget_parseResource_str]
    cases hl : lastMatch (fun e => strKeyed e && e.key == s) (plOf ref) with
    | some _ => rfl
    | none =>
      exfalso
      have := lastMatch_eq_none_iff.1 hl (placeholder r) (by
        unfold plOf
        rw [List.mem_map]
        exact ⟨r, by rw [List.mem_filter]; exact ⟨hm, by simp [isEntity_not_junk he]⟩, rfl⟩)
      rw [placeholder_strKeyed, placeholder_key, isEntity_strKeyed he, hk] at this
      simp at this

theorem pairsOf_mem (src : Nat) (cnt : List (List Nat × Nat)) (i : Nat) (es : List Ent) :
    ∀ p ∈ pairsOf src cnt i es, p.2 ∈ es := by
  induction es generalizing cnt i with
  | nil => simp [pairsOf]
  | cons e es ih =>
    intro p hp
    unfold pairsOf at hp
    split at hp
    · rw [List.mem_cons] at hp
      rcases hp with rfl | hp
      · exact List.mem_cons_self
      · exact List.mem_cons_of_mem _ (ih _ _ p hp)
    · split at hp
      · rw [List.mem_cons] at hp
        rcases hp with rfl | hp
        · exact List.mem_cons_self
        · exact List.mem_cons_of_mem _ (ih _ _ p hp)
      · rw [List.mem_cons] at hp
        rcases hp with rfl | hp
        · exact List.mem_cons_self
        · exact List.mem_cons_of_mem _ (ih _ _ p hp)

theorem parseResource_mem {src : Nat} {es : List Ent} {p : MKey × Ent} (h : p ∈ parseResource src es) : p.2 ∈ es := by
  unfold parseResource mkDict at h
  rcases mem_foldl_dset h with h | h
  · simp at h
  · exact pairsOf_mem _ _ _ _ p h

theorem mem_nl {ref : List Ent} {nd : NewData} {e : Ent} (h : e ∈ nlOf ref nd) :
    e.isReal = true ∧ known ref e.key = true ∧
      ∃ v r, (e.key, some v) ∈ nd ∧ dget (refMapping ref) e.key = some r ∧ e = wrap r v := by
  unfold nlOf newL10n at h
  rw [List.mem_filterMap] at h
  obtain ⟨⟨key, ov⟩, hm, hf⟩ := h
  cases ov with
  | none => simp at hf
  | some v =>
    simp only at hf
    cases hr : dget (refMapping ref) key with
    | none => rw [hr] at hf; simp at hf
    | some r =>
      rw [hr] at hf
      simp only [Option.some.injEq] at hf
      have hk := (refMapping_some hr).2.2
      subst hf
      have hkey : (wrap r v).key = key := hk
      refine ⟨rfl, ?_, v, r, ?_, ?_, rfl⟩
      · rw [known_iff, hkey, hr]; rfl
      · rw [hkey]; exact hm
      · rw [hkey]; exact hr

theorem keyOK_ws {p : MKey × Ent} (h : keyOK p = true) (hw : p.2.isWs = true) : strOf p.1 = none := by
  obtain ⟨k, e⟩ := p
  cases k with
  | str s =>
    simp only [keyOK, Bool.and_eq_true, strKeyed] at h
    simp only at hw
    simp [hw] at h
  | cmt v n => rfl
  | ws a b => rfl

theorem keyOK_str_not_ws {s : List Nat} {e : Ent} (h : keyOK (MKey.str s, e) = true) : e.isWs = false := by
  cases hws : e.isWs with
  | false => rfl
  | true => have := keyOK_ws h hws; simp [strOf] at this

theorem keyOK_nonstr {p : MKey × Ent} (h : keyOK p = true) (hs : strOf p.1 = none) : p.2.isReal = false := by
  obtain ⟨k, e⟩ := p
  cases hr : e.isReal with
  | false => rfl
  | true =>
    exfalso
    cases k with
    | str s => simp [strOf] at hs
    | cmt v n =>
      simp only [keyOK, Bool.and_eq_true] at h
      have := isReal_strKeyed hr
      simp [strKeyed, h.1] at this
    | ws a b =>
      simp only [keyOK] at h
      rw [isReal_not_ws hr] at h
      simp at h

theorem keyOK_str {k : MKey} {e : Ent} (h : keyOK (k, e) = true) (hs : strKeyed e = true) : k = MKey.str e.key := by
  cases k with
  | str s =>
    simp only [keyOK, Bool.and_eq_true, beq_iff_eq] at h
    rw [h.2]
  | cmt v n =>
    simp only [keyOK, Bool.and_eq_true] at h
    simp [strKeyed, h.1] at hs
  | ws a b =>
    simp only [keyOK] at h
    simp [strKeyed, h] at hs

theorem d2_get_nonstr (ref : List Ent) (nd : NewData) (k : MKey) (hk : strOf k = none) : dget (d2Of ref nd) k = none := by
  cases hg : dget (d2Of ref nd) k with
  | none => rfl
  | some l =>
    have hm := mem_of_dget hg
    have h : l.isReal = false := keyOK_nonstr (d2_keyOK ref nd _ hm) hk
    rw [(mem_nl (parseResource_mem hm)).1] at h
    cases h

theorem d2_get_str (ref : List Ent) (nd : NewData) (s : List Nat) :
    dget (d2Of ref nd) (MKey.str s) = lastMatch (fun e => e.key == s) (nlOf ref nd) := by
  rw [d2Of, dget_parseResource_str]
  apply lastMatch_congr
  intro e he
  rw [isReal_strKeyed (mem_nl he).1]
  rfl

theorem d2_some {ref : List Ent} {nd : NewData} {k : MKey} {l : Ent} (h : dget (d2Of ref nd) k = some l) :
    l.isReal = true ∧ k = MKey.str l.key ∧ known ref l.key = true := by
  have hm := mem_of_dget h
  have hl := mem_nl (parseResource_mem hm)
  refine ⟨hl.1, ?_, hl.2.1⟩
  cases k with
  | str s =>
    have hok := d2_keyOK ref nd _ hm
    simp only [keyOK, Bool.and_eq_true, beq_iff_eq] at hok
    rw [hok.2]
  | cmt v n => rw [d2_get_nonstr ref nd _ rfl] at h; simp at h
  | ws a b => rw [d2_get_nonstr ref nd _ rfl] at h; simp at h

/-- value the second merge keeps for a pair of the first one -/
def pick (D2 : Dict) (k : MKey) (e : Ent) : Ent :=
  match dget D2 k with
  | none => e
  | some l => if l.isSticky then e else l

def pickPair (D2 : Dict) (p : MKey × Ent) : Ent := pick D2 p.1 p.2
theorem getOlder_of_left {N O : Dict} {k : MKey} (hk : k ∈ dkeys N) : ∃ e, getOlder N O k = some e := by
  have hs : (dget N k).isSome = true := by rw [dget_isSome_iff]; exact hk
  cases hn : dget N k with
  | none => rw [hn] at hs; simp at hs
  | some e0 =>
    unfold getOlder
    cases ho : dget O k with
    | none => exact ⟨e0, hn⟩
    | some e1 =>
      simp only
      split
      · exact ⟨e0, hn⟩
      · exact ⟨e1, rfl⟩

theorem olderPairs_of_subset (N O : Dict) (hN : (dkeys N).Nodup) (hO : (dkeys O).Nodup)
    (hsub : ∀ k ∈ dkeys O, k ∈ dkeys N) :
    olderPairs N O = N.map (fun p => (p.1, pick O p.1 p.2)) := by
  unfold olderPairs
  rw [addRemove_keys_of_subset _ _ hN hO hsub]
  rw [List.filterMap_map, ← List.filterMap_eq_map]
  apply Txt.filterMap_congr'
  intro p hp
  have hg : dget N p.1 = some p.2 := dget_of_mem hN hp
  simp only [Function.comp, getOlder, pick, hg]
  cases dget O p.1 with
  | none => rfl
  | some l => simp only; split <;> rfl

theorem olderPairs01_keyOK (ref old : List Ent) (nd : NewData) :
    ∀ p ∈ olderPairs (d0Of ref) (d1Of ref old nd), keyOK p = true := by
  intro p hp
  rcases getOlder_mem (mem_olderPairs hp) with h | h
  · exact d0_keyOK ref p h
  · exact d1_keyOK ref old nd p h

theorem m1_keyOK (ref old : List Ent) (nd : NewData) : ∀ p ∈ m1Of ref old nd, keyOK p = true := by
  intro p hp
  exact olderPairs01_keyOK ref old nd p ((mergeTwo_sublist _ _).subset hp)

theorem d0_str_mem_m1 (ref old : List Ent) (nd : NewData) {s : List Nat} (h : MKey.str s ∈ dkeys (d0Of ref)) :
    MKey.str s ∈ dkeys (m1Of ref old nd) := by
  obtain ⟨e, he⟩ := getOlder_of_left (O := d1Of ref old nd) h
  have hks : MKey.str s ∈ (addRemove (dkeys (d0Of ref)) (dkeys (d1Of ref old nd))).map (·.2) := by
    rw [(addRemove_keys_perm _ _ (d0_nodup ref) (d1_nodup ref old nd)).mem_iff]
    exact List.mem_append_left _ h
  have hp : (MKey.str s, e) ∈ olderPairs (d0Of ref) (d1Of ref old nd) := by
    unfold olderPairs
    rw [List.mem_filterMap]
    exact ⟨MKey.str s, hks, by rw [he]; rfl⟩
  have hok := olderPairs01_keyOK ref old nd _ hp
  have hnw : e.isWs = false := keyOK_str_not_ws hok
  have : (MKey.str s, e) ∈ (m1Of ref old nd).filter (fun p => !p.2.isWs) := by
    rw [m1Of, mergeTwo_nonws, List.mem_filter]
    exact ⟨hp, by simp [hnw]⟩
  rw [List.mem_filter] at this
  rw [List.mem_map]
  exact ⟨_, this.1, rfl⟩

theorem d2_sub_m1 (ref old : List Ent) (nd : NewData) :
    ∀ k ∈ dkeys (d2Of ref nd), k ∈ dkeys (m1Of ref old nd) := by
  intro k hk
  rw [← dget_isSome_iff] at hk
  cases hg : dget (d2Of ref nd) k with
  | none => rw [hg] at hk; simp at hk
  | some l =>
    obtain ⟨_, hkk, hkn⟩ := d2_some hg
    rw [hkk]
    exact d0_str_mem_m1 ref old nd (known_mem_d0 hkn)

/-- what the two merges leave for a key of the diff of template and old localization -/
def emitted (ref old : List Ent) (nd : NewData) (k : MKey) : Option Ent :=
  (getOlder (d0Of ref) (d1Of ref old nd) k).bind
    (fun e => if (pick (d2Of ref nd) k e).isReal then some (pick (d2Of ref nd) k e) else none)

/-! The entry list as ONE fold.  `serialize` runs the white-space reduce three times (`merge_two` twice, `prune_placeholders`), with
the override by the new values and the dropping of placeholders in between; the reduce absorbs (`fold_absorb`) and commutes with
the override (`fold_map`), so the output is one fold over a list that can be written down. -/

/-- the override of the second merge, made total: white-space pairs are left alone -/
def over (D2 : Dict) (p : MKey × Ent) : MKey × Ent := if p.2.isWs then p else (p.1, pick D2 p.1 p.2)

theorem over_eq (ref : List Ent) (nd : NewData) {p : MKey × Ent} (hok : keyOK p = true) :
    over (d2Of ref nd) p = (p.1, pick (d2Of ref nd) p.1 p.2) := by
  unfold over
  split
  · rename_i hw
    unfold pick
    rw [d2_get_nonstr ref nd _ (keyOK_ws hok hw)]
  · rfl

theorem over_isWs (ref : List Ent) (nd : NewData) (p : MKey × Ent) : pIsWs (over (d2Of ref nd) p) = pIsWs p := by
  unfold over
  split
  · rfl
  · rename_i hw
    show (pick (d2Of ref nd) p.1 p.2).isWs = p.2.isWs
    unfold pick
    cases hg : dget (d2Of ref nd) p.1 with
    | none => rfl
    | some l =>
      simp only
      split
      · rfl
      · rw [isReal_not_ws (d2_some hg).1]; simpa using hw

/-- the list that is folded: along the key diff of the template and the sanitized old localization, the entry
    `get_older_entity` finds, overridden by the new value if there is one, placeholders dropped -/
def flatOut (ref old : List Ent) (nd : NewData) : List Ent :=
  ((olderPairs (d0Of ref) (d1Of ref old nd)).map (pickPair (d2Of ref nd))).filter (fun e => !e.isPlaceholder)

theorem m2_fold (ref old : List Ent) (nd : NewData) :
    mergeTwo (m1Of ref old nd) (d2Of ref nd) false
      = fold pIsWs pLen none ((olderPairs (d0Of ref) (d1Of ref old nd)).map (over (d2Of ref nd))) := by
  have hM1 := m1_nodup ref old nd
  have hD2 := d2_nodup ref nd
  have e1 : olderPairs (m1Of ref old nd) (d2Of ref nd) = (m1Of ref old nd).map (over (d2Of ref nd)) := by
    rw [olderPairs_of_subset _ _ hM1 hD2 (d2_sub_m1 ref old nd)]
    exact List.map_congr_left (fun p hp => (over_eq ref nd (m1_keyOK ref old nd p hp)).symm)
  have e2 : m1Of ref old nd = fold pIsWs pLen none (olderPairs (d0Of ref) (d1Of ref old nd)) :=
    mergeTwo_fold _ _
  have e3 : fold pIsWs pLen none ((olderPairs (d0Of ref) (d1Of ref old nd)).map (over (d2Of ref nd))) = _ :=
    fold_map pIsWs pLen pIsWs pLen (over (d2Of ref nd)) (over_isWs ref nd)
      (fun p hp => by unfold over; rw [if_pos (show p.2.isWs = true from hp)])
      (olderPairs (d0Of ref) (d1Of ref old nd)) none (none_ws _)
  rw [mergeTwo_fold, e1, e2, ← e3]
  exact fold_fold _ _ _

theorem serializeEnts_fold (ref old : List Ent) (nd : NewData) :
    serializeEnts ref old nd = fold Ent.isWs aLen none (flatOut ref old nd) := by
  have e1 : fold Ent.isWs aLen none (((olderPairs (d0Of ref) (d1Of ref old nd)).map (over (d2Of ref nd))).map (·.2)) = _ :=
    fold_map pIsWs pLen Ent.isWs aLen (·.2) (fun _ => rfl) (fun _ _ => rfl) _ none (none_ws _)
  have e2 : _ = fold Ent.isWs aLen none _ :=
    fold_absorb Ent.isWs aLen (fun e => !e.isPlaceholder) (fun e he => by simp [isWs_not_ph he])
      (((olderPairs (d0Of ref) (d1Of ref old nd)).map (over (d2Of ref nd))).map (·.2)) none none (none_ws _)
  have e3 : ((olderPairs (d0Of ref) (d1Of ref old nd)).map (over (d2Of ref nd))).map (·.2)
      = (olderPairs (d0Of ref) (d1Of ref old nd)).map (pickPair (d2Of ref nd)) := by
    rw [List.map_map]
    apply List.map_congr_left
    intro p hp
    show (over (d2Of ref nd) p).2 = _
    rw [over_eq ref nd (olderPairs01_keyOK ref old nd p hp)]
    rfl
  rw [serializeEnts_eq, prunePlaceholders_fold, m2_fold, ← e1, e2, e3]
  rfl

theorem out_nonws (ref old : List Ent) (nd : NewData) :
    (serializeEnts ref old nd).filter (fun e => !e.isWs) = (flatOut ref old nd).filter (fun e => !e.isWs) := by
  rw [serializeEnts_fold, fold_nonws _ _ _ none (none_ws _)]

theorem out_real (ref old : List Ent) (nd : NewData) :
    (serializeEnts ref old nd).filter Ent.isReal
      = ((addRemove (dkeys (d0Of ref)) (dkeys (d1Of ref old nd))).map (·.2)).filterMap (emitted ref old nd) := by
  have h1 : ∀ l : List Ent, l.filter Ent.isReal = (l.filter (fun e => !e.isWs)).filter Ent.isReal := by
    intro l
    rw [List.filter_filter]
    apply List.filter_congr
    intro e _
    cases h : e.isReal
    · rfl
    · simp [isReal_not_ws h]
  rw [h1, out_nonws, ← h1, flatOut, List.filter_filter, olderPairs, List.map_filterMap, List.filter_filterMap]
  apply Txt.filterMap_congr'
  intro k _
  unfold emitted pickPair
  cases getOlder (d0Of ref) (d1Of ref old nd) k with
  | none => rfl
  | some e =>
    simp only [Option.map_some, Option.bind_some]
    cases h : (pick (d2Of ref nd) k e).isReal
    · simp [h]
    · simp [h, isReal_not_ph h]

/-- the per-entry map of `sanitize_old` -/
def sanOf (ref : List Ent) (nd : NewData) (e : Ent) : Ent :=
  if shouldPlaceholder ((refMapping ref).map (·.1)) nd e then placeholder e else e

theorem osOf_eq (ref old : List Ent) (nd : NewData) :
    osOf ref old nd = (old.filter (fun e => !e.isJunk)).map (sanOf ref nd) := rfl

theorem sanOf_key (ref : List Ent) (nd : NewData) (e : Ent) : (sanOf ref nd e).key = e.key := by
  unfold sanOf; split
  · exact placeholder_key e
  · rfl

theorem sanOf_strKeyed (ref : List Ent) (nd : NewData) (e : Ent) : strKeyed (sanOf ref nd e) = strKeyed e := by
  unfold sanOf; split
  · exact placeholder_strKeyed e
  · rfl

theorem shouldPlaceholder_real (ref : List Ent) (nd : NewData) {e : Ent} (h : e.isReal = true) :
    shouldPlaceholder ((refMapping ref).map (·.1)) nd e = (!known ref e.key || removed nd e.key) := by
  unfold shouldPlaceholder known removed
  simp only [isReal_isEntity h, Bool.not_true, Bool.false_eq_true, if_false]
  cases ((refMapping ref).map (·.1)).contains e.key
  · rfl
  · simp only [Bool.not_true, Bool.false_eq_true, if_false, Bool.false_or]
    cases dget nd e.key with
    | none => rfl
    | some ov => cases ov <;> rfl

theorem sanOf_real (ref : List Ent) (nd : NewData) (e : Ent) :
    (sanOf ref nd e).isReal = (e.isReal && known ref e.key && !removed nd e.key) ∧
      ((sanOf ref nd e).isReal = true → sanOf ref nd e = e) := by
  cases hr : e.isReal with
  | true =>
    unfold sanOf
    rw [shouldPlaceholder_real ref nd hr]
    cases known ref e.key <;> cases removed nd e.key <;> simp [placeholder_not_real, hr]
  | false =>
    unfold sanOf
    split
    · simp [placeholder_not_real]
    · simp [hr]

theorem sanOf_sticky {ref : List Ent} {nd : NewData} {e : Ent} (h : (sanOf ref nd e).isSticky = true) :
    e.isReal = false := by
  cases hr : e.isReal with
  | false => rfl
  | true =>
    exfalso
    unfold sanOf at h
    split at h
    · unfold placeholder at h
      rw [if_pos (isReal_isEntity hr)] at h
      simp [mkPlaceholder, Ent.isSticky] at h
    · rw [isReal_not_sticky hr] at h
      simp at h

theorem d1_get_str (ref old : List Ent) (nd : NewData) (s : List Nat) :
    dget (d1Of ref old nd) (MKey.str s) = (oldEntry old s).map (sanOf ref nd) := by
  rw [d1Of, dget_parseResource_str, osOf_eq, oldEntry]
  apply lastMatch_map
  intro e _
  rw [sanOf_strKeyed, sanOf_key]

theorem os_real {ref old : List Ent} {nd : NewData} {e : Ent} (h : e ∈ osOf ref old nd) (hr : e.isReal = true) :
    known ref e.key = true := by
  rw [osOf_eq, List.mem_map] at h
  obtain ⟨e0, _, rfl⟩ := h
  have := sanOf_real ref nd e0
  rw [sanOf_key]
  rw [this.1] at hr
  simp only [Bool.and_eq_true] at hr
  exact hr.1.2

theorem emitted_not_d0 (ref old : List Ent) (nd : NewData) (k : MKey) (hk : k ∉ dkeys (d0Of ref)) :
    emitted ref old nd k = none := by
  have h0 : dget (d0Of ref) k = none := dget_eq_none_iff.2 hk
  have h2 : dget (d2Of ref nd) k = none := by
    cases hg : dget (d2Of ref nd) k with
    | none => rfl
    | some l =>
      exfalso
      obtain ⟨_, hkk, hkn⟩ := d2_some hg
      exact hk (hkk ▸ known_mem_d0 hkn)
  unfold emitted getOlder pick
  rw [h0, h2]
  cases h1 : dget (d1Of ref old nd) k with
  | none => rfl
  | some e =>
    simp only
    split
    · rfl
    · simp only [Option.bind_some]
      cases hr : e.isReal with
      | false => rfl
      | true =>
        exfalso
        have hm := mem_of_dget h1
        have hok := d1_keyOK ref old nd _ hm
        have hkk := keyOK_str hok (isReal_strKeyed hr)
        have := os_real (parseResource_mem hm) hr
        exact hk (hkk ▸ known_mem_d0 this)

theorem emitted_nonstr (ref old : List Ent) (nd : NewData) (k : MKey) (hs : strOf k = none) :
    emitted ref old nd k = none := by
  unfold emitted
  cases hg : getOlder (d0Of ref) (d1Of ref old nd) k with
  | none => rfl
  | some e =>
    simp only [Option.bind_some, pick, d2_get_nonstr ref nd k hs]
    have hok : keyOK (k, e) = true := by
      rcases getOlder_mem hg with h | h
      · exact d0_keyOK ref _ h
      · exact d1_keyOK ref old nd _ h
    have := keyOK_nonstr hok hs
    simp only at this
    simp [this]

theorem d0_strKeys (ref : List Ent) : (dkeys (d0Of ref)).filterMap strOf = refKeys ref := by
  rw [d0Of, parseResource_strKeys, refKeys, plOf]
  congr 1
  rw [List.filter_map, List.map_map]
  have : (strKeyed ∘ placeholder) = strKeyed := by funext e; exact placeholder_strKeyed e
  rw [this]
  apply List.map_congr_left
  intro e _
  exact placeholder_key e

theorem newValue_some {ref : List Ent} {nd : NewData} {s : List Nat} {l : Ent} (h : newValue ref nd s = some l) :
    ∃ v r, dget nd s = some (some v) ∧ dget (refMapping ref) s = some r ∧ l = wrap r v ∧ r.key = s := by
  unfold newValue at h
  cases hd : dget nd s with
  | none => rw [hd] at h; simp at h
  | some ov =>
    cases ov with
    | none => rw [hd] at h; simp at h
    | some v =>
      rw [hd] at h
      simp only at h
      cases hr : dget (refMapping ref) s with
      | none => rw [hr] at h; simp at h
      | some r =>
        rw [hr] at h
        simp only [Option.map_some, Option.some.injEq] at h
        exact ⟨v, r, rfl, rfl, h.symm, (refMapping_some hr).2.2⟩

theorem nl_lookup (ref : List Ent) (nd : NewData) (hnd : (nd.map (·.1)).Nodup) (s : List Nat) :
    lastMatch (fun e => e.key == s) (nlOf ref nd) = newValue ref nd s := by
  have key : ∀ e ∈ nlOf ref nd, e.key = s → newValue ref nd s = some e := by
    intro e he hk
    obtain ⟨_, _, v, r, hm, hr, rfl⟩ := mem_nl he
    rw [hk] at hm hr
    unfold newValue
    rw [dget_of_mem hnd hm, hr]
    rfl
  cases hv : newValue ref nd s with
  | none =>
    rw [lastMatch_eq_none_iff]
    intro e he
    cases hk : e.key == s with
    | false => rfl
    | true => have := key e he (eq_of_beq hk); rw [hv] at this; simp at this
  | some l =>
    have hl : l ∈ nlOf ref nd ∧ l.key = s := by
      obtain ⟨v, r, hd, hr, rfl, hk⟩ := newValue_some hv
      refine ⟨?_, hk⟩
      unfold nlOf newL10n
      rw [List.mem_filterMap]
      exact ⟨(s, some v), mem_of_dget hd, by simp [hr]⟩
    apply lastMatch_unique hl.1 (by simp [hl.2])
    intro e he hk
    have := key e he (eq_of_beq hk)
    rw [hv] at this
    exact (Option.some.inj this).symm

theorem emitted_str (ref old : List Ent) (nd : NewData) (hnd : (nd.map (·.1)).Nodup) (s : List Nat)
    (hs : MKey.str s ∈ dkeys (d0Of ref)) : emitted ref old nd (MKey.str s) = chosen ref old nd s := by
  -- the three look-ups under `str s`: the template holds a placeholder or a non-entity (never real), the old dict
  -- `oldEntry old s` sanitized, the new dict `newValue`.  With a new value both sides are it; without one `getOlder` answers
  -- with the sanitized old entry unless that is missing or sticky, and `sanOf` keeps an entry real exactly under the
  -- condition of `chosen` (`sanOf_real`)
  have h0 : ∃ p0, dget (d0Of ref) (MKey.str s) = some p0 ∧ p0.isReal = false := by
    have : (dget (d0Of ref) (MKey.str s)).isSome = true := by rw [dget_isSome_iff]; exact hs
    cases hg : dget (d0Of ref) (MKey.str s) with
    | none => rw [hg] at this; simp at this
    | some p0 =>
      refine ⟨p0, rfl, ?_⟩
      have hm := parseResource_mem (mem_of_dget hg)
      unfold plOf at hm
      rw [List.mem_map] at hm
      obtain ⟨e, _, rfl⟩ := hm
      exact placeholder_not_real e
  obtain ⟨p0, hp0, hp0r⟩ := h0
  have h2 : dget (d2Of ref nd) (MKey.str s) = newValue ref nd s := by rw [d2_get_str, nl_lookup ref nd hnd]
  have h1 := d1_get_str ref old nd s
  unfold emitted getOlder pick chosen
  rw [h2, h1, hp0]
  cases hv : newValue ref nd s with
  | some l =>
    have hl : l.isReal = true := (d2_some (h2.trans hv)).1
    simp only [isReal_not_sticky hl, Bool.false_eq_true, if_false, hl, if_true]
    cases (oldEntry old s).map (sanOf ref nd) with
    | none => rfl
    | some e1 => simp only; split <;> rfl
  | none =>
    simp only
    cases ho : oldEntry old s with
    | none => simp [hp0r]
    | some e0 =>
      have hk : e0.key = s := by
        have := (lastMatch_some ho).2
        simp only [Bool.and_eq_true, beq_iff_eq] at this
        exact this.2
      simp only [Option.map_some]
      by_cases hst : (sanOf ref nd e0).isSticky = true
      · simp only [hst, if_true, Option.bind_some, hp0r, Bool.false_eq_true, if_false]
        rw [sanOf_sticky hst]
        simp
      · simp only [hst, Bool.false_eq_true, if_false, Option.bind_some]
        have hsr := sanOf_real ref nd e0
        rw [hk] at hsr
        by_cases hr : (sanOf ref nd e0).isReal = true
        · rw [if_pos hr, hsr.2 hr, if_pos (by rw [← hsr.1]; exact hr)]
        · rw [if_neg hr, if_neg (by rw [← hsr.1]; exact hr)]

theorem serialized_entities (ref old : List Ent) (nd : NewData) (hnd : (nd.map (·.1)).Nodup) :
    (serializeEnts ref old nd).filter Ent.isReal = (refKeys ref).filterMap (chosen ref old nd) := by
  rw [out_real]
  have hD0 := d0_nodup ref
  have hD1 := d1_nodup ref old nd
  rw [Txt.filterMap_filter_of_none _ (emitted ref old nd) (fun k => (dkeys (d0Of ref)).contains k)
        (fun k _ hk => emitted_not_d0 ref old nd k
          fun hm => Bool.false_ne_true (hk.symm.trans (List.contains_iff_mem.2 hm))),
    addRemove_keys_filter_left _ _ hD0 hD1,
    Txt.filterMap_comp_of_none (dkeys (d0Of ref)) (emitted ref old nd) strOf MKey.str
      (by intro k e h; cases k <;> simp_all [strOf])
      (fun k _ hk => emitted_nonstr ref old nd k hk),
    ← d0_strKeys]
  apply Txt.filterMap_congr'
  intro s hs
  apply emitted_str ref old nd hnd
  rw [List.mem_filterMap] at hs
  obtain ⟨k, hk, hks⟩ := hs
  cases k with
  | str s' => rw [← Option.some.inj hks]; exact hk
  | cmt v n => cases hks
  | ws a b => cases hks

end C16L
