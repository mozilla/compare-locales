/- C08/C07 CSS: an independent grammar of CSS size specs, and what the two generated regexes
   of `parse_css_spec` (model `Dtd.parseCssSpec`, run by the engine model) do on its pieces: a declaration is matched
   exactly, nothing matches inside white space and `;`, `_css_sep` accepts a separator.
   `CssSpec ds v`: `v` = optional leading `ws* (; ws*)?`, the declarations `ds` written as
   `prop ws* : ws* number unit` and separated by `ws* ; ws*`, optional trailing `ws* (; ws*)?`.
   The property names and the units are READ OFF the generated `_css_spec` regex (`langOf`); the digit class and the number
   regex are those of `DTDChecker.num` (`Dtd.D`, `Dtd.numReG` of C07Num).  At the end, for the loop of C08CLoop: slices of
   the text, `GapOk`, `foldDecls`. -/
import CLModel.Checks.Dtd
import CLModel.Proofs.C08CRx
import CLModel.Proofs.C07Num
namespace C08C
open Rx

def wsCls : List ClsItem := [.ch 32, .ch 9, .ch 13, .ch 10]
def wsStar : Re := .rep 0 none true (.cls false wsCls)
/-- the body of `(?P<prop>…)`, taken from the generated regex -/
def propRe : Re :=
  match Gen.Pat.CSSCheckMixin__css_spec with
  | .alt (.seq (.group _ p) _) _ => p
  | _ => .eps

/-- the body of `(?P<unit>…)`, taken from the generated regex -/
def unitRe : Re :=
  match Gen.Pat.CSSCheckMixin__css_spec with
  | .alt (.seq _ (.seq _ (.seq _ (.seq _ (.seq _ (.group _ u)))))) _ => u
  | _ => .eps

/-- `(?:(?P<prop>P)[ws]*:[ws]*(?P<length>N)(?P<unit>U))|\Z` — if the source regex changes its structure this `rfl` breaks;
    if only the alternatives of P or U change, everything below follows -/
theorem spec_shape : Gen.Pat.CSSCheckMixin__css_spec =
    .alt (.seq (.group 1 propRe) (.seq wsStar (.seq (.lit 58) (.seq wsStar (.seq (.group 2 Dtd.numReG) (.group 3 unitRe)))))) .eos := rfl

/-- `[ws]*(?P<semi>;)?[ws]*$` -/
theorem sep_shape : Gen.Pat.CSSCheckMixin__css_sep =
    .seq wsStar (.seq (.alt (.group 1 (.lit 59)) .eps) (.seq wsStar (.eol false))) := rfl

/-- the property names the regex accepts (in its priority order) -/
def cssProps : List Text := match langOf propRe with | some l => l | none => []
/-- the units the regex accepts (in its priority order) -/
def cssUnits : List Text := match langOf unitRe with | some l => l | none => []

theorem lang_prop : langOf propRe = some cssProps := by decide +kernel
theorem lang_unit : langOf unitRe = some cssUnits := by decide
theorem props_pf : prefixFree cssProps = true := by decide +kernel
theorem units_pf : prefixFree cssUnits = true := by decide +kernel

def isWs (c : Nat) : Bool := c == 32 || c == 9 || c == 13 || c == 10
def isDig (c : Nat) : Bool := 48 ≤ c && c ≤ 57

theorem inC_ws : inC false wsCls = isWs := by
  funext c; simp [inC, wsCls, ClsItem.has, isWs, Bool.or_assoc]

theorem inC_dig : inC false Dtd.D = isDig := funext fun _ => inC_range

theorem props_head : cssProps.all (fun t => match t with | h :: _ => !isWs h && h != 59 | [] => false) = true := by decide +kernel
theorem units_head : cssUnits.all (fun t => match t with | h :: _ => !isDig h && h != 46 | [] => false) = true := by decide +kernel

/-- `[0-9]+` or `[0-9]*.[0-9]+` -/
inductive IsNumber : Text → Prop
  | int (ds : Text) : ds ≠ [] → ds.all isDig = true → IsNumber ds
  | frac (ds fs : Text) : ds.all isDig = true → fs ≠ [] → fs.all isDig = true → IsNumber (ds ++ 46 :: fs)

/-- one declaration `prop ws* : ws* number unit` -/
structure Decl where
  prop : Text
  ws1 : Text
  ws2 : Text
  num : Text
  unit : Text
  deriving Repr, DecidableEq

def Decl.text (d : Decl) : Text := d.prop ++ (d.ws1 ++ 58 :: (d.ws2 ++ (d.num ++ d.unit)))

structure Decl.Ok (d : Decl) : Prop where
  prop : d.prop ∈ cssProps
  ws1 : d.ws1.all isWs = true
  ws2 : d.ws2.all isWs = true
  num : IsNumber d.num
  unit : d.unit ∈ cssUnits

/-- between two declarations: `ws* ; ws*` -/
def IsSep (t : Text) : Prop := ∃ a b, t = a ++ 59 :: b ∧ a.all isWs = true ∧ b.all isWs = true

/-- before the first and after the last declaration: `ws*` or `ws* ; ws*` -/
def IsEdge (t : Text) : Prop := t.all isWs = true ∨ IsSep t

/-- `d₁ sep d₂ sep … dₙ`, n ≥ 1 -/
inductive DeclsText : List Decl → Text → Prop
  | one (d : Decl) : d.Ok → DeclsText [d] d.text
  | cons (d : Decl) (sep : Text) (ds : List Decl) (t : Text) : d.Ok → IsSep sep → DeclsText ds t →
      DeclsText (d :: ds) (d.text ++ (sep ++ t))

inductive CssSpec : List Decl → Text → Prop
  | mk (lead t trail : Text) (ds : List Decl) : IsEdge lead → DeclsText ds t → IsEdge trail →
      CssSpec ds (lead ++ (t ++ trail))

/-- Python dict built by `ref_map[prop] = unit` in the order of the declarations -/
def declMap (ds : List Decl) : List (Text × Text) := ds.foldl (fun mp d => Dtd.dset mp d.prop d.unit) []

theorem isNumber_ne_nil {n : Text} (h : IsNumber n) : n ≠ [] := by
  cases h with
  | int ds h1 _ => exact h1
  | frac ds fs _ _ _ => simp

theorem isNumber_cases {n : Text} (h : IsNumber n) :
    (n ≠ [] ∧ n.all isDig = true) ∨
    ∃ ds fs, n = ds ++ 46 :: fs ∧ ds.all isDig = true ∧ fs ≠ [] ∧ fs.all isDig = true := by
  cases h with
  | int _ h1 h2 => exact Or.inl ⟨h1, h2⟩
  | frac ds fs h1 h2 h3 => exact Or.inr ⟨ds, fs, rfl, h1, h2, h3⟩

theorem isNumber_head {n : Text} (h : IsNumber n) (rest : Text) :
    ∀ c, (n ++ rest).head? = some c → isWs c = false := by
  intro c hc
  have key : isDig c = true ∨ c = 46 := by
    rcases isNumber_cases h with ⟨h1, h2⟩ | ⟨ds, fs, rfl, h1, _, _⟩
    · cases n with
      | nil => exact absurd rfl h1
      | cons x xs =>
        simp only [List.cons_append, List.head?_cons, Option.some.injEq] at hc
        subst hc
        simp only [List.all_cons, Bool.and_eq_true] at h2
        exact Or.inl h2.1
    · cases ds with
      | nil =>
        simp only [List.nil_append, List.cons_append, List.head?_cons, Option.some.injEq] at hc
        exact Or.inr hc.symm
      | cons x xs =>
        simp only [List.cons_append, List.head?_cons, Option.some.injEq] at hc
        subst hc
        simp only [List.all_cons, Bool.and_eq_true] at h1
        exact Or.inl h1.1
  rcases key with h | rfl
  · simp only [isDig, Bool.and_eq_true, decide_eq_true_eq] at h
    simp [isWs]; omega
  · decide

theorem mem_props_cons {t : Text} (h : t ∈ cssProps) : ∃ hd tl, t = hd :: tl ∧ isWs hd = false ∧ hd ≠ 59 := by
  have := List.all_eq_true.mp props_head t h
  cases t with
  | nil => simp at this
  | cons hd tl =>
    simp only [Bool.and_eq_true, Bool.not_eq_true', bne_iff_ne, ne_eq] at this
    exact ⟨hd, tl, rfl, this.1, this.2⟩

theorem mem_units_cons {t : Text} (h : t ∈ cssUnits) : ∃ hd tl, t = hd :: tl ∧ isDig hd = false ∧ hd ≠ 46 := by
  have := List.all_eq_true.mp units_head t h
  cases t with
  | nil => simp at this
  | cons hd tl =>
    simp only [Bool.and_eq_true, Bool.not_eq_true', bne_iff_ne, ne_eq] at this
    exact ⟨hd, tl, rfl, this.1, this.2⟩

theorem le_size_of_drop {s : Array Nat} {p : Nat} {c : Nat} {t : List Nat} (h : s.toList.drop p = c :: t) : p < s.size := by
  have := Txt.head_of_drop h
  exact getElem?_some_lt this

theorem prop_ends (s : Array Nat) (p : Nat) (caps) (t rest : Text) (ht : t ∈ cssProps) (h : s.toList.drop p = t ++ rest) :
    ends s propRe ⟨p, caps⟩ = [⟨p + t.length, caps⟩] :=
  ends_lang_det s propRe cssProps lang_prop props_pf t ht ⟨p, caps⟩ (textAt_of_drop s t rest p h)

theorem unit_ends (s : Array Nat) (p : Nat) (caps) (t rest : Text) (ht : t ∈ cssUnits) (h : s.toList.drop p = t ++ rest) :
    ends s unitRe ⟨p, caps⟩ = [⟨p + t.length, caps⟩] :=
  ends_lang_det s unitRe cssUnits lang_unit units_pf t ht ⟨p, caps⟩ (textAt_of_drop s t rest p h)

theorem prop_nil (s : Array Nat) (j : Nat) (caps)
    (h : s[j]? = none ∨ ∃ c, s[j]? = some c ∧ (isWs c = true ∨ c = 59)) : ends s propRe ⟨j, caps⟩ = [] := by
  apply ends_lang_nil s propRe cssProps lang_prop
  intro t ht
  obtain ⟨hd, tl, rfl, h1, h2⟩ := mem_props_cons ht
  rcases h with h | ⟨c, hc, hws⟩
  · exact textAt_none s j hd tl h
  · apply textAt_head_ne s j hd c tl hc
    rintro rfl
    rcases hws with hws | hws
    · rw [h1] at hws; cases hws
    · exact h2 hws

theorem unit_nil (s : Array Nat) (j c : Nat) (caps) (hc : s[j]? = some c) (h : isDig c = true ∨ c = 46) :
    ends s unitRe ⟨j, caps⟩ = [] := by
  apply ends_lang_nil s unitRe cssUnits lang_unit
  intro t ht
  obtain ⟨hd, tl, rfl, h1, h2⟩ := mem_units_cons ht
  apply textAt_head_ne s j hd c tl hc
  rintro rfl
  rcases h with h | h
  · rw [h1] at h; cases h
  · exact h2 h

theorem ends_ws (s : Array Nat) (st : St) : ends s (.cls false wsCls) st = stepIf s isWs st := by rw [ends_cls, inC_ws]

theorem ends_dig (s : Array Nat) (st : St) : ends s (.cls false Dtd.D) st = stepIf s isDig st := Dtd.ends_D s st

theorem num_nil (s : Array Nat) (j c : Nat) (caps) (hc : s[j]? = some c) (h1 : isDig c = false) (h2 : c ≠ 46) :
    ends s (.group 2 Dtd.numReG) ⟨j, caps⟩ = [] := by
  have hlt := getElem?_some_lt hc
  -- no digit here: `[0-9]{mn,}` makes no iteration
  have hx : ∀ d, (s.toList.drop j).head? = some d → isDig d = false := fun d hd => by
    rw [← Txt.head?_of_drop rfl, hc] at hd; cases hd; exact h1
  have hrep : ∀ mn, ends s (.rep mn none true (.cls false Dtd.D)) ⟨j, caps⟩ = if mn ≤ 0 then [⟨j, caps⟩] else [] := fun mn => by
    rw [ends_rep_at (ends_dig s) mn true caps (x := []) rfl (by simp) hx (Nat.le_of_lt hlt)]
    cases mn <;> simp [runSts]
  rw [ends_group, Dtd.numReG, ends_alt, ends_seq, hrep 1, hrep 0, if_neg (by omega), if_pos (Nat.le_refl _), List.flatMap_singleton,
    ends_seq, ends_lit_fail (by rw [hc]; simpa using h2)]
  rfl

/-- the number group, exactly: it takes the whole number if what follows it in the text is neither a digit nor `.`
    and what follows it in the regex has no outcome at a digit or `.` -/
theorem num_then {β} (s : Array Nat) (p : Nat) (caps) (num rest : Text) (hn : IsNumber num)
    (h : s.toList.drop p = num ++ rest) (hrest : ∀ c, rest.head? = some c → isDig c = false ∧ c ≠ 46) (F : St → List β)
    (hF : ∀ j c caps', s[j]? = some c → (isDig c = true ∨ c = 46) → F ⟨j, caps'⟩ = []) :
    (ends s (.group 2 Dtd.numReG) ⟨p, caps⟩).flatMap F = F ⟨p + num.length, (2, p, p + num.length) :: caps⟩ := by
  have hp : p ≤ s.size := by
    cases hnum : num with
    | nil => exact absurd hnum (isNumber_ne_nil hn)
    | cons x xs => rw [hnum] at h; exact Nat.le_of_lt (le_size_of_drop h)
  -- behind the group's bookkeeping `F` still has no outcome at a digit; nor has `\.[0-9]+` and what follows it
  have hF' : ∀ j c, s[j]? = some c → isDig c = true →
      (fun st' : St => F { st' with caps := (2, p, st'.pos) :: st'.caps }) ⟨j, caps⟩ = [] :=
    fun j c hc hd => hF j c _ hc (.inl hd)
  have hdot : ∀ j c, s[j]? = some c → isDig c = true →
      (fun st1 : St => (ends s (.lit 46) st1).flatMap fun st2 =>
        (ends s (.rep 1 none true (.cls false Dtd.D)) st2).flatMap
          fun st' : St => F { st' with caps := (2, p, st'.pos) :: st'.caps }) ⟨j, caps⟩ = [] := fun j c hc hd => by
    have : c ≠ 46 := by rintro rfl; revert hd; decide
    show (ends s (.lit 46) ⟨j, caps⟩).flatMap _ = []
    rw [ends_lit_fail (by rw [hc]; simpa using this)]; rfl
  simp only [ends_group, Dtd.numReG, ends_alt, ends_seq, List.map_append, List.flatMap_append, List.flatMap_map, List.flatMap_assoc]
  rcases isNumber_cases hn with ⟨hne, hds⟩ | ⟨ds, fs, rfl, hds, hne, hfs⟩
  · have hr : ∀ c, rest.head? = some c → isDig c = false := fun c hc => (hrest c hc).1
    rw [flatMap_rep_at (ends_dig s) 1 true caps h (List.all_eq_true.mp hds) hr hp _ hF',
      flatMap_rep_at (ends_dig s) 0 true caps h (List.all_eq_true.mp hds) hr hp _ hdot,
      if_pos (show 1 ≤ num.length from List.length_pos_iff.mpr hne), if_pos (Nat.zero_le _),
      ends_lit_at_fail (Txt.drop_add_of_append h) fun h46 => (hrest 46 h46).2 rfl]
    exact List.append_nil _
  · have h' : s.toList.drop p = ds ++ (46 :: fs ++ rest) := by rw [h]; simp
    have hr1 : ∀ c, (46 :: fs ++ rest).head? = some c → isDig c = false := fun c hc => by cases hc; decide
    have hd1 := Txt.drop_add_of_append h'
    have h46 : s[p + ds.length]? = some 46 := Txt.head_of_drop hd1
    have hd2 : s.toList.drop (p + ds.length + 1) = fs ++ rest := Txt.drop_succ_of_cons hd1
    rw [flatMap_rep_at (ends_dig s) 1 true caps h' (List.all_eq_true.mp hds) hr1 hp _ hF',
      flatMap_rep_at (ends_dig s) 0 true caps h' (List.all_eq_true.mp hds) hr1 hp _ hdot,
      if_pos (Nat.zero_le _), ends_lit_ok h46, List.flatMap_singleton,
      flatMap_rep_at (ends_dig s) 1 true caps hd2 (List.all_eq_true.mp hfs) (fun c hc => (hrest c hc).1)
        (getElem?_some_lt h46) _ hF', if_pos (show 1 ≤ fs.length from List.length_pos_iff.mpr hne)]
    -- the digits in front of the dot alone are no number here: `F` has no outcome at the dot
    have : (if 1 ≤ ds.length then F ⟨p + ds.length, (2, p, p + ds.length) :: caps⟩ else []) = [] := by
      split
      · exact hF _ 46 _ h46 (.inr rfl)
      · rfl
    rw [this, List.nil_append, List.length_append, List.length_cons]
    show F ⟨p + ds.length + 1 + fs.length, (2, p, p + ds.length + 1 + fs.length) :: caps⟩ = _
    rw [show p + ds.length + 1 + fs.length = p + (ds.length + (fs.length + 1)) by omega]

/-- the state of a match of `_css_spec` on the declaration `d` standing at `q` -/
def declSt (q : Nat) (d : Decl) : St :=
  ⟨q + d.text.length,
   [(3, q + (d.prop.length + d.ws1.length + 1 + d.ws2.length + d.num.length), q + d.text.length),
    (2, q + (d.prop.length + d.ws1.length + 1 + d.ws2.length),
        q + (d.prop.length + d.ws1.length + 1 + d.ws2.length + d.num.length)),
    (1, q, q + d.prop.length)]⟩

theorem decl_text_length (d : Decl) :
    d.text.length = d.prop.length + d.ws1.length + 1 + d.ws2.length + d.num.length + d.unit.length := by
  simp [Decl.text]; omega

theorem ws_then {β} (s : Array Nat) (p : Nat) (caps) (ws rest : Text) (hp : p ≤ s.size) (h : s.toList.drop p = ws ++ rest)
    (hws : ws.all isWs = true) (hrest : ∀ c, rest.head? = some c → isWs c = false) (F : St → List β)
    (hF : ∀ j c, s[j]? = some c → isWs c = true → F ⟨j, caps⟩ = []) :
    (ends s wsStar ⟨p, caps⟩).flatMap F = F ⟨p + ws.length, caps⟩ := by
  rw [wsStar, flatMap_rep_at (ends_ws s) 0 true caps h (List.all_eq_true.mp hws) hrest hp F hF, if_pos (Nat.zero_le _)]

theorem decl_match (s : Array Nat) (q : Nat) (d : Decl) (hd : d.Ok) (rest : Text)
    (h : s.toList.drop q = d.text ++ rest) : matchAt s Gen.Pat.CSSCheckMixin__css_spec q = some (declSt q d) := by
  obtain ⟨ph, ptl, hpe, _, _⟩ := mem_props_cons hd.prop
  obtain ⟨uh, utl, hue, hu1, hu2⟩ := mem_units_cons hd.unit
  have h1 : s.toList.drop q = d.prop ++ (d.ws1 ++ 58 :: (d.ws2 ++ (d.num ++ (d.unit ++ rest)))) := by
    rw [h]; simp [Decl.text]
  have h2 := Txt.drop_add_of_append h1
  have h3 : s.toList.drop (q + d.prop.length + d.ws1.length) = 58 :: (d.ws2 ++ (d.num ++ (d.unit ++ rest))) :=
    Txt.drop_add_of_append h2
  have h4 := Txt.drop_succ_of_cons h3
  have h5 := Txt.drop_add_of_append h4
  have h6 := Txt.drop_add_of_append h5
  have hlt : q + d.prop.length + d.ws1.length < s.size := le_size_of_drop h3
  rw [spec_shape, matchAt_eq_head, ends_alt, ends_seq, ends_group, prop_ends s q [] d.prop _ hd.prop h1, List.map_singleton,
    List.flatMap_singleton, ends_seq,
    -- the colon does not stand at white space
    ws_then s _ _ d.ws1 _ (by omega) h2 hd.ws1 (fun c hc => by cases hc; decide) _ fun j c hc hws => by
      have : c ≠ 58 := by rintro rfl; revert hws; decide
      rw [ends_seq, ends_lit_fail (by rw [hc]; simpa using this)]; rfl,
    ends_seq, ends_lit_at h3, List.flatMap_singleton, ends_seq,
    -- no number starts at white space
    ws_then s _ _ d.ws2 _ (by omega) h4 hd.ws2 (isNumber_head hd.num _) _ fun j c hc hws => by
      have hdg : isDig c = false := by
        simp only [isWs, Bool.or_eq_true, beq_iff_eq] at hws
        simp [isDig]; omega
      have h46 : c ≠ 46 := by rintro rfl; revert hws; decide
      rw [ends_seq, num_nil s j c _ hc hdg h46]; rfl,
    ends_seq,
    -- no unit starts at a digit or a dot
    num_then s _ _ d.num _ hd.num h5 (fun c hc => by rw [hue] at hc; cases hc; exact ⟨hu1, hu2⟩) _
      fun j c caps' hc hdc => by rw [ends_group, unit_nil s j c _ hc hdc]; rfl,
    ends_group, unit_ends s _ _ d.unit rest hd.unit h6]
  simp only [List.map_singleton, List.singleton_append, List.head?_cons, declSt, decl_text_length, Option.some.injEq,
    St.mk.injEq, List.cons.injEq, Prod.mk.injEq, and_true, true_and]
  omega

theorem decl_text_pos {d : Decl} (hd : d.Ok) : 0 < d.text.length := by
  obtain ⟨_, _, hpe, _, _⟩ := mem_props_cons hd.prop
  rw [decl_text_length, hpe]; simp; omega

theorem spec_none (s : Array Nat) (j c : Nat) (hc : s[j]? = some c) (h : isWs c = true ∨ c = 59) :
    matchAt s Gen.Pat.CSSCheckMixin__css_spec j = none := by
  have hlt := getElem?_some_lt hc
  rw [spec_shape, matchAt_eq_head, ends_alt, ends_seq, ends_group, prop_nil s j [] (Or.inr ⟨c, hc, h⟩)]
  simp [ends, Nat.ne_of_lt hlt]

theorem spec_end (s : Array Nat) : matchAt s Gen.Pat.CSSCheckMixin__css_spec s.size = some ⟨s.size, []⟩ := by
  rw [spec_shape, matchAt_eq_head, ends_alt, ends_seq, ends_group, prop_nil s s.size [] (Or.inl (by simp))]
  simp [ends]

theorem spec_end_ne (s : Array Nat) : matchAtNE s Gen.Pat.CSSCheckMixin__css_spec s.size = none := by
  rw [spec_shape, matchAtNE, m_eq_ends, ends_alt, ends_seq, ends_group, prop_nil s s.size [] (Or.inl (by simp))]
  simp [ends]

theorem m_eol_false (s : Array Nat) (st : St) (k : K) :
    m s (.eol false) st k =
      if st.pos == s.size || (st.pos + 1 == s.size && s[st.pos]? == some 10) then k st else none := by
  simp [m]

theorem ws_eol_head (s' : Array Nat) (p : Nat) (caps) (b : Text) (hp : p ≤ s'.size) (h : s'.toList.drop p = b)
    (hb : b.all isWs = true) : (ends s' (.seq wsStar (.eol false)) ⟨p, caps⟩).head? = some ⟨p + b.length, caps⟩ := by
  have hsz : p + b.length = s'.size := by have := Txt.length_of_drop h; omega
  rw [ends_seq, wsStar]
  refine head?_flatMap_rep_at (ends_ws s') 0 caps (rest := []) (by simpa using h) (List.all_eq_true.mp hb) (by simp) hp
    (Nat.zero_le _) ?_
  rw [ends_eol, if_pos (by simp [hsz])]
  rfl

theorem sep_semi (s' : Array Nat) (e : Nat) (a b : Text) (h : s'.toList.drop e = a ++ 59 :: b)
    (ha : a.all isWs = true) (hb : b.all isWs = true) :
    ∃ sp, matchAt s' Gen.Pat.CSSCheckMixin__css_sep e = some sp ∧ (sp.group Gen.Pat.CSSCheckMixin__css_sep_g_semi).isSome = true := by
  have h1 := Txt.drop_add_of_append h
  have h2 := Txt.drop_succ_of_cons h1
  have hlt : e + a.length < s'.size := le_size_of_drop h1
  refine ⟨⟨e + a.length + 1 + b.length, [(1, e + a.length, e + a.length + 1)]⟩, ?_, by
    simp [St.group, capOf, Gen.Pat.CSSCheckMixin__css_sep_g_semi]⟩
  rw [sep_shape, matchAt_eq_head, ends_seq, wsStar]
  -- the longest run of white space is tried first, and behind it `;`, white space and the end are found
  refine head?_flatMap_rep_at (ends_ws s') 0 [] h (List.all_eq_true.mp ha) (fun c hc => by cases hc; decide) (by omega)
    (Nat.zero_le _) ?_
  rw [ends_seq, ends_alt, ends_group, ends_lit_at h1, List.map_singleton, List.flatMap_append, List.flatMap_singleton,
    List.head?_append, ← wsStar, ws_eol_head s' _ _ b (by omega) h2 hb]
  rfl

theorem sep_ws_exact (s' : Array Nat) (e : Nat) (a : Text) (he : e ≤ s'.size) (h : s'.toList.drop e = a)
    (ha : a.all isWs = true) : matchAt s' Gen.Pat.CSSCheckMixin__css_sep e = some ⟨e + a.length, []⟩ := by
  have hsz : e + a.length = s'.size := by have := Txt.length_of_drop h; omega
  have hnil : s'.toList.drop (e + a.length) = [] := by rw [hsz]; simp
  rw [sep_shape, matchAt_eq_head, ends_seq, wsStar]
  refine head?_flatMap_rep_at (ends_ws s') 0 [] (rest := []) (by simpa using h) (List.all_eq_true.mp ha) (by simp) he
    (Nat.zero_le _) ?_
  -- no `;` at the end of the text; no more white space; `$`
  rw [ends_seq, ends_alt, ends_group, ends_lit_at_fail hnil (by simp), List.map_nil, List.nil_append, ends_eps,
    List.flatMap_singleton, ← wsStar, ws_eol_head s' _ _ [] (by omega) hnil rfl]
  rfl

theorem slice_drop (s : Array Nat) (a n : Nat) : Dtd.slice s a (a + n) = (s.toList.drop a).take n := by
  simp [Dtd.slice, List.extract_eq_take_drop]

theorem extract_drop (s : Array Nat) (q e : Nat) (g rest : Text) (h : s.toList.drop e = g ++ rest)
    (hq : q = e + g.length) : (s.extract 0 q).toList.drop e = g := by
  have : (s.extract 0 q).toList = s.toList.take q := by simp [List.extract_eq_take_drop]
  rw [this, List.drop_take, h, hq]
  simp

def mapOr (m : Option (List (Text × Text))) : List (Text × Text) := match m with | some mp => mp | none => []

/-- what stands between the end of the previous declaration (`e`) and position `q` is acceptable; first disjunct:
    `_css_sep` is not consulted before a declaration that starts the text -/
def GapOk (s : Array Nat) (e q : Nat) : Prop :=
  (q = e ∧ e = 0) ∨
  ∃ sp, matchAt (s.extract 0 q) Gen.Pat.CSSCheckMixin__css_sep e = some sp ∧ e < q ∧
    (e = 0 ∨ (sp.group Gen.Pat.CSSCheckMixin__css_sep_g_semi).isSome = true)

def foldDecls (mp : List (Text × Text)) (ds : List Decl) : List (Text × Text) :=
  ds.foldl (fun mp d => Dtd.dset mp d.prop d.unit) mp

theorem gap_of_sep (s : Array Nat) (e : Nat) (g rest : Text) (h : s.toList.drop e = g ++ rest) (hg : IsSep g) :
    GapOk s e (e + g.length) := by
  obtain ⟨a, b, rfl, ha, hb⟩ := hg
  right
  obtain ⟨sp, h1, h2⟩ := sep_semi (s.extract 0 (e + (a ++ 59 :: b).length)) e a b (extract_drop s _ e _ rest h rfl) ha hb
  exact ⟨sp, h1, by simp; omega, Or.inr h2⟩

theorem gap_of_edge0 (s : Array Nat) (g rest : Text) (h : s.toList.drop 0 = g ++ rest) (hg : IsEdge g) :
    GapOk s 0 (0 + g.length) := by
  by_cases hnil : g = []
  · subst hnil; left; simp
  · right
    have hpos : 0 < g.length := List.length_pos_iff.mpr hnil
    rcases hg with hg | hg
    · exact ⟨_, sep_ws_exact (s.extract 0 (0 + g.length)) 0 g (by omega) (extract_drop s _ 0 _ rest h rfl) hg, by omega,
        Or.inl rfl⟩
    · obtain ⟨sp, h1, hlt, _⟩ := (gap_of_sep s 0 g rest h hg).resolve_left (by omega)
      exact ⟨sp, h1, hlt, Or.inl rfl⟩

end C08C
