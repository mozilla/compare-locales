/-
`ObserverList.serializeDetails` for the text renderings of C10: the rendered text is the "\n"-join of the lines of all rows of
`getContent()` (`serializeDetails_lines`); after a history every stored list is non-empty, and renderable exactly when the
displayed data is textual (`history_good`, `history_bad`); the (file, detail) pairs in display order only shrink when quiet
is raised (`displayed_mono`).
-/
import CLModel.Compare.Tree
import CLModel.Compare.Observer
import CLModel.Proofs.C10Tree
import CLModel.Proofs.C10Obs
import CLModel.Proofs.C10TOrder
import CLModel.Proofs.C10TContent
namespace C10T
open TreeM ObsM

/-- The text of a string literal, by rewriting (`rw` unifies the literal with `String.ofList _`) before any
    evaluation: evaluating `"…".toList` would decode the literal's UTF-8 bytes in the kernel, character by character. -/
theorem _root_.ObsM.ofString_ofList (l : List Char) : ofString (String.ofList l) = l.map Char.toNat := by
  rw [ofString, String.toList_ofList]

theorem _root_.ObsM.ofString_append (a b : String) : ofString (a ++ b) = ofString a ++ ofString b := by
  rw [ofString, String.toList_append, List.map_append]; rfl

/-- `serializeDetails` can render the item: it concatenates `str`s, so `item["error"]`/`item["warning"]` must be
    a `str`, `item["missingEntity"]`/`item["obsoleteEntity"]` a `str` or a tuple (PO keys) -/
def renderable (it : Detail) : Bool :=
  match it.1 with
  | .error | .warning => (dataText it.2).isSome
  | .missingEntity | .obsoleteEntity => (entityName it.2).isSome
  | _ => true

/-- the text of a details item after the indentation -/
def detailText : Detail → Text
  | (.error, .data (.str t)) => ofString "ERROR: " ++ t
  | (.warning, .data (.str t)) => ofString "WARNING: " ++ t
  | (.missingEntity, .data (.str t)) => ofString "+" ++ t
  | (.missingEntity, .data (.tuple ps)) => ofString "+" ++ joinBar (ps.filterMap id)
  | (.obsoleteEntity, .data (.str t)) => ofString "-" ++ t
  | (.obsoleteEntity, .data (.tuple ps)) => ofString "-" ++ joinBar (ps.filterMap id)
  | (.missingFile, _) => ofString "// add and localize this file"
  | (.obsoleteFile, _) => ofString "// remove this file"
  | _ => []

theorem itemLine_eq (indent : Text) (it : Detail) (ho : it.1 ≠ .other) :
    itemLine indent it = some (if renderable it then some (indent ++ detailText it) else none) := by
  obtain ⟨cat, v⟩ := it
  cases cat <;> first
    | exact absurd rfl ho
    | (cases v with
       | ret r => simp [itemLine, renderable, detailText, dataText, entityName]
       | data d => cases d <;> simp [itemLine, renderable, detailText, dataText, entityName])

/-- the lines of one tuple yielded by `getContent()`: the key, "/"-joined, indented by two spaces per level;
    one line per details item, indented one level more than the level of the value -/
def lineOf : Content Detail → List Text
  | .key d k => [spaces (2 * d) ++ joinSlash k]
  | .value d items => items.map (fun it => spaces (2 * (d + 1)) ++ detailText it)

theorem mapM_ok {α β ε : Type} {f : α → Except ε β} {g : α → β} : ∀ (l : List α), (∀ a ∈ l, f a = .ok (g a)) →
    l.mapM f = .ok (l.map g)
  | [], _ => rfl
  | a :: l, h => by
    rw [List.mapM_cons, h a (by simp), mapM_ok l (fun x hx => h x (by simp [hx]))]
    rfl

theorem mapM_error {α β ε : Type} {f : α → Except ε β} {e : ε} : ∀ (l : List α),
    (∀ a ∈ l, (∃ b, f a = .ok b) ∨ f a = .error e) → (∃ a ∈ l, f a = .error e) → l.mapM f = .error e
  | [], _, h => by obtain ⟨a, ha, _⟩ := h; cases ha
  | a :: l, hall, hex => by
    rw [List.mapM_cons]
    rcases hall a (by simp) with ⟨b, hb⟩ | he
    · rw [hb]
      have : ∃ x ∈ l, f x = .error e := by
        obtain ⟨x, hx, hxe⟩ := hex
        simp only [List.mem_cons] at hx
        rcases hx with rfl | hx
        · rw [hb] at hxe; cases hxe
        · exact ⟨x, hx, hxe⟩
      rw [mapM_error l (fun x hx => hall x (by simp [hx])) this]
      rfl
    · rw [he]; rfl

theorem tostr_key (d : Nat) (k : Key) : tostr (.key d k) = .ok (joinNl (lineOf (.key d k))) := rfl

theorem tostr_value (d : Nat) (items : List Detail)
    (hgood : ∀ it ∈ items, it.1 ≠ .other ∧ renderable it = true) :
    tostr (.value d items) = .ok (joinNl (lineOf (.value d items))) := by
  have hfm : items.filterMap (itemLine (spaces (2 * (d + 1))))
      = items.map (fun it => some (spaces (2 * (d + 1)) ++ detailText it)) := by
    induction items with
    | nil => rfl
    | cons it rest ih =>
      have h1 := hgood it (by simp)
      rw [List.filterMap_cons, itemLine_eq _ it h1.1, h1.2]
      simp only [↓reduceIte, List.map_cons]
      rw [ih (fun x hx => hgood x (by simp [hx]))]
  simp only [tostr, hfm, bind, Except.bind]
  rw [mapM_ok (g := fun l : Option Text => l.getD []) _ (by
    intro a ha
    simp only [List.mem_map] at ha
    obtain ⟨it, _, rfl⟩ := ha
    rfl)]
  simp only [lineOf, pure, Except.pure, List.map_map]
  rfl

theorem tostr_value_error (d : Nat) (items : List Detail)
    (hbad : ∃ it ∈ items, it.1 ≠ .other ∧ renderable it = false) :
    tostr (.value d items) = .error .typeError := by
  simp only [tostr, bind, Except.bind]
  rw [mapM_error (e := PyErr.typeError)]
  · intro a _
    cases a with
    | none => exact Or.inr rfl
    | some t => exact Or.inl ⟨t, rfl⟩
  · obtain ⟨it, hit, ho, hr⟩ := hbad
    refine ⟨none, ?_, rfl⟩
    simp only [List.mem_filterMap]
    exact ⟨it, hit, by rw [itemLine_eq _ it ho, hr]; rfl⟩

theorem joinNl_isJoin : IsJoin 10 joinNl := ⟨rfl, fun _ => rfl, fun _ _ _ => rfl⟩

/-- every stored list is non-empty and consists of items `serializeDetails` has a branch and a `str` for -/
def GoodRows (c : List (Content Detail)) : Prop :=
  ∀ d items, Content.value d items ∈ c → items ≠ [] ∧ ∀ it ∈ items, it.1 ≠ .other ∧ renderable it = true

theorem serializeDetails_lines (o : Obs) (hgood : GoodRows (getContent o.details 0)) :
    serializeDetails o = .ok (joinNl ((getContent o.details 0).flatMap lineOf)) := by
  simp only [serializeDetails, bind, Except.bind]
  rw [mapM_ok (g := fun row => joinNl (lineOf row))]
  · simp only [pure, Except.pure]
    have e : (getContent o.details 0).map (fun row => joinNl (lineOf row))
        = ((getContent o.details 0).map lineOf).map joinNl := by rw [List.map_map]; rfl
    rw [e, joinNl_isJoin.map_join, List.flatMap_def]
    intro l hl
    simp only [List.mem_map] at hl
    obtain ⟨row, hrow, rfl⟩ := hl
    cases row with
    | key d k => simp [lineOf]
    | value d items =>
      have := (hgood d items hrow).1
      simpa [lineOf] using this
  · intro row hrow
    cases row with
    | key d k => exact tostr_key d k
    | value d items => exact tostr_value d items (hgood d items hrow).2

theorem serializeDetails_error (o : Obs)
    (hbad : ∃ d items, Content.value d items ∈ getContent o.details 0 ∧ ∃ it ∈ items, it.1 ≠ .other ∧ renderable it = false) :
    serializeDetails o = .error .typeError := by
  simp only [serializeDetails, bind, Except.bind]
  rw [mapM_error (e := PyErr.typeError)]
  · intro row _
    cases row with
    | key d k => exact Or.inl ⟨_, tostr_key d k⟩
    | value d items =>
      by_cases hb : ∃ it ∈ items, it.1 ≠ .other ∧ renderable it = false
      · exact Or.inr (tostr_value_error d items hb)
      · left
        simp only [tostr, bind, Except.bind]
        rw [mapM_ok (g := fun a : Option Text => a.getD [])]
        · exact ⟨_, rfl⟩
        · intro a ha
          simp only [List.mem_filterMap] at ha
          obtain ⟨it, hit, hline⟩ := ha
          by_cases ho : it.1 = .other
          · obtain ⟨cat, v⟩ := it
            simp only at ho
            subst ho
            simp [itemLine] at hline
          · rw [itemLine_eq _ it ho] at hline
            have hr : renderable it = true := by
              cases hrr : renderable it with
              | true => rfl
              | false => exact absurd ⟨it, hit, ho, hrr⟩ hb
            rw [hr] at hline
            simp only [↓reduceIte, Option.some.injEq] at hline
            subst hline
            rfl
  · obtain ⟨d, items, hrow, hb⟩ := hbad
    exact ⟨_, hrow, tostr_value_error d items hb⟩

theorem outlineAux_value {V : Type} : ∀ (c : List (Content V)) (st : List Key) (v : List V),
    (∃ ks, (ks, v) ∈ outlineAux st c) ↔ ∃ d, Content.value d v ∈ c
  | [], _, _ => by simp [outlineAux]
  | .key d k :: rest, st, v => by
    simp only [outlineAux, outlineAux_value rest _ v, List.mem_cons, reduceCtorEq, false_or]
  | .value d w :: rest, st, v => by
    have ih := outlineAux_value rest st v
    simp only [outlineAux, List.mem_cons, Prod.mk.injEq, Content.value.injEq, exists_or, ih]
    constructor
    · rintro (⟨_, _, rfl⟩ | h)
      · exact Or.inl ⟨d, rfl, rfl⟩
      · exact Or.inr h
    · rintro (⟨_, _, rfl⟩ | h)
      · exact Or.inl ⟨_, rfl, rfl⟩
      · exact Or.inr h

theorem getContent_values {V : Type} (t : Tree V) {d : Nat} {v : List V} (h : Content.value d v ∈ getContent t 0) :
    ∃ p, (p, v) ∈ flatten t := by
  obtain ⟨ks, hks⟩ := (outlineAux_value _ [] v).2 ⟨d, h⟩
  rw [← outline, outline_getContent] at hks
  exact ⟨ks.flatten, (rows_perm t).mem_iff.1 (List.mem_map.2 ⟨_, hks, rfl⟩)⟩

/-- the callers' contract on `data`: what `notify` gets for "error"/"warning" is a `str` (a message), for
    "missingEntity"/"obsoleteEntity" a `str` or a tuple (an entity key) -/
def TextData (h : List Ev) : Prop :=
  ∀ cat f d, Ev.notify cat f d ∈ h → renderable (cat, .data d) = true

theorem TextData.filter {h : List Ev} (htd : TextData h) (p : Ev → Bool) : TextData (h.filter p) :=
  fun cat f d hm => htd cat f d (List.mem_filter.1 hm).1

theorem detailsSpec_item {q flt h p item} (hm : item ∈ detailsSpec q flt h p) :
    ∃ cat f d, Ev.notify cat f d ∈ h ∧ rvOf flt cat f d ≠ .ignore ∧ shows q cat = true ∧
      item = detailOf cat (rvOf flt cat f d) d := by
  simp only [detailsSpec, List.mem_filterMap] at hm
  obtain ⟨ev, hev, hd⟩ := hm
  cases ev with
  | stats f st => simp [evDetail] at hd
  | notify cat f d =>
    simp only [evDetail] at hd
    split at hd
    · rename_i hc
      injection hd with hd
      exact ⟨cat, f, d, hev, hc.1, hc.2.1, hd.symm⟩
    · cases hd

/-- the exact condition: the data of every notification that is displayed (not ignored by the filter, not hidden
    by the quiet level) is textual -/
def ShownText (q : Nat) (flt : Option Filter) (h : List Ev) : Prop :=
  ∀ cat f d, Ev.notify cat f d ∈ h → rvOf flt cat f d ≠ .ignore → shows q cat = true →
    renderable (cat, .data d) = true

theorem TextData.shown {h : List Ev} (htd : TextData h) (q : Nat) (flt : Option Filter) : ShownText q flt h :=
  fun cat f d hev _ _ => htd cat f d hev

theorem detailOf_fst (cat : Cat) (rv : Ret) (d : Data) : (detailOf cat rv d).1 = cat := by
  unfold detailOf
  split <;> rfl

/-- a file category stores the filter's answer, which always renders; the others store the data itself -/
theorem renderable_detailOf {cat : Cat} {d : Data} (rv : Ret) (h : renderable (cat, .data d) = true) :
    renderable (detailOf cat rv d) = true := by
  cases cat with
  | missingFile | obsoleteFile | other => rfl
  | error | warning | missingEntity | obsoleteEntity => exact h

theorem history_good {q : Nat} {flt : Option Filter} {h : List Ev} {o' : Obs}
    (hr : (Obs.init q flt).run h = .ok o') (htd : ShownText q flt h) : GoodRows (getContent o'.details 0) := by
  intro d items hrow
  obtain ⟨hinv, _, _⟩ := Obs.run_details h (Obs.init q flt) o' inv_empty hr
  obtain ⟨p, hp⟩ := getContent_values o'.details hrow
  have hf := (mem_flatten_iff_find o'.details hinv p items).1 hp
  obtain ⟨rfl, hne⟩ := (init_find hr p items).1 hf
  refine ⟨hne, fun it hit => ?_⟩
  obtain ⟨cat, f, dat, hev, hni, hsh, rfl⟩ := detailsSpec_item hit
  refine ⟨?_, renderable_detailOf _ (htd cat f dat hev hni hsh)⟩
  rw [detailOf_fst]
  rintro rfl
  cases hsh

/-- the `(path, list)` pairs in display order: every ("value", v) row with the concatenated keys above it -/
def shownRows (o : Obs) : List (List Part × List Detail) :=
  (outline (getContent o.details 0)).map (fun r => (r.1.flatten, r.2))

/-- the `(file path, detail line without indentation)` pairs in display order -/
def displayed (o : Obs) : List (Text × Text) :=
  (expand (shownRows o)).map (fun x => (joinSlash x.1, detailText x.2))

theorem shownRows_mem (o : Obs) (hinv : Inv o.details) (p : List Part) (l : List Detail) :
    (p, l) ∈ shownRows o ↔ find o.details p = some l := by
  unfold shownRows
  rw [outline_getContent, (rows_perm o.details).mem_iff]
  exact mem_flatten_iff_find o.details hinv p l

theorem shownRows_sorted (o : Obs) (hinv : Inv o.details) : ((shownRows o).map (·.1)).Pairwise pathLt := by
  unfold shownRows
  rw [outline_getContent, List.map_map]
  exact rows_sorted o.details hinv

theorem sublist_ne_nil {α : Type} {a b : List α} (h : a.Sublist b) (ha : a ≠ []) : b ≠ [] := by
  intro e; subst e; exact ha (List.sublist_nil.1 h)

theorem shownRows_mono {q q' : Nat} (hq : q ≤ q') {flt : Option Filter} {h : List Ev} {o1 o2 : Obs}
    (h1 : (Obs.init q flt).run h = .ok o1) (h2 : (Obs.init q' flt).run h = .ok o2) :
    ∀ b ∈ shownRows o2, ∃ a ∈ shownRows o1, a.1 = b.1 ∧ b.2.Sublist a.2 := by
  obtain ⟨i1, _, _⟩ := Obs.run_details h (Obs.init q flt) o1 inv_empty h1
  obtain ⟨i2, _, _⟩ := Obs.run_details h (Obs.init q' flt) o2 inv_empty h2
  intro b hb
  obtain ⟨p, l⟩ := b
  have hf2 := (shownRows_mem o2 i2 p l).1 hb
  obtain ⟨rfl, hne⟩ := (init_find h2 p l).1 hf2
  have hmono := detailsSpec_mono hq flt h p
  exact ⟨(p, detailsSpec q flt h p), (shownRows_mem o1 i1 _ _).2 ((init_find h1 p _).2 ⟨rfl, sublist_ne_nil hmono hne⟩),
    rfl, hmono⟩

theorem displayed_mono {q q' : Nat} (hq : q ≤ q') {flt : Option Filter} {h : List Ev} {o1 o2 : Obs}
    (h1 : (Obs.init q flt).run h = .ok o1) (h2 : (Obs.init q' flt).run h = .ok o2) :
    (displayed o2).Sublist (displayed o1) ∧
      ((shownRows o2).map (·.1)).Sublist ((shownRows o1).map (·.1)) := by
  obtain ⟨i1, _, _⟩ := Obs.run_details h (Obs.init q flt) o1 inv_empty h1
  obtain ⟨i2, _, _⟩ := Obs.run_details h (Obs.init q' flt) o2 inv_empty h2
  have hm := shownRows_mono hq h1 h2
  have s1 := shownRows_sorted o1 i1
  have s2 := shownRows_sorted o2 i2
  constructor
  · exact (expand_sublist pathLt pathLt_irrefl (fun a b => pathLt_asymm) _ _ s1 s2 hm).map _
  · -- the same with one unit item per file
    have key := expand_sublist (δ := Unit) pathLt pathLt_irrefl (fun a b => pathLt_asymm)
      ((shownRows o1).map (fun r => (r.1, [()]))) ((shownRows o2).map (fun r => (r.1, [()])))
      (by rw [List.map_map]; exact s1) (by rw [List.map_map]; exact s2)
      (by
        intro b hb
        simp only [List.mem_map] at hb
        obtain ⟨b0, hb0, rfl⟩ := hb
        obtain ⟨a0, ha0, e, _⟩ := hm b0 hb0
        exact ⟨(a0.1, [()]), List.mem_map.2 ⟨a0, ha0, rfl⟩, e, List.Sublist.refl _⟩)
    have ex : ∀ l : List (List Part × List Detail),
        (expand (l.map (fun r => (r.1, [()])))).map (·.1) = l.map (·.1) := by
      intro l
      induction l with
      | nil => rfl
      | cons a l ih =>
        simp only [expand, List.map_cons, List.flatMap_cons, List.map_append, List.map_nil] at ih ⊢
        rw [ih]; rfl
    have := key.map (·.1)
    rw [ex, ex] at this
    exact this

theorem history_rows {q : Nat} {flt : Option Filter} {h : List Ev} {o' : Obs}
    (hr : (Obs.init q flt).run h = .ok o') (p : List Part) (l : List Detail) :
    (∃ ks, (ks, l) ∈ outline (getContent o'.details 0) ∧ ks.flatten = p) ↔
      (l = detailsSpec q flt h p ∧ l ≠ []) := by
  obtain ⟨hinv, _, _⟩ := Obs.run_details h (Obs.init q flt) o' inv_empty hr
  have hm := shownRows_mem o' hinv p l
  have hex : (∃ ks, (ks, l) ∈ outline (getContent o'.details 0) ∧ ks.flatten = p) ↔ (p, l) ∈ shownRows o' := by
    unfold shownRows
    simp only [List.mem_map, Prod.mk.injEq]
    constructor
    · rintro ⟨ks, hks, rfl⟩; exact ⟨(ks, l), hks, rfl, rfl⟩
    · rintro ⟨r, hr, h1, h2⟩
      obtain ⟨ks, l'⟩ := r
      simp only at h1 h2
      subst h2
      exact ⟨ks, hr, h1⟩
  rw [hex, hm, init_find hr]

theorem history_bad {q : Nat} {flt : Option Filter} {h : List Ev} {o' : Obs}
    (hr : (Obs.init q flt).run h = .ok o') (hm : ∀ ev ∈ h, Modelled ev.file) (hbad : ¬ ShownText q flt h) :
    serializeDetails o' = .error .typeError := by
  have hex : ∃ cat f d, Ev.notify cat f d ∈ h ∧ rvOf flt cat f d ≠ .ignore ∧ shows q cat = true ∧
      renderable (cat, .data d) = false := by
    apply Classical.byContradiction
    intro hne
    apply hbad
    intro cat f d hev hni hsh
    cases hr' : renderable (cat, .data d) with
    | true => rfl
    | false => exact absurd ⟨cat, f, d, hev, hni, hsh, hr'⟩ hne
  obtain ⟨cat, f, d, hev, hni, hsh, hren⟩ := hex
  obtain ⟨p, hp, _, _⟩ := partsOf_ok (hm _ hev)
  simp only [Ev.file] at hp
  have hnf : cat.isFile = false := by
    clear hev hsh hni hp hm hr
    cases cat <;> simp_all [renderable, Cat.isFile]
  have hitem : (cat, DVal.data d) ∈ detailsSpec q flt h p := by
    simp only [detailsSpec, List.mem_filterMap]
    refine ⟨.notify cat f d, hev, ?_⟩
    have hhp : hasParts f p = true := by simp [hasParts, hp]
    simp [evDetail, hni, hsh, hhp, detailOf, hnf]
  have hne : ¬ (detailsSpec q flt h p).isEmpty = true := by
    intro e
    rw [List.isEmpty_iff.1 e] at hitem
    cases hitem
  have hrow := (history_rows hr p (detailsSpec q flt h p)).2 ⟨rfl, fun e => hne (by rw [e]; rfl)⟩
  obtain ⟨ks, hks, _⟩ := hrow
  obtain ⟨dd, hdd⟩ := (outlineAux_value _ _ _).1 ⟨ks, hks⟩
  apply serializeDetails_error
  refine ⟨dd, _, hdd, (cat, .data d), hitem, ?_, hren⟩
  intro e
  simp only at e
  subst e
  simp [shows] at hsh

end C10T
