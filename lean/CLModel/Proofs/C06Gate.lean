/-
C06: the numeric test of the plural gate in closed form.
`not re.match(r"\d+$", refValue)`: the regex matches exactly the values that consist of one or more Unicode
decimal digits (`\d` of a `str` pattern = category Nd, table `Gen.Unicode.digitRanges`), optionally followed by
ONE final newline (`$` without MULTILINE matches before a trailing `\n`).
Exact evaluation of the backtracking matcher (greedy `\d+`, then `$`), no hypothesis on the value.
-/
import CLModel.Proofs.RxStar
import CLModel.Gen.Regexes
namespace C06Gate
open Rx

abbrev Text := List Nat

def UDig (c : Nat) : Prop := Rx.isDigit c = true

instance (c : Nat) : Decidable (UDig c) := by unfold UDig; infer_instance

def reUD : Re := .cls false [.digit]
def reNumeric : Re := .seq (.rep 1 none true reUD) (.eol false)

theorem gate_re_eq : Gen.Pat.checks_properties_PropertiesChecker_check_0 = reNumeric := rfl

def NumericValue (v : Text) : Prop := ∃ ds, ds ≠ [] ∧ (∀ d ∈ ds, UDig d) ∧ (v = ds ∨ v = ds ++ [10])

theorem newline_not_digit : ¬ UDig 10 := by decide

theorem ends_ud (s : Array Nat) (st : St) : ends s reUD st = stepIf s isDigit st := by
  rw [reUD, ends_cls, show inC false [.digit] = isDigit from funext fun c => by simp [inC, ClsItem.has]]

/-- **`re.match(r"\d+$", v)` succeeds iff `v` is digits, optionally followed by one final newline** -/
theorem numeric_iff (v : Text) : (matchAt v.toArray reNumeric 0).isSome = true ↔ NumericValue v := by
  -- `$` has no outcome where a digit stands, so `\d+` takes the whole run `ds` and `$` decides behind it
  rw [matchAt_eq_head, reNumeric, ends_rep_then (ends_ud _) 1 true (Nat.zero_le _) [] fun j d hd hdig =>
    ends_eol_fail false hd (by rintro rfl; exact newline_not_digit hdig) []]
  simp only [List.drop_zero, Nat.zero_add]
  have hsplit := List.takeWhile_append_dropWhile (p := isDigit) (l := v)
  generalize hds : v.takeWhile isDigit = ds at hsplit
  generalize hr : v.dropWhile isDigit = r at hsplit
  have hall : ∀ d ∈ ds, UDig d := fun d hd => List.all_eq_true.mp (hds ▸ List.all_takeWhile) d hd
  have hhead : ∀ c, r.head? = some c → isDigit c = false := fun c hc => by
    have := List.head?_dropWhile_not isDigit v
    rw [hr, hc] at this; simpa using this
  subst hsplit
  constructor
  · intro h
    split at h
    · rename_i h1
      refine ⟨ds, fun e => by simp [e] at h1, hall, ?_⟩
      rw [ends_eol] at h
      split at h
      · rename_i hc
        simp only [List.size_toArray, List.length_append, Bool.or_eq_true, beq_iff_eq, Bool.and_eq_true, Bool.not_false,
          Bool.true_and, Bool.false_and, Bool.or_false] at hc
        rcases hc with hc | ⟨hc, h10⟩
        · left; rw [List.eq_nil_of_length_eq_zero (by omega : r.length = 0), List.append_nil]
        · right
          obtain ⟨c, rfl⟩ : ∃ c, r = [c] := by
            match r, hc with
            | [c], _ => exact ⟨c, rfl⟩
            | [], hc => simp at hc
            | _ :: _ :: _, hc => simp at hc
          simpa using h10
      · cases h
    · cases h
  · rintro ⟨ds', hne, hall', hv⟩
    have h10 : ∀ c, ([10] : Text).head? = some c → isDigit c = false := by
      intro c hc; cases hc; exact Bool.eq_false_iff.mpr newline_not_digit
    have hr' : ds = ds' ∧ (r = [] ∨ r = [10]) := by
      rcases hv with hv | hv
      · have e : ds = ds' := by
          rw [← hds, hv, ← List.append_nil ds', Txt.takeWhile_append_stop hall' (by simp), List.append_nil]
        exact ⟨e, .inl (List.append_cancel_left (as := ds') (by simpa [e] using hv))⟩
      · have e : ds = ds' := by rw [← hds, hv, Txt.takeWhile_append_stop hall' h10]
        exact ⟨e, .inr (List.append_cancel_left (as := ds') (by simpa [e] using hv))⟩
    obtain ⟨rfl, hr'⟩ := hr'
    rw [if_pos (by cases ds with | nil => exact absurd rfl hne | cons _ _ => simp), ends_eol]
    rcases hr' with rfl | rfl <;> simp

end C06Gate
