/- C02, PO: the one-record text `msgid "K"⏎msgstr "V"⏎` as a record of the full grammar (one blank before each quote, plain
   characters only, one fragment per string list). -/
import CLModel.Proofs.C02PPo
namespace C02X
open P C02P

/-- `msgid "K"⏎msgstr "V"⏎` -/
def printPoRec (K V : List Nat) : List Nat :=
  kwMsgid ++ (32 :: 34 :: (K ++ (34 :: 10 :: (kwMsgstr ++ (32 :: 34 :: (V ++ [34, 10]))))))

/-- `msgid "` is 7 characters, `"⏎msgstr "` 10, so: the key span `msgid "K"` ends at `+ klen + 8`, `msgstr` starts at `+ klen + 9`,
    V at `+ klen + 17`, and the entity ends behind the closing quote at `+ klen + vlen + 18` -/
def poEntity (off klen vlen : Nat) : Entry :=
  { kind := .entity, full := off, s := off, e := off + klen + vlen + 18, ks := (off : Nat), ke := (off + klen + 8 : Nat),
    vs := (off + klen + 9 : Nat), ve := (off + klen + vlen + 18 : Nat), pc := none }

def poPartsOf (off klen vlen : Nat) : PoParts :=
  { e := off + klen + vlen + 18, idS := off, idE := off + klen + 8, valS := off + klen + 9, msgctxt := none,
    msgid := [(off + 7, off + 7 + klen)], msgstr := [(off + klen + 17, off + klen + 17 + vlen)] }

def expectedPoView (K V : List Nat) : Option EntView :=
  some { key := K, ctxt := some none, raw := kwMsgstr ++ (32 :: 34 :: (V ++ [34])),
         val := some (if V.isEmpty then K else V), comment := none }

theorem poRender_plain (t : List Nat) : poRender (t.map .plain) = t := by
  induction t with
  | nil => rfl
  | cons c t ih => rw [List.map_cons, poRender_cons, ih]; rfl

theorem poOnePass_plain (t : List Nat) : poOnePass (t.map .plain) = t := by
  induction t with
  | nil => rfl
  | cons c t ih => rw [List.map_cons, poOnePass, List.map_cons, ← poOnePass, ih]; rfl

def poRecFull (K V : List Nat) : PoRec :=
  { comment := [], cgap := [], ctxt := none, msgid := [⟨[32], K.map .plain⟩], sep := [10], msgstr := [⟨[32], V.map .plain⟩],
    gap := [10] }

theorem plainFrag_good {t : List Nat} (ht : ∀ c ∈ t, c ≠ 34 ∧ c ≠ 10 ∧ c ≠ 92) :
    ∀ f ∈ [(⟨[32], t.map .plain⟩ : PoFrag)], f.Good := by
  intro f hf
  obtain rfl := List.mem_singleton.mp hf
  refine ⟨fun c hc => by obtain rfl := List.mem_singleton.mp hc; rfl, fun tk htk => ?_⟩
  obtain ⟨c, hc, rfl⟩ := List.mem_map.mp htk
  simp [PoTok.wf, ht c hc]

theorem po_record_plain (s : Array Nat) (off : Nat) (K V rest : List Nat)
    (hK : ∀ c ∈ K, c ≠ 34 ∧ c ≠ 10 ∧ c ≠ 92) (hV : ∀ c ∈ V, c ≠ 34 ∧ c ≠ 10 ∧ c ≠ 92)
    (hrest : ∀ c, rest.head? = some c → c ≠ 32 ∧ c ≠ 9 ∧ c ≠ 13 ∧ c ≠ 10 ∧ c ≠ 34)
    (h0 : s.toList.drop off = printPoRec K V ++ rest) :
    poGetNext s off = poEntity off K.length V.length ∧ poCreate s off = some (poPartsOf off K.length V.length) ∧
      poEval s (poPartsOf off K.length V.length).msgid = some K ∧ poEval s (poPartsOf off K.length V.length).msgstr = some V ∧
      entView .po s (poEntity off K.length V.length) = expectedPoView K V := by
  have hg : (poRecFull K V).Good :=
    { comment := by simp [poRecFull], cgap := by simp [poRecFull], cgap_nl := by simp [poRecFull], cgap_nil := fun _ => rfl,
      ctxt := by simp [poRecFull], msgid_ne := by simp [poRecFull], msgid := plainFrag_good hK,
      sep := fun c hc => by obtain rfl := List.mem_singleton.mp hc; rfl,
      msgstr_ne := by simp [poRecFull], msgstr := plainFrag_good hV,
      gap := fun c hc => by obtain rfl := List.mem_singleton.mp hc; rfl }
  have hfo : PoFollow rest := fun c hc => by have := hrest c hc; simp [isWs, this]
  have h : At s off ((poRecFull K V).print ++ rest) := by
    rw [At, h0]
    simp [poRecFull, PoRec.print, PoRec.body, PoRec.ctxtText, PoFrag.print, poRender_plain, printPoRec]
  have h3 : At s off ((poRecFull K V).body ++ ((poRecFull K V).gap ++ rest)) := by
    simpa [At, PoRec.print, poRecFull] using h
  have hb := (poRecFull K V).body_at h3
  have eE : (poRecFull K V).entity off = poEntity off K.length V.length := by
    simp [PoRec.entity, PoRec.start, PoRec.body, PoRec.ctxtText, poRecFull, poEntity, PoFrag.print, poRender_plain, kwMsgid,
      kwMsgstr]
    omega
  have eP : (poRecFull K V).parts off = poPartsOf off K.length V.length := by
    simp [PoRec.parts, PoRec.body, PoRec.ctxtText, poRecFull, poPartsOf, PoFrag.print, poRender_plain, kwMsgid, kwMsgstr,
      fragSpans]
    omega
  have e1 := poEval_frags s _ _ _ hg.msgid hb.app.app
  have e2 := poEval_frags s _ _ _ hg.msgstr hb.app.app.app.app.app
  refine ⟨eE ▸ po_entity_rec s _ _ rest hg (fun _ => rfl) hfo h, eP ▸ po_create_at s _ _ rest hg hfo h3, ?_, ?_, ?_⟩
  · rw [← eP]; simpa [PoRec.parts, PoRec.ctxtText, poRecFull, kwMsgid, poOnePass_plain] using e1
  · rw [← eP]
    simpa [PoRec.parts, PoRec.ctxtText, poRecFull, kwMsgid, kwMsgstr, poOnePass_plain, PoFrag.print, poRender_plain,
      Nat.add_assoc] using e2
  · rw [← eE, po_view_rec s _ _ rest hg hfo h]
    simp [PoRec.view, expectedPoView, poRecFull, evalFrags, poOnePass_plain, PoFrag.print, poRender_plain]

end C02X
