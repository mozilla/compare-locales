/- A successful match consumes at least `minLen r` characters (`Run.min`, an induction over `Run`) and stays inside the
   text (`BSem.pos_bound`, RxSem, which every `Run` inherits): `Run.span`, read for `matchAt` as `matchAt_min` /
   `matchAt_span`.  `Good` is the same fact in continuation form (`m_good`), `loop_good` its passage across a repeat of
   any body.  `search` returns the leftmost match position; a repeat whose body cannot match makes no iteration
   (`loop_body_fail`, `loop_fail_min`).
   `m_lit_ok` / `m_lit_fail`: a literal in continuation form (the list form is `ends_lit_ok` / `ends_lit_fail`, RxEnds);
   `loop_isSome_start`: a repeat with `mn = 0` succeeds where its continuation does. -/
import CLModel.Proofs.RxSem
namespace Rx

def minLen : Re → Nat
  | .lit _ | .notLit _ | .any _ | .cls _ _ => 1
  | .seq a b => minLen a + minLen b
  | .alt a b => min (minLen a) (minLen b)
  | .eps | .backref _ | .bol _ | .eol _ | .eos | .look _ _ _ => 0
  | .rep mn _ _ r => mn * minLen r
  | .group _ r => minLen r

def Good (s : Array Nat) (n : Nat) (f : St → K → Option St) : Prop :=
  ∀ st k res, f st k = some res →
    ∃ st', st.pos + n ≤ st'.pos ∧ (st.pos ≤ s.size → st'.pos ≤ s.size) ∧ k st' = some res

theorem loop_good (s : Array Nat) (body : St → K → Option St) (n : Nat) (g : Bool)
    (hb : Good s n body) :
    ∀ fuel mn mx, Good s (mn * n) (fun st k => loop body g fuel mn mx st k) := by
  intro fuel
  induction fuel with
  | zero => intro mn mx st k res h; simp [loop] at h
  | succ fuel ih =>
    intro mn mx st k res h
    simp only [loop] at h
    generalize hmdef : (if mx == some 0 then none else
          body st (fun st' => if st'.pos ≤ st.pos then none else
            loop body g fuel (mn - 1) (mx.map (· - 1)) st' k)) = more at h
    have hmore : ∀ res, more = some res →
        ∃ st', st.pos + mn * n ≤ st'.pos ∧ (st.pos ≤ s.size → st'.pos ≤ s.size) ∧ k st' = some res := by
      intro res hm
      rw [← hmdef] at hm
      split at hm
      · cases hm
      · obtain ⟨st1, a1, b1, h3⟩ := hb _ _ _ hm
        split at h3
        · cases h3
        · obtain ⟨st2, a2, b2, h6⟩ := ih (mn - 1) (mx.map (· - 1)) st1 k res h3
          have : mn * n ≤ n + (mn - 1) * n := by
            cases mn with
            | zero => simp
            | succ m => simp [Nat.succ_mul, Nat.add_comm]
          exact ⟨st2, by omega, fun hl => b2 (b1 hl), h6⟩
    have hstop : ∀ res, k st = some res →
        ∃ st', st.pos + 0 * n ≤ st'.pos ∧ (st.pos ≤ s.size → st'.pos ≤ s.size) ∧ k st' = some res :=
      fun res h' => ⟨st, by simp, id, h'⟩
    split at h
    · exact hmore _ h
    · have hz : mn = 0 := by omega
      subst hz
      split at h
      · rcases orElse_some h with h' | ⟨_, h'⟩
        · exact hmore _ h'
        · exact hstop _ h'
      · rcases orElse_some h with h' | ⟨_, h'⟩
        · exact hstop _ h'
        · exact hmore _ h'

theorem Run.min {s : Array Nat} {r : Re} {st st' : St} (h : Run s r st st') : st.pos + minLen r ≤ st'.pos := by
  induction h with
  | seq _ _ iha ihb => simp only [minLen]; omega
  | altL _ ih => simp only [minLen]; omega
  | altR _ ih => simp only [minLen]; omega
  | group _ ih => exact ih
  | lit _ | notLit _ _ | any _ _ | cls _ _ => exact Nat.le_refl _
  | backref _ _ => exact Nat.le_add_right _ _
  | @repCons mn _ _ _ _ _ _ _ _ _ iha ihb =>
    simp only [minLen] at ihb ⊢
    cases mn with
    | zero => simp; omega
    | succ n => rw [Nat.succ_mul]; simp only [Nat.add_sub_cancel] at ihb; omega
  | _ => simp [minLen]

theorem Run.span {s : Array Nat} {r : Re} {st st' : St} (h : Run s r st st') :
    st.pos + minLen r ≤ st'.pos ∧ (st.pos ≤ s.size → st'.pos ≤ s.size) :=
  ⟨h.min, h.bsem.pos_bound⟩

theorem m_good (s : Array Nat) : ∀ r, Good s (minLen r) (m s r) := fun _ _ _ _ h => by
  obtain ⟨st', h1, h2⟩ := m_run h
  exact ⟨st', h1.span.1, h1.span.2, h2⟩

theorem matchAt_min {s : Array Nat} {r : Re} {p : Nat} {st : St} (h : matchAt s r p = some st) :
    p + minLen r ≤ st.pos :=
  (matchAt_run h).min

theorem matchAt_span {s : Array Nat} {r : Re} {p : Nat} {st : St}
    (h : matchAt s r p = some st) (hp : p ≤ s.size) :
    p + minLen r ≤ st.pos ∧ st.pos ≤ s.size :=
  ⟨matchAt_min h, (matchAt_run h).span.2 hp⟩

theorem matchAt_advances {s : Array Nat} {r : Re} (h : 1 ≤ minLen r) {p : Nat} {st : St}
    (hm : matchAt s r p = some st) : p < st.pos :=
  Nat.lt_of_lt_of_le (Nat.lt_add_of_pos_right h) (matchAt_min hm)

theorem searchFrom_spec (s : Array Nat) (r : Re) :
    ∀ fuel pos q st, searchFrom s r fuel pos = some (q, st) →
      pos ≤ q ∧ q ≤ s.size ∧ matchAt s r q = some st ∧
      ∀ q', pos ≤ q' → q' < q → matchAt s r q' = none := by
  intro fuel
  induction fuel with
  | zero => intro pos q st h; simp [searchFrom] at h
  | succ fuel ih =>
    intro pos q st h
    simp only [searchFrom] at h
    split at h
    · cases h
    · rename_i hle
      split at h
      · rename_i st0 hm
        simp at h; obtain ⟨rfl, rfl⟩ := h
        exact ⟨Nat.le_refl _, by omega, hm, by intro q' h1 h2; omega⟩
      · rename_i hm
        obtain ⟨h1, h2, h3, h4⟩ := ih _ _ _ h
        refine ⟨by omega, h2, h3, ?_⟩
        intro q' hq1 hq2
        by_cases heq : q' = pos
        · subst heq; exact hm
        · exact h4 q' (by omega) hq2

theorem search_spec {s : Array Nat} {r : Re} {pos q : Nat} {st : St}
    (h : search s r pos = some (q, st)) :
    pos ≤ q ∧ q ≤ s.size ∧ matchAt s r q = some st ∧
      ∀ q', pos ≤ q' → q' < q → matchAt s r q' = none :=
  searchFrom_spec s r _ _ _ _ h

theorem m_lit_ok {s : Array Nat} {p c : Nat} (h : s[p]? = some c) (caps) (k : K) :
    m s (.lit c) ⟨p, caps⟩ k = k ⟨p + 1, caps⟩ := by
  rw [m_lit_def, h, beq_self_eq_true, if_pos rfl]

theorem m_lit_fail {s : Array Nat} {p c : Nat} (h : s[p]? ≠ some c) (caps) (k : K) :
    m s (.lit c) ⟨p, caps⟩ k = none := by
  rw [m_lit_def, if_neg (by simpa using h)]

theorem loop_fail_min (body : St → K → Option St) (g : Bool) (fuel mn : Nat) (mx : Option Nat) (st : St) (k : K)
    (h : ∀ k', body st k' = none) (hmn : mn > 0) : loop body g fuel mn mx st k = none := by
  cases fuel with
  | zero => rfl
  | succ f => rw [loop_succ_def body g f mn mx st k none (by rw [h, ite_self]), if_pos hmn]

theorem loop_body_fail (body : St → K → Option St) (g : Bool) (f : Nat) (mx : Option Nat) (st : St) (k : K)
    (h : ∀ k', body st k' = none) : loop body g (f + 1) 0 mx st k = k st := by
  rw [loop]
  simp only [h]
  cases g <;> cases hk : k st <;> simp [hk]

theorem loop_isSome_start (body : St → K → Option St) (g : Bool) (f : Nat) (mx : Option Nat) (st : St) (k : K)
    (h : (k st).isSome) : (loop body g (f + 1) 0 mx st k).isSome := by
  obtain ⟨r, hr⟩ := Option.isSome_iff_exists.mp h
  rw [loop]
  cases g
  · simp [hr]
  · simp only [Nat.lt_irrefl, if_false, if_true, hr]
    split <;> simp

end Rx
