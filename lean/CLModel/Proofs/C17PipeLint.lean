/-
C17: every result of the composed lint pipeline `Pipe.lintText`
(`L10nLinter.lint_file`, C05/C19 models) is explained: which entry of the parsed file it belongs to and which offset
of the text its (lineno, column) denotes.
-/
import CLModel.Proofs.C17Resolve
import CLModel.Proofs.C17Lint
import CLModel.Proofs.C05Lint
import CLModel.Proofs.FixPipeBridge
namespace C17P
open Pos Pipe

/-- the four numbers and the quoted text of `Junk.error_message()` for the span `[a, b)` of `s` -/
def junkText (s : Array Nat) (a b : Nat) : Text :=
  Lint.interleave Gen.Tables.junkMessageParts
    [P.slice s a b, Lint.showInt (cursor s a).1, Lint.showInt (cursor s a).2,
     Lint.showInt (cursor s b).1, Lint.showInt (cursor s b).2]

/-- why a lint result is where it is -/
inductive LintWhy (s : Array Nat) (pe : PEnt) (r : Lint.Result) : Prop
  /-- unparsed content: reported at the start of the junk; the message names start AND end of the junk span -/
  | junk (hj : pe.junk = true) (hpos : (r.lineno, r.column) = castLC (cursor s pe.entry.s))
      (hmsg : r.message = junkText s pe.entry.s pe.entry.e)
  /-- "Duplicate string with ID" / "Changes to string require a new ID": at the start of THIS occurrence -/
  | start (hj : pe.junk = false) (hpos : (r.lineno, r.column) = castLC (cursor s pe.entry.s))
      (hmsg : r.message = Gen.Tables.lintDupPrefix ++ keyText pe.key ∨
              r.message = Gen.Tables.lintChangedPrefix ++ keyText pe.key ++ Gen.Tables.lintChangedSuffix)
  /-- a checker finding -/
  | check (hj : pe.junk = false) (ht : Target s pe.entry (r.lineno, r.column))

theorem toLintEnt_fields (ck : CkCtx) (vals : List Text) (pe : PEnt) (le : Lint.Ent)
    (h : toLintEnt ck .plain vals pe = .ok le) :
    le.s = pe.entry.s ∧ le.e = pe.entry.e ∧ le.mode = .ctx ∧ le.key = keyText pe.key ∧
    (pe.junk = true → le.kind = .junk) ∧
    (pe.junk = false → le.kind = .entity ∧ le.vs = valSpan false pe.entry ∧
      ∃ rs, runChecker ck pe pe = .ok rs ∧ le.checks = rs.map toLintCheck) := by
  unfold toLintEnt at h
  split at h
  · rename_i hj
    cases h
    exact ⟨rfl, rfl, rfl, rfl, fun _ => rfl, fun hh => by rw [hj] at hh; cases hh⟩
  · rename_i hj
    split at h
    · cases h
    · rename_i rs hrs
      cases h
      exact ⟨rfl, rfl, rfl, rfl, fun hh => absurd hh hj, fun _ => ⟨rfl, rfl, rs, hrs, rfl⟩⟩

theorem checkResult_resolve (s : Array Nat) (le : Lint.Ent) (e : P.Entry) (hm : le.mode = .ctx)
    (hs : le.s = e.s) (he : le.e = e.e) (hvs : le.vs = valSpan false e) (cr : CheckRes) (x : Lint.Result)
    (h : Lint.checkResult (Lint.lineEnds s.toList) le (toLintCheck cr) = .ok x) :
    resolveCheckPos s .plain e cr.pos = some (x.lineno, x.column) := by
  unfold Lint.checkResult at h
  cases hp : cr.pos with
  | entityPos n =>
    simp only [toLintCheck, hp] at h
    cases h
    simp only [resolveCheckPos]
    exact (lint_position_eq s le e (by rw [hm]; decide) hs he n).symm
  | offset n =>
    simp only [toLintCheck, hp, Lint.valuePosition, hm, Lint.baseValuePosition] at h
    simp only [resolveCheckPos, valuePosition, ← hvs]
    cases hv : le.vs with
    | none => rw [hv] at h; cases h
    | some ab =>
      obtain ⟨a, b⟩ := ab
      rw [hv] at h
      simp only [Except.ok.injEq] at h
      cases h
      simp only
      exact (lint_linecol_eq s _).symm
  | tuple l c =>
    simp only [toLintCheck, hp, Lint.valuePosition, hm] at h
    cases h

/-- A result of `lintFile` is a result of one entity (`lintFile_spec`), which was made from one `PEnt`
    (`toLintEnt_fields`).  A Junk gives the junk result; an Entity the duplicate, the changed-ID and the checker results
    (`lintEntity_entity`).  The first three sit at `position(0)` (`lint_position_zero`); a checker result sits where
    `resolveCheckPos` puts it (`checkResult_resolve`), which is a `Target` (`resolve_target`). -/
theorem lintFile_explained (fmt : P.Fmt) (hfd : fmt ≠ .dtd) (ck : CkCtx) (hck : ck.kind = checkerOf fmt)
    (s : Array Nat) (cur : List PEnt) (hfacts : ∀ pe ∈ cur, EntFacts fmt s pe) (vals : List Text)
    (ents : List Lint.Ent) (hents : mapE (toLintEnt ck .plain vals) cur = .ok ents)
    (F : Lint.FileIn) (hFc : F.contents = s) (hFcur : F.cur = ents)
    (rs : List Lint.Result) (hlint : Lint.lintFile F = .ok rs) :
    ∀ r ∈ rs, ∃ pe ∈ cur, LintWhy s pe r := by
  intro r hr
  obtain ⟨rss, hall, rfl⟩ := (Lint.lintFile_spec _ rs).1 hlint
  obtain ⟨rl, hrl, hrin⟩ := List.mem_flatten.1 hr
  obtain ⟨le, hle, hres⟩ := hall.mem_right hrl
  rw [hFcur] at hle
  obtain ⟨pe, hpe, hto⟩ := (mapE_mem hents).1 le hle
  obtain ⟨hs, he, hm, hkey, hJ, hE⟩ := toLintEnt_fields ck _ pe le hto
  have hmode : le.mode ≠ .node := by rw [hm]; decide
  refine ⟨pe, hpe, ?_⟩
  simp only [Lint.FileIn.entityResults, Lint.FileIn.lines, hFc] at hres
  cases hj : pe.junk with
  | true =>
    have hk := hJ hj
    rw [Lint.lintEntity_junk _ _ _ _ le hk] at hres
    cases hres
    simp only [List.mem_singleton] at hrin
    subst hrin
    refine .junk hj ?_ ?_
    · simp only [Lint.junkResult]
      rw [lint_position_zero s le hmode, hs]
    · simp only [Lint.junkResult, Lint.errorMessage, junkText]
      rw [lint_position_zero s le hmode, lint_position_end s le hmode (-1) (by omega), hs, he]
      simp [Lint.junkVal, hm, P.slice, castLC, hs, he]
  | false =>
    obtain ⟨hk, hvs, crs, hrun, hchecks⟩ := hE hj
    obtain ⟨cs, hcs, rfl⟩ := (Lint.lintEntity_entity _ _ _ _ le hk rl).1 hres
    simp only [List.mem_append] at hrin
    rcases hrin with (hrin | hrin) | hrin
    · by_cases hcnt : Lint.keyCount F.cur le.key > 1
      · rw [if_pos hcnt] at hrin
        simp only [List.mem_singleton] at hrin
        subst hrin
        refine .start hj ?_ (Or.inl ?_)
        · simp only [Lint.dupResult]
          rw [lint_position_zero s le hmode, hs]
        · simp [Lint.dupResult, hkey]
      · rw [if_neg hcnt] at hrin; simp at hrin
    · cases hch : Lint.changed F.reference le with
      | true =>
        rw [hch] at hrin
        simp only [if_true, List.mem_singleton] at hrin
        subst hrin
        refine .start hj ?_ (Or.inr ?_)
        · simp only [Lint.changedResult]
          rw [lint_position_zero s le hmode, hs]
        · simp [Lint.changedResult, hkey]
      | false => rw [hch] at hrin; simp at hrin
    · have hgo := (Lint.lintValueGo_spec _ le le.checks cs).1 hcs
      obtain ⟨c, hc, hcr⟩ := hgo.mem_right hrin
      rw [hchecks] at hc
      obtain ⟨cr, hcrm, rfl⟩ := List.mem_map.1 hc
      have hres' := checkResult_resolve s le pe.entry hm hs he hvs cr r hcr
      exact .check hj (resolve_target fmt hfd ck hck s pe pe (hfacts pe hpe) crs hrun cr hcrm _ hres')

theorem lintParsed_explained (ext : Ext) (fmt : P.Fmt) (hfd : fmt ≠ .dtd)
    (reference : Option (List PEnt)) (s : Array Nat) (cur : List PEnt) (hfacts : ∀ pe ∈ cur, EntFacts fmt s pe)
    (rs : List Lint.Result)
    (h : lintParsed ext (fileName fmt) (checkerOf fmt) (clsOf fmt) reference s cur = .ok rs) :
    ∀ r ∈ rs, ∃ pe ∈ cur, LintWhy s pe r := by
  rw [PipeBridge.clsOf_plain hfd] at h
  unfold lintParsed at h
  have hnc : lintJunkClash .plain (refList reference) cur = false := by simp [lintJunkClash]
  simp only [hnc, Bool.false_eq_true, if_false] at h
  split at h
  · cases h
  · rename_i ents hents
    split at h
    · cases h
    · rename_i rs' hlint
      cases h
      exact lintFile_explained fmt hfd _ rfl s cur hfacts _ ents hents _ rfl rfl rs hlint

theorem lintText_explained (ext : Ext) (fmt : P.Fmt) (hf : fmt ≠ .dtd)
    (refText : Option (Array Nat)) (s : Array Nat) (rs : List Lint.Result) (h : lintText ext fmt refText s = .ok rs) :
    ∃ cur n0 n1, parseFile ext fmt s n0 = .ok (cur, n1) ∧ (∀ pe ∈ cur, EntFacts fmt s pe) ∧
      ∀ r ∈ rs, ∃ pe ∈ cur, LintWhy s pe r := by
  unfold lintText at h
  cases refText with
  | none =>
    simp only at h
    split at h
    · cases h
    · rename_i cur n1 hp
      have hfacts := parseFile_facts ext fmt hf s 0 cur n1 hp
      exact ⟨cur, 0, n1, hp, hfacts, lintParsed_explained ext fmt hf none s cur hfacts rs h⟩
  | some t =>
    simp only at h
    split at h
    · cases h
    · rename_i ref n1 hp1
      split at h
      · cases h
      · rename_i cur n2 hp2
        have hfacts := parseFile_facts ext fmt hf s n1 cur n2 hp2
        exact ⟨cur, n1, n2, hp2, hfacts, lintParsed_explained ext fmt hf (some ref) s cur hfacts rs h⟩

end C17P
