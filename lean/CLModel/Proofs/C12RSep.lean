/- The hypothesis bundles of the wildcard theorems: `Fillable` (what `C12.expand_match_star_partial` asks of a matcher and
   the values put into its wildcards) and `Expandable` (what `sub` and `C11X.sub_selfX` ask in addition of the matcher whose
   pattern is expanded).  Before them, sufficient conditions for their fields: `NoLaterHit` (the separation in `PSep` /
   `WellSepN`) from the first character of the literal after a star, `GoodEnv` and `KeysOnce`. -/
import CLModel.Proofs.C11RNest
namespace C11R
open PM

theorem noLaterHit_nil (L : Text) : NoLaterHit L [] := by
  intro j h1 h2
  simp at h2; omega

/-- the usual separator condition: the first character of the literal that follows the star does not occur
    again before the next `/` (or the end of the path).  A literal beginning with `/` always qualifies. -/
theorem noLaterHit_of_first {c : Nat} {L' R : Text} (hpre : (c :: L') <+: R)
    (h : c ∉ (R.takeWhile (fun c => c != 47)).tail) : NoLaterHit (c :: L') R := by
  intro j hj1 hj2 hp
  have hRj : R[j]? = some c := by
    have := (List.prefix_iff_getElem?.mp hp) 0 (by simp)
    simpa [List.getElem?_drop] using this
  by_cases hlt : j < (R.takeWhile (fun c => c != 47)).length
  · have htw := (List.prefix_iff_getElem?.mp (List.takeWhile_prefix (fun c => c != 47) (l := R))) j hlt
    rw [hRj] at htw
    apply h
    apply List.mem_iff_getElem?.mpr
    refine ⟨j - 1, ?_⟩
    rw [List.getElem?_tail, show j - 1 + 1 = j by omega]
    rw [List.getElem?_eq_getElem hlt]
    exact htw.symm
  · have hje : j = (R.takeWhile (fun c => c != 47)).length := by omega
    rw [hje] at hRj
    have hc := Txt.takeWhile_stop hRj
    have hc47 : c = 47 := by simpa using hc
    subst hc47
    obtain ⟨t, rfl⟩ := hpre
    simp at hj2
    omega

theorem noLaterHit_slash {L' R : Text} (hpre : (47 :: L') <+: R) : NoLaterHit (47 :: L') R := by
  apply noLaterHit_of_first hpre
  obtain ⟨t, rfl⟩ := hpre
  simp

theorem goodEnv_of {env : Env} (h : EnvOK env) (hna : ∀ k p, (k, Val.pat p) ∈ env → NoAndroid p) : GoodEnv env := by
  intro k v hm
  cases v with
  | str s => trivial
  | pat p => exact ⟨(h k _ hm).1, hna k p hm⟩

theorem keysOnce_of_nodup {β} {l : List (Text × β)} (h : (l.map (·.1)).Nodup) : KeysOnce l := by
  intro k
  exact List.nodup_iff_count.mp h k

/-- What `C12.expand_match_star_partial` asks of a matcher `m`, wildcard values `vs`, the group names `names` of its
    regular expression and the root text `rt`. -/
structure Fillable (vs : Nat → Text) (m : Matcher) (names : List Text) (rt : Text) : Prop where
  /-- the environment has the shape `Matcher(...)` builds: parsed unrooted patterns, no variable twice in one value -/
  env : EnvOK m.env
  /-- top-level nodes: literal, `*`, `**/`, final `**`, first occurrence of a fully bound variable -/
  cls : ∀ n ∈ m.pattern.nodes, InClassN m.env n
  /-- `re.compile` accepts the pattern (distinct group names, F12); `names` are its group names -/
  compiles : ∃ re, m.regexOf = .ok (re, names)
  /-- the pattern does not use `{android_locale}` -/
  noAndroidGroup : androidName ∉ names
  /-- the root decision succeeds (F11) and gives `rt` (`[]`, or the root for a rooted relative pattern) -/
  root : rootOf (expandVal (fuelFor m.env)) m.pattern m.env = .ok rt
  sep : WellSepN vs m.env m.pattern.nodes

/-- What `sub` needs in addition of the matcher whose pattern it expands. -/
structure Expandable (m : Matcher) : Prop where
  /-- no `{android_locale}` inside environment values -/
  noAndroid : ∀ k p, (k, Val.pat p) ∈ m.env → NoAndroid p
  /-- the environment is a dict: distinct keys -/
  keys : KeysOnce m.env
  /-- no key is named like a wildcard group (`s1`, `s2`, ...) -/
  noWildKey : ∀ k, m.env.lookup (sname k) = none

end C11R
