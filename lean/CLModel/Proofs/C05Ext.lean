/-
C05 pipeline, Fluent and Android: from the external parser's output on.

`fluent.syntax` and `xml.dom.minidom` are external; their output (body entries with spans + AST summary; the objects
of the walk over the DOM with the node summary) is the INPUT of `Pipe.compareFtl` / `Pipe.compareAndroid`.  Here: what
`parseFtl` / `parseAndroid` make of it (well-formedness of the entry list, junk ids), and that `FluentChecker.check`
(model of C08) / `AndroidChecker.check` (model of C09) answer for every pair of Entities the comparison hands to them,
starting with the results of the base check.
-/
import CLModel.Proofs.C05Pipe
import CLModel.Proofs.C05Clash
import CLModel.Proofs.C08
import CLModel.Proofs.C09Check
namespace C05Ext
open Pipe C05Clash

/-- entries `W` of a parse that took the junk counter from `n` to `m` -/
structure Numbered (W : PEnt → Prop) (n m : Nat) (ents : List PEnt) : Prop where
  le : n ≤ m
  wf : ∀ e ∈ ents, W e
  ids : IdsIn n m ents

theorem Numbered.nil {W : PEnt → Prop} (n : Nat) : Numbered W n n [] :=
  ⟨Nat.le_refl _, fun _ h => (nomatch h), fun _ h => (nomatch h)⟩

theorem Numbered.junk {W : PEnt → Prop} {n m : Nat} {e : PEnt} {es : List PEnt} (hw : W e)
    (hk : e.key = .str (junkKeyText (n + 1) e.entry.s e.entry.e)) (h : Numbered W (n + 1) m es) : Numbered W n m (e :: es) :=
  ⟨by have := h.le; omega, List.forall_mem_cons.2 ⟨hw, h.wf⟩, fun x hx hj => by
    rcases List.mem_cons.1 hx with rfl | hx
    · exact ⟨n + 1, by omega, h.le, hk⟩
    · obtain ⟨id, a, b, c⟩ := h.ids x hx hj
      exact ⟨id, by omega, b, c⟩⟩

theorem Numbered.entity {W : PEnt → Prop} {n m : Nat} {e : PEnt} {es : List PEnt} (hw : W e) (hj : e.junk = false)
    (h : Numbered W n m es) : Numbered W n m (e :: es) :=
  ⟨h.le, List.forall_mem_cons.2 ⟨hw, h.wf⟩, fun x hx hxj => by
    rcases List.mem_cons.1 hx with rfl | hx
    · rw [hj] at hxj; cases hxj
    · exact h.ids x hx hxj⟩

theorem Numbered.append {W : PEnt → Prop} {n k m : Nat} {a b : List PEnt} (ha : Numbered W n k a) (hb : Numbered W k m b) :
    Numbered W n m (a ++ b) :=
  ⟨Nat.le_trans ha.le hb.le, fun e he => (List.mem_append.1 he).elim (ha.wf e) (hb.wf e), fun e he hj => by
    rcases List.mem_append.1 he with h | h
    · obtain ⟨id, x, y, z⟩ := ha.ids e h hj
      exact ⟨id, x, Nat.le_trans y hb.le, z⟩
    · obtain ⟨id, x, y, z⟩ := hb.ids e h hj
      exact ⟨id, Nat.lt_of_le_of_lt ha.le x, y, z⟩⟩

/-- input contract (what `fluent.syntax` returns): a Message / Term of `resource.body` comes with its AST -/
def FtlBodyOK (body : List FtlItem) : Prop :=
  ∀ it ∈ body, (it.fe.kind = .message ∨ it.fe.kind = .term) → it.ast.isSome

/-- an entry as `FluentParser.walk` makes it: a base `Junk`, or a `FluentEntity` with its AST, keyed by a `str` -/
structure FtlWf (e : PEnt) : Prop where
  kind : (e.junk = true ∧ e.entry.kind = .junk) ∨ (e.junk = false ∧ e.entry.kind = .entity ∧ e.ftl.isSome)
  key : ∃ t, e.key = .str t

theorem FtlWf.ftl {e : PEnt} (h : FtlWf e) (hj : e.junk = false) : e.ftl.isSome := by
  rcases h.kind with ⟨h, _⟩ | ⟨_, _, h⟩
  · rw [hj] at h; cases h
  · exact h

theorem FtlWf.entity {e : PEnt} (h : FtlWf e) (hj : e.junk = false) : e.entry.kind = .entity := by
  rcases h.kind with ⟨h, _⟩ | ⟨_, h, _⟩
  · rw [hj] at h; cases h
  · exact h

theorem fluentEntry_kinds (s : Array Nat) (fe : P.FEntry) :
    ∀ e ∈ P.fluentEntry s true fe, e.kind = .junk ∨ (e.kind = .entity ∧ (fe.kind = .message ∨ fe.kind = .term)) := by
  intro e he
  unfold P.fluentEntry at he
  cases hk : fe.kind <;> simp only [hk] at he
  · simp only [List.mem_singleton] at he; subst he; exact Or.inr ⟨rfl, Or.inl rfl⟩
  · simp only [List.mem_singleton] at he; subst he; exact Or.inr ⟨rfl, Or.inr rfl⟩
  · split at he
    · simp only [List.mem_singleton] at he; subst he; exact Or.inl rfl
    · simp at he; subst he; exact Or.inl rfl
  · simp at he
  · simp at he

theorem ftlItemEnts_spec (s : Array Nat) (it : FtlItem) (hast : (it.fe.kind = .message ∨ it.fe.kind = .term) → it.ast.isSome) :
    ∀ (es : List P.Entry) (n : Nat),
      (∀ e ∈ es, e.kind = .junk ∨ (e.kind = .entity ∧ (it.fe.kind = .message ∨ it.fe.kind = .term))) →
      Numbered FtlWf n (ftlItemEnts s it es n).2 (ftlItemEnts s it es n).1
  | [], n, _ => .nil n
  | x :: xs, n, hk => by
    have hxs := fun e he => hk e (List.mem_cons_of_mem _ he)
    by_cases hj : (x.kind == .junk) = true
    · simp only [ftlItemEnts, hj, if_true]
      exact .junk ⟨Or.inl ⟨rfl, by simpa [mkJunk] using hj⟩, ⟨_, rfl⟩⟩ rfl (ftlItemEnts_spec s it hast xs (n + 1) hxs)
    · have hkx : x.kind = .entity ∧ (it.fe.kind = .message ∨ it.fe.kind = .term) :=
        (hk x List.mem_cons_self).resolve_left fun h => hj (by rw [h]; rfl)
      simp only [ftlItemEnts, hj, Bool.false_eq_true, if_false]
      refine .entity ⟨Or.inr ⟨rfl, hkx.1, ?_⟩, ⟨_, rfl⟩⟩ rfl (ftlItemEnts_spec s it hast xs n hxs)
      obtain ⟨a, ha⟩ := Option.isSome_iff_exists.1 (hast hkx.2)
      simp [ha]

theorem parseFtl_spec (s : Array Nat) : ∀ (body : List FtlItem) (n : Nat), FtlBodyOK body →
    Numbered FtlWf n (parseFtl s body n).2 (parseFtl s body n).1
  | [], n, _ => .nil n
  | it :: rest, n, hb =>
    (ftlItemEnts_spec s it (hb it List.mem_cons_self) _ n (fluentEntry_kinds s it.fe)).append
      (parseFtl_spec s rest _ fun x hx => hb x (List.mem_cons_of_mem _ hx))

theorem ftl_enc_prefix : Ftl.fmt Gen.Tables.baseCheckStr_1 [] = encPrefix := by decide
theorem ftl_enc_cat : Ftl.fmt Gen.Tables.baseCheckStr_2 [] = encCat := by decide
theorem ftl_enc_sev : ftlSev (Ftl.fmt Gen.Tables.baseCheckStr_0 []) = .warning := by decide

theorem runFluent_ok (locale : Option Text) (r l : PEnt) (hr : FtlWf r) (hl : FtlWf l) (hrj : r.junk = false) (hlj : l.junk = false) :
    ∃ rs, runFluent locale r l = .ok rs ∧ (∀ c ∈ rs, Resolvable .fluent l c.pos) ∧ ∀ b ∈ runBase l, b ∈ rs := by
  obtain ⟨ra, hra⟩ := Option.isSome_iff_exists.1 (hr.ftl hrj)
  obtain ⟨la, hla⟩ := Option.isSome_iff_exists.1 (hl.ftl hlj)
  obtain ⟨lk, hlk⟩ := hl.key
  obtain ⟨kp, _, hck⟩ := Ftl.check_ok locale lk l.all ra.1 la.1
  refine ⟨ofFtlOuts (Ftl.checkEncoding lk l.all).length (Ftl.checkWith kp lk l.all ra.1 la.1),
    by simp only [runFluent, hra, hla, hlk, hck], ?_, ?_⟩
  · intro c hc
    simp only [ofFtlOuts, List.mem_append, List.mem_map] at hc
    rcases hc with ⟨o, _, rfl⟩ | ⟨o, _, rfl⟩
    · exact Or.inl ⟨_, rfl⟩
    · exact Or.inr (Or.inl ⟨⟨_, rfl⟩, Or.inr ⟨hlj, hl.entity hlj⟩⟩)
  · intro b hb
    simp only [runBase, Checks.baseCheck, List.mem_map] at hb
    obtain ⟨x, ⟨m, hm, rfl⟩, rfl⟩ := hb
    simp only [ofFtlOuts, List.mem_append, List.mem_map]
    left
    refine ⟨⟨Ftl.fmt Gen.Tables.baseCheckStr_0 [], (m.1 : Int), Ftl.fmt Gen.Tables.baseCheckStr_1 [] ++ lk, Ftl.fmt Gen.Tables.baseCheckStr_2 []⟩, ?_, ?_⟩
    · simp only [Ftl.checkWith, List.take_left']
      simp only [Ftl.checkEncoding, List.mem_map]
      exact ⟨m, hm, rfl⟩
    · simp [ftl_enc_prefix, ftl_enc_cat, ftl_enc_sev, hlk, keyText]

theorem answers_fluent (c : CkCtx) (hk : c.kind = .fluent) (r l : PEnt) (hr : FtlWf r) (hl : FtlWf l) (hrj : r.junk = false)
    (hlj : l.junk = false) : Answers .fluent c r l := by
  obtain ⟨rs, h1, h2, h3⟩ := runFluent_ok c.locale r l hr hl hrj hlj
  exact ⟨rs, by simp only [runChecker, hk, h1], h2, h3⟩

theorem pairs_fluent (env : Env) (hk : env.ck.kind = .fluent) (hc : env.cls = .fluent) (ref l10n : List PEnt)
    (hwr : ∀ e ∈ ref, FtlWf e) (hwl : ∀ e ∈ l10n, FtlWf e) : PairsAnswered env ref l10n := by
  intro r hr l hl hrj hlj
  have hlj := hlj (by rw [hk]; decide)
  obtain ⟨ra, hra⟩ := Option.isSome_iff_exists.1 ((hwr r hr).ftl hrj)
  obtain ⟨la, hla⟩ := Option.isSome_iff_exists.1 ((hwl l hl).ftl hlj)
  exact ⟨⟨ra.2 == la.2, by simp only [entEquals, hc, hra, hla]⟩,
    hc ▸ answers_fluent env.ck hk r l (hwr r hr) (hwl l hl) hrj hlj⟩

/-- an entry as `AndroidParser.walk` makes it: an `XMLJunk`, or an `AndroidEntity` with its node, keyed by a `str` -/
structure AWf (e : PEnt) : Prop where
  kind : (e.junk = true ∧ e.entry.kind = .junk) ∨ (e.junk = false ∧ e.entry.kind = .entity ∧ e.node.isSome)
  key : ∃ t, e.key = .str t

theorem AWf.entity {e : PEnt} (h : AWf e) (hj : e.junk = false) : e.entry.kind = .entity := by
  rcases h.kind with ⟨h, _⟩ | ⟨_, h, _⟩
  · rw [hj] at h; cases h
  · exact h

theorem AWf.node {e : PEnt} (h : AWf e) (hj : e.junk = false) : e.node.isSome := by
  rcases h.kind with ⟨h, _⟩ | ⟨_, _, h⟩
  · rw [hj] at h; cases h
  · exact h

theorem parseAndroid_spec : ∀ (items : List AItem) (n : Nat),
    Numbered AWf n (parseAndroid items n).2 (parseAndroid items n).1
  | [], n => .nil n
  | .junk _ :: rest, n => .junk ⟨Or.inl ⟨rfl, rfl⟩, ⟨_, rfl⟩⟩ rfl (parseAndroid_spec rest (n + 1))
  | .entity .. :: rest, n => .entity ⟨Or.inr ⟨rfl, rfl, rfl⟩, ⟨_, rfl⟩⟩ rfl (parseAndroid_spec rest n)

theorem runAndroid_ok (r l : PEnt) (hr : AWf r) (hl : AWf l) (hrj : r.junk = false) (hlj : l.junk = false) :
    ∃ rs, runAndroid r l = .ok rs ∧ (∀ c ∈ rs, Resolvable .node l c.pos) ∧ ∀ b ∈ runBase l, b ∈ rs := by
  obtain ⟨rn, hrn⟩ := Option.isSome_iff_exists.1 (hr.node hrj)
  obtain ⟨ln, hln⟩ := Option.isSome_iff_exists.1 (hl.node hlj)
  obtain ⟨rs, hrs, -⟩ := Android.check_spec ⟨rn, r.val, r.all⟩ ⟨ln, l.val, l.all⟩
  refine ⟨rs.map (ofAndroidResult (keyText l.key)), by simp only [runAndroid, hrn, hln, hrs], ?_, ?_⟩
  · intro c hc
    simp only [List.mem_map] at hc
    obtain ⟨x, _, rfl⟩ := hc
    by_cases hmj : x.msg = .mojibake
    · exact Or.inl ⟨(x.pos : Int), by simp [ofAndroidResult, hmj]⟩
    · refine Or.inr (Or.inl ⟨⟨(x.pos : Int), ?_⟩, Or.inl rfl⟩)
      cases hm : x.msg <;> simp_all [ofAndroidResult]
  · intro b hb
    simp only [runBase, Checks.baseCheck, List.mem_map] at hb
    obtain ⟨x, ⟨m, hm, rfl⟩, rfl⟩ := hb
    simp only [List.mem_map]
    refine ⟨Android.warn m.1 .mojibake, ?_, by simp [Android.warn, androidMsgText, ofAndroidResult]⟩
    -- every branch of `check` begins with `baseCheck l10n`
    have hmem : Android.warn m.1 .mojibake ∈ Android.baseCheck ⟨ln, l.val, l.all⟩ := by
      simp only [Android.baseCheck, List.mem_map]
      exact ⟨m, hm, rfl⟩
    unfold Android.check at hrs
    simp only at hrs
    split at hrs
    · simp only [Option.some.injEq] at hrs; subst hrs; exact List.mem_append_left _ hmem
    · split at hrs
      · simp only [Option.some.injEq] at hrs; subst hrs; exact List.mem_append_left _ hmem
      · cases hcs : Android.checkString [rn] ⟨ln, l.val, l.all⟩ with
        | none => simp [hcs] at hrs
        | some cs =>
          simp only [hcs, Option.map_some, Option.some.injEq] at hrs
          subst hrs
          exact List.mem_append_left _ hmem

theorem answers_android (c : CkCtx) (hk : c.kind = .android) (r l : PEnt) (hr : AWf r) (hl : AWf l) (hrj : r.junk = false)
    (hlj : l.junk = false) : Answers .node c r l := by
  obtain ⟨rs, h1, h2, h3⟩ := runAndroid_ok r l hr hl hrj hlj
  exact ⟨rs, by simp only [runChecker, hk, h1], h2, h3⟩

theorem pairs_android (env : Env) (hk : env.ck.kind = .android) (hc : env.cls = .node) (ref l10n : List PEnt)
    (hwr : ∀ e ∈ ref, AWf e) (hwl : ∀ e ∈ l10n, AWf e) : PairsAnswered env ref l10n := by
  intro r hr l hl hrj hlj
  exact ⟨⟨_, by rw [hc]; rfl⟩, hc ▸ answers_android env.ck hk r l (hwr r hr) (hwl l hl) hrj (hlj (by rw [hk]; decide))⟩

end C05Ext
