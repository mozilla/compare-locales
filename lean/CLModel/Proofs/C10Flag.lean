/-
C10: the sticky `error` flag of every observer (the `ObserverList` itself and each project observer) as an invariant of the
operations, `o.error = true ↔ o has counted an error`, for arbitrary filters: a "warning" verdict on a notification of category
`error` still counts it under `errors` and raises the flag, "ignore" does neither.  With the invariant the exit status is the
same function of the counted errors whichever flag `CompareLocales.handle` reads (`exitVia`).
-/
import CLModel.Compare.Observer
import CLModel.Proofs.ObsProg
namespace C10F
open ObsM

def FlagIffCounted (o : Obs) : Prop := o.error = true ↔ 0 < totalErrors o.summary

/-- `FlagIffCounted` on the pair (summary, flag) that the pure fold `coreRun` works on -/
def FlagOK (c : Core) : Prop := c.2 = true ↔ 0 < totalErrors c.1

/-- one event whose stats dict, if it has an `errors` entry at all, gives it a positive value -/
def EvErrPos (ev : Ev) : Prop := ErrStatsPos [ev]

theorem errStatsPos_iff (h : List Ev) : ErrStatsPos h ↔ ∀ ev ∈ h, EvErrPos ev := by
  constructor
  · intro hp ev hev e he
    simp only [List.mem_singleton] at he
    subst he
    exact hp _ hev
  · intro hh ev hev
    exact hh ev hev ev (by simp)

theorem evErrPos_notify (cat : Cat) (f : File) (d : Data) : EvErrPos (.notify cat f d) := by
  intro e he
  simp only [List.mem_singleton] at he
  subst he
  trivial

theorem flagIffCounted_init (q : Nat) (flt : Option Filter) : FlagIffCounted (Obs.init q flt) := by
  simp [FlagIffCounted, Obs.init, totalErrors]

theorem coreEv_flag (ign : Ev → Bool) (c : Core) (ev : Ev) (hev : EvErrPos ev) (hc : FlagOK c) :
    FlagOK (coreEv ign c ev) := by
  have hev := hev ev (by simp)
  unfold FlagOK at hc ⊢
  cases ev with
  | notify cat f d =>
    simp only [coreEv, coreNotify]
    cases ign (.notify cat f d)
    · simp only [Bool.false_eq_true, ↓reduceIte, Bool.or_eq_true, totalErrors_bumpCat, hc]
      cases cat.isError <;> simp <;> omega
    · simpa using hc
  | stats f st =>
    simp only [coreEv]
    cases ign (.stats f st)
    · obtain ⟨_, h2, h3⟩ := coreAddStats_spec c f.locale st
      simp only [Bool.false_eq_true, ↓reduceIte, h2, h3, Bool.or_eq_true, hc, statSum_pos hev]
      omega
    · simpa using hc

theorem step_flag {o o1 : Obs} {ev : Ev} (hs : o.step ev = .ok o1) (hev : EvErrPos ev) (hf : FlagIffCounted o) :
    FlagIffCounted o1 := by
  obtain ⟨c, _, _⟩ := Obs.step_core hs
  have h1 : FlagOK o1.core := by
    rw [c]
    exact coreEv_flag (ignObs o.filter) o.core ev hev hf
  exact h1

theorem notify_flag_exact {o o' : Obs} {cat f d rv} (h : o.notify cat f d = .ok (o', rv)) :
    o'.error = (o.error || (cat.isError && rv != .ignore)) ∧
      totalErrors o'.summary = totalErrors o.summary + (if cat.isError && rv != .ignore then 1 else 0) := by
  obtain ⟨hrv, hs⟩ := notify_ok h
  subst hrv
  have hc := (Obs.step_core hs).1
  have h1 : o'.error = (coreEv (ignObs o.filter) o.core (.notify cat f d)).2 := by rw [← hc]; rfl
  have h2 : o'.summary = (coreEv (ignObs o.filter) o.core (.notify cat f d)).1 := by rw [← hc]; rfl
  rw [h1, h2]
  simp only [coreEv, coreNotify, ignObs]
  by_cases hi : rvOf o.filter cat f d = Ret.ignore
  · simp [hi, Obs.core]
  · have h3 : (rvOf o.filter cat f d == Ret.ignore) = false := by simpa using hi
    have hne : (rvOf o.filter cat f d != Ret.ignore) = true := by simp [bne, h3]
    simp only [h3, Bool.false_eq_true, ↓reduceIte, totalErrors_bumpCat, hne, Bool.and_true]
    exact ⟨rfl, rfl⟩

theorem list_run_flags (h : List Ev) (l l' : ObsList) (hr : l.run h = .ok l') (hp : ErrStatsPos h)
    (hown : FlagIffCounted l.own) (hobs : ∀ o ∈ l.observers, FlagIffCounted o) :
    FlagIffCounted l'.own ∧ ∀ o' ∈ l'.observers, FlagIffCounted o' :=
  ObsList.run_all h (fun _ _ ev he ho hs => step_flag hs ((errStatsPos_iff _).1 hp ev he) ho) hr hown hobs

theorem run_flag (h : List Ev) (o o' : Obs) (hr : o.run h = .ok o') (hp : ErrStatsPos h) (hf : FlagIffCounted o) :
    FlagIffCounted o' :=
  Obs.run_induction h (fun _ _ ev he ho hs => step_flag hs ((errStatsPos_iff _).1 hp ev he) ho) hr hf

/-- the exit status as a function of the flag(s) `CompareLocales.handle` reads off what `compareProjects` returned -/
def exitVia (read : ObsList → Bool) (returnZero : Bool) (l : ObsList) : Nat :=
  if !returnZero && read l then 1 else 0

/-- `observers.error`: the flag of the `ObserverList` itself (what the code reads) -/
def readOwn (l : ObsList) : Bool := l.own.error

/-- `any(observer.error for observer in observers)`: the flags of the project observers -/
def readAny (l : ObsList) : Bool := l.observers.any (·.error)

/-- `observers.observers[0].error` (`False` without project observers) -/
def readFirst (l : ObsList) : Bool :=
  match l.observers with
  | o :: _ => o.error
  | [] => false

theorem exitStatus_eq_exitVia (rz : Bool) (l : ObsList) : exitStatus rz l = exitVia readOwn rz l := rfl

theorem exitVia_eq_one (read : ObsList → Bool) (rz : Bool) (l : ObsList) :
    exitVia read rz l = 1 ↔ rz = false ∧ read l = true := by
  cases rz <;> cases hr : read l <;> simp [exitVia, hr]

theorem exitVia_zero_or_one (read : ObsList → Bool) (rz : Bool) (l : ObsList) :
    exitVia read rz l = 0 ∨ exitVia read rz l = 1 := by
  simp only [exitVia]
  split <;> simp

theorem readAny_iff {l : ObsList} (hobs : ∀ o ∈ l.observers, FlagIffCounted o) :
    readAny l = true ↔ ∃ o ∈ l.observers, 0 < totalErrors o.summary := by
  simp only [readAny, List.any_eq_true]
  constructor
  · rintro ⟨o, ho, he⟩
    exact ⟨o, ho, (hobs o ho).1 he⟩
  · rintro ⟨o, ho, hp⟩
    exact ⟨o, ho, (hobs o ho).2 hp⟩

end C10F
