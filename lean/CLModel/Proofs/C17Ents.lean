/-
C17: what `Pipe.parseFile` (the parse stage of the composed pipeline, C05) guarantees about the spans of the
localizable entries it returns for ini, inc, po and properties (`EntFacts`, `parseFile_facts`).
-/
import CLModel.Proofs.C17Checkers
import CLModel.Proofs.C17Spans
import CLModel.Proofs.WalkFmt
namespace C17P
open Pipe

/-- the facts about one localizable entry of `parseFile fmt s _` that the position claims rest on -/
structure EntFacts (fmt : P.Fmt) (s : Array Nat) (pe : PEnt) : Prop where
  shape : SpanShape pe.entry
  e_le : pe.entry.e ≤ s.size
  s_le_e : pe.entry.s ≤ pe.entry.e
  kind : (pe.junk = true ∧ pe.entry.kind = .junk) ∨ (pe.junk = false ∧ pe.entry.kind = .entity)
  all_eq : pe.all = P.slice s pe.entry.full pe.entry.e
  junk_val : pe.junk = true → pe.val = P.slice s pe.entry.s pe.entry.e
  raw_eq : pe.junk = false → pe.raw = P.pySlice s pe.entry.vs pe.entry.ve
  val_in : pe.junk = false → P.Vof fmt pe.entry.s (pe.entry.vs, pe.entry.ve) pe.entry.e

theorem mkEnt_facts (ext : Ext) (f : P.Fmt) (s : Array Nat) (h : Hist.Ent) (pe : PEnt) (hmk : mkEnt ext f s h = .ok pe) :
    pe.entry = h.entry ∧ pe.junk = h.jid.isSome ∧
    (h.jid.isSome = true → pe.all = P.slice s h.entry.s h.entry.e ∧ pe.val = P.slice s h.entry.s h.entry.e) ∧
    (h.jid.isSome = false → pe.all = P.Entry.all s h.entry ∧ pe.raw = P.pySlice s h.entry.vs h.entry.ve) := by
  unfold mkEnt at hmk
  cases hj : h.jid with
  | some id =>
    simp only [hj] at hmk
    cases hmk
    simp [mkJunk]
  | none =>
    simp only [hj] at hmk
    split at hmk
    · cases hmk
    · rename_i v hv
      split at hmk
      · cases hmk
      · cases hmk
        refine ⟨rfl, rfl, by simp, fun _ => ⟨rfl, ?_⟩⟩
        -- `raw` of the view is the python slice of the value span, for every format
        unfold P.entView at hv
        cases f <;> simp only at hv
        · cases hv; rfl
        · cases hv; rfl
        · cases hv; rfl
        · cases hv; rfl
        · split at hv
          · cases hv
          · split at hv
            · cases hv; rfl
            · cases hv

/-- Whatever the external functions `ext` are: ini, inc, po and properties never consult them.  `parseFile` is walk →
    `assign` → filter → `mkEnt`, and `mkEnt` keeps the entry of the walk (`mkEnt_facts`); its fields then come from
    `walk_shape` (shape), `Tiles` (bounds), `walk_keyIn` / `walk_valIn` (key and value inside the span). -/
theorem parseFile_facts (ext : Ext) (fmt : P.Fmt) (hf : fmt ≠ .dtd) (s : Array Nat) (junkid : Nat) (ents : List PEnt) (n : Nat)
    (hp : parseFile ext fmt s junkid = .ok (ents, n)) : ∀ pe ∈ ents, EntFacts fmt s pe := by
  obtain ⟨es, hw, _, hall⟩ := parseFile_mem hp
  intro pe hpe
  obtain ⟨h, hmem, hloc, hmk⟩ := hall pe hpe
  have hentry : h.entry ∈ es := assign_entry_mem fmt s 0 es junkid 0 h hmem
  have hwf := Hist.assign_wf fmt s 0 es junkid 0 h hmem
  obtain ⟨he, hjunk, hJ, hE⟩ := mkEnt_facts ext fmt s h pe hmk
  have hshape := walk_shape fmt hf s es hw h.entry hentry
  have htiles : ∃ b, P.Tiles s.size b 0 es := by
    obtain ⟨es', h1, h2, _⟩ := P.walk_lossless_fmt fmt s
    rw [hw] at h1; cases h1; exact ⟨_, h2⟩
  obtain ⟨b, htiles⟩ := htiles
  obtain ⟨hfe, hesz⟩ := P.tiles_bounds htiles h.entry hentry
  have hkind : (h.entry.kind = .junk ∧ h.jid.isSome = true) ∨ (h.entry.kind = .entity ∧ h.jid.isSome = false) := by
    simp only [P.Entry.localizable, Bool.or_eq_true, beq_iff_eq] at hloc
    rcases hloc with hk | hk
    · right; exact ⟨hk, by rw [hwf, hk]; rfl⟩
    · left; exact ⟨hk, by rw [hwf, hk]; rfl⟩
  have hsle : h.entry.s ≤ h.entry.e := by
    rcases hkind with ⟨hk, _⟩ | ⟨hk, _⟩
    · have := hshape.2.1 hk; omega
    · have := P.walk_keyIn fmt s es hw h.entry hentry hk; omega
  refine
    { shape := by rw [he]; exact hshape
      e_le := by rw [he]; exact hesz
      s_le_e := by rw [he]; exact hsle
      kind := ?_
      all_eq := ?_
      junk_val := ?_
      raw_eq := ?_
      val_in := ?_ }
  · rcases hkind with ⟨hk, hj⟩ | ⟨hk, hj⟩
    · left; exact ⟨by rw [hjunk, hj], by rw [he, hk]⟩
    · right; exact ⟨by rw [hjunk, hj], by rw [he, hk]⟩
  · rcases hkind with ⟨hk, hj⟩ | ⟨hk, hj⟩
    · rw [(hJ hj).1, he, hshape.2.1 hk]
    · rw [(hE hj).1, he]; rfl
  · intro hpj
    rw [hjunk] at hpj
    rw [(hJ hpj).2, he]
  · intro hpj
    rw [hjunk] at hpj
    rw [(hE hpj).2, he]
  · intro hpj
    rw [hjunk] at hpj
    rcases hkind with ⟨_, hj⟩ | ⟨hk, _⟩
    · rw [hj] at hpj; cases hpj
    · rw [he]; exact P.walk_valIn fmt s es hw h.entry hentry hk

end C17P
