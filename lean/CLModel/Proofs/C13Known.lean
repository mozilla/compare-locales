/-
Python's string order on paths is core's `<` on lists (`pathLt_iff_lt`), `sorted(known.items())` is `Sorting.sort`
(`sortKnown_eq`); the `known` dict of `iter_locale` / `iter_reference` is "first claim wins": what it holds for a path is the
first claim of that path (`mem_addAll_nil`, `mem_sorted_items`).
-/
import CLModel.Paths.ProjectFiles
import CLModel.Proofs.Sorting
import CLModel.Proofs.Dict
namespace PF

theorem pathLt_iff_lt : ∀ (a b : Path), pathLt a b = true ↔ a < b
  | [], [] => by simp [pathLt]
  | [], _ :: _ => by simp [pathLt]
  | _ :: _, [] => by simp [pathLt]
  | x :: xs, y :: ys => by
    simp only [pathLt, Bool.or_eq_true, decide_eq_true_eq, Bool.and_eq_true, beq_iff_eq, List.cons_lt_cons_iff]
    rw [pathLt_iff_lt xs ys]

theorem pathLt_irrefl (a : Path) : pathLt a a = false :=
  Bool.eq_false_iff.2 fun h => List.lt_irrefl a ((pathLt_iff_lt a a).1 h)

theorem pathLt_asymm {a b : Path} (h : pathLt a b = true) : pathLt b a = false :=
  Bool.eq_false_iff.2 fun h' => List.lt_asymm ((pathLt_iff_lt a b).1 h) ((pathLt_iff_lt b a).1 h')

theorem insertSorted_eq (x : Path × Entry) :
    ∀ l : Known, insertSorted x l = Sorting.ins (fun a b => !pathLt b.1 a.1) x l
  | [] => rfl
  | y :: ys => by
    simp only [insertSorted, Sorting.ins, insertSorted_eq x ys]
    by_cases h : pathLt y.1 x.1 = true <;> simp [h]

theorem sortKnown_eq (l : Known) : sortKnown l = Sorting.sort (fun a b => !pathLt b.1 a.1) l :=
  congrArg (l.foldr · []) (funext fun x => funext (insertSorted_eq x))

theorem mem_sortKnown {z : Path × Entry} {l : Known} : z ∈ sortKnown l ↔ z ∈ l :=
  sortKnown_eq l ▸ Sorting.mem_sort

/-- the paths of a dict are distinct, so `¬ y < x` decides `x < y` -/
theorem sortKnown_sorted {l : Known} (h : (l.map (·.1)).Nodup) : (sortKnown l).Pairwise (fun a b => a.1 < b.1) := by
  rw [sortKnown_eq]
  refine Sorting.pairwise_sort (R := fun a b => a.1 < b.1) (fun _ _ _ => List.lt_trans)
    ((List.pairwise_map.1 h).imp fun {a b} hab => ?_)
  cases hlt : pathLt b.1 a.1
  · have : ¬ b.1 < a.1 := fun h' => by rw [(pathLt_iff_lt _ _).2 h'] at hlt; cases hlt
    simpa using (List.le_iff_lt_or_eq.1 (List.not_lt.1 this)).resolve_right hab
  · simpa using (pathLt_iff_lt _ _).1 hlt

/-- `for (p, e) in cs: if p not in known: known[p] = e` -/
def addAll (cs : List (Path × Entry)) (k : Known) : Known := cs.foldl (fun k c => kAdd k c.1 c.2) k

def keys (k : Known) : List Path := k.map (·.1)

theorem kAdd_of_mem {k : Known} {p : Path} {e : Entry} (h : p ∈ keys k) : kAdd k p e = k :=
  if_pos ((AR.any_key_iff k p).2 h)

theorem kAdd_of_not_mem {k : Known} {p : Path} {e : Entry} (h : p ∉ keys k) : kAdd k p e = k ++ [(p, e)] :=
  if_neg (mt (AR.any_key_iff k p).1 h)

theorem keys_kAdd (k : Known) (p : Path) (e : Entry) : keys (kAdd k p e) = AR.ins (keys k) p := by
  by_cases hp : p ∈ keys k
  · rw [kAdd_of_mem hp]; exact (if_pos (List.contains_iff_mem.2 hp)).symm
  · rw [kAdd_of_not_mem hp, AR.ins_of_not_mem hp, keys, List.map_append]; rfl

theorem keys_nodup_kAdd {k : Known} {p : Path} {e : Entry} (h : (keys k).Nodup) : (keys (kAdd k p e)).Nodup :=
  keys_kAdd k p e ▸ AR.ins_nodup _ p h

theorem keys_nodup_addAll : ∀ {cs : List (Path × Entry)} {k : Known}, (keys k).Nodup → (keys (addAll cs k)).Nodup
  | [], _, h => h
  | c :: cs, k, h => by
    simp only [addAll, List.foldl_cons]
    exact keys_nodup_addAll (cs := cs) (keys_nodup_kAdd h)

theorem dget_kAdd (k : Known) (p q : Path) (e : Entry) :
    AR.dget (kAdd k p e) q = (AR.dget k q).or (AR.dget [(p, e)] q) := by
  by_cases hp : p ∈ keys k
  · -- `p` is taken: a later claim of `p` is never looked at
    rw [kAdd_of_mem hp, AR.dget_cons]
    split
    · rename_i h
      obtain rfl : p = q := eq_of_beq h
      obtain ⟨v, hv⟩ := Option.isSome_iff_exists.1 (AR.dget_isSome_iff.2 hp)
      rw [hv]; rfl
    · exact (Option.or_none).symm
  · rw [kAdd_of_not_mem hp, AR.dget_append]

theorem dget_addAll : ∀ (cs : List (Path × Entry)) (k : Known) (q : Path),
    AR.dget (addAll cs k) q = (AR.dget k q).or (AR.dget cs q)
  | [], k, q => by simp [addAll, AR.dget]
  | c :: cs, k, q => by
    have ih := dget_addAll cs (kAdd k c.1 c.2) q
    simp only [addAll, List.foldl_cons] at ih ⊢
    rw [ih, dget_kAdd, Option.or_assoc, ← AR.dget_append]
    rfl

theorem mem_addAll_nil {cs : List (Path × Entry)} {p : Path} {e : Entry} :
    (p, e) ∈ addAll cs [] ↔ cs.find? (·.1 == p) = some (p, e) := by
  rw [← AR.dget_eq_some_iff (keys_nodup_addAll (cs := cs) (k := []) List.nodup_nil), dget_addAll]
  simp only [AR.dget, List.find?_nil, Option.map_none, Option.none_or, Option.map_eq_some_iff]
  constructor
  · rintro ⟨x, hx, rfl⟩
    have := List.find?_some hx
    rw [hx, ← eq_of_beq this]
  · exact fun h => ⟨_, h, rfl⟩

theorem addAll_append {a b : List (Path × Entry)} {k : Known} : addAll (a ++ b) k = addAll b (addAll a k) := by
  simp [addAll, List.foldl_append]

theorem mem_sorted_items {cs : List (Path × Entry)} {it : Item} :
    it ∈ (sortKnown (addAll cs [])).map toItem ↔
      ∃ e, cs.find? (·.1 == it.path) = some (it.path, e) ∧ it = toItem (it.path, e) := by
  simp only [List.mem_map, mem_sortKnown]
  constructor
  · rintro ⟨⟨p, e⟩, hmem, rfl⟩
    exact ⟨e, mem_addAll_nil.1 hmem, rfl⟩
  · rintro ⟨e, h, he⟩
    exact ⟨(it.path, e), mem_addAll_nil.2 h, he.symm⟩

/-- the loop over the matchers, each adding its claims, adds the claims of all of them in list order -/
theorem foldl_addAll {α} {step : Known → α → Known} {claims : α → List (Path × Entry)}
    (h : ∀ k r, step k r = addAll (claims r) k) : ∀ (ms : List α) (k : Known),
    ms.foldl step k = addAll (ms.flatMap claims) k
  | [], k => by simp [addAll]
  | r :: ms, k => by rw [List.foldl_cons, h, foldl_addAll h ms, List.flatMap_cons, addAll_append]

theorem yielded_claim {α} {claims : α → List (Path × Entry)} {ms : List α} {it : Item}
    (h : it ∈ (sortKnown (addAll (ms.flatMap claims) [])).map toItem) :
    ∃ r ∈ ms, ∃ e, (it.path, e) ∈ claims r ∧ it = toItem (it.path, e) := by
  obtain ⟨e, hf, hit⟩ := mem_sorted_items.1 h
  obtain ⟨r, hr, hc⟩ := List.mem_flatMap.1 (List.mem_of_find?_eq_some hf)
  exact ⟨r, hr, e, hc, hit⟩

/-- a claimed path is yielded (with the entry of its first claim, which need not be this one) -/
theorem claim_yielded {α} {claims : α → List (Path × Entry)} {ms : List α} {r : α} {p : Path} {e : Entry}
    (hr : r ∈ ms) (h : (p, e) ∈ claims r) :
    ∃ it ∈ (sortKnown (addAll (ms.flatMap claims) [])).map toItem, it.path = p := by
  have hmem : (p, e) ∈ ms.flatMap claims := List.mem_flatMap.2 ⟨r, hr, h⟩
  cases hf : (ms.flatMap claims).find? (·.1 == p) with
  | none =>
    rw [List.find?_eq_none] at hf
    exact absurd (by simp) (hf _ hmem)
  | some x =>
    have h1 := List.find?_some hf
    simp only [beq_iff_eq] at h1
    refine ⟨toItem (p, x.2), mem_sorted_items.2 ⟨x.2, ?_, rfl⟩, rfl⟩
    show (ms.flatMap claims).find? (·.1 == p) = some (p, x.2)
    rw [hf, ← h1]

theorem sorted_items_strict {cs : List (Path × Entry)} :
    (((sortKnown (addAll cs [])).map toItem).map (·.path)).Pairwise (fun a b => a < b) := by
  rw [List.map_map, List.pairwise_map]
  exact sortKnown_sorted (keys_nodup_addAll (cs := cs) (k := []) (by simp [keys]))

end PF
