/- `AndroidParser.walk`, one iteration of its loop: what `commentLoop`/`handleComment` consume (`CommentSpec`), and what
   the iteration does with the nodes it consumes (`StepFacts`: localizable entries = the elements, text = the
   serialisation of the kept nodes).  The iteration is comment part, white-space part, element part; `Acc` is what has
   been consumed and attached so far, and `stepElem`, `stepWhite`, `walkStep` each get one lemma that carries it on. -/
import CLModel.Proofs.C09PSpec
namespace C09P
open AndroidP

theorem toxml?_some {n : DNode} {x : List Nat} (h : n.toxml? = some x) : n.printable = true ∧ x = n.toxml := by
  unfold DNode.toxml? at h
  split at h <;> simp_all

theorem handleElement_eq (name : List Nat) (attrs : List (List Nat × List Nat)) (cs : List DNode) (cc ws : Option Lit) :
    handleElement (.element name attrs cs) cc ws =
      if (DNode.element name attrs cs).printable then some (elemEntry cc ws (.element name attrs cs)) else none := by
  unfold handleElement DNode.toxml?
  by_cases hp : (DNode.element name attrs cs).printable = true
  · simp only [hp, if_true]
    unfold elemEntry isStringElem nameOf
    simp only
    split <;> rfl
  · simp [hp]

/-- `commentLoop` consumes `pre` (comments, and short text nodes in front of a comment) and appends the serialisation of `ks`:
    all of `pre`, or `pre` without a short text node at the very end of the list, which is consumed and lost. -/
structure CommentSpec (a : List Nat) (l : List DNode) (a' : List Nat) (rem : List DNode) : Prop where
  ex : ∃ pre ks, l = pre ++ rem ∧ a' = a ++ toxmlList ks ∧
    (∀ n ∈ pre, (∃ d, n = .text d ∧ shortC d) ∨ n.isComment = true) ∧
    (ks = pre ∨ (rem = [] ∧ ∃ d, shortC d ∧ pre = ks ++ [.text d]))
  noComment : ∀ c r, rem ≠ .comment c :: r
  noShortComment : ∀ d c r, rem = .text d :: .comment c :: r → ¬ shortC d

theorem toxmlList_append (a b : List DNode) : toxmlList (a ++ b) = toxmlList a ++ toxmlList b := by
  induction a with
  | nil => simp [toxmlList]
  | cons x xs ih => simp [toxmlList, ih]

theorem commentLoop_spec (a v : List Nat) (l : List DNode) :
    ∀ a' v' rem, commentLoop a v l = some (a', v', rem) → CommentSpec a l a' rem := by
  fun_induction commentLoop a v l <;> intro a' v' rem h
  all_goals (try (simp at h))
  · obtain ⟨rfl, rfl, rfl⟩ := h
    exact ⟨⟨[], [], by simp [toxmlList]⟩, by simp, by simp⟩
  · obtain ⟨rfl, rfl, rfl⟩ := h
    refine ⟨⟨[], [], by simp [toxmlList]⟩, by simp, by simp⟩
  · obtain ⟨rfl, rfl, rfl⟩ := h
    rename_i d hs
    refine ⟨⟨[.text d], [], by simp, by simp [toxmlList], ?_, Or.inr ⟨rfl, d, hs, by simp⟩⟩, by simp, by simp⟩
    intro n hn; simp at hn; subst hn; exact Or.inl ⟨d, rfl, hs⟩
  · obtain ⟨rfl, rfl, rfl⟩ := h
    rename_i d c rest hl
    refine ⟨⟨[], [], by simp [toxmlList]⟩, by simp, ?_⟩
    intro d' c' r' he; simp at he; obtain ⟨rfl, rfl, rfl⟩ := he; exact fun hs => hs hl
  · rename_i d c rest hs xml hx ih
    have hspec := ih a' v' rem (by simpa [List.append_assoc] using h)
    obtain ⟨⟨pre, ks, h1, h2, h3, h4⟩, h5, h6⟩ := hspec
    obtain ⟨_, rfl⟩ := toxml?_some hx
    refine ⟨⟨.text d :: .comment c :: pre, .text d :: .comment c :: ks, by simp [h1], ?_, ?_, ?_⟩, h5, h6⟩
    · simp [h2, toxmlList, List.append_assoc]
    · intro n hn
      simp at hn
      rcases hn with rfl | rfl | hn
      · exact Or.inl ⟨d, rfl, hs⟩
      · exact Or.inr rfl
      · exact h3 n hn
    · rcases h4 with rfl | ⟨rfl, d', hd', rfl⟩
      · exact Or.inl rfl
      · exact Or.inr ⟨rfl, d', hd', by simp⟩
  · obtain ⟨rfl, rfl, rfl⟩ := h
    rename_i d n rest hn
    refine ⟨⟨[], [], by simp [toxmlList]⟩, by simp, ?_⟩
    intro d' c' r' he; simp at he; obtain ⟨rfl, rfl, rfl⟩ := he; exact absurd rfl (hn c')
  · rename_i c rest xml hx ih
    obtain ⟨⟨pre, ks, h1, h2, h3, h4⟩, h5, h6⟩ := ih a' v' rem h
    obtain ⟨_, rfl⟩ := toxml?_some hx
    refine ⟨⟨.comment c :: pre, .comment c :: ks, by simp [h1], ?_, ?_, ?_⟩, h5, h6⟩
    · simp [h2, toxmlList, List.append_assoc]
    · intro n hn
      simp at hn
      rcases hn with rfl | hn
      · exact Or.inr rfl
      · exact h3 n hn
    · rcases h4 with rfl | ⟨rfl, d', hd', rfl⟩
      · exact Or.inl rfl
      · exact Or.inr ⟨rfl, d', hd', by simp⟩
  · obtain ⟨rfl, rfl, rfl⟩ := h
    rename_i n rest h1 h2 h3 h4
    refine ⟨⟨[], [], by simp [toxmlList]⟩, ?_, ?_⟩
    · intro c r he; simp at he; exact h4 c he.1
    · intro d c r he; simp at he; exact (h2 d c r he.1 he.2).elim


theorem handleComment_spec {c : List Nat} {r : List DNode} {cc : Lit} {rem : List DNode}
    (h : handleComment c r = some (cc, rem)) :
    (DNode.comment c).printable = true ∧ CommentSpec (DNode.comment c).toxml r cc.all rem := by
  unfold handleComment at h
  split at h
  · cases h
  · rename_i cx hx
    obtain ⟨hp, rfl⟩ := toxml?_some hx
    split at h
    · cases h
    · rename_i a' v' rem' hc
      simp at h
      obtain ⟨rfl, rfl⟩ := h
      exact ⟨hp, commentLoop_spec _ _ _ _ _ _ hc⟩

/-- `node.nodeValue` of a text or CDATA node -/
def dataOf : DNode → List Nat
  | .text d => d
  | .cdata d => d
  | _ => []

def whiteLit (n : DNode) : Lit := ⟨n.toxml, dataOf n⟩

theorem stepElem_cases {ol : Bool} {cc ws : Option Lit} {node : DNode} {rest : List DNode} {s : Step}
    (h : stepElem ol cc ws node rest = some s) :
    (node.isElement = true ∧ node.printable = true ∧ s = .cont [elemEntry cc ws node] rest) ∨
    (node.isElement = false ∧ s = .cont (extras ol cc ws) rest) := by
  unfold stepElem at h
  split at h
  · rename_i he
    left
    cases node <;> simp [DNode.isElement] at he
    rename_i name attrs cs
    rw [handleElement_eq] at h
    split at h
    · rename_i hp
      simp at h
      exact ⟨rfl, hp, h.symm⟩
    · simp at h
  · rename_i he
    right
    simp at h
    exact ⟨by simpa using he, h.symm⟩

theorem stepWhiteBody_cases {ol : Bool} {cc : Option Lit} {node : DNode} {rest : List DNode} {s : Step}
    (h : stepWhiteBody ol cc node (dataOf node) rest = some s) :
    node.printable = true ∧
      ((cc = none ∧ s = .cont (extras ol none (some (whiteLit node))) rest) ∨
       (∃ c, cc = some c ∧
         ((¬ shortW (dataOf node) ∧ s = .cont (extras ol (some c) (some (whiteLit node))) rest) ∨
          (shortW (dataOf node) ∧ rest = [] ∧ s = .stop (extras ol (some c) (some (whiteLit node)))) ∨
          (shortW (dataOf node) ∧ ∃ n2 r2, rest = n2 :: r2 ∧
             stepElem ol (some c) (some (whiteLit node)) n2 r2 = some s)))) := by
  unfold stepWhiteBody at h
  split at h
  · cases h
  · rename_i wx hx
    obtain ⟨hp, rfl⟩ := toxml?_some hx
    have hw : (⟨node.toxml, dataOf node⟩ : Lit) = whiteLit node := rfl
    simp only [hw] at h
    refine ⟨hp, ?_⟩
    cases cc with
    | none => simp at h; exact Or.inl ⟨rfl, h.symm⟩
    | some c' =>
      right
      refine ⟨c', rfl, ?_⟩
      simp only at h
      split at h
      · rename_i hlong
        simp at h
        exact Or.inl ⟨fun hs => hs hlong, h.symm⟩
      · rename_i hshort
        split at h
        · simp at h; exact Or.inr (Or.inl ⟨hshort, rfl, h.symm⟩)
        · exact Or.inr (Or.inr ⟨hshort, _, _, rfl, h⟩)

theorem stepWhite_textlike {ol : Bool} {cc : Option Lit} {node : DNode} {rest : List DNode}
    (htl : node.isTextLike = true) : stepWhite ol cc node rest = stepWhiteBody ol cc node (dataOf node) rest := by
  cases node <;> simp [DNode.isTextLike] at htl <;> rfl

theorem stepWhite_other {ol : Bool} {cc : Option Lit} {node : DNode} {rest : List DNode}
    (htl : node.isTextLike = false) : stepWhite ol cc node rest = stepElem ol cc none node rest := by
  cases node <;> simp [DNode.isTextLike] at htl <;> simp [stepWhite]

theorem thresholds_agree : Gen.TablesAndroid.comment_nl = Gen.TablesAndroid.walk_nl ∧
    Gen.TablesAndroid.comment_nl_threshold = Gen.TablesAndroid.walk_nl_threshold := by decide

theorem shortW_iff_shortC (d : List Nat) : shortW d ↔ shortC d := by
  unfold shortW shortC
  rw [thresholds_agree.1, thresholds_agree.2]

theorem noAdjText_tail {n : DNode} {l : List DNode} (h : noAdjText (n :: l) = true) : noAdjText l = true := by
  unfold noAdjText at h
  split at h
  · cases h
  · rename_i heq; cases heq; exact h
  · rename_i heq; cases heq

theorem noAdjText_suffix (a : List DNode) {b : List DNode} (h : noAdjText (a ++ b) = true) : noAdjText b = true := by
  induction a with
  | nil => simpa using h
  | cons x xs ih => exact ih (noAdjText_tail h)

theorem noAdjText_infix (a b : List DNode) (x y : List Nat) :
    noAdjText (a ++ .text x :: .text y :: b) = false := by
  cases h : noAdjText (a ++ .text x :: .text y :: b) with
  | false => rfl
  | true => exact absurd (noAdjText_suffix a h) (by simp [noAdjText])

theorem clean_suffix {a b : List DNode} (h : Clean (a ++ b)) : Clean b := by
  refine ⟨fun n hn => h.plain n (by simp [hn]), noAdjText_suffix a h.fused, ?_⟩
  rintro ⟨pre, c, d, rfl, hs⟩
  exact h.tail ⟨a ++ pre, c, d, by simp, hs⟩

theorem all_elemEntry_string (cc ws : Option Lit) {n : DNode} (h : isStringElem n = true) :
    (elemEntry cc ws n).all = optAll cc ++ optAll ws ++ n.toxml := by
  cases n <;> simp [isStringElem] at h
  unfold elemEntry
  simp [isStringElem, h, Entry.all]

theorem core_elemEntry (cc ws : Option Lit) (n : DNode) : core (elemEntry cc ws n) = elemEntry none none n := by
  cases n <;> simp [elemEntry, core]
  rename_i name attrs cs
  by_cases hs : isStringElem (.element name attrs cs) = true <;> simp [hs]

theorem isLoc_elemEntry (cc ws : Option Lit) (n : DNode) : isLoc (elemEntry cc ws n) = true := by
  cases n <;> simp [elemEntry, isLoc, Entry.isEntity, Entry.isJunk]
  rename_i name attrs cs
  by_cases hs : isStringElem (.element name attrs cs) = true <;> simp [hs]

theorem extras_noLoc (ol : Bool) (cc ws : Option Lit) : (extras ol cc ws).filter isLoc = [] := by
  cases ol <;> cases cc <;> cases ws <;> simp [extras, optEntry, isLoc, Entry.isEntity, Entry.isJunk]

theorem allText_extras (cc ws : Option Lit) : allText (extras false cc ws) = optAll cc ++ optAll ws := by
  cases cc <;> cases ws <;> simp [extras, optEntry, allText, Entry.all, optAll]

theorem nil_or_snoc {α : Type} (l : List α) : l = [] ∨ ∃ L b, l = L ++ [b] := by
  rcases List.eq_nil_or_concat l with h | ⟨L, b, h⟩
  · exact Or.inl h
  · exact Or.inr ⟨L, b, by simpa [List.concat_eq_append] using h⟩

/-- what one iteration of the loop does with the nodes it consumes (`pre`) -/
structure StepFacts (ol : Bool) (n : DNode) (r : List DNode) (s : Step) (pre : List DNode) : Prop where
  split : n :: r = pre ++ s.rest
  ne_nil : pre ≠ []
  loc : (s.out.filter isLoc).map core = (pre.filter DNode.isElement).map (elemEntry none none)
  text : ol = false → ∃ ks, ks.Sublist pre ∧ allText s.out = toxmlList ks ∧ (Clean (n :: r) → ks = pre)

theorem textLike_not_element : ∀ {n : DNode}, n.isTextLike = true → n.isElement = false
  | .element .., h => nomatch h
  | .text _, _ | .cdata _, _ | .comment _, _ | .pi .., _ | .doctype .., _ => rfl

theorem plain_textlike {n : DNode} (hp : isPlain n = true) (ht : n.isTextLike = true) : ∃ d, n = .text d := by
  cases n <;> simp [isPlain, DNode.isTextLike] at hp ht
  exact ⟨_, rfl⟩

theorem filter_elem_single {n : DNode} (h : n.isElement = true) : [n].filter DNode.isElement = [n] := by simp [h]
theorem filter_elem_single_not {n : DNode} (h : n.isElement = false) : [n].filter DNode.isElement = [] := by simp [h]

theorem toxmlList_single (n : DNode) : toxmlList [n] = n.toxml := by simp [toxmlList]

theorem allText_single (e : Entry) : allText [e] = e.all := by simp [allText]

theorem isElement_comment (c : List Nat) : (DNode.comment c).isElement = false := rfl

/-- what an iteration has consumed (`A`) and attached (`cc`, `ws`) when it reaches `rem`: no element, and the attached
    text is the serialisation of a sub-sequence of `A` (all of `A` in a clean list) -/
structure Acc (n : DNode) (r : List DNode) (cc ws : Option Lit) (A rem : List DNode) : Prop where
  split : n :: r = A ++ rem
  noElem : A.filter DNode.isElement = []
  text : ∃ ks, ks.Sublist A ∧ optAll cc ++ optAll ws = toxmlList ks ∧ (Clean (n :: r) → ks = A)

theorem Acc.nil (n : DNode) (r : List DNode) : Acc n r none none [] (n :: r) :=
  ⟨rfl, rfl, [], List.Sublist.refl _, rfl, fun _ => rfl⟩

theorem Acc.comment {c : List Nat} {r : List DNode} {cc : Lit} {rem : List DNode}
    (h : handleComment c r = some (cc, rem)) :
    ∃ pc, Acc (.comment c) r (some cc) none (.comment c :: pc) rem ∧
      (∀ c' r', rem ≠ .comment c' :: r') ∧ (∀ d c' r', rem = .text d :: .comment c' :: r' → ¬ shortC d) := by
  obtain ⟨_, ⟨⟨pre, ks, h1, h2, h3, h4⟩, h5, h6⟩⟩ := handleComment_spec h
  refine ⟨pre, ⟨by simp [h1], ?_, .comment c :: ks, ?_, by simp [optAll, h2, toxmlList], fun hcl => ?_⟩, h5, h6⟩
  · simp only [List.filter_cons, isElement_comment, Bool.false_eq_true, if_false, List.filter_eq_nil_iff]
    intro n hn
    rcases h3 n hn with ⟨d, rfl, _⟩ | hc
    · simp [DNode.isElement]
    · cases n <;> simp [DNode.isComment] at hc; simp [DNode.isElement]
  · rcases h4 with rfl | ⟨_, d, _, rfl⟩
    · exact List.Sublist.refl _
    · exact (List.sublist_append_left _ _).cons_cons _
  · -- in a clean list the run does not end with a short text node that `handleComment` loses
    rcases h4 with rfl | ⟨rfl, d, hd, rfl⟩
    · rfl
    · exfalso
      simp only [List.append_nil] at h1
      subst h1
      rcases nil_or_snoc ks with rfl | ⟨ks', x, rfl⟩
      · exact hcl.tail ⟨[], c, d, by simp, hd⟩
      · rcases h3 x (by simp) with ⟨d', rfl, _⟩ | hc
        · have := noAdjText_infix (.comment c :: ks') [] d' d
          have h2 := hcl.fused
          simp only [List.append_assoc, List.cons_append, List.nil_append] at h2 this
          rw [this] at h2; cases h2
        · cases x <;> simp [DNode.isComment] at hc
          rename_i c''
          exact hcl.tail ⟨.comment c :: ks', c'', d, by simp, hd⟩

theorem Acc.white {n : DNode} {r : List DNode} {cc : Option Lit} {A : List DNode} {node : DNode} {rest : List DNode}
    (acc : Acc n r cc none A (node :: rest)) (ht : node.isTextLike = true) :
    Acc n r cc (some (whiteLit node)) (A ++ [node]) rest := by
  obtain ⟨ks, hsub, htxt, hcl⟩ := acc.text
  refine ⟨by simp [acc.split], by simp [List.filter_append, acc.noElem, textLike_not_element ht], ks ++ [node],
    List.Sublist.append hsub (List.Sublist.refl _), ?_, fun h => by rw [hcl h]⟩
  simp only [optAll, List.append_nil] at htxt
  simp [optAll, whiteLit, toxmlList_append, toxmlList, htxt]

theorem Acc.facts_extras {ol : Bool} {n : DNode} {r : List DNode} {cc ws : Option Lit} {A : List DNode} {s : Step}
    (acc : Acc n r cc ws A s.rest) (hA : A ≠ []) (hout : s.out = extras ol cc ws) : ∃ pre, StepFacts ol n r s pre := by
  obtain ⟨ks, hsub, htxt, hcl⟩ := acc.text
  refine ⟨A, acc.split, hA, by simp [hout, extras_noLoc, acc.noElem], fun hol => ⟨ks, hsub, ?_, hcl⟩⟩
  subst hol
  rw [hout, allText_extras, htxt]

/-- the last part of the loop body: the node is consumed; an element takes the attached comment and white-space, any
    other node is dropped (`hdrop`: which does not happen in a clean list) -/
theorem stepElem_facts {ol : Bool} {n : DNode} {r : List DNode} {cc ws : Option Lit} {A : List DNode} {node : DNode}
    {rest : List DNode} {s : Step} (acc : Acc n r cc ws A (node :: rest))
    (hdrop : node.isElement = false → ¬ Clean (n :: r)) (h : stepElem ol cc ws node rest = some s) :
    ∃ pre, StepFacts ol n r s pre := by
  obtain ⟨ks, hsub, htxt, hcl⟩ := acc.text
  have hsplit : n :: r = (A ++ [node]) ++ rest := by simp [acc.split]
  rcases stepElem_cases h with ⟨he, _, rfl⟩ | ⟨he, rfl⟩
  · refine ⟨A ++ [node], hsplit, by simp, ?_, fun _ => ?_⟩
    · simp [Step.out, isLoc_elemEntry, core_elemEntry, List.filter_append, acc.noElem, he]
    · by_cases hstr : isStringElem node = true
      · refine ⟨ks ++ [node], List.Sublist.append hsub (List.Sublist.refl _), ?_, fun h => by rw [hcl h]⟩
        simp [Step.out, allText_single, all_elemEntry_string _ _ hstr, htxt, toxmlList_append, toxmlList]
      · refine ⟨[node], by simp, ?_, fun h => ?_⟩
        · have : (elemEntry cc ws node).all = node.toxml := by
            cases node <;> simp [DNode.isElement] at he
            simp [elemEntry, hstr, Entry.all]
          simp [Step.out, allText_single, this, toxmlList_single]
        · have := h.plain node (by simp [acc.split])
          cases node <;> simp [DNode.isElement] at he
          simp [isPlain] at this
          exact absurd this hstr
  · refine ⟨A ++ [node], hsplit, by simp, ?_, fun hol => ⟨ks, hsub.trans (List.sublist_append_left _ _), ?_, fun h => absurd h (hdrop he)⟩⟩
    · simp [Step.out, extras_noLoc, List.filter_append, acc.noElem, he]
    · subst hol
      simp [Step.out, allText_extras, htxt]

/-- the white-space part and what follows it.  `hnc`, `hns`: the node reached is not a comment, and not a short text
    in front of a comment when a comment is attached (`handleComment` would have consumed both) -/
theorem stepWhite_facts {ol : Bool} {n : DNode} {r : List DNode} {cc : Option Lit} {A : List DNode} {node : DNode}
    {rest : List DNode} {s : Step} (acc : Acc n r cc none A (node :: rest)) (hnc : node.isComment = false)
    (hns : ∀ d c' r', cc ≠ none → node :: rest = .text d :: .comment c' :: r' → ¬ shortC d)
    (h : stepWhite ol cc node rest = some s) : ∃ pre, StepFacts ol n r s pre := by
  by_cases htl : node.isTextLike = true
  · have accW := acc.white htl
    rw [stepWhite_textlike htl] at h
    obtain ⟨_, hcases⟩ := stepWhiteBody_cases h
    rcases hcases with ⟨rfl, rfl⟩ | ⟨c, rfl, ⟨_, rfl⟩ | ⟨_, rfl, rfl⟩ | ⟨hs, n2, r2, rfl, he⟩⟩
    · exact accW.facts_extras (by simp) rfl
    · exact accW.facts_extras (by simp) rfl
    · exact accW.facts_extras (by simp) rfl
    · refine stepElem_facts accW (fun hne hcl => ?_) he
      have hin : ∀ x ∈ [node, n2], x ∈ n :: r := fun x hx => by rw [acc.split]; exact List.mem_append_right _ (by
        rcases List.mem_cons.mp hx with rfl | hx
        · simp
        · simp [List.mem_singleton.mp hx])
      obtain ⟨d, rfl⟩ := plain_textlike (hcl.plain node (hin _ (by simp))) htl
      have hp2 := hcl.plain n2 (hin _ (by simp))
      cases n2 <;> simp [isPlain, DNode.isElement] at hp2 hne
      · have hf := hcl.fused
        rw [acc.split, noAdjText_infix] at hf
        cases hf
      · exact hns d _ r2 (by simp) rfl ((shortW_iff_shortC d).mp hs)
  · have htl : node.isTextLike = false := by simpa using htl
    rw [stepWhite_other htl] at h
    refine stepElem_facts acc (fun hne hcl => ?_) h
    have := hcl.plain node (by rw [acc.split]; simp)
    cases node <;> simp_all [isPlain, DNode.isElement, DNode.isTextLike, DNode.isComment]

theorem walkStep_facts {ol : Bool} {n : DNode} {r : List DNode} {s : Step} (h : walkStep ol n r = some s) :
    ∃ pre, StepFacts ol n r s pre := by
  by_cases hcm : n.isComment = true
  · cases n <;> simp [DNode.isComment] at hcm
    rename_i c
    simp only [walkStep] at h
    split at h
    · cases h
    · rename_i cc hc
      obtain ⟨pc, acc, _, _⟩ := Acc.comment hc
      obtain rfl : s = .stop (extras ol (some cc) none) := by simpa using h.symm
      exact acc.facts_extras (by simp) rfl
    · rename_i cc n1 r1 hc
      obtain ⟨pc, acc, h7, h8⟩ := Acc.comment hc
      refine stepWhite_facts acc ?_ (fun d c' r' _ he => h8 d c' r' he) h
      cases n1 with
      | comment c' => exact absurd rfl (h7 c' r1)
      | _ => rfl
  · have hcm : n.isComment = false := by simpa using hcm
    have hw : walkStep ol n r = stepWhite ol none n r := by
      cases n <;> simp [DNode.isComment] at hcm <;> simp [walkStep]
    rw [hw] at h
    exact stepWhite_facts (Acc.nil n r) hcm (fun _ _ _ hne => absurd rfl hne) h

end C09P
