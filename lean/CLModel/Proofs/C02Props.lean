/- C02, properties unescape: `escape.sub(unescape, raw_val)` equals the documented one-pass rules for all texts
   (`propsVal_eq_spec`): one match of the escape regex against one step of the scanner (`escape_step`), then
   `SubAt.of_spec_from`. -/
import CLModel.Parser.Values
import CLModel.Proofs.C02Rx
import CLModel.Proofs.Walk
import CLModel.Proofs.RxSub
namespace P
open Rx Gen.Pat

theorem subGo_go (s : Array Nat) (f : Nat → St → Option (List Nat)) :
    SubGo s (subGo s f) some (fun q st rep => f q st = some rep) :=
  ⟨fun _ => rfl, fun q st rest last rep tl h1 h2 => by simp only [subGo, h1, h2]; rfl⟩

theorem hexCls_eq : inC false [ClsItem.range 48 57, ClsItem.range 97 102, ClsItem.range 65 70] = isHex := by
  funext c
  simp [inC, ClsItem.has, isHex, Bool.or_assoc]

theorem blankCls_eq : inC false [ClsItem.ch 32, ClsItem.ch 9] = (fun c => c == 32 || c == 9) := by
  funext c
  simp [inC, ClsItem.has]

theorem takeHex_eq : ∀ (n : Nat) (l : List Nat), takeHex n l = (l.takeWhile isHex).take n
  | 0, _ => by simp [takeHex]
  | _ + 1, [] => rfl
  | n + 1, c :: t => by
    rw [takeHex, List.takeWhile_cons]
    by_cases hc : isHex c = true
    · rw [if_pos hc, if_pos hc, List.take_succ_cons, takeHex_eq n t]
    · rw [if_neg hc, if_neg hc]; rfl

theorem runLen_hex (l : List Nat) (n : Nat) : runLen isHex (some n) l = (takeHex n l).length := by
  rw [runLen_eq, takeHex_eq, List.length_take]; rfl

theorem takeHex_prefix (n : Nat) (l : List Nat) : takeHex n l = l.take (takeHex n l).length :=
  List.prefix_iff_eq_take.mp (takeHex_eq n l ▸ (List.take_prefix _ _).trans (List.takeWhile_prefix _))

theorem takeHex_all (n : Nat) (l : List Nat) : ∀ c ∈ takeHex n l, isHex c = true := fun c h =>
  List.all_eq_true.mp List.all_takeWhile c (List.mem_of_mem_take (takeHex_eq n l ▸ h))

theorem hexDigitVal_of_isHex (c : Nat) (h : isHex c = true) : hexDigitVal c = some (hexDigit c) := by
  unfold isHex at h
  unfold hexDigitVal hexDigit
  by_cases h1 : (48 ≤ c && c ≤ 57) = true
  · simp [h1]
  · by_cases h2 : (97 ≤ c && c ≤ 102) = true
    · simp [h1, h2]
    · have h3 : (65 ≤ c && c ≤ 70) = true := by simpa [h1, h2] using h
      simp [h1, h2, h3]

theorem foldlM_hex : ∀ (l : List Nat) (acc : Nat), (∀ c ∈ l, isHex c = true) →
    l.foldlM (fun acc c => (hexDigitVal c).map (fun d => acc * 16 + d)) acc =
      some (l.foldl (fun acc c => acc * 16 + hexDigit c) acc) := by
  intro l
  induction l with
  | nil => intro acc _; rfl
  | cons c t ih =>
    intro acc h
    simp only [List.foldlM_cons, List.foldl_cons]
    rw [hexDigitVal_of_isHex c (h c (by simp))]
    simp only [Option.map_some, Option.bind_eq_bind, Option.bind_some]
    exact ih _ (fun d hd => h d (by simp [hd]))

theorem intBase16_takeHex (n : Nat) (l : List Nat) (h : (takeHex n l).isEmpty = false) :
    intBase16 (takeHex n l) = some (hexValue (takeHex n l)) := by
  unfold intBase16 hexValue
  simp only [h, Bool.false_eq_true, if_false]
  exact foldlM_hex _ 0 (takeHex_all n l)

theorem dropBlank_eq : ∀ l : List Nat, dropBlank l = l.dropWhile (fun c => c == 32 || c == 9)
  | [] => rfl
  | c :: t => by
    rw [dropBlank, List.dropWhile_cons]
    by_cases hc : (c == 32 || c == 9) = true
    · rw [if_pos hc, if_pos hc, dropBlank_eq t]
    · rw [if_neg hc, if_neg hc]

theorem drop_runLen_blank (l : List Nat) : l.drop (runLen (fun c => c == 32 || c == 9) none l) = dropBlank l := by
  rw [runLen_eq, dropBlank_eq]
  conv => lhs; arg 2; rw [← List.takeWhile_append_dropWhile (p := fun c => c == 32 || c == 9) (l := l)]
  exact List.drop_left' rfl

theorem escape_nomatch_ne (s : Array Nat) (pos : Nat) (h : s[pos]? ≠ some 92) :
    matchAt s PropertiesEntityMixin_escape pos = none := by
  simp only [matchAt, PropertiesEntityMixin_escape, m_seq_def, m_lit_def]
  simp [h]

theorem escape_nomatch_end (s : Array Nat) (pos : Nat) (h1 : s[pos + 1]? = none) :
    matchAt s PropertiesEntityMixin_escape pos = none := by
  simp only [matchAt, PropertiesEntityMixin_escape, m_seq_def, m_lit_def, m_group_def, m_alt_def, m_rep_def]
  split
  · simp [h1, m_any_none]
  · rfl

theorem spec_cons_ne (c : Nat) (rest : List Nat) (h : c ≠ 92) :
    propsUnescapeSpec (c :: rest) = c :: propsUnescapeSpec rest := by
  rw [propsUnescapeSpec.eq_def]; simp [h]

theorem spec_lone : propsUnescapeSpec [92] = [92] := by
  rw [propsUnescapeSpec.eq_def]; simp

theorem spec_esc (d : Nat) (rest' : List Nat) :
    propsUnescapeSpec (92 :: d :: rest') =
      if d = 117 then
        if (takeHex 4 rest').isEmpty then 117 :: propsUnescapeSpec rest'
        else hexValue (takeHex 4 rest') :: propsUnescapeSpec (rest'.drop (takeHex 4 rest').length)
      else if d = 10 then propsUnescapeSpec (dropBlank rest')
      else specEscape d :: propsUnescapeSpec rest' := by
  rw [propsUnescapeSpec.eq_def]; simp


theorem knownEscape_spec (d : Nat) : knownEscape [d] = [specEscape d] := by
  simp only [knownEscape, Gen.Tables.knownEscapes, specEscape, List.find?]
  by_cases h1 : d = 92
  · subst h1; decide
  · by_cases h2 : d = 110
    · subst h2; decide
    · by_cases h3 : d = 114
      · subst h3; decide
      · by_cases h4 : d = 116
        · subst h4; decide
        · have e1 : (92 == d) = false := by simp; omega
          have e2 : (110 == d) = false := by simp; omega
          have e3 : (114 == d) = false := by simp; omega
          have e4 : (116 == d) = false := by simp; omega
          simp [e1, e2, e3, e4, h2, h3, h4]

theorem slice_take (s : Array Nat) (a n : Nat) (l : List Nat) (h : s.toList.drop a = l) :
    slice s a (a + n) = l.take n :=
  Txt.extract_of_drop h n

theorem escape_match (s : Array Nat) (pos d : Nat) (rest' : List Nat) (h0 : s[pos]? = some 92)
    (hd1 : s.toList.drop (pos + 1) = d :: rest') :
    ∃ st a, matchAt s PropertiesEntityMixin_escape pos = some st ∧ pos < st.pos ∧ st.pos ≤ s.size ∧
      propsUnescapeCb s pos st = some a ∧
      a ++ propsUnescapeSpec (s.toList.drop st.pos) = propsUnescapeSpec (92 :: d :: rest') := by
  have h1 : s[pos + 1]? = some d := Txt.head_of_drop hd1
  have hd2 : s.toList.drop (pos + 2) = rest' := Txt.drop_succ_of_cons hd1
  have hsz : pos + 2 ≤ s.size := getElem?_some_lt h1
  have hlen : rest'.length = s.size - (pos + 2) := by rw [← hd2]; simp
  have hfH : runLen (inC false [ClsItem.range 48 57, ClsItem.range 97 102, ClsItem.range 65 70]) (some 4)
      (s.toList.drop (pos + 1 + 1)) < s.size + 2 - (pos + 1 + 1) := by
    have := runLen_le (inC false [ClsItem.range 48 57, ClsItem.range 97 102, ClsItem.range 65 70]) (s.toList.drop (pos + 1 + 1)) (some 4)
    simp at this ⊢; omega
  have hfB : runLen (inC false [ClsItem.ch 32, ClsItem.ch 9]) none
      (s.toList.drop (pos + 1 + 1)) < s.size + 2 - (pos + 1 + 1) := by
    have := runLen_le (inC false [ClsItem.ch 32, ClsItem.ch 9]) (s.toList.drop (pos + 1 + 1)) none
    simp at this ⊢; omega
  simp only [matchAt, PropertiesEntityMixin_escape, m_seq_def, m_lit_def, m_group_def, m_alt_def, m_rep_def, h0, h1,
    m_any_some s false ⟨pos + 1, []⟩ _ d h1]
  rw [loop_greedy_total s false _ [] _ (by intro st; simp) _ _ _ _ hfH,
      loop_greedy_total s false _ [] _ (by intro st; simp) _ _ _ _ hfB]
  rw [hexCls_eq, blankCls_eq, show pos + 1 + 1 = pos + 2 by omega, hd2, runLen_hex]
  have hdrop : ∀ n, s.toList.drop (pos + 2 + n) = rest'.drop n := by
    intro n; rw [← hd2, List.drop_drop]
  have hs1 : slice s (pos + 1) (pos + 2) = [d] := by
    have := slice_take s (pos + 1) 1 (d :: rest') hd1
    simpa using this
  rw [spec_esc]
  by_cases hu : d = 117
  · subst hu
    by_cases he : (takeHex 4 rest').isEmpty
    · have hl : (takeHex 4 rest').length = 0 := by simpa using he
      refine ⟨_, [117], by simp [hl]; rfl, ?_, ?_, ?_, ?_⟩
      · simp
      · simp; omega
      · simp [propsUnescapeCb, St.group, capOf, PropertiesEntityMixin_escape_g_uni, PropertiesEntityMixin_escape_g_nl,
          PropertiesEntityMixin_escape_g_single, hs1]
        decide
      · simp [he, hdrop 0]
    · have hl : 0 < (takeHex 4 rest').length := by
        cases hh : takeHex 4 rest' with
        | nil => simp [hh] at he
        | cons a b => simp
      have hle : (takeHex 4 rest').length ≤ rest'.length := by
        have := runLen_le isHex rest' (some 4)
        rw [runLen_hex] at this; exact this
      refine ⟨_, [hexValue (takeHex 4 rest')], by simp [show ¬ (takeHex 4 rest').length < 1 by omega]; rfl, ?_, ?_, ?_, ?_⟩
      · simp; omega
      · simp; omega
      · have hsl : slice s (pos + 1 + 1) (pos + 2 + (takeHex 4 rest').length) = takeHex 4 rest' := by
          have := slice_take s (pos + 2) (takeHex 4 rest').length rest' hd2
          rw [← takeHex_prefix] at this
          simpa using this
        have hne : (takeHex 4 rest').isEmpty = false := by simpa using he
        have hne2 : ¬ (pos + 1 = pos + 2 + (takeHex 4 rest').length) := by omega
        simp [propsUnescapeCb, St.group, capOf, PropertiesEntityMixin_escape_g_uni, hsl, intBase16_takeHex 4 rest' hne, hne2]
      · simp [he, hdrop]
  · by_cases hn : d = 10
    · subst hn
      refine ⟨_, [], by simp; rfl, ?_, ?_, ?_, ?_⟩
      · simp; omega
      · have := runLen_le (fun c => c == 32 || c == 9) rest' none
        simp; omega
      · have hne2 : ¬ (pos + 1 = pos + 2 + runLen (fun c => c == 32 || c == 9) none rest') := by omega
        simp [propsUnescapeCb, St.group, capOf, PropertiesEntityMixin_escape_g_uni, PropertiesEntityMixin_escape_g_nl, hne2]
      · simp [hdrop, drop_runLen_blank]
    · refine ⟨_, [specEscape d], by simp [hu, hn]; rfl, ?_, ?_, ?_, ?_⟩
      · simp
      · simp; omega
      · simp [propsUnescapeCb, St.group, capOf, PropertiesEntityMixin_escape_g_uni, PropertiesEntityMixin_escape_g_nl,
          PropertiesEntityMixin_escape_g_single, hs1, knownEscape_spec]
      · simp [hu, hn, hdrop 0]

theorem spec_nil : propsUnescapeSpec [] = [] := by rw [propsUnescapeSpec.eq_def]

theorem escape_step (s : Array Nat) (pos c : Nat) (h0 : s[pos]? = some c) :
    (matchAt s PropertiesEntityMixin_escape pos = none ∧
      propsUnescapeSpec (c :: s.toList.drop (pos + 1)) = c :: propsUnescapeSpec (s.toList.drop (pos + 1))) ∨
    (∃ st a, matchAt s PropertiesEntityMixin_escape pos = some st ∧ pos < st.pos ∧ st.pos ≤ s.size ∧
      propsUnescapeCb s pos st = some a ∧
      a ++ propsUnescapeSpec (s.toList.drop st.pos) = propsUnescapeSpec (c :: s.toList.drop (pos + 1))) := by
  by_cases hc : c = 92
  · subst hc
    rcases Txt.drop_cases s (pos + 1) with ⟨h1, _, hd1⟩ | ⟨d, h1, _, hd1⟩
    · left
      exact ⟨escape_nomatch_end s pos h1, by rw [hd1, spec_lone, spec_nil]⟩
    · right
      rw [hd1]
      exact escape_match s pos d _ h0 hd1
  · left
    exact ⟨escape_nomatch_ne s pos (by simp [h0, hc]), spec_cons_ne c _ hc⟩

theorem propsVal_eq_spec (v : List Nat) : propsVal v = some (propsUnescapeSpec v) :=
  sub_eq (subGo_go _ _) (fun _ _ => matchAt_advances (by decide))
    (SubAt.of_spec_from _ spec_nil (escape_step _) (escape_nomatch_ne _ _ (by simp)) (Nat.zero_le _))
end P
