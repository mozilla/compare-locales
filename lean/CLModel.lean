import CLModel.Rx.Basic
import CLModel.Proofs.ListLemmas
import CLModel.Proofs.RxDen
import CLModel.Proofs.RxSub
import CLModel.Proofs.Sorting
import CLModel.Proofs.Dict
import CLModel.Gen.Regexes
import CLModel.Gen.Tables
import CLModel.Props.C01
import CLModel.Props.C20
import CLModel.Compare.Merge
import CLModel.Props.C04
import CLModel.Props.C05
import CLModel.Lint.Linter
import CLModel.Lint.Run
import CLModel.Lint.Util
import CLModel.Lint.Cli
import CLModel.Lint.Keyed
import CLModel.Ops.C19
import CLModel.Proofs.C19
import CLModel.Proofs.C19Run
import CLModel.Proofs.C19Util
import CLModel.Props.C19
import CLModel.Compare.Content
import CLModel.Proofs.C03
import CLModel.Compare.Session
import CLModel.Compare.FluentEnt
import CLModel.Proofs.C03Sess
import CLModel.Proofs.C03SessCmp
import CLModel.Proofs.C03Ftl
import CLModel.Proofs.C03Val
import CLModel.Proofs.C03Hist
import CLModel.Proofs.FixPipeBridge
import CLModel.Props.C03
import CLModel.Compare.Tree
import CLModel.Compare.Observer
import CLModel.Ops.C10
import CLModel.Proofs.C10Tree
import CLModel.Proofs.C10Obs
import CLModel.Proofs.ObsProg
import CLModel.Proofs.PipePlan
import CLModel.Proofs.PipePlanFacts
import CLModel.Props.C10
import CLModel.Serialize.Serializer
import CLModel.Ops.C16
import CLModel.Props.C16
import CLModel.Parser.Position
import CLModel.Parser.PositionCache
import CLModel.Proofs.C17Formula
import CLModel.Proofs.C17Lint
import CLModel.Proofs.C17Checkers
import CLModel.Proofs.Skel
import CLModel.Proofs.WalkRel
import CLModel.Proofs.WalkFmt
import CLModel.Proofs.C17Spans
import CLModel.Proofs.C17Ents
import CLModel.Proofs.C17Resolve
import CLModel.Proofs.C17PipeLint
import CLModel.Proofs.C17PipeCmp
import CLModel.Proofs.C17Dtd
import CLModel.Ops.C17
import CLModel.Props.C17
import CLModel.Paths.Filter
import CLModel.Paths.FilterSpec
import CLModel.Compare.MissingFilter
import CLModel.Ops.C14
import CLModel.Proofs.C14Filter
import CLModel.Proofs.C14Rules
import CLModel.Proofs.C14Compare
import CLModel.Props.C14
import CLModel.Checks.Difflib
import CLModel.Checks.Properties
import CLModel.Checks.PrintfToks
import CLModel.Ops.C06
import CLModel.Props.C06
import CLModel.Merge.Channels
import CLModel.Ops.C15
import CLModel.Props.C15
import CLModel.History.State
import CLModel.History.Machine
import CLModel.Proofs.C18MLint
import CLModel.Proofs.C18MCache
import CLModel.Proofs.C18MStep
import CLModel.Proofs.C18MObserver
import CLModel.History.World
import CLModel.Proofs.C18World
import CLModel.Proofs.C18WorldDemo
import CLModel.Ops.C18
import CLModel.Props.C18
import CLModel.Checks.Fluent
import CLModel.Checks.FluentExt
import CLModel.Ops.C08
import CLModel.Proofs.C08Basic
import CLModel.Proofs.C08
import CLModel.Proofs.C08Plural
import CLModel.Proofs.C08Refs
import CLModel.Props.C08
import CLModel.Checks.Android
import CLModel.Ops.C09
import CLModel.Props.C09
import CLModel.Parser.Values
import CLModel.Ops.C02
import CLModel.Proofs.C02Rx
import CLModel.Proofs.C02Base
import CLModel.Proofs.C02IncRec
import CLModel.Proofs.C02DtdCls
import CLModel.Proofs.C02Props
import CLModel.Proofs.C02Po
import CLModel.Proofs.C02Roundtrip
import CLModel.Proofs.C02Ini
import CLModel.Props.C02
import CLModel.Paths.Matcher
import CLModel.Ops.C11
import CLModel.Paths.MozPath
import CLModel.Paths.MatcherX
import CLModel.Paths.MatcherObj
import CLModel.Ops.C12
import CLModel.Proofs.C12Heap
import CLModel.Proofs.C11Obj
import CLModel.Proofs.C12MozPath
import CLModel.Proofs.C12MozNorm
import CLModel.Proofs.C12Scan
import CLModel.Proofs.C12MozLex
import CLModel.Proofs.C12MozSem
import CLModel.Proofs.C12MozLaws
import CLModel.Proofs.C11Eq
import CLModel.Proofs.C11Cache
import CLModel.Proofs.C12BEngine
import CLModel.Proofs.C12BNest
import CLModel.Proofs.C12BExample
import CLModel.Proofs.C11SoundX
import CLModel.Proofs.C12AndroidGen
import CLModel.Proofs.C12Eval
import CLModel.Proofs.C12AClass
import CLModel.Proofs.C12BFill
import CLModel.Props.C11
import CLModel.Props.C12
import CLModel.Checks.Dtd
import CLModel.Checks.XmlContent
import CLModel.Checks.XmlGrammar
import CLModel.Ops.C07
import CLModel.Proofs.C07Model
import CLModel.Proofs.C07Xml
import CLModel.Props.C07
import CLModel.Proofs.C07Num
import CLModel.Paths.ProjectFiles
import CLModel.Ops.C13
import CLModel.Props.C13
import CLModel.Proofs.C04Reparse
import CLModel.Proofs.C04Splice
import CLModel.Proofs.C04Ini
import CLModel.Proofs.BaseCheck
import CLModel.Proofs.SafeRecDec
import CLModel.Proofs.C02XIni
import CLModel.Proofs.C02XInc
import CLModel.Proofs.C02XDtd
import CLModel.Proofs.C02XComment
import CLModel.Proofs.C04Lines
import CLModel.Proofs.C02XPo
import CLModel.Compare.Pipeline
import CLModel.Compare.PipeSession
import CLModel.Proofs.C05Pipe
import CLModel.Proofs.C05Report
import CLModel.Proofs.C05Lint
import CLModel.Proofs.C05Props
import CLModel.Proofs.C05Dtd
import CLModel.Proofs.C05DtdPipe
import CLModel.Proofs.C05Sess
import CLModel.Proofs.C05Clash
import CLModel.Proofs.C05Ext
import CLModel.Proofs.C05Steps
import CLModel.Proofs.C05Utf8
import CLModel.Proofs.C05Decode
import CLModel.Compare.Decode
import CLModel.Rx.Steps
import CLModel.Proofs.C10TOrder
import CLModel.Proofs.C10TContent
import CLModel.Proofs.C10TText
import CLModel.Proofs.C10TSummary
import CLModel.Proofs.C16RAlt
import CLModel.Proofs.C16RSer
import CLModel.Proofs.C16RProps
import CLModel.Proofs.C15RMerge
import CLModel.Proofs.C15RProps
import CLModel.Proofs.C16RIni
import CLModel.Proofs.C15RIni
import CLModel.Proofs.C15Walk
import CLModel.Proofs.C15Total
import CLModel.Proofs.C15Dup
import CLModel.Proofs.C15RStrict
import CLModel.Proofs.C15RGen
import CLModel.Proofs.C15RDtd
import CLModel.Proofs.C15Single
import CLModel.Merge.History
import CLModel.Proofs.C15Hist
import CLModel.Proofs.C06RPrintf
import CLModel.Proofs.C06RLex
import CLModel.Proofs.C06RCor
import CLModel.Proofs.C06RPluralLex
import CLModel.Proofs.C06Unesc
import CLModel.Proofs.C06Grammar
import CLModel.Proofs.C06PluralExact
import CLModel.Proofs.C06Verdict
import CLModel.Proofs.C06Pos
import CLModel.Proofs.C06Gate
import CLModel.Proofs.C06Disjoint
import CLModel.Paths.ProjectFilesM
import CLModel.Proofs.C13MEnc
import CLModel.Proofs.C13MMatcher
import CLModel.Proofs.C13MOn
import CLModel.Proofs.C13MContracts
import CLModel.Proofs.C13MExample
import CLModel.Paths.FilterM
import CLModel.Proofs.C14MCompose
import CLModel.Proofs.C14MParse
import CLModel.Proofs.C14MMatch
import CLModel.Proofs.C14MTexts
import CLModel.Proofs.C14MCor
import CLModel.Proofs.C07ERx
import CLModel.Proofs.C07EGrammar
import CLModel.Proofs.C08CRx
import CLModel.Proofs.C08CGrammar
import CLModel.Proofs.C08CAgree
import CLModel.Proofs.C08CLoop
import CLModel.Proofs.C08CReject
import CLModel.Compare.AddRemoveObj
import CLModel.Compare.KeyedTuple
import CLModel.Proofs.AddRemove
import CLModel.Proofs.C20Obj
import CLModel.Proofs.C20Keyed
import CLModel.Proofs.C08Text
import CLModel.Proofs.C08Warn
import CLModel.Proofs.C08Inst
import CLModel.Proofs.C08Self
import CLModel.Proofs.C08Span
import CLModel.Gen.Cmd
import CLModel.Compare.Projects
import CLModel.Compare.ProjectsPipe
import CLModel.Ops.C10P
import CLModel.Proofs.C10Proj
import CLModel.Proofs.C10ProjPipe
import CLModel.Proofs.C10ProjQuiet
import CLModel.Proofs.C10Flag
import CLModel.Compare.MergeBytes
import CLModel.Proofs.C04Bytes
import CLModel.Proofs.C04Quiet
import CLModel.Proofs.C04Multi
import CLModel.Proofs.C04MultiProps
import CLModel.Proofs.C04Dtd
import CLModel.Gen.TablesCfg
import CLModel.Paths.TomlConfig
import CLModel.Proofs.C13Toml
import CLModel.Proofs.C13TomlCompose
import CLModel.Proofs.C13TomlExample
import CLModel.Paths.IniConfig
import CLModel.Paths.TomlSession
import CLModel.Proofs.C13Session
import CLModel.Proofs.C13Ini
import CLModel.Proofs.C02PCore
import CLModel.Proofs.C02PLine
import CLModel.Proofs.C02PPo
import CLModel.Proofs.C02PProps
import CLModel.Proofs.C02PGarbage
import CLModel.Proofs.C02PGen
import CLModel.Proofs.C02PIni
import CLModel.Proofs.C02PPoG
import CLModel.Proofs.C02PDtd
import CLModel.Proofs.C02PInc
import CLModel.Checks.DtdState
import CLModel.Checks.DtdNamed
import CLModel.Proofs.C07State
import CLModel.Proofs.C07Lit
import CLModel.Proofs.C07Android
import CLModel.Proofs.C07CssComplete
import CLModel.Serialize.Fluent
import CLModel.Serialize.Android
import CLModel.Proofs.C16Cor
import CLModel.Proofs.C16WrapX
import CLModel.Proofs.C16GNoAdj
import CLModel.Proofs.C16GFmt
import CLModel.Proofs.C16GHead
import CLModel.Proofs.C16GLead
import CLModel.Proofs.C16GIdem
import CLModel.Proofs.C16GInst
import CLModel.Proofs.C16GInc
import CLModel.Compare.FilterObserver
import CLModel.Paths.FilterPy
import CLModel.Proofs.C14QObs
import CLModel.Proofs.C14LLazy
import CLModel.Proofs.C14PPy
import CLModel.Proofs.C14RKeys
import CLModel.Gen.TablesAndroid
import CLModel.Checks.AndroidParser
import CLModel.Proofs.C09PSpec
import CLModel.Proofs.C09Walk
import CLModel.Proofs.C09WalkTop
import CLModel.Proofs.C09Java
import CLModel.Proofs.C09Text
import CLModel.Proofs.C09PosCheck
import CLModel.Proofs.C09Canon
import CLModel.Parser.C01Sess
import CLModel.Proofs.C01Sess
import CLModel.Parser.C01Gen
import CLModel.Proofs.C01Gen
import CLModel.Proofs.C01Dead
import CLModel.Proofs.C01FluentC
import CLModel.Proofs.C01Single
import CLModel.Proofs.C01Cost
import CLModel.Proofs.C01Engine
import CLModel.Compare.C20Heap
import CLModel.Proofs.C20Heap
import CLModel.Compare.MergeSession
import CLModel.Proofs.C04Session
